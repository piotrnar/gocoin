/-
  Props.C09 — property theorems for C09 (transaction / block wire decoding is exact, canonical, total).
  The helper lemmas live in GocoinV/Proofs/C09*.lean. All statements are about the definitions of
  Model/Wire.lean, WireAlloc, WireBlock, WireBlockObj and WireClient that oracle_c09 executes and the harness
  go/cmd/c09 compares with btc.NewTx & co.
-/
import GocoinV.Proofs.C09
import GocoinV.Proofs.C09Size
import GocoinV.Proofs.C09Alloc
import GocoinV.Proofs.C09Block
import GocoinV.Proofs.C09Obj
import GocoinV.Proofs.C09Client
namespace GocoinV.Props.C09
open GocoinV GocoinV.Wire GocoinV.CompactSize

/-- **decode_reencode.** Whatever `btc.NewTx` accepts re-encodes (`SerializeNew`) to exactly the bytes it
    consumed — for every byte string. (True of the code after the `fix:` commit; false before, see
    `prefix_decode_reencode_counterexample`.) -/
theorem decode_reencode (bs : Bytes) (tx : Tx) (n : Nat) (h : decodeTx bs = some (tx, n)) :
    encodeTx tx = bs.take n := by
  obtain ⟨-, rfl, rest, rfl⟩ := (decodeTx_iff bs tx n).1 h
  simp

example : ∃ tx n, decodeTx witCanonical = some (tx, n) := by
  cases h : decodeTx witCanonical with
  | none => have : (decodeTx witCanonical).isSome = true := by decide +kernel
            simp [h] at this
  | some p => exact ⟨p.1, p.2, rfl⟩

/-- **decode_total.** The decoder is a total function defined by structural recursion on the element counts
    (no fuel, no partiality: `decodeN`), every Go slice-bounds / makeslice panic is an explicit `none`, and an
    accepted input consumed a positive number of bytes that lies inside the buffer. -/
theorem decode_total (bs : Bytes) :
    decodeTx bs = none ∨ ∃ tx n, decodeTx bs = some (tx, n) ∧ 10 ≤ n ∧ n ≤ bs.length := by
  cases h : decodeTx bs with
  | none => exact .inl rfl
  | some p => exact .inr ⟨p.1, p.2, rfl, decodeTx_le h⟩

/-- **encode_decode.** For every well-formed transaction (field ranges; no outputs when there are no inputs; a
    witness has one stack per input and at least one non-empty stack) `btc.NewTx` applied to `SerializeNew()` followed by arbitrary
    trailing bytes returns that transaction and consumes exactly the serialisation. -/
theorem encode_decode (tx : Tx) (hw : tx.WF) (rest : Bytes) :
    decodeTx (encodeTx tx ++ rest) = some (tx, (encodeTx tx).length) :=
  (decodeTx_iff _ _ _).2 ⟨hw, rfl, rest, rfl⟩

example : ∃ tx : Tx, tx.WF ∧ tx.witness ≠ none :=
  ⟨{ version := 2, ins := [{ prevHash := List.replicate 32 7, prevIdx := 1, scriptSig := [], sequence := 0 }],
     outs := [{ value := 5, pkScript := [0x51] }], witness := some [[[1, 2]]], lockTime := 0 },
   { version := by decide, lockTime := by decide, ins_ne := by simp,
     ins := by intro i hi; simp at hi; subst hi; exact ⟨by decide, by decide, by decide, by decide⟩,
     outs := by intro o ho; simp at ho; subst ho; exact ⟨by decide, by decide⟩,
     nins := by decide, nouts := by decide,
     wit := by
       intro w hw; simp at hw; subst hw
       refine ⟨by decide, by decide, ?_⟩
       intro s hs; simp at hs; subst hs
       refine ⟨by decide, ?_⟩
       intro x hx; simp at hx; subst hx; decide },
   by simp⟩

/-- Both directions together: on well-formed transactions `decodeTx` is a left inverse of `encodeTx`, and on
    accepted inputs `encodeTx` is a left inverse of `decodeTx` — the accepted byte strings are exactly the
    serialisations, each with a single reading. -/
theorem accepted_iff_serialisation (bs : Bytes) (tx : Tx) (hw : tx.WF) :
    decodeTx bs = some (tx, (encodeTx tx).length) ↔ ∃ rest, bs = encodeTx tx ++ rest := by
  rw [decodeTx_iff]
  exact ⟨fun h => h.2.2, fun h => ⟨hw, rfl, h⟩⟩

/-- **canonical.** The bytes consumed are a function of the decoded transaction: two accepted byte strings
    that decode to the same transaction have identical consumed prefixes (no malleability through the
    encoding of lengths, marker or witness section). -/
theorem decode_injective (b1 b2 : Bytes) (tx : Tx) (n1 n2 : Nat)
    (h1 : decodeTx b1 = some (tx, n1)) (h2 : decodeTx b2 = some (tx, n2)) :
    b1.take n1 = b2.take n2 := by
  rw [← decode_reencode b1 tx n1 h1, ← decode_reencode b2 tx n2 h2]

/-- An accepted witness-flagged transaction has one witness stack per input and at least one non-empty
    stack ("superfluous witness record" is refused, as Bitcoin's deserialiser does). -/
theorem witness_not_superfluous (bs : Bytes) (tx : Tx) (n : Nat) (w : List (List Bytes))
    (h : decodeTx bs = some (tx, n)) (hw : tx.witness = some w) :
    w.length = tx.ins.length ∧ noWitness w = false := by
  obtain ⟨h1, h2, -⟩ := ((decodeTx_iff bs tx n).1 h).1.wit w hw
  exact ⟨h1, h2⟩

/-- Every length / count field the decoders act on (it is the argument of the following `make`) is
    canonically encoded and bounded by the number of bytes that follow it: the allocation guard. -/
theorem length_fields_canonical_and_bounded (b r : Bytes) (v : Nat) (h : vlenWire b = some (v, r)) :
    b = putULe v ++ r ∧ v ≤ r.length ∧ v < 2^64 :=
  vlenWire_spec h

/-- **sizes_spec (NewTx).** `tx.NoWitSize` as `btc.NewTx` leaves it equals the length of the stripped
    serialisation (`Serialize`), and the bytes consumed equal the length of the full one (`SerializeNew`),
    for inputs below 4 GiB (uint32 fields). -/
theorem sizes_spec_newtx (bs : Bytes) (d : Decoded) (h : decodeTxFull bs = some d) (hl : bs.length < 2^32) :
    d.noWitSize = (encodeTxNoWit d.tx).length ∧ d.consumed = (encodeTx d.tx).length ∧
    (encodeTxNoWit d.tx).length ≤ (encodeTx d.tx).length := by
  obtain ⟨rest, hb, hc, hn⟩ := (decodeTxFull_sound h).2
  have hlen := congrArg List.length hb
  simp only [List.length_append] at hlen
  have hle := encodeTxNoWit_le d.tx
  refine ⟨?_, hc, hle⟩
  rw [hn]; apply Nat.mod_eq_of_lt; omega

/-- **sizes_spec (SetHash / Weight / VSize).** After `SetHash(raw)` on the consumed bytes: `Hash` is the
    BIP141 txid (hash of the stripped serialisation), `WTxID()` the wtxid (hash of the full serialisation),
    `Size`/`NoWitSize` the two lengths, `Weight() = 3·stripped + total` and `VSize() = ⌈weight/4⌉`.
    `H` is any hash function. -/
theorem sizes_spec (H : Bytes → Bytes) (bs : Bytes) (tx : Tx) (n : Nat)
    (h : decodeTx bs = some (tx, n)) (hl : bs.length < 2^32 - 1) :
    let ids := setHash H tx (bs.take n)
    ids.hash = txid H tx ∧ ids.wtxid = wtxid H tx ∧
    ids.size = (encodeTx tx).length ∧ ids.noWitSize = (encodeTxNoWit tx).length ∧
    weight ids.noWitSize ids.size = 3 * (encodeTxNoWit tx).length + (encodeTx tx).length ∧
    vsize ids.noWitSize ids.size = (weight ids.noWitSize ids.size + 3) / 4 := by
  have hre := decode_reencode bs tx n h
  have hle := encodeTxNoWit_le tx
  have hlen : (encodeTx tx).length ≤ bs.length := hre ▸ List.length_take_le' ..
  have hsz : (encodeTx tx).length % 2^32 = (encodeTx tx).length := Nat.mod_eq_of_lt (by omega)
  have hsz2 : (encodeTxNoWit tx).length % 2^32 = (encodeTxNoWit tx).length := Nat.mod_eq_of_lt (by omega)
  rw [← hre]
  cases hw : tx.witness with
  | none =>
    have e : encodeTx tx = encodeTxNoWit tx := by simp [encodeTx, hw]
    simp only [setHash, hw, txid, wtxid, weight, vsize, e, ↓reduceIte, true_and]
    omega
  | some w =>
    simp only [setHash, hw, txid, wtxid, weight, vsize, hsz, hsz2, true_and]
    split
    · omega
    · have : ((encodeTxNoWit tx).length + 1) % 2^32 = (encodeTxNoWit tx).length + 1 :=
        Nat.mod_eq_of_lt (by omega)
      rw [this]; omega

/-- **block_weight_spec.** When `btc.NewBlock` + `BuildTxList` succeed on a block below 1 GiB, as many
    transactions were built as the count field says and `Block.BlockWeight` equals the BIP141 weight
    (3 · base size + total size) of header, count and the transactions built. -/
theorem block_weight_spec (H : Bytes → Bytes) (raw : Bytes) (hl : raw.length < 2^30)
    (hok : (decodeBlock H raw).err = none) :
    (decodeBlock H raw).weight = blockWeightSpec ((decodeBlock H raw).txs.map (·.tx)) ∧
    (decodeBlock H raw).txs.length = (decodeBlock H raw).txCount :=
  ⟨decodeBlock_weight H raw hl hok, ((decodeBlock_err_none_iff H raw).1 hok).2⟩

example : (decodeBlock (fun _ => []) (List.replicate 80 0 ++ [1] ++ witCanonical)).err = none := by
  decide +kernel

/-- **Pre-fix counterexample (DESIGN §7 F4, confirmed on the real code before the `fix:` commit).**
    With the length reader the decoders used before (`btc.VLen`: any CompactSize form), `decode_reencode`
    is false: `01000000 fd0100 …` (input count 1 in the 3-byte form) is accepted, 62 bytes are consumed,
    the re-encoding differs from them, and it decodes to the same transaction as the canonical 60-byte
    string — two txids for one legacy transaction. -/
theorem prefix_decode_reencode_counterexample :
    ¬ (∀ bs tx n, decodeTxLax bs = some (tx, n) → encodeTx tx = bs.take n) := by
  intro hall
  have he := lax_nonminimal_eval
  cases hd : decodeTxLax witNonMinimal with
  | none => simp [hd] at he
  | some p =>
    have := hall witNonMinimal p.1 p.2 (by rw [hd])
    simp [hd, this] at he

/-- **Pre-fix counterexample, superfluous witness.** The old decoder accepted a witness-flagged transaction
    whose witness stacks are all empty (`01000000 0001 01 … 00 00000000`), which Bitcoin refuses. -/
theorem prefix_superfluous_witness_counterexample :
    ¬ (∀ bs tx n w, decodeTxLax bs = some (tx, n) → tx.witness = some w → noWitness w = false) := by
  intro hall
  have he : (decodeTxLax witSuperfluous).map (fun p => p.1.witness.map noWitness) = some (some true) := by
    decide +kernel
  cases hd : decodeTxLax witSuperfluous with
  | none => simp [hd] at he
  | some p =>
    simp only [hd, Option.map_some, Option.some.injEq] at he
    cases hw : p.1.witness with
    | none => simp [hw] at he
    | some w =>
      have := hall witSuperfluous p.1 p.2 w (by rw [hd]) hw
      simp [hw, this] at he

/-- The three F4 witnesses are refused by `decodeTx`, the model of the fixed `btc.NewTx` (and the canonical form
    is accepted). -/
theorem fixed_refuses_F4_witnesses :
    decodeTx witNonMinimal = none ∧ decodeTx witSuperfluous = none ∧ decodeTx witHugeCount = none ∧
    (decodeTx witCanonical).isSome = true := by
  decide +kernel

/-- **decode_wf.** Every transaction `btc.NewTx` returns is well-formed: fields in range, one witness stack per
    input with at least one non-empty stack, and no outputs when there are no inputs. -/
theorem decode_wf (bs : Bytes) (tx : Tx) (n : Nat) (h : decodeTx bs = some (tx, n)) : tx.WF :=
  ((decodeTx_iff bs tx n).1 h).1

/-- **accepts_iff_spec.** The accept set of `btc.NewTx`, exactly: `bs` decodes to `(tx, n)` iff `tx` is
    well-formed, `bs` starts with the BIP144 serialisation of `tx` and `n` is its length. (`Tx.WF` is Bitcoin's
    deserialiser's image: ranges, non-superfluous witness, no "unknown optional data".) -/
theorem accepts_iff_spec (bs : Bytes) (tx : Tx) (n : Nat) :
    decodeTx bs = some (tx, n) ↔ tx.WF ∧ n = (encodeTx tx).length ∧ ∃ rest, bs = encodeTx tx ++ rest :=
  decodeTx_iff bs tx n

/-- **Unknown optional data is refused** (Bitcoin: an empty input vector is followed by a flags byte; only 00 and
    01 are defined). Every byte string `version · 00 · x · …` with `x ∉ {00, 01}` is refused by `btc.NewTx`. -/
theorem unknown_optional_data_refused (ver rest : Bytes) (x : UInt8) (hv : ver.length = 4) (h0 : x ≠ 0) (h1 : x ≠ 1) :
    decodeTx (ver ++ 0 :: x :: rest) = none := by
  rw [decodeTx, decodeTxFull_unknown_optional ver rest x hv h0 h1]; rfl

example : ∃ (ver : Bytes) (x : UInt8), ver.length = 4 ∧ x ≠ 0 ∧ x ≠ 1 := ⟨[1,0,0,0], 2, by decide, by decide, by decide⟩

/-- **Pre-fix counterexample, unknown optional data (confirmed on the real code before the `fix:` commit).**
    Without the rule, `01000000 00 02 <out> <out> 00000000` is read as a legacy transaction with no inputs and two
    outputs (Bitcoin: "Unknown transaction optional data"); `decodeTx`, which has the rule, refuses it. -/
theorem prefix_unknown_optional_data_counterexample :
    (decodeTxWith vlenWire false witZeroInputs).isSome = true ∧ decodeTx witZeroInputs = none := by
  decide +kernel

/-- **txSize_spec.** `btc.TxSize` returns exactly the number of bytes the decoder without the two non-length rules
    (superfluous witness, unknown optional data — TxSize has neither) consumes, 0 when that decoder fails; it never
    exceeds the buffer. -/
theorem txSize_spec (bs : Bytes) :
    txSize bs = ((decodeTxWith vlenWire false bs).map (·.consumed)).getD 0 ∧ txSize bs ≤ bs.length :=
  ⟨txSize_eq bs, txSize_le bs⟩

/-- **txSize_eq_consumed.** On every input `btc.NewTx` accepts, `btc.TxSize` equals the bytes consumed. -/
theorem txSize_eq_consumed (bs : Bytes) (tx : Tx) (n : Nat) (h : decodeTx bs = some (tx, n)) : txSize bs = n := by
  obtain ⟨hw, rfl, rest, rfl⟩ := (decodeTx_iff _ tx n).1 h
  rw [txSize_eq, decodeTxWith_encode false tx hw rest]
  rfl

/-- **alloc_bounded.** For EVERY byte string — accepted, refused, cut off anywhere, with any counts — the bytes
    `btc.NewTx` requests from the allocator (`Wire.allocTx`: `new(Tx)`, the pointer slices `make([]*TxIn, n)` /
    `make([]*TxOut, n)`, each `new(TxIn)`/`new(TxOut)`, each script, the witness slice headers and items, counted
    up to the statement at which decoding stops) are at most `sizeof(Tx) + (sizeof(TxIn) + sizeof(TxOut) + 67)·|bs|`. -/
theorem alloc_bounded (K : AllocK) (bs : Bytes) :
    allocTx K bs ≤ K.tx + (K.txIn + K.txOut + 67) * bs.length := by
  rw [Nat.add_mul, Nat.add_mul]
  unfold allocTx
  cases e1 : readN 4 bs with
  | none => simp
  | some p1 =>
  obtain ⟨ver, b1⟩ := p1
  simp only
  have hb1 := readN_length e1
  cases e2 : readMarker b1 with
  | none => simp
  | some p2 =>
  obtain ⟨segwit, b2⟩ := p2
  simp only
  have hb2 := readMarker_le e2
  cases e3 : vlenWire b2 with
  | none => simp
  | some p3 =>
  obtain ⟨nin, b3⟩ := p3
  simp only
  obtain ⟨hnin, hb3⟩ := vlenWire_le e3
  have hI := allocN_bound decodeTxIn (allocTxIn K) 1 K.txIn (allocTxIn_bound K) nin b3
  have hKI : K.txIn * nin ≤ K.txIn * bs.length := Nat.mul_le_mul_left _ (by omega)
  cases e4 : decodeN decodeTxIn nin b3 with
  | none => simp only; omega
  | some p4 =>
  obtain ⟨ins, b4⟩ := p4
  simp only [e4, left] at hI ⊢
  have hb4 := (exact_txIn.decodeN nin).rest_le e4
  cases e5 : vlenWire b4 with
  | none => simp only; omega
  | some p5 =>
  obtain ⟨nout, b5⟩ := p5
  simp only
  obtain ⟨hnout, hb5⟩ := vlenWire_le e5
  split
  · omega
  have hO := allocN_bound decodeTxOut (allocTxOut K) 1 K.txOut (allocTxOut_bound K) nout b5
  have hKO : K.txOut * nout ≤ K.txOut * bs.length := Nat.mul_le_mul_left _ (by omega)
  cases e6 : decodeN decodeTxOut nout b5 with
  | none => simp only; omega
  | some p6 =>
  obtain ⟨outs, b6⟩ := p6
  simp only [e6, left] at hO ⊢
  have hb6 := (exact_txOut.decodeN nout).rest_le e6
  split
  · have hW := allocN_bound decodeStack allocStack 25 0 allocStack_bound nin b6
    omega
  · omega

/-- **block_txids_spec.** For a block below 4 GiB: every transaction `BuildTxList` builds carries as `Hash` the
    BIP141 txid of the decoded transaction and as `Raw` its BIP144 serialisation (all but the first also its wtxid);
    when the build succeeds, as many were built as the count says and they are exactly the serialisations that
    follow the count in the block, in order — `Txs[i].Hash` is the txid of the i-th transaction of the block. -/
theorem block_txids_spec (H : Bytes → Bytes) (raw : Bytes) (hl : raw.length < 2^32) :
    let r := decodeBlock H raw
    r.txs.map (·.ids.hash) = r.txs.map (fun t => txid H t.tx) ∧
    r.txs.map (·.raw) = r.txs.map (fun t => encodeTx t.tx) ∧
    (r.txs.drop 1).map (·.ids.wtxid) = (r.txs.drop 1).map (fun t => wtxid H t.tx) ∧
    (r.err = none → r.txs.length = r.txCount ∧ r.txCount ≠ 0 ∧
      ∃ rest, raw.drop 80 = putULe r.txCount ++ ((r.txs.map (fun t => encodeTx t.tx)).flatten ++ rest)) := by
  intro r
  obtain ⟨l, g, htx, hok⟩ := decodeBlock_txs H raw hl
  have hr : r.txs = mkBlockTxs H true l := htx
  have hraw : l.map (·.2) = l.map (fun p => encodeTx p.1.tx) :=
    List.map_congr_left (fun p hp => (g p hp).1)
  have htxmap : ∀ (f : Tx → Bytes), r.txs.map (fun t => f t.tx) = l.map (fun p => f p.1.tx) :=
    fun f => hr ▸ mkBlockTxs_map H l true fun q => f q.1
  refine ⟨?_, ?_, ?_, ?_⟩
  · rw [htxmap (txid H), hr]; exact mkBlockTxs_hash H l true g
  · rw [htxmap encodeTx, hr, ← hraw]; exact mkBlockTxs_map H l true fun q => q.2.1
  · rw [hr]
    cases l with
    | nil => simp [mkBlockTxs]
    | cons p l' =>
      simp only [mkBlockTxs, List.drop_succ_cons, List.drop_zero]
      rw [mkBlockTxs_wtxid H l' (fun q hq => g q (by simp [hq]))]
      exact (mkBlockTxs_map H l' false fun q => wtxid H q.1).symm
  · intro he
    obtain ⟨h1, h2, rest, h3⟩ := hok he
    refine ⟨by rw [hr, mkBlockTxs_length]; exact h1, h2, rest, ?_⟩
    rw [htxmap encodeTx, ← hraw]; exact h3

/-- **merkle_root_spec.** For a block below 4 GiB, `Block.MerkleRootMatch()` after `NewBlock` + `BuildTxList` is
    true exactly when the build succeeded, the header's Merkle-root field (`Raw[36:68]`) is the root of the
    pairwise-hash tree over the txids (BIP141) of the block's decoded transactions, and no level of that tree has
    two equal nodes hashed together (CVE-2012-2459; C05's `calcMerkle_spec`). -/
theorem merkle_root_spec (H : Bytes → Bytes) (raw : Bytes) (hl : raw.length < 2^32) :
    let r := decodeBlock H raw
    let ids := r.txs.map (fun t => txid H t.tx)
    merkleRootMatch H raw = true ↔
      r.err = none ∧ (Spec.Merkle.root H ids.length ids).head? = some (headerMerkleRoot raw) ∧
      ¬ ∃ lv ∈ Spec.Merkle.levels H ids.length ids, ∃ j, 2 * j + 1 < lv.length ∧ lv[2 * j]? = lv[2 * j + 1]? := by
  intro r ids
  have hids : r.txs.map (·.ids.hash) = ids := (block_txids_spec H raw hl).1
  rw [merkleRootMatch_iff, hids]
  refine and_congr_right fun he => calcMerkle_clean_iff H ids (fun h => ?_) _
  -- a successful build has read a non-zero count and built that many transactions
  obtain ⟨h0, hn⟩ := (decodeBlock_err_none_iff H raw).1 he
  have : ids.length = 0 := by rw [h]; rfl
  simp only [ids, List.length_map] at this
  exact h0 (hn ▸ this)

example : merkleRootMatch (fun x => x.take 32)
    (List.replicate 36 (0 : UInt8) ++ witCanonical.take 32 ++ List.replicate 12 (0 : UInt8) ++ [1] ++ witCanonical) = true := by
  decide +kernel

/-! ### one `btc.Block` OBJECT through a history of calls (Model/WireBlockObj.lean)

The Go object is stateful: `BuildTxListExt` re-uses `TxCount/TxOffset` when `TxCount ≠ 0`, `UpdateContent` replaces
`Raw`, the client resets the fields by hand when a block turned out corrupt. The theorems below say that none of this
history reaches the result of a build: it is the pure decode of the bytes the object holds at that moment. -/

/-- **block_object_history_independent.** Take `btc.NewBlock(data)` (at least a header) and ANY sequence `ops` of
    `UpdateContent(d)`, `BuildTxListExt(false/true)`, `Clean()` and the client's reset (with a former `Raw`, i.e.
    ≥ 80 bytes) on that one object — whatever these calls returned (errors, recovered panics of `Clean`). Then
    `Raw` is the last content installed (`currentRaw`), and a following `BuildTxListExt(dohash)`
    * never panics,
    * returns exactly the error class of the pure decode `decodeBlockExt H dohash Raw` of the CURRENT `Raw`
      (a fresh `NewBlock(Raw)` + one `BuildTxListExt(dohash)`),
    * and, unless that is the count error (where it leaves `Txs`/`BlockWeight` as they were and `TxCount = 0`),
      leaves `TxCount`, `TxOffset`, `Txs` (transactions, their `Raw`, `Hash`, `wTxID`, `Size`, `NoWitSize`) and
      `BlockWeight` equal to those of the pure decode: nothing of an earlier content, an earlier hash-less build or
      an earlier failed build survives. -/
theorem block_object_history_independent (H : Bytes → Bytes) (data : Bytes) (hd : 80 ≤ data.length)
    (ops : List Op) (hw : ∀ op ∈ ops, op.WF) (dohash : Bool) :
    let s := run H ops (updateContent data emptyObj).1
    let r := decodeBlockExt H dohash (currentRaw ops data)
    let res := buildTxListExt H dohash s
    s.raw = currentRaw ops data ∧
    res.2 = outcomeOf r.err ∧ res.2 ≠ .panic ∧ res.2 ≠ .tooShort ∧
    (res.2 = .badCount → res.1.txCount = 0 ∧ res.1.txs = s.txs ∧ res.1.weight = s.weight) ∧
    (res.2 ≠ .badCount → res.1.txCount = r.txCount ∧ res.1.txOffset = 80 + vlenSize r.txCount ∧
        res.1.txs = some r.txs ∧ res.1.weight = r.weight) := by
  intro s r res
  have hinv : s.Inv := inv_run H ops hw _ (inv_update data emptyObj (Or.inr hd))
  have hraw : s.raw = currentRaw ops data := by
    show (run H ops (updateContent data emptyObj).1).raw = _
    rw [raw_run, raw_update]
    have : ¬ data.length < 80 := by omega
    simp [this]
  refine ⟨hraw, ?_⟩
  have := build_pure H dohash s hinv
  rw [hraw] at this
  exact this

example : ∃ (data : Bytes) (ops : List Op), 80 ≤ data.length ∧ (∀ op ∈ ops, op.WF) ∧ ops.length = 4 :=
  ⟨List.replicate 80 0, [.build false, .update (List.replicate 81 0), .discard (List.replicate 80 0), .clean],
   by decide, by intro op h; simp at h; rcases h with rfl | rfl | rfl | rfl <;> simp [Op.WF], rfl⟩

/-- a history that matters (kernel-evaluated): a two-transaction block is built without hashes, replaced by a list that
    ends inside its declared count of 5 (the build fails and leaves a partial list), reset by the client, replaced by
    the block again, cleaned; the hypotheses hold, and the following `BuildTxList()` returns `ok` with both transactions
    and the ids of the CURRENT bytes (not the zero ids of the first, hash-less build) -/
example :
    let ops : List Op := [.build false, .update (Example.hdr ++ [5] ++ Example.tx 2), .build true, .discard Example.hdr,
      .update Example.blk, .clean]
    let s := run Example.H ops (updateContent Example.blk emptyObj).1
    let res := buildTxListExt Example.H true s
    80 ≤ Example.blk.length ∧ (∀ op ∈ ops, op.WF) ∧ currentRaw ops Example.blk = Example.blk ∧
    (buildTxListExt Example.H true (run Example.H (ops.take 2) (updateContent Example.blk emptyObj).1)).2 = .txFailed ∧
    res.2 = .ok ∧ res.1.txCount = 2 ∧
    (res.1.txs.map fun l => l.map (·.ids.hash)) = some [Example.H (Example.tx 1), Example.H (Example.tx 2)] := by
  refine ⟨by decide +kernel, ?_, by decide +kernel, by decide +kernel, by decide +kernel, by decide +kernel, by decide +kernel⟩
  intro op h
  simp only [List.mem_cons, List.mem_nil_iff, or_false] at h
  rcases h with rfl | rfl | rfl | rfl | rfl | rfl <;> simp [Op.WF] <;> decide +kernel

/-- **block_object_pure_is_decodeBlock.** The pure reference of `block_object_history_independent` for
    `BuildTxList()` (`dohash = true`) IS `Wire.decodeBlock` — the function `block_weight_spec`, `block_txids_spec`
    and `merkle_root_spec` speak about; so after any history `BuildTxList()` leaves `Txs[i].Hash` = BIP141 txid of
    the i-th transaction of the CURRENT content (never the zero value of a previous hash-less build) and
    `BlockWeight` = its BIP141 weight. -/
theorem block_object_pure_is_decodeBlock (H : Bytes → Bytes) (raw : Bytes) :
    (decodeBlockExt H true raw).err = (decodeBlock H raw).err ∧
    (decodeBlockExt H true raw).txCount = (decodeBlock H raw).txCount ∧
    (decodeBlockExt H true raw).txs = (decodeBlock H raw).txs ∧
    (decodeBlockExt H true raw).weight = (decodeBlock H raw).weight :=
  decodeBlockExt_true H raw

/-- **block_object_txids_after_history.** Spelled out: any history on one object, then `BuildTxList()` that does
    not report the count error, on a content below 4 GiB: every `Txs[i].Hash` is the txid of the transaction it
    carries and `Txs[i].Raw` its BIP144 serialisation. -/
theorem block_object_txids_after_history (H : Bytes → Bytes) (data : Bytes) (hd : 80 ≤ data.length)
    (ops : List Op) (hw : ∀ op ∈ ops, op.WF) (hl : (currentRaw ops data).length < 2^32)
    (hok : (buildTxListExt H true (run H ops (updateContent data emptyObj).1)).2 ≠ .badCount) :
    ∃ txs, (buildTxListExt H true (run H ops (updateContent data emptyObj).1)).1.txs = some txs ∧
      txs.map (·.ids.hash) = txs.map (fun t => txid H t.tx) ∧
      txs.map (·.raw) = txs.map (fun t => encodeTx t.tx) := by
  obtain ⟨_, _, _, _, _, h⟩ := block_object_history_independent H data hd ops hw true
  obtain ⟨_, _, htx, _⟩ := h hok
  obtain ⟨_, _, e, _⟩ := decodeBlockExt_true H (currentRaw ops data)
  obtain ⟨b1, b2, _⟩ := block_txids_spec H (currentRaw ops data) hl
  rw [e] at htx
  exact ⟨_, htx, b1, b2⟩

/-- **block_object_dohash_false_same_weight.** `BuildTxListExt(false)` ("you do not need TxIDs") decodes the same
    transactions with the same `Raw`/`Size`/`NoWitSize`, reports the same error class and the same `BlockWeight` as
    `BuildTxListExt(true)`; every `Hash` it leaves is the all-zero value. -/
theorem block_object_dohash_false_same_weight (H : Bytes → Bytes) (raw : Bytes) :
    (decodeBlockExt H false raw).err = (decodeBlockExt H true raw).err ∧
    (decodeBlockExt H false raw).txCount = (decodeBlockExt H true raw).txCount ∧
    (decodeBlockExt H false raw).weight = (decodeBlockExt H true raw).weight ∧
    (decodeBlockExt H false raw).txs.map (fun t => (t.tx, t.raw, t.ids.size, t.ids.noWitSize)) =
      (decodeBlockExt H true raw).txs.map (fun t => (t.tx, t.raw, t.ids.size, t.ids.noWitSize)) ∧
    ∀ t ∈ (decodeBlockExt H false raw).txs, t.ids.hash = List.replicate 32 0 :=
  decodeBlockExt_false H raw

/-- **compactsize_accept_iff.** In ALL FOUR CompactSize ranges (1, 3, 5 and 9 bytes — any value below 2^64) the strict
    reader `btc.vlenWire` accepts a byte string exactly when it starts with what the writer (`WriteVlen` / `PutULe`,
    model `putULe`) writes for that value and at least that many bytes follow; it then returns that value and the bytes
    after the prefix. Reader and writer agree on where the ranges begin (0xfd, 2^16, 2^32) and on every byte of the
    prefix — the statement the direct sweep of `WriteVlen`/`PutULe`/`VLenSize`/`VULe` in the harness (all four ranges) and
    the transactions with one length field at 252..253 / 65535..65537 / inside the 5-byte range tie to the code. -/
theorem compactsize_accept_iff (b r : Bytes) (v : Nat) :
    vlenWire b = some (v, r) ↔ (b = putULe v ++ r ∧ v ≤ r.length ∧ v < 2^64) := by
  constructor
  · exact vlenWire_spec
  · rintro ⟨rfl, hb, hv⟩
    exact vlenWire_putULe v r hv hb

/-- the writer at the first value of each range and the last value of the previous one -/
example : putULe 252 = [0xfc] ∧ putULe 253 = [0xfd, 0xfd, 0x00] ∧ putULe 65535 = [0xfd, 0xff, 0xff] ∧
    putULe 65536 = [0xfe, 0x00, 0x00, 0x01, 0x00] ∧ putULe 0x12345678 = [0xfe, 0x78, 0x56, 0x34, 0x12] ∧
    putULe (2^32 - 1) = [0xfe, 0xff, 0xff, 0xff, 0xff] ∧ putULe (2^32) = [0xff, 0, 0, 0, 0, 1, 0, 0, 0] ∧
    putULe (2^64 - 1) = [0xff, 0xff, 0xff, 0xff, 0xff, 0xff, 0xff, 0xff, 0xff] := by decide

/-- **compactsize_sizes.** The writer's output has exactly `VLenSize` bytes — 1, 3, 5 or 9 by range — and the lax reader
    `VULe` gives back value and size on it, whatever follows (values below 2^64). -/
theorem compactsize_sizes (v : Nat) (hv : v < 2^64) (rest : Bytes) :
    (putULe v).length = vlenSize v ∧ vule (putULe v ++ rest) = (v, vlenSize v) ∧
    (vlenSize v = 1 ↔ v < 0xfd) ∧ (vlenSize v = 3 ↔ 0xfd ≤ v ∧ v < 2^16) ∧
    (vlenSize v = 5 ↔ 2^16 ≤ v ∧ v < 2^32) ∧ (vlenSize v = 9 ↔ 2^32 ≤ v) := by
  refine ⟨putULe_length v, vule_putULe v hv rest, ?_, ?_, ?_, ?_⟩ <;>
  · unfold vlenSize
    repeat' split
    all_goals omega

example : ∃ v : Nat, v < 2^64 ∧ vlenSize v = 5 := ⟨65536, by decide, by decide⟩

/-! ### the decoder inside the node: copies of a wanted block, the disk cache (Model/WireClient.lean)

The statement LISTS of the places that install a copy of a wanted block in its `btc.Block` object and that discard a
refused copy are regenerated from client/network/data.go and cblk.go on every run (`Gen/C09Client.lean`); the theorems
below are checked against whatever was generated. -/

/-- **client_statement_lists_reset.** For each of the three entry paths (`block`, `cmpctblock` complete, `blocktxn`):
    the discard branch — run on the object in ANY state — leaves `Raw` = the bare header, `TxCount = 0` ("count not
    parsed", the condition under which `BuildTxListExt` reads the count of the next `Raw`) and `Txs = nil` (the condition
    under which `PostCheckBlock` parses at all); the install place — run on such an object — leaves `Raw` = the copy with
    `(TxCount, TxOffset)` unparsed or belonging to the copy, and `Txs` still nil. Decided by evaluating an abstract
    interpretation of the generated lists, which `abs_sound` proves sound for the statement semantics. -/
theorem client_statement_lists_reset (v : Via) :
    discardOK (discardOf v) = true ∧ installOK (installOf v) = true :=
  client_lists_ok v

/-- **client_copies_exact.** A wanted block whose header `hdr` is known (`NewBlock(hdr)`), ANY sequence of copies that
    were refused and discarded — through any of the three entry paths, with any content of at least 80 bytes, whatever
    PostCheckBlock's parse made of them — and then a copy `c` (at least 81 bytes, through any entry path): the parse
    `PostCheckBlock` performs on it never panics, returns the error class of the pure decode `decodeBlock H c.data` of
    THESE bytes, and (unless that is the count error) leaves `Raw` = the copy and `TxCount`, `Txs` (with `Hash`, `wTxID`,
    `Size`, `NoWitSize` of every transaction) and `BlockWeight` equal to that decode — nothing of a refused copy
    (its transaction count, the offset behind its count field, its transactions) reaches the decode of the next one. -/
theorem client_copies_exact (H : Bytes → Bytes) (hdr : Bytes) (hh : hdr.length = 80)
    (bad : List Copy) (hb : ∀ c ∈ bad, 80 ≤ c.data.length) (c : Copy) (hc : 81 ≤ c.data.length) :
    let s := clientRun H bad (updateContent hdr emptyObj).1
    let r := decodeBlock H c.data
    let res := deliver H c s
    res.1.raw = c.data ∧ res.2 = outcomeOf r.err ∧ res.2 ≠ .panic ∧
    (res.2 ≠ .badCount → res.1.txCount = r.txCount ∧ res.1.txs = some r.txs ∧ res.1.weight = r.weight) :=
  deliver_idle H hdr c hc _ (idle_run H hdr bad hb _ (idle_new hdr hh))

example : ∃ (hdr : Bytes) (bad : List Copy) (c : Copy), hdr.length = 80 ∧ (∀ x ∈ bad, 80 ≤ x.data.length) ∧
    81 ≤ c.data.length ∧ bad.length = 2 :=
  ⟨List.replicate 80 0, [⟨.cmpctB, List.replicate 90 1⟩, ⟨.full, List.replicate 100 2⟩], ⟨.full, List.replicate 81 3⟩,
   by decide, by intro x h; simp at h; rcases h with rfl | rfl <;> decide, by decide, rfl⟩

/-- an informative instance (kernel-evaluated, `H` = first 32 bytes): the hypotheses hold; the first refused copy is a
    complete, decodable one-transaction block (there IS something to discard), the second ends inside its list; after both
    the object is the bare header with nothing parsed; the two-transaction block is then parsed `ok` with the ids, the
    count and the weight of ITS bytes — the non-count-error branch of the conclusion -/
example :
    let s0 := (updateContent Example.hdr emptyObj).1
    let s := clientRun Example.H Example.bad s0
    let res := deliver Example.H ⟨.cmpctA, Example.blk⟩ s
    Example.hdr.length = 80 ∧ (∀ x ∈ Example.bad, 80 ≤ x.data.length) ∧ 81 ≤ Example.blk.length ∧
    (deliver Example.H Example.bad[0] s0).2 = .ok ∧ (deliver Example.H Example.bad[0] s0).1.txCount = 1 ∧
    (deliver Example.H Example.bad[1] (refusedCopy Example.H Example.bad[0] s0)).2 = .txFailed ∧
    s.raw = Example.hdr ∧ s.txCount = 0 ∧ s.txs = none ∧
    res.2 = .ok ∧ res.2 ≠ .badCount ∧ res.1.txCount = 2 ∧ res.1.raw = Example.blk ∧
    (res.1.txs.map fun l => l.map (·.ids.hash)) = some [Example.H (Example.tx 1), Example.H (Example.tx 2)] ∧
    res.1.weight = (decodeBlock Example.H Example.blk).weight ∧ res.1.weight = 4 * (81 + 60 + 60) := by decide +kernel

/-- **disk_cache_exact.** `get_block_from_disk_cache` (client/main.go; block file content `d`, side file content `h`,
    `none` = no side file) for a 32-byte hash function: when the side file is missing, is exactly what netBlockReceived
    writes for the block (`hashesFile` of the block decoded with hashing), or has ANY OTHER LENGTH than that (cut short
    at any point by a failed write, empty, or too long), the function panics exactly when the block file does not decode
    completely, and otherwise returns a block whose `TxCount`, `Txs` (`Hash`, `wTxID`, `Size`, `NoWitSize` of every
    transaction) and `BlockWeight` are those of `decodeBlock H d` — `Txs[i].Hash` is the txid, never the zero value of the
    hash-less parse. (A side file of the right length with other CONTENT is outside the statement: the disk is trusted
    to return what was written or a prefix of it.) -/
theorem disk_cache_exact (H : Bytes → Bytes) (hH : ∀ b, (H b).length = 32) (d : Bytes) (h : Option Bytes)
    (hh : ∀ x, h = some x → x = hashesFile (decodeBlock H d).txs ∨ x.length ≠ (hashesFile (decodeBlock H d).txs).length) :
    match diskCacheGet H (some d) h with
    | none => (decodeBlock H d).err ≠ none
    | some s => (decodeBlock H d).err = none ∧ s.raw = d ∧ s.txCount = (decodeBlock H d).txCount ∧
        s.txs = some (decodeBlock H d).txs ∧ s.weight = (decodeBlock H d).weight :=
  disk_cache_get_spec H hH d h hh

example : ∃ (H : Bytes → Bytes) (d : Bytes) (h : Option Bytes), (∀ b, (H b).length = 32) ∧
    (∀ x, h = some x → x = hashesFile (decodeBlock H d).txs ∨ x.length ≠ (hashesFile (decodeBlock H d).txs).length) ∧
    h ≠ none :=
  ⟨fun _ => List.replicate 32 0, [], some [1], by intro b; simp, by
    intro x hx
    cases hx
    right
    simp [decodeBlock, hashesFile], by simp⟩

/-- the restore branch and its neighbours on a real block (kernel-evaluated, `H` = first 32 bytes, a 32-byte hash): with
    (i) the complete 64-byte side file, (ii) that file minus its last byte (the class fixed in /repo 06ce6a22), (iii) an
    empty one, (iv) none, `get_block_from_disk_cache` returns TxCount 2 and `Txs` equal — ids, sizes, raw bytes — to
    `decodeBlock`, the last `Hash` being the non-zero id; every one of these side files satisfies the hypothesis of
    `disk_cache_exact`; a block file cut inside its last transaction is a loud failure -/
example :
    (∀ b, (Example.H b).length = 32) ∧
    (hashesFile (decodeBlock Example.H Example.blk).txs).length = 64 ∧
    (∀ h ∈ [some Example.side, some Example.side.dropLast, some [], none], ∀ x, h = some x →
      x = hashesFile (decodeBlock Example.H Example.blk).txs ∨
      x.length ≠ (hashesFile (decodeBlock Example.H Example.blk).txs).length) ∧
    Example.got (some Example.side) = some (2, some [Example.H (Example.tx 1), Example.H (Example.tx 2)], true) ∧
    Example.got (some Example.side.dropLast) = some (2, some [Example.H (Example.tx 1), Example.H (Example.tx 2)], true) ∧
    Example.got (some []) = some (2, some [Example.H (Example.tx 1), Example.H (Example.tx 2)], true) ∧
    Example.got none = some (2, some [Example.H (Example.tx 1), Example.H (Example.tx 2)], true) ∧
    Example.H (Example.tx 2) ≠ List.replicate 32 0 ∧
    diskCacheGet Example.H (some Example.blk.dropLast) (some Example.side) = none := by
  refine ⟨by intro b; simp [Example.H], by decide +kernel, ?_, by decide +kernel, by decide +kernel, by decide +kernel,
    by decide +kernel, by decide +kernel, by decide +kernel⟩
  intro h hh x hx
  simp only [List.mem_cons, List.mem_nil_iff, or_false] at hh
  rcases hh with rfl | rfl | rfl | rfl
  · exact Or.inl (Option.some.inj hx).symm
  · right; rw [← Option.some.inj hx]; decide +kernel
  · right; rw [← Option.some.inj hx]; decide +kernel
  · exact absurd hx (by simp)

-- OPEN: alloc_bounded_runtime — the bound is about the bytes REQUESTED (`Wire.allocTx`, proved above for every input);
--   what the Go runtime adds (size-class rounding ≤ 2×, the panic value of a failed slice expression, `println`) is
--   not modelled: the harness checks `allocTx ≤ measured ≤ 2·allocTx + 2048` (runtime.MemStats) on every exactly
--   measured case and a 3 GiB address-space limit in a child process on all of them. Block level
--   (`make([]*Tx, TxCount)` + per-transaction NewTx) is guarded by the same `vlenWire` bound; no Lean theorem.
-- OPEN: accepts_iff_core — `accepts_iff_spec` characterises the accept set as {serialisations of WF transactions};
--   that `Tx.WF` + BIP144 serialisation IS Bitcoin Core's accept set (up to Core's MAX_SIZE = 32 MiB limit on a single
--   CompactSize, which gocoin replaces by "≤ bytes left") is established by the harness's independent Core-style
--   reference parser on every case, not by a Lean model of Core's UnserializeTransaction.

end GocoinV.Props.C09
