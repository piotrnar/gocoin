/-
  Props.C17 — per-address balances equal the projection of the UTXO set (property theorems, and the data of their
  examples at the end of the file). Model: GocoinV.Model.Balances (the definitions the oracle executes and the harness
  compares with client/wallet + lib/utxo). Helper lemmas: GocoinV.Proofs.C17, C17Load, C17Disk, C17Addr, C17Cfg, C17Block.
  The words of the statements that are not model functions are defined there too: `Coins`, `coinsOf`, `updC`, `qual`, `Rel`
  (key by key: `RelK`), `overlay`, `unlay`, `Inv` (with `UtxoWF`), `Admissible`, `AdmissibleRun` in Proofs/C17; `Stored`,
  `staticSeq`, `Static.Sized` in Proofs/C17Load; `WFBal`, `norm`, `asSaved` in Proofs/C17Disk.

  Vocabulary.  `coinsOf u : (key8, vout) ⇀ Out` is the unspent set as a partial map (DESIGN §4 `abs`).
  `Rel cfg H bal C` says that the index `bal` is EXACTLY the projection of the coin set `C`: for every
  index key K = (address type, H payload) the record exists iff some coin of value ≥ cfg.min has that key,
  its entry list is duplicate-free and lists exactly those coins, and its Value is their sum (mod 2^64).
  `Inv H s` = UTXO map well-formed ∧ (index on → Rel).  `Admissible` names what the rest of the node
  guarantees about the change stream (fresh transaction keys; undo restores only spent outputs — the
  C06 fact).  The minimum value and useMapCnt are part of the state; the minimum changes only in `enable`
  (the code re-reads it only in LoadBalancesFromUtxo), useMapCnt in `enable` and `reload`
  (InitMaps / LoadBalances), so "the minimum is constant while enabled"
  holds by construction of `step` — GIVEN the source facts of `model_matches_source_facts` (regenerated from
  /repo on every run by go/cmd/gen_c17): only ApplyBalMinVal stores the value in force, only InitConfig and
  LoadBalancesFromUtxo call it, `common.Reset()` cannot reach it. `load_ignores_config_changes` carries that to
  config changes landing BETWEEN TWO RECORDS of a running build.
  Addresses: `Addr` = (sub-index 0..4, payload) is what the index is keyed by; `QAddr` (Model.BalancesAddr) is ANY
  `btc.BtcAddr` value GetAllUnspent may be asked about (any witness version / program length, any base58 version).
-/
import GocoinV.Proofs.C17
import GocoinV.Proofs.C17Load
import GocoinV.Proofs.C17Disk
import GocoinV.Proofs.C17Addr
import GocoinV.Proofs.C17Cfg
import GocoinV.Proofs.C17Block
namespace GocoinV.Props.C17
open GocoinV.Model.Balances GocoinV.Spec.Balances GocoinV.Proofs.C17
open GocoinV.Model.BalancesLoad GocoinV.Proofs.C17Load
open GocoinV.Model.BalancesDisk GocoinV.Proofs.C17Disk
open GocoinV.Model.BalancesCfg GocoinV.Proofs.C17Cfg
open GocoinV.Model.BalancesBlock GocoinV.Proofs.C17Block

/-- add_preserves (NewUTXO, one output): adding a qualifying coin that is not yet in the set through
    NewUTXO's loop body keeps the index equal to the projection — whatever the record's representation
    (list, map, or switching from list to map at useMapCnt-1) and whether or not the record existed. -/
theorem add_preserves (cfg : Cfg) (H : Bytes → Nat) (bal : BalMap) (C : Coins) (K : AKey) (inp : Inp) (o : Out)
    (h : Rel cfg H bal C) (hfresh : C inp = none) (hq : qual cfg H o K) :
    Rel cfg H (addOne cfg bal K inp o.value) (updC C inp (some o)) :=
  addOne_rel h hfresh hq

/-- del_preserves (all_del_utxos, one output): removing a coin that is in the set keeps the index equal to
    the projection; in particular the record disappears exactly when its last entry goes, and otherwise
    its Value drops by the coin's value. -/
theorem del_preserves (cfg : Cfg) (H : Bytes → Nat) (bal : BalMap) (C : Coins) (K : AKey) (inp : Inp) (o : Out)
    (h : Rel cfg H bal C) (hin : C inp = some o) (hq : qual cfg H o K) :
    Rel cfg H (delOne bal K inp o.value) (updC C inp none) :=
  delOne_rel h hin hq

/-- NewUTXO on a whole record (the callback of commit.do_add, of UndoBlockTxs' addback loop and of
    LoadBalancesFromUtxo): if none of the record's non-nil outputs is in the coin set yet, the index
    afterwards is the projection of the set with those outputs laid over it. -/
theorem newUTXO_preserves (cfg : Cfg) (H : Bytes → Nat) (bal : BalMap) (C : Coins) (r : Rec)
    (h : Rel cfg H bal C) (hfresh : ∀ i o, outAt r.outs i = some o → C (r.key, i) = none) :
    Rel cfg H (newUTXO cfg H bal r) (overlay C r.key r.outs 0) :=
  addOuts_rel r.outs 0 bal C h (by intro i o hi; simpa using hfresh i o hi)

/-- all_del_utxos on the stored record with a mask (the callback of UnspentDB.del): the index afterwards
    is the projection of the set without the masked outputs. -/
theorem allDel_preserves (cfg : Cfg) (H : Bytes → Nat) (bal : BalMap) (C : Coins) (r : Rec) (mask : List Bool)
    (h : Rel cfg H bal C) (hrec : ∀ i, C (r.key, i) = outAt r.outs i) :
    Rel cfg H (allDel cfg H bal r mask) (unlay C r.key mask 0) :=
  delOuts_rel r.outs 0 bal C h (by intro i; simpa using hrec i)

/-- One step of the UTXO change stream (commit add / commit del / undo del / undo add / enable / disable / restart
    through the balances cache) preserves the invariant, under the named admissibility facts. -/
theorem step_preserves (H : Bytes → Nat) (s : State) (ev : Ev) (h : Inv H s) (ha : Admissible s ev) :
    Inv H (step H s ev) :=
  inv_step ev h ha

/-- Building the index from an already populated set (LoadBalancesFromUtxo) yields the projection. -/
theorem enable_builds_projection (H : Bytes → Nat) (s : State) (mn um : Nat) (h : Inv H s) (hoff : s.on = false) :
    let s' := step H s (.enable mn um)
    s'.on = true ∧ s'.cfg.min = mn ∧ Rel s'.cfg H s'.bal (coinsOf s'.utxo) := by
  have hi := inv_step (H := H) (.enable mn um) h trivial
  have hon : (step H s (.enable mn um)).on = true := by simp [step, hoff]
  refine ⟨hon, by simp [step, hoff], hi.2 hon⟩

/-- Induction over the whole history: after ANY admissible sequence of connects' adds/dels (in any
    interleaving), disconnects' dels/adds, on/off switches, builds-from-populated and restarts through the balances
    cache (`.reload`: any UseMapCnt, any map iteration order while saving), starting from the empty node, the invariant holds. -/
theorem inv_all_histories (H : Bytes → Nat) (evs : List Ev) (hadm : AdmissibleRun H State.init evs) :
    Inv H (run H State.init evs) :=
  inv_run evs State.init (inv_init H) hadm

/-- Central theorem, keyed form. After any admissible history, while the index is on, for every address:
    GetAllUnspent has no duplicates, contains exactly the unspent outputs of value ≥ min whose script
    maps to the address's index key (type, H payload) — each reported with the right txid, vout, value,
    height and coinbase flag — and the record's total is their sum (mod 2^64). No injectivity needed. -/
theorem balances_eq_projection_keyed (H : Bytes → Nat) (evs : List Ev) (hadm : AdmissibleRun H State.init evs)
    (a : Addr) (hon : (run H State.init evs).on = true) :
    let s := run H State.init evs
    (getAllUnspent H s a).Nodup ∧
    (∀ x, x ∈ getAllUnspent H s a ↔ ∃ r o, aget (x.txid.take 8) s.utxo = some r ∧ outAt r.outs x.vout = some o ∧
        s.cfg.min ≤ o.value ∧ script2idx H o.script = some (a.idx, H a.payload) ∧
        x = { txid := r.txid, vout := x.vout, value := o.value, minedAt := r.inBlock, coinbase := r.coinbase }) ∧
    total H s a = sumValues (getAllUnspent H s a) % M64 :=
  getAll_spec a (inv_all_histories H evs hadm) hon

/-- GetAllUnspent's address → (sub-index, key) map, for EVERY address value it accepts (any witness version and
    program, any base58 version byte; `q.WF` is the Go type's `Hash160 [20]byte`), on either network:
    * if its branches pick a sub-index and a payload (`addrKey tn q = some a`), then the address's own OutScript() is
      exactly the standard script that sub-index stores for that payload, the payload has that sub-index's length
      (20/20/20/32/32), Script2Idx recognises the script under exactly the key the function looks up, and the function
      reports that record;
    * otherwise (witness version ≥ 2; version 1 with a program that is not 32 bytes; version 0 with a program that is
      neither 20 nor 32 bytes; a base58 version of another network) it looks nothing up and returns nothing.
    In particular an address is never answered from a sub-index whose scripts differ from its own script. -/
theorem script_of_address_has_its_key (H : Bytes → Nat) (tn : Bool) (q : QAddr) (hw : q.WF) :
    (∀ a, addrKey tn q = some a →
      q.outScript = some a.script ∧ a.idx < 5 ∧ a.payload.length = (if a.idx < 3 then 20 else 32) ∧
      script2idx H a.script = some (a.idx, H a.payload) ∧
      ∀ s, getAllUnspentQ H tn s q = getAllUnspent H s a ∧ totalQ H tn s q = total H s a) ∧
    (addrKey tn q = none → ∀ s, getAllUnspentQ H tn s q = [] ∧ totalQ H tn s q = 0) := by
  refine ⟨fun a h => ?_, fun h s => getAllQ_none h s⟩
  obtain ⟨hs, hv, hl⟩ := addrKey_spec tn q hw a h
  exact ⟨hs, hv, hl, script2idx_script H a hv hl, fun s => getAllQ_some h s⟩

/-- Every standard address (type 0..4 with a 20/20/20/32/32-byte payload) IS accepted: its address value on the
    network in use resolves to its own sub-index and payload (so the five standard forms are not lost by the
    version / length tests). -/
theorem standard_address_is_accepted (tn : Bool) (a : Addr) (hv : a.idx < 5)
    (hl : a.payload.length = if a.idx < 3 then 20 else 32) :
    addrKey tn (a.toQ tn) = some a ∧ (a.toQ tn).WF ∧ (a.toQ tn).outScript = some a.script := by
  obtain ⟨hk, hw⟩ := addrKey_toQ tn a hv hl
  exact ⟨hk, hw, (addrKey_spec tn _ hw a hk).1⟩

/-- Central theorem. After any admissible history (connects, disconnects, reorganisations, on/off,
    build-from-populated), while the index is on, for every supported address `a`:
    GetAllUnspent a = {o ∈ utxo | script o = script a ∧ value o ≥ min} (duplicate-free, same members,
    each with the right txid/vout/value/height/coinbase) and total a = Σ of it — provided
    `hinj`: no output currently in the set has a script different from `a`'s with the same index key
    (injectivity of the 64-bit address key (type, H payload) on the scripts in play), and
    `hfit`: the sum fits in 64 bits (total supply < 2^64). -/
theorem balances_eq_projection (H : Bytes → Nat) (evs : List Ev) (hadm : AdmissibleRun H State.init evs)
    (a : Addr) (hv : a.idx < 5) (hl : a.payload.length = if a.idx < 3 then 20 else 32)
    (hon : (run H State.init evs).on = true)
    (hinj : ∀ k r j o, aget k (run H State.init evs).utxo = some r → outAt r.outs j = some o →
      script2idx H o.script = script2idx H a.script → o.script = a.script)
    (hfit : sumValues (getAllUnspent H (run H State.init evs) a) < M64) :
    let s := run H State.init evs
    (getAllUnspent H s a).Nodup ∧
    (∀ x, x ∈ getAllUnspent H s a ↔ Pays s.cfg.min s.utxo a x) ∧
    total H s a = sumValues (getAllUnspent H s a) := by
  obtain ⟨hn, hm, ht⟩ := balances_eq_projection_keyed H evs hadm a hon
  have hkey := script2idx_script H a hv hl
  refine ⟨hn, ?_, by rw [ht]; exact Nat.mod_eq_of_lt hfit⟩
  intro x
  rw [hm x]
  unfold Pays
  constructor
  · rintro ⟨r, o, hr, ho, hmin, hs, hx⟩
    exact ⟨r, o, hr, ho, hmin, hinj _ r _ o hr ho (by rw [hs, hkey]), hx⟩
  · rintro ⟨r, o, hr, ho, hmin, hs, hx⟩
    exact ⟨r, o, hr, ho, hmin, by rw [hs, hkey], hx⟩

/-- Converse of `script_of_address_has_its_key`: every script Script2Idx recognises is byte for byte the
    standard scriptPubKey of the address (type, payload) it is indexed under, and the payload has that
    type's length (20/20/20/32/32). So two different scripts share an index key only if the 64-bit hash
    of two different payloads of the same type collides. -/
theorem recognised_script_is_address_script (s : Bytes) (i : Nat) (p : Bytes) (h : scriptForm s = some (i, p)) :
    s = Addr.script ⟨i, p⟩ ∧ i < 5 ∧ p.length = (if i < 3 then 20 else 32) :=
  scriptForm_converse s i p h

/-- Central theorem with the injectivity hypothesis reduced to the hash alone:
    `hHinj` only asks that no payload `p` of an output currently in the set, recognised under `a`'s address
    type, has `H p = H a.payload` unless `p = a.payload` (no 64-bit SipHash collision among the payloads
    in play). The minimum may be any value including 0: with `min = 0` every unspent output paying to `a`
    is listed, zero-valued ones too, and the record exists as long as one of them is unspent. -/
theorem balances_eq_projection_hash_inj (H : Bytes → Nat) (evs : List Ev) (hadm : AdmissibleRun H State.init evs)
    (a : Addr) (hv : a.idx < 5) (hl : a.payload.length = if a.idx < 3 then 20 else 32)
    (hon : (run H State.init evs).on = true)
    (hHinj : ∀ k r j o p, aget k (run H State.init evs).utxo = some r → outAt r.outs j = some o →
      scriptForm o.script = some (a.idx, p) → H p = H a.payload → p = a.payload)
    (hfit : sumValues (getAllUnspent H (run H State.init evs) a) < M64) :
    let s := run H State.init evs
    (getAllUnspent H s a).Nodup ∧
    (∀ x, x ∈ getAllUnspent H s a ↔ Pays s.cfg.min s.utxo a x) ∧
    total H s a = sumValues (getAllUnspent H s a) :=
  balances_eq_projection H evs hadm a hv hl hon
    (fun k r j o hr ho hk => hinj_of_payload_inj H a hv hl o (fun p hf hp => hHinj k r j o p hr ho hf hp) hk) hfit

/-- The record of an address exists exactly as long as GetAllUnspent has something to report for it — the
    record's lifetime follows its OUTPUT LIST, not its total: with `min = 0` an address whose remaining
    outputs are all worth 0 keeps its record (Value 0). -/
theorem record_exists_iff_outputs (H : Bytes → Nat) (evs : List Ev) (hadm : AdmissibleRun H State.init evs)
    (a : Addr) (hon : (run H State.init evs).on = true) :
    let s := run H State.init evs
    (aget (a.idx, H a.payload) s.bal).isSome = true ↔ getAllUnspent H s a ≠ [] :=
  record_iff_nonempty a (inv_all_histories H evs hadm) hon

/-- `min = 0`: EVERY unspent output paying to the address is listed, whatever its value (0 included). -/
theorem min_zero_lists_every_output (H : Bytes → Nat) (evs : List Ev) (hadm : AdmissibleRun H State.init evs)
    (a : Addr) (hv : a.idx < 5) (hl : a.payload.length = if a.idx < 3 then 20 else 32)
    (hon : (run H State.init evs).on = true) (hmin : (run H State.init evs).cfg.min = 0)
    (r : Rec) (j : Nat) (o : Out) (hr : aget r.key (run H State.init evs).utxo = some r)
    (ho : outAt r.outs j = some o) (hs : o.script = a.script) :
    ({ txid := r.txid, vout := j, value := o.value, minedAt := r.inBlock, coinbase := r.coinbase } : Unspent)
      ∈ getAllUnspent H (run H State.init evs) a := by
  refine ((balances_eq_projection_keyed H evs hadm a hon).2.1 _).2 ⟨r, o, hr, ho, ?_, ?_, rfl⟩
  · rw [hmin]; exact Nat.zero_le _
  · rw [hs]; exact script2idx_script H a hv hl

/-- Central theorem for ANY address value (not only the five standard forms). After any admissible history, while
    the index is on, GetAllUnspent(q) is duplicate-free and reports EXACTLY the unspent outputs of value ≥ min whose
    script is `q`'s own OutScript() — when the function resolves `q` to a sub-index; and NOTHING when it does not.
    So no address is ever shown outputs that pay to a different script. (For unresolved addresses — future witness
    versions — outputs paying to them exist in the set but are not indexed, by design: the right-hand side is empty.)
    `hHinj`: no 64-bit SipHash collision among the payloads in play, as in `balances_eq_projection_hash_inj`. -/
theorem balances_eq_projection_any_address (H : Bytes → Nat) (evs : List Ev) (hadm : AdmissibleRun H State.init evs)
    (tn : Bool) (q : QAddr) (hw : q.WF) (hon : (run H State.init evs).on = true)
    (hHinj : ∀ a, addrKey tn q = some a → ∀ k r j o p, aget k (run H State.init evs).utxo = some r →
      outAt r.outs j = some o → scriptForm o.script = some (a.idx, p) → H p = H a.payload → p = a.payload)
    (hfit : sumValues (getAllUnspentQ H tn (run H State.init evs) q) < M64) :
    let s := run H State.init evs
    (getAllUnspentQ H tn s q).Nodup ∧
    (∀ x, x ∈ getAllUnspentQ H tn s q ↔
      ∃ a, addrKey tn q = some a ∧ q.outScript = some a.script ∧ Pays s.cfg.min s.utxo a x) ∧
    totalQ H tn s q = sumValues (getAllUnspentQ H tn s q) := by
  cases hk : addrKey tn q with
  | none =>
    have h0 := getAllQ_none (H := H) hk (run H State.init evs)
    simp only [h0.1, h0.2]
    refine ⟨List.nodup_nil, fun x => ⟨fun h => (by cases h), fun h => (by obtain ⟨a, ha, _⟩ := h; cases ha)⟩, by simp [sumValues]⟩
  | some a =>
    obtain ⟨hs, hv, hl⟩ := addrKey_spec tn q hw a hk
    have h1 := getAllQ_some (H := H) hk (run H State.init evs)
    rw [h1.1] at hfit
    obtain ⟨hn, hm, ht⟩ := balances_eq_projection_hash_inj H evs hadm a hv hl hon (hHinj a hk) hfit
    simp only [h1.1, h1.2]
    refine ⟨hn, fun x => ?_, ht⟩
    rw [hm x]
    exact ⟨fun hp => ⟨a, rfl, hs, hp⟩, fun h => by obtain ⟨a', ha', _, hp⟩ := h; cases ha'; exact hp⟩

/-! ### the byte-level load: static decoder (both record formats), abort path

  Model.BalancesLoad mirrors `utxo.NewUtxoRecStatic` with its package-level buffers as explicit state (`Static`),
  for the plain (`entU`) and the compressed (`entC K`) record format, and `wallet.LoadBalancesFromUtxo` over the
  stored bytes with the `FetchingBalanceTick` abort. The stateless decoders are C10's `newRecU` / `newRecC`
  (imported; `recU_roundtrip` / `recC_roundtrip` of Props/C10 say they invert `SerializeU` / `SerializeC`). -/

/-- No residue, plain format: whatever the static buffers hold from earlier records (`st` is arbitrary), when
    `NewUtxoRecStatic` returns, the record it shows — txid, height, coinbase flag, number of slots and for EVERY slot
    nil or (value, script) — is exactly what the stateless `NewUtxoRec` decodes from the same bytes. -/
theorem static_decode_no_residue_plain (st st' : Static) (dat : Bytes) (r : URec)
    (h : staticDec entU dat st = .ok (r, st')) : UtxoRec.newRecU dat = .ok r := by
  rw [← UtxoRec.genRec_entU]; exact staticDec_sound entU dat st st' r h

/-- No residue, compressed format (any key functions `K`). -/
theorem static_decode_no_residue_compressed (K : ScriptCompress.KeyOps) (st st' : Static) (dat : Bytes) (r : URec)
    (h : staticDec (entC K) dat st = .ok (r, st')) : UtxoRec.newRecC K dat = .ok r := by
  rw [← UtxoRec.genRec_entC]; exact staticDec_sound (entC K) dat st st' r h

/-- Sequences, plain format: decoding the serialisations of ANY sequence of well-formed records one after the other
    through the same static buffers (starting from any buffer state) yields, record by record, exactly the records
    that were serialised — no output of record k shows in record k+1, whatever their slot counts and live slots.
    `_partial`: stated for runs in which no decode panics (`staticSeq … = some out`), from ANY buffer state;
    `static_sequence_exact_plain` below adds that no decode panics when pool and slot array have equal length. -/
theorem static_sequence_exact_plain_partial (rs : List URec) (hwf : ∀ r ∈ rs, UtxoRec.WFRec r) (bs : List Bytes)
    (hser : rs.map UtxoRec.serializeU = bs.map some) (st : Static) (out : List URec)
    (h : staticSeq entU bs st = some out) : out = rs :=
  staticSeq_fmt_partial UtxoRec.fmtU rs (fun r hr => (hwf r hr).fmt) bs hser st out h

/-- Sequences, compressed format (sound key functions, amounts on which CompressAmount does not wrap: `WFRecC`). -/
theorem static_sequence_exact_compressed_partial (K : ScriptCompress.KeyOps) (hK : K.Sound) (rs : List URec)
    (hwf : ∀ r ∈ rs, UtxoRec.WFRecC r) (bs : List Bytes)
    (hser : rs.map (UtxoRec.serializeC K) = bs.map some) (st : Static) (out : List URec)
    (h : staticSeq (entC K) bs st = some out) : out = rs :=
  staticSeq_fmt_partial (UtxoRec.fmtC K hK) rs (fun r hr => (hwf r hr).fmt) bs hser st out h

/-- Sequences, plain format, total: from any buffer state in which `rec_pool` and `rec_outs` have the same length
    (`Static.Sized`: true at package initialisation, kept by `OutsList`, which re-allocates both together), decoding the
    serialisations of any sequence of well-formed records through the static decoder never panics and yields exactly
    those records (the pool cannot run out: slot indices are strictly increasing, so `rec_idx ≤ slot index < cnt`). -/
theorem static_sequence_exact_plain (rs : List URec) (hwf : ∀ r ∈ rs, UtxoRec.WFRec r) (bs : List Bytes)
    (hser : rs.map UtxoRec.serializeU = bs.map some) (st : Static) (hz : Static.Sized st) :
    staticSeq entU bs st = some rs :=
  staticSeq_fmt UtxoRec.fmtU rs (fun r hr => (hwf r hr).fmt) bs hser st hz

/-- Sequences, compressed format, total (sound key functions, `WFRecC`). -/
theorem static_sequence_exact_compressed (K : ScriptCompress.KeyOps) (hK : K.Sound) (rs : List URec)
    (hwf : ∀ r ∈ rs, UtxoRec.WFRecC r) (bs : List Bytes)
    (hser : rs.map (UtxoRec.serializeC K) = bs.map some) (st : Static) (hz : Static.Sized st) :
    staticSeq (entC K) bs st = some rs :=
  staticSeq_fmt (UtxoRec.fmtC K hK) rs (fun r hr => (hwf r hr).fmt) bs hser st hz

/-- A COMPLETED byte-level load is the record-level `.enable` step, in either record format (`P = entU` or `entC K`):
    if the stored bytes decode (statelessly) to the records of the unspent set (`Stored`), the tick never fires and the
    load returns, the node state afterwards — maps, on flag, applied minimum and useMapCnt — EQUALS
    `step H s (.enable mn um)`, whatever the static buffers held. Hence every theorem above about histories with
    `.enable` (inv_all_histories, balances_eq_projection, …) holds verbatim when the index is built from bytes. -/
theorem load_bytes_eq_enable (P : Parser) (H : Bytes → Nat) (tick : Nat → Bool) (s s' : State) (st st' : Static)
    (raw : List Bytes) (mn um : Nat) (hs : Stored P raw s.utxo)
    (hq : ∀ k, 1 ≤ k → k ≤ raw.length → tick k = false)
    (h : loadFromUtxo P H tick s st raw mn um = some (s', st')) : s' = step H s (.enable mn um) :=
  loadFromUtxo_completed P H tick s s' st st' raw mn um hs hq h

/-- Build-from-populated over the stored bytes, both formats: after a completed load the index is on and is the
    projection of the unspent set (the byte-level form of `enable_builds_projection`). -/
theorem load_bytes_builds_projection (P : Parser) (H : Bytes → Nat) (tick : Nat → Bool) (s s' : State) (st st' : Static)
    (raw : List Bytes) (mn um : Nat) (hi : Inv H s) (hoff : s.on = false) (hs : Stored P raw s.utxo)
    (hq : ∀ k, 1 ≤ k → k ≤ raw.length → tick k = false)
    (h : loadFromUtxo P H tick s st raw mn um = some (s', st')) :
    s'.on = true ∧ s'.cfg.min = mn ∧ s'.utxo = s.utxo ∧ Rel s'.cfg H s'.bal (coinsOf s'.utxo) := by
  have e := load_bytes_eq_enable P H tick s s' st st' raw mn um hs hq h
  have hb := enable_builds_projection H s mn um hi hoff
  subst e
  exact ⟨hb.1, hb.2.1, by simp [step, hoff], hb.2.2⟩

/-- The ABORT path: if FetchingBalanceTick answers true after one of the records (1 ≤ k ≤ number of records) and
    the index was off, then after LoadBalancesFromUtxo returns the index is EMPTY and OFF (no record of the partial
    scan survives: `InitMaps(true)`), the unspent set is untouched, and the invariant still holds — so a later
    complete load starts from the same state as if the aborted one had never happened. -/
theorem load_aborted_leaves_index_empty_and_off (P : Parser) (H : Bytes → Nat) (tick : Nat → Bool) (s s' : State)
    (st st' : Static) (raw : List Bytes) (mn um : Nat) (hi : Inv H s) (hoff : s.on = false)
    (hq : ∃ k, 1 ≤ k ∧ k ≤ raw.length ∧ tick k = true)
    (h : loadFromUtxo P H tick s st raw mn um = some (s', st')) :
    s'.on = false ∧ s'.bal = [] ∧ s'.utxo = s.utxo ∧ Inv H s' ∧
      (∀ a, getAllUnspent H s' a = [] ∧ total H s' a = 0) := by
  have e := loadFromUtxo_aborted P H tick s s' st st' raw mn um hoff hq h
  subst e
  refine ⟨rfl, rfl, rfl, ⟨hi.1, fun hon => by cases hon⟩, fun a => ?_⟩
  simp [getAllUnspent, total, aget]

/-- The byte-level load is total, plain format: when `Unspent.HashMap` holds the serialisations (`SerializeU`) of well-formed
    records which are the model's unspent set, LoadBalancesFromUtxo over those bytes RETURNS (no panic, no hang) from any
    buffer state with equally long pool and slot arrays and for ANY tick function, keeps that buffer property, and its
    result is the record-level `.enable` step when the tick never fires, the empty switched-off index when it does. -/
theorem load_serialized_plain (H : Bytes → Nat) (tick : Nat → Bool) (s : State) (st : Static) (mn um : Nat)
    (rs : List URec) (hwf : ∀ r ∈ rs, UtxoRec.WFRec r) (raw : List Bytes)
    (hser : rs.map UtxoRec.serializeU = raw.map some) (hu : rs.map toBal = s.utxo.map Prod.snd)
    (hz : Static.Sized st) :
    ∃ s' st', loadFromUtxo entU H tick s st raw mn um = some (s', st') ∧ Static.Sized st' ∧
      ((∀ k, 1 ≤ k → k ≤ raw.length → tick k = false) → s' = step H s (.enable mn um)) ∧
      (s.on = false → (∃ k, 1 ≤ k ∧ k ≤ raw.length ∧ tick k = true) →
        s' = { s with cfg := { min := mn, useMapCnt := um }, bal := [], on := false }) :=
  load_fmt UtxoRec.fmtU H tick s st mn um rs (fun r hr => (hwf r hr).fmt) raw hser hu hz

/-- The byte-level load is total, compressed format (sound key functions, `WFRecC`). -/
theorem load_serialized_compressed (K : ScriptCompress.KeyOps) (hK : K.Sound) (H : Bytes → Nat) (tick : Nat → Bool)
    (s : State) (st : Static) (mn um : Nat)
    (rs : List URec) (hwf : ∀ r ∈ rs, UtxoRec.WFRecC r) (raw : List Bytes)
    (hser : rs.map (UtxoRec.serializeC K) = raw.map some) (hu : rs.map toBal = s.utxo.map Prod.snd)
    (hz : Static.Sized st) :
    ∃ s' st', loadFromUtxo (entC K) H tick s st raw mn um = some (s', st') ∧ Static.Sized st' ∧
      ((∀ k, 1 ≤ k → k ≤ raw.length → tick k = false) → s' = step H s (.enable mn um)) ∧
      (s.on = false → (∃ k, 1 ≤ k ∧ k ≤ raw.length ∧ tick k = true) →
        s' = { s with cfg := { min := mn, useMapCnt := um }, bal := [], on := false }) :=
  load_fmt (UtxoRec.fmtC K hK) H tick s st mn um rs (fun r hr => (hwf r hr).fmt) raw hser hu hz

/-! ### configuration changes (Model.BalancesCfg, Gen.WalletCfgFacts) -/

/-- The model's treatment of the two thresholds restated against /repo's CURRENT source (facts regenerated by
    go/cmd/gen_c17 on every run; this theorem stops compiling when one of them changes). The facts are in the
    generator's canonical form: a function is named only when it is an ENTRY POINT of its package (exported, init,
    main, used as a value); unexported helpers count as inlined into their callers; the two package variables are
    found by their role (what `common.AllBalMinVal()` loads; the wallet variable assigned from
    CFG.AllBalances.UseMapCnt, printed `<useMapCnt>`); locals are resolved. So: the variable behind
    `common.AllBalMinVal()` is stored only by ApplyBalMinVal (the value of CFG.AllBalances.MinValue) and loaded only
    by AllBalMinVal; a store is reachable in package common only from ApplyBalMinVal and InitConfig — NOT from
    `Reset()`, which the WebUI / TextUI run after every config change; outside package common only
    wallet.LoadBalancesFromUtxo calls it, once, unconditionally, before its scan, behind the WalletON guard; the only
    package-level / imported quantities that ordered comparisons on the paths of the callbacks TxNotifyAdd /
    TxNotifyDel depend on are `common.AllBalMinVal()` (the value in force) and, when adding, the list->map
    threshold; nothing in client/wallet reads CFG.AllBalances.MinValue; the wallet's copy of
    CFG.AllBalances.UseMapCnt is assigned only in InitMaps and LoadBalances, from that field; the path of the
    removing callback calls no standard-library search that assumes a SORTED slice (slices.BinarySearch*, sort.Search*,
    sort.Find): the model finds the entry to remove by membership, and an entry list restored from the balances cache is in arbitrary order
    (`shrunk_map_reloads_as_list_in_any_order`); the conditions (any operator) on the callbacks' paths depend only on the
    record's outputs (presence, script, value), the index's own tables and records, the script classification, the value in
    force and, when adding, the list->map threshold — on no other variable of the package and on nothing else imported from
    client/... (node state such as `common.BlockChainSynchronized`, configuration), functions / constants of lib/... and the
    standard library not being listed; `common.AllBalMinVal()` returns the atomic load of the variable and nothing else.
    WHAT THE FACTS DO NOT PIN: the bodies of the functions named (what `Script2Idx` computes, what is done with a value once
    read — that is the correspondence run's part), state reached through a function / method of lib/... or through a
    function value, and anything outside client/common and client/wallet. -/
theorem model_matches_source_facts :
    Gen.WalletCfgFacts.minValWriters = ["ApplyBalMinVal"] ∧
    Gen.WalletCfgFacts.minValStored = ["CFG.AllBalances.MinValue"] ∧
    Gen.WalletCfgFacts.minValReaders = ["AllBalMinVal"] ∧
    Gen.WalletCfgFacts.minValReach = ["ApplyBalMinVal", "InitConfig"] ∧
    Gen.WalletCfgFacts.resetMayWriteMinVal = false ∧
    Gen.WalletCfgFacts.minValExternalCallers = ["wallet.LoadBalancesFromUtxo"] ∧
    Gen.WalletCfgFacts.loadGuardedByWalletON = true ∧ Gen.WalletCfgFacts.loadAppliesOnceBeforeScan = true ∧
    Gen.WalletCfgFacts.addPathComparesWith = ["(<useMapCnt>-1)", "common.AllBalMinVal()"] ∧
    Gen.WalletCfgFacts.delPathComparesWith = ["common.AllBalMinVal()"] ∧
    Gen.WalletCfgFacts.addPathReadsInForce = true ∧ Gen.WalletCfgFacts.delPathReadsInForce = true ∧
    Gen.WalletCfgFacts.walletReadsCfgMinValue = [] ∧
    Gen.WalletCfgFacts.useMapCntWriters = ["InitMaps", "LoadBalances"] ∧
    Gen.WalletCfgFacts.useMapCntSources = ["int(common.Get(&common.CFG.AllBalances.UseMapCnt))"] ∧
    Gen.WalletCfgFacts.delPathSortedSearches = [] ∧
    Gen.WalletCfgFacts.addPathConditionsDependOn =
      ["<useMapCnt>", "OneAllAddrBal", "OneAllAddrBal.unsp", "OneAllAddrBal.unspMap", "Script2Idx()", "[]byte", "allBalances",
       "allBalances.unsp", "allBalances.unspMap", "common.AllBalMinVal()", "utxo.UtxoRec.Outs", "utxo.UtxoRec.Outs.PKScr",
       "utxo.UtxoRec.Outs.Value"] ∧
    Gen.WalletCfgFacts.delPathConditionsDependOn =
      ["Script2Idx()", "[]bool", "[]byte", "allBalances", "allBalances.unsp", "allBalances.unspMap", "common.AllBalMinVal()",
       "utxo.UtxoRec.Outs", "utxo.UtxoRec.Outs.PKScr", "utxo.UtxoRec.Outs.Value"] ∧
    Gen.WalletCfgFacts.minValGetterReturns = ["atomic.LoadUint64(&<minVal>)"] :=
  ⟨rfl, rfl, rfl, rfl, rfl, rfl, rfl, rfl, rfl, rfl, rfl, rfl, rfl, rfl, rfl, rfl, rfl, rfl, rfl⟩

/-- A config change landing DURING the build of the index is ignored until the next build: for ANY schedule `chg` of
    `CFG.AllBalances.MinValue = v; common.Reset()` events between the records of a running LoadBalancesFromUtxo (from
    the tick callback or another goroutine; WalletON is false all that time), the load behaves exactly as without
    them — same maps, same on flag, and the minimum in force afterwards is the one applied before the scan. Hence
    every record of the scan is filtered with ONE threshold, and `load_bytes_eq_enable`, `load_bytes_builds_projection`,
    `load_serialized_*` hold verbatim for `loadFromUtxoR`. Rests on `resetMayWriteMinVal = false` (generated). -/
theorem load_ignores_config_changes (P : Parser) (H : Bytes → Nat) (tick : Nat → Bool) (chg : Nat → Option Nat)
    (s : State) (st : Static) (raw : List Bytes) (mn um : Nat) :
    loadFromUtxoR P H tick chg s st raw mn um = loadFromUtxo P H tick s st raw mn um := by
  unfold loadFromUtxoR loadFromUtxo
  cases s.on
  · simp only [Bool.false_eq_true, if_false, loadLoopR_eq]
    cases loadLoop P { min := mn, useMapCnt := um } H tick raw 0 st [] with
    | none => rfl
    | some v => obtain ⟨bal, st', ab⟩ := v; cases ab <;> rfl
  · rfl

/-- Build-from-populated with config changes during the scan: after a completed load the index is on, is the
    projection of the unspent set under the minimum IN FORCE afterwards, and that minimum is the one configured when
    the build started. -/
theorem load_with_config_changes_builds_projection (P : Parser) (H : Bytes → Nat) (tick : Nat → Bool)
    (chg : Nat → Option Nat) (s s' : State) (st st' : Static)
    (raw : List Bytes) (mn um : Nat) (hi : Inv H s) (hoff : s.on = false) (hs : Stored P raw s.utxo)
    (hq : ∀ k, 1 ≤ k → k ≤ raw.length → tick k = false)
    (h : loadFromUtxoR P H tick chg s st raw mn um = some (s', st')) :
    s'.on = true ∧ s'.cfg.min = mn ∧ s'.utxo = s.utxo ∧ Rel s'.cfg H s'.bal (coinsOf s'.utxo) := by
  rw [load_ignores_config_changes] at h
  exact load_bytes_builds_projection P H tick s s' st st' raw mn um hi hoff hs hq h

/-! ### the disk cache of the index (wallet/disk.go, Model.BalancesDisk) -/

/-- `btc.ReadVarInt(btc.WriteVarInt(n)) = n` for every uint64 (base-128 VARINT with the uint64 wrap explicit),
    with anything following. -/
theorem varint_roundtrip (n : Nat) (h : n < 2 ^ 64) (rest : Bytes) :
    readVarInt (writeVarInt n ++ rest) = some (n, rest) :=
  readVarInt_writeVarInt n h rest

/-- disk_roundtrip: for one address type's map `m` (Go map order = any list order) whose records are as the index
    invariant keeps them (`WFBal`: non-empty duplicate-free entry list — both given by `Rel` — 8-byte keys, uint32
    vouts, a Value on which CompressAmount does not wrap) and whose keys are uint64, `load_map` on what `save_map`
    wrote (trailing bytes ignored) assigns a map with exactly the same keys, Values and entries; only the layout is
    re-chosen (`norm`: map layout iff count >= useMapCnt — a map that had shrunk below useMapCnt comes back as a
    list, a list never comes back as a map since lists hold < useMapCnt entries). Both layouts write the same bytes. -/
theorem disk_roundtrip (um : Nat) (m : List (Nat × Bal)) (hl : m.length < 2 ^ 64)
    (hk : ∀ p ∈ m, p.1 < 2 ^ 64 ∧ WFBal p.2) (extra : Bytes) (prev : List (Nat × Option Bal)) :
    loadMap um (some (saveMap m ++ extra)) prev = (m.map (fun p => (p.1, some (norm um p.2)))).reverse := by
  unfold loadMap
  simp only [loadPairs_saveMap um m hl hk extra]

/-- `load_map` never stores a nil record (the patched client/wallet/disk.go: a record that cannot be read — file cut inside it, entry
    count 0 — refuses the file): every file it accepts holds exactly the announced number of records, each a real record. -/
theorem loaded_map_has_no_nil_record (um : Nat) (f : Bytes) (l : List (Nat × Option Bal)) (h : loadPairs um f = some l) :
    ∀ p ∈ l, p.2.isSome = true := by
  unfold loadPairs at h
  split at h
  · cases h
  · exact (loadRecs_all_some um _ _ _ h).2

/-- LoadBalances as an ENABLING event (`loadAll` = all address-type files; `none` = the load is refused: InitMaps(true), error
    returned, WalletON stays false, the client falls back to LoadBalancesFromUtxo = the model's `.enable`): it switches the index on
    only if EVERY file was there and was accepted completely, and then every loaded record is a real one; a single missing or
    refused file refuses the whole load.  (Before the fix the test was `allBalances[i] == nil`, which a file cut inside its last
    record — stored with a nil record — and, after a Disable, ANY failed file passed: the index went on with a wrong map, the
    negation of C17.  Kept in the corpus: harness stream disk-corrupt.) -/
theorem load_balances_all_or_nothing (um : Nat) (fs : List (Option Bytes)) :
    (∀ ls, GocoinV.Model.BalancesDisk.loadAll um fs = some ls →
      ls.length = fs.length ∧ (∀ f ∈ fs, ∃ b, f = some b ∧ (loadPairs um b).isSome = true) ∧ ∀ l ∈ ls, ∀ p ∈ l, p.2.isSome = true) ∧
    ((∃ f ∈ fs, f = none ∨ ∃ b, f = some b ∧ loadPairs um b = none) → GocoinV.Model.BalancesDisk.loadAll um fs = none) :=
  ⟨fun ls h => loadAll_some um fs ls h, loadAll_none_of um fs⟩

/-- … and on what SaveBalances wrote for an index as the invariant keeps it, LoadBalances gives back, per address type, exactly
    the saved map (keys, Values, entries; layout re-chosen by `norm`) — so enabling through the cache at the block the cache was
    written for yields the same index as the one that was saved, which `balances_eq_projection` shows to be the projection. -/
theorem load_balances_roundtrip (um : Nat) (ms : List (List (Nat × Bal)))
    (hl : ∀ m ∈ ms, m.length < 2 ^ 64) (hk : ∀ m ∈ ms, ∀ p ∈ m, p.1 < 2 ^ 64 ∧ WFBal p.2) :
    GocoinV.Model.BalancesDisk.loadAll um (ms.map (fun m => some (saveMap m)))
      = some (ms.map (fun m => (m.map (fun p => (p.1, some (norm um p.2)))).reverse)) := by
  induction ms with
  | nil => rfl
  | cons m rest ih =>
    have h1 := loadPairs_saveMap um m (hl m (by simp)) (hk m (by simp)) []
    simp only [List.append_nil] at h1
    simp only [List.map_cons, GocoinV.Model.BalancesDisk.loadAll, h1,
      ih (fun x hx => hl x (List.mem_cons_of_mem _ hx)) (fun x hx => hk x (List.mem_cons_of_mem _ hx))]

/-! ### restart through the balances cache as an event of the histories (`Ev.reload`)

  `Ev` has the event `.reload useMapCnt ords` = SaveBalances; restart; LoadBalances, so every history theorem above
  (`inv_all_histories`, `balances_eq_projection*`, `record_exists_iff_outputs`, …) quantifies over histories that go through
  the cache at any point, any number of times, with any UseMapCnt at the restart and any Go map iteration order while the
  map records were saved — and that go on connecting / disconnecting blocks on the restored index. -/

/-- A restart through the cache changes no answer: the unspent set, the minimum and the on-flag are untouched, every
    address's total is the same and its GetAllUnspent list is a rearrangement of the one before. -/
theorem reload_keeps_every_answer (H : Bytes → Nat) (s : State) (um : Nat) (ords : List (AKey × List Inp))
    (h : Inv H s) (hon : s.on = true) (a : Addr) :
    let s' := step H s (.reload um ords)
    s'.utxo = s.utxo ∧ s'.on = true ∧ s'.cfg.min = s.cfg.min ∧ s'.cfg.useMapCnt = um ∧
    total H s' a = total H s a ∧ (getAllUnspent H s' a).Perm (getAllUnspent H s a) := by
  simp only [step, hon, if_true, total, getAllUnspent, aget_reloadBal]
  cases hb : aget (a.idx, H a.payload) s.bal with
  | none => exact ⟨trivial, trivial, trivial, trivial, rfl, List.Perm.refl _⟩
  | some b =>
    have hK := h.2 hon (a.idx, H a.payload)
    rw [hb] at hK
    obtain ⟨hp, hv⟩ := relayout_perm um _ b hK.1
    exact ⟨trivial, trivial, trivial, trivial, hv, hp.filterMap _⟩

/-- What the restart may hand back (why no code path may rely on an ordering of the entry lists): a MAP record whose count
    is below the UseMapCnt of the restart — it shrank after the switch-over, or UseMapCnt was raised — comes back as a LIST
    holding the entries in exactly the order Go's map iteration produced while saving, i.e. in ANY order. -/
theorem shrunk_map_reloads_as_list_in_any_order (um : Nat) (b : Bal) (ord : List Inp) (hm : b.isMap = true)
    (hp : ord.Perm b.unsp) (hlt : ord.length < um) :
    relayout um ord b = { value := b.value, unsp := ord, isMap := false } := by
  have : savedOrder ord b = ord := by
    simp only [savedOrder, hm, Bool.true_and, List.isPerm_iff.2 hp, if_true]
  simp only [relayout, this, Nat.not_le.2 hlt, if_false]

/-- … and the event is exactly the byte-level round trip of disk.go: for one address type's map `m` (records as the index
    invariant keeps them, `WFBal`), `load_map` with the restart's UseMapCnt on the file `save_map` writes when every map
    record is iterated in the order `ord` proposes gives back, key for key, the records `relayout` computes. -/
theorem reload_is_cache_roundtrip (um : Nat) (m : List (Nat × Bal)) (ord : Nat → List Inp) (hl : m.length < 2 ^ 64)
    (hk : ∀ p ∈ m, p.1 < 2 ^ 64 ∧ WFBal p.2) (prev : List (Nat × Option Bal)) :
    loadMap um (some (saveMap (m.map (fun p => (p.1, asSaved (ord p.1) p.2))))) prev
      = (m.map (fun p => (p.1, some (relayout um (ord p.1) p.2)))).reverse := by
  have h := disk_roundtrip um (m.map (fun p => (p.1, asSaved (ord p.1) p.2))) (by simpa using hl)
    (by
      intro p hp
      obtain ⟨q, hq, rfl⟩ := List.mem_map.1 hp
      exact ⟨(hk q hq).1, wfBal_asSaved _ _ (hk q hq).2⟩) [] prev
  rw [List.append_nil] at h
  rw [h, List.map_map]
  congr 1
  apply List.map_congr_left
  intro p hp
  simp only [Function.comp, norm_asSaved um (ord p.1) p.2 (hk p hp).2.nodup]

/-! ### block connections in every sync state (Model.BalancesBlock) -/

/-- Source facts (regenerated from /repo/lib/utxo on every run by go/cmd/gen_c17/guards.go) behind the block layer: WHAT
    DECIDES WHETHER lib/utxo CALLS THE INDEX CALLBACKS, WHAT IT HANDS TO THEM, AND WHERE THE INSTALLED CALLBACKS CAN CHANGE.
    Canonical form: field paths rooted in the type of the receiver / parameter; a local that is defined once stands for its
    definition, any other local for EVERY value written to it and the conditions around those writes; parameters of closures
    and of non-entry functions stand for what the call chain passes, a call of a non-entry function for what it returns and
    every condition it tests; per entry point through which a call site is reached. Guards = the conditions of the if / for /
    switch statements around the call and every condition inside an earlier statement of an enclosing block that contains (at
    any depth) a return / goto / panic / break / continue leaving it. Read: through CommitBlockTxs, `CB.NotifyTxAdd(rec)`
    depends on the callback being installed and on the block's AddList, and is handed a record of the AddList;
    `CB.NotifyTxDel(rec, outs)` depends on the callback being installed, the block's DeledTxs and the stored record being the
    one named by the txid, and is handed the stored record (decoded by NewUtxoRec) and the block's mask; through UndoBlockTxs
    additionally on the undo file being readable and on what is read from it (the callback is handed the record read back),
    the deletion on the block's transactions (mask: all outputs). The callbacks are assigned in one place, NewUnspentDb, from
    the options. In these sets there is no `BlockChanges.Height`, `BlockChanges.LastKnownHeight`, `UnspentDB.UnwindBufLen`,
    `BlockChanges.UndoData` and no field of the record: `connectBlock` runs the callbacks in every sync state.
    WHAT THE FACT DOES NOT PIN: it is a may-depend set computed from the syntax of package lib/utxo only. It does not see
    what the entry points named with `()` (NewUtxoRec, FullUtxoRec) or functions of other packages compute, state reached
    through a function value, an interface method or reflection, a change of the callbacks or of a guard made OUTSIDE lib/utxo
    (client/…: covered only by the correspondence run), or an edit that keeps the sets but changes the expression (a guard
    `!= nil` turned into `== nil`, a different record of the same AddList). Such edits are the correspondence run's part. -/
theorem callbacks_guarded_by_installation_only :
    Gen.UtxoNotifyFacts.notifyAddGuards =
      [("UnspentDB.CommitBlockTxs", ["BlockChanges.AddList", "UnspentDB.CB.NotifyTxAdd"]),
       ("UnspentDB.UndoBlockTxs", ["FullUtxoRec()", "UnspentDB.CB.NotifyTxAdd", "UnspentDB.LastBlockHeight", "UnspentDB.dir_undo",
          "btc.VLen()", "fmt.Sprint()", "os.ReadFile()"])] ∧
    Gen.UtxoNotifyFacts.notifyDelGuards =
      [("UnspentDB.CommitBlockTxs", ["BlockChanges.DeledTxs", "UnspentDB.CB.NotifyTxDel", "UnspentDB.HashMap", "bytes.Equal()"]),
       ("UnspentDB.UndoBlockTxs", ["UnspentDB.CB.NotifyTxDel", "UnspentDB.HashMap", "btc.Block.Txs", "btc.Block.Txs.Hash.Hash",
          "bytes.Equal()"])] ∧
    Gen.UtxoNotifyFacts.notifyAddArgs =
      [("UnspentDB.CommitBlockTxs", ["BlockChanges.AddList"]),
       ("UnspentDB.UndoBlockTxs", ["FullUtxoRec()", "UnspentDB.LastBlockHeight", "UnspentDB.dir_undo", "btc.VLen()",
          "fmt.Sprint()", "os.ReadFile()"])] ∧
    Gen.UtxoNotifyFacts.notifyDelArgs =
      [("UnspentDB.CommitBlockTxs", ["BlockChanges.DeledTxs", "NewUtxoRec()", "UnspentDB.HashMap"]),
       ("UnspentDB.UndoBlockTxs", ["NewUtxoRec()", "UnspentDB.CB.NotifyTxDel", "UnspentDB.HashMap", "btc.Block.Txs",
          "btc.Block.Txs.TxOut"])] ∧
    Gen.UtxoNotifyFacts.callbackWrites = ["NewUnspentDb: UnspentDB.CB = {NewUnspentOpts.CB}"] :=
  ⟨rfl, rfl, rfl, rfl, rfl⟩

/-- "… after EVERY block connection": a block is connected with the same effect on the unspent set AND on the index
    whatever the node's sync state — its height, the height of the best known header (0, at the tip, 144 ahead, exactly
    UnwindBufLen ahead, further: the node is "syncing" and keeps no undo data for the block), the unwind buffer length.
    DEFINITIONAL (`rfl`): the model's `connectBlock` never reads `height` / `lastKnown`; the theorem only records that
    modelling decision. That the CODE behaves so is not proved here: it rests on the may-depend facts of
    `callbacks_guarded_by_installation_only` (with the limits stated there) and on the correspondence run, which connects
    blocks 1 block … the whole uint32 range beyond the UnwindBufLen boundary with the index on. -/
theorem connect_tells_index_in_every_sync_state (H : Bytes → Nat) (s : State) (b : BlockCh) (height lastKnown : Nat) :
    connectBlock H s (b.inState height lastKnown) = connectBlock H s b :=
  rfl

/-- One block connection preserves "index = projection" in EVERY sync state, in particular for a block connected while
    the node is far behind the best known header (`farBehind`: no undo data, the block can never be disconnected). -/
theorem connect_preserves_in_every_sync_state (H : Bytes → Nat) (s : State) (b : BlockCh) (h : Inv H s)
    (ha : AdmissibleRun H s b.work) : Inv H (connectBlock H s b) :=
  inv_run b.work s h ha

/-- Undo data is kept exactly for the blocks connected at most `unwind` blocks behind the best known header (uint32
    arithmetic of chain.commitTxs); `lastKnown = 0` (feature not used) always keeps it. Unfolds the definition of `keepsUndo`
    (what the oracle's `keepundo` answers and the harness compares with the undo file the real code leaves); `keepsUndo` occurs
    in no statement about the index: a `.disconnect` of a block that kept no undo data is not excluded by `AdmissibleRun` — the
    model's disconnect carries its own undo records — and the real node cannot perform it (UndoBlockTxs panics). -/
theorem undo_kept_iff_not_far_behind (unwind : Nat) (b : BlockCh) :
    (keepsUndo unwind b = true ↔ b.lastKnown ≤ (b.height + unwind) % 2 ^ 32) ∧
    (farBehind unwind b = true ↔ (b.height + unwind) % 2 ^ 32 < b.lastKnown) ∧
    (b.lastKnown = 0 → keepsUndo unwind b = true) := by
  refine ⟨?_, ?_, ?_⟩
  · unfold keepsUndo U32; exact decide_eq_true_iff
  · unfold farBehind keepsUndo U32
    rw [Bool.not_eq_true', decide_eq_false_iff_not, Nat.not_le]
  · intro h0; simp [keepsUndo, h0]

/-- Central theorem over BLOCK-level histories: blocks connected in any sync states (each `connect` carries its own height
    and best-known-header height: at the tip, catching up, far behind), blocks disconnected, the index switched on / off /
    restarted through the cache in between. While the index is on, for every address GetAllUnspent is duplicate-free, is
    exactly the projection of the unspent set (outputs ≥ min whose script maps to the address's key, with the right
    txid / vout / value / height / coinbase flag), and the total is their sum (mod 2^64). This is `balances_eq_projection_keyed` through
    `flat` (a block history IS a record history: `runB_eq_run`); it adds no proof content beyond it. -/
theorem balances_eq_projection_block_histories (H : Bytes → Nat) (h : List BEv)
    (hadm : AdmissibleRun H State.init (flat h)) (a : Addr) (hon : (runB H State.init h).on = true) :
    let s := runB H State.init h
    (getAllUnspent H s a).Nodup ∧
    (∀ x, x ∈ getAllUnspent H s a ↔ ∃ r o, aget (x.txid.take 8) s.utxo = some r ∧ outAt r.outs x.vout = some o ∧
        s.cfg.min ≤ o.value ∧ script2idx H o.script = some (a.idx, H a.payload) ∧
        x = { txid := r.txid, vout := x.vout, value := o.value, minedAt := r.inBlock, coinbase := r.coinbase }) ∧
    total H s a = sumValues (getAllUnspent H s a) % M64 :=
  getAll_spec a (inv_runB h State.init (inv_init H) hadm) hon

/-! ### non-vacuity -/

def exScr : Bytes := [0x00, 0x14] ++ List.replicate 20 1
def exOut0 : Out := { value := 10, script := exScr }
def exOut2 : Out := { value := 3, script := [0x51] }
def exRec : Rec := { txid := List.replicate 32 7, inBlock := 5, coinbase := false, outs := [some exOut0, none, some exOut2] }
def exAddr : Addr := { idx := 2, payload := List.replicate 20 1 }
def exH : Bytes → Nat := fun b => b.length

/-- a history satisfying the hypotheses: enable on the empty set, connect a record, spend one output,
    undo that, switch off and on again with another minimum -/
def exEvs : List Ev := [.enable 5 2, .add exRec, .del exRec.txid [true, false, false],
  .undoDel exRec.txid 3, .add exRec, .disable, .enable 4 0]

example : AdmissibleRun exH State.init exEvs :=
  admissibleRun_of_B _ _ (by decide +kernel)
example : (run exH State.init exEvs).on = true := by decide +kernel
example : getAllUnspent exH (run exH State.init exEvs) exAddr =
    [{ txid := List.replicate 32 7, vout := 0, value := 10, minedAt := 5, coinbase := false }] := by decide +kernel
example : total exH (run exH State.init exEvs) exAddr = 10 := by decide +kernel
example : sumValues (getAllUnspent exH (run exH State.init exEvs) exAddr) < M64 := by decide +kernel
example : exAddr.idx < 5 ∧ exAddr.payload.length = (if exAddr.idx < 3 then 20 else 32) := by decide +kernel
example : script2idx exH exAddr.script = some (2, 20) := by decide +kernel
/-! any address value: the standard P2WPKH address resolves to (2, program); witness v2/32, v1/20, v16/20, v0/21 and
    a base58 address of the other network resolve to nothing even when their program equals a funded address's -/
example : addrKey true (.segwit 0 exAddr.payload) = some exAddr ∧ (QAddr.segwit 0 exAddr.payload).outScript = some exScr := by decide +kernel
example : addrKey true (.segwit 2 (List.replicate 32 1)) = none ∧ addrKey true (.segwit 1 exAddr.payload) = none ∧
    addrKey true (.segwit 16 exAddr.payload) = none ∧ addrKey true (.segwit 0 (List.replicate 21 1)) = none ∧
    addrKey true (.base58 0 exAddr.payload) = none ∧ addrKey false (.base58 0 exAddr.payload) = some ⟨0, exAddr.payload⟩ := by decide +kernel
example : getAllUnspentQ exH true (run exH State.init exEvs) (.segwit 0 exAddr.payload) =
    [{ txid := List.replicate 32 7, vout := 0, value := 10, minedAt := 5, coinbase := false }] ∧
    getAllUnspentQ exH true (run exH State.init exEvs) (.segwit 1 exAddr.payload) = [] := by decide +kernel
example : (QAddr.segwit 1 exAddr.payload).outScript = some ([0x51, 0x14] ++ exAddr.payload) ∧
    (QAddr.segwit 16 exAddr.payload).outScript = some ([0x60, 0x14] ++ exAddr.payload) ∧
    (QAddr.segwit 17 exAddr.payload).outScript = none ∧ (QAddr.base58 7 exAddr.payload).outScript = none := by decide +kernel
example : (QAddr.base58 111 exAddr.payload).WF := by show exAddr.payload.length = 20; decide +kernel
example : Inv exH State.init := inv_init exH
example : Rel { min := 0, useMapCnt := 0 } exH [] (fun _ => none) := rel_empty _ _
example : qual { min := 5, useMapCnt := 2 } exH exOut0 (2, 20) := by
  constructor <;> decide +kernel

/-! min = 0 with zero-valued outputs: the address holds a 0-value and a 10-value output; the block spends the
    10-value one; the total reaches 0 but the record and its zero-valued entry stay (list mode and map mode);
    spending the zero-valued one as well removes the record. -/
def zOut0 : Out := { value := 0, script := exScr }
def zRec : Rec := { txid := List.replicate 32 9, inBlock := 6, coinbase := false, outs := [some zOut0, some exOut0, some zOut0] }
def zEvs (um : Nat) : List Ev := [.enable 0 um, .add zRec, .del zRec.txid [false, true, false]]

example : AdmissibleRun exH State.init (zEvs 5000) :=
  admissibleRun_of_B _ _ (by decide +kernel)
example : (run exH State.init (zEvs 5000)).cfg.min = 0 ∧ (run exH State.init (zEvs 5000)).on = true := by decide +kernel
example : getAllUnspent exH (run exH State.init (zEvs 5000)) exAddr =
    [{ txid := List.replicate 32 9, vout := 0, value := 0, minedAt := 6, coinbase := false },
     { txid := List.replicate 32 9, vout := 2, value := 0, minedAt := 6, coinbase := false }] := by decide +kernel
example : total exH (run exH State.init (zEvs 5000)) exAddr = 0 ∧
    (aget (exAddr.idx, exH exAddr.payload) (run exH State.init (zEvs 5000)).bal).isSome = true := by decide +kernel
example : (getAllUnspent exH (run exH State.init (zEvs 1)) exAddr).length = 2 ∧
    total exH (run exH State.init (zEvs 1)) exAddr = 0 := by decide +kernel
example : getAllUnspent exH (run exH State.init (zEvs 3 ++ [.del zRec.txid [true, false, false]])) exAddr =
    [{ txid := List.replicate 32 9, vout := 2, value := 0, minedAt := 6, coinbase := false }] := by decide +kernel
example : aget (exAddr.idx, exH exAddr.payload)
    (run exH State.init (zEvs 3 ++ [.del zRec.txid [true, false, true]])).bal = none := by decide +kernel
example : scriptForm exScr = some (2, List.replicate 20 1) := by decide +kernel
example : ∀ p, scriptForm exOut0.script = some (exAddr.idx, p) → exH p = exH exAddr.payload → p = exAddr.payload := by
  intro p h _
  have : scriptForm exOut0.script = some (2, List.replicate 20 1) := by decide +kernel
  rw [this] at h; cases h; rfl

/-! byte-level load: two stored records, the first with a live HIGH slot only (slot 2 of 3), the second with the same
    slot count and only slot 0 live: the static decoder must not show the first record's slot 2 in the second. -/
def bOutA : UOut := { value := 7, pk := exScr }
def bRec1 : URec := { txid := List.replicate 32 1, inBlock := 3, coinbase := false, outs := [none, none, some bOutA] }
def bRec2 : URec := { txid := List.replicate 32 2, inBlock := 4, coinbase := false, outs := [some bOutA, none, none] }
def bRaw1 : Bytes := (UtxoRec.serializeU bRec1).getD []
def bRaw2 : Bytes := (UtxoRec.serializeU bRec2).getD []
def bUtxo : State := run exH State.init [.add (toBal bRec1), .add (toBal bRec2)]

example : staticSeq entU [bRaw1, bRaw2] (Static.init 4) = some [bRec1, bRec2] := by decide +kernel
example : [bRec1, bRec2].map UtxoRec.serializeU = [bRaw1, bRaw2].map some := by decide +kernel
example : Static.Sized (Static.init 4) := static_init_sized 4
example : [bRec2, bRec1].map toBal = bUtxo.utxo.map Prod.snd := by decide +kernel
/-- a dirty buffer: slot 2 still points to a pool object (as left by bRec1) -/
example : (match staticDec entU bRaw2 ((Static.init 4).put 2 bOutA) with
    | .ok (r, _) => decide (r = bRec2)
    | _ => false) = true := by decide +kernel
example : Stored entU [bRaw2, bRaw1] bUtxo.utxo :=
  ⟨⟨bRec2, by decide +kernel, by decide +kernel⟩, ⟨bRec1, by decide +kernel, by decide +kernel⟩, trivial⟩
example : (loadFromUtxo entU exH (fun _ => false) bUtxo (Static.init 4) [bRaw2, bRaw1] 5 2).isSome = true := by decide +kernel
example : (loadFromUtxo entU exH (fun n => n == 1) bUtxo (Static.init 4) [bRaw2, bRaw1] 5 2).map (fun p => (p.1.on, p.1.bal)) =
    some (false, []) := by decide +kernel

/-! config change during the load: after the first of two records the config gets MinValue 8 (> the 7 of the second
    record's output) and Reset() runs: both records are still filtered with the minimum 5 applied before the scan -/
example : (loadFromUtxoR entU exH (fun _ => false) (fun n => if n = 1 then some 8 else none) bUtxo (Static.init 4) [bRaw2, bRaw1] 5 2).map
    (fun p => (p.1.on, p.1.cfg.min, p.1.bal.map (fun kb => kb.2.value))) = some (true, 5, [14]) := by decide +kernel

/-! `.undoAdd` — the only event whose admissibility condition is not trivial — in an admissible history with the index ON: the
    10-value output of `zRec` is spent by a block (`.del … [false, true, false]`), the block is disconnected and UndoBlockTxs puts
    the output back into the PARTIALLY SPENT stored record (`uRec1` carries only the restored slot; same slot count; the slot is nil
    in the stored record `zSpent`).  List mode (useMapCnt 5000) and map mode (useMapCnt 1): three outputs again, total 10. -/
def zSpent : Rec := { zRec with outs := [some zOut0, none, some zOut0] }
def uRec1 : Rec := { zRec with outs := [none, some exOut0, none] }
def uEvs (um : Nat) : List Ev := zEvs um ++ [.undoAdd uRec1]

theorem undoAdd_example_restores_only_spent_slots (j : Nat) (o : Out) (hj : outAt uRec1.outs j = some o) :
    outAt zSpent.outs j = none := by
  match j, hj with
  | 0, hj => simp [uRec1, outAt] at hj
  | 1, _ => rfl
  | 2, hj => simp [uRec1, outAt] at hj
  | (j + 3), hj => simp [uRec1, outAt] at hj

example : AdmissibleRun exH State.init (uEvs 5000) :=
  admissibleRun_of_B _ _ (by decide +kernel)
example : AdmissibleRun exH State.init (uEvs 1) :=
  admissibleRun_of_B _ _ (by decide +kernel)
example : (getAllUnspent exH (run exH State.init (uEvs 5000)) exAddr).map (fun u => (u.vout, u.value)) = [(0, 0), (2, 0), (1, 10)] ∧
    total exH (run exH State.init (uEvs 5000)) exAddr = 10 ∧
    (aget (exAddr.idx, exH exAddr.payload) (run exH State.init (uEvs 5000)).bal).map (·.isMap) = some false := by decide +kernel
example : (getAllUnspent exH (run exH State.init (uEvs 1)) exAddr).length = 3 ∧ total exH (run exH State.init (uEvs 1)) exAddr = 10 ∧
    (aget (exAddr.idx, exH exAddr.payload) (run exH State.init (uEvs 1)).bal).map (·.isMap) = some true := by decide +kernel

/-! disk cache: a list-layout record and a record that comes back in the map layout -/
def dBal1 : Bal := { value := 150000, unsp := [(List.replicate 8 3, 1)], isMap := false }
def dBal2 : Bal := { value := 7, unsp := [(List.replicate 8 4, 0), (List.replicate 8 5, 70000)], isMap := true }
def dMap : List (Nat × Bal) := [(11, dBal1), (18446744073709551615, dBal2)]
example : loadMap 2 (some (saveMap dMap)) [] = [(18446744073709551615, some dBal2), (11, some dBal1)] := by decide +kernel
example : WFBal dBal1 := ⟨by decide, by decide, by intro i hi; simp [dBal1] at hi; subst hi; exact ⟨by decide, by decide⟩, by decide, by decide +kernel, by decide⟩
example : readVarInt (writeVarInt 18446744073709551615) = some (18446744073709551615, []) := by decide +kernel
/-- a file cut inside the LAST record is refused (before the fix: accepted with a nil pointer stored for that key, the index
    went on and Browse dereferenced it — harness key cache-corrupt-enables-wrong-index, file P2KH cut by one byte) -/
example : loadPairs 2 ((saveMap dMap).take ((saveMap dMap).length - 1)) = none := by decide +kernel
/-- a file cut inside a record that is not the last: the next key read fails -/
example : loadPairs 2 ((saveMap dMap).take 12) = none := by decide +kernel
/-- all-or-nothing over the files: one cut file among good ones refuses the load; the good ones alone load -/
example : GocoinV.Model.BalancesDisk.loadAll 2 [some (saveMap dMap), some ((saveMap dMap).take 30), some (saveMap [])] = none ∧
    GocoinV.Model.BalancesDisk.loadAll 2 [some (saveMap dMap), none] = none ∧
    (GocoinV.Model.BalancesDisk.loadAll 2 [some (saveMap dMap), some (saveMap [])]).isSome = true := by decide +kernel

/-! restart through the cache inside a history: three outputs to one address with UseMapCnt 2 (map layout), one spent (a map
    of two), restart with UseMapCnt 5 and the map iterated in DESCENDING order: the record is a list [vout 2, vout 0];
    then vout 0 is spent: found and removed, the record is [vout 2] with the right total -/
def rKey : Key := zRec.key
def rEvs : List Ev := zEvs 2 ++ [.reload 5 [((2, 20), [(rKey, 2), (rKey, 0)])]]
example : AdmissibleRun exH State.init (rEvs ++ [.del zRec.txid [true, false, false]]) :=
  admissibleRun_of_B _ _ (by decide +kernel)
example : aget (2, 20) (run exH State.init (zEvs 2)).bal = some { value := 0, unsp := [(rKey, 0), (rKey, 2)], isMap := true } := by
  decide +kernel
example : aget (2, 20) (run exH State.init rEvs).bal = some { value := 0, unsp := [(rKey, 2), (rKey, 0)], isMap := false } ∧
    (run exH State.init rEvs).cfg.useMapCnt = 5 ∧ (run exH State.init rEvs).on = true := by decide +kernel
example : aget (2, 20) (run exH State.init (rEvs ++ [.del zRec.txid [true, false, false]])).bal =
    some { value := 0, unsp := [(rKey, 2)], isMap := false } := by decide +kernel
example : (getAllUnspent exH (run exH State.init (rEvs ++ [.del zRec.txid [true, false, false]])) exAddr).map (fun u => u.vout) = [2] := by
  decide +kernel
example : relayout 5 [(rKey, 2), (rKey, 0)] { value := 0, unsp := [(rKey, 0), (rKey, 2)], isMap := true } =
    { value := 0, unsp := [(rKey, 2), (rKey, 0)], isMap := false } :=
  shrunk_map_reloads_as_list_in_any_order 5 _ _ rfl (by decide +kernel) (by decide)
example : Inv exH (run exH State.init (zEvs 2)) :=
  inv_all_histories exH (zEvs 2) (admissibleRun_of_B _ _ (by decide +kernel))

/-! block layer: the index is ON (switched on at block 5 / restored at start-up); block 6 arrives while the best known
    header is 2561 blocks ahead (unwind buffer 2560: far behind, no undo data), pays `exAddr` 10 and 3 to OP_TRUE; block 7
    (2560 behind the same header: inside the unwind buffer, not far behind) spends the 10: the index is told both times. The same two blocks at the tip give the same state. -/
def syncB1 : BlockCh := { height := 6, lastKnown := 6 + 2560 + 1, work := [.add exRec] }
def syncB2 : BlockCh := { height := 7, lastKnown := 6 + 2560 + 1, work := [.del exRec.txid [true, false, false]] }
def syncHist : List BEv := [.ctl (.enable 5 2), .connect syncB1]
example : farBehind 2560 syncB1 = true ∧ keepsUndo 2560 (syncB1.inState 6 (6 + 2560)) = true ∧ farBehind 2560 syncB2 = false ∧
    keepsUndo 2560 (syncB1.inState 6 0) = true := by decide +kernel
example : AdmissibleRun exH State.init (flat syncHist) :=
  admissibleRun_of_B _ _ (by decide +kernel)
example : (runB exH State.init syncHist).on = true := by decide +kernel
example : getAllUnspent exH (runB exH State.init syncHist) exAddr =
    [{ txid := List.replicate 32 7, vout := 0, value := 10, minedAt := 5, coinbase := false }] ∧
    total exH (runB exH State.init syncHist) exAddr = 10 := by decide +kernel
example : getAllUnspent exH (runB exH State.init (syncHist ++ [.connect syncB2])) exAddr = [] ∧
    aget (exAddr.idx, exH exAddr.payload) (runB exH State.init (syncHist ++ [.connect syncB2])).bal = none := by decide +kernel
example : runB exH State.init [.ctl (.enable 5 2), .connect (syncB1.inState 6 6)] = runB exH State.init syncHist := rfl

/-! JOINT instance of the central theorem `balances_eq_projection_hash_inj`: ALL its hypotheses at once, on one history, with a
    hash that is not constant on the payloads in play (`jH` = byte sum: 20 for `exAddr`'s payload, 40 for the other P2WPKH
    payload) — two P2WPKH addresses, a P2SH script carrying exAddr's 20 bytes (other address type: no clash), an unrecognised
    script, a coinbase record; connect, spend two outputs, disconnect (undoDel + re-add), spend one again, switch the index off
    and on with another minimum. `hHinj` is discharged output by output of the final unspent set. -/
def jH : Bytes → Nat := fun b => b.foldl (fun a x => a + x.toNat) 0
def jScrB : Bytes := [0x00, 0x14] ++ List.replicate 20 2
def jScrSH : Bytes := [0xa9, 0x14] ++ List.replicate 20 1 ++ [0x87]
def jOutB : Out := { value := 20, script := jScrB }
def jOutSH : Out := { value := 7, script := jScrSH }
def jOut4 : Out := { value := 6, script := exScr }
def jRec : Rec := { txid := List.replicate 32 8, inBlock := 6, coinbase := true, outs := [some exOut0, some jOutB, some jOutSH, some exOut2, some jOut4] }
def jRecEnd : Rec := { txid := List.replicate 32 8, inBlock := 6, coinbase := true, outs := [some exOut0, some jOutB, some jOutSH, none, some jOut4] }
def jEvs : List Ev := [.enable 5 2, .add jRec, .del jRec.txid [false, false, false, true, true],
  .undoDel jRec.txid 5, .add jRec, .del jRec.txid [false, false, false, true, false], .disable, .enable 4 0]

example :
    let s := run jH State.init jEvs
    (getAllUnspent jH s exAddr).Nodup ∧
    (∀ x, x ∈ getAllUnspent jH s exAddr ↔ Pays s.cfg.min s.utxo exAddr x) ∧
    total jH s exAddr = sumValues (getAllUnspent jH s exAddr) := by
  apply balances_eq_projection_hash_inj jH jEvs
  · exact admissibleRun_of_B _ _ (by decide +kernel)
  · decide +kernel
  · decide +kernel
  · decide +kernel
  · exact hashInj_of_B (by decide +kernel)
  · decide +kernel

example : (getAllUnspent jH (run jH State.init jEvs) exAddr).map (fun u => (u.vout, u.value)) = [(0, 10), (4, 6)] ∧
    total jH (run jH State.init jEvs) exAddr = 16 ∧ jH exAddr.payload = 20 ∧ jH (List.replicate 20 2) = 40 := by decide +kernel
end GocoinV.Props.C17
