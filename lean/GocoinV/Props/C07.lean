/-
  Props.C07 — restart after a crash at any point recovers a consistent chain state.
  The first 31 theorems (up to `undo_own_commit`) are about the definitions of Model/Persist.lean, i.e. the ones oracle_c07
  executes and go/cmd/c07 compares with the real code at every crash point (point-name sequence and recovered state).
  The 23 from `dat_positions_sound` on are about SEPARATE small models, not composed with Model/Persist.lean — file positions
  (Model/PersistPos.lean), data-file roll-over (PersistRoll), library-mode start-up, lock file and the walking snapshot writer
  (PersistLib), the index file and Chain.Close (PersistIdx), the client's replay loop (PersistClient) — and about the facts
  regenerated from the source (Gen/C07Facts.lean) that these models are written with; two of them run such a model on the
  node of Model/Persist.lean (`library_clean_restart_identity`, `client_replay_as_written_is_the_modelled_loop`).
-/
import GocoinV.Proofs.C07Hist
import GocoinV.Proofs.C07JHist
import GocoinV.Proofs.C07Pos
import GocoinV.Proofs.C07KMain
import GocoinV.Proofs.C07Roll
import GocoinV.Proofs.C07Torn
import GocoinV.Proofs.C07Lib
import GocoinV.Proofs.C07Idx
import GocoinV.Model.PersistClient
namespace GocoinV.Props.C07
open GocoinV.Persist GocoinV.Proofs.C07

/-! ## the central statement is FALSE of the code as written (DESIGN §7 F8) -/

/-- `crash_consistent` fails: on the 4-block history `witnessOps` (block 1; A on it; snapshot of A;
    B1, B2 on block 1 → reorganisation, which rewrites undo/2 with B1's undo data; blocks flushed) a
    crash right after B2's index record is written (effect number `witnessK`, before the next snapshot
    is complete) makes the restart load A's snapshot, move to B2 and undo A with B1's undo file:
    the recovered tip is B2 but coin 1 (spent by A only) is missing from the unspent set although it
    is unspent in the replay of B2's chain. -/
theorem crash_consistent_counterexample :
    witnessK ≤ (run [] witnessOps).es.length ∧
    consistentAt [] witnessOps witnessK = false ∧
    witnessShows = true := by
  decide +kernel

/-- the same history is consistent at every crash point that lies BEFORE the reorganisation touches
    an undo file, and again once the snapshot of the new branch is complete: the failure window is
    exactly "undo file rewritten … next snapshot renamed". -/
theorem witness_failure_window :
    ∀ k, k ≤ (run [] witnessOps).es.length →
      (consistentAt [] witnessOps k = false ↔ (witnessLo ≤ k ∧ k < witnessHi)) := by
  intro k hk
  have h := witness_table k hk
  rw [Prod.mk.injEq] at h
  rw [h.1]
  simp

/-- on the witness the failure window is EXACTLY the set of crash points after which the restart reads an undo file that
    names another block than the one it undoes (ghost flag `St.foreign`): the exclusion hypothesis of
    `recovered_set_is_replay` below is the precise one. -/
theorem witness_fails_iff_foreign_undo_read :
    ∀ k, k ≤ (run [] witnessOps).es.length →
      (consistentAt [] witnessOps k = false ↔ foreignAt [] witnessOps k = true) := by
  intro k hk
  have h := witness_table k hk
  rw [Prod.mk.injEq, Prod.mk.injEq] at h
  rw [h.1, h.2.1]
  simp

/-! ## the recovered unspent set is the replay of the tip's chain — ALL histories, ALL crash points

`WF bs` (Proofs/C07Chain.lean, every field decidable): block ids are non-zero and identify the block, height = parent's
height + 1, created coins are fresh w.r.t. the replay of the parent's chain, every block is valid on the replay of its
parent's chain (an invalid block on a side branch leads to DeleteBranch, which the model does not contain).
`St.foreign` is a ghost flag of the model (never read by it): it is raised when UndoBlockTxs reads an `undo/<height>` file
whose first 32 bytes name another block than the one being undone — the code skips these bytes (known finding
undo-file-keyed-by-height).  "foreign = false" is therefore literally "every undo file that was read belonged to the block it
was applied to".  The proof is an invariant (`Proofs.C07.J`: provenance of every data block / index record / undo file /
snapshot on disk at EVERY effect prefix + the in-memory chain) over all operations, FindFirstFather and FindPathTo included. -/

/-- `crash_consistent`, conjuncts "the tip is genesis or a submitted block" (weaker than "a tip the node had validated before the
    crash") and "unspent set = replay of that tip's chain", for EVERY history
    over {submit (extend / side branch / reorganise), idle, close, restart, skip, pause, hurry} of well-formed blocks and EVERY
    crash point k: right after NewChainExt on the directory left by the first k effects (s1) — unconditionally —, after the client's
    recovery loop (s2) and after feeding every block of the workload again (s3) — as long as no undo file of another block was
    read up to there —, the tip is genesis or a submitted block and the unspent set equals (as a set) `replay` of the tip's chain. -/
theorem recovered_set_is_replay (bigs : List Coin) (ops : List Op) (k : Nat) (hwf : WF (submitted ops))
    (hrun : (run bigs ops).foreign = false) (s1 s2 s3 : St) (hc : crashAt bigs ops k = .ok (s1, s2, s3)) :
    ((s1.n.tip = 0 ∨ ∃ b ∈ submitted ops, b.id = s1.n.tip) ∧ sameSet s1.n.utxo (replay (submitted ops) s1.n.tip) = true) ∧
    (s2.foreign = false →
      (s2.n.tip = 0 ∨ ∃ b ∈ submitted ops, b.id = s2.n.tip) ∧ sameSet s2.n.utxo (replay (submitted ops) s2.n.tip) = true) ∧
    (s3.foreign = false →
      (s3.n.tip = 0 ∨ ∃ b ∈ submitted ops, b.id = s3.n.tip) ∧ sameSet s3.n.utxo (replay (submitted ops) s3.n.tip) = true) := by
  obtain ⟨h1, h2, h3⟩ := crash_J hwf bigs ops k (fun _ h => h) hrun hc
  exact ⟨h1.result hwf, fun hf => (h2 hf).result hwf, fun hf => (h3 hf).result hwf⟩

example : WF (submitted wlReorgNoSave) ∧ (run [] wlReorgNoSave).foreign = false ∧
    (match crashAt [] wlReorgNoSave 40 with | .ok (_, s2, s3) => !s2.foreign && !s3.foreign | .error _ => false) = true := by
  refine ⟨⟨by decide +kernel, by decide +kernel, by decide +kernel, by decide +kernel, by decide +kernel⟩, by decide +kernel, by decide +kernel⟩

/-- the same for the RUNNING node at every operation boundary of every history (restarts inside the history included): the tip
    is genesis or a submitted block and the unspent set is the replay of its chain, as long as no undo file of another block
    has been read. -/
theorem running_set_is_replay (bigs : List Coin) (ops : List Op) (hwf : WF (submitted ops))
    (hrun : (run bigs ops).foreign = false) (j : Nat) :
    ((run bigs (ops.take j)).n.tip = 0 ∨ ∃ b ∈ submitted ops, b.id = (run bigs (ops.take j)).n.tip) ∧
    sameSet (run bigs (ops.take j)).n.utxo (replay (submitted ops) (run bigs (ops.take j)).n.tip) = true :=
  (run_prefix_J hwf bigs ops (fun _ h => h) hrun j).result hwf

example : WF (submitted witnessOps) ∧ (run [] witnessOps).foreign = false := by
  refine ⟨⟨by decide +kernel, by decide +kernel, by decide +kernel, by decide +kernel, by decide +kernel⟩, by decide +kernel⟩

/-- every snapshot file, index record, data block and undo file on disk after ANY effect prefix of ANY such history comes from
    the block universe; every snapshot (UTXO.db, UTXO.old, *.db.tmp) holds the replay of its block's chain with the right height -/
theorem every_crash_prefix_provenance (bigs : List Coin) (ops : List Op) (k : Nat) (hwf : WF (submitted ops))
    (hrun : (run bigs ops).foreign = false) :
    Prov (submitted ops) (applyAll {} ((run bigs ops).es.take k)) :=
  (run_J hwf bigs ops (fun _ h => h) hrun).jd.prov_take k

/-! ## crash consistency: what else is proved for ALL histories and ALL crash points

The on-disk invariant (`Proofs.C07.DiskInv`, Proofs/C07Disk.lean): at every prefix of the effect list
  * UTXO.db, UTXO.old and every <hash>.db.tmp hold a snapshot whose (tip, coins) pair the running node held at an
    operation boundary and whose tip is genesis or has an index record;
  * every index record is valid, has its block in the data file, and its parent is genesis or indexed (whole ancestry
    in the index); every data block's parent is indexed.
It is preserved by every single effect (`apply_inv`) and, through the node/disk coupling `InvQ` (Proofs/C07Node.lean:
records marked on-disk are in the index file, the others are queued parent-before-child, Chain.Idle flushes the queue
before a snapshot starts, a paused writer holds the current state, a clean set means the loadable snapshot IS the
current state), by every operation of the model prefix-wise: save (any chunk count, paused, aborted, hurried),
CommitBlockTxs, UndoBlockTxs, BlockTrusted, ParseTillBlock, MoveToBlock (reorganisation), BlockAdd, CommitBlock,
AcceptBlock, writeOne/writeAll, Idle, Close, NewChainExt, the client's recovery loop, a restart in the middle of the
history (Proofs/C07Ops.lean, C07AcceptIdle.lean, C07Hist.lean).

The central statement `crash_consistent` is proved below (after the two no-panic theorems), with these hypotheses:
  * `WF (submitted ops)` — see above;
  * "no undo file of another block is read": by the uninterrupted run (`(run bigs ops).foreign = false`) and by the restart after
    crash point k (`crashForeign bigs ops k = false`, the ghost flag of the three stages computed WITHOUT stopping at a panic) —
    the exclusion of the known finding undo-file-keyed-by-height, exactly the failure window on the witness;
  * `ParentsFirst (submitted ops)` — `crashAt` hands ALL blocks of the workload to the restarted node again; an orphan refused by the
    uninterrupted run would be accepted after the restart when its parent is then on disk;
  * `UniqueBest (submitted ops)` — with two blocks of maximal height the first one seen wins; whether "first seen" is the same for the
    uninterrupted run and for the restarted one (FindFarthestNode over the blocks loaded from disk — in the real code in Go map
    order) is not something the property promises;
  * every submitted block is in the uninterrupted run's tree at its end — PROVED for every history without an in-history restart
    (`restart_free_run_accepts_all`, hence `crash_consistent_restart_free`); an in-history restart is a kill, it forgets the blocks
    not yet flushed, so such a history is not an "uninterrupted run" in the property's sense.
  (That the uninterrupted run does not panic is proved, in-history restarts included: `run_never_panics`; the ghost flag of a
  FAILED in-history restart is kept by `step`.) -/

/-- the running node never panics and its tip is always a highest block of its tree: for EVERY history (in-history restarts
    included) over well-formed blocks, as long as no undo file of another block is read — UndoLastBlock finds block data and undo
    file, FindFirstFather returns a common ancestor within its fuel, FindPathTo succeeds, ParseTillBlock finds every block valid,
    NewChainExt and the recovery loop of an in-history restart succeed. -/
theorem run_never_panics (bigs : List Coin) (ops : List Op) (hwf : WF (submitted ops))
    (hrun : (run bigs ops).foreign = false) :
    (run bigs ops).err = none ∧ ∀ t ∈ (run bigs ops).n.tree, t.height ≤ (run bigs ops).n.tipHeight :=
  let h := (run_K hwf bigs ops (fun _ h => h) hrun).1
  ⟨h.k0.err, h.maxH⟩

example : WF (submitted (wlReorgNoSave ++ [.reopen])) ∧ (run [] (wlReorgNoSave ++ [.reopen])).foreign = false := by
  refine ⟨⟨by decide +kernel, by decide +kernel, by decide +kernel, by decide +kernel, by decide +kernel⟩, by decide +kernel⟩

/-- the undo-file part of the disk invariant, at EVERY crash prefix of every such history: every snapshot file on disk (UTXO.db,
    UTXO.old, every <hash>.db.tmp) has the undo files undo/1 … undo/<its height> next to it (CommitBlockTxs renames undo/<h> into
    place before LastBlockHeight becomes h; the model has no removal of undo/<h − UnwindBufLen>, i.e. heights ≤ 2560). -/
theorem every_crash_prefix_has_undo_files (bigs : List Coin) (ops : List Op) (k : Nat) (hwf : WF (submitted ops))
    (hrun : (run bigs ops).foreign = false) :
    UInv (applyAll {} ((run bigs ops).es.take k)) :=
  (run_K hwf bigs ops (fun _ h => h) hrun).2.pref k

/-- the restart never panics: after a crash at ANY point k of ANY history (well-formed blocks, the run itself
    without a foreign undo file read) NewChainExt, the client's recovery loop and the feeding of every block all
    complete without a panic as long as THEY read no undo file of another block, and the recovery loop leaves the tip at a highest
    block stored on disk. -/
theorem recovery_never_panics (bigs : List Coin) (ops : List Op) (k : Nat) (hwf : WF (submitted ops))
    (hrun : (run bigs ops).foreign = false) (hcr : crashForeign bigs ops k = false) :
    ∃ s1 s2 s3, crashAt bigs ops k = .ok (s1, s2, s3) ∧ (∀ t ∈ s2.n.tree, t.height ≤ s2.n.tipHeight) ∧
      (∀ t ∈ s3.n.tree, t.height ≤ s3.n.tipHeight) := by
  obtain ⟨s1, s2, s3, hc, _, k2, _, k3, _⟩ := crash_K hwf bigs ops k (fun _ h => h) hrun hcr
  exact ⟨s1, s2, s3, hc, k2.maxH, k3.maxH⟩

example : crashForeign [] wlReorgNoSave 40 = false := by decide +kernel

/-- a history without an in-history restart whose blocks arrive parents first: the uninterrupted run knows every block at its end -/
theorem restart_free_run_accepts_all (bigs : List Coin) (ops : List Op) (hwf : WF (submitted ops))
    (hpf : ParentsFirst (submitted ops)) (hrun : (run bigs ops).foreign = false) (hnr : ∀ op ∈ ops, op ≠ Op.reopen) :
    ∀ b ∈ submitted ops, InT (run bigs ops).n.tree b.id :=
  run_accepts_all bigs ops hwf hpf hrun hnr

/-- `crash_consistent` — ALL FOUR conjuncts of `consistentAt`, for EVERY history and EVERY crash point k (also k beyond the end):
    the restart completes without a panic, the recovered tip is genesis or a submitted block, the recovered unspent set is the
    replay of that tip's chain, and after feeding every block again tip and unspent set equal the uninterrupted run's.
    Hypotheses: see the comment above (well-formed blocks; parents first; a unique highest block; the uninterrupted run knows every
    block at its end — automatic without in-history restarts; no undo file of another block read = exclusion of the known finding
    undo-file-keyed-by-height). -/
theorem crash_consistent (bigs : List Coin) (ops : List Op) (k : Nat) (hwf : WF (submitted ops))
    (hpf : ParentsFirst (submitted ops)) (huniq : UniqueBest (submitted ops))
    (hacc : ∀ b ∈ submitted ops, InT (run bigs ops).n.tree b.id)
    (hrun : (run bigs ops).foreign = false) (hcr : crashForeign bigs ops k = false) :
    consistentAt bigs ops k = true :=
  crash_consistent' bigs ops k hwf hpf huniq hacc hrun hcr

example : ParentsFirst (submitted wlReorgNoSave) ∧ UniqueBest (submitted wlReorgNoSave) ∧
    (∀ b ∈ submitted wlReorgNoSave, InT (run [] wlReorgNoSave).n.tree b.id) := by
  refine ⟨?_, ?_, ?_⟩
  · simp [ParentsFirst, PFrom, submitted, wlReorgNoSave, b1, bA, bA2, bA3, bB1, bB2]
  · unfold UniqueBest; decide +kernel
  · unfold InT; decide +kernel

-- OPEN: run_foreign_false_restart_free — `(run bigs ops).foreign = false` for every restart-free history of well-formed blocks (a
-- running node only undoes blocks whose undo/<height> file it wrote itself, so the hypothesis `hrun` below should be derivable:
-- invariant "undo/<h> of every block of the active chain names that block", preserved by CommitBlockTxs (writes undo/<height+1>
-- of the new tip) and UndoBlockTxs (pops the tip)).  NOT proved: `hrun` stays a hypothesis; it is a DECIDABLE property of the input
-- history (run the model, read the flag — the examples do exactly that) and the harness checks it on every model-compared
-- workload (`final`/`crash` replies carry the flag).

/-- the same for histories without an in-history restart, where only properties of the INPUT remain as hypotheses -/
theorem crash_consistent_restart_free (bigs : List Coin) (ops : List Op) (k : Nat) (hwf : WF (submitted ops))
    (hpf : ParentsFirst (submitted ops)) (huniq : UniqueBest (submitted ops)) (hnr : ∀ op ∈ ops, op ≠ Op.reopen)
    (hrun : (run bigs ops).foreign = false) (hcr : crashForeign bigs ops k = false) :
    consistentAt bigs ops k = true :=
  crash_consistent' bigs ops k hwf hpf huniq (run_accepts_all bigs ops hwf hpf hrun hnr) hrun hcr

/-- `crash_consistent`, the part that holds for EVERY history over {submit (extend / side branch / reorganise), idle,
    close, restart, skip, pause, hurry} and EVERY crash point k (also k beyond the end = no crash, also inside the
    known-finding window): re-opening the directory left by the first k effects (NewChainExt: NewUnspentDb +
    LoadBlockIndex + loadBlockIndex) does not panic — in particular never "Last Block Hash not found" —, the node comes
    up either at genesis with the empty set or at EXACTLY a (tip, unspent set) pair the running node held at an
    operation boundary (never a half-written snapshot, never nothing when something was there before the save),
    that tip is in the loaded block tree, every index record is valid, has its block data and its parent indexed (so
    the whole ancestry of every indexed block, and the data needed to move to any leaf, are there). -/
theorem crash_reopen_partial (bigs : List Coin) (ops : List Op) (k : Nat) :
    ∃ s1, openNode (applyAll {} ((run bigs ops).es.take k)) bigs 0 = .ok s1 ∧
      ((s1.n.tip = 0 ∧ s1.n.utxo = [] ∧ s1.n.lastHeight = 0) ∨
        ∃ j, j ≤ ops.length ∧ (run bigs (ops.take j)).n.tip = s1.n.tip ∧ (run bigs (ops.take j)).n.utxo = s1.n.utxo ∧
          (run bigs (ops.take j)).n.lastHeight = s1.n.lastHeight) ∧
      inTree s1.n s1.n.tip = true ∧
      (∀ r ∈ s1.d.idx, (∃ b ∈ s1.d.dat, b.id = r.id) ∧ r.invalid = false ∧ (r.parent = 0 ∨ ∃ r' ∈ s1.d.idx, r'.id = r.parent)) ∧
      (∀ b ∈ s1.d.dat, b.parent = 0 ∨ ∃ r ∈ s1.d.idx, r.id = b.parent) :=
  crash_reopen' bigs ops k

/-- a snapshot file that cannot be read to its end (UTXO.db and/or UTXO.old cut short: power loss, full disk — NOT a process kill,
    so outside the property's quantifier, but it is what the fall-back "UTXO.db, else UTXO.old, else empty" of NewUnspentDb exists
    for; since fix eab07278 the real code behaves like `tearDb` also when the 48-byte header of the cut file is intact — before, it
    hung): at EVERY crash prefix of EVERY history NewChainExt still opens the directory without a panic, at genesis with the empty
    set or at EXACTLY a (tip, unspent set, height) the running node held at an operation boundary, that tip being in the loaded
    tree; with both files unreadable it starts from genesis.  (What the recovery loop then does is `restartFrom`, the function the
    oracle runs for the harness's truncated-UTXO.db cases; `crashAt` is `restartFrom` the crash directory by definition.) -/
theorem torn_snapshot_reopens (bigs : List Coin) (ops : List Op) (k : Nat) (db old : Bool) :
    ∃ s1, openNode (tearDb (applyAll {} ((run bigs ops).es.take k)) db old) bigs 0 = .ok s1 ∧ s1.err = none ∧
      ((s1.n.tip = 0 ∧ s1.n.utxo = [] ∧ s1.n.lastHeight = 0) ∨
        ∃ j, j ≤ ops.length ∧ (run bigs (ops.take j)).n.tip = s1.n.tip ∧ (run bigs (ops.take j)).n.utxo = s1.n.utxo ∧
          (run bigs (ops.take j)).n.lastHeight = s1.n.lastHeight) ∧
      inTree s1.n s1.n.tip = true ∧
      ((db = true ∧ old = true) → s1.n.tip = 0 ∧ s1.n.utxo = []) :=
  torn_reopen' bigs ops k db old

/-- `crashAt` (the function of the central theorem) is `restartFrom` (the function behind the oracle's `torn` op) on the directory
    left by the first k effects -/
theorem crashAt_eq_restartFrom (bigs : List Coin) (ops : List Op) (k : Nat) :
    crashAt bigs ops k = restartFrom (applyAll {} ((run bigs ops).es.take k)) bigs ops := rfl

/-- the torn-snapshot restart on a concrete history: the witness history closed cleanly (k beyond the end), UTXO.db unreadable —
    the node falls back to UTXO.old (snapshot of A, on the abandoned branch) and is then INSIDE the window of the known finding
    (ghost flag raised, final set wrong); with both files unreadable it starts over from genesis and converges. -/
theorem torn_snapshot_examples :
    restartForeign (tearDb (run [] witnessOps).d true false) [] witnessOps = true ∧
    (match restartFrom (tearDb (run [] witnessOps).d true true) [] witnessOps with
      | .ok (s1, _, s3) => s1.n.tip == 0 && s3.n.tip == (run [] witnessOps).n.tip && sameSet s3.n.utxo (run [] witnessOps).n.utxo && !s3.foreign
      | .error _ => false) = true ∧
    (match restartFrom (tearDb (run [] wlSave).d true false) [2, 3] wlSave with
      | .ok (s1, _, s3) => s1.n.tip != (run [2, 3] wlSave).n.tip && s3.n.tip == (run [2, 3] wlSave).n.tip && sameSet s3.n.utxo (run [2, 3] wlSave).n.utxo && !s3.foreign
      | .error _ => false) = true := by
  decide +kernel

/-- the invariant itself, at every crash point of every history: the directory is good (see above) -/
theorem every_crash_prefix_good (bigs : List Coin) (ops : List Op) (k : Nat) :
    DiskInv (PastState bigs ops) (applyAll {} ((run bigs ops).es.take k)) := by
  obtain ⟨q, h⟩ := run_inv bigs ops
  exact h.pref k

/-- a good directory is one NewChainExt opens without a panic, at the snapshot it holds -/
theorem good_directory_opens (P : Snap → Prop) (d : Disk) (hd : DiskInv P d) (bigs : List Coin) :
    ∃ s1, openNode d bigs 0 = .ok s1 ∧ s1.err = none ∧ inTree s1.n s1.n.tip = true ∧
      ((loadSnap d = none ∧ s1.n.tip = 0 ∧ s1.n.utxo = []) ∨ (∃ sn, loadSnap d = some sn ∧ s1.n.tip = sn.tip ∧ s1.n.utxo = sn.coins)) := by
  obtain ⟨s1, ho, _, he, hc, hin, _⟩ := openNode_inv hd bigs 0
  refine ⟨s1, ho, he, hin, ?_⟩
  rcases hc with ⟨a, b, c, _⟩ | ⟨sn, a, b, c, _⟩
  · exact Or.inl ⟨a, b, c⟩
  · exact Or.inr ⟨sn, a, b, c⟩

example : ∃ d : Disk, DiskInv (fun _ => True) d := ⟨{}, DiskInv.empty _⟩

/-- extend the tip (three blocks, flushed one by one, no snapshot until Close): every crash point recovers -/
theorem crash_consistent_partial_extend :
    ∀ k, k ≤ (run [] wlExtend).es.length → consistentAt [] wlExtend k = true :=
  crash_points_of_changes _ _ (fun _ => true) (consistentAt_succ_of_nop [] wlExtend) _ (by decide +kernel)

/-- save after every block (two full chunks per snapshot: coins 2 and 3 are "big"): every crash point
    recovers — including UTXO.db already renamed to UTXO.old with the new snapshot half written -/
theorem crash_consistent_partial_save :
    ∀ k, k ≤ (run [2, 3] wlSave).es.length → consistentAt [2, 3] wlSave k = true :=
  crash_points_of_changes _ _ (fun _ => true) (consistentAt_succ_of_nop [2, 3] wlSave) _ (by decide +kernel)

/-- a save paused after its first chunk is aborted by a new block, a later one is hurried: every crash point recovers -/
theorem crash_consistent_partial_abort :
    ∀ k, k ≤ (run [2, 3] wlAbort).es.length → consistentAt [2, 3] wlAbort k = true :=
  crash_points_of_changes _ _ (fun _ => true) (consistentAt_succ_of_nop [2, 3] wlAbort) _ (by decide +kernel)

/-- reorganise BEFORE any snapshot of the old branch exists (snapshot = block 1): every crash point recovers -/
theorem crash_consistent_partial_reorg_before_save :
    ∀ k, k ≤ (run [] wlReorgNoSave).es.length → consistentAt [] wlReorgNoSave k = true :=
  crash_points_of_changes _ _ (fun _ => true) (consistentAt_succ_of_nop [] wlReorgNoSave) _ (by decide +kernel)

/-- the exclusion hypothesis of `crash_consistent` is the exact one on the witness history (which satisfies every other hypothesis:
    well-formed, parents first, unique highest block, no in-history restart, the run itself reads no foreign undo file): the crash
    points at which the restart reads an undo file of another block are exactly those at which `consistentAt` fails. -/
theorem witness_exclusion_exact :
    ∀ k, k ≤ (run [] witnessOps).es.length →
      (crashForeign [] witnessOps k = true ↔ consistentAt [] witnessOps k = false) := by
  intro k hk
  have h := witness_table k hk
  rw [Prod.mk.injEq, Prod.mk.injEq] at h
  rw [h.1, h.2.2]
  simp

example : ParentsFirst (submitted witnessOps) ∧ UniqueBest (submitted witnessOps) ∧ (∀ op ∈ witnessOps, op ≠ Op.reopen) ∧
    crashForeign [] witnessOps 10 = false := by
  refine ⟨?_, ?_, ?_, by decide +kernel⟩
  · simp [ParentsFirst, PFrom, submitted, witnessOps, b1, bA, bB1, bB2]
  · unfold UniqueBest; decide +kernel
  · intro op h
    simp only [witnessOps, List.mem_cons, List.mem_nil_iff, or_false] at h
    rcases h with h | h | h | h | h | h | h <;> subst h <;> simp

/-! ## clean shutdown -/

/-- `clean_restart_identity` on the concrete shapes: after Close the restart yields exactly the tip and
    unspent set of the running node — also for the reorganisation history whose crash points fail. -/
theorem clean_restart_identity_partial :
    cleanRestartOK [] wlExtend = true ∧ cleanRestartOK [2, 3] wlSave = true ∧ cleanRestartOK [2, 3] wlAbort = true ∧
    cleanRestartOK [] wlReorgNoSave = true ∧ cleanRestartOK [] witnessOps = true := by
  decide +kernel
/-- `clean_restart_identity` in full, EVERY history: after Close the whole restart — NewChainExt AND the client's recovery loop —
    yields the running node's tip and unspent set (`cleanRestartOK`: same tip, same set, same number of entries): no index record on disk is higher than the tip at
    shutdown, so the recovery loop is a no-op.  Hypotheses: well-formed blocks (without height well-formedness it is false of the
    model: a block may carry any height field) and no undo file of another block read during the run (that the run did not panic
    follows: `run_never_panics`). -/
theorem clean_restart_identity (bigs : List Coin) (ops : List Op) (hwf : WF (submitted (ops ++ [.close])))
    (hrun : (run bigs (ops ++ [.close])).foreign = false) :
    cleanRestartOK bigs (ops ++ [.close]) = true :=
  clean_restart' bigs ops hwf hrun

example : WF (submitted ([.submit b1, .idle, .submit bA] ++ [.close])) ∧
    (run [] ([.submit b1, .idle, .submit bA] ++ [.close])).foreign = false := by
  refine ⟨⟨by decide +kernel, by decide +kernel, by decide +kernel, by decide +kernel, by decide +kernel⟩, by decide +kernel⟩


/-- clean shutdown, every history: after Close (no panic before) NewChainExt on the directory yields EXACTLY the
    running node's tip, unspent set (the same list) and height. -/
theorem clean_restart_reopen_identity_partial (bigs : List Coin) (ops : List Op)
    (herr : (run bigs (ops ++ [.close])).err = none) :
    ∃ s1, openNode (run bigs (ops ++ [.close])).d bigs 0 = .ok s1 ∧
      s1.n.tip = (run bigs (ops ++ [.close])).n.tip ∧ s1.n.utxo = (run bigs (ops ++ [.close])).n.utxo ∧
      s1.n.lastHeight = (run bigs (ops ++ [.close])).n.lastHeight :=
  clean_restart_reopen' bigs ops herr

example : (run [] ([.submit b1, .idle, .submit bA] ++ [.close])).err = none := by decide +kernel

/-! ## the multi-step updates are atomic under a crash — for ALL disks and contents -/

/-- writing an undo file (write undo/tmp, rename to undo/<h>): after a crash at either point and the
    restart's removal of undo/tmp, undo/<h> is the old file or the complete new one, every other height
    is untouched and no undo/tmp is left. -/
theorem undo_write_atomic (d : Disk) (u : UndoFile) (h : Nat) (k : Nat) :
    let d' := (recoverUnspent (applyAll d ((undoWriteEffects u h).take k))).1
    (getUndo d'.undo h = getUndo ((recoverUnspent d).1).undo h ∨ getUndo d'.undo h = some u) ∧
    (∀ h', h' ≠ h → getUndo d'.undo h' = getUndo d.undo h') ∧ d'.undoTmp = none :=
  undo_write_atomic' d u h k

/-- appending a block (data first, index record second): after a crash at any point the index is the old
    one or the old one plus the complete new record, and the data of every indexed block is present. -/
theorem block_append_atomic (d : Disk) (b : Block) (r : IdxRec) (hr : r.id = b.id) (k : Nat)
    (hinv : ∀ x ∈ d.idx, ∃ y ∈ d.dat, y.id = x.id) :
    let d' := applyAll d ((appendEffects b r).take k)
    (d'.idx = d.idx ∨ d'.idx = d.idx ++ [r]) ∧ (∀ x ∈ d'.idx, ∃ y ∈ d'.dat, y.id = x.id) :=
  block_append_atomic' d b r hr k hinv

example : ∃ d : Disk, ∀ x ∈ d.idx, ∃ y ∈ d.dat, y.id = x.id := ⟨{}, by simp⟩

/-- the snapshot save (rename UTXO.db→UTXO.old, create tmp, n chunks, final chunk, flush, rename tmp→UTXO.db):
    after a crash at ANY point the restart loads either the snapshot it would have loaded before the save
    started or — only after the last effect — the new one; it never loads nothing when something was there. -/
theorem save_crash_atomic (d : Disk) (sn : Snap) (n k : Nat) :
    let d' := applyAll d ((saveEffects sn n).take k)
    (recoverUnspent d').2.2 = (recoverUnspent d).2.2 ∨
      ((saveEffects sn n).length ≤ k ∧ (recoverUnspent d').2.2 = some sn) :=
  save_crash_atomic' d sn n k

/-- `saveEffects` is what the model's `startSave` (the function the oracle runs) emits. -/
theorem startSave_effects (s : St) (h1 : s.n.saving = none) (h2 : s.n.pause = false) :
    (startSave s false).es = s.es ++ saveEffects ⟨s.n.tip, s.n.lastHeight, s.n.utxo⟩ (nBig s.n) :=
  startSave_effects' s h1 h2

example : ∃ s : St, s.n.saving = none ∧ s.n.pause = false := ⟨{ n := {}, d := {} }, rfl, rfl⟩

/-- undo data is right when it is the block's own: undoing a valid block with ITS undo file gives back
    the unspent set (as a set) — the lemma that the height-keyed file breaks after a reorganisation. -/
theorem undo_own_commit (u : List Coin) (b : Block)
    (hv : validOn u b = true) (hfresh : ∀ c ∈ b.creates, c ∉ u) :
    ∀ c, c ∈ undoU (commitU u b) b b.spends ↔ c ∈ u :=
  undo_own_commit' u b hv hfresh

example : validOn [1, 2] ⟨1, 0, 1, [1], [3]⟩ = true ∧ ∀ c ∈ [3], c ∉ [1, 2] := by decide +kernel

/-! ## file positions inside blockchain.dat (Model/PersistPos.lean)

Model/Persist.lean treats the data file as an append-only list of blocks looked up by id.  The code addresses it by byte
position: LoadBlockIndex computes maxdatfilepos from the index and SEEKS the freshly opened data file there, writeOne writes
at the handle's offset and records fpos := maxdatfilepos.  The positional model makes the orphaned data tail (kill between the
data write and the index write) and the two-crash scenario explicit. -/

/-- with the Seek as written: after ANY history of completed writes, kills between the data write and the index write (each
    followed by a restart) and plain restarts, every index record reads back exactly its own block — the id-keyed data file of
    Model/Persist.lean is a sound abstraction (block lengths are positive). -/
theorem dat_positions_sound (ops : List POp) (hl : ∀ op ∈ ops, lenPos op) : readsBack (prun false {} ops).d = true :=
  readsBack_of (prun_inv ops {} pinit_inv hl).disk

example : ∀ op ∈ [POp.write 1 300, .crashMid 2 250, .write 2 250, .restart, .write 3 200], lenPos op := by
  intro op h
  simp only [List.mem_cons, List.mem_nil_iff, or_false] at h
  rcases h with h | h | h | h | h <;> subst h <;> simp [lenPos]

/-- … and it is the Seek that does it: if the data file handle ignored its offset (O_APPEND), the two-crash history "write;
    killed after the data write of the next block; restart; write it again; write another" leaves an index record that points
    into the orphaned tail. -/
theorem dat_positions_need_the_seek :
    readsBack (prun true {} [.write 1 300, .crashMid 2 250, .write 2 250, .write 3 200]).d = false ∧
    readsBack (prun false {} [.write 1 300, .crashMid 2 250, .write 2 250, .write 3 200]).d = true := by
  decide

/-! ## data-file roll-over (Model/PersistRoll.lean): BlockDBOpts.MaxDataFileSize, several bl<n>.dat files -/

/-- with LoadBlockIndex as written (data-file bump, THEN the unconditional append-position update) every index record reads back
    exactly its own block from its own data file after ANY history of writes (with or without roll-over, any MaxDataFileSize),
    kills right after the roll-over's file creation, kills between the data write and the index write, and restarts. -/
theorem dat_rollover_sound (maxSize : Nat) (ops : List ROp) (hl : ∀ op ∈ ops, rlenPos op) :
    rreadsBack (rrun false maxSize {} ops).d = true :=
  rreadsBack_of (rrun_inv maxSize ops {} rinit_inv hl).disk

/-- the same from ANY directory in which every index record has its data (distinct positions per file, positive lengths), e.g. a
    block store filled earlier with another MaxDataFileSize -/
theorem dat_rollover_sound_from (maxSize : Nat) (d : RDisk) (hd : RDiskInv d) (ops : List ROp) (hl : ∀ op ∈ ops, rlenPos op) :
    rreadsBack (rrun false maxSize (ropen false d) ops).d = true :=
  rreadsBack_of (rrun_inv maxSize ops _ (ropen_inv hd) hl).disk

example : ∃ d : RDisk, RDiskInv d := ⟨{}, rinit_inv.disk⟩

example : ∀ op ∈ [ROp.write 1 300, .write 2 300, .crashRoll 3 300, .restart, .crashMid 3 200, .write 3 200], rlenPos op := by
  intro op h
  simp only [List.mem_cons, List.mem_nil_iff, or_false] at h
  rcases h with h | h | h | h | h | h <;> subst h <;> simp [rlenPos]

/-- … and it is the unconditional update that does it: if the append-position update is an `else if` of the data-file bump (the
    first record of a newer data file then leaves the position at 0), a restart while the newest data file holds exactly one
    block makes the next block overwrite it. -/
theorem dat_rollover_needs_the_update_after_the_bump :
    rreadsBack (rrun true 500 {} [.write 1 300, .write 2 300, .restart, .write 3 200]).d = false ∧
    rreadsBack (rrun false 500 {} [.write 1 300, .write 2 300, .restart, .write 3 200]).d = true := by
  decide

/-! ## the start-up path (library mode, lock file) and the walking snapshot writer — tied to the source by REGENERATED FACTS

`Gen/C07Facts.lean` is rewritten by go/cmd/gen_c07 from /repo on every run; the theorems below are stated about its definitions,
so an edit of LockDatabaseDir's open call, of the guard in front of NewChainExt's ParseTillBlock, of the place where
UndoBlockTxs / CommitBlockTxs abort a running snapshot, or of the order inside Chain.Idle changes what the kernel re-checks. -/

open GocoinV.Gen.C07Facts in
/-- the five structural facts read from the source are the ones the models were written for: the lock file is opened if it
    exists (else created); NewChainExt re-applies blocks only when the farthest block is strictly HIGHER than the snapshot's;
    UndoBlockTxs and CommitBlockTxs abort a running snapshot before their first change of the maps; Chain.Idle flushes the
    block files before it starts a snapshot. -/
theorem source_facts_are_the_modelled_ones :
    lockOpenMode = .openOrCreate ∧ reapplyGuard = .higher ∧ undoAbortsSave = true ∧ commitAbortsSave = true ∧
    idleFlushesFirst = true := by decide

open GocoinV.Gen.C07Facts in
/-- `clean_restart_identity` for LIBRARY mode (NewChainExt without DoNotRescan, the mode of every user of the package but the
    client), EVERY history: after Close, NewChainExt with the guard AS WRITTEN IN THE SOURCE opens the directory without a panic
    at exactly the running node's tip and unspent set, and its last step re-applies nothing — in WHATEVER order Go's map
    iteration lists the block tree (`withTree`: any listing of nodes of the loaded tree), i.e. whichever of several equally
    high leaves FindFarthestNode returns.  Same hypotheses as `clean_restart_identity`. -/
theorem library_clean_restart_identity (bigs : List Coin) (ops : List Op) (hwf : WF (submitted (ops ++ [.close])))
    (hrun : (run bigs (ops ++ [.close])).foreign = false) :
    ∃ s1, libraryOpen reapplyGuard (run bigs (ops ++ [.close])).d bigs = .ok s1 ∧
      s1.n.tip = (run bigs (ops ++ [.close])).n.tip ∧ s1.n.utxo = (run bigs (ops ++ [.close])).n.utxo ∧
      ∀ tree, (∀ t ∈ tree, t ∈ s1.n.tree) → libraryTail reapplyGuard (withTree s1 tree) = withTree s1 tree := by
  obtain ⟨s1, ho, e1, e2, he, hmax⟩ := clean_restart_maxH bigs ops hwf hrun
  have hg : reapplyGuard = .higher := by decide
  refine ⟨s1, ?_, e1, e2, ?_⟩
  · have hn : libraryTail .higher s1 = s1 := libraryTail_higher_noop s1 hmax
    unfold libraryOpen
    simp only [ho, hg, hn, he]
  · intro tree hsub
    rw [hg]
    exact libraryTail_higher_noop (withTree s1 tree) (fun t ht => hmax t (hsub t ht))

example : WF (submitted ([.submit b1, .submit bA, .idle, .submit bB1, .idle] ++ [.close])) ∧
    (run [] ([.submit b1, .submit bA, .idle, .submit bB1, .idle] ++ [.close])).foreign = false := by
  refine ⟨⟨by decide +kernel, by decide +kernel, by decide +kernel, by decide +kernel, by decide +kernel⟩, by decide +kernel⟩

/-- … and it is the STRICT comparison that does it: on the closed directory of `siblingOps` (block 1; A with a snapshot; B1, a
    sibling of A, stored aside) a guard "the farthest block differs from the current one" is harmless as long as the tree is
    listed in index order, and panics "end block is not higher then current" (FindPathTo) as soon as the sibling is met first;
    the guard as written leaves the node alone in both orders. -/
theorem library_reopen_needs_the_strict_guard : siblingShows = true := by decide +kernel

open GocoinV.Gen.C07Facts in
/-- the lock file never stands in the way of a restart: with LockDatabaseDir's open call AS WRITTEN IN THE SOURCE, after ANY
    sequence of starts, kills and clean shutdowns (one instance at a time) no start has been refused. -/
theorem lock_never_blocks_restart (es : List LEvent) : (lockRun lockOpenMode es).refused = false :=
  lockRun_never_refused lockOpenMode (by decide) es

/-- … whereas an exclusive create (what the Windows variant does AFTER removing the file) refuses the first start after a kill -/
theorem lock_excl_blocks_restart_after_a_kill : (lockRun .createExcl [.start, .crash, .start]).refused = true := by decide

open GocoinV.Gen.C07Facts in
/-- the snapshot file is a state the node held — for the writer as it really works (it WALKS the maps; whatever is changed in a
    map it has not reached yet ends up in the file): with the abort calls where the source has them (regenerated facts), after
    ANY sequence of save start / walk one map / finish / CommitBlockTxs / UndoBlockTxs, UTXO.db holds the header's block, exactly
    the walk of that block's set, and the header's record count. -/
theorem lazy_snapshot_is_start_state (nmaps : Nat) (ops : List LOp) :
    fileHeld nmaps (lrun nmaps undoAbortsSave commitAbortsSave ops) = true :=
  (lrun_inv nmaps ops).file

/-- … and it needs the abort in UndoBlockTxs: if an undo leaves the running snapshot alone (the abort done by MoveToBlock only),
    the history "snapshot of block 2 starts, walks map 0; block 2 is undone; the writer finishes" renames a file to UTXO.db whose
    header names block 2 and announces 2 records but which holds the one record of block 1's set. -/
theorem lazy_snapshot_needs_the_abort_in_undo : fileHeld 256 (lrun 256 false true lazyWitness) = false := by decide +kernel

/-! ## the index file's positions and flag bytes, and what Chain.Close leaves in UTXO.db — with REGENERATED FACTS as well

Model/PersistIdx.lean; the facts `flagRewriteSource`, `invalidRecordAdvances`, `loadSeeksAppendPos`, `closeSaveGuard`,
`commitSetsDirty`, `undoSetsDirty`, `saveClearsDirtyOnlyWhenComplete` are read from BlockDB.setBlockFlag, BlockDB.LoadBlockIndex,
UnspentDB.Close / CommitBlockTxs / UndoBlockTxs / save by go/cmd/gen_c07 on every run (for the source shapes it knows; any
other shape stops the translator). -/

open GocoinV.Gen.C07Facts in
/-- these structural facts are the ones the models were written for: setBlockFlag ORs the flag into the byte it
    READ FROM THE FILE at the record's position; in LoadBlockIndex a record flagged invalid advances the position counter like
    every other record, and after its loop the handle of blockchain.new is positioned at that counter (the index model identifies
    "append position" and "where the next write lands": without the Seek the handle stands at the end of the FILE, behind a torn
    record); UnspentDB.Close writes UTXO.db whenever the set is dirty (nothing else is asked); CommitBlockTxs and UndoBlockTxs mark
    the set dirty on every path that returns, and the flag is cleared only by a snapshot walk that was not aborted. -/
theorem source_facts_round4_are_the_modelled_ones :
    flagRewriteSource = .disk ∧ invalidRecordAdvances = true ∧ loadSeeksAppendPos = true ∧ closeSaveGuard = .dirty ∧
    commitSetsDirty = true ∧ undoSetsDirty = true ∧ saveClearsDirtyOnlyWhenComplete = true := by decide

open GocoinV.Gen.C07Facts in
/-- the two places of the CLIENT that the harness re-implements instead of running (go/cmd/c07/child.go: the fresh process opens
    the chain with DoNotRescan and accepts a recovered block by AbortWriting, BlockAdd, CommitBlock in this order) read as in the
    source: client/init.go passes `DoNotRescan: true`; client/main.go LocalAcceptBlock makes the three calls as plain top-level
    statements in that order. (A tripwire for these two shapes only: the rest of do_the_blocks / host_init is trusted to be what
    child.go mirrors.) -/
theorem client_facts_are_the_mirrored_ones : clientDoNotRescan = true ∧ clientAcceptOrder = true := by decide

open GocoinV.Gen.C07Facts in
/-- the client's start-up replay AS WRITTEN IN THE SOURCE (client/main.go do_the_blocks: where its walk to the farthest block on
    disk starts is regenerated from the source on every run - `clientReplayStart`) is the recovery loop of the model, the one every
    restart theorem of this file is about (`clientRecover`: from the first common ancestor of the snapshot's block and the farthest
    block). The harness also runs the client's own functions on captured directories (go/cmd/c07/realclient.go). -/
theorem client_replay_as_written_is_the_modelled_loop (s : St) : clientRecoverFrom clientReplayStart s = clientRecover s := rfl

/-- … and the common ancestor is needed: on the directory a kill leaves after a reorganisation that followed a snapshot (snapshot
    on A, the blocks of B1-B2 on disk, the next snapshot not complete) the walk that starts at the tip itself ends in FindPathTo's
    panic "unknown path to block" with the node still on A, the walk from the first common ancestor reaches B2. -/
theorem client_replay_needs_the_common_ancestor : replayStartShows = true := by decide +kernel

open GocoinV.Persist.Idx GocoinV.Gen.C07Facts in
/-- EVERY index record keeps what it was written with: for ANY directory `d` (any flag bytes, records flagged invalid anywhere)
    and ANY history of block writes, flag rewrites (BLOCK_TRUSTED / BLOCK_INVALID, the only two calls) of records the node holds
    and restarts (kill or clean shutdown, then LoadBlockIndex), with setBlockFlag and LoadBlockIndex AS WRITTEN IN THE SOURCE:
    the index file is the old records followed by the appended ones, in order, each with its compression / length / data-file
    bits and its data-file number unchanged - in particular every record still names the data file its block was written to -,
    nothing is overwritten, and the node's append position is the end of the file. -/
theorem idx_history_keeps_every_record (d : List IRec) (ops : List IOp) (hf : FlagsOK ops) :
    (Idx.run d ops).disk.map core = (d ++ appended ops).map core ∧
    (Idx.run d ops).disk.map dataFileOf = (d ++ appended ops).map dataFileOf ∧
    (Idx.run d ops).pos = 136 * (Idx.run d ops).disk.length := by
  have h1 : flagRewriteSource = .disk := by decide
  have h2 : invalidRecordAdvances = true := by decide
  have h := irun_inv d ops hf
  unfold Idx.run
  rw [h1, h2]
  exact ⟨h.2, map_dataFileOf_of_core _ _ h.2, h.1⟩

open GocoinV.Persist.Idx in
example : FlagsOK [.append ⟨0x3c, 1⟩, .flag 0 1, .restart, .flag 1 2, .append ⟨0x3d, 2⟩] := by
  intro i fl h
  simp at h
  rcases h with ⟨_, h⟩ | ⟨_, h⟩ <;> simp [h]

open GocoinV.Persist.Idx GocoinV.Gen.C07Facts in
/-- after a restart the node knows where every record is: LoadBlockIndex AS WRITTEN IN THE SOURCE, on ANY index file, returns the
    end of the file as the append position and, for the records not flagged invalid (in file order), exactly their byte
    positions as `ipos` (the position the next flag rewrite of that record writes to). -/
theorem idx_load_positions_exact (d : List IRec) :
    (iopen invalidRecordAdvances d).pos = 136 * d.length ∧
    (iopen invalidRecordAdvances d).mems.map (·.ipos) = validPos d 0 := by
  have h2 : invalidRecordAdvances = true := by decide
  rw [h2]
  exact ⟨(iopen_true d).1, (iopen_true d).2.1⟩

open GocoinV.Persist.Idx in
/-- … and it needs the advance in the invalid branch: if records flagged invalid do not advance the counter, then after a restart
    on [invalid record, valid record] the node believes the valid record is at byte 0 and the end of the file at byte 136; the
    next block written REPLACES the valid record (its block is lost from the index), and a flag rewrite of the valid record
    lands in the invalid one. -/
theorem idx_load_needs_the_advance :
    (irun .disk false [⟨0x3e, 1⟩, ⟨0x3d, 1⟩] [.append ⟨0x3c, 2⟩]).disk = [⟨0x3e, 1⟩, ⟨0x3c, 2⟩] ∧
    (irun .disk true [⟨0x3e, 1⟩, ⟨0x3d, 1⟩] [.append ⟨0x3c, 2⟩]).disk = [⟨0x3e, 1⟩, ⟨0x3d, 1⟩, ⟨0x3c, 2⟩] ∧
    (irun .disk false [⟨0x3e, 1⟩, ⟨0x3c, 1⟩] [.flag 0 1]).disk = [⟨0x3f, 1⟩, ⟨0x3c, 1⟩] := by
  decide

open GocoinV.Persist.Idx in
/-- … and it needs the byte READ BACK from the file: a flag byte rebuilt from the booleans the node keeps in memory (trusted,
    compressed, snappy, length) forgets BLOCK_INDEX, so the record of a block stored in data file 1 names data file 0 after it
    became trusted, while the rewrite as written keeps it. -/
theorem idx_flag_rewrite_from_memory_loses_the_data_file :
    (irun .memory true [⟨0x3c, 1⟩] [.flag 0 1]).disk.map dataFileOf = [0] ∧
    (irun .disk true [⟨0x3c, 1⟩] [.flag 0 1]).disk.map dataFileOf = [1] := by
  decide

open GocoinV.Persist.Idx GocoinV.Gen.C07Facts in
/-- "a clean shutdown followed by a restart reproduces the pre-shutdown state" at the level of WHICH BLOCK UTXO.db NAMES: with
    UnspentDB.Close's guard and the two "marks the set dirty" facts as the translator read them from the source, for ANY history of commits, undos (operator undo, reorganisations), Idle
    calls under any UTXO_SKIP_SAVE_BLOCKS and restarts, starting from a node whose clean set is the one on disk, every restart
    comes up at exactly the block and height the node had when it was shut down. -/
theorem close_restart_identity_model (s : CSt) (ops : List COp) (hs : Clean s) :
    ∀ p ∈ restartPairs closeSaveGuard commitSetsDirty undoSetsDirty s ops, p.1 = p.2 := by
  have h : closeSaveGuard = .dirty := by decide
  have h1 : commitSetsDirty = true := by decide
  have h2 : undoSetsDirty = true := by decide
  rw [h, h1, h2]
  exact restartPairs_dirty ops s hs

open GocoinV.Persist.Idx in
example : Clean ({ tip := 5, height := 5, dTip := 5, dHeight := 5 } : CSt) := by intro _; exact ⟨rfl, rfl⟩

open GocoinV.Persist.Idx in
/-- … and it needs the dirty flag ALONE: a guard that also asks whether the height in memory differs from the height on disk
    writes nothing after "snapshot at block 5 (height 5); block 5 undone; another block 55 accepted at height 5" - the restart
    comes up at block 5 although the node was shut down at block 55; the guard as written writes UTXO.db there. -/
theorem close_guard_by_height_loses_a_same_height_switch :
    restartPairs .dirtyAndHeightDiffers true true { tip := 5, height := 5, dTip := 5, dHeight := 5 } [.undo 4, .commit 55, .idle 0, .restart]
      = [((55, 5), (5, 5))] ∧
    restartPairs .dirty true true { tip := 5, height := 5, dTip := 5, dHeight := 5 } [.undo 4, .commit 55, .idle 0, .restart]
      = [((55, 5), (55, 5))] := by
  decide

open GocoinV.Persist.Idx in
/-- … and it needs UndoBlockTxs to mark the set dirty: "snapshot at block 5 complete; the operator undoes block 5; clean shutdown
    with nothing committed in between" - if the undo leaves the flag alone, Close writes nothing and the restart comes up at
    block 5 again (the undo silently did nothing); as written it comes up at block 4. The same for two undos. -/
theorem close_needs_undo_to_mark_the_set_dirty :
    restartPairs .dirty true false { tip := 5, height := 5, dTip := 5, dHeight := 5 } [.undo 4, .restart] = [((4, 4), (5, 5))] ∧
    restartPairs .dirty true true { tip := 5, height := 5, dTip := 5, dHeight := 5 } [.undo 4, .restart] = [((4, 4), (4, 4))] ∧
    restartPairs .dirty true false { tip := 5, height := 5, dTip := 5, dHeight := 5 } [.undo 4, .undo 3, .idle 4294967295, .restart]
      = [((3, 3), (5, 5))] := by
  decide

end GocoinV.Props.C07
