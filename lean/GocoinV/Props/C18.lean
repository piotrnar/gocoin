/-
  Props.C18 — bytes from untrusted peers never crash or wedge the node: theorems about the model of
  the PARSING LAYER of client/network (Model/NetParse.lean), as tied to the current source by
  Gen/NetFacts.lean (Model/NetParseFacts.lean compares the regenerated handler skeletons, Run's
  command table and maxmsgsize with the copy the model was written against).

  Scope (partial by design, DESIGN §6 C18): the theorems speak about length guards, CompactSize
  reads, every index / slice expression on the payload with Go's 64-bit wrap-around, the locks held
  at each exit and the iteration count of every loop. What lies behind the parser (peer database,
  header acceptance, mempool matching, block queue, AEAD decryption) is NOT modelled.
-/
import GocoinV.Model.NetParse
import GocoinV.Model.NetParseFacts
import GocoinV.Model.NetParseLocks
import GocoinV.Proofs.C18
import GocoinV.Proofs.C18State
import GocoinV.Proofs.C18Expire
import GocoinV.Proofs.C18Locks
import GocoinV.Proofs.C09
namespace GocoinV.Props.C18
open GocoinV GocoinV.NetParse

/-- CENTRAL. For every command and every payload within the per-command size limit of
    core.go maxmsgsize (regenerated from the source), the parsing layer of the handler Run
    dispatches to does not panic, holds no lock when it returns, and runs at most
    |payload| + 262141 loop iterations (the constant is cmpctblock's: 1 + scnt + pcnt for the
    short-id and prefilled loops plus pcnt + scnt for the second pass over col.Txs, each count at
    most 65535 because its CompactSize may take at most 3 bytes: 1 + 2·(65535 + 65535)). `E` supplies what the parser asks of its surroundings; the only
    assumption is that the transaction-size function never reports more bytes than it was given. -/
theorem handler_total (E : Env) (hts : ∀ b, E.txSize b ≤ b.length) (cmd : String) (pl : Bytes)
    (hl : pl.length ≤ Gen.NetFacts.maxMsgSize cmd) :
    (parse E cmd pl).out.isPanic = false ∧ (parse E cmd pl).locks = [] ∧
      (parse E cmd pl).steps ≤ pl.length + 262141 := by
  have := maxMsgSize_le cmd
  exact parse_total E hts cmd pl (by omega)

example : ∃ E : Env, ∀ b, E.txSize b ≤ b.length :=
  ⟨⟨fun _ => 0, fun _ => none, none, false, false, none, false, false⟩, fun _ => Nat.zero_le _⟩

/-- the same with the transaction-size function of C09's wire model (the current lib/btc
    TxSize), for which the assumption is proved: no hypothesis left but the size limit. -/
theorem handler_total_wire (ntx pend : Option Nat) (a b t o : Bool) (newTx : Bytes → Option (Nat × Nat)) (cmd : String) (pl : Bytes)
    (hl : pl.length ≤ Gen.NetFacts.maxMsgSize cmd) :
    let E : Env := ⟨Wire.txSize, newTx, ntx, a, b, pend, t, o⟩
    (parse E cmd pl).out.isPanic = false ∧ (parse E cmd pl).locks = [] ∧
      (parse E cmd pl).steps ≤ pl.length + 262141 :=
  handler_total ⟨Wire.txSize, newTx, ntx, a, b, pend, t, o⟩ Wire.txSize_le cmd pl hl

/-- non-vacuity: a well-formed inv of one entry is within the limit and is parsed (not merely rejected) -/
example : (parse ⟨Wire.txSize, fun _ => none, none, false, false, none, false, false⟩ "inv" ([1, 2, 0, 0, 0] ++ List.replicate 32 7)).out.isPanic = false ∧
    (([1, 2, 0, 0, 0] ++ List.replicate 32 7 : Bytes).length ≤ Gen.NetFacts.maxMsgSize "inv") := by decide +kernel

/-- non-vacuity for the two state-dependent branches the oracle is driven through by the harness: a getdata that
    meets 1 799 964 postponed bytes is appended when it brings 36 more and refused when it brings 72; a getmpdone
    from the holder of the getmp ticket is read (empty / 00 = over, anything else = more) -/
example :
    (parse ⟨Wire.txSize, fun _ => none, none, false, false, some 1799964, false, false⟩ "getdata" (1 :: List.replicate 36 0)).out.accepted
      = some ("getdata-appended", [1800000], []) ∧
    (parse ⟨Wire.txSize, fun _ => none, none, false, false, some 1799964, false, false⟩ "getdata" (2 :: List.replicate 72 0)).out.rejected
      = some "GetDataTooBigA" := by
  decide +kernel
example :
    (parse ⟨Wire.txSize, fun _ => none, none, false, false, none, false, true⟩ "getmpdone" []).out.accepted = some ("getmpdone", [0], []) := by decide +kernel
example : (parse ⟨Wire.txSize, fun _ => none, none, false, false, none, false, true⟩ "getmpdone" [0]).out.accepted = some ("getmpdone", [0], []) := by decide +kernel
example : (parse ⟨Wire.txSize, fun _ => none, none, false, false, none, false, true⟩ "getmpdone" [7, 0]).out.accepted = some ("getmpdone", [1], []) := by decide +kernel

/-- FetchMessage (header, length limit, encrypted flag, checksum) never panics and holds no lock at
    exit, for any wire bytes and any connection state. -/
theorem fetch_total (E : FetchEnv) (w : Bytes) :
    (fetchMessage E w).out.isPanic = false ∧ (fetchMessage E w).locks = [] :=
  (fetchMessage_total E w).1

/-- HandleVersion, current guard: total for every payload below 2^62 bytes. -/
theorem version_total (pl : Bytes) (hl : pl.length < 2^62) :
    (handleVersion pl).out.isPanic = false ∧ (handleVersion pl).locks = [] :=
  (handleVersion_total pl hl).1

/-- a 94-byte version message: protocol 70015, services NETWORK|SEGWIT|NETWORK_LIMITED, a non-zero nonce,
    the agent string "/test:1/", height 200000 and the relay byte -/
def wVersionOk : Bytes :=
  [0x7f, 0x11, 0x01, 0x00] ++ [0x09, 0x04, 0, 0, 0, 0, 0, 0] ++ List.replicate 60 0 ++ [1, 2, 3, 4, 5, 6, 7, 8] ++
  [8, 0x2f, 0x74, 0x65, 0x73, 0x74, 0x3a, 0x31, 0x2f] ++ [0x40, 0x0d, 0x03, 0x00] ++ [1]

/-- non-vacuity: that payload satisfies the hypothesis, runs through all three optional fields
    (agent, height, relay) and is ACCEPTED with the fields parsed -/
example : wVersionOk.length = 94 ∧ wVersionOk.length < 2^62 ∧
    (handleVersion wVersionOk).out.accepted =
      some ("version", [70015, 1033, 0, 0, 200000, 1, 0], [[1, 2, 3, 4, 5, 6, 7, 8], [0x2f, 0x74, 0x65, 0x73, 0x74, 0x3a, 0x31, 0x2f]]) := by
  decide +kernel

/-- ProcessInv, current guard: total, and the loop runs the announced number of entries, which the guard
    ties to the payload length (steps ≤ |pl| + 1). -/
theorem inv_total (pl : Bytes) (hl : pl.length < 2^62) :
    (processInv pl).out.isPanic = false ∧ (processInv pl).locks = [] ∧ (processInv pl).steps ≤ pl.length + 1 :=
  lift (processInv_total pl hl) (Nat.le_refl _)

/-- non-vacuity: a one-entry inv satisfies the hypothesis and is accepted after one iteration -/
example : (([1, 2, 0, 0, 0] ++ List.replicate 32 7 : Bytes).length < 2^62) ∧
    (processInv ([1, 2, 0, 0, 0] ++ List.replicate 32 7)).out.accepted = some ("inv", [1], [[2, 0, 0, 0] ++ List.replicate 32 7]) ∧
    (processInv ([1, 2, 0, 0, 0] ++ List.replicate 32 7)).steps = 2 := by decide +kernel

/-- ProcessGetBlockTxn, current (unsigned) index check: total for every block size and payload; the
    differential-index loop terminates within the unread bytes. -/
theorem getblocktxn_total (ntx : Option Nat) (pl : Bytes) :
    (processGetBlockTxn ntx pl).out.isPanic = false ∧ (processGetBlockTxn ntx pl).locks = [] ∧
      (processGetBlockTxn ntx pl).steps ≤ pl.length + 2 :=
  lift (processGetBlockTxn_total ntx pl) (Nat.le_refl _)

/-- ProcessCmpctBlock - short-id loop, prefilled loop AND the second pass over col.Txs that reads the short
    ids back from the payload under txpool.TxMutex -, current index check: total, no lock left, at most
    1 + 2·(65535 + 65535) iterations. -/
theorem cmpctblock_total (txSize : Bytes → Nat) (hts : ∀ b, txSize b ≤ b.length) (pl : Bytes) (hl : pl.length < 2^62) :
    (processCmpctBlock txSize pl).out.isPanic = false ∧ (processCmpctBlock txSize pl).locks = [] ∧
      (processCmpctBlock txSize pl).steps ≤ 262141 :=
  lift (processCmpctBlock_total txSize hts pl hl) (Nat.le_refl _)

def tenOrNothing (b : Bytes) : Nat := if 10 ≤ b.length then 10 else 0

/-- a cmpctblock with two short ids and one prefilled transaction at index 1 (slots: sid, prefilled, sid) -/
def wCmpctOk : Bytes :=
  List.replicate 88 0 ++ [2] ++ [1, 1, 1, 1, 1, 1] ++ [2, 2, 2, 2, 2, 2] ++ [1] ++ [1] ++ List.replicate 10 9

/-- non-vacuity: on that payload all three loops run to the end (1 + 2 + 1 + 3 steps) and it is accepted -/
example : (processCmpctBlock tenOrNothing wCmpctOk).out.accepted = some ("cmpctblock", [2, 1, 1, 10], []) ∧
    (processCmpctBlock tenOrNothing wCmpctOk).steps = 7 ∧ wCmpctOk.length < 2^62 ∧
    (∀ b, tenOrNothing b ≤ b.length) := by
  -- the three closed conjuncts share one run of the handler: one evaluation
  refine (fun (h : _ ∧ _ ∧ _) hb => ⟨h.1, h.2.1, h.2.2, hb⟩) (by decide +kernel) fun b => ?_
  unfold tenOrNothing; split <;> omega

/-- UNREACHABILITY of cblk.go's `panic("Tx idx … is missing")` (whitelisted in the lock scan,
    NetParseLocks.panicUnreachable). The second pass as such: from the state the first loop leaves -
    the map `seen` holds every short id of pl[base : base+6·scnt], that region lies inside the payload -
    and with at most `scnt` slots of col.Txs not prefilled, neither the read-back slice
    `pl[shortidx_idx:shortidx_idx+6]` nor the lookup can fail, so txpool.TxMutex is released. (That
    ProcessCmpctBlock reaches the second pass in exactly such a state - prefilled indices strictly
    increasing and below the slot count, hence exactly scnt free slots - is part of `cmpctblock_total`.) -/
theorem cmpctblock_panic_unreachable (pl : Bytes) (hl : pl.length < 2^62) (seen : List Bytes) (base : Int) (scnt : Nat)
    (h0 : 0 ≤ base) (hin : base + 6 * (scnt : Int) ≤ pl.length)
    (hseen : ∀ j : Nat, j < scnt → sub pl (base + 6 * (j : Int)) (base + 6 * (j : Int) + 6) ∈ seen)
    (slots : List Bool) (hc : slots.count false ≤ scnt) (st : Nat) :
    (secondPass pl pl.length seen slots base st).out.isPanic = false ∧
      (secondPass pl pl.length seen slots base st).locks = [] ∧
      (secondPass pl pl.length seen slots base st).steps ≤ st + slots.length :=
  lift (secondPass_good pl pl.length (by omega) seen base scnt h0 hin
    (fun j hj _ ha => ha ▸ hseen j hj) slots 0 base st (by omega) (by omega)) (Nat.le_refl _)

/-- non-vacuity of the hypotheses, and the panic site is live in the model: with the map the first loop
    builds the pass succeeds, with an empty map the very same pass panics WITH TxMutex HELD -/
example :
    let pl : Bytes := [1, 1, 1, 1, 1, 1, 2, 2, 2, 2, 2, 2]
    (∀ j : Nat, j < 2 → sub pl (0 + 6 * (j : Int)) (0 + 6 * (j : Int) + 6) ∈ [[2, 2, 2, 2, 2, 2], [1, 1, 1, 1, 1, 1]]) ∧
    (secondPass pl 12 [[2, 2, 2, 2, 2, 2], [1, 1, 1, 1, 1, 1]] [false, true, false] 0 1).out.accepted = some ("cmpctblock", [], []) ∧
    (secondPass pl 12 [] [false, true, false] 0 1).out.panicSite = some "ProcessCmpctBlock:Tx idx missing" ∧
    (secondPass pl 12 [] [false, true, false] 0 1).locks = [Lock.tx] := by
  decide +kernel

/-- UNREACHABILITY of core.go FetchMessage's `panic("ERROR: hdr_len > 24 …")` under c.Mutex (whitelisted in
    the lock scan), for the header loop as modelled by `hdrReads` (the loop condition and the slice handed to the
    socket are source facts of the regenerated skeleton, second conjunct): over any run of reads that keeps the
    net.Conn.Read contract - ASSUMED, not checkable here: 0 ≤ n ≤ len(buf) = 24 - hdr_len, through common.SockRead
    which only shortens the buffer - starting anywhere at or below 24, hdr_len never passes 24. `hdrReads` is not
    run by the oracle: the harness's wire stream feeds complete and cut frames through the real loop, whose
    socket stub keeps the contract. -/
theorem fetch_hdrlen_panic_unreachable (reads : List Nat) (hdrLen : Nat) (h : hdrLen ≤ 24)
    (hc : readsWithin reads hdrLen = true) :
    (∃ hl, hdrReads reads hdrLen = some hl ∧ hl ≤ 24) ∧
    ("for: ; c.recv.hdr_len < 24; " ∈ Gen.NetFacts.FetchMessage ∧
     "slice: c.recv.hdr[c.recv.hdr_len:24]" ∈ Gen.NetFacts.FetchMessage ∧
     "guard: !(c.recv.hdr_len > 24)" ∈ Gen.NetFacts.FetchMessage) :=
  ⟨hdrReads_le reads hdrLen h hc, by decide +kernel⟩

/-- non-vacuity: 20 bytes, then the last 4 - within the contract, the header is complete; a read that returns 5
    bytes for the 4-byte slice breaks the contract and is exactly what the panic is there for -/
example : readsWithin [20, 4] 0 = true ∧ hdrReads [20, 4] 0 = some 24 ∧
    readsWithin [20, 5] 0 = false ∧ hdrReads [20, 5] 0 = none := by decide

/-- ProcessBlockTxn transaction loop: total, terminates within the payload. -/
theorem blocktxn_total (txSize : Bytes → Nat) (hts : ∀ b, txSize b ≤ b.length) (pl : Bytes) (hl : pl.length < 2^62) :
    (processBlockTxn txSize pl).out.isPanic = false ∧ (processBlockTxn txSize pl).locks = [] ∧
      (processBlockTxn txSize pl).steps ≤ pl.length + 2 :=
  lift (processBlockTxn_total txSize hts pl hl) (Nat.le_refl _)

example : ∀ b : Bytes, Wire.txSize b ≤ b.length := Wire.txSize_le

/-! ### the pre-fix guards: the property was FALSE (witnesses replayed on the real code by the
     harness before the `fix:` commits; keys in known_findings.txt) -/

def wVersion : Bytes := List.replicate 80 0 ++ [2, 0]
def wInv : Bytes := [0xff, 1, 0, 0, 0, 0, 0, 0, 0x40] ++ List.replicate 36 0
/-- cnt = 0x0e38e38e38e38e3a: 36·cnt ≡ 40 (mod 2^64) (what the harness computes as wrapCount 36 40) -/
def wInvLocked : Bytes := [0xff, 0x3a, 0x8e, 0xe3, 0x38, 0x8e, 0xe3, 0x38, 0x0e] ++ List.replicate 40 0
def wGbt : Bytes := List.replicate 32 0xab ++ [1, 0xff, 0, 0, 0, 0, 0, 0, 0, 0x80]
def wCmpct : Bytes := List.replicate 88 0 ++ [0, 2, 1] ++ List.replicate 10 9 ++ [1] ++ List.replicate 10 9
def wFetch : Bytes := [0xf9, 0xbe, 0xb4, 0xd9] ++ [0x76] ++ List.replicate 11 0 ++ [10, 0, 0, 0x80] ++ List.replicate 4 0
def fenv : FetchEnv := ⟨[0xf9, 0xbe, 0xb4, 0xd9], fun _ => 1024, fun _ => [0, 0, 0, 0], false, false⟩

/-- HandleVersion with the guard `len(pl) < 80+le`: the 82-byte payload with pl[80]=2 panics on
    `pl[of:of+le]` WHILE c.Mutex IS HELD (no deferred unlock): the lock stays held. -/
theorem version_old_counterexample :
    (handleVersionG false wVersion).out.isPanic = true ∧ (handleVersionG false wVersion).locks = [Lock.conn] := by
  decide +kernel

/-- ProcessInv with the guard `len(pl) != of+36*cnt` in wrapping arithmetic: cnt = 2^62+1 passes and
    the second iteration slices past the payload. -/
theorem inv_old_counterexample : (processInvG false wInv).out.isPanic = true := by decide +kernel

/-- … and with 36·cnt ≡ 40 the panic happens on `pl[of+4:of+36]`, inside c.Mutex. -/
theorem inv_old_counterexample_locked :
    (processInvG false wInvLocked).out.isPanic = true ∧ (processInvG false wInvLocked).locks = [Lock.conn] := by
  decide +kernel

/-- ProcessGetBlockTxn with `int(idx) >= len(Txs)`: index 2^63 is negative as int, passes, and
    `Txs[idx]` is out of range. -/
theorem getblocktxn_old_counterexample : (processGetBlockTxnG false (some 5) wGbt).out.isPanic = true := by
  decide +kernel

/-- ProcessCmpctBlock with the range check before `idx += exp`: two prefilled entries with
    differential index 1 write slot 3 of 2. -/
theorem cmpctblock_old_counterexample : (processCmpctBlockG false tenOrNothing wCmpct).out.isPanic = true := by
  decide +kernel

/-- FetchMessage reading `c.aesData.nonceSize` before checking that a key exists: a header whose
    length field has bit 31 set panics before the handshake. -/
theorem fetch_old_counterexample : (fetchMessageG false fenv wFetch).out.isPanic = true := by decide +kernel

/-- the same six witnesses under the CURRENT guards: no panic, and no lock held by the two that panicked
    under c.Mutex (`wVersion`, `wInvLocked`). -/
theorem witnesses_now_rejected :
    (handleVersion wVersion).out.isPanic = false ∧ (handleVersion wVersion).locks = [] ∧
    (processInv wInv).out.isPanic = false ∧ (processInv wInvLocked).out.isPanic = false ∧
    (processInv wInvLocked).locks = [] ∧
    (processGetBlockTxn (some 5) wGbt).out.isPanic = false ∧
    (processCmpctBlock tenOrNothing wCmpct).out.isPanic = false ∧
    (fetchMessage fenv wFetch).out.isPanic = false := by decide +kernel

/-- the source facts the model was WRITTEN AGAINST are the ones regenerated from the current source in this
    run: skeletons of the handlers repaired by C18's fixes, Run's command table and gate, Run's inline `authack` case.
    (All 27 lists are compared in Model/NetParseFacts.lean, which this module imports.) A skeleton is, in source
    order and canonical spelling: every `if` / guard / `for` / switch condition, every index / slice on the peer's
    bytes, Lock / Unlock / return, decoder and penalty calls, and every assignment to a
    local whose value reaches a guard, a loop condition or such an index (`asg:`: offset arithmetic, which result of
    a decoder goes where, an update before or after the test that follows) and every reset of a field to nil
    (`set:`). What the lists do NOT pin: assignments to fields and to locals that feed only non-leaving `if`s,
    arguments of calls that are not in the decoder / penalty list, anything three or more unexported calls deep, and
    the MEANING of a fact - the model is a hand translation, and an edit that moves a fact is an alarm to re-read
    it, not a proof obligation about it. The differential run is the tie for all of that. -/
theorem source_facts_current :
    Gen.NetFacts.HandleVersion = Expected.HandleVersion ∧ Gen.NetFacts.ProcessInv = Expected.ProcessInv ∧
    Gen.NetFacts.ProcessGetBlockTxn = Expected.ProcessGetBlockTxn ∧
    Gen.NetFacts.ProcessCmpctBlock = Expected.ProcessCmpctBlock ∧
    Gen.NetFacts.ProcessBlockTxn = Expected.ProcessBlockTxn ∧ Gen.NetFacts.FetchMessage = Expected.FetchMessage ∧
    Gen.NetFacts.dispatch = Expected.dispatch ∧ Gen.NetFacts.runGate = Expected.runGate ∧
    Gen.NetFacts.inline_authack = Expected.inline_authack :=
  ⟨facts_HandleVersion, facts_ProcessInv, facts_ProcessGetBlockTxn, facts_ProcessCmpctBlock, facts_ProcessBlockTxn,
   facts_FetchMessage, facts_dispatch, facts_runGate, facts_inline_authack⟩

/-- WHAT THE COMPILER IS TOLD. The four `@[csimp]` lemmas of Model/NetParse.lean make the compiled oracle run
    the linear `…Fast` forms (the unread rest of the payload is carried along instead of `pl.drop offs` per
    element) in place of the loops the theorems above are about. This theorem IS the conjunction of those
    four csimp statements, proved by the csimp lemmas themselves, so the axiom audit of Props.C18 covers
    exactly the equalities the compiler trusts. -/
theorem fast_loops_agree :
    @shortIdLoop = @shortIdLoopFast ∧ @prefilledLoop = @prefilledLoopFast ∧
    @blockTxnLoop = @blockTxnLoopFast ∧ @secondPass = @secondPassFast :=
  ⟨shortIdLoop_eq_fast, prefilledLoop_eq_fast, blockTxnLoop_eq_fast, secondPass_eq_fast⟩

/-- the same pointwise, with the `…Fast` forms unfolded to the rest-carrying loops -/
theorem fast_loops_agree_pointwise (fixed : Bool) (txSize : Bytes → Nat) (pl : Bytes) (n total : Int) (k : Nat) (offs exp : Int)
    (seen : List Bytes) (acc : List Nat) (sl : List Bool) (st : Nat) :
    blockTxnLoop txSize pl n k offs acc st = blockTxnLoopR txSize n k (pl.drop offs.toNat) offs acc st ∧
    shortIdLoop pl n k offs seen st = shortIdLoopR n k (pl.drop offs.toNat) offs seen st ∧
    prefilledLoop fixed txSize pl n total k offs exp acc st =
      prefilledLoopR fixed txSize pl n total k (pl.drop offs.toNat) offs exp acc st ∧
    secondPass pl n seen sl offs st = secondPassR n seen sl (pl.drop offs.toNat) offs st := by
  rw [shortIdLoop_eq_fast, prefilledLoop_eq_fast, blockTxnLoop_eq_fast, secondPass_eq_fast]
  exact ⟨rfl, rfl, rfl, rfl⟩

/-- LOCK DISCIPLINE of the current source. gen_c18 reduces every function of the ten client/network
    files the property anchors (≈ 95 functions: all message handlers, Run, Tick, SendRawMsg, SendInvs,
    NetRouteInvExt, GetStats …) to its lock trace; the lock-set scan of Model/NetParseLocks finds on
    the regenerated traces: no return / end of function with a lock taken there still held (unless its
    Unlock is deferred), no `break` / `continue` / `goto` leaving with a changed lock set, no second
    Lock of a held mutex, no Unlock of an unheld one, no call - while a mutex is held - of a function of
    these files that locks the same mutex itself (through its receiver, e.g. `c.DoS()` under c.Mutex, or
    a package-level mutex; one level deep: the callee's own trace), and every access to InvDone.Map,
    PendingInvs, c.InvStore, GetBlockInProgress deletes, peersdb.PeerDB.Put/Del and the statistics map
    `counters` (every mention of the field and every call of a counter helper - a method that touches the
    map without locking, `Gen.NetFacts.counterHelpers`) inside the span of its lock. (Per function and path-insensitive; beyond that one level, locks taken inside callees are
    not followed.) -/
theorem lock_discipline_current : NetParse.Locks.complaints Gen.NetFacts.lockTraces = [] := by
  unfold NetParse.Locks.complaints
  rw [Locks.flatMap_flagged (fun fn ms => (Locks.dropProved fn ms).map (fun m => fn ++ ": " ++ m))
    (fun fn => by rw [Locks.dropProved_nil]; rfl), Locks.flagged_current]
  decide +kernel

/-- what the whitelist `NetParseLocks.panicUnreachable` hides from the previous theorem, exactly: the
    UNFILTERED scan of the current source has two complaints, both an explicit panic between a Lock and its
    non-deferred Unlock, and the whitelist names for each the theorem above that proves it unreachable
    (`cmpctblock_panic_unreachable` with `cmpctblock_total`; `fetch_hdrlen_panic_unreachable`, which assumes
    the net.Conn.Read contract). -/
theorem explicit_panics_under_lock :
    NetParse.Locks.complaintsRaw Gen.NetFacts.lockTraces =
      ["OneConnection.FetchMessage: panic with c.Mutex held",
       "OneConnection.ProcessCmpctBlock: panic with txpool.TxMutex held"] ∧
    NetParse.Locks.panicUnreachable =
      [("OneConnection.ProcessCmpctBlock", "txpool.TxMutex", "GocoinV.Props.C18.cmpctblock_panic_unreachable"),
       ("OneConnection.FetchMessage", "c.Mutex", "GocoinV.Props.C18.fetch_hdrlen_panic_unreachable")] := by
  unfold NetParse.Locks.complaintsRaw
  rw [Locks.flatMap_flagged (fun fn ms => ms.map (fun m => fn ++ ": " ++ m)) (fun _ => rfl), Locks.flagged_current]
  decide +kernel

/-- the shared accesses the traces are known to contain (so that a renamed field cannot silently
    empty the list `lock_discipline_current` speaks about). Locals appear under their canonical number
    (`$1` = the connection NetRouteInvExt walks over); the unexported worker of the getdata handler is not
    named, and a handler may keep such an access in a helper: `accessVia f …` = the access is in f itself or in a
    function f calls directly (`callGraph`). -/
theorem shared_accesses_tracked :
    NetParse.Locks.accessVia "OneConnection.ProcessGetData" "c.InvStore(…)" "c.Mutex" = true ∧
    NetParse.Locks.accessVia "OneConnection.ProcessInv" "c.InvStore(…)" "c.Mutex" = true ∧
    NetParse.Locks.accessVia "OneConnection.SendInvs" "c.InvStore(…)" "c.Mutex" = true ∧
    NetParse.Locks.accessVia "OneConnection.ProcessNewHeader" "c.InvStore(…)" "c.Mutex" = true ∧
    ("NetRouteInvExt", "$1.InvDone.Map", "$1.Mutex") ∈ Gen.NetFacts.sharedAccesses ∧
    ("NetRouteInvExt", "$1.PendingInvs", "$1.Mutex") ∈ Gen.NetFacts.sharedAccesses ∧
    NetParse.Locks.accessVia "OneConnection.ParseAddr" "peersdb.PeerDB.Put" "peersdb" = true ∧
    64 ≤ Gen.NetFacts.lockTraces.length := by decide +kernel

/-- the same for the statistics map `counters` (/repo fix 6fde6594): its reader GetStats and Tick's
    reset, the handler the fix repaired, and the paths every message takes (FetchMessage, SendRawMsg, Misbehave) are
    among the tagged accesses, at least 20 in all; the two counter helpers (methods that touch the map without
    locking - found by that shape, the names are only stated here) are not traced themselves but checked at every
    call site; the locking variant is traced and holds the mutex around its access. -/
theorem counters_tracked :
    ("OneConnection.GetStats", "c.counters", "c.Mutex") ∈ Gen.NetFacts.sharedAccesses ∧
    ("OneConnection.Tick", "c.counters", "c.Mutex") ∈ Gen.NetFacts.sharedAccesses ∧
    ("OneConnection.ProcessBlockTxn", "c.cntInc(…)", "c.Mutex") ∈ Gen.NetFacts.sharedAccesses ∧
    ("OneConnection.Misbehave", "c.cntInc(…)", "c.Mutex") ∈ Gen.NetFacts.sharedAccesses ∧
    ("OneConnection.FetchMessage", "c.cntAdd(…)", "c.Mutex") ∈ Gen.NetFacts.sharedAccesses ∧
    ("OneConnection.SendRawMsg", "c.cntAdd(…)", "c.Mutex") ∈ Gen.NetFacts.sharedAccesses ∧
    (Gen.NetFacts.sharedAccesses.filter (fun a => a.2.1 == "c.counters" || a.2.1 == "c.cntInc(…)" || a.2.1 == "c.cntAdd(…)")).length ≥ 20 ∧
    Gen.NetFacts.counterHelpers = ["OneConnection.cntAdd", "OneConnection.cntInc"] ∧
    Gen.NetFacts.counterHelpers.all (fun h => !Gen.NetFacts.lockTraces.any (·.1 == h)) = true ∧
    ("OneConnection.cntLockInc", "c.counters", "c.Mutex") ∈ Gen.NetFacts.sharedAccesses := by decide +kernel

/-- the call edges `lock_discipline_current` speaks about are really in the regenerated facts: SendRawMsg's
    overflow path calls DoS, which locks the connection's mutex (so SendRawMsg must have released it),
    and the handlers reach SendRawMsg / DoS / Misbehave from Run. -/
theorem call_locks_tracked :
    ("OneConnection.SendRawMsg", "OneConnection.DoS", "c.Mutex") ∈ Gen.NetFacts.callLocks ∧
    ("OneConnection.Run", "OneConnection.SendRawMsg", "c.Mutex") ∈ Gen.NetFacts.callLocks ∧
    ("OneConnection.ProcessBlockTxn", "OneConnection.Misbehave", "c.Mutex") ∈ Gen.NetFacts.callLocks ∧
    ("DoNetwork", "OneConnection.MutexSetBool", "$1.Mutex") ∈ Gen.NetFacts.callLocks ∧
    ("OneConnection.SendGetMP", "OneConnection.cntLockInc", "c.Mutex") ∈ Gen.NetFacts.callLocks ∧
    ("OneConnection.ExpireHeadersAndGetData", "OneConnection.cntLockInc", "c.Mutex") ∈ Gen.NetFacts.callLocks ∧
    150 ≤ Gen.NetFacts.callLocks.length := by decide +kernel

/-- THE DEFECT REPAIRED BY /repo fix 6fde6594, on the traces of the source before it:
    ProcessBlockTxn counted `BlkTxnNoBIP` / `BlkTxnNoCOL` after `c.Mutex.Unlock()` and SendGetMP counted
    `GetMPHold` with no lock (cntInc writes the map `counters` unlocked by contract), while GetStats ranges over
    that map under c.Mutex: the scan of those two traces - regenerated verbatim from the parent commit - reports
    each of the three counts; the repaired shapes pass, and the locking variant called with the mutex held is a
    self-deadlock the scan reports too. On the real code the harness shows the consequence: a 33-byte `blocktxn`
    for a block that is not in progress, repeated while the UI reads the statistics, ends the process with
    "fatal error: concurrent map iteration and map write" (go/cmd/c18/stats.go, directed history 0). -/
theorem counters_unlocked_counterexample :
    NetParse.Locks.scanFrom [] NetParse.Locks.oldProcessBlockTxn =
      ["shared access without c.Mutex", "shared access without c.Mutex"] ∧
    NetParse.Locks.scanFrom [] NetParse.Locks.oldSendGetMP = ["shared access without c.Mutex"] ∧
    NetParse.Locks.scanFrom [] NetParse.Locks.shapeCountThenUnlock = [] ∧
    NetParse.Locks.scanFrom [] NetParse.Locks.shapeCountLocking = [] ∧
    NetParse.Locks.scanFrom [] NetParse.Locks.shapeCountLockingHeld =
      ["call of a function that locks c.Mutex while it is held"] ∧
    (Gen.NetFacts.lockTraces.lookup "OneConnection.ProcessBlockTxn").map (NetParse.Locks.scanFrom []) = some [] ∧
    (Gen.NetFacts.lockTraces.lookup "OneConnection.SendGetMP").map (NetParse.Locks.scanFrom []) = some [] := by
  decide +kernel

/-- the scan is not vacuous: it accepts the current shapes of ParseAddr's database-full path and of
    processGetData's InvStore, and rejects `continue` with the peers-database lock held, InvStore
    outside c.Mutex, a return between Lock and Unlock, and - with every exit covered by a deferred
    Unlock - a call of a function that locks the held mutex again (accepted when the mutex was released
    before the call, as SendRawMsg's overflow path does); it rejects an explicit panic between Lock and a
    non-deferred Unlock and accepts it when the Unlock is deferred; and the whitelist removes one complaint
    of the named function only (a second panic under the same lock, or the same shape in another function,
    is still reported). -/
theorem lock_scan_discriminates :
    NetParse.Locks.scanFrom [] NetParse.Locks.shapeGoto = [] ∧
    NetParse.Locks.scanFrom [] NetParse.Locks.shapeContinue = ["continue with a changed lock set: peersdb held"] ∧
    NetParse.Locks.scanFrom [] NetParse.Locks.shapeStoreLocked = [] ∧
    NetParse.Locks.scanFrom [] NetParse.Locks.shapeStoreBare = ["shared access without c.Mutex"] ∧
    NetParse.Locks.scanFrom [] NetParse.Locks.shapeReturnHeld = ["return with c.Mutex held"] ∧
    NetParse.Locks.scanFrom [] NetParse.Locks.shapeCallUnlocked = [] ∧
    NetParse.Locks.scanFrom [] NetParse.Locks.shapeCallDeferred =
      ["call of a function that locks c.Mutex while it is held"] ∧
    NetParse.Locks.scanFrom [] NetParse.Locks.shapePanicHeld = ["panic with TxMutex held"] ∧
    NetParse.Locks.scanFrom [] NetParse.Locks.shapePanicDeferred = [] ∧
    NetParse.Locks.dropProved "OneConnection.ProcessCmpctBlock"
      ["panic with txpool.TxMutex held", "panic with txpool.TxMutex held", "panic with c.Mutex held"] =
      ["panic with txpool.TxMutex held", "panic with c.Mutex held"] ∧
    NetParse.Locks.dropProved "OneConnection.ProcessBlockTxn" ["panic with txpool.TxMutex held"] =
      ["panic with txpool.TxMutex held"] := by decide +kernel

/-! ### state that outlives one message (Model/NetParseState.lean) -/

/-- EVERY assignment to a map-typed field of the connection object (counters, GetBlockInProgress, InvDone.Map) in
    client/network - regenerated from the source in this run - stores a freshly made map: no function
    "releases" such a map by storing nil (or a value the translator cannot classify). -/
theorem conn_maps_never_nil :
    ∀ a ∈ Gen.NetFacts.connMapAssigns, NetParse.State.keeps a.2.2 = true := by decide +kernel

/-- every function that creates a connection object (the constructor NewConnection) gives each map that any function
    stores entries into an UNCONDITIONAL `make` (top level of its body): a new connection starts with its maps, whatever
    the configuration says when the peer connects. -/
theorem conn_maps_constructed :
    ∀ w ∈ Gen.NetFacts.connMapWrites,
      NetParse.State.ctorMakes Gen.NetFacts.connCtorMakes Gen.NetFacts.connCtors w.2 = true := by decide +kernel

/-- CONFIGURATION HISTORIES. Start from the state the constructor leaves (`ctorMakes`: a map is there iff every
    function creating a connection object makes it unconditionally - regenerated from the source) and let any sequence
    of functions of client/network run on the connection, each of its assignments to the map field executing or
    not - whatever run-time switch of the configuration (common.NoCounters …), counter or clock its guard reads,
    i.e. under every history of the operator switching things on and off before the peer connects and between Ticks
    and messages: no function that stores an entry (cntInc / cntAdd / cntLockInc under c.Mutex in FetchMessage,
    Misbehave, SendRawMsg …; InvStore; GetBlockData / ProcessCmpctBlock) ever meets a nil map, and a map that has
    a writer is still there afterwards. Rests on the regenerated facts: `connMapAssigns` (all `make`:
    conn_maps_never_nil - an assignment to a struct containing the map, `*x = T{…}` or a taken address would show up
    there as `enclosing` / `addr`), `connMapWrites`, `connCtors` / `connCtorMakes`. -/
theorem conn_maps_total (field : String) (h : NetParse.State.Hist) :
    let start := NetParse.State.ctorMakes Gen.NetFacts.connCtorMakes Gen.NetFacts.connCtors field
    (NetParse.State.runHist Gen.NetFacts.connMapAssigns Gen.NetFacts.connMapWrites field h start).isSome = true ∧
    (NetParse.State.written Gen.NetFacts.connMapWrites field = true →
      NetParse.State.runHist Gen.NetFacts.connMapAssigns Gen.NetFacts.connMapWrites field h start = some true) :=
  NetParse.State.runHist_total _ _ _ _ conn_maps_never_nil conn_maps_constructed field h

/-- non-vacuity of the premise and of the start state: `counters` has writers and starts as a map; a constructor that
    makes the counters only while they are switched on (`if !NoCounters { c.counters = make }` - the fact becomes
    `false`) starts them nil, and the first counting function panics -/
example :
    NetParse.State.written Gen.NetFacts.connMapWrites "counters" = true ∧
    NetParse.State.ctorMakes Gen.NetFacts.connCtorMakes Gen.NetFacts.connCtors "counters" = true ∧
    NetParse.State.ctorMakes [("NewConnection", "counters", false)] ["NewConnection"] "counters" = false ∧
    NetParse.State.runHist Gen.NetFacts.connMapAssigns Gen.NetFacts.connMapWrites "counters"
      [("OneConnection.cntInc", [])] false = none := by decide +kernel

/-- the facts the two previous theorems speak about are there: the three maps, Tick's re-allocation of the
    counters, the three counter writers, and the model can tell the difference - with Tick storing `nil`
    instead (the "do not keep an empty map per peer while counters are off" edit) the history
    Tick (switch on), then any counting function (switch off again) panics; with the current facts it does not. -/
theorem conn_maps_tracked :
    Gen.NetFacts.connMapFields = ["GetBlockInProgress", "InvDone.Map", "X.Counters", "counters"] ∧
    ("OneConnection.Tick", "counters", "make") ∈ Gen.NetFacts.connMapAssigns ∧
    ("NewConnection", "counters", "make") ∈ Gen.NetFacts.connMapAssigns ∧
    Gen.NetFacts.connCtors = ["NewConnection"] ∧
    ("NewConnection", "counters", true) ∈ Gen.NetFacts.connCtorMakes ∧
    NetParse.State.keeps "enclosing" = false ∧ NetParse.State.keeps "addr" = false ∧
    ("OneConnection.cntInc", "counters") ∈ Gen.NetFacts.connMapWrites ∧
    ("OneConnection.cntAdd", "counters") ∈ Gen.NetFacts.connMapWrites ∧
    ("OneConnection.cntLockInc", "counters") ∈ Gen.NetFacts.connMapWrites ∧
    ("OneConnection.InvStore", "InvDone.Map") ∈ Gen.NetFacts.connMapWrites ∧
    NetParse.State.runHist (NetParse.State.withKind Gen.NetFacts.connMapAssigns "OneConnection.Tick" "counters" "nil")
      Gen.NetFacts.connMapWrites "counters" [("OneConnection.Tick", [true]), ("OneConnection.cntInc", [])] true = none ∧
    NetParse.State.runHist Gen.NetFacts.connMapAssigns
      Gen.NetFacts.connMapWrites "counters" [("OneConnection.Tick", [true]), ("OneConnection.cntInc", [])] true = some true := by
  decide +kernel

/-- TRUSTED BLOCKS. chain.PostCheckBlock's front with btc.Block.BuildTxListExt behind it never panics - for any
    bytes a peer sends behind the header, any transaction decoder that reports no more bytes than it was given
    (`Within`; otherwise the slice `bl.Raw[offs:offs+n]` is out of range - second example below), and whether or not
    the block carries the Trusted mark (for which the coinbase tests, `len(bl.Txs) == 0` among them, are skipped): the
    merkle computation's `mtr[len(mtr)-1]` always has at least one element, because BuildTxListExt's head refuses a
    txn_count of zero. ENTRY CONDITION, built into the model and NOT proved here: the block object's transaction
    list has not been built (bl.Txs == nil, bl.TxCount == 0) - true after btc.NewBlockHeader, and restored by each
    failure path of the three callers; those resets are source facts of the regenerated skeletons
    (`postcheck_entry_resets_current`), what they restore is observed by the harness only (corrupt-assembly scenario). -/
theorem postcheck_total (newTx : Bytes → Option Nat) (hw : NetParse.State.Within newTx) (trusted : Bool) (raw : Bytes)
    (cbOk merkleOk : Bool) :
    (NetParse.State.postCheck true newTx trusted raw cbOk merkleOk).isPanic = false := by
  unfold NetParse.State.postCheck
  split
  · rfl
  · cases hb : NetParse.State.buildTxList true newTx raw with
    | error e => rfl
    | panic s => exact absurd hb (NetParse.State.buildTxList_noPanic true newTx hw raw s)
    | ok n =>
      have hn := NetParse.State.buildTxList_pos newTx raw n hb
      simp only []
      split
      · rfl
      · rw [NetParse.State.merkleLast, if_neg (by simp; omega)]
        cases merkleOk <;> rfl

/-- the hypothesis holds for the decoder the oracle runs (C09's wire model of btc.NewTx) … -/
theorem postcheck_total_wire (trusted : Bool) (raw : Bytes) (cbOk merkleOk : Bool) :
    (NetParse.State.postCheck true (fun b => (Wire.decodeTx b).map (·.2)) trusted raw cbOk merkleOk).isPanic = false := by
  apply postcheck_total
  intro b n h
  obtain ⟨p, hd, rfl⟩ := Option.map_eq_some_iff.mp h
  exact (Wire.decodeTx_le hd).2

/-- … and is needed: a decoder that claims 200 bytes of a 20-byte rest makes the loop's slice panic; the trivial
    decoder (always `none`) satisfies it -/
example :
    NetParse.State.postCheck true (fun _ => some 200) false (List.replicate 80 0x11 ++ [1] ++ List.replicate 19 0) true true =
      .panic "BuildTxListExt: bl.Raw[offs:offs+n]" ∧
    NetParse.State.Within (fun _ => none) := ⟨by decide +kernel, nofun⟩

/-- the resets that re-establish postcheck_total's entry condition after a failed attempt are in the regenerated
    skeletons of the three callers (dropping one - leaving the stale, shortened transaction list on a block object
    that will be tried again - moves a fact) -/
theorem postcheck_entry_resets_current :
    "set: $6.Block.Txs = nil" ∈ Gen.NetFacts.netBlockReceived ∧
    "set: $3.Block.Txs = nil" ∈ Gen.NetFacts.ProcessCmpctBlock ∧
    "set: $10.Block.Txs = nil" ∈ Gen.NetFacts.ProcessBlockTxn := by decide +kernel

/-- … and that test is what it hangs on: with the head testing the offset only (as Block.UpdateContent, the
    other decoder of the same field, does) an 80-byte header followed by txn_count = 0 and padding - sendable
    by any peer that knows the public header of a pending trusted block - reaches CalcMerkle with no hashes;
    the same bytes are refused under the current head, and refused cleanly for an untrusted block either way. -/
theorem postcheck_count_guard_counterexample :
    NetParse.State.postCheck false (fun _ => none) true NetParse.State.wEmptyBlock true true =
      .panic "CalcMerkle: index out of range [-1]" ∧
    NetParse.State.postCheck true (fun _ => none) true NetParse.State.wEmptyBlock true true = .err "bad-blk-length" ∧
    NetParse.State.postCheck false (fun _ => none) false NetParse.State.wEmptyBlock true true = .err "bad-cb-missing" := by
  decide +kernel

/-- the two skeletons `postCheck` was written against are the ones regenerated from lib/btc and lib/chain in this run -/
theorem block_front_facts_current :
    Gen.NetFacts.BuildTxListHead = Expected.BuildTxListHead ∧ Gen.NetFacts.PostCheckFront = Expected.PostCheckFront :=
  ⟨facts_BuildTxListHead, facts_PostCheckFront⟩

-- OPEN (not modelled, hence not stated): "whole handler" totality including the backend —
-- ProcessNewHeader / PostCheckBlock / mempool matching (incl. ProcessCmpctBlock's two "Same short ID - abort"
-- returns between the prefilled loop and the second pass) / peer database; and the send-buffer
-- pause path of processGetData (the loop that STARTS a pause; appending to a pending buffer is modelled). The statement above is about the parsing layer only.
-- OPEN: lock ORDER between functions (deadlock freedom across threads) and freedom from data races on
-- fields other than the ones gen_c18 tags as shared accesses; the lock scan is per function and
-- path-insensitive, and follows calls ONE level (a direct callee that locks a mutex its caller holds);
-- a callee that reaches the caller's mutex two levels down or through a walk over the connection list
-- is not found. These are only exercised dynamically (fulldb stream, slow-reader stream, concurrent
-- child process).
-- OPEN (not modelled): the send path (SendRawMsg ring buffer, overflow ban) and btc.BuildTxListExt's
-- worker hand-over; both are covered by the differential run only (slow-reader stream; block bodies cut
-- at every transaction boundary, run in a child process).

/-! ### expire_misbehave (core.go), the once-a-second walk over the connection's penalty history
    (Model/NetParseExpire.lean; not peer bytes, but the same thread: a panic here ends the connection thread) -/

/-- NO INDEX OUT OF RANGE in expire_misbehave: for every clock value, every counter value and every history
    (any length, any numbers in the records) the function of the source returns - none of
    `c.misbehave_history[idx][0]`, `c.misbehave_history[idx][1]` after `idx++`, `c.misbehave_history[idx:]`
    is out of range, and the loop ends within len(history) iterations. No hypotheses. -/
theorem expire_total (now mis : Int) (hist : Expire.Hist) : Expire.expire now mis hist ≠ none := by
  rcases Expire.expire_cases now mis hist with h | h | ⟨k, s, _, _, h⟩ <;> rw [h] <;> simp

/-- the history after expire_misbehave is the history before with its first k records dropped (a suffix):
    nothing is reordered, rewritten or added, so its length never grows. -/
theorem expire_history_suffix (now mis mis' : Int) (hist hist' : Expire.Hist)
    (h : Expire.expire now mis hist = some (mis', hist')) :
    (∃ k, hist' = hist.drop k) ∧ hist'.length ≤ hist.length := by
  obtain ⟨k, rfl⟩ := Expire.expire_suffix h
  exact ⟨⟨k, rfl⟩, (List.drop_sublist k hist).length_le⟩

/-- non-vacuity of `expire_history_suffix`: one record, one hour and a second later - everything is forgotten -/
example : Expire.expire 1700003601 100 [(61696, 100)] = some (0, []) := by decide +kernel

/-- what the order `sub += hist[idx][1]; idx++` IN FRONT OF the `idx+1 == len` test does
    (`expireG true`): a history of exactly one record (time 1700000000, low 16 bits 61696), looked at
    3601 s later, indexes misbehave_history[1] of a one-element slice - the loop ends in `panic`, where the
    order of the source forgets the record and returns. -/
theorem expire_moved_counterexample :
    Expire.loopG true 1700003601 [(61696, 100)] 2 0 0 = .panic ∧
    Expire.expireG true 1700003601 100 [(61696, 100)] = none ∧
    Expire.expireG false 1700003601 100 [(61696, 100)] = some (0, []) := by decide +kernel

/-- WHAT THE SOURCE DOES WITH THE WEIGHTS (a fact about the unchanged code, stated so that nobody reads the
    model as "takes off the expired points"): `idx++` comes before `sub += …[idx][1]`, so the amount taken off
    is the weight of the records that STAY up to the first live one, not of the ones that go. Two penalties,
    100 points at 1700000000 and 7 points at 1700003000, counter 107; at 1700003601 the first record is
    dropped, 7 is subtracted, and the counter stays at 100 with one live record of 7 points. -/
theorem expire_forgets_next_weight_counterexample :
    Expire.expire 1700003601 107 [(61696, 100), (64696, 7)] = some (100, [(64696, 7)]) := by decide +kernel

/-- the skeleton of expire_misbehave that Model/NetParseExpire.lean was written against (the guards, the
    position of `idx++` against the `idx+1 == len` test, the reset to nil, the return) is the one regenerated
    from core.go in this run. NOT pinned by the list: the `sub +=` statement (no guard reads `sub`) and the
    final `c.misbehave -= sub` / re-slice; the harness family on the real function is the tie for those. -/
theorem expire_facts_current : Gen.NetFacts.expire_misbehave = Expected.expire_misbehave := facts_expire_misbehave

end GocoinV.Props.C18
