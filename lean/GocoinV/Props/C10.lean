/-
  Props.C10 — property theorems for C10 (UTXO records and snapshot files are lossless).
  Theorems and the data of their examples (`g65`, `kG`, `exRec`, `garbageLenFile`); helper lemmas live in
  GocoinV/Proofs/C10*.lean, and so do the predicates the hypotheses are written with: `KeyOps.Sound` (Proofs/C10Script),
  `WFRec`, `WFOutC`, `WFRecC` (Proofs/C10Rec), `WFSnap` (Proofs/C10Snap), `RetryShape.Cleans` (Proofs/C10Load).
  The theorems are about definitions
  that the oracle executes and the harness compares with the Go code:
    Model.AmountCompress (btc.CompressAmount/DecompressAmount), Model.ScriptCompress
    (script.CompressScript/DecompressScript/IsP2PK), Model.UtxoRec (SerializeU/C, NewUtxoRecOwnU/C,
    OneUtxoRecU/C, UnspentDB.save / NewUnspentDb framing), Model.UtxoUndo (spend / undo merge),
    Model.UtxoLoad (loadDir, memAsk), Model.UtxoShared (decRecsRd, readVLenRd) —
  except the transition system `Ring` (Model.UtxoUndo) and the static-pool and undo-entry `Heap` models
  (Model.UtxoShared), which the oracle does not run: they reach the code only through the generated facts of
  Gen.UtxoLoaderFacts / Gen.UtxoSharedFacts (the static pool also through `static_decode_eq_fresh`, which
  reduces it to the executed `newRecU` / `newRecC`).
-/
import GocoinV.Proofs.C10Size
import GocoinV.Proofs.C10Snap
import GocoinV.Proofs.C10Keys
import GocoinV.Proofs.C10Undo
import GocoinV.Proofs.C10Load
import GocoinV.Proofs.C10Shared
import GocoinV.Gen.UtxoLoaderFacts
import GocoinV.Gen.UtxoSharedFacts
namespace GocoinV.Props.C10
open GocoinV GocoinV.UtxoRec GocoinV.ScriptCompress GocoinV.CompactSize

/-! ## amounts -/

/-- `DecompressAmount(CompressAmount(n)) = n` whenever the compressed value fits in a uint64
    (stated with `compressExact`, the encoding computed without wrap-around); under that condition the
    wrapping Go arithmetic computes exactly `compressExact`. -/
theorem amount_roundtrip_exact (n : Nat) (hn : n < 2 ^ 64)
    (hfit : AmountCompress.compressExact n < 2 ^ 64) :
    AmountCompress.compress n = AmountCompress.compressExact n ∧
      AmountCompress.decompress (AmountCompress.compress n) = n := by
  have := amount_rt n hn hfit
  have e : (2 : Nat) ^ 64 = AmountCompress.U64 := by decide
  exact ⟨AmountCompress.compress_eq_exact n (e ▸ hfit), this.2⟩

/-- The explicit bound: every amount up to 1844674407370955160 round-trips — the largest `n` with
    `10·n + 10 < 2^64` (`compressExact_le`), about 1.8·10^18, far above the 21·10^14 of the property's
    quantifier. -/
theorem amount_roundtrip (n : Nat) (hn : n ≤ 1844674407370955160) :
    AmountCompress.decompress (AmountCompress.compress n) = n := by
  have h := AmountCompress.compressExact_le n
  exact (amount_roundtrip_exact n (by omega) (by omega)).2

/-- the property's own range, as a corollary -/
theorem amount_roundtrip_money (n : Nat) (hn : n ≤ 2100000000000000) :
    AmountCompress.decompress (AmountCompress.compress n) = n :=
  amount_roundtrip n (by omega)

/-- The overflow region is real: `CompressAmount` wraps near 2^64 and the round trip fails there
    (outside the quantifier; no consensus-valid amount is that large). -/
theorem amount_wrap_counterexample :
    AmountCompress.decompress (AmountCompress.compress 18446744073709551615) ≠ 18446744073709551615 := by
  decide

/-! ## scripts -/

/-- `DecompressScript(CompressScript(s)) = s` for EVERY script the compressor accepts (P2KH, P2SH,
    P2PK with a compressed key — never validated —, P2PK with an uncompressed key that `valid65`
    accepted), for every pair of key functions that satisfies `KeyOps.Sound`: expanding the compressed
    form of an accepted 65-byte key returns that key. -/
theorem script_roundtrip (K : KeyOps) (hK : K.Sound) (s c : Bytes) (h : compress K s = some c) :
    decompress K c = .ok s :=
  (compress_spec K s c h).2 hK

/-- Why `ParsePubkey`'s range check matters for C10 (defect F2 of DESIGN §7; gocoin fix 06ea4281,
    DESIGN §14): with the validity test that only checks the curve equation mod p
    (`legacyKeys`), the script `65 04 (p+1) y ac` is compressed and comes back with X = 1. -/
theorem script_roundtrip_needs_canonical :
    let y : Nat := 0x4218f20ae6c646b363db68605822fb14264ca8d2587fdd6fbc750d587e76a7ee
    let s : Bytes := 65 :: 4 :: (beBytes 32 (P + 1) ++ beBytes 32 y) ++ [0xac]
    ∃ c, compress legacyKeys s = some c ∧ decompress legacyKeys c ≠ .ok s ∧
      compress mathKeys s = none := by
  refine ⟨4 :: beBytes 32 (P + 1), ?_, ?_, ?_⟩ <;> decide +kernel

/-- special_prefix_disjoint: a compressed script starts with a type byte `t < 6` and is exactly
    `ComprScrLen[t]` bytes long, while the length prefix `6+len` of a script stored verbatim decodes to
    a value `≥ 6` — the decoder's test `i < 6` can never confuse the two. -/
theorem special_prefix_disjoint (K : KeyOps) (s rest : Bytes) (hl : s.length + 6 < 2 ^ 63) :
    (∀ c, compress K s = some c →
        ∃ t tl, c = t :: tl ∧ t.toNat < 6 ∧ c.length = comprScrLen.getD t.toNat 0 ∧
          (vlen (c ++ rest)).1 = t.toNat) ∧
    (compress K s = none → (vlen (putULe (6 + s.length) ++ rest)).1 ≥ 6) := by
  constructor
  · intro c hc
    obtain ⟨t, tl, rfl, ht, hlen⟩ := (compress_spec K s c hc).1
    refine ⟨t, tl, rfl, ht, hlen, ?_⟩
    rw [List.cons_append, vlen_small t (by omega)]
  · intro _
    rw [vlen_putULe _ (by omega)]
    simp only; omega

/-! ## records -/

/-- recU_roundtrip: `NewUtxoRec(SerializeU(rec)) = rec` for every well-formed record (32-byte txid,
    uint32 height, < 2^32 outputs, uint64 amounts, scripts < 2^63 bytes) — any number of outputs, any
    subset spent (`serializeU r = some b` says at least one is live), any script, any amount. -/
theorem recU_roundtrip (r : Rec) (h : WFRec r) (b : Bytes) (hs : serializeU r = some b) :
    newRecU b = .ok r := by
  rw [← genRec_entU]; exact genRec_ser fmtU r h.fmt b hs

/-- recC_roundtrip: the same in the compressed format, for amounts on which `CompressAmount` does not
    wrap (`WFOutC`) and key functions satisfying `KeyOps.Sound`. -/
theorem recC_roundtrip (K : KeyOps) (hK : K.Sound) (r : Rec) (h : WFRecC r) (b : Bytes)
    (hs : serializeC K r = some b) : newRecC K b = .ok r := by
  rw [← genRec_entC]; exact genRec_ser (fmtC K hK) r h.fmt b hs

/-- oneU_eq: looking up one output in the serialised record gives the same amount, script, height,
    coinbase flag and output count as decoding the whole record and taking that field; nil for a spent
    or out-of-range index. -/
theorem oneU_eq (r : Rec) (h : WFRec r) (b : Bytes) (hs : serializeU r = some b) (vout : Nat) :
    oneU b vout = .ok (outOf r vout) ∧
      (∀ r', newRecU b = .ok r' → oneU b vout = .ok (outOf r' vout)) := by
  rw [← genRec_entU]; exact one_eq fmtU r h.fmt b hs vout

/-- oneC_eq: the same for the compressed format. -/
theorem oneC_eq (K : KeyOps) (hK : K.Sound) (r : Rec) (h : WFRecC r) (b : Bytes)
    (hs : serializeC K r = some b) (vout : Nat) :
    oneC K b vout = .ok (outOf r vout) ∧
      (∀ r', newRecC K b = .ok r' → oneC K b vout = .ok (outOf r' vout)) := by
  rw [← genRec_entC]; exact one_eq (fmtC K hK) r h.fmt b hs vout

/-- The buffer length `le` that `Serialize` computes in its first loop is exactly the number of bytes
    its second loop writes, in both formats (no write past the allocation, no stale tail). -/
theorem serialize_length_exact (K : KeyOps) (r : Rec) (ht : r.txid.length = 32) :
    (∀ b, serializeU r = some b → b.length = sizeU r) ∧
    (∀ b, serializeC K r = some b → b.length = sizeC K r) :=
  ⟨fun b hs => sizeU_eq r ht b hs, fun b hs => sizeC_eq K r ht b hs⟩

/-- `Serialize` returns nil exactly when no output is live (both formats). -/
theorem serialize_nil_iff (K : KeyOps) (r : Rec) :
    (serializeU r = none ↔ anyOut r.outs = false) ∧ (serializeC K r = none ↔ anyOut r.outs = false) := by
  unfold serializeU serializeC
  cases anyOut r.outs <;> simp

/-! ## snapshot file -/

/-- snapshot_roundtrip (framing): reading the file `save` wrote returns the mode bit, height, block
    hash and the records, in order, for 0..n records; trailing bytes are ignored. -/
theorem snapshot_roundtrip (s : Snap) (h : WFSnap s) (extra : Bytes) :
    snapDecode (snapEncode s ++ extra) = some s :=
  snapDecode_snapEncode s h extra

/-- Whole pipeline, plain format: records serialised, written to a snapshot, reloaded and decoded
    with the codec the file's mode bit selects, are the records that went in. -/
theorem snapshot_records_roundtripU (height : Nat) (hash : Bytes) (rs : List Rec) (bs : List Bytes)
    (hh : height < 2 ^ 32) (hhash : hash.length = 32) (hn : rs.length < 2 ^ 64)
    (hwf : ∀ r ∈ rs, WFRec r) (hser : rs.map serializeU = bs.map some)
    (hlen : ∀ b ∈ bs, b.length < 2 ^ 64) :
    ∃ s, snapDecode (snapEncode ⟨false, height, hash, bs⟩) = some s ∧ s.compressed = false ∧
      s.height = height ∧ s.hash = hash ∧ s.recs.map newRecU = rs.map Res.ok := by
  rw [← genRec_entU]
  exact snapshot_records_roundtrip fmtU false height hash rs bs hh hhash hn (fun r hr => (hwf r hr).fmt) hser hlen

/-- Whole pipeline, compressed format. -/
theorem snapshot_records_roundtripC (K : KeyOps) (hK : K.Sound) (height : Nat) (hash : Bytes)
    (rs : List Rec) (bs : List Bytes)
    (hh : height < 2 ^ 32) (hhash : hash.length = 32) (hn : rs.length < 2 ^ 64)
    (hwf : ∀ r ∈ rs, WFRecC r) (hser : rs.map (serializeC K) = bs.map some)
    (hlen : ∀ b ∈ bs, b.length < 2 ^ 64) :
    ∃ s, snapDecode (snapEncode ⟨true, height, hash, bs⟩) = some s ∧ s.compressed = true ∧
      s.height = height ∧ s.hash = hash ∧ s.recs.map (newRecC K) = rs.map Res.ok := by
  rw [← genRec_entC]
  exact snapshot_records_roundtrip (fmtC K hK) true height hash rs bs hh hhash hn (fun r hr => (hwf r hr).fmt) hser hlen


/-! ## the key functions the oracle actually runs -/

/-- `mathKeys` — the arithmetic rendering of ParsePubkey(range check + curve equation) / SetXO
    (`c^((p+1)/4)`, sign by parity) / GetPublicKey that the oracle executes and the harness compares
    with secp256k1 on every run — satisfies `KeyOps.Sound`: Fermat's little theorem + no zero divisors in
    Z/p, with the primality of p = 2^256 - 2^32 - 977 supplied by C08's Pratt certificate
    (`GocoinV.C08.secp_p_prime`, imported). No hypothesis is left. -/
theorem mathKeys_sound_unconditional : mathKeys.Sound := by
  intro pk hlen h0 hv
  simp only [mathKeys, mathValid65, Bool.and_eq_true, decide_eq_true_eq, beq_iff_eq] at hv
  obtain ⟨⟨hx, hy⟩, hcurve⟩ := hv
  have hform : pk = [4] ++ ((pk.drop 1).take 32 ++ pk.drop 33) := by
    have ht : pk.take 1 = [4] := by
      rw [eq_of_len1 (pk.take 1) (by simp; omega), at_take _ _ _ (by omega), h0]
    have := split3 pk 1 32
    rw [ht] at this; exact this
  have hYall : (pk.drop 33).take 32 = pk.drop 33 := List.take_of_length_le (by simp; omega)
  rw [hYall] at hy hcurve
  have hXlen : ((pk.drop 1).take 32).length = 32 := by simp; omega
  have hYlen : (pk.drop 33).length = 31 + 1 := by simp; omega
  have hpar : beVal (pk.drop 33) % 2 = (at' pk 64).toNat % 2 := by
    rw [beVal_mod2 _ 31 hYlen, at_drop]
  generalize hb : at' pk 64 = b at *
  have hband : (b &&& 1).toNat = b.toNat % 2 := by
    rw [UInt8.toNat_and]; exact Nat.and_one_is_mod _
  simp only [mathKeys, mathExpand33]
  have hvX : ((((4 ||| (b &&& 1)) - 2) :: (pk.drop 1).take 32).drop 1).take 32 = (pk.drop 1).take 32 := by
    simp only [List.drop_succ_cons, List.drop_zero]
    exact List.take_of_length_le (by omega)
  rw [hvX]
  have hsel := ySel_eq (beVal ((pk.drop 1).take 32)) (beVal (pk.drop 33)) hx hy hcurve
  unfold ySel at hsel
  have hodd : (at' (((4 ||| (b &&& 1)) - 2) :: (pk.drop 1).take 32) 0 == 0x03)
      = (beVal (pk.drop 33) % 2 == 1) := by
    simp only [at', List.getD, List.getElem?_cons_zero, Option.getD_some]
    rcases and_one_cases b with hb0 | hb1
    · rw [hb0] at hband ⊢
      have : beVal (pk.drop 33) % 2 = 0 := by rw [hpar, ← hband]; rfl
      rw [this]; decide
    · rw [hb1] at hband ⊢
      have : beVal (pk.drop 33) % 2 = 1 := by rw [hpar, ← hband]; rfl
      rw [this]; decide
  rw [hodd]
  simp only at hsel ⊢
  rw [hsel, Nat.mod_eq_of_lt hx]
  have e1 := beBytes_beVal ((pk.drop 1).take 32)
  have e2 := beBytes_beVal (pk.drop 33)
  rw [hXlen] at e1
  rw [hYlen] at e2
  rw [e1, e2]
  simpa using hform.symm

/-- The field modulus the model computes with is prime (C08's certificate, about the very constant
    `ScriptCompress.P`). -/
theorem field_modulus_prime : Nat.Prime P := by
  unfold P
  exact GocoinV.C08.secp_p_prime

/-- The compressed format is lossless for the model instance that is tied to the code: script round
    trip, whole-record round trip and single-output lookup — unconditionally. -/
theorem compressed_lossless_mathKeys :
    (∀ s c, compress mathKeys s = some c → decompress mathKeys c = .ok s) ∧
    (∀ r b, WFRecC r → serializeC mathKeys r = some b →
      newRecC mathKeys b = .ok r ∧ ∀ vout, oneC mathKeys b vout = .ok (outOf r vout)) :=
  ⟨fun s c h => (compress_spec mathKeys s c h).2 mathKeys_sound_unconditional,
   fun r b hw hs => ⟨recC_roundtrip mathKeys mathKeys_sound_unconditional r hw b hs,
     fun vout => (oneC_eq mathKeys mathKeys_sound_unconditional r hw b hs vout).1⟩⟩

/-! ## non-vacuity: the hypotheses of the theorems above are satisfiable on concrete data -/

/-- amount_roundtrip_exact: its hypotheses hold for 21·10^14 and for the largest amount with e = 9 -/
example : AmountCompress.compressExact 2100000000000000 < 2 ^ 64 ∧
    AmountCompress.compressExact 18000000000000000000 < 2 ^ 64 := by decide

/-- a `KeyOps` that accepts exactly the generator point G and is `Sound` (the uncompressed-key
    branch of `script_roundtrip` is reachable under its hypothesis) -/
def g65 : Bytes := 4 :: (beBytes 32 0x79be667ef9dcbbac55a06295ce870b07029bfcdb2dce28d959f2815b16f81798 ++
  beBytes 32 0x483ada7726a3c4655da4fbfc0e1108a8fd17b448a68554199c47d08ffb10d4b8)
def kG : KeyOps := { valid65 := fun k => k == g65, expand33 := fun _ => g65 }

example : kG.Sound := by
  intro pk _ _ hv
  have : pk = g65 := by simpa [kG] using hv
  subst this; rfl

example : (compress kG (65 :: g65 ++ [0xac])).isSome = true ∧
    compress kG (65 :: g65 ++ [0xac]) = some (4 :: (g65.drop 1).take 32) := by
  decide +kernel

/-- the model's own arithmetic key functions accept G and expand its compressed form back to G -/
example : mathKeys.valid65 g65 = true ∧
    mathKeys.expand33 (((4 ||| (at' g65 64 &&& 1)) - 2) :: (g65.drop 1).take 32) = g65 := by
  decide +kernel

/-- P2KH and P2SH are accepted by the compressor for any `KeyOps` -/
example (K : KeyOps) : (compress K ([0x76, 0xa9, 0x14] ++ List.replicate 20 7 ++ [0x88, 0xac])).isSome
    ∧ (compress K ([0xa9, 0x14] ++ List.replicate 20 7 ++ [0x87])).isSome := by
  constructor <;> rfl

def exRec : Rec :=
  ⟨List.replicate 32 0xab, 502809, true,
    [none, some ⟨546, [0x76, 0xa9, 0x14] ++ List.replicate 20 7 ++ [0x88, 0xac]⟩, none, some ⟨0, [0x6a]⟩]⟩

/-- recU_roundtrip / recC_roundtrip / oneU_eq / oneC_eq: a sparse coinbase record satisfies the
    hypotheses in both formats -/
example : WFRec exRec ∧ (serializeU exRec).isSome ∧ WFRecC exRec ∧ (serializeC kG exRec).isSome := by
  exact ⟨⟨by decide, by decide, by decide, wfOuts_of_all _ (by decide)⟩, by decide,
    ⟨by decide, by decide, by decide, wfOutsC_of_all _ (by decide)⟩, by decide⟩

/-- snapshot_roundtrip: hypotheses hold for an empty snapshot and for one with two records -/
example : WFSnap ⟨true, 840000, List.replicate 32 1, []⟩ ∧
    WFSnap ⟨false, 0, List.replicate 32 0, [[1, 2, 3], []]⟩ := by
  exact ⟨⟨by decide, by decide, by decide, by decide⟩, ⟨by decide, by decide, by decide, by decide⟩⟩

/-! ## spend and undo: a stored record survives a partial spend that is undone (UndoBlockTxs)

`UnspentDB.del` rewrites a record without the outputs a block spends; `UndoBlockTxs` merges the undo record (the
spent outputs only) with what is left and serialises the result again. "Returned unchanged after being stored" covers
this path too: the bytes in the map after the undo are the bytes of the original record. (The Go code must read the
old record's scripts BEFORE it frees the old record's memory — that ordering is an effect the model does not have;
it is checked on the real code with the client's recycling allocator and a poisoning allocator, stream `undo`.) -/

/-- **undo_restores_record.** For every record and every spend mask (any subset of the outputs, mask shorter or
    longer than the record): merging the undo record with the partly spent record gives back the record. -/
theorem undo_restores_record (mask : List Bool) (r : Rec) :
    mergeUndo (undoOf mask r) (some (spend mask r)) = some r :=
  undo_restores_rec mask r

/-- **undo_restores_deleted.** When the block spent everything that was live (`Serialize` returned nil and the
    record was deleted from the map), the undo record alone is the original record. -/
theorem undo_restores_deleted (mask : List Bool) (r : Rec) (h : serializeU (spend mask r) = none) :
    mergeUndo (undoOf mask r) none = some r := by
  have ha : anyOut (spendOuts mask r.outs) = false := by
    unfold serializeU at h
    cases hh : anyOut (spend mask r).outs with
    | false => simpa [spend] using hh
    | true => simp [hh] at h
  simp [mergeUndo, undoOf, undoOuts_of_all_spent mask r.outs ha]

example : ∃ (mask : List Bool) (r : Rec), serializeU (spend mask r) = none ∧ (serializeU r).isSome :=
  ⟨[true], ⟨List.replicate 32 0, 7, false, [some ⟨1, [0x51]⟩]⟩, by decide, by decide⟩

/-- **undo_restores_bytesU.** Byte level, plain format: the partly spent record as stored (`b`) decodes, and the
    merge of the undo record with that decoded record serialises to exactly the bytes of the original record. -/
theorem undo_restores_bytesU (mask : List Bool) (r : Rec) (h : WFRec r) (b : Bytes)
    (hs : serializeU (spend mask r) = some b) :
    ∃ old, newRecU b = .ok old ∧ (mergeUndo (undoOf mask r) (some old)).bind serializeU = serializeU r := by
  rw [← genRec_entU]; exact undo_restores_bytes fmtU mask r h.fmt b hs

/-- **undo_restores_bytesC.** The same in the compressed format. -/
theorem undo_restores_bytesC (K : KeyOps) (hK : K.Sound) (mask : List Bool) (r : Rec) (h : WFRecC r) (b : Bytes)
    (hs : serializeC K (spend mask r) = some b) :
    ∃ old, newRecC K b = .ok old ∧ (mergeUndo (undoOf mask r) (some old)).bind (serializeC K) = serializeC K r := by
  rw [← genRec_entC]; exact undo_restores_bytes (fmtC K hK) mask r h.fmt b hs

example : ∃ (mask : List Bool) (r : Rec), WFRec r ∧ (serializeU (spend mask r)).isSome ∧ spend mask r ≠ r :=
  ⟨[true, false], ⟨List.replicate 32 0, 7, false, [some ⟨1, [0x51]⟩, some ⟨2, []⟩]⟩,
   ⟨by decide, by decide, by decide, by
      intro o ho x hx
      simp at ho
      rcases ho with rfl | rfl <;> (injection hx with hx; subst hx; exact ⟨by decide, by decide⟩)⟩,
   by decide, by decide⟩

/-! ## the UTXO.db loader's ring of pack buffers (constants and shape regenerated from NewUnspentDb by go/cmd/gen_c10) -/

/-- **loader_ring_safe.** With the `BUFFERS_CNT` / `CHANNEL_SIZE` of the current source: in every state the file reader
    and the single map-filling goroutine can reach — under ANY schedule — the buffer the reader is filling
    (`sent % BUFFERS_CNT`) holds no pack that is still queued in the channel or being walked by the consumer. Hence the
    loader never overwrites records it has not inserted yet, whatever the number of records in the snapshot. (Needs
    `CHANNEL_SIZE + 2 ≤ BUFFERS_CNT`: queued packs + the one being walked + the one being filled.) -/
theorem loader_ring_safe (s : Ring) (h : RingReach Gen.UtxoLoaderFacts.channelSize s) :
    s.Safe Gen.UtxoLoaderFacts.buffersCnt :=
  ring_safe_of _ _ (by decide) h

example : RingReach Gen.UtxoLoaderFacts.channelSize ⟨0, 0, 0⟩ := .init

/-- a mid-run state: five packs sent, one received (being walked), none finished — the channel of 4 is full, the reader
    is about to fill buffer 5 -/
example : RingReach 4 ⟨5, 1, 0⟩ :=
  ringReach_fill 4 (by decide) 4 (by decide)

/-- **loader_ring_needs_two_spare_counterexample.** `CHANNEL_SIZE = BUFFERS_CNT - 1` is not enough: with 6 buffers and a
    channel of 5 the reader reaches pack 6 (buffer 0 again) while the consumer is still walking pack 0. -/
theorem loader_ring_needs_two_spare_counterexample : ∃ s : Ring, RingReach 5 s ∧ ¬ s.Safe 6 := by
  exact ⟨_, ringReach_fill 5 (by decide) 5 (by decide), fun hs => hs 0 (Nat.le_refl _) (by decide) (by decide)⟩

/-! ## NewUnspentDb as a whole: UTXO.db, the retry with UTXO.old, the empty start (Model/UtxoLoad.lean; what the source
    does with `rec_idx`, `pool_idx`, `db.dataSize` and the maps between two attempts is `Gen.UtxoLoaderFacts.retryShape`,
    regenerated by go/cmd/gen_c10) -/

/-- **load_fallback_exact.** With the retry as the current source writes it: whatever the two files contain (either may be
    missing, cut anywhere, or garbage — PROVIDED every `make(map, …)` / `Memory_Malloc` the loader asks for returns; what it
    asks for is bounded by `load_memory_bounded` below), `NewUnspentDb` ends with exactly the content of ONE snapshot file — the records
    (in file order), mode bit, height and hash of UTXO.db if it can be read to its end, else of UTXO.old if that can, else
    an empty database in the configured format — and with `totalTxs` / `dataSize` equal to the number / total length of
    these records. Nothing an abandoned attempt has parsed (records waiting in the unsent pack, packs already inserted,
    counters) is left in the result. -/
theorem load_fallback_exact (db old : Option Bytes) (c : Bool) :
    loadDir Gen.UtxoLoaderFacts.retryShape db old c = loadedOf (loadDirSpec db old c) :=
  loadDir_exact _ ⟨by decide, rfl, rfl, rfl, rfl⟩ db old c

/-- the same for any loader geometry and any source that rewinds the index in the pack, zeroes the size counter and
    re-makes the maps between two attempts (and zeroes the record counter) (`pool_idx` need not be rewound, stale buffer contents do not matter) -/
theorem load_fallback_exact_of_cleans (sh : RetryShape) (h : sh.Cleans) (db old : Option Bytes) (c : Bool) :
    loadDir sh db old c = loadedOf (loadDirSpec db old c) :=
  loadDir_exact sh h db old c

example : (⟨6, 65536, true, false, true, true, true, false, false⟩ : RetryShape).Cleans := ⟨by decide, rfl, rfl, rfl, rfl⟩

/-- **truncated_snapshot_detected.** A snapshot file cut at ANY position before its end (inside the header, between two
    records, inside a length prefix, inside a record) is not readable: the loader reaches `fatal_error`, it never takes a
    prefix of the records for the snapshot. -/
theorem truncated_snapshot_detected (s : Snap) (h : WFSnap s) (k : Nat) (hk : k < (snapEncode s).length) :
    snapDecode ((snapEncode s).take k) = none := by
  obtain ⟨hh, hhash, hcnt, hrecs⟩ := h
  by_cases h48 : k < 48
  · unfold snapDecode
    have : ((snapEncode s).take k).length < 48 := by simp; omega
    simp only [this, ↓reduceIte]
  · unfold snapEncode at hk ⊢
    generalize hu : s.height + (if s.compressed then 2 ^ 63 else 0) = u at hk ⊢
    have hu64 : u < 2 ^ 64 := by subst hu; split <;> omega
    simp only [List.length_append, leBytes_length, hhash] at hk
    have e : (leBytes 8 u ++ (s.hash ++ (leBytes 8 s.recs.length ++ encRecs s.recs))).take k
        = leBytes 8 u ++ (s.hash ++ (leBytes 8 s.recs.length ++ (encRecs s.recs).take (k - 48))) := by
      rw [List.take_append, List.take_of_length_le (by simp; omega), List.take_append,
        List.take_of_length_le (by simp [hhash]; omega), List.take_append, List.take_of_length_le (by simp [hhash]; omega)]
      simp only [leBytes_length, hhash]
      have : k - 8 - 32 - 8 = k - 48 := by omega
      rw [this]
    rw [e, snapDecode_frame u _ _ _ hu64 hcnt hhash, decRecs_take_none s.recs hrecs (k - 48) (by omega)]
    rfl

/-- **truncated_snapshot_falls_back.** UTXO.db = the snapshot `b` that `save` wrote, cut anywhere; UTXO.old = the previous
    snapshot `a`, intact: the database is opened with exactly `a` — none of the records of `b` that were readable before
    the cut. -/
theorem truncated_snapshot_falls_back (a b : Snap) (ha : WFSnap a) (hb : WFSnap b) (k : Nat)
    (hk : k < (snapEncode b).length) (c : Bool) :
    loadDir Gen.UtxoLoaderFacts.retryShape (some ((snapEncode b).take k)) (some (snapEncode a)) c = loadedOf a := by
  rw [load_fallback_exact]
  have h2 := snapDecode_snapEncode a ha []
  rw [List.append_nil] at h2
  simp [loadDirSpec, truncated_snapshot_detected b hb k hk, h2]

example : WFSnap ⟨true, 7, List.replicate 32 1, [[1, 2, 3]]⟩ :=
  ⟨by decide, by decide, by decide, by decide⟩

/-- **load_retry_needs_rewind_counterexample.** The rewind is needed: with a loader that keeps `rec_idx` across the retry
    (everything else as in the source), UTXO.db = two records with the last byte missing and UTXO.old = one record, the
    database opened from UTXO.old also holds the first record of the damaged UTXO.db. -/
theorem load_retry_needs_rewind_counterexample :
    (loadDir ⟨6, 65536, false, false, true, true, true, true, true⟩
      (some ((snapEncode ⟨false, 2, List.replicate 32 2, [[0xb1], [0xb2]]⟩).take 51))
      (some (snapEncode ⟨false, 1, List.replicate 32 1, [[0xa1]]⟩)) false).snap.recs = [[0xb1], [0xa1]] := by
  decide +kernel

/-- **load_memory_bounded.** With the two guards as the current source writes them (`retryShape.boundsCount`,
    `.boundsLen`, regenerated; fix a45f580a): whatever a file contains, the record count the loader pre-sizes its maps for
    is at most the file's length, every length it passes to `Memory_Malloc` is at most the file's length (in particular
    below 2^63 — `int(le)` is not negative — for every file that can exist), and all these lengths together are at most
    twice the file's length (the records that are there, plus at most one request whose `io.ReadFull` then fails). So the
    hypothesis under which `load_fallback_exact` speaks — the allocations return — is one about memory of the order of the
    file, not about the file's contents. -/
theorem load_memory_bounded (f : Bytes) :
    (∀ c, (memAsk Gen.UtxoLoaderFacts.retryShape (some f)).mapsFor = some c → c ≤ f.length) ∧
    (∀ le ∈ (memAsk Gen.UtxoLoaderFacts.retryShape (some f)).mallocs, le ≤ f.length) ∧
    (memAsk Gen.UtxoLoaderFacts.retryShape (some f)).mallocs.sum ≤ 2 * f.length :=
  memAsk_bounded _ rfl rfl f

/-- **load_requests_of_readable.** The walk `memAsk` is the loader's: on a file that can be read to its end the requests are
    the header's count and exactly the lengths of the records that are loaded (`snapDecode`), in order. -/
theorem load_requests_of_readable (f : Bytes) (s : Snap) (h : snapDecode f = some s) :
    memAsk Gen.UtxoLoaderFacts.retryShape (some f) = ⟨some s.recs.length, s.recs.map List.length⟩ :=
  memAsk_of_decode _ f s h

/-- the 97-byte file of the finding: header with count 1, length prefix `ff 00 00 00 00 00 00 00 80` (2^63), 40 bytes -/
def garbageLenFile : Bytes :=
  List.replicate 40 0 ++ [1, 0, 0, 0, 0, 0, 0, 0] ++ [0xff, 0, 0, 0, 0, 0, 0, 0, 0x80] ++ List.replicate 40 0

/-- **load_unbounded_length_counterexample.** The guard is needed: a loader without `if le > file_size` (everything else as
    in the source) asks `Memory_Malloc` for 2^63 bytes on a 97-byte file (`int(le)` < 0: `makeslice: len out of range`, out
    of `NewUnspentDb`, no fall-back to UTXO.old — seen on the real code before fix a45f580a); with the guard it asks for
    nothing and fails over. -/
theorem load_unbounded_length_counterexample :
    memAsk { Gen.UtxoLoaderFacts.retryShape with boundsLen := false } (some garbageLenFile) = ⟨some 1, [2 ^ 63]⟩ ∧
    memAsk Gen.UtxoLoaderFacts.retryShape (some garbageLenFile) = ⟨some 1, []⟩ ∧
    (loadDir Gen.UtxoLoaderFacts.retryShape (some garbageLenFile)
      (some (snapEncode ⟨false, 7, List.replicate 32 1, [[0xa1]]⟩)) false).snap = ⟨false, 7, List.replicate 32 1, [[0xa1]]⟩ := by
  decide +kernel

/-- **load_unbounded_count_counterexample.** Likewise the header's count: without `if u64 > file_size` a 48-byte file makes
    the loader pre-size its 256 maps for 2^40 records (`fatal error: out of memory` on the real code before the fix). -/
theorem load_unbounded_count_counterexample :
    (memAsk { Gen.UtxoLoaderFacts.retryShape with boundsCount := false }
      (some (List.replicate 40 0 ++ [0, 0, 0, 0, 0, 1, 0, 0]))).mapsFor = some (2 ^ 40) ∧
    (memAsk Gen.UtxoLoaderFacts.retryShape (some (List.replicate 40 0 ++ [0, 0, 0, 0, 0, 1, 0, 0]))).mapsFor = none := by
  decide +kernel

/-! ## records on their way through shared state (Model/UtxoShared.lean; the facts are regenerated from the source) -/

/-- **static_decode_eq_fresh.** The pooled decoders (`NewUtxoRecStatic`, `NewUtxoRecStaticU`: one package-level record,
    one shared slot list, one shared pool of outputs), with `OutsList` clearing what the current source clears
    (`Gen.UtxoSharedFacts.poolClear`): whatever the pool holds from the records decoded before — any contents, any
    length, any cursor — a history of records, plain and compressed in any order, decodes to exactly what the allocating
    decoder `NewUtxoRec` returns for each of them. -/
theorem static_decode_eq_fresh (K : KeyOps) (p : Pool) (l : List (Bool × Bytes)) :
    staticHistory Gen.UtxoSharedFacts.poolClear K p l = freshHistory K l :=
  staticHistory_eq_fresh _ (by decide) K l p

/-- with the round trip: a serialised well-formed record comes back unchanged from the pooled decoder, whatever was
    decoded before (plain format; `static_record_roundtripC` is the compressed one) -/
theorem static_record_roundtripU (p : Pool) (r : Rec) (h : WFRec r) (b : Bytes) (hs : serializeU r = some b) :
    (newRecStaticU Gen.UtxoSharedFacts.poolClear p b).1 = .ok r := by
  rw [newRecStaticU_fst _ (by decide)]
  exact recU_roundtrip r h b hs

/-- static_record_roundtripU: the hypotheses hold for the sparse coinbase record `exRec`, and the pool may be dirty:
    slots 0, 2 and 3 still hold outputs of an earlier record -/
example : ∃ (p : Pool) (b : Bytes), WFRec exRec ∧ serializeU exRec = some b ∧ p.slots.any Option.isSome = true ∧
    (newRecStaticU Gen.UtxoSharedFacts.poolClear p b).1 = .ok exRec :=
  ⟨⟨[some ⟨1, [1]⟩, none, some ⟨2, [2]⟩, some ⟨3, []⟩, none], 3⟩, _,
    ⟨by decide, by decide, by decide, wfOuts_of_all _ (by decide)⟩, rfl, by decide, by decide +kernel⟩

theorem static_record_roundtripC (K : KeyOps) (hK : K.Sound) (p : Pool) (r : Rec) (h : WFRecC r) (b : Bytes)
    (hs : serializeC K r = some b) : (newRecStaticC Gen.UtxoSharedFacts.poolClear K p b).1 = .ok r := by
  rw [newRecStaticC_fst _ (by decide)]
  exact recC_roundtrip K hK r h b hs

/-- **static_decode_cursor_clear_counterexample.** Clearing only as many slots as the previous record had unspent
    outputs (the pool cursor) is not enough: from a fresh pool, a record of 10 outputs of which only #7 is left, then a
    record of 10 outputs of which only #0 is left — the second comes back with output #7 unspent as well. -/
theorem static_decode_cursor_clear_counterexample :
    ∃ (a b : Rec) (ba bb : Bytes), WFRec a ∧ WFRec b ∧ serializeU a = some ba ∧ serializeU b = some bb ∧
      staticHistory ⟨false, true⟩ kG (Pool.fresh 16) [(false, ba), (false, bb)] ≠ [.ok a, .ok b] ∧
      freshHistory kG [(false, ba), (false, bb)] = [.ok a, .ok b] := by
  refine ⟨⟨List.replicate 32 0xaa, 100, false, (List.replicate 10 none).set 7 (some ⟨5000, [0x51]⟩)⟩,
    ⟨List.replicate 32 0xbb, 101, false, (List.replicate 10 none).set 0 (some ⟨7000, [0x52]⟩)⟩, _, _, ?_, ?_, rfl, rfl, ?_, ?_⟩
  · exact ⟨by decide, by decide, by decide, wfOuts_of_all _ (by decide)⟩
  · exact ⟨by decide, by decide, by decide, wfOuts_of_all _ (by decide)⟩
  · decide +kernel
  · decide +kernel

/-- **read_vlen_any_chunking.** `btc.ReadVLen` as the current source reads (`Gen.UtxoSharedFacts.readShape`), from a
    reader whose every `Read` may stop after any number of bytes ≥ 1 (`caps` arbitrary — every position of the length
    prefix relative to the refills of a read-ahead buffer): it returns the value `ReadVLen` returns on the unread rest of
    the file and leaves the reader right after the prefix, or both fail. -/
theorem read_vlen_any_chunking (data : Bytes) (caps : List Nat) :
    (readVLen data = none ∧ readVLenRd Gen.UtxoSharedFacts.readShape ⟨data, caps⟩ = none) ∨
      (∃ v rest caps', readVLen data = some (v, rest) ∧
        readVLenRd Gen.UtxoSharedFacts.readShape ⟨data, caps⟩ = some (v, ⟨rest, caps'⟩)) :=
  readVLenRd_spec _ (by decide) ⟨data, caps⟩

/-- **records_any_chunking.** The record loop of `NewUnspentDb` (length prefix through `ReadVLen`, record through the
    read the source uses) on such a reader: for every file contents, every record count and EVERY way of cutting the file
    into reads it yields exactly the records the framing model `decRecs` (the one `snapshot_roundtrip` and
    `load_fallback_exact` are about) finds in the file — or fails exactly when that fails. -/
theorem records_any_chunking (n : Nat) (data : Bytes) (caps : List Nat) :
    decRecsRd Gen.UtxoSharedFacts.readShape n ⟨data, caps⟩ = decRecs n data :=
  decRecsRd_eq _ (by decide) (by decide) n ⟨data, caps⟩

/-- **read_vlen_short_read_counterexample.** With a plain `Read` for the length bytes the value depends on the chunking:
    the prefix fd 2c 01 (300) followed by a record, served as marker | one byte | rest, is read as 44. -/
theorem read_vlen_short_read_counterexample :
    (readVLenRd ⟨true, false, true⟩ ⟨[0xfd, 0x2c, 0x01, 7, 7, 7], [0, 0]⟩).map Prod.fst = some 44 ∧
      (readVLen [0xfd, 0x2c, 0x01, 7, 7, 7]).map Prod.fst = some 300 := by
  decide

/-- **undo_entry_survives_commit.** The undo entry `commitTxs` makes for a spent output (its script is `len` bytes at
    `off` of the stored record in heap cell `cell`), made as the current source makes it
    (`Gen.UtxoSharedFacts.undoOwnsScript`): whatever `db.commit()` and the allocator do to the cells of the UTXO heap
    before the undo file is written — free, poison, reuse for another record, any number of times — the entry still reads
    as the script that was stored. -/
theorem undo_entry_survives_commit (h : Heap) (evs : List HeapEv) (cell off len : Nat) :
    (undoEntry Gen.UtxoSharedFacts.undoOwnsScript h cell off len).read (evs.foldl HeapEv.apply h) =
      ((h cell).drop off).take len :=
  undoEntry_owned h evs cell off len

/-- **undo_entry_alias_counterexample.** An entry that keeps the slice `UnspentGet` returned reads another record's
    bytes once the cell has been freed and reused. -/
theorem undo_entry_alias_counterexample :
    ∃ (h : Heap) (e : HeapEv), (undoEntry false h 0 1 2).read (e.apply h) ≠ ((h 0).drop 1).take 2 :=
  ⟨fun _ => [1, 2, 3], ⟨0, [9, 9, 9]⟩, by decide⟩

end GocoinV.Props.C10
