/-
  Props.C16 — the block store returns exactly the blocks that were stored (lib/chain/blockdb.go,
  lib/others/snappy). Property theorems about the executable models `Model/BlockDB.lean` and
  `Model/Snappy.lean` (the definitions `oracle_c16` runs and the harness compares with the Go code).
  The durable-map specification (`Spec/BlockStoreMap.lean`) reads the state of the store under test where it decides that
  no claim is made: `forgets`, `panics` and `keyLost` are functions of the model state.
  `Gen/BlockDBFacts.lean` is regenerated from the source on every run; `fixed_code` below breaks when
  LoadBlockIndex stops advancing `maxidxfilepos` past invalid-flagged records.
-/
import GocoinV.Proofs.C16Inv
import GocoinV.Proofs.C16Snappy
import GocoinV.Proofs.C16Walk
import GocoinV.Proofs.C16Main
import GocoinV.Proofs.C16Live
import GocoinV.Proofs.C16Listing
import GocoinV.Proofs.C16SnappyRT
import GocoinV.Proofs.C16Trust
import GocoinV.Proofs.C16Window
import GocoinV.Proofs.C16Top
import GocoinV.Proofs.C16Stale
import GocoinV.Proofs.C16Files
import GocoinV.Proofs.C16NC
import GocoinV.Proofs.C16Hist
namespace GocoinV.Props.C16
open GocoinV GocoinV.BlockDB

/-! ## the F5 witness (DESIGN §7): LoadBlockIndex that does not advance past an invalid record -/

/-- a model environment with trivial codec / hash (the counterexample does not depend on them) -/
def toyEnv (adv : Bool) : Env := { enc := id, dec := some, hash := fun h => h.take 32, advInvalid := adv }
def mkBlock (tag : UInt8) (n : Nat) : Bytes := tag :: List.replicate (n - 1) 7
def blkA := mkBlock 1 81
def blkB := mkBlock 2 82
def blkC := mkBlock 3 83
def optsW : Opts := ⟨2, 0, 0, false, false⟩
def hashW (b : Bytes) : Bytes := (b.take 80).take 32
/-- add A, add B, flush, mark A invalid, close; restart; add C; close; restart; get B -/
def witness : List Op :=
  [.reopen optsW, .add (hashW blkA) 10 1 false blkA, .add (hashW blkB) 11 2 false blkB, .idle, .invalid (hashW blkA), .close,
   .reopen optsW, .add (hashW blkC) 12 3 false blkC, .close, .reopen optsW, .get (hashW blkB)]

/-- For the model of the code without the fix F5 (`advInvalid = false`): block B was stored, never marked
    invalid, nothing was configured to expire — and after the second restart it is not in the index any more
    (C's record was written over B's). This is the negation of `reopen_index` on a concrete history. -/
theorem reopen_index_counterexample :
    (run (toyEnv false) init witness).2.getLast? = some (.getErr .notInIndex false) := by decide +kernel

/-- The same history on the model of the fixed code returns B's bytes. -/
theorem reopen_index_witness_fixed :
    (run (toyEnv true) init witness).2.getLast? = some (.data blkB false) := by decide +kernel

/-- The regenerated structural fact: the current source advances past invalid records. Everything below that
    speaks about "the fixed code" is stated for environments that agree with this generated constant. -/
theorem fixed_code : Gen.BlockDBFacts.advInvalid = true := by decide

/-- The regenerated constants agree: `writeOne` advances the index position by the same number of bytes (`writeRecSize`, its
    `db.maxidxfilepos += n`) as LoadBlockIndex does per record (`recSize`, also the length of its `var b [n]byte` — checked by
    the generator). The model's `writeRecord` uses `RECSIZE = recSize` for both. -/
theorem write_advance_is_record_size : Gen.BlockDBFacts.writeRecSize = Gen.BlockDBFacts.recSize ∧ RECSIZE = 136 := by decide

/-! ## reopen_index, the position part: appending never overwrites a stored record -/

/-- After ANY history of add/get/length/trusted/invalid/idle/close/reopen on the fixed code:
    the index file consists of whole 136-byte records; while the store is open its append position is the end
    of the index file (so the next record is written behind every stored one — none is overwritten); and every
    record position kept in memory (`ipos`, where flag bytes are rewritten) is the start of a whole record
    inside the file. -/
theorem append_position_invariant (env : Env) (hfix : env.advInvalid = Gen.BlockDBFacts.advInvalid) (ops : List Op) :
    let s := (run env init ops).1
    s.fs.idx.length % 136 = 0 ∧
    (s.isOpen = true → s.maxidxfilepos = s.fs.idx.length) ∧
    (∀ k r p, AL.get s.index k = some r → r.ipos = some p → p + 136 ≤ s.fs.idx.length ∧ p % 136 = 0) := by
  have h := run_inv env (hfix.trans fixed_code) ops init init_inv
  exact ⟨h.len_mod, h.pos, h.ipos⟩

example : ∃ env : Env, env.advInvalid = Gen.BlockDBFacts.advInvalid := ⟨toyEnv true, rfl⟩

/-- A restart (NewBlockDBExt + LoadBlockIndex) on ANY directory whose index file is a whole number of records —
    whatever their flags — puts the append position at the end of the file and gives every listed block the true
    offset range of a whole record. -/
theorem reopen_append_position (env : Env) (hfix : env.advInvalid = Gen.BlockDBFacts.advInvalid)
    (fs : FS) (o : Opts) (hm : fs.idx.length % 136 = 0) :
    let s := (reopen env fs o).1
    s.maxidxfilepos = fs.idx.length ∧ s.fs.idx = fs.idx ∧
    (∀ k r p, AL.get s.index k = some r → r.ipos = some p → p + 136 ≤ fs.idx.length ∧ p % 136 = 0) := by
  obtain ⟨⟨_, hp, hi, _⟩, ho⟩ := reopen_inv env (hfix.trans fixed_code) fs o hm
  rw [reopen_fs_idx] at hp hi
  exact ⟨hp ho, reopen_fs_idx env fs o, hi⟩

example : ({} : FS).idx.length % 136 = 0 := by decide

/-- `writeOne`'s record write: on a state satisfying the invariant the index file grows by exactly the
    136-byte record, appended at its end (the old contents are a prefix of the new file). -/
theorem write_appends_record (s : State) (b2w : B2W) (r0 : Rec) (cbts : Bytes)
    (hpos : s.maxidxfilepos = s.fs.idx.length) (hb : b2w.data.length ≥ 80) :
    ∃ record : Bytes, record.length = 136 ∧ (writeRecord s b2w r0 cbts).fs.idx = s.fs.idx ++ record := by
  refine ⟨mkRecord (flagsOf s.opts.compress r0.trusted) s.maxdatfileidx b2w.data.length b2w.height
    s.maxdatfilepos cbts.length b2w.txcount b2w.data, mkRecord_length _ _ _ _ _ _ _ _ hb, ?_⟩
  unfold writeRecord
  simp only [hpos, pwrite_at_end]

example : ∃ s : State, s.maxidxfilepos = s.fs.idx.length := ⟨init, rfl⟩

/-! ## reopen_index, the listing part (record level) -/

/-- After a restart on ANY directory, LoadBlockIndex's walk callback sees exactly the full 136-byte records of
    the index file that are not flagged invalid, once each, in file order, with hash / header / height / size /
    transaction count decoded from the record (`walkOf`). Holds for the fixed and the unfixed code alike. -/
theorem reopen_lists_noninvalid_records (env : Env) (fs : FS) (o : Opts) :
    (reopen env fs o).2 = .walk (((chunks (fs.idx.length / 136 + 1) fs.idx).filter (fun b => !isInvalidRec b)).map (walkOf env)) :=
  reopen_walk env fs o

/-- Record round trip: the record `writeOne` writes for a block (any compression / trusted flag, any file
    position) is not flagged invalid and is listed at the next restart as (hash of the block's header, header,
    the height given to BlockAdd, the block's uncompressed size, its transaction count). -/
theorem written_record_listed (env : Env) (c tr : Bool) (di ol he fp bl tx : Nat) (data : Bytes)
    (hd : data.length ≥ 80) (h1 : he < 2^32) (h2 : ol < 2^32) (h3 : tx < 2^32) :
    isInvalidRec (mkRecord (flagsOf c tr) di ol he fp bl tx data) = false ∧
    walkOf env (mkRecord (flagsOf c tr) di ol he fp bl tx data)
      = ⟨env.hash (data.take 80), data.take 80, he, ol, tx⟩ :=
  walkOf_mkRecord env c tr di ol he fp bl tx data h1 h2 h3

example := written_record_listed (toyEnv true) true false 0 81 5 0 81 1 blkA (by decide) (by decide) (by decide) (by decide)

/-! ## snappy: emit-level lemmas (each emitted element extends the decoded prefix correctly) -/

/-- The bytes written by `emitLiteral lit` (1..65536 bytes), followed by anything, make one decoder step
    append exactly `lit` and continue with what follows. -/
theorem snappy_literal_step (dLen : Nat) (lit rest : Bytes) (dst : Array UInt8)
    (h1 : 1 ≤ lit.length) (h2 : lit.length ≤ 65536) (hroom : dst.size + lit.length ≤ dLen) :
    Snappy.decodeStep dLen (Snappy.emitLiteral lit ++ rest) dst = .ok (rest, dst ++ lit.toArray) :=
  Snappy.decodeStep_emitLiteral dLen lit rest dst h1 h2 hroom

example := snappy_literal_step 3 [1, 2, 3] [9] #[] (by decide) (by decide) (by decide)

/-- A 3-byte copy tag as written by `emitCopy` (length 1..64, offset 1..65535 not beyond the decoded prefix)
    makes one decoder step perform exactly that forward copy. -/
theorem snappy_copy2_step (dLen offset length : Nat) (rest : Bytes) (dst : Array UInt8)
    (hl1 : 1 ≤ length) (hl2 : length ≤ 64) (ho1 : 1 ≤ offset) (ho2 : offset < 65536)
    (hback : offset ≤ dst.size) (hroom : dst.size + length ≤ dLen) :
    Snappy.decodeStep dLen (Snappy.copy2 offset length ++ rest) dst = .ok (rest, Snappy.copyFwd dst offset length) :=
  Snappy.decodeStep_copy2 dLen offset length rest dst hl1 hl2 ho1 ho2 hback hroom

example := snappy_copy2_step 5 1 4 [] #[7] (by decide) (by decide) (by decide) (by decide) (by decide) (by decide)

/-- The 2-byte copy tag as written by `emitCopy` (length 4..11, offset 1..2047) makes one decoder step
    perform exactly that forward copy. -/
theorem snappy_copy1_step (dLen offset length : Nat) (rest : Bytes) (dst : Array UInt8)
    (hl1 : 4 ≤ length) (hl2 : length < 12) (ho1 : 1 ≤ offset) (ho2 : offset < 2048)
    (hback : offset ≤ dst.size) (hroom : dst.size + length ≤ dLen) :
    Snappy.decodeStep dLen ([UInt8.ofNat ((offset / 256) * 32 + (length - 4) * 4 + 1), UInt8.ofNat (offset % 256)] ++ rest) dst
      = .ok (rest, Snappy.copyFwd dst offset length) :=
  Snappy.decodeStep_copy1 dLen offset length rest dst hl1 hl2 ho1 ho2 hback hroom

example := snappy_copy1_step 5 1 4 [] #[7] (by decide) (by decide) (by decide) (by decide) (by decide) (by decide)

/-- A long match emitted as several copy tags with the same offset (`emitCopy`'s 64/60/rest split) reproduces
    the single forward copy: forward copies with one offset compose. -/
theorem snappy_copy_split (dst : Array UInt8) (offset a c : Nat) :
    Snappy.copyFwd dst offset (a + c) = Snappy.copyFwd (Snappy.copyFwd dst offset a) offset c :=
  Snappy.copyFwd_add dst offset a c

/-- End-to-end on a concrete input (kernel evaluation of the model's encoder and decoder): inputs below
    `minNonLiteralBlockSize` are one literal and decode to themselves. -/
theorem snappy_roundtrip_sample :
    (Snappy.decode (Snappy.encode [1, 2, 3, 4, 5])).toOption = some [1, 2, 3, 4, 5] := by decide

/-- snappy, all inputs: decoding the encoder's output gives back the source, for every byte string whose length fits
    the format's 32-bit length header (`Encode` panics with ErrTooLarge above that). This is about the model's real
    encoder — hash table, skip heuristic, 64 KiB pieces, 64/60 copy splitting — not an abstraction of it: the proof
    carries the loop invariant "what was emitted so far expands to src[0..nextEmit)", every candidate is below `s`
    and verified byte by byte before a copy is emitted (Proofs/C16SnappyRT.lean). -/
theorem snappy_roundtrip (src : Bytes) (h : src.length ≤ 0xffffffff) :
    Snappy.decode (Snappy.encode src) = .ok src :=
  Snappy.snappy_roundtrip src h

example : ([1, 2, 3] : Bytes).length ≤ 0xffffffff := by decide

/-! ## store_refines_map: the store against the durable-map specification (`Spec/BlockStoreMap.lean`) -/

/-- One session on a fresh directory, any codec that round-trips: for EVERY sequence of add / get / length /
    mark-trusted / mark-invalid / idle-flush / close (blocks below 4 GiB; cache size, compression, maximum data-file
    size arbitrary — roll-over included; `keep = 0`, i.e. no data file is ever removed), every `get` of a key that was
    added and never marked invalid returns the bytes of its first add and the latest trusted flag, and every `length`
    returns that block's size — from the cache or from disk, compressed or not, written or still queued
    (`specRun` lists the claims, `AllHold` says each reply satisfies its claim).
    `_partial`: one session, retention off — the special case of `store_refines_map` below in which the retention-aware
    claim is the unconditional one (`FS.lost` stays empty: Proofs/C16Window.lean). -/
theorem store_refines_map_partial (env : Env)
    (hrt : ∀ x : Bytes, x.length ≤ 0xffffffff → env.dec (env.enc x) = some x) (hne : ∀ x, env.enc x ≠ [])
    (o : Opts) (hk : o.keep = 0) (ops : List Op) (hops : ∀ op ∈ ops, op.isReopen = false ∧ op.sizeOK) :
    AllHold (specRun env init {} (.reopen o :: ops)) (run env init (.reopen o :: ops)).2 :=
  session_refines env ⟨hrt, hne⟩ o hk ops hops

/-- the specification makes real claims: on this history it demands A's bytes from the `get` and 81 from `length` -/
example : specRun (toyEnv true) init {} [.reopen optsW, .add (hashW blkA) 10 1 false blkA, .idle, .get (hashW blkA), .length (hashW blkA) true]
    = [.nothing, .nothing, .nothing, .data blkA false, .len 81] := by decide

/-- The same with the codec the store really uses — the snappy model, exactly the environment `oracle_c16` runs and the
    harness compares with the Go code (any header-hash function): no hypothesis about the codec is left. -/
theorem store_refines_map_snappy_partial (hash : Bytes → Bytes) (adv : Bool)
    (o : Opts) (hk : o.keep = 0) (ops : List Op) (hops : ∀ op ∈ ops, op.isReopen = false ∧ op.sizeOK) :
    AllHold (specRun (snappyEnv hash adv) init {} (.reopen o :: ops)) (run (snappyEnv hash adv) init (.reopen o :: ops)).2 :=
  session_refines _ (snappyEnv_ok hash adv) o hk ops hops

example : ∀ op ∈ [Op.add (hashW blkA) 10 1 false blkA, .idle, .get (hashW blkA)], op.isReopen = false ∧ op.sizeOK := by
  intro op h
  simp only [List.mem_cons, List.not_mem_nil, or_false] at h
  rcases h with h | h | h <;> subst h <;> exact ⟨rfl, by simp [Op.sizeOK, blkA, mkBlock]⟩

/-- The data-file half of the invariant, as a statement of its own (`Ref`, every option combination): every key that was
    added and never marked invalid has an index record; while it is unwritten its block is in the cache (and the cache
    never evicts it); once written — and unless its data-file number is in `FS.lost` — the record's [fpos, fpos+blen) lies
    inside the file `BlockGet` opens for it (main directory, then oldat/), at or below the append position of the current
    file, and decodes to the block; the current data file exists in the main directory. Every operation other than
    a restart preserves it (the restart: `reopen_ref` in Proofs/C16Restart.lean). -/
theorem data_file_invariant (env : Env)
    (hrt : ∀ x : Bytes, x.length ≤ 0xffffffff → env.dec (env.enc x) = some x) (hne : ∀ x, env.enc x ≠ [])
    (s : State) (sp : Spec) (h : Ref env s sp) (op : Op) (hno : op.isReopen = false) (hsz : op.sizeOK) :
    Ref env (step env s op).1 (specStep s sp op) :=
  stepX_ref env ⟨hrt, hne⟩ s sp h (.op op) ⟨hno, hsz⟩

/-- Nothing stays queued: after ANY history (restarts, every option combination, any codec) the flush that Idle and
    Close perform — `writeAll`, also run by BlockAdd at its thresholds — empties the write queue and leaves every
    record of the in-memory index written to disk (`ipos` set): a block that was marked invalid while queued is dropped,
    a stale entry of a re-added hash is discarded, every other queued block is written exactly once. -/
theorem flush_writes_everything (env : Env) (ops : List Op) :
    let s := (run env init ops).1
    (flush env s).queue = [] ∧ ∀ k r, AL.get (flush env s).index k = some r → r.ipos.isSome = true :=
  flush_all_written env _ (run_live env ops init init_live)

/-! ## across close + reopen: the index-file half of the invariant (`Proofs/C16Record.lean`, `C16DiskInv.lean`, `C16Restart.lean`) -/

/-- what the restart theorems ask of a history: the hash handed to BlockAdd is the hash of the block's 80-byte header (this
    is how LoadBlockIndex recomputes it), the block, its stored (compressed) form and the height fit the record's 32-bit
    fields (`Op.wf`); fewer than 2^31 operations (data-file numbers and 64-bit offsets in the record cannot wrap) -/
example : Op.wf (toyEnv true) (.add (hashW blkA) 10 1 false blkA) := by
  refine ⟨by decide, by decide, by decide, by decide⟩

/-- store_refines_map ACROSS RESTARTS, retention off: for EVERY history from the empty directory — add / get / length /
    mark-trusted / mark-invalid / idle-flush / close / reopen in any order and number, options changing from session to
    session (cache size, compression, maximum data-file size; `keep = 0` in every session) — every `get` of a key that was
    added and never marked invalid returns the bytes of its first add and the latest trusted flag, every `length` its size:
    from the cache, from the queue, or from disk after any number of restarts. The proof carries, next to the data-file
    half (`Ref`), the index-file half `Disk`: every written record's 136 bytes at `ipos` describe it (file number, offset,
    stored length, flag bits incl. later trusted / invalid updates), no two non-invalid records of the file share a key,
    LoadBlockIndex rebuilds exactly these records with the same positions and an append position at or above each of
    them, and so re-establishes `Ref`. -/
theorem store_refines_map_restarts (env : Env)
    (hrt : ∀ x : Bytes, x.length ≤ 0xffffffff → env.dec (env.enc x) = some x) (hne : ∀ x, env.enc x ≠ [])
    (hfix : env.advInvalid = Gen.BlockDBFacts.advInvalid) (ops : List Op)
    (hops : ∀ op ∈ ops, Op.wf env op ∧ op.keep0) (hlen : ops.length < 2^31) :
    AllHold (specRun env init {} ops) (run env init ops).2 :=
  restart_refines env ⟨hrt, hne⟩ (hfix.trans fixed_code) ops hops hlen

/-- the claims survive the restart: on this history the specification demands A's bytes after close + reopen -/
example : specRun (toyEnv true) init {} [.reopen optsW, .add (hashW blkA) 10 1 false blkA, .close, .reopen optsW, .get (hashW blkA)]
    = [.nothing, .nothing, .nothing, .nothing, .data blkA false] := by decide

/-- well-formed operations for the real codec, without reference to the encoder: the hash is the hash of the header, the
    block is at most 2^29 bytes (blocks are ≤ 4 MB), the height fits 32 bits -/
def Op.wfPlain (hash : Bytes → Bytes) : Op → Prop
  | .add h height _ _ raw => h = hash (raw.take 80) ∧ raw.length ≤ 2^29 ∧ height < 2^32
  | _ => True

/-- The same with the snappy model as codec — the environment `oracle_c16` runs (any header-hash function): no hypothesis
    about the codec is left; that the stored form fits the 32-bit length field follows from
    `(Snappy.encode x).length ≤ 11 + 6·x.length` (Proofs/C16SnappyRT.lean, from the decoder's side). -/
theorem store_refines_map_restarts_snappy (hash : Bytes → Bytes) (ops : List Op)
    (hops : ∀ op ∈ ops, Op.wfPlain hash op ∧ op.keep0) (hlen : ops.length < 2^31) :
    AllHold (specRun (snappyEnv hash Gen.BlockDBFacts.advInvalid) init {} ops) (run (snappyEnv hash Gen.BlockDBFacts.advInvalid) init ops).2 := by
  exact restart_refines _ (snappyEnv_ok hash _) fixed_code ops
    (fun op hop => ⟨wf_snappy hash _ op (hops op hop).1, (hops op hop).2⟩) hlen

example : Op.wfPlain (fun h => h.take 32) (.add (hashW blkA) 10 1 false blkA) := ⟨by decide, by decide, by decide⟩

/-- reopen_index, history level, EVERY option combination (retention and backup included — the index file is never
    pruned): after any history that leaves the store closed, NewBlockDBExt + LoadBlockIndex hands the walk callback, for
    every key that was added and never marked invalid, exactly ONE entry, and it carries the hash of the block's header,
    the header, the height and transaction count given to the first BlockAdd and the block's size; every listed entry
    belongs to a key that was added; and the append position is the end of the index file (appending continues behind
    every listed record). `specFinal env init {} ops` is the durable map after the history (an entry that was marked invalid while its block was
    still queued is gone from it; a block stored again under that hash is a new entry and is listed with ITS fields). -/
theorem reopen_index (env : Env) (hfix : env.advInvalid = Gen.BlockDBFacts.advInvalid) (ops : List Op)
    (hops : ∀ op ∈ ops, Op.wf env op) (hlen : ops.length < 2^31)
    (hclosed : (run env init ops).1.isOpen = false) (o : Opts) :
    ∃ ws, (step env (run env init ops).1 (.reopen o)).2 = .walk ws ∧
      (∀ k e, AL.get (specFinal env init {} ops).m k = some e → e.tainted = false →
        ws.filter (fun w => decide (keyOf w.hash = k)) =
          [⟨env.hash (e.raw.take 80), e.raw.take 80, e.height, e.raw.length, e.txcount⟩]) ∧
      (∀ w ∈ ws, ∃ e, AL.get (specFinal env init {} ops).m (keyOf w.hash) = some e) ∧
      (step env (run env init ops).1 (.reopen o)).1.maxidxfilepos = (run env init ops).1.fs.idx.length := by
  rw [step_reopen_closed env _ o hclosed]
  exact reopen_lists env (hfix.trans fixed_code) _ _ _ (hist_init env (hfix.trans fixed_code) ops hops hlen).core hclosed o

example : (run (toyEnv true) init [.reopen optsW, .add (hashW blkA) 10 1 false blkA, .close]).1.isOpen = false := by decide

/-- … and the trusted flags, EVERY option combination: after that restart the rebuilt index record of every key that was
    added and never marked invalid has the LATEST trusted flag of the history (raised by BlockTrusted or a trusted BlockAdd,
    before or after the record was written — `specFinal` tracks it), the block's size, and the data-file number / offset /
    stored length the record had before the restart. -/
theorem reopen_index_trusted (env : Env) (hfix : env.advInvalid = Gen.BlockDBFacts.advInvalid) (ops : List Op)
    (hops : ∀ op ∈ ops, Op.wf env op) (hlen : ops.length < 2^31)
    (hclosed : (run env init ops).1.isOpen = false) (o : Opts) :
    ∀ k e, AL.get (specFinal env init {} ops).m k = some e → e.tainted = false →
      ∃ r0 r, AL.get (run env init ops).1.index k = some r0 ∧
        AL.get (reopen env (run env init ops).1.fs o).1.index k = some r ∧ r.trusted = e.trusted ∧
        r.olen = e.raw.length ∧ r.fpos = r0.fpos ∧ r.blen = r0.blen ∧ r.datfileidx = r0.datfileidx := by
  obtain ⟨hC, hT, _⟩ := hist_init env (hfix.trans fixed_code) ops hops hlen
  intro k e he ht
  obtain ⟨r0, a1⟩ := hC.disk.ent k e he ht
  obtain ⟨r, b1, b2, b3, b4, b5, b6⟩ := reopen_index_flags env (hfix.trans fixed_code) _ _ _ hC hlen hclosed o k e r0 he ht a1
  exact ⟨r0, r, a1, b1, by rw [b2]; exact hT k e r0 he ht a1, b3, b4, b5, b6⟩

/-- … and ONLY the non-invalid blocks: a block that `BlockInvalid` flagged AFTER it was written
    (`flagsInvalid`: in the index, untrusted, written — `setBlockFlag` ORs BLOCK_INVALID into the record on disk) and that was
    not handed to `BlockAdd` again since is NOT listed by the restart. `staleFinal env init [] ops` is that ghost list of
    keys along the history (Proofs/C16Stale.lean; it reads the model state like `forgets` does). Together with `reopen_index`:
    the walk has exactly one entry for every stored, never-invalidated key, none for an invalidated one, and nothing else but
    keys that were added. (A key that is marked invalid, survives a restart and is then stored AGAIN gets a new record and is
    listed with the new fields — the specification keeps its entry tainted and claims nothing for it: `relisted_after_restart_witness`.) -/
theorem reopen_index_excludes_invalid (env : Env) (hfix : env.advInvalid = Gen.BlockDBFacts.advInvalid) (ops : List Op)
    (hops : ∀ op ∈ ops, Op.wf env op) (hlen : ops.length < 2^31)
    (hclosed : (run env init ops).1.isOpen = false) (o : Opts) (ws : List WalkRec)
    (hws : (step env (run env init ops).1 (.reopen o)).2 = .walk ws) :
    ∀ w ∈ ws, keyOf w.hash ∉ staleFinal env init [] ops := by
  obtain ⟨hC, _, hS, _⟩ := hist_init env (hfix.trans fixed_code) ops hops hlen
  rw [step_reopen_closed env _ o hclosed] at hws
  exact reopen_lists_no_stale env _ _ _ _ hS hC o ws hws

def optsW4 : Opts := ⟨4, 0, 0, false, false⟩
/-- add A, add B, flush, BlockInvalid(A) (A is written: its record is flagged on disk), close -/
def invalidatedHistory : List Op :=
  [.reopen optsW4, .add (hashW blkA) 10 1 false blkA, .add (hashW blkB) 11 2 false blkB, .idle, .invalid (hashW blkA), .close]

set_option maxRecDepth 1000000 in
/-- non-vacuity: the ghost list holds A's key, the restart lists B only; the specification has A tainted -/
example : staleFinal (toyEnv true) init [] invalidatedHistory = [keyOf (hashW blkA)] ∧
    (step (toyEnv true) (run (toyEnv true) init invalidatedHistory).1 (.reopen optsW4)).2
      = .walk [⟨hashW blkB, blkB.take 80, 11, 82, 2⟩] ∧
    ((AL.get (specFinal (toyEnv true) init {} invalidatedHistory).m (keyOf (hashW blkA))).map (fun e => e.tainted)) = some true ∧
    (run (toyEnv true) init invalidatedHistory).1.isOpen = false := by decide +kernel

/-- same header as `blkA`, other body -/
def blkA' : Bytes := blkA.take 80 ++ List.replicate 15 4
/-- … the invalidated block survives a restart as a flagged record, the same hash is stored again (a new record), and the
    next restart lists the NEW block; the key left the ghost list with the second BlockAdd, the specification keeps the
    entry tainted (no claim for `get`) -/
theorem relisted_after_restart_witness :
    let h := invalidatedHistory ++ [.reopen optsW4, .add (hashW blkA') 12 3 false blkA', .close]
    hashW blkA' = hashW blkA ∧ staleFinal (toyEnv true) init [] h = [] ∧
    (step (toyEnv true) (run (toyEnv true) init h).1 (.reopen optsW4)).2
      = .walk [⟨hashW blkB, blkB.take 80, 11, 82, 2⟩, ⟨hashW blkA, blkA.take 80, 12, 95, 3⟩] ∧
    ((AL.get (specFinal (toyEnv true) init {} h).m (keyOf (hashW blkA))).map (fun e => e.tainted)) = some true := by decide +kernel

/-- `reopen_index` + `reopen_index_excludes_invalid` with the codec the store really uses (the snappy model, the environment
    `oracle_c16` runs): the only hypotheses left are `Op.wfPlain` (hash of the header, block ≤ 2^29 bytes, height < 2^32) and
    fewer than 2^31 operations. -/
theorem reopen_index_snappy (hash : Bytes → Bytes) (ops : List Op)
    (hops : ∀ op ∈ ops, Op.wfPlain hash op) (hlen : ops.length < 2^31)
    (hclosed : (run (snappyEnv hash Gen.BlockDBFacts.advInvalid) init ops).1.isOpen = false) (o : Opts) :
    let env := snappyEnv hash Gen.BlockDBFacts.advInvalid
    ∃ ws, (step env (run env init ops).1 (.reopen o)).2 = .walk ws ∧
      (∀ k e, AL.get (specFinal env init {} ops).m k = some e → e.tainted = false →
        ws.filter (fun w => decide (keyOf w.hash = k)) =
          [⟨env.hash (e.raw.take 80), e.raw.take 80, e.height, e.raw.length, e.txcount⟩]) ∧
      (∀ w ∈ ws, ∃ e, AL.get (specFinal env init {} ops).m (keyOf w.hash) = some e) ∧
      (∀ w ∈ ws, keyOf w.hash ∉ staleFinal env init [] ops) ∧
      (step env (run env init ops).1 (.reopen o)).1.maxidxfilepos = (run env init ops).1.fs.idx.length := by
  intro env
  have hwf : ∀ op ∈ ops, Op.wf env op := fun op hop => wf_snappy hash _ op (hops op hop)
  obtain ⟨ws, w1, w2, w3, w4⟩ := reopen_index env rfl ops hwf hlen hclosed o
  exact ⟨ws, w1, w2, w3, reopen_index_excludes_invalid env rfl ops hwf hlen hclosed o ws w1, w4⟩

/-! ## retention (DataFilesKeep ≠ 0, backup of old files): store_refines_map at full strength -/

/-- store_refines_map, EVERY history and EVERY option combination: from the empty directory, any sequence of add / get /
    length / mark-trusted / mark-invalid / idle-flush / close / reopen, the options changing from session to session (cache
    size, compression, maximum data-file size, `DataFilesKeep` = any number, `DataFilesBackup` on or off) — every `get` of a
    key that was added, never marked invalid and whose data is WITHIN THE CONFIGURED RETENTION returns the bytes of its first add
    and the latest trusted flag, every `length` its size: from the cache, from the queue, from the data file in the main
    directory or from its backup in oldat/, after any number of roll-overs and restarts.
    "Within the configured retention" (`claimR` / `keyLost`, Spec/BlockStoreMap.lean): no claim is made for a key whose written
    record points into a data file whose number is in the ghost list `FS.lost`. That list is bounded by the CONFIGURED policy —
    `lost_outside_keep_window` below: a number enters it only when `removeDatFile` deletes the file in a session with
    `keep ≠ 0` and no backup, and then it is below `maxdatfileidx − keep`. Nothing else is excluded (the O_CREATE of
    LoadBlockIndex does not shadow a backup: `fixed_code_restore`, `backup_restored_witness`).
    "Never marked invalid": an entry that `BlockInvalid` FORGETS (still queued, untrusted: `forgets`) is removed from the
    durable map, a later add of the same hash is a new entry and is claimed (`readd_after_queued_invalid_claimed`); an entry
    marked invalid after it was written carries no claim from then on.
    The proof carries `Ref` (Proofs/C16Refine.lean) with the data file resolved as `BlockGet` does (`fileOf`: main directory,
    then oldat/), "the current data file exists in the main directory", and `Keeps` (Proofs/C16Retain.lean): roll-over,
    `removeDatFile`, `loadCleanup` and the O_CREATE leave every number that is not lost afterwards resolving to the same
    bytes; `keyLost` is monotone, so a block cached from a lost file is never claimed later. -/
theorem store_refines_map (env : Env)
    (hrt : ∀ x : Bytes, x.length ≤ 0xffffffff → env.dec (env.enc x) = some x) (hne : ∀ x, env.enc x ≠ [])
    (hfix : env.advInvalid = Gen.BlockDBFacts.advInvalid) (ops : List Op)
    (hops : ∀ op ∈ ops, Op.wf env op) (hlen : ops.length < 2^31) :
    AllHold (specRunR env init {} ops) (run env init ops).2 :=
  restart_refines_retention env ⟨hrt, hne⟩ (hfix.trans fixed_code) ops hops hlen

/-- The same with the codec the store really uses — the snappy model, exactly the environment `oracle_c16` runs and the
    harness compares with the Go code (any header-hash function): no hypothesis about the codec is left. -/
theorem store_refines_map_snappy (hash : Bytes → Bytes) (ops : List Op)
    (hops : ∀ op ∈ ops, Op.wfPlain hash op) (hlen : ops.length < 2^31) :
    AllHold (specRunR (snappyEnv hash Gen.BlockDBFacts.advInvalid) init {} ops)
      (run (snappyEnv hash Gen.BlockDBFacts.advInvalid) init ops).2 := by
  exact restart_refines_retention _ (snappyEnv_ok hash _) fixed_code ops (fun op hop => wf_snappy hash _ op (hops op hop)) hlen

def blk200 (tag : UInt8) : Bytes := mkBlock tag 200
def optsK : Opts := ⟨1, 200, 1, false, false⟩
/-- keep = 1, no backup: three 200-byte blocks go to data files 0, 1, 2; the second roll-over deletes file 0 -/
def retentionHistory : List Op :=
  [.reopen optsK, .add (hashW (blk200 1)) 1 1 false (blk200 1), .add (hashW (blk200 2)) 2 1 false (blk200 2),
   .add (hashW (blk200 3)) 3 1 false (blk200 3), .idle, .get (hashW (blk200 1)), .get (hashW (blk200 2)),
   .length (hashW (blk200 3)) true, .close, .reopen optsK, .get (hashW (blk200 2))]

set_option maxRecDepth 1000000 in
/-- the retention-aware specification makes real claims under retention: on this history (file 0 deleted by the second
    roll-over) nothing is demanded for block 1, and blocks 2 and 3 — within `keep = 1` — are demanded in full, also after
    the restart -/
example : specRunR (toyEnv true) init {} retentionHistory
    = [.nothing, .nothing, .nothing, .nothing, .nothing, .nothing, .data (blk200 2) false, .len 200, .nothing, .nothing,
       .data (blk200 2) false] ∧ (run (toyEnv true) init retentionHistory).1.fs.lost = [0] := by decide +kernel

/-! ## the retention POLICY: what `FS.lost` can contain -/

/-- The regenerated structural fact: LoadBlockIndex moves the current data file back from oldat/ before it opens it with
    O_CREATE (without this step a new empty file shadows the backup: finding `backup-shadowed-by-new-file`). With it the only writer of the ghost list
    `FS.lost` is `removeDatFile` without backup. -/
theorem fixed_code_restore : Gen.BlockDBFacts.restoresBackup = true := by decide

/-- The exclusion of `store_refines_map` is bounded by the CONFIGURED retention, for every history and every option
    combination: every data-file number `i` in the ghost list `FS.lost` after a history was put there by one operation
    `op` of the history (`ops = pre ++ op :: suf`, `i` not lost before it), and in the state right after that operation
    `OutsideWindow` holds: `DataFilesKeep ≠ 0`, `DataFilesBackup = false` and `i + keep < maxdatfileidx` — the file was
    below the current file minus `keep` at the moment it was lost (roll-over: file `old − keep` with new current file
    `old + 1`; LoadBlockIndex clean-up: files `max − keep − 1 … max − keep − 3`). A store that removes one file too many
    (file `maxdatfileidx − keep` itself), removes a file although a backup is configured, or loses a file in any other
    operation contradicts this theorem — not only the harness. -/
theorem lost_outside_keep_window (env : Env) (ops : List Op) (i : Nat)
    (h : i ∈ (run env init ops).1.fs.lost) :
    ∃ pre op suf, ops = pre ++ op :: suf ∧ i ∉ (run env init pre).1.fs.lost ∧
      i ∈ (run env init (pre ++ [op])).1.fs.lost ∧ OutsideWindow (run env init (pre ++ [op])).1 i :=
  (run_lost env fixed_code_restore ops init i h).resolve_left List.not_mem_nil

/-- … per operation: a number that is lost after an operation was lost before it or is outside the window configured in
    the state after it; and within a session the window only moves up (`Grows`: same options, `maxdatfileidx` does not
    decrease), so a number outside the window stays outside until the next restart. -/
theorem lost_step (env : Env) (s : State) (op : Op) (i : Nat) (h : i ∈ (step env s op).1.fs.lost) :
    i ∈ s.fs.lost ∨ OutsideWindow (step env s op).1 i :=
  step_lost env fixed_code_restore s op i h

/-- the claim of `store_refines_map` is dropped (`keyLost`) only for a key whose written record points into a data file that
    left the configured window at some operation of the history -/
theorem claim_dropped_only_outside_window (env : Env) (ops : List Op) (k : Key)
    (h : keyLost (run env init ops).1 k = true) :
    ∃ r, AL.get (run env init ops).1.index k = some r ∧ r.ipos.isSome = true ∧
      ∃ pre op suf, ops = pre ++ op :: suf ∧ r.datfileidx ∉ (run env init pre).1.fs.lost ∧
        OutsideWindow (run env init (pre ++ [op])).1 r.datfileidx := by
  unfold keyLost at h
  split at h
  · rename_i r hr
    simp only [Bool.and_eq_true, List.contains_eq_mem, decide_eq_true_eq] at h
    obtain ⟨pre, op, suf, e1, e2, _, e4⟩ := lost_outside_keep_window env ops r.datfileidx h.2
    exact ⟨r, hr, h.1, pre, op, suf, e1, e2, e4⟩
  · cases h

set_option maxRecDepth 1000000 in
/-- non-vacuity: in `retentionHistory` (keep = 1, no backup) file 0 is lost by the `idle` flush whose second roll-over makes
    file 2 the current one: 0 + 1 < 2 -/
example : (run (toyEnv true) init retentionHistory).1.fs.lost = [0] ∧
    (run (toyEnv true) init (retentionHistory.take 4)).1.fs.lost = [] ∧
    (run (toyEnv true) init (retentionHistory.take 5)).1.fs.lost = [0] ∧
    (run (toyEnv true) init (retentionHistory.take 5)).1.maxdatfileidx = 2 := by decide +kernel

def optsKB : Opts := ⟨1, 200, 1, true, false⟩
/-- the history of the finding `backup-shadowed-by-new-file`: three 200-byte blocks in data files 0, 1, 2 (file 0
    is moved to oldat/), B and C marked invalid, restart, get A -/
def shadowHistory : List Op :=
  [.reopen optsKB, .add (hashW (blk200 1)) 1 1 false (blk200 1), .add (hashW (blk200 2)) 2 1 false (blk200 2),
   .add (hashW (blk200 3)) 3 1 false (blk200 3), .idle, .invalid (hashW (blk200 2)), .invalid (hashW (blk200 3)), .close,
   .reopen optsKB, .get (hashW (blk200 1))]

/-- `shadowHistory` on the model of the repaired source (`fix:` commits in /repo; corpus/C16/backup-fallback-after-invalid.json
    and corpus/C16/file-number-reused-*.json replay it on the real code): the invalid records of files 1 and 2 still count, so
    LoadBlockIndex keeps appending to file 2 instead of falling back to file 0; file 0 stays in oldat/ and A is read back
    from there; nothing is lost. (The source without the repair: `maxdatfileidx = 0`, a new empty file 0 in the main directory
    shadows the backup — short read, `lost = [0]`; without backup the number 0 is reused and a later read of A returns
    the bytes of another block or zeros.) -/
theorem backup_restored_witness :
    (specRunR (toyEnv true) init {} shadowHistory).getLast? = some (.data (blk200 1) false) ∧
    (run (toyEnv true) init shadowHistory).2.getLast? = some (.data (blk200 1) false) ∧
    (run (toyEnv true) init shadowHistory).1.fs.lost = [] ∧
    (run (toyEnv true) init shadowHistory).1.maxdatfileidx = 2 ∧
    (AL.get (run (toyEnv true) init shadowHistory).1.fs.dats 0).isSome = false ∧
    (AL.get (run (toyEnv true) init shadowHistory).1.fs.olds 0).isSome = true := by decide +kernel

/-- The regenerated structural fact: the invalid-record branch of LoadBlockIndex raises `maxdatfileidx` to the record's
    data-file number, so the file to append to never goes back to a lower number after a restart. -/
theorem fixed_code_invalid_counts : Gen.BlockDBFacts.invalidCountsFile = true := by decide +kernel

/-! ## data-file numbers are never reused -/

/-- EVERY history, every option combination: each data-file number in the ghost list `FS.lost` is strictly BELOW the current
    file number `maxdatfileidx` — in open and in closed states, after any number of restarts. Since `writeOne` stores a
    block into the file `maxdatfileidx` (after a possible roll-over to `maxdatfileidx + 1`), no block is ever stored into a
    file whose number was lost: the exclusion of `store_refines_map` (`keyLost`) cannot swallow a block that was stored
    AFTER its file number left retention. The proof needs the regenerated fact `invalidCountsFile` (`fixed_code_invalid_counts`):
    across close + reopen LoadBlockIndex recomputes `maxdatfileidx` as the maximum over ALL records of the index file,
    invalid-flagged ones included (`loadRecord_mdi`); for a source without the repair 72419de0 the fact is `false`, this
    theorem does not compile, and indeed the statement is false there (corpus/C16/file-number-reused-*.json). -/
theorem lost_below_current (env : Env) (hfix : env.advInvalid = Gen.BlockDBFacts.advInvalid) (ops : List Op)
    (hops : ∀ op ∈ ops, Op.wf env op) (hlen : ops.length < 2^31) (i : Nat)
    (h : i ∈ (run env init ops).1.fs.lost) : i < (run env init ops).1.maxdatfileidx := by
  exact (files_init env (hfix.trans fixed_code) fixed_code_invalid_counts fixed_code_restore ops hops hlen).1.below i h

/-- The current file number never goes down: not within a session, and not across close + reopen (where it is recomputed
    from the index file). `pre ++ suf` is any continuation of the history `pre`. -/
theorem current_file_never_decreases (env : Env) (hfix : env.advInvalid = Gen.BlockDBFacts.advInvalid) (pre suf : List Op)
    (hops : ∀ op ∈ pre ++ suf, Op.wf env op) (hlen : (pre ++ suf).length < 2^31) :
    (run env init pre).1.maxdatfileidx ≤ (run env init (pre ++ suf)).1.maxdatfileidx := by
  simp only [List.length_append] at hlen
  obtain ⟨hp, hs⟩ := List.forall_mem_append.mp hops
  rw [run_append]
  exact (run_hist env (hfix.trans fixed_code) suf _ _ _ _ (hist_init env (hfix.trans fixed_code) pre hp (by omega)) hs hlen).2
    fixed_code_invalid_counts fixed_code_restore

/-- No reuse, per operation: after any history `ops` and one more operation `op`, every WRITTEN index record `r'` either was
    written before `op` with the same data-file number, or its number is at least the file number that was current before
    `op` — and therefore (by `lost_below_current`) not a number that was lost before `op`. -/
theorem written_record_file_is_fresh (env : Env) (hfix : env.advInvalid = Gen.BlockDBFacts.advInvalid) (ops : List Op) (op : Op)
    (hops : ∀ o ∈ ops, Op.wf env o) (hlen : ops.length < 2^31) (k : Key) (r' : Rec)
    (h1 : AL.get (step env (run env init ops).1 op).1.index k = some r') (h2 : r'.ipos.isSome = true) :
    (∃ r, AL.get (run env init ops).1.index k = some r ∧ r.ipos.isSome = true ∧ r.datfileidx = r'.datfileidx) ∨
    ((run env init ops).1.maxdatfileidx ≤ r'.datfileidx ∧ r'.datfileidx ∉ (run env init ops).1.fs.lost) := by
  have t := (files_init env (hfix.trans fixed_code) fixed_code_invalid_counts fixed_code_restore ops hops hlen).1
  refine ((step_fresh env (hfix.trans fixed_code) fixed_code_invalid_counts fixed_code_restore _ _ _ t
    (hist_init env (hfix.trans fixed_code) ops hops hlen).core op hlen).2 k r' h1 h2).imp_right fun a => ⟨a, fun hl => ?_⟩
  have := t.below _ hl
  omega

/-- A lost data file is GONE and stays gone, EVERY history, every option combination: a number in `FS.lost` names a file
    that is in neither the main directory nor oldat/ — the store never creates a file with that number again (new files get
    the numbers `maxdatfileidx + 1` at a roll-over and `maxdatfileidx' ≥ maxdatfileidx` in LoadBlockIndex, both above every
    lost number by `lost_below_current`). -/
theorem lost_file_is_gone (env : Env) (hfix : env.advInvalid = Gen.BlockDBFacts.advInvalid) (ops : List Op)
    (hops : ∀ op ∈ ops, Op.wf env op) (hlen : ops.length < 2^31) (i : Nat)
    (h : i ∈ (run env init ops).1.fs.lost) :
    AL.get (run env init ops).1.fs.dats i = none ∧ AL.get (run env init ops).1.fs.olds i = none := by
  exact (files_init env (hfix.trans fixed_code) fixed_code_invalid_counts fixed_code_restore ops hops hlen).2.lost_gone i h

/-- What an out-of-retention read answers (the Lean counterpart of the harness key
    `out-of-retention-read-returns-other-bytes`): after EVERY history, `BlockGet` of a key for which `store_refines_map` drops
    its claim (`keyLost`: the record points into a lost data file) reads NO data file — it returns the block held in the
    cache, or the error `noFile` (`purged` for a zero-length record). It never returns bytes found in some other file of
    that number. (Not proved here: that the cached bytes of such a key are the stored block — they were cached by BlockAdd or
    by a read made while the file was still there, `Ref.cachedata` covers them only up to the moment the file is lost; the
    harness compares them on every run.) -/
theorem out_of_retention_get_reads_no_file (env : Env) (hfix : env.advInvalid = Gen.BlockDBFacts.advInvalid) (ops : List Op)
    (hops : ∀ op ∈ ops, Op.wf env op) (hlen : ops.length < 2^31) (hash : Bytes)
    (hl : keyLost (run env init ops).1 (keyOf hash) = true) :
    let s := (run env init ops).1
    (∃ c r, AL.get s.cache (keyOf hash) = some c ∧ AL.get s.index (keyOf hash) = some r ∧
        (blockGet env s hash).2 = .data c.data r.trusted) ∨
    (AL.get s.cache (keyOf hash) = none ∧ ∃ e t, (blockGet env s hash).2 = .getErr e t ∧ (e = .noFile ∨ e = .purged)) := by
  exact blockGet_lost env _ hash (files_init env (hfix.trans fixed_code) fixed_code_invalid_counts fixed_code_restore ops hops hlen).2 hl

set_option maxRecDepth 1000000 in
/-- non-vacuity: in `retentionHistory` block 1's record points into the lost file 0 and is not cached (cache size 1) -/
example : keyLost (run (toyEnv true) init retentionHistory).1 (keyOf (hashW (blk200 1))) = true ∧
    AL.get (run (toyEnv true) init retentionHistory).1.cache (keyOf (hashW (blk200 1))) = none ∧
    (blockGet (toyEnv true) (run (toyEnv true) init retentionHistory).1 (hashW (blk200 1))).2 = .getErr .noFile false := by decide +kernel

set_option maxRecDepth 1000000 in
/-- non-vacuity of the three theorems above on `retentionHistory` (keep = 1, no backup; file 0 is lost): the lost number 0 is
    below the current number 2 — also after the restart —, and the record of block 3, written by the `idle` flush, carries
    the number 2 ≥ 0 = the number that was current before the flush -/
example : (run (toyEnv true) init retentionHistory).1.fs.lost = [0] ∧
    (run (toyEnv true) init retentionHistory).1.maxdatfileidx = 2 ∧
    (run (toyEnv true) init (retentionHistory.take 4)).1.maxdatfileidx = 0 ∧
    ((AL.get (run (toyEnv true) init (retentionHistory.take 5)).1.index (keyOf (hashW (blk200 3)))).map (fun r => (r.datfileidx, r.ipos.isSome)))
      = some (2, true) := by decide +kernel

/-- the history of the file-number-reuse defect (repair 72419de0): keep = 1, NO backup, three blocks in files 0, 1, 2 (file 0 removed),
    B and C marked invalid, restart, add D, flush -/
def reuseHistory : List Op :=
  [.reopen optsK, .add (hashW (blk200 1)) 1 1 false (blk200 1), .add (hashW (blk200 2)) 2 1 false (blk200 2),
   .add (hashW (blk200 3)) 3 1 false (blk200 3), .idle, .invalid (hashW (blk200 2)), .invalid (hashW (blk200 3)), .close,
   .reopen optsK, .add (hashW (blk200 4)) 4 1 false (blk200 4), .idle, .get (hashW (blk200 4)), .get (hashW (blk200 1))]

/-- … on the model of the CURRENT source: after the restart the current file is still 2 (the invalid records of B and C
    count), D goes to file 2 or above — not into the lost number 0 —, D is claimed and returned, and the read of A (file 0,
    outside retention) is an error, not other bytes. -/
theorem no_reuse_witness :
    (run (toyEnv true) init (reuseHistory.take 9)).1.maxdatfileidx = 2 ∧
    (run (toyEnv true) init reuseHistory).1.fs.lost = [0] ∧
    ((AL.get (run (toyEnv true) init reuseHistory).1.index (keyOf (hashW (blk200 4)))).map (fun r => decide (2 ≤ r.datfileidx))) = some true ∧
    (specRunR (toyEnv true) init {} reuseHistory).drop 11 = [.data (blk200 4) false, .nothing] ∧
    (run (toyEnv true) init reuseHistory).2.drop 11 = [.data (blk200 4) false, .getErr .noFile false] := by decide +kernel

/-- the second line of defence (`restoresBackup`), on a directory the store itself does not produce: the current data
    file is missing from the main directory and present in oldat/ — it is moved back, not shadowed, nothing is lost -/
theorem create_cur_restores :
    createCur { dats := [], olds := [(0, blkA)] } 0 = { dats := [(0, blkA)], olds := [] } := by decide

/-! ## invalid while still queued: the block is forgotten, a block stored again under its hash is claimed -/

def blkX : Bytes := mkBlock 5 90
/-- same 80-byte header as `blkX` (the header bytes are the first 80), other body and length -/
def blkX' : Bytes := blkX.take 80 ++ List.replicate 20 9
/-- add X, BlockInvalid(X) while X is still queued, add X' (same hash), close, restart, get, length -/
def readdHistory : List Op :=
  [.reopen optsW, .add (hashW blkX) 10 1 false blkX, .invalid (hashW blkX), .add (hashW blkX') 11 2 false blkX', .close,
   .reopen optsW, .get (hashW blkX'), .length (hashW blkX') true]

/-- The scenario of the repair 6075761f carries a Lean claim: the specification forgets X with the store (`forgets`), the
    second add is a new entry, and after close + restart `store_refines_map` DEMANDS X' (100 bytes), which the model
    returns; the restart lists X' with height 11 / 2 transactions (`reopen_index` speaks about `specFinal`, which holds
    X'). -/
theorem readd_after_queued_invalid_claimed :
    hashW blkX = hashW blkX' ∧
    specRunR (toyEnv true) init {} readdHistory
      = [.nothing, .nothing, .nothing, .nothing, .nothing, .nothing, .data blkX' false, .len 100] ∧
    (run (toyEnv true) init readdHistory).2.drop 5
      = [.walk [⟨hashW blkX', blkX'.take 80, 11, 100, 2⟩], .data blkX' false, .len 100] ∧
    (AL.get (specFinal (toyEnv true) init {} readdHistory).m (keyOf (hashW blkX'))).map (fun e => (e.raw, e.height, e.tainted))
      = some (blkX', 11, false) := by decide +kernel

/-- add A as trusted, flush, BlockInvalid(A) — the call panics ("Trusted block cannot be invalid"), the store is unchanged —, get A -/
def panicHistory : List Op :=
  [.reopen optsW, .add (hashW blkA) 10 1 true blkA, .idle, .invalid (hashW blkA), .get (hashW blkA)]

/-- A BlockInvalid that panics does not taint the entry (`Spec.panics`): the specification keeps
    DEMANDING the block afterwards, and the model returns it. (On the real code the panic leaves db.mutex locked, so the
    harness ends a history there; the model continues.) -/
theorem panicking_invalid_keeps_claim :
    (run (toyEnv true) init panicHistory).2.drop 3 = [.panic, .data blkA true] ∧
    (specRunR (toyEnv true) init {} panicHistory).drop 3 = [.nothing, .data blkA true] := by decide +kernel

/-! ## the one-pass read `BlockGetInternal(hash, do_not_cache = true)` (Model/BlockDBNC.lean) -/

/-- The one-pass read (Chain.ParseTillBlock, Chain.UndoLastBlock, the rescan loop) answers exactly what `BlockGet` answers in
    the same state — the stored bytes or the same error — whatever the state is. -/
theorem onepass_read_reply_is_get_reply (env : Env) (s : State) (hash : Bytes) :
    (blockGetNC env s hash).2 = (blockGet env s hash).2 := (blockGetNC_cases env s hash).1

/-- The one-pass read never lets go of a cached block: after it the cache holds the same keys with the same bytes (on a hit
    only `LastUsed` moves, on a miss the cache is untouched), and every index record keeps its position, flags and identity. -/
theorem onepass_read_keeps_cache (env : Env) (s : State) (hash : Bytes) (k : Key) :
    (AL.get (blockGetNC env s hash).1.cache k).map (·.data) = (AL.get s.cache k).map (·.data) ∧
    (AL.get (blockGetNC env s hash).1.index k).map (fun r => (r.ipos, r.trusted, r.seq, r.datfileidx, r.fpos, r.blen))
      = (AL.get s.index k).map (fun r => (r.ipos, r.trusted, r.seq, r.datfileidx, r.fpos, r.blen)) :=
  ⟨blockGetNC_cache env s hash k, blockGetNC_index env s hash k⟩

/-- A block that sits in the cache — for a block whose write is still queued that is the only copy — is answered by `BlockGet`
    with the cached bytes after a one-pass read of ANY block, that block itself included. -/
theorem onepass_read_then_get (env : Env) (s : State) (hash hash' : Bytes) (r : Rec) (c : CacheEnt)
    (hr : AL.get s.index (keyOf hash') = some r) (hc : AL.get s.cache (keyOf hash') = some c) :
    (blockGet env (blockGetNC env s hash).1 hash').2 = .data c.data r.trusted := by
  have h1 := blockGetNC_cache env s hash (keyOf hash')
  have h2 := blockGetNC_index env s hash (keyOf hash')
  rw [hc] at h1
  rw [hr] at h2
  obtain ⟨c', hc', h1⟩ := Option.map_eq_some_iff.mp h1
  obtain ⟨r', hr', h2⟩ := Option.map_eq_some_iff.mp h2
  simp only [Prod.mk.injEq] at h2
  unfold blockGet
  simp only [hr', hc', h1, h2.2.1]

/-- the hypotheses of `onepass_read_then_get` hold for a block that was just added (queued: `ipos = none`, cached) -/
example : (AL.get (run (toyEnv true) init [.reopen optsW, .add (hashW blkA) 10 1 false blkA]).1.index (keyOf (hashW blkA))).map (·.ipos) = some none ∧
    (AL.get (run (toyEnv true) init [.reopen optsW, .add (hashW blkA) 10 1 false blkA]).1.cache (keyOf (hashW blkA))).map (·.data) = some blkA := by
  decide

/-- add A (queued), one-pass read of A, BlockGet of A, flush, one-pass read, BlockGet -/
def onepassHistory : List OpX :=
  [.op (.reopen optsW), .op (.add (hashW blkA) 10 1 false blkA), .getNC (hashW blkA), .op (.get (hashW blkA)), .op .idle,
   .getNC (hashW blkA), .op (.get (hashW blkA))]

set_option maxRecDepth 1000000 in
/-- the hypotheses of `onepass_read_then_get` hold for a queued block, and the claims below are real ones -/
example : (runX (toyEnv true) init onepassHistory).2.drop 2 = [.data blkA false, .data blkA false, .ok, .data blkA false, .data blkA false] ∧
    (specRunRX (toyEnv true) init {} onepassHistory).drop 2 = [.data blkA false, .data blkA false, .nothing, .data blkA false, .data blkA false] := by
  decide +kernel

/-- store_refines_map WITH ONE-PASS READS, one session on a fresh directory, ANY options (cache size, compression, data-file
    size, retention, backup), any codec that round-trips: for every sequence of add / get / length / mark-trusted /
    mark-invalid / idle-flush / close AND one-pass reads `BlockGetInternal(hash, true)` in any order, every read — caching or
    one-pass — of a key that was added, never marked invalid and whose data file is within retention returns the bytes of its
    first add and the latest trusted flag (`claimRX` demands of a one-pass read what `claimR` demands of `get`).
    `_partial`: one session; the restart theorems of this file (`store_refines_map`, `reopen_index`) are stated over `Op`,
    which has the caching read only — for histories with restarts AND one-pass reads: `restart_refines_onepass`, `runX_hist`
    (Proofs/C16Hist.lean; the one-pass read changes no file and no record field but `olen`). -/
theorem store_refines_map_onepass_partial (env : Env)
    (hrt : ∀ x : Bytes, x.length ≤ 0xffffffff → env.dec (env.enc x) = some x) (hne : ∀ x, env.enc x ≠ [])
    (o : Opts) (ops : List OpX) (hops : ∀ op ∈ ops, op.ok) :
    AllHold (specRunRX env init {} (.op (.reopen o) :: ops)) (runX env init (.op (.reopen o) :: ops)).2 :=
  session_refines_onepass env ⟨hrt, hne⟩ o ops hops

example : ∀ op ∈ onepassHistory.drop 1, op.ok := by
  simp only [onepassHistory, List.drop, List.forall_mem_cons]
  exact ⟨⟨rfl, by simp [Op.sizeOK, blkA, mkBlock]⟩, trivial, ⟨rfl, trivial⟩, ⟨rfl, trivial⟩, trivial, ⟨rfl, trivial⟩, nofun⟩

/-- the same with the snappy model as codec — the environment `oracle_c16` runs -/
theorem store_refines_map_onepass_snappy_partial (hash : Bytes → Bytes) (adv : Bool)
    (o : Opts) (ops : List OpX) (hops : ∀ op ∈ ops, op.ok) :
    AllHold (specRunRX (snappyEnv hash adv) init {} (.op (.reopen o) :: ops)) (runX (snappyEnv hash adv) init (.op (.reopen o) :: ops)).2 :=
  session_refines_onepass _ (snappyEnv_ok hash adv) o ops hops

end GocoinV.Props.C16
