/-
  Props.C15 — property theorems for C15 (address encodings). Theorems ONLY (helper lemmas live in
  GocoinV/Proofs/). Every theorem here is listed by ./check, audited with `#print axioms`, and counted
  as an obligation in evidence/C15.json.
-/
import GocoinV.Model.Addr
import GocoinV.Proofs.C15Base58
import GocoinV.Proofs.C15Bech32Loops
import GocoinV.Proofs.C15Segwit
import GocoinV.Proofs.C15SegwitInv
import GocoinV.Proofs.C15Addr
import GocoinV.Proofs.C15Base58Inv
import GocoinV.Proofs.C15Wif
import GocoinV.Proofs.C15BchStrings
import GocoinV.Proofs.C15BchOrbit
import GocoinV.Proofs.C15Reuse
import GocoinV.Proofs.C15Sched
import GocoinV.Proofs.C15StrHi
import GocoinV.Proofs.C15StrBech32
import GocoinV.Proofs.C15Payout
namespace GocoinV.Props.C15
open GocoinV Bech32

/-- Decision logic of `SegwitDecode` stated outright: whatever is accepted has a legal witness
    version, a legal program length for that version, the checksum variant that BIP350 prescribes
    for the version, and the human-readable part that was asked for. -/
theorem segwitDecode_sound (hrp s : Bytes) (v : Nat) (p : Bytes)
    (h : segwitDecode hrp s = .ok (v, p)) :
    v ≤ 16 ∧ 2 ≤ p.length ∧ p.length ≤ 40 ∧ (v = 0 → p.length = 20 ∨ p.length = 32) ∧
    ∃ data m, decode s = some (hrp, data, m) ∧ (m = true ↔ v ≠ 0) := by
  obtain ⟨_, _, m, hdec, _, hv, hm, _, h2, h40, h0⟩ := segwitDecode_ok h
  exact ⟨hv, h2, h40, h0, _, m, hdec, hm⟩

/-- non-vacuity: the BIP173 test vector BC1QW508D6QEJXTDG4Y5R3ZARVARY0C5XW7KV8F3T4 is accepted -/
example : (segwitDecode [98, 99] [66, 67, 49, 81, 87, 53, 48, 56, 68, 54, 81, 69, 74, 88, 84, 68, 71, 52, 89, 53, 82, 51, 90, 65, 82, 86, 65, 82, 89, 48, 67, 53, 88, 87, 55, 75, 86, 56, 70, 51, 84, 52]).toOption =
    some (0, [0x75, 0x1e, 0x76, 0xe8, 0x19, 0x91, 0x96, 0xd4, 0x54, 0x94, 0x1c, 0x45, 0xd1, 0xb3, 0xa3, 0x23, 0xf1, 0x43, 0x3b, 0xd6]) := by
  decide +kernel

/-- Base58 is lossless: decoding the encoding of any non-empty byte string returns it unchanged
    (leading zero bytes included). The alphabet is the one REGENERATED from lib/btc/addr.go. -/
theorem b58_decode_encode (a : Bytes) (h : a ≠ []) : Base58.decode (Base58.encode a) = some a :=
  Base58.decode_encode a h

/-- non-vacuity / sanity: a 25-byte payload with leading zero round-trips by evaluation too -/
example : Base58.decode (Base58.encode [0, 0, 1, 2, 255]) = some [0, 0, 1, 2, 255] :=
  b58_decode_encode _ (by simp)

/-- Bech32 / Bech32m "create then verify" for EVERY human-readable part (any bytes, the empty one included), data
    part and variant: whatever `bech32.Encode` (model, with the checksum step and tables regenerated from the Go
    source) produces, `bech32.Decode` reads back as the same (hrp, data, variant). No side condition on the hrp:
    `Encode` produces nothing for the empty hrp (`bech32_empty_hrp_refused`, the guard of /repo's commit aaaa0fae;
    without that guard the statement needs `hrp ≠ []`). The proof goes through the GF(2)-linearity of the
    generated polymod step (Proofs/C15Bech32Step*.lean). -/
theorem bech32_decode_encode (hrp data s : Bytes) (m : Bool)
    (h : Bech32.encode hrp data m = some s) : Bech32.decode s = some (hrp, data, m) :=
  Bech32.decode_encode hrp data s m h

/-- `bech32.Encode` and `SegwitEncode` refuse the empty human-readable part for every data / version / program /
    variant (BIP173: 1 to 83 characters). This is the guard of /repo's commit aaaa0fae (finding
    `bech32-encode-empty-hrp`): without it `Encode("", [0,1,2], false)` is "1qpzceglat", which `Decode` refuses, and
    the round trip above fails there. -/
theorem bech32_empty_hrp_refused (data prog : Bytes) (m : Bool) (v : Nat) :
    Bech32.encode [] data m = none ∧ segwitEncode [] v prog = none := by
  refine ⟨Bech32.encode_nil data m, ?_⟩
  cases h : segwitEncode [] v prog with
  | none => rfl
  | some s =>
    obtain ⟨_, _, _, _, d, _, he⟩ := Bech32.segwitEncode_some h
    rw [Bech32.encode_nil] at he; cases he

/-- What `bech32.Encode` takes, stated outright (the harness' own `encodable` predicate, BIP173): it produces a string
    EXACTLY when the human-readable part is non-empty, all its bytes are in 33..126 and none is an upper-case letter
    (so any byte ≥ 0x80 — any non-ASCII character typed into an hrp — is refused), every data symbol is < 32, and
    hrp + 1 + data + 6 ≤ 90 characters. -/
theorem bech32_encode_accept_iff (hrp data : Bytes) (m : Bool) :
    (Bech32.encode hrp data m).isSome = true ↔
      hrp ≠ [] ∧ (∀ c ∈ hrp, 33 ≤ c.toNat ∧ c.toNat ≤ 126 ∧ isUpper c = false) ∧ (∀ x ∈ data, x.toNat ≤ 31) ∧
        hrp.length + 7 + data.length ≤ 90 :=
  Bech32.encode_isSome_iff hrp data m

/-- `bech32.Encode` AS IT IS WRITTEN (`Bech32Str.encodeSrc`: both loops over the human-readable part are a `range`
    over the STRING, i.e. over the first bytes of its UTF-8 code points, and the length test uses the loop variable —
    last visited position + 1 — not `len(hrp)`) computes, for EVERY hrp (any byte string), data and variant, exactly
    the bytewise `Bech32.encode` all theorems of this file are about: the first loop refuses a visited byte > 126, and
    a byte that `range` skips always follows such a byte. -/
theorem bech32_encode_as_written_is_bytewise (hrp data : Bytes) (m : Bool) :
    Bech32Str.encodeSrc hrp data m = Bech32.encode hrp data m := by
  rw [Bech32Str.encode_unfold]
  unfold Bech32Str.encodeSrc
  by_cases h0 : hrp.length < 1
  · simp [h0]
  · simp only [h0, ↓reduceIte]
    rw [Bech32Str.hrpHighR_eq]
    cases h1 : hrpHigh? hrp 1 with
    | none => simp
    | some c1 =>
      have hne : hrp ≠ [] := List.ne_nil_of_length_pos (by omega)
      simp only [Option.map_some, hne, ↓reduceIte, Nat.zero_add]
      by_cases hl : hrp.length + 7 + data.length > 90
      · simp [hl]
      · simp only [hl, ↓reduceIte]
        rw [Bech32Str.hrpLowR_eq hrp _ _ (Bech32Str.hrpHigh_ascii hrp 1 c1 h1)]
        cases dataFold? data (hrpLow hrp (polymodStep c1)) <;> rfl

/-- sanity: a 2-byte code point in the hrp ("é1…": c3 a9) is refused at its first byte by both readings, and an ASCII
    hrp is encoded -/
example : Bech32Str.encodeSrc [0xc3, 0xa9] [0] false = none ∧ Bech32.encode [0xc3, 0xa9] [0] false = none ∧
    (Bech32Str.encodeSrc [98, 99] [0, 14, 20, 15] false).isSome = true := by decide +kernel

/-- non-vacuity: the encoder does produce something for a usual input -/
example : (Bech32.encode [98, 99] [0, 14, 20, 15] false).isSome = true := by decide +kernel

/-- `convert_bits` round trip (the regrouping used by SegwitEncode / SegwitDecode), for EVERY byte string:
    if regrouping `prog` from 8-bit to 5-bit groups with padding gives `d`, then regrouping `d` from 5-bit
    to 8-bit groups without padding succeeds and gives back `prog`. The model's accumulator is the same
    wrapping 32-bit value as in the Go code (Proofs/C15Conv.lean shows it agrees with the unbounded
    positional value on every bit that is ever read). -/
theorem convertBits_roundtrip (prog d : Bytes) (h : convertBits 5 prog 8 true = some d) :
    convertBits 8 d 5 false = some prog :=
  Bech32.convertBits_roundtrip prog d h

/-- non-vacuity: the 8→5 direction with padding always produces a result -/
example (prog : Bytes) : ∃ d, convertBits 5 prog 8 true = some d := Bech32.convertBits_85_total prog

/-- What the 8→5 regrouping produces: every output symbol is a 5-bit value (so `Encode` never refuses it),
    the number `p` of padding bits is below 5, and the output read as a base-32 number equals the input
    read as a base-256 number shifted left by `p` — i.e. the padding bits are zero. These are exactly the
    two padding conditions `SegwitDecode` tests (leftover bits < 5, leftover bits all zero). -/
theorem convertBits_pad_facts (prog d : Bytes) (h : convertBits 5 prog 8 true = some d) :
    (∀ x ∈ d, x.toNat < 2 ^ 5) ∧ ∃ p, p < 5 ∧ 5 * d.length = 8 * prog.length + p ∧
      Vr 5 d.reverse = Vr 8 prog.reverse * 2 ^ p :=
  Bech32.convertBits_85_spec prog d h

/-- non-vacuity of `convertBits_pad_facts` on a 3-byte input -/
example : convertBits 5 [0xff, 0x00, 0x81] 8 true = some [31, 28, 0, 8, 2] := by decide +kernel

/-- Segwit address round trip, encode then decode, for EVERY human-readable part (in particular
    "bc" and "tb"), every witness version and every program: whenever `SegwitEncode` produces a string
    (it does so exactly for version ≤ 16, program length 2..40, and 20/32 for version 0 — see
    `segwitEncode_some`), `SegwitDecode` with the same hrp accepts that string and returns the same
    version and program. Bech32 is used for version 0 and Bech32m for versions 1..16 on both sides. -/
theorem segwit_decode_encode (hrp prog s : Bytes) (v : Nat)
    (h : segwitEncode hrp v prog = some s) : segwitDecode hrp s = .ok (v, prog) :=
  Bech32.segwit_decode_encode hrp prog s v h

/-- non-vacuity: a version-1 (taproot-style) 32-byte program on "bc" is encoded -/
example : (segwitEncode [98, 99] 1 (List.replicate 32 7)).isSome = true := by decide +kernel

/-- Bech32 / Bech32m decode then encode, for EVERY input string (any case): whatever `bech32.Decode`
    accepts as (hrp, data, variant), `bech32.Encode` of that triple succeeds and gives the input with
    ASCII upper-case letters lower-cased. Hence an accepted string is determined, up to case, by what it
    decodes to: a string with a wrong checksum, an invalid character or the other checksum variant cannot
    decode to the same triple. (The proof uses the converse of the checksum lemma: the six checksum symbols
    are the ONLY six symbols that bring the generated polymod to the final constant.) -/
theorem bech32_encode_decode (s hrp data : Bytes) (m : Bool) (h : Bech32.decode s = some (hrp, data, m)) :
    Bech32.encode hrp data m = some (s.map Addr.asciiLower) :=
  Bech32.encode_decode s hrp data m h

/-- non-vacuity: the upper-case BIP173 vector "A12UEL5L" is accepted (and decodes to hrp "a", no data) -/
example : Bech32.decode [65, 49, 50, 85, 69, 76, 53, 76] = some ([97], [], false) := by decide +kernel

/-- the same for an input without upper-case letters (what wallets produce): re-encoding gives exactly
    the input -/
theorem bech32_encode_decode_lower (s hrp data : Bytes) (m : Bool) (hlow : ∀ c ∈ s, isUpper c = false)
    (h : Bech32.decode s = some (hrp, data, m)) : Bech32.encode hrp data m = some s := by
  rw [Bech32.encode_decode s hrp data m h]
  congr 1
  exact (List.map_congr_left fun c hc => Bech32.lower_of_notUpper c (hlow c hc)).trans (List.map_id _)

/-- non-vacuity: "a12uel5l" has no upper-case letter and is accepted -/
example : (∀ c ∈ ([97, 49, 50, 117, 101, 108, 53, 108] : Bytes), isUpper c = false) ∧
    Bech32.decode [97, 49, 50, 117, 101, 108, 53, 108] = some ([97], [], false) := by decide +kernel

/-- the padding rules make 5→8 regrouping lossless: if a string of 5-bit symbols regroups to bytes `w`
    without padding (fewer than 5 left-over bits, all zero — the two tests of `convert_bits(..., false)`),
    then regrouping `w` back with padding returns the same symbols -/
theorem convertBits_roundtrip_rev (d w : Bytes) (hd : ∀ x ∈ d, x.toNat < 2 ^ 5)
    (h : convertBits 8 d 5 false = some w) : convertBits 5 w 8 true = some d :=
  Bech32.convertBits_58_inv d w hd h

/-- non-vacuity of `convertBits_roundtrip_rev` -/
example : (∀ x ∈ ([31, 28, 0, 8, 2] : Bytes), x.toNat < 2 ^ 5) ∧
    convertBits 8 [31, 28, 0, 8, 2] 5 false = some [0xff, 0x00, 0x81] := by decide +kernel

/-- `segwitDecode_sound` strengthened to "decode then re-encode" (the property's "decoding and re-encoding an
    accepted address yields the same string up to Bech32 case"), for EVERY hrp and EVERY input string: if
    `SegwitDecode hrp s` accepts with version `v` and program `prog`, then `SegwitEncode hrp v prog`
    succeeds and returns `s` with ASCII upper-case letters lower-cased. Consequently any two accepted
    strings denoting the same (version, program) are equal up to case, and a string that is refused by
    the checksum / variant / padding / length rules is never the encoding of anything. -/
theorem segwit_encode_decode (hrp s prog : Bytes) (v : Nat)
    (h : segwitDecode hrp s = .ok (v, prog)) : segwitEncode hrp v prog = some (s.map Addr.asciiLower) :=
  Bech32.segwit_encode_decode hrp s prog v h

/-- non-vacuity: the upper-case BIP173 vector BC1QW508D6QEJXTDG4Y5R3ZARVARY0C5XW7KV8F3T4 is accepted -/
example : (segwitDecode [98, 99] [66, 67, 49, 81, 87, 53, 48, 56, 68, 54, 81, 69, 74, 88, 84, 68, 71, 52, 89, 53, 82, 51, 90, 65, 82, 86, 65, 82, 89, 48, 67, 53, 88, 87, 55, 75, 86, 56, 70, 51, 84, 52]).toOption.isSome = true := by
  decide +kernel

/-- `Encodeb58` never writes outside its buffer: the Go code allocates len(a)*138/100+1 bytes and fills
    them from the end; the encoding of EVERY byte string fits (256^100 < 58^138, plus the 100 residues). -/
theorem encode_fits (a : Bytes) : (Base58.encode a).length ≤ a.length * 138 / 100 + 1 := by
  unfold Base58.encode Base58.leadingZeros
  simp only [List.length_append, List.length_replicate, List.length_map]
  have hs := congrArg List.length (List.takeWhile_append_dropWhile (p := (· == 0)) (l := a))
  simp only [List.length_append] at hs
  have hv : beVal a < 58 ^ ((a.dropWhile (· == 0)).length * 138 / 100 + 1) := by
    rw [← beVal_dropWhile_zero a]; exact Nat.lt_of_lt_of_le (beVal_lt _) (Base58.pow_bound _)
  have := Base58.digits_length_le _ _ hv
  omega

/-- Address level, script → address → script, for the five supported destination forms (`Addr.Supported`:
    witness v0 with a 20/32-byte program, witness v1..16 with a 2..40-byte program, P2PKH with version byte
    0/111/48, P2SH with version byte 5/196, 20-byte hashes), for either network flag and EVERY hash
    function: `OutScript` does not panic, `NewAddrFromPkScript` recognises the script it produced, and the
    address it returns has the same `OutScript`. -/
theorem addr_script_roundtrip (H : Addr.Hashes) (a : Addr.Addr) (tn : Bool) (hs : Addr.Supported a) :
    ∃ scr a', Addr.outScript a = some scr ∧ Addr.fromPkScript H scr tn = some a' ∧
      Addr.outScript a' = some scr :=
  Addr.script_roundtrip H a tn hs

/-- non-vacuity: a version-1 witness program of 32 bytes is a supported form -/
example : Addr.Supported (.segwit [98, 99] 1 (List.replicate 32 7)) := by
  refine ⟨by omega, by simp, by simp, by omega⟩

/-- Address level, address → string → address ("encoding and then decoding any supported destination yields
    the same output script"): for every supported form built the way the wallet builds it (`Addr.Fresh`:
    hrp "bc" or "tb", no cached Base58 string), `String()` produces a string, `NewAddrFromString` accepts
    that string, and the address it returns has the same `OutScript`. Holds for EVERY hash function whose
    double-SHA256 slot returns 32 bytes. For Base58 the proof includes that the string of the five
    supported version bytes starts with '1', '3', 'm'/'n', '2' or 'L' and therefore is never taken for a
    segwit address by the "bc1"/"tb1" prefix test. -/
theorem addr_string_roundtrip (H : Addr.Hashes) (hH : ∀ x, (H.sha2sum x).length = 32) (a : Addr.Addr)
    (hs : Addr.Supported a) (hf : Addr.Fresh a) :
    ∃ s a', Addr.toString H a = some s ∧ Addr.fromString H s = .ok a' ∧ Addr.outScript a' = Addr.outScript a := by
  cases a with
  | segwit hrp v p =>
    obtain ⟨h1, h2, h3, h4⟩ := hs
    obtain ⟨s, hs⟩ := Addr.segwitEncode_isSome hrp p v hf h1 h2 h3 h4
    exact ⟨s, _, hs, Addr.fromString_toString_segwit H hrp p s v hf hs, rfl⟩
  | b58 ver h enc =>
    obtain ⟨hl, hv⟩ := hs
    obtain rfl : enc = none := hf
    have hck := take4_length (hH (ver :: h))
    have hp := Addr.b58_not_segwitPrefix ver (h ++ (H.sha2sum (ver :: h)).take 4)
      (by rw [List.length_append, hl, hck]) (by
        rcases hv with e | e | e | e | e <;> simp [e])
    refine ⟨Base58.encode (ver :: h ++ (H.sha2sum (ver :: h)).take 4), _, rfl,
      Addr.fromString_toString_b58 H hH ver h _ hl rfl hp, rfl⟩

/-- non-vacuity: a hash slot returning 32 bytes exists; a P2SH address without cached string is supported and fresh -/
example : ∃ H : Addr.Hashes, ∀ x, (H.sha2sum x).length = 32 :=
  ⟨⟨fun _ => List.replicate 32 0, fun _ => []⟩, fun _ => by simp⟩

example : Addr.Supported (.b58 5 (List.replicate 20 9) none) ∧ Addr.Fresh (.b58 5 (List.replicate 20 9) none) :=
  ⟨⟨by simp, by simp⟩, rfl⟩

/-- Base58Check acceptance stated outright, for EVERY string of at least 4 bytes that does not start with
    "bc1"/"tb1" (any case) and EVERY hash function: `NewAddrFromString` accepts exactly when the Base58
    decoding has 25 bytes and its last 4 bytes equal the first 4 bytes of the double-SHA256 of the first 21;
    the address then carries byte 0 as version and bytes 1..20 as hash. A wrong checksum, a bad character
    (decode = none), a short or an over-long payload are all refused. -/
theorem b58check_accept_iff (H : Addr.Hashes) (hs : Bytes) (hlen : 4 ≤ hs.length)
    (hp : ¬ Addr.segwitPrefix hs) (a : Addr.Addr) :
    Addr.fromString H hs = .ok a ↔
      ∃ dec, Base58.decode hs = some dec ∧ dec.length = 25 ∧ (H.sha2sum (dec.take 21)).take 4 = dec.drop 21 ∧
        a = .b58 (dec.headD 0) ((dec.drop 1).take 20) (some hs) :=
  Addr.b58check_accept_iff H hs hlen hp a

/-- non-vacuity: "1111" has 4 bytes and no segwit prefix -/
example : 4 ≤ ([49, 49, 49, 49] : Bytes).length ∧ ¬ Addr.segwitPrefix [49, 49, 49, 49] := by
  refine ⟨by simp, Addr.not_prefix_of_first _ _ (by decide)⟩

/-- … and an ACCEPTED string exists (so the iff is not an iff between two false statements): with the toy hash
    "32 zero bytes", the Base58 spelling of 00 ‖ 20×01 ‖ 00000000 is accepted as a version-0 address. -/
example : (Addr.fromString { sha2sum := fun _ => List.replicate 32 0, hash160 := fun _ => List.replicate 20 0 }
    (Base58.encode (0 :: (List.replicate 20 1 ++ [0, 0, 0, 0])))).toOption.isSome = true := by decide +kernel

/-- segwit strings at the address level: for hrp "bc"/"tb", `String()` then `NewAddrFromString` returns
    exactly the same address (hrp, version, program) -/
theorem addr_segwit_string_roundtrip (H : Addr.Hashes) (hrp prog s : Bytes) (v : Nat)
    (hh : hrp = strBytes "bc" ∨ hrp = strBytes "tb")
    (h : Addr.toString H (.segwit hrp v prog) = some s) : Addr.fromString H s = .ok (.segwit hrp v prog) :=
  Addr.fromString_toString_segwit H hrp prog s v hh h

/-- non-vacuity: such a string exists for a v0 20-byte program on "tb" (H is irrelevant for segwit) -/
example (H : Addr.Hashes) : (Addr.toString H (.segwit [116, 98] 0 (List.replicate 20 1))).isSome = true := by
  simp only [Addr.toString]; decide +kernel

/-- Mixed case is refused: a string that contains both an ASCII lower-case and an ASCII upper-case letter
    (anywhere: human-readable part or data part) is never accepted by `bech32.Decode`, hence never by
    `SegwitDecode` / `NewAddrFromString` on the segwit path. -/
theorem bech32_mixed_case_refused (s : Bytes) (hmix : s.any isLower = true ∧ s.any isUpper = true) :
    Bech32.decode s = none := by
  cases h : Bech32.decode s with
  | none => rfl
  | some r => exact absurd hmix (Bech32.decode_not_mixed s r h)

/-- non-vacuity: "bc1Q…" style input — one lower-case and one upper-case letter -/
example : ([98, 99, 49, 81] : Bytes).any isLower = true ∧ ([98, 99, 49, 81] : Bytes).any isUpper = true := by
  decide

/-- Base58 decode then encode, for EVERY string: whatever `Decodeb58` accepts re-encodes (`Encodeb58`) to exactly
    the input. With `b58_decode_encode` this makes Base58 a bijection between accepted strings and non-empty
    byte strings: a payload has exactly one spelling (no alternative leading characters, no ignored characters). -/
theorem b58_encode_decode (s pkb : Bytes) (h : Base58.decode s = some pkb) : Base58.encode pkb = s :=
  Base58.encode_decode s pkb h

/-- non-vacuity: "11z" is accepted -/
example : Base58.decode [49, 49, 122] = some [0, 0, 57] := by decide +kernel

/-- Base58Check address, decode then re-encode FROM THE DECODED FIELDS (not from the cached input string): if
    `NewAddrFromString` accepts a non-segwit string `s` as (version, hash), then `String()` of a fresh address
    with that version and hash is `s` again. -/
theorem addr_b58_reencode (H : Addr.Hashes) (hs : Bytes) (hlen : 4 ≤ hs.length) (hp : ¬ Addr.segwitPrefix hs)
    (v : UInt8) (h160 : Bytes) (c : Option Bytes) (h : Addr.fromString H hs = .ok (.b58 v h160 c)) :
    Addr.toString H (.b58 v h160 none) = some hs := by
  obtain ⟨dec, hd, hl, hc, he⟩ := (Addr.b58check_accept_iff H hs hlen hp _).mp h
  cases he
  have h21 := Addr.headD_cons_take dec 20 hl
  simp only [Addr.toString, h21, hc, List.take_append_drop]
  rw [Base58.encode_decode hs dec hd]

/-- non-vacuity: the hypotheses are satisfiable — the accepted witness shown after `b58check_accept_iff` (toy hash
    "32 zero bytes", payload 00 ‖ 20×01 ‖ 00000000) has ≥ 4 bytes, starts with '1' (no segwit prefix) and decodes
    to a version-0 `.b58` address whose re-encoding is the typed string -/
example : (match Addr.fromString { sha2sum := fun _ => List.replicate 32 0, hash160 := fun _ => List.replicate 20 0 }
      (Base58.encode (0 :: (List.replicate 20 1 ++ [0, 0, 0, 0]))) with
    | .ok (.b58 v h _) => v.toNat == 0 && h == List.replicate 20 1 &&
        Addr.toString { sha2sum := fun _ => List.replicate 32 0, hash160 := fun _ => List.replicate 20 0 } (.b58 v h none)
          == some (Base58.encode (0 :: (List.replicate 20 1 ++ [0, 0, 0, 0])))
    | _ => false) = true := by decide +kernel

/-! ### WIF private-key strings (lib/btc/wallet.go) -/

/-- C14's executable model of `DecodePrivateAddr` / `PrivateAddr.String` (Model/HD.lean — the definitions C14's
    oracle runs and its harness compares with the Go code) factors through the string-level codec
    `AddrWif.decode` / `AddrWif.encode` that the theorems below are about (and that C15's oracle runs). -/
theorem wif_model_factors (C : WalletCrypto) :
    (∀ s, HD.decodePrivateAddr C s =
      match AddrWif.decode C s with
      | .error e => .error e
      | .ok (v, k, c) => .ok (HD.newPrivateAddr C k v c)) ∧
    (∀ key ver compr pa, HD.newPrivateAddr C key ver compr = .ok pa →
      HD.privAddrString C pa = .ok (AddrWif.encode C ver key compr)) :=
  ⟨AddrWif.decodePrivateAddr_factors C, AddrWif.privAddrString_factors C⟩

/-- WIF encode then decode, for EVERY version byte, 32-byte key and compression flag, and every hash function
    returning 32 bytes: `DecodePrivateAddr(String())` hands exactly (version, key, compressed) to
    `NewPrivateAddr`. -/
theorem wif_decode_encode (C : WalletCrypto) (hlen : ∀ b, (C.shaHash b).length = 32) (ver : UInt8) (key : Bytes)
    (compr : Bool) (hk : key.length = 32) :
    AddrWif.decode C (AddrWif.encode C ver key compr) = .ok (ver, key, compr) :=
  AddrWif.decode_encode C hlen ver key compr hk

/-- non-vacuity: a hash slot returning 32 bytes and a 32-byte key exist -/
example : ∃ (C : WalletCrypto) (key : Bytes), (∀ b, (C.shaHash b).length = 32) ∧ key.length = 32 :=
  ⟨⟨fun _ => [], fun _ => List.replicate 32 0, fun _ => [], fun _ _ => [], fun _ _ => [], fun _ _ => none⟩,
   List.replicate 32 1, fun _ => by simp, by simp⟩

/-- WIF acceptance stated outright, for EVERY string and hash function — the clean rule (that of Bitcoin Core's
    `DecodeSecret`): accepted iff the Base58 decoding is EITHER 37 bytes (then uncompressed) OR 38 bytes whose
    byte 33 is 01 (then compressed), and its last 4 bytes equal the first 4 bytes of the double-SHA256 of the
    rest; then version = byte 0, key = bytes 1..32. A bad character, a wrong length, a wrong checksum and any other
    value of the flag byte (the test of /repo's `fix:` commit for finding `wif-flag-byte-unchecked`) are refused. -/
theorem wif_accept_iff (C : WalletCrypto) (s : Bytes) (v : UInt8) (k : Bytes) (c : Bool) :
    AddrWif.decode C s = .ok (v, k, c) ↔
      ∃ pkb, Base58.decode s = some pkb ∧
        ((pkb.length = 37 ∧ c = false) ∨ (pkb.length = 38 ∧ pkb.getD 33 0 = 1 ∧ c = true)) ∧
        (C.shaHash (pkb.take (pkb.length - 4))).take 4 = pkb.drop (pkb.length - 4) ∧
        v = pkb.headD 0 ∧ k = (pkb.drop 1).take 32 :=
  AddrWif.accept_iff C s v k c

/-- WIF decode then encode, for EVERY accepted string (no side condition): it is exactly `String()` of
    the (version, key, compressed) it decodes to, and the key has 32 bytes. Together with `wif_decode_encode`:
    accepted ⇔ is the encoding of a triple ("decoding and re-encoding an accepted … yields the same string",
    "private-key WIF strings likewise"). -/
theorem wif_encode_decode (C : WalletCrypto) (s : Bytes) (v : UInt8) (k : Bytes) (c : Bool)
    (h : AddrWif.decode C s = .ok (v, k, c)) : AddrWif.encode C v k c = s ∧ k.length = 32 :=
  AddrWif.encode_decode C s v k c h

/-- hence the WIF decoder is injective: two accepted strings that denote the same (version, key, compressed)
    are the same string — one key has one spelling per compression choice. -/
theorem wif_decode_injective (C : WalletCrypto) (s s' : Bytes) (v : UInt8) (k : Bytes) (c : Bool)
    (h : AddrWif.decode C s = .ok (v, k, c)) (h' : AddrWif.decode C s' = .ok (v, k, c)) : s = s' :=
  (AddrWif.encode_decode C s v k c h).1.symm.trans (AddrWif.encode_decode C s' v k c h').1

/-- non-vacuity of the two theorems above: accepted strings exist — every `String()` output is one
    (`wif_decode_encode`) -/
example (C : WalletCrypto) (hlen : ∀ b, (C.shaHash b).length = 32) :
    ∃ s v k c, AddrWif.decode C s = .ok (v, k, c) :=
  ⟨_, 0x80, List.replicate 32 1, true, AddrWif.decode_encode C hlen 0x80 (List.replicate 32 1) true (by simp)⟩

/-- The flag byte is checked (finding `wif-flag-byte-unchecked`): for EVERY version, 32-byte key, flag byte other
    than 01 and hash function, the Base58Check string of version ‖ key ‖ flag (38-byte payload, correct checksum)
    is REFUSED with the flag error — as Bitcoin Core does. The harness replays the concrete witness
    KwDiBf89QgGbjEhKnhXJuH7LrciVrZi3qYjgd9M7rFU73sMvhksF on the real code on every run. -/
theorem wif_flag_byte_refused (C : WalletCrypto) (hlen : ∀ b, (C.shaHash b).length = 32)
    (ver flag : UInt8) (key : Bytes) (hk : key.length = 32) (hf : flag ≠ 1) :
    let buf := ver :: (key ++ [flag])
    AddrWif.decode C (Base58.encode (buf ++ (C.shaHash buf).take 4)) = .error .flag := by
  intro buf
  have hbl : buf.length = 34 := by simp [buf, hk]
  rw [AddrWif.decode_of_body C hlen buf (Or.inr hbl), if_pos ⟨hbl, by simpa [buf, hk] using hf⟩]

/-- non-vacuity: flag bytes other than 01 exist (a 32-byte-hash instance and a 32-byte key: example above) -/
example : (0 : UInt8) ≠ 1 ∧ (0xff : UInt8) ≠ 1 := by decide

/-! ### pay-to-pubkey scripts -/

/-- `NewAddrFromPkScript` on the P2PK forms, exactly as the code treats them: for EVERY 33-byte string `pk`
    (no test of the 02/03 prefix) the script 21 ‖ pk ‖ ac, and for EVERY 65-byte string the script 41 ‖ pk ‖ ac,
    gives the P2PKH address (version 0 / 111) of HASH160(pk) without cached string. -/
theorem p2pk_script_address (H : Addr.Hashes) (tn : Bool) (pk : Bytes) :
    (pk.length = 33 → Addr.fromPkScript H (0x21 :: (pk ++ [0xac])) tn =
      some (.b58 (if tn then 111 else 0) (H.hash160 pk) none)) ∧
    (pk.length = 65 → Addr.fromPkScript H (0x41 :: (pk ++ [0xac])) tn =
      some (.b58 (if tn then 111 else 0) (H.hash160 pk) none)) :=
  ⟨Addr.fromPkScript_p2pk33 H tn pk, Addr.fromPkScript_p2pk65 H tn pk⟩

/-- consequently script → address → script is NOT the identity on P2PK scripts: `OutScript` of the address
    returned is the 25-byte P2PKH script 76 a9 14 HASH160(pk) 88 ac (the usual wallet convention: the address of a
    P2PK output is the address of its key) -/
theorem p2pk_outscript_is_p2pkh (H : Addr.Hashes) (tn : Bool) (pk : Bytes) (h : pk.length = 33 ∨ pk.length = 65) :
    ∃ a, Addr.fromPkScript H (UInt8.ofNat pk.length :: (pk ++ [0xac])) tn = some a ∧
      Addr.outScript a = some ([0x76, 0xa9, 20] ++ H.hash160 pk ++ [0x88, 0xac]) := by
  refine ⟨.b58 (if tn then 111 else 0) (H.hash160 pk) none, ?_, by cases tn <;> simp [Addr.outScript]⟩
  rcases h with h | h <;> rw [h]
  · exact Addr.fromPkScript_p2pk33 H tn pk h
  · exact Addr.fromPkScript_p2pk65 H tn pk h

/-- non-vacuity -/
example : (List.replicate 33 (2 : UInt8)).length = 33 ∨ (List.replicate 33 (2 : UInt8)).length = 65 := by simp

/-! ### error detection as a distance property -/

/-- Bech32 / Bech32m detect every 1- and 2-character substitution in the data part: if `bech32.Decode` accepts
    `s` and `s'` with the same human-readable part and the same checksum variant, the strings have equal length
    (≤ 90 by `Decode`'s own test) and differ — comparing case-insensitively — in at most 2 positions, then they
    are equal up to case. Equivalently: changing 1 or 2 characters of the data part (checksum included) of an
    accepted string never gives a string accepted under the same hrp and variant. Proof (shared with distance ≤ 3
    below, of which this is the special case): XOR-linearity of the GENERATED polymod step on 30-bit states
    (`ps_lin`), injectivity of the step, its linearity over GF(32) (`mulA_ps`), and a kernel computation
    (`decide +kernel`, no native_decide) on the residues x^k mod g, 0 ≤ k ≤ 89.
    NOT stated here: weight 3 (`bech32_detects_le3_substitutions` below) and weight 4 (OPEN, end of file); a substitution that turns a Bech32 string into a valid
    Bech32m string or vice versa (different variant); substitutions that move the separator '1'. -/
theorem bech32_detects_le2_substitutions (s s' hrp d d' : Bytes) (m : Bool)
    (h : Bech32.decode s = some (hrp, d, m)) (h' : Bech32.decode s' = some (hrp, d', m))
    (hlen : s.length = s'.length)
    (hd : Bech32.hamming (s.map Addr.asciiLower) (s'.map Addr.asciiLower) ≤ 2) :
    s.map Addr.asciiLower = s'.map Addr.asciiLower :=
  Bech32.detect_gen 3 Bech32.pf_detect3 s s' hrp d d' m h h' hlen (Nat.le_succ_of_le hd)

/-- non-vacuity: "a12uel5l" is accepted, and at distance 0 from itself -/
example : Bech32.decode [97, 49, 50, 117, 101, 108, 53, 108] = some ([97], [], false) ∧
    Bech32.hamming [97, 49, 50, 117, 101, 108, 53, 108] [97, 49, 50, 117, 101, 108, 53, 108] ≤ 2 := by decide +kernel

/-- a NON-trivial instance, and what the theorem excludes: "A12UEL5L" and "a12uel5l" are both accepted with the same
    (hrp, data, variant) at distance 0 after lowering — two different strings the theorem calls equal up to case —,
    while the 1-substitution neighbours "a12uel5m" / "a12uel4l" / "a12ue75l" (last, middle and first checksum
    character changed) are NOT accepted at all. -/
example : Bech32.decode [65, 49, 50, 85, 69, 76, 53, 76] = some ([97], [], false) ∧
    ([65, 49, 50, 85, 69, 76, 53, 76] : Bytes) ≠ [97, 49, 50, 117, 101, 108, 53, 108] ∧
    Bech32.hamming (([65, 49, 50, 85, 69, 76, 53, 76] : Bytes).map Addr.asciiLower)
      (([97, 49, 50, 117, 101, 108, 53, 108] : Bytes).map Addr.asciiLower) = 0 ∧
    Bech32.hamming [97, 49, 50, 117, 101, 108, 53, 109] [97, 49, 50, 117, 101, 108, 53, 108] = 1 ∧
    Bech32.decode [97, 49, 50, 117, 101, 108, 53, 109] = none ∧
    Bech32.decode [97, 49, 50, 117, 101, 108, 52, 108] = none ∧
    Bech32.decode [97, 49, 50, 117, 101, 55, 53, 108] = none := by decide +kernel

/-- the same at the segwit level: two strings accepted by `SegwitDecode` for the same hrp whose witness versions
    are both 0 or both non-zero (`v = 0 ↔ v' = 0`: the versions themselves may differ — a typo in the version symbol
    between two of the versions 1..16 is covered), of equal length, at case-insensitive distance ≤ 2, are equal up
    to case — so a 1- or 2-character typo anywhere after the separator of an address is never accepted (as any
    version/program), unless it changes the version symbol between 0 and non-0 (other checksum variant). -/
theorem segwit_detects_le2_substitutions (hrp s s' p p' : Bytes) (v v' : Nat) (hvv : v = 0 ↔ v' = 0)
    (h : segwitDecode hrp s = .ok (v, p)) (h' : segwitDecode hrp s' = .ok (v', p'))
    (hlen : s.length = s'.length)
    (hd : Bech32.hamming (s.map Addr.asciiLower) (s'.map Addr.asciiLower) ≤ 2) :
    s.map Addr.asciiLower = s'.map Addr.asciiLower := by
  obtain ⟨d, d', m, hdec, hdec'⟩ := segwitDecode_same_variant hvv h h'
  exact Bech32.detect_gen 3 Bech32.pf_detect3 s s' hrp d d' m hdec hdec' hlen (Nat.le_succ_of_le hd)

/-- non-vacuity of `segwit_detects_le2_substitutions` / `_le3_`, non-trivially: the BIP173 address
    bc1qw508d6qejxtdg4y5r3zarvary0c5xw7kv8f3t4 and its upper-case spelling are two DIFFERENT strings, both accepted
    for hrp "bc" as (version 0, the same 20-byte program), of equal length and at distance 0 after lowering (the
    hypotheses hold, the conclusion is not s = s'); its 1-substitution neighbours …f3t5 and …f3tq (last checksum
    character) are refused. -/
example :
    (segwitDecode [98, 99] [98, 99, 49, 113, 119, 53, 48, 56, 100, 54, 113, 101, 106, 120, 116, 100, 103, 52, 121, 53, 114, 51, 122, 97, 114, 118, 97, 114, 121, 48, 99, 53, 120, 119, 55, 107, 118, 56, 102, 51, 116, 52]).toOption = some (0, [117, 30, 118, 232, 25, 145, 150, 212, 84, 148, 28, 69, 209, 179, 163, 35, 241, 67, 59, 214]) ∧
    (segwitDecode [98, 99] [66, 67, 49, 81, 87, 53, 48, 56, 68, 54, 81, 69, 74, 88, 84, 68, 71, 52, 89, 53, 82, 51, 90, 65, 82, 86, 65, 82, 89, 48, 67, 53, 88, 87, 55, 75, 86, 56, 70, 51, 84, 52]).toOption = some (0, [117, 30, 118, 232, 25, 145, 150, 212, 84, 148, 28, 69, 209, 179, 163, 35, 241, 67, 59, 214]) ∧
    ([98, 99, 49, 113, 119, 53, 48, 56, 100, 54, 113, 101, 106, 120, 116, 100, 103, 52, 121, 53, 114, 51, 122, 97, 114, 118, 97, 114, 121, 48, 99, 53, 120, 119, 55, 107, 118, 56, 102, 51, 116, 52] : Bytes) ≠ [66, 67, 49, 81, 87, 53, 48, 56, 68, 54, 81, 69, 74, 88, 84, 68, 71, 52, 89, 53, 82, 51, 90, 65, 82, 86, 65, 82, 89, 48, 67, 53, 88, 87, 55, 75, 86, 56, 70, 51, 84, 52] ∧
    Bech32.hamming (([98, 99, 49, 113, 119, 53, 48, 56, 100, 54, 113, 101, 106, 120, 116, 100, 103, 52, 121, 53, 114, 51, 122, 97, 114, 118, 97, 114, 121, 48, 99, 53, 120, 119, 55, 107, 118, 56, 102, 51, 116, 52] : Bytes).map Addr.asciiLower) (([66, 67, 49, 81, 87, 53, 48, 56, 68, 54, 81, 69, 74, 88, 84, 68, 71, 52, 89, 53, 82, 51, 90, 65, 82, 86, 65, 82, 89, 48, 67, 53, 88, 87, 55, 75, 86, 56, 70, 51, 84, 52] : Bytes).map Addr.asciiLower) = 0 ∧
    Bech32.hamming ([98, 99, 49, 113, 119, 53, 48, 56, 100, 54, 113, 101, 106, 120, 116, 100, 103, 52, 121, 53, 114, 51, 122, 97, 114, 118, 97, 114, 121, 48, 99, 53, 120, 119, 55, 107, 118, 56, 102, 51, 116, 53] : Bytes) [98, 99, 49, 113, 119, 53, 48, 56, 100, 54, 113, 101, 106, 120, 116, 100, 103, 52, 121, 53, 114, 51, 122, 97, 114, 118, 97, 114, 121, 48, 99, 53, 120, 119, 55, 107, 118, 56, 102, 51, 116, 52] = 1 ∧
    (segwitDecode [98, 99] [98, 99, 49, 113, 119, 53, 48, 56, 100, 54, 113, 101, 106, 120, 116, 100, 103, 52, 121, 53, 114, 51, 122, 97, 114, 118, 97, 114, 121, 48, 99, 53, 120, 119, 55, 107, 118, 56, 102, 51, 116, 53]).toOption = none ∧
    (segwitDecode [98, 99] [98, 99, 49, 113, 119, 53, 48, 56, 100, 54, 113, 101, 106, 120, 116, 100, 103, 52, 121, 53, 114, 51, 122, 97, 114, 118, 97, 114, 121, 48, 99, 53, 120, 119, 55, 107, 118, 56, 102, 51, 116, 113]).toOption = none := by decide +kernel

/-- Bech32 / Bech32m detect every substitution of up to THREE characters in the data part: same statement as
    `bech32_detects_le2_substitutions` with distance ≤ 3. A weight-3 error word with zero syndrome would make two of
    the 2759 values (x^k·u mod g) >>> 5, u = 1..31, k = 1..89, with different k equal. The GENERATED polymod step is
    linear over GF(32) (`mulA_ps`, Proofs/C15BchOrbit.lean: multiplying every symbol by α commutes with it), so these
    values are the scalar multiples of the 89 values (x^k mod g) >>> 5, and the kernel computation (`orbit1_tab`,
    `decide +kernel`) computes, with the generated step, one representative per class of proportional values for
    k = 0..89 and checks that the 90 representatives are pairwise different.
    Outside the statement (exactly as for ≤ 2): a corrupted string accepted under the OTHER checksum variant
    (Bech32 ↔ Bech32m; syndrome 1 xor 0x2bc830a3 instead of 0), substitutions that change the position of the
    last '1' (then the hrp differs), insertions and deletions (then the length differs). -/
theorem bech32_detects_le3_substitutions (s s' hrp d d' : Bytes) (m : Bool)
    (h : Bech32.decode s = some (hrp, d, m)) (h' : Bech32.decode s' = some (hrp, d', m))
    (hlen : s.length = s'.length)
    (hd : Bech32.hamming (s.map Addr.asciiLower) (s'.map Addr.asciiLower) ≤ 3) :
    s.map Addr.asciiLower = s'.map Addr.asciiLower :=
  Bech32.detect_gen 3 Bech32.pf_detect3 s s' hrp d d' m h h' hlen hd

/-- non-vacuity: the hypotheses are satisfiable (an accepted string against itself) -/
example : Bech32.decode [97, 49, 50, 117, 101, 108, 53, 108] = some ([97], [], false) ∧
    Bech32.hamming [97, 49, 50, 117, 101, 108, 53, 108] [97, 49, 50, 117, 101, 108, 53, 108] ≤ 3 := by decide +kernel

/-- segwit level, ≤ 3: two strings accepted by `SegwitDecode` for the same hrp with witness versions that are both 0
    or both non-zero (they need not be equal), of equal length, at case-insensitive distance ≤ 3 are equal up to
    case. Since "version = 0" fixes the checksum variant, the only excluded typos are those that change the
    version symbol between 0 and non-0, the separator position or the length. -/
theorem segwit_detects_le3_substitutions (hrp s s' p p' : Bytes) (v v' : Nat) (hvv : v = 0 ↔ v' = 0)
    (h : segwitDecode hrp s = .ok (v, p)) (h' : segwitDecode hrp s' = .ok (v', p'))
    (hlen : s.length = s'.length)
    (hd : Bech32.hamming (s.map Addr.asciiLower) (s'.map Addr.asciiLower) ≤ 3) :
    s.map Addr.asciiLower = s'.map Addr.asciiLower := by
  obtain ⟨d, d', m, hdec, hdec'⟩ := segwitDecode_same_variant hvv h h'
  exact Bech32.detect_gen 3 Bech32.pf_detect3 s s' hrp d d' m hdec hdec' hlen hd

/-! ### one BtcAddr object used over time (Model/AddrObj.lean)

The callers that re-point an existing object (client/usif/textui/wallet.go `list_unspent`, tools/tap2old) assign
exported fields between calls. In the model `String()` / `OutScript()` are functions of the exported fields alone
(`Addr.Obj` has no other component); the harness stream `hist` checks that of the real code by running every history
also on a new object built from the exported fields, and against `Obj.trace`. -/

/-- What the two methods may change: `String()` leaves SegwitProg, Version and Hash160 as they are (it writes only
    the caches Enc58str and Checksum), and `OutScript()` writes nothing at all. -/
theorem reuse_calls_change_only_caches (H : Addr.Hashes) (o : Addr.Obj) :
    (o.string H).2.seg = o.seg ∧ (o.string H).2.ver = o.ver ∧ (o.string H).2.h160 = o.h160 ∧
    o.apply H .callOutScript = o := by
  have h := Addr.Obj.string_core H o
  simp only [Addr.Obj.core, Prod.mk.injEq] at h
  exact ⟨h.1, h.2.1, h.2.2, rfl⟩

/-- `OutScript()` has no memory, for EVERY history (any assignments of SegwitProg / Enc58str / Checksum / Version /
    Hash160 interleaved with any calls of `String()` and `OutScript()`, caches reset or not): its result at the end
    is the result on the object that received only the assignments — no earlier call of either method changes it —
    and it is `outScript` of the destination the exported fields then denote. -/
theorem reuse_outscript_ignores_earlier_calls (H : Addr.Hashes) (ops : List Addr.Op) (o : Addr.Obj) :
    (Addr.Obj.exec H ops o).outScript = (Addr.Obj.exec H (ops.filter (fun op => !op.isCall)) o).outScript ∧
    (Addr.Obj.exec H ops o).outScript = Addr.outScript (Addr.Obj.exec H ops o).dest := by
  refine ⟨?_, rfl⟩
  unfold Addr.Obj.outScript
  rw [Addr.Obj.dest_of_core (Addr.Obj.exec_core_filter H ops o o rfl)]

/-- The re-use idiom is sound. Start from a coherent object (caches empty or holding what `String()` computes from
    the other fields: every newly constructed or parsed address, see `reuse_start_coherent`), run ANY history written
    in the callers' idiom — re-pointing always resets Enc58str (and Checksum when Version/Hash160 are assigned), calls
    of `String()` / `OutScript()` in any number and order — that ends with "point the object to destination `d`, then
    any calls". Then the next `String()` and `OutScript()` are exactly those of a new address for `d` (to which
    `addr_string_roundtrip` / `addr_script_roundtrip` apply), and the object is coherent again. -/
theorem reuse_idiom_gives_fresh_results (H : Addr.Hashes) (hH : ∀ x, (H.sha2sum x).length = 32) (o : Addr.Obj)
    (hc : o.Coherent H) (pre : List Addr.Reuse) (d : Addr.Dest) (cs : List Addr.Reuse)
    (hcs : ∀ s ∈ cs, s.isCall = true) :
    let o' := Addr.Obj.reuse H (pre ++ Addr.Reuse.point d :: cs) o
    (o'.string H).1 = (Addr.toString H d.addr).getD [] ∧ o'.outScript = Addr.outScript d.addr ∧ o'.Coherent H := by
  intro o'
  have hco : o'.Coherent H := Addr.Obj.reuse_coherent H hH _ o hc
  have hd : o'.dest = d.addr := by
    show (Addr.Obj.reuse H (pre ++ Addr.Reuse.point d :: cs) o).dest = d.addr
    rw [Addr.Obj.reuse_append, Addr.Obj.reuse_cons, Addr.Obj.dest_of_core (Addr.Obj.reuse_calls_core H cs hcs _),
      Addr.Obj.point_dest]
  refine ⟨?_, ?_, hco⟩
  · rw [(Addr.Obj.string_coherent H hH o' hco).1, Addr.Obj.fresh, hd]
  · rw [Addr.Obj.outScript, hd]

/-- non-vacuity: `new(BtcAddr)` is coherent, and the suffix `[OutScript, String]` consists of calls only (the shape of
    `list_unspent`'s history: OutScript, point to P2TR, String, OutScript, point to P2WPKH, OutScript) -/
example (H : Addr.Hashes) : Addr.Obj.zero.Coherent H ∧
    (∀ s ∈ ([.outScript, .string] : List Addr.Reuse), s.isCall = true) :=
  ⟨⟨Or.inl rfl, Or.inl rfl⟩, by decide⟩

/-- Where coherent objects come from: (a) any object whose two caches are empty (`new(BtcAddr)`,
    `NewAddrFromHash160`, `NewAddrFromPubkey`, the segwit branch of `NewAddrFromString`); (b) the object the Base58
    branch of `NewAddrFromString` builds for an accepted string — Version, Hash160, Checksum = payload bytes 21..24,
    Enc58str = the string typed. -/
theorem reuse_start_coherent (H : Addr.Hashes) :
    (∀ seg ver h, Addr.Obj.Coherent H ⟨seg, [], none, ver, h⟩) ∧
    (∀ hs a dec, 4 ≤ hs.length → ¬ Addr.segwitPrefix hs → Base58.decode hs = some dec →
      Addr.fromString H hs = .ok a →
      Addr.Obj.Coherent H ⟨none, hs, some (dec.drop 21), dec.headD 0, (dec.drop 1).take 20⟩) :=
  ⟨fun _ _ _ => ⟨Or.inl rfl, Or.inl rfl⟩,
   fun hs a dec hlen hp hd h => Addr.Obj.parsed_b58_coherent H hs hlen hp a dec hd h⟩

/-- non-vacuity of (b): side conditions as for `b58check_accept_iff` (example there) -/
example : 4 ≤ ([49, 49, 49, 49] : Bytes).length ∧ ¬ Addr.segwitPrefix [49, 49, 49, 49] :=
  ⟨by simp, Addr.not_prefix_of_first _ _ (by decide)⟩

/-- What is true WITHOUT the reset (why the callers write `ad.Enc58str = ""`): the string cache is sticky — once
    Enc58str is non-empty, assigning SegwitProg, Version, Hash160 or Checksum does not change what `String()`
    returns. This is the code's documented-by-use contract, not a defect; `OutScript()` has no such cache
    (`reuse_outscript_ignores_earlier_calls`). -/
theorem reuse_string_cache_sticky (H : Addr.Hashes) (o : Addr.Obj) (h : o.enc ≠ []) (op : Addr.Op)
    (hop : op.isCall = false) (hne : ∀ s, op ≠ .setEnc s) : ((o.apply H op).string H).1 = o.enc := by
  cases op <;> simp only [Addr.Op.isCall, Bool.true_eq_false] at hop
  · exact Addr.Obj.string_of_enc_ne H _ h
  · exact absurd rfl (hne _)
  · exact Addr.Obj.string_of_enc_ne H _ h
  · exact Addr.Obj.string_of_enc_ne H _ h
  · exact Addr.Obj.string_of_enc_ne H _ h

/-- non-vacuity: an object with a cached string, re-pointed by assigning SegwitProg only -/
example : (⟨none, [49], none, 0, []⟩ : Addr.Obj).enc ≠ [] ∧ (Addr.Op.setSeg none).isCall = false ∧
    ∀ s, Addr.Op.setSeg none ≠ .setEnc s := ⟨by simp, rfl, fun _ => by simp⟩

/-! ### Several callers at once, nothing shared

All models above are FUNCTIONS of a call's arguments (for `BtcAddr`: of the object's own fields). The client calls the
codec from many goroutines (web-UI requests, wallet balance workers, RPC), each with its own scripts, strings and
objects — so the models describe the code only while the codec functions keep no writable package-level state. -/

/-- SOURCE FACT, regenerated from the tree under test on every run (go/cmd/gen_c15/shared.go, go/types over lib/btc and
    lib/others/bech32): in the call closure of the C15 API (NewAddrFromString, BtcAddr.String/OutScript,
    NewAddrFromPkScript/Hash160/Pubkey, SegwitProg.String, Encodeb58, Decodeb58, DecodePrivateAddr,
    PrivateAddr.String, bech32.Encode/Decode/SegwitEncode/SegwitDecode; bounded at PublicFromPrivate) no use of a
    package-level variable writes it or hands it on as a reference — `b58set`, `bn0`, `bn58`, `charset_rev`
    (`Gen.C15Shared.globalsRead`) are only read, and the REFERENCE-TYPED ones among them (`globalsReadRef`: slices,
    maps, pointers, …, the variables through which a write could escape the classifier by aliasing) are PINNED here
    to `b58set`, `bn0`, `bn58`: a new package-level slice, map, pointer or pool anywhere in the closure changes the
    list and forces a look whatever the classifier thinks of its uses (a new read-only array or scalar, e.g. a
    precomputed generator table, does not); a package-level variable used as
    the key/value of `for k, v = range …` counts as written; and no package-level variable is the receiver of a
    sync / sync/atomic method (`globalsSynchronised = []`: a sync.Pool, sync.Map, atomic.Value or mutex-guarded
    cache IS state shared between callers; whether it is used correctly — e.g. a pooled buffer not handed out after
    Put — is not analysed, so its mere presence breaks the theorem). A scratch value, cache, memo table, loop index
    or pooled buffer hoisted to package level makes one of the three lists differ and the theorem false. -/
theorem codec_writes_no_package_state :
    Gen.C15Shared.globalsWritten = [] ∧ Gen.C15Shared.globalsSynchronised = [] ∧
    Gen.C15Shared.globalsReadRef = ["btc.b58set", "btc.bn0", "btc.bn58"] := by decide

/-- `Encodeb58` under ANY interleaving of any number of callers (step-level model `Base58Sched`: per digit one step
    "DivMod — quotient into the caller's `bn`, remainder into the destination operand" and one step "read the
    remainder, store the digit"; a schedule is any list of caller indices), in the variant the source has
    (`Gen.C15Shared.encodeRemShared`: is that destination operand package-level?): the state of caller `i` after the
    schedule is the state it reaches running ALONE for as many steps as the schedule gave it — no other caller's
    argument or progress enters; when it has left the loop the string it returns is `Base58.encode` of its own
    argument (the function all Base58 / address / WIF theorems above are about); and it has left the loop as soon as
    it was given two steps per digit. -/
theorem concurrent_encodes_schedule_independent (as : List Bytes) (sched : List Nat) (i : Nat) (a : Bytes)
    (ha : as[i]? = some a) :
    ∃ t, (Base58Sched.run Gen.C15Shared.encodeRemShared (Base58Sched.start as) sched).ths[i]? = some t ∧
      t = Base58Sched.alone (Base58Sched.Th.init a) (sched.count i) ∧
      (t.done → t.result a = Base58.encode a) ∧
      (2 * (Base58.digits (beVal a)).length ≤ sched.count i → t.done) := by
  have hs : Gen.C15Shared.encodeRemShared = false := by decide
  refine ⟨_, ?_, rfl, ?_, ?_⟩
  · rw [hs, Base58Sched.run_false_ths]
    simp [Base58Sched.start, ha]
  · exact Base58Sched.alone_done_result a _
  · intro hk
    obtain ⟨k, hk⟩ := Nat.exists_eq_add_of_le hk
    rw [hk, Base58Sched.alone_add]
    have hd := Base58Sched.alone_finishes (beVal a) (Base58Sched.Th.init a) rfl rfl
    rw [Base58Sched.alone_done_stays _ hd]
    exact hd

/-- non-vacuity: two callers, strictly alternating; both have left the loop and hold their own digit -/
example : let s := Base58Sched.run false (Base58Sched.start [[1], [2]]) [0, 1, 0, 1]
    s.ths.map (·.out) = [[Base58.digitChar 1], [Base58.digitChar 2]] ∧ ∀ t ∈ s.ths, t.done := by decide

/-- The fact `encodeRemShared = false` is needed: in the other variant (the remainder operand of DivMod hoisted to ONE
    package-level cell — an allocation-saving rewrite that is byte-for-byte equivalent for a single caller) the
    schedule "A divides, B divides, A stores its digit" makes caller A, encoding the value 1, store B's digit:
    it returns "3" where `Encodeb58` alone returns "2" — a string that decodes to a different payload. -/
theorem shared_remainder_not_schedule_independent :
    let s := Base58Sched.run true ⟨0, [Base58Sched.Th.ofNat 1, Base58Sched.Th.ofNat 2]⟩ [0, 1, 0]
    ∃ t, s.ths[0]? = some t ∧ t.done ∧ t.out = [Base58.digitChar 2] ∧
      (Base58Sched.alone (Base58Sched.Th.ofNat 1) 2).out = [Base58.digitChar 1] ∧
      Base58.digitChar 2 ≠ Base58.digitChar 1 := by decide

/-- SOURCE FACTS (regenerated on every run by go/cmd/gen_c15/strloop.go, same call closure as
    `codec_writes_no_package_state`): the codec reads a typed string BYTE BY BYTE. Nowhere in the closure is a code
    point taken from a string (value variable of a `range` over a string or `[]rune`, result of `utf8.DecodeRune*`,
    element of a `[]rune`; also after conversion to any integer type, arithmetic, assignment to another variable,
    being passed as an argument to a function of the two packages — parameters are followed to a fixpoint — or
    returned by one) converted to an 8/16-bit integer, masked or reduced modulo a small constant; and the list of ALL
    CALL SITES of code-point-aware library functions, with their argument expressions (identifiers normalised: p0 =
    first parameter), is exactly `strings.ToLower(p0[:3])` in `NewAddrFromString` — a second call, or the same call
    on the whole typed string, changes the list (no `EqualFold`, `ToUpper`, `Map`, `TrimSpace`, `unicode.*`, `utf8.*`
    on the typed text). All models of C15 take a Go string as the list of its bytes; these two lists are what makes
    that reading the code's. NOT seen by the extractor: code points carried through struct fields, slices other than
    `[]rune`, channels, interfaces, closures stored in variables, or functions outside lib/btc and lib/others/bech32;
    narrowing by arithmetic other than a conversion, `&` or `%` (e.g. subtracting 256). -/
theorem codec_reads_typed_strings_bytewise :
    Gen.C15Str.runeNarrowings = [] ∧
    Gen.C15Str.unicodeCalls = ["btc.NewAddrFromString: strings.ToLower(p0[:3])"] := by
  decide

/-- The digit loop of `Decodeb58` AS IT IS WRITTEN (`Base58Str.decodeSrc`: a `range` over the string visits the first
    byte of every UTF-8 code point, an invalid byte being a code point of width 1 — `Gen.C15Str.b58DecodeRangesString`;
    what is looked up there — `Gen.C15Str.b58DecodeLookup`: the byte `s[i]`) computes, for EVERY byte string, exactly
    the bytewise `Base58.decode` that all Base58 / address / WIF theorems of this file are about: the bytes `range`
    skips follow a first byte ≥ 0xC2, which is in no alphabet. Needs the regenerated lookup to be 0 (byte) or 2 (the
    range's value variable used ONLY as a comparison operand, an index or a switch tag/case, i.e. at full width);
    false as soon as the loop looks up the code point narrowed to a byte (1), and not provable when the value variable
    is used in any way the extractor does not classify — handed to a callee, converted, stored (3, modelled as 1). -/
theorem b58_decode_as_written_is_bytewise (s : Bytes) : Base58Str.decodeSrc s = Base58.decode s := by
  have hl : Gen.C15Str.b58DecodeLookup = 0 ∨ Gen.C15Str.b58DecodeLookup = 2 := by decide
  exact Base58Str.decodeGo_eq _ _ hl s

/-- "AN INVALID CHARACTER … IS REFUSED", for every character outside ASCII in whatever encoding: a typed string with a
    byte ≥ 0x80 — any UTF-8 encoded code point ≥ U+0080 (letters of other scripts, full-width forms, KELVIN SIGN, code
    points congruent to an alphabet letter modulo 256 or 128, zero-width characters), any over-long or invalid
    sequence — is refused by `Decodeb58` (bytewise model and the loop as written), `bech32.Decode`, `SegwitDecode`
    (for any expected hrp), `NewAddrFromString` and `DecodePrivateAddr`. -/
theorem nonascii_refused (H : Addr.Hashes) (C : WalletCrypto) (hrp s : Bytes) (h : ∃ c ∈ s, 128 ≤ c.toNat) :
    Base58.decode s = none ∧ Base58Str.decodeSrc s = none ∧ Bech32.decode s = none ∧
    Bech32.segwitDecode hrp s = .error .decode ∧
    (Addr.fromString H s = .error .short ∨ Addr.fromString H s = .error (.segwit .decode) ∨
      Addr.fromString H s = .error .b58decode) ∧
    AddrWif.decode C s = .error .b58 :=
  ⟨Base58Str.decode_hi s h, by rw [b58_decode_as_written_is_bytewise]; exact Base58Str.decode_hi s h,
   Bech32.decode_hi s h, Bech32.segwitDecode_hi hrp s h, Addr.fromString_hi H s h, AddrWif.decode_hi C s h⟩

/-- non-vacuity: "1" followed by U+0146 (UTF-8 c5 86; 0x46 = 'F') satisfies the hypothesis -/
example : ∃ c ∈ ([0x31, 0xc5, 0x86] : Bytes), 128 ≤ c.toNat := ⟨0xc5, by simp, by decide⟩

/-- The fact `b58DecodeLookup ≠ 1` is needed: in the variant "for _, c := range s { … b58chr2int(byte(c)) … }" (the
    idiomatic-looking rewrite, identical on ASCII) the two bytes c4 b2 — U+0132, whose low 8 bits are 0x32 = '2' —
    decode to the payload 01 that the string "2" denotes, while the bytewise decoder refuses them. -/
theorem rune_narrowing_accepts_nonalphabet :
    Base58Str.decodeGo true 1 [0xc4, 0xb2] = some [1] ∧ Base58.decode [0x32] = some [1] ∧
    Base58.decode [0xc4, 0xb2] = none := by
  have hv : Base58Str.valueGo true 1 [0xc4, 0xb2] = some 1 := by decide +kernel
  have hw : Base58.value? [0x32] 0 = some 1 := by decide +kernel
  have hn : Base58.natBytes 1 = [1] := Base58.natBytes_beVal [1]
  refine ⟨?_, ?_, Base58Str.decode_hi _ ⟨0xc4, by simp, by decide⟩⟩
  · unfold Base58Str.decodeGo; rw [hv]; simp only [hn]; decide +kernel
  · unfold Base58.decode; rw [hw]; simp only [hn]; decide +kernel

/-! ### A payout address typed at run time (client/usif/textui `minadr` → rpcapi.COINBASE_ADDRESS → make_coinbase_tx)

"Hence the script a payment is sent to is always the one the typed address denotes", for the caller that keeps the
typed address ACROSS calls. `Addr.Payout.run` is the model of the two sites as written (the only state is the
string; every template decodes it again); go/cmd/c15/callers.go runs the same histories through the real
`minadr` handler and the real `make_coinbase_tx`, one fresh process per history. -/

/-- For EVERY history of `minadr <string>` commands, templates and `validateaddress` calls, from every start value
    of COINBASE_ADDRESS and for every hash function: the template requested next pays the script of the address IN
    FORCE - the last typed string that is non-empty and accepted by `NewAddrFromString`, the start value when
    nothing acceptable was typed yet. Templates and validateaddress calls that happened earlier do not appear on
    the right-hand side at all: no earlier request can influence what a template pays. -/
theorem payout_pays_address_in_force (H : Addr.Hashes) (pre : List Addr.Payout.Step) (start : Bytes) :
    Addr.Payout.run H (pre ++ [.template]) start =
      Addr.Payout.run H pre start ++
        [.pays (Addr.Payout.scriptOf H (Addr.Payout.inForce H start (Addr.Payout.typedOf pre)))] := by
  rw [Addr.Payout.run_append, Addr.Payout.cfgAfter_eq_inForce]; rfl

/-- The same for the string `minadr` DISPLAYS: after typing `s` the command shows the address in force of the
    history including `s` - `s` itself when it is a non-empty accepted address, the previous one otherwise. -/
theorem payout_shows_address_in_force (H : Addr.Hashes) (pre : List Addr.Payout.Step) (start s : Bytes) :
    Addr.Payout.run H (pre ++ [.typed s]) start =
      Addr.Payout.run H pre start ++ [.shown (Addr.Payout.inForce H start (Addr.Payout.typedOf pre ++ [s]))] ∧
    (s ≠ [] → Addr.Payout.accepted H s = true →
      Addr.Payout.inForce H start (Addr.Payout.typedOf pre ++ [s]) = s) ∧
    (Addr.Payout.accepted H s = false →
      Addr.Payout.inForce H start (Addr.Payout.typedOf pre ++ [s]) =
        Addr.Payout.inForce H start (Addr.Payout.typedOf pre)) := by
  refine ⟨?_, ?_, ?_⟩
  · rw [Addr.Payout.run_append, Addr.Payout.cfgAfter_eq_inForce]
    simp only [Addr.Payout.run, Addr.Payout.inForce_snoc]
  · intro h1 h2; rw [Addr.Payout.inForce_snoc]; simp [Addr.Payout.minadr, h1, h2]
  · intro h2; rw [Addr.Payout.inForce_snoc]; simp [Addr.Payout.minadr, h2]

/-- What the template pays IS what the address in force denotes: when the string in force decodes to one of the
    supported destination forms, the template does not panic, its script is the `OutScript` of that address, and
    `NewAddrFromPkScript` maps that script back to an address with the same script (either network flag);
    `validateaddress` of the same string reports the same script. -/
theorem payout_script_is_denoted (H : Addr.Hashes) (s : Bytes) (a : Addr.Addr) (tn : Bool)
    (hd : Addr.fromString H s = .ok a) (hs : Addr.Supported a) :
    ∃ scr a', Addr.Payout.scriptOf H s = some scr ∧ Addr.outScript a = some scr ∧
      Addr.Payout.validate H s = some (some scr) ∧
      Addr.fromPkScript H scr tn = some a' ∧ Addr.outScript a' = some scr := by
  obtain ⟨scr, a', h1, h2, h3⟩ := Addr.script_roundtrip H a tn hs
  exact ⟨scr, a', by simp [Addr.Payout.scriptOf, hd, h1], h1, by simp [Addr.Payout.validate, hd, h1], h2, h3⟩

/-- non-vacuity: start value = BIP350's testnet P2TR vector; a template, then
    `minadr` with BIP173's testnet P2WPKH vector, then a template: the second template pays 0014 751e…, not the
    script of the start value; an unacceptable string typed afterwards changes nothing (these strings never reach the hash slots,
    a toy hash serves). -/
example :
    Addr.Payout.run ⟨fun _ => List.replicate 32 0, fun _ => []⟩ [.template, .typed (strBytes "tb1qw508d6qejxtdg4y5r3zarvary0c5xw7kxpjzsx"), .template,
        .typed (strBytes "tb1qw508d6qejxtdg4y5r3zarvary0c5xw7kxpjzsy"), .template]
      (strBytes "tb1pqqqqp399et2xygdj5xreqhjjvcmzhxw4aywxecjdzew6hylgvsesf3hn0c") =
    [.pays (some ([0x51, 32] ++ [0x00, 0x00, 0x00, 0xc4, 0xa5, 0xca, 0xd4, 0x62, 0x21, 0xb2, 0xa1, 0x87, 0x90, 0x5e,
        0x52, 0x66, 0x36, 0x2b, 0x99, 0xd5, 0xe9, 0x1c, 0x6c, 0xe2, 0x4d, 0x16, 0x5d, 0xab, 0x93, 0xe8, 0x64, 0x33])),
     .shown (strBytes "tb1qw508d6qejxtdg4y5r3zarvary0c5xw7kxpjzsx"),
     .pays (some ([0x00, 20] ++ [0x75, 0x1e, 0x76, 0xe8, 0x19, 0x91, 0x96, 0xd4, 0x54, 0x94, 0x1c, 0x45, 0xd1, 0xb3,
        0xa3, 0x23, 0xf1, 0x43, 0x3b, 0xd6])),
     .shown (strBytes "tb1qw508d6qejxtdg4y5r3zarvary0c5xw7kxpjzsx"),
     .pays (some ([0x00, 20] ++ [0x75, 0x1e, 0x76, 0xe8, 0x19, 0x91, 0x96, 0xd4, 0x54, 0x94, 0x1c, 0x45, 0xd1, 0xb3,
        0xa3, 0x23, 0xf1, 0x43, 0x3b, 0xd6]))] := by
  decide +kernel

/-
  -- OPEN: error detection for FOUR substitutions (BIP173's "up to 4"). Full statement:
  --   `bech32_detects_le3_substitutions` with `≤ 4` in place of `≤ 3`. Exact reduction (same lemmas as weight 3:
  --   `pf_xor`, `iter_xor`, `iter_inj0`, `shr5_eq_of_xor_small`): a weight-4 error word of ≤ 89 symbols with zero
  --   syndrome gives x^k1·u + x^k2·v + x^k3·w = z (constant), 89 ≥ k1 > k2 > k3 ≥ 1, u,v,w ≠ 0, hence
  --   H(u,k1) xor H(v,k2) = H(w,k3) for the high parts H(u,k) = (x^k·u mod g) >>> 5. By the GF(32)-linearity of the
  --   step (`mulA_ps`) u can be taken as 1. Sufficient kernel check: for all 89 ≥ k1 > k2 ≥ 1 and all v ≠ 0 the
  --   representative `canon (H(1,k1) xor H(v,k2))` is not in the list `orbitReps 90 1` of `orbit1_tab` —
  --   31·C(89,2) ≈ 1.2·10^5 representatives of 30 `mulA` steps each, about 1300 times the work of `orbit1_tab`
  --   (≈ 10^10 heartbeats): not feasible within the build budget.
  --   Brute force over C(90,4)·31^4 ≈ 2.4·10^12 patterns is out of reach.
  -- OUTSIDE the distance theorems (≤ 2 and ≤ 3), by their hypotheses: (a) a corrupted string that is accepted under
  --   the OTHER checksum variant (Bech32 ↔ Bech32m, error syndrome = 1 xor 0x2bc830a3): at the `SegwitDecode`
  --   level this needs the version symbol to change between 0 and non-0 as well, which is exactly what the
  --   hypothesis `v = 0 ↔ v' = 0` of the segwit theorems excludes (two different non-zero versions are covered); (b) substitutions that put a '1' into the data part or remove the separator (the hrp then
  --   differs); (c) insertions / deletions (length differs). For all of these only uniqueness is proved
  --   (`segwit_encode_decode`: an accepted string is, up to case, THE encoding of what it decodes to, so a
  --   corrupted string is never silently accepted as the original destination); the ≤4-edit neighbourhood is
  --   searched by the correspondence run against the BIP173/350 reference (mutation stream), not by a theorem.
  -- CORRESPONDENCE ONLY (re-used objects): that `btc.BtcAddr` has no state besides the exported fields that `String()` /
  --   `OutScript()` consult is built into `Addr.Obj`; it is checked of the real code by the `hist` stream (every call on a
  --   re-used object against the same call on a new object with the same exported fields), not by a theorem. The Go
  --   `SegwitProg.Version` is an int (negative values are outside the model, as for `segwitEncode`); `Pubkey`, `Extra`
  --   and `Owns()` (which may set `Pubkey`) are not part of `Obj` — neither method reads them.
  -- CORRESPONDENCE ONLY (concurrent callers): the step-level model covers Encodeb58's digit loop ONLY, and in the variant
  --   the source has (`encodeRemShared = false`) its step function never reads the one shared cell the modeller gave it:
  --   `concurrent_encodes_schedule_independent` is then independence BY CONSTRUCTION of the model; its content is "a
  --   caller running alone returns Base58.encode within 2 steps per digit" plus the counter-model
  --   `shared_remainder_not_schedule_independent` showing what the regenerated fact rules out. Every other sharing hazard
  --   (any other variable, any other function) rests on the source facts of `codec_writes_no_package_state`, which do NOT
  --   see: writes through unsafe / reflection / cgo, closures stored in variables and called later, state reached through
  --   interface values, state inside other packages (hash objects, math/big internals, secp256k1 tables), data races on
  --   variables that are only READ here but written elsewhere in the program. For the other codec
  --   functions "no shared writable state" is the regenerated fact `codec_writes_no_package_state` (an analysis of the
  --   source, not a semantics of Go's memory model) plus the harness stream `conc` (2..16 goroutines, each on its own
  --   inputs, every result compared with the reference). Hashing (sha256/ripemd160 objects are created per call) and
  --   the key derivation behind NewPrivateAddr (secp256k1 tables, C08/C14) are outside the analysed closure.
  -- CORRESPONDENCE ONLY (typed strings outside ASCII): `strings.ToLower(hs[:3])` in NewAddrFromString is modelled as ASCII
  --   lower-casing of three bytes (Unicode's ToLower of a 3-byte string with a byte ≥ 0x80 never yields "bc1"/"tb1":
  --   invalid bytes become U+FFFD, and no 2-byte code point plus one ASCII byte lower-cases to three ASCII bytes); the
  --   UTF-8 decoder `Base58Str.decodeRune` is tied to Go's `range` by oracle op `runes`; both are exercised by the harness
  --   stream unicode.go (aliases of alphabet characters in every family, at every decoder), not proved of Go.
  -- OUTSIDE the model: a NEGATIVE `SegwitProg.Version` / `witver` (Go int; `byte(witver)` wraps) — `segwitEncode`
  --   takes a Nat.
-/

end GocoinV.Props.C15
