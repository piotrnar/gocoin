/-
  Props.C04 — property theorems for C04 "No connected block creates money or spends what is not spendable".
  Model: GocoinV.Connect (lib/chain commitTxs + CheckTransaction + sigop counters + UnspentGet/del/commit at record
  level, `Cfg.current` = /repo's current source, `Cfg.orig` = the pinned snapshot before the two fix: commits).
  Spec:  GocoinV.Spec.Connect.connectBlock (sequential ConnectBlock over OutPoint ⇀ Coin).
-/
import GocoinV.Proofs.C04Basic
import GocoinV.Proofs.C04Witness
import GocoinV.Proofs.C04Sums
import GocoinV.Proofs.C04NoDouble
import GocoinV.Proofs.C04Final
import GocoinV.Proofs.C04Cost
import GocoinV.Proofs.C04Wf
import GocoinV.Proofs.C04Equiv
import GocoinV.Proofs.C04Config
namespace GocoinV.Props.C04
open GocoinV GocoinV.Connect GocoinV.Proofs.C04
open GocoinV.Spec.Connect (connectBlock connectTxs addOuts absList absGet isOk failsWith subsidy seqLockOk Coin)

/-- The block reward of the code is the subsidy schedule: 50 BTC divided by 2^(height / 210000) (integer division),
    and it is 0 from the 64th halving on (where a C `>>` would be undefined and Go's gives 0). -/
theorem subsidy_halving (h : Nat) :
    getBlockReward h = 5000000000 / 2 ^ (h / 210000)
    ∧ (64 ≤ h / 210000 → getBlockReward h = 0)
    ∧ getBlockReward h = subsidy h :=
  ⟨reward_eq_div h, reward_zero_of_ge h, reward_eq_subsidy h⟩

/-- When the block is refused (any error of CheckTransactions / commitTxs), the observable chain state — unspent
    set, tip and block index — is exactly what it was before `AcceptBlock` (the node linked by AcceptHeader is
    unlinked again). `b.hash ∉ c.index` is what PreCheckBlock's "already in" test guarantees.
    `acceptBlock Cfg.current` is the function the oracle executes for every candidate block (Oracle/C04.lean, op `block`;
    its state IS a `Chain`), and the harness compares the model's tip and index size with the real chain's after every
    block (accepted or refused) and the model's set with the real set after accepted ones; it never submits a hash that
    is already in the real index, so `hnew` holds for every request. Independently of the model the harness checks the
    clause on the real code: tip, index size and full UTXO dump before = after for every refused block. -/
theorem refuse_unchanged (cfg : Cfg) (c : Chain) (b : Block) (e : Err) (c' : Chain)
    (hnew : b.hash ∉ c.index) (h : acceptBlock cfg c b = (c', .error e)) :
    c'.db = c.db ∧ c'.tip = c.tip ∧ c'.index = c.index := by
  unfold acceptBlock at h
  cases hc : connect cfg c.db b with
  | ok r => simp [hc] at h
  | error e' =>
    simp only [hc, hnew, ↓reduceIte, Prod.mk.injEq] at h
    obtain ⟨h1, _⟩ := h
    subst h1
    refine ⟨rfl, rfl, ?_⟩
    show List.filter (fun x => decide (x ≠ b.hash)) (b.hash :: c.index) = c.index
    rw [List.filter_cons_of_neg (by simp)]
    exact List.filter_eq_self.mpr fun a ha => decide_eq_true fun hc => hnew (hc ▸ ha)

example : ∃ c b c', b.hash ∉ c.index ∧ (acceptBlock Cfg.current c b).1 = c' ∧ failsWith (acceptBlock Cfg.current c b).2 Err.unknownInput = true :=
  ⟨⟨W.db0, W.idOf 0xb0, [W.idOf 0xb0]⟩, W.blockPrefix, _, by decide, rfl, by decide⟩

/-- and an accepted block makes its hash the tip and keeps it in the index -/
theorem accept_advances (cfg : Cfg) (c : Chain) (b : Block) (so : Nat) (c' : Chain)
    (h : acceptBlock cfg c b = (c', .ok so)) : c'.tip = b.hash ∧ b.hash ∈ c'.index := by
  unfold acceptBlock at h
  cases hc : connect cfg c.db b with
  | error e' => simp [hc] at h
  | ok r =>
    simp only [hc, Prod.mk.injEq] at h
    obtain ⟨h1, _⟩ := h
    subst h1
    by_cases hm : b.hash ∈ c.index <;> simp [hm]

/-! ### context-free checks agree with the specification -/

/-- `Tx.IsFinal` is Bitcoin's IsFinalTx (same verdict for every transaction, height and time cut-off). -/
theorem final_iff_spec (tx : Tx) (height cutoff : Nat) :
    isFinal tx height cutoff = GocoinV.Spec.Connect.isFinalTx tx height cutoff :=
  isFinal_eq tx height cutoff

/-- The output loop of `CheckTransaction` (the code after commit e713bf9d) accepts only what the specification's MoneyRange test accepts:
    every value and every running total within [0, MAX_MONEY]. -/
theorem amounts_in_range (outs : List TxOut) (h : checkOutValues outs 0 = .ok ()) :
    GocoinV.Spec.Connect.outsInRange outs 0 = true :=
  checkOut_spec outs 0 (by decide) h

example : checkOutValues [⟨2100000000000000, []⟩] 0 = .ok () := rfl

/-! ### no outpoint is spent twice inside one block -/

/-- If commitTxs succeeds on a block whose transactions have pairwise different txids (identical transactions would
    spend identical inputs), then the outpoints named by the inputs of its non-coinbase transactions are pairwise
    different: nothing is spent twice inside the block, whether the coin is a confirmed one (mark in DeledTxs) or was
    created earlier in the same block (nil slot in blUnsp).  Holds for the pinned snapshot as well: F3a is the
    spending of one COIN under two different NAMES, which this statement does not exclude — see
    `connect_sound_counterexample_prefix8`. -/
theorem no_double_spend_in_block (cfg : Cfg) (db : DB) (b : Block) (s : St)
    (hids : (b.txs.map (·.txid)).Nodup) (h : commitTxs cfg db b = .ok s) :
    (spentOps b.txs.tail).Nodup :=
  commitTxs_nodup cfg db b s hids h

example : (W.blockSeqLock.txs.map (·.txid)).Nodup ∧ isOk (commitTxs Cfg.current W.db0 W.blockSeqLock) = true := by
  decide +kernel

/-! ### under MoneyRange no uint64 sum wraps (the code after commit e713bf9d) -/

/-- CheckTransaction's output loop: when it passes, the uint64 output total that commitTxs computes (`sumOuts`) is the
    exact sum of the values and lies within MAX_MONEY. -/
theorem sums_no_wrap_outputs (outs : List TxOut) (h : checkOutValues outs 0 = .ok ()) :
    sumOuts outs = exactOut outs ∧ exactOut outs ≤ MAX_MONEY := by
  have := checkOutValues_exact outs 0 (by decide) h
  simp only [Nat.zero_add] at this
  exact ⟨this.2, this.1⟩

example : checkOutValues [⟨5, []⟩, ⟨7, []⟩] 0 = .ok () := rfl

/-- One pass of the input loop: the running input total grows by exactly the value of the coin that was resolved
    (no reduction mod 2^64) and stays within MAX_MONEY. -/
theorem sums_no_wrap_inputs (db : DB) (b : Block) (inp : TxIn) (s s' : St) (a a' : Nat) (ha : a ≤ MAX_MONEY)
    (h : procInput Cfg.current db b inp s a = .ok (s', a')) :
    ∃ s1 v pk, resolve Cfg.current db b inp s = .ok (s1, v, pk) ∧ a' = a + v ∧ a' ≤ MAX_MONEY :=
  have ⟨s1, v, pk, _, hr, _, h1, h2⟩ := procInput_sum h ha
  ⟨s1, v, pk, hr, h1, h2⟩

/-- Whole block: when commitTxs succeeds, `sumblockin` is the block reward, the accumulated fees are within
    MAX_MONEY, reward + fees is computed without wrap-around, and the coinbase claims at most reward + fees — in
    exact arithmetic. -/
theorem sums_no_wrap (db : DB) (b : Block) (s : St) (h : commitTxs Cfg.current db b = .ok s) :
    s.sumIn = getBlockReward b.height ∧ s.fees ≤ MAX_MONEY ∧ s.sumIn + s.fees < 2 ^ 64
    ∧ s.sumOut ≤ getBlockReward b.height + s.fees :=
  commitTxs_sums db b s h

example : isOk (commitTxs Cfg.current W.db0 W.blockSeqLock) = true := by decide

/-- The pinned snapshot had no such property: the witness of F3b makes its `sumblockout` wrap. -/
theorem sums_wrap_orig_counterexample :
    ∃ s, commitTxs Cfg.orig W.db0 W.blockWrap = .ok s ∧ s.sumOut = 5000001000 := by
  refine ⟨_, rfl, ?_⟩
  decide

/-! ### `connect_sound`: the refinement, and why each exclusion is there

  connect_sound (the central statement):
     connect cfg db b = .ok (db', _)  →  connectBlock (abs db) b = .ok u' ∧ ∀ op, get u' op = absGet db' op
  It is proved below for `Cfg.current` under named hypotheses.  Without them it is FALSE of the code: the four
  `…_counterexample_…` theorems after it exhibit a set and a block that the model of the code connects while the
  specification refuses the block.  The first two are about `Cfg.orig` (the pinned snapshot); the corresponding
  `fix:` commits are in /repo and the same witnesses are refused by `Cfg.current`.  The last two hold for the
  current code, are recorded as known findings, and are exactly what `hseq` / `hret` exclude. -/

/-- **connect_sound** (central theorem). If the current code's block connection (`CheckBlock`'s transaction part +
    `commitTxs` + `UnspentDB.commit`, as modelled by `connect Cfg.current`) accepts a block on top of the record map
    `db`, then Bitcoin's sequential `connectBlock` accepts the same block on the abstract coin map of `db`, and the
    coin map it returns is, outpoint for outpoint, the abstraction of the new record map `db'`: every input named
    a coin that existed and was unspent at that point of the block, coinbase coins were 100 deep, every script
    verdict was true, all amounts in range, inputs cover outputs, coinbase ≤ subsidy + fees, consensus sigop cost
    ≤ 80000, and the resulting set is the right one.
    The sigop part is spelled out in the conclusion: the `SigopsCost` `so` that the code reports for the block EQUALS
    the consensus cost, written as its three summands — 4 × the signature operations in the coinbase transaction's
    INPUT script (`cbScriptSigOps cb`: Bitcoin's GetLegacySigOpCount reads the scriptSig of every input of every
    transaction, the coinbase's ≤ 100 "miner data" bytes included), 4 × those in the coinbase's output scripts, and
    the cost `r.sigops` that the sequential specification accumulates over the remaining transactions (scriptSigs,
    output scripts, P2SH redeem scripts, witness programs) when started from 0 — and that total is ≤ 80000.
    `coinbase_scriptsig_sigops_counted` below shows the first summand deciding a block.
    Hypotheses, each named:
      * `hwf`      representation invariant of UnspentDB.HashMap: records filed under the key of their txid, keys unique;
      * `hinj`     **hash-prefix injectivity inside the block**: the 8-byte keys of the block's txids are pairwise
                   different (otherwise `do_add` overwrites one new record by another — see
                   `connect_sound_needs_prefix_injectivity`);
      * `hbip30`   **hash-prefix injectivity block vs set** (this includes BIP30): no record of the set lives under the
                   8-byte key of a txid of the block;
      * `hseq`     exclusion of known finding F3c (BIP68 is not evaluated by the code), stated exactly: with CSV active,
                   every input of a version ≥ 2 transaction satisfies its relative lock against the coin it spends —
                   the confirmed coin of that outpoint, or a coin created in this very block (inputs with the
                   disable bit satisfy it outright: `seqlock_disabled_ok`);
      * `hret`     exclusion of known finding F3d, stated exactly: on every script a sigop counter reads, `GetSigOpCount`
                   (which stops at OP_RETURN) equals the consensus count; scripts without OP_RETURN, and the usual
                   `OP_RETURN <pushes>` carriers, satisfy it (`opreturn_free_counts_agree`);
      * `hheights`, `hb` chain invariant: no record is higher than the block, heights fit uint32 (maturity uses uint32 subtraction);
      * `hmtp`     the chain context `mtpOf` gives the block's own median-time-past for its height;
      * `hsize`, `hbytes` size facts that CheckBlock's weight limit (property C05) provides: `NoWitSize*4` does not wrap
                   uint32, and the scripts of the block have at most 4,000,000 bytes (so the uint32 sigop accumulator
                   cannot wrap). -/
theorem connect_sound (db : DB) (b : Block) (db' : DB) (so : Nat) (mtpOf : Nat → Nat)
    (hwf : WF db)
    (hinj : ((b.txs.map (·.txid)).map key8).Nodup)
    (hbip30 : ∀ tx ∈ b.txs, ∀ kr ∈ db, key8 kr.2.txid ≠ key8 tx.txid)
    (hseq : b.csv = true → ∀ tx ∈ b.txs, 2 ≤ tx.version → ∀ i ∈ tx.ins, ∀ c : Coin,
        (absGet mtpOf db i.prev = some c ∨ (absGet mtpOf db i.prev = none ∧ c.height = b.height ∧ c.mtpPrev = b.mtp)) → seqLockOk b.height b.mtp i c = true)
    (hret : ∀ tx ∈ b.txs, txCountsAgree tx = true)
    (hheights : ∀ kr ∈ db, kr.2.height ≤ b.height) (hb : b.height < 2 ^ 32)
    (hmtp : mtpOf b.height = b.mtp)
    (hsize : ∀ tx ∈ b.txs, tx.noWitSize * 4 < 2 ^ 32)
    (hbytes : blockScriptBytes b ≤ 4000000)
    (h : connect Cfg.current db b = .ok (db', so)) :
    ∃ u', connectBlock (absList mtpOf db) b = .ok u' ∧ (∀ op, aGet u' op = absGet mtpOf db' op)
      ∧ ∃ cb rest r, b.txs = cb :: rest
          ∧ connectTxs b rest ⟨addOuts (absList mtpOf db) cb.txid b true cb.outs 0, 0, 0⟩ = .ok r
          ∧ so = 4 * cbScriptSigOps cb + 4 * cbOutputSigOps cb + r.sigops
          ∧ so ≤ 80000 := by
  obtain ⟨cb, rest, a', ht, k1, hcon, hrel, hso, h80⟩ :=
    connect_sound_core_sigops mtpOf db b db' so hwf hinj (fun tx htx => hwf.free (hbip30 tx htx)) hseq hret
      (fun k r hg => hheights (k, r) (aGet_mem db k r hg)) hb hmtp hsize (fun _ _ _ => cost_lt_of_bytes hbytes _) h
  -- the cost splits into the coinbase's own scripts and what the specification adds when started from 0
  obtain ⟨c, e1, g1⟩ := connectTxs_shift b rest _ 0 (4 * Spec.Connect.legacySigOps cb) 0 a' k1
  refine ⟨a'.utxo, hcon, hrel, cb, rest, _, ht, g1, ?_, by omega⟩
  have hl : Spec.Connect.legacySigOps cb = cbScriptSigOps cb + cbOutputSigOps cb := rfl
  simp only []
  omega

/-- non-vacuity: a state and a block with a version-2 transaction whose relative height lock (1 block) IS satisfied
    meet every hypothesis of `connect_sound`, and the code connects the block -/
example : ∃ (db : DB) (b : Block) (mtpOf : Nat → Nat), WF db ∧ ((b.txs.map (·.txid)).map key8).Nodup
    ∧ (∀ tx ∈ b.txs, ∀ kr ∈ db, key8 kr.2.txid ≠ key8 tx.txid)
    ∧ (b.csv = true → ∀ tx ∈ b.txs, 2 ≤ tx.version → ∀ i ∈ tx.ins, ∀ c : Coin,
        (absGet mtpOf db i.prev = some c ∨ (absGet mtpOf db i.prev = none ∧ c.height = b.height ∧ c.mtpPrev = b.mtp)) → seqLockOk b.height b.mtp i c = true)
    ∧ (∀ tx ∈ b.txs, txCountsAgree tx = true) ∧ (∀ kr ∈ db, kr.2.height ≤ b.height) ∧ b.height < 2 ^ 32
    ∧ mtpOf b.height = b.mtp ∧ (∀ tx ∈ b.txs, tx.noWitSize * 4 < 2 ^ 32) ∧ blockScriptBytes b ≤ 4000000
    ∧ isOk (connect Cfg.current db b) = true := by
  exact ⟨W.db0, W.blockLockOk, fun _ => 1990000, ⟨by decide, by decide⟩, by decide, by decide, hseq_of_confirmed (by decide),
    by decide, by decide, by decide, rfl, by decide, by decide, by decide⟩

/-- The coinbase INPUT script is part of the count, on both sides. `W.blockCbSigFull` has cost 79920 in a coinbase output
    and 80 (one OP_CHECKMULTISIG = 20 sigops) in the coinbase scriptSig: the specification connects it, the code connects it
    and reports SigopsCost = 80000. `W.blockCbSigOver` has one OP_CHECKSIG more in the coinbase scriptSig and nothing else
    changed (80004): code and specification both refuse it for its sigops. A counter that skipped the coinbase input
    script would report 79920 for both blocks and connect the second. -/
theorem coinbase_scriptsig_sigops_counted :
    (connect Cfg.current W.db0 W.blockCbSigFull).toOption.map (·.2) = some 80000
    ∧ isOk (connectBlock (absList W.mtp0 W.db0) W.blockCbSigFull) = true
    ∧ cbScriptSigOps (W.cbSig [1, 200, 0xae]) = 20 ∧ cbOutputSigOps (W.cbSig [1, 200, 0xae]) = 19980
    ∧ failsWith (connect Cfg.current W.db0 W.blockCbSigOver) Err.sigops = true
    ∧ failsWith (connectBlock (absList W.mtp0 W.db0) W.blockCbSigOver) .sigops = true := by
  decide +kernel

/-- An input whose sequence number has the BIP68 disable bit (bit 31) set satisfies `hseq` for every coin. -/
theorem seqlock_disabled_ok (height mtp : Nat) (inp : TxIn) (c : Coin) (h : inp.sequence / 2 ^ 31 % 2 = 1) :
    seqLockOk height mtp inp c = true := by
  unfold seqLockOk
  simp [Spec.Connect.SEQ_DISABLE, h]

example : (0xffffffff : Nat) / 2 ^ 31 % 2 = 1 := by decide

/-- A script in which the tokeniser meets no OP_RETURN satisfies `hret`'s condition: gocoin's counter and the consensus
    counter agree on it (in both accuracy modes). -/
theorem opreturn_free_counts_agree (scr : Bytes) (h : opReturnFree scr = true) : countsAgree scr = true := by
  unfold countsAgree
  have h1 : getSigOpCount scr true = Spec.Connect.sigOpCount scr true := sigOpLoop_eq true _ scr _ _ h
  have h2 : getSigOpCount scr false = Spec.Connect.sigOpCount scr false := sigOpLoop_eq false _ scr _ _ h
  simp [h1, h2]

example : opReturnFree [0x76, 0xa9, 0xac] = true ∧ countsAgree [0x6a, 0x02, 0xac, 0xac] = true
    ∧ countsAgree [0x6a, 0xac] = false := by decide

/-- `hwf` and `hheights` of `connect_sound` are invariants of the reachable states, not assumptions about them: the empty
    map satisfies them, and whenever the code connects a block on a map that satisfies them (for the block's height),
    the new map satisfies them again — so they hold for the next block at any height ≥ this one. -/
theorem connect_keeps_invariants (db : DB) (b : Block) (db' : DB) (so : Nat)
    (hwf : WF db) (hheights : ∀ kr ∈ db, kr.2.height ≤ b.height)
    (h : connect Cfg.current db b = .ok (db', so)) :
    (WF ([] : DB) ∧ ∀ kr ∈ ([] : DB), kr.2.height ≤ 0) ∧ WF db' ∧ ∀ kr ∈ db', kr.2.height ≤ b.height := by
  refine ⟨⟨⟨by simp, by simp [keys]⟩, by simp⟩, ?_⟩
  obtain ⟨-, s, -, rfl, -⟩ := connect_ok h
  exact Good_applyChanges db b s ⟨hwf, hheights⟩

example : WF W.db0 ∧ (∀ kr ∈ W.db0, kr.2.height ≤ W.blockOk.height) ∧ isOk (connect Cfg.current W.db0 W.blockOk) = true :=
  ⟨⟨by decide, by decide⟩, by decide, by decide⟩

/-- Why `hinj` is there (an assumption, not a finding: the witness needs two txids with equal first 8 bytes, i.e. a
    2^32-work birthday collision on SHA-256d, which the check cannot and does not construct): on a model state with
    CHOSEN txids `W.idA`, `W.idB` sharing 8 bytes, the code connects the block and so does the specification, but
    `do_add` files B's record over A's, and the still-unspent coin (A,1) is gone from the new set. -/
theorem connect_sound_needs_prefix_injectivity :
    ∃ db' so u', connect Cfg.current W.db0 W.blockClash = .ok (db', so)
      ∧ connectBlock (absList W.mtp0 W.db0) W.blockClash = .ok u'
      ∧ (aGet u' ⟨W.idA, 1⟩).isSome = true ∧ absGet W.mtp0 db' ⟨W.idA, 1⟩ = none := by
  refine ⟨_, _, _, rfl, rfl, by decide, by decide⟩

/-- Facts about an accepted block that need none of `connect_sound`'s hypotheses except distinct txids: when the
    current code connects a block whose txids differ, then commitTxs succeeded with locals `s`, the new set is
    `applyChanges` of those locals, no outpoint is named twice by the block's inputs, the coinbase claims at most
    subsidy(height) + fees in exact arithmetic with fees ≤ MAX_MONEY, and the (gocoin-counted) sigop cost is at most
    80000.
    (The full refinement is `connect_sound` above.) -/
theorem connect_sound_partial (db : DB) (b : Block) (db' : DB) (so : Nat)
    (hids : (b.txs.map (·.txid)).Nodup) (h : connect Cfg.current db b = .ok (db', so)) :
    ∃ s, commitTxs Cfg.current db b = .ok s ∧ db' = applyChanges Cfg.current db b s ∧ so = s.sigops
      ∧ (spentOps b.txs.tail).Nodup
      ∧ s.sumOut ≤ subsidy b.height + s.fees ∧ s.fees ≤ MAX_MONEY
      ∧ so ≤ MAX_BLOCK_SIGOPS_COST := by
  obtain ⟨-, s, hs, h1, h2⟩ := connect_ok h
  obtain ⟨_, f2, _, f4⟩ := commitTxs_sums db b s hs
  refine ⟨s, hs, h1.symm, h2.symm, commitTxs_nodup _ db b s hids hs, ?_, f2, ?_⟩
  · rw [← reward_eq_subsidy]; exact f4
  · rw [← h2]; exact commitTxs_sigops _ db b s hs

example : (W.blockSeqLock.txs.map (·.txid)).Nodup ∧ isOk (connect Cfg.current W.db0 W.blockSeqLock) = true := by
  decide +kernel

/-- F3a (fixed by bd8dba45): with the 8-byte key comparison the coin (h1,0) is spent twice in one block, the second
    time under the name (h2,0) of a transaction that does not exist; the specification says "missing input". -/
theorem connect_sound_counterexample_prefix8 :
    isOk (connect Cfg.orig W.db0 W.blockPrefix) = true
    ∧ failsWith (connectBlock (absList W.mtp0 W.db0) W.blockPrefix) .missingInput = true
    ∧ failsWith (connect Cfg.current W.db0 W.blockPrefix) Err.unknownInput = true := by
  decide +kernel

/-- F3b (fixed by e713bf9d): 1000 satoshi in, outputs 2^63 and 2^63+1000; the uint64 sum wraps to 1000 and the block
    is connected; the specification refuses the out-of-range amounts. -/
theorem connect_sound_counterexample_wrap :
    isOk (connect Cfg.orig W.db0 W.blockWrap) = true
    ∧ failsWith (connectBlock (absList W.mtp0 W.db0) W.blockWrap) .voutRange = true
    ∧ failsWith (connect Cfg.current W.db0 W.blockWrap) Err.voutTooLarge = true := by
  decide +kernel

/-- F3c (known finding bip68-not-enforced): a version-2 transaction with an unsatisfied relative height lock is
    connected by the current code with CSV active. -/
theorem connect_sound_counterexample_bip68 :
    isOk (connect Cfg.current W.db0 W.blockSeqLock) = true
    ∧ failsWith (connectBlock (absList W.mtp0 W.db0) W.blockSeqLock) .seqLock = true := by
  decide +kernel

/-- F3d (known finding sigops-after-op-return): 1001 OP_CHECKMULTISIG behind an OP_RETURN cost 80080 > 80000 by the
    consensus definition and 0 by `GetSigOpCount`; the current code connects the block. -/
theorem connect_sound_counterexample_opreturn :
    isOk (connect Cfg.current W.db0 W.blockSigops) = true
    ∧ failsWith (connectBlock (absList W.mtp0 W.db0) W.blockSigops) .sigops = true := by
  decide +kernel

/-! ### the three Lean models of CheckTransaction / IsFinal / commitTxs say the same thing

  Property C05 (Model/BlockCheck.lean) and property C06 (Model/UtxoOps.lean) carry their own models of parts of what
  `Model/Connect.lean` models here. The lemmas of Proofs/C04Equiv.lean relate them. -/

/-- C05's `checkTransaction`, `isFinal` and `checkOneTx` (Model/BlockCheck.lean, whose constants MAX_MONEY, 4,000,000, 2, 100,
    500,000,000 are regenerated from /repo's source by gen_c05 on every run) ARE this property's `checkTransaction
    Cfg.current` / `isFinal` on the projected transaction `toBC tx`: same verdict, same error, for every transaction. -/
theorem c05_tx_checks_are_these (tx : Tx) (height time : Nat) :
    (BlockCheck.checkTransaction (toBC tx)).map ofBCErr = errOf (checkTransaction Cfg.current tx)
    ∧ BlockCheck.isFinal (toBC tx).lockTime ((toBC tx).ins.map (·.seq)) height time = isFinal tx height time
    ∧ (BlockCheck.checkOneTx (toBC tx) height time).map ofBCErr
        = errOf (do checkTransaction Cfg.current tx; if !isFinal tx height time then throw Err.nonFinal : Except Err Unit) :=
  ⟨c05_checkTransaction_eq tx, c05_isFinal_eq tx height time, c05_checkOneTx_eq tx height time⟩

example : (BlockCheck.checkTransaction (toBC (W.cbTx 50))).isNone = true ∧ isOk (checkTransaction Cfg.current (W.cbTx 50)) = true := by decide

/-- C06's reduced `commitTxs` (Model/UtxoOps.lean: whole txid as key, exact sums, no sigop cost, no MoneyRange tests, no
    coinbase-script-length test, with undo data) is the PROJECTION of this property's: whenever `connect Cfg.current`
    accepts a block on a well-formed record map whose records are not above the block, C06's `commitTxs` accepts the
    projected block on the projected map (with `trusted = false` and `reward = GetBlockReward`) and the delete list and
    add list it returns are the projections of `DeledTxs` and `AddList`. `enc` = any injective coding of txids as
    numbers (`encBytes` is one), `encS` = any coding of scripts. -/
theorem c06_commitTxs_is_projection (enc : Bytes → Nat) (encS : Bytes → String) (henc : ∀ a b, enc a = enc b → a = b)
    (db : DB) (hwf : WF db) (b : Block) (hheights : ∀ kr ∈ db, kr.2.height ≤ b.height) (hb : b.height < 2 ^ 32)
    (db' : DB) (so : Nat) (h : connect Cfg.current db b = .ok (db', so)) :
    ∃ s ch, commitTxs Cfg.current db b = .ok s ∧ db' = applyChanges Cfg.current db b s
      ∧ UtxoOps.commitTxs (pDB enc encS db) b.height (getBlockReward b.height) false (b.txs.map (pTx enc encS)) = .ok ch
      ∧ ch.deled = pDeled enc s.deled ∧ ch.addList = (addList b s).map (pRec enc encS) := by
  have hh : ∀ k r, aGet db k = some r → r.height ≤ b.height := fun k r hg => hheights (k, r) (aGet_mem db k r hg)
  obtain ⟨hc, s, hs, h⟩ := connect_ok h
  obtain ⟨cb, rest, ht, _, _, hall⟩ := checkBlockTxs_ok b hc
  have hex : ∀ tx ∈ b.txs, sumOuts tx.outs = exactOut tx.outs := by
    intro tx htx
    obtain ⟨_, _, _, h4, _⟩ := checkTransaction_ok tx (hall tx htx).1
    exact (sums_no_wrap_outputs tx.outs h4).1
  obtain ⟨hsi, hsf, _, hso⟩ := commitTxs_sums db b s hs
  obtain ⟨hp, hnb, -, -⟩ := commitTxs_ok hs
  rw [ht] at hp
  obtain ⟨s1, hp1, hp⟩ := procTxs_cons_ok hp
  obtain rfl := procTx_coinbase hp1
  obtain ⟨c', sin, sout, ok, hrest, hR', hbad, hfees, hsum⟩ :=
    c06_procTxs_rest (encS := encS)
      (c := { deled := [], undo := [], blUnsp := UtxoOps.aset (enc cb.txid) ((cb.outs.map (pOut encS)).map some, true) [] })
      henc hwf hp hh hb ⟨rfl, pBl_aSet henc [] cb true⟩ (Nat.zero_le _)
      (fun t htt => hex t (by rw [ht]; exact List.mem_cons_of_mem _ htt))
  have hs1o : sumOuts cb.outs = exactOut cb.outs := hex cb (by rw [ht]; exact List.mem_cons_self ..)
  simp only [St.init, hnb, Bool.false_or, Nat.zero_add] at hbad hfees hsum
  obtain rfl : ok = true := by cases ok <;> simp at hbad ⊢
  refine ⟨s, ⟨c'.deled, c'.undo, UtxoOps.addListOf b.height c'.blUnsp⟩, hs, h.1.symm, ?_, hR'.1, ?_⟩
  · unfold UtxoOps.commitTxs
    rw [ht]
    simp only [List.map_cons, UtxoOps.procTxs, pTx, uSumOuts, hrest, bind, Except.bind, pure, Except.pure,
      Bool.false_eq_true, ↓reduceIte, Bool.not_true, Bool.false_and, Bool.true_or, Bool.true_and, Bool.not_false]
    have : exactOut cb.outs + sout ≤ getBlockReward b.height + sin := by omega
    simp [this]
  · show UtxoOps.addListOf b.height c'.blUnsp = (addList b s).map (pRec enc encS)
    rw [hR'.2]
    exact addList_proj b s

example : (∀ a b, encBytes a = encBytes b → a = b) ∧ WF W.db0 ∧ (∀ kr ∈ W.db0, kr.2.height ≤ W.blockSeqLock.height)
    ∧ W.blockSeqLock.height < 2 ^ 32 ∧ isOk (connect Cfg.current W.db0 W.blockSeqLock) = true :=
  ⟨encBytes_inj, ⟨by decide, by decide⟩, by decide, by decide, by decide⟩

/-- One input, both directions: C06's `procInput` on the projected map and locals fails with the corresponding error kind
    exactly when this property's coin look-up `resolve` fails (tx VOut too big / double spend / unknown input / vout too big
    / vout already spent / own coinbase / immature), and otherwise yields the same value and corresponding locals. -/
theorem c06_input_lookup_is_projection (enc : Bytes → Nat) (encS : Bytes → String) (henc : ∀ a b, enc a = enc b → a = b)
    (db : DB) (hwf : WF db) (b : Block) (hh : ∀ k r, aGet db k = some r → r.height ≤ b.height) (hb : b.height < 2 ^ 32)
    (inp : TxIn) (s : St) (c : UtxoOps.CState) (hR : RelC06 enc encS s c) :
    match resolve Cfg.current db b inp s with
    | .error e => UtxoOps.procInput (pDB enc encS db) b.height c (pIn enc inp) = .error (pErr e)
    | .ok (s1, v, _) => ∃ c1, UtxoOps.procInput (pDB enc encS db) b.height c (pIn enc inp) = .ok (c1, v) ∧ RelC06 enc encS s1 c1 :=
  c06_procInput_projection henc db hwf b hh hb inp s c hR

example : RelC06 encBytes (fun _ => "") (St.init W.blockOk) {} := ⟨rfl, rfl⟩

/-- The coinbase-script-length test inside commitTxs (`Err.cbScriptLen`) cannot fail once CheckTransaction has passed the
    coinbase: on the CheckBlock + AcceptBlock path it is dead code (the correspondence run reaches `cbLength` with a
    101-byte coinbase script, never `cbScriptLen`). -/
theorem coinbase_script_length_checked_before (db : DB) (b : Block) (cb : Tx) (s : St)
    (hc : checkTransaction Cfg.current cb = .ok ()) (hcb : cb.isCoinBase = true) :
    ∃ s1, txInputs Cfg.current db b true cb s = .ok (s1, 0) := by
  obtain ⟨_, _, _, _, h5, _⟩ := checkTransaction_ok cb hc
  obtain ⟨q1, q2⟩ := h5 hcb
  unfold txInputs
  have : ¬ ((cb.ins.headD default).scriptSig.length < 2 ∨ (cb.ins.headD default).scriptSig.length > 100) := by omega
  simp only [↓reduceIte, this]
  exact ⟨_, rfl⟩

example : isOk (checkTransaction Cfg.current (W.cbTx 50)) = true ∧ (W.cbTx 50).isCoinBase = true := by decide

/-! ### configurations of the client: the pool hook, the undo files, compressed records

  Three mechanisms that sit between commitTxs and the observable set, each with ONE structural fact of the source that
  decides whether the property survives it. The facts are regenerated from /repo on every run (go/cmd/gen_c04 →
  Gen/C04Facts.lean: `txTrustedPerTx`, `undoWrittenWheneverCollected`, `undoMissingPanics`, `scratchUnderLock`); the
  theorems below are about the models instantiated with them and stop checking when a fact changes; the harness
  (pool.go, walk.go, compr.go) searches the real code for a failing input in the same configurations. -/

/-- **Pool hook.** With `chain.TrustedTxChecker` installed (`connectT`, Model/ConnectTrust.lean: a transaction the hook
    vouches for gets no script verification; everything else is evaluated for it as for any other) and an HONEST hook —
    it vouches only for transactions all of whose script verdicts are true, `hhonest` — the conclusion of
    `connect_sound` holds unchanged: in particular every input script of the connected block verifies.  The proof needs
    the flag to be a variable of the loop body (`Gen.C04Facts.txTrustedPerTx = true`): one vouched transaction must
    not switch verification off for the transactions after it. -/
theorem connect_sound_pool_hook (chk : TxChecker) (db : DB) (b : Block) (db' : DB) (so : Nat) (mtpOf : Nat → Nat)
    (hhonest : ∀ tx ∈ b.txs.tail, chk.says tx = true → ∀ i ∈ tx.ins, i.scriptOk = true)
    (hwf : WF db)
    (hinj : ((b.txs.map (·.txid)).map key8).Nodup)
    (hbip30 : ∀ tx ∈ b.txs, ∀ kr ∈ db, key8 kr.2.txid ≠ key8 tx.txid)
    (hseq : b.csv = true → ∀ tx ∈ b.txs, 2 ≤ tx.version → ∀ i ∈ tx.ins, ∀ c : Coin,
        (absGet mtpOf db i.prev = some c ∨ (absGet mtpOf db i.prev = none ∧ c.height = b.height ∧ c.mtpPrev = b.mtp)) → seqLockOk b.height b.mtp i c = true)
    (hret : ∀ tx ∈ b.txs, txCountsAgree tx = true)
    (hheights : ∀ kr ∈ db, kr.2.height ≤ b.height) (hb : b.height < 2 ^ 32)
    (hmtp : mtpOf b.height = b.mtp)
    (hsize : ∀ tx ∈ b.txs, tx.noWitSize * 4 < 2 ^ 32)
    (hbytes : blockScriptBytes b ≤ 4000000)
    (h : connectT Cfg.current chk db b = .ok (db', so)) :
    ∃ u', connectBlock (absList mtpOf db) b = .ok u' ∧ (∀ op, aGet u' op = absGet mtpOf db' op)
      ∧ ∃ cb rest r, b.txs = cb :: rest
          ∧ connectTxs b rest ⟨addOuts (absList mtpOf db) cb.txid b true cb.outs 0, 0, 0⟩ = .ok r
          ∧ so = 4 * cbScriptSigOps cb + 4 * cbOutputSigOps cb + r.sigops
          ∧ so ≤ 80000 := by
  unfold connectT at h
  rw [facts_current.1, effBlock_honest chk b hhonest] at h
  exact connect_sound db b db' so mtpOf hwf hinj hbip30 hseq hret hheights hb hmtp hsize hbytes h

/-- non-vacuity: the pool knows the (valid) transaction of `W.blockOk`; the hook is honest and the block is connected -/
example : (∀ tx ∈ W.blockOk.txs.tail, W.poolKnowsT1.says tx = true → ∀ i ∈ tx.ins, i.scriptOk = true)
    ∧ isOk (connectT Cfg.current W.poolKnowsT1 W.db0 W.blockOk) = true := by
  decide +kernel

/-- Without the hook (`TrustedTxChecker == nil`, plain library use) `connectT` IS `connect`. -/
theorem no_hook_is_connect (db : DB) (b : Block) : connectT Cfg.current none db b = connect Cfg.current db b := by
  unfold connectT; rw [effBlock_none]

/-- Why the flag must live inside the loop: `W.blockPoolBad` = [coinbase, T1, T2], the pool knows T1 (valid), T2 spends
    T1's output with a script that FAILS. With a per-transaction flag the code refuses the block for its scripts, as the
    specification does; with the flag declared once before the loop (`effBlock false`) the code connects it. -/
theorem pool_flag_must_be_per_transaction_counterexample :
    failsWith (connect Cfg.current W.db0 (effBlock true W.poolKnowsT1 W.blockPoolBad)) Err.scripts = true
    ∧ isOk (connect Cfg.current W.db0 (effBlock false W.poolKnowsT1 W.blockPoolBad)) = true
    ∧ failsWith (connectBlock (absList W.mtp0 W.db0) W.blockPoolBad) .script = true := by
  decide +kernel

/-- **Undo files.** Whatever undo/ held before (`dir` is arbitrary — a file written at this height by a block of another
    branch included), after CommitBlockTxs has run for a block at height `h` whose undo data were collected
    (`some recs`, possibly EMPTY), UndoBlockTxs at height `h` reads back exactly `recs`.  Needs
    `undoWrittenWheneverCollected` (the file is replaced even when there is nothing to undo). -/
theorem undo_reads_what_this_block_wrote (dir : UndoDir) (h : Nat) (recs : List Rec) :
    readUndo UndoCfg.current (writeUndo UndoCfg.current dir h (some recs)) h = some recs := by
  rw [facts_current.2.2.1]; exact readUndo_writeUndo dir h recs

/-- Hence undoing a block that spent no confirmed output puts NOTHING back into the set, whatever is lying in undo/:
    the result is the set without the records of the block's own transactions. -/
theorem undo_of_empty_block_adds_nothing_back (db : DB) (dir : UndoDir) (h : Nat) (txids : List Bytes) :
    undoBlockTxs UndoCfg.current db (writeUndo UndoCfg.current dir h (some [])) h txids
      = some (txids.foldl (fun d t => aDel d (key8 t)) db) := by
  unfold undoBlockTxs
  rw [undo_reads_what_this_block_wrote]
  rfl

/-- and a height for which no file exists stops the undo (panic) instead of being taken for "nothing to add back" -/
theorem undo_without_file_stops (db : DB) (dir : UndoDir) (h : Nat) (txids : List Bytes) (hm : aGet dir h = none) :
    undoBlockTxs UndoCfg.current db dir h txids = none := by
  unfold undoBlockTxs
  rw [facts_current.2.2.1, readUndo_missing dir h hm]

example : aGet ([] : UndoDir) 7 = none := rfl

/-- Why both facts are needed: with "no file for an empty undo map" + "a missing file means nothing to add back"
    (`⟨false, false⟩`) the undo of an empty block at height 151 replays the file a block of an abandoned branch left
    there and the coin (h1,0) — spent by an ancestor that is still connected — is back in the set. -/
theorem undo_stale_file_counterexample :
    let stale : UndoDir := [(151, [{ txid := W.h1, height := 150, coinbase := false, outs := [some ⟨1000, [0x51]⟩] }])]
    ∃ db', undoBlockTxs ⟨false, false⟩ [] (writeUndo ⟨false, false⟩ stale 151 (some [])) 151 [W.idOf 0xc0] = some db'
      ∧ unspentGet Cfg.current db' ⟨W.h1, 0⟩ ≠ none
      ∧ undoBlockTxs UndoCfg.current [] (writeUndo UndoCfg.current stale 151 (some [])) 151 [W.idOf 0xc0] = some [] := by
  refine ⟨_, rfl, by decide, by decide⟩

/-- **Compressed records.** SerializeC fills the shared pools in one pass and reads them back in a second one. With the
    mutex held over both passes (`Gen.C04Facts.scratchUnderLock`) the schedules of two concurrent serializations A and B
    that the source permits are the two sequential ones, and under each of them both records come out exact — whatever
    the pools held before (`pool` arbitrary, long enough: the allocation at the top of SerializeC). -/
theorem compressed_serializations_exact {α β : Type} (f : α → β) (d : β) (A B : List (Option α)) (pool : List β)
    (hA : A.length ≤ pool.length) (hB : B.length ≤ pool.length) (sched : List Scratch.Step)
    (hs : Scratch.permitted Gen.C04Facts.scratchUnderLock sched = true) :
    (Scratch.run f d A B pool sched).outA = Scratch.expected f A 0
    ∧ (Scratch.run f d A B pool sched).outB = Scratch.expected f B 0 := by
  rw [facts_current.2.1] at hs
  simp only [Scratch.permitted, ↓reduceIte, Bool.or_eq_true, decide_eq_true_eq] at hs
  rcases hs with e | e <;> subst e <;> simp only [Scratch.run, List.foldl, Scratch.exec]
  · -- pass 2 depends on the pool only
    refine ⟨pass2_pass1 f d A 0 pool (by omega), pass2_pass1 f d B 0 _ ?_⟩
    rw [length_pass1]; omega
  · refine ⟨pass2_pass1 f d A 0 _ ?_, pass2_pass1 f d B 0 pool (by omega)⟩
    rw [length_pass1]; omega

example : Scratch.permitted Gen.C04Facts.scratchUnderLock [.a1, .a2, .b1, .b2] = true := by decide

/-- Why the lock must cover both passes: interleave pass 1 of B between the passes of A and record A comes out with
    B's amount at the common output index (50 BTC instead of 1 BTC — money from nowhere in the set). -/
theorem compressed_interleaving_counterexample :
    Scratch.permitted false [.a1, .b1, .a2, .b2] = true
    ∧ (Scratch.run (fun v : Nat => v) 0 [some 100000000] [some 5000000000] [0] [.a1, .b1, .a2, .b2]).outA = [(0, 5000000000)]
    ∧ Scratch.expected (fun v : Nat => v) [some 100000000] 0 = [(0, 100000000)] := by
  decide +kernel

/-! ### the client's own wiring: the REAL pool hook, the record allocator, the road of the block object

  One structural fact of the source per mechanism, regenerated from /repo on every run (go/cmd/gen_c04 →
  Gen/C04Facts.lean: `hookComparesWitness`, `recordReleasedAfterLastRead`,
  `txListMarksCoinbaseHashed/Plain`); the harness (realpool.go, alloc.go, entry.go) drives the real code in the same
  configurations and searches for a failing input. -/

/-- **The real pool hook is honest.** `cacheChecker` = client/txpool's txChecker (Model/ConnectCache.lean): look the
    txid up, answer true only for a pooled, non-local entry whose WITNESS hash equals the transaction's.  If the pool
    verified what it holds (`hcache`: every non-local pooled entry has a true script verdict — processTx for untrusted
    sources; the verdict is a property of the whole transaction, identified by its wtxid) and the verdict of a wtxid is the
    verdict of the block's transaction with that wtxid (`hverd`), then the hook vouches only for transactions all of
    whose scripts verify: exactly the hypothesis `hhonest` of `connect_sound_pool_hook`.  Needs
    `Gen.C04Facts.hookComparesWitness`: the txid does not cover the witness. -/
theorem real_pool_hook_is_honest (cache : List CacheEntry) (wtxidOf : Tx → Bytes) (verdict : Bytes → Bool) (b : Block)
    (hcache : ∀ e ∈ cache, e.state = .toSend → e.localTx = false → verdict e.wtxid = true)
    (hverd : ∀ tx ∈ b.txs.tail, verdict (wtxidOf tx) = true → ∀ i ∈ tx.ins, i.scriptOk = true) :
    ∀ tx ∈ b.txs.tail, (cacheChecker HookCfg.current cache wtxidOf).says tx = true → ∀ i ∈ tx.ins, i.scriptOk = true := by
  intro tx htx hs
  rw [facts_current.2.2.2.1] at hs
  simp only [cacheChecker, TxChecker.says] at hs
  obtain ⟨e, hm, hst, hl, hw⟩ := cacheSays_true cache tx.txid (wtxidOf tx) hs
  apply hverd tx htx
  rw [← hw]
  exact hcache e hm hst hl

/-- non-vacuity: the pool holds the transaction of `W.blockOk` under the witness hash the block carries; the hook vouches for it -/
example : (∀ e ∈ [(⟨W.idOf 1, [0x77], .toSend, false⟩ : CacheEntry)], e.state = .toSend → e.localTx = false → (fun w : Bytes => w == [0x77]) e.wtxid = true)
    ∧ (∀ tx ∈ W.blockOk.txs.tail, (fun w : Bytes => w == [0x77]) ((fun _ : Tx => ([0x77] : Bytes)) tx) = true → ∀ i ∈ tx.ins, i.scriptOk = true)
    ∧ (cacheChecker HookCfg.current [⟨W.idOf 1, [0x77], .toSend, false⟩] (fun _ => [0x77])).says (W.spend 1 1 W.h1 0xffffffff [⟨900, [0x51]⟩]) = true := by
  decide +kernel

/-- Hence, with client/txpool as the pool, the conclusion of `connect_sound` holds for every block the node connects:
    `connect_sound_pool_hook` with its honesty hypothesis discharged by `real_pool_hook_is_honest`. -/
theorem connect_sound_real_pool (cache : List CacheEntry) (wtxidOf : Tx → Bytes) (verdict : Bytes → Bool)
    (db : DB) (b : Block) (db' : DB) (so : Nat) (mtpOf : Nat → Nat)
    (hcache : ∀ e ∈ cache, e.state = .toSend → e.localTx = false → verdict e.wtxid = true)
    (hverd : ∀ tx ∈ b.txs.tail, verdict (wtxidOf tx) = true → ∀ i ∈ tx.ins, i.scriptOk = true)
    (hwf : WF db)
    (hinj : ((b.txs.map (·.txid)).map key8).Nodup)
    (hbip30 : ∀ tx ∈ b.txs, ∀ kr ∈ db, key8 kr.2.txid ≠ key8 tx.txid)
    (hseq : b.csv = true → ∀ tx ∈ b.txs, 2 ≤ tx.version → ∀ i ∈ tx.ins, ∀ c : Coin,
        (absGet mtpOf db i.prev = some c ∨ (absGet mtpOf db i.prev = none ∧ c.height = b.height ∧ c.mtpPrev = b.mtp)) → seqLockOk b.height b.mtp i c = true)
    (hret : ∀ tx ∈ b.txs, txCountsAgree tx = true)
    (hheights : ∀ kr ∈ db, kr.2.height ≤ b.height) (hb : b.height < 2 ^ 32)
    (hmtp : mtpOf b.height = b.mtp)
    (hsize : ∀ tx ∈ b.txs, tx.noWitSize * 4 < 2 ^ 32)
    (hbytes : blockScriptBytes b ≤ 4000000)
    (h : connectT Cfg.current (cacheChecker HookCfg.current cache wtxidOf) db b = .ok (db', so)) :
    ∃ u', connectBlock (absList mtpOf db) b = .ok u' ∧ (∀ op, aGet u' op = absGet mtpOf db' op)
      ∧ ∃ cb rest r, b.txs = cb :: rest
          ∧ connectTxs b rest ⟨addOuts (absList mtpOf db) cb.txid b true cb.outs 0, 0, 0⟩ = .ok r
          ∧ so = 4 * cbScriptSigOps cb + 4 * cbOutputSigOps cb + r.sigops
          ∧ so ≤ 80000 :=
  connect_sound_pool_hook _ db b db' so mtpOf (real_pool_hook_is_honest cache wtxidOf verdict b hcache hverd)
    hwf hinj hbip30 hseq hret hheights hb hmtp hsize hbytes h

/-- non-vacuity of `connect_sound_real_pool`: the pool holds the transaction of `W.blockOk` (non-local, under the witness
    hash the block carries, verdict true); both pool hypotheses hold, the hook vouches for that transaction and the block
    is connected through `connectT` with `cacheChecker` as the hook -/
example :
    let cache : List CacheEntry := [⟨W.idOf 1, [0x77], .toSend, false⟩]
    let verdict : Bytes → Bool := fun w => w == [0x77]
    let wtxidOf : Tx → Bytes := fun _ => [0x77]
    (∀ e ∈ cache, e.state = .toSend → e.localTx = false → verdict e.wtxid = true)
    ∧ (∀ tx ∈ W.blockOk.txs.tail, verdict (wtxidOf tx) = true → ∀ i ∈ tx.ins, i.scriptOk = true)
    ∧ (∃ tx ∈ W.blockOk.txs.tail, (cacheChecker HookCfg.current cache wtxidOf).says tx = true)
    ∧ isOk (connectT Cfg.current (cacheChecker HookCfg.current cache wtxidOf) W.db0 W.blockOk) = true := by
  decide +kernel

/-- The configuration theorems above are about `connectT` — a commitTxs that ASKS the hook. That it does is itself a
    regenerated fact (go/cmd/gen_c04: some function of chain_accept.go tests `TrustedTxChecker(tx)`); nothing more is
    claimed here than that this fact is `true` for the source the check ran against (the theorem stops checking when
    the call disappears; the oracle op `blockv` and the harness episodes with a hook would then exercise dead wiring). -/
theorem hook_is_consulted : Gen.C04Facts.hookConsulted = true := by decide

/-- Why the witness hash must be compared: the pool once verified T (wtxid w) and then replaced it; a block carries T'
    — the same txid under another witness w' whose script verdict is FALSE. A hook that answers on the txid for entries
    "whose scripts were verified once" vouches for T'; the one the source has now does not — neither for a replaced
    entry nor for a pooled one with another witness hash. -/
theorem pool_cache_must_compare_witness_counterexample :
    let cache : List CacheEntry := [⟨W.idOf 1, [0x77], .replaced, false⟩]
    let pooled : List CacheEntry := [⟨W.idOf 1, [0x77], .toSend, false⟩]
    let verdict : Bytes → Bool := fun w => w == [0x77]
    cacheSays ⟨false⟩ cache (W.idOf 1) [0x78] = true ∧ verdict [0x78] = false
    ∧ cacheSays HookCfg.current cache (W.idOf 1) [0x78] = false
    ∧ cacheSays HookCfg.current pooled (W.idOf 1) [0x78] = false
    ∧ cacheSays HookCfg.current pooled (W.idOf 1) [0x77] = true := by
  decide +kernel

/-- KNOWN FINDING pool-verdict-predates-soft-fork — why `hverd` is a hypothesis and not a theorem: the pool's verdict is
    the one under the script flags of the TIP at admission, the block's is under the flags of the block. A pooled
    transaction T2 that verified before a rule's activation height (`verdictPool`) and fails under the rule
    (`scriptOk = false` in `W.blockPoolBad`, whose flags the oracle Bool stands for) is vouched for by the hook — the
    witness hash matches — and the code model connects the block that the specification refuses.  Replayed on the real
    code by the harness (forkedge.go). -/
theorem pool_verdict_predates_soft_fork_counterexample :
    let cache : List CacheEntry := [⟨W.idOf 2, [0x99], .toSend, false⟩]
    let verdictPool : Bytes → Bool := fun _ => true
    (∀ e ∈ cache, e.state = .toSend → e.localTx = false → verdictPool e.wtxid = true)
    ∧ isOk (connectT Cfg.current (cacheChecker HookCfg.current cache (fun _ => [0x99])) W.db0 W.blockPoolBad) = true
    ∧ failsWith (connectBlock (absList W.mtp0 W.db0) W.blockPoolBad) .script = true := by
  decide +kernel

/-- **Ownership of record bytes.** UndoBlockTxs merges the outputs the set still holds into the record of the undo
    file through a VIEW of the stored record (scripts are slices of its bytes) and serializes the result; with
    `Gen.C04Facts.recordReleasedAfterLastRead` the stored record is released only after that, so on EVERY allocator —
    `junk` = whatever released memory reads as — the undo puts back exactly what the abstract `undoBlockTxs` does. -/
theorem undo_merge_reads_live_records (junk : Junk) (db : DB) (dir : UndoDir) (h : Nat) (txids : List Bytes) :
    undoBlockTxsOwn UndoCfg.current OwnCfg.current junk db dir h txids = undoBlockTxs UndoCfg.current db dir h txids := by
  unfold undoBlockTxsOwn undoBlockTxs
  rw [facts_current.2.2.2.2.1]
  cases readUndo UndoCfg.current dir h with
  | none => rfl
  | some recs => simp only [foldl_addBackOwn_live]

/-- Why the release must come last: the set holds output 1 of a transaction (script 0x51), the undone block had spent its
    output 0; release the stored record BEFORE the merged one is serialized and an allocator that reuses the slot
    (`junk`) leaves output 1 in the set with another script — a valid spend is refused, a spend satisfying the garbage
    would be connected. -/
theorem undo_release_before_serialize_counterexample :
    let db : DB := [(key8 W.h1, { txid := W.h1, height := 150, coinbase := false, outs := [none, some ⟨1000, [0x51]⟩] })]
    let back : Rec := { txid := W.h1, height := 150, coinbase := false, outs := [some ⟨500, [0x52]⟩, none] }
    let junk : Junk := fun _ => [0xdb]
    (unspentGet Cfg.current (addBackOwn ⟨false⟩ junk db back) ⟨W.h1, 1⟩).map (·.script) = some [0xdb]
    ∧ (unspentGet Cfg.current (addBack db back) ⟨W.h1, 1⟩).map (·.script) = some [0x51]
    ∧ (unspentGet Cfg.current (addBackOwn OwnCfg.current junk db back) ⟨W.h1, 1⟩).map (·.script) = some [0x51] := by
  decide +kernel

/-- **The road of the block object.** Whichever call built the transaction list of the object that reaches
    Chain.CommitBlock — BuildTxList (CheckBlock, re-organisations) or BuildTxListExt(false) (a block parked in the
    client's disk cache) — the outputs of transaction number i carry WasCoinbase exactly when i = 0, so the record
    commitTxs files for the coinbase has Coinbase = true and the model's "first transaction of the block" is what the
    code copies.  Needs `Gen.C04Facts.txListMarksCoinbaseHashed` and `…Plain`. -/
theorem block_object_paths_mark_coinbase (how : ListBuild) (height i : Nat) (txid : Bytes) (outs : List (Option TxOut)) :
    wasCoinbase ListCfg.current how i = (i == 0)
    ∧ (recOfListed ListCfg.current how height i txid outs).coinbase = (i == 0) := by
  rw [facts_current.2.2.2.2.2]
  cases how <;> simp [wasCoinbase, recOfListed]

/-- Why both roads must mark: a list built without the mark files the coinbase of block 150 as an ordinary record, and
    the maturity test of commitTxs lets the next block spend it (depth 1); with the mark the same spend is refused as
    immature. -/
theorem unmarked_coinbase_spendable_at_once_counterexample :
    let recOf (cfg : ListCfg) : Rec := recOfListed cfg .plain 150 0 W.h1 [some ⟨5000000000, [0x51]⟩]
    let found (cfg : ListCfg) : Option Found := unspentGet Cfg.current [(key8 W.h1, recOf cfg)] ⟨W.h1, 0⟩
    (found ⟨true, false⟩).map (fun t => isOk (fromDb W.blockOk (St.init W.blockOk) W.h1 0 t)) = some true
    ∧ (found ListCfg.current).map (fun t => failsWith (fromDb W.blockOk (St.init W.blockOk) W.h1 0 t) Err.immature) = some true := by
  decide +kernel

end GocoinV.Props.C04
