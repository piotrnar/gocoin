/-
  Props.C05 — property theorems for C05 (blocks violating header, structure or commitment rules are never
  accepted). Theorems ONLY (helper lemmas live in GocoinV/Proofs/C05*.lean). Every theorem is about the
  definitions of Model/{Target,Retarget,BlockCheck}.lean — the ones oracle_c05 executes and go/cmd/c05
  compares with the real gocoin functions — and about the constants of Gen/ConsensusConsts.lean, which are
  regenerated from the Go source on every run.
-/
import GocoinV.Model.BlockCheck
import GocoinV.Spec.Merkle
import GocoinV.Spec.ScriptNum
import GocoinV.Proofs.C05Sort
import GocoinV.Proofs.C05Merkle
import GocoinV.Proofs.C05Script
import GocoinV.Proofs.C05Block
import GocoinV.Proofs.C05Compact
namespace GocoinV.Props.C05
open GocoinV GocoinV.Target GocoinV.Retarget GocoinV.BlockCheck GocoinV.Gen.ConsensusConsts

/-- PreCheckBlock, decision logic stated outright: a header that passes (`err = ok`) is at least 80 bytes,
    has a non-zero version, a hash that meets the target in its own `bits`, a time not more than
    `maxFutureBlockTime` (2 h) ahead of the clock, has no `BlockIndex` entry under its own 8-byte key, has a parent
    entry under the 8-byte key of its previous-block field WHOSE WHOLE HASH IS THAT FIELD (`i.parent = some
    (i.parentHash, …)`: the header names a block that exists — the index key alone is attacker-chosen header data),
    is not a fork deeper than the unwind limit, carries exactly the `bits` that GetNextWorkRequired demands after
    that parent, has a time strictly above the parent's median-time-past, and a (signed) version permitted at its
    height; and the call reports neither `dos` nor `maybelater` and leaves height = parent height + 1 and that MTP
    in the block. -/
theorem precheck_sound (p : Params) (c : Consensus) (i : PreIn) (o : PreOut)
    (h : preCheckBlock p c i = some o) (hok : o.err = .ok) :
    preMinRawLen ≤ i.rawLen ∧ signedVersion i.ver ≠ forbiddenVersion ∧
    checkProofOfWork i.hash i.bits = true ∧
    (i.time : Int) ≤ i.now + maxFutureBlockTime ∧
    i.known = none ∧
    ∃ prev anc mtp, i.parent = some (i.parentHash, prev :: anc) ∧
      o.height = (prev.height + 1) % 2^32 ∧
      (i.parentIsLast = true ∨ (i.lastHeight : Int) - (o.height : Int) < (forkDepthLimit : Int)) ∧
      getNextWorkRequired p (prev :: anc) i.time = some i.bits ∧
      getMedianTimePast (prev :: anc) = some mtp ∧ o.mtp = mtp ∧ mtp < i.time ∧
      versionRejected c i.ver o.height = false ∧
      o.dos = false ∧ o.maybelater = false := by
  unfold preCheckBlock at h
  have pass {c : Prop} [Decidable c] {bad : PreOut} {rest : Option PreOut}
      (h : (if c then some bad else rest) = some o) (hb : ¬bad.err = .ok) :=
    Proofs.C05.passed (ok := (·.err = .ok)) h hok hb
  obtain ⟨hlen, h⟩ := pass h nofun
  obtain ⟨hver, h⟩ := pass h nofun
  obtain ⟨hpow, h⟩ := pass h nofun
  obtain ⟨htime, h⟩ := pass h nofun
  generalize i.known = k at h
  cases k with
  | some x =>
    obtain ⟨-, h⟩ := pass h nofun
    obtain ⟨-, h⟩ := pass h nofun
    cases h; cases hok
  | none =>
    generalize hpar : parentOf i = par at h
    match par with
    | none => cases h; cases hok
    | some [] => cases h
    | some (prev :: anc) =>
      obtain ⟨hdeep, h⟩ := pass h nofun
      generalize hg : getNextWorkRequired p (prev :: anc) i.time = g at h
      cases g with
      | none => cases h
      | some g =>
        obtain ⟨hbits, h⟩ := pass h nofun
        generalize hmtp : getMedianTimePast (prev :: anc) = m at h
        cases m with
        | none => cases h
        | some mtp =>
          obtain ⟨hold, h⟩ := pass h nofun
          obtain ⟨hverrej, h⟩ := pass h nofun
          cases h
          dsimp only
          refine ⟨by omega, hver, by simpa using hpow, by omega, rfl, prev, anc, mtp,
            Proofs.C05.parentOf_some i _ hpar, rfl, ?_, ?_, hmtp, rfl, by omega, by simpa using hverrej, rfl, rfl⟩
          · cases hp : i.parentIsLast with
            | true => left; rfl
            | false => right; simp [hp] at hdeep; omega
          · rw [hg, Decidable.not_not.mp hbits]
/-- non-vacuity of `precheck_sound`: a block on top of a one-block chain passes the model. -/
example : ∃ o, preCheckBlock { maxPowBits := 0x207fffff, maxPowValue := setCompact 0x207fffff, testnet := false, testnet4 := false }
    { bip34Height := 1, bip65Height := 1, bip66Height := 1, enforceCSV := 0, enforceSegwit := 0, enforceTaproot := 0 }
    { rawLen := 285, ver := 4, hash := 12345, parentHash := 2^64 * 77 + 5, bits := 0x207fffff, time := 1000, now := 5000, known := none,
      parent := some (2^64 * 77 + 5, [{ height := 0, ts := 900, bits := 0x207fffff }]), parentIsLast := true, lastHeight := 0 } = some o ∧ o.err = .ok := by
  exact ⟨{ dos := false, maybelater := false, err := .ok, height := 1, mtp := 900 }, by decide, rfl⟩

/-- **A previous-block field that shares only its 8-byte index key with a known block is an unknown parent.** The
    same block as in the example above, with the previous-block field changed outside its first 8 bytes (same `bidx`,
    so the `BlockIndex` look-up finds the same entry): refused with `bad-prevblk`, `maybelater` — what the code did
    before fix 533896f3 was to accept it (`parentHashCompared` is regenerated from the source: with the comparison
    removed this theorem and `precheck_sound` fail). -/
theorem prefix_only_parent_refused :
    bidx (2^64 * 78 + 5) = bidx (2^64 * 77 + 5) ∧
    preCheckBlock { maxPowBits := 0x207fffff, maxPowValue := setCompact 0x207fffff, testnet := false, testnet4 := false }
    { bip34Height := 1, bip65Height := 1, bip66Height := 1, enforceCSV := 0, enforceSegwit := 0, enforceTaproot := 0 }
    { rawLen := 285, ver := 4, hash := 12345, parentHash := 2^64 * 78 + 5, bits := 0x207fffff, time := 1000, now := 5000, known := none,
      parent := some (2^64 * 77 + 5, [{ height := 0, ts := 900, bits := 0x207fffff }]), parentIsLast := true, lastHeight := 0 }
      = some { dos := false, maybelater := true, err := .noParent } := by
  decide

/-- PostCheckBlock, decision logic stated outright, for the way every caller that handles untrusted data enters
    it (`bl.Txs == nil`, block not marked trusted): a block that passes is at least 81 bytes, parsed, weighs at
    most `postMaxWeight` (= MAX_BLOCK_WEIGHT = 4,000,000 by `weight_limit_is_max_block_weight`), has exactly
    its first transaction as coinbase, starts that coinbase's script with UintToScript(height) from BIP34Height
    on, has the Merkle root of its header with the `mutated` flag clear, gets the flags of GetBlockFlags, has —
    if the witness flag is on and the coinbase carries a commitment output (searched from the last output) — a
    single 32-byte nonce and SHA256d(witness-root ‖ nonce) equal to the commitment, carries no witness data at
    all otherwise, and every transaction passes CheckTransaction and IsFinal at (height, MTP or block time). -/
theorem postcheck_sound (h : Bytes → Bytes) (c : Consensus) (i : PostIn) (f : Nat)
    (hr : postCheckBlock h c i = some (.ok, f)) (hu : i.trusted = false) (hp : i.preParsed = false) :
    postMinRawLen ≤ i.rawLen ∧ i.buildOk = true ∧ blockWeight i.txs ≤ postMaxWeight ∧
    f = getBlockFlags c i.height i.time ∧
    calcMerkle h (i.txs.map (·.txid)) = some (i.merkleRoot, false) ∧
    ∃ cb rest, i.txs = cb :: rest ∧ cb.isCoinBase = true ∧ rest.any (·.isCoinBase) = false ∧
      (c.bip34Height ≤ i.height → (uintToScript i.height).isPrefixOf cb.in0Script = true) ∧
      (match (if f &&& VER_WITNESS ≠ 0 then findCommitment cb.outs.reverse else none) with
       | some pk => ∃ nonce root, cb.segwit = some [[nonce]] ∧ nonce.length = witnessNonceLen ∧
           witnessMerkle h i.txs = some root ∧ h (root ++ nonce) = (pk.drop witnessHeader.length).take 32
       | none => i.txs.any (·.segwit.isSome) = false) ∧
      checkTransactions i.txs i.height (if f &&& VER_CSV ≠ 0 then i.mtp else i.time) = [] := by
  unfold postCheckBlock at hr
  simp only [hu, hp, Bool.not_false, Bool.true_and, Bool.false_eq_true, ↓reduceIte] at hr
  obtain ⟨hlen, hr⟩ := Proofs.C05.passed (ok := (·.1 = .ok)) hr rfl nofun
  obtain ⟨hbuild, hr⟩ := Proofs.C05.passed (ok := (·.1 = .ok)) hr rfl nofun
  obtain ⟨hw, hr⟩ := Proofs.C05.passed (ok := (·.1 = .ok)) hr rfl nofun
  cases htxs : i.txs with
  | nil => simp [htxs] at hr
  | cons cb rest =>
    simp only [htxs] at hr
    by_cases hcb : cb.isCoinBase = true
    · simp only [hcb, Bool.not_true, Bool.false_eq_true, ↓reduceIte] at hr
      by_cases h34 : (decide (i.height ≥ c.bip34Height) && !(uintToScript i.height).isPrefixOf cb.in0Script) = true
      · simp [h34] at hr
      · simp only [h34, Bool.false_eq_true, ↓reduceIte] at hr
        by_cases hm : rest.any (·.isCoinBase) = true
        · simp [hm] at hr
        · simp only [hm, Bool.false_eq_true, ↓reduceIte] at hr
          generalize hmk : calcMerkle h _ = mk at hr
          cases mk with
          | none => simp at hr
          | some rm =>
            obtain ⟨root, mutated⟩ := rm
            obtain ⟨hmut, hr⟩ := Proofs.C05.passed (ok := (·.1 = .ok)) hr rfl nofun
            obtain ⟨hroot, hr⟩ := Proofs.C05.passed (ok := (·.1 = .ok)) hr rfl nofun
            cases hpw : postWitnessAndTxs h (getBlockFlags c i.height i.time) i with
            | none => simp [hpw] at hr
            | some e =>
              simp [hpw] at hr
              obtain ⟨rfl, rfl⟩ := hr
              obtain ⟨cb', rest', htx', hwit, hct⟩ := Proofs.C05.postWitnessAndTxs_ok h _ i hpw
              cases htxs.symm.trans htx'
              rw [htxs] at hwit hct
              refine ⟨by omega, by simpa using hbuild, by simpa [htxs, Proofs.C05.builtWeight_eq] using hw, rfl, by simpa [hmut] using hroot, cb, rest, rfl, hcb, by simpa using hm, ?_, hwit, hct⟩
              intro hge
              simpa [hge] using h34
    · simp [hcb] at hr

/-- non-vacuity of `postcheck_sound`, COMMITMENT branch: segwit active at height 1, a coinbase whose last output is
    6a24aa21a9ed ‖ h(witness-root ‖ nonce) with a single 32-byte nonce (toy hash `take 32`: witness root of the
    one-leaf tree = 32 zero bytes, so the commitment is 32 zero bytes), Merkle root = the coinbase txid: passes with
    the flags P2SH|DERSIG|CLTV|WITNESS|NULLDUMMY; and the same block with one commitment byte changed is refused. -/
example :
    let cb : Tx := { ins := [{ null := true, seq := 0xffffffff, scriptLen := 3 }], in0Script := [0x51, 1, 2],
                     outs := [[0x51], [0x6a, 0x24, 0xaa, 0x21, 0xa9, 0xed] ++ List.replicate 32 0], outValues := [5000000000, 0],
                     segwit := some [[List.replicate 32 7]], txid := [9], wtxid := [8], lockTime := 0, noWitSize := 150, size := 190 }
    let c : Consensus := { bip34Height := 1, bip65Height := 1, bip66Height := 1, enforceCSV := 0, enforceSegwit := 1, enforceTaproot := 0 }
    let i : PostIn := { rawLen := 271, preParsed := false, buildOk := true, trusted := false, height := 1, mtp := 900, time := 1000,
                        merkleRoot := [9], txs := [cb] }
    postCheckBlock (fun x => x.take 32) c i = some (.ok, getBlockFlags c 1 1000) ∧
    getBlockFlags c 1 1000 &&& VER_WITNESS ≠ 0 ∧
    (findCommitment cb.outs.reverse).isSome = true ∧
    postCheckBlock (fun x => x.take 32) c
      { i with txs := [{ cb with outs := [[0x51], [0x6a, 0x24, 0xaa, 0x21, 0xa9, 0xed] ++ (1 :: List.replicate 31 0)] }] }
      = some (.witnessMerkle, getBlockFlags c 1 1000) := by
  decide +kernel

/-- the weight limit applied by PostCheckBlock is the constant MAX_BLOCK_WEIGHT of lib/btc/const.go, which is
    4,000,000 (both regenerated from the source: an edit to either breaks this theorem). -/
theorem weight_limit_is_max_block_weight : postMaxWeight = MAX_BLOCK_WEIGHT ∧ MAX_BLOCK_WEIGHT = 4000000 := by
  decide

/-- the literal limits named in the property statement, as they occur in the current source: 2..100-byte
    coinbase script, two hours, 11-block median, 2016-block / two-week retarget with ¼ and 4× clamps,
    80-byte header, 32-byte nonce, the BIP141 commitment header. -/
theorem source_limits :
    cbScriptMin = 2 ∧ cbScriptMax = 100 ∧ maxFutureBlockTime = 7200 ∧ MedianTimeSpan = 11 ∧
    targetInterval = 2016 ∧ POWRetargetSpam = 1209600 ∧ retargetMinTimespan * 4 = POWRetargetSpam ∧
    retargetMaxTimespan = POWRetargetSpam * 4 ∧ preMinRawLen = 80 ∧ witnessNonceLen = 32 ∧
    witnessNonceStacks = 1 ∧ witnessNonceItems = 1 ∧ witnessCommitMinLen = 38 ∧
    witnessHeader = [0x6a, 0x24, 0xaa, 0x21, 0xa9, 0xed] ∧ LOCKTIME_THRESHOLD = 500000000 ∧
    minVersion_BIP34Height = 2 ∧ minVersion_BIP66Height = 3 ∧ minVersion_BIP65Height = 4 := by
  decide

/-- the remaining limits that gen_c05 reads off guards (not named in the property statement, but part of the
    decision logic the soundness theorems are about), in the canonical form the translator emits (`x <= c` is read
    as `x < c+1`, so a guard shifted by one shows up here as a changed number): PostCheckBlock wants more than the
    80-byte header, a version of exactly 0 is refused outright, a time-too-new block counts as DoS from five minutes
    beyond the two hours, a side branch is refused from MovingCheckopintDepth below the tip, a transaction's
    stripped size times 4 is held against MAX_BLOCK_WEIGHT, and the testnet min-difficulty rule needs a gap of more
    than two target spacings. -/
theorem secondary_limits :
    postMinRawLen = preMinRawLen + 1 ∧ forbiddenVersion = 0 ∧ futureDosLimit = maxFutureBlockTime + 300 ∧
    forkDepthLimit = MovingCheckopintDepth ∧ txMaxWeight = MAX_BLOCK_WEIGHT ∧
    testnetMinDiffGap = 2 * TargetSpacing := by
  decide

/-- structural facts about the `BlockIndex` look-ups, re-read from the source on every run (gen_c05): the entry found
    under the 8-byte key is compared with the WHOLE hash — of the block itself in PreCheckBlock's "already in" test,
    of the header's previous-block field in PreCheckBlock and in AcceptHeader (fix 533896f3). The extractor accepts an
    `Equal` call only if it mentions the entry, `BlockHash` and `Hash` / `ParentHash` AND none of its operands is
    indexed or cut (`Hash[:]` is the only slice allowed; `Hash[:16]` stops the translator); the exact operands of the
    PreCheckBlock comparison are also pinned by `guard_shapes` ("pre/bad-prevblk", "pre/index-collision"). -/
theorem index_lookups_compare_whole_hash :
    knownHashCompared = true ∧ parentHashCompared = true ∧ acceptHeaderParentHashCompared = true := by
  decide

/-- **Which quantity each guard compares, under which enclosing condition, and that it returns** — the canonical
    shapes (go/cmd/gen_c05/shape.go) of every marker-carrying guard of PreCheckBlock / PostCheckBlock, of the two
    assignments `bl.Height = …` / `bl.MedianPastTime = …`, of the commitment search loop, of the lock-time cut-off
    choice, of every rule of GetBlockFlags and its call, of the retarget timespan expression and of the two base-weight
    expressions of BuildTxListExt, re-read from the source on every run, are the ones the model was written for; and
    GetNextWorkRequired walks `targetInterval - 1` parents back. In a shape every bare identifier is `_` (locals are not
    told apart), constants are folded, `<= c` is `< c+1`, operands / members are sorted; facts that are SETS are
    written in a canonical order after the generator has checked on the source that they are sets:
    a run of adjacent GetBlockFlags rules `if c { flags |= K }` whose conditions do not read `flags` is sorted by rule
    text (rule 1, which ASSIGNS, keeps its place); the two stores `bl.Height = …` / `bl.MedianPastTime = …` are listed
    by field name as long as neither reads the object it writes; `if c {A} else {B}` and `if !c {B} else {A}` are one
    shape; the base-weight expressions are read through unexported single-return helpers and with conversions to
    integer types of 32 bits or more dropped (every intermediate value is below 2^9; a conversion to an 8- or 16-bit
    type stays visible). An edit that compares another
    quantity, flips an operator or polarity, adds or drops a conjunct, drops the `return`, moves a guard under another
    condition, searches the commitment forwards, cuts the commitment compare, swaps the cut-off branches or the
    arguments of GetBlockFlags, computes the timespan in 32 bits, measures a constant instead of the counter or walks
    2014 parents changes a string here. The last three entries are the client's hand reset of a Block object after a
    corrupt copy (client/network/data.go, cblk.go: the statements of every block that sets `.Txs = nil`), which the
    harness's retry paths re-implement (go/cmd/c05/entrypaths.go): if the client's reset changes, this theorem fails and
    the harness copy has to follow. NOT pinned by this: the `unexpected-witness` scan, CheckTransaction(s),
    GetMedianTimePast, CalcMerkle, the min-difficulty walk — for those the differential harness is the tie. -/
theorem guard_shapes :
    guardShapes = [
      ("pre/bad-blk-length", "len(_.Raw) < 80 -> return"),
      ("pre/bad-version", "int32(_.Version()) == 0 -> return"),
      ("pre/high-hash", "!_.CheckProofOfWork(_.Hash, _.Bits()) -> return"),
      ("pre/time-too-new", "(_.Now().Unix() + 7200) < int64(_.BlockTime()) -> return"),
      ("pre/index-collision", "!_.BlockHash.Equal(_.Hash) @ _ -> return"),
      ("pre/genesis", "_.Parent == nil @ _ -> return"),
      ("pre/bad-prevblk", "!_ || !_.Equal(_.BlockHash.Hash[:], _.ParentHash()) -> return"),
      ("pre/too-deep", "(int(_.LastBlock().Height) - int(_.Height)) > 2015 && _ != _.LastBlock() -> return"),
      ("pre/bad-diffbits", "_.Bits() != _.GetNextWorkRequired(_, _.BlockTime()) -> return"),
      ("pre/time-too-old", "_.BlockTime() <= _.MedianPastTime -> return"),
      ("pre/version-gate", "(_.Consensus.BIP34Height <= _.Height && int32(_.Version()) < 2) || (_.Consensus.BIP65Height <= _.Height && int32(_.Version()) < 4) || (_.Consensus.BIP66Height <= _.Height && int32(_.Version()) < 3) -> return"),
      ("post/bad-blk-length", "len(_.Raw) < 81 -> return"),
      ("post/bad-blk-weight", "_.BlockWeight > 4000000 @ _.Txs == nil -> return"),
      ("post/bad-cb-missing", "!_.Txs[0].IsCoinBase() || _.Txs[0] == nil || len(_.Txs) == 0 @ !_.Trusted.Get() -> return"),
      ("post/bad-cb-height", "!_.HasPrefix(_.Txs[0].TxIn[0].ScriptSig, _.UintToScript(_.Height)) @ !_.Trusted.Get() @ _.Consensus.BIP34Height <= _.Height -> return"),
      ("post/bad-cb-multiple", "_.Txs[_].IsCoinBase() @ !_.Trusted.Get() -> return"),
      ("post/bad-txns-duplicate", "_ -> return"),
      ("post/bad-txnmrklroot", "!_.Equal(_, _.MerkleRoot()) -> return"),
      ("post/bad-witness-nonce-size", "len(_.Txs[0].SegWit) != 1 || len(_.Txs[0].SegWit[0]) != 1 || len(_.Txs[0].SegWit[0][0]) != 32 @ !_.Trusted.Get() @ (_.VerifyFlags & 2048) != 0 @ _.Equal(_.Txs[0].TxOut[_].Pk_script[:6], {106,36,170,33,169,237}) && len(_.Txs[0].TxOut[_].Pk_script) > 37 -> return"),
      ("post/bad-witness-merkle-match", "!_.Equal(_.Sha2Sum(append(_, _.Txs[0].SegWit[0][0]))[:], _.Txs[0].TxOut[_].Pk_script[6:38]) @ !_.Trusted.Get() @ (_.VerifyFlags & 2048) != 0 @ _.Equal(_.Txs[0].TxOut[_].Pk_script[:6], {106,36,170,33,169,237}) && len(_.Txs[0].TxOut[_].Pk_script) > 37 -> return"),
      ("pre/assign-Height", "_.Height = (_.Height + 1)"),
      ("pre/assign-MedianPastTime", "_.MedianPastTime = _.GetMedianTimePast()"),
      ("post/commitment-search", "for _ = (len(_.Txs[0].TxOut) - 1); _ > -1; _--"),
      ("post/locktime-cutoff", "if (_.VerifyFlags & 1024) != 0 { _ = _.MedianPastTime } else { _ = _.BlockTime() }"),
      ("flags/rule-1", "$2 == 0 || $2 > 1333238399 => _ = 1"),
      ("flags/rule-2", "$1 >= _.Consensus.BIP65Height => _ |= 512"),
      ("flags/rule-3", "$1 >= _.Consensus.BIP66Height => _ |= 4"),
      ("flags/rule-4", "$1 >= _.Consensus.Enforce_CSV && _.Consensus.Enforce_CSV != 0 => _ |= 1024"),
      ("flags/rule-5", "$1 >= _.Consensus.Enforce_SEGWIT && _.Consensus.Enforce_SEGWIT != 0 => _ |= 2064"),
      ("flags/rule-6", "$1 >= _.Consensus.Enforce_Taproot && _.Consensus.Enforce_Taproot != 0 => _ |= 131072"),
      ("flags/apply", "_.VerifyFlags = _.GetBlockFlags(_.Height, _.BlockTime())"),
      ("gnwr/timespan", "(int64(_.Timestamp()) - int64(_.Timestamp()))"),
      ("build/base-weight-1", "((VLenSize(uint64(_.TxCount)) + 80) * 4)"),
      ("build/base-weight-2", "((VLenSize(uint64(_.TxCount)) + 80) * 4)"),
      ("client-reset/data.go#1", "_.Block.BlockWeight, _.TotalInputs = 0, 0; _.Block.Raw = _; _.Block.TxCount, _.Block.TxOffset = 0, 0; _.Block.Txs = nil"),
      ("client-reset/cblk.go#1", "_.Block.BlockWeight, _.TotalInputs = 0, 0; _.Block.Txs = nil; _.Block.UpdateContent(_.Header)"),
      ("client-reset/cblk.go#2", "_.Block.BlockWeight, _.TotalInputs = 0, 0; _.Block.Txs = nil; _.Block.UpdateContent(_.Header)")] ∧
    retargetParentSteps = targetInterval - 1 := by
  exact ⟨rfl, by decide⟩

/-- the activation heights and pow limit installed by NewChainExt (regenerated from lib/chain/chain.go on every
    run) are those of the three networks: BIP34/BIP65/BIP66/CSV/SegWit/Taproot heights of Bitcoin Core's
    chainparams for mainnet and testnet3, everything from block 1 on testnet4, pow limit 0x1d00ffff = 2^224-1
    rounded to the compact precision. -/
theorem activation_heights :
    (mainnet_BIP34Height, mainnet_BIP65Height, mainnet_BIP66Height, mainnet_Enforce_CSV, mainnet_Enforce_SEGWIT, mainnet_Enforce_Taproot)
      = (227931, 388381, 363725, 419328, 481824, 709632) ∧
    (testnet3_BIP34Height, testnet3_BIP65Height, testnet3_BIP66Height, testnet3_Enforce_CSV, testnet3_Enforce_SEGWIT, testnet3_Enforce_Taproot)
      = (21111, 581885, 330776, 770112, 834624, 2011968) ∧
    (testnet4_BIP34Height, testnet4_BIP65Height, testnet4_BIP66Height, testnet4_Enforce_CSV, testnet4_Enforce_SEGWIT, testnet4_Enforce_Taproot)
      = (1, 1, 1, 1, 1, 1) ∧
    mainnet_MaxPOWBits = 0x1d00ffff ∧ MaxPOWValue = 2^224 - 1 ∧ getCompact (MaxPOWValue : Int) = mainnet_MaxPOWBits := by
  decide

/-- what "every transaction passes" means: CheckTransactions returns no error only if every transaction has
    inputs and outputs, is not oversized, has output values and running totals within MAX_MONEY, has a
    2..100-byte script if it is a coinbase and no null prevout otherwise, and is final. -/
theorem tx_rules_sound (txs : List Tx) (height time : Nat) (h : checkTransactions txs height time = []) :
    ∀ t ∈ txs, t.ins ≠ [] ∧ t.outs ≠ [] ∧ checkOutValues t.outValues 0 = none ∧
      (t.isCoinBase = true → ∃ i rest, t.ins = i :: rest ∧ cbScriptMin ≤ i.scriptLen ∧ i.scriptLen ≤ cbScriptMax) ∧
      (t.isCoinBase = false → t.ins.any (·.null) = false) ∧
      isFinal t.lockTime (t.ins.map (·.seq)) height time = true := by
  intro t ht
  have h1 : checkOneTx t height time = none := List.filterMap_eq_nil_iff.mp h t ht
  unfold checkOneTx at h1
  split at h1
  · simp at h1
  rename_i hct
  split at h1
  · rename_i hfin
    unfold checkTransaction at hct
    split at hct; · simp at hct
    rename_i hin
    split at hct; · simp at hct
    rename_i hout
    split at hct; · simp at hct
    split at hct; · simp at hct
    rename_i hval
    refine ⟨mt List.length_eq_zero_iff.mpr hin, mt List.length_eq_zero_iff.mpr hout, Option.eq_none_iff_forall_ne_some.mpr hval, ?_, ?_, hfin⟩
    · intro hcb
      simp only [hcb, ↓reduceIte] at hct
      split at hct
      · rename_i i rest hins
        split at hct
        · simp at hct
        · rename_i hl
          exact ⟨i, rest, hins, by omega, by omega⟩
      · rename_i hins; simp [hins] at hin
    · intro hcb
      simp only [hcb, Bool.false_eq_true, ↓reduceIte] at hct
      split at hct
      · simp at hct
      · rename_i hn; simpa using hn
  · simp at h1

/-- non-vacuity of `tx_rules_sound`: a coinbase with a 3-byte script and a regular non-final-looking transaction
    (lock time 100 < height 101) pass at height 101; at height 100 the second one is reported non-final. -/
example :
    let cb : Tx := { ins := [{ null := true, seq := 0xffffffff, scriptLen := 3 }], in0Script := [], outs := [[]], outValues := [5000000000],
                     segwit := none, txid := [], wtxid := [], lockTime := 0, noWitSize := 100, size := 100 }
    let t : Tx := { ins := [{ null := false, seq := 0, scriptLen := 0 }], in0Script := [], outs := [[]], outValues := [MAX_MONEY],
                    segwit := none, txid := [], wtxid := [], lockTime := 100, noWitSize := 100, size := 100 }
    checkTransactions [cb, t] 101 0 = [] ∧ checkTransactions [cb, t] 100 0 = [.nonFinal] ∧
    checkTransactions [{ t with outValues := [MAX_MONEY, 1] }] 101 0 = [.totalTooLarge] := by
  decide

/-- `Tx.IsFinal` is the reference client's `IsFinalTx(tx, nBlockHeight, nBlockTime)` (tx_verify.cpp), written out:
    lock time 0, or lock time below the height (when < 500,000,000) resp. below the time cut-off (otherwise), or every
    input sequence equal to 0xffffffff. (The cut-off handed in by PostCheckBlock is the parent's median-time-past when
    CSV is active, else the block time: `postcheck_sound`.) -/
theorem isFinal_is_IsFinalTx (lockTime : Nat) (seqs : List Nat) (height time : Nat) :
    isFinal lockTime seqs height time =
      (decide (lockTime = 0) || decide (lockTime < (if lockTime < 500000000 then height else time)) ||
       seqs.all (· = 0xffffffff)) := by
  have hth : LOCKTIME_THRESHOLD = 500000000 := by decide
  unfold isFinal
  rw [hth]
  by_cases h0 : lockTime = 0
  · simp [h0]
  · by_cases hlt : lockTime < 500000000
    · by_cases hh : lockTime < height <;> simp [h0, hlt, hh]
    · by_cases ht : lockTime < time <;> simp [h0, hlt, ht]

/-- GetMedianTimePast is the median of the last ≤ 11 timestamps: the value returned occurs among them, at most
    ⌊n/2⌋ of them are strictly smaller and more than ⌊n/2⌋ of them are ≤ it (n = number collected). -/
theorem mtp_is_median (chain : List Node) (m : Nat) (h : getMedianTimePast chain = some m) :
    let l := lastTimes chain
    l = (chain.take MedianTimeSpan).map (·.ts) ∧ l.length ≤ 11 ∧
    m ∈ l ∧ l.countP (· < m) ≤ l.length / 2 ∧ l.length / 2 < l.countP (· ≤ m) := by
  intro l
  refine ⟨rfl, ?_, Proofs.C05.median_spec l m h⟩
  simp [l, lastTimes, MedianTimeSpan]
  omega

/-- non-vacuity of `mtp_is_median` -/
example : getMedianTimePast [⟨3, 50, 0⟩, ⟨2, 70, 0⟩, ⟨1, 60, 0⟩] = some 60 := by decide

/-- GetMedianTimePast is total on every non-nil node (no panic). -/
theorem mtp_total (n : Node) (anc : List Node) : ∃ m, getMedianTimePast (n :: anc) = some m := by
  unfold getMedianTimePast
  have hl : (isort (lastTimes (n :: anc))).length = (lastTimes (n :: anc)).length :=
    (Proofs.C05.isort_perm _).length_eq
  have hpos : 0 < (lastTimes (n :: anc)).length := by simp [lastTimes, MedianTimeSpan]
  exact ⟨_, List.getElem?_eq_getElem (by omega)⟩

/-- The `mutated` flag of CalcMerkle is raised exactly when some level of the tree (leaves included, root
    excluded) has two equal nodes at the two distinct positions 2j, 2j+1 that are hashed together — the
    CVE-2012-2459 test of Bitcoin Core — and the returned root is the iterated pairwise hash. -/
theorem merkle_mutation_iff (h : Bytes → Bytes) (l : List Bytes) (r : Bytes) (m : Bool)
    (hc : calcMerkle h l = some (r, m)) :
    (m = true ↔ ∃ lv ∈ Spec.Merkle.levels h l.length l, ∃ j, 2 * j + 1 < lv.length ∧ lv[2 * j]? = lv[2 * j + 1]?) ∧
    (Spec.Merkle.root h l.length l).head? = some r :=
  Proofs.C05.calcMerkle_spec h l r m hc

/-- non-vacuity / CVE-2012-2459 on the model: [a,b,c] and [a,b,c,c] have the same root, only the second is flagged. -/
example : (calcMerkle (fun x => x.take 1) [[1], [2], [3]]).map (·.2) = some false ∧
    (calcMerkle (fun x => x.take 1) [[1], [2], [3], [3]]).map (·.2) = some true := by decide

/-- BIP34: for every height below 2^32, `script.UintToScript(n)` is exactly `CScript() << n` of the reference
    client (OP_0, OP_1..OP_16, or a minimal little-endian push with a sign-guard byte). -/
theorem uintToScript_eq_cscript_push (n : Nat) (h : n < 2^32) :
    uintToScript n = Spec.ScriptNum.cscriptPush n := by
  by_cases c0 : n ≤ 16
  · exact Proofs.C05.u2s_small n c0
  by_cases c2 : n < 256
  · exact Proofs.C05.u2s_1 n (by omega) c2
  by_cases c4 : n < 65536
  · exact Proofs.C05.u2s_2 n (by omega) c4
  by_cases c6 : n < 16777216
  · exact Proofs.C05.u2s_3 n (by omega) c6
  · exact Proofs.C05.u2s_4 n (by omega) (by omega)

/-- non-vacuity: heights 0, 16, 17, 128, 32768 and the current mainnet range -/
example : uintToScript 0 = [0] ∧ uintToScript 16 = [0x60] ∧ uintToScript 17 = [1, 17] ∧ uintToScript 128 = [2, 128, 0] ∧
    uintToScript 32768 = [3, 0, 128, 0] ∧ uintToScript 840000 = [3, 0x40, 0xd1, 0x0c] := by decide

/-- Compact round trip: for every canonical compact value `c` (see `Target.Canonical`: sign bit clear; zero, or
    size ≥ 1 with a mantissa whose top byte is non-zero and no bits below the byte precision for sizes 1, 2),
    `GetCompact(SetCompact(c)) = c`. -/
theorem compact_roundtrip (c : Nat) (hc : Canonical c) : getCompact (setCompact c) = c := by
  obtain ⟨hlt, hsign, h0, h1, h16, h8⟩ := hc
  by_cases hs0 : c / 2^24 = 0
  · obtain rfl : c = 0 := by have := h0 hs0; omega
    decide
  have hm := h1 (by omega)
  have hmlt : c % 2^23 < 2^23 := Nat.mod_lt _ (by decide)
  have hsz : c / 2^24 < 256 := by omega
  have hsplit : c = c % 2^23 + (c / 2^24) * 2^24 := by omega
  generalize c / 2^24 = s at *
  generalize c % 2^23 = m at *
  rw [hsplit, Proofs.C05.setCompact_of m s hmlt hsz, Proofs.C05.getCompact_natCast]
  clear hsplit hlt hsign h0 h1
  -- SetCompact shifts nothing out: t · 2^24 = m · 256^s
  have hex : m * 256^s / 2^24 * 2^24 = m * 256^s := by
    apply Nat.div_mul_cancel
    rcases (show s = 1 ∨ s = 2 ∨ 3 ≤ s by omega) with rfl | rfl | e
    · have := h16 rfl; exact Nat.dvd_of_mod_eq_zero (by omega)
    · have := h8 rfl; exact Nat.dvd_of_mod_eq_zero (by omega)
    · rw [Proofs.C05.pow_split e, ← Nat.mul_assoc]; exact Nat.dvd_mul_left _ _
  generalize m * 256^s / 2^24 = t at *
  by_cases hbig : 2^16 ≤ m
  · -- three significant mantissa bytes: size and mantissa come back as they are
    obtain ⟨hl, hr⟩ := Proofs.C05.byteLen_rawMant_of hex hbig (by omega)
    exact (Proofs.C05.getCompactNat_of t s m hl hr.symm (by omega) (by split <;> omega)).trans (if_pos hmlt)
  · -- 0x8000 ≤ m < 0x10000: the number has one byte less and GetCompact renormalises
    cases s with
    | zero => omega
    | succ z =>
      rw [Nat.pow_succ 256 z, Nat.mul_comm (256^z) 256, ← Nat.mul_assoc] at hex
      obtain ⟨hl, hr⟩ := Proofs.C05.byteLen_rawMant_of hex (by omega) (by omega)
      rw [Proofs.C05.getCompactNat_of t z (m * 256) hl hr.symm (by omega) (by split <;> omega), if_neg (by omega)]
      omega

/-- non-vacuity: the mainnet and regtest limits are canonical, a negative and a non-minimal encoding are not -/
example : Canonical 0x1d00ffff ∧ Canonical 0x207fffff ∧ Canonical 0x02008000 ∧ ¬ Canonical 0x1d80ffff ∧ ¬ Canonical 0x04000001 := by decide

/-- What GetNextWorkRequired can demand: `GetCompact` of any positive target below 2^256 is a canonical 32-bit
    value (so the round trip applies to it) that the reference client reads as neither negative nor overflowing. -/
theorem getCompact_is_canonical (t : Int) (h0 : 0 < t) (hlt : t < 2^256) :
    Canonical (getCompact t) ∧ coreNegative (getCompact t) = false ∧ coreOverflow (getCompact t) = false := by
  obtain ⟨e, p, l, _⟩ := Proofs.C05.getCompact_pos t h0 hlt
  rw [e]
  exact ⟨Proofs.C05.getCompactNat_canonical _ p l, (Proofs.C05.getCompactNat_not_edge _ p l).2⟩

/-- Edge encodings of the compact target cannot get a block accepted:
    (1) an encoding the reference client reads as negative fails CheckProofOfWork for every hash;
    (2) an encoding of the value zero passes CheckProofOfWork only for the hash 0;
    (3) whenever `bits` equals the required bits `GetCompact(t)` of a target 0 < t < 2^256 (what PreCheckBlock
        demands through `bits = GetNextWorkRequired`), it is neither negative nor overflowing, its target is
        positive and at most t, and a hash passing CheckProofOfWork is at most t. -/
theorem pow_target_edge (hash bits : Nat) :
    (coreNegative bits = true → checkProofOfWork hash bits = false) ∧
    (setCompact bits = 0 → checkProofOfWork hash bits = true → hash = 0) ∧
    (∀ t : Int, 0 < t → t < 2^256 → bits = getCompact t →
      coreNegative bits = false ∧ coreOverflow bits = false ∧ 0 < setCompact bits ∧ setCompact bits ≤ t ∧
      (checkProofOfWork hash bits = true → (hash : Int) ≤ t)) := by
  refine ⟨?_, ?_, ?_⟩
  · intro hn
    have := Proofs.C05.setCompact_neg_of_coreNegative bits hn
    apply decide_eq_false
    omega
  · intro hz hp
    have := of_decide_eq_true hp
    omega
  · rintro t h0 hlt rfl
    have h1 := getCompact_is_canonical t h0 hlt
    have h2 := Proofs.C05.setCompact_getCompact_le t (Int.le_of_lt h0) hlt
    refine ⟨h1.2.1, h1.2.2, h2.2 h0, h2.1, ?_⟩
    intro hp
    have := of_decide_eq_true hp
    omega

/-- Retargeting: the timespan used is clamped to [T/4, 4T] (and unchanged inside); with a pow limit
    0 < L < 2^256 and a non-negative previous target the new bits decode to at most L; and when
    previous target × 4T < 2^256 (true for every target ≤ L on mainnet/testnet, `mainnet_no_overflow`) the
    result equals Bitcoin Core's computation with 256-bit wrap-around multiplication. -/
theorem retarget_clamp (maxPow : Int) (base : Nat) (span : Int) :
    ((retargetMinTimespan : Int) ≤ clampTimespan span ∧ clampTimespan span ≤ (retargetMaxTimespan : Int)) ∧
    ((retargetMinTimespan : Int) ≤ span → span ≤ (retargetMaxTimespan : Int) → clampTimespan span = span) ∧
    (0 < maxPow → maxPow < 2^256 → 0 ≤ setCompact base →
       setCompact (retarget maxPow base span) ≤ maxPow ∧
       (setCompact base * (retargetMaxTimespan : Int) < 2^256 →
          retarget maxPow base span =
            getCompact (let p := (setCompact base * clampTimespan span) % 2^256 / (POWRetargetSpam : Int)
                        if p > maxPow then maxPow else p))) := by
  have hc := Proofs.C05.clampTimespan_mem span
  refine ⟨hc, ?_, ?_⟩
  · intro h1 h2
    unfold clampTimespan
    simp only
    split <;> split <;> omega
  · intro hm0 hm1 hb
    have hprod : 0 ≤ setCompact base * clampTimespan span := Int.mul_nonneg hb (by omega)
    constructor
    · have hx : 0 ≤ setCompact base * clampTimespan span / (POWRetargetSpam : Int) :=
        Int.ediv_nonneg hprod (by decide)
      unfold retarget
      simp only
      generalize setCompact base * clampTimespan span / (POWRetargetSpam : Int) = x at hx ⊢
      split
      · exact (Proofs.C05.setCompact_getCompact_le maxPow (by omega) hm1).1
      · have := (Proofs.C05.setCompact_getCompact_le x hx (by omega)).1
        omega
    · intro hov
      unfold retarget
      have hle : setCompact base * clampTimespan span ≤ setCompact base * (retargetMaxTimespan : Int) :=
        Int.mul_le_mul_of_nonneg_left hc.2 hb
      rw [Int.emod_eq_of_lt hprod (by omega)]

/-- on mainnet and testnet the pow limit times the largest timespan stays below 2^256, so the 256-bit
    arithmetic of the reference client never wraps for a target ≤ pow limit -/
theorem mainnet_no_overflow : (MaxPOWValue : Int) * (retargetMaxTimespan : Int) < 2^256 ∧
    setCompact mainnet_MaxPOWBits ≤ (MaxPOWValue : Int) ∧ mainnet_MaxPOWBits = testnet3_MaxPOWBits ∧
    mainnet_MaxPOWBits = testnet4_MaxPOWBits := by decide

/-- non-vacuity of `retarget_clamp` / `pow_target_edge`: two weeks exactly keep the mainnet limit, a quarter
    of the time divides the target by four, and the result is what GetCompact gives for its own target -/
example : retarget MaxPOWValue 0x1d00ffff 1209600 = 0x1d00ffff ∧ retarget MaxPOWValue 0x1d00ffff 1 = 0x1c3fffc0 ∧
    getCompact (setCompact 0x1c3fffc0) = 0x1c3fffc0 := by decide

/-- GetNextWorkRequired at a retarget height (not testnet4): the previous block's bits, the time between the
    previous block and the one 2015 blocks before it, through `retarget`. -/
theorem gnwr_at_retarget (p : Params) (lst : Node) (m : Node) (anc : List Node) (ts : Nat) (first : Node)
    (hh : ((lst.height + 1) % 2^32) % targetInterval = 0)
    (hf : (lst :: m :: anc)[targetInterval - 1]? = some first) (hnet : p.testnet4 = false) :
    getNextWorkRequired p (lst :: m :: anc) ts =
      some (retarget p.maxPowValue lst.bits ((lst.ts : Int) - (first.ts : Int))) := by
  unfold getNextWorkRequired
  simp [hh, hf, hnet]

/-- GetNextWorkRequired away from a retarget height on mainnet: the previous block's bits. -/
theorem gnwr_off_retarget_mainnet (p : Params) (lst : Node) (m : Node) (anc : List Node) (ts : Nat)
    (hh : ((lst.height + 1) % 2^32) % targetInterval ≠ 0) (hnet : p.testnet = false) :
    getNextWorkRequired p (lst :: m :: anc) ts = some lst.bits := by
  unfold getNextWorkRequired
  simp [hh, hnet]

/-- non-vacuity of `gnwr_at_retarget` / `gnwr_off_retarget_mainnet`: a mainnet chain of 2016 nodes (heights 2015..0)
    whose last block is 302400 s (T/4) after the first: the block after it must carry a quarter of the target; one
    block earlier (height 2014 → next 2015, not a multiple of 2016) the parent's bits are demanded. -/
example :
    let p : Params := { maxPowBits := 0x1d00ffff, maxPowValue := MaxPOWValue, testnet := false, testnet4 := false }
    let lst : Node := { height := 2015, ts := 1000302400, bits := 0x1d00ffff }
    let n : Node := { height := 7, ts := 1000000000, bits := 0x1d00ffff }
    getNextWorkRequired p (lst :: n :: List.replicate 2014 n) 1000303000 = some (retarget MaxPOWValue 0x1d00ffff 302400) ∧
    retarget MaxPOWValue 0x1d00ffff 302400 = 0x1c3fffc0 ∧
    getNextWorkRequired p ({ lst with height := 2014 } :: n :: List.replicate 2014 n) 1000303000 = some 0x1d00ffff := by
  refine ⟨?_, by decide, ?_⟩
  · exact gnwr_at_retarget _ _ _ _ _ { height := 7, ts := 1000000000, bits := 0x1d00ffff } (by decide)
      (by
        have e : targetInterval - 1 = 2013 + 1 + 1 := by decide
        rw [e, List.getElem?_cons_succ, List.getElem?_cons_succ, List.getElem?_replicate]
        simp) rfl
  · exact gnwr_off_retarget_mainnet _ _ _ _ _ (by decide) rfl

/-- **The testnet "last non-min-difficulty block" walk** (`for prv.Parent != nil && prv.Height%2016 != 0 && prv.Bits() ==
    MaxPOWBits { prv = prv.Parent }`, used by the testnet3 off-boundary rule and as the testnet4 / BIP94 retarget base):
    the answer is the bits of the FIRST node, walking from the previous block towards genesis, that has no parent, sits
    on a retarget boundary or carries bits other than the minimum-difficulty value — every node passed over is a
    min-difficulty block off the boundary. This is Core's `GetLastBlockIndex` loop. -/
theorem testnet_walkback_spec (mp : Nat) (l : List Node) (hne : l ≠ []) :
    ∃ pre n suf, l = pre ++ n :: suf ∧ walkBack mp l = n.bits ∧
      (∀ m ∈ pre, m.height % targetInterval ≠ 0 ∧ m.bits = mp) ∧
      (suf = [] ∨ n.height % targetInterval = 0 ∨ n.bits ≠ mp) := by
  induction l with
  | nil => exact absurd rfl hne
  | cons n rest ih =>
    cases rest with
    | nil => exact ⟨[], n, [], rfl, rfl, by simp, Or.inl rfl⟩
    | cons m rest =>
      unfold walkBack
      split
      · rename_i hc
        obtain ⟨pre, x, suf, hl, hw, hpre, hx⟩ := ih (by simp)
        exact ⟨n :: pre, x, suf, by rw [hl]; rfl, hw, List.forall_mem_cons.mpr ⟨hc, hpre⟩, hx⟩
      · rename_i hc
        refine ⟨[], n, m :: rest, rfl, rfl, by simp, Or.inr ?_⟩
        by_cases h1 : n.height % targetInterval = 0
        · exact Or.inl h1
        · exact Or.inr (fun h2 => hc ⟨h1, h2⟩)


/-- non-vacuity of `testnet_walkback_spec`: two min-difficulty blocks, then a real-difficulty one -/
example : walkBack 0x1d00ffff [⟨5, 30, 0x1d00ffff⟩, ⟨4, 20, 0x1d00ffff⟩, ⟨3, 10, 0x1c00ffff⟩, ⟨2, 5, 0x1d00ffff⟩] = 0x1c00ffff ∧
    walkBack 0x1d00ffff [⟨2016, 30, 0x1d00ffff⟩, ⟨2015, 20, 0x1c00ffff⟩] = 0x1d00ffff := by decide

/-- GetNextWorkRequired away from a retarget height on a testnet (testnet3 and testnet4): a block more than two
    target spacings (20 minutes) after its parent may carry the minimum difficulty; otherwise the bits of the last
    non-min-difficulty block (`testnet_walkback_spec`) are demanded. Hypothesis `hts`: the uint32 sum
    `lst.Timestamp()+TargetSpacing*2` does not wrap (parent time before 2106-02-07 06:08:15). -/
theorem gnwr_off_retarget_testnet (p : Params) (lst : Node) (m : Node) (anc : List Node) (ts : Nat)
    (hh : ((lst.height + 1) % 2^32) % targetInterval ≠ 0) (hnet : p.testnet = true)
    (hts : lst.ts + 2 * TargetSpacing < 2^32) :
    getNextWorkRequired p (lst :: m :: anc) ts =
      some (if ts > lst.ts + 2 * TargetSpacing then p.maxPowBits else walkBack p.maxPowBits (lst :: m :: anc)) := by
  unfold getNextWorkRequired
  have e : testnetMinDiffGap = 2 * TargetSpacing := by decide
  simp only [hnet, e, Nat.mod_eq_of_lt hts, if_pos hh, if_true]
  split <;> rfl


/-- non-vacuity of `gnwr_off_retarget_testnet`: 1201 s after the parent the minimum is allowed, 1200 s after it not -/
example :
    let p : Params := { maxPowBits := 0x1d00ffff, maxPowValue := MaxPOWValue, testnet := true, testnet4 := false }
    let ch : List Node := [⟨5, 10000, 0x1d00ffff⟩, ⟨4, 9000, 0x1c00ffff⟩, ⟨3, 8000, 0x1c00ffff⟩]
    getNextWorkRequired p ch 11201 = some 0x1d00ffff ∧ getNextWorkRequired p ch 11200 = some 0x1c00ffff := by decide

/-- **GetBlockFlags, flag by flag**: the script-verification flags of a block at (height, time) contain P2SH iff the
    time is 0 or from the BIP16 switch time on, DERSIG / CLTV iff the height has reached the BIP66 / BIP65 height, CSV /
    WITNESS+NULLDUMMY / TAPROOT iff the deployment is configured (non-zero) and the height has reached it. (PostCheckBlock
    reads CSV for the lock-time cut-off and WITNESS for the commitment rule from exactly this value: `guard_shapes`.) -/
theorem getBlockFlags_spec (c : Consensus) (height time : Nat) :
    let f := getBlockFlags c height time
    (f &&& VER_P2SH ≠ 0 ↔ (time = 0 ∨ time ≥ BIP16SwitchTime)) ∧
    (f &&& VER_DERSIG ≠ 0 ↔ height ≥ c.bip66Height) ∧
    (f &&& VER_CLTV ≠ 0 ↔ height ≥ c.bip65Height) ∧
    (f &&& VER_CSV ≠ 0 ↔ (c.enforceCSV ≠ 0 ∧ height ≥ c.enforceCSV)) ∧
    (f &&& VER_WITNESS ≠ 0 ↔ (c.enforceSegwit ≠ 0 ∧ height ≥ c.enforceSegwit)) ∧
    (f &&& VER_NULLDUMMY ≠ 0 ↔ (c.enforceSegwit ≠ 0 ∧ height ≥ c.enforceSegwit)) ∧
    (f &&& VER_TAPROOT ≠ 0 ↔ (c.enforceTaproot ≠ 0 ∧ height ≥ c.enforceTaproot)) := by
  intro f
  simp only [f, Proofs.C05.getBlockFlags_eq_flagsB, Proofs.C05.flagsB_spec, decide_eq_true_eq, and_self]

/-- The block weight computed by BuildTxListExt is BIP141's: 3 × (size without witness data) + (total size),
    where both sizes count the 80-byte header, the transaction count and every transaction. -/
theorem weight_formula (txs : List Tx) :
    blockWeight txs =
      3 * (80 + CompactSize.vlenSize txs.length + (txs.map (·.noWitSize)).sum) +
          (80 + CompactSize.vlenSize txs.length + (txs.map (·.size)).sum) := by
  unfold blockWeight
  rw [Proofs.C05.sum_weight]
  omega

/-- **The weight held against the limit does not depend on how the block object came to be.** A `*btc.Block` keeps
    (TxCount, TxOffset): set from the whole serialisation by NewBlock / UpdateContent, but still 0 when the object was
    made from the 80-byte header (PreCheckBlock on the announced header) and the body was attached later by
    `bl.Raw = …` — the way the client handles every block it downloads — or after the hand reset that follows a corrupt
    copy. Whatever value `c` the counter has when BuildTxList is entered, the weight it leaves in `bl.BlockWeight` is
    BIP141's weight of the transactions parsed (`weight_formula`), with the transaction counter weighed at its real
    length (1 / 3 / 5 / 9 bytes); and PostCheckBlock's answer is the same for every such value. Rests on the
    regenerated source fact `buildTxListReadsCountAfterFallback` (the base weight reads the counter only after the
    `TxCount == 0` fallback has parsed it): with the base weight computed above the fallback, a header-first object is
    weighed with a 1-byte counter and a block of 253..65535 transactions weighing 4,000,001..4,000,008 passes.
    What this does NOT say: the second conjunct is the first one again (once the fact is `true`, `builtWeight` ignores
    `c`), and `i.txs` — the parse result — is an input: a STALE non-zero (TxCount, TxOffset) pair left from another Raw
    makes the real parser read other bytes, which is outside this model (object histories: C09
    `block_object_history_independent`; here the entry-path runs of the harness, which compare BlockWeight and the
    verdict after a corrupt copy and the client's reset). -/
theorem weight_entry_path_independent (h : Bytes → Bytes) (cns : Consensus) (i : PostIn) (c : Nat) :
    builtWeight c i.txs = blockWeight i.txs ∧
    postCheckBlock h cns { i with cntOnEntry := c } = postCheckBlock h cns i := by
  refine ⟨Proofs.C05.builtWeight_eq c i.txs, ?_⟩
  unfold postCheckBlock
  simp only [Proofs.C05.builtWeight_eq]
  rfl

/-- the boundary of `weight_entry_path_independent`: 252 transactions of 3,952 bytes and one of 4,013 bytes, no witness
    data, weigh 4·(80+3+252·3952+4013) = 4,000,000 — within the limit; with the last one a byte longer 4,000,004 — not;
    for an object entered with TxCount = 0 (header first) as for one entered with TxCount = 253. Weighed with a
    1-byte counter the second block would come to 3,999,996 and pass. -/
example :
    let t (n : Nat) : Tx := { ins := [], in0Script := [], outs := [], outValues := [], segwit := none, txid := [], wtxid := [],
                              lockTime := 0, noWitSize := n, size := n }
    let txs (last : Nat) : List Tx := List.replicate 252 (t 3952) ++ [t last]
    builtWeight 0 (txs 4013) = 4000000 ∧ builtWeight 253 (txs 4013) = 4000000 ∧
    builtWeight 0 (txs 4014) = 4000004 ∧ builtWeight 253 (txs 4014) = 4000004 ∧
    decide (builtWeight 0 (txs 4014) > postMaxWeight) = true ∧
    4 * (80 + CompactSize.vlenSize 0) + ((txs 4014).map (fun t => 3 * t.noWitSize + t.size)).sum = 3999996 := by
  decide +kernel

/-- The commitment output used by PostCheckBlock is the LAST output of the coinbase that is at least 38 bytes
    long and starts with 6a24aa21a9ed (BIP141: "the one with the highest output index"). -/
theorem commitment_is_last_matching (outs : List Bytes) (pk : Bytes) (h : findCommitment outs.reverse = some pk) :
    ∃ pre suf, outs = pre ++ pk :: suf ∧ witnessCommitMinLen ≤ pk.length ∧ pk.take witnessHeader.length = witnessHeader ∧
      ∀ y ∈ suf, ¬ (witnessCommitMinLen ≤ y.length ∧ y.take witnessHeader.length = witnessHeader) := by
  unfold findCommitment at h
  obtain ⟨pre, suf, hl, hp, hno⟩ := Proofs.C05.find_reverse_last _ outs pk h
  simp only [Bool.and_eq_true, decide_eq_true_eq, beq_iff_eq] at hp
  refine ⟨pre, suf, hl, hp.1, hp.2, ?_⟩
  intro y hy hc
  simpa [hc.1, hc.2] using hno y hy

/-- non-vacuity of `commitment_is_last_matching` -/
example : findCommitment ([[1], 0x6a :: 0x24 :: 0xaa :: 0x21 :: 0xa9 :: 0xed :: List.replicate 32 7, [2]] : List Bytes).reverse
    = some (0x6a :: 0x24 :: 0xaa :: 0x21 :: 0xa9 :: 0xed :: List.replicate 32 7) := by decide

/-- **CheckBlock never changes the chain.** On every path of `Chain.CheckBlock` — accepted, refused by
    PreCheckBlock, refused by PostCheckBlock — the chain state (block tree, `BlockIndex`, tip, unspent set) that
    comes out is the one that went in. -/
theorem checkBlock_chain_unchanged {U : Type} (p : Params) (c : Consensus) (h : Bytes → Bytes) (now : Int)
    (cs cs' : ChainSt U) (bl bl' : BlockObj) (r : CheckRes)
    (hr : checkBlockM p c h now cs bl = some (cs', bl', r)) : cs' = cs := by
  unfold checkBlockM at hr
  split at hr
  · simp at hr
  · dsimp only at hr
    split at hr
    · cases hr; rfl
    · split at hr
      · simp at hr
      · cases hr; rfl

/-- **refused_unchanged** — "Otherwise it is refused and nothing changes" (TRUE BY CONSTRUCTION of the model:
    `checkBlockM` hands back the very `cs` it received on every path — the theorem states the model's effect
    structure; that the Go code writes nothing is what the harness's before/after snapshot of the real chain object
    tests). When `Chain.CheckBlock` refuses a block
    (any result other than `ok`), the chain state — block tree, `BlockIndex`, tip, unspent set — is returned
    unchanged, and the block object differs from the one handed in at most in the eight fields the function
    assigns on its way: `Height`, `MedianPastTime` (PreCheckBlock), `VerifyFlags` (ApplyBlockFlags), and what
    BuildTxListExt writes — `Txs`, `TxCount` / `TxOffset` when the counter was still 0 and the fallback parsed the count
    field, `BlockWeight`, and `TotalInputs`, to which it ADDS (the field is never reset, so a second parse of the
    same object doubles it: `afterPost`). Everything derived from `Raw`, the hash and the trusted mark are as before.
    The record `BlockObj` lists every field of `btc.Block` that CheckBlock reads or writes; the harness compares all
    eight with the real object after every whole-block case. -/
theorem refused_unchanged {U : Type} (p : Params) (c : Consensus) (h : Bytes → Bytes) (now : Int)
    (cs cs' : ChainSt U) (bl bl' : BlockObj) (r : CheckRes)
    (hr : checkBlockM p c h now cs bl = some (cs', bl', r)) (_hne : r.code ≠ "ok") :
    cs' = cs ∧
    { bl' with height := bl.height, mtp := bl.mtp, txs := bl.txs, verifyFlags := bl.verifyFlags, txCount := bl.txCount,
               txOffset := bl.txOffset, weight := bl.weight, totalInputs := bl.totalInputs } = bl := by
  unfold checkBlockM at hr
  split at hr
  · simp at hr
  · dsimp only at hr
    split at hr
    · cases hr
      simp [afterPre]
    · split at hr
      · simp at hr
      · cases hr
        simp [afterPost, afterPre]

/-- non-vacuity of `refused_unchanged`: a block whose previous-block field shares only the 8-byte index key
    (`bidx`) with the one known block is refused (`bad-prevblk`, maybelater) on a one-node chain — the look-up made by
    the model itself finds the entry, the whole-hash comparison discards it. -/
example : (checkBlockM (U := Unit)
    { maxPowBits := 0x207fffff, maxPowValue := setCompact 0x207fffff, testnet := false, testnet4 := false }
    { bip34Height := 1, bip65Height := 1, bip66Height := 1, enforceCSV := 0, enforceSegwit := 0, enforceTaproot := 0 }
    (fun x => x) 5000
    { nodes := #[({ height := 0, ts := 900, bits := 0x207fffff }, -1)], hashes := #[2^64 * 77 + 7], index := [(7, 0)], last := 0, unspent := () }
    { rawLen := 285, ver := 4, hash := 12345, parentHash := 2^64 * 78 + 7, bits := 0x207fffff, time := 1000, merkleRoot := [],
      trusted := false, build := some [], buildOk := true, height := 0, mtp := 0, txs := none, verifyFlags := 0 }).map (·.2.2)
      = some { dos := false, maybelater := true, code := "bad-prevblk" } := by
  decide +kernel

/-- **Accepted ⇒ both halves passed, on inputs read from the chain state, under the parent the header names.** If
    `Chain.CheckBlock` answers `ok`, then PreCheckBlock passed on the inputs it looked up itself in the chain state
    (`preInOf`: known hash, parent and ancestors, tip) and PostCheckBlock passed on the block as PreCheckBlock left it
    — so `precheck_sound` and `postcheck_sound` apply to exactly these inputs — the result carries neither `dos` nor
    `maybelater`, the block object holds height = parent height + 1, the parent's median-time-past and the flags of
    GetBlockFlags; `BlockIndex` has no entry under the block's own 8-byte key, and the entry `n` under the 8-byte key of
    the header's previous-block field is a node of the tree (`n < cs.nodes.size`) whose RECORDED hash
    (`cs.hashes[n]? = some …`, not the default 0 of a missing entry) equals that field as a whole.
    Hypothesis `hwf`: the chain state records a hash for every node (`hashes` and `nodes` are parallel arrays; the
    oracle's `node` request pushes to both). Without it `hashOf` would answer 0 for a node lacking a hash and a
    previous-block field of 32 zero bytes would "match" it. -/
theorem checkBlock_accept {U : Type} (p : Params) (c : Consensus) (h : Bytes → Bytes) (now : Int)
    (cs cs' : ChainSt U) (bl bl' : BlockObj) (r : CheckRes) (hwf : cs.hashes.size = cs.nodes.size)
    (hr : checkBlockM p c h now cs bl = some (cs', bl', r)) (hok : r.code = "ok") :
    ∃ o f, preCheckBlock p c (preInOf cs bl now) = some o ∧ o.err = .ok ∧
      postCheckBlock h c (postInOf (afterPre bl o)) = some (.ok, f) ∧
      r.dos = false ∧ r.maybelater = false ∧
      bl'.height = o.height ∧ bl'.mtp = o.mtp ∧ bl'.verifyFlags = f ∧
      lookupKey cs.index (bidx bl.hash) = none ∧
      ∃ n, lookupKey cs.index (bidx bl.parentHash) = some n ∧ n < cs.nodes.size ∧ cs.hashes[n]? = some bl.parentHash := by
  unfold checkBlockM at hr
  split at hr
  · simp at hr
  · rename_i o ho
    dsimp only at hr
    split at hr
    · rename_i hne
      cases hr
      exact absurd (Proofs.C05.preErr_code_ok hok) hne
    · rename_i hne
      have hoe : o.err = .ok := Decidable.not_not.mp hne
      split at hr
      · simp at hr
      · rename_i e f hpost
        cases hr
        cases Proofs.C05.postErr_code_ok hok
        obtain ⟨_, _, _, _, hkn, prev, anc, _, hpar, _, _, _, _, _, _, _, _, hml⟩ := precheck_sound p c _ o ho hoe
        refine ⟨o, f, ho, hoe, hpost, by simp, hml, ?_, ?_, ?_, ?_, ?_⟩
        · simp [afterPost, afterPre, hoe, PreErr.setsHeight]
        · simp [afterPost, afterPre, hoe, PreErr.setsMtp]
        · simp [afterPost, PostErr.setsFlags]
        · simpa [preInOf] using hkn
        · simp only [preInOf] at hpar
          obtain ⟨n, hl, hpar⟩ := Option.map_eq_some_iff.mp hpar
          obtain ⟨hh, hch⟩ := Prod.mk.inj hpar
          have hn : n < cs.nodes.size := Proofs.C05.chain_ne_nil_lt cs n (by rw [hch]; simp)
          refine ⟨n, hl, hn, ?_⟩
          rw [← hh, ChainSt.hashOf, Array.getElem?_eq_getElem (by omega)]
          rfl

/-- non-vacuity of `checkBlock_accept`: a one-transaction block (a coinbase whose script starts with the push of
    height 1, Merkle root = its txid under the toy hash `take 1`, no segwit) on a one-node chain, whose previous-block
    field is the WHOLE hash of that node, is accepted by the model; height 1, MTP 900 and the flags of
    GetBlockFlags are left in the block object, BlockWeight = 4·81 + 400 is assigned and TotalInputs grows by the one
    input parsed (5 → 6: the field accumulates). -/
example : (checkBlockM (U := Unit)
    { maxPowBits := 0x207fffff, maxPowValue := setCompact 0x207fffff, testnet := false, testnet4 := false }
    { bip34Height := 1, bip65Height := 1, bip66Height := 1, enforceCSV := 0, enforceSegwit := 0, enforceTaproot := 0 }
    (fun x => x.take 1) 5000
    { nodes := #[({ height := 0, ts := 900, bits := 0x207fffff }, -1)], hashes := #[2^64 * 77 + 7], index := [(7, 0)], last := 0, unspent := () }
    { rawLen := 285, ver := 4, hash := 12345, parentHash := 2^64 * 77 + 7, bits := 0x207fffff, time := 1000, merkleRoot := [9],
      trusted := false,
      build := some [{ ins := [{ null := true, seq := 0xffffffff, scriptLen := 3 }], in0Script := [0x51, 1, 2], outs := [[0x51]],
                       outValues := [5000000000], segwit := none, txid := [9], wtxid := [9], lockTime := 0, noWitSize := 100, size := 100 }],
      buildOk := true, height := 0, mtp := 0, txs := none, verifyFlags := 0, totalInputs := 5 }).map
        (fun x => (x.2.2, x.2.1.height, x.2.1.mtp, x.2.1.weight, x.2.1.totalInputs, x.2.1.txOffset))
      = some ({ dos := false, maybelater := false, code := "ok" }, 1, 900, 4 * (80 + 1) + 400, 5 + 1, 0) := by
  decide +kernel

/-- **Version gating, pointwise, on the three networks** (activation heights regenerated from NewChainExt, minimum
    versions from PreCheckBlock): a header version — read as a SIGNED 32-bit number — is permitted at a height iff
    it is at least 2 from the BIP34 height, 3 from the BIP66 height and 4 from the BIP65 height.
    Mainnet 227931 / 363725 / 388381, testnet3 21111 / 330776 / 581885, testnet4 from block 1. -/
theorem version_gating_pointwise (ver height : Nat) :
    (versionRejected mainnetConsensus ver height = false ↔
      signedVersion ver ≥ (if height ≥ 388381 then 4 else if height ≥ 363725 then 3 else if height ≥ 227931 then 2 else -2^31)) ∧
    (versionRejected testnet3Consensus ver height = false ↔
      signedVersion ver ≥ (if height ≥ 581885 then 4 else if height ≥ 330776 then 3 else if height ≥ 21111 then 2 else -2^31)) ∧
    (versionRejected testnet4Consensus ver height = false ↔
      signedVersion ver ≥ (if height ≥ 1 then 4 else -2^31)) := by
  refine ⟨Proofs.C05.versionRejected_false_iff _ _ _, Proofs.C05.versionRejected_false_iff _ _ _, ?_⟩
  -- testnet4: the three rules start together
  rw [Proofs.C05.versionRejected_false_iff]
  show _ ≥ (if height ≥ 1 then _ else if height ≥ 1 then _ else if height ≥ 1 then _ else _) ↔ _
  split <;> rfl

/-- the boundary cases of the property's quantifier ("versions 1..4 at activation heights"), mainnet: each version
    is still permitted one block before the height that retires it and refused at that height; version 4 and above
    always pass; a version with the top bit set is negative and refused from the BIP34 height on. -/
theorem version_gating_mainnet_edges :
    versionRejected mainnetConsensus 1 227930 = false ∧ versionRejected mainnetConsensus 1 227931 = true ∧
    versionRejected mainnetConsensus 2 363724 = false ∧ versionRejected mainnetConsensus 2 363725 = true ∧
    versionRejected mainnetConsensus 3 388380 = false ∧ versionRejected mainnetConsensus 3 388381 = true ∧
    versionRejected mainnetConsensus 4 388381 = false ∧ versionRejected mainnetConsensus 0x20000000 900000 = false ∧
    versionRejected mainnetConsensus 0x80000004 227930 = false ∧ versionRejected mainnetConsensus 0x80000004 227931 = true := by
  decide

end GocoinV.Props.C05
