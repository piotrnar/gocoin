/-
  Props.C08 — property theorems for C08 (secp256k1 field and group arithmetic equals the
  mathematical definition). The field theorems are about the GENERATED definitions of
  `GocoinV.Gen.Field5x52` (regenerated from lib/secp256k1/field_5x52.go on every run), the group, scalar
  and API theorems about the hand-written `Model.Group*` built from them — the same definitions the
  oracle executes and the harness compares limb-for-limb with the Go functions.
  `Fe.val a` is the integer the five limbs stand for, `Fe.mag a m` libsecp256k1's magnitude
  contract (limb i ≤ 2·m·(2^52−1), top limb ≤ 2·m·(2^48−1)), `P` the constant `TheCurve.p`.
-/
import GocoinV.Proofs.C08_Field
import GocoinV.Proofs.C08_Bytes
import GocoinV.Proofs.C08_Primes
import GocoinV.Proofs.C08_TabAll
import GocoinV.Proofs.C08_Sqr
import GocoinV.Proofs.C08_MultGen
import GocoinV.Proofs.C08_MultGenFull
import GocoinV.Proofs.C08_Ecmult
import GocoinV.Proofs.C08_EcmultFull
import GocoinV.Proofs.C08_Lift
import GocoinV.Proofs.C08_Examples
import GocoinV.Proofs.C08_Api
import GocoinV.Proofs.C08_Hist

namespace GocoinV.Props.C08
open GocoinV.C08 GocoinV.Gen.Field5x52 GocoinV.Gen GocoinV.Proofs.C03

/-- `Field.SetAdd`: for ALL limb vectors within magnitudes m1, m2 (m1+m2 ≤ 32) no limb wraps around,
    the value of the result is exactly the sum of the values, and its magnitude is m1+m2. -/
theorem setAdd_spec (r a : Fe) (m1 m2 : Nat) (hr : r.mag m1) (ha : a.mag m2) (hm : m1 + m2 ≤ 32) :
    (setAdd r a).val = r.val + a.val ∧ (setAdd r a).mag (m1 + m2) :=
  setAdd_val r a m1 m2 hr ha hm

example : (setAdd ⟨1, 2, 3, 4, 5⟩ ⟨2^53, 0, 0, 0, 1⟩).val = (⟨1, 2, 3, 4, 5⟩ : Fe).val + (⟨2^53, 0, 0, 0, 1⟩ : Fe).val := by decide

/-- `Field.MulInt`: for ALL limb vectors of magnitude m and factors k with m·k ≤ 32 the value is
    multiplied by k exactly (no wrap-around) and the magnitude becomes m·k. -/
theorem mulInt_spec (r : Fe) (m k : Nat) (hr : r.mag m) (hm : m * k ≤ 32) :
    (mulInt r k).val = r.val * k ∧ (mulInt r k).mag (m * k) :=
  mulInt_val r m k hr hm

example : (mulInt ⟨2^52 - 1, 7, 0, 0, 2^48 - 1⟩ 8).val = (⟨2^52 - 1, 7, 0, 0, 2^48 - 1⟩ : Fe).val * 8 := by decide

/-- `Field.Negate(m)`: for ALL limb vectors of magnitude ≤ m (m ≤ 31) the subtraction
    2(m+1)·p_limb − a_limb never underflows, result + a = 2(m+1)·p exactly (so the result is −a mod p),
    and the result has magnitude m+1. -/
theorem negate_spec (a : Fe) (m : Nat) (ha : a.mag m) (hm : m ≤ 31) :
    (negate a m).val + a.val = 2 * (m + 1) * P ∧ (negate a m).mag (m + 1) :=
  negate_val a m ha hm

example : (negate ⟨5, 0, 0, 0, 0⟩ 1).val + 5 = 4 * P := by decide

/-- `Field.Normalize`: for ALL limb vectors of magnitude ≤ 32 (every limb ≤ 64·(2^52−1)) the result has
    canonical limbs (52/52/52/52/48 bits) and its value is exactly `value mod p` — in particular < p, also on
    the edge where the low 256 bits lie in [p, 2^256) (the `t0 ≥ 0xFFFFEFFFFFC2F` branch). -/
theorem normalize_spec (r : Fe) (h : r.mag 32) :
    (normalize r).val = r.val % P ∧ (normalize r).canon :=
  normalize_val r h

example : (normalize ⟨0xFFFFEFFFFFC2F, 0xFFFFFFFFFFFFF, 0xFFFFFFFFFFFFF, 0xFFFFFFFFFFFFF, 0xFFFFFFFFFFFF⟩).val = 0 := by decide

/-- `Field.Mul` (generated from field_5x52.go, bits.Mul64/Add64 pairs as written): for ALL limb vectors of
    magnitude ≤ 8 (libsecp256k1's contract for mul) none of the 128-bit accumulators `(hi, lo)` overflows,
    the value of the result is congruent to the product of the values modulo p, and the result has
    magnitude 1 (limbs 0–3 below 2^52, top limb at most 2·(2^48−1)). -/
theorem mul_spec (a b : Fe) (ha : a.mag 8) (hb : b.mag 8) :
    (mul a b).val % P = a.val * b.val % P ∧ (mul a b).mag 1 :=
  mul_val a b ha hb

example : (mul ⟨2^56 - 16, 2^56 - 16, 2^56 - 16, 2^56 - 16, 2^52 - 16⟩ ⟨2^56 - 16, 2^56 - 16, 2^56 - 16, 2^56 - 16, 2^52 - 16⟩).val % P
    = (⟨2^56 - 16, 2^56 - 16, 2^56 - 16, 2^56 - 16, 2^52 - 16⟩ : Fe).val * (⟨2^56 - 16, 2^56 - 16, 2^56 - 16, 2^56 - 16, 2^52 - 16⟩ : Fe).val % P := by
  decide

/-- `Field.Sqr` (generated): for ALL limb vectors of magnitude ≤ 8 no accumulator overflows, the value of
    the result is congruent to the square of the value modulo p, and the result has magnitude 1. -/
theorem sqr_spec (a : Fe) (ha : a.mag 8) :
    (sqr a).val % P = a.val * a.val % P ∧ (sqr a).mag 1 :=
  sqr_val a ha

example : (sqr ⟨2^56 - 16, 7, 2^56 - 16, 0, 2^52 - 16⟩).val % P
    = (⟨2^56 - 16, 7, 2^56 - 16, 0, 2^52 - 16⟩ : Fe).val * (⟨2^56 - 16, 7, 2^56 - 16, 0, 2^52 - 16⟩ : Fe).val % P := by
  decide

/-- `Field.SetB32`: for ALL 32-byte inputs the limbs are canonical and their value is the big-endian
    integer of the bytes (`a i` is byte i of the slice). -/
theorem setB32_spec (a : Nat → Nat) (h : ∀ i, a i < 256) :
    (setB32 a).val = a 31 + a 30 * 2^8 + a 29 * 2^16 + a 28 * 2^24 + a 27 * 2^32 + a 26 * 2^40 + a 25 * 2^48
      + a 24 * 2^56 + a 23 * 2^64 + a 22 * 2^72 + a 21 * 2^80 + a 20 * 2^88 + a 19 * 2^96 + a 18 * 2^104
      + a 17 * 2^112 + a 16 * 2^120 + a 15 * 2^128 + a 14 * 2^136 + a 13 * 2^144 + a 12 * 2^152 + a 11 * 2^160
      + a 10 * 2^168 + a 9 * 2^176 + a 8 * 2^184 + a 7 * 2^192 + a 6 * 2^200 + a 5 * 2^208 + a 4 * 2^216
      + a 3 * 2^224 + a 2 * 2^232 + a 1 * 2^240 + a 0 * 2^248 ∧ (setB32 a).canon :=
  (setB32_val a h).imp_left fun hv => hv.trans (by
    simp only [List.range, List.range.loop, List.map_cons, List.map_nil, GocoinV.C08.beVal_cons, GocoinV.C08.beVal_nil,
      List.length_cons, List.length_nil, Nat.reduceAdd, Nat.reduceMul, Nat.pow_zero, Nat.mul_one, Nat.zero_add])

example : (setB32 (fun i => if i = 31 then 7 else 0)).val = 7 := by decide

/-- Round trip bytes → limbs → bytes: `GetB32(SetB32(b)) = b` for ALL 32-byte strings. -/
theorem getB32_setB32 (a : Nat → Nat) (h : ∀ i, a i < 256) :
    getB32 (setB32 a) = [a 0, a 1, a 2, a 3, a 4, a 5, a 6, a 7, a 8, a 9, a 10, a 11, a 12, a 13, a 14, a 15, a 16, a 17, a 18, a 19, a 20, a 21, a 22, a 23, a 24, a 25, a 26, a 27, a 28, a 29, a 30, a 31] :=
  getB32_setB32' a h

/-- Round trip limbs → bytes → limbs: `SetB32(GetB32(a)) = a` for ALL canonical limb vectors
    (`bytesFn l` is the index function of the byte list). -/
theorem setB32_getB32 (a : Fe) (h : a.canon) : setB32 (bytesFn (getB32 a)) = a := by
  obtain ⟨hv, hc⟩ := setB32L_val (getB32 a) rfl (getB32_lt a)
  exact canon_val_inj _ a hc h (hv.trans (beVal_getB32 a h))

example : setB32 (bytesFn (getB32 ⟨5, 6, 7, 8, 9⟩)) = ⟨5, 6, 7, 8, 9⟩ := by decide

/-- `Field.Equals` is equality of the limb vectors; on normalised elements (canonical limbs) that is
    equality of values (`canon_val_inj`). -/
theorem equals_iff (a b : Fe) : equals a b = true ↔ a = b := equals_iff' a b

/-- two elements with canonical limbs and the same value are the same limb vector -/
theorem canonical_unique (a b : Fe) (ha : a.canon) (hb : b.canon) (h : a.val = b.val) : a = b :=
  canon_val_inj a b ha hb h

/-- `Field.IsZero` holds exactly for the all-zero limb vector, i.e. value 0 (callers normalise first). -/
theorem isZero_iff (a : Fe) : isZero a = true ↔ a.val = 0 := isZero_iff' a

/-- `Field.IsOdd` is the parity of the value of the limb vector (callers normalise first). -/
theorem isOdd_iff (a : Fe) : isOdd a = true ↔ a.val % 2 = 1 := isOdd_iff' a

/-- The field characteristic written in `secp256k1.go` (`TheCurve.p`, regenerated) is prime
    (Pratt certificate through Mathlib's `lucas_primality`; powers evaluated in the kernel). -/
theorem p_prime : Nat.Prime P := by
  rw [P_eq]; exact secp_p_prime

/-- The group order written in `secp256k1.go` (`TheCurve.Order`, regenerated) is prime. -/
theorem n_prime : Nat.Prime CurveConsts.order := by
  have h : CurveConsts.order = 0xFFFFFFFFFFFFFFFFFFFFFFFFFFFFFFFEBAAEDCE6AF48A03BBFD25E8CD0364141 := by decide
  rw [h]; exact secp_n_prime

/-- EVERY entry of the regenerated table `pre_g` (all 4096): entry i is `G + i·(2G)`, i.e. the odd multiple
    (2i+1)·G, computed with the reference affine group law `GocoinV.Secp` by repeated addition. -/
theorem preG_spec (i : Nat) (hi : i < 4096) :
    ptOfLimbs (Tables.preGAt i) = addSteps (Secp.dbl Secp.G) Secp.G i := table_point preG_ok i (by omega)

/-- EVERY entry of `pre_g_128` (all 4096): entry i is `2^128·G + i·(2·2^128·G)` = (2i+1)·2^128·G, where
    2^128·G is 128 reference doublings of G. -/
theorem preG128_spec (i : Nat) (hi : i < 4096) :
    ptOfLimbs (Tables.preG128At i) = addSteps (Secp.dbl g128) g128 i := table_point preG128_ok i (by omega)

/-- The comb table `prec` (64 rows × 16, all 1024 entries): row 0 starts at G; inside a row every entry is
    the previous one plus the row's first entry B_j (so the row is B_j, 2B_j, …, 16B_j); row j+1 starts at the
    last entry of row j (B_{j+1} = 16·B_j); nothing is left over. Hence prec[j][i] = (i+1)·16^j·G. -/
theorem prec_spec : precRowsOK 64 Secp.G (pts Tables.precAll) = true := prec_rows

/-- `fin` is minus the sum of the 64 row bases, −Σ_j 16^j·G (the correction `ECmultGen` adds last). -/
theorem fin_spec : ptOfLimbs Tables.fin = Secp.neg (headsSum 64 (pts Tables.precAll) none) := by
  have hs := headsSum_nsmul 64 0 0 (by omega)
  rw [Nat.mul_zero, List.drop_zero, zero_nsmul, Nat.zero_add] at hs
  rw [show (none : Secp.Point) = (0 : CurvePt).1 from rfl, hs, ← mul_G]
  exact fin_pt

/-! ### the field F_p = ZMod P, `Fe.z a` = residue of the value, `FeS a m v` = "magnitude ≤ m and residue v" -/

/-- `Field.Inv` (addition chain of field.go over the generated Mul/Sqr): for ALL inputs of magnitude ≤ 8 the
    result is the inverse in F_p (0 ↦ 0; it is a^(p−2), exponent bookkeeping checked link by link), magnitude 1. -/
theorem inv_spec (a : Fe) (m : Nat) (ha : a.mag m) (hm : m ≤ 8) : FeS (inv a) 1 (a.z)⁻¹ := inv_S a m ha hm

/-- `Field.Sqrt`: for ALL inputs of magnitude ≤ 8 the result is a^((p+1)/4) in F_p, magnitude 1; … -/
theorem sqrt_spec (a : Fe) (m : Nat) (ha : a.mag m) (hm : m ≤ 8) : FeS (sqrt a) 1 (a.z ^ ((P + 1) / 4)) :=
  sqrt_pow a m ha hm

/-- … and whenever the input is a square r² in F_p, `Sqrt(a)`² = a. -/
theorem sqrt_is_root (a : Fe) (m : Nat) (ha : a.mag m) (hm : m ≤ 8) (r : F) (hr : r * r = a.z) :
    (sqrt a).z * (sqrt a).z = a.z := by
  rw [(sqrt_pow a m ha hm).2]; exact sqrt_sq a.z r hr

example : ∃ r : F, r * r = (setInt 4).z := ⟨2, by rw [(FeS.ofInt 4 (by decide)).2]; norm_num⟩

/-- `XYZ.Double` (Model.Group over the generated limb functions) against the reference affine law `Secp.dbl`
    under (X,Y,Z) ↦ (X/Z², Y/Z³): for EVERY input within the group-layer INPUT contract `XYZ.ok` = everything the Go
    functions admit (X, Y, Z each of magnitude ≤ 8, the contract of the Mul/Sqr every coordinate is handed to —
    non-normalised operands such as value + 15·p included —, Z ≠ 0 for finite points) the result is within the contract
    and stands for the double; ∞ ↦ ∞ and points with y = 0 ↦ ∞. -/
theorem double_correct (a : XYZ) (h : a.ok) :
    (XYZ.double a).ok ∧ (XYZ.double a).toPoint = Secp.dbl a.toPoint := double_ok a h

/-- `XYZ.Double` over its FULL input contract (Y is only normalised: any magnitude ≤ 32), with the OUTPUT contract:
    the result is the input with Infinity set, or a finite point with X ≤ 6, Y ≤ 4, Z ≤ 2 (`XYZ.okOut`). -/
theorem double_correct_full (a : XYZ) (hx : a.x.mag 8) (hy : a.y.mag 32) (hz : a.z.mag 8) (hz0 : a.inf = false → a.z.z ≠ 0) :
    (XYZ.double a = { a with inf := true } ∨ (XYZ.double a).okOut) ∧ (XYZ.double a).toPoint = Secp.dbl a.toPoint :=
  double_full a hx hy hz hz0

example : (⟨setInt 1, setInt 2, setInt 1, false⟩ : XYZ).x.mag 8 ∧ (⟨setInt 1, setInt 2, setInt 1, false⟩ : XYZ).y.mag 32 := by decide

/-- `XYZ.Add` (Jacobian + Jacobian) is the reference addition `Secp.add`, for EVERY pair of inputs within the
    contract: ∞ + Q = Q, P + ∞ = P, equal affine x and equal y → `Double`, equal x and different y (P + (−P)) → ∞,
    otherwise the chord formula; the result is again within the contract. -/
theorem add_correct (a b : XYZ) (ha : a.ok) (hb : b.ok) :
    (XYZ.add a b).ok ∧ (XYZ.add a b).toPoint = Secp.add a.toPoint b.toPoint := add_ok a b ha hb

/-- `XYZ.AddXY` (Jacobian + affine), same statement; affine contract `XY.ok` = both coordinates magnitude ≤ 8
    (b.X and b.Y are handed to Mul). -/
theorem addXY_correct (a : XYZ) (b : XY) (ha : a.ok) (hb : b.ok) :
    (XYZ.addXY a b).ok ∧ (XYZ.addXY a b).toPoint = Secp.add a.toPoint b.toPoint := addXY_ok a b ha hb

/-! Finite, kernel-checked instances of `add_correct` / `addXY_correct` (hypotheses discharged; the reference side by the
    group law of the reference curve, `Rp.at_G`):
    `gJ` = SetXY(pre_g[0]) stands for G, `g3J` = SetXY(pre_g[1]) for 3·G (limbs of the embedded table, Z = 1),
    `XYZ.neg gJ` for −G, `infJ` = gJ with the Infinity flag. -/

/-- distinct points (chord): G + 3G is the finite point 4·G -/
example : (XYZ.add gJ g3J).ok ∧ (XYZ.add gJ g3J).toPoint = Secp.mul 4 Secp.G ∧ Secp.mul 4 Secp.G ≠ none :=
  have h := (gJ_Rp.add g3J_Rp).at_G 4 (succ_nsmul' Gc 3).symm
  ⟨h.1, h.2, ref_G_add_3G.2.1⟩
/-- doubling inside Add: G + G = 2·G (finite) -/
example : (XYZ.add gJ gJ).ok ∧ (XYZ.add gJ gJ).toPoint = Secp.mul 2 Secp.G ∧ Secp.mul 2 Secp.G ≠ none :=
  have h := (gJ_Rp.add gJ_Rp).at_G 2 (two_nsmul Gc).symm
  ⟨h.1, h.2, ref_G_add_G.2.2⟩
/-- inverse: G + (−G) = ∞ -/
example : (XYZ.add gJ (XYZ.neg gJ)).ok ∧ (XYZ.add gJ (XYZ.neg gJ)).toPoint = none :=
  (add_neg_cancel Gc ▸ gJ_Rp.add gJ_Rp.neg : Rp _ 0)
/-- ∞ + G = G and G + ∞ = G -/
example : (XYZ.add infJ gJ).toPoint = Secp.G ∧ (XYZ.add gJ infJ).toPoint = Secp.G :=
  ⟨(zero_add Gc ▸ infJ_Rp.add gJ_Rp : Rp _ Gc).2, (add_zero Gc ▸ gJ_Rp.add infJ_Rp : Rp _ Gc).2⟩
/-- ∞ + ∞ = ∞ -/
example : (XYZ.add infJ infJ).toPoint = none := (add_zero (0 : CurvePt) ▸ infJ_Rp.add infJ_Rp : Rp _ 0).2

/-- AddXY, distinct points: G + 3G (affine table entry pre_g[1]) = 4·G -/
example : (XYZ.addXY gJ (preGXY 1)).ok ∧ (XYZ.addXY gJ (preGXY 1)).toPoint = Secp.mul 4 Secp.G :=
  (gJ_Rp.addXY preGXY1_RpA).at_G 4 (succ_nsmul' Gc 3).symm
/-- AddXY, doubling case: G + G (affine pre_g[0]) = 2·G -/
example : (XYZ.addXY gJ (preGXY 0)).ok ∧ (XYZ.addXY gJ (preGXY 0)).toPoint = Secp.mul 2 Secp.G :=
  (gJ_Rp.addXY preGXY0_RpA).at_G 2 (two_nsmul Gc).symm
/-- AddXY, inverse case: G + (−G) (affine, `XY.Neg` of pre_g[0]) = ∞ -/
example : (XYZ.addXY gJ (XY.neg (preGXY 0))).toPoint = none :=
  (add_neg_cancel Gc ▸ gJ_Rp.addXY preGXY0_RpA.neg : Rp _ 0).2
/-- AddXY, ∞ + G = G and G + (affine ∞) = G -/
example : (XYZ.addXY infJ (preGXY 0)).toPoint = Secp.G ∧
    (XYZ.addXY gJ { preGXY 0 with inf := true }).toPoint = Secp.G :=
  ⟨(zero_add Gc ▸ infJ_Rp.addXY preGXY0_RpA : Rp _ Gc).2,
    (add_zero Gc ▸ gJ_Rp.addXY (B := 0) ⟨preGXY0_RpA.1, XY.toPoint_inf rfl⟩ : Rp _ Gc).2⟩
/-- Double on a finite on-curve operand: 2·G -/
example : (XYZ.double gJ).ok ∧ (XYZ.double gJ).toPoint = Secp.mul 2 Secp.G := gJ_Rp.double.at_G 2 rfl

/-- `XYZ.Neg` over the FULL input contract of the Go function: X and Z are only copied (NO hypothesis on them), Y is
    normalised before `Negate(1)`, so EVERY Y within `Normalize`'s contract is admitted — magnitude ≤ 32, which
    contains every Y that Mul/Sqr accept (≤ 8) and every Y the library produces (≤ 4): X, Z and the Infinity flag
    are unchanged, the new Y has magnitude ≤ 2, and the triple stands for the negated point. (A `Negate(Y, m)`
    without the normalisation is wrong for Y of magnitude > m: this statement is what excludes it.) -/
theorem neg_correct (a : XYZ) (hy : a.y.mag 32) :
    (XYZ.neg a).x = a.x ∧ (XYZ.neg a).z = a.z ∧ (XYZ.neg a).inf = a.inf ∧ (XYZ.neg a).y.mag 2 ∧
    (XYZ.neg a).toPoint = Secp.neg a.toPoint := neg_full a hy

example : (⟨setInt 1, ⟨64 * (2^52 - 1), 0, 0, 0, 64 * (2^48 - 1)⟩, setInt 1, false⟩ : XYZ).y.mag 32 := by decide

/-- corollary in contract form (what the `ECmult` loop uses): `XYZ.ok` is kept -/
theorem neg_keeps_contract (a : XYZ) (ha : a.ok) : (XYZ.neg a).ok ∧ (XYZ.neg a).toPoint = Secp.neg a.toPoint := neg_ok a ha

/-- `XY.Neg` (affine; `ECmult` applies it to pre_g / pre_g_128 entries) over its FULL input contract: X copied,
    any Y of magnitude ≤ 32. -/
theorem negXY_correct (b : XY) (hy : b.y.mag 32) :
    (XY.neg b).x = b.x ∧ (XY.neg b).inf = b.inf ∧ (XY.neg b).y.mag 2 ∧ (XY.neg b).toPoint = Secp.neg b.toPoint :=
  negXY_full b hy

theorem negXY_keeps_contract (b : XY) (hb : b.ok) : (XY.neg b).ok ∧ (XY.neg b).toPoint = Secp.neg b.toPoint := negXY_ok b hb

/-- `XYZ.SetXY` -/
theorem ofXY_correct (b : XY) (hb : b.ok) : (XYZ.ofXY b).ok ∧ (XYZ.ofXY b).toPoint = b.toPoint := ofXY_ok b hb

example : (XYZ.ofXY (precXY 0 0)).ok := (ofXY_ok _ (precXY_ok 0 0 (by decide))).1

/-- pointwise form of the comb table (corollary of `prec_spec`): prec[j][i] = B_j + i·B_j with B_0 = G,
    B_{j+1} = B_j + 15·B_j, all by repeated reference addition — i.e. (i+1)·16^j·G. -/
theorem prec_pointwise (j i : Nat) (hj : j < 64) (hi : i < 16) :
    ptOfLimbs (Tables.precAt (j * 16 + i)) = addSteps (precBase j) (precBase j) i := prec_pointwise' j i hj hi

/-- `ECmultGen(a)` for EVERY a, step 1: the result is within the contract and stands for the reference sum
    (…((T_0 + T_1) + T_2) + … + T_63) + fin of the table points T_j = prec[j][digit_j(a)] selected by the 64 hex
    digits of a (64 applications of `addXY_correct`, table entries within the affine contract by evaluation). -/
theorem ecmultGen_sum (a : Nat) : (ecmultGen a).ok ∧ (ecmultGen a).toPoint = ecmultGenRef a := ecmultGen_ref a

/-- `ECmultGen(a) = (a mod 2^256)·G` for EVERY natural number a (0, n, values above n and 2^256−1 included):
    the Jacobian result of the 64×16 comb over `prec` plus `fin` stands for the reference scalar multiple.
    Uses: `ecmultGen_sum`, `prec_pointwise` (T_j = (d_j+1)·16^j·G), `fin_spec` (fin = −Σ 16^j·G) and the abelian group
    structure of the reference law on curve points (Proofs/C03Curve: Mathlib's Weierstrass group law).
    A NEGATIVE `*Number` (the Go signature admits one, no caller in gocoin passes one) is outside the statement and is
    neither modelled nor run. -/
theorem ecmultGen_correct (a : Nat) : (ecmultGen a).toPoint = Secp.mul (a % 2 ^ 256) Secp.G := ecmultGen_mul a

/-- `ecmult_wnaf` as used by `ECmult` (w ≥ 2, |a| ≤ 2^128, either sign): the digit list represents a
    (Σ dᵢ·2^i = a), every digit is 0 or odd with |d| < 2^(w−1), and there are at most 129 digits — the fixed
    `[129]int` array is never overrun (`wnaf` returns `some`). -/
theorem wnaf_sound (a : Int) (w : Nat) (hw : 2 ≤ w) (ha1 : -(2 : Int) ^ 128 ≤ a) (ha2 : a ≤ 2 ^ 128) :
    ∃ ds, wnaf a w = some ds ∧ valD ds = a ∧ (∀ d ∈ ds, Dig w d) ∧ ds.length ≤ 129 := wnaf_ok a w hw ha1 ha2

example : ∃ ds, wnaf (-7) 5 = some ds ∧ valD ds = -7 ∧ (∀ d ∈ ds, Dig 5 d) ∧ ds.length ≤ 129 :=
  wnaf_sound (-7) 5 (by decide) (by norm_num) (by norm_num)

/-- the general form: |a| ≤ 2^L (L < 400) gives a correct wNAF of at most L+1 digits -/
theorem wnaf_sound_general (a : Int) (w : Nat) (hw : 2 ≤ w) (L : Nat) (hL : L < 400)
    (ha1 : -(2 : Int) ^ L ≤ a) (ha2 : a ≤ 2 ^ L) :
    valD (wnafAux w 400 a 0 []) = a ∧ (∀ d ∈ wnafAux w 400 a 0 [], Dig w d) ∧ (wnafAux w 400 a 0 []).length ≤ L + 1 :=
  wnafAux_run a w hw L hL ha1 ha2

/-- `XYZ.ECmult` cannot run into the Go index panic (the model's `none`): for EVERY point, EVERY integer na
    and every ng < 2^256 the four wNAF expansions (λ-split halves of na, 128-bit halves of ng) fit. -/
theorem ecmult_no_panic (a : XYZ) (na : Int) (ng : Nat) (hng : ng < 2 ^ 256) : (ecmult a na ng).isSome = true := by
  obtain ⟨⟨d1, h1, -⟩, ⟨d2, h2, -⟩, ⟨d3, h3, -⟩, ⟨d4, h4, -⟩⟩ :=
    ecmult_wnafs na ng hng CurveConsts.windowa CurveConsts.windowg (by decide) (by decide)
  unfold ecmult split
  simp only [h1, h2, h3, h4, Option.bind_eq_bind, Option.bind_some, Option.pure_def, Option.isSome_some]

/-- `XYZ.ECmult(a, na, ng)` (the r = na·A + ng·G of signature verification) for EVERY Jacobian input within the
    input contract `XYZ.ok` (X, Y, Z of magnitude ≤ 8: also operands that are not normalised and not produced by the
    library, for which `precomp`'s pre_a[0] = A and its negation are used as they are) that lies on the curve (`OnC`; ∞ included), EVERY integer na and every ng < 2^256: no panic, the
    result is within the contract and stands for  na1·A + na_lam·A' + ng·G  in the abelian group of curve points,
    where (na1, na_lam) = split_exp(na) and A' is the curve point `mul_lambda` makes of A (x ↦ β·x).
    Followed through: GLV split, four wNAF expansions (`wnaf_sound`), `precomp` tables of odd multiples of A and A',
    the tables pre_g / pre_g_128 (every entry), and the interleaved double-and-add loop (`Rp r R` = "r is within
    the contract and stands for R"). -/
theorem ecmult_sum_correct (a : XYZ) (ha : a.ok) (hA : OnC a.toPoint) (na : Int) (ng : Nat) (hng : ng < 2 ^ 256) :
    ∃ (r : XYZ) (A A' : CurvePt), A.1 = a.toPoint ∧ Rp (XYZ.mulLambda a) A' ∧ ecmult a na ng = some r ∧
      Rp r ((splitExp na).1 • A + (splitExp na).2 • A' + ng • Gc) := ecmult_sum a ha hA na ng hng

/-- `ECmult` = na·A + ng·G, PARTIAL: under the two consequences of #E(F_p) = n for the point A, which are stated as
    explicit hypotheses and NOT proved: n·A = 0 (Lagrange) and mul_lambda(A) = λ·A (the endomorphism
    (x,y) ↦ (β·x, y) acts on the cyclic group of order n as multiplication by λ). For A = k·G both are decidable facts
    about G; here they are assumptions. Scalars 0, n, above n and negative na are covered (na is any integer). -/
theorem ecmult_correct_partial (a : XYZ) (ha : a.ok) (hA : OnC a.toPoint) (na : Int) (ng : Nat) (hng : ng < 2 ^ 256)
    (hn : ((CurveConsts.order : Nat) : Int) • mkPt a.toPoint hA = 0)
    (hl : ∀ A' : CurvePt, Rp (XYZ.mulLambda a) A' → A' = ((CurveConsts.lambda : Nat) : Int) • mkPt a.toPoint hA) :
    ∃ r, ecmult a na ng = some r ∧ Rp r (na • mkPt a.toPoint hA + ng • Gc) :=
  ecmult_mul a ha hA na ng hng hn hl

/-- NON-TRIVIAL instance of `ecmult_correct_partial`: at A = G (held as SetXY(pre_g[0]), a finite on-curve operand) BOTH
    hypotheses are discharged — n·G = ∞ is C03's `generator_order` (`order_G`), mul_lambda(G) = λ·G is
    `Secp.mul λ G = (β·Gx mod p, Gy)` (`mul_lambda_G`: one kernel evaluation of the Jacobian double-and-add `mulJ`, which
    Proofs/C03Jac proves equal to the reference multiple) — so  ECmult(G, na, ng) = na·G + ng·G  for EVERY
    integer na (0, n, above n, negative) and every ng < 2^256, with no hypothesis left. -/
theorem ecmult_correct_at_G (na : Int) (ng : Nat) (hng : ng < 2 ^ 256) :
    ∃ r, ecmult gJ na ng = some r ∧ Rp r (na • Gc + ng • Gc) := by
  have h := ecmult_mul gJ gJ_Rp.1 gJ_onC na ng hng gJ_order gJ_lambda
  rwa [gJ_mkPt] at h

/-- the hypotheses of `ecmult_correct_partial` are satisfiable by a finite point (A = G) -/
example : ∃ (a : XYZ) (ha : a.ok) (hA : OnC a.toPoint), a.inf = false ∧ a.toPoint = Secp.G ∧
    ((CurveConsts.order : Nat) : Int) • mkPt a.toPoint hA = 0 ∧
    (∀ A' : CurvePt, Rp (XYZ.mulLambda a) A' → A' = ((CurveConsts.lambda : Nat) : Int) • mkPt a.toPoint hA) :=
  ⟨gJ, gJ_Rp.1, gJ_onC, rfl, gJ_toPoint, gJ_order, gJ_lambda⟩

/-- scalars n and 0 on the finite operand G: n·G + 0·G = ∞ -/
example : ∃ r, ecmult gJ (CurveConsts.order : Nat) 0 = some r ∧ r.toPoint = none := by
  obtain ⟨r, h1, h2⟩ := ecmult_correct_at_G (CurveConsts.order : Nat) 0 (by norm_num)
  refine ⟨r, h1, ?_⟩
  rw [h2.2, zero_nsmul, add_zero, natCast_zsmul]
  exact congrArg Subtype.val order_G

example : ∃ r, ecmult { x := setInt 0, y := setInt 0, z := setInt 0, inf := true } 5 7 = some r :=
  (ecmult_sum _ ⟨by decide, by decide, by decide, fun h => by simp at h⟩ (by rfl) 5 7 (by norm_num)).elim
    fun r h => h.elim fun _ h => h.elim fun _ h => ⟨r, h.2.2.1⟩

/-- `XYZ.precomp(w)` (the definition the oracle's `precomp` op runs against `VerifPrecompXYZ`): for EVERY operand within
    the contract standing for a curve point A, entry i (i < 2^(w−2)) is within the contract and stands for (2i+1)·A. -/
theorem precomp_correct (a : XYZ) (A : CurvePt) (ha : Rp a A) (w i : Nat) (hi : i < 2 ^ (w - 2)) :
    Rp ((XYZ.precomp a w).getD i default) ((2 * i + 1) • A) := precomp_TabJ ha w i hi

example : Rp ((XYZ.precomp gJ 5).getD 7 default) (15 • Gc) := precomp_correct gJ Gc gJ_Rp 5 7 (by decide)

/-- `Number.rsh_x` (oracle op `rshx`) for EVERY integer of either sign and every width: the returned word and the
    shifted receiver recompose the number, x = rest·2^bits + word with 0 ≤ word < 2^bits. -/
theorem rshX_sound (x : Int) (bits : Nat) :
    x = (rshX x bits).2 * 2 ^ bits + (rshX x bits).1 ∧ 0 ≤ (rshX x bits).1 ∧ (rshX x bits).1 < 2 ^ bits := by
  have hp : (0 : Int) < 2 ^ bits := by positivity
  unfold rshX
  simp only [Int.shiftRight_eq_div_pow]
  refine ⟨?_, Int.emod_nonneg _ (ne_of_gt hp), Int.emod_lt_of_pos _ hp⟩
  have := Int.emod_add_mul_ediv x (2 ^ bits)
  push_cast at this ⊢
  linarith [mul_comm (x / 2 ^ bits) ((2 : Int) ^ bits)]

/-- `Number.split` on non-negative numbers (oracle op `split`; `ECmult` splits ng at bit 128): a = lo + hi·2^bits, lo < 2^bits. -/
theorem split_sound (a bits : Nat) :
    a = (split a bits).1 + (split a bits).2 * 2 ^ bits ∧ (split a bits).1 < 2 ^ bits := by
  unfold split
  exact ⟨by rw [Nat.mul_comm]; exact (Nat.mod_add_div a (2 ^ bits)).symm, Nat.mod_lt _ (by positivity)⟩

/-- `XY.SetXO` (decompression, x-only lifting, the core of ParsePubkey 02/03 and DecompressPoint): for EVERY x of
    magnitude ≤ 8 (x goes into Sqr and Mul) the result keeps x, y is fully normalised; if x³+7 is a square in F_p the point is on the curve,
    and (for y ≠ 0, which always holds on secp256k1) y has the requested parity. -/
theorem setXO_correct (x : Fe) (odd : Bool) (hx : x.mag 8) :
    (XY.setXO x odd).x = x ∧ (XY.setXO x odd).inf = false ∧ (XY.setXO x odd).ok ∧ (XY.setXO x odd).y.normd ∧
    (∀ r : F, r * r = x.z ^ 3 + 7 →
      (XY.setXO x odd).y.z * (XY.setXO x odd).y.z = x.z ^ 3 + 7 ∧
      ((XY.setXO x odd).y.z ≠ 0 → (((XY.setXO x odd).y.val % 2 = 1) ↔ odd = true))) := setXO_ok x odd hx

/-- `XY.IsValid` decides the curve equation exactly (both coordinates of magnitude ≤ 8) -/
theorem isValid_correct (a : XY) (ha : a.ok) :
    XY.isValid a = true ↔ (a.inf = false ∧ a.y.z * a.y.z = a.x.z ^ 3 + 7) := isValid_iff a ha

/-- `Number.split_exp` (GLV decomposition) for EVERY integer a: r1 + r2·λ ≡ a (mod n) … -/
theorem split_exp_sound (a : Int) :
    ((splitExp a).1 + (splitExp a).2 * (CurveConsts.lambda : Int) - a) % (CurveConsts.order : Int) = 0 :=
  splitExp_sound a

/-- … and |r1|, |r2| < 2^128 (so each half fits the 129-slot wNAF array). -/
theorem split_exp_bound (a : Int) :
    -340282366920938463463374607431768211456 < (splitExp a).1 ∧ (splitExp a).1 < 340282366920938463463374607431768211456 ∧
    -340282366920938463463374607431768211456 < (splitExp a).2 ∧ (splitExp a).2 < 340282366920938463463374607431768211456 :=
  splitExp_bound a

/-! ### the byte-string API: BaseMultiply / BaseMultiplyAdd / Multiply (ec.go) with SetXYZ, GetPublicKey, ParsePubkey

  `Model.GroupApi` mirrors the three functions with the guard `if r.Infinity { return false }` between the
  multiplication (and AddXY) and SetXYZ + GetPublicKey (the guard that answers the findings
  api-basemultiply-identity / api-multiply-identity / api-basemultiplyadd-identity). `ApiRes.refused` = the function returns false,
  `.ok out` = true with `out` written, `.panic` = a Go panic. `apiRef Q unc` is what the reference point Q demands:
  refused for ∞, otherwise 02/03 ‖ x (33-byte buffer) or 04 ‖ x ‖ y (65-byte buffer). -/

/-- `GetB32` of canonical limbs is the 32-byte big-endian encoding of their value (both directions) -/
theorem getB32_is_big_endian (a : Fe) (h : a.canon) : getB32 a = toB32 a.val ∧ GocoinV.C08.beVal (getB32 a) = a.val :=
  ⟨getB32_eq_toB32 a h, beVal_getB32 a h⟩

example : getB32 ⟨5, 6, 7, 8, 9⟩ = toB32 (Fe.val ⟨5, 6, 7, 8, 9⟩) := (getB32_is_big_endian _ (by decide)).1

/-- `Field.InvVar` (Normalize, GetB32, big.Int.ModInverse — modelled by the reference `Secp.invMod` —, SetBytes) is
    the inverse in F_p (0 ↦ 0) for EVERY input within Normalize's contract; the result has magnitude 1. -/
theorem invVar_correct (a : Fe) (m : Nat) (ha : a.mag m) (hm : m ≤ 32) : FeS (invVar a) 1 (a.z)⁻¹ :=
  invVar_S a m ha hm

example : FeS (invVar (setInt 2)) 1 ((2 : Nat) : F)⁻¹ := by
  have h := invVar_correct (setInt 2) 1 (FeS.ofInt 2 (by decide)).1 (by decide)
  rwa [(FeS.ofInt 2 (by decide)).2] at h

/-- `XY.SetXYZ` (Jacobian → affine) for EVERY operand within the contract: the result is an admissible affine
    operand (both coordinates of magnitude 1), carries the Infinity flag over, and stands for the same point. -/
theorem setXYZ_correct (a : XYZ) (ha : a.ok) :
    (XY.ofXYZ a).ok ∧ (XY.ofXYZ a).inf = a.inf ∧ (XY.ofXYZ a).toPoint = a.toPoint :=
  ⟨(ofXYZ_ok a ha).1, (ofXYZ_S a ha).2.2, (ofXYZ_ok a ha).2⟩

example : (XY.ofXYZ gJ).toPoint = Secp.G := by rw [(setXYZ_correct gJ gJ_Rp.1).2.2, gJ_toPoint]

/-- `XY.GetPublicKey`: for coordinates of ANY magnitude ≤ 32 standing for the residues X, Y it writes 02/03 ‖ X (parity
    of the canonical Y) resp. 04 ‖ X ‖ Y — the bytes depend on the residues only, never on the representation. -/
theorem getPublicKey_correct (pk : XY) (mx my : Nat) (hx : pk.x.mag mx) (hy : pk.y.mag my) (hmx : mx ≤ 32) (hmy : my ≤ 32)
    (unc : Bool) :
    XY.getPublicKey pk unc =
      (if unc then 4 :: (toB32 pk.x.z.val ++ toB32 pk.y.z.val)
       else (if pk.y.z.val % 2 = 0 then 2 else 3) :: toB32 pk.x.z.val) :=
  getPublicKey_S pk mx my _ _ (FeS.self hx) (FeS.self hy) hmx hmy unc

example : XY.getPublicKey (preGXY 0) false = 2 :: toB32 CurveConsts.gx := by decide +kernel

/-- The common tail of the three API functions (`if r.Infinity { return false }`, SetXYZ, GetPublicKey, `return true`)
    on EVERY Jacobian point within the contract: it answers false exactly when r stands for the point at infinity and
    otherwise true with the SEC1 bytes of the affine point r stands for. No stale coordinate is ever serialised. -/
theorem api_tail_correct (r : XYZ) (hr : r.ok) (unc : Bool) : apiFinish r unc = apiRef r.toPoint unc :=
  apiFinish_spec r hr unc

example : apiFinish infJ false = .refused ∧ apiFinish gJ false = .ok (2 :: toB32 CurveConsts.gx) := by decide +kernel

/-- `BaseMultiply(k, out)` for EVERY scalar byte string (k = its big-endian value, any length; `ECmultGen` reads the
    low 256 bits): false when (k mod 2²⁵⁶)·G = ∞, otherwise true with the SEC1 bytes of (k mod 2²⁵⁶)·G. UNCONDITIONAL. -/
theorem baseMultiply_correct (k : Nat) (unc : Bool) :
    baseMultiply k unc = apiRef (Secp.mul (k % 2 ^ 256) Secp.G) unc := by
  unfold baseMultiply
  rw [apiFinish_spec _ (ecmultGen_ref k).1, ecmultGen_mul]

/-- … and the refusals are exactly the scalars ≡ 0 mod n (after the cut to 256 bits): 0, n, 2²⁵⁶, 2²⁵⁶ + n, …
    (finding api-basemultiply-identity: without the guard, `true` with the bytes 034f355b…71aa for 0 and n). -/
theorem baseMultiply_refuses_iff (k : Nat) (unc : Bool) :
    baseMultiply k unc = .refused ↔ (k % 2 ^ 256) % CurveConsts.order = 0 := by
  rw [baseMultiply_correct]; exact apiRef_mul_G_refused_iff _ unc

/-- the witnesses of finding api-basemultiply-identity, through the theorem and — for 0 and 1 — by kernel evaluation of the model -/
example : baseMultiply 0 false = .refused ∧ baseMultiply CurveConsts.order false = .refused ∧
    baseMultiply (2 ^ 256) true = .refused ∧ baseMultiply (2 ^ 256 + CurveConsts.order) false = .refused ∧
    baseMultiply 1 false ≠ .refused :=
  ⟨(baseMultiply_refuses_iff _ _).2 (by decide), (baseMultiply_refuses_iff _ _).2 (by decide),
   (baseMultiply_refuses_iff _ _).2 (by decide), (baseMultiply_refuses_iff _ _).2 (by decide),
   fun h => absurd ((baseMultiply_refuses_iff _ _).1 h) (by decide)⟩
example : baseMultiply 0 false = .refused ∧ baseMultiply 1 false = .ok (2 :: toB32 CurveConsts.gx) := by decide +kernel

/-- Whatever `XY.ParsePubkey` accepts (33 bytes 02/03 ‖ x, or 65 bytes 04/06/07 ‖ x ‖ y) is an admissible affine operand,
    finite, ON THE CURVE, with canonical x = the big-endian value of bytes 1..32, and that value is below p
    (non-canonical encodings x ≥ p are refused). -/
theorem parsePubkey_sound (xy : List Nat) (hb : ∀ b ∈ xy, b < 256) (pk : XY) (h : XY.parsePubkey xy = some pk) :
    pk.ok ∧ pk.inf = false ∧ OnC pk.toPoint ∧ pk.x.canon ∧ pk.x.val = GocoinV.C08.beVal ((xy.drop 1).take 32) ∧
      GocoinV.C08.beVal ((xy.drop 1).take 32) < P := parsePubkey_ok xy hb pk h

example : ∃ pk, XY.parsePubkey gBytes = some pk ∧ pk.toPoint = Secp.G := ⟨_, parse_G, preGXY0_RpA.2⟩
/-- x = p + 1 (a non-canonical encoding of x = 1) and a 33-byte string with tag 04 are refused -/
example : XY.parsePubkey (2 :: toB32 (P + 1)) = none ∧ XY.parsePubkey (4 :: toB32 1) = none := by decide +kernel

/-- `BaseMultiplyAdd(xy, k, out)`: false when xy does not parse; for a key that parses to pk: false when
    (k mod 2²⁵⁶)·G + pk = ∞ (finding api-basemultiplyadd-identity: without the guard, `true` with the bytes of −G for
    (G, n−1)), otherwise true with the SEC1 bytes of that sum. For EVERY byte string xy and every scalar. -/
theorem baseMultiplyAdd_correct (xy : List Nat) (hb : ∀ b ∈ xy, b < 256) (k : Nat) (unc : Bool) :
    (XY.parsePubkey xy = none → baseMultiplyAdd xy k unc = .refused) ∧
    (∀ pk, XY.parsePubkey xy = some pk →
      baseMultiplyAdd xy k unc = apiRef (Secp.add (Secp.mul (k % 2 ^ 256) Secp.G) pk.toPoint) unc) :=
  ⟨withParsed_none xy _, fun pk hp => baseMultiplyAdd_spec xy hb k unc pk hp⟩

/-- at the operand G (02 ‖ Gx): BaseMultiplyAdd(G, k) answers for (k mod 2²⁵⁶ + 1)·G, and refuses exactly when
    k mod 2²⁵⁶ + 1 ≡ 0 mod n — the witness (G, n−1) of finding api-basemultiplyadd-identity included -/
theorem baseMultiplyAdd_at_G (k : Nat) (unc : Bool) :
    baseMultiplyAdd gBytes k unc = apiRef (Secp.mul (k % 2 ^ 256 + 1) Secp.G) unc ∧
    (baseMultiplyAdd gBytes k unc = .refused ↔ (k % 2 ^ 256 + 1) % CurveConsts.order = 0) := by
  rw [baseMultiplyAdd_G]; exact ⟨rfl, apiRef_mul_G_refused_iff _ unc⟩

example : baseMultiplyAdd gBytes (CurveConsts.order - 1) false = .refused ∧ baseMultiplyAdd gBytes 0 false ≠ .refused :=
  ⟨(baseMultiplyAdd_at_G _ _).2.2 (by decide), fun h => absurd ((baseMultiplyAdd_at_G _ _).2.1 h) (by decide)⟩

/-- `Multiply(xy, k, out)`, PARTIAL in the same sense as `ecmult_correct_partial`: for a key that parses to pk, under
    the two consequences of #E(F_p) = n for that point stated as hypotheses (n·A = 0; mul_lambda(A) = λ·A), the call
    never panics, answers false when k·pk = ∞ (finding api-multiply-identity: without the guard, `true` with the operand's own
    bytes for k = 0, n) and otherwise true with the SEC1 bytes of k·pk — for every scalar k (any byte length).
    A key that does not parse is refused without any hypothesis. -/
theorem multiply_correct_partial (xy : List Nat) (hb : ∀ b ∈ xy, b < 256) (k : Nat) (unc : Bool) :
    (XY.parsePubkey xy = none → multiply xy k unc = .refused) ∧
    (∀ pk (_ : XY.parsePubkey xy = some pk) (hA : OnC (XYZ.ofXY pk).toPoint),
      ((CurveConsts.order : Nat) : Int) • mkPt (XYZ.ofXY pk).toPoint hA = 0 →
      (∀ A' : CurvePt, Rp (XYZ.mulLambda (XYZ.ofXY pk)) A' →
        A' = ((CurveConsts.lambda : Nat) : Int) • mkPt (XYZ.ofXY pk).toPoint hA) →
      multiply xy k unc = apiRef (Secp.mul k pk.toPoint) unc) :=
  ⟨withParsed_none xy _, fun pk hp hA hn hl => multiply_spec xy hb k unc pk hp hA hn hl⟩

/-- the hypotheses of `multiply_correct_partial` are satisfiable: the key 02 ‖ Gx parses to pre_g[0], for which both
    facts are theorems (`gJ_order`, `gJ_lambda`) -/
example : ∃ pk, XY.parsePubkey gBytes = some pk ∧ ∃ hA : OnC (XYZ.ofXY pk).toPoint,
    ((CurveConsts.order : Nat) : Int) • mkPt (XYZ.ofXY pk).toPoint hA = 0 ∧
    (∀ A' : CurvePt, Rp (XYZ.mulLambda (XYZ.ofXY pk)) A' →
      A' = ((CurveConsts.lambda : Nat) : Int) • mkPt (XYZ.ofXY pk).toPoint hA) :=
  ⟨preGXY 0, parse_G, gJ_onC, gJ_order, gJ_lambda⟩

/-- … and at the operand G with NO hypothesis left: Multiply(G, k) answers for k·G for every k, and refuses exactly
    the multiples of n (0, n, 2n, … of any byte length) -/
theorem multiply_at_G (k : Nat) (unc : Bool) :
    multiply gBytes k unc = apiRef (Secp.mul k Secp.G) unc ∧
    (multiply gBytes k unc = .refused ↔ k % CurveConsts.order = 0) := by
  rw [multiply_G]; exact ⟨rfl, apiRef_mul_G_refused_iff k unc⟩

example : multiply gBytes 0 false = .refused ∧ multiply gBytes CurveConsts.order false = .refused ∧
    multiply gBytes (3 * CurveConsts.order) true = .refused ∧ multiply gBytes 1 false ≠ .refused :=
  ⟨(multiply_at_G _ _).2.2 (by decide), (multiply_at_G _ _).2.2 (by decide), (multiply_at_G _ _).2.2 (by decide),
   fun h => absurd ((multiply_at_G _ _).2.1 h) (by decide)⟩

/-! ### operation SEQUENCES on objects: what a call leaves in its operands, registers used again

  The Go methods work on objects the caller keeps. All group operations only READ their operands — except `XY.SetXYZ`,
  which rescales its Jacobian argument in place. `XYZ.afterSetXYZ` (Model.GroupHist) is that in-place effect statement
  by statement; `run` executes a history of calls on a file of Jacobian / affine registers (result register and operand
  may coincide), `refRun` the same history on points of the reference group law. Tied by the harness stream `hist`
  (go/cmd/c08/history.go: the real calls on the SAME objects from first to last, every register judged after every call). -/

/-- What `XY.SetXYZ(a)` leaves in its ARGUMENT, for EVERY operand within the contract: an admissible triple (it is exactly
    `SetXY` of the affine result: coordinates of magnitude 1, Z = 1) with the same Infinity flag that stands for the SAME
    point. The caller's object can be converted again and computed with as if nothing had happened — this is the
    statement a SetXYZ that inverts a.Z but leaves a.X, a.Y unscaled violates. -/
theorem setXYZ_keeps_operand (a : XYZ) (ha : a.ok) :
    XYZ.afterSetXYZ a = XYZ.ofXY (XY.ofXYZ a) ∧ (XYZ.afterSetXYZ a).ok ∧ (XYZ.afterSetXYZ a).inf = a.inf ∧
    (XYZ.afterSetXYZ a).toPoint = a.toPoint :=
  ⟨afterSetXYZ_eq a, afterSetXYZ_ok a ha⟩

example : (XYZ.afterSetXYZ (XYZ.double gJ)).toPoint = Secp.mul 2 Secp.G := by
  have h := gJ_Rp.double.at_G 2 rfl
  exact (setXYZ_keeps_operand _ h.1).2.2.2.trans h.2

/-- … so publishing the same object twice gives the same point twice -/
theorem setXYZ_twice (a : XYZ) (ha : a.ok) :
    (XY.ofXYZ (XYZ.afterSetXYZ a)).toPoint = (XY.ofXYZ a).toPoint ∧ (XY.ofXYZ (XYZ.afterSetXYZ a)).inf = (XY.ofXYZ a).inf := by
  obtain ⟨_, h2, h3, h4⟩ := setXYZ_keeps_operand a ha
  obtain ⟨_, i1, p1⟩ := setXYZ_correct a ha
  obtain ⟨_, i2, p2⟩ := setXYZ_correct _ h2
  exact ⟨by rw [p2, h4, p1], by rw [i2, h3, i1]⟩

example : (XYZ.double gJ).ok := (double_ok gJ gJ_Rp.1).1

/-- ALL operation sequences respecting the contract: start from registers within the input contract (X, Y, Z ≤ 8 /
    X, Y ≤ 8, Z ≠ 0 for finite points), run ANY history of Double / Add / AddXY / Neg / XY.Neg / SetXYZ / SetXY /
    ECmultGen calls whose result and operand registers are chosen freely (results over operands, objects converted and
    used again, …). Then every call finds its operands within the contract again, and afterwards EVERY register — the
    results, the operands, the bystanders — stands for the point the reference group law gives for it. (mul_lambda and
    ECmult are run by the same machine and by the harness; their meaning as multiples is `ecmult_sum_correct` /
    `ecmult_correct_partial`, under the hypotheses stated there.) -/
theorem history_correct (ops : List HOp) (hl : ∀ o ∈ ops, o.law = true) (r r' : Regs) (hr : r.ok)
    (h : run ops r = some r') : r'.ok ∧ refRun ops r.points = some r'.points := by
  induction ops generalizing r with
  | nil =>
    simp only [run] at h
    injection h with h
    subst h
    exact ⟨hr, rfl⟩
  | cons o os ih =>
    simp only [run] at h
    cases hs : o.step r with
    | none => rw [hs] at h; exact absurd h (by simp)
    | some r1 =>
      rw [hs] at h
      obtain ⟨g1, g2⟩ := step_ok o (hl o (List.mem_cons_self ..)) r r1 hr hs
      obtain ⟨k1, k2⟩ := ih (fun o ho => hl o (List.mem_cons_of_mem _ ho)) r1 g1 h
      refine ⟨k1, ?_⟩
      simp only [refRun, g2, k2]

example : ∃ r', run [.dbl 0 0, .setxyz 0 0, .addxy 0 0 0, .setxyz 0 0] ⟨[gJ], [preGXY 0]⟩ = some r' ∧
    refRun [.dbl 0 0, .setxyz 0 0, .addxy 0 0 0, .setxyz 0 0] (Regs.points ⟨[gJ], [preGXY 0]⟩) = some r'.points := by
  have hr : Regs.ok ⟨[gJ], [preGXY 0]⟩ :=
    ⟨fun a ha => by rw [List.mem_singleton.1 ha]; exact gJ_Rp.1, fun b hb => by rw [List.mem_singleton.1 hb]; exact preGXY0_RpA.1⟩
  refine ⟨_, rfl, (history_correct _ (by decide) _ _ hr rfl).2⟩

/-! ### several callers at once: no writable package-level state

  All the definitions above are functions of the call's arguments. The Go functions are, as long as the package keeps
  no package-level variable that is written after initialisation. That structural fact is REGENERATED from the source
  on every run (go/cmd/gen_c08/shared.go, go/types: every function of lib/secp256k1 except init / init_contants, and
  every func literal in a package-level initialiser). What the analysis FOLLOWS from a package-level variable to a
  write: local aliases (also made later in the text than the use), `&x` handed to callees of the package (their
  parameters are analysed), receivers, index / field / slice / `*` / conversion / type assertion / type switch /
  channel receive / comma-ok forms, range variables of reference kind, results of methods of foreign types
  (big.Int.Bits), plain func literals held by a never re-assigned package-level func variable. What it does NOT follow
  is REPORTED as a write instead of being assumed harmless: a call through any other function value kept in
  package-level state, a method value bound to it, a reference returned / stored / sent / passed to an unknown callee.
  What it cannot see at all: state behind `unsafe`, `reflect`, cgo / assembly, memory reachable only through the
  ARGUMENTS (two callers who share an object are outside the statement), state inside other packages' functions
  (math/big, crypto/sha256 are taken to keep none), and a `sync.Pool` / sync-typed variable counts as synchronised.
  gen_c08 runs the analysis on 26 synthetic ways of hoisting InvVar's scratch number first (selftest.go) and refuses to
  generate if one is not reported. The harness stream `conc` looks for the failing input. -/

/-- No function of lib/secp256k1 writes a package-level variable (TheCurve, the precomputed tables, BigInt1, … are only
    read after init), as far as the analysis described above follows references; the statement is about the regenerated
    list, its link to the source is that analysis (trusted, self-tested), not a proof about Go. -/
theorem package_keeps_no_writable_state : Gen.C08Shared.globalsWritten = [] := by decide

/-- `Field.InvVar` — the one place where the field code goes through math/big, under every Jacobian → affine
    conversion — at step level (load n := v; n := n⁻¹ mod p; store), for ANY number of callers under ANY interleaving
    of their steps, with the variant the source has (`Gen.C08Shared.invScratchShared`: is a value written by InvVar
    package-level?): once all callers have returned, each holds exactly `invVar` of its OWN argument.
    With `invScratchShared = false` every caller of this toy machine owns its three cells, so the induction is easy: the
    whole content is the regenerated Bool (and `shared_scratch_not_schedule_independent` shows it matters). -/
theorem concurrent_inversions_schedule_independent (as : List Fe) (sched : List Nat) :
    InvSched.results as sched = as.map invVar := by
  have hs : Gen.C08Shared.invScratchShared = false := by decide
  unfold InvSched.results
  simp only [hs]
  exact InvSched.finished_results as sched

/-- … and the hypothesis is needed: with ONE number shared by all callers (the hoisted variant) the interleaving
    load₀ load₁ invert₀ store₀ hands caller 0 the inverse of caller 1's value. -/
theorem shared_scratch_not_schedule_independent :
    ((InvSched.run true (InvSched.start [2, 3]) [0, 1, 0, 0]).ths.map (·.out)).head? = some (Secp.invMod 3 P) ∧
    Secp.invMod 3 P ≠ Secp.invMod 2 P := by
  decide +kernel

/-
  OPEN (covered by the differential run only — go/cmd/c08 compares the hand group model limb-for-limb with the
  Go code and evaluates the statements on the real code against math/big):

  -- OPEN: ecmult_correct without hypotheses on A: `ecmult_sum_correct` is proved unconditionally; turning
  --   na1·A + na_lam·A' into na·A needs n·A = 0 and A' = λ·A (`ecmult_correct_partial` assumes them); both follow
  --   from #E(F_p) = n, which is not proved (explicit hypothesis by design). At A = G both are discharged
  --   (`ecmult_correct_at_G`: n·G = ∞ is C03's generator_order, mul_lambda(G) = λ·G one kernel evaluation of `mulJ`); for a
  --   general A = k·G the second one would need "the endomorphism is additive", which is not proved either.
  -- OPEN: multiply_correct without hypotheses on the operand (same two facts as ecmult_correct; discharged at G:
  --   `multiply_at_G`). `big.Int.ModInverse` inside Field.InvVar is MODELLED by the reference `Secp.invMod` (Fermat),
  --   tied by the oracle op `invvar`; the parity clause of ParsePubkey (02 ↦ even y, 03 ↦ odd y) is `setXO_correct`'s,
  --   not restated in `parsePubkey_sound`.
  -- OPEN (input contract wider than the theorem): `XYZ.AddXY` only normalises a.Y, so the Go code also admits a.Y of
  --   magnitude 9..32 there; `addXY_correct` is stated for a.Y ≤ 8 (then the result, which may be a copy of `a`,
  --   is again an admissible operand). Neg and Double are stated for Y ≤ 32 (`neg_correct`, `double_correct_full`);
  --   Add and ECmult hand every coordinate to Mul, so ≤ 8 is their full contract.
  -- NOT COVERED: field_10x26.go (not compiled on 64-bit platforms).
-/

end GocoinV.Props.C08
