/-
  Props.C12 — the mempool stays conflict-free, spendable and internally consistent (client/txpool).
  Every theorem is about the definitions of Model/Mempool.lean that the oracle executes and the harness
  go/cmd/c12 compares with the real package after every operation. The theorems are stated for arbitrary index functions
  `K : Keys`; the oracle executes `K = realKeys` (BIDX = bytes 0..7 of the txid, UIdx = bytes 24..31 xor the low 32 bits of
  the output index). That the key hypotheses (`Univ`, `Univ2`) are satisfiable for `realKeys` is `key_hypotheses_realKeys`
  below, and the non-vacuity instances of `section real` run every central theorem at `K = realKeys` over 256-bit txids.
-/
import GocoinV.Model.Mempool
import GocoinV.Spec.MempoolTemplate
import GocoinV.Proofs.C12
import GocoinV.Proofs.C12Inv
import GocoinV.Proofs.C12Rbf
import GocoinV.Proofs.C12Sort
import GocoinV.Proofs.C12Compose
import GocoinV.Proofs.C12SortRun
import GocoinV.Proofs.C12Chain
import GocoinV.Proofs.C12RejAdm
import GocoinV.Proofs.C12Example
import GocoinV.Proofs.C12Resync
import GocoinV.Proofs.C12Load
import GocoinV.Proofs.C12PanicFlags
import GocoinV.Proofs.C12PanicRbf
import GocoinV.Proofs.C12PanicSort
import GocoinV.Proofs.C12PanicUndo
import GocoinV.Proofs.C12Wrap
import GocoinV.Proofs.C12Real
import GocoinV.Proofs.C12Fuel
import GocoinV.Proofs.C12Maturity
import GocoinV.Proofs.C12Example2
namespace GocoinV.Props.C12
open GocoinV.Mempool

/-- The model's GetSortedMempoolSlow (what buildSortedList installs as the BestT2S…WorstT2S list whenever the
    list is dirty, and what GetSortedMempool returns then) places every in-pool parent (MemInputs flag) before
    its child — for every pool state, however it was reached. -/
-- (the composition with the pool invariant is `template_from_pool` below)
theorem sorted_parents_first (K : Keys) (s : State) : ParentsFirst K (sortedSlowP K s) := by
  unfold sortedSlowP
  exact foldl_slowStep_PF K _ _ _ (by simp [ParentsFirst, PFfrom])

/-- Completeness of the model's GetSortedMempoolSlow: the listing contains every pooled record exactly once —
    for every pool state whose key list has no duplicates and in which every flagged (MemInputs) parent of a
    pooled record is itself pooled, the spending relation being acyclic (`rank` decreases towards parents; a txid
    is a hash over the txids it spends). The fuel of the model's recursion (pool size + 1) is shown sufficient. -/
theorem sorted_complete (K : Keys) (s : State) (rank : Nat → Nat) (hn : (s.pool.map Prod.fst).Nodup)
    (hpar : ∀ b t, (b, t) ∈ s.pool → ∀ k ∈ memParents K t, (∃ t', (k, t') ∈ s.pool) ∧ rank k < rank b) :
    (sortedSlow K s).Nodup ∧ ∀ b, b ∈ sortedSlow K s ↔ b ∈ s.pool.map Prod.fst :=
  sortedSlow_complete K s rank hn hpar

/-- A block body assembled from a listing of pooled records is accepted by the input-availability rules of
    commitTxs (`BlockOK`: every input unspent-confirmed or created earlier in the block, consumed once),
    provided the listing satisfies the pool invariant's conjuncts named here:
    `hnd`  no transaction spends one outpoint twice (what the `fix:` commit enforces),
    `hconf` no two listed transactions spend the same outpoint,
    `hsp`  every input is an unspent confirmed output or an existing output of a pooled transaction,
    `hpf`  parents first: the pooled parent of an unconfirmed input stands earlier in the listing. -/
theorem template_valid (K : Keys) (s : State) (ls : List T2S)
    (hnd : ∀ t ∈ ls, t.tx.inOps.Nodup)
    (hconf : ls.Pairwise (fun a b => ∀ o ∈ a.tx.inOps, o ∉ b.tx.inOps))
    (hsp : ∀ t ∈ ls, ∀ i ∈ t.tx.ins, (s.utxo.get? i.op).isSome ∨
        ∃ p, s.pool.get? (K.bidx i.prev) = some p ∧ p.tx.id = i.prev ∧ i.vout < p.tx.outs.length)
    (hpf : ∀ pre t post, ls = pre ++ t :: post → ∀ i ∈ t.tx.ins, ∀ p,
        s.pool.get? (K.bidx i.prev) = some p → (s.utxo.get? i.op).isSome = false → p ∈ pre) :
    BlockOK (fun o => (s.utxo.get? o).isSome) (ls.map (·.tx)) := by
  apply blockOK_of ls _ hnd hconf
  intro pre t post heq o ho
  obtain ⟨i, hi, rfl⟩ := List.mem_map.mp ho
  rcases hsp t (by simp [heq]) i hi with h | ⟨p, hp, hid, hv⟩
  · exact Or.inl h
  · cases hu : (s.utxo.get? i.op).isSome with
    | true => exact Or.inl rfl
    | false => exact Or.inr ⟨p, hpf pre t post heq i hi p hp hu, hid.symm, hv⟩

/-- F9 repaired: processTx refuses (code ≠ 0) every transaction that spends one outpoint twice, whatever the
    pool, the fee floor and the trust flags (except the `Unmined` path, which only sees transactions of a
    block the chain had accepted), and the pool is left as it was. -/
theorem dup_input_refused (K : Keys) (mf : Nat) (s : State) (t : Tx) (fl : Flags)
    (hu : fl.unmined = false) (hd : hasDupInput t.ins = true) :
    (processTx K mf s t fl).1 ≠ 0 ∧ (processTx K mf s t fl).2.pool = s.pool ∧
    (processTx K mf s t fl).2.spent = s.spent := by
  refine processTx_cases (P := fun r => r.1 ≠ 0 ∧ r.2.pool = s.pool ∧ r.2.spent = s.spent) K mf s t fl
    (fun why m h0 _ => ⟨h0, (rejectTx_core K s t why m).1, (rejectTx_core K s t why m).2.1⟩)
    (fun _ h0 => ⟨h0, rfl, rfl⟩) ⟨(by decide : R_PANIC ≠ 0), rfl, rfl⟩ fun a hdup _ _ _ => ?_
  rw [hdup hu] at hd
  cases hd

/-- The structural part of the pool invariant holds after EVERY history of operations (the quantifier of the
    property: submissions from peers / trusted peers / the local wallet incl. replacements and orphans resolved by
    txAccepted, connected blocks, undone blocks, tip moves, expiry with children, size-limit eviction, re-sorting,
    BlockCommitInProgress, save + reload), started from the empty pool:
    `InvS` = TransactionsToSend is keyed by the BIDX of its records ∧ every SpentOutputs entry points to a pooled
    record having that input ∧ every input of every pooled record is in SpentOutputs under that record's key —
    i.e. SpentOutputs is exactly the inverse of the pooled inputs, hence no two pooled records share an input index.
    Hypotheses (`Univ`), all about the set `W` of transactions occurring in the history, none about the pool:
    BIDX does not collide on their txids; the UIdx of one of their inputs equals the UIdx of an output slot of one
    of them only if the input names that transaction; a txid determines the transaction; every transaction has
    an input; the spending relation is acyclic (`rank`).
    The further conjuncts (spendable inputs with MemInputs, nothing pooled confirmed, Fee/Volume, weight total) are
    `pool_inv` below; they need the chain side as hypotheses on the history. -/
theorem pool_inv_struct (K : Keys) (W : Tx → Prop) (rank : TxId → Nat) (U : Univ K W rank) (ops : List Op)
    (hW : ∀ op ∈ ops, ∀ t ∈ op.txs, W t) : InvS K (run K {} ops) :=
  (run_InvR U ops {} (InvR_init K W) hW).str

/-- ... and each single operation keeps it, from any state that satisfies the carried invariant `InvR`
    (InvS ∧ the pool list has no duplicate key ∧ every transaction stored in the pool, the rejected list and the
    undo stack belongs to `W`). -/
theorem pool_inv_step (K : Keys) (W : Tx → Prop) (rank : TxId → Nat) (U : Univ K W rank) (s : State) (op : Op)
    (h : InvR K W s) (hW : ∀ t ∈ op.txs, W t) : InvR K W (step K s op) :=
  step_InvR U s op h hW

/-- Conflict-freedom over all histories: in every reachable state two pooled records that have an input with the
    same UIdx are the same record (same key). With UIdx injective on the outpoints in play this is "no two pooled
    transactions spend the same output". -/
theorem pool_conflict_free (K : Keys) (W : Tx → Prop) (rank : TxId → Nat) (U : Univ K W rank) (ops : List Op)
    (hW : ∀ op ∈ ops, ∀ t ∈ op.txs, W t) (b1 b2 : Nat) (t1 t2 : T2S)
    (h1 : (run K {} ops).pool.get? b1 = some t1) (h2 : (run K {} ops).pool.get? b2 = some t2)
    (i1 i2 : TxIn) (m1 : i1 ∈ t1.tx.ins) (m2 : i2 ∈ t2.tx.ins)
    (heq : K.uidx i1.prev i1.vout = K.uidx i2.prev i2.vout) : b1 = b2 :=
  (pool_inv_struct K W rank U ops hW).same_key h1 h2 m1 m2 heq

/-- The repaired replacement rule (3rd `fix:` commit): processTx refuses (BAD_INPUT, pool untouched) a transaction
    one of whose in-pool parents is on its own rbf list, whatever the flags, whenever the input loop succeeds. -/
theorem replaced_parent_refused (K : Keys) (mf : Nat) (s : State) (t : Tx) (fl : Flags) (a : Acc)
    (h1 : (!fl.unmined && decide (t.weight > s.cfg.maxTxWeight)) = false)
    (h2 : (!fl.unmined && hasDupInput t.ins) = false)
    (ha : t.ins.foldlM (inputStep K s fl) ({} : Acc) = .ok a)
    (hr : spendsReplaced K t.ins a.frommem a.rbf = true) :
    (processTx K mf s t fl).1 = R_BAD_INPUT ∧ (processTx K mf s t fl).2.pool = s.pool ∧
    (processTx K mf s t fl).2.spent = s.spent := by
  unfold processTx
  simp only [h1, h2, ha, hr, if_true, Bool.false_eq_true, if_false]
  have c := rejectTx_core K s t R_BAD_INPUT none
  exact ⟨trivial, c.1, c.2.1⟩

/-- Under `InvS` two pooled records that have an input naming the same outpoint are the same record: no two pooled
    transactions spend the same outpoint. (No injectivity of UIdx is needed for this direction: equal outpoints have equal
    UIdx. UIdx injective on ALL pairs would be unsatisfiable for `realKeys`.) -/
theorem no_double_spend (K : Keys) (s : State) (h : InvS K s)
    (b1 b2 : Nat) (t1 t2 : T2S) (h1 : s.pool.get? b1 = some t1) (h2 : s.pool.get? b2 = some t2)
    (i1 i2 : TxIn) (m1 : i1 ∈ t1.tx.ins) (m2 : i2 ∈ t2.tx.ins)
    (heq : i1.prev = i2.prev ∧ i1.vout = i2.vout) : b1 = b2 :=
  h.same_key h1 h2 m1 m2 (by rw [heq.1, heq.2])

/-- Eviction (removeExcessiveTxs) in the model only ever deletes transactions that have no child in the pool
    at their turn; a victim list that would delete a parent before its child is refused. -/
theorem evict_childless (K : Keys) (s s' : State) (b : Nat) (r : List Nat)
    (h : evict K s (b :: r) = some s') : ∃ t, s.pool.get? b = some t ∧ hasNoChildren K s t = true := by
  simp only [evict, List.foldlM_cons] at h
  cases hb : s.pool.get? b with
  | none => simp [hb] at h
  | some t =>
    refine ⟨t, rfl, Decidable.by_contra fun hc => ?_⟩
    simp [hb, hc] at h

/-- GetSortedMempoolRBF (the listing the property observes): merging the sorted list `l` with the CPFP fee packages
    `pks` (pkgs.go, `mergeRBF` = the two nested loops incl. `anyIn`) yields a listing without duplicates, of exactly
    the transactions of `l`, with every pooled transaction after its flagged in-pool parents — provided `l` is such
    a listing of the whole pool and every package passes `pkgOK` (no duplicates, members pooled, closed under
    flagged parents with parents first; this is what the harness has the model check on gocoin's FeePackages
    before every comparison of the two listings). -/
theorem rbf_listing_valid (K : Keys) (s : State) (l : List Nat) (pks : List Pkg)
    (hn : l.Nodup) (hl : pfKeys K s [] l = true) (hall : ∀ b t, s.pool.get? b = some t → b ∈ l)
    (hp : ∀ pk ∈ pks, pkgOK K s pk = true) :
    (mergeRBF s l pks []).Nodup ∧ (∀ b, b ∈ mergeRBF s l pks [] ↔ b ∈ l) ∧
    pfKeys K s [] (mergeRBF s l pks []) = true := by
  have hl' := (pfKeys_iff K s l []).mp hl
  have _ := hn
  obtain ⟨h1, h2⟩ := mergeRBF_listed K s l hl' l [] pks [] (by simp)
    (fun pk hpk => pkgOK_fits K s l hall pk (hp pk hpk)) ⟨List.nodup_nil, by simp, trivial⟩ (by simp)
  exact ⟨h1.nodup, fun b => ⟨h1.sub b, h2 b⟩, (pfKeys_iff K s _ []).mpr h1.pf⟩

/-- THE POOL INVARIANT OVER ALL HISTORIES (conjuncts (a)–(c) below of the `Inv` of DESIGN §6 C12; (d) is
    `reject_index_inv`, (e) `template_from_pool`). Start from an empty pool over an
    arbitrary confirmed set `u0` (`genesis`), apply ANY history `ops` of the modelled operations (submissions from
    peers / trusted peers / the wallet incl. replacement and orphan resolution, connected blocks, undone blocks, tip
    moves, expiry with children, eviction, re-sorting, BlockCommitInProgress, save + reload). If the process is alive
    in the final state (`panicked = false`: no Go panic / os.Exit was reached — the flag is sticky, so none was
    reached on the way either), then `PoolInv` holds there:
    (a) every input of a pooled transaction is an existing output of a pooled transaction (MemInputs flag set) or an
        unspent confirmed output (flag clear); MemInputs is nil or one flag per input and MemInputCnt counts the flags;
    (b) nothing pooled is confirmed: no unspent confirmed output carries a pooled txid and no connected block
        contains a pooled transaction (with (a): nothing pooled conflicts with the chain);
    (c) Volume = Σ input values and Fee + Σ output values = Volume in the code's uint64 arithmetic (`ν` = the value
        of an outpoint), no pooled transaction spends an outpoint twice, TransactionsToSendWeight = Σ weights
        (sizes are fields of the modelled transaction, hence exact by construction);
    plus the structural part (`pool_inv_struct`).
    Hypotheses. `Univ2`, about the set `W` of transactions of the history only: `Univ` (above), BIDX does not collide on
    the txids in play (`Play`: ids of the transactions and of the outputs their inputs name), UIdx does not collide on the
    pairs (txid in play, output index in play) — `VPlay`: the `vout` of an input of the history or an index into the
    outputs of one of its transactions; NOT all naturals: the code's UIdx reads 32 bits of the index —, no transaction of
    the history has an output in `u0`, `ν` gives the output values. Satisfiable for `realKeys`: `key_hypotheses_realKeys`.
    `alive` also covers the model's own iteration budget for the txAccepted loop (`txAccFuel`; the Go loop is unbounded):
    a run in which it ran out has the flag set and is outside this theorem — `orphan_budget_irrelevant` shows that an
    alive run is the run of the unbounded loop.
    `ValidRun`, about the blocks of the history only (it reads nothing but the confirmed set and the undo
    stack of the state each `block` operation is applied to): every connected block body is `BlockValid` = `BlockOK`
    (every input unspent-confirmed or created earlier in the block, consumed once) ∧ its txids are new (not confirmed,
    BIP30/34) ∧ pairwise different. Nothing is required of `undo` operations. The chain-side facts the pool needs
    (`ConnectSound` / `UndoCommitTxs`) are DERIVED for the model's own chain simulation
    connectUtxo / disconnectUtxo from this predicate (`chain_sim_sound` below, Proofs/C12Chain*.lean). -/
theorem pool_inv (K : Keys) (W : Tx → Prop) (rank : TxId → Nat) (u0 : UT) (ν : OutPoint → Nat)
    (U : Univ2 K W rank u0 ν) (cfg : Cfg) (h0 : Nat) (ops : List Op)
    (hW : ∀ op ∈ ops, ∀ t ∈ op.txs, W t) (hv : ValidRun K u0 (genesis cfg u0 h0) ops)
    (alive : (run K (genesis cfg u0 h0) ops).panicked = false) :
    PoolInv K ν (run K (genesis cfg u0 h0) ops) := by
  have f := (carried_of_valid U cfg h0 ops hW hv).2.full
  exact PoolInv.of_good f.chain (f.good alive)

/-- The model's chain simulation is sound for valid blocks (what `pool_inv` needs of the chain side): from the chain-side history
    invariant `ChainInv` (it implies `ChainOK`), connecting a `BlockValid` body yields `ConnectSound` and `ChainInv`
    again; disconnecting the last block yields `UndoCommitTxs` and `ChainInv` again, with no hypothesis on the block. -/
theorem chain_sim_sound (K : Keys) (W : Tx → Prop) (rank : TxId → Nat) (u0 : UT) (ν : OutPoint → Nat)
    (U : Univ2 K W rank u0 ν) (s : State) (hc : ChainInv u0 ν s) :
    (∀ h txs, BlockValid u0 s txs → (∀ t ∈ txs, W t) →
      ConnectSound u0 ν s (connectUtxo s h txs) txs ∧ ChainInv u0 ν (connectUtxo s h txs)) ∧
    (∀ s' txs, disconnectUtxo s = some (s', txs) → UndoCommitTxs u0 ν s s' txs ∧ ChainInv u0 ν s') :=
  ⟨fun h txs hb hW => connect_sound_model U s h txs hc hb hW, fun s' txs hd => undo_sound_model s s' txs hc hd⟩

/-- … and every single operation keeps the carried invariant (`Full` = structural invariant ∧ consistent chain side ∧
    the pool invariant whenever the process is alive), from any state, given the operation is admissible there. -/
theorem pool_inv_full_step (K : Keys) (W : Tx → Prop) (rank : TxId → Nat) (u0 : UT) (ν : OutPoint → Nat)
    (U : Univ2 K W rank u0 ν) (s : State) (op : Op) (h : Full K W u0 ν s) (hW : ∀ t ∈ op.txs, W t)
    (ha : AdmOp u0 ν s op) : Full K W u0 ν (step K s op) :=
  step_full U s op h hW ha

/-- THE INVARIANT OF THE INCREMENTALLY MAINTAINED SORTED LIST over all histories. In every state reached
    from the empty pool by ANY history of the modelled operations with valid blocks in which the process is alive, if the
    BestT2S…WorstT2S list is not dirty (i.e. it is what GetSortedMempool returns without rebuilding) then `SortOK` holds:
    the SortRank values strictly increase from BestT2S to WorstT2S and stay inside uint64 (hence no two list elements
    share a SortRank, and findWorstParent's `>` finds the LAST flagged parent on the list); the list holds exactly the
    keys of TransactionsToSend (no duplicates follow from the ranks); no element standing after a record is one of its
    flagged (MemInputs) parents; no record is its own flagged parent.
    The proof goes through AddToSort (findWorstParent by SortRank, insertDownFromHere, insertBefore, fixIndex with its
    four cases, reindexDown incl. its overflow exit, reindexEverything, adjustSortIndexStep), DelFromSort,
    buildSortedList and every operation that reaches them.
    Hypothesis `nowrap`: the model's ghost flag `rankWrap` is clear. The flag is set, since the last rebuild of the list,
    exactly where the Go code computes a SortRank without a guard and the computation left uint64 or met a step of 0:
    the append at the end of insertDownFromHere (`WorstT2S.SortRank + sortIndexStep`, needs > 2^62/sortIndexStep ≈ 2.4
    million consecutive appends without a rebuild), sortIndexStep = 0 or sortIndexStep/16 = 0 (more than 2^55 pooled
    transactions), SORT_START + n·step ≥ 2^64 in reindexEverything / buildSortedList (impossible for the step
    adjustSortIndexStep computes; not proved). These are outside every run the harness can make; they are not claimed. -/
theorem sorted_list_inv (K : Keys) (W : Tx → Prop) (rank : TxId → Nat) (u0 : UT) (ν : OutPoint → Nat)
    (U : Univ2 K W rank u0 ν) (cfg : Cfg) (h0 : Nat) (ops : List Op)
    (hW : ∀ op ∈ ops, ∀ t ∈ op.txs, W t) (hv : ValidRun K u0 (genesis cfg u0 h0) ops)
    (alive : (run K (genesis cfg u0 h0) ops).panicked = false)
    (clean : (run K (genesis cfg u0 h0) ops).sortDirty = false)
    (nowrap : (run K (genesis cfg u0 h0) ops).rankWrap = false) :
    SortOK K (run K (genesis cfg u0 h0) ops) :=
  (carried_of_valid U cfg h0 ops hW hv).2.sort alive clean nowrap

/-- … and each single operation keeps it (with the carried pool invariant `Full`). -/
theorem sorted_list_inv_step (K : Keys) (W : Tx → Prop) (rank : TxId → Nat) (u0 : UT) (ν : OutPoint → Nat)
    (U : Univ2 K W rank u0 ν) (s : State) (op : Op) (h : Full K W u0 ν s) (hW : ∀ t ∈ op.txs, W t)
    (ha : AdmOp u0 ν s op) (q : SortInvP K s) : SortInvP K (step K s op) :=
  step_sort U s op h hW ha q

/-- (e) THE COMPOSITION: in every state reached by a history with valid blocks in which the process is alive, the block
    body built from the listing of GetSortedMempoolRBF (`sortedRBF`: the sorted list merged with fee packages that pass
    `pkgOK`) is accepted by the input-availability rules of commitTxs (`BlockOK` against the confirmed set of that
    state): `pool_inv` + `sorted_complete` + `sorted_parents_first` (dirty list: GetSortedMempoolSlow) or
    `sorted_list_inv` (non-dirty list: the incrementally maintained one) + `rbf_listing_valid` supply exactly the four
    hypotheses of `template_valid`. The only hypothesis about the non-dirty list is
    `nowrap` (see `sorted_list_inv`), needed only when the list is not dirty. -/
theorem template_from_pool (K : Keys) (W : Tx → Prop) (rank : TxId → Nat) (u0 : UT) (ν : OutPoint → Nat)
    (U : Univ2 K W rank u0 ν) (cfg : Cfg) (h0 : Nat) (ops : List Op)
    (hW : ∀ op ∈ ops, ∀ t ∈ op.txs, W t) (hv : ValidRun K u0 (genesis cfg u0 h0) ops)
    (alive : (run K (genesis cfg u0 h0) ops).panicked = false) (pks : List Pkg)
    (hp : ∀ pk ∈ pks, pkgOK K (run K (genesis cfg u0 h0) ops) pk = true)
    (nowrap : (run K (genesis cfg u0 h0) ops).sortDirty = false → (run K (genesis cfg u0 h0) ops).rankWrap = false) :
    BlockOK (fun o => ((run K (genesis cfg u0 h0) ops).utxo.get? o).isSome)
      ((recsOf (run K (genesis cfg u0 h0) ops) (sortedRBF K (run K (genesis cfg u0 h0) ops) pks)).map (·.tx)) := by
  obtain ⟨-, f, q, -, -⟩ := (carried_of_valid U cfg h0 ops hW hv).2
  generalize run K (genesis cfg u0 h0) ops = s at *
  have g := f.good alive
  -- the sorted list is a duplicate-free complete parents-first listing
  have hl : (getSorted K s).Nodup ∧ pfKeys K s [] (getSorted K s) = true ∧
      ∀ b t, s.pool.get? b = some t → b ∈ getSorted K s := by
    unfold getSorted
    cases hd : s.sortDirty with
    | true =>
      simp only [if_true]
      obtain ⟨l1, l2, l3⟩ := sortedSlow_listing U s g
      exact ⟨l1, (pfKeys_iff K s _ []).mpr l3, l2⟩
    | false =>
      simp only [Bool.false_eq_true, if_false]
      exact sortOK_listing U s g (q alive hd (nowrap hd))
  obtain ⟨r1, _, r3⟩ := rbf_listing_valid K s (getSorted K s) pks hl.1 hl.2.1 hl.2.2 hp
  have pf := (pfKeys_iff K s _ []).mp r3
  exact template_valid K s (recsOf s (sortedRBF K s pks)) (listing_hnd s g _) (listing_hconf s g _ r1)
    (listing_hsp s g _) (listing_hpf s g _ pf)

/-- blocks of valid histories carry pairwise different BIDX (txids of `W` are separated by BIDX) -/
theorem blocksDistinct_of_valid (K : Keys) (W : Tx → Prop) (rank : TxId → Nat) (u0 : UT) (U : Univ K W rank) :
    ∀ (ops : List Op) (s : State), (∀ op ∈ ops, ∀ t ∈ op.txs, W t) → ValidRun K u0 s ops → BlocksDistinct K ops := by
  intro ops
  induction ops with
  | nil => intro s _ _ op hop; cases hop
  | cons o r ih =>
    intro s hW hv
    obtain ⟨hWo, hWr⟩ := List.forall_mem_cons.mp hW
    refine List.forall_mem_cons.mpr ⟨fun h txs mf e => ?_, ih _ hWr hv.2⟩
    subst e
    exact blockValid_distinct U hWo hv.1

/-- (d) THE REJECT INDEXES OVER ALL HISTORIES: in every state reached from the empty pool by any history
    with valid blocks in which the process is alive, `RejInv` holds: TransactionsRejected has no duplicate key and is
    keyed by the BIDX of its records; the TRIdxArray ring holds every rejected key exactly once and nothing else; a
    record keeps its transaction iff reason ≥ 200, has Waiting4 iff reason = NO_TXOU, none without data;
    RejectedSpentOutputs lists under each UIdx exactly (membership) the data-carrying records having an input with that
    UIdx, no empty lists; WaitingForInputs lists under each BIDX exactly the records waiting for it, duplicate-free,
    no empty lists, keyed by the BIDX of its TxID; nothing is both pooled and rejected. Consequently the reject-related
    panic branches of the model (rejEvictOldest: ring slot without record; txAccepted: empty list / missing record /
    record without data) are unreachable (`rejEvictOldest_panicked`, `txAcceptedAuxP_indep` in Proofs/C12RejPanic).
    Extra hypothesis: the ring has at least 2 slots (with 1 slot, model and Go code alike evict in Add the record just
    added and then index it). Not covered: multiplicities in RejectedSpentOutputs (membership only), equality of
    Waiting4 with OneWaitingList.TxID beyond their BIDX, the byte counters / limitRejectedSizeIfNeeded (not modelled). -/
theorem reject_index_inv (K : Keys) (W : Tx → Prop) (rank : TxId → Nat) (u0 : UT) (ν : OutPoint → Nat)
    (U : Univ2 K W rank u0 ν) (cfg : Cfg) (h0 : Nat) (hcap : 2 ≤ cfg.ringCap) (ops : List Op)
    (hW : ∀ op ∈ ops, ∀ t ∈ op.txs, W t) (hv : ValidRun K u0 (genesis cfg u0 h0) ops)
    (alive : (run K (genesis cfg u0 h0) ops).panicked = false) :
    RejInv K (run K (genesis cfg u0 h0) ops) :=
  (carried_of_valid U cfg h0 ops hW hv).2.rej hcap alive

/-- Fee exactness: Fee = Σ inputs − Σ outputs, the two sums being the code's wrapping uint64 sums (`sumν`, `sumU64`);
    when the values of a pooled transaction do not overflow uint64 (always the case for real coins) these are the
    plain sums in ℕ. -/
theorem fee_exact (K : Keys) (ν : OutPoint → Nat) (s : State) (h : PoolInv K ν s) (b : Nat) (t : T2S)
    (hb : s.pool.get? b = some t) : t.fee = sumν ν t.tx.ins 0 - sumU64 t.tx.outs := by
  obtain ⟨h1, h2⟩ := h.fee b t hb
  omega

/-- WHAT THE 4th `fix:` COMMIT ACHIEVES (BlockUndone → removeUnspendableCoinbaseSpends; the one-step half of the
    maturity statement that is OPEN over histories, see below). Undo the last block (its height `h`) from any state with the carried invariants
    `Full`, the operation being admissible (`AdmOp`: `UndoCommitTxs`, derived from `ValidRun` for plain histories). If the
    process is alive afterwards, NO pooled record has a confirmed (MemInputs flag clear) input that a block of height `h`
    — the next block — cannot spend: each such input exists in the confirmed set and, if it is a coinbase output, has
    `h - its height ≥ COINBASE_MATURITY` (uint32 arithmetic as in the Go code). Before the fix the put-back state kept a
    pooled spend of a coinbase that had matured exactly with the undone block. -/
theorem undo_leaves_no_immature_spend (K : Keys) (W : Tx → Prop) (rank : TxId → Nat) (u0 : UT) (ν : OutPoint → Nat)
    (U : Univ2 K W rank u0 ν) (s s' : State) (txs : List Tx) (h mf : Nat) (f : Full K W u0 ν s)
    (hd : disconnectUtxo s = some (s', txs)) (ha : AdmOp u0 ν s (.undo h mf))
    (alive : (step K s (.undo h mf)).panicked = false) :
    ∀ b t, (step K s (.undo h mf)).pool.get? b = some t → unspendableAt (step K s (.undo h mf)) h t = false := by
  simp only [step, hd] at alive ⊢
  exact blockUndoneAt_clean U mf s s' h txs hd f.chain f.good f.inv (ha s' txs hd) alive

-- OPEN: coinbase maturity of the template OVER ALL HISTORIES. `BlockOK` has no maturity rule and the model's blocks carry no
-- coinbase (coinbase coins exist only in the initial set `u0`, with their flag and height). Proved: the state right after
-- an undo is clean (`undo_leaves_no_immature_spend`), and processTx's admission test at both sides of the boundary
-- (`input_boundaries`). NOT proved: that the two compose along a history (`tip` monotone between undos, the coin heights
-- of `connectUtxo`) to "in every reachable alive state no pooled transaction spends a coinbase the next block cannot
-- spend": tested by the harness only (corpus:coinbase-undo, corpus:coinbase-boundary, coinbases aged 98..101 in the random
-- histories, op:undo-bare, template validated by the node at every state).

/-- MAP-ITERATION ORDER IS AN INPUT. The Go code walks maps in two places whose order shows in the state (the batch of
    REPLACED records entering the reject ring; ties of sort.Slice in GetSortedMempoolSlow). The oracle adopts the observed
    order with two edits that are NOT `step`s: `ringorder` (the occupied ring slots get a permutation of their content,
    zeroed slots stay) and `setorder` (the non-dirty sorted list becomes a parents-first permutation of the pool keys, ranks
    as after a rebuild, ghost flag as in reindexEverything). Both edits preserve every carried invariant: `Full` (structural
    invariant ∧ chain side ∧ PoolInv when alive), `RejInv`, and the sorted-list invariant `SortInvP`. -/
theorem resync_step_inv (K : Keys) (W : Tx → Prop) (rank : TxId → Nat) (u0 : UT) (ν : OutPoint → Nat)
    (U : Univ2 K W rank u0 ν) (s s' : State) (ks : List Nat)
    (h : ringorder s ks = some s' ∨ setorder K s ks = some s')
    (f : Full K W u0 ν s) (r : RejInv K s) (q : SortInvP K s) :
    Full K W u0 ν s' ∧ RejInv K s' ∧ SortInvP K s' := by
  rcases h with h | h
  · exact ⟨ringorder_full h f, ringorder_rejInv h r, ringorder_sort h q⟩
  · exact ⟨setorder_full h f, setorder_rejInv h r, setorder_sort U h f.good⟩

/-- … hence the three invariants hold along every trajectory of operations INTERLEAVED with resync edits (`rrun` over
    `Move` = op | ring ks | sort ks | init k j, what the oracle really executes; `init` is a refused MempoolLoad /
    InitMempool, see `refused_load_inv`), provided each operation is admissible in the state it
    is applied to (`RAdm`: its transactions are in `W`, `AdmOp`, `UndoOK` — for plain runs these are derived from `ValidRun`
    by `admRun_genesis` / `undoOK_of_full`; FOR RESYNCED TRAJECTORIES THEY ARE HYPOTHESES: `AdmOp` of a `block` is the
    semantic `ConnectSound`, of an `undo` `UndoCommitTxs`, and `UndoOK` of an `undo` is `UndoFresh` — not derived from
    `BlockValid` here; for every other operation all three are `True`). A trajectory without edits is a `run` (`rrun_ops`). -/
theorem resync_run_inv (K : Keys) (W : Tx → Prop) (rank : TxId → Nat) (u0 : UT) (ν : OutPoint → Nat)
    (U : Univ2 K W rank u0 ν) (ms : List Move) (s : State) (ha : RAdm K W u0 ν s ms)
    (f : Full K W u0 ν s) (r : RejInv K s) (q : SortInvP K s) :
    Full K W u0 ν (rrun K s ms) ∧ RejInv K (rrun K s ms) ∧ SortInvP K (rrun K s ms) :=
  rrun_inv U ms s ha f r q

/-- … and for trajectories WITHOUT `undo` the admissibility hypothesis `RAdm` is derived, from the genesis state, from the
    validity of the blocks alone (`RValid`: every `block` move carries a `BlockValid` body in the state it is applied to,
    no `undo` move; Proofs/C12Example2 `radm_of_valid`: the resync edits and refused loads leave the chain side alone, so
    `ConnectSound` follows as in plain runs). Hence: along every undo-free trajectory of operations, resync edits, refused
    loads and purges with valid blocks, started from the empty pool over any confirmed set, `Full`, `RejInv` and the
    sorted-list invariant hold. (For trajectories WITH undos `UndoCommitTxs` / `UndoFresh` remain hypotheses of
    `resync_run_inv`.) -/
theorem resync_run_inv_valid (K : Keys) (W : Tx → Prop) (rank : TxId → Nat) (u0 : UT) (ν : OutPoint → Nat)
    (U : Univ2 K W rank u0 ν) (cfg : Cfg) (h0 : Nat) (hcap : 2 ≤ cfg.ringCap) (ms : List Move)
    (hW : ∀ m ∈ ms, ∀ o, m = .op o → ∀ t ∈ o.txs, W t) (hv : C12Ex2.RValid K u0 (genesis cfg u0 h0) ms) :
    Full K W u0 ν (rrun K (genesis cfg u0 h0) ms) ∧ RejInv K (rrun K (genesis cfg u0 h0) ms) ∧
    SortInvP K (rrun K (genesis cfg u0 h0) ms) :=
  rrun_inv U ms _ (C12Ex2.radm_of_valid U ms _ (chainInv_genesis U cfg h0) hW hv) (full_genesis U cfg h0)
    (rejInv_genesis K cfg u0 h0 hcap) (sort_genesis K cfg u0 h0)

/-- REFUSED LOAD. MempoolLoad (disk.go) fills TransactionsToSend, SpentOutputs and the reject structures while it reads
    mempool.dmp; when a read fails (the file was cut short by a crash during MempoolSave, is damaged, was written for
    another tip, or is missing) it jumps to `fatal_error`, calls InitMempool() again and returns false, and the node
    goes on (client/main.go ignores the result). `loadRefused K s k j` is the state it leaves when the file written from
    `s` is cut after `k` pool records (`j = none`) or after the pool section and `j` rejected records (`j = some n`).
    For all cut positions and every state `s` satisfying `Full` and `RejInv`:
    (1) that state satisfies `Full` (structural invariant ∧ chain side ∧ PoolInv when alive), `RejInv` and `SortInvP`;
    (2) it is the freshly initialised pool `initMempool s` over the unchanged configuration and chain side — the cut
        position shows at most in the sticky panic flag (raised iff OneTxRejected.Add panicked while the rejected records
        were read; for `j = none` it is literally `initMempool s`, `loadRefused_eq_none`);
    (3) TransactionsToSend, SpentOutputs, TransactionsRejected, the reject ring, WaitingForInputs, RejectedSpentOutputs
        and the sorted list are empty, SortListDirty = false.
    Hence (with `resync_run_inv`, whose `Move` has `init`) the invariants hold along every trajectory in which refused
    loads (crash-truncated / damaged / foreign-tip / missing mempool.dmp) or the text-UI command `mempool purge`
    (InitMempool() alone = `init k none`) occur between operations. What half-loaded state the second InitMempool()
    wipes out, and that it matters, is `partial_load_counterexample` below. -/
theorem refused_load_inv (K : Keys) (W : Tx → Prop) (u0 : UT) (ν : OutPoint → Nat) (s : State) (k : Nat)
    (j : Option Nat) (f : Full K W u0 ν s) (r : RejInv K s) :
    (Full K W u0 ν (loadRefused K s k j) ∧ RejInv K (loadRefused K s k j) ∧ SortInvP K (loadRefused K s k j)) ∧
    loadRefused K s k j = { initMempool s with panicked := (loadPartial K s k j).panicked } ∧
    ((loadRefused K s k j).pool = [] ∧ (loadRefused K s k j).spent = [] ∧ (loadRefused K s k j).rej = [] ∧
     (loadRefused K s k j).ring = [] ∧ (loadRefused K s k j).waiting = [] ∧ (loadRefused K s k j).rejSpent = [] ∧
     (loadRefused K s k j).sorted = [] ∧ (loadRefused K s k j).sortDirty = false) :=
  ⟨loadRefused_inv s k j f r, loadRefused_eq K s k j, rfl, rfl, rfl, rfl, rfl, rfl, rfl, rfl⟩

/-- A LISTING TAKEN WHILE A BLOCK COMMIT IS IN PROGRESS. Between BlockCommitInProgress(true) and (false) the chain calls
    BlockUndone / BlockMined once per block and TxMutex is free in between and afterwards: another thread of the node (RPC
    getblocktemplate, web / text UI) can list the pool there. While SortingDisabled is set AddToSort / DelFromSort do not
    touch the BestT2S…WorstT2S list, they only raise SortListDirty — so the listing is right only because buildSortedList
    (the model's `.resort`) rebuilds a dirty list WHATEVER SortingDisabled says: after it the list is not dirty and holds
    exactly GetSortedMempoolSlow's result when it was dirty; the flag changes nothing else in the result. In the history
    theorems `.commitFlag`, `.block`, `.undo` and `.resort` are independent operations, so `sorted_list_inv` /
    `template_from_pool` already speak about listings taken inside a commit (`… .commitFlag true, .block …, .resort, …`);
    the harness drives the real code through these states (a listing after every BlockMined / BlockUndone callback). -/
theorem listing_during_commit (K : Keys) (s : State) :
    (step K s .resort).sortDirty = false ∧
    (step K s .resort).sorted = getSorted K s ∧
    (step K s .resort).sortDisabled = s.sortDisabled ∧
    step K { s with sortDisabled := true } .resort = { step K s .resort with sortDisabled := true } := by
  unfold step buildSorted getSorted
  cases hd : s.sortDirty with
  | true => exact ⟨rfl, rfl, rfl, rfl⟩
  | false => exact ⟨by simp [hd], by simp, by simp, by simp [hd]⟩

/-- PANIC BRANCHES PROVED UNREACHABLE (beyond the reject-related ones of `reject_index_inv`). In a state satisfying the
    carried invariants:
    (1) `mined()` (minedFlags: `IIdx` = -1, MemInputs nil) does not raise the flag, for a pooled record, under PGood;
    (2) `unmined()` (unminedFlags: `IIdx` = -1) does not, under the structural invariant InvS alone;
    (3) the input loop of processTx never exits with the nil-dereference code R_PANIC (rbfStep: SpentOutputs names a key
        that is not pooled; a descendant from GetAllChildren that is not pooled), under InvS;
    (4) AddToSort's `parent == nil` branch is not taken when every flagged parent of the new record is pooled (what
        `accept_pre` establishes at the call site in processTx: `accept_add_panicked` in Proofs/C12PanicSort), the
        fall-through of fixIndex (`FixFall`, the latent nil dereference after ~800 000 consecutive head insertions)
        being excluded by hypothesis.
    NOT proved (they remain covered only by the hypothesis `alive`): the model's iteration budget of the txAccepted loop
    (`txAcceptedAux` at fuel 0 — not a Go panic at all: the Go loop is unbounded; `txAccFuel` = Σ over the rejected records
    of 2 + #inputs, + |pool| + 4 is argued, not proved, to suffice; see `orphan_budget_irrelevant`, `deep_orphan_drains`);
    BlockUndone's os.Exit(1) for a whole block — one
    iteration is `undoneStep_no_exit` in Proofs/C12PanicUndo, under hypotheses `BlockValid` does not give (inputs restored
    or created earlier in the block, no double spend inside the block, Σ outputs ≤ Σ inputs); Delete's recursion fuel
    (delWithChildren at fuel 0); `FixFall`. -/
theorem panic_branches_unreachable (K : Keys) (W : Tx → Prop) (rank : TxId → Nat) (u0 : UT) (ν : OutPoint → Nat)
    (U : Univ2 K W rank u0 ν) (s : State) :
    (∀ t, ChainOK u0 ν s → PGood K W u0 ν s → s.pool.get? (K.bidx t.tx.id) = some t →
        (minedFlags K s t).panicked = s.panicked) ∧
    (InvS K s → ∀ t, (unminedFlags K s t).panicked = s.panicked) ∧
    (InvS K s → ∀ (fl : Flags) (ins : List TxIn) (a : Acc) (e : Exit),
        ins.foldlM (inputStep K s fl) a = .error e → e.code ≠ R_PANIC) ∧
    (∀ b t, (∀ p ∈ memParents K t, (s.pool.get? p).isSome = true) →
        ¬ FixFall (insState s b (insJ K s t)) (s.sorted.take (insJ K s t)).getLast? (s.sorted.drop (insJ K s t)).head? →
        (addToSort K s b t).panicked = s.panicked) :=
  ⟨fun t hc h hin => minedFlags_panicked_good U t s hc h hin,
   fun h t => (unminedFlags_panicked h t).1,
   fun h fl ins a e he => inputs_no_panic h fl ins a e he,
   fun b t hpar hfix => addToSort_panicked K s b t hpar hfix⟩

/-- THE FEE-RATE PRODUCTS. The model computes `4000*fee < weight*minFee`, `totfees*vsize ≥ fee*totvsize`, isFirstTxBetter
    (`better`) and the package comparison of GetSortedMempoolRBF in ℕ; the Go code in uint64. A product of a factor below
    2^44 (fees: ≈ 175 000 BTC) and a factor below 2^20 (weights, vsizes and their sums; 4000) equals its uint64 value, so
    under that bound `better` is the wrapped comparison the code performs. Outside the bound the model is NOT the code. -/
theorem fee_products_nowrap (a b : T2S) (ha : a.fee < 2 ^ 44) (hb : b.fee < 2 ^ 44)
    (wa : a.tx.weight < 2 ^ 20) (wb : b.tx.weight < 2 ^ 20) :
    better a b = decide ((a.fee * b.tx.weight) % U64 > (b.fee * a.tx.weight) % U64) ∧
    ∀ x y : Nat, x < 2 ^ 44 → y < 2 ^ 20 → (x * y) % U64 = x * y :=
  ⟨better_eq_wrapped a b ha hb wa wb, fun x y hx hy => mul_nowrap x y hx hy⟩

/-- THE KEY HYPOTHESES ARE SATISFIABLE FOR THE CODE'S OWN KEYS. For a universe `W` whose txids in play
    differ pairwise in bytes 0..7 (their BIDX) and in bytes 28..31 (`hi32`: the half of the UIdx word the output index
    cannot reach), and whose output indexes in play are below 2^32 (the wire format has no others), `realKeys` — the
    keys the oracle executes — satisfies the collision hypotheses of `Univ` (`bidx_inj`, `uidx_inj`) and of `Univ2`
    (`bidx_play`, `uidx_play`); the other fields of `Univ` / `Univ2` do not mention the keys. Real txids are hash values:
    the two conditions fail for a pair of txids with probability 2^-64 resp. 2^-32 (a collision makes gocoin itself
    confuse the two transactions; the theorems do not cover that). The second conjunct records why `uidx_play` cannot
    be asked for all naturals: `uidx a 0 = uidx a 2^32` for every txid. -/
theorem key_hypotheses_realKeys (W : Tx → Prop)
    (hlo : ∀ a b, Play W a → Play W b → a % 2 ^ 64 = b % 2 ^ 64 → a = b)
    (hhi : ∀ a b, Play W a → Play W b → hi32 a = hi32 b → a = b)
    (hv : ∀ v, VPlay W v → v < 2 ^ 32) :
    ((∀ a b, W a → W b → realKeys.bidx a.id = realKeys.bidx b.id → a.id = b.id) ∧
     (∀ c t, W c → W t → ∀ i ∈ c.ins, ∀ v, realKeys.uidx i.prev i.vout = realKeys.uidx t.id v → i.prev = t.id) ∧
     (∀ a b, Play W a → Play W b → realKeys.bidx a = realKeys.bidx b → a = b) ∧
     (∀ a b v w, Play W a → Play W b → VPlay W v → VPlay W w → realKeys.uidx a v = realKeys.uidx b w →
       a = b ∧ v = w)) ∧
    ∀ a : TxId, realKeys.uidx a 0 = realKeys.uidx a (2 ^ 32) :=
  ⟨realKeys_collision_free W hlo hhi hv, realKeys_not_injective_on_all_indexes⟩

/-- THE ITERATION BUDGET OF THE ORPHAN LOOP DOES NOT SHOW IN AN ALIVE RUN. gocoin's txAccepted loops without a bound;
    the model's `txAcceptedAux` carries a budget (`txAccFuel s`) and raises `panicked` when it runs out. If the loop
    started with budget `n` ends alive, every larger budget `m` yields the very same state: the state an alive run
    reaches is the state of the unbounded loop, the budget only decides whether the model answers. (That the budget
    always suffices is NOT proved; when it does not, the oracle's state has the flag set and the harness reports a
    mismatch with the real code.) -/
theorem orphan_budget_irrelevant (K : Keys) (mf : Nat) (n m : Nat) (hle : n ≤ m) (s : State) (recs : List Nat) (d : Nat)
    (h : (txAcceptedAux K mf n s recs d).panicked = false) :
    txAcceptedAux K mf m s recs d = txAcceptedAux K mf n s recs d :=
  txAcceptedAux_fuel_le K mf n m hle s recs d h

/-- THE DEEP-ORPHAN FAMILY (by evaluation of the model's own `run`). A chain X ← P1 ← … ← P20 of
    unconfirmed transactions and an orphan O with 20 inputs, one output of every Pi; O arrives first, then P1 … P20 (each
    an orphan of its predecessor), then the root X. gocoin pools all 22. So does the model: nothing stays rejected or
    waiting, the process is alive; the loop started by X needs 54 iterations (53 are not enough), the budget is 87. A
    budget of 2·(|rej|+|pool|)+4 = 48 runs out here (`Deep.old_budget_short`: the flag is raised, the loop is cut
    half-drained, a state gocoin never reaches). With the parents arriving in reverse order (chain of 8)
    everything is pooled as well. The harness generates this family on the real code (corpus:deep-orphan, gen:deep-orphan). -/
theorem deep_orphan_drains :
    ((run Deep.K0 Deep.s0 (Deep.ops 20)).pool.length = 22 ∧ (run Deep.K0 Deep.s0 (Deep.ops 20)).rej = [] ∧
     (run Deep.K0 Deep.s0 (Deep.ops 20)).waiting = [] ∧ (run Deep.K0 Deep.s0 (Deep.ops 20)).panicked = false ∧
     txAccFuel (Deep.sPre 20) = 87 ∧
     (txAcceptedAux Deep.K0 0 53 (Deep.sPre 20) [100] 0).panicked = true ∧
     (txAcceptedAux Deep.K0 0 54 (Deep.sPre 20) [100] 0).panicked = false) ∧
    (2 * ((Deep.sPre 20).rej.length + (Deep.sPre 20).pool.length) + 4 = 48 ∧
     (txAcceptedAux Deep.K0 0 48 (Deep.sPre 20) [100] 0).panicked = true) ∧
    ((run Deep.K0 Deep.s0 (Deep.opsRev 8)).pool.length = 10 ∧ (run Deep.K0 Deep.s0 (Deep.opsRev 8)).rej = [] ∧
     (run Deep.K0 Deep.s0 (Deep.opsRev 8)).panicked = false) :=
  ⟨Deep.drains20, Deep.old_budget_short, Deep.drains8_rev⟩

/-- usif.LoadRawTx ON A TRANSACTION THAT IS ALREADY POOLED ("make as own"): `submitLocal` answers 1000 + why and the only
    change to the pool is the `Local` flag of that record — the transaction stored under every key, SpentOutputs, the
    sorted list with its ranks, the reject side, the weight total and the panic flag are what they were after the
    preceding DeleteRejectedByIdx. (The invariants are carried through this branch by `markLocal_same` /
    `markLocal_good` / `markLocal_sort` / `markLocal_shrink`.) -/
theorem local_on_pooled_marks_only (K : Keys) (s : State) (id : TxId) :
    (markLocal K s id).spent = s.spent ∧ (markLocal K s id).rej = s.rej ∧ (markLocal K s id).ring = s.ring ∧
    (markLocal K s id).waiting = s.waiting ∧ (markLocal K s id).rejSpent = s.rejSpent ∧
    (markLocal K s id).sorted = s.sorted ∧ (markLocal K s id).ranks = s.ranks ∧
    (markLocal K s id).sortDirty = s.sortDirty ∧ (markLocal K s id).weightTotal = s.weightTotal ∧
    (markLocal K s id).panicked = s.panicked ∧
    ∀ b, ((markLocal K s id).pool.get? b).map (fun r => (r.tx, r.fee, r.volume, r.mem, r.memCnt, r.final)) =
         (s.pool.get? b).map (fun r => (r.tx, r.fee, r.volume, r.mem, r.memCnt, r.final)) := by
  unfold markLocal
  cases h : s.pool.get? (K.bidx id) with
  | none => exact ⟨rfl, rfl, rfl, rfl, rfl, rfl, rfl, rfl, rfl, rfl, fun _ => rfl⟩
  | some r =>
    refine ⟨rfl, rfl, rfl, rfl, rfl, rfl, rfl, rfl, rfl, rfl, ?_⟩
    intro b
    by_cases e : b = K.bidx id
    · rw [e, AList.get?_set_self, h]; rfl
    · rw [AList.get?_set_other _ _ _ _ e]

/-- THE TWO INPUT BOUNDARIES OF processTx (decision logic of one iteration of the input loop, stated outright).
    For an input whose UIdx nobody in the pool spends:
    (1) confirmed coin, not the Unmined path: the input is refused CB_INMATURE iff the coin is a coinbase output and
        `Last.BlockHeight()+1 - coin height < COINBASE_MATURITY` — 99 confirmations refused, 100 accepted — otherwise it is
        taken with the coin's value and MemInputs flag false;
    (2) pooled parent: `vout ≥ len(parent outputs)` (in particular `vout = len`) is refused BAD_INPUT; a smaller `vout` is
        taken with that output's value and flag true when the sender is trusted or AllowMemInputs is on, and refused
        NOT_MINED otherwise.
    The constants are the model's copies (compared with chain.COINBASE_MATURITY and the package's TX_REJECTED_* by the
    harness at start-up, oracle command `consts`); the harness drives the real code on both sides of both boundaries
    (corpus:coinbase-boundary, corpus:vout-boundary, corpus:no-mem-inputs and the random streams). -/
theorem input_boundaries (K : Keys) (s : State) (fl : Flags) (a : Acc) (i : TxIn)
    (hs : s.spent.get? (K.uidx i.prev i.vout) = none) :
    (∀ c, fl.unmined = false → s.pool.get? (K.bidx i.prev) = none → s.utxo.get? (i.prev, i.vout) = some c →
      (c.coinbase = true ∧ s.height + 1 - c.height < COINBASE_MATURITY →
        inputStep K s fl a i = .error ⟨R_CB_INMATURE, true, none⟩) ∧
      (¬ (c.coinbase = true ∧ s.height + 1 - c.height < COINBASE_MATURITY) →
        ∃ a', inputStep K s fl a i = .ok a' ∧ a'.vals = a.vals ++ [c.value] ∧ a'.frommem = a.frommem ++ [false])) ∧
    (∀ par, s.pool.get? (K.bidx i.prev) = some par →
      (par.tx.outs.length ≤ i.vout → inputStep K s fl a i = .error ⟨R_BAD_INPUT, true, none⟩) ∧
      (i.vout < par.tx.outs.length → (fl.trusted = true ∨ s.cfg.allowMem = true) →
        ∃ a', inputStep K s fl a i = .ok a' ∧ a'.vals = a.vals ++ [par.tx.outs.getD i.vout 0] ∧
          a'.frommem = a.frommem ++ [true]) ∧
      (i.vout < par.tx.outs.length → fl.trusted = false → s.cfg.allowMem = false →
        inputStep K s fl a i = .error ⟨R_NOT_MINED, true, none⟩)) := by
  constructor
  · intro c hu hp hc
    unfold inputStep
    simp only [hs, hp, hc, hu, bind, Except.bind, pure, Except.pure]
    constructor
    · rintro ⟨h1, h2⟩
      simp [h1, h2, throw, throwThe, MonadExceptOf.throw]
    · intro h
      by_cases h1 : c.coinbase = true
      · simp [h1, not_and.mp h h1]
      · simp [h1]
  · intro par hp
    unfold inputStep
    simp only [hs, hp, bind, Except.bind, pure, Except.pure]
    refine ⟨?_, ?_, ?_⟩
    · intro h
      simp [h, throw, throwThe, MonadExceptOf.throw]
    · intro h ht
      rcases ht with ht | ht <;> simp [Nat.not_le.mpr h, ht]
    · intro h ht hm
      simp [Nat.not_le.mpr h, ht, hm, throw, throwThe, MonadExceptOf.throw]

/-! non-vacuity -/

def K0 : Keys := { bidx := id, uidx := fun a b => a * 1000 + b }
def txD : Tx := { id := 9, ins := [⟨1, 0, 0⟩, ⟨1, 0, 0⟩], outs := [40], nws := 100, size := 100, scriptOk := true }
def s0 : State := { utxo := [((1, 0), ⟨60, 1, false⟩)], height := 5 }
def s2 : State := (submitNet K0 0 (submitNet K0 0 s0 txA false).2 txB false).2

/-- a second spend of the coin (1,0) that txA spends -/
def txA2 : Tx := { id := 12, ins := [⟨1, 0, 0⟩], outs := [30], nws := 100, size := 100, scriptOk := true }
def txL : Tx := { id := 13, ins := [⟨2, 0, 0⟩], outs := [55], nws := 100, size := 100, scriptOk := true }
/-- two confirmed coins (1,0), (2,0); txL (spends (2,0)) and then txA (spends (1,0)) pooled: the record of txA comes
    first in `sL.pool`, i.e. in the file written from `sL` -/
def sL : State := (submitNet K0 0 (submitNet K0 0
  { utxo := [((1, 0), ⟨60, 1, false⟩), ((2, 0), ⟨60, 1, false⟩)], height := 5 } txL false).2 txA false).2

/-- WHY THE SECOND InitMempool() IS NEEDED (a concrete instance, checked by evaluation). `sL` pools txL (id 13, spends
    the confirmed coin (2,0)) and txA (id 7, spends (1,0)); SpentOutputs = {(1,0) ↦ 7, (2,0) ↦ 13}. A mempool.dmp written
    from `sL` and cut after its first pool record leaves MempoolLoad, at the `goto fatal_error`, in the half-loaded state
    `loadPartial K0 sL 1 none`: txA is in TransactionsToSend, SpentOutputs is still empty (it is rebuilt only after the
    whole pool section). If the node went on from THERE, the conflicting spend txA2 (id 12, spends (1,0) too) would be
    accepted (code 0, no panic) NEXT TO txA: the pool then holds 12 and 7, both with the input (1,0) — two pooled
    transactions spending the same output, the very thing C12 excludes. From the state the code really leaves,
    `loadRefused K0 sL 1 none` (after the second InitMempool()), the same submission leaves a pool holding only 12; and on
    the complete `sL` it is handled as a replacement of txA (pool 12, 13). -/
theorem partial_load_counterexample :
    sL.pool.map (·.1) = [7, 13] ∧ sL.spent = [(1000, 7), (2000, 13)] ∧ sL.panicked = false ∧
    (loadPartial K0 sL 1 none).pool.map (·.1) = [7] ∧ (loadPartial K0 sL 1 none).spent = [] ∧
    (submitNet K0 0 (loadPartial K0 sL 1 none) txA2 false).1 = 0 ∧
    (submitNet K0 0 (loadPartial K0 sL 1 none) txA2 false).2.panicked = false ∧
    (submitNet K0 0 (loadPartial K0 sL 1 none) txA2 false).2.pool.map
      (fun p => (p.1, p.2.tx.ins.map fun i => (i.prev, i.vout))) = [(12, [(1, 0)]), (7, [(1, 0)])] ∧
    (submitNet K0 0 (loadRefused K0 sL 1 none) txA2 false).1 = 0 ∧
    (submitNet K0 0 (loadRefused K0 sL 1 none) txA2 false).2.pool.map (·.1) = [12] ∧
    (submitNet K0 0 sL txA2 false).1 = 0 ∧ (submitNet K0 0 sL txA2 false).2.pool.map (·.1) = [12, 13] := by
  decide +kernel

/-! a block undone while the sorted list is live (text-UI `undo slow`) -/

/-- pays 1 for 400 weight units: a poor fee rate -/
def txT : Tx := { id := 20, ins := [⟨1, 0, 0⟩], outs := [59], nws := 100, size := 100, scriptOk := true }
/-- stays in the pool: the child's OTHER unconfirmed parent -/
def txP : Tx := { id := 21, ins := [⟨2, 0, 0⟩], outs := [50], nws := 100, size := 100, scriptOk := true }
/-- spends output 0 of txT and output 0 of txP, pays 49: a much better fee rate than txT's -/
def txKid : Tx := { id := 22, ins := [⟨20, 0, 0⟩, ⟨21, 0, 0⟩], outs := [60], nws := 100, size := 100, scriptOk := true }
def sU0 : State := { utxo := [((1, 0), ⟨60, 1, false⟩), ((2, 0), ⟨60, 1, false⟩)], height := 5 }
/-- txP pooled; block 6 confirms txT; the child txKid of both arrives; a listing is taken (list clean) -/
def sU1 : State := run K0 sU0 [.submitNet txP false 0, .block 6 [txT] 0, .tip 6, .submitNet txKid false 0, .resort]
/-- block 6 is undone with sorting enabled (SortingDisabled = false: UndoLastBlock without BlockCommitInProgress(true)) -/
def sU2 : State := step K0 sU1 (.undo 6 0)

/-- THE DIRTY MARK OF unmined() IS LOAD-BEARING, ALSO FOR A CHILD WHOSE MemInputs WAS ALREADY ALLOCATED (a concrete
    instance, checked by evaluation of the model's own `step`). txP (id 21) is pooled, block 6 confirms txT (id 20, poor
    fee rate), then txKid (id 22) arrives: it spends txT's output (confirmed) and txP's (pooled) - its MemInputs is
    [false, true], allocated - and pays a much better rate than txT. After a listing the BestT2S…WorstT2S list is clean:
    [21, 22]. Now block 6 is undone while SortingDisabled is false (the text-UI command `undo slow`, or any direct caller
    of BlockUndone): processTx puts txT back and AddToSort inserts it into the live list BY ITS OWN RATE - below its child:
    the raw list is [21, 22, 20], child 22 BEFORE parent 20. unmined() then sets txKid's flag for that input ([true, true],
    MemInputCnt 2) and raises SortListDirty. Only that mark makes the next listing (`.resort` = buildSortedList) rebuild
    the list to [21, 20, 22], parents first. `sorted_list_inv` speaks about non-dirty lists: it is the mark that keeps
    the wrong raw list out of its scope, in exactly this history class - a block undone with sorting enabled, the child
    having another unconfirmed parent - which the harness drives on the real code (corpus:undo-sorting-on, `undo slow`
    in the random histories). -/
theorem unmined_dirty_mark_needed :
    sU1.sortDisabled = false ∧ sU1.sortDirty = false ∧ sU1.sorted = [21, 22] ∧
    (sU1.pool.get? 22).map (fun t => (t.mem, t.memCnt)) = some ([false, true], 1) ∧
    sU2.panicked = false ∧ sU2.pool.map (·.1) = [22, 20, 21] ∧
    (sU2.pool.get? 22).map (fun t => (t.mem, t.memCnt)) = some ([true, true], 2) ∧
    sU2.sorted = [21, 22, 20] ∧ sU2.sortDirty = true ∧
    (step K0 sU2 .resort).sortDirty = false ∧ (step K0 sU2 .resort).sorted = [21, 20, 22] := by
  decide +kernel

/-! save + reload and the age of the records -/

/-- SAVE + RELOAD KEEPS EVERY POOLED RECORD. MempoolSave writes every record of TransactionsToSend and MempoolLoad puts
    every record of a complete file back (`reload`): the keys of the pool and the transaction of every record are
    unchanged, for every state. The model has no clock: a record's age (Lastseen) plays no part in `reload` - a record
    leaves the pool because of its age only through `expire` (expireOldTxs), which deletes it WITH all its descendants
    (`load_filter_counterexample` below shows why the loader must not filter on its own). The harness drives the real
    loader with records aged to both sides of TXPool.ExpireInDays (corpus:aged-reload, ageing in the random histories)
    and compares the reloaded pool with this model. -/
theorem reload_keeps_every_record (K : Keys) (s : State) :
    (reload K s).pool.map (·.1) = s.pool.map (·.1) ∧
    (reload K s).pool.map (fun p => p.2.tx) = s.pool.map (fun p => p.2.tx) :=
  ⟨reload_pool_keys K s, reload_pool_txs K s⟩

/-- txA (id 7, spends the confirmed coin (1,0)) and its child txB (id 8, spends txA's output 0) pooled -/
def sF : State := run K0 sU0 [.submitNet txA false 0, .submitNet txB false 0]

/-- WHY THE LOADER MUST NOT DROP SINGLE RECORDS (a concrete instance, checked by evaluation). `sF` pools txA (7) and its
    child txB (8, MemInputs [true]). (1) `reload` keeps both, the flag recovered. (2) The load of the same file with the
    record of txA left out (say, because txA alone is past its expiry time) is `reload` of the pool without key 7: it
    holds txB alone, its MemInputs cleared by the recovery loop (no pooled parent found: the slice is set to nil, i.e.
    the input now counts as a confirmed one), SpentOutputs still maps (7,0) to txB - and the confirmed set has no (7,0):
    an input that is neither an unspent confirmed output nor an output of a pooled transaction, which C12 excludes.
    (3) What expiry does instead: `expire` of txA removes txA AND txB; reloading that leaves the pool empty. -/
theorem load_filter_counterexample :
    sF.pool.map (fun p => (p.1, p.2.mem)) = [(8, [true]), (7, [])] ∧
    (reload K0 sF).pool.map (fun p => (p.1, p.2.mem, p.2.memCnt)) = [(8, [true], 1), (7, [], 0)] ∧
    (reload K0 { sF with pool := sF.pool.filter fun p => p.1 != 7 }).pool.map (fun p => (p.1, p.2.mem, p.2.memCnt))
      = [(8, [], 0)] ∧
    (reload K0 { sF with pool := sF.pool.filter fun p => p.1 != 7 }).spent = [(7000, 8)] ∧
    (reload K0 { sF with pool := sF.pool.filter fun p => p.1 != 7 }).utxo.get? (7, 0) = none ∧
    (expire K0 sF [7]).pool = [] ∧ (reload K0 (expire K0 sF [7])).pool = [] := by
  decide +kernel

/-! the chain's block callback and the node's sync state -/

/-- WHY THE CHAIN'S "BLOCK CONNECTED" CALLBACK MUST REACH THE POOL FOR EVERY BLOCK, WHATEVER THE NODE'S SYNC STATE (a
    concrete instance, checked by evaluation). The model's `.block` step is `blockMined ∘ connectUtxo`: chain side and pool
    side of one commit; client/main.go `blockMined` (installed as the chain's BlockMinedCB by client/init.go) is what joins
    them in the node, and it is called with blocks whose `LastKnownHeight` is anything from 0 to hundreds of blocks above
    the block (header-first catch-up with a pool loaded from mempool.dmp). `sL` pools txA (id 7, spends the confirmed coin
    (1,0)) and txL (id 13). When a block holding txA is committed on the chain side ALONE (`connectUtxo`, the callback
    returning before txpool.BlockMined), txA stays pooled although (1,0) is gone from the confirmed set and txA's own
    output (7,0) is confirmed: an input that is neither an unspent confirmed output nor an output of a pooled transaction,
    and a pooled transaction that duplicates the active chain - both excluded by C12. The full step leaves txL alone, with
    SpentOutputs = {(2,0) ↦ 13}. The harness drives this joint on the real client (go/cmd/c12/realclient.go). -/
theorem block_hook_skipped_counterexample :
    sL.pool.map (·.1) = [7, 13] ∧
    (connectUtxo sL 6 [txA]).pool.map (·.1) = [7, 13] ∧
    (connectUtxo sL 6 [txA]).utxo.get? (1, 0) = none ∧
    ((connectUtxo sL 6 [txA]).utxo.get? (7, 0)).isSome = true ∧
    (step K0 sL (.block 6 [txA] 0)).pool.map (·.1) = [13] ∧
    (step K0 sL (.block 6 [txA] 0)).spent = [(2000, 13)] ∧
    (step K0 sL (.block 6 [txA] 0)).panicked = false := by
  decide +kernel

example : (submitNet K0 0 s0 txA false).1 = 0 := by decide +kernel
example : (processTx K0 0 s0 txD {}).1 = R_BAD_INPUT := by decide +kernel
example : (sortedSlowP K0 s2).map (·.1) = [7, 8] := by decide +kernel
example : hasDupInput txD.ins = true := by decide
example : BlockOK (fun o => (s0.utxo.get? o).isSome) [txA, txB] := by
  simp [BlockOK, Tx.inOps, TxIn.op, txA, txB, s0, AList.get?, Tx.creates]
example : evict K0 s2 [7] = none := by decide +kernel

/-! the coinbase boundary and the sweep after an undo (what `input_boundaries` and `undo_leaves_no_immature_spend` are about),
    by evaluation: the coinbase output (1,0) of block 12 is refused at tip 110 (99 confirmations), accepted at tip 111 (100);
    undoing block 111 sweeps that spend (it would need height 112) while the block's own transaction is put back -/
def txM1 : Tx := { id := 30, ins := [⟨2, 0, 0⟩], outs := [55], nws := 100, size := 100, scriptOk := true }
def txS1 : Tx := { id := 31, ins := [⟨1, 0, 0⟩], outs := [55], nws := 100, size := 100, scriptOk := true }
def sC0 : State := { utxo := [((1, 0), ⟨60, 12, true⟩), ((2, 0), ⟨60, 1, false⟩)], height := 110 }
def sC1 : State := run K0 sC0 [.block 111 [txM1] 0, .tip 111, .submitNet txS1 false 0]
example : (submitNet K0 0 sC0 txS1 false).1 = R_CB_INMATURE ∧ sC1.pool.map (·.1) = [31] ∧
    (step K0 sC1 (.undo 111 0)).pool.map (·.1) = [30] ∧ (step K0 sC1 (.undo 111 0)).panicked = false := by decide +kernel

-- `orphan_budget_irrelevant` on the deep-orphan family: 54 iterations end alive, so the budget 87 gives the same state
example : txAcceptedAux Deep.K0 0 87 (Deep.sPre 20) [100] 0 = txAcceptedAux Deep.K0 0 54 (Deep.sPre 20) [100] 0 :=
  orphan_budget_irrelevant Deep.K0 0 54 87 (by decide) _ _ _ Deep.drains20.2.2.2.2.2.2
-- `input_boundaries` on the coinbase of block 12 at tip 110 (99 confirmations: refused) and on txB's parent txA (vout = 1 =
-- number of outputs of the pooled txA: refused BAD_INPUT; vout 0 taken with flag true)
example : inputStep K0 sC0 {} {} ⟨1, 0, 0⟩ = .error ⟨R_CB_INMATURE, true, none⟩ :=
  ((input_boundaries K0 sC0 {} {} ⟨1, 0, 0⟩ (by decide)).1 ⟨60, 12, true⟩ rfl (by decide) (by decide)).1 (by decide)
example : inputStep K0 (submitNet K0 0 s0 txA false).2 {} {} ⟨7, 1, 0⟩ = .error ⟨R_BAD_INPUT, true, none⟩ :=
  ((input_boundaries K0 (submitNet K0 0 s0 txA false).2 {} {} ⟨7, 1, 0⟩ (by decide)).2
    { tx := txA, fee := 10, volume := 60, mem := [], memCnt := 0, loc := false, final := false } (by decide)).1 (by decide)

/-- a universe for which the hypotheses of `pool_inv_struct` hold, and a history over it that fills the pool -/
def K2 : Keys := { bidx := id, uidx := fun a _ => a }
def ops2 : List Op := [.tip 5, .submitNet txB false 0, .submitNet txA false 0, .resort, .reload, .expire [8]]
example : InvS K2 (run K2 {} ops2) := by
  have univK2 : Univ K2 W2 id := by
    refine ⟨?_, ?_, ?_, ?_, ?_⟩
    · intro a b _ _ h; exact h
    · intro c t _ _ i _ v h; exact h
    · intro a b ha hb h
      rcases ha with rfl | rfl <;> rcases hb with rfl | rfl <;> first | rfl | (simp [txA, txB] at h)
    · intro a ha; rcases ha with rfl | rfl <;> simp [txA, txB]
    · intro a ha i hi
      rcases ha with rfl | rfl <;> simp [txA, txB] at hi <;> subst hi <;> decide
  apply pool_inv_struct K2 W2 id univK2 ops2
  intro op ho t ht
  simp only [ops2, List.mem_cons, List.not_mem_nil, or_false] at ho
  rcases ho with rfl | rfl | rfl | rfl | rfl | rfl <;> simp [Op.txs] at ht <;> simp [W2, ht]
example : ((run K2 { utxo := [((1, 0), ⟨60, 1, false⟩)] } ops2).pool.map (·.1)) = [7] := by decide +kernel
-- two families joined by a child: the package rooted at 9 overlaps the already listed 7, 8 and is skipped
def txE : Tx := { id := 9, ins := [⟨2, 0, 0⟩], outs := [1], nws := 100, size := 100, scriptOk := true }
def txF : Tx := { id := 11, ins := [⟨8, 0, 0⟩, ⟨9, 0, 0⟩], outs := [1], nws := 100, size := 100, scriptOk := true }
def s4 : State :=
  (submitNet K0 0 (submitNet K0 0 { s2 with utxo := ((2, 0), ⟨10, 1, false⟩) :: s2.utxo } txE false).2 txF false).2
def pk9 : Pkg := { txs := [9, 7, 8, 11], fee := 69, weight := 1600 }
def pk7 : Pkg := { txs := [7, 8, 9, 11], fee := 69, weight := 1600 }
example : (sortedSlow K0 s4).Nodup ∧ ∀ b, b ∈ sortedSlow K0 s4 ↔ b ∈ s4.pool.map Prod.fst := by
  have H : ∀ p ∈ s4.pool, ∀ k ∈ memParents K0 p.2, (s4.pool.any fun q => q.1 = k) = true ∧ k < p.1 := by decide +kernel
  apply sorted_complete K0 s4 id (by decide)
  intro b t h k hk
  obtain ⟨h1, h2⟩ := H (b, t) h k hk
  obtain ⟨q, hq, e⟩ := List.any_eq_true.mp h1
  have hk' : q.1 = k := by simpa using e
  exact ⟨⟨q.2, hk' ▸ hq⟩, h2⟩
example : sortedSlow K0 s4 = [7, 8, 9, 11] := by decide +kernel
example : getSorted K0 s4 = [7, 8, 11, 9] ∨ getSorted K0 s4 = [7, 8, 9, 11] := by decide +kernel
example : pkgOK K0 s4 pk9 = true ∧ pkgOK K0 s4 pk7 = true := by decide +kernel
example : sortedRBF K0 s4 [pk7, pk9] = [7, 8, 9, 11] := by decide +kernel
-- the replacement that spends its own victim's output: a <- b pooled, c spends a's input and b's output
def txC : Tx := { id := 10, ins := [⟨1, 0, 0⟩, ⟨8, 0, 0⟩], outs := [1], nws := 100, size := 100, scriptOk := true }
example : (processTx K0 0 s2 txC {}).1 = R_BAD_INPUT := by decide +kernel
example : (processTx K0 0 s2 txC { trusted := true, loc := true }).1 = R_BAD_INPUT := by decide +kernel
example : (evict K0 s2 [8, 7]).isSome = true := by decide +kernel

example : PoolInv K3 ν3 (run K3 (genesis {} u3 0) ops3) := by
  exact pool_inv K3 W2 id u3 ν3 univ3 {} 0 ops3 hW3 valid3 (by decide)
example : ((run K3 (genesis {} u3 0) ops3).pool.map (·.1)) = [8, 7] ∨ ((run K3 (genesis {} u3 0) ops3).pool.map (·.1)) = [7, 8] := by
  decide +kernel
example : BlockOK (fun o => ((run K3 (genesis {} u3 0) ops3).utxo.get? o).isSome)
    ((recsOf (run K3 (genesis {} u3 0) ops3) (sortedRBF K3 (run K3 (genesis {} u3 0) ops3) [])).map (·.tx)) := by
  refine template_from_pool K3 W2 id u3 ν3 univ3 {} 0 ops3 hW3 valid3 (by decide) [] ?_ ?_
  · intro pk hpk; simp at hpk
  · intro _; decide
example : (recsOf (run K3 (genesis {} u3 0) ops3) (sortedRBF K3 (run K3 (genesis {} u3 0) ops3) [])).map (·.tx.id) = [7, 8] := by
  decide +kernel

/-- an incremental (non-dirty) list: the child txB is inserted below its parent txA by AddToSort -/
def ops4 : List Op := [.tip 5, .submitNet txA false 0, .submitNet txB false 0]
example : SortOK K3 (run K3 (genesis {} u3 0) ops4) := by
  apply sorted_list_inv K3 W2 id u3 ν3 univ3 {} 0 ops4
  · intro op ho t ht
    simp only [ops4, List.mem_cons, List.not_mem_nil, or_false] at ho
    rcases ho with rfl | rfl | rfl <;> simp [Op.txs] at ht <;> simp [W2, ht]
  · simp [ops4, ValidRun, ValidOp]
  · decide
  · decide
  · decide
example : (run K3 (genesis {} u3 0) ops4).sorted = [7, 8] ∧ (run K3 (genesis {} u3 0) ops4).sortDirty = false := by
  decide +kernel
example : RejInv K3 (run K3 (genesis {} u3 0) ops3) := by
  exact reject_index_inv K3 W2 id u3 ν3 univ3 {} 0 (by decide) ops3 hW3 valid3 (by decide)
-- refused loads: on the state after `ops3` (txA, txB pooled) with every cut position; and inside a trajectory — a
-- refused load between two submissions of txA (the second one is accepted again: the pool was emptied)
example : ∀ k j, Full K3 W2 u3 ν3 (loadRefused K3 (run K3 (genesis {} u3 0) ops3) k j) ∧
    RejInv K3 (loadRefused K3 (run K3 (genesis {} u3 0) ops3) k j) ∧
    SortInvP K3 (loadRefused K3 (run K3 (genesis {} u3 0) ops3) k j) := by
  have f := (carried_of_valid univ3 {} 0 ops3 hW3 valid3).2.full
  have r := reject_index_inv K3 W2 id u3 ν3 univ3 {} 0 (by decide) ops3 hW3 valid3 (by decide)
  intro k j
  exact (refused_load_inv K3 W2 u3 ν3 _ k j f r).1
def ms5 : List Move := [.op (.tip 5), .op (.submitNet txA false 0), .init 1 none, .op (.submitNet txA false 0)]
example : Full K3 W2 u3 ν3 (rrun K3 (genesis {} u3 0) ms5) ∧ RejInv K3 (rrun K3 (genesis {} u3 0) ms5) ∧
    SortInvP K3 (rrun K3 (genesis {} u3 0) ms5) := by
  refine resync_run_inv K3 W2 id u3 ν3 univ3 ms5 _ ?_ (full_genesis univ3 {} 0) (rejInv_genesis K3 {} u3 0 (by decide))
    (sort_genesis K3 {} u3 0)
  simp [ms5, RAdm, AdmOp, UndoOK, Op.txs, W2]
example : (rrun K3 (genesis {} u3 0) (ms5.take 2)).pool.map (·.1) = [7] ∧
    (rrun K3 (genesis {} u3 0) (ms5.take 3)).pool.map (·.1) = [] ∧
    (rrun K3 (genesis {} u3 0) ms5).pool.map (·.1) = [7] := by decide +kernel
example : ChainInv u3 ν3 (genesis {} u3 0) := chainInv_genesis univ3 {} 0
example : BlockValid u3 (genesis {} u3 0) [txA, txB] := by
  refine ⟨?_, ?_, ?_⟩
  · simp [BlockOK, Tx.inOps, TxIn.op, txA, txB, u3, genesis, inU, AList.get?, Tx.creates]
  · intro t ht
    simp only [List.mem_cons, List.not_mem_nil, or_false] at ht
    rcases ht with rfl | rfl <;> simp [Conf, genesis, u3, txA, txB, AList.get?]
  · simp [txA, txB]


/-! ### a history with blocks, an undo, expiry, eviction and a fee package (Proofs/C12Example.lean)
  `opsX` = tip 5, submit D, E, F, J, block 6 [D] (pooled D mined, its child E stays), undo 6 (D back, E re-flagged), resort,
  block 6 [F, J], tip 6, submit A, B, C (CPFP: fees 1 / 40 / 5), G, expire [D] (takes E along), BlockCommitInProgress,
  evict [G] (succeeds), resort, submit H (incremental insertion). `ValidRun` needs `BlockValid` of both block bodies in the
  states they are applied to (`validX`); the package [A, B, C] beats H in GetSortedMempoolRBF. -/
section rich
open GocoinV.Props.C12Ex

example : PoolInv KX νX (run KX (genesis {} uX 0) opsX) :=
  pool_inv KX WX id uX νX univX {} 0 opsX hWX validX aliveX
example : SortOK KX (run KX (genesis {} uX 0) opsX) :=
  sorted_list_inv KX WX id uX νX univX {} 0 opsX hWX validX aliveX cleanX wrapX
example : RejInv KX (run KX (genesis {} uX 0) opsX) :=
  reject_index_inv KX WX id uX νX univX {} 0 (by decide) opsX hWX validX aliveX
example : BlockOK (fun o => ((run KX (genesis {} uX 0) opsX).utxo.get? o).isSome)
    ((recsOf (run KX (genesis {} uX 0) opsX) (sortedRBF KX (run KX (genesis {} uX 0) opsX) pksX)).map (·.tx)) :=
  template_from_pool KX WX id uX νX univX {} 0 opsX hWX validX aliveX pksX pkgsX nowrapX
-- the package matters: with it the listing starts with A, B, C; without it H comes first
example : sortedRBF KX (run KX (genesis {} uX 0) opsX) pksX = [7, 8, 9, 14] ∧
    sortedRBF KX (run KX (genesis {} uX 0) opsX) [] = [14, 7, 8, 9] := by rw [finalX]; decide
-- the block removed the pooled D, the undo put it back, the eviction was a real one
example : ((sAt 5).pool.map (·.1)).contains 10 = true ∧ ((sAt 6).pool.map (·.1)).contains 10 = false ∧
    ((sAt 7).pool.map (·.1)).contains 10 = true ∧ (evict KX (sAt 16) [13]).isSome = true := by decide +kernel
-- resync edits on that state: a ring permutation / a list permutation are accepted, and keep the invariants
example : (ringorder (run KX (genesis {} uX 0) opsX) []).isSome = true ∧
    (setorder KX (run KX (genesis {} uX 0) opsX) [14, 7, 8, 9]).isSome = true := by rw [finalX]; decide
-- the panic-branch theorem applies to that state (its first conjunct, for the pooled A)
example : ∀ t, (run KX (genesis {} uX 0) opsX).pool.get? (KX.bidx t.tx.id) = some t →
    (minedFlags KX (run KX (genesis {} uX 0) opsX) t).panicked = (run KX (genesis {} uX 0) opsX).panicked := by
  have f := (carried_of_valid univX {} 0 opsX hWX validX).2.full
  intro t ht
  exact (panic_branches_unreachable KX WX id uX νX univX _).1 t f.chain (f.good aliveX) ht
-- `undo_leaves_no_immature_spend` applies to the undo of that history (state after 6 operations, block [D] undone)
example : ∃ s' txs, disconnectUtxo (sAt 6) = some (s', txs) ∧ txs = [tD] ∧
    ∀ b t, (step KX (sAt 6) (.undo 6 0)).pool.get? b = some t → unspendableAt (step KX (sAt 6) (.undo 6 0)) 6 t = false := by
  have hW6 : ∀ op ∈ opsX.take 6, ∀ t ∈ op.txs, WX t := fun op ho => hWX op (List.mem_of_mem_take ho)
  have v6 : ValidRun KX uX (genesis {} uX 0) (opsX.take 6) :=
    ⟨trivial, trivial, trivial, trivial, trivial, validX.2.2.2.2.2.1, trivial⟩
  have f : Full KX WX uX νX (sAt 6) := (carried_of_valid univX {} 0 (opsX.take 6) hW6 v6).2.full
  have a7 := admRun_genesis univX {} 0 opsX hWX validX
  have ha : AdmOp uX νX (sAt 6) (.undo 6 0) := a7.2.2.2.2.2.2.1
  cases hd : disconnectUtxo (sAt 6) with
  | none => exact absurd hd (by decide)
  | some p =>
    obtain ⟨s', txs⟩ := p
    refine ⟨s', txs, rfl, ?_, ?_⟩
    · have : (disconnectUtxo (sAt 6)).map (·.2) = some [tD] := by decide +kernel
      rw [hd] at this
      exact Option.some.inj this
    · exact undo_leaves_no_immature_spend KX WX id uX νX univX (sAt 6) s' txs 6 0 f hd ha (by decide)
example : better { tx := tB, fee := 40, volume := 50, mem := [true], memCnt := 1, loc := false, final := false }
    { tx := tA, fee := 1, volume := 100, mem := [], memCnt := 0, loc := false, final := false } = true := by decide
end rich

/-! ### the central theorems AT THE KEYS THE ORACLE EXECUTES (`realKeys`), over 256-bit txids (Proofs/C12Example2.lean)
  `opsR` (17 operations, reject ring of 3 slots): A ← B pooled, V refused (overspend, record without data), M pooled, resort,
  A2 REPLACES A (RBF: A and B leave as REPLACED records, the ring evicts V), C child of A2, orphan O (NO_TXOU, waits for a
  txid nobody has), `submitLocal` L, TRUSTED submit T (spends a mature coinbase), `submitLocal` A2 again (already pooled:
  LoadRawTx's "make as own", code 1001, Local set), block 501 [M] (the pooled M mined), tip, resort, save + RELOAD, resort.
  In the FINAL state the rejected list and the ring are NOT empty: O (202, data, Waiting4) and A (213 REPLACED, data);
  WaitingForInputs and RejectedSpentOutputs are non-empty; two ring evictions happened on the way. `msR` (22 moves) is that
  history behind a refused load (`init`), with a real `ring` edit (the two REPLACED records swapped — it changes which one
  the ring evicts later) and a real `sort` edit (a tie of the sorted list swapped). -/
section real
open GocoinV.Props.C12Ex2

example : Univ2 realKeys WR rankR uR νR := univR
example : PoolInv realKeys νR (run realKeys (genesis cfgR uR 0) opsR) :=
  pool_inv realKeys WR rankR uR νR univR cfgR 0 opsR hWR validR aliveR
example : SortOK realKeys (run realKeys (genesis cfgR uR 0) opsR) :=
  sorted_list_inv realKeys WR rankR uR νR univR cfgR 0 opsR hWR validR aliveR cleanR wrapR
example : RejInv realKeys (run realKeys (genesis cfgR uR 0) opsR) :=
  reject_index_inv realKeys WR rankR uR νR univR cfgR 0 capR opsR hWR validR aliveR
example : BlockOK (fun o => ((run realKeys (genesis cfgR uR 0) opsR).utxo.get? o).isSome)
    ((recsOf (run realKeys (genesis cfgR uR 0) opsR)
      (sortedRBF realKeys (run realKeys (genesis cfgR uR 0) opsR) pksR)).map (·.tx)) :=
  template_from_pool realKeys WR rankR uR νR univR cfgR 0 opsR hWR validR aliveR pksR pkgsR nowrapR
example : Full realKeys WR uR νR (rrun realKeys (genesis cfgR uR 0) msR) ∧ RejInv realKeys (rrun realKeys (genesis cfgR uR 0) msR) ∧
    SortInvP realKeys (rrun realKeys (genesis cfgR uR 0) msR) :=
  resync_run_inv realKeys WR rankR uR νR univR msR _ radmR (full_genesis univR cfgR 0)
    (rejInv_genesis realKeys cfgR uR 0 capR) (sort_genesis realKeys cfgR uR 0)
example : Full realKeys WR uR νR (rrun realKeys (genesis cfgR uR 0) msR) ∧ RejInv realKeys (rrun realKeys (genesis cfgR uR 0) msR) ∧
    SortInvP realKeys (rrun realKeys (genesis cfgR uR 0) msR) :=
  resync_run_inv_valid realKeys WR rankR uR νR univR cfgR 0 capR msR hWmR rvalidR
-- the key hypotheses of that universe come from `key_hypotheses_realKeys`
example : ∀ a b v w, Play WR a → Play WR b → VPlay WR v → VPlay WR w → realKeys.uidx a v = realKeys.uidx b w →
    a = b ∧ v = w :=
  (key_hypotheses_realKeys WR loR hiR vplayR).1.2.2.2
-- the final state: reject list and ring non-empty (an orphan with Waiting4 and a REPLACED record), pool of four
example : (run realKeys (genesis cfgR uR 0) opsR).rej.map (fun p => (p.2.id, p.2.reason, p.2.tx.isSome, p.2.waiting4)) =
      [(idO, 202, true, some idZ), (idA, 213, true, none)] ∧
    (run realKeys (genesis cfgR uR 0) opsR).ring = [some (realKeys.bidx idA), some (realKeys.bidx idO)] ∧
    (run realKeys (genesis cfgR uR 0) opsR).pool.map (fun p => (p.2.tx.id, p.2.loc)) =
      [(idA2, true), (idT, false), (idL, true), (idC, false)] := by rw [finalR]; decide +kernel
-- the replacement, the ring evictions, LoadRawTx on the pooled A2
example : (submitNet realKeys 0 (sR 6) xA2 false).1 = 0 ∧
    (sR 6).pool.map (·.2.tx.id) = [idM, idB, idA] ∧ (sR 7).pool.map (·.2.tx.id) = [idA2, idM] ∧
    (sR 6).rej.has (realKeys.bidx idV) = true ∧ (sR 7).rej.has (realKeys.bidx idV) = false ∧
    (submitLocal realKeys 0 (sR 11) xA2).1 = 1001 ∧
    ((sR 11).pool.get? (realKeys.bidx idA2)).map (·.loc) = some false ∧
    ((sR 12).pool.get? (realKeys.bidx idA2)).map (·.loc) = some true := by decide +kernel
end real

end GocoinV.Props.C12
