/-
  Props.C06 — property theorems for C06 (tip = most-work valid chain, UTXO = replay, undo leaves no residue),
  about the definitions of Model/UtxoOps.lean and Model/ChainTree.lean that the oracle executes and the
  harness compares with lib/chain + lib/utxo after every delivery.

  Proved here:
    * `commitTxs_valid` — every block `commitTxs` accepts yields changes satisfying `ValidChanges` (invariant of the
      input loop), hence `undo_commitTxs`: committing and undoing ANY accepted block restores every record
      (no side hypothesis besides BIP30 freshness of the block's txids);
    * the record-level core lemma `undo_commit` and the output-list algebra behind it;
    * the chain-level invariant `PathOK` (Spec/ChainReplay: unspent map = replay of the active branch as a partial
      function, tip/LastBlockHeight/tree links/stored blocks consistent, undo file of every active height above the
      floor = undo data of the active block) holds initially and is preserved by every primitive step that touches the
      unspent map: CommitBlock's tip extension (`replay_inv_extend`), UndoLastBlock (`replay_inv_undoLast`, incl.
      "does not panic"), the disconnect loop of MoveToBlock (`failed_reorg_no_residue_partial`), one successful
      iteration of ParseTillBlock (`replay_inv_connect`); DeleteBranch does not touch map / undo files / tip
      (`deleteBranch_keeps_map`); and for the model's actual `deliver`: `reorg_inv_partial` — the invariant holds after
      EVERY fork-free delivery sequence (each block on the then-current tip: accepted, rejected as invalid, or duplicate)
      — superseded by `reorg_inv` below, kept because its hypotheses are weaker (no block-tree assumption);
    * decision logic of deliveries (known block, orphan, extension accepted / rejected), exactness/asymmetry of the
      work comparison, and the counterexample showing that the tie-break after a failed reorganisation is NOT
      "first seen" (known finding, reproduced on the real code).

    * ALL HISTORIES: `reorg_inv` — after ANY finite sequence of deliveries drawn from a block tree `U`
      (`BlockTree`: ids determine blocks, no empty block, valid bits, BIP30 freshness along every branch of `U`, no branch
      longer than the 2560-block unwind window) the state satisfies `ChainInv`: tree well-formed (`TreeWF`), unspent map =
      replay of the active branch with every undo file in place (`PathOK`, floor 0), and the tip is a maximum-work node
      (`MaxWork`, exact rationals; `tip_has_max_work`); `deliver_keeps_invariant` — one delivery of any kind keeps the
      invariant, never panics (incl. never exhausting `fuelOf`), and moves the tip only to the delivered block or in the
      fall-back of a failed reorganisation; `tie_keeps_first_seen` — a side block without strictly more work never moves
      the tip; `failed_reorg_no_residue` — MoveToBlock from any invariant state to any node: no panic, map = replay of the
      branch it ends on, target reached with the tree untouched or (after a failure) tip = maximum-work node of the
      remaining tree; `morePOW_compares_work`, `farthest_is_max_work`.
      Proof: Proofs/C06Tree (tree as a partial function, ancestors, heights < #nodes), C06Work (Q in ℚ), C06MorePow,
      C06Farthest, C06Climb (MoveToBlock's loops, FindPathTo), C06Wf + C06Delete (TreeWF preserved; `subtree` = descendants),
      C06Reorg (mutual induction over the fuel for ParseTillBlock / fall-back / MoveToBlock with a quadratic fuel measure),
      C06Deliver, C06CommitNode (one delivery; induction over the history).
    * SIBLING ORDER: `deleteBranch_keeps_sibling_order` / `deleteBranch_parent_keeps_order` — DeleteBranch leaves
      every surviving node's child list unchanged except that the parent of the removed block loses exactly that block, the
      others keeping their (arrival) order (`filter` = `erase`; a swap-remove does not satisfy this);
      `sibling_order_after_delete_example` — a concrete run (4 siblings, the 2nd invalid, the 3rd and 4th tie) where that
      order decides the fall-back tip. Proofs/C06Delete.
    * VALIDITY: the invariant `ChainInv U E c` carries (a) COMPLETENESS w.r.t. the
      ghost list `E` of admitted deliveries — an admitted block is a node of the tree unless it or an ancestor fails `commitTxs`
      with the scripts checked on the replay of its parent's branch (`Excused`, `InvalidOnReplay`; step form
      `only_invalid_blocks_are_removed`; `tip_beats_every_valid_admitted_block` = `tip_has_max_work` over the admitted blocks
      whose branch is valid) — and (b) SCRIPT VALIDITY of the active branch (`active_branch_scripts_valid`,
      `commitTxs_checked_iff`); `failed_reorg_no_residue` has both. Proofs/C06Ext, C06Reorg, C06Deliver.
    * BLOCK LOOK-UPS: `deliverIdx` (8-byte `BlockIndex` key + whole-hash comparison, as the code since fix 533896f3; run by
      the oracle) equals `deliver` under `KeyOK` (`deliverIdx_is_deliver`); `prefix_only_parent_is_unknown`; for whole
      histories under `KeysDistinct`: `deliverIdx_history_is_deliver_history`. Proofs/C06Idx, C06IdxAll.
    * TRANSACTION ORDER: `commitTxs_refuses_spend_of_later_tx`, `misordered_block_never_replays`,
      `active_branch_blocks_are_ordered`. Proofs/C06TxOrder.
    * NON-VACUITY: a concrete forked block tree satisfying `BlockTree` with a failed reorganisation (Proofs/C06Example;
      the `example`s and `exInv` … `exNotExcused1` here), and `script_failure_example`.
    * HEADER-FIRST DELIVERY: the client receives every block header first — AcceptHeader on the
      80 header bytes (`header`), later CommitBlock on the node that exists already (`commitNode`, after the client's
      HasAllParents test) — so the tree holds nodes WITHOUT DATA (`txCount = 0`, nothing stored). `TreeWF` allows them
      (`hdr`: not stored; `anc`: the nodes with data are closed under "parent"), `MaxWork` ranges over the nodes that HAVE
      their data, and ParseTillBlock's fall-back is `farthestS` = findFarthestWithData (fix c3d926ba; FindFarthestNode also
      returns header-only leaves, which MoveToBlock cannot reach: endless recursion / stuck on the fork point in the code).
      `step_keeps_invariant`, `reorg_inv_ops`, `tip_has_max_work_ops`, `tip_beats_every_valid_admitted_block_ops` — the
      all-histories theorems for histories of the three operations `header` / `commit` / `block` (`Op`, `step`), under the
      side conditions `OpOK` / `ClientLike`; `header_changes_only_the_tree`; `fallback_target_has_data`; `stepIdx_is_step`
      (the oracle's 8-byte look-ups); kernel-checked runs `header_only_leaf_misleads_old_fallback_example`,
      `commit_outcomes_example`. A block refused on the tip is unlinked while its header-only descendants stay in
      BlockIndex: the model keeps them in `limbo`, never looked at by tip selection. The theorems about `deliver` alone are
      the special case without header-only nodes (`blocks_only_no_header_only_node`); their step forms carry the side
      condition "the parent, if known, has its data". Proofs/C06Farthest, C06HasAll, C06Header, C06CommitNode, C06Ops,
      C06Idx; C06Wf (TreeWF_header / TreeWF_filled), C06Climb, C06Delete, C06Reorg, C06Deliver.
  What the statement does NOT cover (assumptions of `BlockTree`, all explicit): branches longer than 2560 blocks (undo data
  not written for the early blocks of a long ParseTillBlock, undo files pruned and keyed by height only); blocks re-using a
  txid that is still unspent on their own branch; the code's float64 work sums (the model compares exact rationals — known
  finding float-work-exact-tie); "first seen" among equal-work leaves after a FAILED reorganisation (FindFarthestNode takes
  the first child — `tie_after_failed_reorg_counterexample`, known finding).
-/
import GocoinV.Model.ChainTree
import GocoinV.Proofs.C06Utxo
import GocoinV.Proofs.C06Chain
import GocoinV.Proofs.C06CommitTxs
import GocoinV.Proofs.C06Path
import GocoinV.Proofs.C06Deliver
import GocoinV.Proofs.C06Idx
import GocoinV.Proofs.C06TxOrder
import GocoinV.Proofs.C06Example
import GocoinV.Proofs.C06Ops
import GocoinV.Proofs.C06IdxAll
namespace GocoinV.Props.C06
open GocoinV.UtxoOps GocoinV.ChainTree

/-- **Core lemma (record level).** If `ch` is what `commitTxs` produced for a block with transaction ids `txids`
on the unspent map `u` (delete list with distinct, present keys; undo data = the spent outputs of exactly those
records; the block's own txids not in `u`; added records belong to the block), then committing the block and
undoing it with that undo data gives back, under EVERY key, exactly the record that was there before — including
partially spent multi-output records (merged back into the surviving record), fully spent records (re-created
from the undo record alone) and records created and spent inside the block (removed). -/
theorem undo_commit (u : DB) (txids : List Nat) (ch : Changes) (hv : ValidChanges u txids ch) :
    ∀ k, (undoBlock (commit u ch) txids ch.undo).get k = u.get k :=
  undo_commit_get u txids ch hv

/-- The same at the level of the abstraction `abs : DB → (OutPoint ⇀ Coin)`: disconnecting a block restores every
output it spent and removes every output it created. -/
theorem undo_commit_abs (u : DB) (txids : List Nat) (ch : Changes) (hv : ValidChanges u txids ch) :
    ∀ t v, UtxoOps.abs (undoBlock (commit u ch) txids ch.undo) t v = UtxoOps.abs u t v := by
  intro t v
  unfold UtxoOps.abs unspentGet
  rw [undo_commit u txids ch hv t]

/-- `undo_commit` with its hypothesis in the executable form that the oracle evaluates for every block the model
connects during the correspondence run (`Chain.vcBad` counts failures; the harness requires 0). -/
theorem undo_commit_checked (u : DB) (txids : List Nat) (ch : Changes)
    (h : validChangesB u txids ch = true) :
    ∀ k, (undoBlock (commit u ch) txids ch.undo).get k = u.get k :=
  undo_commit u txids ch (validChangesB_sound u txids ch h)

/-- **`commitTxs` produces valid changes.** Whenever `commitTxs` accepts a block's transactions on the unspent map `u`
(for any height, reward and trusted flag) and none of the block's txids is in `u` (BIP30), the delete list has distinct
keys that are all present in `u`, the undo data is exactly the spent outputs of exactly those records (delete list and
undo list aligned), and every added record belongs to the block — the hypothesis of `undo_commit`. -/
theorem commitTxs_valid (u : DB) (h rwd : Nat) (tr : Bool) (txs : List Tx) (ch : Changes)
    (hok : commitTxs u h rwd tr txs = .ok ch) (hfresh : ∀ t ∈ txs.map (·.txid), u.get t = none) :
    ValidChanges u (txs.map (·.txid)) ch :=
  commitTxs_validChanges u h rwd tr txs ch hok hfresh

/-- **Disconnecting any accepted block restores the map** — `undo_commit` without a side hypothesis on the changes:
for every block `commitTxs` accepts, committing its changes and then running `UndoBlockTxs` with the undo data it
produced gives back, under every key, exactly the record that was there before. -/
theorem undo_commitTxs (u : DB) (h rwd : Nat) (tr : Bool) (txs : List Tx) (ch : Changes)
    (hok : commitTxs u h rwd tr txs = .ok ch) (hfresh : ∀ t ∈ txs.map (·.txid), u.get t = none) :
    ∀ k, (undoBlock (commit u ch) (txs.map (·.txid)) ch.undo).get k = u.get k :=
  undo_commit u _ ch (commitTxs_valid u h rwd tr txs ch hok hfresh)

/-- Partially spent record: merging the undo record (spent outputs only) into what `del` left gives the original
output list, for any spent-flag list. -/
theorem merge_restores_record (outs : List (Option Out)) (rm : List Bool) :
    mergeOuts (maskOuts outs rm) (delOuts outs rm) = outs :=
  merge_mask_del outs rm

/-- Fully spent record: when `del` removed the record (no output left), the undo record alone IS the original. -/
theorem undo_record_is_whole_when_all_spent (outs : List (Option Out)) (rm : List Bool)
    (h : (delOuts outs rm).any Option.isSome = false) : maskOuts outs rm = outs :=
  mask_eq_of_del_empty outs rm h

/-- The exact work comparison is asymmetric: two branches can never each have "more" work than the other
(so equal work never triggers `MoveToBlock` in the model; the code's float sums can differ here only by rounding). -/
theorem work_gt_asymm (a b : Q) (h : a.gt b = true) : b.gt a = false := by
  unfold Q.gt at *
  simp only [decide_eq_true_eq, decide_eq_false_iff_not] at *
  omega

/-- and irreflexive: a branch never has more work than itself. -/
theorem work_gt_irrefl (a : Q) : a.gt a = false := by
  unfold Q.gt; simp

/-- A block that is already in the tree is refused as duplicate and nothing changes. -/
theorem deliver_known_is_noop (c : Chain) (b : Block) (h : (getNode c b.id).isSome = true) :
    deliver c b = (c, Outcome.dup) := by
  unfold deliver; simp [h]

/-- A block whose parent is not in the tree is refused ("maybe later") and nothing changes — children delivered
before their parents never enter the tree. -/
theorem deliver_orphan_is_refused (c : Chain) (b : Block) (h1 : getNode c b.id = none)
    (h2 : getNode c b.parent = none) : deliver c b = (c, Outcome.later) := by
  unfold deliver; simp [h1, h2]

/-- **Extending the tip.** A block on the current tip whose transactions `commitTxs` accepts becomes the tip, and the
unspent map is exactly `commit` of the changes `commitTxs` computed (no other effect on the map). -/
theorem commitBlock_extends (c : Chain) (b : Block) (h : Nat) (ch : Changes)
    (htip : c.tip = b.parent)
    (hok : commitTxs c.utxo h (reward h) false b.txs = .ok ch) :
    (commitBlock c b h).2 = Outcome.ok ∧ (commitBlock c b h).1.tip = b.id ∧
    (commitBlock c b h).1.utxo = commit c.utxo ch ∧ (commitBlock c b h).1.lastHeight = h := by
  unfold commitBlock
  simp only [modNode, htip, beq_self_eq_true, if_true, hok]
  exact ⟨trivial, trivial, (cbt_fields _ h true _ ch).1, (cbt_fields _ h true _ ch).2.1⟩

/-- **Invalid extension.** A block on the current tip that `commitTxs` rejects leaves tip and unspent map untouched
and is removed from the tree again (so its descendants are refused as orphans). -/
theorem commitBlock_rejects (c : Chain) (b : Block) (h : Nat) (e : Err)
    (htip : c.tip = b.parent)
    (herr : commitTxs c.utxo h (reward h) false b.txs = .error e) :
    (commitBlock c b h).2 = Outcome.rejected e ∧ (commitBlock c b h).1.tip = c.tip ∧
    (commitBlock c b h).1.utxo = c.utxo ∧ (getNode (commitBlock c b h).1 b.id) = none := by
  rw [commitBlock_tip_err c b h e htip herr]
  exact ⟨rfl, htip.symm, rfl, by rw [getNode_rejectedChain, if_pos rfl]⟩

/-- **Disconnecting a block leaves no residue (chain level, one block).** After a block was connected on the tip
(`commitBlock`, extension branch), `UndoLastBlock` succeeds — it finds the stored block and the undo file that
`CommitBlockTxs` wrote under that height — and gives back the previous tip, the previous `LastBlockHeight` and, under
every key, the previous unspent record. -/
theorem extend_then_undo (c : Chain) (b : Block) (h : Nat) (ch : Changes) (n : Node)
    (htip : c.tip = b.parent)
    (hok : commitTxs c.utxo h (reward h) false b.txs = .ok ch)
    (hfresh : ∀ t ∈ b.txs.map (·.txid), c.utxo.get t = none)
    (hn : getNode (commitBlock c b h).1 b.id = some n) (hp : n.parent = b.parent) :
    ∃ c2, undoLast (commitBlock c b h).1 = .ok c2 ∧ c2.tip = c.tip ∧
      (∀ k, c2.utxo.get k = c.utxo.get k) ∧ c2.lastHeight = h - 1 := by
  have hid := getNode_id hn
  rw [commitBlock_ok_eq c b h ch htip hok] at hn ⊢
  have hf := cbt_fields (preCommit c b) h true (b.txs.map (·.txid)) ch
  refine ⟨_, undoLast_ok _ n { txs := b.txs, trusted := true } ch.undo hn ?_ ?_, ?_, ?_, ?_⟩
  · simp only [cbt_store, hid]; exact alookup_aset _ _ _
  · simp only [hf.2.1]; exact cbt_undo_file (preCommit c b) h _ ch
  · simp only [hp, htip]
  · intro k
    simp only [hf.1]
    exact undo_commit_get c.utxo _ ch (commitTxs_valid c.utxo h (reward h) false b.txs ch hok hfresh) k
  · simp only [hf.2.1]

-- ------------------------------------------------------------------------------------------ UTXO = replay of the active branch

/-- the invariant holds in the initial state (empty branch, empty map) -/
theorem replay_inv_init (r bits : Nat) : PathOK (ChainTree.init r bits) 0 [] := init_path r bits

/-- **Tip extension keeps "UTXO = replay".** If the invariant holds for the active branch `path` and a block on the tip
(its node already added by AcceptHeader, id not on the path) is accepted by `commitTxs` at height |path|+1 with fresh
txids, then after `CommitBlock` the invariant holds for the branch extended by that block: the unspent map is the
replay of the longer branch and its undo file is in place. -/
theorem replay_inv_extend (c : Chain) (fl : Nat) (path : List PE) (h : PathOK c fl path) (b : Block) (ch : Changes)
    (htip : c.tip = b.parent) (hnode : ∃ n, getNode c b.id = some n ∧ n.parent = b.parent)
    (hnew : ∀ e ∈ path, e.id ≠ b.id)
    (hok : commitTxs c.utxo (path.length + 1) (reward (path.length + 1)) false b.txs = .ok ch)
    (hfresh : ∀ t ∈ b.txs.map (·.txid), c.utxo.get t = none) :
    PathOK (commitBlock c b (path.length + 1)).1 (max fl (path.length + 1 - UnwindBufLen)) (⟨b.id, b.txs⟩ :: path) :=
  commitBlock_path c fl path h b ch htip hnode hnew hok hfresh

/-- **UndoLastBlock keeps "UTXO = replay" and cannot panic under the invariant**: tip node, stored block and undo file
are found, and afterwards the invariant holds for the branch without its tip (map = replay of the shorter branch). -/
theorem replay_inv_undoLast (c : Chain) (fl : Nat) (e : PE) (rest : List PE) (h : PathOK c fl (e :: rest))
    (hfl : rest.length + 1 > fl) : ∃ c', undoLast c = .ok c' ∧ PathOK c' fl rest := by
  obtain ⟨c', h1, h2, _⟩ := undoLast_path c fl e rest h hfl
  exact ⟨c', h1, h2⟩

/-- **One successful iteration of ParseTillBlock keeps "UTXO = replay".** `parseTill (f+1) c e`, when the next block
`nx` on the way to `e` hangs below the tip at height |path|+1, is stored, is accepted by `commitTxs` (scripts skipped
iff stored as trusted) with fresh txids and lies within UnwindBufLen of the target, continues as `parseTill f c' e`
with a state `c'` that satisfies the invariant for the branch extended by `nx`. -/
theorem replay_inv_connect (f : Nat) (c : Chain) (fl : Nat) (path : List PE) (h : PathOK c fl path)
    (e nx : Nat) (last en nxt : Node) (blk : Stored) (ch : Changes)
    (hne : c.tip ≠ e) (hlast : getNode c c.tip = some last) (hen : getNode c e = some en)
    (hpath : findPathTo c last en = .ok (some nx)) (hnxt : getNode c nx = some nxt) (htx : nxt.txCount ≠ 0)
    (hpar : nxt.parent = c.tip) (hh : nxt.height = path.length + 1) (hw : nxt.height + UnwindBufLen ≥ en.height)
    (hblk : alookup nx c.store = some blk)
    (hok : commitTxs c.utxo nxt.height (reward nxt.height) blk.trusted blk.txs = .ok ch)
    (hfresh : ∀ t ∈ blk.txs.map (·.txid), c.utxo.get t = none) :
    ∃ c', parseTill (f + 1) c e = parseTill f c' e ∧
      PathOK c' (max fl (path.length + 1 - UnwindBufLen)) (⟨nx, blk.txs⟩ :: path) := by
  refine ⟨_, parseTill_step f c e nx last en nxt blk ch hne hlast hen hpath hnxt htx hblk hok, ?_⟩
  rw [decide_eq_true hw]
  exact parseStep_path c fl path h nx nxt blk ch hnxt hpar hh hblk hok hfresh

/-- **A reorganisation's disconnect phase leaves no residue** (proved part of failed_reorg_no_residue). If the
invariant holds for the active branch `pre ++ post`, where `post` ends in the common block `anc` that MoveToBlock's
three climbing loops find, then `MoveToBlock` does not panic while disconnecting the blocks `pre`, and continues as
ParseTillBlock from a state whose unspent map is exactly the replay of `post` (tip = common block, LastBlockHeight =
|post|, undo files of `post` intact, tree and block store untouched). Together with `replay_inv_connect` (each block
connected afterwards) and `deleteBranch_keeps_map` (a block that fails) this covers every step of a completed or
failed reorganisation; they are composed through the mutual recursion in `failed_reorg_no_residue` below. -/
theorem failed_reorg_no_residue_partial (f : Nat) (c : Chain) (fl : Nat) (pre post : List PE) (dst : Nat)
    (d lb cur lb2 anc : Node)
    (h : PathOK c fl (pre ++ post)) (hfl : post.length ≥ fl)
    (hd : getNode c dst = some d) (hlb : getNode c c.tip = some lb)
    (h1 : climbChecked c lb.height (d.height + 1) d = .ok (some cur))
    (h2 : climbChecked c cur.height (lb.height + 1) lb = .ok (some lb2))
    (h3 : commonAnc c (cur.height + 2) lb2 cur = .ok (some anc))
    (hanc : anc.id = headId c post) (hne : ∀ e ∈ pre, e.id ≠ anc.id) (hh : lb.height + 1 ≥ pre.length) :
    ∃ c1, PathOK c1 fl post ∧ c1.nodes = c.nodes ∧ c1.store = c.store ∧
      moveTo (f + 1) c dst = parseTill f c1 dst := by
  obtain ⟨c1, hp, hn, hs, _, hm⟩ := moveTo_unwind f c fl pre post dst d lb cur lb2 anc h hfl hd hlb h1 h2 h3 hanc hne hh
  exact ⟨c1, hp, hn, hs, hm⟩

/-- **reorg_inv for fork-free histories** (proved part of reorg_inv, about the model's actual `deliver`). For every
sequence of deliveries in which each block names the then-current tip as its parent and re-uses no txid still in the map
(BIP30) — whether the block is then accepted, rejected as invalid by `commitTxs` (any of its error kinds) or refused as a
duplicate — the state after the whole sequence satisfies the invariant for some active branch: the unspent map equals the
replay of that branch from the empty map, tip / LastBlockHeight / tree links / stored blocks are consistent with it, every
undo file above the floor holds the undo data of the active block at that height, and the tip node's height is the
branch length. (All histories, incl. side branches and reorganisations: `reorg_inv` below, under the `BlockTree` assumptions.) -/
theorem reorg_inv_partial (r bits : Nat) (bs : List Block) (h : OnTip (ChainTree.init r bits) bs) :
    ∃ fl path, PathOKH (bs.foldl (fun c b => (deliver c b).1) (ChainTree.init r bits)) fl path :=
  deliver_all_on_tip bs _ 0 [] (init_pathH r bits) h

/-- One delivery on the tip keeps the invariant, whatever the outcome (accepted / rejected / duplicate). -/
theorem replay_inv_deliver_on_tip (c : Chain) (fl : Nat) (path : List PE) (h : PathOKH c fl path) (b : Block)
    (hpar : b.parent = c.tip) (hfresh : ∀ t ∈ b.txs.map (·.txid), c.utxo.get t = none) :
    ∃ fl' path', PathOKH (deliver c b).1 fl' path' :=
  deliver_on_tip c fl path h b hpar hfresh

/-- DeleteBranch (a block that fails when connected, with its descendants) touches neither the unspent map nor the
undo files, the tip or LastBlockHeight. -/
theorem deleteBranch_keeps_map (c : Chain) (id : Nat) :
    (deleteBranch c id).utxo = c.utxo ∧ (deleteBranch c id).undoFiles = c.undoFiles ∧
    (deleteBranch c id).tip = c.tip ∧ (deleteBranch c id).lastHeight = c.lastHeight := by
  obtain ⟨h1, h2, h3, h4, _⟩ := deleteBranch_fields c id
  exact ⟨h1, h2, h3, h4⟩

-- ------------------------------------------------------------------------------------------ all histories

/-- the invariant of the chain state w.r.t. the block tree `U` the deliveries are drawn from and the GHOST list `E` of the
ids admitted so far (`Outcome.admitted`: every delivery that was not turned away as duplicate / orphan / too deep): the
tree is well-formed (`TreeWF`); the unspent map is the replay of the active branch with tip / LastBlockHeight / links /
stored blocks / every undo file consistent (`PathOK` with floor 0, tip node height = branch length); EVERY BLOCK OF THE
ACTIVE BRANCH PASSED ITS SCRIPT ORACLE (`scripts`; maintained through `ext`: every block of the branch is stored with the
trusted mark, and that mark is only ever set after `commitTxs` ran with the scripts checked); the tip is a maximum-work
node (`MaxWork`, exact rational work); and the tree is COMPLETE (`complete`): every admitted block is a node of the
tree, unless it or one of its ancestors fails `commitTxs` (scripts checked) on the replay of its parent's branch
(`Excused` / `InvalidOnReplay`) — so `MaxWork`'s "every node of the tree" ranges over every admitted block whose
whole branch is valid on replay (`tip_beats_every_valid_admitted_block`). -/
structure ChainInv (U : List Block) (E : List Nat) (c : Chain) : Prop where
  wf : TreeWF U c
  path : ∃ path, PathOK c 0 path ∧ (∃ t, getNode c c.tip = some t ∧ t.height = path.length) ∧
    (∀ e ∈ path, scriptsPass e.txs = true) ∧ Ext c path
  maxw : MaxWork c
  complete : Complete U c.root E c

theorem chainInv_iff {U : List Block} {E : List Nat} {c : Chain} (hU : BlockTree c.root U) :
    ChainInv U E c ↔ Inv U c ∧ Complete U c.root E c := by
  constructor
  · rintro ⟨w, ⟨path, hp, ht, _, hx⟩, hm, hc⟩; exact ⟨⟨w, ⟨path, ⟨hp, ht⟩, hx⟩, (MaxW_iff w hU).mp hm⟩, hc⟩
  · rintro ⟨⟨w, ⟨path, ⟨hp, ht⟩, hx⟩, hm⟩, hc⟩
    exact ⟨w, ⟨path, hp, ht, hx.scripts hp.linked, hx⟩, (MaxW_iff w hU).mpr hm, hc⟩

/-- **One delivery, any kind.** From a state satisfying the invariant, delivering ANY block of the block tree — a
duplicate, an orphan, a block too deep below the tip, a tip extension (accepted, or rejected by any `commitTxs` error), a
side block that is stored aside, or a side block with more work that triggers MoveToBlock and is reached, or whose
branch turns out invalid while being connected (DeleteBranch + fall-back to FindFarthestNode) — (a) never panics (no nil
node, no missing block or undo file, and the fuel `fuelOf` is never exhausted), (b) gives a state that again satisfies the
whole invariant: well-formed tree, unspent map = replay of the active branch, tip = a maximum-work node of the tree, and
(c) moves the tip only to the delivered block itself or — outcome `moveFailed` — in the fall-back after a failed
reorganisation. -/
theorem deliver_keeps_invariant (U : List Block) (E : List Nat) (c : Chain) (hi : ChainInv U E c) (hU : BlockTree c.root U)
    (b : Block) (hb : b ∈ U) (hpd : ∀ p, getNode c b.parent = some p → HasData c b.parent p) :
    ChainInv U (deliverG (c, E) b).2 (deliver c b).1 ∧ (∀ s, (deliver c b).2 ≠ Outcome.panic s) ∧
    ((deliver c b).1.tip = c.tip ∨ (deliver c b).1.tip = b.id ∨ (deliver c b).2 = Outcome.moveFailed) := by
  obtain ⟨hi', hc⟩ := (chainInv_iff hU).mp hi
  have h := (deliver_ok hi' hU b hb hpd).1
  have k := h.invC ⟨hU, hi', hc⟩
  exact ⟨(chainInv_iff k.tree).mpr ⟨k.inv, k.complete⟩, h.noPanic, h.tip⟩

-- OPEN: two Go panics have no counterpart in the model, so "never panics" above does not cover them:
--   (1) BlockDB.BlockInvalid → "Trusted block cannot be invalid" when DeleteBranch (or delAllChildren) flags a block whose
--       store record carries the trusted mark. Full statement: in every state reached by a history (`ChainInv`), whenever
--       ParseTillBlock's `commitTxs` refuses the stored block `nx`, no block of `subtree nx` is stored with `trusted = true`.
--       Informal argument: the mark is set only after `commitTxs` accepted the block on the replay of its own branch
--       (`Ext` / `TrustedOK`), ids determine branches, `commitTxs` is a function of (map, height, block) — so a marked block
--       and every ancestor of it connect again. Needs an invariant "every marked block is valid on the replay of its
--       branch" carried through PSpec/ASpec/MSpec; not done. The harness observes this panic as an outcome (corpus
--       scenario invalid-parent-with-child-after-idle is the witness of the fix of one such case).
--   (2) BlockTreeNode.delChild → "Child not found" unless the node occurs EXACTLY once in its parent's `Childs`. `TreeWF.par`
--       gives "at least once"; "at most once" (`Nodup` of every child list: AcceptHeader appends a node only when its id is
--       not in BlockIndex) is not part of `TreeWF` — `deleteBranch_keeps_sibling_order` takes it as a hypothesis.

/-- **Only invalid blocks and their descendants are ever removed, and an admitted block is in the tree or excused** (one
delivery; part (a) of the invariant, stated for the step): from a state satisfying the invariant, (1) every node of the
tree that is no longer a node after the delivery is `Excused` — it, or one of its ancestors in the block tree, fails
`commitTxs` with the scripts checked on the replay of its parent's branch; (2) if the delivered block itself is not a node
afterwards then it was turned away as an orphan (`later`: its parent was not a node) or as too deep, or it is excused
(this covers a tip extension that `commitTxs` refuses, and a block deleted again together with an invalid ancestor in
the reorganisation it triggered). -/
theorem only_invalid_blocks_are_removed (U : List Block) (E : List Nat) (c : Chain) (hi : ChainInv U E c)
    (hU : BlockTree c.root U) (b : Block) (hb : b ∈ U) (hpd : ∀ p, getNode c b.parent = some p → HasData c b.parent p) :
    (∀ x, (getNode c x).isSome = true → getNode (deliver c b).1 x = none → Excused U c.root x) ∧
    (getNode (deliver c b).1 b.id = none →
      (deliver c b).2 = Outcome.later ∨ (deliver c b).2 = Outcome.tooDeep ∨ Excused U c.root b.id) := by
  obtain ⟨h, _, h5⟩ := deliver_ok ((chainInv_iff hU).mp hi).1 hU b hb hpd
  exact ⟨h.lost, h5⟩

/-- **reorg_inv — after ANY sequence of deliveries.** Let `U` be a block tree (`BlockTree`: ids determine blocks, no
empty block, valid bits, BIP30 freshness along every branch, no branch longer than the 2560-block unwind window) and `ds`
ANY finite sequence of deliveries of blocks of `U` — any order, repetitions, children before parents, competing branches,
branches that turn out invalid only when they are connected. Then the state reached from the initial one satisfies the
invariant: the tree is well-formed, the unspent map equals (as a partial function) the replay from the empty map of an
active branch that is linked from the tip to the root, with LastBlockHeight = its length, every block stored and every
undo file in place — and the tip is a maximum-work node: no node of the tree (i.e. no known, fully stored block not yet
found invalid) has more cumulative work, compared exactly. -/
theorem reorg_inv (r bits : Nat) (U ds : List Block) (hbits : bits % 0x1000000 ≠ 0) (hU : BlockTree r U)
    (hds : ∀ b ∈ ds, b ∈ U) :
    ChainInv U (ds.foldl deliverG (ChainTree.init r bits, [])).2
      (ds.foldl (fun c b => (deliver c b).1) (ChainTree.init r bits)) := by
  have h := (deliver_history r bits U ds hbits hU hds).1
  exact (chainInv_iff h.tree).mpr ⟨h.inv, h.complete⟩

/-- **A chain that was only ever fed whole blocks has no header-only node**: after any sequence of `deliver`s (CheckBlock +
AcceptBlock: header and data at once) every node of the tree has its data — so in `reorg_inv` / `tip_has_max_work` for such
histories "the nodes that have their data" are ALL nodes, and the side condition of the step theorems ("the parent, if
known, has its data") holds by itself. Header-first histories: `reorg_inv_ops`. -/
theorem blocks_only_no_header_only_node (r bits : Nat) (U ds : List Block) (hbits : bits % 0x1000000 ≠ 0) (hU : BlockTree r U)
    (hds : ∀ b ∈ ds, b ∈ U) (x : Nat) (n : Node)
    (hn : getNode (ds.foldl (fun c b => (deliver c b).1) (ChainTree.init r bits)) x = some n) :
    HasData (ds.foldl (fun c b => (deliver c b).1) (ChainTree.init r bits)) x n :=
  (deliver_history r bits U ds hbits hU hds).2.1 x n hn

/-- **The tip is a maximum-work valid leaf** (second half of the property, for the model's exact rational work): after
any sequence of deliveries drawn from a block tree, no node of the tree that has its data (in such a history every node
has: `blocks_only_no_header_only_node`) has more cumulative work than the tip. Which
blocks ARE nodes of the tree is the `complete` part of the invariant — see `tip_beats_every_valid_admitted_block`. (Work
grows strictly along a branch, so "every node" and "every leaf" are the same statement.) Ties: see `tie_keeps_first_seen`
and `tie_after_failed_reorg_counterexample`. -/
theorem tip_has_max_work (r bits : Nat) (U ds : List Block) (hbits : bits % 0x1000000 ≠ 0) (hU : BlockTree r U)
    (hds : ∀ b ∈ ds, b ∈ U) :
    MaxWork (ds.foldl (fun c b => (deliver c b).1) (ChainTree.init r bits)) :=
  (reorg_inv r bits U ds hbits hU hds).maxw

/-- **The tip has at least the work of every admitted block whose whole branch is valid** — `tip_has_max_work` restated
over the delivered blocks instead of "the nodes currently in the tree": after any sequence of deliveries drawn from a block
tree, every block `x` that was admitted on the way (its delivery was not turned away as duplicate / orphan / too deep) and
is not `Excused` — neither it nor any of its ancestors fails `commitTxs`, scripts checked, on the replay of its parent's
branch — is a node of the tree, and its cumulative work is not greater than the tip's. -/
theorem tip_beats_every_valid_admitted_block (r bits : Nat) (U ds : List Block) (hbits : bits % 0x1000000 ≠ 0)
    (hU : BlockTree r U) (hds : ∀ b ∈ ds, b ∈ U) (x : Nat)
    (hx : x ∈ (ds.foldl deliverG (ChainTree.init r bits, [])).2)
    (hvalid : ¬ Excused U (ds.foldl (fun c b => (deliver c b).1) (ChainTree.init r bits)).root x) :
    ∃ t n, getNode (ds.foldl (fun c b => (deliver c b).1) (ChainTree.init r bits))
             (ds.foldl (fun c b => (deliver c b).1) (ChainTree.init r bits)).tip = some t ∧
      getNode (ds.foldl (fun c b => (deliver c b).1) (ChainTree.init r bits)) x = some n ∧
      (workOf (ds.foldl (fun c b => (deliver c b).1) (ChainTree.init r bits)) n).gt
        (workOf (ds.foldl (fun c b => (deliver c b).1) (ChainTree.init r bits)) t) = false := by
  have hi := reorg_inv r bits U ds hbits hU hds
  obtain ⟨t, ht, hmax⟩ := hi.maxw
  obtain ⟨n, hn⟩ := Option.isSome_iff_exists.mp ((hi.complete x hx).resolve_right hvalid)
  exact ⟨t, n, ht, hn, hmax x n hn (blocks_only_no_header_only_node r bits U ds hbits hU hds x n hn)⟩

/-- **Every block of the active branch passed its script oracle** (part (b) of the invariant): after any sequence of
deliveries drawn from a block tree there is an active branch `path` — the one whose replay IS the unspent map — such that
every non-coinbase transaction of every block of it has `scriptsOk` (the result of VerifyTxScript over its inputs; an
input of this model, property C01). The replay itself (`replay`) skips scripts; this is what says they were run. -/
theorem active_branch_scripts_valid (r bits : Nat) (U ds : List Block) (hbits : bits % 0x1000000 ≠ 0) (hU : BlockTree r U)
    (hds : ∀ b ∈ ds, b ∈ U) :
    ∃ path, PathOK (ds.foldl (fun c b => (deliver c b).1) (ChainTree.init r bits)) 0 path ∧
      ∀ e ∈ path, scriptsPass e.txs = true := by
  obtain ⟨path, hp, _, hs, _⟩ := (reorg_inv r bits U ds hbits hU hds).path
  exact ⟨path, hp, hs⟩

/-- the replay with scripts skipped and `scriptsPass` together are the replay with scripts checked: a block that
`commitTxs` accepts with `trusted = true` and whose scripts all pass is accepted, with the same changes, with
`trusted = false`; and acceptance with the scripts checked implies `scriptsPass`. -/
theorem commitTxs_checked_iff (u : DB) (h rwd : Nat) (txs : List Tx) (ch : Changes) :
    commitTxs u h rwd false txs = .ok ch ↔ (commitTxs u h rwd true txs = .ok ch ∧ scriptsPass txs = true) := by
  rcases commitTxs_cases u h txs with hp | ⟨he, r, hp⟩
  · obtain ⟨_, e, h2⟩ := commitTxs_early u h rwd false false txs hp
    obtain ⟨_, e', h3⟩ := commitTxs_early u h rwd true true txs hp
    simp [h2, h3]
  · rw [commitTxs_of_loop u h rwd false txs r he hp, commitTxs_of_loop u h rwd true txs r he hp]
    obtain ⟨st, sin, sout, ok⟩ := r
    have hf := procTxs_flag u h txs true _ st sin sout ok hp
    unfold commitFinish scriptsPass
    rw [← hf]
    cases ok <;> simp

/-- **The order of a block's transactions is part of its validity.** `commitTxs` refuses — with the scripts checked or
skipped (`tr`), on the tip and inside a reorganisation alike — every block in which a non-coinbase transaction `tx` has an
input whose source is neither an unspent output of the map nor an output of a transaction listed EARLIER in the block
(`pre`); what the block lists behind `tx` (`post`) does not matter. In the code: `blUnsp[tx.Hash.Hash] = …` is the last
statement of the loop body, so the map of the block's own outputs knows a transaction only once its inputs are done;
registering all transactions before the loop would let `tx` spend an output of `post`. -/
theorem commitTxs_refuses_spend_of_later_tx (u : DB) (h rwd : Nat) (tr : Bool) (pre : List Tx) (tx : Tx) (post : List Tx)
    (i : TxIn) (hi : i ∈ tx.ins) (hne : pre ≠ [])
    (hg : unspentGet u i.txid i.vout = none) (hpre : ∀ p ∈ pre, p.txid ≠ i.txid) :
    ∃ e, commitTxs u h rwd tr (pre ++ tx :: post) = .error e :=
  commitTxs_forward_spend u h rwd tr pre tx post i hi hne hg hpre

/-- … and therefore the replay of a branch (the meaning of "valid" in every theorem here) has no value as soon as one of
its blocks lists a transaction before the transaction of the same block that it spends from (or spends itself): with
BIP30 freshness the block's own txids are not in the map below it, so the source can only be an earlier transaction of
the block — and there is none with that txid. -/
theorem misordered_block_never_replays (e : PE) (rest : List PE) (pre post : List Tx) (tx : Tx) (i : TxIn)
    (htx : e.txs = pre ++ tx :: post) (hne : pre ≠ []) (hi : i ∈ tx.ins)
    (hlater : i.txid ∈ (tx :: post).map (·.txid)) (hpre : ∀ p ∈ pre, p.txid ≠ i.txid)
    (hf : Fresh (e :: rest)) : replay (e :: rest) = none :=
  replay_misordered e rest pre post tx i htx hne hi hlater hpre hf

/-- **No block of the active branch is misordered**: after any sequence of deliveries drawn from a block tree, no block
of the active branch (the one whose replay IS the unspent map) contains a non-coinbase transaction with an input that
names a transaction listed at the same place or later in that block and no transaction listed earlier. -/
theorem active_branch_blocks_are_ordered (r bits : Nat) (U ds : List Block) (hbits : bits % 0x1000000 ≠ 0) (hU : BlockTree r U)
    (hds : ∀ b ∈ ds, b ∈ U) :
    ∃ path, PathOK (ds.foldl (fun c b => (deliver c b).1) (ChainTree.init r bits)) 0 path ∧
      ∀ e ∈ path, ∀ (pre post : List Tx) (tx : Tx) (i : TxIn), e.txs = pre ++ tx :: post → pre ≠ [] → i ∈ tx.ins →
        (∀ p ∈ pre, p.txid ≠ i.txid) → i.txid ∉ (tx :: post).map (·.txid) := by
  obtain ⟨path, hp, -⟩ := (reorg_inv r bits U ds hbits hU hds).path
  obtain ⟨u, hu, -⟩ := hp.utxo
  exact ⟨path, hp, replay_ordered path u hu hp.fresh⟩

/-- **First seen wins ties when a block is delivered**: a side block whose cumulative work (its parent's work plus its own
difficulty, exact) is NOT strictly greater than the tip's leaves the tip where it is — so among equal-work branches the
one that was there first stays, until a delivery with strictly more work arrives. (The only other way the tip moves is
the fall-back after a FAILED reorganisation, `deliver_keeps_invariant` (c); there FindFarthestNode's first-child rule
decides ties — `tie_after_failed_reorg_counterexample`, known finding; the code's float64 sums are outside the model —
known finding float-work-exact-tie.) -/
theorem tie_keeps_first_seen (U : List Block) (E : List Nat) (c : Chain) (hi : ChainInv U E c) (hU : BlockTree c.root U)
    (b : Block) (hb : b ∈ U) (p t : Node) (hnew : getNode c b.id = none) (hp : getNode c b.parent = some p)
    (hpd : HasData c b.parent p)
    (ht : getNode c c.tip = some t) (hside : c.tip ≠ b.parent)
    (hle : ((workOf c p).add (difficulty b.bits)).gt (workOf c t) = false) :
    (deliver c b).1.tip = c.tip :=
  deliver_keeps_tip ((chainInv_iff hU).mp hi).1 hU b hb p t hnew hp hpd ht hside hle

/-- **failed_reorg_no_residue (full).** From any state satisfying the invariant, `MoveToBlock(dst)` for any node `dst`
of the tree — run with the fuel a delivery gives it — does not panic, and the state it ends in satisfies "unspent map =
replay of the branch the node ends on" (every disconnected block's effects are gone, every connected block's effects
are there, nothing of a block that failed to connect or of its descendants remains: they are not on the branch), the
tree is well-formed, and either the target was reached with the tree untouched or — a block on the way failed, was
deleted with its descendants, and the fall-back ran — the tip is a maximum-work node of the remaining tree. -/
theorem failed_reorg_no_residue (U : List Block) (c : Chain) (w : TreeWF U c) (path : List PE)
    (hp : PathOK c 0 path) (hx : Ext c path) (t : Node) (ht : getNode c c.tip = some t) (hth : t.height = path.length)
    (hU : BlockTree c.root U) (dst : Nat) (d : Node) (hd : getNode c dst = some d) (hdd : HasData c dst d) :
    ∃ c' path', moveTo (fuelOf c) c dst = .ok c' ∧ PathOK c' 0 path' ∧ c'.tip = headId c' path' ∧ TreeWF U c' ∧
      ((c'.tip = dst ∧ c'.nodes = c.nodes) ∨ MaxWork c') ∧
      (∀ e ∈ path', scriptsPass e.txs = true) ∧ Lost U c.root c c' := by
  obtain ⟨c', path', g1, g2, g3, g4, g5, g6, g7, _⟩ :=
    (reorg_specs U (fuelOf c)).2.2 c dst d path w ⟨hp, t, ht, hth⟩ hx hU hd hdd (fuelOf_enough c)
  exact ⟨c', path', g1, g3.1, g3.1.tip, g2, g5.imp_right (MaxW_iff g2 (by rw [g4]; exact hU)).mpr,
    g6.scripts g3.1.linked, g7⟩

/-- **MorePOW compares exact cumulative work** (the comparison CommitBlock uses to decide on a reorganisation): in a
well-formed tree `b1.MorePOW(b2)` holds iff the cumulative work of `b1` is strictly greater than that of `b2`. -/
theorem morePOW_compares_work (U : List Block) (c : Chain) (w : TreeWF U c) (hU : BlockTree c.root U) (x1 x2 : Nat)
    (b1 b2 : Node) (h1 : getNode c x1 = some b1) (h2 : getNode c x2 = some b2) :
    morePOW c b1 b2 = (workOf c b1).gt (workOf c b2) :=
  Bool.eq_iff_iff.mpr ((morePOW_spec w hU h1 h2).trans (workOf_gt_iff w hU h1 h2).symm)

/-- **FindFarthestNode (from the root) returns a maximum-work node**: the fall-back target after a failed reorganisation
is a node of the tree with at least the cumulative work of every node of the tree. -/
theorem farthest_is_max_work (U : List Block) (c : Chain) (w : TreeWF U c) (hU : BlockTree c.root U) (r : Node)
    (hr : getNode c c.root = some r) :
    ∃ nL, getNode c (farthest c (c.nodes.length + 1) r).1 = some nL ∧
      ∀ x n, getNode c x = some n → (workOf c n).gt (workOf c nL) = false := by
  obtain ⟨nL, h1, h2⟩ := ChainTree.farthest_spec w hU hr
  exact ⟨nL, h1, fun x n hn => (workOf_not_gt_iff w hU hn h1).mpr (h2 x n hn)⟩

-- ------------------------------------------------------------------------------------------ header-first delivery

/-- **A header alone changes nothing but the tree** (unconditionally, for every state and block): PreCheckBlock +
AcceptHeader on a header link a node without data (or answer dup / orphan / too deep) — tip, unspent map, block store, undo
files, LastBlockHeight and root are untouched. -/
theorem header_changes_only_the_tree (c : Chain) (b : Block) :
    (header c b).1.tip = c.tip ∧ (header c b).1.utxo = c.utxo ∧ (header c b).1.store = c.store ∧
    (header c b).1.undoFiles = c.undoFiles ∧ (header c b).1.lastHeight = c.lastHeight ∧ (header c b).1.root = c.root := by
  unfold header
  split
  · exact ⟨rfl, rfl, rfl, rfl, rfl, rfl⟩
  · split
    · exact ⟨rfl, rfl, rfl, rfl, rfl, rfl⟩
    · exact ⟨rfl, rfl, rfl, rfl, rfl, rfl⟩
    · unfold headerAt
      simp only
      split
      · exact ⟨rfl, rfl, rfl, rfl, rfl, rfl⟩
      · split <;> exact ⟨rfl, rfl, rfl, rfl, rfl, rfl⟩

/-- **One operation, any of the three kinds** (`header`: PreCheckBlock + AcceptHeader on the 80 header bytes; `commit`:
HasAllParents + CommitBlock(bl, node) on the node that a header created earlier — the way the client receives every block
from the network; `block`: CheckBlock + AcceptBlock, header and data at once) **keeps the invariant and never panics.**
From a state satisfying `ChainInv`, for an operation whose block is a block of the block tree other than the root, and —
for `block` only — whose parent, if known, has its data and is not an entry that has become unreachable from the root
(`OpOK`): the state afterwards satisfies `ChainInv` again (tree well-formed INCLUDING: nodes without data are not stored
and the nodes with data are closed under "parent"; unspent map = replay of the active branch; the tip is a maximum-work
node AMONG THE NODES THAT HAVE THEIR DATA; completeness w.r.t. the blocks whose data was admitted), no answer is a
panic — in particular HasAllParents / OnActiveBranch find every node they dereference, and the fall-back after a failed
reorganisation (findFarthestWithData, fix c3d926ba) always reaches a block that can be connected, so MoveToBlock /
ParseTillBlock never run out of the quadratic fuel —, and the tip moves only to the operation's block or, answer
`movefailed`, in that fall-back. -/
theorem step_keeps_invariant (U : List Block) (E : List Nat) (c : Chain) (hi : ChainInv U E c) (hU : BlockTree c.root U)
    (op : Op) (hok : OpOK U c op) :
    ChainInv U (stepG (c, E) op).2 (step c op).1 ∧ (∀ s, (step c op).2 ≠ Outcome.panic s) ∧
    ((step c op).1.tip = c.tip ∨ (step c op).1.tip = op.blk.id ∨ (step c op).2 = Outcome.moveFailed) := by
  obtain ⟨hi', hc⟩ := (chainInv_iff hU).mp hi
  have h := step_ok hi' hU op hok
  have k := h.invC ⟨hU, hi', hc⟩
  exact ⟨(chainInv_iff k.tree).mpr ⟨k.inv, k.complete⟩, h.noPanic, h.tip⟩

/-- **reorg_inv for header-first histories — after ANY history of the three operations.** Let `U` be a block tree
(`BlockTree`) and `ops` any finite history of `header` / `commit` / `block` operations on blocks of `U` — headers running
ahead of the data by any distance, data arriving in any order (a block whose parent has no data yet is answered
`notlinking` and changes nothing), repeated, for blocks that were removed as invalid, for blocks that turn out invalid only
when they are connected, on the tip or in a reorganisation, with header-only nodes anywhere in the tree (above the tip, on
side branches, below an invalid block) — such that every operation satisfies `OpOK` when it is applied (`ClientLike`: no
block has the root's id; `block` = AcceptBlock is used only on top of a parent that has its data — the client uses it for
locally mined blocks, which extend the tip). Then the state reached from the initial one satisfies `ChainInv U E`, `E` the
ghost list of the ids whose DATA was admitted on the way. -/
theorem reorg_inv_ops (r bits : Nat) (U : List Block) (ops : List Op) (hbits : bits % 0x1000000 ≠ 0) (hU : BlockTree r U)
    (hcl : ClientLike U (ChainTree.init r bits) ops) :
    ChainInv U (ops.foldl stepG (ChainTree.init r bits, [])).2
      (ops.foldl (fun c op => (step c op).1) (ChainTree.init r bits)) := by
  have h := (step_history r bits U ops hbits hU hcl).1
  exact (chainInv_iff h.tree).mpr ⟨h.inv, h.complete⟩

/-- **The tip is a maximum-work block among the blocks the node could connect** (header-first histories): after any
history as in `reorg_inv_ops`, no node of the tree that has its data (hence, `TreeWF.anc`, the data of all its ancestors)
has more cumulative work than the tip. Announced blocks whose data has not arrived do not compete — and, since fix c3d926ba,
do not mislead the fall-back after a failed reorganisation either. -/
theorem tip_has_max_work_ops (r bits : Nat) (U : List Block) (ops : List Op) (hbits : bits % 0x1000000 ≠ 0)
    (hU : BlockTree r U) (hcl : ClientLike U (ChainTree.init r bits) ops) :
    MaxWork (ops.foldl (fun c op => (step c op).1) (ChainTree.init r bits)) :=
  (reorg_inv_ops r bits U ops hbits hU hcl).maxw

/-- **The tip has at least the work of every block whose data was admitted and whose whole branch is valid** (header-first
histories): every block `x` whose data was admitted on the way (`commit` / `block` answered ok, movefailed or with a
`commitTxs` error — not: no header, parked, duplicate, orphan, too deep) and that is not `Excused` is a node of the tree,
HAS ITS DATA, and its cumulative work is not greater than the tip's. -/
theorem tip_beats_every_valid_admitted_block_ops (r bits : Nat) (U : List Block) (ops : List Op)
    (hbits : bits % 0x1000000 ≠ 0) (hU : BlockTree r U) (hcl : ClientLike U (ChainTree.init r bits) ops) (x : Nat)
    (hx : x ∈ (ops.foldl stepG (ChainTree.init r bits, [])).2)
    (hvalid : ¬ Excused U (ops.foldl (fun c op => (step c op).1) (ChainTree.init r bits)).root x) :
    ∃ t n, getNode (ops.foldl (fun c op => (step c op).1) (ChainTree.init r bits))
             (ops.foldl (fun c op => (step c op).1) (ChainTree.init r bits)).tip = some t ∧
      getNode (ops.foldl (fun c op => (step c op).1) (ChainTree.init r bits)) x = some n ∧ n.txCount ≠ 0 ∧
      (workOf (ops.foldl (fun c op => (step c op).1) (ChainTree.init r bits)) n).gt
        (workOf (ops.foldl (fun c op => (step c op).1) (ChainTree.init r bits)) t) = false := by
  obtain ⟨t, ht, hmax⟩ := (reorg_inv_ops r bits U ops hbits hU hcl).maxw
  obtain ⟨n, hn, hd⟩ := ((step_history r bits U ops hbits hU hcl).2.1 x hx).resolve_right hvalid
  exact ⟨t, n, ht, hn, hd, hmax x n hn (Or.inr hd)⟩

/-- **The fall-back after a failed reorganisation always targets a block that can be connected** (fix c3d926ba):
findFarthestWithData from the root returns a node that HAS ITS DATA (so has every ancestor: MoveToBlock's three climbing
loops never answer "cannot continue" and ParseTillBlock never stops at "not yet commited") and whose cumulative work is
maximal among the nodes that have their data. `FindFarthestNode` (`farthest_is_max_work`) maximises over ALL nodes and may
return a header-only leaf — `header_only_leaf_misleads_old_fallback_example`. -/
theorem fallback_target_has_data (U : List Block) (c : Chain) (w : TreeWF U c) (hU : BlockTree c.root U) (r : Node)
    (hr : getNode c c.root = some r) :
    ∃ nL, getNode c (farthestS c (c.nodes.length + 1) r).1 = some nL ∧
      HasData c (farthestS c (c.nodes.length + 1) r).1 nL ∧
      ∀ x n, getNode c x = some n → HasData c x n → (workOf c n).gt (workOf c nL) = false := by
  obtain ⟨nL, h1, h2, h3⟩ := ChainTree.farthestS_spec w hU hr
  exact ⟨nL, h1, h2, fun x n hn hd => (workOf_not_gt_iff w hU hn h1).mpr (h3 x n hn hd)⟩

/-- **The code's look-ups are look-ups by whole hash, for all three operations**: `stepIdx` (what the oracle runs: every
`BlockIndex` access goes through the 8-byte key and then compares the whole hash) equals `step` whenever no entry of
`BlockIndex` — attached node or unreachable entry — shares the 8-byte key of the operation's block or of its
previous-block field without being that block. -/
theorem stepIdx_is_step (c : Chain) (op : Op) (h1 : KeyOKAll c op.blk.id) (h2 : KeyOKAll c op.blk.parent) :
    stepIdx c op = step c op := by
  cases op with
  | header b => exact headerIdx_eq_header c b h1 h2
  | commit b => exact commitNodeIdx_eq_commitNode c b h1
  | block b =>
    dsimp only [Op.blk] at h1 h2
    unfold stepIdx step
    simp only []
    rw [deliverIdx_eq_deliver c b h1.1 h2.1, lookupIdx_eq_getNode h1.1, parentIdx_eq_getNode h2.1,
      limboIdx_eq_inLimbo h1.2, limboIdx_eq_inLimbo h2.2]
    cases hg : getNode c b.id with
    | some n =>
      have hd := deliver_known_is_noop c b (by rw [hg]; rfl)
      cases hl : inLimbo c b.id with
      | none => simp
      | some m => simp [hd]
    | none =>
      cases hl : inLimbo c b.id with
      | some m => simp [inLimbo_id hl]
      | none =>
        cases hp : inLimbo c b.parent with
        | none => simp
        | some q => simp [Option.filter, inLimbo_id hp]

-- ------------------------------------------------------------------------------------------ sibling order

/-- **DeleteBranch keeps the arrival order of the remaining children.** `childs` mirrors `BlockTreeNode.Childs` (addChild
appends: arrival order), and the fall-back after a failed reorganisation lets the FIRST child's subtree win an equal-work
tie, so the order is observable in the tip. When the block `nx` that failed to connect is removed with its descendants,
every surviving node `y` keeps its child list, except that the parent of `nx` loses exactly `nx`: the new list is the old
one with `nx` taken out and NOTHING ELSE MOVED (`filter`: a sublist in the same order; equal to `List.erase` since a child
list has no repetitions). A swap-remove (last child moved into the freed slot) does not satisfy this — the harness stream
`siblings` makes that difference visible on the real code. -/
theorem deleteBranch_keeps_sibling_order (U : List Block) (c : Chain) (w : TreeWF U c) (nx : Nat) (nxt : Node)
    (hn : getNode c nx = some nxt) (y : Nat) (p : Node) (hp : getNode c y = some p) (ha : ¬ Desc c nx y) :
    ∃ p', getNode (deleteBranch c nx) y = some p' ∧
      p'.childs = p.childs.filter (· != nx) ∧
      (y ≠ nxt.parent → p'.childs = p.childs) ∧
      (p.childs.Nodup → p'.childs = p.childs.erase nx) := by
  obtain ⟨p', h1, h2, h3⟩ := deleteBranch_childs w hn y p hp ha
  exact ⟨p', h1, h2, h3, fun hnd => by rw [h2]; exact (hnd.erase_eq_filter nx).symm⟩

/-- the parent of the removed block itself: it survives, it did list `nx`, and afterwards lists its other children in
their old order. -/
theorem deleteBranch_parent_keeps_order (U : List Block) (c : Chain) (w : TreeWF U c) (nx : Nat) (nxt : Node)
    (hn : getNode c nx = some nxt) (hx : nx ≠ c.root) :
    ∃ p p', getNode c nxt.parent = some p ∧ getNode (deleteBranch c nx) nxt.parent = some p' ∧ nx ∈ p.childs ∧
      p'.childs = p.childs.filter (· != nx) ∧ List.Sublist p'.childs p.childs := by
  obtain ⟨p, p', h1, h2, h3, h4⟩ := deleteBranch_parent_childs w hn hx
  exact ⟨p, p', h1, h2, h3, h4, by rw [h4]; exact List.filter_sublist⟩

-- ------------------------------------------------------------------------------------------ the tie-break counterexample

def easyBits : Nat := 0x207fffff

def cbTx (id : Nat) : Tx := { txid := id, ins := [], outs := [{ value := 5000000000, script := "51" }], scriptsOk := true }

/-- x1; b2 (first child of x1); a2; a3; b3; b4 — b4 spends an unknown output, so it is invalid once connected -/
def tieDeliveries : List Block :=
  [ { id := 1, parent := 100, bits := easyBits, txs := [cbTx 1001] },      -- x1
    { id := 2, parent := 1, bits := easyBits, txs := [cbTx 1002] },        -- b2
    { id := 3, parent := 1, bits := easyBits, txs := [cbTx 1003] },        -- a2
    { id := 4, parent := 3, bits := easyBits, txs := [cbTx 1004] },        -- a3  (becomes the tip)
    { id := 5, parent := 2, bits := easyBits, txs := [cbTx 1005] },        -- b3  (same work as a3, seen later)
    { id := 6, parent := 5, bits := easyBits,
      txs := [cbTx 1006, { txid := 2000, ins := [{ txid := 999, vout := 0 }], outs := [], scriptsOk := true }] } ]  -- b4

def runAll (bs : List Block) : Chain := bs.foldl (fun c b => (deliver c b).1) (ChainTree.init 100 easyBits)

/-- **The property's "first seen wins ties" is false after a failed reorganisation** (model and real code, corpus
scenario `tie-after-failed-reorg`): after the five valid deliveries the tip is a3 (id 4); b3 (id 5) has the same
work and was seen later; delivering the invalid b4 moves the tip to b3, because the fall-back `FindFarthestNode`
prefers the first child's subtree. -/
theorem tie_after_failed_reorg_counterexample :
    (runAll (tieDeliveries.take 5)).tip = 4 ∧ (runAll tieDeliveries).tip = 5 ∧
    (getNode (runAll tieDeliveries) 6).isNone = true := by
  decide +kernel

/-- P (id 1) on the root; its children 2, 3, 4, 5 in arrival order, 3 invalid once connected (spends an unknown output);
6 on 4, 7 on 5 (equal work, 6 seen first), 8 on 3 and 9 on 8 (the invalid sibling's branch becomes the heaviest) -/
def siblingDeliveries : List Block :=
  [ { id := 1, parent := 100, bits := easyBits, txs := [cbTx 1001] },
    { id := 2, parent := 1, bits := easyBits, txs := [cbTx 1002] },
    { id := 3, parent := 1, bits := easyBits,
      txs := [cbTx 1003, { txid := 2000, ins := [{ txid := 999, vout := 0 }], outs := [], scriptsOk := true }] },
    { id := 4, parent := 1, bits := easyBits, txs := [cbTx 1004] },
    { id := 5, parent := 1, bits := easyBits, txs := [cbTx 1005] },
    { id := 6, parent := 4, bits := easyBits, txs := [cbTx 1006] },
    { id := 7, parent := 5, bits := easyBits, txs := [cbTx 1007] },
    { id := 8, parent := 3, bits := easyBits, txs := [cbTx 1008] },
    { id := 9, parent := 8, bits := easyBits, txs := [cbTx 1009] } ]

/-- **The sibling order after a deletion decides the fall-back** (concrete run of the model's `deliver`): before the last
delivery the tip is 6 (first seen of the two equal-work leaves 6 and 7) and P lists [2, 3, 4, 5]; delivering 9 starts a
reorganisation that fails at 3; afterwards P lists [2, 4, 5] — 4 still before 5 — and the fall-back returns to 6. With the
last child moved into the freed slot the list would be [2, 5, 4] and the fall-back would end on 7. -/
theorem sibling_order_after_delete_example :
    (runAll (siblingDeliveries.take 8)).tip = 6 ∧
    (getNode (runAll (siblingDeliveries.take 8)) 1).map (·.childs) = some [2, 3, 4, 5] ∧
    (deliver (runAll (siblingDeliveries.take 8)) (siblingDeliveries.getD 8 default)).2.name = "movefailed" ∧
    (getNode (runAll siblingDeliveries) 1).map (·.childs) = some [2, 4, 5] ∧
    (runAll siblingDeliveries).tip = 6 ∧ (getNode (runAll siblingDeliveries) 3).isNone = true := by
  decide +kernel

-- ------------------------------------------------------------------------------------------ header-first delivery: concrete runs

/-- P = 1 on the root 100; A1 = 2 on P; A2 = 3 on A1; B1 = 4 on P, invalid once connected (spends an unknown output);
B2 = 5 on B1 -/
def hfBlocks : List Block :=
  [ { id := 1, parent := 100, bits := easyBits, txs := [cbTx 1001] },
    { id := 2, parent := 1, bits := easyBits, txs := [cbTx 1002] },
    { id := 3, parent := 2, bits := easyBits, txs := [cbTx 1003] },
    { id := 4, parent := 1, bits := easyBits,
      txs := [cbTx 1004, { txid := 2000, ins := [{ txid := 999, vout := 0 }], outs := [], scriptsOk := true }] },
    { id := 5, parent := 4, bits := easyBits, txs := [cbTx 1005] } ]

def hfB (i : Nat) : Block := hfBlocks.getD i default

/-- the witness of fix c3d926ba as a history of operations: P and A1 with data (tip A1), the header of A2 announced, B1
stored aside, B2 -/
def hfOps : List Op :=
  [.header (hfB 0), .commit (hfB 0), .header (hfB 1), .commit (hfB 1), .header (hfB 2),
   .header (hfB 3), .commit (hfB 3), .header (hfB 4), .commit (hfB 4)]

def runOps (ops : List Op) : Chain := ops.foldl (fun c op => (step c op).1) (ChainTree.init 100 easyBits)

/-- **A header-only leaf misleads `FindFarthestNode`, not `findFarthestWithData`** (kernel-checked run of the model; the
corpus scenario header-first-failed-reorg-one-header-ahead replays it on the real code): before the last operation the tip
is A1 (id 2) and A2 (id 3) is a node without data; the data of B2 starts a reorganisation that fails at B1; `farthest`
(FindFarthestNode, the fall-back's choice before the fix) names A2 — a node that cannot be connected: MoveToBlock(A2) /
ParseTillBlock(A2) / FindFarthestNode went round without end in the code —, `farthestS` names A1; the operation answers
`movefailed`, the tip is A1 again, B1 and B2 are gone, A2 is still an announced header. -/
theorem header_only_leaf_misleads_old_fallback_example :
    (runOps (hfOps.take 8)).tip = 2 ∧ ((getNode (runOps (hfOps.take 8)) 3).map (·.txCount)) = some 0 ∧
    (step (runOps (hfOps.take 8)) (hfOps.getD 8 default)).2.name = "movefailed" ∧
    (runOps hfOps).tip = 2 ∧
    ((getNode (runOps hfOps) 100).map fun r => (farthest (runOps hfOps) 10 r).1) = some 3 ∧
    ((getNode (runOps hfOps) 100).map fun r => (farthestS (runOps hfOps) 10 r).1) = some 2 ∧
    ((runOps hfOps).nodes.map (·.id)) = [100, 1, 2, 3] ∧ ((getNode (runOps hfOps) 3).map (·.txCount)) = some 0 := by
  decide +kernel

/-- the answers of the other outcomes of `commit`, and what a refused tip extension leaves behind (kernel-checked run):
the data of A1 before P's (`notlinking`), data without a header (`noheader`), data twice (`dup`); B1 announced on the tip P
with B2 announced below it: B1's data is refused (`err:unknown-input`), B1 leaves the tree, B2 is left in `limbo`; B2's
data is then `discarded`, its header "already in"; a header below B2 is accepted into `limbo`. -/
theorem commit_outcomes_example :
    let c0 := ChainTree.init 100 easyBits
    let c1 := (step (step c0 (.header (hfB 0))).1 (.header (hfB 1))).1
    let c2 := (step c1 (.commit (hfB 0))).1
    let c3 := (step (step c2 (.header (hfB 3))).1 (.header (hfB 4))).1
    let c4 := (step c3 (.commit (hfB 3))).1
    (step c1 (.commit (hfB 1))).2.name = "notlinking" ∧ (step c1 (.commit (hfB 2))).2.name = "noheader" ∧
    (step c2 (.commit (hfB 0))).2.name = "dup" ∧ c2.tip = 1 ∧
    (step c3 (.commit (hfB 3))).2.name = "err:unknown-input" ∧ c4.tip = 1 ∧
    (c4.nodes.map (·.id)) = [100, 1, 2] ∧ (c4.limbo.map (·.id)) = [5] ∧
    (step c4 (.commit (hfB 4))).2.name = "discarded" ∧ (step c4 (.header (hfB 4))).2.name = "dup" ∧
    (step c4 (.block (hfB 4))).2.name = "dup" ∧
    (step c4 (.header { id := 6, parent := 5, bits := easyBits, txs := [] })).2.name = "ok" ∧
    ((step c4 (.header { id := 6, parent := 5, bits := easyBits, txs := [] })).1.limbo.map (·.id)) = [5, 6] ∧
    (step c4 (.block { id := 6, parent := 5, bits := easyBits, txs := [cbTx 1006] })).2.name = "detached" := by
  decide +kernel

-- ------------------------------------------------------------------------------------------ block look-ups (8-byte index key)

/-- **The code's block look-ups are look-ups by whole hash.** `deliverIdx` is what the oracle runs and the harness compares
with CheckBlock + AcceptBlock: the "already in" test and the parent look-up of PreCheckBlock / AcceptHeader go through
`BlockIndex`, keyed by the first 8 bytes of a hash (`bidx`), and then compare the WHOLE hash (fix 533896f3). It equals
`deliver` — the definition all theorems above are about, which finds blocks by their whole id — whenever no node of the
tree shares the 8-byte key of the delivered block's hash, or of its previous-block field, without being that block
(`KeyOK`). What `KeyOK` excludes for the previous-block field is covered unconditionally by
`prefix_only_parent_is_unknown`; what it excludes for the block's own hash is two different BLOCKS with the same first 8 hash
bytes (about 2^64 hash evaluations on top of the proof of work; `deliverIdx` answers `index-collision`). -/
theorem deliverIdx_is_deliver (c : Chain) (b : Block) (h1 : KeyOK c b.id) (h2 : KeyOK c b.parent) :
    deliverIdx c b = deliver c b :=
  deliverIdx_eq_deliver c b h1 h2

/-- **… for whole histories**: if no two DIFFERENT hashes that can occur — the root, the ids of the blocks of `U`, their
previous-block fields — share their first 8 bytes (`KeysDistinct`), then for EVERY history of deliveries the state the
oracle computes with `deliverIdx` is the state `deliver` reaches: all theorems about `deliver` histories are theorems about
what the harness compares with the code. (Header-first operations: the step form `stepIdx_is_step`.) -/
theorem deliverIdx_history_is_deliver_history (r bits : Nat) (U ds : List Block) (hbits : bits % 0x1000000 ≠ 0)
    (hU : BlockTree r U) (hk : KeysDistinct r U) (hds : ∀ b ∈ ds, b ∈ U) :
    ds.foldl (fun c b => (deliverIdx c b).1) (ChainTree.init r bits) =
      ds.foldl (fun c b => (deliver c b).1) (ChainTree.init r bits) :=
  deliverIdx_all ds (ChainTree.init r bits) (init_inv U r bits hbits) (init_allData r bits) hU hk hds

/-- **A previous-block field that shares only its 8-byte index key with a known block names an unknown parent**: for any
state and any block whose own key is free, if the entry found under the key of its previous-block field has another
whole id, the block is turned away as an orphan (`later`) and the state is unchanged — it is NOT linked under that entry
(which is what the code did before fix 533896f3: the header field is free data, no hash grinding is needed). -/
theorem prefix_only_parent_is_unknown (c : Chain) (b : Block) (p : Node) (hnew : lookupIdx c b.id = none)
    (hp : lookupIdx c b.parent = some p) (hne : p.id ≠ b.parent) : deliverIdx c b = (c, Outcome.later) := by
  unfold deliverIdx parentIdx
  simp [hnew, hp, Option.filter, hne]

-- non-vacuity: root hash 5·2^192+7; a block naming 5·2^192+8 (same first 8 bytes) is an orphan, the same block naming the
-- root is connected; `KeyOK` holds for the latter
example :
    let c := ChainTree.init (5 * 2 ^ 192 + 7) easyBits
    let good : Block := { id := 9 * 2 ^ 192 + 1, parent := 5 * 2 ^ 192 + 7, bits := easyBits, txs := [cbTx 1001] }
    let twin : Block := { good with id := 9 * 2 ^ 192 + 2, parent := 5 * 2 ^ 192 + 8 }
    bidx twin.parent = bidx c.root ∧ (lookupIdx c twin.parent).map (·.id) = some c.root ∧ lookupIdx c twin.id = none ∧
    (deliverIdx c twin).2.name = "later" ∧ (deliverIdx c twin).1.tip = c.root ∧
    (deliverIdx c good).2.name = "ok" ∧ (deliverIdx c good).1.tip = good.id ∧
    (deliver c twin).2.name = "later" := by
  decide +kernel

example : KeyOK (ChainTree.init (5 * 2 ^ 192 + 7) easyBits) (9 * 2 ^ 192 + 1) ∧
    KeyOK (ChainTree.init (5 * 2 ^ 192 + 7) easyBits) (5 * 2 ^ 192 + 7) := by
  unfold KeyOK; decide

-- KeysDistinct is satisfiable (ids that differ in their first 8 bytes)
example : KeysDistinct (5 * 2 ^ 192 + 7) [{ id := 9 * 2 ^ 192 + 1, parent := 5 * 2 ^ 192 + 7, bits := easyBits, txs := [cbTx 1001] }] :=
  keysDistinctB_sound (by decide)

-- non-vacuity of the hypotheses used above
example : ∃ u txids ch, validChangesB u txids ch = true ∧ ch.deled ≠ [] :=
  ⟨[{ txid := 7, height := 1, coinbase := true, outs := [some ⟨50, "51"⟩, some ⟨60, "00"⟩] }], [8],
   { deled := [(7, [true, false])],
     undo := [{ txid := 7, height := 1, coinbase := true, outs := [some ⟨50, "51"⟩, none] }],
     addList := [{ txid := 8, height := 2, coinbase := false, outs := [some ⟨49, "51"⟩] }] }, by decide⟩

example : ∃ outs rm, (delOuts outs rm).any Option.isSome = false ∧ outs ≠ [] :=
  ⟨[some ⟨1, ""⟩, none], [true, false], by decide⟩

example : ∃ (c : Chain) (b : Block) (h : Nat) (ch : Changes), c.tip = b.parent ∧
    commitTxs c.utxo h (reward h) false b.txs = .ok ch :=
  ⟨ChainTree.init 100 easyBits, { id := 1, parent := 100, bits := easyBits, txs := [cbTx 1001] }, 1,
   { deled := [], undo := [], addList := [{ txid := 1001, height := 1, coinbase := true, outs := [some ⟨5000000000, "51"⟩] }] },
   by decide, by rfl⟩

example : ∃ (c : Chain) (b : Block) (h : Nat) (e : Err), c.tip = b.parent ∧
    commitTxs c.utxo h (reward h) false b.txs = .error e :=
  ⟨ChainTree.init 100 easyBits, { id := 1, parent := 100, bits := easyBits, txs := [] }, 1, .noCoinbase, by decide, by rfl⟩

def exChain : Chain :=
  { ChainTree.init 100 easyBits with
    nodes := [{ id := 100, parent := 100, height := 0, bits := easyBits, childs := [1], txCount := 0 },
              { id := 1, parent := 100, height := 1, bits := easyBits, childs := [], txCount := 0 }] }
def exBlock : Block := { id := 1, parent := 100, bits := easyBits, txs := [cbTx 1001] }
def exChanges : Changes :=
  { deled := [], undo := [], addList := [{ txid := 1001, height := 1, coinbase := true, outs := [some ⟨5000000000, "51"⟩] }] }

-- the hypotheses of `extend_then_undo` are satisfiable together
example : exChain.tip = exBlock.parent ∧
    commitTxs exChain.utxo 1 (reward 1) false exBlock.txs = .ok exChanges ∧
    (∀ t ∈ exBlock.txs.map (·.txid), exChain.utxo.get t = none) ∧
    getNode (commitBlock exChain exBlock 1).1 exBlock.id =
      some { id := 1, parent := 100, height := 1, bits := easyBits, childs := [], txCount := 1 } :=
  ⟨by decide, by rfl, fun _ _ => rfl, by rfl⟩

example : ∃ a b : Q, a.gt b = true := ⟨⟨2, 1⟩, ⟨1, 1⟩, by decide⟩

example : ∃ (c : Chain) (b : Block), (getNode c b.id).isSome = true :=
  ⟨ChainTree.init 100 easyBits, { id := 100, parent := 0, bits := 0, txs := [] }, by decide⟩

example : ∃ (c : Chain) (b : Block), getNode c b.id = none ∧ getNode c b.parent = none :=
  ⟨ChainTree.init 100 easyBits, { id := 5, parent := 4, bits := 0, txs := [] }, by decide⟩

-- non-vacuity of the all-histories theorems: the block tree `exU` (Proofs/C06Example: x1 on the root; a2 and b2 on x1; b3 on
-- b2; b2 invalid once connected) satisfies `BlockTree`; delivering x1, a2, b2, b3 stores b2 aside (tie), tries to reorganise
-- to b3, fails at b2 and falls back to a2

def exRun (ds : List Block) : Chain := ds.foldl (fun c b => (deliver c b).1) (ChainTree.init 0 exBits)

-- reorg_inv / tip_has_max_work: hypotheses hold, and the history contains a failed reorganisation
example : exBits % 0x1000000 ≠ 0 ∧ BlockTree 0 exU ∧ (∀ b ∈ exU, b ∈ exU) ∧
    (exRun (exU.take 3)).tip = 2 ∧ (deliver (exRun (exU.take 3)) (exU.getD 3 default)).2.name = "movefailed" ∧
    (exRun exU).tip = 2 ∧ ((exRun exU).nodes.map (·.id)) = [0, 1, 2] :=
  ⟨by decide, exU_blockTree, fun _ h => h, by decide +kernel⟩

theorem exInv (ds : List Block) (h : ∀ b ∈ ds, b ∈ exU) :
    ChainInv exU (ds.foldl deliverG (ChainTree.init 0 exBits, [])).2 (exRun ds) :=
  reorg_inv 0 exBits exU ds (by decide) exU_blockTree h

theorem exRoot (ds : List Block) (h : ∀ b ∈ ds, b ∈ exU) : (exRun ds).root = 0 :=
  (deliver_history 0 exBits exU ds (by decide) exU_blockTree h).2.2

theorem exTake (n : Nat) : ∀ b ∈ exU.take n, b ∈ exU := fun _ h => List.mem_of_mem_take h

-- deliver_keeps_invariant: a state with the invariant, the block tree, and a block that triggers the failed reorganisation
example : ∃ (E : List Nat) (c : Chain) (b : Block), ChainInv exU E c ∧ BlockTree c.root exU ∧ b ∈ exU ∧
    (∀ p, getNode c b.parent = some p → HasData c b.parent p) ∧ (deliver c b).2.name = "movefailed" :=
  ⟨_, exRun (exU.take 3), exU.getD 3 default, exInv _ (exTake 3), by rw [exRoot _ (exTake 3)]; exact exU_blockTree,
   by simp [exU], blocks_only_no_header_only_node 0 exBits exU (exU.take 3) (by decide) exU_blockTree (exTake 3) _,
   by decide +kernel⟩

-- non-vacuity of the header-first theorems (step_keeps_invariant, reorg_inv_ops, tip_has_max_work_ops,
-- tip_beats_every_valid_admitted_block_ops): a history over `exU` that satisfies `ClientLike` — x1 by CheckBlock + AcceptBlock
-- on the root; the headers of a2, b2, b3; the data of b2 (on the tip x1: refused, b2 leaves the tree, the announced b3 is
-- left unreachable), of b3 (discarded), of a2 (connected)
def exB (i : Nat) : Block := exU.getD i default
def exOps : List Op :=
  [.block (exB 0), .header (exB 1), .header (exB 2), .header (exB 3), .commit (exB 2), .commit (exB 3), .commit (exB 1)]
def exRunOps (ops : List Op) : Chain := ops.foldl (fun c op => (step c op).1) (ChainTree.init 0 exBits)

theorem exOps_clientLike : ClientLike exU (ChainTree.init 0 exBits) exOps := by
  refine ⟨⟨by simp [exB, exU, Op.blk], by decide, fun p _ => Or.inl rfl, fun h => by
      have : (step (ChainTree.init 0 exBits) (.block (exB 0))).2.name = "detached" := by rw [h]; rfl
      revert this; decide +kernel⟩, ?_, ?_, ?_, ?_, ?_, ?_, trivial⟩
  all_goals exact ⟨by simp [exB, exU, Op.blk], by decide +kernel, trivial⟩

example : exBits % 0x1000000 ≠ 0 ∧ BlockTree 0 exU ∧ ClientLike exU (ChainTree.init 0 exBits) exOps ∧
    (step (exRunOps (exOps.take 4)) (exOps.getD 4 default)).2.name = "err:unknown-input" ∧
    ((exRunOps (exOps.take 5)).limbo.map (·.id)) = [4] ∧
    (step (exRunOps (exOps.take 5)) (exOps.getD 5 default)).2.name = "discarded" ∧
    (exRunOps exOps).tip = 2 ∧ ((exRunOps exOps).nodes.map (·.id)) = [0, 1, 2] ∧
    (exOps.foldl stepG (ChainTree.init 0 exBits, [])).2 = [2, 3, 1] :=
  ⟨by decide, exU_blockTree, exOps_clientLike, by decide +kernel⟩

-- step_keeps_invariant: a state with the invariant reached header-first, and an operation satisfying OpOK whose block is
-- refused on the tip while a descendant of it is announced
example : ∃ (E : List Nat) (c : Chain) (op : Op), ChainInv exU E c ∧ BlockTree c.root exU ∧ OpOK exU c op ∧
    (step c op).2.name = "err:unknown-input" ∧ (step c op).1.limbo ≠ [] :=
  ⟨_, exRunOps (exOps.take 4), exOps.getD 4 default,
   reorg_inv_ops 0 exBits exU (exOps.take 4) (by decide) exU_blockTree
     ⟨exOps_clientLike.1, exOps_clientLike.2.1, exOps_clientLike.2.2.1, exOps_clientLike.2.2.2.1, trivial⟩,
   by rw [show (exRunOps (exOps.take 4)).root = 0 by decide +kernel]; exact exU_blockTree,
   exOps_clientLike.2.2.2.2.1, by decide +kernel⟩

-- completeness (`ChainInv.complete`, only_invalid_blocks_are_removed, tip_beats_every_valid_admitted_block): in the history
-- x1, a2, b2, b3 all four blocks are admitted; b2 (id 3) and b3 (id 4) are no longer nodes at the end — and they are excused:
-- b2 spends an unknown output, so it fails `commitTxs` on the replay of [x1]; b3 is its child
theorem exExcused3 : InvalidOnReplay exU 0 { id := 3, parent := 1, bits := exBits, txs := exT3 } :=
  ⟨[⟨1, exT1⟩], _, .unknownInput,
   ⟨⟨{ id := 1, parent := 0, bits := exBits, txs := exT1 }, by simp [exU], rfl, rfl, rfl⟩, trivial⟩, rfl, rfl, rfl⟩

example : (exU.foldl deliverG (ChainTree.init 0 exBits, [])).2 = [4, 3, 2, 1] ∧
    ((exRun exU).nodes.map (·.id)) = [0, 1, 2] ∧ Excused exU 0 3 ∧ Excused exU 0 4 :=
  ⟨by decide +kernel, by decide +kernel,
   ⟨_, by simp [exU], UAnc.refl, exExcused3⟩,
   ⟨{ id := 3, parent := 1, bits := exBits, txs := exT3 }, by simp [exU],
     UAnc.step (b := { id := 4, parent := 3, bits := exBits, txs := exT4 }) (by simp [exU]) UAnc.refl, exExcused3⟩⟩

-- … and x1 (id 1) is NOT excused (the hypothesis `¬ Excused` of tip_beats_every_valid_admitted_block is satisfiable): its
-- only ancestor-or-self in exU is x1 itself, whose branch below is empty, and `commitTxs` accepts it on the empty map
theorem exUAnc01 {a x : Nat} (h : UAnc exU a x) : (x = 1 ∨ x = 0) → (a = 1 ∨ a = 0) := by
  induction h with
  | refl => exact id
  | @step b hb _ ih =>
    have par : ∀ b ∈ exU, (b.id = 1 ∨ b.id = 0) → (b.parent = 1 ∨ b.parent = 0) := by decide
    exact fun hx => ih (par b hb hx)

theorem exNotExcused1 : ¬ Excused exU 0 1 := by
  rintro ⟨b, hb, hanc, p, u, e, hp, hh, hr, herr⟩
  have hb1 := exUAnc01 hanc (Or.inl rfl)
  simp only [exU, List.mem_cons, List.mem_nil_iff, or_false] at hb
  rcases hb with rfl | rfl | rfl | rfl
  · have := exU_head0 hp hh
    subst this
    simp only [replay, Option.some.injEq] at hr
    subst hr
    cases herr
  all_goals exact absurd hb1 (by decide)

example : ∃ x, x ∈ (exU.foldl deliverG (ChainTree.init 0 exBits, [])).2 ∧ ¬ Excused exU (exRun exU).root x :=
  ⟨1, by decide +kernel, by rw [exRoot exU (fun _ h => h)]; exact exNotExcused1⟩

-- scripts (`ChainInv.path … scripts`, active_branch_scripts_valid): a block whose second transaction fails its script oracle
-- is refused on the tip with `err:scripts` and does not become a node; delivered as a side block and then made the heavier
-- branch by a child, the reorganisation fails at it (`movefailed`), it is removed with the child, and the tip stays
def sxSpend (ok : Bool) : Tx := { txid := 2001, ins := [{ txid := 1001, vout := 0 }], outs := [{ value := 1, script := "51" }], scriptsOk := ok }
def sxBlocks : List Block :=
  [ { id := 1001, parent := 100, bits := easyBits, txs := [cbTx 1001] } ] ++
  (List.range 100).map (fun i => { id := 1002 + i, parent := 1001 + i, bits := easyBits, txs := [cbTx (1002 + i)] }) ++
  [ { id := 2000, parent := 1101, bits := easyBits, txs := [cbTx 5000, sxSpend false] } ]

theorem script_failure_example :
    (deliver (runAll (sxBlocks.take 101)) (sxBlocks.getD 101 default)).2.name = "err:scripts" ∧
    (getNode (runAll sxBlocks) 2000).isNone = true ∧ (runAll sxBlocks).tip = 1101 ∧
    scriptsPass [cbTx 5000, sxSpend false] = false ∧ scriptsPass [cbTx 5000, sxSpend true] = true ∧
    (deliver (runAll (sxBlocks.take 101)) { id := 2000, parent := 1101, bits := easyBits, txs := [cbTx 5000, sxSpend true] }).2.name = "ok" := by
  decide +kernel

-- tie_keeps_first_seen: after x1, a2 the block b2 (same work as the tip a2) arrives on the side branch
example : ∃ (E : List Nat) (c : Chain) (b : Block) (p t : Node), ChainInv exU E c ∧ BlockTree c.root exU ∧ b ∈ exU ∧
    getNode c b.id = none ∧ getNode c b.parent = some p ∧ getNode c c.tip = some t ∧ c.tip ≠ b.parent ∧
    ((workOf c p).add (difficulty b.bits)).gt (workOf c t) = false :=
  ⟨_, exRun (exU.take 2), exU.getD 2 default, _, _, exInv _ (exTake 2), by rw [exRoot _ (exTake 2)]; exact exU_blockTree,
   by simp [exU], by decide +kernel, by rfl, by rfl, by decide +kernel⟩

-- failed_reorg_no_residue / morePOW_compares_work / farthest_is_max_work: the state after x1, a2, b2, b3-less: MoveToBlock(b2)
example : ∃ (c : Chain) (path : List PE) (t d r : Node), TreeWF exU c ∧ PathOK c 0 path ∧ Ext c path ∧ getNode c c.tip = some t ∧
    t.height = path.length ∧ BlockTree c.root exU ∧ getNode c 3 = some d ∧ getNode c c.root = some r := by
  obtain ⟨w, ⟨path, hp, ⟨t, ht, hth⟩, _, hx⟩, _, _⟩ := exInv (exU.take 3) (exTake 3)
  exact ⟨exRun (exU.take 3), path, t, _, _, w, hp, hx, ht, hth, by rw [exRoot _ (exTake 3)]; exact exU_blockTree, by rfl, by rfl⟩

-- deleteBranch_keeps_sibling_order / deleteBranch_parent_keeps_order: the state after x1, a2, b2 (b2 = id 3 stored aside, x1 lists
-- [2, 3]); removing b2: hypotheses hold for y = root, and the parent x1 keeps [2]
example : ∃ (c : Chain) (nxt r : Node), TreeWF exU c ∧ getNode c 3 = some nxt ∧ 3 ≠ c.root ∧ getNode c c.root = some r ∧
    ¬ Desc c 3 c.root ∧ (getNode c 1).map (·.childs) = some [2, 3] ∧
    (getNode (deleteBranch c 3) 1).map (·.childs) = some [2] := by
  have hr := exRoot _ (exTake 3)
  refine ⟨exRun (exU.take 3), _, _, (exInv (exU.take 3) (exTake 3)).wf, by rfl, by rw [hr]; decide, by rfl,
    fun h => ?_, by decide +kernel⟩
  have := Desc.root_only h
  rw [hr] at this; cases this


-- commitTxs_refuses_spend_of_later_tx / misordered_block_never_replays: a block [coinbase, child, parent] in which the
-- child (txid 9) spends output 0 of the parent (txid 10) listed behind it; the parent spends an unspent output of the map.
-- The same three transactions with the parent first are accepted.
def oxChild : Tx := { txid := 9, ins := [{ txid := 10, vout := 0 }], outs := [⟨30, "51"⟩], scriptsOk := true }
def oxParent : Tx := { txid := 10, ins := [{ txid := 7, vout := 0 }], outs := [⟨40, "51"⟩], scriptsOk := true }
def oxDB : DB := [{ txid := 7, height := 1, coinbase := false, outs := [some ⟨50, "51"⟩] }]
example : ∃ (u : DB) (pre post : List Tx) (tx : Tx) (i : TxIn), i ∈ tx.ins ∧ pre ≠ [] ∧
    unspentGet u i.txid i.vout = none ∧ (∀ p ∈ pre, p.txid ≠ i.txid) ∧ i.txid ∈ (tx :: post).map (·.txid) ∧
    (commitTxs u 2 (reward 2) false (pre ++ tx :: post)).toOption = none ∧
    (commitTxs u 2 (reward 2) false (pre ++ post ++ [tx])).toOption.isSome = true :=
  ⟨oxDB, [cbTx 8], [oxParent], oxChild, ⟨10, 0⟩, by decide⟩

-- commitTxs_valid / undo_commitTxs: a block that partially spends a two-output record
example : ∃ (u : DB) (txs : List Tx) (ch : Changes), commitTxs u 2 (reward 2) false txs = .ok ch ∧
    (∀ t ∈ txs.map (·.txid), u.get t = none) ∧ ch.deled ≠ [] :=
  ⟨[{ txid := 7, height := 1, coinbase := false, outs := [some ⟨50, "51"⟩, some ⟨60, "00"⟩] }],
   [cbTx 8, { txid := 9, ins := [{ txid := 7, vout := 0 }], outs := [⟨40, "51"⟩], scriptsOk := true }], _, rfl,
   by decide⟩


set_option linter.defProp false in
def exPath0 : PathOK exChain 0 [] :=
  ⟨rfl, rfl, trivial, ⟨[], rfl, fun _ => rfl⟩, trivial, trivial⟩

-- replay_inv_extend: all hypotheses hold for exChain / exBlock
example : PathOK exChain 0 [] ∧ exChain.tip = exBlock.parent ∧
    (∃ n, getNode exChain exBlock.id = some n ∧ n.parent = exBlock.parent) ∧
    commitTxs exChain.utxo 1 (reward 1) false exBlock.txs = .ok exChanges ∧
    (∀ t ∈ exBlock.txs.map (·.txid), exChain.utxo.get t = none) :=
  ⟨exPath0, by decide, ⟨_, rfl, rfl⟩, rfl, fun _ _ => rfl⟩

-- replay_inv_undoLast: a state with a non-empty active branch above the floor
example : ∃ (c : Chain) (fl : Nat) (e : PE) (rest : List PE), PathOK c fl (e :: rest) ∧ rest.length + 1 > fl :=
  ⟨_, _, _, _, replay_inv_extend exChain 0 [] exPath0 exBlock exChanges (by decide) ⟨_, rfl, rfl⟩
    (by intro e he; cases he) rfl (fun _ _ => rfl), by decide⟩

/-- a1 (id 1) is the tip; b1 (id 2) and b2 (id 3) form a stored side branch -/
def rxChain : Chain :=
  { nodes := [{ id := 100, parent := 100, height := 0, bits := easyBits, childs := [1, 2], txCount := 0 },
              { id := 1, parent := 100, height := 1, bits := easyBits, childs := [], txCount := 1 },
              { id := 2, parent := 100, height := 1, bits := easyBits, childs := [3], txCount := 1 },
              { id := 3, parent := 2, height := 2, bits := easyBits, childs := [], txCount := 1 }],
    root := 100, tip := 1,
    utxo := [{ txid := 1001, height := 1, coinbase := true, outs := [some ⟨5000000000, "51"⟩] }],
    store := [(1, { txs := [cbTx 1001], trusted := true }), (2, { txs := [cbTx 1002], trusted := false }),
              (3, { txs := [cbTx 1003], trusted := false })],
    undoFiles := [(1, [])], lastHeight := 1 }

set_option linter.defProp false in
def rxPath : PathOK rxChain 0 ([⟨1, [cbTx 1001]⟩] ++ []) :=
  ⟨rfl, rfl, ⟨⟨_, rfl, rfl⟩, ⟨_, rfl, rfl⟩, trivial⟩, ⟨_, rfl, fun _ => rfl⟩,
   ⟨fun _ => ⟨[], _, rfl, rfl, rfl⟩, trivial⟩, ⟨fun u hu t _ => by cases hu; rfl, trivial⟩⟩

-- failed_reorg_no_residue_partial: MoveToBlock(b2) from tip a1, common block = root
example : ∃ (d lb cur lb2 anc : Node), getNode rxChain 3 = some d ∧ getNode rxChain rxChain.tip = some lb ∧
    climbChecked rxChain lb.height (d.height + 1) d = .ok (some cur) ∧
    climbChecked rxChain cur.height (lb.height + 1) lb = .ok (some lb2) ∧
    commonAnc rxChain (cur.height + 2) lb2 cur = .ok (some anc) ∧
    anc.id = headId rxChain [] ∧ (∀ e ∈ [(⟨1, [cbTx 1001]⟩ : PE)], e.id ≠ anc.id) ∧ lb.height + 1 ≥ 1 :=
  ⟨_, _, _, _, _, rfl, rfl, rfl, rfl, rfl, rfl, by decide⟩


/-- rxChain after the disconnect phase: tip = root, empty map -/
def rxChain0 : Chain := { rxChain with tip := 100, utxo := [], lastHeight := 0 }

-- replay_inv_connect: ParseTillBlock(b2) connects b1 first
example : PathOK rxChain0 0 [] ∧ ∃ (last en nxt : Node) (blk : Stored) (ch : Changes),
    rxChain0.tip ≠ 3 ∧ getNode rxChain0 rxChain0.tip = some last ∧ getNode rxChain0 3 = some en ∧
    findPathTo rxChain0 last en = .ok (some 2) ∧ getNode rxChain0 2 = some nxt ∧ nxt.txCount ≠ 0 ∧
    nxt.parent = rxChain0.tip ∧ nxt.height = 0 + 1 ∧ nxt.height + UnwindBufLen ≥ en.height ∧
    alookup 2 rxChain0.store = some blk ∧
    commitTxs rxChain0.utxo nxt.height (reward nxt.height) blk.trusted blk.txs = .ok ch ∧
    (∀ t ∈ blk.txs.map (·.txid), rxChain0.utxo.get t = none) :=
  ⟨⟨rfl, rfl, trivial, ⟨[], rfl, fun _ => rfl⟩, trivial, trivial⟩,
   _, _, _, _, _, by decide, rfl, rfl, rfl, rfl, by decide, rfl, rfl, by decide, rfl, rfl, fun _ _ => rfl⟩


-- reorg_inv_partial: a fork-free history with an accepted and a rejected (no coinbase) delivery
example : OnTip (ChainTree.init 100 easyBits)
    [{ id := 1, parent := 100, bits := easyBits, txs := [cbTx 1001] },
     { id := 2, parent := 1, bits := easyBits, txs := [] },
     { id := 3, parent := 1, bits := easyBits, txs := [cbTx 1003] }] := by
  simp only [OnTip]; decide

end GocoinV.Props.C06
