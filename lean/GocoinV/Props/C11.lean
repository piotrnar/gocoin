/-
  Props.C11 — block processing is race-free and its result independent of scheduling (protocol level).
  Theorems are about the definitions of Model/Conc.lean (the ones the oracle executes), about the small systems of
  Model/ConcOwn.lean and Model/ConcThread.lean (the last two sections; the oracle evaluates only their regenerated
  facts, not these systems) and about the synchronisation sequences regenerated from /repo into Gen/ConcFacts.lean.
  "For every schedule" is literal: `run st ls` for an arbitrary list `ls` of scheduler choices (disabled choices are
  skipped). Central theorems: `snapshot_atomic`, `no_deadlock`, `commit_schedule_independent`, `accessed_under_lock`
  (helpers: Proofs/C11.lean, C11Snap.lean — FileInv, C11Live.lean — CtlInv, the walk over the steps, progress, no
  foreign Save; C11Fan.lean — counting, C11Own.lean — Ring/Undo/Collect).
  The letters on the docstrings name the part of the concurrent code a theorem is about: (a)–(f) are listed in the head of
  Model/Conc.lean, (g)–(i) in the head of Model/ConcOwn.lean; (c') is (c), the snapshot protocol, with the foreign
  goroutine of Model/ConcThread.lean added.
-/
import GocoinV.Proofs.C11
import GocoinV.Proofs.C11Live
import GocoinV.Proofs.C11Fan
import GocoinV.Proofs.C11Own
namespace GocoinV.Props.C11
open GocoinV.Conc GocoinV.ConcEv GocoinV.Proofs.C11 GocoinV.Proofs.C11Own

/-- Every shared variable of the policy table (functions (a)–(f)) is, in the synchronisation sequence extracted
    from the CURRENT source, accessed inside the critical section of its mutex, or only by the spawning goroutine,
    or atomically / after `wg.Wait()` — up to the explicitly listed, separately justified exceptions. -/
theorem accessed_under_lock : allDisciplined = true := by decide +kernel

/-- sanity of the checker on hand-made sequences: a `frozen` variable written after the first spawn, a `workers` variable
    written plainly by the spawner while workers may run, and a captured local without a guard are all reported -/
example : unguarded [(1, .frozen)] [.wr 1, .goBegin, .rd 1, .goEnd, .wr 1] = [(1, true)] := by decide
example : unguarded [(1, .workers 2 0)] [.wr 1, .goBegin, .atomic 1, .wgDone 2, .goEnd, .wr 1, .wgWait 2, .rd 1] = [(1, true)] := by decide

/-- The 18 protocol-shape facts the transition systems were written for hold of the synchronisation sequences regenerated
    from the current source. What each one is: a decidable test on the FLATTENED event list of one function (source order,
    loop bodies once, block structure as `open`/`close`/`ret`, `neg` = the test of an `if` is a negation):
    the first `call abortWriting` of CommitBlockTxs / UndoBlockTxs / PurgeUnspendable comes before the first mutation event, is
    at nesting depth 0 with no `ret` before it (so it is not inside a conditional), and every such call has db.Mutex held;
    the WHOLE event lists of abortWriting and Save (with block structure and test polarity) equal the modelled shape or its
    early-return spelling; save waits for the previous file goroutine before it starts its own, touches WritingInProgress
    exactly once (the final Clr, depth 0) followed by its only writingDone.Done; every store into commitTxs' local output map is
    a clone; a deferred literal containing wg.Wait is installed before the first `go`; writeOne writes ipos last.
    NOT pinned by them: conditions other than the polarity of a negation (`if x&1 == 0` vs `if x > 0`), which index of
    MapMutex guards which bucket, the value assigned to commitTxs' wait flag, the exit test of the file goroutine's loop. -/
theorem source_protocol_facts : protoFacts = protoFactsOK := by decide +kernel

/-- Meaning of a passed mutex check: if the checker records no new unguarded access, the mutex is in the
    held set it tracks (exclusively for a write). -/
theorem checker_mutex_sound (pol : List (Nat × Guard)) (c : Chk) (x m r s : Nat) (w : Bool)
    (hp : pol.lookup x = some (.mutex m r s)) (hb : (access pol c x w).bad = c.bad) : holds c m w = true := by
  unfold access at hb
  rw [hp] at hb
  simp only at hb
  split at hb
  · assumption
  · simp at hb

/- an instance of the theorem: policy `x=7 ↦ mutex 3`, state after `lock 3`: the write is accepted (bad unchanged), and the
   conclusion is what the theorem says; without the lock the access is recorded -/
example : (access [(7, .mutex 3 0 0)] (chkStep [] {} (.lock 3)) 7 true).bad = (chkStep [] {} (.lock 3)).bad ∧
    holds (chkStep [] {} (.lock 3)) 3 true = true := by decide
example : (access [(7, .mutex 3 0 0)] {} 7 true).bad = [(7, true)] := by decide

/-- joins are pessimistic: a lock taken inside a conditional block is not counted as held after the block (`if c {Lock}; write;
    if c {Unlock}` is reported), a balanced critical section inside a block is fine, and a block that returns does not reach
    the join -/
example : unguarded [(7, .mutex 3 0 0)] [.open, .lock 3, .close, .wr 7, .open, .unlock 3, .close] = [(7, true)] := by decide
example : unguarded [(7, .mutex 3 0 0)] [.open, .lock 3, .wr 7, .unlock 3, .close, .lock 3, .open, .unlock 3, .ret, .close, .wr 7, .unlock 3] = [] := by decide

/-- `unconditional`: a call inside an `if` body, or after a possible return, is not unconditional -/
example : unconditional (.call 5) [.lock 1, .call 5, .wr 2] = true ∧
    unconditional (.call 5) [.lock 1, .open, .call 5, .close, .wr 2] = false ∧
    unconditional (.call 5) [.lock 1, .open, .ret, .close, .call 5] = false := by decide

/-- (c) For every program of the main goroutine (commits, Idle, AbortWriting, HurryUp, direct Save, Close), every
    program of an auxiliary goroutine (HurryUp, AbortWriting) and EVERY schedule: while the saver goroutine is
    between its start and `finito` (waiting for the previous file, reading the header, iterating the maps) the main
    goroutine is never inside the mutation part of CommitBlockTxs — abortWriting always completes first,
    also with stale/duplicate abort tokens and with HurryUp/Close racing. -/
theorem mutation_excludes_saving (mp : List Snap.MOp) (xp : List Snap.XOp) (cap : Nat) (ls : List Snap.Lab)
    (sv : Snap.Saver) (hs : (Snap.run (Snap.init mp xp cap) ls).s = some sv)
    (hm : (Snap.run (Snap.init mp xp cap) ls).mpc = .cMut1 ∨ (Snap.run (Snap.init mp xp cap) ls).mpc = .cMut2) :
    SnapP.reading sv = false :=
  (SnapL.reach mp xp cap ls).1.excl hs (by rcases hm with hm | hm <;> rw [hm] <;> rfl)

example :
    let st := Snap.run (Snap.init [.commit, .idle, .commit] [] 2)
      (List.replicate 15 .m ++ [.sStep, .sBegin 1, .sStep, .sStep, .sStep, .sStep] ++ List.replicate 4 .m)
    st.mpc = .cMut1 ∧ st.s.isSome = true := by decide

/-- (c) In every reachable state in which the saver is about to read the header (height, hash) or is iterating
    the maps, the (maps, header) pair is block-consistent (no commit is half applied) and, by
    `mutation_excludes_saving`, stays untouched until `finito`. Hence header and every chunk are READ from one
    and the same block-consistent state. -/
theorem snapshot_reads_block_consistent (mp : List Snap.MOp) (xp : List Snap.XOp) (cap : Nat) (ls : List Snap.Lab)
    (sv : Snap.Saver) (hs : (Snap.run (Snap.init mp xp cap) ls).s = some sv) (hr : SnapP.reading sv = true) :
    (Snap.run (Snap.init mp xp cap) ls).stable = true :=
  (SnapL.reach mp xp cap ls).1.stable_reading hs hr

/-- (c) `snapshot_atomic`: for every program of the main and the auxiliary goroutine, every data_channel capacity
    and EVERY schedule, every file that reaches the name UTXO.db (`visible`) is good: its header was read in a
    block-consistent state (`hst`), it holds exactly the `tot` chunks announced in the header, and every chunk was
    read at the version of the header (`content.all (· == hv)`) — i.e. the chunks WRITTEN by the file goroutine, in
    order, are exactly those read by the saver between header and `finito`; the rename happens only after the last
    chunk and never after an abort. Covers saves racing with commits, AbortWriting, HurryUp, Close, a second save
    starting while the previous file goroutine is still flushing, and the unordered `select` of the file goroutine. -/
theorem snapshot_atomic (mp : List Snap.MOp) (xp : List Snap.XOp) (cap : Nat) (ls : List Snap.Lab)
    (v : Snap.Visible) (hv : v ∈ (Snap.run (Snap.init mp xp cap) ls).visible) : v.good = true :=
  (SnapL.reach mp xp cap ls).2.1.vis v hv

/- non-vacuity: a schedule that makes a file visible (commit, Idle → save of 2 chunks → rename) -/
example :
    ((Snap.run (Snap.init [.commit, .idle] [] 2)
      (List.replicate 15 .m ++ [.sStep, .sBegin 2, .sStep, .sStep, .sStep, .sStep, .fStep, .fStep, .fStep, .fStep])).visible
        = [{ hv := 2, hst := true, tot := 2, content := [2, 2] }]) := by decide

/-- (c) `no_deadlock`: every reachable state of the snapshot protocol whose data_channel has capacity ≥ 1 (the
    source has `make(chan []byte, save_buffer_cnt)`, fact `dataChanBuffered`) is final (both programs finished,
    no saver, no file goroutine) or has an enabled step — for all programs and all schedules. In particular
    abortWriting's blocking send and its `writingDone.Wait()` under db.Mutex, Close's two waits, the saver waiting
    for the previous file goroutine and the full data_channel never wait for each other in a cycle. -/
theorem no_deadlock (st : Snap.St) (hr : Snap.Reachable st) (hcap : 0 < st.cap) :
    Snap.final st = true ∨ Snap.hasStep st = true := by
  obtain ⟨mp, xp, cap, ls, rfl⟩ := hr
  exact SnapL.progress _ (SnapL.reach mp xp cap ls).2.1 (SnapL.reach mp xp cap ls).2.2 hcap

example : Snap.Reachable (Snap.run (Snap.init [.commit, .idle, .close] [.abort] 1) [.m, .m, .x]) ∧
    0 < (Snap.run (Snap.init [.commit, .idle, .close] [.abort] 1) [.m, .m, .x]).cap :=
  ⟨⟨_, _, _, _, rfl⟩, by decide⟩

/-- (c) the capacity hypothesis of `no_deadlock` is necessary in the model: with an unbuffered data_channel modelled
    as a queue of length 0 the saver can never hand over a chunk (the model has no rendez-vous). -/
theorem no_deadlock_needs_capacity :
    let st := Snap.run (Snap.init [.commit, .idle] [] 0) (List.replicate 15 .m ++ [.sStep, .sBegin 1])
    Snap.final st = false ∧ Snap.hasStep st = false := by decide

-- OPEN: snapshot_liveness — under a FAIR schedule every run of the snapshot protocol reaches a final state (Close
--   returns, every started save ends in a rename or a remove). `no_deadlock` only says that some step is always
--   enabled; a variant (measure) argument over the fair scheduler is not done. The saver's timed polling loop
--   (`time.After`) is abstracted to a non-deterministic choice.
-- OPEN: snap_refines_source — that Snap/Fan/Pub are abstractions of the Go functions is NOT a theorem: the tie is
--   the regenerated shape facts (`source_protocol_facts`, `accessed_under_lock`) plus the runtime monitor and the
--   differential runs of the harness.

/- non-vacuity of `snapshot_reads_block_consistent` on REACHABLE states: after an undo and Idle the saver is iterating the maps
   (`.loop`, one of three chunks read) of a block-consistent state at version 2; the same with the saver at `.hdr` after a commit -/
example :
    let st := Snap.run (Snap.init [.undo, .idle, .purge] [] 2) (List.replicate 15 .m ++ [.sStep, .sBegin 3, .sStep])
    (st.s.map (fun sv => (sv.pc, SnapP.reading sv))) = some (.loop, true) ∧ st.stable = true ∧ st.ver = 2 := by decide

example :
    let st := Snap.run (Snap.init [.commit, .idle] [] 2) (List.replicate 15 .m ++ [.sStep])
    (st.s.map (fun sv => (sv.pc, SnapP.reading sv))) = some (.hdr, true) ∧ st.stable = true := by decide

/- non-vacuity of `single_saver` on a REACHABLE state: the first saver has cleared WritingInProgress but has not yet done
   writingDone.Done() (`.done`), the main goroutine has committed another block and is inside the next Save (`sAdd`).
   NOTE (model ≠ code here): one step later (`sGo`) the MODEL makes the main goroutine wait until that old saver object is gone,
   whereas `go db.save()` never blocks in Go — the model serialises "old saver between WritingInProgress.Clr() and
   writingDone.Done()" with "new saver starts"; the old saver only does Done() there. -/
example :
    let st := Snap.run (Snap.init [.commit, .idle, .commit, .idle] [] 2)
      (List.replicate 15 .m ++ [.sStep, .sBegin 1, .sStep, .sStep, .sStep, .sStep] ++ List.replicate 12 .m)
    SnapP.inSave st.mpc = true ∧ st.s.map (·.pc) = some .done ∧ st.wip = true ∧ st.wdone = 1 := by decide

/-- (c) A goroutine that observed WritingInProgress = false in Save and is about to start the saver finds no
    earlier saver that could still clear the flag: two savers are never reading at the same time. -/
theorem single_saver (mp : List Snap.MOp) (xp : List Snap.XOp) (cap : Nat) (ls : List Snap.Lab)
    (sv : Snap.Saver) (hs : (Snap.run (Snap.init mp xp cap) ls).s = some sv)
    (hm : SnapP.inSave (Snap.run (Snap.init mp xp cap) ls).mpc = true) : sv.pc = .done :=
  (SnapL.reach mp xp cap ls).1.single hs hm

/-- (d) BlockDB: for every interleaving of BlockAdd, cache eviction, writeOne (store fields, then publish ipos,
    both inside db.mutex) and BlockGetInternal (lookup under db.mutex, field reads after Unlock): a reader that
    goes to disk never reads ipos/blen/fpos/… before they are final — unpublished blocks are never evicted from
    the cache, so the reader's critical section follows the publisher's. (Dismisses the candidate race.) -/
theorem pub_read_after_publish (ls : List Pub.Lab) : (Pub.run {} ls).badRead = false :=
  (PubP.inv_run {} ls PubP.inv_init).2.2.2.2.2.2.2.2

/-- (a) commitTxs with the clone (`blUnsp[h] = slices.Clone(tx.TxOut)`, fact `cloned`): under every schedule of
    the main loop and the script workers the output arrays the workers read are never modified, so every
    worker computes its verdict from the block as received. -/
theorem commit_workers_read_unmodified (f : Fan.Verify) (txs : List Fan.Tx) (ls : List Fan.Lab) :
    (Fan.run f (Fan.init txs true) ls).mem = (Fan.init txs true).mem :=
  (FanC.inv_run f txs _ ls (FanC.inv_init f txs)).mem_eq

/-- (a) `commit_schedule_independent`: with the clone, whatever the script check `f` computes from what it reads,
    for every block and EVERY schedule of the main loop and the workers: once commitTxs has returned, its verdict
    (early error, ver_err_cnt) is `Fan.reference f txs` — the first transaction at which the main loop fails and
    the NUMBER of failing inputs before it, counted on the block as received. ver_err_cnt equals the number of
    failing inputs under every schedule (no lost update, no worker still running at the return, also on the
    early-return path with the deferred wg.Wait), so the verdict is a function of the input alone. -/
theorem commit_schedule_independent (f : Fan.Verify) (txs : List Fan.Tx) (ls : List Fan.Lab)
    (v : Option Nat × Nat) (h : (Fan.run f (Fan.init txs true) ls).verdict = some v) : v = Fan.reference f txs :=
  (FanC.inv_run f txs _ ls (FanC.inv_init f txs)).verdict v h

example :
    let f : Fan.Verify := fun t j _ => !(t == 1 && j == 0)
    let txs : List Fan.Tx := [⟨0, [], 1, false⟩, ⟨2, [], 1, false⟩, ⟨1, [(1, 0)], 1, false⟩]
    (Fan.run f (Fan.init txs true) [.main, .main, .worker 1, .main, .worker 0, .worker 0, .main]).verdict = some (none, 1) := by
  decide

/-- (a) corollary: two schedules of the same block that both let commitTxs return give the same verdict. -/
theorem commit_verdicts_agree (f : Fan.Verify) (txs : List Fan.Tx) (ls₁ ls₂ : List Fan.Lab)
    (v₁ v₂ : Option Nat × Nat) (h₁ : (Fan.run f (Fan.init txs true) ls₁).verdict = some v₁)
    (h₂ : (Fan.run f (Fan.init txs true) ls₂).verdict = some v₂) : v₁ = v₂ := by
  rw [commit_schedule_independent f txs ls₁ v₁ h₁, commit_schedule_independent f txs ls₂ v₂ h₂]

example : (Fan.run (fun _ _ _ => true) (Fan.init [] true) [.main]).verdict = some (none, 0) := by decide

/-- (a) Without the clone the verdict DOES depend on the schedule: two schedules of the same block, one counts
    no script failure, the other one. -/
theorem unclone_counterexample :
    let f : Fan.Verify := fun _ _ view => view.all id
    let txs : List Fan.Tx := [⟨0, [], 1, false⟩, ⟨1, [], 1, false⟩, ⟨1, [(1, 0)], 1, false⟩]
    (Fan.run f (Fan.init txs false) [.main, .main, .worker 0, .main, .worker 0, .main]).verdict = some (none, 0) ∧
    (Fan.run f (Fan.init txs false) [.main, .main, .main, .worker 0, .worker 0, .main]).verdict = some (none, 1) := by
  decide

/- HYPOTHESIS NOT TIED TO THE SOURCE: `(us.map (·.1)).Nodup` below.  UnspentDB.commit buckets its updates by UtxoKeyType = the FIRST
   8 BYTES of the txid (changes.DeledTxs is keyed by the full 32-byte txid, AddList holds full records, but the map the workers write
   is keyed by the prefix).  Two different transactions created or spent by ONE block whose txids share 8 bytes would make two
   workers (do_add / do_del run concurrently) write the same key: the lemma then says nothing.  Such a collision needs about 2^32
   hash evaluations; it is an ASSUMPTION of the check (named in the manifest), checked only on the blocks the harness runs
   (histogram commit:update-keys-distinct).  The lemma itself is algebra about `applyAll`; the oracle does not execute it. -/
/-- (b) UnspentDB.commit: add/delete workers touch pairwise different keys, each under its bucket mutex, so every
    order in which the critical sections are executed yields the same maps. -/
theorem disjoint_updates_commute (us vs : List (Nat × Option Nat)) (hp : us.Perm vs)
    (hd : (us.map (·.1)).Nodup) (m : Nat → Option Nat) : applyAll m us = applyAll m vs :=
  GocoinV.Proofs.C11.disjoint_updates_commute us vs hp hd m

example : ([(1, some 5), (2, none)] : List (Nat × Option Nat)).Perm [(2, none), (1, some 5)] ∧
    (([(1, some 5), (2, none)] : List (Nat × Option Nat)).map (·.1)).Nodup := ⟨List.Perm.swap _ _ _, by decide⟩
/- without Nodup the conclusion fails: two updates of ONE key in the two orders -/
example : applyAll (fun _ => none) [(1, some 5), (1, none)] 1 ≠ applyAll (fun _ => none) [(1, none), (1, some 5)] 1 := by decide

/-- (e) BuildTxListExt: the block weight accumulated with atomic adds is the same for every completion order. -/
theorem atomic_sum_order_independent (ws vs : List Nat) (h : ws.Perm vs) (b : Nat) :
    ws.foldl (· + ·) b = vs.foldl (· + ·) b :=
  h.foldl_eq' (fun _ _ _ _ _ => by omega) b

example : ([3, 4] : List Nat).Perm [4, 3] := List.Perm.swap _ _ _

/-- (f) a sighash cache cell under Tx.hashLock: whoever comes second finds the cell filled and gets the same
    value, and leaves the cell unchanged. -/
theorem cache_compute_once (v : Nat) (c : Option Nat) :
    (cacheStep v (cacheStep v c).1).1 = (cacheStep v c).1 ∧ (cacheStep v (cacheStep v c).1).2 = (cacheStep v c).2 := by
  cases c <;> simp [cacheStep]

/-! ## ownership of memory handed to another goroutine (Model/ConcOwn.lean) -/

/-- The ownership facts hold of the CURRENT source (regenerated by gen_c11, own.go): no goroutine is started while its spawner
    still writes a field of the same object that the goroutine reads (the script workers of commitTxs read `Tx.Spent_outputs`,
    which is complete before the first of them starts); every chunk buffer UnspentDB.save sends to the file goroutine is given
    up for a freshly allocated one (or comes from a pool of at least capacity + 2 buffers); no slice of a stored UTXO record's
    memory is stored into the change set (undo data, add list) that commitTxs hands to CommitBlockTxs. -/
theorem source_ownership_facts : Own.ownFacts = Own.ownFactsOK := by decide +kernel

/-- (g) chunk buffers: with a fresh buffer per chunk (`n = 0`), or a ring of `n ≥ cap + 1` buffers where the serialiser checks
    for room in the channel before every write into its current buffer (as save() does), under EVERY schedule of serialiser and
    file goroutine no buffer is written while its chunk is in flight, every chunk reaches the file intact, in order. -/
theorem chunk_buffers_not_rewritten_in_flight (n cap total : Nat) (h : n = 0 ∨ cap + 1 ≤ n) (ls : List Own.Ring.Lab) :
    (Own.Ring.run (Own.Ring.init n cap total) ls).dirty = [] ∧
    (Own.Ring.run (Own.Ring.init n cap total) ls).written.all (·.2) = true ∧
    (Own.Ring.run (Own.Ring.init n cap total) ls).written.map (·.1) = List.range (Own.Ring.run (Own.Ring.init n cap total) ls).flushed :=
  let i := RingP.inv_run _ ls h (RingP.inv_init n cap total)
  ⟨i.clean, i.ok, i.order⟩

example : (Own.Ring.run (Own.Ring.init 0 1 2) [.fill, .send, .recv, .fill, .send, .flush, .recv, .flush]).written = [(0, true), (1, true)] := by decide
/- the non-trivial branch `cap + 1 ≤ n`: a ring of 3 buffers, channel of 2, 5 chunks, the serialiser running as far ahead as it can -/
example : (2 : Nat) + 1 ≤ 3 ∧
    (Own.Ring.run (Own.Ring.init 3 2 5) [.fill, .send, .fill, .send, .recv, .fill, .send, .flush, .recv, .fill, .send, .flush, .recv,
      .fill, .send, .flush, .recv, .flush, .recv, .flush]).written = [(0, true), (1, true), (2, true), (3, true), (4, true)] := by decide

/-- (g) the bound is tight: with as many buffers as the channel has slots (the "obvious" pool size) there is a schedule in
    which the serialiser refills the buffer whose chunk the file goroutine is still writing — the file gets a damaged chunk. -/
theorem chunk_pool_of_capacity_counterexample :
    (Own.Ring.run (Own.Ring.init 2 2 4) [.fill, .send, .fill, .send, .recv, .fill, .flush]).written = [(0, false)] := by decide

/-- (h) undo data: if every undo entry OWNS a copy of the spent script, the undo file is the list of spent scripts under every
    interleaving of the undo writer with the delete workers (which free the spent records) and the insert workers (which reuse
    the freed slots) — whatever the allocator does with the memory. -/
theorem undo_copies_schedule_independent (vs : List Nat) (mem dels adds : List Nat) (ls : List Own.Undo.Lab)
    (hdone : (Own.Undo.run { mem := mem, dels := dels, adds := adds, todo := vs.map .copy } ls).todo = []) :
    (Own.Undo.run { mem := mem, dels := dels, adds := adds, todo := vs.map .copy } ls).out = vs := by
  have i := UndoP.inv_run vs { mem := mem, dels := dels, adds := adds, todo := vs.map .copy } ls
    ⟨by simp [List.filterMap_map, Function.comp_def, UndoP.val], List.forall_mem_map.mpr fun v _ => ⟨v, rfl⟩⟩
  simpa [hdone] using i.1

example : (Own.Undo.run { mem := [7, 8], dels := [0, 1], adds := [5], todo := [.copy 7, .copy 8] } [.del, .add, .ser, .del, .ser]).todo = [] := by decide

/-- (h) an undo entry that ALIASES the record's memory makes the undo file depend on the schedule: serialised before the slot
    is freed and reused it holds the spent script, afterwards the script of a record created by the same block. -/
theorem undo_alias_counterexample :
    (Own.Undo.run { mem := [7], dels := [0], adds := [5], todo := [.alias 0] } [.ser, .del, .add]).out = [7] ∧
    (Own.Undo.run { mem := [7], dels := [0], adds := [5], todo := [.alias 0] } [.del, .add, .ser]).out = [5] := by decide

/-- (i) start order: when the script workers of a transaction are started after ALL its spent outputs are resolved, every
    worker finds the complete array under every schedule. -/
theorem workers_see_complete_inputs (nin : Nat) (ls : List Own.Collect.Lab) (v : Nat × Nat)
    (hv : v ∈ (Own.Collect.run (Own.Collect.init nin false) ls).views) : v.2 = nin :=
  (CollectP.inv_run nin _ ls ⟨rfl, rfl, Nat.zero_le _, fun h => absurd h (Nat.lt_irrefl 0), List.forall_mem_nil _⟩).2.2.2.2 v hv

example : (Own.Collect.run (Own.Collect.init 2 false) [.main, .main, .main, .worker 0]).views = [(0, 2)] := by decide

/-- (i) started as soon as its own input is resolved, a worker can read the array while later entries are still missing. -/
theorem early_spawn_counterexample :
    (Own.Collect.run (Own.Collect.init 2 true) [.main, .worker 0, .main]).views = [(0, 1)] := by decide

/-! ## which goroutine may start a snapshot (Model/ConcThread.lean) -/

/-- The snapshot protocol is proved for saves that are started by the goroutine that commits.  That this is how the node uses
    it is a fact about the CALLERS, regenerated from the whole client on every run (gen_c11, thread.go): no call site of
    UnspentDB.Save / Idle / Close / CommitBlockTxs / UndoBlockTxs / PurgeUnspendable / DefragMap / AbortWriting can be executed by a goroutine other
    than the main one — not through a `go` statement, an HTTP / timer callback, nor through an entry of the text UI's command
    table whose flag lets the UI goroutine run the handler itself — and the analysis does reach the block path, the idle timer,
    the operator's save command and Close on the main goroutine. -/
theorem source_thread_facts : Thread.threadFacts = Thread.threadFactsOK := by decide +kernel

/-- sanity of the fact on hand-made lists: one call site that another goroutine can reach fails it -/
example : (Thread.threadFactsOf [("Save", 0), ("Idle", 0), ("Close", 0), ("CommitBlockTxs", 0), ("UndoBlockTxs", 0), ("Save", 1)]).committerOnly = false := by decide

/-- (c') The snapshot protocol extended by a foreign goroutine that may call `Save()` directly at any point of the schedule:
    as long as that goroutine never does (`foreignSaves = 0` — fact `committerOnly` of the source), every file that reaches the
    name UTXO.db is good under EVERY schedule — the extended system then is `Snap` and this is `snapshot_atomic`. -/
theorem committer_started_saves_atomic (mp : List Snap.MOp) (xp : List Snap.XOp) (cap : Nat) (ls : List Thread.Lab)
    (v : Snap.Visible) (hv : v ∈ (Thread.run (Thread.init mp xp cap 0) ls).base.visible) : v.good = true := by
  rw [(GocoinV.Proofs.C11Thread.run_no_foreign (Thread.init mp xp cap 0) ls rfl rfl).1] at hv
  exact snapshot_atomic mp xp cap (Thread.baseLabs ls) v hv

example : ((Thread.run (Thread.init [.commit, .idle] [] 2 0)
      ((List.replicate 15 (.base .m)) ++ [.foreign, .base .sStep, .base (.sBegin 2), .foreign] ++
        (List.replicate 4 (.base .sStep)) ++ (List.replicate 4 (.base .fStep)))).base.visible
        = [{ hv := 2, hst := true, tot := 2, content := [2, 2] }]) := by decide

/-- (c') ONE direct Save() by another goroutine breaks it: the commit has passed its abortWriting (no save was running) and has
    applied the first half of the block when the foreign goroutine starts a saver; the saver reads the header in that
    half-applied state, the chunk after the commit finished, nobody aborts it, and the file is renamed to UTXO.db — header
    of one state, content of another. -/
theorem foreign_save_counterexample :
    (Thread.run (Thread.init [.commit] [] 2 1)
      (List.replicate 5 (.base .m) ++ List.replicate 5 .foreign ++ [.base .sStep, .base (.sBegin 1), .base .m] ++
        List.replicate 5 (.base .sStep) ++ List.replicate 3 (.base .fStep))).base.visible
      = [{ hv := 1, hst := false, tot := 1, content := [2] }] ∧
    Snap.Visible.good { hv := 1, hst := false, tot := 1, content := [2] } = false := by decide

end GocoinV.Props.C11
