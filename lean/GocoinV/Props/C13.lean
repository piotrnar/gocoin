/-
  Props.C13 — property theorems for C13 (wallet-built transactions pay exactly what was asked and are fully
  valid). Theorems ONLY; helper lemmas are in GocoinV/Proofs/C13*.lean. All statements are about the
  definitions of Model/WalletTx.lean that the oracle executes and the harness compares with the wallet binary.
-/
import GocoinV.Proofs.C13
import GocoinV.Proofs.C13Sig
import GocoinV.Proofs.C13Demo
import GocoinV.Proofs.C13Final
import GocoinV.Proofs.C13Digest
import GocoinV.Proofs.C13Inst
import GocoinV.Proofs.C13Keys
import GocoinV.Proofs.C13Own
import GocoinV.Proofs.C13Inst2
import GocoinV.Gen.WalletFacts
import GocoinV.Base.Lemmas
namespace GocoinV.Props.C13
open GocoinV GocoinV.WalletTx GocoinV.WalletSpec

/-- **pays_exactly.** Whenever the model of a `-send`/`-batch` run writes a transaction `w`:
    its outputs are the requested (address, amount) pairs in order, followed by one change output iff the change
    is > 0 (value = change, script = the change address's script), followed by the OP_RETURN message iff `-msg`;
    its inputs are a sub-list (in file order) of the listed unspent outputs, all of them the wallet's own, with the
    asked sequence number; version and lock time are the asked ones; and — when the requested amounts plus the fee
    stay below 2^64 — Σ inputs = Σ outputs + fee exactly.
    Hypothesis: the wallet's own listed balance is below 2^64 satoshi. -/
theorem pays_exactly (H : Addr.Hashes) (c : Cfg) (ks : List KeyRec) (a2b : Bool) (coins : List Coin)
    (send : Option Bytes) (batch : Option (List Bytes)) (sig : Skeleton → SigFn) (w : Written)
    (hrun : runSend H c ks a2b coins send batch sig = .ok (some w))
    (hbal : ownedSum ks coins < 2^64) :
    ∃ req b outs chg,
      sendRequest H c send batch = .ok req ∧ build H c ks coins req = .ok b ∧
      PaysAll req.1 outs ∧
      w.tx.outs = outs ++ chg ++ (if c.msg.isEmpty then [] else [{ value := 0, script := msgScript c.msg }]) ∧
      (w.change = 0 → chg = []) ∧
      (0 < w.change → ∃ a s, changeAddr H c ks coins = .ok a ∧ Addr.outScript a = some s ∧
          chg = [{ value := w.change, script := s }]) ∧
      w.tx.ins.map (fun i => (i.txid, i.vout, i.sequence)) = b.spent.map (fun u => (u.txid, u.vout, c.seq)) ∧
      w.tx.version = c.version ∧ w.tx.lockTime = c.lockTime ∧
      b.spent.Sublist coins ∧ (∀ u ∈ b.spent, owned ks u = true) ∧
      (amtSum req.1 + c.fee < 2^64 → valSum b.spent = outSum w.tx.outs + c.fee) := by
  unfold runSend at hrun
  cases hreq : sendRequest H c send batch with
  | error e => simp [hreq] at hrun
  | ok req =>
    simp only [hreq] at hrun
    split at hrun
    · simp at hrun
    · cases hb : build H c ks coins req with
      | error e => simp [hb] at hrun
      | ok b =>
        simp only [hb, Except.ok.injEq, Option.some.injEq] at hrun
        subst hrun
        obtain ⟨outs, chg, h1, h2, h3, h4, h5, h6, h7, _, h9, h10, h11⟩ := build_spec H c ks coins req b hb hbal
        -- sign_tx keeps version, lock time, outpoints and outputs
        have hsk := signTx_skeleton H c ks sig (fun _ => none) b.tx
          (b.spent.map (fun u => some { value := u.value, script := u.script }))
        simp only [skeleton, Skeleton.mk.injEq] at hsk
        obtain ⟨hver, hop, houts, hlock⟩ := hsk
        refine ⟨req, b, outs, chg, rfl, hb, h1, houts.trans h2, h3, h4, ?_, hver.trans h6, hlock.trans h7, h9, h10, ?_⟩
        · rw [hop, h5]
          simp [List.map_map, Function.comp_def]
        · intro hnw
          have hinv : req.2 = u64 (amtSum req.1) := sendRequest_inv H c send batch req hreq
          have ha : u64 (amtSum req.1) = amtSum req.1 := u64_of_lt (by omega)
          rw [hinv, ha, u64_of_lt hnw] at h11
          have hm : outSum (if c.msg.isEmpty then [] else [({ value := 0, script := msgScript c.msg } : TxOut)]) = 0 := by
            split <;> simp [outSum]
          have hc : outSum chg = b.change := by
            rcases Nat.eq_zero_or_pos b.change with hz | hp
            · rw [h3 hz, hz]; rfl
            · obtain ⟨a, s, _, _, hchg⟩ := h4 hp
              rw [hchg]; simp [outSum]
          have happ : ∀ a b : List TxOut, outSum (a ++ b) = outSum a + outSum b := by
            intro a b; simp [outSum, List.map_append, List.sum_append]
          rw [houts, h2, happ, happ, hm, hc, forall2_outSum _ _ h1]
          omega

/-- **inputs_distinct.** If the lines of unspent.txt name pairwise distinct outpoints, the inputs selected by
    make_signed_tx are pairwise distinct outpoints, each of them listed. -/
theorem inputs_distinct (H : Addr.Hashes) (c : Cfg) (ks : List KeyRec) (coins : List Coin) (req : Req) (b : Built)
    (hb : build H c ks coins req = .ok b) (hbal : ownedSum ks coins < 2^64)
    (hnd : (coins.map outpoint).Nodup) :
    (b.spent.map outpoint).Nodup ∧ ∀ u ∈ b.spent, u ∈ coins := by
  obtain ⟨_, _, _, _, _, _, _, _, _, _, hsub, _, _⟩ := build_spec H c ks coins req b hb hbal
  exact ⟨(hsub.map outpoint).nodup hnd, fun u hu => hsub.subset hu⟩

/-- **insufficient_writes_nothing.** If the wallet's own listed outputs sum to less than payments + fee
    (no wrap-around: payments + fee < 2^64), the run ends in `cleanExit(1)` and writes nothing — whatever the
    options (-useallinputs, -change, -msg …). -/
theorem insufficient_writes_nothing (H : Addr.Hashes) (c : Cfg) (ks : List KeyRec) (a2b : Bool) (coins : List Coin)
    (send : Option Bytes) (batch : Option (List Bytes)) (sig : Skeleton → SigFn) (req : Req)
    (hreq : sendRequest H c send batch = .ok req) (hne : req.1 ≠ [])
    (hnw : amtSum req.1 + c.fee < 2^64) (hlow : ownedSum ks coins < amtSum req.1 + c.fee) :
    runSend H c ks a2b coins send batch sig = .error .exit1 := by
  have hinv : req.2 = u64 (amtSum req.1) := sendRequest_inv H c send batch req hreq
  have ha : u64 (amtSum req.1) = amtSum req.1 := u64_of_lt (by omega)
  have hb := build_insufficient H c ks coins req (by rw [hinv, ha]; exact hnw) (by rw [hinv, ha]; exact hlow)
  unfold runSend
  simp only [hreq, hb]
  simp [List.isEmpty_eq_false_iff.mpr hne]

/-- **raw_sign_preserves.** sign_tx (and therefore `-raw` signing and the signing step of `-send`) never alters
    version, lock time, the outpoints, the sequence numbers or the outputs of the transaction it is given:
    only scriptSig and witness data change. Holds for every signature function and every multisig result. -/
theorem raw_sign_preserves (H : Addr.Hashes) (c : Cfg) (ks : List KeyRec) (sig : Skeleton → SigFn) (ms : MsFn)
    (t : Tx) (spent : List (Option TxOut)) :
    skeleton (runRaw H c ks t spent sig ms).1 = skeleton t :=
  signTx_skeleton H c ks sig ms t spent

/-- non-vacuity of `raw_sign_preserves`' content: the skeleton really contains outputs and outpoints -/
example : (skeleton { version := 2, ins := [⟨[1], 0, [9], 5⟩], outs := [⟨7, [0x6a]⟩], wit := none, lockTime := 3 }).outpoints
    = [([1], 0, 5)] := by decide

/-- **ownership_is_four_templates.** What `pkscr_to_key` (through `pkscr_to_key_idx`) attributes to a
    key of the wallet's table is EXACTLY one of the four own scripts of a key of the table, and nothing else: P2PKH and
    P2WPKH of the key's public-key hash, P2SH of the hash of its script 00 14 <key hash> (only when the wallet is not in
    bech32 / tap mode), P2TR of its x-only key. In particular a script of ANOTHER template that merely carries one of the
    wallet's 20-byte hashes - `a9 14 HASH160(pub) 87`, `76 a9 14 HASH160(00 14 HASH160(pub)) 88 ac`, `00 14` of that
    script hash, a P2PKH / P2WPKH / P2SH to 20 zero bytes in bech32 mode, or `a9 <not 14> … 87` - is not owned. (⇒) holds for ANY key table and hash function; (⇐) for compressed keys and a
    20-byte HASH160. -/
theorem ownership_is_four_templates (H : Addr.Hashes) (c : Cfg) (pubs : List Bytes) (u : Coin) :
    (owned (keyTable H c.bech32 pubs) u = true → OwnScript c (keyTable H c.bech32 pubs) u.script) ∧
    ((∀ b, (H.hash160 b).length = 20) → (∀ p ∈ pubs, p.length = 33) →
      OwnScript c (keyTable H c.bech32 pubs) u.script → owned (keyTable H c.bech32 pubs) u = true) :=
  ⟨owned_is_own_script H c pubs u.script, own_script_is_owned H c pubs u.script⟩

/-- **change_is_own_address.** Without `-change`, the change address is derived from a listed unspent output
    that the wallet recognises as its own (pkscr_to_key ≠ nil), and the change output pays to exactly that
    output's script — i.e. to one of the wallet's own four scripts (`OwnScript`). Hypotheses: HASH160 yields 20 bytes,
    keys are 33-byte compressed. That every recognised output has one of the four own shapes is not a hypothesis:
    it follows from ownership (`owned_is_own_script`, the (⇒) half of `ownership_is_four_templates`). -/
theorem change_is_own_address (H : Addr.Hashes) (c : Cfg) (pubs : List Bytes) (coins : List Coin) (a : Addr.Addr)
    (hash_len : ∀ b, (H.hash160 b).length = 20) (pub_len : ∀ p ∈ pubs, p.length = 33)
    (hc : c.change = none) (h : changeAddr H c (keyTable H c.bech32 pubs) coins = .ok a) :
    ∃ u, u ∈ coins ∧ owned (keyTable H c.bech32 pubs) u = true ∧ OwnScript c (keyTable H c.bech32 pubs) u.script ∧
      Addr.outScript a = some u.script := by
  unfold changeAddr at h
  simp only [hc] at h
  cases hf : coins.find? (fun u => (pkscrToKey (keyTable H c.bech32 pubs) u.script).isSome) with
  | none => simp [hf] at h
  | some u =>
    simp only [hf] at h
    cases hp : Addr.fromPkScript H u.script c.testnet with
    | none => simp [hp] at h
    | some a' =>
      simp only [hp, Except.ok.injEq] at h
      subst h
      have ho : owned (keyTable H c.bech32 pubs) u = true := by simpa [owned] using List.find?_some hf
      have hs := owned_is_own_script H c pubs u.script ho
      refine ⟨u, List.mem_of_find?_eq_some hf, ho, hs, ?_⟩
      generalize u.script = scr at hs hp ⊢
      have keyfacts := keyTable_facts H c.bech32 pubs hash_len pub_len
      cases hs with
      | p2pkh k kr hk =>
        obtain ⟨_, _, hl, _, _⟩ := keyfacts k kr hk
        rw [fromPkScript_p2pkh H _ hl] at hp
        simp only [Option.some.injEq] at hp
        subst hp
        cases c.testnet <;> simp [Addr.outScript, verPubkey, p2pkhScript]
      | p2sh k kr hk hb =>
        obtain ⟨_, _, _, hl', _⟩ := keyfacts k kr hk
        have hl := hl' hb
        rw [fromPkScript_p2sh H _ hl] at hp
        simp only [Option.some.injEq] at hp
        subst hp
        cases c.testnet <;> simp [Addr.outScript, verScript, p2shScript]
      | p2wpkh k kr hk =>
        obtain ⟨_, _, hl, _, _⟩ := keyfacts k kr hk
        unfold Addr.fromPkScript at hp
        simp only [isWitnessProgram_p2wpkh _ hl] at hp
        split at hp
        · simp at hp
        · split at hp
          · simp at hp
          · simp only [Option.some.injEq] at hp
            subst hp
            simp [Addr.outScript, p2wpkhScript, hl]
      | p2tr k kr hk =>
        obtain ⟨hpl, _, _, _, _⟩ := keyfacts k kr hk
        have hl : ((kr.pub.drop 1).take 32).length = 32 := by simp; omega
        unfold Addr.fromPkScript at hp
        simp only [isWitnessProgram_p2tr _ hl] at hp
        split at hp
        · simp at hp
        · split at hp
          · simp at hp
          · simp only [Option.some.injEq] at hp
            subst hp
            simp only [Addr.outScript, p2trScript]
            simp [hpl]

/-- **signatures_verify_templates** (the template-level form: it holds for EVERY crypto instance satisfying the named
    sign/verify hypotheses, against the template reading `WalletSpec.verifyInput` (Spec/WalletTx.lean);
    `signatures_verify` below is the form
    about the real script rules, with C03's theorems imported instead of assumed). For every input `i` of a transaction handed to sign_tx without witness data whose spent
    output is one of the wallet's own four types (P2PKH, P2WPKH, P2SH-P2WPKH when not in bech32 mode, P2TR key
    path), the signed transaction's input `i` passes `WalletSpec.verifyInput` — the specialisation of consensus +
    standard script verification to these templates: right template, right public key (HASH160 / x-only match),
    right scriptCode, amount and digest kind, hash type ALL / DEFAULT, push-only minimal scriptSig, clean
    witness; and later signing steps do not invalidate it (the digests are functions of the skeleton).
    NAMED HYPOTHESES (trusted base, not axioms):
      `sign_verify_ecdsa`, `sign_verify_schnorr` — C03's statement: a signature made with key k verifies under
         k's public key for the same digest; `der_len`, `schnorr_len` — DER signatures have 1..74 bytes (so that
         `byte(len)` is a direct push), Schnorr signatures 64;
      digest-signed = digest-verified — C02's statement, built into the types: `Crypto.legacyDigest /
         witnessDigest / taprootDigest` take the `Skeleton` (and the spent outputs), nothing else;
      `hash_same`, `hash_len` — the verifier's HASH160 is the wallet's and yields 20 bytes;
      (nothing is assumed about one key's HASH160 equalling another key's P2SH-redeem hash: every template is looked
         up among its own hashes only);
      `haddr` — NewAddrFromPkScript returns non-nil for the spent script (bech32 encoding succeeds);
      `hss` — a native witness input arrives with an empty scriptSig (always so for -send; the supplier's duty for -raw). -/
theorem signatures_verify_templates (H : Addr.Hashes) (C : Crypto) (S : Signer) (c : Cfg) (pubs : List Bytes) (ms : MsFn)
    (t : Tx) (spent : List TxOut) (i : Nat) (inp : TxIn) (uo : TxOut)
    (hash_same : C.hash160 = H.hash160) (hash_len : ∀ b, (H.hash160 b).length = 20)
    (sign_verify_ecdsa : ∀ k kr, (keyTable H c.bech32 pubs)[k]? = some kr → ∀ d, C.ecdsaVerify kr.pub (S.ecdsa k d) d = true)
    (der_len : ∀ k d, 1 ≤ (S.ecdsa k d).length ∧ (S.ecdsa k d).length ≤ 74)
    (sign_verify_schnorr : ∀ k kr, (keyTable H c.bech32 pubs)[k]? = some kr → ∀ d,
        C.schnorrVerify ((kr.pub.drop 1).take 32) (S.schnorr k d) d = true)
    (schnorr_len : ∀ k d, (S.schnorr k d).length = 64)
    (pub_len : ∀ p ∈ pubs, p.length = 33)
    (hwit : t.wit = none) (hin : t.ins[i]? = some inp) (hsp : spent[i]? = some uo) (hms : ms i = none)
    (hown : OwnScript c (keyTable H c.bech32 pubs) uo.script)
    (haddr : (Addr.fromPkScript H uo.script c.testnet).isSome)
    (hss : inp.scriptSig = [] ∨ uo.script.length = 25 ∨ uo.script.length = 23) :
    verifyInput C (runRaw H c (keyTable H c.bech32 pubs) t (spent.map some) (sigOf C S spent) ms).1 spent i = true := by
  unfold runRaw
  obtain ⟨r, U, h1, h2, h3⟩ := signed_own H c pubs (sigOf C S spent) ms t spent i inp uo hash_len pub_len hwit hin hsp hms
    hown haddr (fun j _ _ _ => schnorr_len j _)
  have keyfacts := keyTable_facts H c.bech32 pubs hash_len pub_len
  unfold verifyInput
  rw [h1, hsp]
  simp only [h2, h3]
  obtain ⟨val, scr⟩ := uo
  simp only at U hss ⊢
  cases U with
  | p2pkh j kr hj =>
    obtain ⟨hpl, hh, hl, _, _⟩ := keyfacts j kr hj
    obtain ⟨hs1, hs2⟩ := p2pkh_shape kr.h160 hl
    have dl := der_len j (C.legacyDigest (skeleton t) i (p2pkhScript kr.h160) 1)
    simp only [sigOf, hs1, hs2, true_and, ↓reduceIte, Option.getD_some, Option.getD_none, List.isEmpty_nil, Bool.true_and]
    rw [parsePush_push1 _ _ (by simp) (by simp; omega)]
    simp only []
    have := parsePush_push1 kr.pub [] (by omega) (by omega)
    rw [List.append_nil] at this
    rw [this]
    simp only [hash_same, ← hh, beq_self_eq_true, Bool.true_and]
    exact ecdsaOk_intro C dl.1 (sign_verify_ecdsa j kr hj _)
  | p2wpkh j kr hj =>
    obtain ⟨hpl, hh, hl, _, _⟩ := keyfacts j kr hj
    have hs : inp.scriptSig = [] := hss.resolve_right (by simp [p2wpkhScript, hl])
    have dl := der_len j (C.witnessDigest (skeleton t) i (p2pkhScript kr.h160) val 1)
    have l22 : (p2wpkhScript kr.h160).length = 22 := by simp [p2wpkhScript, hl]
    have d2 : (p2wpkhScript kr.h160).drop 2 = kr.h160 := by simp [p2wpkhScript]
    have e2 : p2wpkhScript kr.h160 = [0, 20] ++ kr.h160 := rfl
    simp only [sigOf, l22, d2, ← e2, Option.getD_none, Option.getD_some, hs, List.isEmpty_nil, Bool.true_and, wpkhOk, hpl,
      hash_same, ← hh, beq_self_eq_true]
    simp only [Nat.reduceEqDiff, false_and, ↓reduceIte, true_and]
    exact ecdsaOk_intro C dl.1 (sign_verify_ecdsa j kr hj _)
  | p2sh j kr hj hb =>
    obtain ⟨hpl, hh, hl20, hl', hs'⟩ := keyfacts j kr hj
    obtain ⟨hs1, hs2⟩ := p2sh_shape kr.segH160 (hl' hb)
    have dl := der_len j (C.witnessDigest (skeleton t) i (p2pkhScript kr.h160) val 1)
    have e2 : p2shScript kr.segH160 = [0xa9, 20] ++ kr.segH160 ++ [0x87] := rfl
    have hpp : parsePush ([22, 0, 20] ++ kr.h160) = some ([0, 20] ++ kr.h160, []) := by
      have := parsePush_push1 ([0, 20] ++ kr.h160) [] (by simp) (by simp; omega)
      simpa [push1, hl20] using this
    simp only [sigOf, hs1, hs2, ← e2, Option.getD_some, hpp]
    simp only [Nat.reduceEqDiff, false_and, ↓reduceIte, true_and]
    have hd : ([0, 20] ++ kr.h160).drop 2 = kr.h160 := by simp
    have hlen : ([0, 20] ++ kr.h160).length = 22 := by simp [hl20]
    simp only [hd, hlen, wpkhOk, hpl, hash_same, ← hh, ← hs' hb, beq_self_eq_true, Bool.true_and]
    exact ecdsaOk_intro C dl.1 (sign_verify_ecdsa j kr hj _)
  | p2tr j kr hj =>
    obtain ⟨hpl, _, _, _, _⟩ := keyfacts j kr hj
    have hs : inp.scriptSig = [] := hss.resolve_right (by simp [p2trScript]; omega)
    have l34 : (p2trScript ((kr.pub.drop 1).take 32)).length = 34 := by simp [p2trScript]; omega
    have d2 : (p2trScript ((kr.pub.drop 1).take 32)).drop 2 = (kr.pub.drop 1).take 32 := by simp [p2trScript]
    have e2 : p2trScript ((kr.pub.drop 1).take 32) = [0x51, 32] ++ (kr.pub.drop 1).take 32 := rfl
    simp only [l34, d2, ← e2, Option.getD_none, Option.getD_some, hs, List.isEmpty_nil, Bool.true_and]
    simp only [Nat.reduceEqDiff, false_and, ↓reduceIte, true_and]
    simp only [sigOf, schnorr_len, beq_self_eq_true, Bool.true_and]
    exact sign_verify_schnorr j kr hj _

/-! ### the four owned templates under the REAL script rules (`ScriptSpec.verifyScript`, the reference semantics that
    C01's `script_equiv` proves gocoin's `VerifyTxScript` equal to) — every oracle instance, every flag set that
    satisfies Core's flag dependencies (consensus flags and all standardness flags alike) -/

/-- P2PKH: scriptSig `<sig‖ht> <pub>` with an empty witness is accepted when HASH160(pub) = h and (sig‖ht, pub) is a
    `GoodSig` for the legacy digest of the scriptPubKey: strict DER, low S, defined hash type, compressed key, ECDSA
    equation. `hne`: the signature bytes are not the 20-byte hash itself (FindAndDelete would cut it out of the
    script code). -/
theorem p2pkh_accepted (O : Script.Oracles) (tx : Script.TxCtx) (f : ScriptSpec.Flags) (h sigh pub : Bytes)
    (hf : ScriptSpec.FlagsOk f) (hl : h.length = 20)
    (hss : tx.sigScript = push1 sigh ++ push1 pub) (hw : tx.witness = [])
    (hp : pub.length = 33) (hh : O.hash160 pub = h) (hne : sigh ≠ h)
    (hg : Proofs.C13S.GoodSig O .base (p2pkhScript h) sigh pub) :
    ScriptSpec.verifyScript O tx (p2pkhScript h) f = .ok () :=
  Proofs.C13S.verifyScript_p2pkh O tx f {} h sigh pub hl hss hw (by omega) (by omega) hh hne hg

/-- P2WPKH: empty scriptSig, witness `[sig‖ht, pub]`, BIP143 digest with script code DUP HASH160 <h> EQUALVERIFY
    CHECKSIG. `htrue`: the program is not "false" as a stack element (Core requires a true top after running the
    scriptPubKey, so a P2WPKH output to the all-zero hash is unspendable). -/
theorem p2wpkh_accepted (O : Script.Oracles) (tx : Script.TxCtx) (f : ScriptSpec.Flags) (h sigh pub : Bytes)
    (hf : ScriptSpec.FlagsOk f) (hl : h.length = 20) (hss : tx.sigScript = []) (hw : tx.witness = [sigh, pub])
    (hp : pub.length = 33) (hh : O.hash160 pub = h) (htrue : ScriptSpec.castToBool h = true)
    (hg : Proofs.C13S.GoodSig O .witnessV0 (p2pkhScript h) sigh pub) :
    ScriptSpec.verifyScript O tx (p2wpkhScript h) f = .ok () :=
  Proofs.C13S.verifyScript_p2wpkh O tx f {} h sigh pub hf hl hss hw (by omega) hh htrue hg

/-- P2SH-P2WPKH: scriptSig is exactly the push of the redeem script `0 <h>`, witness `[sig‖ht, pub]`. -/
theorem p2sh_p2wpkh_accepted (O : Script.Oracles) (tx : Script.TxCtx) (f : ScriptSpec.Flags) (sh h sigh pub : Bytes)
    (hf : ScriptSpec.FlagsOk f) (hl : h.length = 20) (hshl : sh.length = 20)
    (hss : tx.sigScript = push1 (p2wpkhScript h)) (hw : tx.witness = [sigh, pub])
    (hp : pub.length = 33) (hh : O.hash160 pub = h) (hsh : O.hash160 (p2wpkhScript h) = sh)
    (htrue : ScriptSpec.castToBool h = true)
    (hg : Proofs.C13S.GoodSig O .witnessV0 (p2pkhScript h) sigh pub) :
    ScriptSpec.verifyScript O tx (p2shScript sh) f = .ok () :=
  Proofs.C13S.verifyScript_p2sh_p2wpkh O tx f {} sh h sigh pub hf hl hshl hss hw (by omega) hh hsh htrue hg

/-- P2TR key path: empty scriptSig, witness `[sig]`, 64-byte signature (SIGHASH_DEFAULT) that verifies under the
    output key for the BIP341 key-path digest without annex. -/
theorem p2tr_keypath_accepted (O : Script.Oracles) (tx : Script.TxCtx) (f : ScriptSpec.Flags) (q sig d : Bytes)
    (hf : ScriptSpec.FlagsOk f) (hl : q.length = 32) (hss : tx.sigScript = []) (hw : tx.witness = [sig])
    (hs : sig.length = 64) (htrue : ScriptSpec.castToBool q = true)
    (hd : O.sigHashTap none [] 0 0 false = some d) (hv : O.schnorrVerify q sig d = some true) :
    ScriptSpec.verifyScript O tx (p2trScript q) f = .ok () :=
  Proofs.C13S.verifyScript_p2tr O tx f {} q sig d hf hl hss hw hs htrue hd hv

/-- non-vacuity of `FlagsOk`: gocoin's standard flag set (all 21 bits) and the consensus set -/
example : ScriptSpec.FlagsOk (ScriptSpec.Flags.ofMask 0x1FFFFF) ∧ ScriptSpec.FlagsOk (ScriptSpec.Flags.ofMask 0x20E15) := by
  decide

/-- What C03's signer hands out IS a good signature for the script rules (from C03: `own_signature_parsed`, `sign_low`,
    `mul_G_ne_none`; from Proofs/C13Der.lean the DER bridges `strict_append`, `derS_of_parseBytes`):
    for a secret 0 < d < n, whenever `Signature.Sign` succeeds with R ≠ 0 on the digest the oracle hands out for
    (script code, SIGHASH_ALL), the bytes `Signature.Bytes() ‖ 01` with the compressed key of d·G satisfy everything
    OP_CHECKSIG asks under all flags, for every oracle whose `ecdsaVerify` is C03's model of `btc.EcdsaVerify`. -/
theorem own_signature_is_good (O : Script.Oracles) (sv : Script.SigVersion) (code : Bytes) (d k : Nat) (m : Bytes)
    (hd0 : 0 < d) (hdn : d < Secp.n) (hok : Proofs.C13L.SignOk d m k)
    (hdig : (if sv == .witnessV0 then O.sigHashWitV0 code 1 else O.sigHashLegacy code 1) = some m)
    (hO : ∀ pk sg dg, O.ecdsaVerify pk sg dg = some (Model.Sig.ecdsaVerify true pk sg dg)) :
    Proofs.C13S.GoodSig O sv code (Proofs.C13L.ecdsaDer d m k ++ [1]) (Secp.ser33 (Secp.mul d Secp.G)) := by
  obtain ⟨r, s, recid, hsign, hr⟩ := hok
  obtain ⟨der', hder, hstrict, htail⟩ := Proofs.C03.own_signature_parsed d k r s recid m hd0 hdn hsign hr
  obtain ⟨⟨c, hpc⟩, hver⟩ := htail [1]
  have hlow := Proofs.C03.sign_low d (beVal m) k r s recid hsign
  have hE : Proofs.C13L.ecdsaDer d m k = der' := by simp [Proofs.C13L.ecdsaDer, hsign, hder]
  rw [hE]
  obtain ⟨⟨x, y⟩, hQ⟩ := Option.ne_none_iff_exists'.mp (Proofs.C03.mul_G_ne_none d hd0 hdn)
  refine ⟨Proofs.C13D.strict_append der' 1 hstrict, ?_, ?_, ?_, 1, m, by simp, hdig, ?_⟩
  · rw [Proofs.C13D.derS_of_parseBytes _ r s c hpc]; exact hlow.2.1
  · simp [ScriptSpec.isDefinedHashtypeSignature]
  · rw [hQ]; exact Proofs.C13L.ser33_compressed x y
  · rw [hO, hver]

/-- non-vacuity: `Sign` succeeds with R ≠ 0 for secret 1, digest 01, nonce 1 -/
example : Proofs.C13L.SignOk 1 [1] 1 := Inst.signOk_of_eval 1 [1] 1 (by decide +kernel)

/-- **digests_read_skeleton_only.** C02's models of `Tx.SignatureHash`, `Tx.WitnessSigHash` and
    `Tx.TaprootSigHash` (Model/SigHash.lean — the functions C02's check ties to lib/btc/tx.go and taproot.go) do not read
    the scriptSigs or the witness data of the transaction they are called on: for any two wallet transactions with the same
    skeleton (version, lock time, outpoints, sequence numbers, outputs) — e.g. the transaction while `sign_tx` is at input
    i, with the other inputs unsigned, partly signed or signed, and the final transaction the verifier sees — and ANY two
    coherent states of the per-transaction hash cache (filled by whichever earlier requests), for every script code,
    amount, input index, hash type and execution data: the legacy results are equal, the BIP143 results are equal, the
    BIP341 results are equal; and a cache that is coherent for one of them is coherent for the other (so the cache filled
    while signing stays valid for the finished transaction). `spent`: one spent output per input (BIP341 hashes them all).
    Proved by blanking: each function on `tx` equals itself on `stripTx tx` (all scriptSigs empty, witness nil) —
    `signatureHash_strip`, `witnessSigHash_strip`, `taprootSigHash_strip`, `cacheOK_strip` (Proofs/C13Digest.lean). -/
theorem digests_read_skeleton_only (sha : Bytes → Bytes) (t1 t2 : Tx) (hsk : skeleton t1 = skeleton t2) (spent : List TxOut)
    (hlen : t1.ins.length ≤ spent.length) (c1 c2 : SigHash.Cache)
    (h1 : SigHash.Cache.OK sha (toWire t1) (spent.map wireOut) c1) (h2 : SigHash.Cache.OK sha (toWire t2) (spent.map wireOut) c2) :
    (∀ sc i ht, SigHash.signatureHash sha (toWire t1) sc i ht = SigHash.signatureHash sha (toWire t2) sc i ht) ∧
    (∀ sc amount i ht, (SigHash.witnessSigHash sha (toWire t1) c1 sc amount i ht).1
        = (SigHash.witnessSigHash sha (toWire t2) c2 sc amount i ht).1) ∧
    (∀ ed i ht script, (SigHash.taprootSigHash true sha (toWire t1) (spent.map wireOut) c1 ed i ht script).1
        = (SigHash.taprootSigHash true sha (toWire t2) (spent.map wireOut) c2 ed i ht script).1) ∧
    SigHash.Cache.OK sha (toWire t2) (spent.map wireOut) c1 := by
  have e : SigHash.stripTx (toWire t1) = SigHash.stripTx (toWire t2) := by rw [strip_toWire, strip_toWire, hsk]
  have l1 : (toWire t1).ins.length ≤ (spent.map wireOut).length := by simp [toWire]; exact hlen
  have l2 : (toWire t2).ins.length ≤ (spent.map wireOut).length := by
    have := skeleton_ins_length hsk
    simp [toWire]; omega
  refine ⟨?_, ?_, ?_, ?_⟩
  · intro sc i ht
    rw [← SigHash.signatureHash_strip, e, SigHash.signatureHash_strip]
  · intro sc amount i ht
    rw [(SigHash.witnessSigHash_cache sha _ _ c1 h1 sc amount i ht).1, (SigHash.witnessSigHash_cache sha _ _ c2 h2 sc amount i ht).1,
      ← SigHash.witnessSigHash_strip, e, SigHash.witnessSigHash_strip]
  · intro ed i ht script
    rw [(SigHash.taprootSigHash_cache true sha _ _ c1 l1 h1 ed i ht script).1, (SigHash.taprootSigHash_cache true sha _ _ c2 l2 h2 ed i ht script).1,
      ← SigHash.taprootSigHash_strip, e, SigHash.taprootSigHash_strip]
  · rw [← SigHash.cacheOK_strip, ← e, SigHash.cacheOK_strip]; exact h1

/-- non-vacuity: two transactions that differ in a scriptSig and in the witness have the same skeleton, and the empty cache
    is coherent -/
example : skeleton { version := 2, ins := [⟨[1], 0, [9, 9], 5⟩], outs := [⟨7, [0x6a]⟩], wit := some [[[3]]], lockTime := 3 }
    = skeleton { version := 2, ins := [⟨[1], 0, [], 5⟩], outs := [⟨7, [0x6a]⟩], wit := none, lockTime := 3 } := by decide
example (sha : Bytes → Bytes) (t : Tx) (sp : List TxOut) : SigHash.Cache.OK sha (toWire t) (sp.map wireOut) {} :=
  SigHash.Cache.OK_empty _ _ _

/-- the wallet's digests: C02's three model functions evaluated on the skeleton (`c02Crypto`, Spec/WalletTxDigest.lean);
    the verify fields of `Crypto` are not used by `signatures_verify` -/
abbrev walletCrypto (sha : Bytes → Bytes) (H : Addr.Hashes) (K : C03Signer) : Crypto :=
  c02Crypto sha H.hash160 (Model.Sig.ecdsaVerify true) (Model.Sig.schnorrVerify K.tagged)

/-- **signatures_verify_given_digests** (the form for ANY `Crypto` instance, with "digest signed = digest verified" as
    the hypotheses `dig_*`; `signatures_verify` below discharges them for C02's functions). -/
theorem signatures_verify_given_digests (H : Addr.Hashes) (O : Script.Oracles) (C : Crypto) (K : C03Signer) (f : ScriptSpec.Flags)
    (c : Cfg) (ms : MsFn) (t : Tx) (spent : List TxOut) (i : Nat) (inp : TxIn) (uo : TxOut)
    (hf : ScriptSpec.FlagsOk f)
    (hO_ecdsa : ∀ pk sg dg, O.ecdsaVerify pk sg dg = some (Model.Sig.ecdsaVerify true pk sg dg))
    (hO_schnorr : ∀ pk sg dg, O.schnorrVerify pk sg dg = some (Model.Sig.schnorrVerify K.tagged pk sg dg))
    (hash_same : O.hash160 = H.hash160) (hash_len : ∀ b, (H.hash160 b).length = 20)
    (dig_legacy : ∀ sc ht, O.sigHashLegacy sc ht = some (C.legacyDigest (skeleton t) i sc ht))
    (dig_wit : ∀ sc ht, O.sigHashWitV0 sc ht = some (C.witnessDigest (skeleton t) i sc uo.value ht))
    (dig_tap : O.sigHashTap none [] 0 0 false = some (C.taprootDigest (skeleton t) spent i 0))
    (hkeys : ∀ d ∈ K.secs, 0 < d ∧ d < Secp.n)
    (hcalls : ∀ j kr, (keyTable H c.bech32 K.pubs)[j]? = some kr → CallsOk C K (skeleton t) spent i uo j kr.h160)
    (no_clash : ∀ j kr, (keyTable H c.bech32 K.pubs)[j]? = some kr →
      K.signer.ecdsa j (C.legacyDigest (skeleton t) i uo.script 1) ++ [1] ≠ kr.h160)
    (nonzero : ∀ (k : Nat) (kr : KeyRec), (keyTable H c.bech32 K.pubs)[k]? = some kr →
      ScriptSpec.castToBool kr.h160 = true ∧ ScriptSpec.castToBool ((kr.pub.drop 1).take 32) = true)
    (hwit : t.wit = none) (hin : t.ins[i]? = some inp) (hsp : spent[i]? = some uo) (hms : ms i = none)
    (hown : OwnScript c (keyTable H c.bech32 K.pubs) uo.script)
    (haddr : (Addr.fromPkScript H uo.script c.testnet).isSome)
    (hss : inp.scriptSig = [] ∨ uo.script.length = 25 ∨ uo.script.length = 23) :
    ScriptSpec.verifyScript O
      (txCtxOf (runRaw H c (keyTable H c.bech32 K.pubs) t (spent.map some) (sigOf C K.signer spent) ms).1 i)
      uo.script f = .ok () := by
  -- a table entry is the key of one of the secrets
  have keyOf : ∀ j kr, (keyTable H c.bech32 K.pubs)[j]? = some kr →
      0 < K.secs.getD j 0 ∧ K.secs.getD j 0 < Secp.n ∧ kr.pub = Secp.ser33 (Secp.mul (K.secs.getD j 0) Secp.G) := by
    intro j kr hk
    obtain ⟨p, hp, rfl⟩ := keyTable_getElem? H c.bech32 K.pubs j kr hk
    unfold C03Signer.pubs at hp
    rw [List.getElem?_map, Option.map_eq_some_iff] at hp
    obtain ⟨d, hd, rfl⟩ := hp
    rw [List.getD_eq_getElem?_getD, hd]
    exact ⟨(hkeys d (List.mem_of_getElem? hd)).1, (hkeys d (List.mem_of_getElem? hd)).2, rfl⟩
  have pub_len : ∀ p ∈ K.pubs, p.length = 33 := by
    intro p hp
    unfold C03Signer.pubs at hp
    obtain ⟨d, hd, rfl⟩ := List.mem_map.mp hp
    obtain ⟨⟨x, y⟩, hq⟩ := Option.ne_none_iff_exists'.mp (Proofs.C03.mul_G_ne_none d (hkeys d hd).1 (hkeys d hd).2)
    simp [hq, Secp.ser33, beBytes]
  have hsigner : SignerOk O (keyTable H c.bech32 K.pubs) (sigOf C K.signer spent (skeleton t)) i uo := by
    refine ⟨fun j krj hj hlen => ?_, fun j krj hj hlen => ?_, fun j krj hj hlen => ?_⟩ <;>
      obtain ⟨hd0, hdn, hpub⟩ := keyOf j krj hj <;>
      simp only [sigOf, C03Signer.signer, hpub]
    · exact ⟨own_signature_is_good O .base _ _ _ _ hd0 hdn ((hcalls j krj hj).1 hlen) (by simp [dig_legacy]) hO_ecdsa,
        no_clash j krj hj⟩
    · exact own_signature_is_good O .witnessV0 _ _ _ _ hd0 hdn ((hcalls j krj hj).2.1 hlen) (by simp [dig_wit]) hO_ecdsa
    · obtain ⟨h64, hv⟩ := Proofs.C13L.schnorr_good K.tagged _ _ _ hdn ((hcalls j krj hj).2.2 hlen)
      exact ⟨h64, _, dig_tap, by rw [hO_schnorr, hv]⟩
  unfold runRaw
  generalize sigOf C K.signer spent = sig at hsigner ⊢
  obtain ⟨hL, hW, hT⟩ := hsigner
  obtain ⟨r, U, h1, h2, -⟩ := signed_own H c K.pubs sig ms t spent i inp uo hash_len pub_len hwit hin hsp hms hown haddr
    (fun j kr hj h => (hT j kr hj h).1)
  have keyfacts := keyTable_facts H c.bech32 K.pubs hash_len pub_len
  generalize (signTx H c (keyTable H c.bech32 K.pubs) sig ms t (spent.map some)).1 = t' at h1 h2
  have hctxS : (txCtxOf t' i).sigScript = r.scriptSig.getD inp.scriptSig := by simp [txCtxOf, h1]
  have hctxW : (txCtxOf t' i).witness = r.witness.getD [] := h2
  obtain ⟨val, scr⟩ := uo
  simp only at U hss hL hW hT ⊢
  -- the `show`s below restate the goal with the templates of Proofs/C13Script.lean (`pkhScript`, `wpkhScript`, `shScript`,
  -- `trScript`), which are the wallet's `p2pkhScript` … byte for byte (Proofs/C13Final.lean `p2pkh_eq` …), and write out the
  -- default `Quirks` argument `{}` of `verifyScript`
  cases U with
  | p2pkh j kr hj =>
    obtain ⟨hpl, hh, hl, _, _⟩ := keyfacts j kr hj
    obtain ⟨g, gne⟩ := hL j kr hj (by simp [p2pkhScript, hl])
    show ScriptSpec.verifyScript O _ (Proofs.C13S.pkhScript kr.h160) f {} = _
    exact Proofs.C13S.verifyScript_p2pkh O _ f {} kr.h160 _ kr.pub hl hctxS (by simpa using hctxW)
      (by omega) (by omega) (by rw [hash_same, ← hh]) gne g
  | p2wpkh j kr hj =>
    obtain ⟨hpl, hh, hl, _, _⟩ := keyfacts j kr hj
    have hs : inp.scriptSig = [] := hss.resolve_right (by simp [p2wpkhScript, hl])
    show ScriptSpec.verifyScript O _ (Proofs.C13S.wpkhScript kr.h160) f {} = _
    exact Proofs.C13S.verifyScript_p2wpkh O _ f {} kr.h160 _ kr.pub hf hl (by simpa [hs] using hctxS) (by simpa using hctxW)
      (by omega) (by rw [hash_same, ← hh]) (nonzero j kr hj).1 (hW j kr hj (Or.inl (by simp [p2wpkhScript, hl])))
  | p2sh j kr hj hb =>
    obtain ⟨hpl, hh, hl20, hl, hs'⟩ := keyfacts j kr hj
    show ScriptSpec.verifyScript O _ (Proofs.C13S.shScript kr.segH160) f {} = _
    have hss' : (txCtxOf t' i).sigScript = Proofs.C13S.dpush (Proofs.C13S.wpkhScript kr.h160) := by
      rw [hctxS]; simp [Proofs.C13S.dpush, Proofs.C13S.wpkhScript, hl20]
    exact Proofs.C13S.verifyScript_p2sh_p2wpkh O _ f {} kr.segH160 kr.h160 _ kr.pub hf hl20 (hl hb) hss' (by simpa using hctxW)
      (by omega) (by rw [hash_same, ← hh]) (by rw [hash_same, hs' hb]; rfl) (nonzero j kr hj).1
      (hW j kr hj (Or.inr (by simp [p2shScript, hl hb])))
  | p2tr j kr hj =>
    obtain ⟨hpl, _, _, _, _⟩ := keyfacts j kr hj
    have hl : ((kr.pub.drop 1).take 32).length = 32 := by simp; omega
    obtain ⟨h64, d, hd, hv⟩ := hT j kr hj (by simp [p2trScript]; omega)
    have hs : inp.scriptSig = [] := hss.resolve_right (by simp [p2trScript]; omega)
    show ScriptSpec.verifyScript O _ (Proofs.C13S.trScript ((kr.pub.drop 1).take 32)) f {} = _
    exact Proofs.C13S.verifyScript_p2tr O _ f {} _ _ d hf hl (by simpa [hs] using hctxS) (by simpa using hctxW) h64
      (nonzero j kr hj).2 hd hv

/-- **signatures_verify.** For every input `i` of a transaction handed to sign_tx without witness data whose spent
    output is one of the wallet's own four types (P2PKH, P2WPKH, P2SH-P2WPKH when not in bech32 mode, P2TR key path),
    the signed transaction's input `i` passes the REAL script rules `ScriptSpec.verifyScript` — scriptSig and witness
    as sign_tx assembled them (`txCtxOf`), the spent scriptPubKey, EVERY flag set satisfying Core's flag dependencies
    (so consensus and standardness alike: P2SH, WITNESS, TAPROOT, STRICTENC, DERSIG, LOW_S, NULLFAIL, SIGPUSHONLY,
    MINIMALDATA, CLEANSTACK, WITNESS_PUBKEYTYPE …) — where
      * the wallet signs the digests that C02's models of `SignatureHash` / `WitnessSigHash` / `TaprootSigHash` compute
        (`walletCrypto`), and the verifier's digest requests are answered by THE SAME model functions applied to the
        SIGNED transaction, in any coherent state of its hash cache (`hO_digests : DigestsAreC02 …` — like `hO_*` below
        this names which function the oracle is, it is not an equation between digests); "digest signed = digest
        verified" is PROVED from it (`digests_read_skeleton_only`: these functions read no scriptSig and no witness, and
        sign_tx changes nothing else — `raw_sign_preserves`);
      * `ecdsaVerify` / `schnorrVerify` ARE C03's models of `btc.EcdsaVerify` / `btc.SchnorrVerify` (`hO_*`), the wallet's
        keys are the compressed public keys of secrets in [1, n−1] and the signer is C03's `Signature.Sign`+`Bytes()` /
        `SchnorrSign` (`C03Signer`; nonce source and aux randomness arbitrary). The ECDSA/Schnorr sign⇒verify facts are
        IMPORTED from C03 (Proofs.C03: `own_signature_parsed`, `sign_low`, `schnorrSign_verifies`, `mul_G_ne_none`), not
        assumed; by C01's `script_equiv` the same verdict is gocoin's `VerifyTxScript`.
    Remaining hypotheses:
      `hspent`   one spent output per input is supplied (BIP341 hashes all of them; `TaprootSigHash` panics otherwise);
      `hcalls`   the ONE signing call the type of this input needs succeeds with R ≠ 0 (`CallsOk`: legacy `Tx.Sign` for a
                 25-byte P2PKH script, BIP143 `Tx.SignWitness` for 22-byte P2WPKH / 23-byte P2SH, `SchnorrSign` for 34-byte
                 P2TR; nothing is asked about the calls this input does not make) — the hypothesis inherited from C03
                 (`Sign` does not refuse R = 0);
      `hwit`     the transaction handed to sign_tx carries no witness data yet (always so for -send; for -raw it means the
                 file was serialised without witnesses — a partly signed segwit transaction fed back is NOT covered);
      `hin`, `hsp` input i exists and its spent output is supplied;  `hms` input i does not take the multisig branch
                 (sign_tx takes it when `btc.NewMultiSigFromScript` of the INCOMING scriptSig of the input is non-nil, as
                 `-p2sh` prepares it — the multisig branch is abstract in the model);
      `no_clash` the signature bytes ‖ 01 are not the 20-byte key hash itself (FindAndDelete; needs a 19-byte DER
                 signature equal to a HASH160);  `nonzero` no key hash / x-only key is "false" as a stack element
                 (all-zero, Core refuses such a witness program);  `haddr`, `hss` as in `signatures_verify_templates`. `hown` (the spent script is
                 one of the four own scripts) follows from ownership for every input a -send run selects
                 (`ownership_is_four_templates`, used in `send_signatures_verify`). -/
theorem signatures_verify (H : Addr.Hashes) (O : Script.Oracles) (sha : Bytes → Bytes) (K : C03Signer) (f : ScriptSpec.Flags)
    (c : Cfg) (ms : MsFn) (t : Tx) (spent : List TxOut) (i : Nat) (inp : TxIn) (uo : TxOut)
    (hf : ScriptSpec.FlagsOk f)
    (hO_ecdsa : ∀ pk sg dg, O.ecdsaVerify pk sg dg = some (Model.Sig.ecdsaVerify true pk sg dg))
    (hO_schnorr : ∀ pk sg dg, O.schnorrVerify pk sg dg = some (Model.Sig.schnorrVerify K.tagged pk sg dg))
    (hash_same : O.hash160 = H.hash160) (hash_len : ∀ b, (H.hash160 b).length = 20)
    (hO_digests : DigestsAreC02 O sha
      (runRaw H c (keyTable H c.bech32 K.pubs) t (spent.map some) (sigOf (walletCrypto sha H K) K.signer spent) ms).1
      spent i uo.value)
    (hspent : t.ins.length ≤ spent.length)
    (hkeys : ∀ d ∈ K.secs, 0 < d ∧ d < Secp.n)
    (hcalls : ∀ j kr, (keyTable H c.bech32 K.pubs)[j]? = some kr →
      CallsOk (walletCrypto sha H K) K (skeleton t) spent i uo j kr.h160)
    (no_clash : ∀ j kr, (keyTable H c.bech32 K.pubs)[j]? = some kr →
      K.signer.ecdsa j ((walletCrypto sha H K).legacyDigest (skeleton t) i uo.script 1) ++ [1] ≠ kr.h160)
    (nonzero : ∀ (k : Nat) (kr : KeyRec), (keyTable H c.bech32 K.pubs)[k]? = some kr →
      ScriptSpec.castToBool kr.h160 = true ∧ ScriptSpec.castToBool ((kr.pub.drop 1).take 32) = true)
    (hwit : t.wit = none) (hin : t.ins[i]? = some inp) (hsp : spent[i]? = some uo) (hms : ms i = none)
    (hown : OwnScript c (keyTable H c.bech32 K.pubs) uo.script)
    (haddr : (Addr.fromPkScript H uo.script c.testnet).isSome)
    (hss : inp.scriptSig = [] ∨ uo.script.length = 25 ∨ uo.script.length = 23) :
    ScriptSpec.verifyScript O
      (txCtxOf (runRaw H c (keyTable H c.bech32 K.pubs) t (spent.map some) (sigOf (walletCrypto sha H K) K.signer spent) ms).1 i)
      uo.script f = .ok () := by
  obtain ⟨hi, -⟩ := List.getElem?_eq_some_iff.mp hin
  have D := fun cch hc => digests_of_skeleton sha H.hash160 (Model.Sig.ecdsaVerify true) (Model.Sig.schnorrVerify K.tagged) t _
    (raw_sign_preserves H c (keyTable H c.bech32 K.pubs) (sigOf (walletCrypto sha H K) K.signer spent) ms t (spent.map some))
    spent i hi hspent cch hc
  exact signatures_verify_given_digests H O (walletCrypto sha H K) K f c ms t spent i inp uo hf hO_ecdsa hO_schnorr hash_same hash_len
    (fun sc ht => by rw [hO_digests.legacy]; exact (D {} (SigHash.Cache.OK_empty _ _ _)).1 sc ht)
    (fun sc ht => by obtain ⟨cch, hc, e⟩ := hO_digests.witv0 sc ht; rw [e]; exact (D cch hc).2.1 sc uo.value ht)
    (by obtain ⟨cch, hc, e⟩ := hO_digests.taproot; rw [e]; exact (D cch hc).2.2)
    hkeys hcalls no_clash nonzero hwit hin hsp hms hown haddr hss

/-- **signatures_verify_model_oracles.** `signatures_verify` for THE oracle instance made of the C02 and C03 model
    functions (`walletOracles`, Proofs/C13Inst.lean): digest requests = C02's `signatureHash` / `witnessSigHash` /
    `taprootSigHash` on the signed transaction, `ecdsaVerify` / `schnorrVerify` = C03's models of `btc.EcdsaVerify` /
    `btc.SchnorrVerify`, HASH160 = the wallet's. The four hypotheses that only name which function the oracle is
    (`hO_ecdsa`, `hO_schnorr`, `hash_same`, `hO_digests`) are not hypotheses here — they hold by construction; the fields the four
    templates never consult (SHA-1, RIPEMD-160, tweak check …) are arbitrary (`base`). -/
theorem signatures_verify_model_oracles (H : Addr.Hashes) (base : Script.Oracles) (sha : Bytes → Bytes) (K : C03Signer)
    (f : ScriptSpec.Flags) (c : Cfg) (ms : MsFn) (t : Tx) (spent : List TxOut) (i : Nat) (inp : TxIn) (uo : TxOut)
    (hf : ScriptSpec.FlagsOk f) (hash_len : ∀ b, (H.hash160 b).length = 20)
    (hspent : t.ins.length ≤ spent.length)
    (hkeys : ∀ d ∈ K.secs, 0 < d ∧ d < Secp.n)
    (hcalls : ∀ j kr, (keyTable H c.bech32 K.pubs)[j]? = some kr →
      CallsOk (walletCrypto sha H K) K (skeleton t) spent i uo j kr.h160)
    (no_clash : ∀ j kr, (keyTable H c.bech32 K.pubs)[j]? = some kr →
      K.signer.ecdsa j ((walletCrypto sha H K).legacyDigest (skeleton t) i uo.script 1) ++ [1] ≠ kr.h160)
    (nonzero : ∀ (k : Nat) (kr : KeyRec), (keyTable H c.bech32 K.pubs)[k]? = some kr →
      ScriptSpec.castToBool kr.h160 = true ∧ ScriptSpec.castToBool ((kr.pub.drop 1).take 32) = true)
    (hwit : t.wit = none) (hin : t.ins[i]? = some inp) (hsp : spent[i]? = some uo) (hms : ms i = none)
    (hown : OwnScript c (keyTable H c.bech32 K.pubs) uo.script)
    (haddr : (Addr.fromPkScript H uo.script c.testnet).isSome)
    (hss : inp.scriptSig = [] ∨ uo.script.length = 25 ∨ uo.script.length = 23) :
    ScriptSpec.verifyScript
      (walletOracles base sha H.hash160 K.tagged
        (runRaw H c (keyTable H c.bech32 K.pubs) t (spent.map some) (sigOf (walletCrypto sha H K) K.signer spent) ms).1
        spent i uo.value)
      (txCtxOf (runRaw H c (keyTable H c.bech32 K.pubs) t (spent.map some) (sigOf (walletCrypto sha H K) K.signer spent) ms).1 i)
      uo.script f = .ok () :=
  signatures_verify H _ sha K f c ms t spent i inp uo hf (fun _ _ _ => rfl) (fun _ _ _ => rfl) rfl hash_len
    (walletOracles_digests base sha H.hash160 K.tagged _ spent i uo.value)
    hspent hkeys hcalls no_clash nonzero hwit hin hsp hms hown haddr hss

/-- **send_signatures_verify** (end-to-end corollary for `-send` / `-batch`). Whenever the
    model of a send run writes a transaction `w` (request `req`, built transaction `b`): `w.tx` has one input per
    selected coin, and EVERY input i of it passes the real script rules `ScriptSpec.verifyScript` against the script of
    the coin it spends, for every flag set with Core's dependencies, under the model oracles (C02 digests of the signed
    transaction, C03 verifiers) - the conclusion of `signatures_verify_model_oracles` for all inputs at once.
    Discharged here, not assumed: `hown` (every selected coin is owned, and owned ⇒ one of the four own scripts:
    `ownership_is_four_templates`), `hwit` (make_signed_tx builds
    a transaction without witness data), `hin` / `hsp` / `hspent` (one spent output per input, in order), `hms` (no
    multisig branch in a send run), `hss` (scriptSigs start empty).
    Remaining hypotheses, each for every selected coin: `hbal` (the wallet's listed balance is below 2^64), `hcalls` (the one
    signing call the coin's type needs succeeds with R ≠ 0), `no_clash` (signature‖01 is not the key hash), `nonzero`,
    `haddr` (NewAddrFromPkScript is non-nil for the coin's script: the bech32 encoder succeeds), `hkeys`, `hash_len`. -/
theorem send_signatures_verify (H : Addr.Hashes) (base : Script.Oracles) (sha : Bytes → Bytes) (K : C03Signer)
    (f : ScriptSpec.Flags) (c : Cfg) (a2b : Bool) (coins : List Coin) (send : Option Bytes) (batch : Option (List Bytes))
    (req : Req) (b : Built) (w : Written)
    (hf : ScriptSpec.FlagsOk f) (hash_len : ∀ x, (H.hash160 x).length = 20)
    (hkeys : ∀ d ∈ K.secs, 0 < d ∧ d < Secp.n)
    (hreq : sendRequest H c send batch = .ok req) (hb : build H c (keyTable H c.bech32 K.pubs) coins req = .ok b)
    (hbal : ownedSum (keyTable H c.bech32 K.pubs) coins < 2^64)
    (hrun : runSend H c (keyTable H c.bech32 K.pubs) a2b coins send batch
      (sigOf (walletCrypto sha H K) K.signer (spentOuts b)) = .ok (some w))
    (hcalls : ∀ i uo, (spentOuts b)[i]? = some uo → ∀ j kr, (keyTable H c.bech32 K.pubs)[j]? = some kr →
      CallsOk (walletCrypto sha H K) K (skeleton b.tx) (spentOuts b) i uo j kr.h160)
    (no_clash : ∀ i uo, (spentOuts b)[i]? = some uo → ∀ j kr, (keyTable H c.bech32 K.pubs)[j]? = some kr →
      K.signer.ecdsa j ((walletCrypto sha H K).legacyDigest (skeleton b.tx) i uo.script 1) ++ [1] ≠ kr.h160)
    (nonzero : ∀ (k : Nat) (kr : KeyRec), (keyTable H c.bech32 K.pubs)[k]? = some kr →
      ScriptSpec.castToBool kr.h160 = true ∧ ScriptSpec.castToBool ((kr.pub.drop 1).take 32) = true)
    (haddr : ∀ u ∈ b.spent, (Addr.fromPkScript H u.script c.testnet).isSome) :
    w.tx.ins.length = b.spent.length ∧
    ∀ i uo, (spentOuts b)[i]? = some uo →
      ScriptSpec.verifyScript (walletOracles base sha H.hash160 K.tagged w.tx (spentOuts b) i uo.value)
        (txCtxOf w.tx i) uo.script f = .ok () := by
  obtain ⟨_, _, _, _, _, _, hins, _, _, hwit, _, hown, _⟩ := build_spec H c _ coins req b hb hbal
  have htx := runSend_tx H c _ a2b coins send batch _ req b w hreq hb hrun
  have hlen : b.tx.ins.length = b.spent.length := by rw [hins]; simp
  refine ⟨?_, ?_⟩
  · rw [htx, skeleton_ins_length (raw_sign_preserves ..), hlen]
  · intro i uo hi
    rw [htx]
    obtain ⟨u, hu, rfl⟩ := Option.map_eq_some_iff.mp (List.getElem?_map .. ▸ hi)
    have hmem := List.mem_of_getElem? hu
    exact signatures_verify_model_oracles H base sha K f c (fun _ => none) b.tx (spentOuts b) i
      { txid := u.txid, vout := u.vout, scriptSig := [], sequence := c.seq } _ hf hash_len
      (by rw [hlen]; simp [spentOuts]) hkeys (hcalls i _ hi) (no_clash i _ hi) nonzero hwit (by rw [hins]; simp [hu]) hi rfl
      (owned_is_own_script H c K.pubs _ (hown _ hmem)) (haddr _ hmem) (Or.inl rfl)

/-! ### source facts (Gen/WalletFacts.lean, regenerated from wallet/*.go and lib/btc/funcs.go by go/cmd/gen_c13 on every run) -/

/-- **source_guards_are_the_models.** The guards the translator reads off the CURRENT source are, for ALL values, the
    guards the model is written with: the change output is added iff `changeBtc > 0` (`build`: `if change > 0`); the run is
    refused iff `btcsofar < spendBtc+feeBtc` (uint64 sum; `build`: `if s.total < need`), tested BEHIND the selection
    loop; the loop stops iff `!useallinputs && btcsofar >= spendBtc+feeBtc` (`select`); `-f` is refused iff
    `am < curFee`, in front of `am -= curFee`, under `*subfee && i == 0` (`parseSendItem`); and `writePutLen` IS the
    switch of `btc.WritePutLen` with the three bounds read from the source (76 = OP_PUSHDATA1, 0x100, 0x10000). An edit
    of the polarity, an operand or a constant of one of these guards (e.g. `changeBtc >= 0`, `<= OP_PUSHDATA1`, the fund
    test moved in front of the loop) makes this theorem false; operand order and a hoisted local (`needBtc :=
    spendBtc + feeBtc`) do not matter. -/
theorem source_guards_are_the_models :
    (∀ n, Gen.WalletFacts.changeGuard n = decide (n > 0)) ∧
    (∀ s a f, Gen.WalletFacts.insufficient s a f = decide (s < u64 (a + f))) ∧
    Gen.WalletFacts.fundTestBehindLoop = true ∧
    (∀ ua s a f, Gen.WalletFacts.selectionStop ua s a f = (!ua && decide (s ≥ u64 (a + f)))) ∧
    (∀ a f, Gen.WalletFacts.subfeeRefuse a f = decide (a < f)) ∧
    Gen.WalletFacts.subfeeRefusalBeforeSubtraction = true ∧ Gen.WalletFacts.subfeeCondition = "*subfee&&i==0" ∧
    (∀ n, writePutLen n =
      if Gen.WalletFacts.putLenCase1 n then [UInt8.ofNat n]
      else if Gen.WalletFacts.putLenCase2 n then [0x4c, UInt8.ofNat n]
      else if Gen.WalletFacts.putLenCase3 n then 0x4d :: leBytes 2 n else 0x4e :: leBytes 4 n) := by
  refine ⟨?_, ?_, rfl, ?_, ?_, rfl, rfl, ?_⟩
  -- Gen/WalletFacts.lean is regenerated from the source and may print a guard with its operands in either order:
  -- `rfl` when it is printed as the model writes it, the arithmetic step otherwise
  · intro n; unfold Gen.WalletFacts.changeGuard
    first | rfl | (simp only [decide_eq_decide]; omega)
  · intro s a f; unfold Gen.WalletFacts.insufficient u64
    first | rfl | (simp only [decide_eq_decide]; omega)
  · intro ua s a f; unfold Gen.WalletFacts.selectionStop u64
    cases ua <;> first | rfl | (simp only [Bool.not_true, Bool.not_false, Bool.false_and, Bool.true_and, decide_eq_decide]; omega)
  · intro a f; unfold Gen.WalletFacts.subfeeRefuse
    first | rfl | (simp only [decide_eq_decide]; omega)
  · intro n
    unfold writePutLen Gen.WalletFacts.putLenCase1 Gen.WalletFacts.putLenCase2 Gen.WalletFacts.putLenCase3
    simp only [decide_eq_true_eq]

/-- **source_lookups_are_per_template.** What the translator reads off the CURRENT wallet.go / signtx.go about key
    look-ups is what the model is written with: `pkscr_to_key_idx` has
    exactly the four template tests of `pkscrToKey` (length and fixed bytes, INCLUDING the 0x14 push byte of P2SH) and
    calls `pubhash_to_key_idx` for P2KH [3:23] and P2WPKH [2:], `scripthash_to_key_idx` for P2SH [2:22],
    `public_xo_to_key_idx` for P2TR [2:]; `pubhash_to_key_idx` compares keys[i].BtcAddr.Hash160 only,
    `scripthash_to_key_idx` compares segwit[i].Hash160 only and only behind `segwit[i] != nil` and `SegwitProg == nil`
    (never the zero hash of a witness-program address), each returning the first matching index of keys[];
    `sign_tx` calls these three and not `hash_to_key_idx`, each on the bytes the model says, and tests
    `segwit[k_idx] != nil` before comparing address strings (fix 98d8f688); `make_wallet` makes segwit[] with len(keys),
    writes entries only at the key's own index and skips keys that are not compressed (`keyTable`). Reverting one of the
    fixes ebf80672 / 98d8f688, or building segwit[] by append, changes these facts and breaks this theorem.
    NOT pinned by facts (tied by the differential harness only): the conditions under which sign_tx picks each
    look-up, input selection order, output assembly, the parsers, the balance-file update, Tx.Sign / SignWitness. -/
theorem source_lookups_are_per_template :
    Gen.WalletFacts.pkscrTemplates =
      ["len=25 00=118 01=169 02=20 23=136 24=172 -> pubhash_to_key_idx[3:23]",
       "len=23 00=169 01=20 22=135 -> scripthash_to_key_idx[2:22]",
       "len=22 00=0 01=20 -> pubhash_to_key_idx[2:end]",
       "len=34 00=81 01=32 -> public_xo_to_key_idx[2:end]"] ∧
    Gen.WalletFacts.pubhashMatch = ["bytes.Equal(h,keys[i].BtcAddr.Hash160[:])"] ∧
    Gen.WalletFacts.scripthashMatch = ["segwit[i]!=nil", "segwit[i].SegwitProg==nil", "bytes.Equal(h,segwit[i].Hash160[:])"] ∧
    Gen.WalletFacts.xonlyMatch = ["bytes.Equal(h,keys[i].BtcAddr.Pubkey[1:33])"] ∧
    Gen.WalletFacts.segwitMadeWithLenKeys = true ∧ Gen.WalletFacts.segwitWrittenAtKeyIndex = true ∧
    Gen.WalletFacts.segwitSkipsUncompressed = true ∧
    Gen.WalletFacts.signTxLookups = ["pubhash_to_key_idx", "public_xo_to_key_idx", "scripthash_to_key_idx"] ∧
    Gen.WalletFacts.signTxDispatch = ["pubhash_to_key_idx(adr.Hash160[:])", "pubhash_to_key_idx(segwit_prog)",
      "public_xo_to_key_idx(segwit_prog)", "scripthash_to_key_idx(adr.Hash160[:])"] ∧
    Gen.WalletFacts.signTxP2shBranch = ["segwit[k_idx]!=nil", "adr.String()==segwit[k_idx].String()"] :=
  ⟨rfl, rfl, rfl, rfl, rfl, rfl, rfl, rfl, rfl, rfl⟩

/-- **wallet_der_is_c03_bytes.** The wallet does not call C03's `Signature.Bytes()`: `Tx.Sign` and `Tx.SignWitness`
    (lib/btc/tx.go) assemble the DER blob themselves from the (r, s) that `btc.EcdsaSign` returns (`r.Bytes()`, `s.Bytes()`,
    manual 0x00 pad, hand-written header) — modelled statement by statement in Model/WalletDer.lean (`txSignBusig`).
    (1) For ALL r, s and hash-type bytes that blob is `Signature.Bytes()` of (r, s) followed by the hash-type byte — the
    same bytes, and the same index panic when r = 0 or s = 0. (2) On the output of a successful `Signature.Sign` (R ≠ 0)
    it is therefore `ecdsaDer d m k ++ [01]`, the signature `signatures_verify` is stated for. (3) The scriptSig /
    witness stack that `Tx.Sign` / `Tx.SignWitness` store are the ones `signInput` of the wallet model assembles.
    (That `btc.EcdsaSign` hands `Signature.Sign`'s (R, S) through unchanged is read off ecdsa.go and tied by the harness:
    in `-rfc6979` runs the DER bytes in the real wallet's output equal `txSignRfc`, request `signrfc`.) -/
theorem wallet_der_is_c03_bytes :
    (∀ (r s : Nat) (ht : UInt8), txSignBusig r s ht = (Model.Sig.sigBytes r s).map (· ++ [ht])) ∧
    (∀ (d k : Nat) (m : Bytes), 0 < d → d < Secp.n → Proofs.C13L.SignOk d m k →
      ∃ r s recid, Model.Sig.sign d (beVal m) k = some (r, s, recid) ∧
        txSignBusig r s 1 = some (Proofs.C13L.ecdsaDer d m k ++ [1])) ∧
    (∀ busig pub : Bytes, txSignScriptSig busig pub = push1 busig ++ push1 pub ∧ txSignWitness busig pub = [busig, pub]) :=
  ⟨txSignBusig_eq_sigBytes, txSign_is_ecdsaDer, txSign_assembly⟩

/-- non-vacuity / content of `wallet_der_is_c03_bytes`: a value with the top bit set gets the 0x00 pad, r = 0 is the panic -/
example : txSignBusig 0x80 1 1 = some [0x30, 7, 2, 2, 0, 0x80, 2, 1, 1, 1] ∧ txSignBusig 0 1 1 = none := by decide +kernel

/-- **msg_output_is_canonical_push.** The `-msg` output script is OP_RETURN followed by the CANONICAL push of the message
    (`ScriptSpec.pushEncoding`, Core's `CScript() << data`: direct push below 76 bytes, OP_PUSHDATA1 for 76..255,
    OP_PUSHDATA2 for 256..65535, OP_PUSHDATA4 above) for every message shorter than 2^32 bytes. `btc.WritePutLen`
    tests `< OP_PUSHDATA1` (repo fix 0bb0a110; with `<=` a 76-byte message gives `6a 4c <76 bytes>`, not a push). -/
theorem msg_output_is_canonical_push (msg : Bytes) (h : msg.length < 2^32) :
    msgScript msg = 0x6a :: ScriptSpec.pushEncoding msg := by
  have hu : u32 msg.length = msg.length := by unfold u32; exact Nat.mod_eq_of_lt h
  unfold msgScript writePutLen ScriptSpec.pushEncoding
  rw [hu]
  by_cases h1 : msg.length < 0x4c
  · simp [h1]
  · by_cases h2 : msg.length < 0x100
    · have : msg.length ≤ 0xff := by omega
      simp [h1, h2, this]
    · have a : ¬ msg.length ≤ 0xff := by omega
      by_cases h3 : msg.length < 0x10000
      · have b : msg.length ≤ 0xffff := by omega
        simp [h1, h2, h3, a, b]
      · have b : ¬ msg.length ≤ 0xffff := by omega
        simp [h1, h2, h3, a, b]

/-- the 76-byte boundary: OP_RETURN OP_PUSHDATA1 76 … -/
example : (msgScript (List.replicate 76 0x41)).take 4 = [0x6a, 0x4c, 0x4c, 0x41] ∧
    (msgScript (List.replicate 75 0x41)).take 3 = [0x6a, 0x4b, 0x41] := by decide

/-- `stringToSatoshis` on a plain decimal `w.ffffffff` (8 fraction digits) is exact below 2^64 and WRAPS above
    (DESIGN O4, outside the property's quantifier): 184467440737.09551616 BTC = 2^64 satoshi parses as 0. -/
theorem stringToSatoshis_wraps :
    stringToSatoshis (strBytes "184467440737.09551616") = .ok 0 ∧
    stringToSatoshis (strBytes "184467440737.09551615") = .ok (2^64 - 1) ∧
    stringToSatoshis (strBytes "0.00000001") = .ok 1 := by
  refine ⟨?_, ?_, ?_⟩ <;> decide +kernel

/-! ### the key table with imported keys (.others): compressed AND uncompressed keys, in any positions.
    make_wallet keeps two slices - keys[] (imported keys first, then the deterministic ones) and segwit[], which
    hash_to_key_idx, sign_tx, pkscr_to_key and apply_to_balance all read as "segwit[i] is the SegWit address OF keys[i]"
    (nil for a key that is not compressed). The theorems of this section are about tables of ARBITRARY public keys
    (no `pub_len` hypothesis). -/

/-- **keys_segwit_index_parallel.** The model's record table EQUALS A SECOND, slice-level transcription of make_wallet's
    SegWit loop (`segTable`: made with len(keys), entry i written inside `for i, pk := range keys`, left nil when the key is
    not compressed; an entry that is not a P2SH address - bech32 / tap mode - counts as "no script hash") zipped index by
    index: it has one entry per key, and record i = (keys[i].Pubkey, keys[i].Hash160, the script hash of segwit[i] or the
    "none" marker). A SegWit slice that skips the uncompressed keys instead (shorter, entries shifted) is not this table.
    Both sides are model definitions (nothing here is generated from wallet.go); the link to the Go code is the harness's
    .others corpus. -/
theorem keys_segwit_index_parallel (H : Addr.Hashes) (b : Bool) (pubs : List Bytes) :
    (segTable H b pubs).length = pubs.length ∧
    ∀ i, (keyTable H b pubs)[i]? =
      (pubs[i]?).map fun p => ({ pub := p, h160 := H.hash160 p, segH160 := ((segTable H b pubs).getD i none).getD [] } : KeyRec) :=
  ⟨List.length_map .., keyTable_zip H b pubs⟩

/-- **script_hash_lookup_is_slice_loop.** `scriptHashToKeyIdx` on the record table (what the model's sign_tx / pkscr_to_key
    / balance update use for a P2SH script) equals the second transcription of scripthash_to_key_idx written over the two
    slices: ONE loop over the index range of keys[], returning the first i whose segwit[i] is a P2SH address with
    Hash160 = h - for EVERY h. In particular the index returned for a script hash is an index INTO keys[].
    (Model-vs-model, like the theorem above.) -/
theorem script_hash_lookup_is_slice_loop (H : Addr.Hashes) (b : Bool) (pubs : List Bytes) (h : Bytes) :
    scriptHashToKeyIdx (keyTable H b pubs) h = scriptHashToKeyIdxSlices pubs (segTable H b pubs) h := by
  unfold scriptHashToKeyIdx scriptHashToKeyIdxSlices
  rw [findIdx?_eq_find?_range _ ⟨[], [], []⟩]
  have hlen : (keyTable H b pubs).length = pubs.length := by simp [keyTable]
  rw [hlen]
  apply find?_congr
  intro i hi
  have hi' : i < pubs.length := by simpa using hi
  rw [List.getD_eq_getElem?_getD, keyTable_zip, List.getElem?_eq_getElem hi']
  simp only [Option.map_some, Option.getD_some]
  cases (segTable H b pubs).getD i none <;> simp

/-- **p2sh_input_attributed_to_owner.** In a wallet whose table may hold uncompressed imported keys at any positions
    (not in bech32 mode), sign_tx on a P2SH-P2WPKH output of the compressed key at index k attributes the input to a
    COMPRESSED key q of the table whose own redeem script 00 14 HASH160(q) hashes to the script hash being spent:
    scriptSig = push of exactly that redeem script, witness = <sig‖01> <q>, BIP143 script code = q's P2PKH script.
    (So HASH160(scriptSig's push) = the hash in the spent script - the P2SH evaluation cannot fail on the redeem
    script, wherever the uncompressed keys stand.) Hypothesis: HASH160 yields 20 bytes. -/
theorem p2sh_input_attributed_to_owner (H : Addr.Hashes) (c : Cfg) (pubs : List Bytes) (sig : SigFn) (i k : Nat) (p : Bytes)
    (v : Nat) (hash_len : ∀ b, (H.hash160 b).length = 20)
    (hk : pubs[k]? = some p) (hp : p.length = 33) (hb : c.bech32 = false) :
    ∃ j q, pubs[j]? = some q ∧ q.length = 33 ∧
      H.hash160 ([0, 20] ++ H.hash160 q) = H.hash160 ([0, 20] ++ H.hash160 p) ∧
      signInput H c (keyTable H c.bech32 pubs) sig i
          (some { value := v, script := p2shScript (H.hash160 ([0, 20] ++ H.hash160 p)) }) =
        { scriptSig := some ([22, 0, 20] ++ H.hash160 q),
          witness := some [sig i (.witv0 j (p2pkhScript (H.hash160 q)) v) ++ [1], q], signed := true } := by
  have hkr : (keyTable H c.bech32 pubs)[k]? = some (mkKey H c.bech32 p) := by
    simp [keyTable, List.getElem?_map, hk]
  have hseg := mkKey_seg_of_33 H _ p hp hb
  have hl : (mkKey H c.bech32 p).segH160.length = 20 := by rw [hseg]; exact hash_len _
  obtain ⟨j, krj, hj, hje, hsi⟩ := signInput_p2sh H c _ sig i k _ v hkr hl hb
  obtain ⟨q, hq, rfl⟩ := keyTable_getElem? H c.bech32 pubs j krj hj
  rw [hseg] at hsi
  rw [hb] at hje hl hseg
  have hl' : (mkKey H false q).segH160.length = 20 := by rw [hje]; exact hl
  obtain ⟨hq33, hqs⟩ := seg_of_len20 H q hl'
  refine ⟨j, q, hq, hq33, ?_, ?_⟩
  · rw [← hqs, hje, hseg]
  · simpa [mkKey] using hsi

/-- **p2pkh_input_attributed_to_owner.** sign_tx on the P2PKH output of ANY key of the table - compressed or an
    uncompressed imported one, whose SegWit entry is nil (sign_tx tests `segwit[k] != nil` before comparing addresses,
    repo fix 98d8f688; without the test it dereferences the nil entry) - takes the legacy branch: scriptSig =
    <Tx.Sign signature over the spent script ‖01> <q> for a key q of the table with HASH160(q) = the hash being spent. -/
theorem p2pkh_input_attributed_to_owner (H : Addr.Hashes) (c : Cfg) (pubs : List Bytes) (sig : SigFn) (i k : Nat) (p : Bytes)
    (v : Nat) (hash_len : ∀ b, (H.hash160 b).length = 20) (hk : pubs[k]? = some p) :
    ∃ j q, pubs[j]? = some q ∧ H.hash160 q = H.hash160 p ∧
      signInput H c (keyTable H c.bech32 pubs) sig i (some { value := v, script := p2pkhScript (H.hash160 p) }) =
        { scriptSig := some (push1 (sig i (.legacy j (p2pkhScript (H.hash160 p))) ++ [1]) ++ push1 q),
          witness := none, signed := true } := by
  have hkr : (keyTable H c.bech32 pubs)[k]? = some (mkKey H c.bech32 p) := by
    simp [keyTable, List.getElem?_map, hk]
  obtain ⟨j, krj, hj, hje, hsi⟩ := signInput_p2pkh H c _ sig i k _ v hkr (hash_len _)
  obtain ⟨q, hq, rfl⟩ := keyTable_getElem? H c.bech32 pubs j krj hj
  exact ⟨j, q, hq, by simpa [mkKey] using hje, by simpa [mkKey] using hsi⟩

section MixedTable
open GocoinV.WalletTx.Demo

/-- the mixed table [uncompressed imported key, compressed key]: the SegWit slice is [nil, entry of key 1] -/
example : (segTable H0 false [unc0, pub0]).map Option.isSome = [false, true] := by decide +kernel

/-- hypotheses of p2sh_input_attributed_to_owner are satisfiable on the mixed table (key 1 behind the uncompressed key) -/
example :=
  p2sh_input_attributed_to_owner H0 c0 [unc0, pub0] (fun _ _ => [0x30]) 0 1 pub0 5 (by intro b; simp [H0]) rfl
    (by simp [pub0]) rfl

/-- … and the conclusion observed by evaluation: the redeem script written is key 1's (00 14 HASH160(pub0)), the key
    index handed to the signer is 1 - not 0, which a SegWit slice without the nil entry would give -/
example : signInput H0 c0 (keyTable H0 false [unc0, pub0]) (fun _ r => match r with | .witv0 j _ _ => [UInt8.ofNat j] | _ => []) 0
      (some { value := 5, script := p2shScript (H0.hash160 ([0, 20] ++ H0.hash160 pub0)) }) =
    { scriptSig := some ([22, 0, 20] ++ H0.hash160 pub0), witness := some [[1, 1], pub0], signed := true } := by decide +kernel

/-- p2pkh_input_attributed_to_owner on the uncompressed key itself (index 0): legacy scriptSig with the 65-byte key -/
example :=
  p2pkh_input_attributed_to_owner H0 c0 [unc0, pub0] (fun _ _ => [0x30]) 0 0 unc0 5 (by intro b; simp [H0]) rfl

example : (signInput H0 c0 (keyTable H0 false [unc0, pub0]) (fun _ _ => [0x30]) 0
      (some { value := 5, script := p2pkhScript (H0.hash160 unc0) })).scriptSig = some ([2, 0x30, 1, 65] ++ unc0) := by decide +kernel

/-- script_hash_lookup_is_slice_loop observed: both sides give index 1 for key 1's P2SH hash; the uncompressed key's
    PUBLIC-KEY hash is found by the public-key look-up (index 0) and NOT by the script-hash look-up -/
example : scriptHashToKeyIdx (keyTable H0 false [unc0, pub0]) (List.replicate 20 22) = some 1 ∧
    scriptHashToKeyIdxSlices [unc0, pub0] (segTable H0 false [unc0, pub0]) (List.replicate 20 22) = some 1 ∧
    pubHashToKeyIdx (keyTable H0 false [unc0, pub0]) (List.replicate 20 65) = some 0 ∧
    scriptHashToKeyIdx (keyTable H0 false [unc0, pub0]) (List.replicate 20 65) = none := by decide +kernel

end MixedTable

/-! ### non-vacuity: the hypotheses are satisfiable and the conclusions are observed on a concrete instance
    (toy hash / always-true verifier from Proofs/C13Demo.lean; one P2PKH coin of 0.6 BTC, pay 0.5 BTC, fee 1000) -/
section NonVacuity
open GocoinV.WalletTx.Demo

/-- the request parses: one destination, spendBtc = 0.5 BTC -/
example : ((okReq (sendRequest H0 c0 (some send0) none)).map (fun q => (q.1.length, q.2))) = some (1, 50000000) := by
  rw [request0]; rfl

/-- insufficient_writes_nothing: empty balance ⇒ exit 1 -/
example : isExit1 (runSend H0 c0 ks0 true [] (some send0) none (fun _ _ _ => [])) = true := by
  rw [runSend, request0]; decide +kernel

/-- pays_exactly: one input, outputs [0.5 BTC, change 0.09999 BTC], fee 1000 -/
example : ((written (runSend H0 c0 ks0 true [coin0] (some send0) none (fun _ _ _ => [0x30]))).map
    (fun w => (w.tx.ins.length, w.tx.outs.map (·.value), w.change))) = some (1, [50000000, 9999000], 9999000) := by
  rw [runSend, request0]; decide +kernel

/-- signatures_verify_templates: all hypotheses discharged for the toy instance (P2PKH input) -/
example : verifyInput C0 (runRaw H0 c0 (keyTable H0 c0.bech32 [pub0]) t0 ([uo0].map some) (sigOf C0 S0 [uo0]) (fun _ => none)).1 [uo0] 0 = true :=
  signatures_verify_templates H0 C0 S0 c0 [pub0] (fun _ => none) t0 [uo0] 0 inp0 uo0 rfl (by intro b; simp [H0])
    (by intros; rfl) (by intro k d; simp [S0]) (by intros; rfl) (by intro k d; simp [S0])
    (by simp [pub0]) rfl rfl rfl rfl (OwnScript.p2pkh 0 (mkKey H0 false pub0) rfl) (by decide +kernel) (Or.inl rfl)

end NonVacuity

/-! ### JOINT non-vacuity of `signatures_verify`: every hypothesis discharged (kernel-checked) for one input of each of the
    four owned types — instance of Proofs/C13Inst.lean §3. Real: secp256k1 key 1·G, C03's Sign / Bytes / SchnorrSign and
    verify models, C02's digest functions, the templates, gocoin's standard flag set (all 21 bits). Toy (the theorem is
    parametric there): sha, HASH160, tagged hash, nonce source. -/
section JointInstance
open GocoinV.WalletTx.Inst

example (base : Script.Oracles) : ScriptSpec.verifyScript
    (walletOracles base toySha Ht.hash160 K0.tagged
      (runRaw Ht cI ksI tI ([uoPkh].map some) (sigOf WC K0.signer [uoPkh]) (fun _ => none)).1 [uoPkh] 0 uoPkh.value)
    (txCtxOf (runRaw Ht cI ksI tI ([uoPkh].map some) (sigOf WC K0.signer [uoPkh]) (fun _ => none)).1 0)
    uoPkh.script (ScriptSpec.Flags.ofMask 0x1FFFFF) = .ok () :=
  signatures_verify_model_oracles Ht base toySha K0 _ cI (fun _ => none) tI [uoPkh] 0 inpI uoPkh (by decide) hashLenI
    (by decide) keysI callsPkh clashPkh nonzeroI rfl rfl rfl rfl (OwnScript.p2pkh 0 krI keyI) addrPkh (Or.inl rfl)

example (base : Script.Oracles) : ScriptSpec.verifyScript
    (walletOracles base toySha Ht.hash160 K0.tagged
      (runRaw Ht cI ksI tI ([uoWpkh].map some) (sigOf WC K0.signer [uoWpkh]) (fun _ => none)).1 [uoWpkh] 0 uoWpkh.value)
    (txCtxOf (runRaw Ht cI ksI tI ([uoWpkh].map some) (sigOf WC K0.signer [uoWpkh]) (fun _ => none)).1 0)
    uoWpkh.script (ScriptSpec.Flags.ofMask 0x1FFFFF) = .ok () :=
  signatures_verify_model_oracles Ht base toySha K0 _ cI (fun _ => none) tI [uoWpkh] 0 inpI uoWpkh (by decide) hashLenI
    (by decide) keysI callsWpkh clashWpkh nonzeroI rfl rfl rfl rfl (OwnScript.p2wpkh 0 krI keyI) addrWpkh (Or.inl rfl)

example (base : Script.Oracles) : ScriptSpec.verifyScript
    (walletOracles base toySha Ht.hash160 K0.tagged
      (runRaw Ht cI ksI tI ([uoSh].map some) (sigOf WC K0.signer [uoSh]) (fun _ => none)).1 [uoSh] 0 uoSh.value)
    (txCtxOf (runRaw Ht cI ksI tI ([uoSh].map some) (sigOf WC K0.signer [uoSh]) (fun _ => none)).1 0)
    uoSh.script (ScriptSpec.Flags.ofMask 0x1FFFFF) = .ok () :=
  signatures_verify_model_oracles Ht base toySha K0 _ cI (fun _ => none) tI [uoSh] 0 inpI uoSh (by decide) hashLenI
    (by decide) keysI callsSh clashSh nonzeroI rfl rfl rfl rfl (OwnScript.p2sh 0 krI keyI rfl) addrSh (Or.inl rfl)

example (base : Script.Oracles) : ScriptSpec.verifyScript
    (walletOracles base toySha Ht.hash160 K0.tagged
      (runRaw Ht cI ksI tI ([uoTr].map some) (sigOf WC K0.signer [uoTr]) (fun _ => none)).1 [uoTr] 0 uoTr.value)
    (txCtxOf (runRaw Ht cI ksI tI ([uoTr].map some) (sigOf WC K0.signer [uoTr]) (fun _ => none)).1 0)
    uoTr.script (ScriptSpec.Flags.ofMask 0x1FFFFF) = .ok () :=
  signatures_verify_model_oracles Ht base toySha K0 _ cI (fun _ => none) tI [uoTr] 0 inpI uoTr (by decide) hashLenI
    (by decide) keysI callsTr clashTr nonzeroI rfl rfl rfl rfl (OwnScript.p2tr 0 krI keyI) addrTr (Or.inl rfl)

end JointInstance

/-! ### JOINT non-vacuity of `send_signatures_verify`: a whole -send run with TWO keys and TWO inputs of different types
    (P2PKH of key 0 and P2WPKH of key 1; instance of Proofs/C13Inst2.lean) - every hypothesis discharged, kernel-checked -/
section SendInstance
open GocoinV.WalletTx.Inst GocoinV.WalletTx.Inst2

example (base : Script.Oracles) : w2.tx.ins.length = b2.spent.length ∧
    ∀ i uo, (spentOuts b2)[i]? = some uo →
      ScriptSpec.verifyScript (walletOracles base toySha Ht.hash160 K2.tagged w2.tx (spentOuts b2) i uo.value)
        (txCtxOf w2.tx i) uo.script (ScriptSpec.Flags.ofMask 0x1FFFFF) = .ok () :=
  send_signatures_verify Ht base toySha K2 _ c2 true [coinA, coinB] (some send2) none req2 b2 w2 (by decide) hashLenI keysOk2
    hreq2 hb2 hbal2 hrun2 calls2 clash2 nonzero2 haddr2

/-- … and it is not an empty run: two inputs (a P2PKH and a P2WPKH coin of different keys), two outputs (payment, change) -/
example : spentOuts b2 = [uoA, uoB] ∧ w2.tx.ins.length = 2 ∧ w2.tx.outs.map (·.value) = [60000, 9000] :=
  ⟨spent2, by rw [runSend_tx Ht c2 ks2 true _ _ _ _ req2 b2 w2 hreq2 hb2 hrun2, built2.1, spent2]; decide +kernel⟩

/-- ownership_is_four_templates observed on that table: scripts of another template carrying one of the wallet's hashes are not owned, the own ones are -/
example : pkscrToKey ks2 (p2shScript kr0.h160) = none ∧ pkscrToKey ks2 (p2pkhScript kr0.segH160) = none ∧
    pkscrToKey ks2 (p2wpkhScript kr1.segH160) = none ∧ pkscrToKey ks2 (p2pkhScript kr1.h160) = some 1 ∧
    pkscrToKey ks2 (p2shScript kr1.segH160) = some 1 ∧
    pkscrToKey (keyTable Ht true K2.pubs) (p2shScript kr1.segH160) = none ∧
    pkscrToKey (keyTable Ht true K2.pubs) (p2pkhScript (List.replicate 20 0)) = none := by decide +kernel

end SendInstance

end GocoinV.Props.C13
