/-
  Props.C14 — property theorems for C14 (wallet keys: deterministic, BIP32 / BIP39). Theorems ONLY;
  helper lemmas live in GocoinV/Proofs/C14*.lean. Every theorem is about the definitions the oracle
  executes (Model/HD.lean, Model/Bip39.lean, Model/WalletKeys.lean) and holds for every instance of the
  hash functions (`C : WalletCrypto`).
-/
import GocoinV.Model.WalletKeys
import GocoinV.Proofs.C14Bip39
import GocoinV.Proofs.C14Bip39Unique
import GocoinV.Proofs.C14HD
import GocoinV.Proofs.C14Wallet
import GocoinV.Proofs.C14Curve
import GocoinV.Proofs.C14Norm
import GocoinV.Proofs.C15Wif
import GocoinV.Proofs.C14Getpass
import GocoinV.Proofs.C14Xpub
import GocoinV.Proofs.C14Lookup
import GocoinV.Proofs.C14Store
import GocoinV.Proofs.C14Examples
import GocoinV.Gen.WalletInputFacts
namespace GocoinV.Props.C14
open GocoinV Proofs.C14 HD WalletKeys

/-! ### the regenerated word list -/

/-- The regenerated BIP39 word list has exactly 2048 entries (so every 11-bit group indexes a word). -/
theorem words_length : Bip39.wordList.length = 2048 := wordList_length

/-- The word list is sorted: the keys (big-endian value of the word right-padded with zero bytes to
    8 bytes — the lexicographic order for words of ≤ 8 lower-case letters, which they all are) are
    strictly increasing. -/
theorem words_sorted :
    (Bip39.wordList.map wordKey).Pairwise (· < ·) ∧
    ∀ w ∈ Bip39.wordList, 3 ≤ w.length ∧ w.length ≤ 8 ∧ ∀ c ∈ w, 97 ≤ c.toNat ∧ c.toNat ≤ 122 :=
  ⟨keys_inc, words_shape⟩

/-- No word occurs twice (so the Go map `wordMap` and "index in the list" agree). -/
theorem words_nodup : Bip39.wordList.Nodup := wordList_nodup

/-- The first four letters identify a word (BIP39's word-list requirement). -/
theorem words_prefix4_unique : (Bip39.wordList.map (·.take 4)).Nodup := wordList_prefix4_nodup

/-! ### BIP39 -/

/-- Round trip: for every entropy of 16, 20, 24, 28 or 32 bytes `NewMnemonic` succeeds and
    `EntropyFromMnemonic` of its result returns exactly that entropy (leading zero bytes included). -/
theorem bip39_roundtrip (C : WalletCrypto) (e : Bytes)
    (h : e.length = 16 ∨ e.length = 20 ∨ e.length = 24 ∨ e.length = 28 ∨ e.length = 32) :
    ∃ m, Bip39.newMnemonic C e = .ok m ∧ Bip39.entropyFromMnemonic C m = .ok e := by
  obtain ⟨cs, hl, h4, h8⟩ : ∃ cs, e.length = 4 * cs ∧ 4 ≤ cs ∧ cs ≤ 8 := ⟨e.length / 4, by omega, by omega, by omega⟩
  refine ⟨_, newMnemonic_sentence C e cs hl h4 h8, ?_⟩
  unfold sentence
  rw [entropy_of_digits C e cs (checksumBits C e cs) hl (by omega) (top_bits_lt _ cs (UInt8.toNat_lt _) h8)]
  simp [checksumBits]

/-- non-vacuity: 16 zero bytes (BIP39 vector 1) satisfy the hypothesis -/
example : (List.replicate 16 (0 : UInt8)).length = 16 ∨ (List.replicate 16 (0 : UInt8)).length = 20 ∨
    (List.replicate 16 (0 : UInt8)).length = 24 ∨ (List.replicate 16 (0 : UInt8)).length = 28 ∨
    (List.replicate 16 (0 : UInt8)).length = 32 := by decide

/-- The checksum detects every change of the checksum bits: among the 2^cs sentences that spell the same
    entropy `e` (cs = |e|/4 checksum bits, `sentence e cs chk` has `chk` in the last cs bits of its last
    word) `EntropyFromMnemonic` accepts exactly the one whose bits are the first cs bits of SHA-256(e),
    and answers `ErrChecksumIncorrect` for all others. -/
theorem bip39_checksum_detects (C : WalletCrypto) (e : Bytes) (cs chk : Nat)
    (hl : e.length = 4 * cs) (h4 : 4 ≤ cs) (h8 : cs ≤ 8) (hchk : chk < 2 ^ cs) :
    (chk = checksumBits C e cs → Bip39.entropyFromMnemonic C (sentence e cs chk) = .ok e) ∧
    (chk ≠ checksumBits C e cs → Bip39.entropyFromMnemonic C (sentence e cs chk) = .error .checksum) := by
  unfold sentence
  rw [entropy_of_digits C e cs chk hl (by omega) hchk]
  constructor
  · intro h; simp [h, checksumBits]
  · exact fun h => if_pos h

/-- non-vacuity of the hypotheses of `bip39_checksum_detects` -/
example : (List.replicate 16 (0 : UInt8)).length = 4 * 4 ∧ 4 ≤ 4 ∧ 4 ≤ 8 ∧ 3 < 2 ^ 4 := by decide

/-- Uniqueness (the strong form of "the checksum detects errors"): whatever `EntropyFromMnemonic`
    accepts is, word for word, the sentence that `NewMnemonic` generates for the entropy it returns. So a
    sentence in which any word was replaced, dropped, added or moved is accepted only if it happens to BE
    the generated sentence of some (other) entropy — there are no "almost valid" sentences, no accepted
    sentence with a word outside the list, and white space is the only freedom. -/
theorem bip39_accepts_only_generated (C : WalletCrypto) (m e : Bytes)
    (h : Bip39.entropyFromMnemonic C m = .ok e) :
    Bip39.newMnemonic C e = .ok (Bip39.joinSp (Bip39.fields m)) := by
  obtain ⟨cs, h4, h8, hl, hf⟩ := entropy_unique C m e h
  rw [newMnemonic_sentence C e cs hl h4 h8, hf]
  rfl

/-- non-vacuity: by `bip39_roundtrip` every generated sentence is accepted, so the hypothesis holds e.g.
    for the sentence of 16 zero bytes under any hash function -/
example (C : WalletCrypto) : ∃ m, Bip39.entropyFromMnemonic C m = .ok (List.replicate 16 0) := by
  obtain ⟨m, _, h⟩ := bip39_roundtrip C (List.replicate 16 0) (Or.inl (by simp))
  exact ⟨m, h⟩

/-- `MnemonicToByteArray` splits the sentence with `strings.Split(m, " ")` although the validity check in front
    of it (`EntropyFromMnemonic`) uses `strings.Fields`. The two agree on
    every sentence that is a single-space join of non-empty white-space-free words — which is what
    `NewMnemonic` produces — and on every sentence the wallet's bip39 = -1 branch hands over
    (`normalizeMnemonic`), so inside make_wallet the discrepancy cannot be reached. -/
theorem split_agrees_with_fields (ws : List Bytes) (hne : ws ≠ []) (h : ∀ w ∈ ws, noSpace w) (pass : Bytes) :
    Bip39.splitSp (Bip39.joinSp ws) = Bip39.fields (Bip39.joinSp ws) ∧
    (normalizeMnemonic pass = [] ∨
      Bip39.splitSp (normalizeMnemonic pass) = Bip39.fields (normalizeMnemonic pass)) :=
  ⟨by rw [splitSp_joinSp ws hne h, fields_joinSp ws h], normalize_split_eq_fields pass⟩

/-- non-vacuity -/
example : ([[97]] : List Bytes) ≠ [] ∧ ∀ w ∈ ([[97]] : List Bytes), noSpace w :=
  ⟨by decide, List.forall_mem_singleton.mpr ⟨by decide, by decide⟩⟩

/-- … and outside that set they differ: "a␣␣b" (two spaces) splits into three pieces, the middle one empty
    (`MnemonicToByteArray` then looks "" up in the word map and silently uses index 0), while
    `strings.Fields` sees two words. Reached only through the bip39 API, not through the wallet. -/
theorem split_differs_from_fields_witness :
    Bip39.splitSp [97, 32, 32, 98] = [[97], [], [98]] ∧ Bip39.fields [97, 32, 32, 98] = [[97], [98]] := by
  decide

/-! ### BIP32 -/

/-- `HDWallet.Child` on a private extended key IS BIP32's CKDpriv whenever CKDpriv is defined: for a
    well-formed private key (private version bytes, key = 00‖ser256(k), k ≢ 0 mod n) and any index
    i < 2³², if `CKDpriv((k,c),i) = (k',c')` (i.e. I_L < n and k' ≠ 0) then `Child` returns the extended
    key with key 00‖ser256(k'), chain code c', depth+1 (mod 256), child number i, the same version and
    the parent fingerprint HASH160(serP(k·G))[0:4]. No hypothesis about the curve: k·G is finite because
    G has order n (`Props.C03.generator_order`). -/
theorem ckd_priv_spec (C : WalletCrypto) (w : HDWallet) (k i k' : Nat) (c' : Bytes)
    (hw : PrivWF w k) (hi : i < 2 ^ 32) (hk0 : k % Secp.n ≠ 0)
    (hspec : Spec.Bip32.ckdPriv C.hmac512 k w.chCode i = some (k', c')) :
    child C w i = .ok { pfx := w.pfx, depth := (w.depth + 1) % 256, idx := i, chCode := c',
                        checksum := Spec.Bip32.fingerprint C.hash160 (Spec.Bip32.point k),
                        key := 0 :: Spec.Bip32.ser256 k' } := by
  obtain ⟨P, hP⟩ := mul_G_some k hk0
  obtain ⟨I, rfl, rfl, rfl, _⟩ := ckdPriv_eq hspec
  rw [child_priv_cases C w k i hw hi, hP, hw.2.1]
  simp [Spec.Bip32.fingerprint, Spec.Bip32.point, hP, Spec.Bip32.serP, Spec.Bip32.ser256]

/-- The deviation from BIP32, stated outright: `Child` on a well-formed private key NEVER skips an index.
    It returns a key for every i < 2³² — also when I_L ≥ n or (I_L + k) mod n = 0, where BIP32 says the
    index is invalid (probability ≈ 2⁻¹²⁷; recorded as an observation, not a finding). -/
theorem child_priv_never_skips (C : WalletCrypto) (w : HDWallet) (k i : Nat)
    (hw : PrivWF w k) (hi : i < 2 ^ 32) (hk0 : k % Secp.n ≠ 0) :
    ∃ w', child C w i = .ok w' := by
  obtain ⟨P, hP⟩ := mul_G_some k hk0
  exact ⟨_, by rw [child_priv_cases C w k i hw hi, hP]⟩

/-- `HDWallet.Child` on a public extended key IS BIP32's CKDpub whenever CKDpub is defined: for a
    well-formed public key (public version bytes, key = serP(P)) and i < 2³¹, if
    `CKDpub((P,c),i) = (Q,c')` then `Child` returns key serP(Q), chain code c', depth+1, child number i,
    fingerprint HASH160(serP(P))[0:4]. The only requirement on P is that it is a point of the curve
    (`hP`, part of "well-formed public key"); that decompressing serP(P) gives P back is not a
    hypothesis but a lemma (`parse_ser33`, from C03's `parsePubkey_ser33` / `parsePubkey_is_sec1`). -/
theorem ckd_pub_spec (C : WalletCrypto) (w : HDWallet) (i : Nat) (P Q : Nat × Nat) (c' : Bytes)
    (hw : PubWF w P) (hP : Secp.onCurve (some P) = true)
    (hspec : Spec.Bip32.ckdPub C.hmac512 (some P) w.chCode i = some (some Q, c')) :
    child C w i = .ok { pfx := w.pfx, depth := (w.depth + 1) % 256, idx := i, chCode := c',
                        checksum := Spec.Bip32.fingerprint C.hash160 (some P),
                        key := Spec.Bip32.serP (some Q) } := by
  obtain ⟨hi, hQ, rfl⟩ := ckdPub_eq hspec
  rw [← hw.2.2] at hQ ⊢
  rw [child_pub_wf C w i P hw hi (parse_ser33 P hP), hQ]
  simp [Spec.Bip32.fingerprint, Spec.Bip32.serP, hw.2.2]

/-- Public derivation commutes with private derivation: for a well-formed private key w (scalar k,
    k ≢ 0 mod n) and a NON-hardened index i < 2³¹, `Pub(Child(w,i)) = Child(Pub(w),i)` — both as results —
    with ONE exception, stated as the second alternative: when the child is the point at infinity (I_L + k ≡ 0
    mod n, the index BIP32 calls invalid; exactly the case of `child_pub_refuses_iff`) NEITHER side yields a key:
    the public side panics ("Invalid public key": `BaseMultiplyAdd` reports false at the point at infinity,
    C08's finding api-basemultiplyadd-identity, fixed) and the private side holds the scalar 0, whose
    public key is nil (`.outside`).
    No curve hypotheses: the group-law facts used — (a+k mod n)·G = a·G + k·G and parse(serP(P)) = P —
    are theorems (`mul_add_mod_G`, `parse_ser33` in Proofs/C14Curve.lean,
    derived from C03's `reference_curve_group_law`, `generator_order` and `parsePubkey_ser33`). -/
theorem pub_commutes (C : WalletCrypto) (w : HDWallet) (k i : Nat)
    (hw : PrivWF w k) (hi : i < 2 ^ 31) (hk0 : k % Secp.n ≠ 0) :
    (child C w i >>= pub) = (pub w >>= fun pw => child C pw i) ∨
    ((child C w i >>= pub) = .error .outside ∧ (pub w >>= fun pw => child C pw i) = .error .panic) := by
  obtain ⟨P, hP⟩ := mul_G_some k hk0
  have hparse : Secp.parsePubkey (Secp.ser33 (some P)) = some P :=
    parse_ser33 P (by rw [← hP]; exact mul_G_onCurve k)
  have h31 : ¬ (i ≥ 2 ^ 31) := by omega
  obtain ⟨hpub', hnpriv'⟩ := (private_pfx w.pfx hw.1).2.2
  rw [child_priv_cases C w k i hw (Nat.lt_trans hi (by decide)), hP, pub_priv_cases w k hw, hP]
  simp only [h31, ↓reduceIte, bind, Except.bind]
  generalize hha : C.hmac512 w.chCode (Secp.ser33 (some P) ++ beBytes 4 i) = ha
  have hp : ∀ w1 : HDWallet, w1.pfx = w.pfx → w1.key = 0 :: beBytes 32 ((beVal (ha.take 32) + k) % Secp.n) →
      pub w1 = match Secp.mul ((beVal (ha.take 32) + k) % Secp.n) Secp.G with
        | none => .error .outside
        | some Q => .ok { w1 with pfx := publishPfx w1.pfx, key := Secp.ser33 (some Q) } :=
    fun w1 h1 h2 => pub_priv_cases w1 _ ⟨h1 ▸ hw.1, h2, Nat.lt_trans (Nat.mod_lt _ (by decide)) (by decide)⟩
  simp only [hp, child_pub_wf C { w with pfx := publishPfx w.pfx, key := Secp.ser33 (some P) } i P ⟨hpub', hnpriv', rfl⟩
    hi hparse, mul_add_mod_G, hP, hha]
  cases Secp.add (Secp.mul (beVal (ha.take 32)) Secp.G) (some P) with
  | none => right; exact ⟨rfl, rfl⟩
  | some Q => left; rfl

/-- non-vacuity of `PrivWF` / `k ≢ 0`: the extended key with scalar 1 -/
example : PrivWF { chCode := List.replicate 32 0, key := 0 :: Spec.Bip32.ser256 1, pfx := Gen.HDConsts.pfxPrivate,
                   idx := 0, checksum := [0, 0, 0, 0], depth := 0 } 1 ∧ 1 % Secp.n ≠ 0 := by
  refine ⟨⟨by decide, rfl, by decide⟩, by decide⟩

/-- non-vacuity of `PubWF` / `onCurve`: the public extended key holding G -/
example : PubWF { chCode := List.replicate 32 0, key := Secp.ser33 Secp.G, pfx := Gen.HDConsts.pfxPublic,
                  idx := 0, checksum := [0, 0, 0, 0], depth := 0 } (Secp.Gx, Secp.Gy) ∧
    Secp.onCurve (some (Secp.Gx, Secp.Gy)) = true := by
  refine ⟨⟨by decide, by decide, rfl⟩, by decide +kernel⟩

/-- non-vacuity of the `hspec` hypothesis of `ckd_priv_spec`: with a toy HMAC (constant 64 bytes 01)
    CKDpriv of the scalar 1 is defined for the hardened index 2³¹ -/
example : (Spec.Bip32.ckdPriv (fun _ _ => List.replicate 64 1) 1 (List.replicate 32 0) (2 ^ 31)).isSome = true := by
  decide +kernel

/-- The region where `Child` on a private key leaves the model, exactly: for a well-formed private key with
    scalar k and any i < 2³², `Child` is `.outside` (`PublicFromPrivate` returns nil — `BaseMultiply` reports
    false at the point at infinity (C08's finding api-basemultiply-identity, fixed) — and gocoin
    goes on deriving from the nil public key) IF AND ONLY IF k ≡ 0 mod n; otherwise it returns a key
    (`child_priv_never_skips`). So the "outside" marking of the private side is one residue class — the harness
    runs the real code there and judges it by the BIP32 reference only. -/
theorem child_priv_outside_iff (C : WalletCrypto) (w : HDWallet) (k i : Nat)
    (hw : PrivWF w k) (hi : i < 2 ^ 32) :
    child C w i = .error .outside ↔ k % Secp.n = 0 := by
  constructor
  · intro h
    apply Classical.byContradiction
    intro hk0
    obtain ⟨w', hw'⟩ := child_priv_never_skips C w k i hw hi hk0
    rw [hw'] at h; cases h
  · intro h
    rw [child_priv_cases C w k i hw hi, (mul_G_none_iff k).mpr h]

/-- non-vacuity: the key with scalar 0 is well formed -/
example : PrivWF { chCode := List.replicate 32 0, key := 0 :: Spec.Bip32.ser256 0, pfx := Gen.HDConsts.pfxPrivate,
                   idx := 0, checksum := [0, 0, 0, 0], depth := 0 } 0 := ⟨by decide, rfl, by decide⟩

/-- The same for the public side: for the public extended key of the scalar k (key = serP(k·G), k ≢ 0) and
    a non-hardened i, `Child` PANICS ("HDWallet.Child(): Invalid public key") IF AND ONLY IF I_L + k ≡ 0 mod n
    (the sum is the point at infinity — BIP32 says "invalid, proceed with the next i"; `BaseMultiplyAdd` reports
    false there (C08's finding api-basemultiplyadd-identity, fixed)); otherwise it returns a key. -/
theorem child_pub_refuses_iff (C : WalletCrypto) (w : HDWallet) (k i : Nat) (P : Nat × Nat)
    (hw : PubWF w P) (hP : Secp.mul k Secp.G = some P) (hi : i < 2 ^ 31) :
    (child C w i = .error .panic ↔
      (beVal ((C.hmac512 w.chCode (w.key ++ beBytes 4 i)).take 32) + k) % Secp.n = 0) ∧
    ((beVal ((C.hmac512 w.chCode (w.key ++ beBytes 4 i)).take 32) + k) % Secp.n ≠ 0 → ∃ w', child C w i = .ok w') := by
  have hiff := add_mul_G_none_iff (beVal ((C.hmac512 w.chCode (w.key ++ beBytes 4 i)).take 32)) k
  rw [hP] at hiff
  rw [child_pub_wf C w i P hw hi (parse_ser33 P (by rw [← hP]; exact mul_G_onCurve k))]
  cases hQ : Secp.add (Secp.mul (beVal ((C.hmac512 w.chCode (w.key ++ beBytes 4 i)).take 32)) Secp.G) (some P) with
  | none => simp [hiff.mp hQ]
  | some Q => simpa using fun h => by rw [hiff.mpr h] at hQ; cases hQ

/-- non-vacuity: the public key of the scalar 1 -/
example : PubWF { chCode := List.replicate 32 0, key := Secp.ser33 Secp.G, pfx := Gen.HDConsts.pfxPublic,
                  idx := 0, checksum := [0, 0, 0, 0], depth := 0 } (Secp.Gx, Secp.Gy) ∧
    Secp.mul 1 Secp.G = some (Secp.Gx, Secp.Gy) := ⟨⟨by decide, by decide, rfl⟩, by decide +kernel⟩

/-! ### extended public keys whose key bytes are no curve point (finding `xpub-noncanonical-x`, fixed) -/

/-- Import checks the point (BIP32: "verify whether the X coordinate in the public key data corresponds to a
    point on the curve"): whatever `StringWallet` accepts under a PUBLIC version has 33 key bytes that strict SEC1
    parsing reads as a point P of the curve — first byte 02/03, x < p, x³+7 a square (`ByteCheck` heeds
    `ParsePubkey`'s verdict). -/
theorem xpub_import_is_curve_point (C : WalletCrypto) (s : Bytes) (w : HDWallet)
    (h : stringWallet C s = .ok w) (hpub : isPublicPfx w.pfx = true) :
    w.key.length = 33 ∧ ∃ P, Secp.parsePubkey w.key = some P ∧ Secp.onCurve (some P) = true := by
  obtain ⟨hl, P, hP⟩ := parseBytes_pub_point C _ w h hpub
  exact ⟨hl, P, hP, parse33_onCurve _ P hl hP⟩

/-- … and the refusal, stated on the bytes: 82 bytes with a public version whose key bytes do not parse are
    refused with "Invalid public key" — before the checksum is even looked at. -/
theorem xpub_noncanonical_refused (C : WalletCrypto) (dbin : Bytes) (hl : dbin.length = 82)
    (hpub : isPublicPfx (beVal (dbin.take 4)) = true)
    (hk : Secp.parsePubkey ((dbin.drop 45).take 33) = none) : parseBytes C dbin = .error .pubkey := by
  unfold parseBytes byteCheck
  simp [hl, hpub, hk]

/-- non-vacuity, and the witnesses of the finding: 02‖(p+1), 03‖(p+1), 02‖(2²⁵⁶−1) (x ≥ p) and
    02‖5 (x < p, x³+7 not a square) do not parse -/
example : Secp.parsePubkey (2 :: beBytes 32 (Secp.p + 1)) = none ∧ Secp.parsePubkey (3 :: beBytes 32 (Secp.p + 1)) = none ∧
    Secp.parsePubkey (2 :: beBytes 32 (2 ^ 256 - 1)) = none ∧ Secp.parsePubkey (2 :: beBytes 32 5) = none := by
  decide +kernel

/-- `Child` on a public extended key whose key bytes are no curve point derives NOTHING: it panics
    ("HDWallet.Child(): Invalid public key"); no child with 33 zero key bytes is handed out. -/
theorem child_pub_invalid_panics (C : WalletCrypto) (w : HDWallet) (i : Nat)
    (hpub : isPublicPfx w.pfx = true) (hlen : w.key.length = 33) (hi : i < 2 ^ 31)
    (hk : Secp.parsePubkey w.key = none) : child C w i = .error .panic := by
  rw [child_pub_cases C w i hpub hlen hi, hk]

/-- non-vacuity: the extended public key holding 02‖(p+1) -/
example (C : WalletCrypto) :
    child C { chCode := List.replicate 32 0, key := 2 :: beBytes 32 (Secp.p + 1), pfx := Gen.HDConsts.pfxPublic,
              idx := 0, checksum := [0, 0, 0, 0], depth := 0 } 0 = .error .panic :=
  child_pub_invalid_panics C _ 0 (by decide) (by decide) (by decide) (by decide +kernel)

/-- Conversely, whenever `Child` on a public extended key (33 key bytes, non-hardened index) returns a key at all,
    the parent bytes parse as a curve point P, and the child key is serP(Q) for the FINITE curve point
    Q = I_L·G + P — which strict parsing reads back as Q. In particular the all-zero key is never returned. -/
theorem child_pub_result_is_point (C : WalletCrypto) (w w' : HDWallet) (i : Nat)
    (hpub : isPublicPfx w.pfx = true) (hlen : w.key.length = 33) (hi : i < 2 ^ 31)
    (h : child C w i = .ok w') :
    ∃ P Q, Secp.parsePubkey w.key = some P ∧
      Secp.add (Secp.mul (beVal ((C.hmac512 w.chCode (w.key ++ beBytes 4 i)).take 32)) Secp.G) (some P) = some Q ∧
      w'.key = Secp.ser33 (some Q) ∧ Secp.onCurve (some Q) = true ∧ Secp.parsePubkey w'.key = some Q := by
  obtain ⟨P, Q, hP, hQ, rfl⟩ := child_pub_ok C w w' i hpub hlen hi h
  have hon : Secp.onCurve (some Q) = true := by
    rw [← hQ]; exact add_onCurve _ _ (mul_G_onCurve _) (parse33_onCurve _ P hlen hP)
  exact ⟨P, Q, hP, hQ, rfl, hon, parse_ser33 Q hon⟩

/-- "Extended keys re-import to the same keys", closed under public derivation: if `StringWallet` imported the
    extended public key w and `Child(w, i)` (i < 2³¹) returned w', then w'.String() is importable and imports to
    exactly w'. (The finding's symptom was the opposite: an imported xpub whose child's own string was refused.)
    Needs only the output lengths of the hash functions. -/
theorem xpub_child_reimports (C : WalletCrypto) (s : Bytes) (w w' : HDWallet) (i : Nat)
    (hsha : ∀ b, (C.shaHash b).length = 32) (hmac : ∀ k m, (C.hmac512 k m).length = 64)
    (h160 : ∀ b, (C.hash160 b).length = 20)
    (himp : stringWallet C s = .ok w) (hpub : isPublicPfx w.pfx = true) (hi : i < 2 ^ 31)
    (h : child C w i = .ok w') : stringWallet C (HD.toString C w') = .ok w' := by
  obtain ⟨hlen, _⟩ := xpub_import_is_curve_point C s w himp hpub
  obtain ⟨P, Q, _, _, _, _, hparse⟩ := child_pub_result_is_point C w w' i hpub hlen hi h
  obtain ⟨_, Q', _, _, rfl⟩ := child_pub_ok C w w' i hpub hlen hi h
  refine stringWallet_toString C _ ⟨Or.inr hpub, Nat.mod_lt _ (by decide), by simp [h160], Nat.lt_trans hi (by decide),
    by simp [hmac], ser33_length Q', ?_⟩ hsha
  intro _ hn; rw [hparse] at hn; cases hn

/-- non-vacuity of `xpub_import_is_curve_point`, `child_pub_result_is_point` and `xpub_child_reimports`, jointly: with
    toy hash functions of the right output lengths (HMAC: I_L = 1, `Proofs.C14.toyC`) the extended public key holding G
    is imported from its own string, it is a public version with 33 key bytes, and `Child(·, 0)` returns a key (2·G) —
    all hypotheses of the three theorems hold together. -/
example : ∃ s w w', stringWallet toyC s = .ok w ∧ isPublicPfx w.pfx = true ∧ w.key.length = 33 ∧ (0 : Nat) < 2 ^ 31 ∧
    child toyC w 0 = .ok w' ∧ (∀ b, (toyC.shaHash b).length = 32) ∧ (∀ k m, (toyC.hmac512 k m).length = 64) ∧
    (∀ b, (toyC.hash160 b).length = 20) := by
  obtain ⟨w', hw'⟩ := ok_of_isSome _ toy_child_pub
  exact ⟨HD.toString toyC toyPub, toyPub, w', stringWallet_toString toyC toyPub toyPub_serWF toyC_lens.1, by decide, by decide,
    by decide, hw', toyC_lens⟩

/-! ### the wallet's path walk and key list -/

/-- The path walk of `make_wallet` is iterated `Child` along the configured path: the wallet that
    generates the keys is `derive root (all elements but the last)`, and the remembered parent (used for
    hdsubs) is the wallet one element earlier together with that element. -/
theorem path_walk_spec (C : WalletCrypto) (xs : List Nat) (root w' : HDWallet) (prv' : Option (HDWallet × Nat))
    (h : walkPath C xs root none = .ok (w', prv')) :
    derive C root xs = .ok w' ∧ (xs = [] → prv' = none) ∧
    (xs ≠ [] → ∃ pw, prv' = some (pw, xs.getLast?.getD 0) ∧ derive C root xs.dropLast = .ok pw ∧
                 child C pw (xs.getLast?.getD 0) = .ok w') :=
  walkPath_spec C xs root w' none prv' h

/-- The wallet's path walk IS BIP32 private derivation along the path: for a well-formed private root
    (scalar k in 1..n−1), a path of indexes < 2³², if BIP32's iterated CKDpriv is defined along the whole
    path and yields (k', c'), then iterated `Child` (= `walkPath`, see `path_walk_spec`) yields the
    extended key with key 00‖ser256(k'), chain code c' and the same version. No curve hypothesis: that j·G is a
    finite point for 0 < j < n is C03's `generator_order` (imported through `mul_G_some`). -/
theorem derive_is_bip32 (C : WalletCrypto) (path : List Nat) (w : HDWallet) (k k' : Nat) (c' : Bytes)
    (hw : PrivWF w k) (hk : 0 < k ∧ k < Secp.n)
    (hpath : ∀ i ∈ path, i < 2 ^ 32)
    (hspec : Spec.Bip32.derivePriv C.hmac512 (k, w.chCode) path = some (k', c')) :
    ∃ w', derive C w path = .ok w' ∧ w'.key = 0 :: Spec.Bip32.ser256 k' ∧ w'.chCode = c' ∧ w'.pfx = w.pfx := by
  induction path generalizing w k with
  | nil =>
    simp only [Spec.Bip32.derivePriv, Option.some.injEq, Prod.mk.injEq] at hspec
    obtain ⟨rfl, rfl⟩ := hspec
    exact ⟨w, rfl, hw.2.1, rfl, rfl⟩
  | cons i t ih =>
    simp only [Spec.Bip32.derivePriv] at hspec
    cases hs : Spec.Bip32.ckdPriv C.hmac512 k w.chCode i with
    | none => simp [hs] at hspec
    | some kc =>
      obtain ⟨k1, c1⟩ := kc
      simp only [hs] at hspec
      have hk0 : k % Secp.n ≠ 0 := by rw [Nat.mod_eq_of_lt hk.2]; omega
      have hi := hpath i List.mem_cons_self
      have hr := ckdPriv_range hs
      simp only [derive, ckd_priv_spec C w k i k1 c1 hw hi hk0 hs]
      exact ih _ k1 ⟨hw.1, rfl, Nat.lt_trans hr.2 (by decide)⟩ hr (fun x hx => hpath x (List.mem_cons_of_mem _ hx)) hspec

/-- non-vacuity of `derive_is_bip32`'s hypotheses on a NON-EMPTY path: the private extended key with scalar 1
    (`toyPriv`, well-formed), the path [0'] (one hardened step, index 2³¹ < 2³²), toy HMAC with I_L = 1: BIP32's
    derivation is defined and gives scalar 2 -/
example : PrivWF toyPriv 1 ∧ 0 < 1 ∧ 1 < Secp.n ∧ (∀ i ∈ [2 ^ 31], i < 2 ^ 32) ∧
    Spec.Bip32.derivePriv toyC.hmac512 (1, toyPriv.chCode) [2 ^ 31] = some (2, List.replicate 32 0) :=
  ⟨⟨by decide, rfl, by decide⟩, by decide, by decide, by decide, toy_spec_derive⟩

/-- non-vacuity of `path_walk_spec`: the walk over the one-element path [0'] succeeds (and the empty one trivially) -/
example : (∃ r, walkPath toyC [2 ^ 31] toyPriv none = .ok r) ∧
    ∀ (C : WalletCrypto) (root : HDWallet), walkPath C [] root none = .ok (root, none) :=
  ⟨ok_of_isSome _ toy_walk, fun _ _ => rfl⟩

/-- The key list of one pass: exactly `keycnt` keys, the j-th being the key bytes of
    `Child(hdwal, (j + hdpath_last) mod 2³²)` — consecutive BIP32 children of the leaf account (uint32
    wrap-around made explicit: an index that runs past 2³¹−1 turns hardened, see `key_index_wrap`). -/
theorem key_list_spec (C : WalletCrypto) (hdwal : HDWallet) (last : Nat) (pre : Bytes) (keycnt : Nat)
    (ks : List (Bytes × Bytes)) (h : type4Pass C hdwal last pre keycnt 0 = .ok ks) :
    ks.length = keycnt ∧ ∀ j (hj : j < ks.length), ∃ hd, child C hdwal ((j + last) % 2 ^ 32) = .ok hd ∧
      (ks[j]).1 = hd.key.drop 1 := by
  obtain ⟨h1, h2⟩ := type4Pass_spec C hdwal last pre keycnt 0 ks h
  refine ⟨h1, fun j hj => ?_⟩
  obtain ⟨hd, e1, e2⟩ := h2 j hj
  exact ⟨hd, by simpa using e1, congrArg Prod.fst e2⟩

/-- non-vacuity: a pass that lists ONE key (child 0 of the toy account) succeeds -/
example : ∃ ks, type4Pass toyC toyPriv 0 [] 1 0 = .ok ks := ok_of_isSome _ toy_pass1

/-- The uint32 wrap of `hdpath_last + i`, stated exactly. For a last
    path element `last` < 2³² and key number j < 2³¹, write b = last mod 2³¹ (the number printed in the
    label). The j-th key of a pass is `Child(hdwal, idx)` with idx = (j + last) mod 2³², its label is
    pre/‹(j + b) mod 2³²›[']  with the quote iff `last` is hardened, and
      * while j + b < 2³¹ the key is the BIP32 child the label names: idx = last + j, hardened iff `last` is;
      * from j = 2³¹ − b on (the index "runs past 2³¹−1"):
          – non-hardened `last`: idx = last + j ≥ 2³¹, i.e. the HARDENED child (last + j − 2³¹)' — while the
            label shows the number last + j ≥ 2³¹ without a quote (not a BIP32 path element);
          – hardened `last`: idx = j + b − 2³¹ < 2³¹, i.e. the NON-hardened children 0, 1, 2, … — while the
            label shows (j + b)' .
    The wallet accepts such configurations; BIP32 has no such path. -/
theorem key_index_wrap (C : WalletCrypto) (hdwal : HDWallet) (last : Nat) (pre : Bytes) (keycnt : Nat)
    (ks : List (Bytes × Bytes)) (h : type4Pass C hdwal last pre keycnt 0 = .ok ks)
    (hl : last < 2 ^ 32) (j : Nat) (hj : j < ks.length) (hj31 : j < 2 ^ 31) :
    (∃ hd, child C hdwal ((j + last) % 2 ^ 32) = .ok hd ∧ (ks[j]).1 = hd.key.drop 1) ∧
    (ks[j]).2 = pre ++ [47] ++ decStr ((j + last % 2 ^ 31) % 2 ^ 32) ++ (if last ≥ 2 ^ 31 then [39] else []) ∧
    (j + last % 2 ^ 31 < 2 ^ 31 → (j + last) % 2 ^ 32 = last + j ∧ ((j + last) % 2 ^ 32 ≥ 2 ^ 31 ↔ last ≥ 2 ^ 31)) ∧
    (j + last % 2 ^ 31 ≥ 2 ^ 31 → last < 2 ^ 31 → (j + last) % 2 ^ 32 = last + j ∧ (j + last) % 2 ^ 32 ≥ 2 ^ 31) ∧
    (j + last % 2 ^ 31 ≥ 2 ^ 31 → last ≥ 2 ^ 31 →
      (j + last) % 2 ^ 32 = j + last % 2 ^ 31 - 2 ^ 31 ∧ (j + last) % 2 ^ 32 < 2 ^ 31) := by
  obtain ⟨hd, e1, e2⟩ := (type4Pass_spec C hdwal last pre keycnt 0 ks h).2 j hj
  rw [hardenedFrom_eq] at e2
  refine ⟨⟨hd, by simpa using e1, congrArg Prod.fst e2⟩, by simpa using congrArg Prod.snd e2, ?_, ?_, ?_⟩ <;> omega

/-- non-vacuity of ALL hypotheses in the wrapped branch: last = 2³¹−1, two keys — the pass succeeds with 2 keys, and
    key j = 1 (< 2, < 2³¹) is the one whose index runs past 2³¹−1 -/
example : ∃ ks, type4Pass toyC toyPriv (2 ^ 31 - 1) [] 2 0 = .ok ks ∧ 2 ^ 31 - 1 < 2 ^ 32 ∧ 1 < ks.length ∧ 1 < 2 ^ 31 ∧
    1 + (2 ^ 31 - 1) % 2 ^ 31 ≥ 2 ^ 31 := by
  obtain ⟨ks, hks, hl⟩ := toy_pass_wrap'
  exact ⟨ks, hks, by decide, by omega, by decide, by decide⟩

/-- the arithmetic side conditions of the wrapped branches: last = 2³¹−1, key 1 and last = 2³²−1, key 1 -/
example : (1 + (2 ^ 31 - 1) % 2 ^ 31 ≥ 2 ^ 31 ∧ 2 ^ 31 - 1 < 2 ^ 31) ∧
    (1 + (2 ^ 32 - 1) % 2 ^ 31 ≥ 2 ^ 31 ∧ 2 ^ 32 - 1 ≥ 2 ^ 31 ∧ 2 ^ 32 - 1 < 2 ^ 32) := by decide

/-- hdsubs, one step: sub-account number `sub` re-derives the account from the remembered parent at index
    (prvidx + sub) mod 2³² — the element before the last one of the path advanced by `sub` — lists `keycnt`
    keys of it exactly like the first pass, and continues with sub+1. -/
theorem hdsubs_step_spec (C : WalletCrypto) (prvwal : HDWallet) (prvidx last keycnt k sub : Nat) (pre : Bytes)
    (ks : List (Bytes × Bytes)) (h : type4Subs C prvwal prvidx last keycnt (k + 1) sub pre = .ok ks) :
    ∃ acct ks0 rest, child C prvwal ((prvidx + sub) % 2 ^ 32) = .ok acct ∧
      type4Pass C acct last (subLabel pre prvidx sub) keycnt 0 = .ok ks0 ∧
      type4Subs C prvwal prvidx last keycnt k (sub + 1) (subLabel pre prvidx sub) = .ok rest ∧
      ks = ks0 ++ rest := by
  rw [type4Subs] at h
  split at h
  · cases h
  rename_i acct hc
  dsimp only at h
  split at h
  · cases h
  rename_i ks0 hp
  split at h
  · cases h
  rename_i rest hr
  exact ⟨acct, ks0, rest, hc, hp, hr, (Except.ok.inj h).symm⟩

/-- non-vacuity of the hypothesis (k + 1 = 1: ONE further sub-account, one key in it): sub-account 1 of the toy parent
    is derived and listed -/
example : ∃ ks, type4Subs toyC toyPriv 0 0 1 (0 + 1) 1 [] = .ok ks := ok_of_isSome _ toy_subs

/-! ### round trips -/

/-- `StringWallet(w.Serialize())` at the byte level: for every well-formed extended key (known version
    bytes, depth < 256, 4-byte fingerprint, index < 2³², 32-byte chain code, 33-byte key that — for public
    versions — is a curve point) parsing the 82 serialized bytes returns exactly `w`. Needs only that the
    hash returns 32 bytes. -/
theorem serialize_roundtrip_bytes (C : WalletCrypto) (w : HDWallet) (hw : SerWF w)
    (hlen : ∀ b, (C.shaHash b).length = 32) : parseBytes C (serialize C w) = .ok w :=
  parseBytes_serialize C w hw hlen

/-- `StringWallet(w.String()) = w` for every well-formed extended key (Base58 layer included: the
    Base58 round trip is C15's theorem `Base58.decode_encode`, imported, not assumed). -/
theorem serialize_roundtrip (C : WalletCrypto) (w : HDWallet) (hw : SerWF w)
    (hlen : ∀ b, (C.shaHash b).length = 32) :
    stringWallet C (HD.toString C w) = .ok w :=
  stringWallet_toString C w hw hlen

/-- non-vacuity of `SerWF`: the private key with scalar 1 -/
example : SerWF { chCode := List.replicate 32 0, key := 0 :: Spec.Bip32.ser256 1, pfx := Gen.HDConsts.pfxPrivate,
                  idx := 0, checksum := [0, 0, 0, 0], depth := 0 } := by
  refine ⟨Or.inl (by decide), by decide, rfl, by decide, rfl, rfl, ?_⟩
  intro h; exact absurd h (by decide)

/-- WIF round trip: for a 32-byte key, any version byte, compressed or not: if `NewPrivateAddr` yields `pa`
    and `pa.String()` yields `s` then `DecodePrivateAddr(s)` yields exactly `pa` (same key, version, public
    key, hash). Base58 layer included (C15's `Base58.decode_encode`). -/
theorem wif_roundtrip (C : WalletCrypto) (key : Bytes) (ver : UInt8) (compr : Bool) (pa : PrivAddr) (s : Bytes)
    (hk : key.length = 32) (hlen : ∀ b, (C.shaHash b).length = 32)
    (hnew : newPrivateAddr C key ver compr = .ok pa) (hs : privAddrString C pa = .ok s) :
    decodePrivateAddr C s = .ok (.ok pa) := by
  rw [AddrWif.privAddrString_factors C key ver compr pa hnew] at hs
  obtain rfl := Except.ok.inj hs
  rw [AddrWif.decodePrivateAddr_factors, AddrWif.decode_encode C hlen ver key compr hk]
  simp only [hnew]

/-- non-vacuity: key 00…01 has a public key, so `NewPrivateAddr` succeeds -/
example : (publicFromPrivate (Spec.Bip32.ser256 1) true).isSome = true := by
  decide +kernel

/-- WIF IMPORT direction (rests on `DecodePrivateAddr` refusing a 38-byte payload with a flag byte other than 01 —
    finding `wif-flag-byte-unchecked`, fixed; taken as the uncompressed record its `String()` would be a
    different string): for EVERY string, if `DecodePrivateAddr(s)` yields the record `pa`, then `pa.String()`
    is exactly `s` and the key has 32 bytes. With `wif_roundtrip`: a string is importable as `pa` iff it is the
    export of `pa`. -/
theorem wif_import_is_export (C : WalletCrypto) (s : Bytes) (pa : PrivAddr)
    (h : decodePrivateAddr C s = .ok (.ok pa)) : privAddrString C pa = .ok s ∧ pa.key.length = 32 := by
  rw [AddrWif.decodePrivateAddr_factors] at h
  cases hd : AddrWif.decode C s with
  | error e => simp [hd] at h
  | ok t =>
    obtain ⟨v, k, c⟩ := t
    simp only [hd, Except.ok.injEq] at h
    have he := AddrWif.encode_decode C s v k c hd
    have hs := AddrWif.privAddrString_factors C k v c pa h
    have hkey : pa.key = k := by
      unfold newPrivateAddr at h
      split at h <;> cases h
      rfl
    exact ⟨by rw [hs, he.1], by rw [hkey]; exact he.2⟩

/-- hence two strings that import to the same key record (key, version, public key form, hash) are the same
    string: a key has exactly one importable spelling per compression choice and version byte. -/
theorem wif_import_unique (C : WalletCrypto) (s s' : Bytes) (pa : PrivAddr)
    (h : decodePrivateAddr C s = .ok (.ok pa)) (h' : decodePrivateAddr C s' = .ok (.ok pa)) : s = s' := by
  have a := (wif_import_is_export C s pa h).1
  have b := (wif_import_is_export C s' pa h').1
  rw [a] at b
  exact Except.ok.inj b

/-- non-vacuity of the two theorems above: by `wif_roundtrip` every exported string of a key with a public key
    (e.g. 00…01, example above) is accepted with a record. -/
example (C : WalletCrypto) (hlen : ∀ b, (C.shaHash b).length = 32) :
    ∃ s pa, decodePrivateAddr C s = .ok (.ok pa) := by
  have hp : (publicFromPrivate (Spec.Bip32.ser256 1) true).isSome = true := by decide +kernel
  obtain ⟨pb, hpb⟩ := Option.isSome_iff_exists.mp hp
  have hnew : newPrivateAddr C (Spec.Bip32.ser256 1) 0x80 true =
      .ok { key := Spec.Bip32.ser256 1, version := 0x80, addrVersion := 0x80 - 0x80, pubkey := pb, h160 := C.hash160 pb } := by
    simp [newPrivateAddr, hpb]
  exact ⟨_, _, wif_roundtrip C _ 0x80 true _ _ (by decide) hlen hnew (AddrWif.privAddrString_factors C _ _ _ _ hnew)⟩

/-! ### address ↔ signing key, determinism -/

/-- Every key record the wallet lists is internally consistent: the public key is the public key of the
    private key, the hash is its HASH160, the P2KH address is the Base58Check of (ver_pubkey, hash), the
    WIF is the encoding of that private key under ver_secret, and the address printed by `-l` is — per
    address type — the P2KH address, the P2SH-P2WPKH address of the hash, the P2WPKH program of the hash,
    or the P2TR program holding the x-only public key. -/
theorem address_is_listed_key (C : WalletCrypto) (c : Config) (kl : Bytes × Bytes) (r : KeyRec)
    (h : mkKeyRec C c kl = .ok r) :
    r.priv = kl.1 ∧ publicFromPrivate r.priv true = some r.pubkey ∧ r.h160 = C.hash160 r.pubkey ∧
    r.p2kh = addrStr C (some (.b58 (verPubkey c) r.h160 none)) ∧
    privAddrString C { key := r.priv, version := verSecret c, addrVersion := verPubkey c, pubkey := r.pubkey, h160 := r.h160 } = .ok r.wif ∧
    (c.atype = .p2kh → r.listed = r.p2kh) ∧
    (c.atype = .segwit → r.listed = addrStr C (some (.b58 (verScript c) (C.hash160 ([0, 20] ++ r.h160)) none))) ∧
    (c.atype = .bech32 → r.listed = addrStr C (Addr.fromPkScript C.hashes ([0, 20] ++ r.h160) c.testnet)) ∧
    (c.atype = .tap → r.listed = addrStr C (Addr.fromPkScript C.hashes ([0x51, 32] ++ r.pubkey.drop 1) c.testnet)) := by
  unfold mkKeyRec newPrivateAddr at h
  cases hpub : publicFromPrivate kl.1 true with
  | none => simp [hpub] at h
  | some pb =>
    have hv : verSecret c - 0x80 = verPubkey c := by
      unfold verSecret
      exact UInt8.add_sub_cancel _ 128
    simp only [hpub] at h
    split at h
    · simp at h
    · rename_i wif hwif
      simp only [Except.ok.injEq] at h
      subst h
      simp only [hv] at hwif
      refine ⟨rfl, hpub, rfl, ?_, hwif, ?_, ?_, ?_, ?_⟩
      · simp only [hv]
      all_goals (intro ha; simp [ha, segwitMode, bech32Mode, hv])

/-- non-vacuity: with the toy hash functions the record of the key 00…01 is made (segwit mode) -/
example : ∃ r, mkKeyRec toyC toyCfg (Spec.Bip32.ser256 1, []) = .ok r := ok_of_isSome _ toy_keyrec

/-- The signer's lookup (`hash_to_key_idx`) for the hash of listed key i always finds a key: the FIRST
    index j ≤ i whose P2KH hash or segwit-slot hash equals that hash. (j = i unless two listed keys share a
    20-byte hash — stated honestly: the code returns the first match.) -/
theorem address_is_signing_key (C : WalletCrypto) (c : Config) (keys : List KeyRec) (i : Nat) (hi : i < keys.length) :
    ∃ j, ∃ hj : j < keys.length, j ≤ i ∧ hashToKeyIdx C c keys keys[i].h160 = some j ∧
      (keys[j].h160 = keys[i].h160 ∨ segwitH160 C c keys[j] = keys[i].h160) :=
  hashToKeyIdx_of_match C c keys _ i hi (Or.inl rfl)

/-- The same for the P2SH-P2WPKH form (atype = segwit): `-dump <address>` / the signer look the key up by the
    script hash HASH160(0014‖h160) that the listed address of key i carries (`segwitH160`); `hash_to_key_idx`
    finds the first key j ≤ i that answers to that hash — as its P2SH hash or as its P2KH hash. -/
theorem address_is_signing_key_p2sh (C : WalletCrypto) (c : Config) (keys : List KeyRec) (i : Nat) (hi : i < keys.length) :
    ∃ j, ∃ hj : j < keys.length, j ≤ i ∧ hashToKeyIdx C c keys (segwitH160 C c keys[i]) = some j ∧
      (keys[j].h160 = segwitH160 C c keys[i] ∨ segwitH160 C c keys[j] = segwitH160 C c keys[i]) :=
  hashToKeyIdx_of_match C c keys _ i hi (Or.inr rfl)

/-- … and for the taproot form (atype = tap): the 32-byte program of the listed address of key i is its x-only
    public key (`address_is_listed_key`); `public_xo_to_key_idx` finds the first key j ≤ i with that x-only key. -/
theorem address_is_signing_key_tap (keys : List KeyRec) (i : Nat) (hi : i < keys.length) :
    ∃ j, ∃ hj : j < keys.length, j ≤ i ∧
      publicXoToKeyIdx keys ((keys[i].pubkey.drop 1).take 32) = some j ∧
      (keys[j].pubkey.drop 1).take 32 = (keys[i].pubkey.drop 1).take 32 := by
  obtain ⟨j, hj, hle, e, hp⟩ :=
    firstIdx_spec (fun k => (k.pubkey.drop 1).take 32 == (keys[i].pubkey.drop 1).take 32) keys i hi (by simp)
  exact ⟨j, hj, hle, e, by simpa using hp⟩

/-- The dispatch of `address_to_key` on the parsed address, so that the three lookup theorems cover every form the
    wallet lists: a Base58 address (P2KH, P2SH) is looked up by its 20-byte hash, a witness program of 20 bytes by
    that program (the key hash), one of 32 bytes as an x-only key; any other program length ends the run. -/
theorem address_lookup_dispatch (C : WalletCrypto) (c : Config) (keys : List KeyRec) (addr : Bytes) :
    (∀ v h ck, Addr.fromString C.hashes addr = .ok (.b58 v h ck) →
      addressToKeyIdx C c keys addr = some (hashToKeyIdx C c keys h)) ∧
    (∀ hrp v prog, Addr.fromString C.hashes addr = .ok (.segwit hrp v prog) → prog.length = 20 →
      addressToKeyIdx C c keys addr = some (hashToKeyIdx C c keys prog)) ∧
    (∀ hrp v prog, Addr.fromString C.hashes addr = .ok (.segwit hrp v prog) → prog.length = 32 →
      addressToKeyIdx C c keys addr = some (publicXoToKeyIdx keys prog)) := by
  refine ⟨fun v h ck e => ?_, fun hrp v prog e hl => ?_, fun hrp v prog e hl => ?_⟩
  · simp [addressToKeyIdx, e]
  · simp [addressToKeyIdx, e, hl]
  · simp [addressToKeyIdx, e, hl]

/-- What `sign_tx` / `pkscr_to_key_idx` find for the output scripts of LISTED key i (/repo ebf80672:
    each template against its own hash only). With 20-byte hashes: the P2PKH script `76 a9 14 h 88 ac` and the P2WPKH
    script `00 14 h` of its public-key hash find the first record j ≤ i with that public-key hash; the P2SH script
    `a9 14 H 87` of H = HASH160(00 14 h) finds — outside bech32/tap mode — the first j ≤ i whose own P2SH-P2WPKH hash
    is H, and NOTHING for any hash in bech32/tap mode (there segwit[] holds witness-program addresses); the P2TR script
    `51 20 x` finds the first j ≤ i with that x-only key. -/
theorem script_lookup_own_forms (C : WalletCrypto) (c : Config) (keys : List KeyRec) (i : Nat) (hi : i < keys.length)
    (hh : keys[i].h160.length = 20) (hp : keys[i].pubkey.length = 33) (hl : ∀ b, (C.hash160 b).length = 20) :
    (∃ j, ∃ hj : j < keys.length, j ≤ i ∧
      Store.scriptToKeyIdx C c keys (Store.p2pkhScr keys[i].h160) = some j ∧ keys[j].h160 = keys[i].h160) ∧
    (∃ j, ∃ hj : j < keys.length, j ≤ i ∧
      Store.scriptToKeyIdx C c keys (Store.p2wpkhScr keys[i].h160) = some j ∧ keys[j].h160 = keys[i].h160) ∧
    (bech32Mode c.atype = false → ∃ j, ∃ hj : j < keys.length, j ≤ i ∧
      Store.scriptToKeyIdx C c keys (Store.p2shScr (C.hash160 ([0, 20] ++ keys[i].h160))) = some j ∧
      C.hash160 ([0, 20] ++ keys[j].h160) = C.hash160 ([0, 20] ++ keys[i].h160)) ∧
    (bech32Mode c.atype = true → ∀ h : Bytes, h.length = 20 → Store.scriptToKeyIdx C c keys (Store.p2shScr h) = none) ∧
    (∃ j, ∃ hj : j < keys.length, j ≤ i ∧
      Store.scriptToKeyIdx C c keys (Store.p2trScr ((keys[i].pubkey.drop 1).take 32)) = some j ∧
      (keys[j].pubkey.drop 1).take 32 = (keys[i].pubkey.drop 1).take 32) := by
  refine ⟨?_, ?_, fun hm => ?_, fun hm h hlen => ?_, ?_⟩
  · rw [Store.scriptToKeyIdx_p2pkh C c keys _ hh]; exact pubhashToKeyIdx_spec keys i hi
  · rw [Store.scriptToKeyIdx_p2wpkh C c keys _ hh]; exact pubhashToKeyIdx_spec keys i hi
  · rw [Store.scriptToKeyIdx_p2sh C c keys _ (hl _)]; exact scripthashToKeyIdx_spec C c keys i hi hm
  · rw [Store.scriptToKeyIdx_p2sh C c keys _ hlen]; exact scripthashToKeyIdx_bech32 C c keys h hm
  · rw [Store.scriptToKeyIdx_p2tr C c keys _ (by simp [hp])]; exact address_is_signing_key_tap keys i hi

/-- … and ONLY those (the statement of /repo fix ebf80672): whenever the script lookup attributes a script to record j,
    that script IS one of record j's own four output scripts — its P2PKH or P2WPKH script, outside bech32/tap mode its
    P2SH-P2WPKH script, or its P2TR script. A script that merely carries one of the wallet's hashes under another
    template (`a9 14 HASH160(pubkey) 87`, `00 14 <P2SH hash>`, 20 zero bytes in bech32 mode, `a9 <not 14> … 87`) is
    nobody's: the input stays unsigned and `-send` does not select it. For every hash-function instance. -/
theorem script_lookup_foreign_forms (C : WalletCrypto) (c : Config) (keys : List KeyRec) (scr : Bytes) (j : Nat)
    (e : Store.scriptToKeyIdx C c keys scr = some j) :
    ∃ hj : j < keys.length,
      scr = Store.p2pkhScr keys[j].h160 ∨ scr = Store.p2wpkhScr keys[j].h160 ∨
      (bech32Mode c.atype = false ∧ scr = Store.p2shScr (C.hash160 ([0, 20] ++ keys[j].h160))) ∨
      scr = Store.p2trScr ((keys[j].pubkey.drop 1).take 32) :=
  Store.scriptToKeyIdx_only_own C c keys scr j e

/-- non-vacuity of both (toy hashes: HASH160 b = 20 × first byte of b + 1): one record with 20-byte hash and 33-byte
    public key; its four own scripts find it (segwit mode), and the witnesses of ebf80672 — the key hash under the P2SH
    template, the P2SH hash under the P2WPKH and P2PKH templates, 20 zero bytes under all three in bech32 mode, a P2SH
    script without the 0x14 push — find nobody. -/
example :
    let C : WalletCrypto := { sha256 := id, shaHash := id, hash160 := (fun b => List.replicate 20 (b.headD 0 + 1)), hmac512 := fun _ b => b, pbkdf2 := fun _ b => b, scrypt := fun _ _ => none }
    let c (a : AType) : Config := { waltype := 3, hdpath := [], bip39wrds := 0, usescrypt := 0, hdsubs := 1, keycnt := 1, testnet := false, litecoin := false, atype := a, secretSeed := [] }
    let k : KeyRec := { priv := [7], pubkey := 2 :: List.replicate 32 9, h160 := List.replicate 20 5, wif := [], p2kh := [], listed := [], label := [], listLabel := [] }
    let sh : Bytes := C.hash160 ([0, 20] ++ k.h160)
    k.h160.length = 20 ∧ k.pubkey.length = 33 ∧ sh ≠ k.h160 ∧
    [Store.p2pkhScr k.h160, Store.p2wpkhScr k.h160, Store.p2shScr sh, Store.p2trScr (List.replicate 32 9)].map
        (Store.scriptToKeyIdx C (c .segwit) [k]) = [some 0, some 0, some 0, some 0] ∧
    [Store.p2shScr k.h160, Store.p2wpkhScr sh, Store.p2pkhScr sh, [0xa9, 0x15] ++ sh ++ [0x87]].map
        (Store.scriptToKeyIdx C (c .segwit) [k]) = [none, none, none, none] ∧
    [Store.p2shScr (List.replicate 20 0), Store.p2wpkhScr (List.replicate 20 0), Store.p2pkhScr (List.replicate 20 0),
     Store.p2shScr sh].map (Store.scriptToKeyIdx C (c .bech32) [k]) = [none, none, none, none] := by decide

/-! ### the key store over one invocation: "the private key the wallet LATER signs with"

`keys []*btc.PrivateAddr` lives as long as the process; `main()` strings several operations together in one run
(`-sign A -msg M -send …`: make_wallet, sign_message, make_wallet AGAIN — which appends a second copy of every record
behind the first —, then sign_tx), and every lookup returns a pointer into that list. Model/WalletKeysStore.lean. -/

/-- The facts about the CURRENT source the store model rests on, regenerated by gen_c14 (store.go) on every run:
    no function from which the process goes on holds (or reaches) a write to the key bytes of a stored record — the one
    writer, cleanExit, ends the process on every path (os.Exit last, no return statement) —; `keys` is only ever assigned
    by `keys = append(keys, rec)` in load_others and make_wallet; the index lookups return the first match;
    pkscr_to_key_idx dispatches the four templates — byte for byte the conditions of `Store.scriptToKeyIdx` — to
    pubhash / scripthash / pubhash / x-only lookups, and sign_tx calls those lookups and NOT hash_to_key_idx.
    What the extractor counts as a write is CONSERVATIVE but syntactic (see go/cmd/gen_c14/store.go): assignments,
    `*R = …`, `append(key, …)`, known writers in their written position, and key bytes or a record handed to ANY callee
    that is neither an allow-listed reader nor an analysable function of package wallet (closures, function literals,
    unknown library calls, helpers returning the bytes, composite literals, a buffer shared between loop iterations).
    It does NOT see: a write made inside an allow-listed reader or another package after an edit there, reflection /
    unsafe, key bytes passed on through channels, maps, package variables or fields of non-record structs, goroutines,
    and it does not pin the CONDITIONS inside the lookups (which hash a lookup compares) — for all of these the
    sessions of the harness (real binary, signatures judged by an independent verifier) are the only guard. -/
theorem key_store_source_facts :
    Gen.WalletKeyStoreFacts.keyWritersLive = [] ∧
    (∀ f ∈ Gen.WalletKeyStoreFacts.keyWritersDirect, f ∈ Gen.WalletKeyStoreFacts.processEnders) ∧
    (∀ f ∈ Gen.WalletKeyStoreFacts.keysAssigners, f ∈ ["load_others", "make_wallet"]) ∧
    Gen.WalletKeyStoreFacts.keysAssignsAreAppends = true ∧
    Gen.WalletKeyStoreFacts.lookupsReturnFirstMatch = true ∧
    Gen.WalletKeyStoreFacts.pkscrDispatch =
      ["len(scr)=25 scr[0]=118 scr[1]=169 scr[2]=20 scr[23]=136 scr[24]=172 -> pubhash_to_key_idx scr[3:23]",
       "len(scr)=23 scr[0]=169 scr[1]=20 scr[22]=135 -> scripthash_to_key_idx scr[2:22]",
       "len(scr)=22 scr[0]=0 scr[1]=20 -> pubhash_to_key_idx scr[2:]",
       "len(scr)=34 scr[0]=81 scr[1]=32 -> public_xo_to_key_idx scr[2:]"] ∧
    Gen.WalletKeyStoreFacts.signTxLookups =
      ["pubhash_to_key_idx", "public_to_key", "public_xo_to_key_idx", "scripthash_to_key_idx"] := by decide +kernel

/-- Every operation of a session signs / exports with the key of the listed address, whatever came before it in the
    same process: for ANY sequence of operations after the first make_wallet (further make_wallet calls, message
    signatures, transaction signatures, dumps, in any order and number), the records each operation uses — index and
    CURRENT key bytes — are exactly those the same operation finds in a list derived once and never touched
    (`pureUse`: `address_to_key` for messages and dumps — `address_is_signing_key*` —, the per-template script lookup
    of sign_tx for transaction inputs — `script_lookup_own_forms` / `script_lookup_foreign_forms` — on the fresh list),
    provided no function the session is made of writes a stored key (`Quiet wipers`: then `clobber` is the identity, so
    ALL the content about "nobody writes a stored key" sits in the generated constant `keyWritersLive = []`, see
    `key_store_source_facts` for what that extractor sees and does not see). The second make_wallet's copies never
    answer a lookup. `fresh` is the same for every make_wallet of the run: true for a password taken from the seed
    file; a TYPED password is asked for again by the second make_wallet and may differ — not modelled. -/
theorem session_signs_with_listed_key (wipers : List String) (hq : Store.Quiet wipers)
    (C : WalletCrypto) (c : Config) (fresh : List KeyRec) (junk : Bytes) (ops : List Store.Op) :
    (Store.run wipers C c fresh junk [] (.makeWallet :: ops)).2 = [] :: ops.map (Store.pureUse C c fresh) :=
  congrArg Prod.snd (Store.run_session wipers hq C c fresh junk ops)

/-- … and this holds of the current source: the generated list of live key writers is quiet. -/
theorem session_signs_with_listed_key_now (C : WalletCrypto) (c : Config) (fresh : List KeyRec) (junk : Bytes)
    (ops : List Store.Op) :
    (Store.run Gen.WalletKeyStoreFacts.keyWritersLive C c fresh junk [] (.makeWallet :: ops)).2 =
      [] :: ops.map (Store.pureUse C c fresh) :=
  session_signs_with_listed_key _ (by unfold Store.Quiet; decide) C c fresh junk ops

/-- What the list looks like at any point of a quiet session: the fresh records repeated once per make_wallet call —
    so `-l` inside a combined run prints the list that many times (observed on the real binary), and the keys in it are
    the derived ones. -/
theorem session_store_is_repeated_list (wipers : List String) (hq : Store.Quiet wipers)
    (C : WalletCrypto) (c : Config) (fresh : List KeyRec) (junk : Bytes) (ops : List Store.Op) :
    (Store.run wipers C c fresh junk [] (.makeWallet :: ops)).1 =
      (List.replicate (ops.count .makeWallet + 1) fresh).flatten :=
  congrArg Prod.fst (Store.run_session wipers hq C c fresh junk ops)

/-- The hypothesis is not decoration — the store model is sensitive to a writer among the session's functions: if
    sign_tx wipes the record it signed with, then in `make_wallet; sign_tx [script of A]; make_wallet; sign_tx [script
    of A]` the second transaction is signed with the junk, not with the key of A (first-match lookup still returns the
    first record). -/
example :
    let C : WalletCrypto := { sha256 := id, shaHash := id, hash160 := id, hmac512 := fun _ b => b, pbkdf2 := fun _ b => b, scrypt := fun _ _ => none }
    let c : Config := { waltype := 3, hdpath := [], bip39wrds := 0, usescrypt := 0, hdsubs := 1, keycnt := 1,
                        testnet := false, litecoin := false, atype := .bech32, secretSeed := [] }
    let k : KeyRec := { priv := [7], pubkey := [2, 9], h160 := List.replicate 20 5, wif := [], p2kh := [], listed := [], label := [], listLabel := [] }
    let scr : Bytes := [0x00, 0x14] ++ List.replicate 20 5
    (Store.run [] C c [k] [0xee] [] [.makeWallet, .signTx [scr], .makeWallet, .signTx [scr]]).2
        = [[], [some (0, [7])], [], [some (0, [7])]] ∧
    (Store.run ["sign_tx"] C c [k] [0xee] [] [.makeWallet, .signTx [scr], .makeWallet, .signTx [scr]]).2
        = [[], [some (0, [7])], [], [some (0, [0xee])]] := by decide


/-- Determinism. That equal inputs give equal wallets is true BY CONSTRUCTION of a model that is a function
    (that half is congruence and carries no content beyond "nothing else — time, randomness, environment — is an
    input of the model"; the evidence that the real binary behaves so is the harness running it twice). The part
    with content: scrypt, the one function the model treats as an opaque external oracle, is consulted at ONE
    point only — (the password `getpass` returned, usescrypt), and not at all when usescrypt = 0 or bip39 = −1 or
    the configuration is refused earlier. Two runs with equal configuration and seed file and ANY two scrypt oracles
    that agree on that single point produce the same result (same error or same mnemonic, extended keys and key
    records in the same order). The hash functions `C` are shared. `makeWallet C c f = makeWalletS C C.scrypt c
    (getpass c f)` by definition. -/
theorem deterministic (C : WalletCrypto) (sc1 sc2 : Bytes → Nat → Option Bytes) (c1 c2 : Config) (f1 f2 : Bytes)
    (hc : c1 = c2) (hf : f1 = f2)
    (hsc : ∀ p, getpass c1 f1 = some p → c1.usescrypt ≠ 0 → c1.bip39wrds ≠ -1 →
      sc1 p c1.usescrypt = sc2 p c1.usescrypt) :
    makeWalletS C sc1 c1 (getpass c1 f1) = makeWalletS C sc2 c2 (getpass c2 f2) := by
  subst hc hf
  unfold makeWalletS
  cases hpre : makeWalletPre c1 (getpass c1 f1) with
  | error e => rfl
  | ok pp =>
    obtain ⟨path, p0⟩ := pp
    have hgp := makeWalletPre_pass c1 _ path p0 hpre
    have hstep : scryptStep sc1 c1 p0 = scryptStep sc2 c1 p0 := by
      unfold scryptStep
      by_cases hu : c1.usescrypt ≠ 0
      · by_cases hb : c1.bip39wrds = -1
        · simp [hu, hb]
        · rw [if_pos hu, if_pos hu, if_neg hb, if_neg hb, hsc p0 hgp hu hb]
      · rw [if_neg hu, if_neg hu]
    simp only [bind, Except.bind, hstep]

/-- the link to the executed definition: `makeWallet` IS `makeWalletS` with the structure's own scrypt field -/
example (C : WalletCrypto) (c : Config) (f : Bytes) : makeWallet C c f = makeWalletS C C.scrypt c (getpass c f) := rfl

/-- The password enters only through `getpass`: the `seed=` prefix followed by the first 1024 bytes of the
    seed file. -/
theorem getpass_spec (c : Config) (file : Bytes) (h : file ≠ []) :
    getpass c file = some (c.secretSeed ++ file.take 1024) := by
  unfold getpass
  simp [h]

/-- The interactive branch of `getpass`, stated outright as an IFF: a typed session succeeds with password
    `out` and saved bytes `sv` if and only if what was typed (one terminal read, trailing control bytes dropped)
    is not empty, was — in generation mode without `-1` — typed identically twice, `out` is the `seed=` prefix
    followed by what was typed, and `sv` (the bytes saved to the seed file: generation mode, no `-p`, answer "y")
    is what was typed WITHOUT the prefix. -/
theorem getpass_typed_spec (c : Config) (t : Typed) (out : Bytes) (sv : Option Bytes) :
    getpassTyped c t = .ok (out, sv) ↔
    (readPassword t.first ≠ [] ∧ out = c.secretSeed ++ readPassword t.first ∧
     (t.genMode = true → t.singleAsk = false → readPassword t.second = readPassword t.first) ∧
     sv = (if t.genMode ∧ !t.ask4pass ∧ t.save then some (readPassword t.first) else none)) := by
  constructor
  · exact getpassTyped_ok c t out sv
  · rintro ⟨hne, rfl, hsame, rfl⟩
    rw [getpassTyped_eq, if_neg hne, if_neg fun h => h.2.2 (hsame h.1 h.2.1)]

/-- the refusals of a typed session, exactly: nothing typed ⇒ "empty"; otherwise generation mode without `-1` and a
    different second entry ⇒ "mismatch" -/
theorem getpass_typed_refusals (c : Config) (t : Typed) :
    (readPassword t.first = [] → getpassTyped c t = .error .empty) ∧
    (readPassword t.first ≠ [] → t.genMode = true → t.singleAsk = false →
      readPassword t.second ≠ readPassword t.first → getpassTyped c t = .error .mismatch) :=
  ⟨fun h => by rw [getpassTyped_eq, if_pos h],
    fun hne hg hs hd => by rw [getpassTyped_eq, if_neg hne, if_pos ⟨hg, hs, hd⟩]⟩

/-- "The same seed password and configuration produce the same ordered list of keys on every run", across the
    save-the-password path: if a typed session saved the file `f`, then the NEXT run (which finds `f` and goes
    through the seed-file branch, prepending the `seed=` prefix again) gets exactly the password of the typed
    run, and `make_wallet` yields exactly the same wallet (mnemonic, extended keys, every key record, in
    order) — for every configuration, prefix and hash-function instance. -/
theorem saved_password_same_wallet (C : WalletCrypto) (c : Config) (t : Typed) (out f : Bytes)
    (h : getpassTyped c t = .ok (out, some f)) :
    getpass c f = some out ∧ makeWallet C c f = makeWalletTyped C c t :=
  ⟨getpass_of_saved c t out f h, by unfold makeWallet makeWalletTyped; rw [getpass_of_saved c t out f h, h]⟩

/-- non-vacuity: "pw\n" typed twice under `-l`, answer y, with a `seed=` prefix: saved file = "pw" -/
example :
    let c : Config := { waltype := 4, hdpath := [], bip39wrds := 0, usescrypt := 0, hdsubs := 1, keycnt := 1,
                        testnet := false, litecoin := false, atype := .p2kh, secretSeed := [0x53] }
    let t : Typed := { first := [0x70, 0x77, 10], second := [0x70, 0x77, 13, 10], singleAsk := false,
                       genMode := true, ask4pass := false, save := true }
    getpassTyped c t = .ok ([0x53, 0x70, 0x77], some [0x70, 0x77]) := by decide

/-- What two key generations inside ONE process share, as facts re-read from wallet/*.go on every run
    (go/cmd/gen_c14/inputs.go). The session theorems above take ONE list `fresh` for every make_wallet of a run, and the
    address theorems pair every record with ITS OWN segwit form; both rest on conventions of the Go code that are not
    logic of the model: (1) the configured `seed=` prefix is only ever declared, assigned as a whole, measured with
    len(), copied FROM, or compared with nil - so no buffer that make_wallet wipes after hashing (getpass's result) can
    share memory with it, and the second generation of a `-sign .. -send ..` run starts from the same prefix bytes as
    the first; (2) the list `segwit` is `make(.., len(keys))`, never appended to, and filled only at the index of a
    range over `keys` - slot i belongs to keys[i], a key without a segwit address (uncompressed import from .others)
    leaves ITS slot nil instead of shifting its neighbours. Syntactic and conservative: a rewrite into another shape
    flips a fact without a failing input; the harness families `seed-prefix` sessions and `.others` wallets look for the
    concrete input. -/
theorem generation_inputs_source_facts :
    Gen.WalletInputFacts.seedPrefixOtherUses = [] ∧ Gen.WalletInputFacts.segwitParallelToKeys = true := by decide

end GocoinV.Props.C14
