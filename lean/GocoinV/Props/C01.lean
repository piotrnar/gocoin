/-
  Props.C01 — property theorems for C01 (script verification accepts exactly what Bitcoin consensus accepts).
  Theorems and the data of their non-vacuity examples; helper lemmas live in GocoinV/Proofs/C01*.lean.
  Every theorem is about the definitions the
  oracle executes and the harness compares with the Go code (Model/Script*.lean) and the reference semantics
  (Spec/Script.lean). `TotalOracles` = every total instance of the cryptography.
-/
import GocoinV.Proofs.C01Decode
import GocoinV.Proofs.C01Num
import GocoinV.Proofs.C01NoPanic
import GocoinV.Proofs.C01Loop
import GocoinV.Proofs.C01Wrap
import GocoinV.Proofs.C01SigRef
import GocoinV.Base.Sha256
namespace GocoinV.Props.C01
open GocoinV GocoinV.Script GocoinV.Proofs.C01

/-! ## (i) interleaved decoding ≡ pre-parsing -/

/-- `btc.GetOpcode` and the spec's `GetScriptOp` fail on exactly the same byte strings (including every
    truncated push), and otherwise agree on opcode, push data and on where the next instruction starts;
    a decoded instruction always consumes between 1 and len(b) bytes (the loops terminate). -/
theorem getOpcode_eq_parse (b : Bytes) :
    match getOpcode b, ScriptSpec.parseOne b with
    | none, none => True
    | some op, some i =>
        i.op = op.opcode ∧ i.data = op.push.getD [] ∧ i.after = b.drop op.n ∧
        (op.push.isSome = decide (op.opcode ≤ 0x4e)) ∧ 1 ≤ op.n ∧ op.n ≤ b.length
    | _, _ => False :=
  getOpcode_parseOne b

/-- `btc.IsPushOnly` (decode while scanning, stop at the first error) is `CScript::IsPushOnly` of the parsed script. -/
theorem isPushOnly_eq_spec (s : Bytes) : isPushOnly s = ScriptSpec.isPushOnly s :=
  isPushOnly_eq s

/-- The OP_SUCCESSx pre-scan of `ExecuteWitnessScript`: an OP_SUCCESS before any decode error wins, a decode
    error before any OP_SUCCESS loses, exactly as scanning the parsed instruction list says (BIP342). -/
theorem opSuccessScan_eq_spec (s : Bytes) :
    opSuccessScan s.length s =
      (match ScriptSpec.scanOpSuccess (ScriptSpec.parse s).1 (ScriptSpec.parse s).2 with
       | some true => ScanRes.opSuccess
       | some false => ScanRes.decodeError
       | none => ScanRes.clean) :=
  opSuccessScan_eq s.length s

/-! ## (ii) script numbers -/

/-- `bts2int`: panics above 4 bytes, otherwise returns CScriptNum's value of the bytes. -/
theorem bts2int_eq_scriptnum (d : Bytes) :
    bts2int d = if d.length > 4 then Res.panic else Res.ok (ScriptSpec.ScriptNum.decode d) := by
  unfold bts2int nMaxNumSize
  rw [numOfBytes_eq_decode]

/-- `bts2int_ext(d, max, forcemin)` = CScriptNum(d, forcemin, max): a panic exactly where Core throws. -/
theorem bts2intExt_eq_scriptnum (d : Bytes) (mx : Nat) (fm : Bool) :
    bts2intExt d mx fm =
      match ScriptSpec.ScriptNum.read d fm mx with
      | Except.ok v => Res.ok v
      | Except.error _ => Res.panic :=
  bts2intExt_eq d mx fm

/-- `is_minimal` is Core's minimal-encoding rule. -/
theorem isMinimal_eq_core (d : Bytes) : isMinimal d = ScriptSpec.ScriptNum.minimal d := isMinimal_eq d

/-- `bts2bool` is Core's `CastToBool` (negative zero is false). -/
theorem bts2bool_eq_castToBool (d : Bytes) : bts2bool d = ScriptSpec.castToBool d := bts2bool_eq d

/-- `pushInt` pushes `CScriptNum::serialize(v)`, for every integer. -/
theorem pushInt_eq_serialize (v : Int) : intBytes v = ScriptSpec.ScriptNum.encode v :=
  intBytes_eq_encode v

/-- `bts2int ∘ pushInt = id`: reading back what `pushInt` pushed gives the number (no length check involved). -/
theorem numOfBytes_pushInt (v : Int) : numOfBytes (intBytes v) = v := by
  rw [numOfBytes_eq_decode, pushInt_eq_serialize v, decode_encode]

/-- Core's round trip, for every integer. -/
theorem scriptnum_decode_encode (v : Int) : ScriptSpec.ScriptNum.decode (ScriptSpec.ScriptNum.encode v) = v := decode_encode v

/-! ## (iii) where a panic can escape -/

/-- `evalScript` never panics: every run-time panic of the interpreter loop (pop on an empty stack, a number
    longer than 4 bytes, unbalanced ELSE/ENDIF, index out of range) is turned into `false` by its `recover()`. -/
theorem no_panic_escapes_eval (O : Oracles) (tx : TxCtx) (flags : Nat) (p : Bytes) (stack : Stack)
    (sv : SigVersion) (ed : ExecData) : evalScript O tx flags p stack sv ed ≠ .panic :=
  NP_evalScript O tx flags p stack sv ed

/-- The only unprotected `stack.pop()` of `VerifyTxScript` (P2SH branch) cannot hit an empty stack: a P2SH
    scriptPubKey evaluated on the empty stack returns false, so verification has already returned. -/
theorem p2sh_pop_never_reached_empty (O : Oracles) (tx : TxCtx) (flags : Nat) (pk : Bytes) (ed : ExecData)
    (h : isPayToScript pk = true) : evalScript O tx flags pk [] .base ed = .fail :=
  p2sh_on_empty_stack_fails O tx flags pk ed h

/-- "Evaluation always terminates with a verdict instead of crashing": for every flag set that satisfies Core's
    flag dependencies, every scriptSig / scriptPubKey / witness / transaction context and EVERY instance of the
    cryptography (even a partial one), `VerifyTxScript` does not panic. (Termination is by construction: every
    loop of the model is structurally recursive on fuel = script length.) -/
theorem verifyTxScript_never_panics (O : Oracles) (tx : TxCtx) (pk : Bytes) (flags : Nat)
    (hf : ScriptSpec.FlagsOk (ScriptSpec.Flags.ofMask flags)) : verifyTxScript O tx pk flags ≠ .panic :=
  NP_verifyTxScript O tx pk flags hf

/-- non-vacuity: the consensus flag set P2SH|DERSIG|NULLDUMMY|CLTV|CSV|WITNESS|TAPROOT is FlagsOk -/
example : ScriptSpec.FlagsOk (ScriptSpec.Flags.ofMask (VER_P2SH ||| VER_DERSIG ||| VER_NULLDUMMY ||| VER_CLTV ||| VER_CSV ||| VER_WITNESS ||| VER_TAPROOT)) := by
  decide

/-- `VerifyWitnessProgram` (and with it ExecuteWitnessScript, CheckSchnorrSignature, VerifyTaprootCommitment)
    never panics, for any witness stack, version, program and flags. -/
theorem verifyWitnessProgram_never_panics (O : Oracles) (tx : TxCtx) (witness : List Bytes) (ver : Nat) (prog : Bytes)
    (flags : Nat) (isP2sh : Bool) : verifyWitnessProgram O tx witness ver prog flags isP2sh ≠ .panic :=
  NP_verifyWitnessProgram O tx witness ver prog flags isP2sh

/-! ## (iv) limits -/

/-- 10000-byte limit: a longer script fails at once under base and witness-v0 rules (not under tapscript). -/
theorem limit_script_size (O : Oracles) (tx : TxCtx) (flags : Nat) (p : Bytes) (stack : Stack) (sv : SigVersion)
    (ed : ExecData) (hsv : sv = .base ∨ sv = .witnessV0) (hlen : p.length > 10000) :
    evalScript O tx flags p stack sv ed = .fail := by
  unfold evalScript MAX_SCRIPT_SIZE
  rcases hsv with h | h <;> simp [h, hlen]

/-- 520-byte limit: an instruction whose push data exceeds 520 bytes fails, executed or not. -/
theorem limit_push_size (c : Ctx) (st : St) (op : Op) (idx pos : Nat) (pv : Bytes)
    (hp : op.push = some pv) (hlen : pv.length > 520) : stepAt c st op idx pos = .fail := by
  unfold stepAt MAX_SCRIPT_ELEMENT_SIZE
  simp [hp, hlen]

/-- 201-operation limit: under base / witness-v0 rules the 202nd counted opcode (> OP_16) fails, executed or not. -/
theorem limit_op_count (c : Ctx) (st : St) (op : Op) (idx pos : Nat)
    (hsv : c.sv = .base ∨ c.sv = .witnessV0) (hop : op.opcode > 0x60) (hcnt : st.opcnt ≥ 201) :
    stepAt c st op idx pos = .fail := by
  refine ite_fail (if_pos ?_)
  rcases hsv with h | h <;> simp [h, hop, MAX_OPS] <;> omega

/-- 1000-element limit: whatever an instruction does, it only succeeds with at most 1000 elements on stack
    plus altstack. -/
theorem limit_stack_size (c : Ctx) (st st' : St) (op : Op) (idx pos : Nat)
    (h : stepAt c st op idx pos = .ok st') : st'.stack.length + st'.alt.length ≤ 1000 := by
  have key : ∀ (X : Res St), (X >>= fun s => if s.stack.length + s.alt.length > 1000 then Res.fail else pure s) = .ok st' →
      st'.stack.length + st'.alt.length ≤ 1000 := by
    intro X hx
    cases X with
    | ok a =>
      simp only [Res.ok_bind] at hx
      split at hx <;> simp at hx
      subst hx; omega
    | _ => simp at hx
  exact key _ (ok_of_ite_fail (ok_of_ite_fail (ok_of_ite_fail (ok_of_ite_fail h))))

/-! ## (v) step / script equivalence between model and reference semantics — EVERY opcode

Side conditions (explicit hypotheses, both about things outside lib/script):
  * `TapSigHashOk T tx` — the taproot signature-hash oracle answers "no digest" (nil, modelled as the empty string)
    exactly where BIP341 defines none (undefined hash type; SIGHASH_SINGLE without a matching output). This is
    property C02's statement about `Tx.TaprootSigHash`; script verification turns "no digest" into "signature
    check fails" (`checkSchnorrSignature` of the model, `CheckSchnorrSignature` of the code).
  * `NopsOk flags` — DISCOURAGE_UPGRADABLE_NOPS only together with CHECKLOCKTIMEVERIFY and CHECKSEQUENCEVERIFY:
    excludes the known policy-only difference `cltv-csv-discouraged-nop` (known_findings.txt). -/

/-- One interpreter iteration, for EVERY opcode (pushes, constants, flow control with the vector ↔ counter condition
    stack, stack and numeric opcodes, hashes, CODESEPARATOR, CLTV/CSV, CHECKSIG(VERIFY/ADD), CHECKMULTISIG(VERIFY),
    reserved / disabled / unknown opcodes): the model's loop body (after `GetOpcode`) and the spec's `execInstr` on the
    corresponding parsed instruction either both fail, or both succeed in related states (same stack, altstack,
    condition stack, op count, script code, codeseparator position, sigop budget). All flag sets subject to `NopsOk`,
    all signature versions, every total instance of the cryptography subject to `TapSigHashOk`. `hidx`/`hwfa` say that
    `idx` is the offset behind the instruction; `hgood`: for the four legacy signature opcodes the script has no
    decode error (with one, `delSig` and `FindAndDelete` differ — and the script fails as a whole, see
    `evalScript_equiv`). No separate non-vacuity `example`: the whole hypothesis bundle (`Rel`, `Side`, `hidx`, `hwfa`,
    `hgood`) is constructed for EVERY script, stack and flag set inside the proof of `evalScript_equiv`
    (`evalScript_agree_all`, Proofs/C01Loop.lean), which has no such hypotheses — so it is satisfiable at every
    reachable state. -/
theorem step_equiv (T : TotalOracles) (c : Ctx) (hO : c.O = T.toOracles) (leaf : Bytes) (annex : Option Bytes)
    (st : St) (s : ScriptSpec.State) (op : Op) (i : ScriptSpec.Instr) (idx pos : Nat)
    (hop : i.op = op.opcode) (hdata : i.data = op.push.getD []) (hR : Rel c leaf annex st s) (hside : Side T c)
    (hidx : c.p.drop idx = i.after)
    (hwfa : c.sv = .base → (ScriptSpec.parse c.p).2 = false → (ScriptSpec.parse i.after).2 = false ∧ i.after.length < 2 ^ 32)
    (hgood : isSigOp i.op = true → c.sv = .base → (ScriptSpec.parse c.p).2 = false) :
    Agree c leaf annex (stepAt c st op idx pos) (ScriptSpec.execInstr (envOf T c leaf annex) s i pos) :=
  stepAt_agree_all T c hO leaf annex st s op i idx pos hop hdata hR hside hidx hwfa hgood

/-- The checks made for EVERY opcode (push size, op count, disabled opcodes, CONST_SCRIPTCODE, pushes incl.
    MINIMALDATA, executed / not executed, final stack-size check) agree between model and spec, whatever the
    opcode-specific parts do. -/
theorem step_frame_equiv (T : TotalOracles) (c : Ctx) (hO : c.O = T.toOracles) (leaf : Bytes) (annex : Option Bytes)
    (st : St) (s : ScriptSpec.State) (op : Op) (i : ScriptSpec.Instr) (idx pos : Nat)
    (hop : i.op = op.opcode) (hdata : i.data = op.push.getD []) (hR : Rel c leaf annex st s)
    (H : op.opcode > 0x4e → ∀ st1 s1, Rel c leaf annex st1 s1 →
        (st1.exe.all id = true ∨ (0x63 ≤ op.opcode ∧ op.opcode ≤ 0x68)) →
        Agree c leaf annex (execOp c st1 op.opcode idx pos (st1.exe.all id))
          (ScriptSpec.execOpcode (envOf T c leaf annex) s1 i (st1.exe.all id) pos)) :
    Agree c leaf annex (stepAt c st op idx pos) (ScriptSpec.execInstr (envOf T c leaf annex) s i pos) :=
  stepAt_frame T c leaf annex st s op i idx pos hop hdata hR H

/-- gocoin's `delSig` = Core's `FindAndDelete(script, CScript() << sig)` (new script code and number of deletions) on
    every script without a decode error shorter than 2^32 bytes. -/
theorem delSig_eq_findAndDelete (code sig : Bytes) (hw : (ScriptSpec.parse code).2 = false) (hL : code.length < 2 ^ 32) :
    delSig code sig = ScriptSpec.findAndDelete code (ScriptSpec.pushEncoding sig) :=
  delSig_eq code sig hw hL

/-- `evalScript` ≡ `EvalScript` on EVERY script (any opcodes, any length, any push forms, decode errors included):
    both return false / an error, or both return true with the SAME final stack. Holds for every signature version,
    initial stack, execution data, every flag set with `NopsOk` and every total crypto instance with `TapSigHashOk`. -/
theorem evalScript_equiv (T : TotalOracles) (tx : TxCtx) (flags : Nat) (p : Bytes) (stack : Stack)
    (sv : SigVersion) (ed : ExecData) (hT : TapSigHashOk T tx) (hq : NopsOk flags) :
    match ScriptSpec.evalScript (envOf T ⟨T.toOracles, tx, flags, sv, p⟩ ed.tapleafHash ed.annexHash) p stack ed.weightLeft with
    | .ok s2 => evalScript T.toOracles tx flags p stack sv ed = .ok s2
    | .error _ => evalScript T.toOracles tx flags p stack sv ed = .fail := by
  rcases (evalScript_agree_all T tx flags p stack sv ed hT hq).elim with ⟨e, hs, hm⟩ | ⟨y, hs, hm⟩ <;> rw [hs] <;> exact hm

/-! ## (vi) the wrappers and the central theorem -/

/-- `ExecuteWitnessScript` (OP_SUCCESSx pre-scan with DISCOURAGE_OP_SUCCESS, 1000-element / 520-byte limits on the
    initial stack, evaluation, exactly-one-true-element rule) returns true exactly where the rules raise no error —
    witness v0 and tapscript, the latter with tapleaf hash, annex hash and validation-weight budget `ed.weightLeft`. -/
theorem executeWitnessScript_equiv (T : TotalOracles) (tx : TxCtx) (stack : Stack) (script : Bytes) (flags : Nat)
    (sv : SigVersion) (ed : ExecData) (hT : TapSigHashOk T tx) (hq : NopsOk flags) :
    match ScriptSpec.executeWitnessScript T.toOracles tx (ScriptSpec.Flags.ofMask flags) {} stack script sv ed.tapleafHash ed.annexHash ed.weightLeft with
    | .ok _ => executeWitnessScript T.toOracles tx stack script flags sv ed = .ok ()
    | .error _ => executeWitnessScript T.toOracles tx stack script flags sv ed = .fail := by
  rcases (executeWitnessScript_agree T tx stack script flags sv ed hT hq).elim with ⟨e, hs, hm⟩ | ⟨y, hs, hm⟩ <;> rw [hs] <;> exact hm

/-- `VerifyWitnessProgram` ≡ the rules: v0 P2WPKH / P2WSH (program lengths, witness-script hash), v1 taproot key path
    (annex, Schnorr check with the "no digest ⇒ fail" rule) and script path (control block sizes 33+32k ≤ 4129,
    tapleaf hash, merkle path in lexicographic order, tweak check with parity, leaf version 0xc0 ⇒ tapscript with the
    validation-weight budget 50 + serialized size of the WHOLE witness — annex, control block and script included —,
    other leaf versions and DISCOURAGE_UPGRADABLE_TAPROOT_VERSION), unknown versions and
    DISCOURAGE_UPGRADABLE_WITNESS_PROGRAM, P2SH-wrapped v1 not being taproot. -/
theorem verifyWitnessProgram_equiv (T : TotalOracles) (tx : TxCtx) (witness : List Bytes) (ver : Nat) (prog : Bytes)
    (flags : Nat) (isP2sh : Bool) (hT : TapSigHashOk T tx) (hq : NopsOk flags) :
    match ScriptSpec.verifyWitnessProgram T.toOracles tx (ScriptSpec.Flags.ofMask flags) {} witness ver prog isP2sh with
    | .ok _ => verifyWitnessProgram T.toOracles tx witness ver prog flags isP2sh = .ok ()
    | .error _ => verifyWitnessProgram T.toOracles tx witness ver prog flags isP2sh = .fail := by
  rcases (verifyWitnessProgram_agree T tx witness ver prog flags isP2sh hT hq).elim with ⟨e, hs, hm⟩ | ⟨y, hs, hm⟩ <;> rw [hs] <;> exact hm

/-- CENTRAL THEOREM (DESIGN.md §6 C01). For every spending input — any scriptSig, scriptPubKey, witness stack and
    transaction context `tx`, every flag set that satisfies Core's flag dependencies (`FlagsOk`) and `NopsOk`, and every
    total instance of the cryptography whose taproot signature hash is defined exactly where BIP341 defines it
    (`TapSigHashOk`) — the verdict of the model of `script.VerifyTxScript` IS the verdict of the Bitcoin script rules
    (`ScriptSpec.verifyScript`: legacy, P2SH, segwit v0, taproot key path and script path, tapscript): it returns true
    where the rules raise no error, false where they raise one, and never panics. -/
theorem script_equiv (T : TotalOracles) (tx : TxCtx) (pk : Bytes) (flags : Nat)
    (hf : ScriptSpec.FlagsOk (ScriptSpec.Flags.ofMask flags)) (hq : NopsOk flags) (hT : TapSigHashOk T tx) :
    verifyTxScript T.toOracles tx pk flags =
      (match ScriptSpec.verifyScript T.toOracles tx pk (ScriptSpec.Flags.ofMask flags) with
       | .ok () => .ok ()
       | .error _ => .fail) := by
  rcases (verifyTxScript_agree T tx pk flags hf hq hT).elim with ⟨e, hs, hm⟩ | ⟨⟨⟩, hs, hm⟩ <;> rw [hs] <;> exact hm

/-- "nothing is accepted that the rules reject" — the soundness direction alone -/
theorem accept_sound (T : TotalOracles) (tx : TxCtx) (pk : Bytes) (flags : Nat)
    (hf : ScriptSpec.FlagsOk (ScriptSpec.Flags.ofMask flags)) (hq : NopsOk flags) (hT : TapSigHashOk T tx)
    (hacc : verifyTxScript T.toOracles tx pk flags = .ok ()) :
    ScriptSpec.verifyScript T.toOracles tx pk (ScriptSpec.Flags.ofMask flags) = .ok () := by
  rcases (verifyTxScript_agree T tx pk flags hf hq hT).elim with ⟨e, _, hm⟩ | ⟨⟨⟩, hs, _⟩
  · cases hacc.symm.trans hm
  · exact hs

/-- non-vacuity: a crypto instance satisfying `TapSigHashOk` exists for every transaction context, and the consensus
    and the standard flag sets satisfy `NopsOk` -/
example (tx : TxCtx) : ∃ T : TotalOracles, TapSigHashOk T tx :=
  ⟨⟨id, id, id, id, id, fun _ _ => [], fun _ _ => [], fun _ _ _ ht _ => if ScriptSpec.tapHashTypeDefined tx ht then [1] else [],
    fun _ _ _ => false, fun _ _ _ => false, fun _ _ _ _ => false⟩,
   by intro a l csp ht scr; simp only; cases ScriptSpec.tapHashTypeDefined tx ht <;> simp⟩
example : NopsOk (VER_P2SH ||| VER_DERSIG ||| VER_NULLDUMMY ||| VER_CLTV ||| VER_CSV ||| VER_WITNESS ||| VER_TAPROOT) := by
  unfold NopsOk; decide
example : NopsOk (VER_P2SH ||| VER_BLOCK_OPS ||| VER_CLTV ||| VER_CSV) := by unfold NopsOk; decide

/-! ## (viii) the signature digests of the reference side -/

/-- CENTRAL THEOREM in the form the correspondence run evaluates it. The run does not hand the reference semantics the
    digests of the tree's own sighash functions: the reference computes the legacy / BIP143 / BIP341 digest of the
    spending transaction `F` from the specification's message (`SigRef.withRefSigHash`, Spec/ScriptSigRef.lean). For
    every crypto instance that answers the digest queries of this input with those digests (`SigHashIsRef` — what the
    run checks of the real functions query by query, and what property C02 proves of their model, see below), the
    verdict of the model of `script.VerifyTxScript` on the instance is the verdict of the rules on the rules' own
    digests: true where they raise no error, false where they raise one, never a panic. -/
theorem script_equiv_ref_digests (T : TotalOracles) (tx : TxCtx) (pk : Bytes) (flags : Nat) (F : SigRef.FullTx)
    (hf : ScriptSpec.FlagsOk (ScriptSpec.Flags.ofMask flags)) (hq : NopsOk flags) (hT : TapSigHashOk T tx)
    (hR : SigHashIsRef T F tx.witness) :
    verifyTxScript T.toOracles tx pk flags =
      (match ScriptSpec.verifyScript (SigRef.withRefSigHash T.toOracles F tx.witness) tx pk (ScriptSpec.Flags.ofMask flags) with
       | .ok () => .ok ()
       | .error _ => .fail) := by
  rw [withRef_eq T F tx.witness hR]
  exact script_equiv T tx pk flags hf hq hT

/-- The hypothesis `TapSigHashOk` of the central theorems is DISCHARGED for the reference digests: if every taproot
    digest the instance returns is the BIP341 reference digest of `F` (for some annex), `F` is the transaction the
    interpreter's context was cut from (same input index, same number of outputs, index in range, one spent output per
    input) and SHA-256 never returns the empty string, then the digest is absent exactly where
    `ScriptSpec.tapHashTypeDefined` says BIP341 defines none (hash type outside {0,1,2,3,0x81,0x82,0x83}, SIGHASH_SINGLE
    without a matching output). -/
theorem tapSigHashOk_of_reference (T : TotalOracles) (tx : TxCtx) (F : SigRef.FullTx) (hc : Consistent F tx)
    (hsha : ∀ b, T.sha256 b ≠ [])
    (h : ∀ a l c ht s, ∃ annex, T.sigHashTap a l c ht s = SigRef.tapDigest T.sha256 F annex l c ht s) :
    TapSigHashOk T tx := by
  intro a l csp ht scr
  obtain ⟨annex, he⟩ := h a l csp ht scr
  exact he ▸ tapDigest_defined T.sha256 hsha F tx hc annex l csp ht scr

/-- an instance with the reference digests of `F` (for the non-vacuity example) -/
def refInstance (T0 : TotalOracles) (F : SigRef.FullTx) (w : List Bytes) : TotalOracles :=
  { T0 with
    sigHashLegacy := fun sc ht => (SigRef.legacyDigest T0.hash256 F sc ht).getD []
    sigHashWitV0 := fun sc ht => (SigRef.witV0Digest T0.hash256 F sc ht).getD []
    sigHashTap := fun _ l c h s => SigRef.tapDigest T0.sha256 F (SigRef.annexOf w) l c h s }

/-- non-vacuity, jointly: for every consistent (F, tx) and hash function without empty outputs there is an instance
    satisfying BOTH `SigHashIsRef` and `TapSigHashOk` (the hypotheses of `script_equiv_ref_digests`) … -/
example (T0 : TotalOracles) (tx : TxCtx) (F : SigRef.FullTx) (hc : Consistent F tx) (hsha : ∀ b, T0.sha256 b ≠ []) :
    SigHashIsRef (refInstance T0 F tx.witness) F tx.witness ∧ TapSigHashOk (refInstance T0 F tx.witness) tx :=
  ⟨⟨fun _ _ _ h => congrArg (·.getD []) h, fun _ _ _ h => congrArg (·.getD []) h, fun _ _ _ _ => rfl⟩,
    tapSigHashOk_of_reference _ tx F hc hsha fun _ _ _ _ _ => ⟨_, rfl⟩⟩
/-- … and a consistent pair exists (two inputs, one output, second input under verification) -/
example : Consistent ⟨Props.C02.exTx, Props.C02.exSpent, 1⟩
    { version := 2, lockTime := 7, sequence := 5, idx := 1, nOuts := 1, sigScript := [], witness := [] } :=
  ⟨rfl, rfl, by decide, rfl⟩

/-- Property C02's model of `Tx.WitnessSigHash` (every cache state reachable on the transaction object) returns the
    BIP143 reference digest — for EVERY 32-bit hash type: NONE / SINGLE are selected by `hashType & 0x1f`, every other
    value hashes all sequences and all outputs. -/
theorem sighash_model_is_reference_witv0 (H : Bytes → Bytes) (F : SigRef.FullTx) (hi : F.idx < F.tx.ins.length)
    (c : SigHash.Cache) (hc : SigHash.Cache.OK H F.tx F.spent c) (sc : Bytes) (ht : Nat) :
    (SigHash.witnessSigHash H F.tx c sc F.amount F.idx ht).1.digest? = SigRef.witV0Digest (fun b => H (H b)) F sc ht :=
  c02_witV0_is_ref H F hi c hc sc ht

/-- Property C02's model of `Tx.SignatureHash` returns the reference digest of the original algorithm wherever that
    algorithm defines one (index in range, script code that decodes). -/
theorem sighash_model_is_reference_legacy (H : Bytes → Bytes) (F : SigRef.FullTx) (sc : Bytes) (ht : Nat) (d : Bytes)
    (h : SigRef.legacyDigest (fun b => H (H b)) F sc ht = some d) :
    (SigHash.signatureHash H F.tx sc F.idx ht).digest? = some d :=
  c02_legacy_is_ref H F sc ht d h

/-- Property C02's model of `Tx.TaprootSigHash` (as fixed: nil where BIP341 defines no message), called with the
    execution data the interpreter passes (annex hash, leaf hash, code separator position; key path or script path),
    returns the BIP341 reference digest, and no digest (`[]`) exactly where the reference has none. -/
theorem sighash_model_is_reference_taproot (H : Bytes → Bytes) (F : SigRef.FullTx)
    (hs : F.spent.length = F.tx.ins.length) (hi : F.idx < F.tx.ins.length) (c : SigHash.Cache)
    (hc : SigHash.Cache.OK H F.tx F.spent c) (annex : Option Bytes) (l : Bytes) (cs ht : Nat) (s : Bool) :
    ((SigHash.taprootSigHash true H F.tx F.spent c
        { annexHash := annex.map (SigRef.annexHash H), tapleafHash := l, codesepPos := cs } F.idx ht s).1.digest?).getD []
      = SigRef.tapDigest H F annex l cs ht s :=
  c02_tap_is_ref H F hs hi c hc annex l cs ht s
/-- non-vacuity: the empty cache is a reachable cache state, and the legacy reference is defined on a concrete input -/
example (H : Bytes → Bytes) (F : SigRef.FullTx) : SigHash.Cache.OK H F.tx F.spent {} := SigHash.Cache.OK_empty H F.tx F.spent
example : ∃ d, SigRef.legacyDigest (fun b => b) ⟨Props.C02.exTx, Props.C02.exSpent, 1⟩ [0x51] 3 = some d := ⟨_, rfl⟩

/-! ## (viii-b) the two properties joined: C02's model of the sighash functions as the crypto instance -/

/-- CENTRAL THEOREM WITH PROPERTY C02's MODEL OF THE TREE'S SIGHASH FUNCTIONS PLUGGED IN — neither `SigHashIsRef` nor
    `TapSigHashOk` is a hypothesis here. Take any hash function without empty outputs, any transaction `F` that is
    the one the interpreter's context `tx` was cut from (`Consistent`), and let the three signature-digest answers be
    what C02's Lean model of `Tx.SignatureHash` / `Tx.WitnessSigHash` / `Tx.TaprootSigHash` returns on `F` (`c02Instance`:
    every query may find the per-transaction hash cache in a different state, as long as each state is one the cache can
    be in — `SigHash.Cache.OK`; nil is the empty string; the double hash is the hash applied twice). Then the model of
    `script.VerifyTxScript` on those answers gives the verdict of the rules on the rules' OWN digests: true where they
    raise no error, false where they raise one, never a panic. What remains outside is exactly the two ties: that
    lib/script behaves as its model (this property's run) and lib/btc's sighash functions as theirs (property C02's run,
    and the per-query comparison `sighash-vs-reference` here). -/
theorem script_equiv_c02_model (T0 : TotalOracles) (tx : TxCtx) (pk : Bytes) (flags : Nat) (F : SigRef.FullTx)
    (cw : Bytes → Nat → SigHash.Cache) (ct : Option Bytes → Bytes → Nat → Nat → Bool → SigHash.Cache)
    (hf : ScriptSpec.FlagsOk (ScriptSpec.Flags.ofMask flags)) (hq : NopsOk flags) (hc : Consistent F tx)
    (hsha : ∀ b, T0.sha256 b ≠ [])
    (hcw : ∀ sc ht, SigHash.Cache.OK T0.sha256 F.tx F.spent (cw sc ht))
    (hct : ∀ a l cs ht s, SigHash.Cache.OK T0.sha256 F.tx F.spent (ct a l cs ht s)) :
    verifyTxScript (c02Instance T0 F cw ct).toOracles tx pk flags =
      (match ScriptSpec.verifyScript (SigRef.withRefSigHash (c02Instance T0 F cw ct).toOracles F tx.witness) tx pk
          (ScriptSpec.Flags.ofMask flags) with
       | .ok () => .ok ()
       | .error _ => .fail) :=
  script_equiv_ref_digests _ tx pk flags F hf hq (c02Instance_tapOk T0 F tx cw ct hc hsha hct)
    (c02Instance_isRef T0 F cw ct tx.witness hc.spent hc.inRange hcw hct)

/-- a hash function without empty outputs (for the non-vacuity examples; the theorems are parametric in the hash) -/
def exT0 : TotalOracles :=
  ⟨fun _ => [0], id, id, id, id, fun _ _ => [], fun _ _ => [], fun _ _ _ _ _ => [], fun _ _ _ => false, fun _ _ _ => false,
   fun _ _ _ _ => false⟩
def exF : SigRef.FullTx := ⟨Props.C02.exTx, Props.C02.exSpent, 1⟩
def exCtx : TxCtx := { version := 2, lockTime := 7, sequence := 5, idx := 1, nOuts := 1, sigScript := [], witness := [] }

def exCw : Bytes → Nat → SigHash.Cache := fun _ _ => {}
def exCt : Option Bytes → Bytes → Nat → Nat → Bool → SigHash.Cache := fun _ _ _ _ _ => {}

/-- non-vacuity of `script_equiv_c02_model`, all hypotheses jointly on a concrete input (two inputs, one output, second
    input under verification, consensus flags, every query on the empty cache) -/
example :
    ScriptSpec.FlagsOk (ScriptSpec.Flags.ofMask (VER_P2SH ||| VER_DERSIG ||| VER_NULLDUMMY ||| VER_CLTV ||| VER_CSV ||| VER_WITNESS ||| VER_TAPROOT)) ∧
    NopsOk (VER_P2SH ||| VER_DERSIG ||| VER_NULLDUMMY ||| VER_CLTV ||| VER_CSV ||| VER_WITNESS ||| VER_TAPROOT) ∧
    Consistent exF exCtx ∧ (∀ b, exT0.sha256 b ≠ []) ∧
    (∀ sc ht, SigHash.Cache.OK exT0.sha256 exF.tx exF.spent (exCw sc ht)) ∧
    (∀ a l cs ht s, SigHash.Cache.OK exT0.sha256 exF.tx exF.spent (exCt a l cs ht s)) :=
  ⟨by decide, by unfold NopsOk; decide, ⟨rfl, rfl, by decide, rfl⟩, fun _ => nofun,
   fun _ _ => SigHash.Cache.OK_empty _ _ _, fun _ _ _ _ _ => SigHash.Cache.OK_empty _ _ _⟩

/-- non-vacuity of `tapSigHashOk_of_reference`, all hypotheses jointly and concretely (the earlier example leaves the
    hash function and the pair (F, tx) universally quantified) -/
example : Consistent exF exCtx ∧ (∀ b, exT0.sha256 b ≠ []) ∧
    (∀ a l c ht s, ∃ annex, (refInstance exT0 exF exCtx.witness).sigHashTap a l c ht s =
        SigRef.tapDigest (refInstance exT0 exF exCtx.witness).sha256 exF annex l c ht s) :=
  ⟨⟨rfl, rfl, by decide, rfl⟩, fun _ => nofun, fun _ _ _ _ _ => ⟨_, rfl⟩⟩
/-- the double hash of the instance the oracle runs (Oracle/C01.lean `mkOracles`: `hash256 := sha256d`) is SHA-256
    applied twice, the form the C02 links above are stated in -/
example : sha256d = fun b => sha256 (sha256 b) := rfl

/-! ## (ix) the words of the spending transaction that evaluation reads are UNSIGNED -/

/-- BIP68/112's version test reads the 32-bit version field as an unsigned number: `CheckSequence` (the model of
    lib/script/misc.go, and with it the reference) fails for the versions 0 and 1 and for NO other value - any two
    versions ≥ 2, in particular 2 and every value 2^31 … 2^32-1 of the field (negative if it were read as an int32),
    give the same answer for every operand, sequence and lock time. -/
theorem csv_version_is_unsigned (tx : TxCtx) (v n : Nat) (hv : 2 ≤ v) (ht : 2 ≤ tx.version) :
    checkSequence { tx with version := v } n = checkSequence tx n ∧
    checkSequence { tx with version := v } n = ScriptSpec.checkSequence tx n ∧
    (∀ tx0 : TxCtx, tx0.version < 2 → checkSequence tx0 n = false) := by
  have h : checkSequence { tx with version := v } n = checkSequence tx n := by
    unfold checkSequence
    simp only [Nat.not_lt.mpr hv, Nat.not_lt.mpr ht, if_false]
  refine ⟨h, by rw [h, checkSequence_eq], fun tx0 h0 => ?_⟩
  unfold checkSequence
  rw [if_pos h0]
/-- non-vacuity, and the boundary itself: version 0x80000000 with sequence 10 satisfies `10 CSV`, version 1 does not -/
example : checkSequence { version := 0x80000000, lockTime := 0, sequence := 10, idx := 0, nOuts := 1, sigScript := [], witness := [] } 10 = true := by decide
example : checkSequence { version := 0xffffffff, lockTime := 0, sequence := 10, idx := 0, nOuts := 1, sigScript := [], witness := [] } 10 = true := by decide
example : checkSequence { version := 1, lockTime := 0, sequence := 10, idx := 0, nOuts := 1, sigScript := [], witness := [] } 10 = false := by decide

end GocoinV.Props.C01
