/-
  Props.C02 — property theorems for C02 (signature hashes equal the legacy, BIP143 and BIP341
  definitions; undefined taproot digests fail; the cache never changes a result). DESIGN.md §6 C02.

  Model = GocoinV.SigHash (Model/SigHash.lean, mirrors lib/btc/tx.go, lib/btc/taproot.go,
  lib/script/checker.go; executed by oracle_c02 and compared with the real code on every run).
  Spec  = GocoinV.Spec.SigHash (Spec/SigHash.lean, written from the BIP texts).
  All theorems hold for EVERY hash function `H` (they are equalities of preimages).

  Outside the model (no theorem speaks about it; go/cmd/c02 tests it with concurrent callers in a child process):
  the model is sequential — one digest request is one step (`hashLock` held for the whole body), and the tagged
  hashes (`btc.Hasher`, here `tagPrefix` / `H`) are pure functions of their input, so an implementation that hands
  the SAME hasher object to two goroutines, or publishes a cache field before it is filled, satisfies every theorem
  below and is caught only by the parallel streams (timing) and the race-detector child (go/cmd/c02/race.go). Which script code / code-separator position the interpreter
  passes at each executed CHECKSIG / CHECKMULTISIG is C01's model (Model/ScriptEval.lean); any per-input memo in
  `SigChecker` is code outside this model and is covered by the end-to-end streams (scripts with several checks).
-/
import GocoinV.Model.SigHash
import GocoinV.Spec.SigHash
import GocoinV.Proofs.C02Cache
import GocoinV.Proofs.C02Spec
import GocoinV.Proofs.C02Legacy
import GocoinV.Proofs.C02DelSig
import GocoinV.Proofs.C02Tail
import GocoinV.Proofs.C02Decode
import GocoinV.Proofs.C02Life
import GocoinV.Model.SigHashCaller
import GocoinV.Proofs.C02Caller
namespace GocoinV.Props.C02
open GocoinV GocoinV.SigHash
open GocoinV.Wire (Tx TxIn TxOut)

/-- a one-input transaction used by the non-vacuity example of `tail_irrelevant` -/
def exTx0 : Tx :=
  { version := 1, lockTime := 0, witness := none,
    ins := [{ prevHash := List.replicate 32 1, prevIdx := 0, scriptSig := [], sequence := 0xffffffff }],
    outs := [{ value := 1000, pkScript := [0x51] }] }

/-- Legacy: for every transaction, input index in range, 32-bit hash type and script code that decodes
    into operations, `SignatureHash` double-hashes exactly "the modified copy of the transaction (other
    scripts blanked, OP_CODESEPARATORs removed from the script code, sequences zeroed / outputs cut for
    NONE / SINGLE, one input for ANYONECANPAY) in the ordinary serialisation, followed by the 4-byte hash
    type" — and returns the constant `01 00…00` exactly where the original algorithm does (SIGHASH_SINGLE
    without a matching output). -/
theorem legacy_preimage_eq (H : Bytes → Bytes) (tx : Tx) (scriptCode : Bytes) (idx ht : Nat)
    (m : Spec.SigHash.SigMsg) (h : Spec.SigHash.legacy tx scriptCode idx ht = some m) :
    signatureHash H tx scriptCode idx ht =
      match m with
      | .one => .const one32
      | .msg pre => .hashed pre (H (H pre)) :=
  legacy_eq_spec H tx scriptCode idx ht m h

/-- the legacy specification is defined for every index in range and script code that decodes -/
theorem legacy_defined (tx : Tx) (scriptCode : Bytes) (idx ht : Nat) (hi : idx < tx.ins.length)
    (hp : (Spec.SigHash.parse scriptCode).isSome = true) :
    (Spec.SigHash.legacy tx scriptCode idx ht).isSome = true := by
  unfold Spec.SigHash.legacy
  obtain ⟨ops, h⟩ := Option.isSome_iff_exists.1 hp
  simp only [h, Nat.not_le.mpr hi, ↓reduceIte]; split <;> rfl

/-- The two spec-level script decoders agree: C02's own parser (`Spec.SigHash.parse`, the one `Spec.legacy` and
    `Spec.findAndDelete` are defined with) fails on exactly the scripts for which C01's independently written
    reference parser (`ScriptSpec.parse`, Spec/Script.lean) reports a decode error. Built on the one-instruction
    lemma `Spec.SigHash.nextOp s = none ↔ ScriptSpec.parseOne s = none` + "same rest where both succeed"
    (Proofs/C02Decode.lean: `nextOp_none_iff`, `nextOp_parseOne`). -/
theorem decoders_agree (s : Bytes) : Spec.SigHash.parse s = none ↔ (ScriptSpec.parse s).2 = true :=
  Proofs.C02D.parse_none_iff s

/-- `tail_irrelevant` (DESIGN §6 C02 (d)), proved against C01's model of gocoin's interpreter
    (Model/ScriptEval.lean) and stated with C02's OWN parser: a script that does not decode in the sense of
    `Spec.SigHash.parse` (a truncated push anywhere) — i.e. exactly a script on which `Spec.legacy` defines no
    message — never evaluates to true: for every stack, flag set, signature version, execution data and EVERY
    oracle instance (also partial ones), `evalScript` returns false / an oracle request, never `ok`.
    What this does and does not say: it is a statement about the MODEL of the interpreter (C01's, tied to the real
    interpreter by C01's harness), not about gocoin's `SignatureHash`; that the script code handed to
    `SignatureHash` is a suffix of the executed script starting at an instruction boundary is C01's model of
    CHECKSIG / CODESEPARATOR and is covered by the next theorem only in the form "well-formed prefix ++ suffix". -/
theorem tail_irrelevant (O : Script.Oracles) (tx : Script.TxCtx) (flags : Nat) (p : Bytes)
    (stack : Script.Stack) (sv : Script.SigVersion) (ed : Script.ExecData)
    (h : Spec.SigHash.parse p = none) (s : Script.Stack) :
    Script.evalScript O tx flags p stack sv ed ≠ .ok s :=
  Proofs.C02T.evalScript_bad O tx flags p stack sv ed ((decoders_agree p).mp h) s

/-- … at an instruction boundary: if the executed script is `pre ++ sc` where `pre` consists of well-formed
    operations (e.g. everything up to and including the last executed OP_CODESEPARATOR) and the script code `sc`
    does not decode — the only place where gocoin's `break` (tail dropped) and the original serializer (part of
    the tail kept) can produce different preimages, and where `Spec.legacy` is undefined — then the evaluation of
    the whole script is already not `ok`: the difference cannot change a verdict. -/
theorem tail_irrelevant_at_boundary (O : Script.Oracles) (tx : Script.TxCtx) (flags : Nat) (pre sc : Bytes)
    (ops : List Bytes) (stack : Script.Stack) (sv : Script.SigVersion) (ed : Script.ExecData)
    (hpre : Spec.SigHash.parse pre = some ops) (hsc : Spec.SigHash.parse sc = none) (s : Script.Stack) :
    Script.evalScript O tx flags (pre ++ sc) stack sv ed ≠ .ok s :=
  tail_irrelevant O tx flags (pre ++ sc) stack sv ed (Proofs.C02D.parse_append_bad pre sc ops hpre hsc) s

/-- non-vacuity (kernel-checked): `OP_1 <push of 2 bytes, 1 present>` does not decode for C02's parser (hypothesis
    of `tail_irrelevant`), `Spec.legacy` is undefined on it, C01's parser reports the decode error too, and
    gocoin's `SignatureHash` model still returns a digest for it as script code (the tail is dropped) -/
example : Spec.SigHash.parse [0x51, 0x02, 0x01] = none ∧ (ScriptSpec.parse [0x51, 0x02, 0x01]).2 = true ∧
    Spec.SigHash.legacy exTx0 [0x51, 0x02, 0x01] 0 1 = none := by decide
example : ∃ pre d, signatureHash (fun b => b) exTx0 [0x51, 0x02, 0x01] 0 1 = .hashed pre d := ⟨_, _, rfl⟩
/-- … and the hypotheses of `tail_irrelevant_at_boundary`: `OP_1 OP_CODESEPARATOR` ++ `<truncated PUSHDATA1>` -/
example : Spec.SigHash.parse [0x51, 0xab] = some [[0x51], [0xab]] ∧ Spec.SigHash.parse [0x4c] = none := by decide

/-- Signature removal: for every script code that decodes into operations and every signature (any
    length: direct push below 76 bytes, PUSHDATA1 for 76..255, PUSHDATA2 for 256..65535, PUSHDATA4 above),
    gocoin's `delSig` returns exactly FindAndDelete(script, CScript() << sig): the script without the
    operations that are the canonical push of the signature, and the number of operations removed.
    (Model.delSig mirrors the code after fix acaf95d6; before it the pattern was `CompactSize(len)‖sig`,
    which is not a script push for len ≥ 76, so such a signature push was never removed.) -/
theorem delSig_eq_findAndDelete (wh sig : Bytes) (ops : List Bytes) (h : Spec.SigHash.parse wh = some ops) :
    Spec.SigHash.findAndDelete wh sig = some (delSig wh sig) := by
  unfold Spec.SigHash.findAndDelete
  rw [h, delSig_eq wh sig ops h]

/-- FindAndDelete is defined exactly on the scripts that decode (so the theorem above covers every case
    in which the specification says anything). -/
theorem findAndDelete_defined_iff (wh sig : Bytes) :
    (Spec.SigHash.findAndDelete wh sig).isSome = (Spec.SigHash.parse wh).isSome := by
  unfold Spec.SigHash.findAndDelete
  cases Spec.SigHash.parse wh <;> rfl

/-- BIP143: for every transaction, input index, script code, amount and 32-bit hash type for which
    BIP143 defines a message, and for every state of the cache reachable on this transaction object,
    `WitnessSigHash` feeds exactly the BIP143 message to the double hash. -/
theorem bip143_preimage_eq (H : Bytes → Bytes) (tx : Tx) (spent : List TxOut) (c : Cache)
    (hc : Cache.OK H tx spent c) (sc : Bytes) (amount idx ht : Nat) (pre : Bytes)
    (h : Spec.SigHash.bip143 (fun b => H (H b)) tx sc amount idx ht = some pre) :
    (witnessSigHash H tx c sc amount idx ht).1 = .hashed pre (H (H pre)) := by
  rw [(witnessSigHash_cache H tx spent c hc sc amount idx ht).1]
  exact witness_eq_spec H tx sc amount idx ht pre h

/-- BIP143 defines a message for every input index in range (so the theorem above is not vacuous). -/
theorem bip143_defined (dsha : Bytes → Bytes) (tx : Tx) (sc : Bytes) (amount idx ht : Nat)
    (hi : idx < tx.ins.length) : (Spec.SigHash.bip143 dsha tx sc amount idx ht).isSome = true := by
  unfold Spec.SigHash.bip143
  simp [hi]

/-- BIP341/BIP342: for every transaction with one spent output per input, input index in range, hash
    type byte, annex (present or not), key path or script path (leaf hash, code separator position)
    and every reachable cache state: where BIP341 defines the signature message, `TaprootSigHash`
    feeds exactly `SHA256(tag)‖SHA256(tag)‖0x00‖SigMsg‖ext` to the hash. -/
theorem bip341_preimage_eq (H : Bytes → Bytes) (tx : Tx) (spent : List TxOut) (c : Cache)
    (hs : spent.length = tx.ins.length) (hc : Cache.OK H tx spent c) (idx ht : Nat) (hi : idx < tx.ins.length)
    (annex : Option Bytes) (ext : Option Spec.SigHash.Ext) (pre : Bytes)
    (h : Spec.SigHash.bip341 H tx spent idx ht annex ext = some pre) :
    (taprootSigHash true H tx spent c (execDataOf H annex ext) idx ht ext.isSome).1 = .hashed pre (H pre) := by
  rw [taproot_eq_bip341 H tx spent c hs hc idx ht hi annex ext, h]

/-- Where BIP341 defines no digest (hash type outside {0,1,2,3,0x81,0x82,0x83}, SIGHASH_SINGLE without
    a matching output) `TaprootSigHash` returns no digest (`nil`), whatever the cache holds. -/
theorem bip341_undefined_is_nil (H : Bytes → Bytes) (tx : Tx) (spent : List TxOut) (c : Cache)
    (hs : spent.length = tx.ins.length) (hc : Cache.OK H tx spent c) (idx ht : Nat) (hi : idx < tx.ins.length)
    (annex : Option Bytes) (ext : Option Spec.SigHash.Ext)
    (h : Spec.SigHash.bip341 H tx spent idx ht annex ext = none) :
    (taprootSigHash true H tx spent c (execDataOf H annex ext) idx ht ext.isSome).1 = .undefined := by
  rw [taproot_eq_bip341 H tx spent c hs hc idx ht hi annex ext, h]

/-- the hash type a Schnorr signature asks for: byte 65 if present, else SIGHASH_DEFAULT -/
def sigHashType (sig : Bytes) : Nat := if sig.length = 65 then (sig.getD 64 0).toNat else 0

/-- Undefined is failure: if BIP341 defines no digest for the hash type carried by the signature,
    `CheckSchnorrSignature` returns false — for every signature, public key, verification function
    `V` (= btc.SchnorrVerify), hash function and cache state. -/
theorem undefined_is_failure (V : Bytes → Bytes → Bytes → Bool) (H : Bytes → Bytes) (tx : Tx) (spent : List TxOut)
    (c : Cache) (hs : spent.length = tx.ins.length) (hc : Cache.OK H tx spent c) (idx : Nat) (hi : idx < tx.ins.length)
    (sig pubkey : Bytes) (annex : Option Bytes) (ext : Option Spec.SigHash.Ext)
    (h : Spec.SigHash.bip341 H tx spent idx (sigHashType sig) annex ext = none) :
    checkSchnorrSignature true V H tx spent c sig pubkey ext.isSome (execDataOf H annex ext) idx = some false := by
  unfold checkSchnorrSignature
  rw [schnorrPlan_undefined (bip341_undefined_is_nil H tx spent c hs hc idx (sigHashType sig) hi annex ext h)]

/-- Before the fix (`fixed = false`: `TaprootSigHash` returned 32 zero bytes) the statement above was
    FALSE: for the key-path spend below (one input, one output, hash type 0x04) BIP341 defines no digest,
    yet the verdict was whatever `SchnorrVerify` says about the signature against the all-zero message —
    a message that does not depend on the transaction. Replayed on the real code by the harness
    (corpus entry F1 in go/cmd/c02/e2e.go). -/
theorem undefined_is_failure_counterexample :
    ∃ (tx : Tx) (spent : List TxOut) (idx : Nat) (sig : Bytes),
      spent.length = tx.ins.length ∧ idx < tx.ins.length ∧
      (∀ H, Spec.SigHash.bip341 H tx spent idx (sigHashType sig) none none = none) ∧
      ∀ (V : Bytes → Bytes → Bytes → Bool) (H : Bytes → Bytes) (pubkey : Bytes),
        checkSchnorrSignature false V H tx spent {} sig pubkey false (execDataOf H none none) idx
          = some (V pubkey (sig.take 64) zero32) := by
  refine ⟨{ version := 2, ins := [{ prevHash := List.replicate 32 0x11, prevIdx := 0, scriptSig := [], sequence := 0xfffffffd }],
            outs := [{ value := 90000, pkScript := [0x51] }], witness := none, lockTime := 0 },
          [{ value := 100000, pkScript := 0x51 :: 0x20 :: List.replicate 32 0x77 }], 0,
          List.replicate 64 0xab ++ [4], rfl, by decide, fun _ => rfl, fun _ _ _ => rfl⟩

/-- SIGHASH_DEFAULT must not be spelled out (BIP341: "if the signature has 65 bytes the hash type byte must not
    be 0x00"): a 65-byte signature whose last byte is 0x00 is refused - for every transaction, cache state,
    public key, execution data, input index (in range or not) and verification function, before any digest is
    asked for (the cache is left as it was). `undefined_is_failure` does not cover this case: BIP341 DOES define
    a digest for hash type 0, so its hypothesis is false here. -/
theorem explicit_default_hashtype_refused (fixed : Bool) (V : Bytes → Bytes → Bytes → Bool) (H : Bytes → Bytes) (tx : Tx)
    (spent : List TxOut) (c : Cache) (sig pubkey : Bytes) (tapscript : Bool) (ed : ExecData) (idx : Nat)
    (hl : sig.length = 65) (h0 : sig.getD 64 0 = 0) :
    checkSchnorrSignature fixed V H tx spent c sig pubkey tapscript ed idx = some false ∧
    (schnorrPlan fixed H tx spent c sig pubkey tapscript ed idx).2 = c := by
  unfold checkSchnorrSignature
  rw [schnorrPlan_refused (.inr ⟨hl, h0⟩)]
  exact ⟨rfl, rfl⟩

/-- … and so is every signature that has neither 64 nor 65 bytes. -/
theorem schnorr_sig_size_refused (fixed : Bool) (V : Bytes → Bytes → Bytes → Bool) (H : Bytes → Bytes) (tx : Tx)
    (spent : List TxOut) (c : Cache) (sig pubkey : Bytes) (tapscript : Bool) (ed : ExecData) (idx : Nat)
    (hl : sig.length ≠ 64 ∧ sig.length ≠ 65) :
    checkSchnorrSignature fixed V H tx spent c sig pubkey tapscript ed idx = some false := by
  unfold checkSchnorrSignature
  rw [schnorrPlan_refused (.inl hl)]

-- explicit_default_hashtype_refused: such a signature exists, and with 64 bytes (hash type 0 implied) the same
-- request reaches the verification function with a digest
example : (List.replicate 64 (0xab : UInt8) ++ [0]).length = 65 ∧ (List.replicate 64 (0xab : UInt8) ++ [0]).getD 64 0 = 0 := by decide
example : ∃ pk s m, (schnorrPlan true (fun b => b) exTx0 [{ value := 1, pkScript := [0x51] }] {}
    (List.replicate 64 0xab) [2] false {} 0).1 = .verify pk s m := ⟨_, _, _, rfl⟩

/-- Cache transparency: for every finite sequence of digest requests (legacy, BIP143, taproot; any
    arguments, any order) on one transaction object starting from the empty cache, each result equals
    the result of the same request on a fresh object. (Requests are atomic: every function holds
    `hashLock` for its whole body, so concurrent callers reduce to some such sequence.) -/
theorem cache_transparent (fixed : Bool) (H : Bytes → Bytes) (tx : Tx) (spent : List TxOut)
    (hs : tx.ins.length ≤ spent.length) (calls : List Call) :
    (runCalls fixed H tx spent {} calls).1 = calls.map fun k => (step fixed H tx spent {} k).1 :=
  runCalls_cache fixed H tx spent hs calls {} (Cache.OK_empty H tx spent)

/-- Without one spent output per input the previous theorem is false, in the model as in the code: the
    pointer `tx.tapSingleHashes` is assigned before the loops that can panic, so after a recovered
    panic (evalScript recovers) the same object hands out a digest over all-zero hashes. -/
theorem cache_poisoned_after_panic :
    ∃ (tx : Tx) (k : Call), ∀ H : Bytes → Bytes,
      (step true H tx [] {} k).1 = .panic ∧
      (runCalls true H tx [] {} [k, k]).1 ≠ [.panic, .panic] := by
  refine ⟨{ version := 2, ins := [{ prevHash := [], prevIdx := 0, scriptSig := [], sequence := 0 }], outs := [],
            witness := none, lockTime := 0 }, .tap {} 0 2 false, ?_⟩
  intro H
  constructor
  · rfl
  · intro he; cases he


/-! ### life cycle of the scratch struct across transaction objects (AllocVerVars / Clean) -/

/-- Histories over SEVERAL transaction objects. For every list of transaction objects (each with one spent output
    per input), every hash function and every finite history of `AllocVerVars()` (the caller then installs the
    object's spent outputs, by assignment or by `append`), `Clean()` and digest requests (legacy, BIP143, taproot;
    any arguments) on any of the objects, in any interleaving: with the code as written (`AllocVerVars` =
    `new(TxVerVars)`, `Clean` drops the pointer) every digest request returns what the same request returns on a
    fresh object of THAT transaction with an empty cache — nothing computed for one transaction object, before or
    after a `Clean`, reaches another. (`runLifeSpec` keeps no struct at all, only "object i is allocated"; a request
    on an object whose `TxVerVars` is nil is the legacy digest / a nil dereference on both sides.) -/
theorem lifecycle_transparent (H : Bytes → Bytes) (objs : List Obj)
    (hobjs : ∀ o ∈ objs, o.tx.ins.length ≤ o.spent.length) (evs : List Ev) :
    runLife freshAlloc H objs (World.init objs.length ()) evs
      = runLifeSpec H objs (List.replicate objs.length false) evs :=
  runLife_sim freshAlloc (fun _ => True) freshAlloc_blank H objs hobjs evs _ _ (Sim.init H objs _ ()) trivial

/-- The same for EVERY allocator discipline behind `AllocVerVars` / `Clean` (free list, pool, arena …) that, from
    its reachable states `I`, only ever hands out blank structs: recycling the struct is invisible exactly when
    what is handed out is indistinguishable from `new(TxVerVars)`. -/
theorem lifecycle_transparent_any_allocator {σ : Type} (A : Allocator σ) (I : σ → Prop) (hA : A.Blank I) (s0 : σ)
    (h0 : I s0) (H : Bytes → Bytes) (objs : List Obj)
    (hobjs : ∀ o ∈ objs, o.tx.ins.length ≤ o.spent.length) (evs : List Ev) :
    runLife A H objs (World.init objs.length s0) evs = runLifeSpec H objs (List.replicate objs.length false) evs :=
  runLife_sim A I hA H objs hobjs evs _ _ (Sim.init H objs _ s0) h0

/-- … in particular a free list whose `Clean` resets EVERY field of the struct it keeps. -/
theorem pool_full_reset_transparent (reset : VerVars → VerVars) (hr : ∀ v, reset v = {}) (H : Bytes → Bytes)
    (objs : List Obj) (hobjs : ∀ o ∈ objs, o.tx.ins.length ≤ o.spent.length) (evs : List Ev) :
    runLife (poolAlloc reset) H objs (World.init objs.length []) evs
      = runLifeSpec H objs (List.replicate objs.length false) evs :=
  lifecycle_transparent_any_allocator (poolAlloc reset) _ (poolAlloc_blank reset hr) []
    (by intro v hv; cases hv) H objs hobjs evs

/-- a reset that clears everything except `tapOutSingleHash` (BIP341 sha_outputs) -/
def forgetfulReset (v : VerVars) : VerVars := { cache := { tapOutSingle := v.cache.tapOutSingle }, spent := [] }

def lifeTxA : Tx :=
  { version := 2, lockTime := 0, witness := none,
    ins := [{ prevHash := List.replicate 32 1, prevIdx := 0, scriptSig := [], sequence := 0xffffffff }],
    outs := [{ value := 1000, pkScript := [0x51] }] }
def lifeTxB : Tx := { lifeTxA with outs := [{ value := 2000, pkScript := [0x52] }] }
def lifeObjs : List Obj :=
  [⟨lifeTxA, [{ value := 5000, pkScript := [0x51] }]⟩, ⟨lifeTxB, [{ value := 5000, pkScript := [0x51] }]⟩]
/-- digest on A, `A.Clean()`, `B.AllocVerVars()`, the same digest request on B -/
def lifeEvs : List Ev :=
  [.alloc 0 .assign, .call 0 (.tap {} 0 0x81 false), .clean 0, .alloc 1 .append, .call 1 (.tap {} 0 0x81 false)]

/-- The hypothesis "hands out blank structs only" cannot be dropped: with a free list whose reset forgets ONE cached
    field (`tapOutSingleHash`), the two-object history `lifeEvs` gives transaction B a taproot digest that commits
    to the outputs of the cleaned transaction A — for every hash function that tells the two output lists apart.
    (The harness drives such histories against the real `AllocVerVars` / `Clean`, go/cmd/c02/life.go.) -/
theorem pool_partial_reset_counterexample (H : Bytes → Bytes)
    (h : H (outputsBytes lifeTxA) ≠ H (outputsBytes lifeTxB)) :
    runLife (poolAlloc forgetfulReset) H lifeObjs (World.init 2 []) lifeEvs
      ≠ runLifeSpec H lifeObjs [false, false] lifeEvs := by
  intro he
  simp [runLife, runLifeSpec, lifeStep, specStep, lifeEvs, lifeObjs, World.init, poolAlloc, forgetfulReset, step,
    taprootSigHash, taprootTail, lazyGet, lifeTxA, lifeTxB] at he
  exact h he.1

/-! ### the object in the hands of its caller: `Spent_outputs` filled one by one, workers asking for digests -/

/-- The caller's side of "whatever the order of calls". `commitTxs` makes `tx.Spent_outputs` with one nil entry per
    input, resolves the inputs one after the other (`store`) and lets a worker per input ask for digests (`req`,
    atomic under hashLock). For every transaction with one spent output per input, every hash function and EVERY
    interleaving of stores and requests in which each request is safe at the moment it runs — a legacy or BIP143
    request at any time (they do not read `Spent_outputs`), a taproot request with SIGHASH_ANYONECANPAY once its own
    input is stored, any other taproot request only after ALL inputs are stored (BIP341 commits to every spent amount
    and script) — each request returns what a fresh object holding all spent outputs returns (and so, by
    `bip341_preimage_eq` etc., the specified digest). -/
theorem caller_requests_sound (H : Bytes → Bytes) (tx : Tx) (spent : List TxOut) (hs : tx.ins.length ≤ spent.length)
    (evs : List CEv) (hd : disciplined spent.length 0 evs = true) :
    runCaller H tx spent {} evs = callerSpec H tx spent evs :=
  runCaller_disciplined H tx spent hs evs {} (Cache.OK_empty H tx spent) hd

/-- … in particular the code as written: the workers are started after the collecting loop, so whatever the requests
    and whatever order the scheduler runs them in, every one of them sees all spent outputs. -/
theorem collect_then_verify_sound (H : Bytes → Bytes) (tx : Tx) (spent : List TxOut) (hs : tx.ins.length ≤ spent.length)
    (ks : List Call) :
    runCaller H tx spent {} (collectThenVerify spent.length ks)
      = callerSpec H tx spent (collectThenVerify spent.length ks) :=
  caller_requests_sound H tx spent hs _ (disciplined_stores spent.length ks spent.length 0 (by omega))

def callerTx : Tx :=
  { version := 2, lockTime := 0, witness := none,
    ins := [{ prevHash := List.replicate 32 1, prevIdx := 0, scriptSig := [], sequence := 0xffffffff },
            { prevHash := List.replicate 32 1, prevIdx := 1, scriptSig := [], sequence := 0xffffffff }],
    outs := [{ value := 1000, pkScript := [0x51] }] }
def callerSpent : List TxOut := [{ value := 5000, pkScript := [0x51] }, { value := 6000, pkScript := [0x52] }]
/-- input 0 resolved, its worker (key path, SIGHASH_DEFAULT) runs, input 1 resolved, its worker runs -/
def earlyEvs : List CEv := [.store, .req (.tap {} 0 0 false), .store, .req (.tap {} 1 0 false)]

/-- The discipline cannot be dropped: a worker that is started as soon as ITS input is resolved asks for a taproot
    digest while a later entry of `Spent_outputs` is still nil. The request panics (key path: outside the
    interpreter's recover, the node dies) — and because `tx.tapSingleHashes` is published before it is filled, the
    worker of the LAST input, which runs when everything is stored, is handed a digest over all-zero
    sha_amounts / sha_scriptpubkeys / sha_sequences: a valid signature no longer verifies. For every hash function
    with 32-byte values that does not map the amounts to 32 zero bytes. (The harness drives whole blocks through the
    real `Chain.ProcessBlockTransactions`, go/cmd/c02/node.go, and such histories sequentially against the real
    digest functions, go/cmd/c02/caller.go.) -/
theorem early_worker_counterexample (H : Bytes → Bytes) (hlen : ∀ b, (H b).length = 32)
    (h : H (callerSpent.flatMap fun o => le64 o.value) ≠ zero32) :
    (runCaller H callerTx callerSpent {} earlyEvs)[1]? = some (some .panic) ∧
    (runCaller H callerTx callerSpent {} earlyEvs)[3]? ≠ (callerSpec H callerTx callerSpent earlyEvs)[3]? := by
  constructor
  · rfl
  · intro he
    simp [runCaller, callerSpec, callerStep, earlyEvs, step, taprootSigHash, tapSingleGet, tapSingleFill, taprootTail,
      lazyGet, callerTx, callerSpent] at he
    exact h ((List.append_inj he.1 (by simp [zero32, hlen])).1).symm

/-! ### non-vacuity -/

/-- a transaction with two inputs and one output used by the examples -/
def exTx : Tx :=
  { version := 2, lockTime := 7, witness := none,
    ins := [{ prevHash := List.replicate 32 1, prevIdx := 0, scriptSig := [], sequence := 0xffffffff },
            { prevHash := List.replicate 32 2, prevIdx := 1, scriptSig := [], sequence := 5 }],
    outs := [{ value := 1000, pkScript := [0x51] }] }
def exSpent : List TxOut := [{ value := 5000, pkScript := [0x51] }, { value := 6000, pkScript := [] }]

-- legacy_preimage_eq / legacy_defined: the hypotheses are satisfiable, both outcomes occur
example : (Spec.SigHash.legacy exTx [0xab, 0x51, 0xab, 0xac] 0 1).isSome = true := by decide
example : Spec.SigHash.legacy exTx [0xab, 0x51, 0xab, 0xac] 1 3 = some .one := by decide
-- … and code separators really are removed (0xab inside push data is kept)
example : stripCodeSep [0xab, 0x51, 0x01, 0xab, 0xab, 0xac] = [0x51, 0x01, 0xab, 0xac] := by decide
-- bip143_preimage_eq: defined for an index in range
example : (Spec.SigHash.bip143 (fun b => b) exTx [0xac] 5000 1 0x83).isSome = true := by decide
-- bip341_preimage_eq: defined …
example : (Spec.SigHash.bip341 (fun b => b) exTx exSpent 0 0x83 (some [0x50]) (some ⟨[], 3⟩)).isSome = true := by decide
-- bip341_undefined_is_nil / undefined_is_failure: … and undefined (hash type 4; SINGLE on input 1 of 1 output)
example : Spec.SigHash.bip341 (fun b => b) exTx exSpent 0 4 none none = none := by decide
example : Spec.SigHash.bip341 (fun b => b) exTx exSpent 1 3 none none = none := by decide
-- delSig_eq_findAndDelete: a 76-byte signature pushed with PUSHDATA1 between two other operations is removed
-- (and a direct-push look-alike `4c‖sig` data is not touched when the signature is short)
example : Spec.SigHash.parse ([0x51] ++ (0x4c :: 76 :: List.replicate 76 7) ++ [0xac]) =
    some [[0x51], 0x4c :: 76 :: List.replicate 76 7, [0xac]] := by decide
example : delSig ([0x51] ++ (0x4c :: 76 :: List.replicate 76 7) ++ [0xac]) (List.replicate 76 7) = ([0x51, 0xac], 1) := by decide
example : delSig ([0x51] ++ (75 :: List.replicate 75 7) ++ [0xac]) (List.replicate 75 7) = ([0x51, 0xac], 1) := by decide
example : (delSig ((0x4d :: 0 :: 1 :: List.replicate 256 7) ++ [0xac]) (List.replicate 256 7)) = ([0xac], 1) := by decide +kernel
-- Cache.OK is satisfiable by a non-empty cache (the one left by a BIP143 request)
example : (witnessSigHash (fun b => b) exTx {} [0xac] 1 0 1).2.hashPrevouts.isSome = true := by decide
-- cache_transparent: its hypothesis holds for exTx / exSpent
example : exTx.ins.length ≤ exSpent.length := by decide

-- lifecycle_transparent / …_any_allocator / pool_full_reset_transparent: the hypothesis holds for lifeObjs, the
-- history really hands a struct from A to B (pool non-empty after the clean) and the last request is a digest
example : ∀ o ∈ lifeObjs, o.tx.ins.length ≤ o.spent.length := by decide
example : (runLife (poolAlloc fun _ => {}) (fun b => b) lifeObjs (World.init 2 []) lifeEvs).length = 5 := by decide
example : ∃ p d, (runLifeSpec (fun b => b) lifeObjs [false, false] lifeEvs).getLast? = some (some (.hashed p d)) :=
  ⟨_, _, rfl⟩
-- pool_partial_reset_counterexample: its hypothesis holds for the identity "hash"
example : (fun b : Bytes => b) (outputsBytes lifeTxA) ≠ (fun b : Bytes => b) (outputsBytes lifeTxB) := by decide

-- caller_requests_sound: a history with EARLY requests that is disciplined (BIP143 and an ANYONECANPAY taproot request
-- for the stored input before the second store), and `earlyEvs` is not
example : callerTx.ins.length ≤ callerSpent.length := by decide
example : disciplined 2 0 [.store, .req (.wit [0xac] 5000 0 1), .req (.tap {} 0 0x81 false), .store, .req (.tap {} 1 0 false)] = true := by decide
example : disciplined 2 0 earlyEvs = false := by decide
-- early_worker_counterexample: its hypotheses hold for a constant 32-byte "hash"
example : ∃ H : Bytes → Bytes, (∀ b, (H b).length = 32) ∧ H (callerSpent.flatMap fun o => le64 o.value) ≠ zero32 :=
  ⟨fun _ => List.replicate 32 1, by simp, by decide⟩

end GocoinV.Props.C02
