/-
  Props.C20 — the UTXO memory allocator (lib/others/memory) never corrupts or aliases live data.
  Property theorems about Model/Alloc.lean (the definitions oracle_c20 executes and go/cmd/c20
  compares with the real allocator) over the size-class table regenerated from slots.go/memory.go.
  The invariant `Inv` (Proofs/C20Inv.lean) says, for every reachable state:
    * every page header: brk ≤ cap, per-page free list duplicate-free and below brk; for every slot
      below brk "on the page's free list ↔ not live"; |free list| + used = brk; used + free = cap;
    * every class: page list duplicate-free and made of mapped pages of the class, pageCount = its length,
      global free list duplicate-free and = exactly the per-page free-list entries of the class's pages,
      the current page is a mapped page of the class with brk < cap;
    * every live allocation: its slot memory holds Data = slot+header, Len = requested size,
      Cap ≥ size (Cap + 24 = slot size of the page's class, or = mapped size for private mappings) and
      the value last written by the owner; shared ones lie below brk of a mapped page;
    * private mappings and shared pages never share an id; Allocs = number of live allocations;
    * no page is marked evacuating between operations.
  Two further invariants, proved for every reachable state in separate files:
    * `Cnt` (Proofs/C20Count.lean; theorem `counters_exact` below): freeSlots[class] = Σ header.free over the
      class's pages, SharedMmaps = number of mapped shared pages, PrivateMmaps = number of private mappings,
      Bytes = pageSize · shared pages + Σ sizes of the private mappings (the model's `bytes` is a.Bytes
      without the pre-mapped pages waiting in the page cache; the harness subtracts them);
    * `Rep` (Proofs/C20Ptr.lean; theorems `rep_inv`, `pointer_reads_agree` below): the pointer layer `State.heap`
      (node.prev/next/prevInPage/nextInPage, header.prev/next/freeList, lists/firstPage/lastPage — written by
      exactly the link writes of the Go code, the back-links being present iff the regenerated facts
      `Gen.MemClasses.lnk*` say the source has them) spells exactly the abstract lists.
  The step granularity itself — "one Malloc / Free call = one atomic step" — is a checked source fact too:
  go/cmd/gen_c20/locks.go extracts from Malloc and Free the expression that selects the class whose mutex is
  locked and the expression(s) that select the class whose lists / pages / counters are edited
  (`Gen.MemClasses.mallocLockSel`, `mallocEditSel`, `freeLockSel`, `freeEditSel`, `…LockBrackets`);
  `malloc_locks_own_class` / `free_locks_own_class` prove from these terms that the locked class is the edited
  class and is the class the model's step edits.  `…LockBrackets` covers the Allocator's per-class slices AND
  the fields of page headers / free-list nodes in mmap'd memory (moving `header.used++` behind `Unlock()`
  flips it to false).  A source that locks by another expression (e.g.
  `getSizeClass(sh.Cap)` in Free) regenerates another term and these theorems no longer compile.
-/
import GocoinV.Proofs.C20Once
import GocoinV.Proofs.C20Ptr
import GocoinV.Proofs.C20Count
import GocoinV.Proofs.C20Lock
import GocoinV.Proofs.C20Total
import GocoinV.Proofs.C20Clobber
import GocoinV.Proofs.C20Example
import GocoinV.Proofs.C20Node
namespace GocoinV.Props.C20
open GocoinV.Alloc GocoinV.Gen.MemClasses

/-- The generated size-class table is usable by the allocator: at most 255 classes (class index is a
byte), every slot (after `init()` added the slice header) holds the 32-byte free-list node, every
class has at least one and at most 65535 slots per page (`brk/used/free` are uint16), all slots of a
page lie inside the page, every slot size is ≤ MaxSharedSize (otherwise Free would munmap a shared
slot), and the node's `nextInPage` field starts exactly where the payload starts (so it never overlaps
the next slot). -/
theorem table_wf :
    nClasses ≤ 2 ^ classBits - 1 ∧ 0 < nClasses ∧
    (∀ c, c < nClasses → nodeSize ≤ slotSize c ∧ 1 ≤ capOf c ∧ capOf c < 2 ^ brkBits ∧
      capOf c < 2 ^ usedBits ∧ capOf c < 2 ^ freeBits ∧ headerSize + capOf c * slotSize c ≤ pageSize ∧
      slotSize c ≤ maxShared) ∧
    nodeNextInPageOff + 8 = nodeSize ∧ sliceHdrLen ≤ nodeNextInPageOff := by
  decide +kernel

/-- Every request that takes the shared path (size + 24 ≤ MaxSharedSize) is routed to an existing class
whose slot holds the slice header and the payload. -/
theorem class_fits (size : Nat) (h : size + sliceHdrLen ≤ maxShared) :
    classOf (size + sliceHdrLen) < nClasses ∧
    size + sliceHdrLen ≤ slotSize (classOf (size + sliceHdrLen)) :=
  classOf_spec _ h

/-- Slots of a page lie behind the header, inside the 1 MiB page, and two different slots of the same
page have disjoint byte ranges. -/
theorem slots_disjoint_inside_page (c i j : Nat) (hc : c < nClasses) (hi : i < capOf c) (hj : j < capOf c) :
    headerSize ≤ slotLo c i ∧ slotHi c i ≤ pageSize ∧ (i < j → slotHi c i ≤ slotLo c j) := by
  have t := (table_wf.2.2.1 c hc).2.2.2.2.2.1
  refine ⟨by simp [slotLo], ?_, ?_⟩
  · have : (i + 1) * slotSize c ≤ capOf c * slotSize c := Nat.mul_le_mul_right _ hi
    simp only [slotHi]; omega
  · intro hij
    have : (i + 1) * slotSize c ≤ j * slotSize c := Nat.mul_le_mul_right _ hij
    simp only [slotHi, slotLo]; omega

/-- One Malloc / Free / owner-write / DefragAllImproved step keeps the invariant (for a defrag pass: with
whatever evacuation order the model accepts as legal). -/
theorem step_inv {V : Type} (s s' : State V) (op : Op V) (inv : Inv s) (hr : step s op = .ok s') : Inv s' :=
  step_keeps_inv inv hr

/-- Central invariant: every state reached from the empty allocator by any sequence of Malloc, Free of
live pointers, owner writes and defragmentation passes (= any interleaving of such calls from any number
of goroutines, each Malloc/Free being one atomic step under the mutex of the class it edits — a source fact
re-extracted on every run, see `malloc_locks_own_class` / `free_locks_own_class` below —, defrag running
exclusively) satisfies `Inv` (listed at the top of this file): live slots are distinct slots below brk of mapped
pages, returned slices have Len = size, Cap ≥ size, Data = slot + header, free lists hold exactly the
non-live slots, the counters equal the counted values, Allocs = number live. -/
theorem alloc_inv {V : Type} (ops : List (Op V)) (s : State V) (hr : run init ops = .ok s) : Inv s :=
  (run_invs hr).1

/-- Malloc always succeeds in the model (mmap is assumed not to fail): it never dereferences a nil list
head or an unmapped page. -/
theorem malloc_never_fails {V : Type} (s : State V) (inv : Inv s) (size : Nat) :
    ∃ s' a, malloc s size = .ok (s', a) := malloc_total inv.g size

-- non-vacuity: the hypotheses of the theorems in this file are satisfiable and traces exist
-- (`Inv s`, a live allocation, successful Malloc / Free / write / defrag steps).  A relocating defragClass pass is
-- exhibited by `relocating_pass_witness` below (evaluated by simp; Std.HashMap does not reduce in the kernel);
-- relocating passes of `defragAll` (above the 12 MB trigger) come from the correspondence run, which feeds the
-- model the passes of the real allocator and counts the accepted ones (evidence `defrag:pass relocated=…`).
example : Inv (init : State Nat) := init_inv
example : ∃ s a, run (init : State Nat) [.malloc 10] = .ok s ∧ s.isLive a ∧ Inv s := by
  obtain ⟨s, a, _, hr, i, _, hl⟩ := ex_malloc_live (V := Nat) 10
  exact ⟨s, a, hr, hl, i⟩
example : ∃ s a s2 s3, run (init : State Nat) [.malloc 200000] = .ok s ∧ s.isLive a ∧
    step s (.write a 5) = .ok s2 ∧ step s2 (.free a) = .ok s3 := by
  obtain ⟨s', a, _, hrun, i1, _, hl⟩ := ex_malloc_live (V := Nat) 200000
  obtain ⟨s2, hw⟩ := write_total (v := 5) i1.g hl
  obtain ⟨i2, l0, _, hl2⟩ := write_inv i1 hw
  obtain ⟨s3, h3⟩ := free_total i2 (a := a) (by simp [State.isLive, hl2, KMap.get?_set])
  exact ⟨s', a, s2, s3, hrun, hl, hw, h3⟩
example : ∃ s', step (init : State Nat) (.defrag []) = .ok s' :=
  ⟨_, defragAll_idle wantsDefrag_init⟩

/-! ### totality: the `.corrupt` exits of the model ("the Go code would dereference nil / an unmapped page
    here") are unreachable — for the defragmentation pass too -/

/-- defragClass never fails on an evacuation order its selection rule accepts.  `choiceOk s c ev`
(Proofs/C20Total.lean) is the decidable acceptance test of defragClass itself, written as one Boolean: no
non-full page or nothing to move ⇒ only the empty order; otherwise `legalChoice` (distinct non-full pages
whose `used` values are those of the sorted prefix the selection loop takes).  From `Inv s` and an accepted
order every exit `.corrupt` of beginEvac (page missing), moveNext (page missing / not evacuating / slot below
brk neither saved-free nor live), allocSlot (nil list head / unmapped page), evacPage and endEvac
(scan ≠ brk) is unreachable; a rejected order fails with `.illegalChoice` before the state is touched. -/
theorem defragClass_total {V : Type} (s : State V) (inv : Inv s) (c : Nat) (hc : c < nClasses) (ev : List Nat) :
    (choiceOk s c ev = true → ∃ s', defragClass s c ev = .ok s') ∧
    (choiceOk s c ev = false → defragClass s c ev = .error .illegalChoice) :=
  ⟨fun h => Alloc.defragClass_total hc inv h, fun h => defragClass_illegal h⟩

/-- A whole DefragAllImproved pass succeeds from every state satisfying `Inv` exactly when the offered
choice is accepted class after class (`PassLegal`: class c's order satisfies `classLegal` — the trigger
test plus `choiceOk` — in the state in which the pass reaches class c).  So the hypothesis
`defragAll s ch = .ok s'` of `step_inv`, `contents_preserved`, `relocate_only_live` is equivalent to "the
evacuation orders are the ones the selection rule allows"; it hides no reachable `.corrupt` exit. -/
theorem defragAll_total {V : Type} (s : State V) (inv : Inv s) (ch : List (Nat × List Nat)) :
    (∃ s', defragAll s ch = .ok s') ↔
      PassLegal ch ({ s with relog := [] } : State V) (List.range nClasses) := by
  constructor
  · rintro ⟨s', h⟩; exact foldClass_legal _ _ s' h
  · exact step_total inv (op := .defrag ch)

/-- Whatever evacuation orders are offered, a pass from a state satisfying `Inv` either succeeds or is
rejected as `.illegalChoice`: it never reaches `.corrupt` (nor any other error). -/
theorem defragAll_never_corrupt {V : Type} (s : State V) (inv : Inv s) (ch : List (Nat × List Nat)) :
    (∃ s', defragAll s ch = .ok s') ∨ defragAll s ch = .error .illegalChoice := by
  exact foldClass_ok_or_illegal _ _ (fun x hx => List.mem_range.1 hx) (relogClear_inv inv)

/-- A started pass has no abort path, in the model AND in the source.  The model's pass has no step for "the OS
refused a fresh page while records were being moved": from a state satisfying `Inv` it ends in a state
satisfying `Inv` or is rejected, untouched, as `.illegalChoice`.  That mirrors the Go code only as long as the code
does not survive such a refusal half-way: from the statement that marks a page `evacuating` on, the free slots of
all selected pages are off every list, and only the end of the pass (pages unlinked and unmapped) repairs that.
`defragNoEarlyExit` is the regenerated source fact (go/cmd/gen_c20/abort.go) that in every function of
lib/others/memory that sets a header's `evacuating` flag no `return` follows that statement except the one that
closes the function body — the code's only other way out is `panic`, which stops the process (fail-stop; the
damaged state is never used).  An edit that turns the panic into a "graceful" early return makes the fact false
and this theorem stops compiling; the harness stream go/cmd/c20/fault.go (RLIMIT_AS follows the process size
during a pass, so mmap really fails) then looks for the concrete failing history. -/
theorem defrag_pass_has_no_abort_path {V : Type} (s : State V) (inv : Inv s) (ch : List (Nat × List Nat)) :
    defragNoEarlyExit = true ∧
    ((∃ s', defragAll s ch = .ok s' ∧ Inv s') ∨ defragAll s ch = .error .illegalChoice) := by
  refine ⟨by decide, (defragAll_never_corrupt s inv ch).imp_left ?_⟩
  rintro ⟨s', h⟩; exact ⟨s', h, defragAll_inv inv h⟩

-- non-vacuity: the hypothesis holds at the empty allocator (and at every reachable state: `alloc_inv`)
example : defragNoEarlyExit = true ∧
    ((∃ s', defragAll (init : State Nat) [] = .ok s' ∧ Inv s') ∨ defragAll (init : State Nat) [] = .error .illegalChoice) :=
  defrag_pass_has_no_abort_path init init_inv []

/-- An accepted choice always exists: from every state satisfying `Inv` there are evacuation orders (per class:
the non-full pages sorted by `used`, cut where the selection loop stops) with which the whole pass succeeds;
for a single class, some order satisfies `choiceOk`.  So `PassLegal` / `choiceOk` are satisfiable in every
reachable state — the defrag theorems are never vacuous for want of a legal order. -/
theorem accepted_choice_exists {V : Type} (s : State V) (inv : Inv s) :
    (∀ c, ∃ ev, choiceOk s c ev = true) ∧ ∃ ch s', defragAll s ch = .ok s' := by
  refine ⟨fun c => choiceOk_exists inv.g c, ?_⟩
  exact foldClass_exists (List.range nClasses) ({ s with relog := [] } : State V)
    List.nodup_range (fun x hx => List.mem_range.1 hx) (relogClear_inv inv)

/-- A trace whose operations are legal when issued — Free and owner writes name live pointers, defrag passes
offer accepted evacuation orders (`TraceLegal`, judged in the state each operation is issued in) — runs to
completion from every state satisfying `Inv`, and the final state satisfies `Inv`.  With `init_inv`: from the
empty allocator.  Hence `alloc_inv` / `rep_inv` / `counters_exact` (stated for `run init ops = .ok s`) apply to
every such trace. -/
theorem run_total {V : Type} (s : State V) (inv : Inv s) (ops : List (Op V)) (h : TraceLegal s ops) :
    ∃ s', run s ops = .ok s' ∧ Inv s' := run_total_aux ops s inv h

/-- Any trace at all, from the empty allocator: the run succeeds, or it stops at a caller error — Free / write
of a pointer that is not live (`.notLive`) or a rejected evacuation order (`.illegalChoice`).  The exits
`.corrupt`, `.pageReleaseBranch`, `.dispatchMismatch` are unreachable. -/
theorem run_never_corrupt {V : Type} (ops : List (Op V)) :
    (∃ s, run (init : State V) ops = .ok s) ∨ run (init : State V) ops = .error .notLive ∨
      run (init : State V) ops = .error .illegalChoice := run_ok_or_caller_aux ops init init_inv

-- non-vacuity: a legal trace with a Free of a live pointer and a (trivial) defrag pass; `PassLegal` is
-- satisfiable; a rejected order really is reported as `.illegalChoice`.
example : PassLegal ([] : List (Nat × List Nat)) ({ (init : State Nat) with relog := [] }) (List.range nClasses) :=
  (defragAll_total init init_inv []).1 ⟨_, defragAll_idle wantsDefrag_init⟩
example : TraceLegal (init : State Nat) [.defrag [], .malloc 10] :=
  ⟨(defragAll_total init init_inv []).1 ⟨_, defragAll_idle wantsDefrag_init⟩,
    fun _ _ => ⟨trivial, fun _ _ => trivial⟩⟩
example : ∃ (s : State Nat) (a : Addr), Inv s ∧ TraceLegal s [.free a, .malloc 5] := by
  obtain ⟨s', a, _, _, i1, _, hl⟩ := ex_malloc_live (V := Nat) 10
  exact ⟨s', a, i1, hl, fun _ _ => ⟨trivial, fun _ _ => trivial⟩⟩
example : choiceOk (init : State Nat) 0 [] = true ∧ choiceOk (init : State Nat) 0 [1] = false := by
  simp [choiceOk, State.K, init]

/-- A relocating defragClass pass, inside Lean (non-vacuity of the relocation branch of `relocate_step`,
`contents_preserved`, `relocate_only_live` and of `defragClass_total`).  From the empty allocator `Malloc(131040)`
reaches `s1` (class 49, 8 slots per page, the record in slot (page 1, slot 0)); defragClass of class 49 accepts the
evacuation order [page 1], relocates the record to (page 2, slot 0) — exactly one relocate call is logged, the
new slot is live with the same size and value and a correct slice header, the old one is not, page 1 is
unmapped — and both states satisfy `Inv`.  Evaluated by `simp` with the map laws (Std.HashMap does not reduce
in the kernel).  `s1` is below the 12 MB trigger of DefragAllImproved (`wantsDefrag`), so this is a pass of
defragClass, not of `defragAll`: a reachable state above the trigger needs a trace of > 200 operations;
such passes are exercised by the correspondence run only (evidence `defrag:pass relocated=…`). -/
theorem relocating_pass_witness :
    ∃ (s1 s' : State Nat), run init [.malloc 131040] = .ok s1 ∧ Inv s1 ∧
      choiceOk s1 49 [1] = true ∧ defragClass s1 49 [1] = .ok s' ∧ Inv s' ∧
      s'.relog = [(Addr.sh 1 0, Addr.sh 2 0)] ∧
      s1.live.get? (.sh 1 0) = some ⟨131040, none⟩ ∧
      s'.live.get? (.sh 2 0) = some ⟨131040, none⟩ ∧ s'.live.get? (.sh 1 0) = none ∧
      s'.pages.get? 1 = none ∧
      s'.mem.get? (.sh 2 0) = some ⟨some (.sh 2 0), 131040, 131040, none⟩ := by
  have hrun : run (init : State Nat) [.malloc 131040] = .ok exS1 := by
    simp [run, foldE, step, exS1_malloc]
  have i1 : Inv exS1 := alloc_inv _ _ hrun
  obtain ⟨f1, f2, f3, f4, f5⟩ := exS2_facts
  exact ⟨exS1, exS2, hrun, i1, exS1_choice, exS1_defrag, defragClass_inv (by decide) i1 exS1_defrag,
    f1, by simp [exS1, KMap.get?_set], f2, f3, f4, f5⟩

/-- Malloc never hands out memory that is live: the returned slot was not live before, it is a slot of
a mapped page below `brk ≤ cap` (hence inside the page, `slots_disjoint_inside_page`), or a fresh
private mapping. Together with `slots_disjoint_inside_page` no two live allocations overlap. -/
theorem malloc_fresh {V : Type} (s s' : State V) (size : Nat) (a : Addr) (inv : Inv s)
    (hr : malloc s size = .ok (s', a)) :
    ¬ s.isLive a ∧ s'.isLive a ∧
    (∀ p i, a = .sh p i → ∃ h, s'.pages.get? p = some h ∧ h.cls < nClasses ∧ i < h.brk ∧ h.brk ≤ capOf h.cls) := by
  obtain ⟨i1, i2, i3⟩ := malloc_inv inv hr
  have hl : s'.isLive a := by simp [State.isLive, i3, KMap.get?_set]
  refine ⟨i2, hl, ?_⟩
  intro p i e; subst e
  obtain ⟨l, hq⟩ := Option.isSome_iff_exists.mp hl
  obtain ⟨m, _, _, _, _, _, h, g1, g2, _⟩ := i1.g.live _ l hq
  have ok := i1.g.pages p h g1
  exact ⟨h, g1, ok.cls_lt, g2, ok.brk_le⟩

/-- Shape of every live allocation's slice: Data points to this slot's payload, Len is the requested
size, Cap ≥ size, and the payload is what the owner wrote last. -/
theorem slice_shape {V : Type} (s : State V) (inv : Inv s) (a : Addr) (l : LiveRec V)
    (hl : s.live.get? a = some l) :
    ∃ m, s.mem.get? a = some m ∧ m.data = some a ∧ m.len = l.size ∧ l.size ≤ m.cap ∧ m.val = l.val := by
  obtain ⟨m, h1, h2, h3, h4, h5, _⟩ := inv.g.live a l hl
  exact ⟨m, h1, h2, h3, h5, h4⟩

/-- The free lists hold exactly the non-live slots below brk, the global list exactly the per-page
entries, and the header counters equal the counted values. -/
theorem free_lists_exact {V : Type} (s : State V) (inv : Inv s) (p : Nat) (h : Page)
    (hp : s.pages.get? p = some h) :
    (∀ i, i < h.brk → (i ∈ h.freeList ↔ ¬ s.isLive (.sh p i))) ∧
    (∀ i, (p, i) ∈ (s.K h.cls).glist ↔ i ∈ h.freeList) ∧
    h.freeList.Nodup ∧ h.freeList.length + h.used = h.brk ∧ h.used + h.free = capOf h.cls ∧
    h.brk ≤ capOf h.cls ∧ (s.K h.cls).pageCount = (s.K h.cls).plist.length ∧ p ∈ (s.K h.cls).plist := by
  have ok := inv.g.pages p h hp
  have okc := inv.g.classes h.cls
  have ne := ok.ne (inv.noEvac p h hp)
  refine ⟨ne.1, ?_, ok.fl_nodup, ne.2.1, ne.2.2, ok.brk_le, okc.count, ok.in_plist⟩
  intro i; rw [okc.gl_iff]
  constructor
  · rintro ⟨h0, a, _, _, d⟩; rw [hp] at a; cases a; exact d
  · intro d; exact ⟨h, hp, rfl, inv.noEvac p h hp, d⟩

/-- The uint16 header counters never wrap: they stay ≤ cap < 2^16 (so modelling them as naturals is exact).
NOT covered: the uint32 class counters `a.freeSlots[class]` / `a.pageCount[class]` are naturals in the model
and no theorem bounds them; freeSlots[class] ≤ pageCount·cap and a page is 1 MiB (2^pageSizeLog), so a wrap
needs 2^32 free slots of one class = at least 2^32·96 bytes ≈ 390 GB of mapped pages of that class — assumed
not to happen, stated here, proved nowhere. -/
theorem counters_fit {V : Type} (s : State V) (inv : Inv s) (p : Nat) (h : Page)
    (hp : s.pages.get? p = some h) : h.brk < 2 ^ brkBits ∧ h.used < 2 ^ usedBits ∧ h.free < 2 ^ freeBits := by
  obtain ⟨_, _, _, h4, h5, h6, _, _⟩ := free_lists_exact s inv p h hp
  have ok := inv.g.pages p h hp
  obtain ⟨_, _, t3, t4, t5, _⟩ := table_wf.2.2.1 h.cls ok.cls_lt
  refine ⟨?_, ?_, ?_⟩ <;> omega

/-- Allocs equals the number of live allocations. -/
theorem allocs_eq_live {V : Type} (s : State V) (inv : Inv s) : s.allocs = s.live.size := inv.allocs

/-- Free of a live pointer always succeeds in the model: it never reaches the "page is completely free"
branch of uintptrFreeShared (`used == 0`), never takes the wrong private/shared path, never touches an
unmapped page. -/
theorem free_never_fails {V : Type} (s : State V) (inv : Inv s) (a : Addr) (hl : s.isLive a) :
    ∃ s', free s a = .ok s' := free_total inv hl

/-- Malloc / Free / owner writes do not move or change other allocations: a live allocation that the
operation does not name stays live at the same address with the same size and last-written value. -/
theorem others_untouched {V : Type} (s s' : State V) (op : Op V) (inv : Inv s)
    (hr : step s op = .ok s') (a : Addr) (l : LiveRec V) (hl : s.live.get? a = some l)
    (hop : ∀ ch, op ≠ .defrag ch) (hf : op ≠ .free a) (hw : ∀ v, op ≠ .write a v) :
    s'.live.get? a = some l := by
  cases op with
  | malloc size =>
    obtain ⟨b, hm⟩ := step_malloc_ok hr
    obtain ⟨_, i2, i3⟩ := malloc_inv inv hm
    rw [i3, KMap.get?_set]; split
    · next e => subst e; simp [State.isLive, hl] at i2
    · exact hl
  | free b =>
    obtain ⟨_, _, i3⟩ := free_inv inv hr
    rw [i3, KMap.get?_del]; split
    · next e => subst e; exact absurd rfl hf
    · exact hl
  | write b v =>
    obtain ⟨_, l', _, i3⟩ := write_inv inv hr
    rw [i3, KMap.get?_set]; split
    · next e => subst e; exact absurd rfl (hw v)
    · exact hl
  | defrag ch => exact absurd rfl (hop ch)

/-- Contents preserved by every operation, defragmentation passes included, and relocate is invoked
exactly once per moved allocation: an allocation that is live before the step and is not the one being
freed / rewritten by its owner is live after the step with the same size and the same last-written
value — at the same address (and, for a defrag pass, no relocate call names it as old), or, for a defrag
pass only, at `a'` where relocate(a, a') was logged, no other logged call of the pass has `a` as old
(`a` occurs exactly once among the olds of the log) and `a` itself is no longer live.  The memory at
that address holds exactly that value, with Len = size, Cap ≥ size and Data = that slot's payload. -/
theorem contents_preserved {V : Type} (s s' : State V) (op : Op V) (inv : Inv s)
    (hr : step s op = .ok s') (a : Addr) (l : LiveRec V) (hl : s.live.get? a = some l)
    (hf : op ≠ .free a) (hw : ∀ v, op ≠ .write a v) :
    ∃ a' m, s'.live.get? a' = some l ∧
      ((a' = a ∧ ∀ ch, op = .defrag ch → ∀ n, (a, n) ∉ s'.relog) ∨
       ((∃ ch, op = .defrag ch) ∧ (a, a') ∈ s'.relog ∧ s'.live.get? a = none ∧
         (∀ n', (a, n') ∈ s'.relog → n' = a') ∧ (s'.relog.map Prod.fst).count a = 1)) ∧
      s'.mem.get? a' = some m ∧ m.val = l.val ∧ m.len = l.size ∧ l.size ≤ m.cap ∧ m.data = some a' := by
  have inv' := step_inv s s' op inv hr
  have fin : ∀ a', s'.live.get? a' = some l →
      ∃ m, s'.mem.get? a' = some m ∧ m.val = l.val ∧ m.len = l.size ∧ l.size ≤ m.cap ∧ m.data = some a' := by
    intro a' h1
    obtain ⟨m, g1, g2, g3, g4, g5⟩ := slice_shape s' inv' a' l h1
    exact ⟨m, g1, g5, g3, g4, g2⟩
  by_cases hd : ∃ ch, op = .defrag ch
  · obtain ⟨ch, e⟩ := hd
    subst e
    rcases defragAll_exactly_once inv hr a l hl with ⟨x, y⟩ | ⟨n, x1, x2, x3, x4, x5⟩
    · obtain ⟨m, hm⟩ := fin a x
      exact ⟨a, m, x, Or.inl ⟨rfl, fun _ _ => y⟩, hm⟩
    · obtain ⟨m, hm⟩ := fin n x2
      exact ⟨n, m, x2, Or.inr ⟨⟨ch, rfl⟩, x1, x3, x4, x5⟩, hm⟩
  · have hop : ∀ ch, op ≠ .defrag ch := fun ch e => hd ⟨ch, e⟩
    have x := others_untouched s s' op inv hr a l hl hop hf hw
    obtain ⟨m, hm⟩ := fin a x
    exact ⟨a, m, x, Or.inl ⟨rfl, fun ch e => absurd e (hop ch)⟩, hm⟩

/-- Every relocate call of a pass was for a live allocation and delivered it: for each logged
relocate(old,new), `old` was live before the pass with some record, after the pass `new` is live with
that record and `old` is not live; the `old`s of the log are pairwise different. -/
theorem relocate_only_live {V : Type} (s s' : State V) (ch : List (Nat × List Nat)) (inv : Inv s)
    (hr : defragAll s ch = .ok s') :
    (s'.relog.map Prod.fst).Nodup ∧
    ∀ o n, (o, n) ∈ s'.relog →
      ∃ l, s.live.get? o = some l ∧ s'.live.get? o = none ∧ s'.live.get? n = some l := by
  obtain ⟨B, o⟩ := defragAll_once inv hr
  exact ⟨o.olds_nodup, o.entry⟩

/-- One iteration of defragClass's slot loop (model `moveNext`) on an evacuating page of class c: the
invariant (`InvG` = `Inv` without "no page is evacuating") is kept, Allocs and the number of live
allocations are unchanged, and either nothing moved (the slot was on the saved free set; live set, log
and memory untouched) or exactly one live allocation `old = (pg, i)` moved: its record (size, last-written
value) is now at `new`, which was not live before; `old` is no longer live; no other live allocation
changed; memory of every allocation that was live is untouched; relocate(old,new) was logged exactly
once by this iteration.  By `InvG` of the new state (`LiveOk`) the memory at `new` holds the same value
with Len = size, Cap ≥ size and Data = new slot + header. -/
theorem relocate_step {V : Type} (s s' : State V) (c pg : Nat) (inv : InvG s) (hc : c < nClasses)
    (hcls : ∀ h, s.pages.get? pg = some h → h.evac = true → h.cls = c)
    (hr : moveNext s c pg = .ok s') :
    InvG s' ∧ s'.allocs = s.allocs ∧ s'.live.size = s.live.size ∧
    ((s'.live = s.live ∧ s'.relog = s.relog ∧ s'.mem = s.mem) ∨
     (∃ i new l, s.live.get? (.sh pg i) = some l ∧ ¬ s.isLive new ∧
        s'.relog = (.sh pg i, new) :: s.relog ∧
        s'.live.get? new = some l ∧ s'.live.get? (.sh pg i) = none ∧
        (∀ b, b ≠ new → b ≠ .sh pg i → s'.live.get? b = s.live.get? b) ∧
        (∀ b, s.isLive b → s'.mem.get? b = s.mem.get? b))) := by
  have A := moveNext_invG inv hc hcls hr
  exact ⟨A.inv, A.allocs, A.size, A.moved⟩

/-! ### the pointer layer (`State.heap`): doubly linked lists as the code stores them -/

/-- Representation invariant: in every state reached by any sequence of Malloc / Free / owner writes /
defragmentation passes, the pointer structure the code maintains — `a.lists[class]`, each free slot's
`node.prev/next` (global list) and `node.prevInPage/nextInPage` (per-page list), each page header's
`freeList` and `prev/next` (page chain), `firstPage/lastPage[class]` — spells exactly the abstract lists of the
model: following `next` from `lists[class]` visits exactly `glist`, following `nextInPage` from
`header.freeList` visits exactly the page's `freeList`, following `header.next` from `firstPage[class]`
visits exactly `plist` with `lastPage[class]` its last element, every `prev`/`prevInPage`/`header.prev` is
the predecessor (nil for the first node).  The link writes are the ones the Go source
contains (`Gen.MemClasses.lnk*`, regenerated on every run): the proof needs every back-link write
(`next.prev = p` reachable from Free, `next.prev = 0` in the pops reachable from Malloc and from
DefragAllImproved, the `prev`-direction writes of the removals reachable from DefragAllImproved) — without one of them this theorem does not compile. -/
theorem rep_inv {V : Type} (ops : List (Op V)) (s : State V) (hr : run init ops = .ok s) : Rep s :=
  (run_invs hr).2.1

/-- One step keeps the representation invariant. -/
theorem rep_step {V : Type} (s s' : State V) (op : Op V) (inv : Inv s) (r : Rep s)
    (hr : step s op = .ok s') : Rep s' := step_rep inv r hr

/-- non-vacuity at a state with a mapped page and a live record (at `init` no page exists) -/
example : Inv exS1 ∧ Rep exS1 ∧ ∃ s', step exS1 (.malloc 131040) = .ok s' := by
  have i := alloc_inv _ _ exS1_run
  exact ⟨i, rep_inv _ _ exS1_run, step_total i (op := .malloc 131040) trivial⟩

/-- What the code reads through pointers is what the list model says: `a.lists[class]` is the head of
`glist` (so the slot Malloc pops is the model's), walking `next` / `nextInPage` with enough fuel yields
`glist` / the page's free list (so the set `freeSlotsArr` that defragClass collects and the nodes it
unlinks are the model's `saved` / filtered entries), and the lists are consistently doubly linked: the
first node's back pointer is nil and `n.next.prev = n`, `n.nextInPage.prevInPage = n` for every node —
the property whose loss (a dropped `next.prev = p`) lets a later middle-of-list removal truncate the
global free list. -/
theorem pointer_reads_agree {V : Type} (s : State V) (r : Rep s) :
    (∀ c, (s.heap.C c).lists = (s.K c).glist.head?) ∧
    (∀ c f, (s.K c).glist.length ≤ f → walk (nxG s.heap) f (s.heap.C c).lists = (s.K c).glist) ∧
    (∀ p h f, s.pages.get? p = some h → h.freeList.length ≤ f →
      walk (nxP s.heap) f (s.heap.H p).freeList = h.freeList.map (Prod.mk p)) ∧
    (∀ c x, x ∈ (s.K c).glist →
      (pvG s.heap x = none ↔ (s.heap.C c).lists = some x) ∧
      (∀ y, nxG s.heap x = some y → y ∈ (s.K c).glist ∧ pvG s.heap y = some x) ∧
      (∀ y, pvG s.heap x = some y → y ∈ (s.K c).glist)) ∧
    (∀ p h i, s.pages.get? p = some h → i ∈ h.freeList →
      (pvP s.heap (p, i) = none ↔ (s.heap.H p).freeList = some (p, i)) ∧
      (∀ y, nxP s.heap (p, i) = some y → y.1 = p ∧ y.2 ∈ h.freeList ∧ pvP s.heap y = some (p, i))) := by
  refine ⟨fun c => (r.glob c).head, fun c f hf => (r.glob c).walk f hf, ?_, ?_, ?_⟩
  · intro p h f hp hf
    exact (r.page p h hp).walk f (by rw [List.length_map]; exact hf)
  · intro c x hx
    exact ⟨(r.glob c).pv_none_iff x hx,
      fun y hy => ⟨(r.glob c).nx_in x hx y hy, (r.glob c).back x hx y hy⟩,
      fun y hy => (r.glob c).pv_in x hx y hy⟩
  · intro p h i hp hi
    have hm : (p, i) ∈ h.freeList.map (Prod.mk p) := by simp [hi]
    refine ⟨(r.page p h hp).pv_none_iff _ hm, ?_⟩
    intro y hy
    have := mem_mk ((r.page p h hp).nx_in _ hm y hy)
    exact ⟨this.1, this.2, (r.page p h hp).back _ hm y hy⟩

/-- The page chain: `firstPage[class]` / `lastPage[class]` are the first / last element of the class's
page list, walking `header.next` from `firstPage` visits exactly the page list (what defragClass scans
to collect the non-full pages), and the chain is consistently doubly linked (`header.next.prev = header`,
the first page's `prev` is nil). -/
theorem page_chain_agrees {V : Type} (s : State V) (r : Rep s) :
    (∀ c, (s.heap.C c).first = (s.K c).plist.head? ∧ (s.heap.C c).last = (s.K c).plist.getLast?) ∧
    (∀ c f, (s.K c).plist.length ≤ f → walk (nxH s.heap) f (s.heap.C c).first = (s.K c).plist) ∧
    (∀ c p, p ∈ (s.K c).plist →
      (pvH s.heap p = none ↔ (s.heap.C c).first = some p) ∧
      (∀ q, nxH s.heap p = some q → q ∈ (s.K c).plist ∧ pvH s.heap q = some p)) :=
  ⟨fun c => ⟨(r.plist c).head, r.last c⟩, fun c f hf => (r.plist c).walk f hf,
   fun c p hp => ⟨(r.plist c).pv_none_iff p hp,
     fun q hq => ⟨(r.plist c).nx_in p hp q hq, (r.plist c).back p hp q hq⟩⟩⟩

example : Rep (init : State Nat) := init_rep

/-- The node writes of the pointer layer are contained in the `clobber` sets.  "A live allocation keeps its
bytes" (`contents_preserved`, `slice_shape`) is a statement about `State.mem`; the allocator writes `mem` only
through `clobber s.mem wr` in allocSlot / freeSlot / beginEvac, while the link writes themselves are the `setN`
calls inside hPop / hPush / hPurge on `State.heap`.  This theorem ties the two: in each primitive transition
every step is composed of, every slot y whose node (`heap.N y`: prev, next, prevInPage, nextInPage) is changed
by the heap operation holds `junk` in `mem` afterwards, i.e. it is in the `wr` list of that transition — the
lists are not too small.  (newPage / endEvac write page headers only: no node changes.)  `InvG` / `Rep` hold at
every such point of every reachable run (`alloc_inv`, `rep_inv` and the per-transition lemmas of
Proofs/C20Inv, C20Ptr).  Since a clobbered slot that is live would lose `LiveOk` (Data = slot), which `alloc_inv`
proves is kept, no node write ever lands in a live allocation. -/
theorem node_writes_clobbered {V : Type} (s : State V) (inv : InvG s) (r : Rep s) :
    (∀ c s' p i, allocSlot s c = .ok (s', p, i) →
      ∀ y, s'.heap.N y ≠ s.heap.N y → s'.mem.get? (.sh y.1 y.2) = some junk) ∧
    (∀ p i h, s.pages.get? p = some h →
      ∀ y, (freeSlot s p i h).heap.N y ≠ s.heap.N y → (freeSlot s p i h).mem.get? (.sh y.1 y.2) = some junk) ∧
    (∀ c pg s', beginEvac s c pg = .ok s' →
      ∀ y, s'.heap.N y ≠ s.heap.N y → s'.mem.get? (.sh y.1 y.2) = some junk) ∧
    (∀ c y, (newPage s c).heap.N y = s.heap.N y) ∧
    (∀ c pg s', endEvac s c pg = .ok s' → ∀ y, s'.heap.N y = s.heap.N y) :=
  ⟨fun _ _ _ _ hr y hy => allocSlot_writes_clobbered inv r hr y hy,
   fun _ _ _ hp y hy => freeSlot_writes_clobbered r hp y hy,
   fun _ _ _ hr y hy => beginEvac_writes_clobbered inv r hr y hy,
   fun c y => newPage_writes_none s c y,
   fun _ _ _ hr y => endEvac_writes_none hr y⟩

example : InvG (init : State Nat) ∧ Rep (init : State Nat) := ⟨init_invG, init_rep⟩
/-- Non-vacuity away from `init` (where allocSlot fails and no page exists): in the reachable state `exS1`
(Proofs/C20Example: one page of class 49 with one live record) the hypotheses hold, allocSlot and beginEvac
succeed; and in the reachable state after Malloc, Malloc, Free(1,0) a freeSlot of (1,1) really changes the node
of ANOTHER slot — `(1,0).prev` — which by the theorem holds `junk` afterwards. -/
example : (InvG exS1 ∧ Rep exS1) ∧ (∃ r, allocSlot exS1 49 = .ok r) ∧ (∃ s', beginEvac exS1 49 1 = .ok s') ∧
    (∃ h, exS1.pages.get? 1 = some h) ∧
    ∃ (s : State Nat) (h : Page), InvG s ∧ Rep s ∧ s.pages.get? 1 = some h ∧
      (freeSlot s 1 1 h).heap.N (1, 0) ≠ s.heap.N (1, 0) ∧
      (freeSlot s 1 1 h).mem.get? (.sh 1 0) = some junk := by
  obtain ⟨s, h, hr, hp, hn⟩ := exFree_changes_node
  have i := (alloc_inv _ _ hr).g
  have r := rep_inv _ _ hr
  exact ⟨⟨(alloc_inv _ _ exS1_run).g, rep_inv _ _ exS1_run⟩, exS1_allocSlot, exS1_beginEvac,
    by simp [exS1, KMap.get?_set], s, h, i, r, hp, hn,
    (node_writes_clobbered s i r).2.1 1 1 h hp (1, 0) hn⟩

/-- The allocator's accounting equals the counted values in every reachable state: Allocs = number of
live allocations, freeSlots[class] = Σ header.free over the pages of the class's page list, SharedMmaps =
number of mapped shared pages, PrivateMmaps = number of private mappings, Bytes = pageSize · (shared
pages) + Σ mapped sizes of the private mappings (`KMap.total`). -/
theorem counters_exact {V : Type} (ops : List (Op V)) (s : State V) (hr : run init ops = .ok s) :
    s.allocs = s.live.size ∧
    (∀ c, ((s.K c).freeSlots : Int) = ((s.K c).plist.map (freeOf s)).sum) ∧
    s.sharedMmaps = (s.pages.size : Int) ∧ s.privMmaps = (s.privs.size : Int) ∧
    s.bytes = ((pageSize * s.pages.size + s.privs.total : Nat) : Int) := by
  obtain ⟨i, _, c⟩ := run_invs hr
  exact ⟨i.allocs, c.fs, c.sm, c.pm, c.byt⟩

/-- One step keeps the counter invariant. -/
theorem counters_step {V : Type} (s s' : State V) (op : Op V) (inv : Inv s) (cn : Cnt s)
    (hr : step s op = .ok s') : Cnt s' := step_cnt inv cn hr

example : Cnt (init : State Nat) := init_cnt
/-- non-vacuity at a state with a mapped page and a live record; counters there are 1 alloc, 1 shared mmap, 7 free slots -/
example : Inv exS1 ∧ Cnt exS1 ∧ (∃ s', step exS1 (.malloc 131040) = .ok s') ∧
    exS1.allocs = 1 ∧ exS1.sharedMmaps = 1 := by
  have i := alloc_inv _ _ exS1_run
  exact ⟨i, (run_invs exS1_run).2.2, step_total i (op := .malloc 131040) trivial, rfl, rfl⟩

/-! ### the per-class mutex is the mutex of the class that is edited (checked source fact) -/

/-- Malloc on the shared path locks the mutex OF THE CLASS IT EDITS.  `mallocLockSel` is the index expression
of the `a.classMu[…].Lock()` reached from Malloc, `mallocEditSel` the index expression of every per-class slice
access of Malloc and of the package functions it calls (calls are followed, whatever the helpers are named), both
regenerated from the source on every run in the name-free normal form of go/cmd/gen_c20/canon.go;
`mallocLockBrackets` says that on every control path the mutex is locked at most once, all those accesses AND
every access to a field of a page header / free-list node (`H(…).f`, `N(…).f` in the normal form — used, brk,
free, freeList, evacuating, the link fields — or memory behind a pointer the translator cannot classify;
reads in conditions included; calls followed; nothing of it inside a goroutine started by a callee) happen
while it is held, the only exception being the read of the header's `class` byte that selects the mutex, and
Malloc is left with the mutex released.  Not pinned by the fact: the slot's own slice header (written by
Malloc after Unlock — the slot is the caller's by then), accesses through function values or from other
packages, and what the hardware does with the accesses (the memory model).  Both
terms denote the same class c, and c is exactly the class on which the model's Malloc step operates
(`allocLive … c`), so treating the call as one atomic step of class c (as `alloc_inv` and every op-sequence
theorem of this file does) is justified by the source, not by prose. -/
theorem malloc_locks_own_class {V : Type} (s : State V) (size : Nat) (h : size + sliceHdrLen ≤ maxShared) :
    mallocLockBrackets = true ∧
    ∃ c, c < nClasses ∧ selMalloc mallocLockSel size = some c ∧ selMalloc mallocEditSel size = some c ∧
      malloc s size = allocLive { s with allocs := s.allocs + 1 } c size (slotSize c - sliceHdrLen) none :=
  ⟨by decide, _, (classOf_spec _ h).1, selMalloc_good (by decide) size h, selMalloc_good (by decide) size h,
   malloc_shared_eq s size h⟩

/-- Free of a live shared allocation locks the mutex OF THE CLASS IT EDITS.  `freeLockSel` is the index
expression of the `a.classMu[…].Lock()` in Free, `freeEditSel` the index expression of every per-class slice
access reachable from Free (calls followed; regenerated from the source on every run), `freeLockBrackets` says
that on every control path the mutex is locked at most once, all those accesses and every access to page
header / node memory (as for `mallocLockBrackets`; Free reads `H(page p).class` before `Lock()` to choose the
mutex — the one permitted access outside) happen while it is held, and
Free is left with the mutex released.  In every reachable state (`Inv`) both terms denote the
class byte `h.cls` of the header of the page holding the slot; the model's Free step is `freeSlot … h`, which
edits the lists and counters of class `h.cls` and leaves every other class's state alone.  The proof accepts
the two selection terms known to be right (the page header's class byte, or `getSizeClass(Cap + sliceHdrLen)`
— by `Inv` a live slot's Cap + 24 is its class's slot size and `classOf_slotSize`); for any other term, e.g.
`getSizeClass(Cap)` (which is a different class for some slots: `classOf_cap_differs`), it does not compile. -/
theorem free_locks_own_class {V : Type} (s : State V) (inv : Inv s) (p i : Nat) (hl : s.isLive (.sh p i)) :
    freeLockBrackets = true ∧
    ∃ h, s.pages.get? p = some h ∧ h.cls < nClasses ∧
      selFree freeLockSel s (.sh p i) = some h.cls ∧ selFree freeEditSel s (.sh p i) = some h.cls ∧
      free s (.sh p i) =
        .ok (freeSlot { s with allocs := s.allocs - 1, live := s.live.del (.sh p i) } p i h) ∧
      ∀ c, c ≠ h.cls →
        (freeSlot { s with allocs := s.allocs - 1, live := s.live.del (.sh p i) } p i h).K c = s.K c := by
  obtain ⟨l, hq⟩ := Option.isSome_iff_exists.mp hl
  obtain ⟨h, g1, g2, g3⟩ := selFree_good (e := freeLockSel) (by decide) inv.g hq
  obtain ⟨h', g1', _, g3'⟩ := selFree_good (e := freeEditSel) (by decide) inv.g hq
  obtain ⟨h'', g1'', g4⟩ := free_shared_eq inv hq
  rw [g1] at g1' g1''; cases g1'; cases g1''
  exact ⟨by decide, h, g1, g2, g3, g3', g4, fun c hc => freeSlot_other _ p i h c hc⟩

example : (10 : Nat) + sliceHdrLen ≤ maxShared := by decide
example : ∃ (s : State Nat) (p i : Nat), Inv s ∧ s.isLive (.sh p i) :=
  ⟨exS1, 1, 0, alloc_inv _ _ exS1_run, by simp [State.isLive, exS1, KMap.get?_set]⟩

/-! ## The allocator as wired into the node (client/common/config.go)

`Model/AllocNode.lean`: the configuration state machine of the three wiring variables `common.Memory`,
`utxo.Memory_Malloc`, `utxo.Memory_Free`.  Its transitions consult the regenerated source facts
`Gen.MemWire.*` (go/cmd/gen_c20/wire.go: who writes the three variables and from where those writers are
reachable), so the statements below are about what the CURRENT source does on a run-time config change. -/

open AllocNode in
/-- The regenerated facts say: no writer of the wiring variables is reachable from `common.Reset` or from any
other run-time path, `InitConfig` runs once, and Malloc / Free are bound to the allocator stored in
`common.Memory`.  (When the source moves the wiring block into Reset(), re-creates the allocator in a command
handler, or binds Free to another allocator, this stops compiling.) -/
theorem node_wiring_facts : srcFacts.Stable := by unfold Facts.Stable; decide

open AllocNode in
/-- For every start-up mode and EVERY history of run-time operations afterwards (config changes through
`Reset()`, any other entry point, Malloc, Free, defragmentation, even a repeated InitConfig): Malloc and Free
stay bound to the same place; when the node has an allocator to report on (`common.Memory`), that allocator
is the one both are bound to, every live record was allocated by it, and its `Allocs` equals the number of live
records; when it has none, both are the Go-heap defaults and no record lives in an allocator. -/
theorem node_wiring_stable (useGoHeap : Bool) (ops : List Op) :
    Wired (run srcFacts (step srcFacts Node.empty (.initConfig useGoHeap)) ops) :=
  (wired_run srcFacts node_wiring_facts ops _ (started_init _ _) (wired_init _ node_wiring_facts _)).1

open AllocNode in
/-- "The allocator's count of live allocations always equals the number actually live", at the node: the
counter of the allocator the node reports on and defragments is the number of records handed out through
`utxo.Memory_Malloc` and not yet returned through `utxo.Memory_Free`, after any history. -/
theorem node_reported_allocs_exact (ops : List Op) :
    let s := run srcFacts (step srcFacts Node.empty (.initConfig false)) ops
    reportedAllocs s = some (s.live.length : Int) := by
  intro s
  have w := node_wiring_stable false ops
  have hr := (reporting_run srcFacts node_wiring_facts ops _ (started_init srcFacts false)).1
  have h0 : (step srcFacts Node.empty (.initConfig false)).reporting = some 0 := by
    simp [AllocNode.step, Node.empty, rewire]
  have e : s.reporting = some 0 := hr.trans h0
  have hrep := w.rep
  rw [e] at hrep
  show Option.map _ s.reporting = _
  rw [e]
  simp only [Option.map_some]
  exact congrArg some hrep.2.2.1

open AllocNode in
/-- The allocator created at start-up is never replaced: after any history `common.Memory`, the Malloc binding
and the Free binding are what InitConfig left. -/
theorem node_allocator_never_replaced (useGoHeap : Bool) (ops : List Op) :
    let s0 := step srcFacts Node.empty (.initConfig useGoHeap)
    let s := run srcFacts s0 ops
    s.reporting = s0.reporting ∧ s.mallocTo = s0.mallocTo ∧ s.freeTo = s0.freeTo :=
  reporting_run srcFacts node_wiring_facts ops _ (started_init _ _)

open AllocNode in
/-- Each fact is needed (so the theorems above are sensitive to the source): with a wiring block reachable
from Reset(), one config change after one Malloc leaves the reported allocator at Allocs = 0 with one record
live, and freeing that record drives it to −1 (Free accepts the foreign slot); the same through any other
run-time writer; with a second InitConfig; and with Free bound elsewhere than Malloc the count never falls. -/
theorem node_wiring_facts_needed :
    (∀ f : Facts, f.resetRewires = true → f.paired = true →
      let s := run f (step f Node.empty (.initConfig false)) [.malloc, .reset false]
      reportedAllocs s = some 0 ∧ s.live.length = 1 ∧
      reportedAllocs (step f s (.free 0)) = some (-1) ∧ (step f s (.free 0)).live.length = 0) ∧
    (∀ f : Facts, f.runtimeRewires = true → f.paired = true →
      let s := run f (step f Node.empty (.initConfig false)) [.malloc, .other false]
      reportedAllocs s = some 0 ∧ s.live.length = 1) ∧
    (∀ f : Facts, f.initOnce = false → f.paired = true →
      let s := run f (step f Node.empty (.initConfig false)) [.malloc, .initConfig false]
      reportedAllocs s = some 0 ∧ s.live.length = 1) ∧
    (∀ f : Facts, f.paired = false →
      let s := run f (step f Node.empty (.initConfig false)) [.malloc, .free 0]
      reportedAllocs s = some 1 ∧ s.live.length = 0) := by
  refine ⟨?_, ?_, ?_, ?_⟩ <;> intro f <;> rcases f with ⟨a, b, c, d⟩ <;>
    cases a <;> cases b <;> cases c <;> cases d <;> decide

end GocoinV.Props.C20
