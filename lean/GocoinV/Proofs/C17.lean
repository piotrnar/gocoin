/-
  Proofs.C17 — the balance index of client/wallet (Model/Balances.lean: NewUTXO, all_del_utxos, GetAllUnspent) is the
  projection of the unspent set: the relation between index and coin set, kept output by output, record by record and event
  by event of the UTXO change stream, and what GetAllUnspent reads off the index under it. Core Lean only.
-/
import GocoinV.Spec.Balances
import GocoinV.Base.Assoc
import GocoinV.Base.Bytes
namespace GocoinV.Proofs.C17
open GocoinV.Model.Balances

/-! ### association lists -/

theorem aget_eq {κ β : Type} [DecidableEq κ] (k : κ) (l : List (κ × β)) : aget k l = Assoc.lookup l k :=
  Assoc.lookup_unique (fun l k => aget k l) (fun _ => rfl) (fun _ _ _ _ => rfl) l k

theorem aget_adel {κ β : Type} [DecidableEq κ] (k k' : κ) (l : List (κ × β)) :
    aget k' (adel k l) = if k' = k then none else aget k' l := by
  rw [aget_eq, aget_eq, adel, Assoc.lookup_filter (fun x => decide (x ≠ k))]
  by_cases h : k' = k <;> simp [h]

theorem aget_aset {κ β : Type} [DecidableEq κ] (k k' : κ) (v : β) (l : List (κ × β)) :
    aget k' (aset k v l) = if k' = k then some v else aget k' l := by
  rw [aset, aget, aget_adel]
  by_cases h : k' = k <;> simp [h, Ne.symm]

theorem aget_none_ne {κ β : Type} [DecidableEq κ] (k : κ) (l : List (κ × β)) (h : aget k l = none) :
    ∀ q ∈ l, q.1 ≠ k :=
  fun q hq e => (Assoc.lookup_eq_none_iff l k).mp (aget_eq k l ▸ h) (e ▸ List.mem_map.mpr ⟨q, hq, rfl⟩)

theorem aget_mem {κ β : Type} [DecidableEq κ] (k : κ) (v : β) (l : List (κ × β)) (h : aget k l = some v) :
    (k, v) ∈ l := Assoc.mem_of_lookup (aget_eq k l ▸ h)

/-! ### coins (the abstraction `abs : UtxoDB → OutPoint ⇀ Coin`) and the relation index ~ coins -/

abbrev Coins := Inp → Option Out

def coinsOf (u : Utxo) : Coins := fun i =>
  match aget i.1 u with
  | some r => outAt r.outs i.2
  | none => none

def updC (C : Coins) (inp : Inp) (x : Option Out) : Coins := fun i => if i = inp then x else C i

/-- output `o` belongs in the index under key `K` -/
def qual (cfg : Cfg) (H : Bytes → Nat) (o : Out) (K : AKey) : Prop :=
  cfg.min ≤ o.value ∧ script2idx H o.script = some K

def valC (C : Coins) (i : Inp) : Nat :=
  match C i with
  | some o => o.value
  | none => 0

def RelK (cfg : Cfg) (H : Bytes → Nat) (ob : Option Bal) (C : Coins) (K : AKey) : Prop :=
  match ob with
  | none => ∀ inp o, C inp = some o → ¬ qual cfg H o K
  | some b => b.unsp.Nodup ∧ b.unsp ≠ [] ∧ (∀ inp, inp ∈ b.unsp ↔ ∃ o, C inp = some o ∧ qual cfg H o K) ∧
      b.value = ((b.unsp.map (valC C)).sum) % M64

/-- the index `bal` is exactly the projection of the coin set `C` -/
def Rel (cfg : Cfg) (H : Bytes → Nat) (bal : BalMap) (C : Coins) : Prop := ∀ K, RelK cfg H (aget K bal) C K

theorem rel_congr {cfg : Cfg} {H : Bytes → Nat} {bal : BalMap} {C C' : Coins} (h : ∀ i, C i = C' i) :
    Rel cfg H bal C → Rel cfg H bal C' := by
  have : C = C' := funext h
  subst this; exact id

theorem qual_unique {cfg : Cfg} {H : Bytes → Nat} {o : Out} {K K' : AKey} (h : qual cfg H o K) (h' : qual cfg H o K') : K = K' := by
  have := h.2.symm.trans h'.2
  simpa using this

theorem map_valC_congr (C C' : Coins) (l : List Inp) (h : ∀ i ∈ l, C i = C' i) :
    l.map (valC C) = l.map (valC C') := by
  apply List.map_congr_left
  intro i hi
  simp only [valC, h i hi]

theorem map_valC_updC (C : Coins) {l : List Inp} {inp : Inp} (x : Option Out) (h : inp ∉ l) :
    l.map (valC (updC C inp x)) = l.map (valC C) := by
  apply map_valC_congr
  intro i hi
  have : i ≠ inp := fun e => h (e ▸ hi)
  simp [updC, this]

theorem relK_updC_irrelevant {cfg : Cfg} {H : Bytes → Nat} {ob : Option Bal} {C : Coins} {K : AKey} {inp : Inp} {x : Option Out}
    (h : RelK cfg H ob C K) (h1 : ∀ o, C inp = some o → ¬ qual cfg H o K) (h2 : ∀ o, x = some o → ¬ qual cfg H o K) :
    RelK cfg H ob (updC C inp x) K := by
  cases ob with
  | none =>
    intro i o hi
    simp only [updC] at hi
    by_cases e : i = inp
    · simp only [e, if_true] at hi; exact h2 o hi
    · simp only [e, if_false] at hi; exact h i o hi
  | some b =>
    obtain ⟨hn, hne, hiff, hv⟩ := h
    have hnot : inp ∉ b.unsp := by
      intro hm
      obtain ⟨o, ho, hq⟩ := (hiff inp).1 hm
      exact h1 o ho hq
    refine ⟨hn, hne, ?_, ?_⟩
    · intro i
      by_cases e : i = inp
      · subst e
        refine iff_of_false hnot fun ⟨o, ho, hq⟩ => h2 o ?_ hq
        simpa only [updC, if_true] using ho
      · simp only [updC, e, if_false]; exact hiff i
    · rw [hv, map_valC_updC C x hnot]

theorem rel_updC_noqual {cfg : Cfg} {H : Bytes → Nat} {bal : BalMap} {C : Coins} {inp : Inp} {x : Option Out}
    (h : Rel cfg H bal C) (h1 : ∀ K o, C inp = some o → ¬ qual cfg H o K) (h2 : ∀ K o, x = some o → ¬ qual cfg H o K) :
    Rel cfg H bal (updC C inp x) :=
  fun K => relK_updC_irrelevant (h K) (h1 K) (h2 K)

/-! ### NewUTXO, one output -/

theorem mapIns_not_mem {x : Inp} {l : List Inp} (h : x ∉ l) : mapIns x l = l ++ [x] := by
  simp [mapIns, h]

theorem foldl_mapIns (acc l : List Inp) (h : (acc ++ l).Nodup) :
    l.foldl (fun m x => mapIns x m) acc = acc ++ l := by
  induction l generalizing acc with
  | nil => simp
  | cons x t ih =>
    have hx : x ∉ acc := fun hm => (List.nodup_append.1 h).2.2 x hm x List.mem_cons_self rfl
    simp only [List.foldl_cons, mapIns_not_mem hx]
    have h' : ((acc ++ [x]) ++ t).Nodup := by simpa [List.append_assoc] using h
    rw [ih _ h']
    simp [List.append_assoc]

theorem mapOfList_nodup {l : List Inp} (h : l.Nodup) : mapOfList l = l := by
  simpa [mapOfList] using foldl_mapIns [] l (by simpa using h)

theorem relK_getD {cfg : Cfg} {H : Bytes → Nat} {ob : Option Bal} {C : Coins} {K : AKey} (h : RelK cfg H ob C K) :
    let b0 := ob.getD { value := 0, unsp := [], isMap := false }
    b0.unsp.Nodup ∧ (∀ inp, inp ∈ b0.unsp ↔ ∃ o, C inp = some o ∧ qual cfg H o K) ∧
      b0.value = ((b0.unsp.map (valC C)).sum) % M64 := by
  cases ob with
  | none =>
    exact ⟨by simp, fun inp => iff_of_false List.not_mem_nil fun ⟨o, ho, hq⟩ => h inp o ho hq, by simp⟩
  | some b => exact ⟨h.1, h.2.2.1, h.2.2.2⟩

theorem relK_new {cfg : Cfg} {H : Bytes → Nat} {C : Coins} {K : AKey} {inp : Inp} {o : Out} {b0 : Bal} {m : Bool}
    (hn : b0.unsp.Nodup) (hiff : ∀ i, i ∈ b0.unsp ↔ ∃ o, C i = some o ∧ qual cfg H o K)
    (hv : b0.value = ((b0.unsp.map (valC C)).sum) % M64) (hC : C inp = none) (hq : qual cfg H o K) :
    RelK cfg H (some { value := (b0.value + o.value) % M64, unsp := b0.unsp ++ [inp], isMap := m }) (updC C inp (some o)) K := by
  have hnot : inp ∉ b0.unsp := by
    intro hm
    obtain ⟨o', ho', _⟩ := (hiff inp).1 hm
    rw [hC] at ho'; cases ho'
  refine ⟨?_, by simp, ?_, ?_⟩
  · apply List.nodup_append.2
    refine ⟨hn, by simp, ?_⟩
    intro a ha b hb
    simp only [List.mem_singleton] at hb
    intro e; subst e; subst hb; exact hnot ha
  · intro i
    by_cases e : i = inp
    · subst e
      simp only [List.mem_append, List.mem_singleton, or_true, updC, if_true, true_iff]
      exact ⟨o, rfl, hq⟩
    · simp only [List.mem_append, List.mem_singleton, e, or_false, updC, if_false]
      exact hiff i
  · simp only [List.map_append, List.map_cons, List.map_nil]
    rw [List.sum_append, List.sum_singleton]
    have h2 : valC (updC C inp (some o)) inp = o.value := by simp [valC, updC]
    rw [map_valC_updC C (some o) hnot, h2, hv]
    simp only [M64]
    omega

/-- **add_preserves** (one output): NewUTXO's loop body keeps the index equal to the projection -/
theorem addOne_rel {cfg : Cfg} {H : Bytes → Nat} {bal : BalMap} {C : Coins} {K : AKey} {inp : Inp} {o : Out}
    (h : Rel cfg H bal C) (hC : C inp = none) (hq : qual cfg H o K) :
    Rel cfg H (addOne cfg bal K inp o.value) (updC C inp (some o)) := by
  intro K'
  by_cases e : K' = K
  · subst e
    obtain ⟨hn, hiff, hv⟩ := relK_getD (h K')
    have hnot : inp ∉ ((aget K' bal).getD { value := 0, unsp := [], isMap := false }).unsp := by
      intro hm
      obtain ⟨o', ho', _⟩ := (hiff inp).1 hm
      rw [hC] at ho'; cases ho'
    unfold addOne
    simp only [mapOfList_nodup hn, mapIns_not_mem hnot]
    split
    · rw [aget_aset, if_pos rfl]; exact relK_new hn hiff hv hC hq
    · split <;> (rw [aget_aset, if_pos rfl]; exact relK_new hn hiff hv hC hq)
  · have hK : RelK cfg H (aget K' bal) (updC C inp (some o)) K' := by
      apply relK_updC_irrelevant (h K')
      · intro o' ho'; rw [hC] at ho'; cases ho'
      · intro o' ho' hq'
        cases ho'
        exact e (qual_unique hq' hq)
    have hset : ∀ b, RelK cfg H (aget K' (aset K b bal)) (updC C inp (some o)) K' := fun b => by
      rw [aget_aset, if_neg e]; exact hK
    unfold addOne
    simp only []
    split
    · exact hset _
    · split <;> exact hset _

/-! ### all_del_utxos, one output -/

theorem sum_map_erase (f : Inp → Nat) (l : List Inp) (x : Inp) (h : x ∈ l) :
    (l.map f).sum = f x + ((l.erase x).map f).sum :=
  ((List.perm_cons_erase h).map f).sum_nat

/-- what remains at `K` after the entry `inp` was cut out of a record with more than one entry -/
theorem relK_erase {cfg : Cfg} {H : Bytes → Nat} {C : Coins} {K : AKey} {inp : Inp} {o : Out} {b : Bal} {m : Bool}
    (hb : RelK cfg H (some b) C K) (hC : C inp = some o) (hin : inp ∈ b.unsp) (hne : b.unsp.erase inp ≠ []) :
    RelK cfg H (some { value := (b.value + M64 - o.value % M64) % M64, unsp := b.unsp.erase inp, isMap := m }) (updC C inp none) K := by
  obtain ⟨hn, _, hiff, hv⟩ := hb
  refine ⟨hn.erase inp, hne, ?_, ?_⟩
  · intro i
    rw [hn.mem_erase_iff]
    by_cases e : i = inp
    · subst e; simp [updC]
    · simp only [ne_eq, e, not_false_eq_true, true_and, updC, if_false]; exact hiff i
  · have h2 := sum_map_erase (valC C) b.unsp inp hin
    have h3 : valC C inp = o.value := by simp [valC, hC]
    rw [map_valC_updC C none (fun hi => (hn.mem_erase_iff.1 hi).1 rfl), hv, h2, h3]
    simp only [M64]
    omega

/-- the record at `K` disappears when its only entry is removed -/
theorem relK_gone {cfg : Cfg} {H : Bytes → Nat} {C : Coins} {K : AKey} {inp : Inp} {b : Bal}
    (hb : RelK cfg H (some b) C K) (he : b.unsp.erase inp = []) :
    RelK cfg H none (updC C inp none) K := by
  obtain ⟨hn, _, hiff, _⟩ := hb
  intro i o hi hq
  simp only [updC] at hi
  by_cases e : i = inp
  · simp [e] at hi
  · simp only [e, if_false] at hi
    have hm : i ∈ b.unsp := (hiff i).2 ⟨o, hi, hq⟩
    have : i ∈ b.unsp.erase inp := hn.mem_erase_iff.2 ⟨e, hm⟩
    rw [he] at this; cases this

/-- all_del_utxos' loop body on an entry that is listed: the record goes with its last entry, otherwise it loses the
    entry and the value, in either layout -/
theorem delOne_eq {bal : BalMap} {K : AKey} {inp : Inp} {b : Bal} (v : Nat) (hb : aget K bal = some b) (hin : inp ∈ b.unsp) :
    delOne bal K inp v = if b.unsp.erase inp = [] then adel K bal
      else aset K { value := (b.value + M64 - v % M64) % M64, unsp := b.unsp.erase inp, isMap := b.isMap } bal := by
  have hlen : (b.unsp.erase inp).length = b.unsp.length - 1 := List.length_erase_of_mem hin
  have hpos : 0 < b.unsp.length := List.length_pos_of_mem hin
  have e0 : b.unsp.erase inp = [] ↔ (b.unsp.erase inp).length = 0 := List.length_eq_zero_iff.symm
  have e1 : b.unsp.erase inp = [] ↔ b.unsp.length = 1 := by rw [e0, hlen]; omega
  unfold delOne
  simp only [hb, hin, if_true]
  cases hm : b.isMap
  · simp only [Bool.false_eq_true, if_false, e1]
  · simp only [if_true, e0]

/-- **del_preserves** (one output): all_del_utxos' loop body keeps the index equal to the projection -/
theorem delOne_rel {cfg : Cfg} {H : Bytes → Nat} {bal : BalMap} {C : Coins} {K : AKey} {inp : Inp} {o : Out}
    (h : Rel cfg H bal C) (hC : C inp = some o) (hq : qual cfg H o K) :
    Rel cfg H (delOne bal K inp o.value) (updC C inp none) := by
  have hKb := h K
  cases hb : aget K bal with
  | none =>
    rw [hb] at hKb
    exact absurd hq (hKb inp o hC)
  | some b =>
    rw [hb] at hKb
    have hin : inp ∈ b.unsp := (hKb.2.2.1 inp).2 ⟨o, hC, hq⟩
    rw [delOne_eq o.value hb hin]
    intro K'
    have hget : aget K' (if b.unsp.erase inp = [] then adel K bal
        else aset K { value := (b.value + M64 - o.value % M64) % M64, unsp := b.unsp.erase inp, isMap := b.isMap } bal)
        = if K' = K then (if b.unsp.erase inp = [] then none else some { value := (b.value + M64 - o.value % M64) % M64, unsp := b.unsp.erase inp, isMap := b.isMap }) else aget K' bal := by
      split <;> simp only [aget_adel, aget_aset]
    rw [hget]
    by_cases e : K' = K
    · subst e
      rw [if_pos rfl]
      split
      · rename_i he; exact relK_gone hKb he
      · rename_i hne; exact relK_erase hKb hC hin hne
    · rw [if_neg e]
      apply relK_updC_irrelevant (h K')
      · intro o' ho' hq'
        rw [hC] at ho'; cases ho'
        exact e (qual_unique hq' hq)
      · intro o' ho'; cases ho'

/-! ### NewUTXO / all_del_utxos over a whole record -/

@[simp] theorem outAt_nil (n : Nat) : outAt [] n = none := by simp [outAt]
@[simp] theorem outAt_cons_zero (o : Option Out) (t : List (Option Out)) : outAt (o :: t) 0 = o := by
  cases o <;> simp [outAt]
@[simp] theorem outAt_cons_succ (o : Option Out) (t : List (Option Out)) (n : Nat) : outAt (o :: t) (n + 1) = outAt t n := by
  simp [outAt]

/-- the coins after the outputs `outs` (positions counted from `j`) of transaction `key` were laid over `C` -/
def overlay (C : Coins) (key : Key) (outs : List (Option Out)) (j : Nat) : Coins := fun i =>
  if i.1 = key ∧ j ≤ i.2 then
    (match outAt outs (i.2 - j) with
     | some o => some o
     | none => C i)
  else C i

theorem addStep_rel {cfg : Cfg} {H : Bytes → Nat} {bal : BalMap} {C : Coins} {key : Key} {j : Nat} {o : Out}
    (h : Rel cfg H bal C) (hC : C (key, j) = none) :
    Rel cfg H (addStep cfg H key bal (some o) j) (updC C (key, j) (some o)) := by
  have hno : ∀ K o', C (key, j) = some o' → ¬ qual cfg H o' K := fun K o' ho' => by rw [hC] at ho'; cases ho'
  unfold addStep
  simp only []
  split
  · rename_i hlt
    apply rel_updC_noqual h hno
    intro K o' ho' hq; cases ho'; exact absurd hq.1 (by omega)
  · split
    · rename_i hs
      apply rel_updC_noqual h hno
      intro K o' ho' hq; cases ho'; have h2 := hq.2; rw [hs] at h2; cases h2
    · rename_i K hs
      exact addOne_rel h hC ⟨by omega, hs⟩

theorem overlay_cons (C : Coins) (key : Key) (o : Option Out) (rest : List (Option Out)) (j : Nat) :
    overlay C key (o :: rest) j =
      overlay (match o with | some x => updC C (key, j) (some x) | none => C) key rest (j + 1) := by
  funext i
  have hC : i ≠ (key, j) → (match o with | some x => updC C (key, j) (some x) | none => C) i = C i := fun hn => by
    cases o <;> simp [updC, hn]
  simp only [overlay]
  by_cases h1 : i.1 = key ∧ j + 1 ≤ i.2
  · have h3 : i.2 - j = (i.2 - (j + 1)) + 1 := by omega
    rw [if_pos h1, if_pos ⟨h1.1, by omega⟩, h3, outAt_cons_succ, hC (fun e => by rw [e] at h1; simp at h1; omega)]
  · rw [if_neg h1]
    by_cases h2 : i = (key, j)
    · subst h2
      cases o <;> simp [updC]
    · rw [hC h2, if_neg (fun h => h2 (Prod.ext h.1 (by have : ¬ j + 1 ≤ i.2 := fun e => h1 ⟨h.1, e⟩; have := h.2; show i.2 = j; omega)))]

/-- behind `newUTXO_preserves` of Props/C17: NewUTXO on a record whose non-nil outputs are not yet in the coin set -/
theorem addOuts_rel {cfg : Cfg} {H : Bytes → Nat} {key : Key} (outs : List (Option Out)) :
    ∀ (j : Nat) (bal : BalMap) (C : Coins), Rel cfg H bal C →
      (∀ i o, outAt outs i = some o → C (key, j + i) = none) →
      Rel cfg H (addOuts cfg H key outs j bal) (overlay C key outs j) := by
  induction outs with
  | nil =>
    intro j bal C h _
    exact rel_congr (fun i => by simp [overlay]) h
  | cons o rest ih =>
    intro j bal C h hfresh
    rw [overlay_cons]
    have hnext : ∀ i o', outAt rest i = some o' → C (key, j + 1 + i) = none := fun i o' hi => by
      simpa [Nat.add_assoc, Nat.add_comm 1 i] using hfresh (i + 1) o' (by simpa using hi)
    cases o with
    | none => exact ih (j + 1) bal C h hnext
    | some x =>
      refine ih (j + 1) _ _ (addStep_rel h (by simpa using hfresh 0 x (by simp))) fun i o' hi => ?_
      have hne : ((key, j + 1 + i) : Inp) ≠ (key, j) := fun e => by simp at e; omega
      simpa [updC, hne] using hnext i o' hi

/-- the coins after the masked outputs (positions ≥ `j`) of transaction `key` were removed from `C` -/
def unlay (C : Coins) (key : Key) (mask : List Bool) (j : Nat) : Coins := fun i =>
  if i.1 = key ∧ j ≤ i.2 ∧ mask.getD i.2 false = true then none else C i

theorem delStep_rel {cfg : Cfg} {H : Bytes → Nat} {bal : BalMap} {C : Coins} {key : Key} {mask : List Bool} {j : Nat} {o : Out}
    (h : Rel cfg H bal C) (hC : C (key, j) = some o) (hm : mask.getD j false = true) :
    Rel cfg H (delStep cfg H key mask bal (some o) j) (updC C (key, j) none) := by
  unfold delStep
  simp only [hm]
  split
  · rename_i hf; cases hf
  · split
    · rename_i hlt
      apply rel_updC_noqual h
      · intro K o' ho' hq; rw [hC] at ho'; cases ho'; exact absurd hq.1 (by omega)
      · intro K o' ho'; cases ho'
    · split
      · rename_i hs
        apply rel_updC_noqual h
        · intro K o' ho' hq; rw [hC] at ho'; cases ho'; have h2 := hq.2; rw [hs] at h2; cases h2
        · intro K o' ho'; cases ho'
      · rename_i K hs
        exact delOne_rel h hC ⟨by omega, hs⟩

theorem unlay_succ (C : Coins) (key : Key) (mask : List Bool) (j : Nat) :
    unlay C key mask j = unlay (if mask.getD j false = true then updC C (key, j) none else C) key mask (j + 1) := by
  funext i
  have hC : i ≠ (key, j) → (if mask.getD j false = true then updC C (key, j) none else C) i = C i := fun hn => by
    split <;> simp [updC, hn]
  simp only [unlay]
  by_cases h1 : i.1 = key ∧ j + 1 ≤ i.2 ∧ mask.getD i.2 false = true
  · rw [if_pos h1, if_pos ⟨h1.1, by omega, h1.2.2⟩]
  · rw [if_neg h1]
    by_cases h2 : i = (key, j)
    · subst h2
      by_cases hm : mask.getD j false = true
      · rw [if_pos ⟨rfl, Nat.le_refl _, hm⟩, if_pos hm]; simp [updC]
      · rw [if_neg (fun h => hm h.2.2), if_neg hm]
    · rw [hC h2, if_neg (fun h => h1 ⟨h.1, by have : i.2 ≠ j := fun e => h2 (Prod.ext h.1 e); have := h.2.1; omega, h.2.2⟩)]

/-- behind `allDel_preserves` of Props/C17: all_del_utxos on the stored record of `key` with a mask -/
theorem delOuts_rel {cfg : Cfg} {H : Bytes → Nat} {key : Key} {mask : List Bool} (outs : List (Option Out)) :
    ∀ (j : Nat) (bal : BalMap) (C : Coins), Rel cfg H bal C →
      (∀ i, C (key, j + i) = outAt outs i) →
      Rel cfg H (delOuts cfg H key mask outs j bal) (unlay C key mask j) := by
  induction outs with
  | nil =>
    intro j bal C h hagree
    refine rel_congr (fun i => ?_) h
    simp only [unlay]
    split
    · rename_i hc
      have := hagree (i.2 - j)
      rw [show j + (i.2 - j) = i.2 by omega, ← hc.1] at this
      simpa using this
    · rfl
  | cons o rest ih =>
    intro j bal C h hagree
    have h0 : C (key, j) = o := by simpa using hagree 0
    have hnext : ∀ i, C (key, j + 1 + i) = outAt rest i := fun i => by
      simpa [Nat.add_assoc, Nat.add_comm 1 i] using hagree (i + 1)
    have hupd : ∀ i, updC C (key, j) none (key, j + 1 + i) = outAt rest i := fun i => by
      have hne : ((key, j + 1 + i) : Inp) ≠ (key, j) := fun e => by simp at e; omega
      simpa [updC, hne] using hnext i
    rw [unlay_succ]
    simp only [delOuts]
    by_cases hm : mask.getD j false = true
    · rw [if_pos hm]
      cases o with
      | none =>
        exact ih (j + 1) _ _ (rel_updC_noqual h (fun K o' ho' => by rw [h0] at ho'; cases ho') (fun K o' ho' => by cases ho')) hupd
      | some x => exact ih (j + 1) _ _ (delStep_rel h h0 hm) hupd
    · rw [if_neg hm]
      have hstep : delStep cfg H key mask bal o j = bal := by
        cases o with
        | none => rfl
        | some x => simp only [delStep]; rw [if_pos (by simpa using hm)]
      rw [hstep]
      exact ih (j + 1) bal C h hnext

/-! ### the UTXO map: well-formedness and how each step changes the coins -/

def NoDupKeys : Utxo → Prop
  | [] => True
  | p :: t => aget p.1 t = none ∧ NoDupKeys t

def KeysOK (u : Utxo) : Prop := ∀ p ∈ u, p.2.key = p.1

/-- every key occurs once and is the 8-byte prefix of the stored record's txid -/
def UtxoWF (u : Utxo) : Prop := NoDupKeys u ∧ KeysOK u

theorem adel_cons (k : Key) (p : Key × Rec) (t : Utxo) :
    adel k (p :: t) = if p.1 = k then adel k t else p :: adel k t := by
  by_cases h : p.1 = k <;> simp [adel, List.filter, h]

theorem noDup_adel (k : Key) (u : Utxo) (h : NoDupKeys u) : NoDupKeys (adel k u) := by
  induction u with
  | nil => simp [adel, NoDupKeys]
  | cons p t ih =>
    rw [adel_cons]
    by_cases hp : p.1 = k
    · simp only [hp, if_true]; exact ih h.2
    · simp only [hp, if_false, NoDupKeys]
      refine ⟨?_, ih h.2⟩
      rw [aget_adel]; simp [hp, h.1]

theorem mem_adel {k : Key} {u : Utxo} {p : Key × Rec} (h : p ∈ adel k u) : p ∈ u := by
  simp only [adel, List.mem_filter] at h; exact h.1

theorem wf_adel {k : Key} {u : Utxo} (h : UtxoWF u) : UtxoWF (adel k u) :=
  ⟨noDup_adel k u h.1, fun p hp => h.2 p (mem_adel hp)⟩

theorem wf_aset {k : Key} {v : Rec} {u : Utxo} (h : UtxoWF u) (hk : v.key = k) : UtxoWF (aset k v u) := by
  refine ⟨⟨?_, noDup_adel k u h.1⟩, ?_⟩
  · show aget k (adel k u) = none
    rw [aget_adel]; simp
  · intro p hp
    simp only [aset, List.mem_cons] at hp
    cases hp with
    | inl e => subst e; exact hk
    | inr hp => exact h.2 p (mem_adel hp)

theorem keysOK_aget {u : Utxo} {k : Key} {r : Rec} (h : KeysOK u) (hg : aget k u = some r) : r.key = k :=
  h (k, r) (aget_mem k r u hg)

theorem coinsOf_aset (u : Utxo) (k : Key) (r : Rec) (i : Inp) :
    coinsOf (aset k r u) i = if i.1 = k then outAt r.outs i.2 else coinsOf u i := by
  simp only [coinsOf, aget_aset]
  by_cases h : i.1 = k <;> simp [h]

theorem coinsOf_adel (u : Utxo) (k : Key) (i : Inp) :
    coinsOf (adel k u) i = if i.1 = k then none else coinsOf u i := by
  simp only [coinsOf, aget_adel]
  by_cases h : i.1 = k <;> simp [h]

theorem coinsOf_of_aget {u : Utxo} {k : Key} {r : Rec} (h : aget k u = some r) (n : Nat) :
    coinsOf u (k, n) = outAt r.outs n := by
  simp [coinsOf, h]

theorem coinsOf_of_none {u : Utxo} {k : Key} (h : aget k u = none) (n : Nat) : coinsOf u (k, n) = none := by
  simp [coinsOf, h]

theorem outAt_mergeOuts (a : List (Option Out)) : ∀ (b : List (Option Out)) (j : Nat), b.length ≤ a.length →
    outAt (mergeOuts a b) j = (match outAt a j with | some o => some o | none => outAt b j) := by
  induction a with
  | nil =>
    intro b j hb
    have : b = [] := List.eq_nil_of_length_eq_zero (by simpa using hb)
    subst this; simp [mergeOuts]
  | cons x t ih =>
    intro b j hb
    cases b with
    | nil =>
      cases j with
      | zero => cases x <;> simp [mergeOuts]
      | succ n =>
        simp only [mergeOuts, outAt_cons_succ, List.tail_nil]
        simpa using ih [] n (by simp)
    | cons y b' =>
      cases j with
      | zero => cases x <;> simp [mergeOuts]
      | succ n =>
        simp only [mergeOuts, outAt_cons_succ, List.tail_cons]
        exact ih b' n (by simpa using hb)

theorem outAt_maskOuts (mask : List Bool) (outs : List (Option Out)) : ∀ (j n : Nat),
    outAt (maskOuts outs j mask) n = if mask.getD (j + n) false = true then none else outAt outs n := by
  induction outs with
  | nil => intro j n; simp [maskOuts]
  | cons o t ih =>
    intro j n
    cases n with
    | zero =>
      simp only [maskOuts, outAt_cons_zero, Nat.add_zero]
    | succ m =>
      simp only [maskOuts, outAt_cons_succ]
      rw [ih (j + 1) m, Nat.add_assoc, Nat.add_comm 1 m]

theorem outAt_some {l : List (Option Out)} {j : Nat} {o : Out} (h : outAt l j = some o) : l[j]? = some (some o) := by
  unfold outAt at h
  split at h
  · rename_i hg; cases h; exact hg
  · cases h

theorem anyOut_false {l : List (Option Out)} (h : anyOut l = false) (n : Nat) : outAt l n = none := by
  simp only [anyOut, List.any_eq_false] at h
  cases ho : outAt l n with
  | none => rfl
  | some o =>
    have := h (some o) (List.mem_of_getElem? (outAt_some ho))
    simp at this

/-! ### restart through the balances cache: entry order and layout are free -/

theorem savedOrder_perm (ord : List Inp) (b : Bal) : (savedOrder ord b).Perm b.unsp := by
  unfold savedOrder
  split
  · rename_i h
    simp only [Bool.and_eq_true] at h
    exact List.isPerm_iff.1 h.2
  · exact List.Perm.refl _

theorem relayout_perm (um : Nat) (ord : List Inp) (b : Bal) (hn : b.unsp.Nodup) :
    (relayout um ord b).unsp.Perm b.unsp ∧ (relayout um ord b).value = b.value := by
  have hp := savedOrder_perm ord b
  have hn' : (savedOrder ord b).Nodup := (hp.nodup_iff).2 hn
  unfold relayout
  simp only []
  split
  · simp only [mapOfList_nodup hn']; exact ⟨hp, trivial⟩
  · exact ⟨hp, rfl⟩

theorem aget_reloadBal (um : Nat) (ords : List (AKey × List Inp)) (K : AKey) (bal : BalMap) :
    aget K (reloadBal um ords bal) = (aget K bal).map (relayout um ((aget K ords).getD [])) := by
  rw [aget_eq K bal, aget_eq K (reloadBal um ords bal)]
  exact Assoc.lookup_map (fun K b => relayout um ((aget K ords).getD []) b) bal K

/-- `Rel` does not look at the order of the entries, at the layout or at `useMapCnt` -/
theorem relK_perm {cfg cfg' : Cfg} {H : Bytes → Nat} {C : Coins} {K : AKey} {b b' : Bal} (hm : cfg'.min = cfg.min)
    (hp : b'.unsp.Perm b.unsp) (hv : b'.value = b.value) (h : RelK cfg H (some b) C K) : RelK cfg' H (some b') C K := by
  obtain ⟨hn, hne, hmem, hval⟩ := h
  refine ⟨(hp.nodup_iff).2 hn, ?_, ?_, ?_⟩
  · intro e
    rw [e] at hp
    exact hne (List.Perm.eq_nil (List.Perm.symm hp))
  · intro inp
    rw [hp.mem_iff, hmem inp]
    simp only [qual, hm]
  · rw [hv, hval, (hp.map (valC C)).sum_nat]

theorem rel_reloadBal {cfg : Cfg} {H : Bytes → Nat} {bal : BalMap} {C : Coins} (um : Nat) (ords : List (AKey × List Inp))
    (h : Rel cfg H bal C) : Rel { cfg with useMapCnt := um } H (reloadBal um ords bal) C := by
  intro K
  have hK := h K
  rw [aget_reloadBal]
  cases hb : aget K bal with
  | none =>
    rw [hb] at hK
    simpa only [Option.map, RelK, qual] using hK
  | some b =>
    rw [hb] at hK
    have := relayout_perm um ((aget K ords).getD []) b hK.1
    exact relK_perm rfl this.1 this.2 hK

/-! ### the invariant and its preservation by every step -/

/-- the node state is consistent: UTXO keys well-formed, and — while the index is on — the index is the
    projection of the current unspent set -/
def Inv (H : Bytes → Nat) (s : State) : Prop :=
  UtxoWF s.utxo ∧ (s.on = true → Rel s.cfg H s.bal (coinsOf s.utxo))

/-- what the rest of the node guarantees about the change stream (C04/C06 facts, named):
    * `add`: the key of a newly created transaction is not present in the UTXO map
      (BIP30/BIP34 uniqueness of txids + no collision of the first 8 bytes);
    * `undoAdd`: an undo record has as many output slots as the stored record of the same transaction
      and restores only outputs that are currently spent (undo restores exactly the spent outputs). -/
def Admissible (s : State) : Ev → Prop
  | .add r => aget r.key s.utxo = none
  | .undoAdd r => ∀ old, aget r.key s.utxo = some old →
      old.outs.length = r.outs.length ∧ ∀ j o, outAt r.outs j = some o → outAt old.outs j = none
  | _ => True

/-- `UnspentDB.del` stores the record without its masked outputs, or drops it when none is left: either way the coins of
    the map are the coins before without the masked outputs of `key` -/
theorem coinsOf_del {u : Utxo} {key : Key} {r : Rec} (hg : aget key u = some r) (mask : List Bool) :
    coinsOf (if anyOut (maskOuts r.outs 0 mask) = true then aset key { r with outs := maskOuts r.outs 0 mask } u else adel key u)
      = unlay (coinsOf u) key mask 0 := by
  funext i
  obtain ⟨k, n⟩ := i
  have hL : coinsOf (if anyOut (maskOuts r.outs 0 mask) = true then aset key { r with outs := maskOuts r.outs 0 mask } u else adel key u) (k, n)
      = if k = key then (if mask.getD n false = true then none else outAt r.outs n) else coinsOf u (k, n) := by
    by_cases hany : anyOut (maskOuts r.outs 0 mask) = true
    · rw [if_pos hany, coinsOf_aset, outAt_maskOuts, Nat.zero_add]
    · -- the record is dropped because no output is left: an unmasked one was nil already
      have hnone := anyOut_false (by simpa using hany) n
      rw [outAt_maskOuts, Nat.zero_add] at hnone
      rw [if_neg hany, coinsOf_adel, hnone]
  rw [hL]
  simp only [unlay, Nat.zero_le, true_and]
  by_cases hi : k = key
  · subst hi
    rw [if_pos rfl, coinsOf_of_aget hg n]
    by_cases hm : mask.getD n false = true
    · rw [if_pos hm, if_pos ⟨rfl, hm⟩]
    · rw [if_neg hm, if_neg (fun hh => hm hh.2)]
  · rw [if_neg hi, if_neg (fun hh => hi hh.1)]

theorem inv_dbDel {H : Bytes → Nat} {s : State} (key : Key) (mask : List Bool) (h : Inv H s) : Inv H (dbDel H s key mask) := by
  unfold dbDel
  cases hg : aget key s.utxo with
  | none => simpa using h
  | some r =>
    have hk : r.key = key := keysOK_aget h.1.2 hg
    simp only []
    have hwf : UtxoWF (if anyOut (maskOuts r.outs 0 mask) = true then aset key { r with outs := maskOuts r.outs 0 mask } s.utxo else adel key s.utxo) := by
      split
      · exact wf_aset h.1 (by simpa [Rec.key] using hk)
      · exact wf_adel h.1
    refine ⟨hwf, fun hon => ?_⟩
    have hon' : s.on = true := hon
    simp only [hon', if_true]
    rw [coinsOf_del hg, ← hk]
    exact delOuts_rel r.outs 0 s.bal (coinsOf s.utxo) (h.2 hon') (fun i => by rw [hk]; simpa using coinsOf_of_aget hg i)

theorem inv_dbDelTx {H : Bytes → Nat} {s : State} (txid : Bytes) (mask : List Bool) (h : Inv H s) : Inv H (dbDelTx H s txid mask) := by
  unfold dbDelTx
  split
  · exact h
  · split
    · exact inv_dbDel _ mask h
    · exact h

theorem rel_empty (cfg : Cfg) (H : Bytes → Nat) : Rel cfg H [] (fun _ => none) := by
  intro K inp o h; cases h

theorem loadAll_rel {cfg : Cfg} {H : Bytes → Nat} (l : Utxo) : ∀ (bal : BalMap) (C : Coins),
    Rel cfg H bal C → NoDupKeys l → KeysOK l → (∀ p ∈ l, ∀ n, C (p.1, n) = none) →
    Rel cfg H (loadAll cfg H l bal) (fun i => match aget i.1 l with | some r => outAt r.outs i.2 | none => C i) := by
  induction l with
  | nil =>
    intro bal C h _ _ _
    simpa [loadAll, aget] using h
  | cons p t ih =>
    intro bal C h hnd hko hC
    simp only [loadAll]
    have hpk : p.2.key = p.1 := hko p (List.mem_cons_self)
    have h1 := addOuts_rel (cfg := cfg) (H := H) (key := p.2.key) p.2.outs 0 bal C h (by
      intro i o _
      rw [hpk]
      simpa using hC p (List.mem_cons_self) i)
    have hne : ∀ q ∈ t, q.1 ≠ p.1 := aget_none_ne p.1 t hnd.1
    have h2 := ih _ _ h1 hnd.2 (fun q hq => hko q (List.mem_cons_of_mem _ hq)) (by
      intro q hq n
      have : q.1 ≠ p.2.key := by rw [hpk]; exact hne q hq
      simp only [overlay, this, false_and, if_false]
      exact hC q (List.mem_cons_of_mem _ hq) n)
    apply rel_congr _ h2
    intro i
    simp only [aget]
    by_cases hi : p.1 = i.1
    · have ht : aget i.1 t = none := by rw [← hi]; exact hnd.1
      have hCi : C i = none := by
        have := hC p (List.mem_cons_self) i.2
        rw [hi] at this
        simpa using this
      simp only [hi, if_true, ht, overlay, hpk, Nat.zero_le, and_self, Nat.sub_zero, hCi]
      cases outAt p.2.outs i.2 <;> rfl
    · have : ¬ i.1 = p.2.key := by rw [hpk]; exact fun e => hi e.symm
      simp only [hi, if_false, overlay, this, false_and]

theorem newUTXO_unfold (cfg : Cfg) (H : Bytes → Nat) (bal : BalMap) (r : Rec) :
    newUTXO cfg H bal r = addOuts cfg H r.key r.outs 0 bal := rfl

/-- storing under `r.key` a record that shows `r`'s outputs over what was stored there lays `r.outs` over the coins -/
theorem coinsOf_aset_overlay {u : Utxo} {r r' : Rec}
    (h : ∀ n, outAt r'.outs n = match outAt r.outs n with | some o => some o | none => coinsOf u (r.key, n)) :
    coinsOf (aset r.key r' u) = overlay (coinsOf u) r.key r.outs 0 := by
  funext i
  obtain ⟨k, n⟩ := i
  rw [coinsOf_aset]
  simp only [overlay, Nat.zero_le, and_true, Nat.sub_zero]
  by_cases hi : k = r.key
  · subst hi; rw [if_pos rfl, if_pos rfl, h n]
  · rw [if_neg hi, if_neg hi]

/-- UndoBlockTxs' addback of one record; `commit.do_add` is the case of a key that is not stored -/
theorem inv_undoAdd {H : Bytes → Nat} {s : State} (r : Rec) (h : Inv H s) (ha : Admissible s (.undoAdd r)) :
    Inv H (step H s (.undoAdd r)) := by
  simp only [Admissible] at ha
  simp only [step]
  refine ⟨wf_aset h.1 (by split <;> rfl), fun hon => ?_⟩
  have hon' : s.on = true := hon
  simp only [hon', if_true]
  cases hg : aget r.key s.utxo with
  | none =>
    rw [coinsOf_aset_overlay (fun n => by rw [coinsOf_of_none hg]; cases outAt r.outs n <;> rfl)]
    exact addOuts_rel r.outs 0 _ _ (h.2 hon') (fun i o _ => by simpa using coinsOf_of_none hg i)
  | some old =>
    obtain ⟨hlen, hfresh⟩ := ha old hg
    rw [coinsOf_aset_overlay (r' := { r with outs := mergeOuts r.outs old.outs }) (fun n => by
      rw [coinsOf_of_aget hg]; exact outAt_mergeOuts r.outs old.outs n (by omega))]
    exact addOuts_rel r.outs 0 _ _ (h.2 hon') (fun i o hi => by
      rw [Nat.zero_add, coinsOf_of_aget hg i]; exact hfresh i o hi)

theorem inv_add {H : Bytes → Nat} {s : State} (r : Rec) (h : Inv H s) (ha : aget r.key s.utxo = none) :
    Inv H (step H s (.add r)) := by
  have e : step H s (.add r) = step H s (.undoAdd r) := by simp only [step, ha]
  rw [e]
  exact inv_undoAdd r h (fun old ho => by rw [ha] at ho; cases ho)

theorem inv_step {H : Bytes → Nat} {s : State} (ev : Ev) (h : Inv H s) (ha : Admissible s ev) : Inv H (step H s ev) := by
  cases ev with
  | add r => exact inv_add r h ha
  | del txid mask => exact inv_dbDelTx txid mask h
  | undoDel txid n =>
    simp only [step]
    by_cases hon : s.on = true
    · rw [if_pos hon]; exact inv_dbDelTx txid _ h
    · rw [if_neg hon]
      exact ⟨wf_adel h.1, fun hon' => absurd hon' hon⟩
  | undoAdd r => exact inv_undoAdd r h ha
  | enable mn um =>
    simp only [step]
    by_cases hon : s.on = true
    · rw [if_pos hon]; exact h
    · rw [if_neg hon]
      refine ⟨h.1, fun _ => ?_⟩
      exact loadAll_rel (cfg := { min := mn, useMapCnt := um }) (H := H) s.utxo [] (fun _ => none)
        (rel_empty _ H) h.1.1 h.1.2 (fun _ _ _ => rfl)
  | disable =>
    simp only [step]
    by_cases hon : s.on = true
    · rw [if_pos hon]
      exact ⟨h.1, fun hf => by cases hf⟩
    · rw [if_neg hon]; exact h
  | reload um ords =>
    simp only [step]
    by_cases hon : s.on = true
    · rw [if_pos hon]
      exact ⟨h.1, fun _ => rel_reloadBal um ords (h.2 hon)⟩
    · rw [if_neg hon]; exact h

/-- admissibility of a whole history, checked along the run -/
def AdmissibleRun (H : Bytes → Nat) : State → List Ev → Prop
  | _, [] => True
  | s, ev :: rest => Admissible s ev ∧ AdmissibleRun H (step H s ev) rest

theorem inv_run {H : Bytes → Nat} (evs : List Ev) : ∀ (s : State), Inv H s → AdmissibleRun H s evs → Inv H (run H s evs) := by
  induction evs with
  | nil => intro s h _; exact h
  | cons ev rest ih =>
    intro s h ha
    simp only [run, List.foldl_cons]
    exact ih _ (inv_step ev h ha.1) ha.2

theorem inv_init (H : Bytes → Nat) : Inv H State.init :=
  ⟨⟨trivial, fun p hp => by cases hp⟩, fun h => by cases h⟩

/-! ### reading the index: GetAllUnspent and the total -/

open GocoinV.Spec.Balances in
theorem getRec_some {u : Utxo} {i : Inp} {x : Unspent} :
    getRec u i = some x ↔ ∃ r o, aget i.1 u = some r ∧ outAt r.outs i.2 = some o ∧
      x = { txid := r.txid, vout := i.2, value := o.value, minedAt := r.inBlock, coinbase := r.coinbase } := by
  unfold getRec
  cases hg : aget i.1 u with
  | none => simp
  | some r =>
    cases ho : outAt r.outs i.2 with
    | none => simp [ho]
    | some o =>
      simp [ho, eq_comm]

theorem coinsOf_some {u : Utxo} {i : Inp} {o : Out} :
    coinsOf u i = some o ↔ ∃ r, aget i.1 u = some r ∧ outAt r.outs i.2 = some o := by
  unfold coinsOf
  cases aget i.1 u <;> simp

theorem getRec_inj {u : Utxo} (hk : KeysOK u) {i j : Inp} {x : Unspent}
    (hi : getRec u i = some x) (hj : getRec u j = some x) : i = j := by
  obtain ⟨r, o, hr, _, hx⟩ := getRec_some.1 hi
  obtain ⟨r', o', hr', _, hx'⟩ := getRec_some.1 hj
  have h1 : i.1 = x.txid.take 8 := by rw [hx]; exact (keysOK_aget hk hr).symm
  have h2 : j.1 = x.txid.take 8 := by rw [hx']; exact (keysOK_aget hk hr').symm
  have h3 : i.2 = x.vout := by rw [hx]
  have h4 : j.2 = x.vout := by rw [hx']
  cases i; cases j; simp_all

theorem nodup_filterMap_getRec {u : Utxo} (hk : KeysOK u) (l : List Inp) (hn : l.Nodup) :
    (l.filterMap (getRec u)).Nodup :=
  List.Pairwise.filterMap (S := (· ≠ ·)) (getRec u)
    (fun _ _ hne b hb b' hb' (e : b = b') => hne (getRec_inj hk hb (e ▸ hb'))) hn

theorem sum_filterMap_getRec {u : Utxo} (l : List Inp) (h : ∀ i ∈ l, ∃ o, coinsOf u i = some o) :
    ((l.filterMap (getRec u)).map (·.value)).sum = (l.map (valC (coinsOf u))).sum := by
  induction l with
  | nil => simp
  | cons a t ih =>
    obtain ⟨o, ho⟩ := h a (List.mem_cons_self)
    obtain ⟨r, hr, hor⟩ := coinsOf_some.1 ho
    have hf : getRec u a = some { txid := r.txid, vout := a.2, value := o.value, minedAt := r.inBlock, coinbase := r.coinbase } :=
      getRec_some.2 ⟨r, o, hr, hor, rfl⟩
    have hv : valC (coinsOf u) a = o.value := by simp [valC, ho]
    simp only [List.filterMap_cons, hf, List.map_cons, List.sum_cons, hv]
    rw [ih (fun i hi => h i (List.mem_cons_of_mem _ hi))]

open GocoinV.Spec.Balances in
/-- what GetAllUnspent returns, stated with the index key of the address -/
theorem getAll_spec {H : Bytes → Nat} {s : State} (a : Addr) (h : Inv H s) (hon : s.on = true) :
    (getAllUnspent H s a).Nodup ∧
    (∀ x, x ∈ getAllUnspent H s a ↔ ∃ r o, aget (x.txid.take 8) s.utxo = some r ∧ outAt r.outs x.vout = some o ∧
        s.cfg.min ≤ o.value ∧ script2idx H o.script = some (a.idx, H a.payload) ∧
        x = { txid := r.txid, vout := x.vout, value := o.value, minedAt := r.inBlock, coinbase := r.coinbase }) ∧
    total H s a = sumValues (getAllUnspent H s a) % M64 := by
  have hK := h.2 hon (a.idx, H a.payload)
  unfold getAllUnspent total
  cases hb : aget (a.idx, H a.payload) s.bal with
  | none =>
    rw [hb] at hK
    refine ⟨by simp, fun x => iff_of_false List.not_mem_nil ?_, by simp [sumValues]⟩
    rintro ⟨r, o, hr, ho, hmin, hs, _⟩
    have hc : coinsOf s.utxo (x.txid.take 8, x.vout) = some o := coinsOf_some.2 ⟨r, hr, ho⟩
    exact hK _ o hc ⟨hmin, hs⟩
  | some b =>
    rw [hb] at hK
    obtain ⟨hn, _, hiff, hv⟩ := hK
    refine ⟨nodup_filterMap_getRec h.1.2 b.unsp hn, ?_, ?_⟩
    · intro x
      simp only [List.mem_filterMap]
      constructor
      · rintro ⟨i, hi, hf⟩
        obtain ⟨o', hc, hq⟩ := (hiff i).1 hi
        obtain ⟨r, o, hr, ho, hx⟩ := getRec_some.1 hf
        have : o' = o := by
          obtain ⟨r', hr', ho'⟩ := coinsOf_some.1 hc
          rw [hr] at hr'; cases hr'; rw [ho] at ho'; cases ho'; rfl
        subst this
        have hk1 : x.txid.take 8 = i.1 := by rw [hx]; exact keysOK_aget h.1.2 hr
        have hk2 : x.vout = i.2 := by rw [hx]
        refine ⟨r, o', by rw [hk1]; exact hr, by rw [hk2]; exact ho, hq.1, hq.2, by rw [hk2]; exact hx⟩
      · rintro ⟨r, o, hr, ho, hmin, hs, hx⟩
        refine ⟨(x.txid.take 8, x.vout), (hiff _).2 ⟨o, coinsOf_some.2 ⟨r, hr, ho⟩, hmin, hs⟩, ?_⟩
        exact getRec_some.2 ⟨r, o, hr, ho, hx⟩
    · simp only [sumValues]
      rw [sum_filterMap_getRec b.unsp (fun i hi => by
        obtain ⟨o, hc, _⟩ := (hiff i).1 hi
        exact ⟨o, hc⟩)]
      exact hv

/-! ### standard scripts and the index keys of addresses, both ways -/

theorem scriptForm_script (a : Addr) (hv : a.idx < 5) (hl : a.payload.length = if a.idx < 3 then 20 else 32) :
    scriptForm a.script = some (a.idx, a.payload) := by
  obtain ⟨idx, p⟩ := a
  simp only at hv hl
  have : idx = 0 ∨ idx = 1 ∨ idx = 2 ∨ idx = 3 ∨ idx = 4 := by omega
  rcases this with h | h | h | h | h <;> subst h <;> simp at hl <;>
    simp [scriptForm, Addr.script, byteAt, hl, List.getD_eq_getElem?_getD] <;>
    (try exact List.take_of_length_le (by omega))

theorem script2idx_script (H : Bytes → Nat) (a : Addr) (hv : a.idx < 5)
    (hl : a.payload.length = if a.idx < 3 then 20 else 32) :
    script2idx H a.script = some (a.idx, H a.payload) := by
  simp [script2idx, scriptForm_script a hv hl]

/-- `GocoinV.sandwich` for bytes compared as numbers, as `scriptForm` compares them -/
theorem sandwich (s pre suf : Bytes) (n : Nat) (hl : s.length = pre.length + n + suf.length)
    (hp : ∀ i, i < pre.length → byteAt s i = byteAt pre i)
    (hs : ∀ i, i < suf.length → byteAt s (pre.length + n + i) = byteAt suf i) :
    s = pre ++ (s.drop pre.length).take n ++ suf ∧ ((s.drop pre.length).take n).length = n :=
  ⟨by rw [List.append_assoc]
      exact GocoinV.sandwich s pre suf n hl (fun i hi => UInt8.toNat_inj.1 (hp i hi)) (fun i hi => UInt8.toNat_inj.1 (hs i hi)),
    by rw [List.length_take, List.length_drop]; omega⟩

/-- converse of `scriptForm_script`: a script that Script2Idx recognises IS the standard script of the
    address (type, payload) it reports, and the payload has the address type's length. -/
theorem scriptForm_converse (s : Bytes) (i : Nat) (p : Bytes) (h : scriptForm s = some (i, p)) :
    s = Addr.script ⟨i, p⟩ ∧ i < 5 ∧ p.length = (if i < 3 then 20 else 32) := by
  unfold scriptForm at h
  split at h
  · rename_i hc
    obtain ⟨hl, h0, h1, h2, h23, h24⟩ := hc
    injection h with h; injection h with hi hp; subst hi; subst hp
    obtain ⟨e, l⟩ := sandwich s [0x76, 0xa9, 0x14] [0x88, 0xac] 20 hl
      (fun i hi => match i, hi with | 0, _ => h0 | 1, _ => h1 | 2, _ => h2)
      (fun i hi => match i, hi with | 0, _ => h23 | 1, _ => h24)
    exact ⟨e, by decide, l⟩
  split at h
  · rename_i hc
    obtain ⟨hl, h0, h1, h22⟩ := hc
    injection h with h; injection h with hi hp; subst hi; subst hp
    obtain ⟨e, l⟩ := sandwich s [0xa9, 0x14] [0x87] 20 hl
      (fun i hi => match i, hi with | 0, _ => h0 | 1, _ => h1) (fun i hi => match i, hi with | 0, _ => h22)
    exact ⟨e, by decide, l⟩
  split at h
  · rename_i hc
    obtain ⟨hl, h0, h1⟩ := hc
    injection h with h; injection h with hi hp; subst hi; subst hp
    obtain ⟨e, l⟩ := sandwich s [0x00, 0x14] [] 20 hl
      (fun i hi => match i, hi with | 0, _ => h0 | 1, _ => h1) (fun i hi => absurd hi (Nat.not_lt_zero i))
    exact ⟨by rw [List.append_nil] at e; exact e, by decide, l⟩
  split at h
  · rename_i hc
    obtain ⟨hl, h0, h1⟩ := hc
    injection h with h; injection h with hi hp; subst hi; subst hp
    obtain ⟨e, l⟩ := sandwich s [0x00, 0x20] [] 32 hl
      (fun i hi => match i, hi with | 0, _ => h0 | 1, _ => h1) (fun i hi => absurd hi (Nat.not_lt_zero i))
    exact ⟨by rw [List.append_nil] at e; exact e, by decide, l⟩
  split at h
  · rename_i hc
    obtain ⟨hl, h0, h1⟩ := hc
    injection h with h; injection h with hi hp; subst hi; subst hp
    obtain ⟨e, l⟩ := sandwich s [0x51, 0x20] [] 32 hl
      (fun i hi => match i, hi with | 0, _ => h0 | 1, _ => h1) (fun i hi => absurd hi (Nat.not_lt_zero i))
    exact ⟨by rw [List.append_nil] at e; exact e, by decide, l⟩
  · cases h
/-- `hinj` of `balances_eq_projection` follows from injectivity of the hash on the payloads in play. -/
theorem hinj_of_payload_inj (H : Bytes → Nat) (a : Addr) (hv : a.idx < 5)
    (hl : a.payload.length = if a.idx < 3 then 20 else 32) (o : Out)
    (hH : ∀ p, scriptForm o.script = some (a.idx, p) → H p = H a.payload → p = a.payload)
    (hk : script2idx H o.script = script2idx H a.script) : o.script = a.script := by
  rw [script2idx_script H a hv hl] at hk
  unfold script2idx at hk
  split at hk
  · rename_i i p hf
    injection hk with hk; injection hk with hi hp
    subst hi
    have := hH p hf hp
    have hc := (scriptForm_converse _ _ _ hf).1
    rw [hc, this]
  · cases hk

/-- a record exists for an address exactly when GetAllUnspent reports something for it — whatever the
    values of the outputs (with `min = 0` a record whose outputs are all worth 0 has `Value = 0` and stays) -/
theorem record_iff_nonempty {H : Bytes → Nat} {s : State} (a : Addr) (h : Inv H s) (hon : s.on = true) :
    (aget (a.idx, H a.payload) s.bal).isSome = true ↔ getAllUnspent H s a ≠ [] := by
  have hK := h.2 hon (a.idx, H a.payload)
  unfold getAllUnspent
  cases hb : aget (a.idx, H a.payload) s.bal with
  | none => simp
  | some b =>
    rw [hb] at hK
    obtain ⟨_, hne, hiff, _⟩ := hK
    simp only [Option.isSome_some, true_iff]
    obtain ⟨i, hi⟩ := List.exists_mem_of_ne_nil _ hne
    obtain ⟨o, hc, _⟩ := (hiff i).1 hi
    obtain ⟨r, hr, ho⟩ := coinsOf_some.1 hc
    intro hnil
    have : (⟨r.txid, i.2, o.value, r.inBlock, r.coinbase⟩ : Unspent) ∈ b.unsp.filterMap (getRec s.utxo) :=
      List.mem_filterMap.2 ⟨i, hi, by simp [getRec, hr, ho]⟩
    rw [hnil] at this
    cases this

/-! ### checkers for the hypotheses on concrete histories -/

def admissibleB (s : State) : Ev → Bool
  | .add r => (aget r.key s.utxo).isNone
  | .undoAdd r =>
    match aget r.key s.utxo with
    | none => true
    | some old => old.outs.length == r.outs.length &&
        (List.range r.outs.length).all fun j => (outAt r.outs j).isNone || (outAt old.outs j).isNone
  | _ => true

def admissibleRunB (H : Bytes → Nat) : State → List Ev → Bool
  | _, [] => true
  | s, ev :: rest => admissibleB s ev && admissibleRunB H (step H s ev) rest

theorem admissible_of_B {s : State} {ev : Ev} (h : admissibleB s ev = true) : Admissible s ev := by
  cases ev with
  | add r => simpa [admissibleB, Admissible] using h
  | undoAdd r =>
    intro old ho
    simp only [admissibleB, ho, Bool.and_eq_true, beq_iff_eq, List.all_eq_true, List.mem_range, Bool.or_eq_true,
      Option.isNone_iff_eq_none] at h
    refine ⟨h.1, fun j o hj => ?_⟩
    have hlt : j < r.outs.length := (List.getElem?_eq_some_iff.mp (outAt_some hj)).1
    exact (h.2 j hlt).resolve_left (by simp [hj])
  | _ => trivial

theorem admissibleRun_of_B {H : Bytes → Nat} (evs : List Ev) : ∀ s : State, admissibleRunB H s evs = true → AdmissibleRun H s evs := by
  induction evs with
  | nil => intro _ _; trivial
  | cons ev rest ih =>
    intro s h
    simp only [admissibleRunB, Bool.and_eq_true] at h
    exact ⟨admissible_of_B h.1, ih _ h.2⟩

/-- the hash-injectivity hypothesis of the central theorem as a test over the outputs of a concrete unspent set -/
def hashInjB (H : Bytes → Nat) (a : Addr) (u : Utxo) : Bool :=
  u.all fun kr => kr.2.outs.all fun o =>
    match o.bind fun o => scriptForm o.script with
    | some (i, p) => i != a.idx || H p != H a.payload || p == a.payload
    | none => true

theorem hashInj_of_B {H : Bytes → Nat} {a : Addr} {u : Utxo} (h : hashInjB H a u = true) (k : Key) (r : Rec) (j : Nat) (o : Out)
    (p : Bytes) (hr : aget k u = some r) (ho : outAt r.outs j = some o) (hf : scriptForm o.script = some (a.idx, p))
    (hH : H p = H a.payload) : p = a.payload := by
  have hm : some o ∈ r.outs := List.mem_of_getElem? (outAt_some ho)
  have := List.all_eq_true.mp (List.all_eq_true.mp h (k, r) (aget_mem k r u hr)) (some o) hm
  simpa [hf, hH] using this

end GocoinV.Proofs.C17
