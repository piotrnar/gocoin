/-
  Proofs.C09Obj — the stateful `btc.Block` object (Model/WireBlockObj.lean): the pair (TxCount, TxOffset) always
  belongs to the current Raw (invariant over every history), hence BuildTxListExt on any reachable object returns the
  error class of the pure decode of the current Raw and — unless that is the count error, which leaves `Txs` as it was —
  its count, transactions and weight. Core tactics only.
-/
import GocoinV.Model.WireBlockObj
import GocoinV.Proofs.C09
namespace GocoinV.Wire
open GocoinV GocoinV.CompactSize

/-- the (TxCount, TxOffset) pair is either "not parsed yet" or the count field of the CURRENT Raw -/
def BlockObj.Inv (s : BlockObj) : Prop :=
  80 ≤ s.raw.length ∧
  (s.txCount ≠ 0 → ∃ rest, vlenWire (s.raw.drop 80) = some (s.txCount, rest) ∧
      s.txOffset = 80 + ((s.raw.drop 80).length - rest.length))

theorem vlenWireGo_none {b : Bytes} (h : vlenWire b = none) : vlenWireGo b = (0, 0) := by
  simp [vlenWireGo, h]

theorem vlenWireGo_some {b r : Bytes} {v : Nat} (h : vlenWire b = some (v, r)) :
    vlenWireGo b = (v, b.length - r.length) := by
  simp [vlenWireGo, h]

theorem inv_update (d : Bytes) (s : BlockObj) (hs : s.Inv ∨ 80 ≤ d.length) : (updateContent d s).1.Inv := by
  unfold updateContent
  by_cases h80 : d.length < 80
  · simp only [h80, ↓reduceIte]
    rcases hs with hs | hs
    · exact hs
    · omega
  · simp only [h80, ↓reduceIte]
    by_cases hg : d.length > 80
    · simp only [hg, ↓reduceIte]
      cases hv : vlenWire (d.drop 80) with
      | none =>
        rw [vlenWireGo_none hv]
        simp only [↓reduceIte]
        exact ⟨by simp only []; omega, fun hc => absurd rfl hc⟩
      | some p =>
        obtain ⟨v, r⟩ := p
        rw [vlenWireGo_some hv]
        have h1 := (vlenWire_rest hv).2.2.1
        have hne : ¬ ((d.drop 80).length - r.length = 0) := by omega
        simp only [hne, ↓reduceIte]
        refine ⟨by simp only []; omega, fun _ => ⟨r, hv, ?_⟩⟩
        simp only []
        omega
    · simp only [hg, ↓reduceIte]
      exact ⟨by simp only []; omega, fun hc => absurd rfl hc⟩

theorem inv_build (H : Bytes → Bytes) (b : Bool) (s : BlockObj) (hs : s.Inv) : (buildTxListExt H b s).1.Inv := by
  obtain ⟨hlen, hcnt⟩ := hs
  unfold buildTxListExt
  by_cases hp : s.txCount = 0
  · -- TxCount = 0: this call parses the count from Raw
    cases hv : vlenWire (s.raw.drop 80) with
    | none =>
      simp only [hp, vlenWireGo_none hv, true_and, or_self, ↓reduceIte]
      exact ⟨hlen, fun hc => absurd rfl hc⟩
    | some p =>
      obtain ⟨v, r⟩ := p
      have hr := vlenWire_rest hv
      simp only [hp, vlenWireGo_some hv, true_and, ↓reduceIte]
      by_cases hz : v = 0 ∨ (s.raw.drop 80).length - r.length = 0
      · simp only [hz, ↓reduceIte]
        refine ⟨hlen, fun hc => ?_⟩
        rcases hz with hz | hz
        · exact absurd hz hc
        · omega
      · simp only [hz, ↓reduceIte]
        split <;> exact ⟨hlen, fun _ => ⟨r, hv, by simp only []; omega⟩⟩
  · simp only [hp, false_and, ↓reduceIte]
    split <;> exact ⟨hlen, hcnt⟩

theorem inv_clean (s : BlockObj) (hs : s.Inv) : (clean s).1.Inv := by
  unfold clean
  split <;> exact hs

theorem inv_step (H : Bytes → Bytes) (op : Op) (hw : op.WF) (s : BlockObj) (hs : s.Inv) : (step H op s).1.Inv := by
  cases op with
  | update d => exact inv_update d s (Or.inl hs)
  | build b => exact inv_build H b s hs
  | clean => exact inv_clean s hs
  | discard r => exact ⟨hw, fun hc => absurd rfl hc⟩

theorem inv_run (H : Bytes → Bytes) : ∀ (ops : List Op), (∀ op ∈ ops, op.WF) → ∀ s : BlockObj, s.Inv → (run H ops s).Inv
  | [], _, _, hs => hs
  | op :: ops, hw, s, hs =>
    inv_run H ops (fun o ho => hw o (List.mem_cons_of_mem _ ho)) _
      (inv_step H op (hw op List.mem_cons_self) s hs)

theorem raw_update (d : Bytes) (s : BlockObj) :
    (updateContent d s).1.raw = if d.length < 80 then s.raw else d := by
  unfold updateContent
  by_cases h : d.length < 80
  · simp [h]
  · simp only [h, ↓reduceIte]
    split
    · split <;> rfl
    · rfl

theorem raw_build (H : Bytes → Bytes) (b : Bool) (s : BlockObj) : (buildTxListExt H b s).1.raw = s.raw := by
  unfold buildTxListExt
  by_cases hp : s.txCount = 0
  · simp only [hp, true_and, ↓reduceIte]
    split
    · rfl
    · split <;> rfl
  · simp only [hp, false_and, ↓reduceIte]
    split <;> rfl

theorem raw_clean (s : BlockObj) : (clean s).1.raw = s.raw := by
  unfold clean
  split <;> rfl

theorem raw_run (H : Bytes → Bytes) : ∀ (ops : List Op) (s : BlockObj), (run H ops s).raw = currentRaw ops s.raw
  | [], _ => rfl
  | op :: ops, s => by
    show (run H ops (step H op s).1).raw = _
    rw [raw_run H ops]
    cases op with
    | update d => exact congrArg (currentRaw ops) (raw_update d s)
    | build b => exact congrArg (currentRaw ops) (raw_build H b s)
    | clean => exact congrArg (currentRaw ops) (raw_clean s)
    | discard r => rfl

/-! ### BuildTxListExt on an object satisfying the invariant = pure decode of its Raw -/

def outcomeOf : Option BlockErr → Outcome
  | none => .ok
  | some .tooShort => .tooShort
  | some .badCount => .badCount
  | some .txFailed => .txFailed

theorem build_pure (H : Bytes → Bytes) (b : Bool) (s : BlockObj) (hs : s.Inv) :
    let r := decodeBlockExt H b s.raw
    let res := buildTxListExt H b s
    res.2 = outcomeOf r.err ∧ res.2 ≠ .panic ∧ res.2 ≠ .tooShort ∧
    (res.2 = .badCount → res.1.txCount = 0 ∧ res.1.txs = s.txs ∧ res.1.weight = s.weight) ∧
    (res.2 ≠ .badCount → res.1.txCount = r.txCount ∧ res.1.txOffset = 80 + vlenSize r.txCount ∧
        res.1.txs = some r.txs ∧ res.1.weight = r.weight) := by
  obtain ⟨hlen, hcnt⟩ := hs
  have h80 : ¬ s.raw.length < 80 := by omega
  have hl80 : (s.raw.drop 80).length = s.raw.length - 80 := by simp
  cases hv : vlenWire (s.raw.drop 80) with
  | none =>
    have hp : s.txCount = 0 := Decidable.byContradiction fun hp => by
      obtain ⟨r, hv', _⟩ := hcnt hp
      rw [hv] at hv'; cases hv'
    simp [decodeBlockExt, buildTxListExt, h80, hv, hp, vlenWireGo, outcomeOf]
  | some p =>
    obtain ⟨v, r⟩ := p
    obtain ⟨hd, hn, h1, -⟩ := vlenWire_rest hv
    by_cases hz : v = 0
    · have hp : s.txCount = 0 := Decidable.byContradiction fun hp => by
        obtain ⟨r', hv', _⟩ := hcnt hp
        rw [hv] at hv'; cases hv'; exact hp hz
      simp [decodeBlockExt, buildTxListExt, h80, hv, hp, hz, vlenWireGo, outcomeOf]
    · by_cases hp : s.txCount = 0
      · rw [hl80] at hd hn h1
        have hne : ¬ (s.raw.length - 80 - r.length = 0) := by omega
        have hle : ¬ (s.raw.length < s.raw.length - 80 - r.length + 80) := by omega
        have hdrop : s.raw.drop (s.raw.length - 80 - r.length + 80) = r := by
          rw [Nat.add_comm, ← List.drop_drop]; exact hd
        cases hq : (decodeTxs v r).2 <;>
          simp [decodeBlockExt, buildTxListExt, h80, hv, hp, hz, vlenWireGo, outcomeOf, hne, hle, hdrop, hq] <;> omega
      · obtain ⟨r', hv', ho⟩ := hcnt hp
        rw [hv] at hv'
        simp only [Option.some.injEq, Prod.mk.injEq] at hv'
        obtain ⟨hv1, hv2⟩ := hv'
        subst hv2
        have hle : ¬ (s.raw.length < s.txOffset) := by omega
        have hdrop : s.raw.drop s.txOffset = r := by
          rw [ho, ← List.drop_drop]; exact hd
        cases hq : (decodeTxs v r).2 <;>
          simp [decodeBlockExt, buildTxListExt, h80, hv, hz, outcomeOf, hle, hdrop, hq, ← hv1] <;> omega

/-- with `dohash = true` the pure reference is `Wire.decodeBlock` (NewBlock + BuildTxList), the function
    `block_weight_spec`, `block_txids_spec`, `merkle_root_spec` are about -/
theorem decodeBlockExt_true (H : Bytes → Bytes) (raw : Bytes) :
    let r := decodeBlockExt H true raw
    let r' := decodeBlock H raw
    r.err = r'.err ∧ r.txCount = r'.txCount ∧ r.txs = r'.txs ∧ r.weight = r'.weight := by
  unfold decodeBlockExt decodeBlock
  by_cases h80 : raw.length < 80
  · simp [h80]
  · simp only [h80, ↓reduceIte]
    cases hv : vlenWire (raw.drop 80) with
    | none => simp
    | some p =>
      obtain ⟨v, r⟩ := p
      by_cases hz : v = 0
      · simp [hz]
      · simp only [hz, ↓reduceIte]
        simp [mkBlockTxsExt, blockWeightOf]

theorem blockWeightOf_congr (cnt : Nat) (a b : List BlockTx)
    (h : a.map (fun t => (t.tx, t.raw, t.ids.size, t.ids.noWitSize)) = b.map (fun t => (t.tx, t.raw, t.ids.size, t.ids.noWitSize))) :
    blockWeightOf cnt a = blockWeightOf cnt b := by
  have e := congrArg (List.map fun q : Tx × Bytes × Nat × Nat => (3 * q.2.2.2 + q.2.2.1) % 2^32) h
  simp only [List.map_map, Function.comp_def] at e
  unfold blockWeightOf
  rw [e]

/-- `BuildTxListExt(false)` builds the same transactions with the same sizes and the same BlockWeight; only the
    ids stay zero -/
theorem decodeBlockExt_false (H : Bytes → Bytes) (raw : Bytes) :
    let r := decodeBlockExt H false raw
    let r' := decodeBlockExt H true raw
    r.err = r'.err ∧ r.txCount = r'.txCount ∧ r.weight = r'.weight ∧
    r.txs.map (fun t => (t.tx, t.raw, t.ids.size, t.ids.noWitSize)) =
      r'.txs.map (fun t => (t.tx, t.raw, t.ids.size, t.ids.noWitSize)) ∧
    ∀ t ∈ r.txs, t.ids.hash = List.replicate 32 0 := by
  unfold decodeBlockExt
  by_cases h80 : raw.length < 80
  · simp [h80]
  · simp only [h80, ↓reduceIte]
    cases hv : vlenWire (raw.drop 80) with
    | none => simp
    | some p =>
      obtain ⟨v, r⟩ := p
      by_cases hz : v = 0
      · simp [hz]
      · simp only [hz, ↓reduceIte]
        have hm : (mkBlockTxsExt H false (decodeTxs v r).1).map (fun t => (t.tx, t.raw, t.ids.size, t.ids.noWitSize)) =
            (mkBlockTxsExt H true (decodeTxs v r).1).map (fun t => (t.tx, t.raw, t.ids.size, t.ids.noWitSize)) := by
          simp only [mkBlockTxsExt, ↓reduceIte, Bool.false_eq_true, mkBlockTxs_proj]
          simp [List.map_map, blockTxIdsNoHash, Function.comp_def]
        refine ⟨trivial, trivial, blockWeightOf_congr v _ _ hm, hm, ?_⟩
        intro t ht
        simp only [mkBlockTxsExt, Bool.false_eq_true, ↓reduceIte, List.mem_map] at ht
        obtain ⟨p, _, rfl⟩ := ht
        rfl

end GocoinV.Wire
