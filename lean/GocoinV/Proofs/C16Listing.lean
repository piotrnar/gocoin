/-
  Proofs.C16Listing — reopen_index at history level: what LoadBlockIndex lists after a restart, in terms of the
  history's durable-map specification (every option combination, retention included — the index file is never pruned).
-/
import GocoinV.Proofs.C16Restart
namespace GocoinV.BlockDB

theorem chunks_eq (fuel : Nat) (file : Bytes) (h : fuel * 136 > file.length) :
    chunks fuel file = (List.range (file.length / 136)).map (fun i => recAt file (136 * i)) :=
  chunks_range fuel file h

theorem filter_unique {α : Type} (P : α → Bool) (a : α) : ∀ l : List α, l.Nodup → a ∈ l →
    (∀ x ∈ l, P x = true ↔ x = a) → l.filter P = [a] := by
  intro l hnd ha hp
  haveI : DecidableEq α := fun _ _ => Classical.propDecidable _
  rw [List.filter_congr (q := (· == a)) fun x hx => by rw [Bool.eq_iff_iff, hp x hx, beq_iff_eq],
    List.filter_beq, hnd.count, if_pos ha]
  rfl

theorem walkOf_meta (env : Env) (c : Bytes) (r : Rec) (e : SEnt) (hd : Desc c r) (hm : Meta c e) :
    walkOf env c = ⟨env.hash (e.raw.take 80), e.raw.take 80, e.height, e.raw.length, e.txcount⟩ := by
  have f1 : hasFlag (c.getD 0 0).toNat BLOCK_LENGTH = true := hd.fl_len
  unfold walkOf
  simp only [f1, ↓reduceIte, hm.hdr, hm.height, hm.olen, hm.txs]

/-- After a restart of a closed store that satisfies the invariant: the walk lists, for every key that was added and never
    marked invalid, exactly one entry, with the block's hash / header / height / size / transaction count; every listed entry
    belongs to a key that was added; the append position is the end of the index file. (The rebuilt index record's trusted
    flag and size: `reopen_index_flags`.) -/
theorem reopen_lists (env : Env) (hadv : env.advInvalid = true) (s : State) (sp : Spec) (n : Nat) (hC : Core env s sp n)
    (hc : s.isOpen = false) (o : Opts) :
    ∃ ws, (reopen env s.fs o).2 = .walk ws ∧
      (∀ k e, AL.get sp.m k = some e → e.tainted = false →
        ws.filter (fun w => decide (keyOf w.hash = k)) =
          [⟨env.hash (e.raw.take 80), e.raw.take 80, e.height, e.raw.length, e.txcount⟩]) ∧
      (∀ w ∈ ws, ∃ e, AL.get sp.m (keyOf w.hash) = some e) ∧
      (reopen env s.fs o).1.maxidxfilepos = s.fs.idx.length := by
  have hD := hC.disk
  have hI := hC.inv
  have hw := hC.closed hc
  have hm := hI.len_mod
  refine ⟨_, reopen_walk env s.fs o, ?_, ?_, ?_⟩
  · intro k e he ht
    obtain ⟨r0, a1⟩ := hD.ent k e he ht
    obtain ⟨p, hp⟩ := Option.isSome_iff_exists.mp (hw k r0 a1)
    obtain ⟨pl, pm⟩ := hI.ipos k r0 p a1 hp
    obtain ⟨mk, md⟩ := hD.mem k r0 p a1 hp
    have mt := hD.specrec k e r0 p he ht a1 hp
    rw [chunks_eq _ _ (by omega), List.filter_map, List.filter_map, List.filter_map, List.filter_filter,
      filter_unique _ (p / 136) _ List.nodup_range (List.mem_range.mpr (by omega))]
    · simp only [List.map_cons, List.map_nil]
      have : 136 * (p / 136) = p := by omega
      rw [this, walkOf_meta env _ r0 e md mt]
    · intro i hi
      have hi' := List.mem_range.mp hi
      simp only [Function.comp, Bool.and_eq_true, decide_eq_true_eq, Bool.not_eq_eq_eq_not, Bool.not_true]
      constructor
      · intro ⟨hk, hv⟩
        obtain ⟨r, b1, b2⟩ := hD.disk (136 * i) (by omega) (by omega) hv
        have hk' : keyOfRec env (recAt s.fs.idx (136 * i)) = k := hk
        rw [hk', a1] at b1; simp only [Option.some.injEq] at b1; subst b1
        rw [hp] at b2; simp only [Option.some.injEq] at b2
        omega
      · intro e1
        have : 136 * i = p := by omega
        rw [this]
        exact ⟨mk, mt.valid⟩
  · intro w hwm
    rw [chunks_eq _ _ (by omega)] at hwm
    simp only [List.mem_map, List.mem_filter, List.mem_range, Bool.not_eq_eq_eq_not, Bool.not_true] at hwm
    obtain ⟨c, ⟨⟨i, hi, rfl⟩, hv⟩, rfl⟩ := hwm
    obtain ⟨r, b1, _⟩ := hD.disk (136 * i) (by omega) (by omega) hv
    exact hD.idxspec _ r b1
  · have := (reopen_inv env hadv s.fs o hm).1.pos (reopen_inv env hadv s.fs o hm).2
    rw [reopen_fs_idx] at this; exact this

/-- the rebuilt index after the restart: the record of a key that was added and never marked invalid carries the latest
    trusted flag and the block's size -/
theorem reopen_index_flags (env : Env) (hadv : env.advInvalid = true) (s : State) (sp : Spec) (n : Nat) (hC : Core env s sp n)
    (hn : n < 2^31) (hc : s.isOpen = false) (o : Opts) :
    ∀ k e r0, AL.get sp.m k = some e → e.tainted = false → AL.get s.index k = some r0 →
      ∃ r, AL.get (reopen env s.fs o).1.index k = some r ∧ r.trusted = r0.trusted ∧ r.olen = e.raw.length ∧
        r.fpos = r0.fpos ∧ r.blen = r0.blen ∧ r.datfileidx = r0.datfileidx := by
  intro k e r0 he ht a1
  have hD := hC.disk
  have hI := hC.inv
  have L := load_linv env hadv s sp n hD hI hn
  obtain ⟨p, hp⟩ := Option.isSome_iff_exists.mp (hC.closed hc k r0 a1)
  have mt := hD.specrec k e r0 p he ht a1 hp
  obtain ⟨_, md⟩ := hD.mem k r0 p a1 hp
  obtain ⟨q1, q2, q3, _, _, q6, q7, _⟩ := recOf_fields _ r0 p md
  refine ⟨recOf (recAt s.fs.idx p) p, ?_, q6, by rw [q7, mt.olen], q1, q2, q3⟩
  exact L.l2 k r0 p a1 hp (by have := (hI.ipos k r0 p a1 hp).1; omega) mt.valid

end GocoinV.BlockDB
