/-
  Proofs.C19Hist — histories that CONTINUE after a crash: NewDBExt re-establishes the invariants on every directory
  a crash can leave (also when `loadlog` discards the log: empty log left between os.Create and the header write,
  or the previous version's log left by a crash inside defrag), including crashes inside NewDBExt itself.
-/
import GocoinV.Proofs.C19ReopenRun
namespace GocoinV.Proofs.C19
open GocoinV GocoinV.Qdb GocoinV.QdbSpec

variable {eg : Bool}

/-! ### opening a directory whose log is discarded -/

def noLog (F : FS) : FS := { F with log := none }

theorem snapVer_noLog (F : FS) : snapVer (noLog F) = snapVer F := rfl

theorem diskIndex_noLog (F : FS) (hd : LogDiscarded F) : diskIndex (noLog F) = diskIndex F := by
  unfold diskIndex
  rw [logEntries_discarded F hd]
  rfl

/-- `NewDBidx` on a directory whose log is discarded leaves what it would leave on the directory without the log -/
theorem open_state_discard (F : FS) (vol : Bool) (opts : Opts) (hd : LogDiscarded F) :
    OpenState (noLog F) vol (openIndex { fs := F, volatile := vol, opts := opts, eager := eg }) := by
  obtain ⟨e, n, m, h, hm⟩ := openIndex_eq F vol opts
  rw [h eg]
  have hDI := diskIndex_noLog F hd
  obtain ⟨f, hf1, hf2⟩ := hd
  have hT : logTrim F = [("qdb.loadlog:removed", .removeLog)] ∧ logRead F = false := by
    unfold logTrim logRead
    rw [hf1]; simp only [hf2]; exact ⟨trivial, rfl⟩
  obtain ⟨s1, s2, s3⟩ := slotTrim_slots F ((slotTrimmed F).applyAll ((logTrim F).map (·.2)))
    (by rw [hT.1]; rfl) (by rw [hT.1]; rfl)
  apply OpenState.cleanupold
  · exact ⟨hDI.symm, rfl, rfl, rfl, rfl, rfl, by show (FS.applyAll _ _).log = _; rw [hT.1]; rfl,
      by show logRead F = true ↔ _; rw [hT.2]; simp [noLog], s1, s2, s3, fun kr hkr => hm kr (hDI ▸ hkr),
      fun kr _ => by show dlookup _ (FS.applyAll _ _).dats = _; rw [logTrimmed_dats]; rfl⟩
  · exact fun kr hkr => List.contains_iff_mem.mpr (diskIndex_used F kr (hDI ▸ hkr))

/-- what `NewDBidx` leaves on an openable directory, whether `loadlog` reads the log or discards it: the state of
    `OpenState` for a directory `F'` (`F`, or `F` without the discarded log) with the same disk index and data files -/
theorem openOK_state (F : FS) (vol : Bool) (opts : Opts) (h : OpenOK eg F) :
    ∃ F' E, OpenState F' vol (openIndex { fs := F, volatile := vol, opts := opts, eager := eg }) ∧
      (∀ e ∈ E, EntryFits e) ∧ LogState F' (snapVer F') E ∧ snapVer F' < 2^32 ∧ DirReadable eg F' ∧
      diskIndex F' = diskIndex F ∧ F'.dats = F.dats := by
  rcases h.log with ⟨E, hE, hlog⟩ | hd
  · exact ⟨F, E, open_state F vol opts E hE hlog h.ver, hE, hlog, h.ver, h.readable, rfl, rfl⟩
  · exact ⟨noLog F, [], open_state_discard F vol opts hd, (fun e he => by cases he), Or.inl ⟨rfl, rfl⟩,
      h.ver, fun kr hkr => h.readable kr (diskIndex_noLog F hd ▸ hkr), diskIndex_noLog F hd, rfl⟩

/-- NewDBExt (non-volatile, LoadData) on ANY openable directory — in particular on every directory a crash can
    leave — satisfies the invariants, and nothing is pending -/
theorem open_inv3g (F : FS) (opts : Opts) (h : OpenOK eg F)
    (hmax : (openIndex { fs := F, volatile := false, opts := opts, eager := eg }).maxSeq + 1 < 2^32) :
    Inv3 (openDB F false true opts eg) ∧ (openDB F false true opts eg).pending = [] := by
  obtain ⟨F', E, S, hE, hlog, hsv, hR, _⟩ := openOK_state F false opts h
  obtain ⟨hload, h3⟩ := inv3_of_openState F' _ S E hE hlog hsv hR hmax (openIndex_eager F false opts)
  rw [openDB_of_loadAll rfl hload]
  exact ⟨h3, S.pending⟩

theorem open_vals (F : FS) (opts : Opts) (h : OpenOK eg F) (k : Key) :
    vals (openDB F false true opts eg) k = diskValue F k := by
  rw [vals_eq]
  exact (open_readable F h.readable false opts).2 k

/-! ### crashes inside NewDBExt: its own file operations are removals that change nothing a reopen looks at -/

/-- the removals NewDBExt performs on directory `F` — the index slot that was not picked, a log that is discarded, data
    files no record of the disk index refers to — are cases of `Harmless F` (Proofs/C19Crash) -/
abbrev TrimEff (F : FS) (e : Effect) : Prop := Harmless F e

/-- `G` shows a reopen what `F` shows it (`Alike`, Proofs/C19Crash) -/
abbrev Trim (F G : FS) : Prop := Alike F G

theorem Trim.refl (F : FS) : Trim F F := Alike.refl F

theorem Trim.applyAll {F G : FS} (h : Trim F G) (l : List Effect) (hl : ∀ e ∈ l, TrimEff F e) :
    Trim F (G.applyAll l) := Alike.applyAll h l hl

theorem Trim.ok {F G : FS} (h : Trim F G) (h0 : OpenOK eg F) : OpenOK eg G ∧ ∀ k, diskValue G k = diskValue F k :=
  Alike.ok h h0

/-! #### the file operations of NewDBExt are such removals -/

theorem loadAll_effs (db : DB) : (loadAll db).effs = db.effs :=
  (Pre.of_eq (·.effs)).loadAll (fun d w => by unfold fail; split <;> rfl) (fun _ _ => rfl) db

theorem cleanupold_effs (db : DB) (used : List Nat) :
    Emits (fun e => ∃ t, used.contains t = false ∧ e = .removeDat t) (cleanupold db used) db :=
  (emitsPre _).cleanupold db used (fun d s hs => emits_emit d _ _ ⟨s, by simpa using hs, rfl⟩)

theorem openDB_effs (F : FS) (vol load : Bool) (opts : Opts) : (openDB F vol load opts eg).effs =
    (openIndex { fs := F, volatile := vol, opts := opts, eager := eg }).effs := by
  unfold openDB
  dsimp only
  split
  · exact loadAll_effs _
  · rfl

/-- the file operations of `NewDBidx`: the two removals before `cleanupold`, then data files not marked as used -/
theorem openIndex_effs (F : FS) (vol : Bool) (opts : Opts) :
    ∃ es, (openIndex { fs := F, volatile := vol, opts := opts, eager := eg }).effs = (slotTrim F ++ logTrim F) ++ es ∧
      ∀ x ∈ es, ∃ t, (snapSeqs F ++ logSeqs (logEntries F)).contains t = false ∧ x.2 = .removeDat t := by
  obtain ⟨e, n, m, h, _⟩ := openIndex_eq F vol opts
  rw [h eg]
  exact cleanupold_effs _ _

theorem open_effs_trim (F : FS) (vol load : Bool) (opts : Opts) :
    ∀ e ∈ (openDB F vol load opts eg).effs, TrimEff F e.2 := by
  obtain ⟨es, h1, h2⟩ := openIndex_effs (eg := eg) F vol opts
  rw [openDB_effs, h1]
  intro x hx
  rcases List.mem_append.mp hx with hx | hx
  · rcases List.mem_append.mp hx with hx | hx
    · unfold slotTrim at hx
      split at hx
      · cases hx
      · rename_i i s d hp
        cases List.mem_singleton.mp hx
        exact ⟨i, s, d, hp, rfl⟩
    · unfold logTrim at hx
      split at hx
      · cases hx
      · rename_i f hl
        split at hx
        · rename_i hb
          cases List.mem_singleton.mp hx
          exact .inl ⟨f, hl, hb⟩
        · cases hx
  · obtain ⟨t, ht1, ht2⟩ := h2 x hx
    rw [ht2]
    intro kr hkr hEq
    have := diskIndex_used F kr hkr
    rw [hEq, ← List.contains_iff_mem, ht1] at this
    cases this

/-- every directory a crash inside NewDBExt on `F` can leave is a trimmed `F` -/
theorem open_prefix_trim (F : FS) (vol load : Bool) (opts : Opts) (n : Nat) :
    Trim F (F.applyAll (((openDB F vol load opts eg).effs.map (·.2)).take n)) :=
  Alike.prefix F _ (fun e he => by
    obtain ⟨x, hx, rfl⟩ := List.mem_map.mp he
    exact open_effs_trim _ _ _ _ x hx) n

/-! ### crash points of one operation: all-old or all-new, and always openable -/

/-- every prefix of the file operations `es`, applied to `F0`, leaves an openable directory that holds, for all keys
    at once, either the content of `F0` or the content `new` -/
def Atomic (eg : Bool) (F0 : FS) (es : List Effect) (new : Key → Option Bytes) : Prop :=
  ∀ n, OpenOK eg (F0.applyAll (es.take n)) ∧
    ((∀ k, diskValue (F0.applyAll (es.take n)) k = diskValue F0 k) ∨
     (∀ k, diskValue (F0.applyAll (es.take n)) k = new k))

theorem atomic_nil (F0 : FS) (new : Key → Option Bytes) (h : OpenOK eg F0) : Atomic eg F0 [] new := by
  intro n
  rw [List.take_nil]
  exact ⟨h, Or.inl (fun _ => rfl)⟩

theorem atomic_append {F0 : FS} {a b : List Effect} {new : Key → Option Bytes} (ha : Atomic eg F0 a new)
    (hb : Atomic eg (F0.applyAll a) b new) : Atomic eg F0 (a ++ b) new := by
  intro n
  by_cases hn : n ≤ a.length
  · rw [List.take_append_of_le_length hn]; exact ha n
  · have : (a ++ b).take n = a ++ b.take (n - a.length) := by
      rw [List.take_append, List.take_of_length_le (by omega)]
    rw [this, applyAll_append]
    obtain ⟨o, v⟩ := hb (n - a.length)
    refine ⟨o, ?_⟩
    have hmid := (ha a.length).2
    rw [List.take_length] at hmid
    rcases v with v | v
    · rcases hmid with m | m
      · exact Or.inl (fun k => (v k).trans (m k))
      · exact Or.inr (fun k => (v k).trans (m k))
    · exact Or.inr v

theorem Atomic.congr {F0 : FS} {es : List Effect} {new new' : Key → Option Bytes} (h : Atomic eg F0 es new)
    (e : ∀ k, new k = new' k) : Atomic eg F0 es new' :=
  fun n => ⟨(h n).1, (h n).2.imp_right fun v k => (v k).trans (e k)⟩

theorem diskValue_of_inv (L : DB) (inv : DiskInv L) (hp : L.pending = []) (k : Key) : diskValue L.fs k = vals L k := by
  rw [vals_eq]
  exact diskValue_of_clean L inv hp k

theorem sync_part_atomic (db : DB) (h : Inv3 db) (hp : db.pending.isEmpty = false) (hs : SizeOK db) :
    Atomic db.eager db.fs (syncEffs db) (vals db) := by
  intro n
  by_cases hn : n < (syncEffs db).length
  · exact ⟨sync_prefix_ok db h.inv n hn, Or.inl (sync_prefix db h.inv n hn).2⟩
  · rw [List.take_of_length_le (by omega)]
    obtain ⟨L, _, h3L, absL, pL, _, hfs, _, _, hLe⟩ := sync_logWritten3 db h hp hs
    rw [← hfs, ← hLe]
    refine ⟨openOK_of_inv L h3L.inv, Or.inr (fun k => ?_)⟩
    rw [diskValue_of_inv L h3L.inv pL k]; unfold vals; rw [absL]

/-- side conditions of the crash analysis of a defrag of `db`'s content: the data-file sequence number does not wrap
    and the index snapshot (16 + 24 bytes per record) fits the 1 MiB bufio buffer -/
structure DFits (db : DB) : Prop where
  seq : db.dataSeq + 1 < 2^32
  small : 16 + 24 * db.index.length ≤ bufSize

theorem dFits_iff (db : DB) : DFits db ↔ (db.dataSeq + 1 < 2^32 ∧ 16 + 24 * db.index.length ≤ bufSize) :=
  ⟨fun h => ⟨h.seq, h.small⟩, fun h => ⟨h.1, h.2⟩⟩

theorem defragReady_of (L : DB) (h : Inv3 L) (hsm : 4 + (valsOf L.index).flatten.length < 2^32) (hd : DFits L) :
    DefragReady L := by
  obtain ⟨E, hEf, hE⟩ := h.inv.logst
  refine ⟨h.inv.cached, ⟨h.inv.cached.2, h.inv.wf, h.inv.nodup, hsm⟩, h.i2.free, ⟨h.i2.other, E, hE⟩, h.inv.verlt,
    fun kr hkr => ⟨h.inv.dflags kr hkr, h.inv.dreads kr hkr⟩, ?_, ⟨E, hEf, hE⟩, h.inv.ver, ?_⟩
  · intro kr hkr
    have := h.i2.seqs kr hkr
    have hu : u32 (L.dataSeq + 1) = L.dataSeq + 1 := Nat.mod_eq_of_lt hd.seq
    rw [hu]; omega
  · rw [snapBytes_length, layout_length]; exact hd.small

theorem defrag_atomic' (L : DB) (hready : DefragReady L) :
    ∃ es, (defrag L).effs = L.effs ++ es ∧ Atomic L.eager L.fs (es.map (·.2)) (vals L) := by
  obtain ⟨es, he, hall⟩ := defrag_prefix L hready
  exact ⟨es, he, Atomic.congr hall fun k => (vals_eq L k).symm⟩

theorem defrag_atomic (L : DB) (h : Inv3 L) (hsm : 4 + (valsOf L.index).flatten.length < 2^32) (hd : DFits L) :
    ∃ es, (defrag L).effs = L.effs ++ es ∧ Atomic L.eager L.fs (es.map (·.2)) (vals L) :=
  defrag_atomic' L (defragReady_of L h hsm hd)

/-- all crash points of sync() (log write and a possible forced defrag included) -/
theorem sync_atomic (db : DB) (h : Inv3 db) (hs : SizeOK db) (hd : DFits db) :
    ∃ es, (sync db).effs = db.effs ++ es ∧ (sync db).fs = db.fs.applyAll (es.map (·.2)) ∧
      Atomic db.eager db.fs (es.map (·.2)) (vals db) := by
  obtain ⟨es, he1, he2⟩ := replays_sync db
  refine ⟨es, he1, he2, ?_⟩
  cases hp : db.pending.isEmpty with
  | true =>
    have hsame : sync db = db := by unfold sync; simp [h.inv.nv, hp]
    rw [hsame] at he1
    rw [List.self_eq_append_right.mp he1]
    exact atomic_nil _ _ (openOK_of_inv db h.inv)
  | false =>
    obtain ⟨L, hL, h3L, absL, pL, ⟨es1, hes1, hes1m⟩, hfs, hds, _, hLe⟩ := sync_logWritten3 db h hp hs
    have hA := sync_part_atomic db h hp hs
    by_cases hc : L.extra > mul64 L.opts.forcedPerc L.need / 100
    · rw [if_pos hc] at hL
      have hlen : L.index.length = db.index.length := by
        have := congrArg List.length absL
        simpa [absv] using this
      obtain ⟨es2, hes2, hA2⟩ := defrag_atomic L h3L (by rw [valsOf_of_absv L db absL]; exact hs.2)
        ⟨by rw [hds]; exact hd.seq, by rw [hlen]; exact hd.small⟩
      have hes : es = es1 ++ es2 := by
        apply List.append_cancel_left (as := db.effs)
        rw [← he1, hL, hes2, hes1, List.append_assoc]
      rw [hes, List.map_append, hes1m]
      apply atomic_append hA
      rw [← hfs, ← hLe]
      exact hA2.congr (fun k => by unfold vals; rw [absL])
    · rw [if_neg hc] at hL
      have hes : es = es1 := by
        apply List.append_cancel_left (as := db.effs)
        rw [← he1, hL, hes1]
      rw [hes, hes1m]
      exact hA

/-! ### every operation of the extended sub-language (`OpOK2` of Proofs/C19ReopenRun) -/

/-- the crash points of an operation other than a reopen: those of the sync() or defrag() it may run -/
theorem step_crash_nv (db : DB) (h : Inv3 db) (op : Op) (ok : OpOK db.eager op) (fits : OpFits db op)
    (hd : DFits (preSync db op)) :
    ∃ es', (step db op).effs = db.effs ++ es' ∧ Atomic db.eager db.fs (es'.map (·.2)) (vals (step db op)) := by
  have inv := h.inv
  have hM := preSync_inv3 db h op ok fits
  obtain ⟨i, e, n, m, p, b, hp⟩ := preSync_same db op
  have hfr : (preSync db op).effs = db.effs ∧ (preSync db op).fs = db.fs ∧ (preSync db op).eager = db.eager := by
    rw [hp]; exact ⟨rfl, rfl, rfl⟩
  have hnil : ∀ d : DB, d.effs = db.effs →
      ∃ es', d.effs = db.effs ++ es' ∧ Atomic db.eager db.fs (es'.map (·.2)) (vals d) :=
    fun d hd => ⟨[], by simp [hd], atomic_nil _ _ (openOK_of_inv db inv)⟩
  exact match step db op, step_nf db inv.cached inv.nv op ok with
  | _, .mem => hnil _ hfr.1
  | _, .sync hs => by
    obtain ⟨es', x, _, z⟩ := sync_atomic _ hM (hs fits) hd
    rw [hfr.1] at x
    rw [hfr.2.1, hfr.2.2] at z
    exact ⟨es', x, z.congr (fun j => by unfold vals; rw [(sync_inv _ hM.inv (hs fits)).2.1])⟩
  | _, .defrag hs => by
    obtain ⟨es', x, z⟩ := defrag_atomic _ hM (hs fits).2 hd
    rw [hfr.1] at x
    rw [hfr.2.1, hfr.2.2] at z
    exact ⟨es', x, z.congr (fun j => by
      unfold vals
      rw [(defrag_inv _ hM.inv.cached hM.inv.nv ⟨hM.inv.cached.2, hM.inv.wf, hM.inv.nodup, (hs fits).2⟩).2.1])⟩
  | _, .flags i _ | _, .noSync => hnil _ rfl

/-- crashes inside recovery attempts change nothing a later NewDBExt looks at -/
theorem recrash_ok (opts : Opts) (ms : List Nat) (F : FS) (h : OpenOK eg F) :
    OpenOK eg (recrash opts F ms) ∧ ∀ k, diskValue (recrash opts F ms) k = diskValue F k := by
  induction ms generalizing F with
  | nil => exact ⟨h, fun _ => rfl⟩
  | cons m t ih =>
    obtain ⟨o, v⟩ := (open_prefix_trim (eg := false) F false true opts m).ok h
    obtain ⟨o2, v2⟩ := ih _ o
    exact ⟨o2, fun k => (v2 k).trans (v k)⟩

/-! ### what the durable-map specification needs from one operation (the induction over histories with crashes is
    `hrun_dur` in Proofs/C19Vol) -/

/-- operations after which everything written so far must be durable -/
def mustSync : Op → Bool
  | .sync => true
  | .defrag true => true
  | .reopen _ _ _ => true
  | _ => false

theorem mustSync_pending (db : DB) (h : Inv3 db) (op : Op) (ok : OpOK2 db.eager op) (fits : OpFits2 db op)
    (hm : mustSync op = true) : (step db op).pending = [] := by
  have inv := h.inv
  cases op with
  | sync =>
    rw [show step db .sync = _ from syncOp_nv db inv.cached.1 inv.nv]
    exact (sync_inv _ (inv_noSync db inv false) fits).2.2.1
  | defrag f =>
    cases f with
    | false => simp [mustSync] at hm
    | true =>
      rw [show step db (.defrag true) = _ from defragOp_nv db true inv.cached.1 inv.nv]
      simp only [Bool.true_or, ↓reduceIte]
      exact (defrag_inv db inv.cached inv.nv ⟨inv.cached.2, inv.wf, inv.nodup, fits.2⟩).2.2
  | reopen vol load opts =>
    obtain ⟨rfl, rfl⟩ := ok
    obtain ⟨sinv, _, _, _⟩ := sync_inv db inv fits.1
    have hclose := close_sync db inv.cached.1 inv.nv sinv.cached.1
    rw [step_reopen db _ _ _ hclose.1, hclose.2.1, close_eager db inv.cached]
    dsimp only
    have hok := openOK_of_inv _ sinv
    rw [(sync_cached db inv.cached).eager] at hok
    exact (open_inv3g (sync db).fs opts hok fits.2).2
  | _ => cases hm

/-! #### one step of the plain map invents no value (the statement for histories is `durOK_origin` in Proofs/C19Vol) -/

def writes (o : Op) (k : Key) (v : Bytes) : Prop := o = .put k v ∨ ∃ f, o = .putExt k v f

def itemOp : HItem → Op
  | .op o => o
  | .crash o _ _ _ _ => o

theorem vstep_origin (m : Key → Option Bytes) (o : Op) (k : Key) (v : Bytes) (h : vstep m o k = some v) :
    m k = some v ∨ writes o k v := by
  cases o with
  | put j x | putExt j x f =>
    simp only [vstep] at h
    split at h
    · rename_i hj; subst hj; cases h; exact Or.inr (by first | exact Or.inl rfl | exact Or.inr ⟨_, rfl⟩)
    · exact Or.inl h
  | del j =>
    simp only [vstep] at h
    split at h
    · cases h
    · exact Or.inl h
  | _ => exact Or.inl h

end GocoinV.Proofs.C19
