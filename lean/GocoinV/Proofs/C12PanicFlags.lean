/-
  Proofs.C12PanicFlags — the panic branches of the two MemInputs loops are unreachable.
  `unminedFlags` (OneTxToSend.unmined: IIdx returns -1, the spender registered in SpentOutputs has no input with that
  UIdx): from states that satisfy the structural invariant `InvS` (SpentOutputs is sound: the record stored under `u`
  has an input with UIdx `u`).
  `minedFlags` (OneTxToSend.mined: IIdx returns -1; MemInputs of the child is nil): from states that satisfy the full
  pool invariant `PoolOK` (in particular `PGood`): the spender registered in SpentOutputs under an output of the pooled
  record `t` has that input (`InvS.sound`), and its MemInputs flag is set — otherwise the input would be available on
  the chain side, i.e. `t` would be confirmed, which `PoolW.ncf` excludes — so MemInputs is not nil.  Core Lean only.
-/
import GocoinV.Proofs.C12Flags
namespace GocoinV.Mempool

/-! ### unmined -/

/-- the guard of the IIdx panic branch of `mined` / `unmined` is false: the spender recorded under `u` has the input -/
theorem iidx_guard {K : Keys} {s : State} (h : InvS K s) (u val : Nat) (r : T2S) (hval : s.spent.get? u = some val)
    (hr : s.pool.get? val = some r) : ∃ idx, iidx K r u = some idx := by
  obtain ⟨x, hx, hm⟩ := h.sound u val hval
  rw [hr] at hx
  cases hx
  exact posOf_of_mem u _ 0 hm

theorem unminedStep_alive {K : Keys} (t : T2S) (s : State) (v : Nat) (h : InvS K s) :
    (unminedStep K t s v).panicked = s.panicked ∧ InvS K (unminedStep K t s v) := by
  unfold unminedStep
  dsimp only
  cases hval : s.spent.get? (K.uidx t.tx.id v) with
  | none => exact ⟨rfl, h⟩
  | some val =>
    simp only []
    cases hr : s.pool.get? val with
    | none => exact ⟨rfl, h⟩
    | some r =>
      simp only []
      obtain ⟨idx, hidx⟩ := iidx_guard h _ val r hval hr
      rw [hidx]
      simp only []
      split
      · exact ⟨rfl, setRec_InvS h val r (memRec r) hr rfl rfl rfl⟩
      · exact ⟨rfl, setRec_InvS h val r (setRecF r idx) hr rfl rfl rfl⟩

/-- Props/C12 `panic_branches_unreachable` (2): OneTxToSend.unmined never raises the panic flag in a state with `InvS`
    (for ANY record `t`, pooled or not), and the resulting state satisfies `InvS` again -/
theorem unminedFlags_panicked {K : Keys} {s : State} (h : InvS K s) (t : T2S) :
    (unminedFlags K s t).panicked = s.panicked ∧ InvS K (unminedFlags K s t) := by
  rw [unminedFlags_eq]
  exact foldl_inv (fun s' => s'.panicked = s.panicked ∧ InvS K s') _
    (fun s' v hs => ⟨(unminedStep_alive t s' v hs.2).1.trans hs.1, (unminedStep_alive t s' v hs.2).2⟩) _ s ⟨rfl, h⟩

/-! ### mined -/

variable {K : Keys} {W : Tx → Prop} {rank : TxId → Nat} {u0 : UT} {ν : OutPoint → Nat}
  {A : OutPoint → Prop} {Cf : TxId → Prop}

theorem minedStep_alive (U : Univ2 K W rank u0 ν) (hAC : ∀ o, A o → Cf o.1)
    (t : T2S) (n : Nat) (hn : n < t.tx.outs.length) (s : State) (h : MinedInv K W ν A Cf t n s) :
    (minedStep K t s n).panicked = s.panicked := by
  have hb := h.ok.w.base
  obtain ⟨t', ht', htx⟩ := h.self
  have htW : W t.tx := by rw [← htx]; exact hb.poolW _ _ ht'
  unfold minedStep
  dsimp only
  cases hval : s.spent.get? (K.uidx t.tx.id n) with
  | none => rfl
  | some val =>
    simp only []
    cases hr : s.pool.get? val with
    | none => rfl
    | some r =>
      simp only []
      obtain ⟨idx, hidx⟩ := iidx_guard hb.str _ val r hval hr
      rw [hidx]
      simp only []
      split
      · rename_i he
        exfalso
        obtain ⟨⟨j, hj, jp, jv⟩, _⟩ := child_input U hb htW hn hval hr hidx (h.ok.w.loc _ _ hr).nodupIn
        have hf : flag r idx = false := flag_nil r (by simpa using he) idx
        rw [mined_child_flag hAC h hr hj jp jv] at hf
        cases hf
      · rfl

/-- towards Props/C12 `panic_branches_unreachable` (1): OneTxToSend.mined on a pooled record never raises the panic
    flag in a state that satisfies the pool invariant `PoolOK` against an availability predicate `A` whose outpoints
    belong to confirmed ids (`Cf`) -/
theorem minedFlags_panicked (U : Univ2 K W rank u0 ν)
    (hAC : ∀ o, A o → Cf o.1)
    (t : T2S) (s : State) (h : PoolOK K W ν A Cf s) (hin : s.pool.get? (K.bidx t.tx.id) = some t) :
    (minedFlags K s t).panicked = s.panicked := by
  cases hs : s.panicked with
  | true => exact (minedFlags_env K s t).sticky hs
  | false =>
    rw [minedFlags_eq]
    unfold iota
    refine (range_foldl_ind (fun n s1 => s1.panicked = false ∧ MinedInv K W ν A Cf t n s1) _ _ s
      ⟨hs, ⟨h.w.mono (fun _ _ _ _ _ _ _ ha => Or.inl ha) (fun _ _ _ hc => hc), h.par⟩,
        ⟨t, hin, rfl⟩, fun _ _ _ _ _ _ _ _ => Nat.zero_le _⟩ fun n s1 hn i => ?_).1
    have hp' := (minedStep_alive U hAC t n hn _ i.2).trans i.1
    exact ⟨hp', minedStep_ok U hAC t n hn _ i.2 hp'⟩

theorem minedFlags_panicked_good (U : Univ2 K W rank u0 ν) (t : T2S) (s : State) (hc : ChainOK u0 ν s)
    (h : PGood K W u0 ν s)
    (hin : s.pool.get? (K.bidx t.tx.id) = some t) : (minedFlags K s t).panicked = s.panicked :=
  minedFlags_panicked U hc.conf_of_inU t s h hin

end GocoinV.Mempool
