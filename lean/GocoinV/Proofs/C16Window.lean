/-
  Proofs.C16Window — the retention POLICY: the ghost list `FS.lost` (the data-file numbers for which `store_refines_map`
  makes no claim) is bounded by the configured `DataFilesKeep`. A number enters the list only in a session with
  `keep ≠ 0`, `backup = false`, and only when it is below `maxdatfileidx − keep` of that moment (`OutsideWindow`), at a
  roll-over of `writeOne` or in the clean-up at the end of LoadBlockIndex. Nothing else writes the list: the O_CREATE of
  LoadBlockIndex does not shadow a backup (`Gen.BlockDBFacts.restoresBackup`, regenerated from the source).
  With retention off (`keep = 0` in every session) no data file is ever removed, renamed into oldat/ or shadowed, so the list
  stays empty and the retention-aware claim `claimR` is the unconditional claim `claim` of the durable-map specification:
  this turns the general retention theorem into the `keep = 0` theorems.
-/
import GocoinV.Proofs.C16Retain
import GocoinV.Proofs.C16Refine
namespace GocoinV.BlockDB

/-- data-file number `i` is outside the retention window configured in state `s`: retention is on, removed files are not
    backed up, and `i < maxdatfileidx − keep` -/
def OutsideWindow (s : State) (i : Nat) : Prop :=
  s.opts.keep ≠ 0 ∧ s.opts.backup = false ∧ i + s.opts.keep < s.maxdatfileidx

/-- from `s` to `s'` within one session: same options, the current file number does not decrease, and every number that is
    lost in `s'` was lost in `s` or is outside the window of `s'` -/
def Grows (s s' : State) : Prop :=
  s'.opts = s.opts ∧ s.maxdatfileidx ≤ s'.maxdatfileidx ∧ ∀ i, i ∈ s'.fs.lost → i ∈ s.fs.lost ∨ OutsideWindow s' i

theorem Grows.refl (s : State) : Grows s s := ⟨rfl, Nat.le_refl _, fun _ h => .inl h⟩

theorem OutsideWindow.grows {s s' : State} {i : Nat} (h : OutsideWindow s i) (g : Grows s s') : OutsideWindow s' i := by
  unfold OutsideWindow at *
  rw [g.1]
  exact ⟨h.1, h.2.1, by have := g.2.1; omega⟩

theorem removeDatFile_lost (o : Opts) (fs : FS) (j i : Nat) (h : i ∈ (removeDatFile o fs j).lost) :
    i ∈ fs.lost ∨ (i = j ∧ o.backup = false) := by
  unfold removeDatFile at h
  split at h
  · exact .inl h
  · split at h
    · exact .inl h
    · rename_i hb
      simp only [List.mem_cons] at h
      rcases h with h | h
      · exact .inr ⟨h, by simpa using hb⟩
      · exact .inl h

theorem rollOver_grows (s : State) : Grows s (rollOver s) := by
  unfold rollOver
  refine ⟨rfl, by simp only; omega, ?_⟩
  intro i hi
  simp only at hi
  split at hi
  · rename_i hk
    rcases removeDatFile_lost _ _ _ _ hi with h | ⟨h1, h2⟩
    · exact .inl h
    · right
      unfold OutsideWindow
      simp only
      exact ⟨hk.1, h2, by omega⟩
  · exact .inl hi

theorem maybeRoll_grows (s : State) (n : Nat) : Grows s (maybeRoll s n) := by
  unfold maybeRoll
  split
  · exact rollOver_grows s
  · exact Grows.refl s

/-- a primitive transition loses a file only at a roll-over, and then one outside the window -/
theorem Move.grows {env : Env} {s s' : State} {sp sp' : Spec} (m : Move env s sp s' sp') :
    Grows s s' := by
  cases m with
  | trust k r0 | flagI k r0 => unfold setBlockFlag; split <;> exact Grows.refl s
  | write b q r0 cbts => exact maybeRoll_grows _ _
  | _ => exact Grows.refl s

theorem createCur_lost (hfix : Gen.BlockDBFacts.restoresBackup = true) (fs : FS) (m : Nat) :
    (createCur fs m).lost = fs.lost := by
  unfold createCur
  split
  · rfl
  · simp only [hfix, ↓reduceIte]
    split
    · rfl
    · rename_i hn
      simp only [hn, Option.isSome_none, Bool.false_eq_true, ↓reduceIte]

theorem loadCleanup_lost (o : Opts) (m : Nat) (fs : FS) (i : Nat) (h : i ∈ (loadCleanup o m fs).lost) :
    i ∈ fs.lost ∨ (o.keep ≠ 0 ∧ o.backup = false ∧ i + o.keep < m) := by
  unfold loadCleanup at h
  split at h
  · rename_i hk
    refine cleanupGo_ind o _ (P := fun t => i ∈ t.lost → i ∈ fs.lost ∨ (o.keep ≠ 0 ∧ o.backup = false ∧ i + o.keep < m))
      ?_ 3 _ fs (by omega) (Nat.le_refl _) .inl h
    intro t j hj ht hi
    rcases removeDatFile_lost o t j i hi with h | ⟨h1, h2⟩
    · exact ht h
    · exact .inr ⟨hk.1, h2, by omega⟩
  · exact .inl h

theorem reopen_lost (env : Env) (hfix : Gen.BlockDBFacts.restoresBackup = true) (fs : FS) (o : Opts) (i : Nat)
    (h : i ∈ (reopen env fs o).1.fs.lost) : i ∈ fs.lost ∨ OutsideWindow (reopen env fs o).1 i := by
  rw [reopen_fs] at h
  rcases loadCleanup_lost _ _ _ i h with h | h
  · rw [createCur_lost hfix] at h; exact .inl h
  · exact .inr h

/-- one operation: a number that is lost afterwards was lost before or is outside the window configured in the state after
    the operation -/
theorem step_lost (env : Env) (hfix : Gen.BlockDBFacts.restoresBackup = true) (s : State) (op : Op) (i : Nat)
    (h : i ∈ (step env s op).1.fs.lost) : i ∈ s.fs.lost ∨ OutsideWindow (step env s op).1 i := by
  refine step_ind (P := fun t _ => i ∈ t.fs.lost → i ∈ s.fs.lost ∨ OutsideWindow t i) env s ⟨s.isOpen, []⟩ op rfl
    .inl ?_ (fun _ _ _ _ _ _ _ _ _ _ _ _ _ _ _ => .inl) (fun _ g => g) (fun o _ _ => reopen_lost env hfix s.fs o i) h
  intro t _ t' _ _ g m hi
  rcases m.grows.2.2 i hi with h1 | h1
  · exact (g h1).imp_right (·.grows m.grows)
  · exact .inr h1

theorem run_append (env : Env) : ∀ (a b : List Op) (s : State),
    (run env s (a ++ b)).1 = (run env (run env s a).1 b).1 := by
  intro a
  induction a with
  | nil => intro b s; rfl
  | cons op a ih =>
    intro b s
    simp only [List.cons_append, run]
    exact ih b _

theorem run_snoc (env : Env) (a : List Op) (op : Op) (s : State) :
    (run env s (a ++ [op])).1 = (step env (run env s a).1 op).1 := by
  rw [run_append]; simp only [run]

theorem run_cons_fst (env : Env) (s : State) (op : Op) (ops : List Op) :
    (run env s (op :: ops)).1 = (run env (step env s op).1 ops).1 := by
  simp only [run]

/-- every number in the ghost list after a history was put there by ONE operation of the history, and at that moment it
    was outside the retention window configured for that session -/
theorem run_lost (env : Env) (hfix : Gen.BlockDBFacts.restoresBackup = true) :
    ∀ (ops : List Op) (s0 : State) (i : Nat), i ∈ (run env s0 ops).1.fs.lost → i ∈ s0.fs.lost ∨
      ∃ pre op suf, ops = pre ++ op :: suf ∧ i ∉ (run env s0 pre).1.fs.lost ∧
        i ∈ (run env s0 (pre ++ [op])).1.fs.lost ∧ OutsideWindow (run env s0 (pre ++ [op])).1 i := by
  intro ops
  induction ops with
  | nil => intro s0 i h; exact .inl h
  | cons op ops ih =>
    intro s0 i h
    by_cases hb : i ∈ s0.fs.lost
    · exact .inl hb
    · right
      rcases ih _ i h with h1 | ⟨p, o, sf, e1, e2, e3, e4⟩
      · exact ⟨[], op, ops, rfl, hb, h1, (step_lost env hfix s0 op i h1).resolve_left hb⟩
      · exact ⟨op :: p, o, sf, by rw [e1]; rfl, e2, e3, e4⟩

/-! ### retention off: the list stays empty -/

def NoLoss (s : State) : Prop := s.fs.lost = [] ∧ s.fs.olds = [] ∧ s.opts.keep = 0

def Op.keep0 : Op → Prop
  | .reopen o => o.keep = 0
  | _ => True

theorem maybeRoll_noloss (s : State) (n : Nat) (h : NoLoss s) : NoLoss (maybeRoll s n) := by
  unfold maybeRoll
  split
  · unfold rollOver
    have hk : ¬ (s.opts.keep ≠ 0 ∧ s.maxdatfileidx ≥ s.opts.keep) := by rw [h.2.2]; simp
    simp only [hk, ↓reduceIte]
    exact h
  · exact h

theorem Move.noloss {env : Env} {s s' : State} {sp sp' : Spec} (m : Move env s sp s' sp')
    (h : NoLoss s) : NoLoss s' := by
  cases m with
  | trust k r0 | flagI k r0 => unfold setBlockFlag; split <;> exact h
  | write b q r0 cbts => exact maybeRoll_noloss _ _ h
  | _ => exact h

theorem reopen_noloss (env : Env) (fs : FS) (o : Opts) (h1 : fs.lost = []) (h2 : fs.olds = []) (hk : o.keep = 0) :
    NoLoss (reopen env fs o).1 := by
  have hk' : (if o.maxCached = 0 then { o with maxCached := 100 } else o).keep = 0 := by split <;> exact hk
  obtain ⟨c1, c2⟩ := createCur_noolds fs (loadLoop env (fs.idx.length / RECSIZE + 1) fs.idx {}).maxdatfileidx h2
  unfold NoLoss
  rw [reopen_fs]
  unfold loadCleanup
  simp only [hk', ne_eq, not_true_eq_false, false_and, ↓reduceIte]
  exact ⟨c1.trans h1, c2, hk'⟩

theorem step_noloss (env : Env) (s : State) (op : Op) (h : NoLoss s) (hk : op.keep0) : NoLoss (step env s op).1 :=
  step_ind (P := fun t _ => NoLoss t) env s ⟨s.isOpen, []⟩ op rfl h (fun _ _ _ _ _ h m => m.noloss h)
    (fun _ _ _ _ _ _ _ _ _ _ _ _ _ _ _ => h) (fun _ h => h) (fun o e _ => reopen_noloss env s.fs o h.1 h.2.1 (by subst e; exact hk))

theorem claimR_eq_claim (s : State) (sp : Spec) (op : Op) (h : s.fs.lost = []) : claimR s sp op = claim sp op := by
  have hk : ∀ k, keyLost s k = false := by
    intro k
    unfold keyLost
    split
    · rw [h]; simp
    · rfl
  cases op with
  | get hash | length hash d => simp only [claimR, hk, Bool.false_eq_true, ↓reduceIte]
  | add _ _ _ _ _ | trusted _ | invalid _ | idle | close | reopen _ => simp only [claimR, claim]; split <;> rfl

/-- retention off: the retention-aware claims along a history are the unconditional ones -/
theorem specRunR_eq_specRun (env : Env) : ∀ (ops : List Op) (s : State) (sp : Spec), NoLoss s → (∀ op ∈ ops, op.keep0) →
    specRunR env s sp ops = specRun env s sp ops := by
  intro ops
  induction ops with
  | nil => intro s sp _ _; rfl
  | cons op ops ih =>
    intro s sp h hk
    rw [List.forall_mem_cons] at hk
    unfold specRunR specRun
    rw [claimR_eq_claim s sp op h.1, ih _ _ (step_noloss env s op h hk.1) hk.2]

theorem init_noloss : NoLoss init := ⟨rfl, rfl, rfl⟩

theorem keep0_of_not_reopen (op : Op) (h : op.isReopen = false) : op.keep0 := by
  cases op <;> simp [Op.isReopen] at h <;> trivial

end GocoinV.BlockDB
