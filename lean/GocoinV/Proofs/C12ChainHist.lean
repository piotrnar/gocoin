/-
  Proofs.C12ChainHist — block validity on the model's chain simulation, the connect fold under a valid block, and the
  chain-side history invariant (helper lemmas for Proofs/C12Chain).  Core Lean only.
-/
import GocoinV.Proofs.C12ChainFold
namespace GocoinV.Mempool

/-- a confirmed set, read pointwise -/
abbrev CSet := OutPoint → Option Coin

/-! ### `BlockOK` -/

theorem BlockOK.congr : ∀ (l : List Tx) (a b : OutPoint → Prop), (∀ o, a o ↔ b o) → BlockOK a l → BlockOK b l := by
  intro l
  induction l with
  | nil => intro a b _ _; trivial
  | cons t r ih =>
    intro a b hab h
    obtain ⟨h1, h2, h3⟩ := h
    refine ⟨h1, fun o ho => (hab o).mp (h2 o ho), ?_⟩
    apply ih _ _ _ h3
    intro o
    rw [hab o]

theorem BlockOK.avail_of_spent : ∀ (l : List Tx) (a : OutPoint → Prop), BlockOK a l → ∀ o, spentBy l o →
    a o ∨ createdBy l o := by
  intro l
  induction l with
  | nil => intro a _ o h; exact absurd h (spentBy_nil o)
  | cons t r ih =>
    intro a h o hs
    obtain ⟨_, h2, h3⟩ := h
    rcases (spentBy_cons t r o).mp hs with h1 | h1
    · exact Or.inl (h2 o h1)
    · rcases ih _ h3 o h1 with (⟨ha, _⟩ | hc) | hc
      · exact Or.inl ha
      · exact Or.inr ((createdBy_cons t r o).mpr (Or.inl hc))
      · exact Or.inr ((createdBy_cons t r o).mpr (Or.inr hc))

theorem BlockOK.nodup : ∀ (l : List Tx) (a : OutPoint → Prop), BlockOK a l → ∀ t ∈ l, t.inOps.Nodup := by
  intro l
  induction l with
  | nil => intro a _ t ht; cases ht
  | cons x r ih =>
    intro a h t ht
    rcases List.mem_cons.mp ht with e | e
    · rw [e]; exact h.1
    · exact ih _ h.2.2 t e

/-! ### the connect fold under a valid block body -/

/-- the result of folding `connTx` over a block body `R` that is input-available (`BlockOK`) on the current set, whose
    txids are pairwise different and have no output in the current set -/
structure ConnPost (h : Nat) (acc r : UT × SC) (R : List Tx) : Prop where
  spent : ∀ o, spentBy R o → r.1.get? o = none
  made : ∀ o, ¬ spentBy R o → createdBy R o →
    ∃ t ∈ R, o.1 = t.id ∧ o.2 < t.outs.length ∧ r.1.get? o = some ⟨t.outs.getD o.2 0, h, false⟩
  kept : ∀ o, ¬ spentBy R o → ¬ createdBy R o → r.1.get? o = acc.1.get? o
  scSound : ∀ p ∈ r.2, p ∈ acc.2 ∨ (spentBy R p.1 ∧ (acc.1.get? p.1 = some p.2 ∨ createdBy R p.1))
  scCompl : ∀ o c, spentBy R o → acc.1.get? o = some c → (o, c) ∈ r.2
  scMono : ∀ p ∈ acc.2, p ∈ r.2

theorem connFold_post (h : Nat) : ∀ (R : List Tx) (acc : UT × SC),
    BlockOK (fun o => (acc.1.get? o).isSome = true) R →
    R.Pairwise (fun a b => a.id ≠ b.id) →
    (∀ t ∈ R, ∀ v, acc.1.get? (t.id, v) = none) →
    ConnPost h acc (R.foldl (connTx h) acc) R := by
  intro R
  induction R with
  | nil =>
    intro acc _ _ _
    exact ⟨fun o hs => absurd hs (spentBy_nil o), fun o _ hc => absurd hc (createdBy_nil o), fun _ _ _ => rfl,
      fun p hp => Or.inl hp, fun o c hs _ => absurd hs (spentBy_nil o), fun p hp => hp⟩
  | cons t r ih =>
    intro acc hok hid hfr
    obtain ⟨_, hav, hok'⟩ := hok
    simp only [List.foldl_cons]
    have hid' := (List.pairwise_cons.mp hid)
    -- the hypotheses for the rest of the block on the set after `t`
    have ihr := ih (connTx h acc t)
      (by
        apply BlockOK.congr r _ _ _ hok'
        intro o
        rw [connTx_get]
        unfold Tx.creates
        by_cases e1 : o.1 = t.id ∧ o.2 < t.outs.length
        · simp [e1]
        · by_cases e2 : o ∈ t.inOps <;> simp [e1, e2])
      hid'.2
      (by
        intro t' ht' v
        rw [connTx_get]
        have hne : ¬ ((t'.id, v).1 = t.id ∧ (t'.id, v).2 < t.outs.length) := fun e => hid'.1 t' ht' e.1.symm
        rw [if_neg hne]
        split
        · rfl
        · exact hfr t' (List.mem_cons_of_mem _ ht') v)
    -- nothing made by the whole block is in the set before the block
    have hnew : ∀ o, createdBy (t :: r) o → acc.1.get? o = none := by
      rintro ⟨x, y⟩ ⟨t', ht', e1, _⟩
      obtain rfl : x = t'.id := e1
      exact hfr t' ht' y
    refine ⟨?_, ?_, ?_, ?_, ?_, ?_⟩
    · intro o hs
      by_cases hsr : spentBy r o
      · exact ihr.spent o hsr
      · have hin : o ∈ t.inOps := ((spentBy_cons t r o).mp hs).resolve_right hsr
        have hsome : (acc.1.get? o).isSome = true := hav o hin
        have hnc : ¬ createdBy (t :: r) o := by
          intro hc
          rw [hnew o hc] at hsome; cases hsome
        obtain ⟨hnct, hncr⟩ := not_or.mp (mt (createdBy_cons t r o).mpr hnc)
        rw [ihr.kept o hsr hncr, connTx_get, if_neg hnct, if_pos hin]
    · intro o hs hc
      have hsr := (not_or.mp (mt (spentBy_cons t r o).mpr hs)).2
      by_cases hcr : createdBy r o
      · obtain ⟨t', ht', x⟩ := ihr.made o hsr hcr
        exact ⟨t', List.mem_cons_of_mem _ ht', x⟩
      · have hct : o.1 = t.id ∧ o.2 < t.outs.length := ((createdBy_cons t r o).mp hc).resolve_right hcr
        refine ⟨t, List.mem_cons_self, hct.1, hct.2, ?_⟩
        rw [ihr.kept o hsr hcr, connTx_get, if_pos hct]
    · intro o hs hc
      obtain ⟨hin, hsr⟩ := not_or.mp (mt (spentBy_cons t r o).mpr hs)
      obtain ⟨hct, hcr⟩ := not_or.mp (mt (createdBy_cons t r o).mpr hc)
      rw [ihr.kept o hsr hcr, connTx_get, if_neg hct, if_neg hin]
    · intro p hp
      rcases ihr.scSound p hp with h1 | ⟨h1, h2⟩
      · rcases (connTx_mem h acc t p).mp h1 with h3 | ⟨h3, h4⟩
        · exact Or.inl h3
        · exact Or.inr ⟨(spentBy_cons t r p.1).mpr (Or.inl h3), Or.inl h4⟩
      · refine Or.inr ⟨(spentBy_cons t r p.1).mpr (Or.inr h1), ?_⟩
        rcases h2 with h2 | h2
        · rw [connTx_get] at h2
          by_cases hct : p.1.1 = t.id ∧ p.1.2 < t.outs.length
          · exact Or.inr ((createdBy_cons t r p.1).mpr (Or.inl hct))
          · rw [if_neg hct] at h2
            split at h2
            · cases h2
            · exact Or.inl h2
        · exact Or.inr ((createdBy_cons t r p.1).mpr (Or.inr h2))
    · intro o c hs hg
      by_cases hin : o ∈ t.inOps
      · exact ihr.scMono _ ((connTx_mem h acc t (o, c)).mpr (Or.inr ⟨hin, hg⟩))
      · have hsr : spentBy r o := ((spentBy_cons t r o).mp hs).resolve_left hin
        apply ihr.scCompl o c hsr
        have hct : ¬ (o.1 = t.id ∧ o.2 < t.outs.length) := by
          intro x
          rw [hnew o ((createdBy_cons t r o).mpr (Or.inl x))] at hg; cases hg
        rw [connTx_get, if_neg hct, if_neg hin]
        exact hg
    · intro p hp
      exact ihr.scMono p ((connTx_mem h acc t p).mpr (Or.inl hp))

/-! ### block validity and the history invariant -/

/-- block validity against a confirmed set `f` under the stack `st` of connected blocks: going through the body in
    order every input is available — unspent in `f` or made by an earlier transaction of the body — and is consumed by
    its use, no transaction names an outpoint twice (`BlockOK`, the input part of lib/chain commitTxs); the txids of
    the body are new (BIP30/BIP34) and pairwise different -/
def BlockValidF (u0 : UT) (f : CSet) (st : UndoStack) (txs : List Tx) : Prop :=
  BlockOK (fun o => (f o).isSome = true) txs ∧ (∀ t ∈ txs, ¬ Conf u0 st t.id) ∧
  txs.Pairwise (fun a b => a.id ≠ b.id)

/-- block validity in a state of the model: a predicate on the block body, `s.utxo` and `s.undo` only -/
def BlockValid (u0 : UT) (s : State) (txs : List Tx) : Prop :=
  BlockOK (inU s) txs ∧ (∀ t ∈ txs, ¬ Conf u0 s.undo t.id) ∧ txs.Pairwise (fun a b => a.id ≠ b.id)

theorem BlockValid_iff (u0 : UT) (s : State) (txs : List Tx) :
    BlockValid u0 s txs ↔ BlockValidF u0 (fun o => s.utxo.get? o) s.undo txs := Iff.rfl

/-- the confirmed set `g` and the stack entry `(txs, sc)` are what connecting the valid body `txs` on the confirmed set
    `f` (stack `rest`) leaves -/
structure Linked (u0 : UT) (ν : OutPoint → Nat) (f g : CSet) (rest : UndoStack) (txs : List Tx) (sc : SC) : Prop where
  valid : BlockValidF u0 f rest txs
  nu : ∀ t ∈ txs, ∀ v, ν (t.id, v) = t.outs.getD v 0
  spent : ∀ o, spentBy txs o → g o = none
  made : ∀ o, ¬ spentBy txs o → createdBy txs o → ∃ c, g o = some c ∧ c.value = ν o
  kept : ∀ o, ¬ spentBy txs o → ¬ createdBy txs o → g o = f o
  scSound : ∀ p ∈ sc, spentBy txs p.1 ∧ (f p.1 = some p.2 ∨ createdBy txs p.1)
  scCompl : ∀ o c, spentBy txs o → f o = some c → (o, c) ∈ sc

/-- the history invariant of the chain side: the confirmed set is the initial set `u0` after connecting, one after the
    other, the valid bodies on the stack, and every stack entry records exactly the coins its body took from the
    confirmed set before it (and possibly coins the body made itself) -/
def Hist (u0 : UT) (ν : OutPoint → Nat) : UndoStack → CSet → Prop
  | [], g => (∀ o, g o = u0.get? o) ∧ ∀ o c, u0.get? o = some c → c.value = ν o
  | (txs, sc) :: rest, g => ∃ f, Hist u0 ν rest f ∧ Linked u0 ν f g rest txs sc

/-- `ChainOK`, read pointwise -/
structure FOK (u0 : UT) (ν : OutPoint → Nat) (st : UndoStack) (g : CSet) : Prop where
  c1 : ∀ e ∈ st, ∀ X ∈ e.1, ∀ i ∈ X.ins, g (i.prev, i.vout) = none
  c2 : ∀ e ∈ st, ∀ X ∈ e.1, ∀ i ∈ X.ins, Conf u0 st i.prev
  c3 : ∀ o c, g o = some c → Conf u0 st o.1
  val : ∀ o c, g o = some c → c.value = ν o
  nd : ∀ e ∈ st, ∀ X ∈ e.1, X.inOps.Nodup

theorem Conf.push {u0 : UT} {st : UndoStack} {id : TxId} (e : List Tx × SC) (h : Conf u0 st id) :
    Conf u0 (e :: st) id :=
  h.imp_right fun ⟨e', he', x⟩ => ⟨e', List.mem_cons_of_mem _ he', x⟩

theorem Conf.top {u0 : UT} {st : UndoStack} {txs : List Tx} {sc : SC} {X : Tx} (h : X ∈ txs) :
    Conf u0 ((txs, sc) :: st) X.id :=
  Or.inr ⟨(txs, sc), List.mem_cons_self, X, h, rfl⟩

theorem fresh_ids {u0 : UT} {ν : OutPoint → Nat} {rest : UndoStack} {f : CSet} {txs : List Tx}
    (hf : FOK u0 ν rest f) (hv : BlockValidF u0 f rest txs) : ∀ t ∈ txs, ∀ v, f (t.id, v) = none := by
  intro t ht v
  cases hx : f (t.id, v) with
  | none => rfl
  | some c => exact absurd (hf.c3 _ c hx) (hv.2.1 t ht)

theorem fresh_of_valid {u0 : UT} {ν : OutPoint → Nat} {rest : UndoStack} {f : CSet} {txs : List Tx}
    (hf : FOK u0 ν rest f) (hv : BlockValidF u0 f rest txs) : ∀ o, createdBy txs o → f o = none := by
  rintro ⟨x, y⟩ ⟨t, ht, e1, _⟩
  obtain rfl : x = t.id := e1
  exact fresh_ids hf hv t ht y

theorem FOK.of_linked {u0 : UT} {ν : OutPoint → Nat} {rest : UndoStack} {f g : CSet} {txs : List Tx} {sc : SC}
    (hf : FOK u0 ν rest f) (l : Linked u0 ν f g rest txs sc) : FOK u0 ν ((txs, sc) :: rest) g := by
  have hns : ∀ o c, g o = some c → ¬ spentBy txs o := fun o c hg hs => by rw [l.spent o hs] at hg; cases hg
  refine ⟨?_, ?_, ?_, ?_, ?_⟩
  · intro e he X hX i hi
    by_cases hs : spentBy txs (i.prev, i.vout)
    · exact l.spent _ hs
    · rcases List.mem_cons.mp he with rfl | e1
      · exact absurd ⟨X, hX, i, hi, rfl⟩ hs
      · have hc : ¬ createdBy txs (i.prev, i.vout) := by
          rintro ⟨t, ht, e2, _⟩
          exact l.valid.2.1 t ht (e2 ▸ hf.c2 e e1 X hX i hi)
        rw [l.kept _ hs hc]
        exact hf.c1 e e1 X hX i hi
  · intro e he X hX i hi
    rcases List.mem_cons.mp he with rfl | e1
    · rcases l.valid.1.avail_of_spent _ _ (i.prev, i.vout) ⟨X, hX, i, hi, rfl⟩ with ha | ⟨t, ht, e2, _⟩
      · obtain ⟨c, hx⟩ := Option.isSome_iff_exists.mp ha
        exact Conf.push _ (hf.c3 _ c hx)
      · simp only at e2
        rw [e2]
        exact Conf.top ht
    · exact Conf.push _ (hf.c2 e e1 X hX i hi)
  · intro o c hg
    by_cases hc : createdBy txs o
    · obtain ⟨t, ht, e2, _⟩ := hc
      rw [e2]; exact Conf.top ht
    · rw [l.kept o (hns o c hg) hc] at hg
      exact Conf.push _ (hf.c3 o c hg)
  · intro o c hg
    by_cases hc : createdBy txs o
    · obtain ⟨c', h1, h2⟩ := l.made o (hns o c hg) hc
      rw [h1] at hg
      cases hg
      exact h2
    · rw [l.kept o (hns o c hg) hc] at hg
      exact hf.val o c hg
  · intro e he X hX
    rcases List.mem_cons.mp he with rfl | e1
    · exact l.valid.1.nodup _ _ X hX
    · exact hf.nd e e1 X hX

theorem Hist.fok {u0 : UT} {ν : OutPoint → Nat} : ∀ (st : UndoStack) (g : CSet), Hist u0 ν st g → FOK u0 ν st g := by
  intro st
  induction st with
  | nil =>
    intro g h
    obtain ⟨h1, h2⟩ := h
    refine ⟨fun e he => (by cases he), fun e he => (by cases he), ?_, ?_, fun e he => (by cases he)⟩
    · intro o c hg
      rw [h1] at hg
      exact Or.inl ⟨o.2, c, hg⟩
    · intro o c hg
      rw [h1] at hg
      exact h2 o c hg
  | cons e r ih =>
    intro g h
    obtain ⟨txs, sc⟩ := e
    obtain ⟨f, hf, l⟩ := h
    exact (ih f hf).of_linked l

theorem Hist.congr {u0 : UT} {ν : OutPoint → Nat} {st : UndoStack} {g g' : CSet} (h : Hist u0 ν st g)
    (e : ∀ o, g' o = g o) : Hist u0 ν st g' := by
  rw [funext e]; exact h

end GocoinV.Mempool
