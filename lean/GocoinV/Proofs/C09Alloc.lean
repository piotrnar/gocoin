/-
  Proofs.C09Alloc — the per-element bounds behind `Props.C09.alloc_bounded` (`allocTx K b ≤ K.tx + (K.txIn + K.txOut +
  67)·|b|` for every byte string): `allocN_bound`, in the subtraction-free form "requested + c·(bytes left) ≤ c·|b| + k"
  that survives the induction over the count, and its instances for items, stacks, inputs and outputs. Core tactics only.
-/
import GocoinV.Model.WireAlloc
import GocoinV.Proofs.C09
namespace GocoinV.Wire
open GocoinV GocoinV.CompactSize

theorem vlenWire_le {b r : Bytes} {v : Nat} (h : vlenWire b = some (v, r)) :
    v ≤ r.length ∧ r.length + 1 ≤ b.length := by
  obtain ⟨_, h2, _⟩ := vlenWire_spec h
  obtain ⟨_, _, h4, h3⟩ := vlenWire_rest h
  exact ⟨h2, by omega⟩

/-- bytes a reader leaves; 0 when it refuses -/
def left {α : Type} : Option (α × Bytes) → Nat
  | none => 0
  | some (_, r) => r.length

/-- "At most c per byte CONSUMED (+ k) when the reader accepts, at most c per byte of the buffer (+ k) when it refuses" as
    one inequality without subtraction; in this form the bound of one element carries over to `n` elements. -/
theorem allocN_bound {α : Type} (f : Bytes → Option (α × Bytes)) (a : Bytes → Nat) (c k : Nat)
    (h : ∀ b, a b + c * left (f b) ≤ c * b.length + k) :
    ∀ (n : Nat) (b : Bytes), allocN f a n b + c * left (decodeN f n b) ≤ c * b.length + k * n := by
  intro n
  induction n with
  | zero => intro b; simp [allocN, decodeN, left]
  | succ n ih =>
    intro b
    have hb := h b
    simp only [allocN, decodeN]
    cases hfb : f b with
    | none => simp only [hfb, left] at hb ⊢; simp only [Nat.mul_succ]; omega
    | some p =>
      obtain ⟨x, b'⟩ := p
      have h3 := ih b'
      simp only [hfb, left] at hb ⊢
      cases hrec : decodeN f n b' <;> (simp only [hrec, left] at h3 ⊢; simp only [Nat.mul_succ]; omega)

theorem allocItem_bound (b : Bytes) : allocItem b + 1 * left (decodeItem b) ≤ 1 * b.length + 0 := by
  unfold allocItem decodeItem decodeItemWith
  cases hv : vlenWire b with
  | none => simp [left]
  | some p =>
    obtain ⟨le', r0⟩ := p
    obtain ⟨h1, h2⟩ := vlenWire_le hv
    simp only
    cases h : readN le' r0 with
    | none => simp only [left]; omega
    | some q =>
      have := readN_length h
      simp only [left]; omega

theorem allocStack_bound (b : Bytes) : allocStack b + 25 * left (decodeStack b) ≤ 25 * b.length + 0 := by
  unfold allocStack decodeStack decodeStackWith decodeItem
  cases hv : vlenWire b with
  | none => simp [left]
  | some p =>
    obtain ⟨n, r0⟩ := p
    obtain ⟨h1, h2⟩ := vlenWire_le hv
    have h3 := allocN_bound (decodeItemWith vlenWire) allocItem 1 0 allocItem_bound n r0
    simp only
    cases h : decodeN (decodeItemWith vlenWire) n r0 with
    | none => simp only [h, left] at h3 ⊢; omega
    | some q =>
      have ⟨⟨hn, _⟩, a2⟩ := (exact_item.decodeN _ _ _ _).1 h
      have hge := a2 ▸ encodeList_length_ge encodeItem encodeItem_pos q.1 q.2
      simp only [h, left] at h3 ⊢; omega

/-- what `NewTxIn` / `NewTxOut` allocate for the script behind a fixed-length head: at most the buffer -/
theorem allocHead_le (k : Nat) (b : Bytes) :
    (match readN k b with
      | none => 0
      | some (_, b') => match vlenWire b' with
        | none => 0
        | some (le, _) => le) ≤ b.length := by
  cases h1 : readN k b with
  | none => exact Nat.zero_le _
  | some p =>
    obtain ⟨x, b'⟩ := p
    have := readN_length h1
    simp only
    cases hv : vlenWire b' with
    | none => exact Nat.zero_le _
    | some q =>
      obtain ⟨h2, h3⟩ := vlenWire_le hv
      simp only; omega

theorem allocTxIn_bound (K : AllocK) (b : Bytes) : allocTxIn K b + 1 * left (decodeTxIn b) ≤ 1 * b.length + K.txIn := by
  cases h : decodeTxIn b with
  | none =>
    have : allocTxIn K b ≤ K.txIn + b.length := Nat.add_le_add_left (allocHead_le 36 b) _
    simp only [left]; omega
  | some p =>
    obtain ⟨i, r⟩ := p
    obtain ⟨⟨h32, -, -, hlen⟩, rfl⟩ := (exact_txIn _ _ _).1 h
    -- on an accepted input the script allocated is the script decoded
    have e : allocTxIn K (encodeTxIn i ++ r) = K.txIn + i.scriptSig.length := by
      unfold allocTxIn
      rw [show encodeTxIn i ++ r = (i.prevHash ++ leBytes 4 i.prevIdx) ++
          (putULe i.scriptSig.length ++ (i.scriptSig ++ (leBytes 4 i.sequence ++ r))) by simp [encodeTxIn],
        readN_append' _ _ (by simp [h32])]
      simp only
      rw [vlenWire_putULe _ _ hlen (by simp)]
    rw [e]; simp only [left, encodeTxIn, List.length_append, leBytes_length]; omega

theorem allocTxOut_bound (K : AllocK) (b : Bytes) : allocTxOut K b + 1 * left (decodeTxOut b) ≤ 1 * b.length + K.txOut := by
  cases h : decodeTxOut b with
  | none =>
    have : allocTxOut K b ≤ K.txOut + b.length := Nat.add_le_add_left (allocHead_le 8 b) _
    simp only [left]; omega
  | some p =>
    obtain ⟨o, r⟩ := p
    obtain ⟨⟨-, hlen⟩, rfl⟩ := (exact_txOut _ _ _).1 h
    have e : allocTxOut K (encodeTxOut o ++ r) = K.txOut + o.pkScript.length := by
      unfold allocTxOut
      rw [show encodeTxOut o ++ r = leBytes 8 o.value ++ (putULe o.pkScript.length ++ (o.pkScript ++ r)) by simp [encodeTxOut],
        readN_append' _ _ (leBytes_length 8 _)]
      simp only
      rw [vlenWire_putULe _ _ hlen (by simp)]
    rw [e]; simp only [left, encodeTxOut, List.length_append, leBytes_length]; omega

end GocoinV.Wire
