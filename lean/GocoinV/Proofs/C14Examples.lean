/-
  Proofs.C14Examples — closed toy instances (hash functions with the right output lengths, I_L = 1) on which the
  kernel evaluates whole derivations; used by the non-vacuity examples of Props/C14.lean.
-/
import GocoinV.Model.WalletKeys
import GocoinV.Spec.Bip32
import GocoinV.Proofs.C14Wallet
namespace GocoinV.Proofs.C14
open GocoinV HD WalletKeys

theorem ok_of_isSome {ε α} (x : Except ε α) (h : x.toOption.isSome = true) : ∃ a, x = .ok a := by
  cases x with
  | ok a => exact ⟨a, rfl⟩
  | error e => cases h

/-- toy hash functions with the right output lengths; the HMAC makes I_L = 1 and an all-zero chain code, so every
    derived scalar stays tiny and `decide +kernel` evaluates whole derivations -/
def toyC : WalletCrypto :=
  { sha256 := fun _ => List.replicate 32 0, shaHash := fun _ => List.replicate 32 0, hash160 := fun _ => List.replicate 20 0,
    hmac512 := fun _ _ => List.replicate 31 0 ++ [1] ++ List.replicate 32 0, pbkdf2 := fun _ b => b, scrypt := fun _ _ => none }

def toyPriv : HDWallet := { chCode := List.replicate 32 0, key := 0 :: Spec.Bip32.ser256 1, pfx := Gen.HDConsts.pfxPrivate,
                            idx := 0, checksum := [0, 0, 0, 0], depth := 0 }
def toyPub : HDWallet := { chCode := List.replicate 32 0, key := Secp.ser33 Secp.G, pfx := Gen.HDConsts.pfxPublic,
                           idx := 0, checksum := [0, 0, 0, 0], depth := 0 }
def toyCfg : Config := { waltype := 4, hdpath := [], bip39wrds := 0, usescrypt := 0, hdsubs := 1, keycnt := 1,
                         testnet := false, litecoin := false, atype := .segwit, secretSeed := [] }

theorem toy_child_pub : (child toyC toyPub 0).toOption.isSome = true := by decide +kernel
theorem toy_walk : (walkPath toyC [2 ^ 31] toyPriv none).toOption.isSome = true := by decide +kernel
theorem toy_spec_derive : Spec.Bip32.derivePriv toyC.hmac512 (1, List.replicate 32 0) [2 ^ 31] = some (2, List.replicate 32 0) := by
  decide +kernel
theorem toy_pass1 : (type4Pass toyC toyPriv 0 [] 1 0).toOption.isSome = true := by decide +kernel
theorem toy_pass_wrap : ((type4Pass toyC toyPriv (2 ^ 31 - 1) [] 2 0).toOption.map List.length) = some 2 := by decide +kernel
theorem toy_subs : (type4Subs toyC toyPriv 0 0 1 1 1 []).toOption.isSome = true := by decide +kernel
theorem toy_keyrec : (mkKeyRec toyC toyCfg (Spec.Bip32.ser256 1, [])).toOption.isSome = true := by decide +kernel

theorem toy_pass_wrap' : ∃ ks, type4Pass toyC toyPriv (2 ^ 31 - 1) [] 2 0 = .ok ks ∧ ks.length = 2 := by
  have h := toy_pass_wrap
  revert h
  cases type4Pass toyC toyPriv (2 ^ 31 - 1) [] 2 0 <;> simp [Except.toOption]

theorem toyPub_serWF : SerWF toyPub :=
  ⟨Or.inr (by decide), by decide, rfl, by decide, by decide, by decide, fun _ => by decide +kernel⟩

theorem toyC_lens : (∀ b, (toyC.shaHash b).length = 32) ∧ (∀ k m, (toyC.hmac512 k m).length = 64) ∧
    (∀ b, (toyC.hash160 b).length = 20) := ⟨fun _ => by simp [toyC], fun _ _ => by simp [toyC], fun _ => by simp [toyC]⟩

end GocoinV.Proofs.C14
