/-
  Proofs.C12SortRun — the invariant of the non-dirty sorted list through every single operation: processTx, markLocal,
  buildSortedList, the steps of the pool side (`Prim.sort`), BlockMined / BlockUndone, and `step_sort`; the initial state
  (`sort_genesis`).  Helper lemmas for Props/C12 `sorted_list_inv`, and for `template_from_pool`, whose only hypothesis
  about the non-dirty list is therefore `nowrap`; the induction over histories is `run_carried` in Proofs/C12Chain.
  Core Lean only.
-/
import GocoinV.Proofs.C12SortAdd
import GocoinV.Proofs.C12Compose
import GocoinV.Proofs.C12Run
namespace GocoinV.Mempool

theorem SortInvP.of_inv {K : Keys} {s : State} (h : SortInv K s) : SortInvP K s := fun _ => h

variable {K : Keys} {W : Tx → Prop} {rank : TxId → Nat} {u0 : UT} {ν : OutPoint → Nat}
  {A : OutPoint → Prop} {Cf : TxId → Prop}

theorem processTx_sort (U : Univ2 K W rank u0 ν) (mf : Nat) (s : State)
    (t : Tx) (fl : Flags) (h : PoolOK K W ν A Cf s) (ht : W t) (hV : ∀ o c, s.utxo.get? o = some c → c.value = ν o)
    (hs : SortInv K s) : SortInv K (processTx K mf s t fl).2 := by
  refine processTx_cases (P := fun r => SortInv K r.2) K mf s t fl
    (fun why m _ _ => hs.same (rejectTx_same K s t why m)) (fun _ _ => hs)
    (hs.same SortSame.of_eq) fun a _ ha hsr _ => ?_
  obtain ⟨ok1, hfresh, _, _, _, hin⟩ := accept_pre U s t fl a fl.loc h ht hV ha hsr
  apply addT2S_sort K _ _ (deleteRbf_sort K s a.rbf hs) hfresh
  · intro p hpm
    obtain ⟨k, i, hk, hf, e⟩ := (mem_memParents K _ p).mp hpm
    obtain ⟨par, hpar, _⟩ := (hin k i hk).1 hf
    rw [← e, hpar]; rfl
  · intro c tc hc hm
    obtain ⟨k, i, hk, hf, e⟩ := (mem_memParents K _ _).mp hm
    obtain ⟨p, hp1, _⟩ := ok1.par c tc hc k i hk hf
    rw [e] at hp1
    cases hfresh.symm.trans hp1

/-- chain side, pool invariant and sorted-list invariant together, as the sorted-list proofs carry them -/
def GS (K : Keys) (W : Tx → Prop) (u0 : UT) (ν : OutPoint → Nat) (s : State) : Prop :=
  ChainOK u0 ν s ∧ PGoodP K W u0 ν s ∧ SortInvP K s

theorem GS.frame {K : Keys} {W : Tx → Prop} {u0 : UT} {ν : OutPoint → Nat} {s s' : State} (h : GS K W u0 ν s)
    (e : Env s s') (f : s.panicked = false → Frame W s s') (m : SortSame s s') : GS K W u0 ν s' :=
  ⟨h.1.of_env e, fun hp => have hp0 := alive_of_env e hp; (h.2.1 hp0).frame (f hp0),
    fun hp => (h.2.2 (alive_of_env e hp)).same m⟩

theorem processTx_GS (U : Univ2 K W rank u0 ν) (mf : Nat) (s : State) (t : Tx) (fl : Flags) (hu : fl.unmined = false)
    (h : GS K W u0 ν s) (ht : s.panicked = false → W t) : GS K W u0 ν (processTx K mf s t fl).2 :=
  have e := processTx_env K mf s t fl
  ⟨h.1.of_env e,
    fun hp => have hp0 := alive_of_env e hp
      processTx_good U mf s t fl h.1 (h.2.1 hp0) (ht hp0) (by rw [hu]; intro x; cases x),
    fun hp => have hp0 := alive_of_env e hp; processTx_sort U mf s t fl (h.2.1 hp0) (ht hp0) h.1.val (h.2.2 hp0)⟩

/-- LoadRawTx's "make as own" changes no field the sorted-list invariant reads (keys, inputs and MemInputs stay) -/
theorem markLocal_sort (K : Keys) (s : State) (id : TxId) (h : SortInv K s) : SortInv K (markLocal K s id) := by
  unfold markLocal
  split
  · rename_i r hr
    intro hd hw
    have q := h hd hw
    have look : ∀ x t', (s.pool.set (K.bidx id) { r with loc := true }).get? x = some t' →
        ∃ t0, s.pool.get? x = some t0 ∧ memParents K t' = memParents K t0 := by
      intro x t' hx
      rcases AList.get?_set_some hx with ⟨e, rfl⟩ | ⟨_, h0⟩
      · exact ⟨r, by rw [e]; exact hr, rfl⟩
      · exact ⟨t', h0, rfl⟩
    refine ⟨q.asc, q.bnd, ?_, ?_, ?_⟩
    · intro b
      refine (q.sync b).trans ?_
      show _ ↔ ((s.pool.set (K.bidx id) { r with loc := true }).get? b).isSome = true
      by_cases e : b = K.bidx id
      · rw [e, AList.get?_set_self, hr]; rfl
      · rw [AList.get?_set_other _ _ _ _ e]
    · refine List.Pairwise.imp ?_ q.pf
      intro x y hxy t' ht'
      obtain ⟨t0, h0, e⟩ := look x t' ht'
      rw [e]; exact hxy t0 h0
    · intro b t' hb
      obtain ⟨t0, h0, e⟩ := look b t' hb
      rw [e]; exact q.irr b t0 h0
  · exact h

/-! ### buildSortedList -/

theorem pairwise_of_PfKeysFrom (K : Keys) (s : State) : ∀ (l seen : List Nat), PfKeysFrom K s seen l → l.Nodup →
    (∀ x ∈ seen, x ∉ l) → l.Pairwise (NoLaterParent K s) := by
  intro l
  induction l with
  | nil => intro _ _ _ _; exact List.Pairwise.nil
  | cons b r ih =>
    intro seen h hn hdis
    obtain ⟨⟨t, ht, hpar⟩, h2⟩ := h
    obtain ⟨hbr, hnr⟩ := List.nodup_cons.mp hn
    refine List.Pairwise.cons ?_ (ih (b :: seen) h2 hnr
      (List.forall_mem_cons.mpr ⟨hbr, fun x hx hxr => hdis x hx (List.mem_cons_of_mem _ hxr)⟩))
    intro y hy t' ht' hm
    rw [ht] at ht'; cases ht'
    exact hdis y (hpar y hm) (List.mem_cons_of_mem _ hy)

theorem PfKeysFrom_of_pairwise (K : Keys) (s : State) : ∀ (l seen : List Nat),
    (∀ b ∈ l, ∃ t, s.pool.get? b = some t ∧ ∀ p ∈ memParents K t, p ≠ b ∧ (p ∈ seen ∨ p ∈ l)) →
    l.Pairwise (NoLaterParent K s) → PfKeysFrom K s seen l := by
  intro l
  induction l with
  | nil => intro _ _ _; trivial
  | cons b r ih =>
    intro seen h hp
    obtain ⟨t, ht, hpar⟩ := h b List.mem_cons_self
    obtain ⟨hp1, hp2⟩ := List.pairwise_cons.mp hp
    refine ⟨⟨t, ht, ?_⟩, ih (b :: seen) ?_ hp2⟩
    · intro p hpm
      obtain ⟨hne, hin⟩ := hpar p hpm
      exact hin.resolve_right fun hin => (List.mem_cons.mp hin).elim hne fun hin => hp1 p hin t ht hpm
    · intro c hc
      obtain ⟨tc, htc, hparc⟩ := h c (List.mem_cons_of_mem _ hc)
      refine ⟨tc, htc, fun p hpm => ?_⟩
      obtain ⟨hne, hin⟩ := hparc p hpm
      refine ⟨hne, hin.elim (fun hin => Or.inl (List.mem_cons_of_mem _ hin)) fun hin => ?_⟩
      exact (List.mem_cons.mp hin).imp_left fun e => by rw [e]; exact List.mem_cons_self

theorem good_parents (U : Univ2 K W rank u0 ν) (s : State) (g : PGood K W u0 ν s) (b : Nat) (t : T2S)
    (hb : s.pool.get? b = some t) :
    ∀ p ∈ memParents K t, p ≠ b ∧ (s.pool.get? p).isSome = true := by
  intro p hp
  obtain ⟨k, i, hk, hf, e⟩ := (mem_memParents K t p).mp hp
  obtain ⟨par, hp1, hp2, _⟩ := g.par b t hb k i hk hf
  rw [e] at hp1
  refine ⟨?_, by rw [hp1]; rfl⟩
  intro hpb
  rw [hpb, hb] at hp1
  cases hp1
  have := U.base.acyclic t.tx (g.w.base.poolW _ _ hb) i (List.mem_of_getElem? hk)
  rw [hp2] at this
  exact Nat.lt_irrefl _ this

theorem buildSorted_sort (U : Univ2 K W rank u0 ν) (s : State) (g : PGood K W u0 ν s) (q : SortInv K s)
    : SortInv K (buildSorted K s) := by
  unfold buildSorted
  split
  · intro _ hw
    dsimp only at hw ⊢
    obtain ⟨l1, l2, l3⟩ := sortedSlow_listing U s g
    obtain ⟨r1, r2⟩ := rankRoom_spec _ _ (Bool.not_inj (y := true) hw)
    obtain ⟨a1, a2⟩ := rankFrom_asc _ r1 (sortedSlow K s) SORT_START l1 (by omega)
    refine ⟨a1, fun x hx => (a2 x hx).2, ?_, ?_, ?_⟩
    · intro b
      constructor
      · intro hb
        obtain ⟨y, hy, e⟩ := List.mem_map.mp hb
        have := AList.get?_of_mem _ _ _ g.w.base.nodup (sortedSlowP_sub K s y hy)
        show (s.pool.get? b).isSome = true
        rw [← e, this]; rfl
      · intro hb
        obtain ⟨t, hx⟩ := Option.isSome_iff_exists.mp hb
        exact l2 b t hx
    · exact pairwise_of_PfKeysFrom K s _ [] l3 l1 (by simp)
    · intro b t hb hm
      exact (good_parents U s g b t hb b hm).1 rfl
  · exact q

theorem Prim.sort (U : Univ2 K W rank u0 ν) {s s' : State} (p : Prim K W s s')
    (hc : ChainOK u0 ν s) (g : PGoodP K W u0 ν s) (q : SortInvP K s) : SortInvP K s' := by
  have e := p.env
  cases p with
  | panic => intro hp; cases hp
  | rejDel b r _ => exact SortInvP.lift e (fun x => x.same (rejDelete_same K s r)) q
  | resubmit mf cur first txr t htxr htx =>
    have e1 := rejDelete_env K s txr
    have ht : (rejDelete K s txr).panicked = false → W t := fun hp =>
      (g (alive_of_env e1 hp)).w.base.rejW _ txr t htxr htx
    have h2 := (processTx_GS U mf _ t {} rfl (GS.frame ⟨hc, g, q⟩ e1 (fun _ => rejDelete_frame K W s txr)
      (rejDelete_same K s txr)) ht).2.2
    refine resubmit_cases K mf s cur txr t h2 fun _ => ?_
    exact SortInvP.lift ((rejDeleteByIdx_env K _ (K.bidx t.id)).trans (rejectTx_env K _ t R_BAD_INPUT none))
      (fun x => x.same ((rejDeleteByIdx_same K _ (K.bidx t.id)).trans (rejectTx_same K _ t R_BAD_INPUT none))) h2
  | submit mf t fl ht hu _ _ => exact (processTx_GS U mf s t fl hu ⟨hc, g, q⟩ fun _ => ht).2.2
  | markLocal id => exact SortInvP.lift e (markLocal_sort K s id) q
  | delTree b t _ => exact SortInvP.lift e (delWithChildren_sort K 0 _ s t) q
  | evictOne b t _ _ => exact SortInvP.lift e (delOne_sort K s t 0) q
  | resort => exact fun hp => have hp0 := alive_of_env e hp; buildSorted_sort U s (g hp0) (q hp0)
  | reload => exact fun _ => reload_sort K s
  | tip hh | commitFlag y => exact SortInvP.lift e (fun x => x.same SortSame.of_eq) q

theorem Reach.gs (U : Univ2 K W rank u0 ν) {s s' : State} (r : Reach K W s s') (h : GS K W u0 ν s) : GS K W u0 ν s' :=
  r.inv (fun _ _ p h => have g := p.good U ⟨h.1, h.2.1⟩; ⟨g.1, g.2, p.sort U h.1 h.2.1 h.2.2⟩) h

theorem blockMined_sort (U : Univ2 K W rank u0 ν) (mf : Nat) (s : State) (hh : Nat) (txs : List Tx)
    (hW : ∀ t ∈ txs, W t)
    (hc : ChainOK u0 ν s) (g : PGoodP K W u0 ν s) (hI : InvR K W s)
    (cs : ConnectSound u0 ν s (connectUtxo s hh txs) txs) (q : SortInvP K s) :
    SortInvP K (blockMined K mf (connectUtxo s hh txs) txs) := by
  have q0 : SortInvP K (connectUtxo s hh txs) := by
    intro hp; rw [(connectUtxo_fields s hh txs).2.2.2.1] at hp
    exact (q hp).same (connectUtxo_same s hh txs)
  rw [blockMined_eq]
  have e6 := foldl_env (txMined K) (fun s t => txMined_env K s t) txs.reverse (connectUtxo s hh txs)
  have h1 : GS K W u0 ν (txs.reverse.foldl (txMined K) (connectUtxo s hh txs)) :=
    ⟨cs.chain.of_env e6, minedAll_good U s hh txs hW hc g hI cs,
      SortInvP.lift e6 (foldl_inv (SortInv K) _ (txMined_sort K) txs.reverse _) q0⟩
  exact (foldl_inv (GS K W u0 ν) _ (fun cur t h => (txAccepted_reach mf cur _).gs U h) txs _ h1).2.2

theorem undoneStep_sort (U : Univ2 K W rank u0 ν) (mf : Nat) (X : Tx)
    (hX : W X) (cur : State)
    (h : PoolOK K W ν A Cf cur) (hV : ∀ o c, cur.utxo.get? o = some c → c.value = ν o) (q : SortInv K cur) :
    SortInv K (undoneStep K mf cur X) :=
  have q2 := processTx_sort U mf _ X { trusted := true, unmined := true }
    (h.frame (rejDeleteByIdx_frame K W cur (K.bidx X.id))) hX
    (by intro o c hoc; rw [(rejDeleteByIdx_env K cur (K.bidx X.id)).utxo] at hoc; exact hV o c hoc)
    (q.same (rejDeleteByIdx_same K cur _))
  undoneStep_cases K mf cur _ X rfl (q2.same SortSame.of_eq)
    fun r _ _ => unminedFlags_sort K _ r q2

theorem blockUndone_sort (U : Univ2 K W rank u0 ν) (mf : Nat) (s s' : State) (txs : List Tx)
    (hd : disconnectUtxo s = some (s', txs))
    (hc : ChainOK u0 ν s) (g : PGoodP K W u0 ν s) (hI : InvR K W s)
    (uc : UndoCommitTxs u0 ν s s' txs) (q : SortInvP K s) : SortInvP K (blockUndone K mf s' txs) := by
  obtain ⟨_, _, e4, sc, e5⟩ := disconnectUtxo_fields s s' txs hd
  have hW := (disconnectUtxo_InvR s s' txs hI hd).2
  have q0 : SortInvP K s' := by
    intro hp; rw [e4] at hp
    exact (q hp).same (disconnectUtxo_same s s' txs hd)
  rw [blockUndone_eq]
  exact fun hp => (undone_fold (J := SortInv K) U mf s' uc.chain
    (fun X _ cur hXW e h0 hj => undoneStep_sort U mf X hXW cur h0
      (by intro o c hoc; rw [e.utxo] at hoc; exact uc.chain.val o c hoc) hj) txs s'
    (fun X hX => ⟨hW X hX, hc.nd (txs, sc) (by rw [e5]; exact List.mem_cons_self) X hX⟩) (Env.refl _)
    (fun hp0 => ⟨undone_start s s' txs hd g hI uc hp0, q0 hp0⟩) hp).2

/-! ### every operation; the initial state -/

theorem step_sort (U : Univ2 K W rank u0 ν) (s : State) (op : Op) (h : Full K W u0 ν s) (hW : ∀ t ∈ op.txs, W t)
    (ha : AdmOp u0 ν s op) (q : SortInvP K s) : SortInvP K (step K s op) := by
  cases op with
  | block hh txs mf => exact blockMined_sort U mf s hh txs hW h.chain h.good h.inv ha q
  | undo uh mf =>
    simp only [step]
    cases hd : disconnectUtxo s with
    | none => exact q
    | some p =>
      exact ((expire_reach _ _ _ (.refl _)).gs U ⟨(ha p.1 p.2 hd).chain.of_env (blockUndone_env K mf p.1 p.2),
        blockUndone_good U mf s p.1 p.2 hd h.chain h.good h.inv (ha p.1 p.2 hd),
        blockUndone_sort U mf s p.1 p.2 hd h.chain h.good h.inv (ha p.1 p.2 hd) q⟩).2.2
  | _ => exact ((step_reach s _ hW rfl).gs U ⟨h.chain, h.good, q⟩).2.2

theorem sort_genesis (K : Keys) (cfg : Cfg) (u0 : UT) (h0 : Nat) : SortInvP K (genesis cfg u0 h0) := by
  intro _ _ _
  refine ⟨List.Pairwise.nil, ?_, ?_, List.Pairwise.nil, ?_⟩
  · intro b hb; cases hb
  · intro b; simp [genesis, AList.get?]
  · intro b t hb; simp [genesis, AList.get?] at hb

/-- what `template_from_pool` needs of the non-dirty list, from `SortOK` and the pool invariant -/
theorem sortOK_listing (U : Univ2 K W rank u0 ν) (s : State) (g : PGood K W u0 ν s) (o : SortOK K s)
    :
    s.sorted.Nodup ∧ pfKeys K s [] s.sorted = true ∧ ∀ b t, s.pool.get? b = some t → b ∈ s.sorted := by
  refine ⟨nodup_of_asc _ _ o.asc, ?_, ?_⟩
  · rw [pfKeys_iff]
    apply PfKeysFrom_of_pairwise K s _ [] _ o.pf
    intro b hb
    obtain ⟨t, hx⟩ := Option.isSome_iff_exists.mp ((o.sync b).mp hb)
    refine ⟨t, hx, ?_⟩
    intro p hp
    obtain ⟨h1, h2⟩ := good_parents U s g b t hx p hp
    exact ⟨h1, Or.inr ((o.sync p).mpr h2)⟩
  · intro b t hb
    exact (o.sync b).mpr (by rw [hb]; rfl)

end GocoinV.Mempool
