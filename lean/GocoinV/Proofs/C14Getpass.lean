/-
  Proofs.C14Getpass — the interactive branch of wallet/stuff.go:getpass (password typed, optionally saved to the
  seed file) against the seed-file branch of the NEXT run: the saved file reproduces the password of the run in
  which it was typed, hence the same wallet. Core Lean only.
-/
import GocoinV.Model.WalletKeys
namespace GocoinV.WalletKeys

theorem readPassword_length_le (chunk : Bytes) : (readPassword chunk).length ≤ 1024 := by
  unfold readPassword
  rw [List.length_reverse]
  refine Nat.le_trans (List.dropWhile_suffix _).length_le ?_
  rw [List.length_reverse, List.length_take]
  exact Nat.min_le_left _ _

/-- a typed session in three branches: nothing typed, typed differently twice (generation mode without `-1`), or the
    password and what is saved -/
theorem getpassTyped_eq (c : Config) (t : Typed) : getpassTyped c t =
    if readPassword t.first = [] then .error .empty
    else if t.genMode = true ∧ t.singleAsk = false ∧ readPassword t.second ≠ readPassword t.first then .error .mismatch
    else .ok (c.secretSeed ++ readPassword t.first,
      if t.genMode ∧ !t.ask4pass ∧ t.save then some (readPassword t.first) else none) := by
  simp only [getpassTyped, List.length_eq_zero_iff, Bool.not_eq_true']

theorem getpassTyped_ok (c : Config) (t : Typed) (out : Bytes) (sv : Option Bytes)
    (h : getpassTyped c t = .ok (out, sv)) :
    readPassword t.first ≠ [] ∧ out = c.secretSeed ++ readPassword t.first ∧
    (t.genMode = true → t.singleAsk = false → readPassword t.second = readPassword t.first) ∧
    sv = (if t.genMode ∧ !t.ask4pass ∧ t.save then some (readPassword t.first) else none) := by
  rw [getpassTyped_eq] at h
  split at h; · cases h
  rename_i h0
  split at h; · cases h
  rename_i h1
  simp only [Except.ok.injEq, Prod.mk.injEq] at h
  exact ⟨h0, h.1.symm, fun hg hs => Classical.byContradiction fun hne => h1 ⟨hg, hs, hne⟩, h.2.symm⟩

theorem getpass_of_saved (c : Config) (t : Typed) (out f : Bytes)
    (h : getpassTyped c t = .ok (out, some f)) : getpass c f = some out := by
  obtain ⟨hne, hout, _, hsv⟩ := getpassTyped_ok c t out (some f) h
  have hf : f = readPassword t.first := by
    split at hsv
    · exact Option.some.inj hsv
    · simp at hsv
  subst hf
  unfold getpass
  simp [List.take_of_length_le (readPassword_length_le _), hne, hout]

end GocoinV.WalletKeys
