/-
  Proofs.C08_TabAll — what the kernel evaluations of C08_TabPreG / C08_TabPrec establish. The inversion-free check
  `addOK` is sound for the reference law (`addOK_sound`), so a raw table that passes `tableOK d s n` has n + 1
  entries, each an affine operand within the contract, starts at `s`, and satisfies `chainOK d` (`tableOK_sound`):
  entry i is `s + i·d` (`table_point`). `rowsOK` gives the row relations `precRowsOK` the same way. `g128J`, the
  Jacobian evaluation of 2^128·G, is `g128` (`g128_eq`, from Proofs/C03Jac).
-/
import GocoinV.Proofs.C08_TabPreG
import GocoinV.Proofs.C08_TabPrec
import GocoinV.Proofs.C08_Group
import GocoinV.Proofs.C03Jac
import Mathlib.Tactic.FieldSimp

namespace GocoinV.C08
open GocoinV.Gen GocoinV.Gen.Field5x52 GocoinV.Proofs.C03

theorem ne_zero_cast {m : Nat} (hlt : m < Secp.p) (hm : m ≠ 0) : (m : ZMod Secp.p) ≠ 0 :=
  fun h => hm (cast_inj_of_lt _ m 0 hlt p_pos (by rw [h, Nat.cast_zero]))

/-- in a field, the slope equations cleared of the denominator `m` determine the third point; `sx` is `x1 + x2` -/
theorem third_point {K : Type} [Field K] {l n m x3 y3 sx x1 y1 : K} (hm : m ≠ 0) (hl : l = n * m⁻¹)
    (hx : (x3 + sx) * (m * m) = n * n) (hy : (y3 + y1) * m = n * (x1 - x3)) :
    l * l - sx = x3 ∧ l * (x1 - x3) - y1 = y3 := by
  subst hl
  constructor
  · field_simp; linear_combination -hx
  · field_simp; linear_combination -hy

/-- the same for the naturals of `Secp.add` / `Secp.dbl`: slope `l = n·m⁻¹` by Fermat; `X3`, `Y3` are what the
    reference law computes, `x3`, `y3` the claimed result -/
theorem third_point_nat {l n m x1 y1 sx x3 y3 X3 Y3 : Nat} (hl : l = n * Secp.invMod m Secp.p % Secp.p)
    (hlt : m < Secp.p) (hm : m ≠ 0) (hx3 : x3 < Secp.p) (hy3 : y3 < Secp.p)
    (hx : (x3 + sx) * (m * m % Secp.p) % Secp.p = n * n % Secp.p)
    (hy : (y3 + y1) * m % Secp.p = n * Secp.subMod x1 x3 Secp.p % Secp.p)
    (hX3 : X3 < Secp.p) (eX : (X3 : ZMod Secp.p) = l * l - sx)
    (hY3 : Y3 < Secp.p) (eY : (Y3 : ZMod Secp.p) = l * ((x1 : ZMod Secp.p) - X3) - y1) :
    (some (X3, Y3) : Secp.Point) = some (x3, y3) := by
  obtain ⟨e1, e2⟩ := third_point (l := (l : ZMod Secp.p)) (x1 := (x1 : ZMod Secp.p)) (ne_zero_cast hlt hm)
    (by rw [hl, ZMod.natCast_mod, Nat.cast_mul, invP_cast])
    (by simpa only [Nat.cast_mul, Nat.cast_add, ZMod.natCast_mod] using (mod_eq_iff_cast _ _ _).mp hx)
    (by simpa only [Nat.cast_mul, Nat.cast_add, ZMod.natCast_mod, Proofs.C03.subMod_cast _ _ _ p_pos]
      using (mod_eq_iff_cast _ _ _).mp hy)
  have hX : X3 = x3 := cast_inj_of_lt _ _ _ hX3 hx3 (eX.trans e1)
  rw [hX] at eY ⊢
  rw [cast_inj_of_lt _ _ _ hY3 hy3 (eY.trans e2)]

theorem addOK_sound : ∀ {a d b : Secp.Point}, addOK a d b = true → Secp.add a d = b
  | some (x1, y1), some (x2, y2), some (x3, y3), h => by
    simp only [addOK, Bool.and_eq_true, decide_eq_true_eq] at h
    obtain ⟨⟨hx3, hy3⟩, h⟩ := h
    simp only [Secp.add]
    by_cases hx : x1 = x2
    · simp only [if_pos hx, Bool.and_eq_true, beq_iff_eq, bne_iff_ne, ne_eq] at h
      obtain ⟨⟨⟨⟨hy, hy0⟩, hm⟩, ex⟩, ey⟩ := h
      rw [if_pos hx, if_pos hy]
      simp only [Secp.dbl, if_neg hy0]
      refine third_point_nat (sx := 2 * x1) rfl (Nat.mod_lt _ p_pos) hm hx3 hy3 ex ey
        (Proofs.C03.subMod_lt _ _) ?_ (Proofs.C03.subMod_lt _ _) ?_
      · rw [Proofs.C03.subMod_cast _ _ _ p_pos, ZMod.natCast_mod, ZMod.natCast_mod, Nat.cast_mul]
      · rw [Proofs.C03.subMod_cast _ _ _ p_pos, ZMod.natCast_mod, Nat.cast_mul, Proofs.C03.subMod_cast _ _ _ p_pos]
    · simp only [if_neg hx, Bool.and_eq_true, beq_iff_eq, bne_iff_ne, ne_eq] at h
      obtain ⟨⟨hm, ex⟩, ey⟩ := h
      rw [if_neg hx]
      refine third_point_nat (sx := x1 + x2) rfl (Proofs.C03.subMod_lt _ _) hm hx3 hy3 (by rwa [← Nat.add_assoc]) ey
        (Proofs.C03.subMod_lt _ _) ?_ (Proofs.C03.subMod_lt _ _) ?_
      · rw [Proofs.C03.subMod_cast _ _ _ p_pos, Proofs.C03.subMod_cast _ _ _ p_pos, ZMod.natCast_mod, Nat.cast_mul, Nat.cast_add, sub_sub]
      · rw [Proofs.C03.subMod_cast _ _ _ p_pos, ZMod.natCast_mod, Nat.cast_mul, Proofs.C03.subMod_cast _ _ _ p_pos]
  | none, _, _, h | some _, none, _, h | some _, some _, none, h => by simp [addOK] at h

/-- an admissible entry: its point is the one `ptOfLimbs` reads, and it is an affine operand within the contract -/
theorem entryPt_some {l : List Nat} {q : Nat × Nat} (h : entryPt l = some q) :
    ptOfLimbs l = some q ∧ (XY.ofLimbs l).ok := by
  unfold entryPt at h
  split at h
  · split at h
    · rename_i hm
      simp only [Bool.and_eq_true, Nat.ble_eq] at hm
      obtain ⟨⟨⟨⟨⟨⟨⟨⟨⟨a0, a1⟩, a2⟩, a3⟩, a4⟩, b0⟩, b1⟩, b2⟩, b3⟩, b4⟩ := hm
      exact ⟨h, mag_mono (m := 2) ⟨a0, a1, a2, a3, a4⟩ (by decide), mag_mono (m := 2) ⟨b0, b1, b2, b3, b4⟩ (by decide)⟩
    · cases h
  · cases h

def Adm (l : List (List Nat)) : Prop := ∀ e ∈ l, (XY.ofLimbs e).ok

theorem restOK_sound (d : Secp.Point) : ∀ (l : List (List Nat)) (a : Secp.Point) (n : Nat), restOK d a n l = true →
    l.length = n ∧ Adm l ∧ chainOK d (a :: pts l) = true
  | [], _, 0, _ => ⟨rfl, (fun _ h => nomatch h), rfl⟩
  | [], _, _+1, h => by cases h
  | _ :: _, _, 0, h => by cases h
  | e :: l, a, n+1, h => by
    simp only [restOK, Bool.and_eq_true] at h
    obtain ⟨q, hq⟩ : ∃ q, entryPt e = some q := by
      cases he : entryPt e with
      | none => rw [he] at h; cases a <;> cases d <;> simp [addOK] at h
      | some q => exact ⟨q, rfl⟩
    rw [hq] at h
    obtain ⟨i1, i2, i3⟩ := restOK_sound d l _ n h.2
    obtain ⟨hp, hok⟩ := entryPt_some hq
    refine ⟨congrArg (· + 1) i1, List.forall_mem_cons.2 ⟨hok, i2⟩, ?_⟩
    show (Secp.add a d == ptOfLimbs e && chainOK d (ptOfLimbs e :: pts l)) = true
    rw [hp, addOK_sound h.1, beq_self_eq_true, i3]; rfl

/-- what one evaluation of `tableOK` says about a table -/
theorem tableOK_sound {d s : Secp.Point} {n : Nat} : ∀ {l : List (List Nat)}, tableOK d s n l = true →
    l.length = n + 1 ∧ Adm l ∧ (pts l).head? = some s ∧ chainOK d (pts l) = true
  | e :: l, h => by
    simp only [tableOK, Bool.and_eq_true, beq_iff_eq] at h
    obtain ⟨i1, i2, i3⟩ := restOK_sound d l s n h.2
    obtain ⟨q, rfl⟩ := Option.isSome_iff_exists.1 h.1.2
    obtain ⟨hp, hok⟩ := entryPt_some h.1.1
    refine ⟨congrArg (· + 1) i1, List.forall_mem_cons.2 ⟨hok, i2⟩, ?_, ?_⟩
    · show some (ptOfLimbs e) = _; rw [hp]
    · show chainOK d (ptOfLimbs e :: pts l) = true; rw [hp]; exact i3

theorem rowsOK_sound : ∀ (n : Nat) (h : Secp.Point) (l : List (List Nat)), rowsOK n h l = true →
    precRowsOK n h (pts l) = true ∧ l.length = 16 * n ∧ Adm l
  | 0, _, l, hr => by cases List.isEmpty_iff.1 hr; exact ⟨rfl, rfl, fun _ h => nomatch h⟩
  | n+1, h, l, hr => by
    simp only [rowsOK, Bool.and_eq_true] at hr
    obtain ⟨t1, t2, t3, t4⟩ := tableOK_sound hr.1
    obtain ⟨r1, r2, r3⟩ := rowsOK_sound n _ _ hr.2
    have hpt : (pts l).take 16 = pts (l.take 16) := by simp only [pts, List.map_take]
    refine ⟨?_, ?_, fun e he => ?_⟩
    · simp only [precRowsOK, Bool.and_eq_true, beq_iff_eq]
      rw [hpt, show (pts l).drop 16 = pts (l.drop 16) by simp only [pts, List.map_drop]]
      exact ⟨⟨⟨by rw [pts, List.length_map, t1], by rw [List.headD_eq_head?_getD, t3]; rfl⟩, t4⟩, r1⟩
    · have := List.length_take (i := 16) (l := l); have := List.length_drop (i := 16) (l := l); omega
    · rw [← List.take_append_drop 16 l] at he
      exact (List.mem_append.1 he).elim (t2 e) (r3 e)

theorem prec_rows : precRowsOK 64 Secp.G (pts Tables.precAll) = true := (rowsOK_sound _ _ _ prec_ok).1

theorem pts_getD (l : List (List Nat)) (i : Nat) (hi : i < l.length) :
    (pts l).getD i none = ptOfLimbs (l.getD i []) := by
  simp [pts, List.getD_eq_getElem?_getD, hi]

theorem getD_mem {α : Type} {l : List α} {i : Nat} (hi : i < l.length) (d : α) : l.getD i d ∈ l := by
  rw [List.getD_eq_getElem?_getD, List.getElem?_eq_getElem hi, Option.getD_some]; exact List.getElem_mem hi

theorem table_point {tab : List (List Nat)} {d s : Secp.Point} {n : Nat} (h : tableOK d s n tab = true) (i : Nat)
    (hi : i ≤ n) : ptOfLimbs (tab.getD i []) = addSteps d s i := by
  obtain ⟨h1, -, h3, h4⟩ := tableOK_sound h
  rw [← pts_getD _ _ (by omega)]
  exact chain_spec d s (pts tab) h4 h3 i (by rw [pts, List.length_map]; omega)

theorem jrep_iterDbl : ∀ (n : Nat) {J : SecpFast.J} {A : Secp.Point}, JRep J A → JRep (iterDblJ n J) (iterDbl n A)
  | 0, _, _, h => h
  | n+1, _, _, h => jrep_iterDbl n (jrep_dbl h)

theorem g128_eq : g128J = g128 :=
  jrep_toAffine (jrep_iterDbl 128 (jrep_ofAffine Secp.G fun _ _ h => by cases h; exact ⟨by decide, by decide⟩))

theorem preG128_head : (pts Tables.preG12800).head? = some g128 := g128_eq ▸ preG128_headJ

theorem preG128_ok : tableOK (Secp.dbl g128) g128 4095 Tables.preG128All = true := g128_eq ▸ preG128_okJ

end GocoinV.C08
