/-
  Proofs.C08_GroupAlg — (1) the reference affine law `GocoinV.Secp.dbl/add` (over Nat, Fermat inversion by
  square-and-multiply) expressed in the field F_p = ZMod P; (2) the algebraic identities that make gocoin's
  Jacobian doubling / addition formulas agree with it under (X, Y, Z) ↦ (X/Z², Y/Z³).
-/
import GocoinV.Base.Secp
import GocoinV.Proofs.C08_Chain
import GocoinV.Proofs.C03Field

namespace GocoinV.C08

theorem secp_p_eq : Secp.p = P := by decide

theorem P_pos : 0 < P := by decide

/-- `Secp.invMod · p` is the inverse in F_p (0 ↦ 0) -/
theorem invMod_cast (a : Nat) : ((Secp.invMod a P : Nat) : F) = ((a : F))⁻¹ :=
  Proofs.C03.invMod_cast P (by decide) (by decide) a

theorem subMod_cast (a b : Nat) : ((Secp.subMod a b P : Nat) : F) = (a : F) - (b : F) :=
  Proofs.C03.subMod_cast P a b P_pos

theorem eq_val_of_cast {n : Nat} {z : F} (hn : n < P) (h : (n : F) = z) : n = z.val := by
  rw [← h, ZMod.val_natCast, Nat.mod_eq_of_lt hn]

/-- affine doubling in F_p -/
def dblF (x y : F) : F × F :=
  let l := 3 * x * x * (2 * y)⁻¹
  let x3 := l * l - 2 * x
  (x3, l * (x - x3) - y)

/-- affine chord addition in F_p -/
def addF (x1 y1 x2 y2 : F) : F × F :=
  let l := (y2 - y1) * (x2 - x1)⁻¹
  let x3 := l * l - x1 - x2
  (x3, l * (x1 - x3) - y1)

/-- a point of the reference law given by field elements -/
def ptF (x y : F) : Secp.Point := some (x.val, y.val)

theorem secp_dbl_F (x y : F) :
    Secp.dbl (ptF x y) = if y = 0 then none else ptF (dblF x y).1 (dblF x y).2 := by
  unfold ptF Secp.dbl
  simp only [ZMod.val_eq_zero, secp_p_eq]
  split
  · rfl
  · congr 1
    unfold dblF
    simp only []
    refine Prod.ext ?_ ?_
    · refine eq_val_of_cast (Nat.mod_lt _ P_pos) ?_
      simp only [subMod_cast, Nat.cast_mul, ZMod.natCast_mod, invMod_cast, ZMod.natCast_val, ZMod.cast_id', id_eq, Nat.cast_ofNat]
    · refine eq_val_of_cast (Nat.mod_lt _ P_pos) ?_
      simp only [subMod_cast, Nat.cast_mul, ZMod.natCast_mod, invMod_cast, ZMod.natCast_val, ZMod.cast_id', id_eq, Nat.cast_ofNat]

theorem secp_add_F (x1 y1 x2 y2 : F) :
    Secp.add (ptF x1 y1) (ptF x2 y2) =
      if x1 = x2 then (if y1 = y2 then Secp.dbl (ptF x1 y1) else none)
      else ptF (addF x1 y1 x2 y2).1 (addF x1 y1 x2 y2).2 := by
  unfold ptF Secp.add
  simp only [(ZMod.val_injective P).eq_iff, secp_p_eq]
  split
  · rfl
  · congr 1
    unfold addF
    simp only []
    refine Prod.ext ?_ ?_
    · refine eq_val_of_cast (Nat.mod_lt _ P_pos) ?_
      simp only [subMod_cast, Nat.cast_mul, ZMod.natCast_mod, invMod_cast, ZMod.natCast_val, ZMod.cast_id', id_eq]
    · refine eq_val_of_cast (Nat.mod_lt _ P_pos) ?_
      simp only [subMod_cast, Nat.cast_mul, ZMod.natCast_mod, invMod_cast, ZMod.natCast_val, ZMod.cast_id', id_eq]

theorem two_ne_zero_F : (2 : F) ≠ 0 := by
  intro h
  have : ((2 : Nat) : F) = 0 := by exact_mod_cast h
  rw [ZMod.natCast_eq_zero_iff] at this
  exact absurd (Nat.le_of_dvd (by decide) this) (by decide)

/-- gocoin's `XYZ.Double` polynomial form: with x = X/Z², y = Y/Z³ (Y, Z ≠ 0) the result (rx, ry, rz)
    represents the affine double -/
theorem dbl_alg (X Y Z rx ry rz : F) (hZ : Z ≠ 0) (hY : Y ≠ 0)
    (hrz : rz = 2 * Y * Z)
    (hrx : rx = 9 * X ^ 4 - 8 * X * Y ^ 2)
    (hry : ry = 3 * X ^ 2 * (12 * X * Y ^ 2 - 9 * X ^ 4) - 8 * Y ^ 4) :
    rz ≠ 0 ∧ rx / rz ^ 2 = (dblF (X / Z ^ 2) (Y / Z ^ 3)).1 ∧ ry / rz ^ 3 = (dblF (X / Z ^ 2) (Y / Z ^ 3)).2 := by
  have h2 := two_ne_zero_F
  have hrz0 : rz ≠ 0 := by rw [hrz]; exact mul_ne_zero (mul_ne_zero h2 hY) hZ
  refine ⟨hrz0, ?_, ?_⟩
  · unfold dblF; simp only []
    rw [hrx, hrz]; field_simp; ring
  · unfold dblF; simp only []
    rw [hry, hrz]; field_simp; ring

/-- the common tail of `XYZ.Add` / `XYZ.AddXY`: u1 = x1·w², u2 = x2·w², s1 = y1·w³, s2 = y2·w³ (w ≠ 0), x1 ≠ x2 -/
theorem add_alg (x1 y1 x2 y2 w u1 u2 s1 s2 rx ry rz : F) (hw : w ≠ 0) (hx : x1 ≠ x2)
    (hu1 : u1 = x1 * w ^ 2) (hu2 : u2 = x2 * w ^ 2) (hs1 : s1 = y1 * w ^ 3) (hs2 : s2 = y2 * w ^ 3)
    (hrz : rz = w * (u2 - u1))
    (hrx : rx = (s2 - s1) ^ 2 - (2 * u1 * (u2 - u1) ^ 2 + (u2 - u1) ^ 3))
    (hry : ry = (u1 * (u2 - u1) ^ 2 - rx) * (s2 - s1) - (u2 - u1) ^ 3 * s1) :
    rz ≠ 0 ∧ rx / rz ^ 2 = (addF x1 y1 x2 y2).1 ∧ ry / rz ^ 3 = (addF x1 y1 x2 y2).2 := by
  have hd : x2 - x1 ≠ 0 := sub_ne_zero.mpr (Ne.symm hx)
  have hh : u2 - u1 = (x2 - x1) * w ^ 2 := by rw [hu1, hu2]; ring
  have hrz0 : rz ≠ 0 := by
    rw [hrz, hh]; exact mul_ne_zero hw (mul_ne_zero hd (pow_ne_zero _ hw))
  refine ⟨hrz0, ?_, ?_⟩
  · unfold addF; simp only []
    rw [hrx, hrz, hh, hs1, hs2, hu1]; field_simp; ring
  · unfold addF; simp only []
    rw [hry, hrx, hrz, hh, hs1, hs2, hu1]; field_simp; ring

end GocoinV.C08
