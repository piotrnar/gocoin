/-
  Proofs.C04SimLoops — the simulation lifted through commitTxs' loops: one input, the inputs of a transaction, one
  transaction, the transactions after the coinbase.  Each level shows: if the model's step succeeds then the
  specification's step succeeds on the denoted map, and the invariant (`Inv`, fees, sigop cost mod 2^32, key list
  of blUnsp) holds afterwards.
-/
import GocoinV.Proofs.C04Sim
import GocoinV.Proofs.C04Sigops
import GocoinV.Proofs.C04Sums
namespace GocoinV.Proofs.C04
open GocoinV GocoinV.Connect
open GocoinV.Spec.Connect (Coin Utxo absGet InAcc Acc spendInput spendInputs connectTx connectTxs addOuts moneyRange
  seqLockOk inputSigOpCost outSum)

theorem spendInput_ok (b : Block) (tx : Tx) (inp : TxIn) (a : InAcc) (c : Coin)
    (h1 : aGet a.utxo inp.prev = some c)
    (h2 : ¬ (c.coinbase = true ∧ b.height - c.height < 100))
    (h3 : c.value ≤ Spec.Connect.MAX_MONEY) (h4 : a.valueIn + c.value ≤ Spec.Connect.MAX_MONEY)
    (h5 : b.csv = true → 2 ≤ tx.version → seqLockOk b.height b.mtp inp c = true)
    (h6 : inp.scriptOk = true) :
    spendInput b tx inp a = .ok { utxo := aDel a.utxo inp.prev, valueIn := a.valueIn + c.value,
                                   sigops := a.sigops + inputSigOpCost b inp c } := by
  unfold spendInput
  simp only [h1]
  simp [h2, moneyRange, h3, h4, h6, bind, Except.bind, pure, Except.pure]
  exact h5

theorem Inv.congr {mtpOf : Nat → Nat} {db : DB} {b : Block} {s s' : St} {u : Utxo} (h : Inv mtpOf db b s u)
    (hd : s'.deled = s.deled) (hb : s'.blUnsp = s.blUnsp) : Inv mtpOf db b s' u :=
  ⟨fun op => (h.rel op).trans (congrFun (viewOf_congr hd hb) op).symm, hd ▸ h.dnodup⟩

theorem SPEC_MAX : Spec.Connect.MAX_MONEY = MAX_MONEY := by decide

/-- the per-input context hypotheses of the refinement -/
structure InOk (mtpOf : Nat → Nat) (db : DB) (b : Block) (tx : Tx) (inp : TxIn) : Prop where
  script : inp.scriptOk = true
  /-- BIP68 holds for the coin this input spends: a confirmed one, or one created in this very block -/
  seq : ∀ c : Coin, (absGet mtpOf db inp.prev = some c ∨ (absGet mtpOf db inp.prev = none ∧ c.height = b.height ∧ c.mtpPrev = b.mtp)) →
        b.csv = true → 2 ≤ tx.version → seqLockOk b.height b.mtp inp c = true
  ret1 : countsAgree (redeemOf inp.scriptSig) = true
  ret2 : countsAgree (inp.witness.getLastD []) = true

theorem u32_add (a b : Nat) : u32 (u32 a + u32 b) = u32 (a + b) := by unfold u32; omega

theorem procInput_sim {mtpOf : Nat → Nat} {db : DB} {b : Block} {tx : Tx} {inp : TxIn} {s s' : St} {a a' : Nat}
    {u : Utxo} {so base : Nat} (h : procInput Cfg.current db b inp s a = .ok (s', a'))
    (hh : ∀ k r, aGet db k = some r → r.height ≤ b.height) (hb : b.height < 2 ^ 32)
    (hinv : Inv mtpOf db b s u) (ha : a ≤ MAX_MONEY) (hsig : s.sigops = u32 (base + so))
    (hin : InOk mtpOf db b tx inp) :
    ∃ u' so', spendInput b tx inp ⟨u, a, so⟩ = .ok ⟨u', a', so'⟩ ∧ Inv mtpOf db b s' u' ∧ a' ≤ MAX_MONEY
      ∧ s'.sigops = u32 (base + so') ∧ keys s'.blUnsp = keys s.blUnsp := by
  obtain ⟨s1, v, pk, -, hr, -, rfl, hle⟩ := procInput_sum h ha
  obtain ⟨c, c1, rfl, rfl, c4, c5, c6, c7⟩ := resolve_sim mtpOf db b inp s s1 _ _ u hh hb hinv hr
  obtain ⟨d, bl, rfl⟩ := resolve_frame hr
  have hm := MAX_MONEY_val
  have hsp := spendInput_ok b tx inp ⟨u, a, so⟩ c c1 c4 (by rw [SPEC_MAX]; omega) (by rw [SPEC_MAX]; exact hle)
    (hin.seq c c7) hin.script
  unfold procInput at h
  simp only [hr] at h
  split at h
  · cases h
  · obtain ⟨rfl, -⟩ := Prod.mk.inj (Except.ok.inj h)
    refine ⟨aDel u inp.prev, so + inputSigOpCost b inp c, hsp, c5.congr rfl rfl, hle, ?_, c6⟩
    simp only [hsig, p2sh_eq _ hin.ret1, countWitness_eq _ _ hin.ret2, inputSigOpCost, show WITNESS_SCALE_FACTOR = 4 from rfl]
    by_cases q1 : (b.p2sh = true ∧ isP2SH c.script = true) <;> by_cases q2 : b.witness = true <;>
      simp only [q1, q2, and_self, ↓reduceIte, Bool.false_eq_true, u32_add, Nat.add_assoc, Nat.add_zero, Nat.zero_add]

theorem procInputs_sim {mtpOf : Nat → Nat} {db : DB} {b : Block} {tx : Tx} {ins : List TxIn} {s s' : St} {a a' : Nat}
    {u : Utxo} {so base : Nat} (h : procInputs Cfg.current db b ins s a = .ok (s', a'))
    (hh : ∀ k r, aGet db k = some r → r.height ≤ b.height) (hb : b.height < 2 ^ 32)
    (hinv : Inv mtpOf db b s u) (ha : a ≤ MAX_MONEY) (hsig : s.sigops = u32 (base + so))
    (hin : ∀ i ∈ ins, InOk mtpOf db b tx i) :
    ∃ u' so', spendInputs b tx ins ⟨u, a, so⟩ = .ok ⟨u', a', so'⟩ ∧ Inv mtpOf db b s' u' ∧ a' ≤ MAX_MONEY
      ∧ s'.sigops = u32 (base + so') ∧ keys s'.blUnsp = keys s.blUnsp := by
  induction ins generalizing s a u so with
  | nil => cases h; exact ⟨u, so, rfl, hinv, ha, hsig, rfl⟩
  | cons i r ih =>
    obtain ⟨s1, a1, hp, h⟩ := procInputs_cons_ok h
    obtain ⟨u1, so1, g1, g2, g3, g4, g5⟩ := procInput_sim hp hh hb hinv ha hsig (hin i (by simp))
    obtain ⟨u2, so2, k1, k2, k3, k4, k5⟩ := ih h g2 g3 g4 (fun j hj => hin j (List.mem_cons_of_mem _ hj))
    exact ⟨u2, so2, by unfold spendInputs; simp only [g1]; exact k1, k2, k3, k4, k5.trans g5⟩

theorem aGet_addOuts (u : Utxo) (txid : Bytes) (b : Block) (cb : Bool) (outs : List TxOut) (i : Nat) (op : OutPoint) :
    aGet (addOuts u txid b cb outs i) op =
      if txid = op.hash ∧ i ≤ op.vout ∧ op.vout < i + outs.length then
        (outs[op.vout - i]?).map (fun o => (⟨o.value, o.script, b.height, cb, b.mtp⟩ : Coin))
      else aGet u op := by
  induction outs generalizing u i with
  | nil =>
    have : ¬ (txid = op.hash ∧ i ≤ op.vout ∧ op.vout < i + ([] : List TxOut).length) := by
      simp only [List.length_nil]; omega
    simp only [addOuts, this, ↓reduceIte]
  | cons o r ih =>
    simp only [addOuts, ih, aGet_aSet, List.length_cons]
    by_cases hh : txid = op.hash
    · by_cases hv : i = op.vout
      · have e : (⟨txid, i⟩ : OutPoint) = op := (op_eq_iff _ _).mpr ⟨hh, hv⟩
        have c1 : ¬ (txid = op.hash ∧ i + 1 ≤ op.vout ∧ op.vout < i + 1 + r.length) := by omega
        have c2 : (txid = op.hash ∧ i ≤ op.vout ∧ op.vout < i + (r.length + 1)) := ⟨hh, by omega, by omega⟩
        have c3 : op.vout - i = 0 := by omega
        rw [if_neg c1, if_pos c2, if_pos e, c3]
        rfl
      · have e : ¬ (⟨txid, i⟩ : OutPoint) = op := fun e => hv (by rw [← e])
        by_cases hlt : i + 1 ≤ op.vout ∧ op.vout < i + 1 + r.length
        · have c1 : (txid = op.hash ∧ i + 1 ≤ op.vout ∧ op.vout < i + 1 + r.length) := ⟨hh, hlt⟩
          have c2 : (txid = op.hash ∧ i ≤ op.vout ∧ op.vout < i + (r.length + 1)) := ⟨hh, by omega, by omega⟩
          have c3 : op.vout - i = (op.vout - (i + 1)) + 1 := by omega
          rw [if_pos c1, if_pos c2, c3, List.getElem?_cons_succ]
        · have c1 : ¬ (txid = op.hash ∧ i + 1 ≤ op.vout ∧ op.vout < i + 1 + r.length) := fun q => hlt q.2
          have c2 : ¬ (txid = op.hash ∧ i ≤ op.vout ∧ op.vout < i + (r.length + 1)) := by omega
          rw [if_neg c1, if_neg c2, if_neg e]
    · have e : ¬ (⟨txid, i⟩ : OutPoint) = op := fun e => hh (by rw [← e])
      have c1 : ¬ (txid = op.hash ∧ i + 1 ≤ op.vout ∧ op.vout < i + 1 + r.length) := fun q => hh q.1
      have c2 : ¬ (txid = op.hash ∧ i ≤ op.vout ∧ op.vout < i + (r.length + 1)) := fun q => hh q.1
      rw [if_neg c1, if_neg c2, if_neg e]

theorem getD_map_some {α : Type} (l : List α) (v : Nat) : (l.map some).getD v none = l[v]? := by
  simp only [List.getD_eq_getElem?_getD, List.getElem?_map]
  cases l[v]? <;> rfl

/-- filing the outputs of a transaction into blUnsp denotes adding them to the sequential map (the txid is new: not a
    key of blUnsp, and no record of the confirmed set lives under its 8-byte key) -/
theorem rel_addOuts (mtpOf : Nat → Nat) (db : DB) (b : Block) (s s' : St) (u : Utxo) (txid : Bytes) (cb : Bool)
    (outs : List TxOut)
    (hrel : ∀ op, aGet u op = view mtpOf db b s op)
    (hfresh : txid ∉ keys s.blUnsp) (hfree : aGet db (key8 txid) = none)
    (hd : s'.deled = s.deled) (hbu : s'.blUnsp = aSet s.blUnsp txid (cb, outs.map some)) :
    ∀ op, aGet (addOuts u txid b cb outs 0) op = view mtpOf db b s' op := by
  intro op
  rw [aGet_addOuts, hrel op]
  unfold view viewOf
  rw [hd, hbu, aGet_aSet]
  cases huo : unspentGet Cfg.current db op with
  | some f =>
    obtain ⟨r, hr, _⟩ := unspentGet_slot db op f huo
    have : ¬ txid = op.hash := by intro e; rw [e, hr] at hfree; cases hfree
    simp only [this, false_and, ↓reduceIte]
  | none =>
    by_cases hh : txid = op.hash
    · have hn : aGet s.blUnsp op.hash = none := by rw [← hh]; exact (aGet_none_iff _ _).mpr hfresh
      simp only [hh, ↓reduceIte, true_and, Nat.zero_le, Nat.zero_add, Nat.sub_zero, hn, getD_map_some]
      split
      · rfl
      · rw [List.getElem?_eq_none (by omega)]; rfl
    · simp only [hh, false_and, ↓reduceIte]

theorem settle_other (cfg : Cfg) (isCb : Bool) (s1 s2 : St) (a o : Nat) (h : settle cfg isCb s1 a o = .ok s2) :
    s2.sigops = s1.sigops ∧ s2.scriptBad = s1.scriptBad := by
  obtain ⟨_, _, _, rfl⟩ := settle_frame h
  exact ⟨rfl, rfl⟩

theorem connectTx_ok (b : Block) (tx : Tx) (a : Acc) (r : InAcc)
    (h1 : spendInputs b tx tx.ins ⟨a.utxo, 0, 0⟩ = .ok r) (h2 : outSum tx ≤ r.valueIn)
    (h3 : a.fees + (r.valueIn - outSum tx) ≤ Spec.Connect.MAX_MONEY) :
    connectTx b tx a = .ok { utxo := addOuts r.utxo tx.txid b false tx.outs 0, fees := a.fees + (r.valueIn - outSum tx),
                              sigops := a.sigops + 4 * Spec.Connect.legacySigOps tx + r.sigops } := by
  unfold connectTx
  have : ¬ r.valueIn < outSum tx := by omega
  simp [h1, bind, Except.bind, pure, Except.pure, this, moneyRange, h3]

/-- the per-transaction context hypotheses of the refinement (non-coinbase transaction) -/
structure TxOk (mtpOf : Nat → Nat) (db : DB) (b : Block) (tx : Tx) : Prop where
  ins : ∀ i ∈ tx.ins, InOk mtpOf db b tx i
  ret : txCountsAgree tx = true
  outs : checkOutValues tx.outs 0 = .ok ()
  free : aGet db (key8 tx.txid) = none

theorem procTx_sim {mtpOf : Nat → Nat} {db : DB} {b : Block} {tx : Tx} {s s' : St} {a : Acc}
    (h : procTx Cfg.current db b false tx s = .ok s')
    (hh : ∀ k r, aGet db k = some r → r.height ≤ b.height) (hb : b.height < 2 ^ 32)
    (hinv : Inv mtpOf db b s a.utxo) (hfees : s.fees = a.fees) (hf : s.fees ≤ MAX_MONEY)
    (hsig : s.sigops = u32 a.sigops) (hfresh : tx.txid ∉ keys s.blUnsp) (htx : TxOk mtpOf db b tx) :
    ∃ a', connectTx b tx a = .ok a' ∧ Inv mtpOf db b s' a'.utxo ∧ s'.fees = a'.fees ∧ s'.fees ≤ MAX_MONEY
      ∧ s'.sigops = u32 a'.sigops ∧ keys s'.blUnsp = keys s.blUnsp ++ [tx.txid]
      ∧ s'.sumIn = s.sumIn ∧ s'.sumOut = s.sumOut ∧ s'.scriptBad = s.scriptBad := by
  obtain ⟨s1, a0, s2, h1, h2, rfl⟩ := procTx_ok h
  obtain ⟨sp, hp, rfl⟩ := txInputs_ok h1
  have hsig0 : u32 (s.sigops + u32 (WITNESS_SCALE_FACTOR * legacySigOps tx))
      = u32 ((a.sigops + 4 * Spec.Connect.legacySigOps tx) + 0) := by
    rw [hsig, legacy_eq tx htx.ret, show WITNESS_SCALE_FACTOR = 4 from rfl]; unfold u32; omega
  obtain ⟨u', so', k1, k2, k3, k4, k5⟩ :=
    procInputs_sim hp hh hb (hinv.congr rfl rfl) (Nat.zero_le _) hsig0 htx.ins
  obtain ⟨d, bl, so, rfl⟩ := procInputs_frame hp
  obtain ⟨g5, rfl, g2⟩ := settle_current_ok h2 k3 hf
  obtain ⟨-, x2⟩ := checkOutValues_exact tx.outs 0 (Nat.zero_le _) htx.outs
  have hout : sumOuts tx.outs = outSum tx := by unfold sumOuts; rw [x2, Nat.zero_add]; rfl
  rw [hout] at g5 g2
  have hct := connectTx_ok b tx a ⟨u', a0, so'⟩ k1 g5 (by rw [SPEC_MAX, ← hfees]; exact g2)
  have hany : tx.ins.any (fun i => !i.scriptOk) = false := by
    rw [List.any_eq_false]; intro i hi; simp [(htx.ins i hi).script]
  have hfr : tx.txid ∉ keys bl := k5 ▸ hfresh
  refine ⟨_, hct, ⟨rel_addOuts mtpOf db b _ _ u' tx.txid false tx.outs k2.rel hfr htx.free rfl rfl, k2.dnodup⟩,
    by simp only [hout, hfees], by simpa only [hout] using g2, k4, ?_, rfl, rfl, by simp only [hany, Bool.or_false]⟩
  simp only [aSet_keys, hfr, ↓reduceIte]; exact congrArg (· ++ [tx.txid]) k5

theorem procTxs_sim (mtpOf : Nat → Nat) (db : DB) (b : Block) (txs : List Tx) (s s' : St) (a : Acc)
    (hh : ∀ k r, aGet db k = some r → r.height ≤ b.height) (hb : b.height < 2 ^ 32)
    (hinv : Inv mtpOf db b s a.utxo) (hfees : s.fees = a.fees) (hf : s.fees ≤ MAX_MONEY)
    (hsig : s.sigops = u32 a.sigops)
    (hfresh : ∀ tx ∈ txs, tx.txid ∉ keys s.blUnsp) (hids : (txs.map (·.txid)).Nodup)
    (hall : ∀ tx ∈ txs, TxOk mtpOf db b tx)
    (h : procTxs Cfg.current db b false txs s = .ok s') :
    ∃ a', connectTxs b txs a = .ok a' ∧ Inv mtpOf db b s' a'.utxo ∧ s'.fees = a'.fees ∧ s'.fees ≤ MAX_MONEY
      ∧ s'.sigops = u32 a'.sigops ∧ keys s'.blUnsp = keys s.blUnsp ++ txs.map (·.txid)
      ∧ s'.sumIn = s.sumIn ∧ s'.sumOut = s.sumOut ∧ s'.scriptBad = s.scriptBad := by
  induction txs generalizing s a with
  | nil => cases h; exact ⟨a, rfl, hinv, hfees, hf, hsig, by simp, rfl, rfl, rfl⟩
  | cons tx r ih =>
    obtain ⟨s1, hp, h⟩ := procTxs_cons_ok h
    obtain ⟨a1, g1, g2, g3, g4, g5, g6, g7, g8, g9⟩ :=
      procTx_sim hp hh hb hinv hfees hf hsig (hfresh tx (by simp)) (hall tx (by simp))
    simp only [List.map_cons, List.nodup_cons] at hids
    have hfresh1 : ∀ t ∈ r, t.txid ∉ keys s1.blUnsp := fun t ht => by
      rw [g6, List.mem_append, List.mem_singleton, not_or]
      exact ⟨hfresh t (List.mem_cons_of_mem _ ht), fun e => hids.1 (List.mem_map.mpr ⟨t, ht, e⟩)⟩
    obtain ⟨a2, k1, k2, k3, k4, k5, k6, k7, k8, k9⟩ :=
      ih s1 a1 g2 g3 g4 g5 hfresh1 hids.2 (fun t ht => hall t (List.mem_cons_of_mem _ ht)) h
    refine ⟨a2, ?_, k2, k3, k4, k5, ?_, k7.trans g7, k8.trans g8, k9.trans g9⟩
    · unfold connectTxs; simp only [g1]; exact k1
    · rw [k6, g6]; simp

end GocoinV.Proofs.C04
