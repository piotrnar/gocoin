/-
  Proofs.C16NC — the one-pass read `BlockGetInternal(hash, do_not_cache = true)` (Model.BlockDBNC.blockGetNC) against the
  caching read `blockGet`: same reply, same state up to cache / clock; nothing leaves the cache.
-/
import GocoinV.Proofs.C16Refine
namespace GocoinV.BlockDB

/-- the cache after the one-pass read: the same keys with the same bytes (only `LastUsed` of the block read moves) -/
theorem blockGetNC_cache (env : Env) (s : State) (hash : Bytes) (k : Key) :
    (AL.get (blockGetNC env s hash).1.cache k).map (·.data) = (AL.get s.cache k).map (·.data) := by
  cases hc : AL.get s.cache (keyOf hash) with
  | none => rw [(blockGetNC_cases env s hash).2 hc]
  | some c =>
    unfold blockGetNC
    simp only [hc]
    split
    · rfl
    · simp only [AL.get_set]
      by_cases hk : keyOf hash = k
      · subst hk; simp only [↓reduceIte, hc, Option.map_some]
      · simp only [hk, ↓reduceIte]

theorem olen_index (index : List (Key × Rec)) (k k' : Key) (r0 : Rec) (n : Nat) (hr : AL.get index k = some r0) :
    (AL.get (AL.set index k { r0 with olen := n }) k').map (fun r => (r.ipos, r.trusted, r.seq, r.datfileidx, r.fpos, r.blen))
      = (AL.get index k').map (fun r => (r.ipos, r.trusted, r.seq, r.datfileidx, r.fpos, r.blen)) := by
  simp only [AL.get_set]
  split
  · rename_i hk
    rw [← hk, hr]
    rfl
  · rfl

/-- the index after the one-pass read: the same keys; a record changes at most in `olen` -/
theorem blockGetNC_index (env : Env) (s : State) (hash : Bytes) (k : Key) :
    (AL.get (blockGetNC env s hash).1.index k).map (fun r => (r.ipos, r.trusted, r.seq, r.datfileidx, r.fpos, r.blen))
      = (AL.get s.index k).map (fun r => (r.ipos, r.trusted, r.seq, r.datfileidx, r.fpos, r.blen)) :=
  blockGetNC_moves (P := fun s' => (AL.get s'.index k).map _ = _) env s hash rfl (fun _ _ h _ => h)
    (fun r0 n hr _ => olen_index s.index _ k r0 n hr)

theorem blockGetNC_ref (env : Env) (s : State) (sp : Spec) (h : Ref env s sp) (hash : Bytes) :
    Ref env (blockGetNC env s hash).1 sp ∧
    (∀ e, AL.get sp.m (keyOf hash) = some e → e.tainted = false → keyLost s (keyOf hash) = false →
      (blockGetNC env s hash).2 = .data e.raw e.trusted) :=
  ⟨blockGetNC_moves (P := fun t => Ref env t sp) env s hash h (fun t c h hc => ref_touch env t sp h c hc)
    (fun r0 n hr hn => ref_olen env s sp h _ r0 n hr hn), by rw [(blockGetNC_cases env s hash).1]; exact blockGet_reply env s sp h hash⟩

end GocoinV.BlockDB
