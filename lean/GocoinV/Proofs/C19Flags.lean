/-
  Proofs.C19Flags — flag changes, crash-free histories and raw crash directories:
  * NewDBExt gives every record the flag word of its newest index entry on disk (`diskIndex`): with "browsing-flag
    changes touch memory only" (`applyFlags_keeps`, `get_keeps`, `browseGen_keeps` in Proofs/C19Effects) the rule behind
    the known finding flag-change-not-durable;
  * a crash-free history at the level of the plain map (`DurOK` along `ops.map .op` pins the in-memory map to `vrun`);
  * the directory left by a crash inside an operation that follows any history satisfies `OpenOK`.
-/
import GocoinV.Proofs.C19Lz
import GocoinV.Proofs.C19Abort
namespace GocoinV.Proofs.C19
open GocoinV GocoinV.Qdb GocoinV.QdbSpec

/-! ### NewDBExt: every record comes up with the flag word of its newest index entry on disk -/

def kf (kr : Key × Rec) : Key × Nat := (kr.1, kr.2.flags)

theorem loadOne_failed_sticky (l : List (Key × Rec)) (st : DB × List (Key × Rec)) (h : st.1.failed ≠ none) :
    (l.foldl loadOne st).1.failed ≠ none :=
  List.foldlRecOn l loadOne h fun st h kr _ => by
    unfold loadOne
    split
    · exact h
    · rename_i hn; exact absurd hn h

theorem fail_failed (db : DB) (why : String) : (fail db why).failed ≠ none := by
  unfold fail
  split
  · rename_i x hx; rw [hx]; simp
  · simp

theorem loadOne_flags (l : List (Key × Rec)) (st : DB × List (Key × Rec)) (h : (l.foldl loadOne st).1.failed = none) :
    (l.foldl loadOne st).2.map kf = st.2.map kf ++ l.map kf := by
  induction l generalizing st with
  | nil => simp
  | cons kr t ih =>
    simp only [List.foldl_cons] at h ⊢
    have hs : (loadOne st kr).1.failed = none := by
      cases hf : (loadOne st kr).1.failed with
      | none => rfl
      | some x => exact absurd h (loadOne_failed_sticky t _ (by rw [hf]; simp))
    rw [ih _ h]
    have key : (loadOne st kr).2.map kf = st.2.map kf ++ [kf kr] := by
      revert hs
      unfold loadOne
      split
      · rename_i x hx; intro hc; cases hx.symm.trans hc
      · split
        · intro _; simp
        · split
          · intro hc; exact absurd hc (fail_failed _ _)
          · split
            · intro hc; exact absurd hc (fail_failed _ _)
            · intro _; simp [kf]
    rw [key]
    simp

theorem ilookup_kf (k : Key) (l : List (Key × Rec)) : ilookup k (l.map kf) = (ilookup k l).map (·.flags) :=
  ilookup_mapKV (fun _ r => r.flags) k l

/-- NewDBExt (any directory, any mode, any LoadData — `eg` is the ghost field): when it does not fail, every record it
    holds carries exactly the flag word of the key's entry in `diskIndex F` = newest valid snapshot + index log -/
theorem open_flags (F : FS) (vol load : Bool) (opts : Opts) (h : (openDB F vol load opts eg).failed = none) (k : Key) :
    (ilookup k (openDB F vol load opts eg).index).map (·.flags) = (ilookup k (diskIndex F)).map (·.flags) := by
  have hi := openIndex_index (eg := eg) F vol opts
  generalize hX : openIndex { fs := F, volatile := vol, opts := opts, eager := eg } = X at hi
  cases load with
  | false =>
    have e : (openDB F vol false opts eg).index = X.index := by
      unfold openDB; simp only [hX]; rfl
    rw [e, hi]
  | true =>
    have e : openDB F vol true opts eg = { loadAll X with dataSeq := u32 ((loadAll X).maxSeq + 1) } := by
      unfold openDB; simp only [hX]; rfl
    rw [e] at h ⊢
    have hl : (loadAll X).failed = none := h
    show (ilookup k (loadAll X).index).map (·.flags) = _
    unfold loadAll at hl ⊢
    generalize hY : X.index.foldl loadOne (X, []) = Y at hl ⊢
    dsimp only at hl ⊢
    have hfl : Y.1.failed = none := by
      cases hf : Y.1.failed with
      | none => rfl
      | some x => simp only [hf] at hl; cases hl
    have hk := loadOne_flags X.index (X, []) (by rw [hY]; exact hfl)
    rw [hY] at hk
    simp only [hfl]
    show (ilookup k Y.2).map (·.flags) = _
    rw [← ilookup_kf, hk, List.map_nil, List.nil_append, ilookup_kf, hi]

/-! ### crash-free histories at the level of the plain map -/

theorem durOK_crashfree (ops : List Op) (vol : Bool) (m d m' d' : Key → Option Bytes)
    (h : DurOK vol m d (ops.map HItem.op) m' d') : m' = vrun m ops := by
  induction ops generalizing vol m d with
  | nil => exact h.1
  | cons o t ih =>
    simp only [List.map_cons, DurOK] at h
    rcases h with h | ⟨_, h⟩ <;> exact ih _ _ _ h

theorem vstep_twinOp (m : Key → Option Bytes) (o : Op) : vstep m (twinOp o) = vstep m o := by
  cases o <;> rfl

theorem vrun_twinOp (ops : List Op) (m : Key → Option Bytes) : vrun m (ops.map twinOp) = vrun m ops := by
  unfold vrun; rw [List.foldl_map]; simp only [vstep_twinOp]

theorem twin_ops (ops : List Op) : twin (ops.map HItem.op) = (ops.map twinOp).map HItem.op := by
  unfold twin
  rw [List.map_map, List.map_map]
  rfl

theorem hrun_ops (db : DB) (ops : List Op) : hrun db (ops.map HItem.op) = run db ops := List.foldl_map

theorem hrun_append (db : DB) (H1 H2 : List HItem) : hrun db (H1 ++ H2) = hrun (hrun db H1) H2 := by
  unfold hrun
  rw [List.foldl_append]

/-! ### the raw crash directory after any history -/

/-- after any history, the directory left by a crash inside a further operation `o` (after any number of its file
    operations) and by any number of crashed recovery attempts is one NewDBExt can open (`OpenOK` for the eager ghost),
    and its durable map is — for all keys at once — the one from before `o` or the complete in-memory map after `o` -/
theorem crash_dir_openOK (a g : DB) (h : Twin a g) (o : Op) (oko : OpOK5 o) (f1 : OpFits3 g (twinOp o))
    (f2 : DFits (preSync g (twinOp o))) (n : Nat) (ms : List Nat) (ropts : Opts) :
    OpenOK true (recrash ropts (crashDir a o n) ms) ∧
    ((∀ k, diskValue (recrash ropts (crashDir a o n) ms) k = diskValue a.fs k) ∨
     (∀ k, diskValue (recrash ropts (crashDir a o n) ms) k = vstep (vals g) o k)) := by
  have hge : g.eager = true := h.ge
  obtain ⟨o2, v⟩ := crash_dir g h.sinv (twinOp o) (by rw [hge]; exact opOK3_twin o oko) f1 f2 n ms ropts
  rw [hge] at o2
  rw [h.crashDir o oko f1 f2 n, h.fs]
  exact ⟨o2, v.imp_right fun hv k => by rw [hv k, vstep_twinOp]⟩

theorem hfits_append (db : DB) (H1 H2 : List HItem) (h : HFits db (H1 ++ H2)) :
    HFits db H1 ∧ HFits (hrun db H1) H2 := by
  induction H1 generalizing db with
  | nil => exact ⟨trivial, h⟩
  | cons i t ih =>
    cases i with
    | op o =>
      obtain ⟨f1, f2, f3⟩ := h
      obtain ⟨a, b⟩ := ih (step db o) f3
      exact ⟨⟨f1, f2, a⟩, b⟩
    | crash o n ms vol opts =>
      obtain ⟨f1, f2, f3, f4⟩ := h
      obtain ⟨a, b⟩ := ih (hstep db (.crash o n ms vol opts)) f4
      exact ⟨⟨f1, f2, f3, a⟩, b⟩

end GocoinV.Proofs.C19
