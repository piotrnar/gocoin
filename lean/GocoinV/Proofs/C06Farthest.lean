/-
  Proofs.C06Farthest — `BlockTreeNode.FindFarthestNode` of the chain model (`farthest`) returns a node of the tree whose
  cumulative work is maximal among ALL nodes — also header-only leaves; `findFarthestWithData` (`farthestS`: restricted to
  children with `TxCount != 0`, fix c3d926ba; called on the root with fuel #nodes+1 by ParseTillBlock's fall-back) returns a
  node THAT HAS ITS DATA and whose work is maximal among the nodes that have their data. The two are one search, `farK`, over
  the children a filter keeps; the specification is proved once, for `farK` and a predicate on nodes that the filter
  decides and ancestors inherit.
-/
import GocoinV.Proofs.C06Work
namespace GocoinV.ChainTree
open GocoinV.UtxoOps

theorem Desc_root_height {U : List Block} {c : Chain} (w : TreeWF U c) :
    ∀ (h x : Nat) (n : Node), getNode c x = some n → n.height = h → Desc c c.root x := by
  intro h
  induction h with
  | zero =>
    intro x n hn h0
    rw [w.root_of_height0 hn h0]; exact Desc.refl
  | succ h ih =>
    intro x n hn hh
    have hx : x ≠ c.root := not_root_of_height_pos w hn (by omega)
    obtain ⟨p, hp, hph, _⟩ := w.par x n hn hx
    exact Desc.step hn hx (ih n.parent p hp (by omega))

/-- FindFarthestNode over the children that `keep` lets through -/
def farK (c : Chain) (keep : Node → Bool) : Nat → Node → Nat × Q
  | 0, n => (n.id, difficulty n.bits)
  | f + 1, n =>
    match (n.childs.filterMap (getNode c)).filter keep with
    | [] => (n.id, difficulty n.bits)
    | c0 :: rest =>
      let first := farK c keep f c0
      let best := rest.foldl (fun acc ch =>
        let r := farK c keep f ch
        if r.2.gt acc.2 then r else acc) first
      (best.1, best.2.add (difficulty n.bits))

theorem farthest_eq_farK (c : Chain) : ∀ f, farthest c f = farK c (fun _ => true) f
  | 0 => rfl
  | f + 1 => by funext n; rw [farthest, farK, farthest_eq_farK c f, List.filter_true]; rfl

/-- what `farK c keep f n` returns for the node `n` (id `x`): a descendant `L` of `x` that is `Good` and of maximal work among
    the `Good` descendants of `x`, and the sum of the difficulties from `n` down to `L` (both included) -/
def FarOK (c : Chain) (Good : Nat → Node → Prop) (x : Nat) (n : Node) (res : Nat × Q) : Prop :=
  ∃ nL, getNode c res.1 = some nL ∧ Desc c x res.1 ∧ Good res.1 nL ∧ res.2.den > 0 ∧
    res.2.val = W c nL - W c n + (difficulty n.bits).val ∧
    ∀ y m, getNode c y = some m → Desc c x y → Good y m → W c m ≤ W c nL

/-- the `foldl` of `farK`: the result is the result of one of the candidates, and its sum is maximal -/
theorem foldl_best (g : Node → Nat × Q) (step : Nat × Q → Node → Nat × Q)
    (hstep : ∀ acc ch, step acc ch = if (g ch).2.gt acc.2 = true then g ch else acc) :
    ∀ (rest : List Node) (acc : Nat × Q), acc.2.den > 0 → (∀ ch ∈ rest, (g ch).2.den > 0) →
      rest.foldl step acc ∈ acc :: rest.map g ∧ (rest.foldl step acc).2.den > 0 ∧
        acc.2.val ≤ (rest.foldl step acc).2.val ∧ ∀ ch ∈ rest, (g ch).2.val ≤ (rest.foldl step acc).2.val := by
  intro rest
  induction rest with
  | nil => intro acc ha _; exact ⟨List.mem_cons_self, ha, le_refl _, fun _ h => by cases h⟩
  | cons a rest ih =>
    intro acc ha hr
    simp only [List.foldl_cons]
    have hga := hr a List.mem_cons_self
    have hrr : ∀ ch ∈ rest, (g ch).2.den > 0 := fun ch h => hr ch (List.mem_cons_of_mem _ h)
    rw [hstep]
    by_cases hgt : (g a).2.gt acc.2 = true
    · rw [if_pos hgt]
      obtain ⟨h1, h2, h3, h4⟩ := ih (g a) hga hrr
      have hlt := (Q.gt_iff _ _ hga ha).mp hgt
      exact ⟨List.mem_cons_of_mem _ h1, h2, le_trans (le_of_lt hlt) h3, List.forall_mem_cons.mpr ⟨h3, h4⟩⟩
    · rw [if_neg hgt]
      obtain ⟨h1, h2, h3, h4⟩ := ih acc ha hrr
      have hle : (g a).2.val ≤ acc.2.val := not_lt.mp (mt (Q.gt_iff _ _ hga ha).mpr hgt)
      exact ⟨List.mem_cons.mpr ((List.mem_cons.mp h1).imp_right (List.mem_cons_of_mem _)), h2, h3,
        List.forall_mem_cons.mpr ⟨le_trans hle h3, h4⟩⟩

section
variable {U : List Block} {c : Chain} (w : TreeWF U c) (hU : BlockTree c.root U) {Good : Nat → Node → Prop} {keep : Node → Bool}
  (hkeep : ∀ z nch, getNode c z = some nch → z ≠ c.root → (keep nch = true ↔ Good z nch))
  (hanc : ∀ z nch y m, getNode c z = some nch → getNode c y = some m → Desc c z y → Good y m → Good z nch)
include w hU hkeep hanc

omit w hU in
/-- a node none of whose children is kept: among its `Good` descendants there is only the node itself -/
theorem far_leaf {x : Nat} {n : Node} (hn : getNode c x = some n) (hg : Good x n) (hb : n.bits % 0x1000000 ≠ 0)
    (hno : ∀ z nch, getNode c z = some nch → nch.parent = x → z ≠ c.root → keep nch = true → False) :
    FarOK c Good x n (n.id, difficulty n.bits) := by
  have hid := getNode_id hn
  refine ⟨n, by rw [hid]; exact hn, by rw [hid]; exact Desc.refl, by rw [hid]; exact hg, difficulty_den_pos _ hb, by simp, ?_⟩
  intro y m hm hd hgm
  by_cases hxy : x = y
  · subst hxy; rw [hn] at hm; cases hm; exact le_refl _
  · obtain ⟨z, nch, hz, hp, hzr, hdz⟩ := Desc.child_split hd hxy
    exact (hno z nch hz hp hzr ((hkeep z nch hz hzr).2 (hanc z nch y m hz hm hdz hgm))).elim

/-- a node with kept children: the best of those children's results, plus the node's own difficulty -/
theorem far_node {x : Nat} {n : Node} (hn : getNode c x = some n) (hb : n.bits % 0x1000000 ≠ 0) (g : Node → Nat × Q)
    (l : List Node) (hl : ∀ ch ∈ l, ∃ z, getNode c z = some ch ∧ z ≠ c.root ∧ ch.parent = x ∧ FarOK c Good z ch (g ch))
    (hall : ∀ z nch, getNode c z = some nch → nch.parent = x → z ≠ c.root → keep nch = true → nch ∈ l)
    (best : Nat × Q) (hbest : best ∈ l.map g) (hmax : ∀ ch ∈ l, (g ch).2.val ≤ best.2.val) :
    FarOK c Good x n (best.1, best.2.add (difficulty n.bits)) := by
  obtain ⟨cb, hcb, rfl⟩ := List.mem_map.mp hbest
  obtain ⟨zb, hzb, hzbr, hpb, nL, hL, hdL, hgL, hden, hval, hmaxb⟩ := hl cb hcb
  have hWb := (W_step w hU hzb hzbr (hpb.symm ▸ hn)).1
  have hdx : Desc c x (g cb).1 := (hpb ▸ Desc.parent hzb hzbr).trans hdL
  have hdn := difficulty_den_pos _ hb
  refine ⟨nL, hL, hdx, hgL, Q.add_den_pos _ _ hden hdn, ?_, ?_⟩
  · show ((g cb).2.add (difficulty n.bits)).val = _
    rw [Q.val_add _ _ hden hdn, hval, hWb, sub_add_eq_sub_sub, sub_add_cancel]
  · intro y m hm hd hgm
    by_cases hxy : x = y
    · subst hxy
      exact W_mono w hU hdx nL m hL hm
    · obtain ⟨z, nch, hz, hp, hzr, hdz⟩ := Desc.child_split hd hxy
      have hin := hall z nch hz hp hzr ((hkeep z nch hz hzr).2 (hanc z nch y m hz hm hdz hgm))
      obtain ⟨z', hz', hzr', hp', nL', hL', _, _, _, hval', hmax'⟩ := hl nch hin
      have e : z' = z := by rw [← getNode_id hz', getNode_id hz]
      subst e
      have hW := (W_step w hU hz hzr (hp.symm ▸ hn)).1
      have h1 := hmax' y m hm hdz hgm
      have h2 := hmax nch hin
      -- both sums are `W leaf − W child + difficulty child`, and the two children have the same parent
      rw [hval, hval', hWb, hW, sub_add_eq_sub_sub, sub_add_cancel, sub_add_eq_sub_sub, sub_add_cancel,
        sub_le_sub_iff_right] at h2
      exact le_trans h1 h2

theorem farK_sub (H : Nat) (hH : ∀ y m, getNode c y = some m → m.height < H) :
    ∀ (f x : Nat) (n : Node), getNode c x = some n → Good x n → n.bits % 0x1000000 ≠ 0 → n.height + f ≥ H →
      FarOK c Good x n (farK c keep f n) := by
  intro f
  induction f with
  | zero =>
    intro x n hn _ _ hf
    have := hH x n hn
    omega
  | succ f ih =>
    intro x n hn hg hb hf
    have hchild : ∀ ch ∈ (n.childs.filterMap (getNode c)).filter keep,
        ∃ z, getNode c z = some ch ∧ z ≠ c.root ∧ ch.parent = x ∧ FarOK c Good z ch (farK c keep f ch) := by
      intro ch hch
      obtain ⟨hch1, hch2⟩ := List.mem_filter.mp hch
      obtain ⟨z, hz, hzc⟩ := List.mem_filterMap.mp hch1
      obtain ⟨hzr, n', hn', hpar⟩ := w.childs x n hn z hz
      rw [hzc] at hn'; cases hn'
      obtain ⟨p, hp, hph, _⟩ := w.par z ch hzc hzr
      rw [hpar, hn] at hp; cases hp
      exact ⟨z, hzc, hzr, hpar, ih z ch hzc ((hkeep z ch hzc hzr).1 hch2) (node_bits_ok w hU hzc hzr) (by omega)⟩
    have hall : ∀ z nch, getNode c z = some nch → nch.parent = x → z ≠ c.root → keep nch = true →
        nch ∈ (n.childs.filterMap (getNode c)).filter keep := by
      intro z nch hz hp hzr hk
      obtain ⟨p, hp', _, hzin⟩ := w.par z nch hz hzr
      rw [hp, hn] at hp'; cases hp'
      exact List.mem_filter.mpr ⟨List.mem_filterMap.mpr ⟨z, hzin, hz⟩, hk⟩
    rw [farK]
    split
    · next hk =>
      rw [hk] at hall
      exact far_leaf hkeep hanc hn hg hb (fun z nch hz hp hzr hkp => by cases hall z nch hz hp hzr hkp)
    · next c0 rest hk =>
      rw [hk] at hall hchild
      have hden : ∀ ch ∈ c0 :: rest, (farK c keep f ch).2.den > 0 := by
        intro ch hch
        obtain ⟨_, _, _, _, _, _, _, _, h, _⟩ := hchild ch hch
        exact h
      obtain ⟨h1, _, h3, h4⟩ := foldl_best (farK c keep f)
        (fun acc ch => let r := farK c keep f ch; if r.2.gt acc.2 then r else acc) (fun _ _ => rfl) rest
        (farK c keep f c0) (hden c0 List.mem_cons_self) (fun ch h => hden ch (List.mem_cons_of_mem _ h))
      exact far_node w hU hkeep hanc hn hb (farK c keep f) (c0 :: rest) hchild hall _ h1
        (List.forall_mem_cons.mpr ⟨h3, h4⟩)

/-- from the root, with fuel #nodes+1: a `Good` node of maximum work among all `Good` nodes -/
theorem farK_spec {r : Node} (hr : getNode c c.root = some r) (hg : Good c.root r) :
    ∃ nL, getNode c (farK c keep (c.nodes.length + 1) r).1 = some nL ∧ Good (farK c keep (c.nodes.length + 1) r).1 nL ∧
      ∀ x n, getNode c x = some n → Good x n → W c n ≤ W c nL := by
  obtain ⟨r', hr', _, hrb⟩ := w.root
  rw [hr] at hr'; cases hr'
  obtain ⟨nL, hL, _, hgL, _, _, hmax⟩ := farK_sub w hU hkeep hanc c.nodes.length (fun y m hm => height_lt_length w hm)
    (c.nodes.length + 1) c.root r hr hg hrb (by omega)
  exact ⟨nL, hL, hgL, fun x n hn hd => hmax x n hn (Desc_root_height w _ x n hn rfl) hd⟩

end

/-- **FindFarthestNode from the root returns a maximum-work node**: the id it returns is a node of the tree and no node
    of the tree has more cumulative work (ties: the first child's subtree wins, which is what the known finding
    `tie-not-first-seen-after-failed-reorg` is about). -/
theorem farthest_spec {U : List Block} {c : Chain} (w : TreeWF U c) (hU : BlockTree c.root U) {r : Node}
    (hr : getNode c c.root = some r) :
    ∃ nL, getNode c (farthest c (c.nodes.length + 1) r).1 = some nL ∧
      ∀ x n, getNode c x = some n → W c n ≤ W c nL := by
  rw [farthest_eq_farK]
  obtain ⟨nL, hL, _, hmax⟩ := farK_spec (Good := fun _ _ => True) w hU (fun _ _ _ _ => ⟨fun _ => trivial, fun _ => rfl⟩)
    (fun _ _ _ _ _ _ _ _ => trivial) hr trivial
  exact ⟨nL, hL, fun x n hn => hmax x n hn trivial⟩

theorem farthestS_eq_farK (c : Chain) : ∀ f, farthestS c f = farK c (fun m => m.txCount != 0) f
  | 0 => rfl
  | f + 1 => by funext n; rw [farthestS, farK, farthestS_eq_farK c f]; rfl

/-- **findFarthestWithData from the root returns a node WITH DATA of maximum work among the nodes with data**: the
    fall-back target of ParseTillBlock is always a block that can be connected (it and, by `TreeWF.anc`, every ancestor has
    its data), and no node that has its data has more cumulative work (ties: the first child with data wins). -/
theorem farthestS_spec {U : List Block} {c : Chain} (w : TreeWF U c) (hU : BlockTree c.root U) {r : Node}
    (hr : getNode c c.root = some r) :
    ∃ nL, getNode c (farthestS c (c.nodes.length + 1) r).1 = some nL ∧
      HasData c (farthestS c (c.nodes.length + 1) r).1 nL ∧
      ∀ x n, getNode c x = some n → HasData c x n → W c n ≤ W c nL := by
  rw [farthestS_eq_farK]
  refine farK_spec (Good := HasData c) w hU ?_ ?_ hr (Or.inl rfl)
  · intro z nch _ hzr
    exact ⟨fun h => Or.inr (by simpa using h), fun h => by simpa using h.resolve_left hzr⟩
  · intro z nch y m hz hm hd hgm
    exact Desc.has_data w hd m hm hgm nch hz

end GocoinV.ChainTree
