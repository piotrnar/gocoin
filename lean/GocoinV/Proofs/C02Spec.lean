/-
  Proofs.C02Spec — bridges between the primitives of Model.SigHash (mirroring gocoin) and of
  Spec.SigHash (written from the BIPs), and the BIP143 / BIP341 preimage equalities. Also here: `execDataOf` (the
  BIP341 context as gocoin's ExecData, used in the statements of Props.C02) and what `schnorrPlan` does with a
  refused / an undefined hash type (`schnorrPlan_refused`, `schnorrPlan_undefined`).
-/
import GocoinV.Model.SigHash
import GocoinV.Spec.SigHash
import GocoinV.Proofs.C02Cache
namespace GocoinV.SigHash
open GocoinV.Wire (Tx TxIn TxOut)
open GocoinV.Spec.SigHash (compactSize varBytes outpoint txOut u32 u64 anyoneCanPay baseType)

theorem writeVlen_eq (n : Nat) : writeVlen n = compactSize n := by
  unfold writeVlen compactSize
  by_cases h1 : n < 0xfd
  · have : n ≤ 252 := by omega
    simp [h1, this]
  · have h1' : ¬ n ≤ 252 := by omega
    by_cases h2 : n < 0x10000
    · have : n ≤ 0xffff := by omega
      simp [h1, h1', h2, this]
    · have h2' : ¬ n ≤ 0xffff := by omega
      by_cases h3 : n < 0x100000000
      · have : n ≤ 0xffffffff := by omega
        simp [h1, h1', h2, h2', h3, this]
      · have h3' : ¬ n ≤ 0xffffffff := by omega
        simp [h1, h1', h2, h2', h3, h3']

theorem serOutpoint_eq (i : TxIn) : serOutpoint i = outpoint i := rfl

theorem serOut_eq (o : TxOut) : serOut o = txOut o := by
  simp [serOut, txOut, varBytes, writeVlen_eq, le64, u64]

theorem prevoutsBytes_eq (tx : Tx) : prevoutsBytes tx = (tx.ins.map outpoint).flatten := by
  simp [prevoutsBytes, List.flatMap_def]
  rfl

theorem sequencesBytes_eq (tx : Tx) : sequencesBytes tx = (tx.ins.map fun i => u32 i.sequence).flatten := by
  simp [sequencesBytes, List.flatMap_def]
  rfl

theorem outputsBytes_eq (tx : Tx) : outputsBytes tx = (tx.outs.map txOut).flatten := by
  simp only [outputsBytes, List.flatMap_def]
  congr 1
  exact List.map_congr_left fun o _ => serOut_eq o

theorem and_1f (ht : Nat) : ht &&& 0x1f = baseType ht := by
  have := Nat.and_two_pow_sub_one_eq_mod ht 5
  simpa [baseType] using this

theorem and_80_val (ht : Nat) : ht &&& 2 ^ 7 = if anyoneCanPay ht then 2 ^ 7 else 0 := by
  apply Nat.eq_of_testBit_eq
  intro i
  rw [Nat.testBit_and, Nat.testBit_two_pow, anyoneCanPay]
  by_cases hi : 7 = i
  · subst hi
    cases ht.testBit 7 <;> simp only [Bool.false_eq_true, ↓reduceIte, Nat.zero_testBit, Nat.testBit_two_pow, decide_true, Bool.and_self, Bool.false_and]
  · cases ht.testBit 7 <;> simp only [hi, Bool.false_eq_true, ↓reduceIte, Nat.zero_testBit, Nat.testBit_two_pow, decide_false, Bool.and_false]
theorem and_80 (ht : Nat) : (ht &&& 0x80 ≠ 0) ↔ anyoneCanPay ht = true := by
  rw [show (0x80 : Nat) = 2 ^ 7 from rfl, and_80_val]; cases anyoneCanPay ht <;> simp

theorem and_80_eq (ht : Nat) : (ht &&& 0x80 = 0x80) ↔ anyoneCanPay ht = true := by
  rw [show (0x80 : Nat) = 2 ^ 7 from rfl, and_80_val]; cases anyoneCanPay ht <;> simp

theorem zero32_eq : zero32 = Spec.SigHash.zeros32 := rfl


theorem witness_eq_spec (H : Bytes → Bytes) (tx : Tx) (sc : Bytes) (amount idx ht : Nat) (pre : Bytes)
    (h : Spec.SigHash.bip143 (fun b => H (H b)) tx sc amount idx ht = some pre) :
    (witnessSigHash H tx {} sc amount idx ht).1 = .hashed pre (H (H pre)) := by
  unfold Spec.SigHash.bip143 at h
  unfold witnessSigHash
  cases hi : tx.ins[idx]? with
  | none => simp [hi] at h
  | some inp =>
    simp only [hi] at h
    injection h with h
    subst h
    simp only [and_1f, and_80, lazyGet, writeVlen_eq, prevoutsBytes_eq, sequencesBytes_eq, outputsBytes_eq,
      serOut_eq, serOutpoint_eq, zero32_eq]
    by_cases h3 : baseType ht = 3
    · cases ho : tx.outs[idx]? with
      | none =>
        have := Nat.not_lt.mpr (List.getElem?_eq_none_iff.mp ho)
        by_cases ha : anyoneCanPay ht = true <;> simp [ha, h3, this, le32, le64, u32, u64, varBytes]
      | some o =>
        obtain ⟨hl, he⟩ := List.getElem?_eq_some_iff.mp ho
        by_cases ha : anyoneCanPay ht = true <;> simp [ha, h3, hl, he, le32, le64, u32, u64, varBytes]
    · by_cases ha : anyoneCanPay ht = true <;> by_cases h2 : baseType ht = 2 <;>
        simp [ha, h3, h2, le32, le64, u32, u64, varBytes]

/-- the `ScriptExecutionData` that witness.go / script.go hand to `TaprootSigHash` for a spend with the
    given annex and (for tapscript) leaf hash and code separator position -/
def execDataOf (H : Bytes → Bytes) (annex : Option Bytes) (ext : Option Spec.SigHash.Ext) : ExecData :=
  { annexHash := annex.map (annexHashOf H)
    tapleafHash := match ext with | some e => e.tapleafHash | none => []
    codesepPos := match ext with | some e => e.codesepPos | none => 0xffffffff }

theorem validType_iff (ht : Nat) :
    Spec.SigHash.validTaprootHashType ht = true ↔ (ht ≤ 0x03 ∨ (0x81 ≤ ht ∧ ht ≤ 0x83)) := by
  simp only [Spec.SigHash.validTaprootHashType, decide_eq_true_eq]
  omega

theorem tag_eq : tapSighashTag = Spec.SigHash.tagTapSighash := by decide

theorem tapSingleFill_full (H : Bytes → Bytes) (tx : Tx) (spent : List TxOut) (hs : spent.length = tx.ins.length) :
    (tapSingleFill H tx spent).2 =
      { prevouts := H ((tx.ins.map outpoint).flatten)
        amounts := H ((spent.map fun o => u64 o.value).flatten)
        scripts := H ((spent.map fun o => varBytes o.pkScript).flatten)
        sequences := H ((tx.ins.map fun i => u32 i.sequence).flatten) } := by
  unfold tapSingleFill
  have h1 : ¬ spent.length < tx.ins.length := by omega
  have h2 : spent.take tx.ins.length = spent := List.take_of_length_le (by omega)
  simp only [h1, ↓reduceIte, h2, prevoutsBytes_eq, sequencesBytes_eq, List.flatMap_def, le64, u64, varBytes,
    writeVlen_eq]

/-- BIP341/342 on a fresh cache: where the specification defines a message the model hashes exactly it;
    where it defines none the model returns "no digest" (`nil`; 32 zero bytes before the fix). -/
theorem taproot_spec (fixed : Bool) (H : Bytes → Bytes) (tx : Tx) (spent : List TxOut) (idx ht : Nat)
    (annex : Option Bytes) (ext : Option Spec.SigHash.Ext)
    (hs : spent.length = tx.ins.length) (hi : idx < tx.ins.length) :
    (taprootSigHash fixed H tx spent {} (execDataOf H annex ext) idx ht ext.isSome).1 =
      match Spec.SigHash.bip341 H tx spent idx ht annex ext with
      | some pre => .hashed pre (H pre)
      | none => if fixed then .undefined else .const zero32 := by
  have hle : tx.ins.length ≤ spent.length := by omega
  obtain ⟨inp, hinp⟩ : ∃ inp, tx.ins[idx]? = some inp := ⟨tx.ins[idx], by simp [hi]⟩
  obtain ⟨sp, hsp⟩ : ∃ sp, spent[idx]? = some sp := ⟨spent[idx]'(by omega), by simp [hs, hi]⟩
  unfold taprootSigHash Spec.SigHash.bip341 Spec.SigHash.bip341Msg
  by_cases hv : Spec.SigHash.validTaprootHashType ht = true
  · have hv' := (validType_iff ht).mp hv
    simp only [hv', not_true_eq_false, ↓reduceIte, hv, hs, tapSingleGet_eq H tx spent {} hle (Cache.OK_empty H tx spent),
      tapSingleFill_full H tx spent hs, hinp, hsp]
    have h7 : ht = 0 ∨ ht = 1 ∨ ht = 2 ∨ ht = 3 ∨ ht = 0x81 ∨ ht = 0x82 ∨ ht = 0x83 := by omega
    rcases ho : tx.outs[idx]? with _ | o
    · have hge : tx.outs.length ≤ idx := List.getElem?_eq_none_iff.mp ho
      have hnlt := Nat.not_lt.mpr hge
      rcases h7 with rfl | rfl | rfl | rfl | rfl | rfl | rfl <;>
        simp [hge, hnlt, taprootTail, execDataOf, lazyGet, tagPrefix, tag_eq, Spec.SigHash.taggedPreimage,
          hinp, hsp, outputsBytes_eq, serOutpoint_eq, writeVlen_eq, le32, le64, u32, u64, varBytes]
      -- what is left differs only in how the annex hash and the tapscript extension are written
      all_goals cases annex <;> cases ext <;> simp [annexHashOf, writeVlen_eq]
    · obtain ⟨hl, he⟩ := List.getElem?_eq_some_iff.mp ho
      have hlt : ¬ tx.outs.length ≤ idx := by omega
      rcases h7 with rfl | rfl | rfl | rfl | rfl | rfl | rfl <;>
        simp [hlt, taprootTail, execDataOf, lazyGet, tagPrefix, tag_eq, Spec.SigHash.taggedPreimage, hl, he,
          hinp, hsp, outputsBytes_eq, serOut_eq, serOutpoint_eq, writeVlen_eq, le32, le64, u32, u64, varBytes]
      all_goals cases annex <;> cases ext <;> simp [annexHashOf, writeVlen_eq]
  · have hv' := mt (validType_iff ht).mpr hv
    simp [hv, hv']
theorem taproot_eq_bip341 (H : Bytes → Bytes) (tx : Tx) (spent : List TxOut) (c : Cache)
    (hs : spent.length = tx.ins.length) (hc : Cache.OK H tx spent c) (idx ht : Nat) (hi : idx < tx.ins.length)
    (annex : Option Bytes) (ext : Option Spec.SigHash.Ext) :
    (taprootSigHash true H tx spent c (execDataOf H annex ext) idx ht ext.isSome).1 =
      match Spec.SigHash.bip341 H tx spent idx ht annex ext with
      | some pre => .hashed pre (H pre)
      | none => .undefined := by
  rw [(taprootSigHash_cache true H tx spent c (by omega) hc _ idx ht _).1, taproot_spec true H tx spent idx ht annex ext hs hi]
  rfl

theorem schnorrPlan_refused {fixed : Bool} {H : Bytes → Bytes} {tx : Tx} {spent : List TxOut} {c : Cache} {sig pubkey : Bytes}
    {tapscript : Bool} {ed : ExecData} {idx : Nat}
    (h : (sig.length ≠ 64 ∧ sig.length ≠ 65) ∨ (sig.length = 65 ∧ sig.getD 64 0 = 0)) :
    schnorrPlan fixed H tx spent c sig pubkey tapscript ed idx = (.fail, c) := by
  unfold schnorrPlan
  dsimp only
  rcases h with h | ⟨hl, h0⟩
  · rw [if_pos h]
  · rw [if_neg (fun h => h.2 hl), if_pos ⟨hl, by rw [if_pos hl, h0]; rfl⟩]

theorem schnorrPlan_undefined {fixed : Bool} {H : Bytes → Bytes} {tx : Tx} {spent : List TxOut} {c : Cache} {sig pubkey : Bytes}
    {tapscript : Bool} {ed : ExecData} {idx : Nat}
    (hu : (taprootSigHash fixed H tx spent c ed idx (if sig.length = 65 then (sig.getD 64 0).toNat else 0) tapscript).1 = .undefined) :
    (schnorrPlan fixed H tx spent c sig pubkey tapscript ed idx).1 = .fail := by
  unfold schnorrPlan
  dsimp only
  generalize (if sig.length = 65 then (sig.getD 64 0).toNat else 0) = ht at hu ⊢
  by_cases h1 : sig.length ≠ 64 ∧ sig.length ≠ 65
  · rw [if_pos h1]
  · rw [if_neg h1]
    by_cases h2 : sig.length = 65 ∧ ht = 0
    · rw [if_pos h2]
    · rw [if_neg h2]
      generalize taprootSigHash fixed H tx spent c ed idx ht tapscript = r at hu ⊢
      obtain ⟨r1, r2⟩ := r
      simp only at hu
      subst hu
      rfl
end GocoinV.SigHash
