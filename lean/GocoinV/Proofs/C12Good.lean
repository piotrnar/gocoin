/-
  Proofs.C12Good — the full pool invariant (spendable inputs with MemInputs flags, nothing pooled confirmed, exact
  fee/volume, exact weight total): definitions and the primitives through which the pool changes
  (helper lemmas for Props/C12 `pool_inv`).  Core Lean only.
-/
import GocoinV.Proofs.C12Env
import GocoinV.Spec.MempoolTemplate
namespace GocoinV.Mempool

abbrev UT := AList (TxId × Nat) Coin
abbrev UndoStack := List (List Tx × List ((TxId × Nat) × Coin))

/-- txids in play: the ids of the transactions of the history and the ids their inputs name -/
def Play (W : Tx → Prop) (id : TxId) : Prop :=
  (∃ t, W t ∧ t.id = id) ∨ (∃ t, W t ∧ ∃ i ∈ t.ins, i.prev = id)

/-- output indexes in play: the `vout` an input of a transaction of the history names, or an index into the outputs of
    a transaction of the history. (The code's UIdx reads only the low 32 bits of an index — `realKeys.uidx` has
    `vout % 2^32` — so no injectivity statement over ALL naturals can hold for it: the hypothesis below is about the
    indexes that occur.) -/
def VPlay (W : Tx → Prop) (v : Nat) : Prop :=
  (∃ t, W t ∧ ∃ i ∈ t.ins, i.vout = v) ∨ (∃ t, W t ∧ v < t.outs.length)

/-- hypotheses on the universe `W` of a history, the initial confirmed set `u0` and the value oracle `ν`:
    `Univ` plus: BIDX does not collide on the txids in play and UIdx does not collide on the (txid, output index) pairs
    in play, no transaction of the history has an output in the initial confirmed set, and `ν` gives the value of every
    output of a transaction of the history and of every initial coin. Satisfiable for the code's own keys `realKeys`
    (`realKeys_collision_free` in Proofs/C12Real.lean; `uidx_play` is restricted to `VPlay` because over all naturals
    `v w` no universe satisfies it for `realKeys`: `uidx a 0 = uidx a 2^32`, `realKeys_not_injective_on_all_indexes`). -/
structure Univ2 (K : Keys) (W : Tx → Prop) (rank : TxId → Nat) (u0 : UT) (ν : OutPoint → Nat) : Prop where
  base : Univ K W rank
  bidx_play : ∀ a b, Play W a → Play W b → K.bidx a = K.bidx b → a = b
  uidx_play : ∀ a b v w, Play W a → Play W b → VPlay W v → VPlay W w → K.uidx a v = K.uidx b w → a = b ∧ v = w
  genesis : ∀ t, W t → ∀ v, u0.get? (t.id, v) = none
  val_tx : ∀ t, W t → ∀ v, ν (t.id, v) = t.outs.getD v 0
  val_u0 : ∀ o c, u0.get? o = some c → ν o = c.value

theorem Play.self {W : Tx → Prop} {t : Tx} (h : W t) : Play W t.id := Or.inl ⟨t, h, rfl⟩
theorem Play.prev {W : Tx → Prop} {t : Tx} (h : W t) {i : TxIn} (hi : i ∈ t.ins) : Play W i.prev :=
  Or.inr ⟨t, h, i, hi, rfl⟩
theorem VPlay.vin {W : Tx → Prop} {t : Tx} (h : W t) {i : TxIn} (hi : i ∈ t.ins) : VPlay W i.vout :=
  Or.inl ⟨t, h, i, hi, rfl⟩
theorem VPlay.out {W : Tx → Prop} {t : Tx} (h : W t) {v : Nat} (hv : v < t.outs.length) : VPlay W v :=
  Or.inr ⟨t, h, hv⟩

/-- `id` is the id of an initial coin or of a transaction of a connected block -/
def Conf (u0 : UT) (st : UndoStack) (id : TxId) : Prop :=
  (∃ v c, u0.get? (id, v) = some c) ∨ ∃ e ∈ st, ∃ X ∈ e.1, X.id = id

/-- MemInputs[k] (nil = all false) -/
def flag (t : T2S) (k : Nat) : Bool := t.mem.getD k false

/-- Σ of the input values in uint64, as processTx accumulates it -/
def sumν (ν : OutPoint → Nat) (ins : List TxIn) (a : Nat) : Nat :=
  ins.foldl (fun x i => (x + ν (i.prev, i.vout)) % U64) a

/-- the part of the record invariant that does not depend on the state -/
structure RecL (ν : OutPoint → Nat) (t : T2S) : Prop where
  memLen : t.mem = [] ∨ t.mem.length = t.tx.ins.length
  memCnt : t.memCnt = (t.mem.filter id).length
  nodupIn : t.tx.inOps.Nodup
  vol : t.volume = sumν ν t.tx.ins 0
  fee : t.fee + sumU64 t.tx.outs = t.volume

def poolWeight (m : AList Nat T2S) : Nat := (m.map fun p => p.2.tx.weight).sum

/-- everything but "flagged parents are pooled".  `A` says which outpoints an UNFLAGGED input may name ("available on the
    chain side"), `Cf` which txids count as confirmed; they are parameters because inside BlockMined / BlockUndone the
    chain side is ahead of the pool and both move transaction by transaction (`AMined`, `AUnm`, `AWith`, `CfDone`) -/
structure PoolW (K : Keys) (W : Tx → Prop) (ν : OutPoint → Nat) (A : OutPoint → Prop) (Cf : TxId → Prop)
    (s : State) : Prop where
  base : InvR K W s
  loc : ∀ b t, s.pool.get? b = some t → RecL ν t
  unf : ∀ b t, s.pool.get? b = some t → ∀ k i, t.tx.ins[k]? = some i → flag t k = false → A (i.prev, i.vout)
  ncf : ∀ b t, s.pool.get? b = some t → ¬ Cf t.tx.id
  wt : s.weightTotal = poolWeight s.pool

/-- every flagged input names an existing output of a pooled transaction -/
def ParOK (K : Keys) (s : State) : Prop :=
  ∀ b t, s.pool.get? b = some t → ∀ k i, t.tx.ins[k]? = some i → flag t k = true →
    ∃ p, s.pool.get? (K.bidx i.prev) = some p ∧ p.tx.id = i.prev ∧ i.vout < p.tx.outs.length

/-- the pool invariant against an availability predicate `A` and a confirmed-id predicate `Cf` (see `PoolW`); `PGood` is
    the instance "unspent in `s.utxo`" / `Conf` -/
structure PoolOK (K : Keys) (W : Tx → Prop) (ν : OutPoint → Nat) (A : OutPoint → Prop) (Cf : TxId → Prop)
    (s : State) : Prop where
  w : PoolW K W ν A Cf s
  par : ParOK K s

theorem PoolW.mono {K : Keys} {W : Tx → Prop} {ν : OutPoint → Nat} {A A' : OutPoint → Prop} {Cf Cf' : TxId → Prop}
    {s : State} (h : PoolW K W ν A Cf s)
    (hA : ∀ b t, s.pool.get? b = some t → ∀ k i, t.tx.ins[k]? = some i → flag t k = false → A (i.prev, i.vout) →
      A' (i.prev, i.vout))
    (hC : ∀ b t, s.pool.get? b = some t → Cf' t.tx.id → Cf t.tx.id) : PoolW K W ν A' Cf' s :=
  ⟨h.base, h.loc, fun b t hb k i hk hf => hA b t hb k i hk hf (h.unf b t hb k i hk hf),
   fun b t hb hc => h.ncf b t hb (hC b t hb hc), h.wt⟩

theorem PoolW.frame {K : Keys} {W : Tx → Prop} {ν : OutPoint → Nat} {A : OutPoint → Prop} {Cf : TxId → Prop}
    {s s' : State} (h : PoolW K W ν A Cf s) (f : Frame W s s') : PoolW K W ν A Cf s' :=
  ⟨InvR_of_frame h.base f, by rw [f.core.1]; exact h.loc, by rw [f.core.1]; exact h.unf,
   by rw [f.core.1]; exact h.ncf, by rw [f.core.1, f.core.2.2.2]; exact h.wt⟩

theorem ParOK.frame {K : Keys} {W : Tx → Prop} {s s' : State} (h : ParOK K s) (f : Frame W s s') : ParOK K s' := by
  unfold ParOK; rw [f.core.1]; exact h

theorem PoolOK.frame {K : Keys} {W : Tx → Prop} {ν : OutPoint → Nat} {A : OutPoint → Prop} {Cf : TxId → Prop}
    {s s' : State} (h : PoolOK K W ν A Cf s) (f : Frame W s s') : PoolOK K W ν A Cf s' :=
  ⟨h.w.frame f, h.par.frame f⟩

/-! ### weights -/

theorem AList.del_of_none {κ ν : Type} [DecidableEq κ] : ∀ (m : AList κ ν) (k : κ), m.get? k = none → m.del k = m := by
  intro m k h
  rw [AList.get?_eq, Assoc.lookup_eq_none_iff] at h
  exact List.filter_eq_self.mpr fun p hp => by
    simp only [Bool.not_eq_true', decide_eq_false_iff_not]
    exact fun e => h (e ▸ List.mem_map_of_mem hp)

theorem poolWeight_del : ∀ (m : AList Nat T2S) (k : Nat) (t : T2S), (m.map Prod.fst).Nodup → m.get? k = some t →
    poolWeight m = poolWeight (m.del k) + t.tx.weight := by
  intro m
  induction m with
  | nil => intro k t _ h; simp [AList.get?] at h
  | cons p r ih =>
    intro k t hn h
    obtain ⟨a, v⟩ := p
    simp only [List.map_cons, List.nodup_cons] at hn
    simp only [AList.get?] at h
    rw [AList.del_cons]
    by_cases e : a = k
    · simp only [e, if_true, Option.some.injEq] at h
      subst h
      have hk : AList.get? r k = none :=
        (AList.get?_eq r k).trans ((Assoc.lookup_eq_none_iff r k).mpr (e ▸ hn.1))
      simp only [e, if_true]
      rw [AList.del_of_none r k hk]
      simp [poolWeight, Nat.add_comm]
    · simp only [e, if_false] at h ⊢
      have := ih k t hn.2 h
      simp only [poolWeight, List.map_cons, List.sum_cons] at this ⊢
      omega

theorem poolWeight_set_fresh (m : AList Nat T2S) (k : Nat) (t : T2S) (h : m.get? k = none) :
    poolWeight (m.set k t) = poolWeight m + t.tx.weight := by
  unfold AList.set
  rw [AList.del_of_none m k h]
  simp [poolWeight, Nat.add_comm]

theorem poolWeight_set_same (m : AList Nat T2S) (k : Nat) (t t' : T2S) (hn : (m.map Prod.fst).Nodup)
    (h : m.get? k = some t) (hw : t'.tx.weight = t.tx.weight) : poolWeight (m.set k t') = poolWeight m := by
  rw [poolWeight_del m k t hn h]
  unfold AList.set
  simp [poolWeight, Nat.add_comm, hw]

/-! ### flags -/

theorem flag_nil (t : T2S) (h : t.mem = []) (k : Nat) : flag t k = false := by simp [flag, h]

theorem getD_true (l : List Bool) (k : Nat) : l.getD k false = true ↔ l[k]? = some true := by
  rw [List.getD_eq_getElem?_getD]
  cases l[k]? <;> simp

theorem count_zero_getD : ∀ (l : List Bool) (k : Nat), (l.filter id).length = 0 → l.getD k false = false := by
  intro l k h
  rw [List.length_eq_zero_iff, List.filter_eq_nil_iff] at h
  rw [List.getD_eq_getElem?_getD]
  cases hk : l[k]? with
  | none => rfl
  | some a => simpa using h a (List.mem_of_getElem? hk)

theorem mem_memParents (K : Keys) (t : T2S) (p : Nat) :
    p ∈ memParents K t ↔ ∃ k i, t.tx.ins[k]? = some i ∧ flag t k = true ∧ K.bidx i.prev = p := by
  unfold memParents flag
  rw [List.mem_filterMap]
  simp only [List.mem_iff_getElem?, List.getElem?_zip_eq_some, getD_true]
  constructor
  · rintro ⟨⟨i, m⟩, ⟨k, h1, h2⟩, h3⟩
    cases m with
    | false => cases h3
    | true => exact ⟨k, i, h1, h2, Option.some.inj h3⟩
  · rintro ⟨k, i, h1, h2, h3⟩
    exact ⟨(i, true), ⟨k, h1, h2⟩, congrArg some h3⟩

/-! ### the two primitives -/

theorem addT2S_weight (K : Keys) (s : State) (t : T2S) :
    (addT2S K s t).weightTotal = s.weightTotal + t.tx.weight := (addT2S_sortOnly K s t).wt

theorem delOne_weight (K : Keys) (s : State) (t : T2S) (reason : Nat) :
    (delOne K s t reason).weightTotal = s.weightTotal - t.tx.weight :=
  have h := delPre_sortOnly K s t
  delOne_cases (P := fun s' => s'.weightTotal = _) K s t reason
    ((rejectTx_core K (delPre K s t) t.tx reason none).2.2.2.trans h.wt) h.wt

theorem addT2S_ok {K : Keys} {W : Tx → Prop} {ν : OutPoint → Nat} {A : OutPoint → Prop} {Cf : TxId → Prop}
    (s : State) (t : T2S) (h : PoolOK K W ν A Cf s) (ht : W t.tx)
    (hfresh : s.pool.get? (K.bidx t.tx.id) = none)
    (hfree : ∀ u ∈ uidxs K t.tx, s.spent.get? u = none)
    (hl : RecL ν t)
    (hp : ∀ k i, t.tx.ins[k]? = some i → flag t k = true →
      ∃ p, s.pool.get? (K.bidx i.prev) = some p ∧ p.tx.id = i.prev ∧ i.vout < p.tx.outs.length)
    (hu : ∀ k i, t.tx.ins[k]? = some i → flag t k = false → A (i.prev, i.vout))
    (hc : ¬ Cf t.tx.id) : PoolOK K W ν A Cf (addT2S K s t) := by
  obtain ⟨hpool, _⟩ := addT2S_pool_spent K s t
  have look := fun b x (hx : (addT2S K s t).pool.get? b = some x) => AList.get?_set_some (hpool ▸ hx)
  have keep : ∀ b x, s.pool.get? b = some x → (addT2S K s t).pool.get? b = some x := by
    intro b x hx
    rw [hpool, AList.get?_set_other]
    · exact hx
    · intro e; rw [e, hfresh] at hx; cases hx
  refine ⟨⟨addT2S_InvR K W s t h.w.base ht hfresh hfree, ?_, ?_, ?_, ?_⟩, ?_⟩
  · intro b x hx
    rcases look b x hx with ⟨_, rfl⟩ | ⟨_, h2⟩
    · exact hl
    · exact h.w.loc b x h2
  · intro b x hx
    rcases look b x hx with ⟨_, rfl⟩ | ⟨_, h2⟩
    · exact hu
    · exact h.w.unf b x h2
  · intro b x hx
    rcases look b x hx with ⟨_, rfl⟩ | ⟨_, h2⟩
    · exact hc
    · exact h.w.ncf b x h2
  · rw [addT2S_weight, hpool, poolWeight_set_fresh _ _ _ hfresh, h.w.wt]
  · intro b x hx k i hk hf
    rcases look b x hx with ⟨_, rfl⟩ | ⟨_, h2⟩
    · obtain ⟨p, hp1, hp2⟩ := hp k i hk hf
      exact ⟨p, keep _ _ hp1, hp2⟩
    · obtain ⟨p, hp1, hp2⟩ := h.par b x h2 k i hk hf
      exact ⟨p, keep _ _ hp1, hp2⟩

/-- deleting one pooled record keeps everything but (possibly) the parents of flagged inputs -/
theorem delOne_w {K : Keys} {W : Tx → Prop} {ν : OutPoint → Nat} {A : OutPoint → Prop} {Cf : TxId → Prop}
    (s : State) (t : T2S) (reason : Nat) (h : PoolW K W ν A Cf s)
    (hin : s.pool.get? (K.bidx t.tx.id) = some t) : PoolW K W ν A Cf (delOne K s t reason) := by
  have back := (delOne_sub K s t reason).1
  refine ⟨delOne_InvR K W s t reason h.base hin, fun b x hx => h.loc b x (back b x hx),
    fun b x hx => h.unf b x (back b x hx), fun b x hx => h.ncf b x (back b x hx), ?_⟩
  rw [delOne_weight, (delOne_pool_spent K s t reason).1, h.wt, poolWeight_del _ _ t h.base.nodup hin]
  omega

/-- … and the parents too when no remaining record has a flagged input naming the deleted one -/
theorem delOne_ok {K : Keys} {W : Tx → Prop} {ν : OutPoint → Nat} {A : OutPoint → Prop} {Cf : TxId → Prop}
    (s : State) (t : T2S) (reason : Nat) (h : PoolOK K W ν A Cf s)
    (hin : s.pool.get? (K.bidx t.tx.id) = some t)
    (hno : ∀ b r, s.pool.get? b = some r → b ≠ K.bidx t.tx.id → ∀ k i, r.tx.ins[k]? = some i → flag r k = true →
      K.bidx i.prev ≠ K.bidx t.tx.id) : PoolOK K W ν A Cf (delOne K s t reason) := by
  have hp := (delOne_pool_spent K s t reason).1
  refine ⟨delOne_w s t reason h.w hin, ?_⟩
  intro b x hx k i hk hf
  rw [hp] at hx
  obtain ⟨e, hx⟩ := AList.get?_del_some hx
  obtain ⟨p, hp1, hp2⟩ := h.par b x hx k i hk hf
  refine ⟨p, ?_, hp2⟩
  rw [hp, AList.get?_del_other _ _ _ (hno b x hx e k i hk hf)]
  exact hp1

/-- HasNoChildren (or: every output index free in SpentOutputs) ⇒ no flagged input names the record -/
theorem noflag_of_childless {K : Keys} {W : Tx → Prop} {ν : OutPoint → Nat} {A : OutPoint → Prop} {Cf : TxId → Prop}
    (s : State) (t : T2S) (h : PoolOK K W ν A Cf s) (hin : s.pool.get? (K.bidx t.tx.id) = some t)
    (hc : ∀ v, v < t.tx.outs.length → s.spent.get? (K.uidx t.tx.id v) = none) :
    ∀ b r, s.pool.get? b = some r → b ≠ K.bidx t.tx.id → ∀ k i, r.tx.ins[k]? = some i → flag r k = true →
      K.bidx i.prev ≠ K.bidx t.tx.id := by
  intro b r hr _ k i hk hf e
  obtain ⟨p, hp1, hp2, hp3⟩ := h.par b r hr k i hk hf
  rw [e, hin] at hp1
  cases hp1
  have := h.w.base.str.complete b r hr _ (List.mem_map.mpr ⟨i, List.mem_of_getElem? hk, rfl⟩)
  rw [← hp2, hc i.vout hp3] at this
  cases this

theorem hasNoChildren_spec (K : Keys) (s : State) (t : T2S) (h : hasNoChildren K s t = true) :
    ∀ v, v < t.tx.outs.length → s.spent.get? (K.uidx t.tx.id v) = none := by
  intro v hv
  unfold hasNoChildren iota at h
  simpa using List.all_eq_true.mp h v (List.mem_range.mpr hv)

end GocoinV.Mempool
