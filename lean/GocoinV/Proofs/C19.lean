/-
  Proofs.C19 — helper lemmas for Props/C19 (qdb): frame lemmas (the disk-level functions do not
  touch the index / failure flag), the in-memory refinement for stores all of whose records are cached
  (`Cached`, Spec/QdbMap), and closed forms of Close and of the operations on a volatile store.
-/
import GocoinV.Spec.QdbMap
import GocoinV.Base.Assoc
import GocoinV.Proofs.C19Effects
namespace GocoinV.Proofs.C19
open GocoinV GocoinV.Qdb GocoinV.QdbSpec

variable {eg : Bool}

/-! ### the part of the state that the refinement looks at -/

/-- two states agree on everything except the directory, the effect list and disk bookkeeping -/
structure Frame (a b : DB) : Prop where
  index : a.index = b.index
  failed : a.failed = b.failed
  volatile : a.volatile = b.volatile
  opts : a.opts = b.opts
  noSync : a.noSync = b.noSync
  pending : a.pending = b.pending
  eager : a.eager = b.eager

theorem Frame.refl (a : DB) : Frame a a := ⟨rfl, rfl, rfl, rfl, rfl, rfl, rfl⟩

theorem Frame.trans {a b c : DB} (h1 : Frame a b) (h2 : Frame b c) : Frame a c :=
  ⟨h1.index.trans h2.index, h1.failed.trans h2.failed, h1.volatile.trans h2.volatile,
   h1.opts.trans h2.opts, h1.noSync.trans h2.noSync, h1.pending.trans h2.pending, h1.eager.trans h2.eager⟩

theorem frame_emit (db : DB) (t : String) (e : Effect) : Frame (emit db t e) db :=
  ⟨rfl, rfl, rfl, rfl, rfl, rfl, rfl⟩

theorem frame_checkDat (db : DB) : Frame (checkDat db) db := by
  unfold checkDat
  split <;> exact ⟨rfl, rfl, rfl, rfl, rfl, rfl, rfl⟩

theorem frame_checkLog (db : DB) : Frame (checkLog db) db := by
  unfold checkLog
  split <;> exact ⟨rfl, rfl, rfl, rfl, rfl, rfl, rfl⟩

theorem framePre : Pre Frame := ⟨Frame.refl, Frame.trans⟩

theorem frame_cleanupold (db : DB) (used : List Nat) : Frame (cleanupold db used) db :=
  framePre.cleanupold db used (fun _ _ _ => frame_emit _ _ _)

def SinkFramed (sink : DB → Bytes → DB) : Prop := ∀ d b, Frame (sink d b) d

theorem frame_bufWrite (sink : DB → Bytes → DB) (hs : SinkFramed sink) (db : DB) (w : BufW) (p : Bytes) :
    Frame (bufWrite sink db w p).1 db := framePre.bufWrite sink hs db w p

theorem frame_bufFlush (sink : DB → Bytes → DB) (hs : SinkFramed sink) (db : DB) (w : BufW) :
    Frame (bufFlush sink db w) db := framePre.bufFlush sink hs db w

theorem frame_writedatfile (db : DB) : Frame (writedatfile db) db :=
  framePre.writedatfile frame_emit (fun _ _ _ => ⟨rfl, rfl, rfl, rfl, rfl, rfl, rfl⟩)
    (fun _ => ⟨rfl, rfl, rfl, rfl, rfl, rfl, rfl⟩) db

/-! ### cached stores: every record has its data in memory and no NO_CACHE flag -/


theorem loadrec_cached (fs : FS) (r : Rec) (h : RecCached eg r) : loadrec fs r = some r := by
  unfold loadrec
  obtain ⟨h1, _⟩ := h
  cases hd : r.data with
  | none => simp [hd] at h1
  | some v => rfl

theorem freerec_cached (e : Bool) (r : Rec) (h : hasFlag r.flags (ncOf e) = false) : freerec e r = r := by
  unfold freerec
  simp [h]

theorem defragSink_framed (seq : Nat) : SinkFramed (defragSink seq) := fun _ _ => frame_emit _ _ _

theorem defragRec_cached (sink : DB → Bytes → DB) (hs : SinkFramed sink) (d : DB) (w : BufW)
    (acc : List (Key × Rec)) (kr : Key × Rec) (hf : d.failed = none) (he : d.eager = eg) (hc : RecCached eg kr.2) :
    ∃ d' w' r', defragRec sink (d, w, acc) kr = (d', w', acc ++ [(kr.1, r')]) ∧ Frame d' d ∧
      absRec r' = absRec kr.2 ∧ RecCached eg r' := by
  unfold defragRec
  simp only [hf, loadrec_cached d.fs kr.2 hc]
  refine ⟨_, _, _, rfl, { frame_bufWrite sink hs d w (kr.2.data.getD []) with }, ?_, ?_⟩ <;>
    rw [(frame_bufWrite sink hs d w (kr.2.data.getD [])).eager, he, freerec_cached _ _ (by exact hc.2)]
  · rfl
  · exact hc

theorem defrag_fold_cached (sink : DB → Bytes → DB) (hs : SinkFramed sink) (l : List (Key × Rec))
    (hl : AllCached eg l) (d : DB) (w : BufW) (acc : List (Key × Rec)) (hf : d.failed = none) (he : d.eager = eg) :
    ∃ d' w' l', l.foldl (defragRec sink) (d, w, acc) = (d', w', acc ++ l') ∧ Frame d' d ∧
      l'.map absE = l.map absE ∧ AllCached eg l' := by
  induction l generalizing d w acc with
  | nil => exact ⟨d, w, [], by simp, Frame.refl _, rfl, nofun⟩
  | cons kr t ih =>
    obtain ⟨d1, w1, r1, h1, hfr1, habs1, hc1⟩ :=
      defragRec_cached sink hs d w acc kr hf he (hl kr (List.mem_cons_self))
    obtain ⟨d2, w2, l2, h2, hfr2, habs2, hc2⟩ :=
      ih (fun x hx => hl x (List.mem_cons_of_mem _ hx)) d1 w1 (acc ++ [(kr.1, r1)]) (hfr1.failed.trans hf) (hfr1.eager.trans he)
    refine ⟨d2, w2, (kr.1, r1) :: l2, ?_, hfr2.trans hfr1, ?_, List.forall_mem_cons.mpr ⟨hc1, hc2⟩⟩
    · simp only [List.foldl_cons, h1, h2, List.append_assoc, List.singleton_append]
    · simp only [List.map_cons, habs2]
      congr 1
      simp only [absE, habs1]

theorem Cached.of_frame {a b : DB} (h : Frame a b) (hc : Cached b) : Cached a :=
  ⟨h.failed.trans hc.1, by rw [h.eager, AllCached, h.index]; exact hc.2⟩

/-- what the refinement needs to know about a disk-level operation on a cached store -/
structure Keeps (a b : DB) : Prop where
  cached : Cached a
  abs : absv a = absv b
  volatile : a.volatile = b.volatile
  opts : a.opts = b.opts
  eager : a.eager = b.eager

theorem Keeps.of_frame {a b : DB} (h : Frame a b) (hc : Cached b) : Keeps a b :=
  ⟨Cached.of_frame h hc, by simp only [absv, h.index], h.volatile, h.opts, h.eager⟩

theorem Keeps.trans {a b c : DB} (h1 : Keeps a b) (h2 : Keeps b c) : Keeps a c :=
  ⟨h1.cached, h1.abs.trans h2.abs, h1.volatile.trans h2.volatile, h1.opts.trans h2.opts, h1.eager.trans h2.eager⟩

theorem defragStart_frame (db : DB) : Frame (defragStart db) db :=
  (frame_checkDat _).trans ⟨rfl, rfl, rfl, rfl, rfl, rfl, rfl⟩

theorem defragFinish_spec (seq : Nat) (d : DB) (w : BufW) (recs : List (Key × Rec)) :
    (defragFinish seq d w recs).index = recs ∧ (defragFinish seq d w recs).failed = d.failed ∧
    (defragFinish seq d w recs).volatile = d.volatile ∧ (defragFinish seq d w recs).opts = d.opts ∧
    (defragFinish seq d w recs).noSync = d.noSync ∧ (defragFinish seq d w recs).pending = [] ∧
    (defragFinish seq d w recs).eager = d.eager := by
  have h : Frame (cleanupold (writedatfile (bufFlush (defragSink seq) { d with index := recs } w))
      (if recs.isEmpty then [] else [seq])) { d with index := recs } :=
    (frame_cleanupold _ _).trans ((frame_writedatfile _).trans (frame_bufFlush _ (defragSink_framed seq) _ w))
  unfold defragFinish
  exact ⟨h.index, h.failed, h.volatile, h.opts, h.noSync, rfl, h.eager⟩

theorem defrag_cached (db : DB) (h : Cached db) : Keeps (defrag db) db := by
  have hfr0 := defragStart_frame db
  obtain ⟨d', w', l', hfold, hfr, habs, hc⟩ :=
    defrag_fold_cached (defragSink (defragStart db).dataSeq) (defragSink_framed _) db.index h.2
      (defragStart db) {} [] (hfr0.failed.trans h.1) hfr0.eager
  have hf' : d'.failed = none := (hfr.trans hfr0).failed.trans h.1
  have hd : defrag db = defragFinish (defragStart db).dataSeq d' w' l' := by
    unfold defrag
    simp only [hfr0.index, hfold, List.nil_append, hf']
  obtain ⟨hi, hfa, hv, ho, _, _, hfe⟩ := defragFinish_spec (defragStart db).dataSeq d' w' l'
  rw [hd]
  have hee : (defragFinish (defragStart db).dataSeq d' w' l').eager = db.eager := hfe.trans (hfr.trans hfr0).eager
  refine ⟨⟨hfa.trans hf', ?_⟩, ?_, hv.trans (hfr.trans hfr0).volatile, ho.trans (hfr.trans hfr0).opts, hee⟩
  · show AllCached _ _
    rw [hi, hee]; exact hc
  · show List.map absE _ = _
    rw [hi, habs]; rfl

/-! ### association-list lemmas -/

theorem ilookup_eq {α : Type} (k : Key) (l : List (Key × α)) : ilookup k l = Assoc.lookup l k :=
  Assoc.lookup_unique (fun l k => ilookup k l) (fun _ => rfl) (fun _ _ _ _ => rfl) l k

theorem iset_eq {α : Type} (k : Key) (r : α) (l : List (Key × α)) : iset k r l = Assoc.insert l k r :=
  Assoc.insert_unique (fun l k r => iset k r l) (fun _ _ => rfl) (fun _ _ _ _ _ => rfl) l k r

def mapV {α β : Type} (f : α → β) (l : List (Key × α)) : List (Key × β) := l.map fun kr => (kr.1, f kr.2)

theorem mapV_iset {α β : Type} (f : α → β) (k : Key) (r : α) (l : List (Key × α)) :
    mapV f (iset k r l) = iset k (f r) (mapV f l) := by
  induction l with
  | nil => rfl
  | cons h t ih =>
    obtain ⟨j, q⟩ := h
    by_cases hj : j = k
    · simp [iset, mapV, hj]
    · simp only [iset, mapV, hj, ↓reduceIte, List.map_cons] at ih ⊢
      rw [ih]

theorem ierase_eq_eraseP {α : Type} (k : Key) : ∀ l : List (Key × α), ierase k l = l.eraseP (·.1 = k)
  | [] => rfl
  | (j, q) :: t => by
    by_cases hj : j = k <;> simp [ierase, hj, ierase_eq_eraseP k t]

theorem mapV_ierase {α β : Type} (f : α → β) (k : Key) (l : List (Key × α)) :
    mapV f (ierase k l) = ierase k (mapV f l) := by
  rw [ierase_eq_eraseP, ierase_eq_eraseP, mapV, mapV, List.eraseP_map]; rfl

theorem ilookup_mapV {α β : Type} (f : α → β) (k : Key) (l : List (Key × α)) :
    ilookup k (mapV f l) = (ilookup k l).map f := by
  rw [ilookup_eq, ilookup_eq]; exact Assoc.lookup_map (fun _ => f) l k

theorem iset_same {α : Type} (k : Key) (x : α) (l : List (Key × α)) (h : ilookup k l = some x) : iset k x l = l := by
  rw [iset_eq]; exact Assoc.insert_of_lookup (ilookup_eq k l ▸ h)

theorem ilookup_mem {α : Type} (k : Key) (x : α) (l : List (Key × α)) (h : ilookup k l = some x) :
    ∃ j, (j, x) ∈ l := ⟨k, Assoc.mem_of_lookup (ilookup_eq k l ▸ h)⟩

theorem mem_iset {α : Type} (k : Key) (r : α) (l : List (Key × α)) (x : Key × α) (h : x ∈ iset k r l) :
    x = (k, r) ∨ x ∈ l := (Assoc.mem_insert (iset_eq k r l ▸ h)).symm

theorem ierase_sublist {α : Type} (k : Key) (l : List (Key × α)) : (ierase k l).Sublist l :=
  ierase_eq_eraseP k l ▸ List.eraseP_sublist

theorem mem_ierase {α : Type} (k : Key) (l : List (Key × α)) (x : Key × α) (h : x ∈ ierase k l) : x ∈ l :=
  (ierase_sublist k l).subset h

theorem absv_eq_mapV (db : DB) : absv db = mapV absRec db.index := rfl

theorem allCached_iset {l : List (Key × Rec)} (h : AllCached eg l) (k : Key) (r : Rec) (hr : RecCached eg r) :
    AllCached eg (iset k r l) := by
  intro x hx
  rcases mem_iset k r l x hx with h1 | h1
  · rw [h1]; exact hr
  · exact h x h1

theorem allCached_ierase {l : List (Key × Rec)} (h : AllCached eg l) (k : Key) : AllCached eg (ierase k l) :=
  fun x hx => h x (mem_ierase k l x hx)

theorem allCached_lookup {l : List (Key × Rec)} (h : AllCached eg l) (k : Key) (r : Rec)
    (hl : ilookup k l = some r) : RecCached eg r := by
  obtain ⟨j, hm⟩ := ilookup_mem k r l hl
  exact h (j, r) hm

/-! ### sync on a cached store -/

theorem Keeps.refl {a : DB} (h : Cached a) : Keeps a a := ⟨h, rfl, rfl, rfl, rfl⟩

theorem syncKey_cached (st : DB × Bytes) (k : Key) (h : Cached st.1) :
    Keeps (syncKey st k).1 st.1 := by
  unfold syncKey
  simp only [h.1]
  cases hl : ilookup k st.1.index with
  | none => exact Keeps.refl h
  | some rc =>
    have hrc := allCached_lookup h.2 k rc hl
    cases hd : rc.data with
    | none => have := hrc.1; simp [hd] at this
    | some val =>
      simp only [hd]
      unfold syncRec
      have hnc : hasFlag rc.flags (ncOf st.1.eager) = false := hrc.2
      have hee : (emit st.1 "qdb.sync:data-written" (.writeDat st.1.dataSeq st.1.lastPos val)).eager = st.1.eager := rfl
      simp only [hee, hnc]
      refine ⟨⟨h.1, ?_⟩, ?_, rfl, rfl, rfl⟩
      · exact allCached_iset h.2 k _ ⟨by simp [hd], hrc.2⟩
      · show mapV absRec (iset k _ st.1.index) = mapV absRec st.1.index
        rw [mapV_iset]
        apply iset_same
        rw [ilookup_mapV, hl]
        simp [absRec, hd]

theorem syncFold_cached (ks : List Key) (st : DB × Bytes) (h : Cached st.1) :
    Keeps (ks.foldl syncKey st).1 st.1 := by
  exact List.foldlRecOn (motive := fun x => Keeps x.1 st.1) ks _ (.refl h) fun x hx k _ => (syncKey_cached x k hx.cached).trans hx

theorem syncFinish_cached (db : DB) (bidx : Bytes) (h : Cached db) : Keeps (syncFinish db bidx) db := by
  have h2 : Keeps { emit (checkLog db) "qdb.sync:log-written" (.appendLog bidx) with pending := [] } db :=
    { Keeps.of_frame ((frame_emit (checkLog db) "qdb.sync:log-written" (.appendLog bidx)).trans (frame_checkLog db)) h with }
  unfold syncFinish
  dsimp only
  split
  · exact (defrag_cached _ h2.cached).trans h2
  · exact h2

theorem sync_cached (db : DB) (h : Cached db) : Keeps (sync db) db := by
  unfold sync
  split
  · exact Keeps.refl h
  · split
    · exact Keeps.refl h
    · have h0 : Keeps (checkDat db) db := Keeps.of_frame (frame_checkDat db) h
      have h1 := (syncFold_cached db.pending (checkDat db, []) h0.cached).trans h0
      simp only [h1.cached.1]
      exact (syncFinish_cached _ _ h1.cached).trans h1

/-! ### flags -/

theorem hasFlag_true (fl bit : Nat) : hasFlag fl bit = true ↔ (fl / bit) % 2 = 1 := by simp [hasFlag]
theorem hasFlag_false (fl bit : Nat) : hasFlag fl bit = false ↔ (fl / bit) % 2 = 0 := by
  simp only [hasFlag, beq_eq_false_iff_ne, ne_eq]; omega

theorem applyBF_keeps_noNC (fl res : Nat) (h1 : hasFlag fl NO_CACHE = false) (h2 : hasFlag res NO_CACHE = false) :
    hasFlag (applyBrowsingFlags fl res) NO_CACHE = false := by
  have e1 : hasFlag (setFlag fl NO_BROWSE) NO_CACHE = false := by
    rw [hasFlag_false] at h1 ⊢
    unfold setFlag
    split
    · exact h1
    · rename_i hb
      have : ¬ (fl / NO_BROWSE) % 2 = 1 := fun h => hb ((hasFlag_true _ _).mpr h)
      simp only [NO_BROWSE, NO_CACHE, Nat.div_one] at *
      omega
  have e2 : hasFlag (clrFlag fl NO_BROWSE) NO_CACHE = false := by
    rw [hasFlag_false] at h1 ⊢
    unfold clrFlag
    split
    · rename_i hb
      have := (hasFlag_true _ _).mp hb
      simp only [NO_BROWSE, NO_CACHE, Nat.div_one] at *
      omega
    · exact h1
  have e3 : ∀ x, hasFlag x NO_CACHE = false → hasFlag (clrFlag x NO_CACHE) NO_CACHE = false := by
    intro x hx
    unfold clrFlag
    simp [hx]
  unfold applyBrowsingFlags
  simp only [h2, Bool.false_eq_true, ↓reduceIte]
  have hA : hasFlag (if hasFlag res NO_BROWSE = true then setFlag fl NO_BROWSE
      else if hasFlag res YES_BROWSE = true then clrFlag fl NO_BROWSE else fl) NO_CACHE = false := by
    split
    · exact e1
    · split
      · exact e2
      · exact h1
  split
  · exact e3 _ hA
  · exact hA

/-! ### the public operations on a cached store -/

theorem hasFlag_big_of_lt (x : Nat) (h : x < 2^40) : hasFlag x (2^40) = false := by
  rw [hasFlag_false, Nat.div_eq_of_lt h]

/-- `applyBrowsingFlags` touches the two lowest bits (NO_BROWSE = 1, NO_CACHE = 2) only -/
theorem applyBF_high (fl res : Nat) : applyBrowsingFlags fl res / 4 = fl / 4 := by
  have hs : ∀ x b, (b = 1 ∨ b = 2) → setFlag x b / 4 = x / 4 := by
    intro x b hb
    unfold setFlag
    split
    · rfl
    · rename_i hn
      have hn' : (x / b) % 2 = 0 := (hasFlag_false x b).mp (by simpa using hn)
      rcases hb with rfl | rfl <;> omega
  have hc : ∀ x b, (b = 1 ∨ b = 2) → clrFlag x b / 4 = x / 4 := by
    intro x b hb
    unfold clrFlag
    split
    · rename_i hn
      have hn' := (hasFlag_true x b).mp hn
      rcases hb with rfl | rfl <;> omega
    · rfl
  have hA : (if hasFlag res NO_BROWSE = true then setFlag fl NO_BROWSE
      else if hasFlag res YES_BROWSE = true then clrFlag fl NO_BROWSE else fl) / 4 = fl / 4 := by
    split
    · exact hs _ _ (Or.inl rfl)
    · split
      · exact hc _ _ (Or.inl rfl)
      · rfl
  unfold applyBrowsingFlags
  dsimp only
  split
  · exact (hs _ NO_CACHE (Or.inr rfl)).trans hA
  · split
    · exact (hc _ NO_CACHE (Or.inr rfl)).trans hA
    · exact hA

theorem applyBF_big (fl res : Nat) (h1 : hasFlag fl (2^40) = false) : hasFlag (applyBrowsingFlags fl res) (2^40) = false := by
  rw [hasFlag_false] at h1 ⊢
  have := applyBF_high fl res
  omega

theorem applyBF_keeps (e : Bool) (fl res : Nat) (h1 : hasFlag fl (ncOf e) = false) (h2 : hasFlag res (ncOf e) = false) :
    hasFlag (applyBrowsingFlags fl res) (ncOf e) = false := by
  cases e with
  | false => exact applyBF_keeps_noNC fl res h1 h2
  | true => exact applyBF_big fl res h1

theorem yesCache_ok (e : Bool) : hasFlag YES_CACHE (ncOf e) = false := by cases e <;> decide
theorem zeroFlags_ok (e : Bool) : hasFlag 0 (ncOf e) = false := by cases e <;> decide

theorem memput_eager (db : DB) (k : Key) (r : Rec) : (memput db k r).eager = db.eager := by
  rw [memput_eq]

theorem memdel_eager (db : DB) (k : Key) : (memdel db k).eager = db.eager := by
  rw [memdel_eq]

theorem addPending_eager (db : DB) (k : Key) : (addPending db k).eager = db.eager := by
  unfold addPending
  split <;> rfl

theorem memput_spec (db : DB) (k : Key) (r : Rec) :
    (memput db k r).index = iset k r db.index ∧ (memput db k r).failed = db.failed ∧
    (memput db k r).volatile = db.volatile ∧ (memput db k r).opts = db.opts := by
  rw [memput_eq]
  exact ⟨rfl, rfl, rfl, rfl⟩

theorem memdel_spec (db : DB) (k : Key) :
    (memdel db k).index = ierase k db.index ∧ (memdel db k).failed = db.failed ∧
    (memdel db k).volatile = db.volatile ∧ (memdel db k).opts = db.opts := by
  rw [memdel_eq]
  exact ⟨rfl, rfl, rfl, rfl⟩

theorem afterChange_cached (db : DB) (k : Key) (h : Cached db) : Keeps (afterChange db k) db := by
  have h1 : Keeps (addPending db k) db := by unfold addPending; split <;> exact ⟨h, rfl, rfl, rfl, rfl⟩
  unfold afterChange
  split
  · exact ⟨h, rfl, rfl, rfl, rfl⟩
  · split
    · exact (sync_cached _ h1.cached).trans h1
    · exact h1

theorem memput_cachedC (db : DB) (k : Key) (v : Bytes) (f : Nat) (h : Cached db)
    (hf : hasFlag f (ncOf db.eager) = false) : Cached (memput db k (newRec v f)) := by
  obtain ⟨hi, hfa, _, _⟩ := memput_spec db k (newRec v f)
  exact ⟨hfa.trans h.1, by rw [memput_eager, AllCached, hi]; exact allCached_iset h.2 k _ ⟨rfl, hf⟩⟩

theorem memdel_cachedC (db : DB) (k : Key) (h : Cached db) : Cached (memdel db k) := by
  obtain ⟨hi, hfa, _, _⟩ := memdel_spec db k
  exact ⟨hfa.trans h.1, by rw [memdel_eager, AllCached, hi]; exact allCached_ierase h.2 k⟩

theorem putExt_cached (db : DB) (k : Key) (v : Bytes) (f : Nat) (h : Cached db) (hf : hasFlag f (ncOf db.eager) = false) :
    Cached (putExt db k v f) ∧ absv (putExt db k v f) = iset k (v, f) (absv db) := by
  unfold putExt
  simp only [h.1, Option.isSome_none, Bool.false_eq_true, ↓reduceIte]
  have hk := afterChange_cached _ k (memput_cachedC db k v f h hf)
  refine ⟨hk.cached, hk.abs.trans ?_⟩
  rw [absv_eq_mapV, (memput_spec db k _).1, mapV_iset]; rfl

theorem del_cached (db : DB) (k : Key) (h : Cached db) :
    Cached (del db k) ∧ absv (del db k) = ierase k (absv db) := by
  unfold del
  simp only [h.1, Option.isSome_none, Bool.false_eq_true, ↓reduceIte]
  have hk := afterChange_cached _ k (memdel_cachedC db k h)
  refine ⟨hk.cached, hk.abs.trans ?_⟩
  rw [absv_eq_mapV, (memdel_spec db k).1, mapV_ierase]; rfl

theorem ilookup_absv (db : DB) (k : Key) : ilookup k (absv db) = (ilookup k db.index).map absRec :=
  ilookup_mapV absRec k db.index

theorem notFailed {db : DB} (h : Cached db) : ¬ (db.failed.isSome = true) := by simp [h.1]

theorem applyFlags_cached (db : DB) (k : Key) (fl : Nat) (h : Cached db) (hf : hasFlag fl (ncOf db.eager) = false) :
    Cached (applyFlags db k fl) ∧ absv (applyFlags db k fl) = mstep (absv db) (.applyFlags k fl) := by
  unfold applyFlags
  simp only [h.1, Option.isSome_none, Bool.false_eq_true, ↓reduceIte, mstep, ilookup_absv]
  cases hl : ilookup k db.index with
  | none => exact ⟨h, rfl⟩
  | some r =>
    have hr := allCached_lookup h.2 k r hl
    simp only [Option.map_some]
    refine ⟨⟨rfl, ?_⟩, ?_⟩
    · exact allCached_iset h.2 k _ ⟨hr.1, applyBF_keeps _ _ _ hr.2 hf⟩
    · show mapV absRec (iset k _ db.index) = _
      rw [mapV_iset]; rfl

theorem get_eq_applyFlags (db : DB) (k : Key) (h : Cached db) : (Qdb.get db k).1 = applyFlags db k YES_CACHE := by
  unfold Qdb.get applyFlags
  rw [if_neg (notFailed h), if_neg (notFailed h)]
  cases hl : ilookup k db.index with
  | none => rfl
  | some r => simp only [loadrec_cached db.fs r (allCached_lookup h.2 k r hl)]

theorem get_cached (db : DB) (k : Key) (h : Cached db) :
    Cached (Qdb.get db k).1 ∧ absv (Qdb.get db k).1 = mstep (absv db) (.get k) ∧
    (Qdb.get db k).2 = mget (absv db) k := by
  obtain ⟨hc, ha⟩ := applyFlags_cached db k YES_CACHE h (yesCache_ok _)
  rw [get_eq_applyFlags db k h]
  refine ⟨hc, ha, ?_⟩
  unfold Qdb.get mget
  rw [if_neg (notFailed h), ilookup_absv]
  cases hl : ilookup k db.index with
  | none => rfl
  | some r =>
    obtain ⟨v, hv⟩ := Option.isSome_iff_exists.mp (allCached_lookup h.2 k r hl).1
    simp only [loadrec_cached db.fs r (allCached_lookup h.2 k r hl), Option.map_some, absRec, hv, Option.getD_some]


theorem walkRes_ok (w : List (Key × Nat)) (hw : WalkOK eg w) (k : Key) : hasFlag (walkRes w k) (ncOf eg) = false := by
  unfold walkRes
  cases hf : w.find? (·.1 = k) with
  | none => exact zeroFlags_ok eg
  | some kf => exact hw kf (List.mem_of_find?_eq_some hf)

/-- what Browse does to one record of a cached store (`vs`: the visit set, Model.Qdb.visitSet) -/
def browseRec (all : Bool) (w : List (Key × Nat)) (vs : Option (List Key)) (kr : Key × Rec) : Key × Rec :=
  if skipB all vs kr.2.flags kr.1 then kr
  else (kr.1, { kr.2 with flags := applyBrowsingFlags kr.2.flags (walkRes w kr.1) })

def browseOut (all : Bool) (vs : Option (List Key)) (kr : Key × Rec) : Option (Key × Bytes) :=
  if skipB all vs kr.2.flags kr.1 then none else some (kr.1, kr.2.data.getD [])

/-- the visit set of a browse that starts on `db` -/
def vsOf (all : Bool) (db : DB) (w : List (Key × Nat)) : Option (List Key) := visitSet Rec.flags all db.index w

theorem skipB_none (all : Bool) (fl : Nat) (k : Key) : skipB all none fl k = (!all && hasFlag fl NO_BROWSE) := by
  simp [skipB]

theorem browseFold_cached (all : Bool) (w : List (Key × Nat)) (vs : Option (List Key)) (hw : WalkOK eg w)
    (l : List (Key × Rec))
    (hl : AllCached eg l) (db : DB) (hf : db.failed = none) (he : db.eager = eg) (acc : List (Key × Rec))
    (out : List (Key × Bytes)) :
    l.foldl (browseStep all w vs) (db, acc, out) =
      (db, acc ++ l.map (browseRec all w vs), out ++ l.filterMap (browseOut all vs)) := by
  induction l generalizing acc out with
  | nil => simp
  | cons kr t ih =>
    have hc := hl kr List.mem_cons_self
    have hstep : browseStep all w vs (db, acc, out) kr =
        (db, acc ++ [browseRec all w vs kr], out ++ (browseOut all vs kr).toList) := by
      unfold browseStep browseRec browseOut
      simp only [hf]
      split
      · simp
      · simp only [loadrec_cached db.fs kr.2 hc]
        rw [he, freerec_cached _ _ (applyBF_keeps _ _ _ hc.2 (walkRes_ok w hw kr.1))]
        simp
    simp only [List.foldl_cons, hstep]
    rw [ih (fun x hx => hl x (List.mem_cons_of_mem _ hx))]
    cases hb : browseOut all vs kr <;> simp [hb]

theorem browseGen_cached (all : Bool) (db : DB) (w : List (Key × Nat)) (h : Cached db) (hw : WalkOK db.eager w) :
    (browseGen all db w).1 = { db with index := db.index.map (browseRec all w (vsOf all db w)) } ∧
    (browseGen all db w).2 = db.index.filterMap (browseOut all (vsOf all db w)) := by
  unfold browseGen vsOf
  simp only [h.1, Option.isSome_none, Bool.false_eq_true, ↓reduceIte]
  rw [browseFold_cached all w _ hw db.index h.2 db h.1 rfl [] []]
  simp [h.1]

/-- eligibility and the visit set only look at keys and flag words: the store's and its abstract map's agree -/
theorem eligible_absE (all : Bool) (l : List (Key × Rec)) (k : Key) :
    eligible (α := Bytes × Nat) (·.2) all (l.map absE) k = eligible Rec.flags all l k := by
  unfold eligible
  rw [show l.map absE = mapV absRec l from rfl, ilookup_mapV]
  cases ilookup k l <;> rfl

theorem visitSetAux_congr (e1 e2 : Key → Bool) (h : ∀ k, e1 k = e2 k) (w : List (Key × Nat)) (seen : List Key) :
    visitSetAux e1 w seen = visitSetAux e2 w seen := by
  have : e1 = e2 := funext h
  rw [this]

theorem mvisitSet_absv (all : Bool) (db : DB) (w : List (Key × Nat)) :
    mvisitSet all (absv db) w = vsOf all db w := by
  unfold mvisitSet vsOf visitSet absv
  exact visitSetAux_congr _ _ (eligible_absE all db.index) w []

theorem browse_cached (db : DB) (w : List (Key × Nat)) (h : Cached db) (hw : WalkOK db.eager w) :
    Cached (browse db w).1 ∧ absv (browse db w).1 = mstep (absv db) (.browse w) ∧
    (browse db w).2 = mbrowseOutW w (absv db) := by
  obtain ⟨h1, h2⟩ := browseGen_cached false db w h hw
  unfold browse
  rw [h1, h2]
  refine ⟨⟨h.1, ?_⟩, ?_, ?_⟩
  · intro x hx
    obtain ⟨kr, hkr, rfl⟩ := List.mem_map.mp hx
    have hc := h.2 kr hkr
    unfold browseRec
    split
    · exact hc
    · exact ⟨hc.1, applyBF_keeps _ _ _ hc.2 (walkRes_ok w hw kr.1)⟩
  · show List.map absE (List.map (browseRec false w (vsOf false db w)) db.index) = mbrowseState (absv db) w
    unfold mbrowseState
    rw [mvisitSet_absv]
    unfold absv
    simp only [List.map_map]
    apply List.map_congr_left
    intro kr _
    by_cases hb : skipB false (vsOf false db w) kr.2.flags kr.1 = true <;> simp [browseRec, absE, absRec, hb]
  · show _ = mbrowseOutW w (absv db)
    unfold mbrowseOutW
    rw [mvisitSet_absv]
    unfold mbrowseOutV absv
    rw [List.filterMap_map]
    rfl

def NoAbort (w : List (Key × Nat)) : Prop := ∀ kf ∈ w, hasFlag kf.2 BR_ABORT = false

theorem visitSetAux_noAbort (el : Key → Bool) (w : List (Key × Nat)) (h : NoAbort w) (seen : List Key) :
    visitSetAux el w seen = none := by
  induction w generalizing seen with
  | nil => rfl
  | cons x t ih =>
    obtain ⟨k, f⟩ := x
    have hf : hasFlag f BR_ABORT = false := h (k, f) List.mem_cons_self
    have ht : NoAbort t := fun kf hkf => h kf (List.mem_cons_of_mem _ hkf)
    simp only [visitSetAux, hf]
    split
    · exact ih ht _
    · simp only [Bool.false_eq_true, ↓reduceIte]; exact ih ht _

theorem mbrowseOutW_noAbort (w : List (Key × Nat)) (h : NoAbort w) (m : M) : mbrowseOutW w m = mbrowseOut m := by
  unfold mbrowseOutW mvisitSet visitSet
  rw [visitSetAux_noAbort _ w h]
  unfold mbrowseOutV mbrowseOut
  simp only [skipB_none, Bool.not_false, Bool.true_and]

theorem step_cached (db : DB) (op : Op) (h : Cached db) (ok : OpOK db.eager op) :
    Cached (step db op) ∧ absv (step db op) = mstep (absv db) op := by
  cases op with
  | put k v => exact putExt_cached db k v 0 h (zeroFlags_ok _)
  | putExt k v f => exact putExt_cached db k v f h ok
  | del k => exact del_cached db k h
  | get k => exact (get_cached db k h).imp_right (·.1)
  | browse w => exact (browse_cached db w h ok).imp_right (·.1)
  | applyFlags k fl => exact applyFlags_cached db k fl h ok
  | defrag f =>
    show Cached (defragOp db f).1 ∧ absv (defragOp db f).1 = absv db
    unfold defragOp
    rw [if_neg (notFailed h)]
    split
    · exact ⟨h, rfl⟩
    · dsimp only
      split
      · exact ⟨(defrag_cached db h).cached, (defrag_cached db h).abs⟩
      · exact ⟨h, rfl⟩
  | sync =>
    show Cached (syncOp db) ∧ absv (syncOp db) = absv db
    unfold syncOp
    rw [if_neg (notFailed h)]
    split
    · exact ⟨h, rfl⟩
    · have h' : Cached { db with noSync := false } := h
      exact ⟨(sync_cached _ h').cached, (sync_cached _ h').abs⟩
  | noSync =>
    show Cached (noSyncOp db) ∧ absv (noSyncOp db) = absv db
    unfold noSyncOp
    rw [if_neg (notFailed h)]
    split <;> exact ⟨h, rfl⟩
  | reopen a b c => exact absurd ok (by simp [OpOK])


theorem putExt_ok (db : DB) (k : Key) (v : Bytes) (f : Nat) (h : db.failed = none) :
    putExt db k v f = afterChange (memput db k (newRec v f)) k := by
  unfold putExt
  rw [if_neg (by simp [h])]

theorem del_ok (db : DB) (k : Key) (h : db.failed = none) : del db k = afterChange (memdel db k) k := by
  unfold del
  rw [if_neg (by simp [h])]

theorem defragOp_nv (db : DB) (f : Bool) (hf : db.failed = none) (hv : db.volatile = false) :
    (defragOp db f).1 =
      if (f || decide (db.extra > mul64 db.opts.defragPerc db.need / 100)) = true then defrag db else db := by
  unfold defragOp
  rw [if_neg (by simp [hf]), if_neg (by simp [hv])]
  dsimp only
  split <;> rfl

theorem syncOp_nv (db : DB) (hf : db.failed = none) (hv : db.volatile = false) :
    syncOp db = sync { db with noSync := false } := by
  unfold syncOp
  rw [if_neg (by simp [hf]), if_neg (by simp [hv])]

theorem noSyncOp_nv (db : DB) (hf : db.failed = none) (hv : db.volatile = false) :
    noSyncOp db = { db with noSync := true } := by
  unfold noSyncOp
  rw [if_neg (by simp [hf]), if_neg (by simp [hv])]

theorem applyFlags_shape (db : DB) (k : Key) (fl : Nat) : ∃ i, applyFlags db k fl = { db with index := i } := by
  unfold applyFlags
  split
  · exact ⟨db.index, rfl⟩
  · split
    · exact ⟨db.index, rfl⟩
    · exact ⟨_, rfl⟩

theorem afterChange_vol (db : DB) (k : Key) (hv : db.volatile = true) : afterChange db k = { db with noSync := true } := by
  unfold afterChange
  rw [if_pos hv]

theorem defragOp_vol (db : DB) (f : Bool) (hv : db.volatile = true) : (defragOp db f).1 = db := by
  unfold defragOp
  rw [if_pos hv]
  split <;> rfl

theorem syncOp_vol (db : DB) (hv : db.volatile = true) : syncOp db = db := by
  unfold syncOp
  rw [if_pos hv]
  split <;> rfl

theorem noSyncOp_vol (db : DB) (hv : db.volatile = true) : noSyncOp db = db := by
  unfold noSyncOp
  rw [if_pos hv]
  split <;> rfl

theorem close_nv (d : DB) (hf : d.failed = none) (hv : d.volatile = false) (hs : (sync d).failed = none) :
    close d = { sync d with datOpen := false, logOpen := false, index := [], pending := [] } := by
  unfold close
  rw [if_neg (by simp [hf])]
  simp only [hv, Bool.false_eq_true, ↓reduceIte]
  split
  · rename_i w hw; rw [hs] at hw; cases hw
  · rfl

theorem close_vol (d : DB) (hf : d.failed = none) (hv : d.volatile = true) (hn : d.noSync = false) :
    close d = { d with datOpen := false, logOpen := false, index := [], pending := [] } := by
  unfold close
  rw [if_neg (by simp [hf])]
  simp only [hv, hn, ↓reduceIte, Bool.false_eq_true, hf]

theorem close_vol_defrag (d : DB) (hf : d.failed = none) (hv : d.volatile = true) (hn : d.noSync = true)
    (hd : (defrag d).failed = none) :
    close d = { defrag d with datOpen := false, logOpen := false, index := [], pending := [] } := by
  unfold close
  rw [if_neg (by simp [hf])]
  simp only [hv, hn, ↓reduceIte, hd]

theorem close_sync (d : DB) (hf : d.failed = none) (hv : d.volatile = false) (hs : (sync d).failed = none) :
    (close d).failed = none ∧ (close d).fs = (sync d).fs ∧ (close d).effs = (sync d).effs := by
  rw [close_nv d hf hv hs]
  exact ⟨hs, rfl, rfl⟩

theorem close_eager (db : DB) (h : Cached db) : (close db).eager = db.eager :=
  Pre.close (Pre.of_eq _) eagerKept db

theorem step_reopen (db : DB) (vol load : Bool) (opts : Opts) (h : (close db).failed = none) :
    step db (.reopen vol load opts) =
      { openDB (close db).fs vol load opts (close db).eager with
        effs := (close db).effs ++ (openDB (close db).fs vol load opts (close db).eager).effs } := by
  simp only [step, h]

theorem step_eager (db : DB) (op : Op) (h : Cached db) (ok : OpOK db.eager op) : (step db op).eager = db.eager :=
  step_eager_all db op

theorem run_cached (ops : List Op) (db : DB) (h : Cached db) (ok : ∀ op ∈ ops, OpOK db.eager op) :
    Cached (run db ops) ∧ absv (run db ops) = mrun (absv db) ops := by
  induction ops generalizing db with
  | nil => exact ⟨h, rfl⟩
  | cons op t ih =>
    obtain ⟨h1, h2⟩ := step_cached db op h (ok op List.mem_cons_self)
    obtain ⟨h3, h4⟩ := ih (step db op) h1 (fun o ho => by rw [step_eager_all]; exact ok o (List.mem_cons_of_mem _ ho))
    refine ⟨h3, ?_⟩
    show absv (run (step db op) t) = mrun (mstep (absv db) op) t
    rw [h4, h2]

theorem run_eager (ops : List Op) (db : DB) (h : Cached db) (ok : ∀ op ∈ ops, OpOK db.eager op) :
    (run db ops).eager = db.eager := run_eager_all ops db

end GocoinV.Proofs.C19
