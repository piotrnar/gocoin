/-
  Proofs.C12Chain — the chain-side facts the proof of Props/C12 `pool_inv` needs (`ConnectSound` / `UndoCommitTxs`,
  collected in `AdmRun`) DERIVED for the model's own chain simulation (`connectUtxo` / `disconnectUtxo`) from a
  block-validity predicate on the block body and the pre-state (`BlockValid`), through a chain-side history invariant
  (`ChainInv`); and, on top of the layers' step theorems, the ONE induction over histories of valid blocks (`Carried`,
  `run_carried`), from which Props/C12 `pool_inv`, `sorted_list_inv`, `template_from_pool`, `reject_index_inv` are read
  off.  Core Lean only.
-/
import GocoinV.Proofs.C12ChainHist
import GocoinV.Proofs.C12RejAdm
import GocoinV.Proofs.C12SortRun
namespace GocoinV.Mempool

/-- the chain-side history invariant of a state: `s.utxo` (read through `get?`) is the initial set `u0` after
    connecting, one after the other, the `BlockValidF` bodies on `s.undo`; every entry `(txs, sc)` of `s.undo` records
    the coins `txs` took — every coin it took from the confirmed set before it (`Linked.scCompl`), and nothing but such
    coins or outputs the body made itself (`Linked.scSound`) —, and `ν` gives the
    values of the outputs of the stacked transactions and of the initial coins (see `Hist`, `Linked`) -/
def ChainInv (u0 : UT) (ν : OutPoint → Nat) (s : State) : Prop := Hist u0 ν s.undo (fun o => s.utxo.get? o)

theorem ChainInv.chainOK {u0 : UT} {ν : OutPoint → Nat} {s : State} (h : ChainInv u0 ν s) : ChainOK u0 ν s :=
  { Hist.fok _ _ h with }

theorem ChainInv.of_eq {u0 : UT} {ν : OutPoint → Nat} {s s' : State} (h : ChainInv u0 ν s) (e1 : s'.utxo = s.utxo)
    (e2 : s'.undo = s.undo) : ChainInv u0 ν s' := by
  unfold ChainInv
  rw [e1, e2]
  exact h

/-! ### connecting a valid block -/

theorem connect_linked {u0 : UT} {ν : OutPoint → Nat} (s : State) (h : Nat) (txs : List Tx)
    (hc : ChainInv u0 ν s) (hv : BlockValid u0 s txs) (hν : ∀ t ∈ txs, ∀ v, ν (t.id, v) = t.outs.getD v 0) :
    Linked u0 ν (fun o => s.utxo.get? o) (fun o => (connFold h s.utxo txs).1.get? o) s.undo txs
      (connFold h s.utxo txs).2 := by
  have post := connFold_post h txs (s.utxo, []) hv.1 hv.2.2 (fresh_ids (Hist.fok _ _ hc) hv)
  refine ⟨hv, hν, post.spent, ?_, post.kept, ?_, post.scCompl⟩
  · rintro ⟨x, y⟩ hs hcr
    obtain ⟨t, ht, e1, _, hg⟩ := post.made _ hs hcr
    obtain rfl : x = t.id := e1
    exact ⟨_, hg, (hν t ht y).symm⟩
  · exact fun p hp => (post.scSound p hp).resolve_left (by intro h1; cases h1)

/-- connecting a `BlockValid` body on a state with the history invariant is sound in the sense the pool needs
    (`ConnectSound`) and keeps the history invariant -/
theorem connect_sound_model {K : Keys} {W : Tx → Prop} {rank : TxId → Nat} {u0 : UT} {ν : OutPoint → Nat}
    (U : Univ2 K W rank u0 ν) (s : State) (h : Nat) (txs : List Tx) (hc : ChainInv u0 ν s)
    (hv : BlockValid u0 s txs) (hW : ∀ t ∈ txs, W t) :
    ConnectSound u0 ν s (connectUtxo s h txs) txs ∧ ChainInv u0 ν (connectUtxo s h txs) := by
  have l := connect_linked s h txs hc hv fun t ht v => U.val_tx t (hW t ht) v
  have e1 : (connectUtxo s h txs).utxo = (connFold h s.utxo txs).1 := by rw [connectUtxo_eq]
  have ci : ChainInv u0 ν (connectUtxo s h txs) := ⟨_, hc, l⟩
  refine ⟨⟨ci.chainOK, ?_, ?_, hv.2.1, hv.2.2⟩, ci⟩
  · intro o ho hs
    unfold inU at ho ⊢
    rw [e1]
    by_cases hcr : createdBy txs o
    · obtain ⟨c, hg, _⟩ := l.made o hs hcr
      rw [hg]; rfl
    · rw [l.kept o hs hcr]; exact ho
  · intro o hcr hs
    unfold inU
    rw [e1]
    obtain ⟨c, hg, _⟩ := l.made o hs hcr
    rw [hg]; rfl

/-! ### disconnecting the last block -/

/-- restoring the recorded coins and deleting what the body made gives back the confirmed set before the body,
    exactly (pointwise through `get?`) -/
theorem restore_exact {u0 : UT} {ν : OutPoint → Nat} {rest : UndoStack} {f g : CSet} {txs : List Tx} {sc : SC}
    (hf : FOK u0 ν rest f) (l : Linked u0 ν f g rest txs sc) (ug : UT) (hug : ∀ o, ug.get? o = g o) :
    ∀ o, (delCreated txs (restoreSC sc ug)).get? o = f o := by
  intro o
  obtain ⟨d1, d2⟩ := delCreated_get txs (restoreSC sc ug) o
  by_cases hcr : createdBy txs o
  · rw [d1 hcr, fresh_of_valid hf l.valid o hcr]
  · rw [d2 hcr]
    rcases restoreSC_get sc ug o with ⟨c, hm, hg⟩ | ⟨hn, hg⟩
    · rw [hg]
      rcases (l.scSound _ hm).2 with h1 | h1
      · exact h1.symm
      · exact absurd h1 hcr
    · rw [hg, hug]
      by_cases hs : spentBy txs o
      · exfalso
        rcases l.valid.1.avail_of_spent _ _ o hs with ha | ha
        · obtain ⟨c, hx⟩ := Option.isSome_iff_exists.mp ha
          exact hn c (l.scCompl o c hs hx)
        · exact hcr ha
      · exact l.kept o hs hcr

/-- disconnecting the last block of a state with the history invariant is sound in the sense the pool needs
    (`UndoCommitTxs`) and keeps the history invariant.  No hypothesis on the block: the invariant carries it. -/
theorem undo_sound_model {u0 : UT} {ν : OutPoint → Nat} (s s' : State) (txs : List Tx) (hc : ChainInv u0 ν s)
    (hd : disconnectUtxo s = some (s', txs)) : UndoCommitTxs u0 ν s s' txs ∧ ChainInv u0 ν s' := by
  rw [disconnectUtxo_eq] at hd
  unfold ChainInv at hc
  split at hd
  · cases hd
  · rename_i txs0 sc rest hu
    simp only [Option.some.injEq, Prod.mk.injEq] at hd
    obtain ⟨rfl, rfl⟩ := hd
    rw [hu] at hc
    obtain ⟨f, hf, l⟩ := hc
    have fok := Hist.fok _ _ hf
    have ex := restore_exact fok l s.utxo (fun _ => rfl)
    have ci : ChainInv u0 ν { s with utxo := delCreated txs0 (restoreSC sc s.utxo), undo := rest } :=
      Hist.congr hf ex
    refine ⟨⟨ci.chainOK, ?_, ?_⟩, ci⟩
    · intro o hcr ho
      unfold inU at ho
      simp only at ho
      rw [ex o, fresh_of_valid fok l.valid o hcr] at ho
      cases ho
    · intro o ho hcr
      unfold inU at ho ⊢
      simp only
      rw [ex o]
      by_cases hs : spentBy txs0 o
      · rw [l.spent o hs] at ho; cases ho
      · rw [← l.kept o hs hcr]; exact ho

/-- `disconnectUtxo` undoes `connectUtxo` exactly: after connecting a `BlockValid` body and disconnecting it again the
    confirmed set reads as before at every outpoint, and the stack is the old one -/
theorem disconnect_exact {u0 : UT} {ν : OutPoint → Nat} (s : State) (h : Nat) (txs : List Tx)
    (hc : ChainInv u0 ν s) (hv : BlockValid u0 s txs) (hν : ∀ t ∈ txs, ∀ v, ν (t.id, v) = t.outs.getD v 0) :
    ∃ s', disconnectUtxo (connectUtxo s h txs) = some (s', txs) ∧ s'.undo = s.undo ∧
      ∀ o, s'.utxo.get? o = s.utxo.get? o := by
  rw [connectUtxo_eq, disconnectUtxo_eq]
  exact ⟨_, rfl, rfl, restore_exact (Hist.fok _ _ hc) (connect_linked s h txs hc hv hν) _ (fun _ => rfl)⟩

/-! ### histories -/

/-- validity of one operation in state `s`: a `block` carries a `BlockValid` body; nothing is asked of `undo` or of the
    pool-side operations -/
def ValidOp (u0 : UT) (s : State) : Op → Prop
  | .block _ txs _ => BlockValid u0 s txs
  | _ => True

/-- every `block` operation of the history is `BlockValid` in the state it is applied to -/
def ValidRun (K : Keys) (u0 : UT) : State → List Op → Prop
  | _, [] => True
  | s, op :: r => ValidOp u0 s op ∧ ValidRun K u0 (step K s op) r

theorem step_chainInv {K : Keys} {W : Tx → Prop} {rank : TxId → Nat} {u0 : UT} {ν : OutPoint → Nat}
    (U : Univ2 K W rank u0 ν) (s : State) (op : Op) (hc : ChainInv u0 ν s) (hW : ∀ t ∈ op.txs, W t)
    (hv : ValidOp u0 s op) : AdmOp u0 ν s op ∧ ChainInv u0 ν (step K s op) := by
  refine (?_ : AdmOp u0 ν s op ∧ ChainInv u0 ν (op.chain s)).imp_right fun c => c.of_eq (step_env K s op).utxo (step_env K s op).undo
  cases op with
  | block hh txs mf => exact connect_sound_model U s hh txs hc hv hW
  | undo uh mf =>
    refine ⟨fun s' txs hd => (undo_sound_model s s' txs hc hd).1, ?_⟩
    simp only [Op.chain]
    cases hd : disconnectUtxo s with
    | none => exact hc
    | some p => exact (undo_sound_model s p.1 p.2 hc hd).2
  | _ => exact ⟨trivial, hc⟩

/-- the transactions of a valid block have pairwise different BIDX (txids of `W` are separated by BIDX) -/
theorem blockValid_distinct {K : Keys} {W : Tx → Prop} {rank : TxId → Nat} {u0 : UT} (U : Univ K W rank) {s : State}
    {txs : List Tx} (hW : ∀ t ∈ txs, W t) (hb : BlockValid u0 s txs) : (txs.map fun t => K.bidx t.id).Nodup := by
  show (txs.map fun t => K.bidx t.id).Pairwise (· ≠ ·)
  rw [List.pairwise_map]
  exact hb.2.2.imp_of_mem fun {a b} ha hb' hne hk => hne (U.bidx_inj a b (hW a ha) (hW b hb') hk)

section Carried
variable {K : Keys} {W : Tx → Prop} {rank : TxId → Nat} {u0 : UT} {ν : OutPoint → Nat}

/-- everything a history of valid blocks carries: the chain-side history invariant, the pool invariant, the invariant of
    the sorted list, blocks with pairwise different BIDX on the undo stack, and (while the process is alive) the
    reject-list invariant; `c` = "the reject ring has at least two slots" -/
structure Carried (K : Keys) (W : Tx → Prop) (u0 : UT) (ν : OutPoint → Nat) (c : Prop) (s : State) : Prop where
  chain : ChainInv u0 ν s
  full : Full K W u0 ν s
  sort : SortInvP K s
  dist : UndoDist K s
  rej : c → s.panicked = false → RejInv K s

/-- a valid operation is admissible and keeps all of it: the layers' own step theorems, put side by side -/
theorem step_carried (U : Univ2 K W rank u0 ν) {c : Prop} (s : State) (op : Op) (h : Carried K W u0 ν c s)
    (hW : ∀ t ∈ op.txs, W t) (hv : ValidOp u0 s op) : AdmOp u0 ν s op ∧ Carried K W u0 ν c (step K s op) := by
  obtain ⟨ha, hc⟩ := step_chainInv (K := K) U s op h.chain hW hv
  refine ⟨ha, hc, step_full U s op h.full hW ha, step_sort U s op h.full hW ha h.sort,
    step_undoDist K s op h.dist ?_, fun hcap alive => ?_⟩
  · rintro hh txs mf rfl
    exact blockValid_distinct U.base hW hv
  · have alive_s : s.panicked = false := by
      cases hp : s.panicked with
      | false => rfl
      | true => rw [step_sticky K s op hp] at alive; cases alive
    exact step_rejInv U.base s op h.full.inv (h.rej hcap alive_s) hW (undoOK_of_full U s op h.full alive_s h.dist)

theorem run_carried (U : Univ2 K W rank u0 ν) {c : Prop} : ∀ (ops : List Op) (s : State), Carried K W u0 ν c s →
    (∀ op ∈ ops, ∀ t ∈ op.txs, W t) → ValidRun K u0 s ops → AdmRun K u0 ν s ops ∧ Carried K W u0 ν c (run K s ops)
  | [], _, h, _, _ => ⟨trivial, h⟩
  | op :: r, s, h, hW, hv =>
    have h1 := step_carried U s op h (hW op List.mem_cons_self) hv.1
    have h2 := run_carried U r _ h1.2 (fun o ho => hW o (List.mem_cons_of_mem _ ho)) hv.2
    ⟨⟨h1.1, h2.1⟩, h2.2⟩

theorem chainInv_genesis {K : Keys} {W : Tx → Prop} {rank : TxId → Nat} {u0 : UT} {ν : OutPoint → Nat}
    (U : Univ2 K W rank u0 ν) (cfg : Cfg) (h0 : Nat) : ChainInv u0 ν (genesis cfg u0 h0) :=
  show Hist u0 ν [] (fun o => u0.get? o) from ⟨fun _ => rfl, fun o c h => (U.val_u0 o c h).symm⟩

theorem carried_genesis (U : Univ2 K W rank u0 ν) (cfg : Cfg) (h0 : Nat) :
    Carried K W u0 ν (2 ≤ cfg.ringCap) (genesis cfg u0 h0) :=
  ⟨chainInv_genesis U cfg h0, full_genesis U cfg h0, sort_genesis K cfg u0 h0, by intro e he; simp [genesis] at he,
    fun hcap _ => rejInv_genesis K cfg u0 h0 hcap⟩

theorem carried_of_valid (U : Univ2 K W rank u0 ν) (cfg : Cfg) (h0 : Nat) (ops : List Op)
    (hW : ∀ op ∈ ops, ∀ t ∈ op.txs, W t) (hv : ValidRun K u0 (genesis cfg u0 h0) ops) :
    AdmRun K u0 ν (genesis cfg u0 h0) ops ∧ Carried K W u0 ν (2 ≤ cfg.ringCap) (run K (genesis cfg u0 h0) ops) :=
  run_carried U ops _ (carried_genesis U cfg h0) hW hv

end Carried

theorem admRun_genesis {K : Keys} {W : Tx → Prop} {rank : TxId → Nat} {u0 : UT} {ν : OutPoint → Nat}
    (U : Univ2 K W rank u0 ν) (cfg : Cfg) (h0 : Nat) (ops : List Op) (hW : ∀ op ∈ ops, ∀ t ∈ op.txs, W t)
    (hv : ValidRun K u0 (genesis cfg u0 h0) ops) : AdmRun K u0 ν (genesis cfg u0 h0) ops :=
  (carried_of_valid U cfg h0 ops hW hv).1



/-! ### the predicates are satisfiable: a body whose second transaction spends an output of the first -/

namespace ChainExample
def u0 : UT := [((7, 0), ⟨50, 0, false⟩)]
def t1 : Tx := { id := 100, ins := [⟨7, 0, 0⟩], outs := [30, 20], nws := 0, size := 0, scriptOk := true }
def t2 : Tx := { id := 101, ins := [⟨100, 0, 0⟩], outs := [30], nws := 0, size := 0, scriptOk := true }

theorem notConf (id : TxId) (h : id ≠ 7) : ¬ Conf u0 [] id := by
  rintro (⟨v, c, hg⟩ | ⟨e, he, _⟩)
  · have : ¬ ((7, 0) : TxId × Nat) = (id, v) := fun e => h (congrArg Prod.fst e).symm
    simp [u0, AList.get?, this] at hg
  · cases he

theorem valid (cfg : Cfg) : BlockValid u0 (genesis cfg u0 0) [t1, t2] := by
  refine ⟨⟨by decide, ?_, by decide, ?_, trivial⟩, ?_, by decide⟩
  · intro o ho
    have : o = (7, 0) := by simpa [t1, Tx.inOps, TxIn.op] using ho
    rw [this]; rfl
  · intro o ho
    have : o = (100, 0) := by simpa [t2, Tx.inOps, TxIn.op] using ho
    rw [this]
    exact Or.inr ⟨rfl, by decide⟩
  · intro t ht
    simp only [List.mem_cons, List.not_mem_nil, or_false] at ht
    rcases ht with rfl | rfl
    · exact notConf _ (by decide)
    · exact notConf _ (by decide)

theorem validRun (K : Keys) (cfg : Cfg) :
    ValidRun K u0 (genesis cfg u0 0) [.block 1 [t1, t2] 0, .undo 1 0] :=
  ⟨valid cfg, trivial, trivial⟩
end ChainExample

/-! ### an executable check of block validity, for the example histories -/

/-- executable form of `BlockOK` -/
def okB (avail : OutPoint → Bool) : List Tx → Bool
  | [] => true
  | t :: r => decide t.inOps.Nodup && t.inOps.all avail &&
      okB (fun o => (avail o && !t.inOps.contains o) || (decide (o.1 = t.id) && decide (o.2 < t.outs.length))) r

theorem okB_sound : ∀ (l : List Tx) (avail : OutPoint → Bool) (P : OutPoint → Prop),
    (∀ o, avail o = true → P o) → okB avail l = true → BlockOK P l := by
  intro l
  induction l with
  | nil => intro _ _ _ _; trivial
  | cons t r ih =>
    intro avail P hP h
    simp only [okB, Bool.and_eq_true, decide_eq_true_eq, List.all_eq_true] at h
    refine ⟨h.1.1, fun o ho => hP o (h.1.2 o ho), ih _ _ ?_ h.2⟩
    intro o ho
    simp only [Bool.or_eq_true, Bool.and_eq_true, Bool.not_eq_true', decide_eq_true_eq] at ho
    rcases ho with ⟨h1, h2⟩ | h3
    · refine Or.inl ⟨hP o h1, ?_⟩
      intro hm
      simp [hm] at h2
    · exact Or.inr h3

/-- a body is valid in `s` when it passes the executable input-availability check against the confirmed set of `s`, no
    block is connected above the initial confirmed set, its ids are not ids of initial coins and pairwise different -/
theorem blockValid_of (u0 : UT) (s : State) (txs : List Tx) (hok : okB (fun o => (s.utxo.get? o).isSome) txs = true)
    (hu : s.undo = []) (h0 : ∀ t ∈ txs, ∀ v, u0.get? (t.id, v) = none)
    (hp : txs.Pairwise (fun a b => a.id ≠ b.id)) : BlockValid u0 s txs := by
  refine ⟨okB_sound txs _ _ (fun _ h => h) hok, ?_, hp⟩
  intro t ht
  rintro (⟨v, c, h⟩ | ⟨e, he, _⟩)
  · rw [h0 t ht v] at h; cases h
  · rw [hu] at he; cases he

end GocoinV.Mempool
