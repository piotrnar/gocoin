/-
  Proofs.C20Count — the accounting counters of the allocator equal the counted values:
  freeSlots[class] = Σ header.free over the class's pages, SharedMmaps = number of mapped shared pages,
  PrivateMmaps = number of private mappings, Bytes = pageSize · (shared pages) + Σ private mapping sizes
  (`Cnt`), preserved by every transition of Model/Alloc.lean.
-/
import GocoinV.Proofs.C20Inv
namespace GocoinV.Alloc
open GocoinV.Gen.MemClasses
variable {V : Type}

def KMap.total {κ : Type} [BEq κ] [Hashable κ] (m : KMap κ Nat) : Nat := (m.m.toList.map Prod.snd).sum

theorem KMap.total_empty {κ : Type} [BEq κ] [Hashable κ] : (KMap.empty : KMap κ Nat).total = 0 := by
  simp [KMap.total, KMap.empty]

theorem KMap.total_set_fresh {κ : Type} [BEq κ] [Hashable κ] [LawfulBEq κ] [LawfulHashable κ]
    (m : KMap κ Nat) (k : κ) (v : Nat) (h : m.get? k = none) : (m.set k v).total = m.total + v := by
  simp only [KMap.total, KMap.set]
  have p := Std.HashMap.toList_insert_perm (m := m.m) (k := k) (v := v)
  have hf : List.filter (fun x => decide ¬(k == x.fst) = true) m.m.toList = m.m.toList := by
    rw [List.filter_eq_self]
    intro a ha
    have : m.m[a.1]? = some a.2 := Std.HashMap.mem_toList_iff_getElem?_eq_some.1 ha
    simp only [decide_eq_true_eq]
    intro hk
    have hk' : k = a.1 := by simpa using hk
    rw [← hk'] at this
    simp only [KMap.get?] at h
    rw [h] at this; cases this
  rw [hf] at p
  rw [List.Perm.sum_nat (p.map Prod.snd)]
  simp only [List.map_cons, List.sum_cons]
  omega

theorem KMap.total_del {κ : Type} [BEq κ] [Hashable κ] [LawfulBEq κ] [LawfulHashable κ] [DecidableEq κ]
    (m : KMap κ Nat) (k : κ) (v : Nat) (h : m.get? k = some v) : (m.del k).total + v = m.total := by
  have e : ((m.del k).set k v).m.Equiv m.m := by
    apply Std.HashMap.Equiv.of_forall_getElem?_eq
    intro a
    have := KMap.get?_set (m.del k) k a v
    simp only [KMap.get?] at this h
    rw [this]
    split
    · next e => subst e; exact h.symm
    · next e =>
      have := KMap.get?_del m k a
      simp only [KMap.get?] at this
      rw [this, if_neg e]
  have hp := List.Perm.sum_nat (e.toList_perm.map Prod.snd)
  have hf := KMap.total_set_fresh (m.del k) k v (by rw [KMap.get?_del, if_pos rfl])
  simp only [KMap.total] at hf hp ⊢
  omega

theorem sum_map_congr {l : List Nat} {f f' : Nat → Int} (h : ∀ q, q ∈ l → f' q = f q) :
    (l.map f').sum = (l.map f).sum := by
  rw [List.map_congr_left h]

theorem sum_map_update {f f' : Nat → Int} {p : Nat} : ∀ {l : List Nat}, l.Nodup → p ∈ l →
    (∀ q, q ∈ l → q ≠ p → f' q = f q) → (l.map f').sum = (l.map f).sum + (f' p - f p) := by
  intro l
  induction l with
  | nil => intro _ hp; cases hp
  | cons x xs ih =>
    intro nd hp hf
    have ndc := List.nodup_cons.1 nd
    simp only [List.map_cons, List.sum_cons]
    by_cases e : x = p
    · subst e
      have : (xs.map f').sum = (xs.map f).sum :=
        sum_map_congr (fun q hq => hf q (List.mem_cons_of_mem _ hq) (by intro e; subst e; exact ndc.1 hq))
      omega
    · have hxs : p ∈ xs := List.mem_of_ne_of_mem (Ne.symm e) hp
      have := ih ndc.2 hxs (fun q hq hne => hf q (List.mem_cons_of_mem _ hq) hne)
      have hx := hf x (by simp) e
      omega

theorem sum_map_erase {f : Nat → Int} {p : Nat} : ∀ {l : List Nat}, p ∈ l →
    ((l.erase p).map f).sum = (l.map f).sum - f p := by
  intro l
  induction l with
  | nil => intro hp; cases hp
  | cons x xs ih =>
    intro hp
    by_cases e : x = p
    · subst e; simp only [List.erase_cons_head, List.map_cons, List.sum_cons]; omega
    · have hxs : p ∈ xs := List.mem_of_ne_of_mem (Ne.symm e) hp
      rw [List.erase_cons_tail (by simpa using e)]
      simp only [List.map_cons, List.sum_cons]
      have := ih hxs
      omega


def freeOf (s : State V) (p : Nat) : Int := match s.pages.get? p with | some h => (h.free : Int) | none => 0

theorem freeOf_eq {s s' : State V} {p : Nat} (h : s'.pages.get? p = s.pages.get? p) : freeOf s' p = freeOf s p := by
  simp only [freeOf, h]
theorem freeOf_some {s : State V} {p : Nat} {h : Page} (hp : s.pages.get? p = some h) : freeOf s p = h.free := by
  simp only [freeOf, hp]

structure Cnt (s : State V) : Prop where
  fs : ∀ c, ((s.K c).freeSlots : Int) = ((s.K c).plist.map (freeOf s)).sum
  sm : s.sharedMmaps = (s.pages.size : Int)
  pm : s.privMmaps = (s.privs.size : Int)
  byt : s.bytes = ((pageSize * s.pages.size + s.privs.total : Nat) : Int)

theorem init_cnt : Cnt (init : State V) := by
  refine ⟨?_, ?_, ?_, ?_⟩
  · intro c; simp [init, State.K]
  · simp [init]
  · simp [init]
  · simp [init, KMap.total_empty]

theorem Cnt.transfer {s s' : State V} (cn : Cnt s) (h1 : s'.pages = s.pages) (h2 : s'.cls = s.cls)
    (h3 : s'.privs = s.privs) (h4 : s'.bytes = s.bytes) (h5 : s'.sharedMmaps = s.sharedMmaps)
    (h6 : s'.privMmaps = s.privMmaps) : Cnt s' := by
  have hK : ∀ c, s'.K c = s.K c := by intro c; simp only [State.K, h2]
  refine ⟨?_, by rw [h5, h1]; exact cn.sm, by rw [h6, h3]; exact cn.pm, by rw [h4, h1, h3]; exact cn.byt⟩
  intro c; rw [hK, cn.fs c]; exact (sum_map_congr (fun q _ => freeOf_eq (by rw [h1]))).symm

theorem InvG.plist_facts {s : State V} (inv : InvG s) {p : Nat} {h : Page} (hp : s.pages.get? p = some h) :
    p ∈ (s.K h.cls).plist ∧ (s.K h.cls).plist.Nodup ∧
      ∀ c q, q ∈ (s.K c).plist → ∃ h0, s.pages.get? q = some h0 ∧ h0.cls = c :=
  ⟨(inv.pages p h hp).in_plist, (inv.classes h.cls).pl_nodup, fun c q hq => (inv.classes c).pl_pages q hq⟩

/-- one page's `free` and its class's `freeSlots` change by the same amount d; nothing else changes -/
theorem cnt_page_update {s s' : State V} (cn : Cnt s) {p : Nat} {h h' : Page}
    (pf : p ∈ (s.K h.cls).plist ∧ (s.K h.cls).plist.Nodup ∧
      ∀ c q, q ∈ (s.K c).plist → ∃ h0, s.pages.get? q = some h0 ∧ h0.cls = c)
    (hp : s.pages.get? p = some h)
    (hpages : ∀ q, s'.pages.get? q = if p = q then some h' else s.pages.get? q)
    (hsize : s'.pages.size = s.pages.size)
    (hpl : ∀ c', (s'.K c').plist = (s.K c').plist)
    (hfs : ∀ c', c' ≠ h.cls → (s'.K c').freeSlots = (s.K c').freeSlots)
    (d : Int) (hd : (h'.free : Int) = h.free + d)
    (hfs' : ((s'.K h.cls).freeSlots : Int) = (s.K h.cls).freeSlots + d)
    (h3 : s'.privs = s.privs) (h4 : s'.bytes = s.bytes) (h5 : s'.sharedMmaps = s.sharedMmaps)
    (h6 : s'.privMmaps = s.privMmaps) : Cnt s' := by
  obtain ⟨hin, hnd, hcls⟩ := pf
  have hf : ∀ q, q ≠ p → freeOf s' q = freeOf s q := by
    intro q hq; exact freeOf_eq (by rw [hpages, if_neg (fun e => hq e.symm)])
  have hfp : freeOf s' p - freeOf s p = d := by
    rw [freeOf_some hp, freeOf_some (by rw [hpages, if_pos rfl])]; omega
  refine ⟨?_, by rw [h5, hsize]; exact cn.sm, by rw [h6, h3]; exact cn.pm, by rw [h4, hsize, h3]; exact cn.byt⟩
  intro c
  rw [hpl]
  by_cases e : c = h.cls
  · subst e
    rw [hfs', cn.fs h.cls, sum_map_update hnd hin (fun q _ hq => hf q hq), hfp]
  · rw [hfs c e, cn.fs c]
    refine (sum_map_congr ?_).symm
    intro q hq
    refine hf q ?_
    intro e2; subst e2
    obtain ⟨h0, a, b⟩ := hcls c q hq
    rw [hp] at a; cases a; exact e b.symm

/-- the shape shared by taking, freeing and marking a slot: the header of page p and the record of its class are
    replaced, `free` and `freeSlots` move by the same amount d (slot memory and the pointer layer do not matter) -/
theorem cnt_slot_update {s : State V} (cn : Cnt s) {p : Nat} {h h' : Page} {k' : ClassSt}
    {mem' : KMap Addr (SlotMem V)} {hh : Heap}
    (pf : p ∈ (s.K h.cls).plist ∧ (s.K h.cls).plist.Nodup ∧
      ∀ c q, q ∈ (s.K c).plist → ∃ h0, s.pages.get? q = some h0 ∧ h0.cls = c)
    (hp : s.pages.get? p = some h) (d : Int) (hd : (h'.free : Int) = h.free + d)
    (hpl : k'.plist = (s.K h.cls).plist) (hfs : (k'.freeSlots : Int) = (s.K h.cls).freeSlots + d) :
    Cnt ({ s with pages := s.pages.set p h', cls := s.cls.set h.cls k', mem := mem', heap := hh } : State V) := by
  refine cnt_page_update cn pf hp (h' := h') (fun q => by simp only [KMap.get?_set]) ?_ ?_ ?_ d hd ?_
    rfl rfl rfl rfl
  · show (s.pages.set p h').size = _
    rw [KMap.size_set, hp]; rfl
  · exact fun c' => K_set_keep ClassSt.plist s h.cls c' k' hpl
  · intro c' hne
    show (((s.cls.set h.cls k').get? c').getD {}).freeSlots = _
    rw [K_set s _ h.cls c' k' rfl, if_neg (Ne.symm hne)]
  · show ((((s.cls.set h.cls k').get? h.cls).getD {}).freeSlots : Int) = _
    rw [K_set s _ h.cls h.cls k' rfl, if_pos rfl, hfs]

theorem sum_ge_mem {f : Nat → Int} {p : Nat} (hf : ∀ q, 0 ≤ f q) : ∀ {l : List Nat}, p ∈ l → f p ≤ (l.map f).sum := by
  intro l
  induction l with
  | nil => intro hp; cases hp
  | cons x xs ih =>
    intro hp
    simp only [List.map_cons, List.sum_cons]
    have hnn : 0 ≤ (xs.map f).sum := by
      clear ih hp
      induction xs with
      | nil => simp
      | cons y ys ih2 => simp only [List.map_cons, List.sum_cons]; have := hf y; omega
    rcases List.mem_cons.1 hp with e | e
    · subst e; omega
    · have := ih e; have := hf x; omega

theorem freeOf_nonneg (s : State V) (q : Nat) : 0 ≤ freeOf s q := by
  simp only [freeOf]; split <;> omega

theorem freeSlots_ge {s : State V} (inv : InvG s) (cn : Cnt s) {p : Nat} {h : Page}
    (hp : s.pages.get? p = some h) : (h.free : Int) ≤ (s.K h.cls).freeSlots := by
  rw [cn.fs, ← freeOf_some hp]
  exact sum_ge_mem (freeOf_nonneg s) (inv.pages p h hp).in_plist

theorem newPage_cnt {s : State V} (inv : InvG s) (cn : Cnt s) (c : Nat) : Cnt (newPage s c) := by
  have fresh := inv.next_fresh
  have hsz : (newPage s c).pages.size = s.pages.size + 1 := by
    show (s.pages.set s.nextPage _).size = _
    rw [KMap.size_set, fresh]; rfl
  have hf : ∀ q, q ≠ s.nextPage → freeOf (newPage s c) q = freeOf s q := by
    intro q hq; exact freeOf_eq (by rw [newPage_pages, if_neg (fun e => hq e.symm)])
  refine ⟨?_, ?_, cn.pm, ?_⟩
  · intro c'
    rw [newPage_K]
    split
    · next e =>
      subst e
      simp only [List.map_append, List.map_cons, List.map_nil, List.sum_append, List.sum_cons, List.sum_nil]
      rw [sum_map_congr (fun q hq => hf q (inv.plist_ne_next hq))]
      have : freeOf (newPage s c) s.nextPage = capOf c := by
        rw [freeOf_some (h := { cls := c, free := capOf c }) (by rw [newPage_pages, if_pos rfl])]
      have := cn.fs c
      omega
    · rw [cn.fs c']
      exact (sum_map_congr (fun q hq => hf q (inv.plist_ne_next hq))).symm
  · show s.sharedMmaps + 1 = _
    rw [hsz, cn.sm]; omega
  · show s.bytes + pageSize = _
    rw [hsz, cn.byt, Nat.mul_add]
    show _ = ((pageSize * s.pages.size + pageSize * 1 + s.privs.total : Nat) : Int)
    omega

theorem allocSlot_cnt {s s' : State V} (inv : InvG s) (cn : Cnt s) {c p i : Nat}
    (hr : allocSlot s c = .ok (s', p, i)) : Cnt s' := by
  have common : ∀ (h h' : Page) (k' : ClassSt) (mem' : KMap Addr (SlotMem V)) (hh : Heap),
      s.pages.get? p = some h → h.cls = c → 1 ≤ h.free → h'.free = h.free - 1 →
      k'.plist = (s.K c).plist → k'.freeSlots = (s.K c).freeSlots - 1 →
      Cnt ({ s with pages := s.pages.set p h', cls := s.cls.set c k', mem := mem', heap := hh } : State V) := by
    intro h h' k' mem' hh hp hcl hfree hf' hpl hfs
    have hge := freeSlots_ge inv cn hp
    subst hcl
    exact cnt_slot_update cn (inv.plist_facts hp) hp (-1) (by rw [hf']; omega) hpl (by rw [hfs]; omega)
  obtain ⟨h, hp, ⟨hcur, rfl, rfl⟩ | ⟨rest, _, hgl, rfl⟩⟩ := allocSlot_ok hr
  · obtain ⟨h0, a, hcl, hev, hb⟩ := (inv.classes c).cur_ok p hcur
    rw [hp] at a; cases a
    have ne := (inv.pages p h hp).ne hev
    exact common h _ _ s.mem s.heap hp hcl (by rw [hcl] at ne; omega) rfl rfl rfl
  · have hm : (p, i) ∈ (s.K c).glist := by rw [hgl]; simp
    obtain ⟨h0, a, hcl, hev, hi⟩ := ((inv.classes c).gl_iff p i).1 hm
    rw [hp] at a; cases a
    have okp := inv.pages p h hp
    have ne := okp.ne hev
    have hlen : 0 < h.freeList.length := List.length_pos_of_mem hi
    have := okp.brk_le
    exact common h _ _ _ _ hp hcl (by omega) rfl rfl rfl

theorem allocLive_cnt {s s' : State V} {c size cap : Nat} {val : Option V} {a : Addr}
    (inv : InvG s) (cn : Cnt s) (hc : c < nClasses)
    (hr : allocLive s c size cap val = .ok (s', a)) : Cnt s' := by
  unfold allocLive at hr
  simp only [] at hr
  generalize hs1 : (if (s.K c).glist.isEmpty && (s.K c).cur.isNone then newPage s c else s) = s1 at hr
  have inv1 : InvG s1 ∧ Cnt s1 := by
    subst hs1; split
    · exact ⟨newPage_invG inv hc, newPage_cnt inv cn c⟩
    · exact ⟨inv, cn⟩
  cases ha : allocSlot s1 c with
  | error e => simp [ha] at hr
  | ok t =>
    obtain ⟨s2, p, i⟩ := t
    simp only [ha] at hr
    cases hr
    exact (allocSlot_cnt inv1.1 inv1.2 ha).transfer rfl rfl rfl rfl rfl rfl


theorem malloc_cnt {s s' : State V} {size : Nat} {a : Addr} (inv : InvG s) (cn : Cnt s)
    (hr : malloc s size = .ok (s', a)) : Cnt s' := by
  unfold malloc at hr
  simp only [] at hr
  split at hr
  · cases hr
    have fresh : s.privs.get? s.nextPage = none :=
      Option.eq_none_iff_forall_ne_some.2 fun sz hq => by have := (inv.privs _ sz hq).1; omega
    refine ⟨cn.fs, cn.sm, ?_, ?_⟩
    · show s.privMmaps + 1 = ((s.privs.set s.nextPage _).size : Int)
      rw [KMap.size_set, fresh, cn.pm]; simp
    · show s.bytes + _ = ((pageSize * s.pages.size + (s.privs.set s.nextPage _).total : Nat) : Int)
      rw [KMap.total_set_fresh _ _ _ fresh, cn.byt]; omega
  · next hsm =>
    obtain ⟨hc, _⟩ := classOf_spec (size + sliceHdrLen) (by omega)
    have inv0 : InvG ({ s with allocs := s.allocs + 1 } : State V) :=
      inv.frame rfl rfl rfl rfl rfl rfl
    exact allocLive_cnt inv0 (cn.transfer rfl rfl rfl rfl rfl rfl) hc hr

/-- classFree on slot i of page p, for any header h0 passed in that agrees with the mapped one in class and `free`
    (moveNext passes the header with `scan` advanced) -/
theorem freeSlot_cnt {s : State V} (cn : Cnt s) {p i : Nat} {h h0 : Page}
    (pf : p ∈ (s.K h.cls).plist ∧ (s.K h.cls).plist.Nodup ∧
      ∀ c q, q ∈ (s.K c).plist → ∃ h0, s.pages.get? q = some h0 ∧ h0.cls = c)
    (hp : s.pages.get? p = some h) (e1 : h0.cls = h.cls) (e2 : h0.free = h.free) : Cnt (freeSlot s p i h0) := by
  unfold freeSlot
  simp only [e1]
  split <;> exact cnt_slot_update cn pf hp 1 (by simp [e2]) rfl (by simp)

theorem free_cnt {s s' : State V} {a : Addr} (inv : InvG s) (cn : Cnt s) (hr : free s a = .ok s') : Cnt s' := by
  obtain ⟨hl, m, hm, ⟨id, rfl, _, rfl⟩ | ⟨p, i, h, rfl, hp, _, rfl⟩⟩ := free_ok hr
  · obtain ⟨l, hq⟩ := Option.isSome_iff_exists.mp hl
    obtain ⟨m', hm', _, _, _, _, sz, g1, g2, _⟩ := inv.live _ l hq
    rw [hm] at hm'; cases hm'
    have hpos := KMap.size_pos s.privs id (by rw [g1]; rfl)
    refine ⟨cn.fs, cn.sm, ?_, ?_⟩
    · show s.privMmaps - 1 = ((s.privs.del id).size : Int)
      rw [KMap.size_del, g1, cn.pm]; simp; omega
    · show s.bytes - _ = ((pageSize * s.pages.size + (s.privs.del id).total : Nat) : Int)
      have := KMap.total_del s.privs id sz g1
      rw [cn.byt]; omega
  · have invg0 : InvG ({ s with allocs := s.allocs - 1 } : State V) := inv.frame rfl rfl rfl rfl rfl rfl
    have c1 := freeSlot_cnt (i := i) (cn.transfer rfl rfl rfl rfl rfl rfl) (invg0.plist_facts hp) hp rfl rfl
    refine c1.transfer ?_ ?_ ?_ ?_ ?_ ?_ <;> (simp only [freeSlot]; split <;> rfl)

theorem write_cnt {s s' : State V} {a : Addr} {v : V} (cn : Cnt s) (hr : write s a v = .ok s') : Cnt s' := by
  unfold write at hr
  split at hr
  · cases hr; exact cn.transfer rfl rfl rfl rfl rfl rfl
  · cases hr

theorem beginEvac_cnt {s s' : State V} {c pg : Nat} (inv : InvG s) (cn : Cnt s)
    (hr : beginEvac s c pg = .ok s') : Cnt s' := by
  obtain ⟨h, hp, hcl, hev, rfl⟩ := beginEvac_ok hr
  subst hcl
  exact cnt_slot_update cn (inv.plist_facts hp) hp 0 (by simp) rfl (by simp)

theorem moveNext_cnt {s s' : State V} {c pg : Nat} (inv : InvG s) (cn : Cnt s) (hc : c < nClasses)
    (hcls : ∀ h, s.pages.get? pg = some h → h.evac = true → h.cls = c)
    (hr : moveNext s c pg = .ok s') : Cnt s' := by
  obtain ⟨h, hp, hev, hsc⟩ := moveNext_guard hr
  obtain ⟨_, e, hcase⟩ := moveNext_total inv hc hp hev (hcls h hp hev) hsc
  rw [hr] at e; cases e
  rcases hcase with ⟨_, rfl⟩ | ⟨_, m, l, s1, new, _, _, _, _, _, _, ha, A, hp1, rfl⟩
  · refine cnt_page_update cn (inv.plist_facts hp) hp (h' := { h with scan := h.scan + 1 })
      (fun q => by simp only [KMap.get?_set]) ?_ (fun _ => rfl) (fun _ _ => rfl) 0 (by simp)
      (by show ((s.K h.cls).freeSlots : Int) = _; simp) rfl rfl rfl rfl
    show (s.pages.set pg _).size = _
    rw [KMap.size_set, hp]; rfl
  · have c1 := allocLive_cnt inv cn hc ha
    -- s2 = s1 with live / relog changed; then classFree on the evacuating page
    have c2 : Cnt ({ s1 with live := (s1.live.del (Addr.sh pg h.scan)).set new ⟨l.size, l.val⟩,
                             relog := (Addr.sh pg h.scan, new) :: s1.relog } : State V) :=
      c1.transfer rfl rfl rfl rfl rfl rfl
    exact freeSlot_cnt c2 (A.inv.plist_facts hp1) hp1 rfl rfl

theorem endEvac_cnt {s s' : State V} {c pg : Nat} (inv : InvG s) (cn : Cnt s)
    (hr : endEvac s c pg = .ok s') : Cnt s' := by
  obtain ⟨h, hp, _, _, hcl, hs⟩ := endEvac_ok hr
  replace hs := hs.symm
  have e1 : ∀ q, s'.pages.get? q = if pg = q then none else s.pages.get? q := by
    intro q; rw [← hs]; exact KMap.get?_del _ _ _
  have e2 : s'.pages.size = s.pages.size - 1 := by
    rw [← hs]; show (s.pages.del pg).size = _; rw [KMap.size_del, hp]; rfl
  have e3 : ∀ c', s'.K c' = if c = c' then
      { s.K c with plist := (s.K c).plist.erase pg, pageCount := (s.K c).pageCount - 1,
                   freeSlots := (s.K c).freeSlots - h.free,
                   cur := if (s.K c).cur = some pg then none else (s.K c).cur } else s.K c' := by
    intro c'; rw [← hs]; simp only [State.K, KMap.get?_set]; split <;> rfl
  have e4 : s'.privs = s.privs := by rw [← hs]
  have e5 : s'.bytes = s.bytes - pageSize := by rw [← hs]
  have e6 : s'.sharedMmaps = s.sharedMmaps - 1 := by rw [← hs]
  have e7 : s'.privMmaps = s.privMmaps := by rw [← hs]
  clear hs hr
  have hin : pg ∈ (s.K c).plist := by rw [← hcl]; exact (inv.pages pg h hp).in_plist
  have hpos := KMap.size_pos s.pages pg (by rw [hp]; rfl)
  have hge := freeSlots_ge inv cn hp
  rw [hcl] at hge
  have hf : ∀ q, q ≠ pg → freeOf s' q = freeOf s q := by
    intro q hq; exact freeOf_eq (by rw [e1, if_neg (fun e => hq e.symm)])
  refine ⟨?_, ?_, by rw [e7, e4]; exact cn.pm, ?_⟩
  · intro c'
    rw [e3]
    split
    · next e =>
      subst e
      show (((s.K c).freeSlots - h.free : Nat) : Int) = (((s.K c).plist.erase pg).map (freeOf s')).sum
      have ndp := (inv.classes c).pl_nodup
      rw [sum_map_congr (l := (s.K c).plist.erase pg) (f := freeOf s) (f' := freeOf s')
        (fun q hq => hf q (by intro e; subst e; exact (List.Nodup.mem_erase_iff ndp).1 hq |>.1 rfl)),
        sum_map_erase hin, ← cn.fs c, freeOf_some hp]
      omega
    · next e =>
      rw [cn.fs c']
      refine (sum_map_congr ?_).symm
      intro q hq
      refine hf q ?_
      intro e2; subst e2
      obtain ⟨h0, a, b⟩ := (inv.classes c').pl_pages q hq
      rw [hp] at a; cases a; exact e (hcl.symm.trans b)
  · rw [e6, e2, cn.sm]; omega
  · rw [e5, e2, e4, cn.byt, Nat.mul_sub_one]
    have := Nat.le_mul_of_pos_right pageSize hpos
    omega


theorem defragAll_cnt {s s' : State V} {ch : List (Nat × List Nat)} (inv : Inv s) (cn : Cnt s)
    (hr : defragAll s ch = .ok s') : Cnt s' :=
  (defragAll_ind (fun hc it ct ht => (defragClass_ind hc (fun _ h => h) (fun d ct ht => beginEvac_cnt d.g ct ht)
    (fun {_ _ pg _} d ct ht => moveNext_cnt d.g ct hc (d.cls pg) ht)
    (fun d ct ht => endEvac_cnt d.g ct ht) it ct ht).2) inv (cn.transfer rfl rfl rfl rfl rfl rfl) hr).2

theorem step_cnt {s s' : State V} {op : Op V} (inv : Inv s) (cn : Cnt s) (hr : step s op = .ok s') : Cnt s' := by
  cases op with
  | malloc size => obtain ⟨a, hm⟩ := step_malloc_ok hr; exact malloc_cnt inv.g cn hm
  | free a => exact free_cnt inv.g cn hr
  | write a v => exact write_cnt cn hr
  | defrag ch => exact defragAll_cnt inv cn hr

end GocoinV.Alloc
