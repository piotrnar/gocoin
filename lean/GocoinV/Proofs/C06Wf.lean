/-
  Proofs.C06Wf — preservation of the tree invariant `TreeWF` by the operations of the chain model that change the
  tree or the block store: AcceptHeader (`TreeWF_header`: a new header-only leaf), the block of a known header
  (`TreeWF_filled`), marking a stored block trusted (`TreeWF_same`). A delivered block is the first followed by the second.
  (DeleteBranch: Proofs/C06Delete.)
-/
import GocoinV.Proofs.C06Tree
namespace GocoinV.ChainTree
open GocoinV.UtxoOps

theorem alookup_aset_eq {β} (k j : Nat) (v : β) (l : List (Nat × β)) :
    alookup j (aset k v l) = if k = j then some v else alookup j l := by
  rw [alookup_eq, aset_eq, Assoc.lookup_insert, alookup_eq]

theorem alookup_filter_eq {β} (q : Nat → Bool) (k : Nat) (l : List (Nat × β)) :
    alookup k (l.filter (fun s => q s.1)) = if q k then alookup k l else none := by
  rw [alookup_eq, alookup_eq]; exact Assoc.lookup_filter q l k

theorem HasData.congr {c c' : Chain} {x : Nat} {n n' : Node} (hr : c'.root = c.root) (htx : n'.txCount = n.txCount) :
    HasData c' x n' ↔ HasData c x n := by
  unfold HasData; rw [hr, htx]

/-- `TreeWF` only looks at the tree as a function, the root, and the transactions of the stored blocks -/
theorem TreeWF_same {U : List Block} {c c' : Chain} (w : TreeWF U c) (hr : c'.root = c.root)
    (hg : ∀ x, getNode c' x = getNode c x)
    (hs : ∀ k, (alookup k c'.store).map (·.txs) = (alookup k c.store).map (·.txs)) : TreeWF U c' := by
  have hg' : getNode c' = getNode c := funext hg
  refine ⟨?_, ?_, ?_, ?_, ?_, ?_, ?_⟩
  · rw [hr, hg']; exact w.root
  · rw [hr, hg']; exact w.par
  · rw [hr, hg']; exact w.childs
  · rw [hr, hg']
    intro x n hn hx
    obtain ⟨b, hb, h1, h2, h3, hd⟩ := w.blk x n hn hx
    refine ⟨b, hb, h1, h2, h3, fun htc => ?_⟩
    obtain ⟨h4, s0, h5, h6⟩ := hd htc
    have := hs x
    rw [h5] at this
    obtain ⟨s, h7, h8⟩ := Option.map_eq_some_iff.mp this
    exact ⟨h4, s, h7, h8.trans h6⟩
  · intro x n hn h0
    rw [hg] at hn
    have := hs x
    rw [w.hdr x n hn h0] at this
    exact Option.map_eq_none_iff.mp this
  · unfold HasData; rw [hr, hg']; exact w.anc
  · intro k s h
    have := hs k
    rw [h] at this
    obtain ⟨s0, h0, _⟩ := Option.map_eq_some_iff.mp this.symm
    rw [hr, hg]; exact w.store k s0 h0

theorem TreeWF.ne_root {U : List Block} {c : Chain} (w : TreeWF U c) {x : Nat} (h : getNode c x = none) : x ≠ c.root := by
  intro e
  obtain ⟨r, h1, _⟩ := w.root
  rw [← e, h] at h1; cases h1

/-- the `store` field for a stored block whose node is kept -/
theorem TreeWF.store_kept {U : List Block} {c c' : Chain} (w : TreeWF U c) (hr : c'.root = c.root) {k : Nat} {s0 : Stored}
    (h0 : alookup k c.store = some s0) (hnode : ∀ n, getNode c k = some n → (getNode c' k).isSome = true) :
    k ≠ c'.root ∧ (getNode c' k).isSome = true := by
  obtain ⟨h1, h2⟩ := w.store k s0 h0
  obtain ⟨n, h3⟩ := Option.isSome_iff_exists.mp h2
  exact ⟨by rw [hr]; exact h1, hnode n h3⟩

/-- **a header alone enters the tree** (AcceptHeader for a header without data): if `b ∈ U` is new, its parent `p` is in the
    tree, and `c'` shows the tree of `c` with the new leaf `nb` (`txCount = 0`) under `p` and the same block store, then `c'`
    is well-formed. -/
theorem TreeWF_header {U : List Block} {c c' : Chain} (w : TreeWF U c) (b : Block) (hbU : b ∈ U) (p nb : Node)
    (hnew : getNode c b.id = none) (hp : getNode c b.parent = some p)
    (hnb : nb.parent = b.parent ∧ nb.height = p.height + 1 ∧ nb.bits = b.bits ∧ nb.txCount = 0 ∧ nb.childs = [])
    (hr : c'.root = c.root)
    (hg : ∀ x, getNode c' x = if x = b.id then some nb else if x = b.parent then some { p with childs := p.childs ++ [b.id] }
      else getNode c x)
    (hs : c'.store = c.store) : TreeWF U c' := by
  obtain ⟨hnb1, hnb2, hnb3, hnb4, hnb5⟩ := hnb
  have hnsC : alookup b.id c.store = none := Option.eq_none_iff_forall_ne_some.mpr fun s0 hh => by
    have := (w.store _ _ hh).2; rw [hnew] at this; cases this
  have inC : ∀ {x n}, getNode c x = some n → x ≠ b.id := by
    intro x n h e; rw [e, hnew] at h; cases h
  have old : ∀ x n, getNode c x = some n →
      getNode c' x = some { n with childs := if x = b.parent then n.childs ++ [b.id] else n.childs } := by
    intro x n h
    rw [hg, if_neg (inC h)]
    by_cases hx : x = b.parent
    · rw [hx, hp] at h; cases h
      rw [if_pos hx, if_pos hx]
    · rw [if_neg hx, if_neg hx]; exact h
  have back : ∀ x n', getNode c' x = some n' → x ≠ b.id → ∃ n, getNode c x = some n ∧
      n' = { n with childs := if x = b.parent then n.childs ++ [b.id] else n.childs } := by
    intro x n' h hx
    by_cases hxp : x = b.parent
    · exact ⟨p, hxp ▸ hp, Option.some.inj ((old x p (hxp ▸ hp)).symm.trans h).symm⟩
    · rw [hg, if_neg hx, if_neg hxp] at h; exact ⟨n', h, by rw [if_neg hxp]⟩
  have hgb : getNode c' b.id = some nb := by rw [hg, if_pos rfl]
  refine ⟨?_, ?_, ?_, ?_, ?_, ?_, ?_⟩
  · obtain ⟨r, h1, h2⟩ := w.root
    rw [hr]; exact ⟨_, old _ _ h1, h2⟩
  · intro x n' hn hx
    rw [hr] at hx
    by_cases hxb : x = b.id
    · rw [hxb, hgb] at hn; cases hn
      rw [hnb1, hnb2]
      exact ⟨_, old _ _ hp, rfl, by rw [if_pos rfl]; exact List.mem_append_right _ (List.mem_singleton.mpr hxb)⟩
    · obtain ⟨n, h1, rfl⟩ := back x n' hn hxb
      obtain ⟨q, h2, h3, h4⟩ := w.par x n h1 hx
      refine ⟨_, old _ _ h2, h3, ?_⟩
      dsimp only; split
      · exact List.mem_append_left _ h4
      · exact h4
  · intro y q' hq x hx
    by_cases hyb : y = b.id
    · rw [hyb, hgb] at hq; cases hq
      rw [hnb5] at hx; cases hx
    · obtain ⟨q, h1, rfl⟩ := back y q' hq hyb
      have : x ∈ q.childs ∨ y = b.parent ∧ x = b.id := by
        dsimp only at hx; split at hx
        · exact (List.mem_append.mp hx).imp_right fun h => ⟨‹_›, List.mem_singleton.mp h⟩
        · exact Or.inl hx
      rcases this with h2 | ⟨hyp, h2⟩
      · obtain ⟨h3, n, h4, h5⟩ := w.childs y q h1 x h2
        exact ⟨by rw [hr]; exact h3, _, old _ _ h4, h5⟩
      · exact ⟨by rw [hr, h2]; exact w.ne_root hnew, nb, by rw [h2]; exact hgb, by rw [hnb1, hyp]⟩
  · intro x n' hn hx
    rw [hr] at hx
    by_cases hxb : x = b.id
    · rw [hxb, hgb] at hn; cases hn
      exact ⟨b, hbU, hxb.symm, hnb1.symm, hnb3.symm, fun htc => absurd hnb4 htc⟩
    · obtain ⟨n, h1, rfl⟩ := back x n' hn hxb
      rw [hs]; exact w.blk x n h1 hx
  · intro x n' hn h0
    rw [hs]
    by_cases hxb : x = b.id
    · rw [hxb]; exact hnsC
    · obtain ⟨n, h1, rfl⟩ := back x n' hn hxb
      exact w.hdr x n h1 h0
  · intro x n' hn hx htc
    rw [hr] at hx
    by_cases hxb : x = b.id
    · rw [hxb, hgb] at hn; cases hn
      exact absurd hnb4 htc
    · obtain ⟨n, h1, rfl⟩ := back x n' hn hxb
      obtain ⟨q, h2, h3⟩ := w.anc x n h1 hx htc
      exact ⟨_, old _ _ h2, (HasData.congr hr rfl).mpr h3⟩
  · intro k s h
    rw [hs] at h
    exact w.store_kept hr h fun n h3 => by rw [old _ _ h3]; rfl


/-- **the block of a known header arrives** (`cur.TxCount = …` + the block-store bookkeeping of CommitBlock on an
    existing node): `n` is the node of `b` and its parent has its data; `c'` shows the same tree with the transaction
    count of `n` set and the block put into the store. -/
theorem TreeWF_filled {U : List Block} {c c' : Chain} (w : TreeWF U c) (hU : BlockTree c.root U) (b : Block) (hbU : b ∈ U)
    (n : Node) (hn : getNode c b.id = some n) (hbr : b.id ≠ c.root)
    (hpd : ∃ p, getNode c n.parent = some p ∧ HasData c n.parent p)
    (hr : c'.root = c.root)
    (hg : ∀ x, getNode c' x = if x = b.id then some { n with txCount := b.txs.length } else getNode c x)
    (tr : Bool) (hst : c'.store = aset b.id { txs := b.txs, trusted := tr } c.store) : TreeWF U c' := by
  have hs : ∀ k, (alookup k c'.store).map (·.txs) = if k = b.id then some b.txs else (alookup k c.store).map (·.txs) :=
    fun k => by
      rw [hst, alookup_aset_eq]
      by_cases hk : b.id = k
      · subst hk; simp
      · simp [hk, Ne.symm hk]
  have hlen : b.txs.length ≠ 0 := fun h0 => hU.txs b hbU (List.eq_nil_of_length_eq_zero h0)
  have old : ∀ x m, getNode c x = some m →
      getNode c' x = some { m with txCount := if x = b.id then b.txs.length else m.txCount } := by
    intro x m h
    rw [hg]
    by_cases hx : x = b.id
    · rw [hx, hn] at h; cases h
      rw [if_pos hx, if_pos hx]
    · rw [if_neg hx, if_neg hx]; exact h
  have back : ∀ x m', getNode c' x = some m' → ∃ m, getNode c x = some m ∧
      m' = { m with txCount := if x = b.id then b.txs.length else m.txCount } := by
    intro x m' h
    by_cases hx : x = b.id
    · exact ⟨n, hx ▸ hn, Option.some.inj ((old x n (hx ▸ hn)).symm.trans h).symm⟩
    · rw [hg, if_neg hx] at h; exact ⟨m', h, by rw [if_neg hx]⟩
  refine ⟨?_, ?_, ?_, ?_, ?_, ?_, ?_⟩
  · obtain ⟨r, h1, h2⟩ := w.root
    rw [hr]; exact ⟨_, old _ _ h1, h2⟩
  · intro x m' hm hx
    rw [hr] at hx
    obtain ⟨m, h1, rfl⟩ := back x m' hm
    obtain ⟨q, h2, h3⟩ := w.par x m h1 hx
    exact ⟨_, old _ _ h2, h3⟩
  · intro y q' hq x hx
    obtain ⟨q, h1, rfl⟩ := back y q' hq
    obtain ⟨h3, m, h4, h5⟩ := w.childs y q h1 x hx
    exact ⟨by rw [hr]; exact h3, _, old _ _ h4, h5⟩
  · intro x m' hm hx
    rw [hr] at hx
    obtain ⟨m, h1, rfl⟩ := back x m' hm
    obtain ⟨b0, hb0, g1, g2, g3, gd⟩ := w.blk x m h1 hx
    refine ⟨b0, hb0, g1, g2, g3, ?_⟩
    have := hs x
    by_cases hxb : x = b.id
    · have hbb : b0 = b := hU.ids b0 hb0 b hbU (g1.trans hxb)
      subst hbb
      rw [if_pos hxb] at this
      exact fun _ => ⟨if_pos hxb, Option.map_eq_some_iff.mp this⟩
    · intro htc
      rw [if_neg hxb] at htc
      obtain ⟨g4, s0, g5, g6⟩ := gd htc
      rw [if_neg hxb, g5] at this
      obtain ⟨s, g7, g8⟩ := Option.map_eq_some_iff.mp this
      exact ⟨(if_neg hxb).trans g4, s, g7, g8.trans g6⟩
  · intro x m' hm h0
    obtain ⟨m, h1, rfl⟩ := back x m' hm
    by_cases hxb : x = b.id
    · exact absurd ((if_pos hxb).symm.trans h0) hlen
    · have := hs x
      rw [if_neg hxb, w.hdr x m h1 ((if_neg hxb).symm.trans h0)] at this
      exact Option.map_eq_none_iff.mp this
  · intro x m' hm hx htc
    rw [hr] at hx
    obtain ⟨m, h1, rfl⟩ := back x m' hm
    have hpar : ∃ q, getNode c m.parent = some q ∧ HasData c m.parent q := by
      by_cases hxb : x = b.id
      · rw [hxb, hn] at h1; cases h1; exact hpd
      · exact w.anc x m h1 hx (by rw [if_neg hxb] at htc; exact htc)
    obtain ⟨q, h2, h3⟩ := hpar
    refine ⟨_, old _ _ h2, ?_⟩
    unfold HasData at h3 ⊢
    rw [hr]
    refine h3.imp id fun g7 => ?_
    dsimp only
    split
    · exact hlen
    · exact g7
  · intro k s h
    by_cases hkb : k = b.id
    · rw [hkb, hr]; exact ⟨hbr, by rw [old _ _ hn]; rfl⟩
    · have := hs k
      rw [if_neg hkb, h] at this
      obtain ⟨s0, h0, _⟩ := Option.map_eq_some_iff.mp this.symm
      exact w.store_kept hr h0 fun m h3 => by rw [old _ _ h3]; rfl

end GocoinV.ChainTree
