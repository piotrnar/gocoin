/-
  Proofs.C01Cond — the condition stack: gocoin's `exestack` (a stack of pushed Booleans, all-true test by scanning)
  against Core's `ConditionStack` (size + position of the first false), the form the spec uses.
  `condOf exe` is the counter form of the vector `exe` (head = top).
-/
import GocoinV.Model.ScriptVerify
import GocoinV.Spec.Script
namespace GocoinV.Proofs.C01
open GocoinV GocoinV.Script GocoinV.ScriptSpec

/-- Core's counter form of a vector of pushed conditions (head = top of the stack) -/
def condOf : List Bool → Cond
  | [] => {}
  | b :: r => (condOf r).push b

theorem condOf_inv (l : List Bool) :
    (condOf l).size = l.length ∧
    (match (condOf l).firstFalse with
     | none => l.all id = true
     | some p => p < l.length ∧ l.all id = false) := by
  induction l with
  | nil => simp [condOf]
  | cons b r ih =>
    obtain ⟨hs, hf⟩ := ih
    refine ⟨by simp [condOf, Cond.push, hs], ?_⟩
    simp only [condOf, Cond.push]
    cases hff : (condOf r).firstFalse with
    | none =>
      rw [hff] at hf
      cases b <;> simp_all
    | some p =>
      rw [hff] at hf
      simp only [Option.isNone_some, Bool.false_and, Bool.false_eq_true, ↓reduceIte, List.length_cons, List.all_cons]
      exact ⟨by omega, by simp [hf.2]⟩

theorem condOf_size (l : List Bool) : (condOf l).size = l.length := (condOf_inv l).1

theorem condOf_allTrue (l : List Bool) : (condOf l).allTrue = l.all id := by
  have := (condOf_inv l).2
  unfold Cond.allTrue
  cases h : (condOf l).firstFalse with
  | none => rw [h] at this; simp [this]
  | some p => rw [h] at this; simp [this.2]

theorem condOf_empty (l : List Bool) : (condOf l).empty = l.isEmpty := by
  unfold Cond.empty
  rw [condOf_size]
  cases l <;> simp

theorem condOf_pop (b : Bool) (r : List Bool) : (condOf (b :: r)).pop = condOf r := by
  obtain ⟨hs, hf⟩ := condOf_inv r
  simp only [condOf, Cond.push, Cond.pop, hs]
  generalize condOf r = cr at hs hf
  obtain ⟨sz, ff⟩ := cr
  subst hs
  cases ff with
  | none => cases b <;> simp
  | some p =>
    have hne : ¬ p = r.length := by simp at hf; omega
    simp [hne]

theorem condOf_toggle (b : Bool) (r : List Bool) : (condOf (b :: r)).toggleTop = condOf ((!b) :: r) := by
  obtain ⟨hs, hf⟩ := condOf_inv r
  simp only [condOf, Cond.push, Cond.toggleTop, hs]
  cases hff : (condOf r).firstFalse with
  | none => cases b <;> simp
  | some p =>
    rw [hff] at hf
    have hne : ¬ p = r.length := by omega
    simp [hne]

end GocoinV.Proofs.C01
