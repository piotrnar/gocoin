/-
  Proofs.C12Real — the hypotheses `Univ` / `Univ2` of the all-histories theorems of Props/C12 are satisfiable for the
  keys the oracle executes (`realKeys`: BIDX = bytes 0..7 of the txid, UIdx = bytes 24..31 xor the low 32 bits of the
  output index): sufficient conditions on a universe `W` stated on the txids (`realKeys_collision_free`), used by the
  non-vacuity instances over 256-bit txids in Proofs/C12Example2.lean.  Core Lean only.

  `Univ2.uidx_play` ranges over the output indexes in play (`VPlay`), not over ALL output indexes: the latter `realKeys`
  cannot satisfy (`uidx a 0 = uidx a 2^32`, `realKeys_not_injective_on_all_indexes` below), and the central theorems
  would be vacuous for the executed instance.
-/
import GocoinV.Proofs.C12Univ
namespace GocoinV.Mempool

/-- bytes 28..31 of a txid: the half of the UIdx word that the output index cannot reach -/
def hi32 (a : TxId) : Nat := (a / 2 ^ 224) % 2 ^ 32

theorem xor_cancel_left (x v w : Nat) (h : x ^^^ v = x ^^^ w) : v = w := by
  have : x ^^^ (x ^^^ v) = x ^^^ (x ^^^ w) := by rw [h]
  rwa [← Nat.xor_assoc, ← Nat.xor_assoc, Nat.xor_self, Nat.zero_xor, Nat.zero_xor] at this

theorem xor_low_div (x v : Nat) (hv : v < 2 ^ 32) : (x ^^^ v) / 2 ^ 32 = x / 2 ^ 32 := by
  rw [Nat.xor_div_two_pow, Nat.div_eq_of_lt hv, Nat.xor_zero]

theorem word_hi (a : TxId) : ((a / 2 ^ 192) % 2 ^ 64) / 2 ^ 32 = hi32 a := by
  unfold hi32
  have e1 : (2 : Nat) ^ 64 = 2 ^ 32 * 2 ^ 32 := by rw [← Nat.pow_add]
  have e2 : (2 : Nat) ^ 224 = 2 ^ 192 * 2 ^ 32 := by rw [← Nat.pow_add]
  rw [e1, Nat.mod_mul_right_div_self, e2, Nat.div_div_eq_div_mul]

/-- equal UIdx of two (txid, index) pairs whatever the indexes are: bytes 28..31 of the txids agree -/
theorem realKeys_uidx_hi (a b : TxId) (v w : Nat) (h : realKeys.uidx a v = realKeys.uidx b w) : hi32 a = hi32 b := by
  have h' : ((a / 2 ^ 192) % 2 ^ 64) ^^^ (v % 2 ^ 32) = ((b / 2 ^ 192) % 2 ^ 64) ^^^ (w % 2 ^ 32) := h
  have : _ / 2 ^ 32 = _ / 2 ^ 32 := congrArg (· / 2 ^ 32) h'
  rwa [xor_low_div _ _ (Nat.mod_lt _ (Nat.two_pow_pos 32)), xor_low_div _ _ (Nat.mod_lt _ (Nat.two_pow_pos 32)),
    word_hi, word_hi] at this

/-- … and for the same txid the low 32 bits of the indexes agree -/
theorem realKeys_uidx_same (a : TxId) (v w : Nat) (h : realKeys.uidx a v = realKeys.uidx a w) :
    v % 2 ^ 32 = w % 2 ^ 32 :=
  xor_cancel_left _ _ _ h

/-- why `Univ2.uidx_play` must not range over all naturals: the code's UIdx ignores everything above bit 31 of the
    output index -/
theorem realKeys_not_injective_on_all_indexes (a : TxId) : realKeys.uidx a 0 = realKeys.uidx a (2 ^ 32) := by
  show ((a / 2 ^ 192) % 2 ^ 64) ^^^ (0 % 2 ^ 32) = ((a / 2 ^ 192) % 2 ^ 64) ^^^ (2 ^ 32 % 2 ^ 32)
  rw [Nat.mod_self, Nat.zero_mod]

/-- SATISFIABILITY OF THE KEY HYPOTHESES FOR THE CODE'S OWN KEYS. For a universe `W` in which
    (1) the txids in play differ pairwise in bytes 0..7 (`hlo`: BIDX) and in bytes 28..31 (`hhi`),
    (2) every output index in play is below 2^32 (`hv`: the wire format has no other),
    `realKeys` satisfies the four collision hypotheses of `Univ` / `Univ2` (`bidx_inj`, `uidx_inj` — that one for ALL
    output indexes `v` —, `bidx_play`, `uidx_play`). The remaining fields of `Univ` / `Univ2` do not mention the keys. -/
theorem realKeys_collision_free (W : Tx → Prop)
    (hlo : ∀ a b, Play W a → Play W b → a % 2 ^ 64 = b % 2 ^ 64 → a = b)
    (hhi : ∀ a b, Play W a → Play W b → hi32 a = hi32 b → a = b)
    (hv : ∀ v, VPlay W v → v < 2 ^ 32) :
    KeysOK realKeys W := by
  refine ⟨fun _ _ ha hb => hlo _ _ (Play.self ha) (Play.self hb), ?_, hlo, ?_⟩
  · intro c t hc ht i hi v h
    exact hhi _ _ (Play.prev hc hi) (Play.self ht) (realKeys_uidx_hi _ _ _ _ h)
  · intro a b v w ha hb pv pw h
    have e : a = b := hhi a b ha hb (realKeys_uidx_hi _ _ _ _ h)
    subst e
    have := realKeys_uidx_same a v w h
    rw [Nat.mod_eq_of_lt (hv v pv), Nat.mod_eq_of_lt (hv w pw)] at this
    exact ⟨rfl, this⟩

end GocoinV.Mempool
