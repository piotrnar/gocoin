/-
  Proofs.C01Num — lib/script/stack.go's number helpers (`bts2int` via `numOfBytes`, `is_minimal`, `bts2bool`,
  `pushInt` via `intBytes`) against the spec's `ScriptNum` (Core's CScriptNum) and `CastToBool`.
  (`bts2int_ext`, with the length bound a parameter: `bts2intExt_eq` in Proofs/C01Arith.lean.)
-/
import GocoinV.Model.ScriptVerify
import GocoinV.Spec.Script
namespace GocoinV.Proofs.C01
open GocoinV GocoinV.Script GocoinV.ScriptSpec

theorem u8_and7f (l : UInt8) : (l &&& 0x7f).toNat = l.toNat % 128 := by
  revert l; exact u8_forall (by decide +kernel)
theorem u8_and80 (l : UInt8) : ((l &&& 0x80) != 0) = decide (l.toNat ≥ 0x80) := by
  revert l; exact u8_forall (by decide +kernel)
theorem u8_and7f_zero (l : UInt8) : ((l &&& 0x7f) == 0) = decide (l.toNat % 128 = 0) := by
  revert l; exact u8_forall (by decide +kernel)
theorem u8_ne0 (l : UInt8) : (l != 0) = decide (l.toNat ≠ 0) := by
  revert l; exact u8_forall (by decide +kernel)

theorem leVal_single (x : UInt8) : leVal [x] = x.toNat := by simp [leVal]

theorem dropLast_append_getLast {d : Bytes} {l : UInt8} (h : d.getLast? = some l) : d = d.dropLast ++ [l] := by
  obtain ⟨ys, rfl⟩ := List.getLast?_eq_some_iff.mp h
  simp

theorem reverse_of_getLast {d : Bytes} {l : UInt8} (h : d.getLast? = some l) : d.reverse = l :: d.dropLast.reverse := by
  conv => lhs; rw [dropLast_append_getLast h]
  simp

theorem leVal_of_getLast {d : Bytes} {l : UInt8} (h : d.getLast? = some l) :
    leVal d = leVal d.dropLast + 256 ^ d.dropLast.length * l.toNat := by
  conv => lhs; rw [dropLast_append_getLast h]
  rw [leVal_append, leVal_single]

/-- `bts2int`'s value (mask the sign bit out of the last byte, negate) is `CScriptNum::set_vch`'s value -/
theorem numOfBytes_eq_decode (d : Bytes) : numOfBytes d = ScriptNum.decode d := by
  unfold numOfBytes ScriptNum.decode
  cases h : d.getLast? with
  | none => rfl
  | some l =>
    simp only
    rw [u8_and80]
    have e1 : leVal (d.dropLast ++ [l &&& 0x7f]) = leVal d.dropLast + 256 ^ d.dropLast.length * (l.toNat % 128) := by
      rw [leVal_append, leVal_single, u8_and7f]
    rw [e1, leVal_of_getLast h, ← List.length_dropLast]
    by_cases hl : l.toNat ≥ 0x80
    · simp only [hl, decide_true, ↓reduceIte]
      obtain ⟨k, hk⟩ : ∃ k, l.toNat = k + 128 := ⟨_, (Nat.sub_add_cancel hl).symm⟩
      have := l.toNat_lt
      rw [hk, Nat.mul_add, show (k + 128) % 128 = k by omega]
      omega
    · simp only [hl, decide_false, Bool.false_eq_true, ↓reduceIte]
      rw [Nat.mod_eq_of_lt (by omega)]

theorem isMinimal_eq (d : Bytes) : isMinimal d = ScriptNum.minimal d := by
  unfold isMinimal ScriptNum.minimal
  cases h : d.getLast? with
  | none =>
    simp [List.getLast?_eq_none_iff.mp h]
  | some l =>
    have hd := dropLast_append_getLast h
    rw [reverse_of_getLast h]
    simp only
    rw [u8_and7f_zero]
    by_cases hz : l.toNat % 128 = 0
    · simp only [hz, decide_true, ↓reduceIte]
      cases hr : d.dropLast.reverse with
      | nil =>
        have : d.dropLast = [] := by simpa using hr
        have : d.length = 1 := by rw [hd, this]; simp
        simp [this]
      | cons l2 r =>
        have hdl : d.dropLast = r.reverse ++ [l2] := by
          have := congrArg List.reverse hr; simpa using this
        have hlen : d.length = r.length + 2 := by rw [hd, hdl]; simp
        have hget : d.getD (d.length - 2) 0 = l2 := by
          rw [hd, hdl]
          simp [List.getD_eq_getElem?_getD]
        simp only
        rw [hget, u8_and80, hlen]
        simp
    · simp [hz]

theorem bts2bool_eq (d : Bytes) : bts2bool d = castToBool d := by
  unfold bts2bool castToBool
  cases h : d.getLast? with
  | none =>
    simp [List.getLast?_eq_none_iff.mp h]
  | some l =>
    rw [reverse_of_getLast h]
    simp only [List.any_reverse]
    congr 1
    exact u8_forall (P := fun l => ((l &&& 0x7f) != 0) = (l != 0 && l != 0x80)) (by decide +kernel) l

theorem absBytes_zero (g : Nat) : ScriptNum.absBytes g 0 = [] := by cases g <;> simp [ScriptNum.absBytes]

theorem natLEAux_eq_absBytes (f : Nat) : ∀ g n, n < 256 ^ f → n < 256 ^ g → natLEAux f n = ScriptNum.absBytes g n := by
  induction f with
  | zero => intro g n h _; have : n = 0 := by simpa using h
            subst this; simp [natLEAux, absBytes_zero]
  | succ f ih =>
    intro g n hf hg
    by_cases hn : n = 0
    · subst hn; simp [natLEAux, absBytes_zero]
    · cases g with
      | zero => simp at hg; omega
      | succ g =>
        simp only [natLEAux, ScriptNum.absBytes, hn, ↓reduceIte]
        congr 1
        apply ih
        · rw [Nat.pow_succ] at hf; omega
        · rw [Nat.pow_succ] at hg; omega

theorem leVal_absBytes (g : Nat) : ∀ n, n < 256 ^ g → leVal (ScriptNum.absBytes g n) = n := by
  induction g with
  | zero => intro n h; have : n = 0 := by simpa using h
            subst this; simp [ScriptNum.absBytes, leVal]
  | succ g ih =>
    intro n h
    by_cases hn : n = 0
    · subst hn; simp [ScriptNum.absBytes, leVal]
    · simp only [ScriptNum.absBytes, hn, ↓reduceIte, leVal]
      rw [ih _ (by rw [Nat.pow_succ] at h; omega)]
      rw [ofNat_toNat_small _ (Nat.mod_lt _ (by decide))]; omega

theorem absBytes_getLast (g : Nat) : ∀ n l, n < 256 ^ g → (ScriptNum.absBytes g n).getLast? = some l → l.toNat ≠ 0 := by
  induction g with
  | zero => intro n l _ h; simp [ScriptNum.absBytes] at h
  | succ g ih =>
    intro n l hb h
    by_cases hn : n = 0
    · subst hn; simp [ScriptNum.absBytes] at h
    · simp only [ScriptNum.absBytes, hn, ↓reduceIte] at h
      by_cases hq : n / 256 = 0
      · rw [hq, absBytes_zero] at h
        simp at h
        rw [← h]
        rw [ofNat_toNat_small _ (Nat.mod_lt _ (by decide))]; omega
      · have hne : ScriptNum.absBytes g (n / 256) ≠ [] := by
          cases g with
          | zero => rw [Nat.pow_succ] at hb; simp at hb; omega
          | succ g => simp [ScriptNum.absBytes, hq]
        rw [List.getLast?_cons_of_ne_nil hne] at h  
        exact ih _ _ (by rw [Nat.pow_succ] at hb; omega) h

theorem u8_or80 (l : UInt8) (h : l.toNat < 0x80) : (l ||| 0x80) = UInt8.ofNat (l.toNat + 0x80) := by
  revert l; exact u8_forall (by decide +kernel)

theorem intBytes_eq_encode (v : Int) : intBytes v = ScriptNum.encode v := by
  unfold intBytes ScriptNum.encode natLE
  by_cases h0 : v = 0
  · simp [h0]
  · simp only [h0, ↓reduceIte]
    rw [natLEAux_eq_absBytes v.natAbs v.natAbs v.natAbs (Nat.lt_pow_self (by decide)) (Nat.lt_pow_self (by decide))]
    cases hl : (ScriptNum.absBytes v.natAbs v.natAbs).getLast? with
    | none => rfl
    | some l =>
      simp only
      rw [u8_and80]
      by_cases hneg : v < 0
      · by_cases h80 : l.toNat ≥ 0x80
        · simp [hneg, h80]
        · simp only [hneg, ↓reduceIte, h80, decide_false, Bool.false_eq_true]
          rw [u8_or80 l (by omega)]
      · by_cases h80 : l.toNat ≥ 0x80
        · simp [hneg, h80]
        · simp [hneg, h80]

theorem decode_encode (v : Int) : ScriptNum.decode (ScriptNum.encode v) = v := by
  unfold ScriptNum.encode
  by_cases h0 : v = 0
  · simp [h0, ScriptNum.decode]
  · simp only [h0, ↓reduceIte]
    have hb : v.natAbs < 256 ^ v.natAbs := Nat.lt_pow_self (by decide)
    have hval := leVal_absBytes v.natAbs v.natAbs hb
    cases hl : (ScriptNum.absBytes v.natAbs v.natAbs).getLast? with
    | none =>
      exfalso
      rw [List.getLast?_eq_none_iff.mp hl] at hval; simp [leVal] at hval; omega
    | some l =>
      simp only
      generalize hr : ScriptNum.absBytes v.natAbs v.natAbs = r at *
      have e2 := leVal_of_getLast hl
      by_cases h80 : l.toNat ≥ 0x80
      · simp only [h80, ↓reduceIte]
        unfold ScriptNum.decode
        rw [List.getLast?_concat]
        simp only [leVal_append, leVal_single, List.length_append, List.length_cons, List.length_nil, Nat.add_sub_cancel]
        by_cases hneg : v < 0
        · simp only [hneg, ↓reduceIte]
          have e : (0x80 : UInt8).toNat = 0x80 := rfl
          rw [e, if_pos (Nat.le_refl _), Nat.mul_comm (256 ^ r.length) 0x80, Nat.add_sub_cancel, hval]
          omega
        · simp only [hneg, ↓reduceIte]
          have e : (0x00 : UInt8).toNat = 0 := rfl
          rw [e, if_neg (by decide), Nat.mul_zero, Nat.add_zero, hval]
          omega
      · simp only [h80, ↓reduceIte]
        by_cases hneg : v < 0
        · simp only [hneg, ↓reduceIte]
          unfold ScriptNum.decode
          rw [List.getLast?_concat]
          have hl2 : (UInt8.ofNat (l.toNat + 0x80)).toNat = l.toNat + 0x80 := ofNat_toNat_small _ (by omega)
          simp only [hl2, leVal_append, leVal_single, List.length_append, List.length_cons, List.length_nil, Nat.add_sub_cancel]
          rw [if_pos (Nat.le_add_left _ _), Nat.mul_add]
          omega
        · simp only [hneg, ↓reduceIte]
          unfold ScriptNum.decode
          rw [hl]
          simp only [h80, ↓reduceIte, hval]
          omega

end GocoinV.Proofs.C01
