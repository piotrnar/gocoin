/-
  Proofs.C02Legacy — the legacy algorithm: gocoin's opcode reader vs. the specification's, code
  separator stripping, and the streamed serialisation vs. "serialise the modified copy".
-/
import GocoinV.Model.SigHash
import GocoinV.Spec.SigHash
import GocoinV.Proofs.C02Spec
import GocoinV.Proofs.C02Decode
namespace GocoinV.SigHash
open GocoinV.Wire (Tx TxIn TxOut)
open GocoinV.Spec.SigHash (compactSize varBytes outpoint txOut txIn u32 u64 anyoneCanPay baseType nextOp opLen parseOps)

/-- gocoin's reader on a push opcode, with the length field measured as the spec measures it (`k` bytes) -/
theorem getOpcode_push (b : UInt8) (t : Bytes) (h1 : b.toNat ≤ 0x4e) :
    getOpcode (b :: t) =
      (let k := if b.toNat < 0x4c then 0 else if b.toNat = 0x4c then 1 else if b.toNat = 0x4d then 2 else 4
       if t.length < k then none
       else if k + 1 + (if k = 0 then b.toNat else leVal (t.take k)) ≤ t.length + 1 then
         some (b.toNat, k + 1 + (if k = 0 then b.toNat else leVal (t.take k)))
       else none) := by
  simp only [getOpcode, h1, ↓reduceIte, List.length_cons]
  by_cases h2 : b.toNat < 0x4c
  · by_cases hn : 1 + b.toNat > t.length + 1 <;> simp [h2, hn] <;> omega
  · by_cases h4 : b.toNat = 0x4c
    · by_cases h5 : 1 ≤ t.length
      · by_cases h6 : 2 + leVal (t.take 1) ≤ t.length + 1 <;> simp [h4, h5, h6, Nat.not_lt.mpr h5] <;> omega
      · simp [h4, h5, Nat.lt_of_not_le h5]
    · by_cases h7 : b.toNat = 0x4d
      · by_cases h5 : 2 ≤ t.length
        · by_cases h6 : 3 + leVal (t.take 2) ≤ t.length + 1 <;> simp [h7, h5, h6, Nat.not_lt.mpr h5] <;> omega
        · simp [h7, h5, Nat.lt_of_not_le h5]
      · by_cases h5 : 4 ≤ t.length
        · by_cases h6 : 5 + leVal (t.take 4) ≤ t.length + 1 <;> simp [h2, h4, h7, h5, h6, Nat.not_lt.mpr h5] <;> omega
        · simp [h2, h4, h7, h5, Nat.lt_of_not_le h5]

theorem getOpcode_of_nextOp (s op rest : Bytes) (h : nextOp s = some (op, rest)) :
    ∃ opc n, getOpcode s = some (opc, n) ∧ op = s.take n ∧ rest = s.drop n ∧ 1 ≤ n ∧
      (opc = 0xab ↔ op = [0xab]) := by
  cases s with
  | nil => simp [nextOp, opLen] at h
  | cons b t =>
    -- the operation is OP_CODESEPARATOR alone exactly if its first byte is
    have hfirst : ∀ n, 1 ≤ n → ((b :: t).take n = [0xab] → b.toNat = 0xab) := by
      intro n hn e
      obtain ⟨l, rfl⟩ : ∃ l, n = l + 1 := ⟨n - 1, by omega⟩
      injection (show b :: t.take l = [0xab] from e) with e1 _
      subst e1; rfl
    simp only [nextOp, Proofs.C02D.opLen_cons] at h
    by_cases h1 : b.toNat ≤ 0x4e
    · rw [getOpcode_push b t h1]
      simp only [h1, ↓reduceIte, List.length_cons] at h ⊢
      generalize (if b.toNat < 0x4c then 0 else if b.toNat = 0x4c then 1 else if b.toNat = 0x4d then 2 else 4) = k at h ⊢
      generalize (if k = 0 then b.toNat else leVal (t.take k)) = size at h ⊢
      by_cases h3 : t.length < k
      · simp [h3] at h
      · by_cases hn : k + 1 + size ≤ t.length + 1
        · simp only [h3, hn, ↓reduceIte, Option.some.injEq, Prod.mk.injEq] at h ⊢
          refine ⟨b.toNat, k + 1 + size, ⟨rfl, rfl⟩, h.1.symm, h.2.symm, by omega, fun e => by omega, fun e => ?_⟩
          have := hfirst _ (by omega) (h.1 ▸ e)
          omega
        · simp [h3, hn] at h
    · simp only [h1, ↓reduceIte, List.length_cons, Nat.le_add_left, Option.some.injEq, Prod.mk.injEq] at h
      refine ⟨b.toNat, 1, by simp [getOpcode, h1], h.1.symm, h.2.symm, by omega, ?_⟩
      rw [← h.1]
      exact ⟨fun e => by rw [UInt8.toNat_inj.mp (show b.toNat = (0xab : UInt8).toNat from e)]; rfl, hfirst 1 (by omega)⟩

theorem stripCodeSepAux_eq : ∀ (fuel : Nat) (s : Bytes) (ops : List Bytes), parseOps fuel s = some ops →
    ∀ fuel', s.length ≤ fuel' →
      stripCodeSepAux fuel' s = (ops.filter (· ≠ Spec.SigHash.OP_CODESEPARATOR)).flatten := by
  intro fuel
  induction fuel with
  | zero =>
    intro s ops h fuel' _
    cases s with
    | nil =>
      simp only [parseOps, Option.some.injEq] at h; subst h
      cases fuel' <;> simp [stripCodeSepAux]
    | cons b t => simp [parseOps] at h
  | succ f ih =>
    intro s ops h fuel' hf
    cases s with
    | nil =>
      simp only [parseOps, Option.some.injEq] at h; subst h
      cases fuel' <;> simp [stripCodeSepAux]
    | cons b t =>
      obtain ⟨op, rest, ops', hn, hp, rfl⟩ := Proofs.C02D.parseOps_cons h
      obtain ⟨opc, n, hg, hop, hrest, hn1, hab⟩ := getOpcode_of_nextOp (b :: t) op rest hn
      cases fuel' with
      | zero => simp at hf
      | succ f' =>
        have hlen : rest.length ≤ f' := by
          rw [hrest, List.length_drop]; simp only [List.length_cons] at hf ⊢; omega
        have ih' := ih rest ops' hp f' hlen
        simp only [stripCodeSepAux, List.isEmpty_cons, Bool.false_eq_true, ↓reduceIte, hg]
        rw [← hrest, ih', ← hop]
        by_cases hc : op = [0xab] <;> simp [hab, hc, Spec.SigHash.OP_CODESEPARATOR]

theorem stripCodeSep_eq (s : Bytes) (ops : List Bytes) (h : Spec.SigHash.parse s = some ops) :
    stripCodeSep s = (ops.filter (· ≠ Spec.SigHash.OP_CODESEPARATOR)).flatten :=
  stripCodeSepAux_eq s.length s ops h s.length (Nat.le_refl _)

/-- the "blanked" input number `k` of the modified copy -/
def blankIn (sc : Bytes) (idx base : Nat) (k : Nat) (i : TxIn) : TxIn :=
  { i with scriptSig := if k = idx then sc else [],
           sequence := if k ≠ idx ∧ (base = 2 ∨ base = 3) then 0 else i.sequence }

theorem txIn_blank (sc : Bytes) (idx base k : Nat) (i : TxIn) :
    txIn (blankIn sc idx base k i) =
      serOutpoint i ++ (if k = idx then writeVlen sc.length ++ sc else [0])
        ++ (if (base = 2 ∨ base = 3) ∧ k ≠ idx then [0, 0, 0, 0] else le32 i.sequence) := by
  unfold txIn blankIn
  by_cases hk : k = idx
  · simp [hk, serOutpoint, outpoint, varBytes, writeVlen_eq, le32, u32]
  · by_cases hb : base = 2 ∨ base = 3
    · simp [hk, hb, serOutpoint, outpoint, varBytes, compactSize, le32, u32]; decide
    · simp [hk, hb, serOutpoint, outpoint, varBytes, compactSize, le32, u32]

theorem legacyIns_eq (sc : Bytes) (idx base : Nat) : ∀ (ins : List TxIn) (k0 : Nat),
    ((ins.mapIdx fun k i => blankIn sc idx base (k + k0) i).map txIn).flatten = legacyIns sc idx base k0 ins := by
  intro ins
  induction ins with
  | nil => intro k0; rfl
  | cons a l ih =>
    intro k0
    rw [List.mapIdx_cons]
    simp only [List.map_cons, List.flatten_cons, Nat.zero_add, legacyIns, txIn_blank]
    have : (fun (i : Nat) (x : TxIn) => blankIn sc idx base (i + 1 + k0) x) = (fun i x => blankIn sc idx base (i + (k0 + 1)) x) := by
      funext i x; congr 1; omega
    rw [this, ih (k0 + 1)]

theorem u32_eq (n : Nat) : le32 n = u32 n := rfl

theorem copy_ins (tx : Tx) (sc : Bytes) (idx ht : Nat) (hi : idx < tx.ins.length) :
    Spec.SigHash.vector txIn (Spec.SigHash.legacyTxCopy tx sc idx ht).ins =
      if ht &&& 0x80 ≠ 0 then
        [1] ++ serOutpoint tx.ins[idx] ++ writeVlen sc.length ++ sc ++ le32 tx.ins[idx].sequence
      else writeVlen tx.ins.length ++ legacyIns sc idx (baseType ht) 0 tx.ins := by
  have hmap : (tx.ins.mapIdx fun k i =>
      ({ i with scriptSig := if k = idx then sc else [],
                sequence := if k ≠ idx ∧ (baseType ht = 2 ∨ baseType ht = 3) then 0 else i.sequence } : TxIn))
      = tx.ins.mapIdx fun k i => blankIn sc idx (baseType ht) (k + 0) i := rfl
  unfold Spec.SigHash.legacyTxCopy Spec.SigHash.vector
  simp only [hmap]
  by_cases ha : anyoneCanPay ht = true
  · have ha' : ht &&& 0x80 ≠ 0 := (and_80 ht).mpr ha
    simp only [ha, ↓reduceIte]
    have hl : idx < (tx.ins.mapIdx fun k i => blankIn sc idx (baseType ht) (k + 0) i).length := by simpa using hi
    rw [List.drop_eq_getElem_cons hl]
    simp only [List.take_succ_cons, List.take_zero, List.length_cons, List.length_nil, List.map_cons, List.map_nil,
      List.flatten_cons, List.flatten_nil, List.append_nil, List.getElem_mapIdx, Nat.add_zero, txIn_blank]
    simp [compactSize, ha']
  · have ha' : ¬ (ht &&& 0x80 ≠ 0) := fun x => ha ((and_80 ht).mp x)
    simp only [ha, ha', ↓reduceIte, Bool.false_eq_true, List.length_mapIdx, legacyIns_eq, writeVlen_eq]

theorem copy_outs (tx : Tx) (sc : Bytes) (idx ht : Nat) :
    Spec.SigHash.vector txOut (Spec.SigHash.legacyTxCopy tx sc idx ht).outs =
      if baseType ht = 2 then [0]
      else if baseType ht = 3 then
        match tx.outs[idx]? with
        | none => compactSize idx ++ (List.replicate idx [0xff,0xff,0xff,0xff,0xff,0xff,0xff,0xff,0]).flatten
        | some o => writeVlen (idx + 1) ++ (List.replicate idx [0xff,0xff,0xff,0xff,0xff,0xff,0xff,0xff,0]).flatten ++ serOut o
      else writeVlen tx.outs.length ++ tx.outs.flatMap serOut := by
  unfold Spec.SigHash.legacyTxCopy Spec.SigHash.vector
  by_cases h2 : baseType ht = 2
  · simp [h2, compactSize]
  · by_cases h3 : baseType ht = 3
    · have hb : txOut ({ value := 2^64 - 1, pkScript := [] } : TxOut) = [0xff,0xff,0xff,0xff,0xff,0xff,0xff,0xff,0] := by decide
      cases ho : tx.outs[idx]? with
      | none =>
        have : tx.outs.length ≤ idx := List.getElem?_eq_none_iff.mp ho
        simp [h3, List.drop_eq_nil_of_le this, hb]
      | some o =>
        obtain ⟨hl, he⟩ := List.getElem?_eq_some_iff.mp ho
        simp [h3, List.drop_eq_getElem_cons hl, he, hb, writeVlen_eq, serOut_eq]
    · simp [h2, h3, writeVlen_eq, List.flatMap_def]
      congr 2
      funext o; exact (serOut_eq o).symm

/-- The legacy algorithm: for every transaction, input index in range, 32-bit hash type and script code
    that decodes into operations, `SignatureHash` hashes exactly "the modified copy of the transaction,
    serialised, followed by the hash type" — or returns the constant one where the original algorithm does. -/
theorem legacy_eq_spec (H : Bytes → Bytes) (tx : Tx) (scriptCode : Bytes) (idx ht : Nat) (m : Spec.SigHash.SigMsg)
    (h : Spec.SigHash.legacy tx scriptCode idx ht = some m) :
    signatureHash H tx scriptCode idx ht =
      match m with
      | .one => .const one32
      | .msg pre => .hashed pre (H (H pre)) := by
  unfold Spec.SigHash.legacy at h
  by_cases hi : idx ≥ tx.ins.length
  · simp [hi] at h
  · simp only [hi, ↓reduceIte] at h
    cases hp : Spec.SigHash.parse scriptCode with
    | none => simp [hp] at h
    | some ops =>
      simp only [hp] at h
      have hstrip := stripCodeSep_eq scriptCode ops hp
      generalize (ops.filter (· ≠ Spec.SigHash.OP_CODESEPARATOR)).flatten = sc at h hstrip
      have hi' : idx < tx.ins.length := by omega
      have hinp : tx.ins[idx]? = some tx.ins[idx] := by simp [hi']
      by_cases hone : baseType ht = 3 ∧ idx ≥ tx.outs.length
      · simp only [hone, and_self, ↓reduceIte, Option.some.injEq] at h
        subst h
        have ho : tx.outs[idx]? = none := List.getElem?_eq_none_iff.mpr hone.2
        unfold signatureHash
        by_cases ha : ht &&& 0x80 ≠ 0 <;> simp [and_1f, hone.1, hinp, ho, ha]
      · simp only [hone, ↓reduceIte, Option.some.injEq] at h
        subst h
        have hins := copy_ins tx sc idx ht hi'
        have houts := copy_outs tx sc idx ht
        unfold signatureHash Spec.SigHash.serializeTx
        simp only [hins, houts, and_1f, hstrip, hinp]
        have hv : (Spec.SigHash.legacyTxCopy tx sc idx ht).version = tx.version := rfl
        have hlk : (Spec.SigHash.legacyTxCopy tx sc idx ht).lockTime = tx.lockTime := rfl
        rw [hv, hlk]
        by_cases h3 : baseType ht = 3
        · have hl : idx < tx.outs.length := Nat.lt_of_not_le fun h => hone ⟨h3, h⟩
          have ho : tx.outs[idx]? = some tx.outs[idx] := by simp [hl]
          by_cases ha : ht &&& 0x80 ≠ 0 <;> simp [ha, h3, ho, le32, u32]
        · by_cases ha : ht &&& 0x80 ≠ 0 <;> by_cases h2 : baseType ht = 2 <;>
            simp [ha, h2, h3, le32, u32]

end GocoinV.SigHash
