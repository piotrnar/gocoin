/-
  Proofs.C05Merkle — the loop of CalcMerkle computes the levels of Spec.Merkle and ORs their pair tests (for C05's
  `merkle_mutation_iff` and C09's block-level decoding; `calcMerkle_isSome` serves C09 only).
-/
import GocoinV.Model.BlockCheck
import GocoinV.Spec.Merkle
open GocoinV GocoinV.BlockCheck GocoinV.Spec.Merkle
namespace GocoinV.Proofs.C05

theorem merkleLevel_eq (h : Bytes → Bytes) (l : List Bytes) :
    merkleLevel h l = (nextLevel h l, hasEqualPair l) := by
  induction l using merkleLevel.induct h with
  | case1 => rfl
  | case2 a => rfl
  | case3 a b rest ih => simp [merkleLevel, nextLevel, hasEqualPair, ih]

theorem calcMerkleLoop_eq (h : Bytes → Bytes) (fuel : Nat) (l : List Bytes) (m : Bool) :
    calcMerkleLoop h fuel l m = (root h fuel l, m || (levels h fuel l).any hasEqualPair) := by
  induction fuel generalizing l m with
  | zero => simp [calcMerkleLoop, root, levels]
  | succ f ih =>
    simp only [calcMerkleLoop, root, levels]
    split
    · rw [merkleLevel_eq, ih]
      simp [Bool.or_assoc]
    · simp

/-- pairs (2j, 2j+1): the positional reading of `hasEqualPair` -/
theorem hasEqualPair_iff (l : List Bytes) :
    hasEqualPair l = true ↔ ∃ j, 2 * j + 1 < l.length ∧ l[2 * j]? = l[2 * j + 1]? := by
  induction l using hasEqualPair.induct with
  | case1 a b rest ih =>
    simp only [hasEqualPair, Bool.or_eq_true, beq_iff_eq, ih]
    constructor
    · rintro (hab | ⟨j, hj, he⟩)
      · exact ⟨0, by simp, by simp [hab]⟩
      · refine ⟨j + 1, by simp; omega, ?_⟩
        simpa [Nat.mul_add] using he
    · rintro ⟨j, hj, he⟩
      cases j with
      | zero => left; simpa using he
      | succ j =>
        right
        refine ⟨j, by simp at hj; omega, ?_⟩
        simpa [Nat.mul_add] using he
  | case2 l hl =>
    match l, hl with
    | [], _ => simp [hasEqualPair]
    | [a], _ => simp [hasEqualPair]
    | a :: b :: rest, hl => exact absurd rfl (hl a b rest)

/-- `calcMerkle` = iterated pairwise hash + the CVE-2012-2459 pair test on every level (shared by C05's
    `merkle_mutation_iff` and C09's block-level decoding theorem). -/
theorem calcMerkle_spec (h : Bytes → Bytes) (l : List Bytes) (r : Bytes) (m : Bool)
    (hc : calcMerkle h l = some (r, m)) :
    (m = true ↔ ∃ lv ∈ Spec.Merkle.levels h l.length l, ∃ j, 2 * j + 1 < lv.length ∧ lv[2 * j]? = lv[2 * j + 1]?) ∧
    (Spec.Merkle.root h l.length l).head? = some r := by
  unfold calcMerkle at hc
  rw [calcMerkleLoop_eq] at hc
  simp only [Bool.false_or] at hc
  split at hc
  · rename_i r' tl m' heq
    cases hc
    obtain ⟨h1, h2⟩ := Prod.mk.inj heq
    constructor
    · simp only [← h2, List.any_eq_true, hasEqualPair_iff]
    · rw [h1]; rfl
  · simp at hc

/-- `calcMerkle` fails (Go: index out of range) only on the empty list -/
theorem calcMerkle_isSome (h : Bytes → Bytes) (l : List Bytes) (hl : l ≠ []) : (calcMerkle h l).isSome = true := by
  unfold calcMerkle
  rw [calcMerkleLoop_eq]
  have : ∀ (fuel : Nat) (l : List Bytes), l ≠ [] → root h fuel l ≠ [] := by
    intro fuel
    induction fuel with
    | zero => intro l hl; simpa [root] using hl
    | succ f ih =>
      intro l hl
      simp only [root]
      split
      · apply ih
        match l, hl with
        | [a], _ | a :: b :: rest, _ => simp [nextLevel]
      · exact hl
  split
  · rfl
  · rename_i heq
    exact absurd (Prod.mk.inj heq).1 (this l.length l hl)

end GocoinV.Proofs.C05
