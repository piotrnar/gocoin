/-
  Proofs.C05Block — helper lemmas for C05. `passed` is the device by which `precheck_sound` / `postcheck_sound` walk a chain
  of `if guard then refuse else …`; the clamped timespan and the truncation SetCompact ∘ GetCompact of the retarget (over
  Int, from Proofs/C05Compact). Further: the witness / transaction tail of PostCheckBlock and the weight; the commitment
  search (`find_reverse_last`); the parent look-up, the version gating and the chain look-up (`chain_ne_nil_lt`) of
  PreCheckBlock / CheckBlock; the result codes; GetBlockFlags over six Booleans.
-/
import GocoinV.Model.BlockCheck
import GocoinV.Proofs.C05Compact
open GocoinV GocoinV.Target GocoinV.Retarget GocoinV.BlockCheck GocoinV.Gen.ConsensusConsts
namespace GocoinV.Proofs.C05

/-- the weight BuildTxListExt leaves does not depend on the value `bl.TxCount` had on entry: the base weight reads the
    counter after the `TxCount == 0` fallback (regenerated source fact), where it is the number of transactions parsed -/
theorem builtWeight_eq (c : Nat) (txs : List Tx) : builtWeight c txs = blockWeight txs := by
  have e : buildTxListReadsCountAfterFallback = true := by decide
  simp [builtWeight, blockWeight, e]

theorem nonceShapeOk_some (sw : Option (List (List Bytes))) (n : Bytes) (h : nonceShapeOk sw = some n) :
    sw = some [[n]] ∧ n.length = witnessNonceLen := by
  unfold nonceShapeOk at h
  split at h
  · split at h
    · simp at h; subst h; exact ⟨rfl, by assumption⟩
    · simp at h
  · simp at h

theorem postWitnessAndTxs_ok (h : Bytes → Bytes) (flags : Nat) (i : PostIn)
    (hr : postWitnessAndTxs h flags i = some .ok) :
    ∃ cb rest, i.txs = cb :: rest ∧
    (match (if flags &&& VER_WITNESS ≠ 0 then findCommitment cb.outs.reverse else none) with
     | some pk => ∃ nonce root, cb.segwit = some [[nonce]] ∧ nonce.length = witnessNonceLen ∧
         witnessMerkle h i.txs = some root ∧ h (root ++ nonce) = (pk.drop witnessHeader.length).take 32
     | none => i.txs.any (·.segwit.isSome) = false) ∧
    checkTransactions i.txs i.height (if flags &&& VER_CSV ≠ 0 then i.mtp else i.time) = [] := by
  cases htxs : i.txs with
  | nil => simp [postWitnessAndTxs, htxs] at hr
  | cons cb rest =>
  refine ⟨cb, rest, rfl, ?_⟩
  simp only [postWitnessAndTxs, htxs] at hr
  generalize (if flags &&& VER_CSV ≠ 0 then i.mtp else i.time) = cutoff at hr ⊢
  generalize hcm : (if flags &&& VER_WITNESS ≠ 0 then findCommitment cb.outs.reverse else none) = cm at hr ⊢
  cases cm with
  | none =>
    by_cases hany : ((cb :: rest).any fun x => x.segwit.isSome) = true
    · simp [hany] at hr
    · simp [hany] at hr
      exact ⟨by simpa using hany, by (split at hr <;> first | assumption | simp at hr)⟩
  | some pk =>
    cases hn : nonceShapeOk cb.segwit with
    | none => simp [hn] at hr
    | some nonce =>
      simp only [hn] at hr
      cases hw : witnessMerkle h (cb :: rest) with
      | none => simp [hw] at hr
      | some root =>
        simp only [hw] at hr
        by_cases heq : h (root ++ nonce) = List.take 32 (List.drop witnessHeader.length pk)
        · simp [heq] at hr
          have := nonceShapeOk_some _ _ hn
          exact ⟨⟨nonce, root, this.1, this.2, rfl, heq⟩, by (split at hr <;> first | assumption | simp at hr)⟩
        · simp [heq] at hr


theorem sum_weight (txs : List Tx) :
    (txs.map (fun t => 3 * t.noWitSize + t.size)).sum = 3 * (txs.map (·.noWitSize)).sum + (txs.map (·.size)).sum := by
  induction txs with
  | nil => rfl
  | cons t ts ih => simp only [List.map_cons, List.sum_cons, ih]; omega

/-- `List.find?` on the reversed list returns the LAST element of the list that satisfies the predicate -/
theorem find_reverse_last (p : Bytes → Bool) (l : List Bytes) (x : Bytes) (h : l.reverse.find? p = some x) :
    ∃ pre suf, l = pre ++ x :: suf ∧ p x = true ∧ ∀ y ∈ suf, p y = false := by
  obtain ⟨hp, as, bs, hl, hno⟩ := List.find?_eq_some_iff_append.mp h
  refine ⟨bs.reverse, as.reverse, ?_, hp, ?_⟩
  · simpa using congrArg List.reverse hl
  · intro y hy
    simpa using hno y (List.mem_reverse.mp hy)

/-- a check of the form `if c then some bad else rest` returned an acceptable `o`, and `bad` is not acceptable: then the
    guard `c` was false and `rest` produced `o` -/
theorem passed {α : Type} {c : Prop} [Decidable c] {bad o : α} {rest : Option α} {ok : α → Prop}
    (h : (if c then some bad else rest) = some o) (hok : ok o) (hb : ¬ok bad) : ¬c ∧ rest = some o := by
  split at h
  · cases h; exact absurd hok hb
  · exact ⟨‹_›, h⟩

/-- PreCheckBlock keeps the `BlockIndex` entry found under the 8-byte key of the previous-block field only if the
    entry's WHOLE hash is that field (needs the regenerated fact `parentHashCompared = true`) -/
theorem parentOf_some (i : PreIn) (ch : List Node) (h : parentOf i = some ch) :
    i.parent = some (i.parentHash, ch) := by
  unfold parentOf at h
  split at h
  · simp at h
  · rename_i ph ch' hp
    have hc : parentHashCompared = true := by decide
    simp only [hc, Bool.true_and] at h
    split at h
    · simp at h
    · rename_i hne
      cases h
      rw [hp]
      simpa using hne

theorem preErr_code_ok {e : PreErr} (h : e.code = "ok") : e = .ok := by
  cases e <;> first | rfl | (exact absurd h (by decide))

theorem postErr_code_ok {e : PostErr} (h : e.code = "ok") : e = .ok := by
  cases e with
  | tx es =>
    simp only [PostErr.code] at h
    have := congrArg String.length h
    rw [String.length_append] at this
    have h3 : ("tx:" : String).length = 3 := by decide
    have h2 : ("ok" : String).length = 2 := by decide
    omega
  | ok => rfl
  | _ => exact absurd h (by decide)

theorem signedVersion_ge (ver : Nat) : signedVersion ver ≥ -2^31 := by
  unfold signedVersion
  dsimp only
  split <;> omega

/-- the version-gating disjunction of PreCheckBlock as a threshold: the permitted versions at a height are those from
    the minimum of the strictest rule active there -/
theorem versionRejected_false_iff (c : Consensus) (ver height : Nat) : versionRejected c ver height = false ↔
    signedVersion ver ≥ (if height ≥ c.bip65Height then 4 else if height ≥ c.bip66Height then 3
      else if height ≥ c.bip34Height then 2 else -2^31) := by
  have hlo := signedVersion_ge ver
  have e1 : (minVersion_BIP34Height : Int) = 2 := by decide
  have e2 : (minVersion_BIP66Height : Int) = 3 := by decide
  have e3 : (minVersion_BIP65Height : Int) = 4 := by decide
  simp only [versionRejected, Bool.or_eq_false_iff, Bool.and_eq_false_iff, decide_eq_false_iff_not, e1, e2, e3]
  generalize signedVersion ver = v at hlo ⊢
  split
  · omega
  · split
    · omega
    · split <;> omega

theorem chain_ne_nil_lt {U : Type} (cs : ChainSt U) (n : Nat) (h : cs.chain n ≠ []) : n < cs.nodes.size := by
  unfold ChainSt.chain chainOf at h
  refine Decidable.by_contra fun hlt => h ?_
  have hn : ¬ ((n : Int) < 0) := by omega
  simp only [hn, if_false, Int.toNat_natCast, Array.getElem?_eq_none_iff.mpr (Nat.le_of_not_lt hlt)]

/-- GetBlockFlags over six Booleans (one per rule), for the finite case analysis of `getBlockFlags_spec` -/
def flagsB (b1 b2 b3 b4 b5 b6 : Bool) : Nat :=
  let f := if b1 then VER_P2SH else 0
  let f := if b2 then f ||| VER_DERSIG else f
  let f := if b3 then f ||| VER_CLTV else f
  let f := if b4 then f ||| VER_CSV else f
  let f := if b5 then f ||| (VER_WITNESS ||| VER_NULLDUMMY) else f
  if b6 then f ||| VER_TAPROOT else f

theorem getBlockFlags_eq_flagsB (c : Consensus) (height time : Nat) :
    getBlockFlags c height time =
      flagsB (decide (time = 0 ∨ time ≥ BIP16SwitchTime)) (decide (height ≥ c.bip66Height)) (decide (height ≥ c.bip65Height))
        (decide (c.enforceCSV ≠ 0 ∧ height ≥ c.enforceCSV)) (decide (c.enforceSegwit ≠ 0 ∧ height ≥ c.enforceSegwit))
        (decide (c.enforceTaproot ≠ 0 ∧ height ≥ c.enforceTaproot)) := by
  unfold getBlockFlags flagsB
  simp only [decide_eq_true_eq]

theorem flagsB_spec : ∀ b1 b2 b3 b4 b5 b6 : Bool,
    (flagsB b1 b2 b3 b4 b5 b6 &&& VER_P2SH ≠ 0 ↔ b1 = true) ∧ (flagsB b1 b2 b3 b4 b5 b6 &&& VER_DERSIG ≠ 0 ↔ b2 = true) ∧
    (flagsB b1 b2 b3 b4 b5 b6 &&& VER_CLTV ≠ 0 ↔ b3 = true) ∧ (flagsB b1 b2 b3 b4 b5 b6 &&& VER_CSV ≠ 0 ↔ b4 = true) ∧
    (flagsB b1 b2 b3 b4 b5 b6 &&& VER_WITNESS ≠ 0 ↔ b5 = true) ∧ (flagsB b1 b2 b3 b4 b5 b6 &&& VER_NULLDUMMY ≠ 0 ↔ b5 = true) ∧
    (flagsB b1 b2 b3 b4 b5 b6 &&& VER_TAPROOT ≠ 0 ↔ b6 = true) := by
  decide


/-- SetCompact(GetCompact(t)) truncates a target below 2^256: never above t, and positive with it -/
theorem setCompact_getCompact_le (t : Int) (h0 : 0 ≤ t) (hlt : t < 2^256) :
    setCompact (getCompact t) ≤ t ∧ (0 < t → 0 < setCompact (getCompact t)) := by
  by_cases hz : t = 0
  · subst hz; decide
  · obtain ⟨e, p, l, et⟩ := getCompact_pos t (by omega) hlt
    have := setCompact_getCompactNat_le _ p l
    rw [← e, et] at this
    exact ⟨this.2, fun _ => this.1⟩

theorem clampTimespan_mem (span : Int) :
    (retargetMinTimespan : Int) ≤ clampTimespan span ∧ clampTimespan span ≤ (retargetMaxTimespan : Int) := by
  unfold clampTimespan
  have : (retargetMinTimespan : Int) ≤ (retargetMaxTimespan : Int) := by decide
  simp only
  split <;> split <;> omega

end GocoinV.Proofs.C05
