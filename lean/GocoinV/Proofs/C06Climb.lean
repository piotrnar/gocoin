/-
  Proofs.C06Climb — the climbing loops of MoveToBlock (`climbChecked`, `commonAnc`) and FindPathTo (`findPathTo` /
  `climbTo`) of the chain model in a well-formed tree: they never panic, never answer "cannot continue", and return
  the ancestors they are meant to find.  Core Lean only.
-/
import GocoinV.Proofs.C06Tree
namespace GocoinV.ChainTree
open GocoinV.UtxoOps

theorem climb_check_false {c : Chain} {x : Nat} {p : Node}
    (hp : getNode c x = some p) (hd : HasData c x p) : (p.txCount == 0 && p.id != c.root) = false := by
  rcases hd with hx | hx <;> simp [getNode_id hp, hx]

/-- MoveToBlock's height-levelling loop: from node `n` (id `x`) it returns the ancestor-or-self `m` of `n` at height
    `min n.height h`; no panic, never "cannot continue" — WHEN `n` HAS ITS DATA (then so has every ancestor, `TreeWF.anc`;
    the root is exempt); the node returned has its data too. -/
theorem climbChecked_spec {U : List Block} {c : Chain} (w : TreeWF U c) (h : Nat) :
    ∀ (f x : Nat) (n : Node), getNode c x = some n → HasData c x n → f > n.height →
      ∃ m, climbChecked c h f n = .ok (some m) ∧ getNode c m.id = some m ∧ Desc c m.id x ∧
        m.height = min n.height h ∧ HasData c m.id m := by
  intro f
  induction f with
  | zero => intro x n _ _ hf; omega
  | succ f ih =>
    intro x n hn hdat hf
    rw [climbChecked]
    by_cases hh : n.height > h
    · have hx : x ≠ c.root := not_root_of_height_pos w hn (by omega)
      obtain ⟨p, hp, hph, hpd⟩ := w.parent_has_data hn hx hdat
      obtain ⟨m, hm, hgm, hd, hmh, hmd⟩ := ih n.parent p hp hpd (by omega)
      refine ⟨m, ?_, hgm, Desc.trans hd (Desc.parent hn hx), by omega, hmd⟩
      simp only [hh, if_true, node!, hp, bind, Except.bind, pure, Except.pure, climb_check_false hp hpd,
        Bool.false_eq_true, if_false, hm]
    · cases getNode_id hn
      refine ⟨n, ?_, hn, Desc.refl, by omega, hdat⟩
      simp only [hh, if_false, pure, Except.pure]

/-- MoveToBlock's third loop: two nodes of the same height are climbed in lock-step to a common ancestor-or-self. -/
theorem commonAnc_spec {U : List Block} {c : Chain} (w : TreeWF U c) :
    ∀ (f x y : Nat) (tmp cur : Node), getNode c x = some tmp → getNode c y = some cur → HasData c x tmp → HasData c y cur →
      tmp.height = cur.height → f > cur.height →
      ∃ a, commonAnc c f tmp cur = .ok (some a) ∧ getNode c a.id = some a ∧ Desc c a.id x ∧ Desc c a.id y := by
  intro f
  induction f with
  | zero => intro _ _ _ _ _ _ _ _ _ hf; omega
  | succ f ih =>
    intro x y tmp cur hx hy hdx hdy hh hf
    cases getNode_id hx
    cases getNode_id hy
    rw [commonAnc]
    by_cases he : tmp.id = cur.id
    · refine ⟨cur, ?_, hy, he ▸ Desc.refl, Desc.refl⟩
      simp only [he, beq_self_eq_true, if_true, pure, Except.pure]
    · have hpos : cur.height > 0 := Nat.pos_of_ne_zero fun h0 =>
        he ((w.root_of_height0 hx (by omega)).trans (w.root_of_height0 hy h0).symm)
      have hyr : cur.id ≠ c.root := not_root_of_height_pos w hy hpos
      have hxr : tmp.id ≠ c.root := not_root_of_height_pos w hx (by omega)
      obtain ⟨cp, hcp, hch, hcpd⟩ := w.parent_has_data hy hyr hdy
      obtain ⟨tp, htp, hth, htpd⟩ := w.parent_has_data hx hxr hdx
      have hchk : (cur.parent != tmp.parent && cp.txCount == 0) = false := by
        by_cases hr : cur.parent = c.root
        · have h0 : cp.height = 0 := Nat.eq_zero_of_not_pos fun h => not_root_of_height_pos w hcp h hr
          have := w.root_of_height0 htp (by omega)
          simp [hr, this]
        · have := hcpd.resolve_left hr
          simp [this]
      obtain ⟨a, ha, hga, hd1, hd2⟩ := ih tmp.parent cur.parent tp cp htp hcp htpd hcpd (by omega) (by omega)
      refine ⟨a, ?_, hga, Desc.trans hd1 (Desc.parent hx hxr), Desc.trans hd2 (Desc.parent hy hyr)⟩
      have he' : (tmp.id == cur.id) = false := by simpa using he
      simp only [he', Bool.false_eq_true, if_false, node!, hcp, htp, bind, Except.bind, pure, Except.pure, hchk, ha]

/-- FindPathTo's climbing loop: from a proper descendant `e` (id `z`) of `last` (id `x`) it reaches the child of `last`
    on the way. -/
theorem climbTo_spec {U : List Block} {c : Chain} (w : TreeWF U c) {x y : Nat} {last : Node}
    (hl : getNode c x = some last) :
    ∀ (f z : Nat) (e : Node), getNode c z = some e → Desc c x z → z ≠ x → Desc c z y → f > e.height →
      ∃ nx nxt, climbTo c last f e = .ok nx ∧ getNode c nx = some nxt ∧ nxt.parent = x ∧ nx ≠ c.root ∧ Desc c nx y := by
  intro f
  induction f with
  | zero => intro _ _ _ _ _ _ hf; omega
  | succ f ih =>
    intro z e he hd hzx hzy hf
    have hlid := getNode_id hl
    have heid := getNode_id he
    rw [climbTo]
    cases hd with
    | refl => exact absurd rfl hzx
    | @step _ e' he' hzr hd' =>
      rw [he] at he'; cases he'
      by_cases hp : e.parent = x
      · refine ⟨z, e, ?_, he, hp, hzr, hzy⟩
        simp only [hp, hlid, heid, beq_self_eq_true, if_true, pure, Except.pure]
      · obtain ⟨p, hpn, hph, _⟩ := w.par z e he hzr
        obtain ⟨na, hna, hle, _⟩ := Desc.height w hd' p hpn
        rw [hl] at hna; cases hna
        obtain ⟨nx, nxt, h1, h2⟩ := ih e.parent p hpn hd' hp (Desc.trans (Desc.parent he hzr) hzy) (by omega)
        refine ⟨nx, nxt, ?_, h2⟩
        have hp' : (e.parent == last.id) = false := by rw [hlid]; simpa using hp
        have hle' : ¬ (e.height ≤ last.height) := by omega
        simp only [hp', Bool.false_eq_true, if_false, hle', node!, hpn, bind, Except.bind, pure, Except.pure, h1]

/-- FindPathTo: for a proper descendant `en` (id `y`) of `last` (id `x`) it returns the child of `last` on the way. -/
theorem findPathTo_spec {U : List Block} {c : Chain} (w : TreeWF U c) {x y : Nat} {last en : Node}
    (hl : getNode c x = some last) (he : getNode c y = some en) (hd : Desc c x y) (hne : x ≠ y) :
    ∃ nx nxt, findPathTo c last en = .ok (some nx) ∧ getNode c nx = some nxt ∧ nxt.parent = x ∧ nx ≠ c.root ∧
      Desc c nx y := by
  have hlid := getNode_id hl
  have heid := getNode_id he
  have hid : (last.id == en.id) = false := by rw [hlid, heid]; simpa using hne
  obtain ⟨na, hna, hle, heq⟩ := Desc.height w hd en he
  rw [hl] at hna; cases hna
  have hlt : ¬ (en.height ≤ last.height) := fun h => hne (heq (by omega))
  obtain ⟨ch, n, hn, hnp, hcr, hdc⟩ := Desc.child_split hd hne
  obtain ⟨p, hp, _, hmem⟩ := w.par ch n hn hcr
  rw [hnp, hl] at hp; cases hp
  unfold findPathTo
  simp only [hid, Bool.false_eq_true, if_false, hlt]
  cases hc : last.childs with
  | nil => rw [hc] at hmem; cases hmem
  | cons a t =>
    cases t with
    | nil =>
      rw [hc] at hmem
      obtain rfl : ch = a := by simpa using hmem
      exact ⟨ch, n, rfl, hn, hnp, hcr, hdc⟩
    | cons b t' =>
      obtain ⟨nx, nxt, h1, h2⟩ :=
        climbTo_spec w (y := y) hl (en.height + 1) y en he hd (fun e => hne e.symm) Desc.refl (by omega)
      refine ⟨nx, nxt, ?_, h2⟩
      simp only [bind, Except.bind, pure, Except.pure, h1]

end GocoinV.ChainTree
