/-
  Proofs.C01SigRef — the signature digests of the reference side (Spec/ScriptSigRef.lean), related to the crypto
  instances the central theorem speaks about and to property C02's model of gocoin's sighash functions. In detail, their
  relation to
    * the sighash fields of a total crypto instance (`SigHashIsRef`, `withRef_eq`): when an instance answers with the
      specification's digests, running the reference semantics on the reference digests (`withRefSigHash`) is running
      it on the instance, so `script_equiv` speaks about the digests the harness compares. (The C01 oracle, Oracle/C01.lean
      `doVerify`, runs the reference on `withRefTweak (withRefSigHash …)`: it also answers the taproot tweak check by
      an own `refTweak`; no theorem here speaks about `withRefTweak`.)
    * the hypothesis `TapSigHashOk` of the central theorem (`tapDigest_defined`): the BIP341 reference digest is
      absent exactly where `ScriptSpec.tapHashTypeDefined` says so;
    * property C02's MODEL of gocoin's Tx.SignatureHash / WitnessSigHash / TaprootSigHash (`c02_*_is_ref`): the model
      returns the reference digests (from Props.C02's preimage theorems);
    * that model AS a crypto instance (`c02Instance`): it satisfies `SigHashIsRef` and — for every annex-hash argument,
      annex hash of this witness or not — `TapSigHashOk` (`c02Instance_isRef`, `c02Instance_tapOk`).
-/
import GocoinV.Spec.ScriptSigRef
import GocoinV.Spec.Script
import GocoinV.Props.C02
import GocoinV.Proofs.C01Checksig
namespace GocoinV.Proofs.C01
open GocoinV GocoinV.Script GocoinV.Script.SigRef

/-- the crypto instance answers every signature-digest query of this input with the specification's digest of the
    spending transaction `F` (legacy and BIP143: wherever the specification defines a message; BIP341: for the
    annex hash of this input's own witness `w`) -/
def SigHashIsRef (T : TotalOracles) (F : FullTx) (w : List Bytes) : Prop :=
  (∀ sc ht d, legacyDigest T.hash256 F sc ht = some d → T.sigHashLegacy sc ht = d) ∧
  (∀ sc ht d, witV0Digest T.hash256 F sc ht = some d → T.sigHashWitV0 sc ht = d) ∧
  (∀ l c h s, T.sigHashTap ((annexOf w).map (annexHash T.sha256)) l c h s = tapDigest T.sha256 F (annexOf w) l c h s)

theorem withRef_eq (T : TotalOracles) (F : FullTx) (w : List Bytes) (h : SigHashIsRef T F w) :
    withRefSigHash T.toOracles F w = T.toOracles := by
  obtain ⟨hl, hw, ht⟩ := h
  simp only [withRefSigHash, TotalOracles.toOracles]
  congr 1
  · funext sc x
    cases hd : legacyDigest T.hash256 F sc x with
    | none => rfl
    | some d => simp [hl sc x d hd]
  · funext sc x
    cases hd : witV0Digest T.hash256 F sc x with
    | none => rfl
    | some d => simp [hw sc x d hd]
  · funext a l c x s
    by_cases ha : a = (annexOf w).map (annexHash T.sha256)
    · subst ha
      simp [ht l c x s]
    · simp [ha]

/-- the transaction handed to the reference digests is the one the interpreter's context was cut from -/
structure Consistent (F : FullTx) (tx : TxCtx) : Prop where
  idx : F.idx = tx.idx
  nOuts : F.tx.outs.length = tx.nOuts
  inRange : F.idx < F.tx.ins.length
  spent : F.spent.length = F.tx.ins.length

theorem hlen0 (H : Bytes → Bytes) (hsha : ∀ b, H b ≠ []) (b : Bytes) : ((H b).length == 0) = false :=
  beq_false_of_ne (mt List.length_eq_zero_iff.1 (hsha b))

theorem tapDigest_defined (sha : Bytes → Bytes) (hsha : ∀ b, sha b ≠ []) (F : FullTx) (tx : TxCtx)
    (hc : Consistent F tx) (annex : Option Bytes) (l : Bytes) (c ht : Nat) (s : Bool) :
    ((tapDigest sha F annex l c ht s).length == 0) = !ScriptSpec.tapHashTypeDefined tx ht := by
  have hinp := List.getElem?_eq_getElem hc.inRange
  have hsp := List.getElem?_eq_getElem (hc.spent ▸ hc.inRange)
  unfold tapDigest Spec.SigHash.bip341 Spec.SigHash.bip341Msg ScriptSpec.tapHashTypeDefined
  rw [← hc.idx, ← hc.nOuts]
  have hb : (decide (ht ≤ 3) || (decide (0x81 ≤ ht) && decide (ht ≤ 0x83))) = Spec.SigHash.validTaprootHashType ht := by
    rw [Bool.eq_iff_iff, SigHash.validType_iff]; simp
  rw [hb]
  by_cases hv : Spec.SigHash.validTaprootHashType ht = true
  · simp only [hv, not_true_eq_false, ↓reduceIte, hc.spent, hinp, hsp, Bool.true_and]
    by_cases hne : ht % 4 = 3 ∧ F.tx.outs.length ≤ F.idx
    · simp [hne.1, hne.2]
    · simp only [ge_iff_le, hne, ↓reduceIte]
      by_cases hge : F.tx.outs.length ≤ F.idx
      · simp [show ¬ ht % 4 = 3 from fun h => hne ⟨h, hge⟩, hlen0 sha hsha]
      · simp [hge, hlen0 sha hsha]
  · rw [Bool.not_eq_true] at hv
    simp [hv]

/-! ### property C02's model of the three gocoin functions returns the reference digests -/

open GocoinV.SigHash in
theorem c02_witV0_is_ref (H : Bytes → Bytes) (F : FullTx) (hi : F.idx < F.tx.ins.length) (c : Cache)
    (hc : Cache.OK H F.tx F.spent c) (sc : Bytes) (ht : Nat) :
    (witnessSigHash H F.tx c sc F.amount F.idx ht).1.digest? = witV0Digest (fun b => H (H b)) F sc ht := by
  obtain ⟨pre, hp⟩ := Option.isSome_iff_exists.1 (Props.C02.bip143_defined (fun b => H (H b)) F.tx sc F.amount F.idx ht hi)
  rw [Props.C02.bip143_preimage_eq H F.tx F.spent c hc sc F.amount F.idx ht pre hp]
  simp [witV0Digest, hp, Res.digest?]

open GocoinV.SigHash in
theorem c02_legacy_is_ref (H : Bytes → Bytes) (F : FullTx) (sc : Bytes) (ht : Nat) (d : Bytes)
    (h : legacyDigest (fun b => H (H b)) F sc ht = some d) :
    (signatureHash H F.tx sc F.idx ht).digest? = some d := by
  unfold legacyDigest at h
  rcases hm : Spec.SigHash.legacy F.tx sc F.idx ht with _ | m <;> rw [hm] at h
  · cases h
  · rw [Props.C02.legacy_preimage_eq H F.tx sc F.idx ht m hm]
    cases m <;> cases h <;> rfl

open GocoinV.SigHash in
theorem annexHash_eq (H : Bytes → Bytes) (annex : Option Bytes) :
    annex.map (annexHash H) = annex.map (annexHashOf H) := by
  cases annex with
  | none => rfl
  | some a => simp [annexHash, annexHashOf, Spec.SigHash.varBytes, writeVlen_eq]

open GocoinV.SigHash in
/-- key path: `TaprootSigHash` does not read the leaf hash / code separator position of the execution data -/
theorem taproot_keypath_ignores_ext (H : Bytes → Bytes) (tx : Wire.Tx) (spent : List Wire.TxOut) (c : Cache)
    (a : Option Bytes) (l : Bytes) (cs idx ht : Nat) :
    taprootSigHash true H tx spent c { annexHash := a, tapleafHash := l, codesepPos := cs } idx ht false =
    taprootSigHash true H tx spent c { annexHash := a } idx ht false := by
  simp [taprootSigHash, taprootTail]

open GocoinV.SigHash in
theorem c02_tap_is_ref (H : Bytes → Bytes) (F : FullTx) (hs : F.spent.length = F.tx.ins.length)
    (hi : F.idx < F.tx.ins.length) (c : Cache) (hc : Cache.OK H F.tx F.spent c)
    (annex : Option Bytes) (l : Bytes) (cs ht : Nat) (s : Bool) :
    ((taprootSigHash true H F.tx F.spent c
        { annexHash := annex.map (annexHash H), tapleafHash := l, codesepPos := cs } F.idx ht s).1.digest?).getD []
      = tapDigest H F annex l cs ht s := by
  -- the extension data the specification is given for this query
  have key : ∀ ext : Option Spec.SigHash.Ext,
      ((taprootSigHash true H F.tx F.spent c (execDataOf H annex ext) F.idx ht ext.isSome).1.digest?).getD [] =
        ((Spec.SigHash.bip341 H F.tx F.spent F.idx ht annex ext).map H).getD [] := by
    intro ext
    rw [taproot_eq_bip341 H F.tx F.spent c hs hc F.idx ht hi annex ext]
    cases Spec.SigHash.bip341 H F.tx F.spent F.idx ht annex ext <;> rfl
  cases s with
  | true =>
    simpa [tapDigest, execDataOf, annexHash_eq] using key (some ⟨l, cs⟩)
  | false =>
    rw [taproot_keypath_ignores_ext]
    simpa [tapDigest, execDataOf, annexHash_eq, taproot_keypath_ignores_ext H F.tx F.spent c _ [] 0xffffffff] using key none

/-! ### property C02's model as a crypto INSTANCE of the C01 theorems: it satisfies `SigHashIsRef` and `TapSigHashOk` -/

section C02Instance
open GocoinV.SigHash

/-- whether `Tx.TaprootSigHash` (C02's model, as fixed) returns a digest does not depend on the annex hash it is given -/
theorem tap_len_indep (H : Bytes → Bytes) (hsha : ∀ b, H b ≠ []) (tx : Wire.Tx) (spent : List Wire.TxOut) (c : Cache)
    (a : Option Bytes) (l : Bytes) (cs idx ht : Nat) (s : Bool) :
    ((((taprootSigHash true H tx spent c { annexHash := a, tapleafHash := l, codesepPos := cs } idx ht s).1.digest?).getD []).length == 0) =
    ((((taprootSigHash true H tx spent c { annexHash := none, tapleafHash := l, codesepPos := cs } idx ht s).1.digest?).getD []).length == 0) := by
  unfold taprootSigHash
  simp only []
  split
  · rfl
  · split
    · rfl
    · unfold taprootTail
      simp only []
      split
      · rfl
      · split
        · rfl
        · simp only [Res.digest?, Option.getD_some, hlen0 H hsha]

/-- the crypto instance whose three signature-digest answers are property C02's MODEL of gocoin's `Tx.SignatureHash`,
    `Tx.WitnessSigHash` and `Tx.TaprootSigHash` (as fixed) on the transaction `F`, each query finding the per-transaction
    hash cache in a state of its own (`cw`, `ct`: the cache is filled by earlier queries, possibly of other inputs);
    "no digest" (nil / panic) is the empty string, the double hash is SHA-256 twice -/
def c02Instance (T0 : TotalOracles) (F : FullTx) (cw : Bytes → Nat → Cache)
    (ct : Option Bytes → Bytes → Nat → Nat → Bool → Cache) : TotalOracles :=
  { T0 with
    hash256 := fun b => T0.sha256 (T0.sha256 b)
    sigHashLegacy := fun sc ht => ((signatureHash T0.sha256 F.tx sc F.idx ht).digest?).getD []
    sigHashWitV0 := fun sc ht => ((witnessSigHash T0.sha256 F.tx (cw sc ht) sc F.amount F.idx ht).1.digest?).getD []
    sigHashTap := fun a l cs ht s =>
      ((taprootSigHash true T0.sha256 F.tx F.spent (ct a l cs ht s)
          { annexHash := a, tapleafHash := l, codesepPos := cs } F.idx ht s).1.digest?).getD [] }

theorem c02Instance_isRef (T0 : TotalOracles) (F : FullTx) (cw : Bytes → Nat → Cache)
    (ct : Option Bytes → Bytes → Nat → Nat → Bool → Cache) (w : List Bytes)
    (hs : F.spent.length = F.tx.ins.length) (hi : F.idx < F.tx.ins.length)
    (hcw : ∀ sc ht, Cache.OK T0.sha256 F.tx F.spent (cw sc ht))
    (hct : ∀ a l cs ht s, Cache.OK T0.sha256 F.tx F.spent (ct a l cs ht s)) :
    SigHashIsRef (c02Instance T0 F cw ct) F w := by
  refine ⟨?_, ?_, ?_⟩
  · intro sc ht d h
    exact congrArg (Option.getD · []) (c02_legacy_is_ref T0.sha256 F sc ht d h)
  · intro sc ht d h
    exact congrArg (Option.getD · []) ((c02_witV0_is_ref T0.sha256 F hi (cw sc ht) (hcw sc ht) sc ht).trans h)
  · intro l c h s
    exact c02_tap_is_ref T0.sha256 F hs hi _ (hct _ l c h s) (annexOf w) l c h s

theorem c02Instance_tapOk (T0 : TotalOracles) (F : FullTx) (tx : TxCtx) (cw : Bytes → Nat → Cache)
    (ct : Option Bytes → Bytes → Nat → Nat → Bool → Cache) (hc : Consistent F tx) (hsha : ∀ b, T0.sha256 b ≠ [])
    (hct : ∀ a l cs ht s, Cache.OK T0.sha256 F.tx F.spent (ct a l cs ht s)) :
    TapSigHashOk (c02Instance T0 F cw ct) tx := by
  intro a l csp ht scr
  exact (tap_len_indep T0.sha256 hsha F.tx F.spent _ a l csp F.idx ht scr).trans
    ((c02_tap_is_ref T0.sha256 F hc.spent hc.inRange _ (hct a l csp ht scr) none l csp ht scr) ▸
      tapDigest_defined T0.sha256 hsha F tx hc none l csp ht scr)

end C02Instance

end GocoinV.Proofs.C01
