/-
  Proofs.C10Keys — what `Props.C10.mathKeys_sound_unconditional` rests on: for `mathKeys` (the arithmetic rendering of
  ParsePubkey/IsValid/SetXO/GetPublicKey) the recomputed Y is `XY.SetXO` of the signature model, whose square root C03Field
  settles in ZMod p, and the parity byte of a 65-byte key is the parity of Y
  (Mathlib: Fermat's little theorem; the primality of the modulus is C08's Pratt certificate, Proofs/C08_Primes.lean —
  imported, not copied).
-/
import GocoinV.Proofs.C03Field
import GocoinV.Proofs.C10Script
open GocoinV GocoinV.ScriptCompress

namespace GocoinV.ScriptCompress

theorem powModGo_eq (m : Nat) : ∀ f b e acc, powModGo m f b e acc = Secp.powModAux m f b e acc := by
  intro f
  induction f with
  | zero => intros; rfl
  | succ f ih => intro b e acc; rw [powModGo, Secp.powModAux, ih]

/-- the fuel (256 here, 600 there) does not matter below 2^256 -/
theorem powMod_eq (b e m : Nat) (he : e < 2 ^ 256) (hm : 1 < m) : powMod b e m = Secp.powMod b e m := by
  have hlt : powMod b e m < m := by
    unfold powMod; rw [powModGo_eq]
    exact Proofs.C03.powModAux_lt m (by omega) _ _ _ _ (Nat.mod_lt _ (by omega))
  rw [Proofs.C03.powMod_spec b e m he hm, ← Nat.mod_eq_of_lt hlt]
  unfold powMod
  rw [powModGo_eq, C08.powModAux_spec m 256 _ _ _ he, Nat.mod_eq_of_lt hm, Nat.one_mul, ← Nat.pow_mod]

/-- the recomputed Y: `c^((p+1)/4)`, negated when its parity is not the requested one -/
def ySel (c : Nat) (odd : Bool) : Nat :=
  let y0 := powMod c ((P + 1) / 4) P
  if (y0 % 2 == 1) != odd then (P - y0) % P else y0

/-- `ySel` is `XY.SetXO` of the signature model, whose choice of root is settled there -/
theorem ySel_eq (x y : Nat) (hx : x < P) (hy : y < P)
    (hcurve : (y * y) % P = (x * x * x + 7) % P) :
    ySel ((x * x * x + 7) % P) (y % 2 == 1) = y := by
  have hc : (x * x * x + 7) % P = (x * x % P * x + 7) % P := by
    rw [Nat.add_mod, ← Nat.mod_mul_mod (x * x) x P, ← Nat.add_mod]
  have hon : Secp.onCurve (some (x, y)) = true := by
    simp only [Secp.onCurve, Bool.and_eq_true, decide_eq_true_eq, beq_iff_eq]
    exact ⟨⟨hx, hy⟩, hcurve.trans hc⟩
  have h := Proofs.C03.setXO_onCurve x y hon (y % 2 == 1)
  rw [if_pos rfl] at h
  refine Eq.trans ?_ h
  rw [hc]
  unfold ySel Model.Sig.setXO Model.Sig.sqrtCand
  rw [powMod_eq _ _ _ (by decide) (by decide), Nat.mod_eq_of_lt (show x < Secp.p from hx)]
  rfl


theorem leVal_mod2 (b : UInt8) (t : Bytes) : leVal (b :: t) % 2 = b.toNat % 2 := by
  simp only [leVal]; omega

theorem last_split (l : Bytes) (n : Nat) (h : l.length = n + 1) : l = l.take n ++ [at' l n] := by
  have h2 : l.drop n = [at' l n] := by
    rw [eq_of_len1 (l.drop n) (by simp; omega), at_drop]; simp
  rw [← h2, List.take_append_drop]

theorem beVal_mod2 (l : Bytes) (n : Nat) (h : l.length = n + 1) : beVal l % 2 = (at' l n).toNat % 2 := by
  unfold beVal
  rw [last_split l n h, List.reverse_append]
  simp only [List.reverse_cons, List.reverse_nil, List.nil_append, List.cons_append, leVal_mod2]
  congr 2
  simp [at', List.getD, h]

end GocoinV.ScriptCompress
