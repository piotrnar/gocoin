/-
  Proofs.C13Own — what the wallet recognises as its own IS one of its four own scripts (core only).
  pkscr_to_key_idx matches every template against its own hash only and the P2SH test reads the push-length byte; so
  the shape of the default change script in `change_is_own_address` and the hypothesis `hown` of `signatures_verify`
  (for -send) follow from ownership: `owned_is_own_script`.
-/
import GocoinV.Proofs.C13Sig
namespace GocoinV.WalletTx
open GocoinV.WalletSpec

theorem shape25 (scr : Bytes) (hl : scr.length = 25) (h0 : scr.getD 0 0 = 0x76) (h1 : scr.getD 1 0 = 0xa9)
    (h2 : scr.getD 2 0 = 0x14) (h23 : scr.getD 23 0 = 0x88) (h24 : scr.getD 24 0 = 0xac) :
    scr = p2pkhScript ((scr.drop 3).take 20) :=
  sandwich scr [0x76, 0xa9, 0x14] [0x88, 0xac] 20 hl
    (fun i hi => match i, hi with | 0, _ => h0 | 1, _ => h1 | 2, _ => h2)
    (fun i hi => match i, hi with | 0, _ => h23 | 1, _ => h24)

theorem shape23 (scr : Bytes) (hl : scr.length = 23) (h0 : scr.getD 0 0 = 0xa9) (h1 : scr.getD 1 0 = 0x14)
    (h22 : scr.getD 22 0 = 0x87) : scr = p2shScript ((scr.drop 2).take 20) := by
  have := sandwich scr [0xa9, 0x14] [0x87] 20 hl
    (fun i hi => match i, hi with | 0, _ => h0 | 1, _ => h1) (fun i hi => match i, hi with | 0, _ => h22)
  rwa [← List.append_assoc] at this

/-- a script of at least two bytes is its two head bytes followed by the rest (P2WPKH: 00 14, P2TR: 51 20) -/
theorem shape2 (scr : Bytes) {a b : UInt8} (hl : 2 ≤ scr.length) (h0 : scr.getD 0 0 = a) (h1 : scr.getD 1 0 = b) :
    scr = [a, b] ++ scr.drop 2 := by
  match scr, hl with
  | x0 :: x1 :: rest, _ =>
    simp at h0 h1
    subst h0 h1
    rfl

/-- a record of the table whose P2SH slot is filled belongs to a wallet that is not in bech32 mode -/
theorem seg_ne_nil_not_bech32 (H : Addr.Hashes) (b : Bool) (pubs : List Bytes) (k : Nat) (kr : KeyRec)
    (hk : (keyTable H b pubs)[k]? = some kr) (hne : kr.segH160 ≠ []) : b = false := by
  obtain ⟨p, _, rfl⟩ := keyTable_getElem? H b pubs k kr hk
  cases b with
  | false => rfl
  | true => exfalso; apply hne; unfold mkKey; by_cases h : p.length = 33 <;> simp [h]

/-- **owned ⇒ own shape.** Whatever script `pkscr_to_key` attributes to a key of the wallet's table is EXACTLY one of the
    four own scripts of a key of the table: P2PKH / P2WPKH of its public-key hash, P2SH of its 00 14 <key hash> script hash
    (only when the wallet is not in bech32 mode), P2TR of its x-only key. No hypothesis on the keys or the hash function. -/
theorem owned_is_own_script (H : Addr.Hashes) (c : Cfg) (pubs : List Bytes) (scr : Bytes)
    (h : (pkscrToKey (keyTable H c.bech32 pubs) scr).isSome = true) :
    OwnScript c (keyTable H c.bech32 pubs) scr := by
  obtain ⟨j, hj⟩ := Option.isSome_iff_exists.mp h
  unfold pkscrToKey at hj
  simp only [] at hj
  split at hj
  · rename_i hc
    obtain ⟨hl, h0, h1, h2, h23, h24⟩ := hc
    obtain ⟨kr, hk, hp⟩ := findIdx?_some_getElem? hj
    have e : kr.h160 = (scr.drop 3).take 20 := by simpa using hp
    rw [shape25 scr hl h0 h1 h2 h23 h24, ← e]
    exact OwnScript.p2pkh j kr hk
  · split at hj
    · rename_i hc
      obtain ⟨hl, h0, h1, h22⟩ := hc
      obtain ⟨kr, hk, hp⟩ := findIdx?_some_getElem? hj
      simp only [Bool.and_eq_true, bne_iff_ne, ne_eq, beq_iff_eq] at hp
      rw [shape23 scr hl h0 h1 h22, ← hp.2]
      exact OwnScript.p2sh j kr hk (seg_ne_nil_not_bech32 H c.bech32 pubs j kr hk hp.1)
    · split at hj
      · rename_i hc
        obtain ⟨hl, h0, h1⟩ := hc
        obtain ⟨kr, hk, hp⟩ := findIdx?_some_getElem? hj
        have e : kr.h160 = scr.drop 2 := by simpa using hp
        rw [shape2 scr (by omega) h0 h1, ← e]
        exact OwnScript.p2wpkh j kr hk
      · split at hj
        · rename_i hc
          obtain ⟨hl, h0, h1⟩ := hc
          obtain ⟨kr, hk, hp⟩ := findIdx?_some_getElem? hj
          have e : (kr.pub.drop 1).take 32 = scr.drop 2 := by simpa using hp
          rw [shape2 scr (by omega) h0 h1, ← e]
          exact OwnScript.p2tr j kr hk
        · cases hj

/-- conversely every own script of a key of the table is recognised (HASH160 yields 20 bytes; compressed keys - the
    `OwnScript.p2sh` constructor does not itself exclude a key without SegWit form): with `owned_is_own_script`
    ownership is EXACTLY the four templates -/
theorem own_script_is_owned (H : Addr.Hashes) (c : Cfg) (pubs : List Bytes) (scr : Bytes)
    (hash_len : ∀ b, (H.hash160 b).length = 20) (pub_len : ∀ p ∈ pubs, p.length = 33)
    (h : OwnScript c (keyTable H c.bech32 pubs) scr) :
    (pkscrToKey (keyTable H c.bech32 pubs) scr).isSome = true := by
  cases h with
  | p2pkh k kr hk =>
    obtain ⟨p, hp, rfl⟩ := keyTable_getElem? H c.bech32 pubs k kr hk
    obtain ⟨j, krj, h1, _, _⟩ := lookup_h160 _ k _ hk
    rw [pkscrToKey_p2pkh _ (mkKey H c.bech32 p).h160 (hash_len _), h1]; rfl
  | p2wpkh k kr hk =>
    obtain ⟨p, hp, rfl⟩ := keyTable_getElem? H c.bech32 pubs k kr hk
    obtain ⟨j, krj, h1, _, _⟩ := lookup_h160 _ k _ hk
    rw [pkscrToKey_p2wpkh _ (mkKey H c.bech32 p).h160 (hash_len _), h1]; rfl
  | p2sh k kr hk hb =>
    obtain ⟨p, hp, rfl⟩ := keyTable_getElem? H c.bech32 pubs k kr hk
    have h33 : p.length = 33 := pub_len p (List.mem_of_getElem? hp)
    have hs := mkKey_seg_of_33 H _ p h33 hb
    have hl : (mkKey H c.bech32 p).segH160.length = 20 := by rw [hs]; exact hash_len _
    obtain ⟨j, krj, h1, _, _⟩ := lookup_seg _ k _ hk (List.ne_nil_of_length_eq_add_one hl)
    rw [pkscrToKey_p2sh _ _ hl, h1]; rfl
  | p2tr k kr hk =>
    obtain ⟨p, hp, rfl⟩ := keyTable_getElem? H c.bech32 pubs k kr hk
    have hpl := pub_len p (List.mem_of_getElem? hp)
    have hl : (((mkKey H c.bech32 p).pub.drop 1).take 32).length = 32 := by simp [mkKey]; omega
    obtain ⟨j, krj, h1, _, _⟩ := lookup_xo _ k _ hk
    rw [pkscrToKey_p2tr _ _ hl, h1]; rfl

/-- the spent outputs of a built transaction as make_signed_tx hands them to sign_tx (`tx.Spent_outputs`) -/
def spentOuts (b : Built) : List TxOut := b.spent.map fun u => { value := u.value, script := u.script }

/-- what a successful `-send` run wrote is sign_tx applied to the built transaction -/
theorem runSend_tx (H : Addr.Hashes) (c : Cfg) (ks : List KeyRec) (a2b : Bool) (coins : List Coin)
    (send : Option Bytes) (batch : Option (List Bytes)) (sig : Skeleton → SigFn) (req : Req) (b : Built) (w : Written)
    (hreq : sendRequest H c send batch = .ok req) (hb : build H c ks coins req = .ok b)
    (hrun : runSend H c ks a2b coins send batch sig = .ok (some w)) :
    w.tx = (runRaw H c ks b.tx ((spentOuts b).map some) sig (fun _ => none)).1 := by
  unfold runSend at hrun
  simp only [hreq] at hrun
  split at hrun
  · simp at hrun
  · simp only [hb, Except.ok.injEq, Option.some.injEq] at hrun
    subst hrun
    simp [runRaw, spentOuts, List.map_map, Function.comp_def]

/-- a `-send` run whose request parses to at least one destination and whose transaction can be built writes it -/
theorem runSend_writes (H : Addr.Hashes) (c : Cfg) (ks : List KeyRec) (a2b : Bool) (coins : List Coin)
    (send : Option Bytes) (batch : Option (List Bytes)) (sig : Skeleton → SigFn) (req : Req) (b : Built)
    (hreq : sendRequest H c send batch = .ok req) (hne : req.1.isEmpty = false) (hb : build H c ks coins req = .ok b) :
    ∃ w, runSend H c ks a2b coins send batch sig = .ok (some w) := by
  unfold runSend
  simp only [hreq, hne, hb, Bool.false_eq_true, ↓reduceIte]
  exact ⟨_, rfl⟩

end GocoinV.WalletTx
