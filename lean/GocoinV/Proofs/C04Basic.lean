/-
  Proofs.C04Basic — helper lemmas for Props/C04: a guard that was not taken, the functions of commitTxs' loops opened
  once (what a successful call returns, as a record equation on the locals), association lists, subsidy arithmetic, and
  on the specification side `connectTx_inv`. `settle`'s sums and `finalChecks` are opened in C04Sums, `checkTransaction`,
  `checkBlockTxs` and `connect` in C04Final.
-/
import GocoinV.Spec.Connect
import GocoinV.Base.Assoc
import GocoinV.Base.Lemmas
namespace GocoinV.Proofs.C04
open GocoinV GocoinV.Connect

/-- a guard `if c then throw e` in a `do` block that ends well was not taken -/
theorem guard_ok {ε α : Type} {c : Prop} [Decidable c] {e : ε} {rest : Except ε α} {a : α}
    (h : (do
      if c then throw e
      rest) = .ok a) : ¬c ∧ rest = .ok a := by
  by_cases hc : c
  · rw [if_pos hc] at h; cases h
  · rw [if_neg hc] at h; exact ⟨hc, h⟩

/-! ### commitTxs, opened once: what each successful call returns

  The run is the first hypothesis of every lemma here and of the lemmas built on them, so that it fixes the states. -/

theorem fromBlock_ok {s s1 : St} {h : Bytes} {v val : Nat} {pk : Bytes} (e : fromBlock s h v = .ok (s1, val, pk)) :
    ∃ t o, aGet s.blUnsp h = some (false, t) ∧ v < t.length ∧ t.getD v none = some o
      ∧ s1 = { s with blUnsp := aSet s.blUnsp h (false, t.set v none) } ∧ val = o.value ∧ pk = o.script := by
  unfold fromBlock at e
  split at e
  · cases e
  · rename_i cb t hbu
    split at e
    · cases e
    · rename_i hv
      split at e
      · cases e
      · rename_i o ho
        split at e
        · cases e
        · rename_i hcb
          cases e
          cases cb
          · exact ⟨t, o, hbu, Nat.not_le.mp hv, ho, rfl, rfl, rfl⟩
          · exact absurd rfl hcb

theorem resolve_frame {cfg : Cfg} {db : DB} {b : Block} {inp : TxIn} {s s1 : St} {v : Nat} {pk : Bytes}
    (h : resolve cfg db b inp s = .ok (s1, v, pk)) : ∃ d bl, s1 = { s with deled := d, blUnsp := bl } := by
  unfold resolve at h
  split at h
  · cases h
  · split at h
    · obtain ⟨_, _, _, _, _, rfl, _⟩ := fromBlock_ok h
      exact ⟨_, _, rfl⟩
    · unfold fromDb at h
      split at h
      · cases h
      · cases h; exact ⟨_, _, rfl⟩

theorem procInput_ok {cfg : Cfg} {db : DB} {b : Block} {inp : TxIn} {s s' : St} {a a' : Nat}
    (h : procInput cfg db b inp s a = .ok (s', a')) :
    ∃ s1 v pk so, resolve cfg db b inp s = .ok (s1, v, pk) ∧ s' = { s1 with sigops := so } ∧ a' = u64 (a + v)
      ∧ (cfg.moneyRange = true → v ≤ MAX_MONEY ∧ a' ≤ MAX_MONEY) := by
  unfold procInput at h
  cases hr : resolve cfg db b inp s with
  | error e => simp [hr] at h
  | ok r =>
    obtain ⟨s1, v, pk⟩ := r
    simp only [hr] at h
    split at h
    · cases h
    · rename_i hc
      cases h
      exact ⟨s1, v, pk, _, rfl, rfl, rfl, fun hm => by simpa only [hm, true_and, not_or, Nat.not_lt] using hc⟩

theorem procInputs_cons_ok {cfg : Cfg} {db : DB} {b : Block} {i : TxIn} {r : List TxIn} {s s' : St} {a a' : Nat}
    (h : procInputs cfg db b (i :: r) s a = .ok (s', a')) :
    ∃ s1 a1, procInput cfg db b i s a = .ok (s1, a1) ∧ procInputs cfg db b r s1 a1 = .ok (s', a') := by
  unfold procInputs at h
  cases hp : procInput cfg db b i s a with
  | error e => simp [hp] at h
  | ok q => exact ⟨q.1, q.2, rfl, by simpa [hp] using h⟩

theorem procInputs_frame {cfg : Cfg} {db : DB} {b : Block} {ins : List TxIn} {s s' : St} {a a' : Nat}
    (h : procInputs cfg db b ins s a = .ok (s', a')) : ∃ d bl so, s' = { s with deled := d, blUnsp := bl, sigops := so } := by
  induction ins generalizing s a with
  | nil => cases h; exact ⟨_, _, _, rfl⟩
  | cons i r ih =>
    obtain ⟨s1, a1, hp, h⟩ := procInputs_cons_ok h
    obtain ⟨s0, v, pk, so, hr, rfl, -⟩ := procInput_ok hp
    obtain ⟨d, bl, rfl⟩ := resolve_frame hr
    obtain ⟨d', bl', so', rfl⟩ := ih h
    exact ⟨_, _, _, rfl⟩

theorem txInputs_ok {cfg : Cfg} {db : DB} {b : Block} {tx : Tx} {s s1 : St} {a : Nat}
    (h : txInputs cfg db b false tx s = .ok (s1, a)) :
    ∃ sp, procInputs cfg db b tx.ins { s with sigops := u32 (s.sigops + u32 (WITNESS_SCALE_FACTOR * legacySigOps tx)) } 0 = .ok (sp, a)
      ∧ s1 = { sp with scriptBad := sp.scriptBad || tx.ins.any (fun i => !i.scriptOk) } := by
  unfold txInputs at h
  simp only [Bool.false_eq_true, ↓reduceIte] at h
  split at h
  · cases h
  · rename_i sp a0 hp
    cases h
    exact ⟨sp, hp, rfl⟩

theorem txInputs_cb_ok {cfg : Cfg} {db : DB} {b : Block} {tx : Tx} {s s1 : St} {a : Nat}
    (h : txInputs cfg db b true tx s = .ok (s1, a)) :
    s1 = { s with sigops := u32 (s.sigops + u32 (WITNESS_SCALE_FACTOR * legacySigOps tx)) } ∧ a = 0
      ∧ 2 ≤ (tx.ins.headD default).scriptSig.length ∧ (tx.ins.headD default).scriptSig.length ≤ 100 := by
  unfold txInputs at h
  simp only [↓reduceIte] at h
  split at h
  · cases h
  · cases h; exact ⟨rfl, rfl, by omega⟩

theorem settle_frame {cfg : Cfg} {isCb : Bool} {s1 s2 : St} {a o : Nat} (h : settle cfg isCb s1 a o = .ok s2) :
    ∃ i o' f, s2 = { s1 with sumIn := i, sumOut := o', fees := f } := by
  unfold settle at h
  repeat' split at h
  all_goals first
    | (cases h; done)
    | (cases h; exact ⟨_, _, _, rfl⟩)
    | (simp only [] at h; split at h <;> cases h; exact ⟨_, _, _, rfl⟩)

theorem procTx_ok {cfg : Cfg} {db : DB} {b : Block} {isCb : Bool} {tx : Tx} {s s' : St}
    (h : procTx cfg db b isCb tx s = .ok s') :
    ∃ s1 a s2, txInputs cfg db b isCb tx s = .ok (s1, a) ∧ settle cfg isCb s1 a (sumOuts tx.outs) = .ok s2
      ∧ { s2 with blUnsp := aSet s2.blUnsp tx.txid (isCb, tx.outs.map some) } = s' := by
  unfold procTx at h
  cases h1 : txInputs cfg db b isCb tx s with
  | error e => simp [h1] at h
  | ok q =>
    cases h2 : settle cfg isCb q.1 q.2 (sumOuts tx.outs) with
    | error e => simp [h1, h2] at h
    | ok s2 => exact ⟨q.1, q.2, s2, rfl, h2, by simpa [h1, h2] using h⟩

theorem procTxs_cons_ok {cfg : Cfg} {db : DB} {b : Block} {first : Bool} {tx : Tx} {r : List Tx} {s s' : St}
    (h : procTxs cfg db b first (tx :: r) s = .ok s') :
    ∃ s1, procTx cfg db b first tx s = .ok s1 ∧ procTxs cfg db b false r s1 = .ok s' := by
  unfold procTxs at h
  cases hp : procTx cfg db b first tx s with
  | error e => simp [hp] at h
  | ok s1 => exact ⟨s1, rfl, by simpa [hp] using h⟩

theorem finalChecks_ok (cfg : Cfg) (s0 s : St) (h : finalChecks cfg s0 = .ok s) :
    s = s0 ∧ s0.scriptBad = false ∧ ¬ (if cfg.moneyRange then u64 (s0.sumIn + s0.fees) else s0.sumIn) < s0.sumOut
    ∧ s0.sigops ≤ MAX_BLOCK_SIGOPS_COST := by
  unfold finalChecks at h
  by_cases h1 : s0.scriptBad = true
  · simp [h1] at h
  · by_cases h2 : (if cfg.moneyRange then u64 (s0.sumIn + s0.fees) else s0.sumIn) < s0.sumOut
    · simp [h1, h2] at h
    · by_cases h3 : s0.sigops > MAX_BLOCK_SIGOPS_COST
      · simp [h1, h2, h3] at h
      · simp only [h1, h2, h3, ↓reduceIte, Except.ok.injEq, Bool.false_eq_true] at h
        exact ⟨h.symm, by simpa using h1, h2, by omega⟩

theorem commitTxs_ok {cfg : Cfg} {db : DB} {b : Block} {s : St} (h : commitTxs cfg db b = .ok s) :
    procTxs cfg db b true b.txs (St.init b) = .ok s ∧ s.scriptBad = false
    ∧ ¬ (if cfg.moneyRange then u64 (s.sumIn + s.fees) else s.sumIn) < s.sumOut ∧ s.sigops ≤ MAX_BLOCK_SIGOPS_COST := by
  unfold commitTxs at h
  cases hp : procTxs cfg db b true b.txs (St.init b) with
  | error e => simp [hp] at h
  | ok s0 =>
    obtain ⟨rfl, hf⟩ := finalChecks_ok cfg s0 s (by simpa [hp] using h)
    exact ⟨rfl, hf⟩

section
variable {κ β : Type} [DecidableEq κ] (l : List (κ × β)) (k k' : κ) (v : β)

theorem aGet_eq : aGet l k = Assoc.lookup l k := Assoc.lookup_unique aGet (fun _ => rfl) (fun _ _ _ _ => rfl) l k
theorem aSet_eq : aSet l k v = Assoc.insert l k v :=
  Assoc.insert_unique aSet (fun _ _ => rfl) (fun _ _ _ _ _ => rfl) l k v
theorem aDel_eq_filter : aDel l k = l.filter (fun p => p.1 ≠ k) :=
  Assoc.filter_unique aDel (fun _ => rfl) (fun _ _ _ _ => rfl) l k

theorem aGet_aSet : aGet (aSet l k v) k' = if k = k' then some v else aGet l k' := by
  rw [aGet_eq, aSet_eq, Assoc.lookup_insert, aGet_eq]

theorem aGet_aDel : aGet (aDel l k) k' = if k = k' then none else aGet l k' := by
  rw [aGet_eq, aDel_eq_filter, Assoc.lookup_erase, aGet_eq]
end

theorem reward_eq_div (h : Nat) : getBlockReward h = 5000000000 / 2 ^ (h / 210000) := by
  unfold getBlockReward u64
  rw [Nat.shiftRight_eq_div_pow]
  apply Nat.mod_eq_of_lt
  have : 5000000000 / 2 ^ (h / 210000) ≤ 5000000000 := Nat.div_le_self _ _
  omega

theorem reward_zero_of_ge (h : Nat) (hh : 64 ≤ h / 210000) : getBlockReward h = 0 := by
  rw [reward_eq_div]
  apply Nat.div_eq_of_lt
  have : 2 ^ 64 ≤ 2 ^ (h / 210000) := Nat.pow_le_pow_right (by decide) hh
  omega

theorem reward_eq_subsidy (h : Nat) : getBlockReward h = Spec.Connect.subsidy h := by
  unfold Spec.Connect.subsidy
  by_cases hh : h / 210000 ≥ 64
  · simp only [hh, ↓reduceIte]; exact reward_zero_of_ge h hh
  · simp only [hh, ↓reduceIte]; exact reward_eq_div h

open GocoinV.Spec.Connect (Acc spendInputs connectTx addOuts outSum) in
theorem connectTx_inv {b : Block} {tx : Tx} {a a' : Acc} (h : connectTx b tx a = .ok a') :
    ∃ r, spendInputs b tx tx.ins ⟨a.utxo, 0, 0⟩ = .ok r ∧ outSum tx ≤ r.valueIn
      ∧ a.fees + (r.valueIn - outSum tx) ≤ Spec.Connect.MAX_MONEY
      ∧ a' = ⟨addOuts r.utxo tx.txid b false tx.outs 0, a.fees + (r.valueIn - outSum tx),
              a.sigops + 4 * Spec.Connect.legacySigOps tx + r.sigops⟩ := by
  unfold connectTx at h
  obtain ⟨r, hs, h⟩ := bind_ok h
  obtain ⟨h2, h⟩ := guard_ok h
  obtain ⟨h3, h⟩ := guard_ok h
  cases h
  exact ⟨r, hs, Nat.not_lt.mp h2, by simpa [Spec.Connect.moneyRange] using h3, rfl⟩

end GocoinV.Proofs.C04
