/-
  Proofs.C12Block — BlockMined and BlockUndone keep the full pool invariant, given the chain-side facts of a valid
  block connection / disconnection (helper lemmas for Props/C12 `pool_inv`).  Core Lean only.
-/
import GocoinV.Proofs.C12Flags
namespace GocoinV.Mempool

def createdBy (txs : List Tx) (o : OutPoint) : Prop := ∃ t ∈ txs, o.1 = t.id ∧ o.2 < t.outs.length
def spentBy (txs : List Tx) (o : OutPoint) : Prop := ∃ t ∈ txs, ∃ i ∈ t.ins, (i.prev, i.vout) = o

/-- the pool's transactions under their keys (flags aside) come from `s` -/
def TxBack (s s' : State) : Prop := ∀ b x, s'.pool.get? b = some x → ∃ x0, s.pool.get? b = some x0 ∧ x0.tx = x.tx

theorem TxBack.refl (s : State) : TxBack s s := fun _ x h => ⟨x, h, rfl⟩
theorem TxBack.trans {a b c : State} (h1 : TxBack a b) (h2 : TxBack b c) : TxBack a c := by
  intro k x hx
  obtain ⟨x1, hx1, e1⟩ := h2 k x hx
  obtain ⟨x0, hx0, e0⟩ := h1 k x1 hx1
  exact ⟨x0, hx0, e0.trans e1⟩

theorem TxBack.of_set {s s' : State} {val : Nat} {r r' : T2S} (hr : s.pool.get? val = some r)
    (e : s'.pool = s.pool.set val r') (htx : r'.tx = r.tx) : TxBack s s' := fun b x hx =>
  have ⟨x0, h0, e0⟩ := (setRec_txs val r r' hr htx e).2 b x hx
  ⟨x0, h0, e0.symm⟩

theorem minedFlags_back (K : Keys) (s : State) (t : T2S) : TxBack s (minedFlags K s t) :=
  foldl_inv (TxBack s) _ (fun s1 v h => h.trans (minedStep_cases K t s1 v (fun _ => TxBack.refl s1) (TxBack.refl s1)
    fun _ _ _ _ hr _ _ => TxBack.of_set hr rfl rfl)) _ s (TxBack.refl s)

theorem unminedFlags_back (K : Keys) (s : State) (t : T2S) : TxBack s (unminedFlags K s t) :=
  foldl_inv (TxBack s) _ (fun s1 v h => h.trans (unminedStep_cases K t s1 v (TxBack.refl s1) (TxBack.refl s1)
    (fun _ _ _ _ hr _ _ => TxBack.of_set hr rfl rfl) fun _ _ _ _ hr _ _ => TxBack.of_set hr rfl rfl)) _ s
    (TxBack.refl s)

theorem txMinedStep_frame (K : Keys) (W : Tx → Prop) (b : Nat) (wasIn : Bool) (acc : Bool × State) (i : TxIn) :
    Frame W (if wasIn then acc.2 else minedConf K acc.2 i) (txMinedStep K b wasIn acc i).2 ∧
    Env (if wasIn then acc.2 else minedConf K acc.2 i) (txMinedStep K b wasIn acc i).2 := by
  unfold txMinedStep
  dsimp only
  generalize (if wasIn then acc.2 else minedConf K acc.2 i) = s1
  split
  · exact ⟨Frame.refl W s1, Env.refl s1⟩
  · rename_i lst _
    have h2 := foldl_inv (fun a : Bool × State => Frame W s1 a.2 ∧ Env s1 a.2) (fun (acc : Bool × State) rb =>
      match acc.2.rej.get? rb with
      | some txr => (acc.1 || rb = b, rejDelete K acc.2 txr)
      | none => (acc.1, acc.2)) (by
        intro a rb ha
        split
        · exact ⟨ha.1.trans (rejDelete_frame K W _ _), ha.2.trans (rejDelete_env K _ _)⟩
        · exact ha) lst (acc.1, s1) ⟨Frame.refl W s1, Env.refl s1⟩
    exact ⟨h2.1.trans Frame.of_eq, h2.2.trans (Env.of_eq id)⟩

/-- loop invariant of txMined over the inputs of a transaction that was not pooled: `st` is `cur` after conflicting
    records (with their children) were deleted, and no pooled record spends an input already processed (`done`) -/
structure ConfInv (K : Keys) (W : Tx → Prop) (ν : OutPoint → Nat) (A : OutPoint → Prop) (Cf : TxId → Prop)
    (cur : State) (done : List TxIn) (st : State) : Prop where
  post : DelPost K W ν A Cf cur st
  free : ∀ j ∈ done, st.spent.get? (K.uidx j.prev j.vout) = none

theorem minedConf_ok {K : Keys} {W : Tx → Prop} {rank : TxId → Nat} {u0 : UT} {ν : OutPoint → Nat}
    {A : OutPoint → Prop} {Cf : TxId → Prop} (U : Univ2 K W rank u0 ν) (cur : State) (done : List TxIn)
    (st : State) (i : TxIn) (h : ConfInv K W ν A Cf cur done st) (hp : (minedConf K st i).panicked = false) :
    ConfInv K W ν A Cf cur (done ++ [i]) (minedConf K st i) := by
  have hb := h.post.ok.w.base
  unfold minedConf at hp ⊢
  split
  · rename_i hnone
    exact ⟨h.post, List.forall_mem_append.mpr ⟨h.free, List.forall_mem_singleton.mpr hnone⟩⟩
  · rename_i val hval
    split
    · rename_i r hr
      rw [hval] at hp
      simp only [hr] at hp
      obtain ⟨p1, p2⟩ := delWC_ok U.base 0 _ st r h.post.ok (hb.str.at_key hr) hp
      refine ⟨h.post.trans p1, fun j hj => Option.eq_none_iff_forall_ne_some.mpr fun x hx => ?_⟩
      have hx0 := p1.subS _ x hx
      rcases List.mem_append.mp hj with h1 | h1
      · rw [h.free j h1] at hx0; cases hx0
      · rw [List.mem_singleton.mp h1, hval] at hx0
        cases hx0
        obtain ⟨y, hy, _⟩ := p1.ok.w.base.str.sound _ _ hx
        rw [← hb.str.key _ _ hr, p2] at hy
        cases hy
    · rename_i hnone
      obtain ⟨x, hx, _⟩ := hb.str.sound _ _ hval
      rw [hnone] at hx; cases hx

theorem minedConf_env (K : Keys) (s : State) (i : TxIn) : Env s (minedConf K s i) := by
  unfold minedConf
  split
  · exact Env.refl s
  · split
    · exact delWithChildren_env K 0 _ _ _
    · exact Env.of_eq id

theorem ConfInv.frame {K : Keys} {W : Tx → Prop} {ν : OutPoint → Nat} {A : OutPoint → Prop} {Cf : TxId → Prop}
    {cur st st' : State} {done : List TxIn} (h : ConfInv K W ν A Cf cur done st) (f : Frame W st st') :
    ConfInv K W ν A Cf cur done st' :=
  ⟨⟨h.post.ok.frame f, by rw [f.core.1]; exact h.post.subP, by rw [f.core.2.1]; exact h.post.subS⟩,
   by rw [f.core.2.1]; exact h.free⟩

/-- the loop of txMined over the inputs of a transaction that was not in the pool -/
theorem conf_fold {K : Keys} {W : Tx → Prop} {rank : TxId → Nat} {u0 : UT} {ν : OutPoint → Nat}
    {A : OutPoint → Prop} {Cf : TxId → Prop} (U : Univ2 K W rank u0 ν) (b : Nat) (cur : State) :
    ∀ (ins done : List TxIn) (acc : Bool × State), Env cur acc.2 →
    (acc.2.panicked = false → ConfInv K W ν A Cf cur done acc.2) →
    Env cur (ins.foldl (txMinedStep K b false) acc).2 ∧
    ((ins.foldl (txMinedStep K b false) acc).2.panicked = false →
      ConfInv K W ν A Cf cur (done ++ ins) (ins.foldl (txMinedStep K b false) acc).2) := by
  intro ins
  induction ins with
  | nil => intro done acc e h; exact ⟨e, by simpa using h⟩
  | cons i r ih =>
    intro done acc e h
    simp only [List.foldl_cons]
    obtain ⟨f1, e1⟩ := txMinedStep_frame K W b false acc i
    simp only [Bool.false_eq_true, if_false] at f1 e1
    have e0 := minedConf_env K acc.2 i
    have := ih (done ++ [i]) (txMinedStep K b false acc i) ((e.trans e0).trans e1) (by
      intro hp
      have hp1 := alive_of_env e1 hp
      exact (minedConf_ok U cur done acc.2 i (h (alive_of_env e0 hp1)) hp1).frame f1)
    simpa using this

/-! ### txMined while a block is being processed (last transaction first) -/

/-- available: unspent in `s`, or made by a transaction of `L` (mined: the part of the block already processed;
    undone: the part still to be put back) -/
def AWith (s : State) (L : List Tx) (o : OutPoint) : Prop := inU s o ∨ createdBy L o
/-- confirmed before the block, or a transaction of the part `D` of the block already processed -/
def CfDone (u0 : UT) (s : State) (D : List Tx) (id : TxId) : Prop := Conf u0 s.undo id ∨ ∃ Y ∈ D, Y.id = id

/-- the invariant between two txMined calls: `s` = the state before the block, `D` = the block transactions already
    processed (a suffix of the block) -/
structure Mid (K : Keys) (W : Tx → Prop) (u0 : UT) (ν : OutPoint → Nat) (s : State) (D : List Tx) (cur : State) :
    Prop where
  ok : PoolOK K W ν (AWith s D) (CfDone u0 s D) cur
  ns : ∀ b x, cur.pool.get? b = some x → ∀ i ∈ x.tx.ins, ¬ spentBy D (i.prev, i.vout)

theorem Mid.frame {K : Keys} {W : Tx → Prop} {u0 : UT} {ν : OutPoint → Nat} {s cur cur' : State} {D : List Tx}
    (h : Mid K W u0 ν s D cur) (f : Frame W cur cur') : Mid K W u0 ν s D cur' :=
  ⟨h.ok.frame f, by rw [f.core.1]; exact h.ns⟩

theorem createdBy_cons (X : Tx) (D : List Tx) (o : OutPoint) :
    createdBy (X :: D) o ↔ (o.1 = X.id ∧ o.2 < X.outs.length) ∨ createdBy D o := by
  unfold createdBy
  constructor
  · rintro ⟨t, ht, h⟩
    rcases List.mem_cons.mp ht with e | e
    · rw [e] at h; exact Or.inl h
    · exact Or.inr ⟨t, e, h⟩
  · rintro (h | ⟨t, ht, h⟩)
    · exact ⟨X, List.mem_cons_self, h⟩
    · exact ⟨t, List.mem_cons_of_mem _ ht, h⟩

theorem pooled_tx_eq {K : Keys} {W : Tx → Prop} {rank : TxId → Nat} {u0 : UT} {ν : OutPoint → Nat}
    (U : Univ2 K W rank u0 ν) {cur : State} (hb : InvR K W cur) {X : Tx} (hX : W X) {r : T2S}
    (hr : cur.pool.get? (K.bidx X.id) = some r) : r.tx = X :=
  U.base.id_fun _ _ (hb.poolW _ _ hr) hX (U.base.bidx_inj _ _ (hb.poolW _ _ hr) hX (hb.str.key _ _ hr))

theorem same_input_same_key {K : Keys} {W : Tx → Prop} {cur : State} (hb : InvR K W cur) {b1 b2 : Nat} {x1 x2 : T2S}
    (h1 : cur.pool.get? b1 = some x1) (h2 : cur.pool.get? b2 = some x2) {i j : TxIn} (hi : i ∈ x1.tx.ins)
    (hj : j ∈ x2.tx.ins) (e : (j.prev, j.vout) = (i.prev, i.vout)) : b1 = b2 :=
  hb.str.same_key h1 h2 hi hj (by rw [(Prod.mk.inj e).1, (Prod.mk.inj e).2])

theorem mined_in_fold (K : Keys) (W : Tx → Prop) (b : Nat) : ∀ (ins : List TxIn) (acc : Bool × State),
    Frame W acc.2 (ins.foldl (txMinedStep K b true) acc).2 ∧ Env acc.2 (ins.foldl (txMinedStep K b true) acc).2 := by
  intro ins acc
  refine foldl_inv (fun a : Bool × State => Frame W acc.2 a.2 ∧ Env acc.2 a.2) _ (fun a i h => ?_) ins acc
    ⟨Frame.refl W _, Env.refl _⟩
  obtain ⟨f1, e1⟩ := txMinedStep_frame K W b true a i
  simp only [if_true] at f1 e1
  exact ⟨h.1.trans f1, h.2.trans e1⟩

/-- the mined transaction was pooled: clear the flags of its children, remove it.  The record `r` was looked up BEFORE
    `mined` rewrote the flags; Delete takes it as it was, which makes no difference because Delete reads only its
    transaction (`delOne_congr`) -/
theorem mined_pooled {K : Keys} {W : Tx → Prop} {rank : TxId → Nat} {u0 : UT} {ν : OutPoint → Nat}
    (U : Univ2 K W rank u0 ν) (s : State) (hc3 : ∀ o, inU s o → Conf u0 s.undo o.1) (D : List Tx) (X : Tx) (hX : W X)
    (cur : State) (h : Mid K W u0 ν s D cur) (r : T2S) (hr : cur.pool.get? (K.bidx X.id) = some r)
    (hp : (delOne K (minedFlags K cur r) r 0).panicked = false) :
    Mid K W u0 ν s (X :: D) (delOne K (minedFlags K cur r) r 0) := by
  have hb := h.ok.w.base
  have hrx : r.tx = X := pooled_tx_eq U hb hX hr
  have hin : cur.pool.get? (K.bidx r.tx.id) = some r := by rw [hrx]; exact hr
  have hAC : ∀ o, AWith s D o → CfDone u0 s D o.1 := by
    rintro o (ho | ⟨Y, hY, e, _⟩)
    · exact Or.inl (hc3 o ho)
    · exact Or.inr ⟨Y, hY, e.symm⟩
  have hp1 := alive_of_env (delOne_env K (minedFlags K cur r) r 0) hp
  have mi := minedFlags_ok U hAC r cur h.ok hin hp1
  obtain ⟨r', hr', etx⟩ := mi.self
  rw [delOne_congr K _ r r' 0 etx.symm] at hp ⊢
  have hin' : (minedFlags K cur r).pool.get? (K.bidx r'.tx.id) = some r' := by rw [etx]; exact hr'
  have hb1 := mi.ok.w.base
  have ok2 := delOne_ok (minedFlags K cur r) r' 0 mi.ok hin' (by
    intro b' x hx _ k i hk hf e
    obtain ⟨p, hp1', hp2, hp3⟩ := mi.ok.par b' x hx k i hk hf
    rw [e, hin'] at hp1'
    cases hp1'
    have := mi.prog b' x hx k i hk hf (by rw [← hp2, etx])
    rw [etx] at hp3
    omega)
  obtain ⟨s1, _⟩ := delOne_sub K (minedFlags K cur r) r' 0
  have gone : (delOne K (minedFlags K cur r) r' 0).pool.get? (K.bidx X.id) = none := by
    rw [(delOne_pool_spent K _ r' 0).1, etx, hrx]
    exact AList.get?_del_self _ _
  refine ⟨⟨ok2.w.mono ?_ ?_, ok2.par⟩, ?_⟩
  · intro _ _ _ _ i _ _ ha
    rcases ha with ha | ⟨h1, h2⟩
    · exact ha.imp_right fun ha => (createdBy_cons X D _).mpr (Or.inr ha)
    · exact Or.inr ((createdBy_cons X D _).mpr (Or.inl ⟨by rw [h1, hrx], by rw [← hrx]; exact h2⟩))
  · intro b' x hx hc
    rcases hc with hc | ⟨Y, hY, e⟩
    · exact Or.inl hc
    · rcases List.mem_cons.mp hY with e2 | e2
      · exfalso
        have k := ok2.w.base.str.key b' x hx
        rw [← e, e2] at k
        rw [← k, gone] at hx
        cases hx
      · exact Or.inr ⟨Y, e2, e⟩
  · intro b' x hx i hi hsp
    obtain ⟨Y, hY, j, hj, e⟩ := hsp
    have hx1 := s1 b' x hx
    rcases List.mem_cons.mp hY with e2 | e2
    · have hj' : j ∈ r'.tx.ins := by rw [etx, hrx, ← e2]; exact hj
      have := same_input_same_key hb1 hx1 hr' hi hj' e
      rw [this, hrx, gone] at hx
      cases hx
    · obtain ⟨x0, hx0, e0⟩ := minedFlags_back K cur r b' x hx1
      exact h.ns b' x0 hx0 i (by rw [e0]; exact hi) ⟨Y, e2, j, hj, e⟩

theorem txMined_mid {K : Keys} {W : Tx → Prop} {rank : TxId → Nat} {u0 : UT} {ν : OutPoint → Nat}
    (U : Univ2 K W rank u0 ν) (s : State) (hc3 : ∀ o, inU s o → Conf u0 s.undo o.1) (D : List Tx) (X : Tx) (hX : W X)
    (cur : State) (h : Mid K W u0 ν s D cur) (hp : (txMined K cur X).panicked = false) :
    Mid K W u0 ν s (X :: D) (txMined K cur X) := by
  rw [txMined_eq] at hp ⊢
  unfold txMinedFold at hp ⊢
  dsimp only at hp ⊢
  cases hg : cur.pool.get? (K.bidx X.id) with
  | some r =>
    simp only [hg] at hp ⊢
    obtain ⟨f1, e1⟩ := mined_in_fold K W (K.bidx X.id) X.ins (false, delOne K (minedFlags K cur r) r 0)
    simp only [Bool.or_true, if_true] at hp ⊢
    exact (mined_pooled U s hc3 D X hX cur h r hg (alive_of_env e1 hp)).frame f1
  | none =>
    simp only [hg] at hp ⊢
    obtain ⟨e1, c1⟩ := conf_fold (A := AWith s D) (Cf := CfDone u0 s D) (ν := ν) (W := W) U (K.bidx X.id) cur X.ins []
      (false, cur) (Env.refl cur) (fun _ => ⟨DelPost.refl h.ok, by simp⟩)
    have fin : ∀ st : State, Frame W (X.ins.foldl (txMinedStep K (K.bidx X.id) false) (false, cur)).2 st →
        Env (X.ins.foldl (txMinedStep K (K.bidx X.id) false) (false, cur)).2 st → st.panicked = false →
        Mid K W u0 ν s (X :: D) st := by
      intro st f e hp'
      have ci := (c1 (alive_of_env e hp')).frame f
      simp only [List.nil_append] at ci
      refine ⟨⟨ci.post.ok.w.mono ?_ ?_, ci.post.ok.par⟩, ?_⟩
      · exact fun _ _ _ _ _ _ _ ha => ha.imp_right fun ha => (createdBy_cons X D _).mpr (Or.inr ha)
      · intro b' x hx hc
        rcases hc with hc | ⟨Y, hY, e⟩
        · exact Or.inl hc
        · rcases List.mem_cons.mp hY with e2 | e2
          · exfalso
            have k := ci.post.ok.w.base.str.key b' x hx
            rw [← e, e2] at k
            have := ci.post.subP b' x hx
            rw [← k, hg] at this
            cases this
          · exact Or.inr ⟨Y, e2, e⟩
      · intro b' x hx i hi hsp
        obtain ⟨Y, hY, j, hj, e⟩ := hsp
        rcases List.mem_cons.mp hY with e2 | e2
        · have c := ci.post.ok.w.base.str.complete b' x hx _ (List.mem_map.mpr ⟨i, hi, rfl⟩)
          simp only [Prod.mk.injEq] at e
          rw [← e.1, ← e.2, ci.free j (by rw [← e2]; exact hj)] at c
          cases c
        · exact h.ns b' x (ci.post.subP b' x hx) i hi ⟨Y, e2, j, hj, e⟩
    simp only [Bool.or_false] at hp ⊢
    split
    · rename_i hq
      simp only [hq, if_true] at hp
      exact fin _ (Frame.refl W _) (Env.refl _) hp
    · rename_i hq
      simp only [hq] at hp
      exact fin _ (rejDeleteByIdx_frame K W _ _) (rejDeleteByIdx_env K _ _) hp

/-! ### BlockMined -/

/-- the counterpart of C04 `connect_sound` on the pool's own chain side (assumed in `AdmOp`, derived in Proofs/C12Chain
    `connect_sound_model`; C04 is not imported): the chain side `s1` after connecting the block `txs` on
    `s` is consistent again; what was unspent and is not spent by the block stays, what the block creates and
    does not spend itself is unspent; the block's txids were not confirmed before and are pairwise different -/
structure ConnectSound (u0 : UT) (ν : OutPoint → Nat) (s s1 : State) (txs : List Tx) : Prop where
  chain : ChainOK u0 ν s1
  keep : ∀ o, inU s o → ¬ spentBy txs o → inU s1 o
  made : ∀ o, createdBy txs o → ¬ spentBy txs o → inU s1 o
  fresh : ∀ t ∈ txs, ¬ Conf u0 s.undo t.id
  ids : txs.Pairwise (fun a b => a.id ≠ b.id)

theorem connectUtxo_fields (s : State) (h : Nat) (txs : List Tx) :
    (connectUtxo s h txs).pool = s.pool ∧ (connectUtxo s h txs).spent = s.spent ∧
    (connectUtxo s h txs).weightTotal = s.weightTotal ∧ (connectUtxo s h txs).panicked = s.panicked ∧
    ∃ sc, (connectUtxo s h txs).undo = (txs, sc) :: s.undo := by
  unfold connectUtxo
  split
  rename_i u sc _
  exact ⟨rfl, rfl, rfl, rfl, sc, rfl⟩

theorem PoolOK.of_pool_eq {K : Keys} {W : Tx → Prop} {ν : OutPoint → Nat} {A : OutPoint → Prop} {Cf : TxId → Prop}
    {s s' : State} (h : PoolOK K W ν A Cf s) (hb : InvR K W s') (e1 : s'.pool = s.pool)
    (e3 : s'.weightTotal = s.weightTotal) : PoolOK K W ν A Cf s' :=
  ⟨⟨hb, by rw [e1]; exact h.w.loc, by rw [e1]; exact h.w.unf, by rw [e1]; exact h.w.ncf, by rw [e1, e3]; exact h.w.wt⟩,
   by unfold ParOK; rw [e1]; exact h.par⟩

theorem mid_fold {K : Keys} {W : Tx → Prop} {rank : TxId → Nat} {u0 : UT} {ν : OutPoint → Nat}
    (U : Univ2 K W rank u0 ν) (s : State) (hc3 : ∀ o, inU s o → Conf u0 s.undo o.1) :
    ∀ (l D : List Tx) (cur : State), (∀ X ∈ l, W X) →
    (cur.panicked = false → Mid K W u0 ν s D cur) →
    ((l.foldl (txMined K) cur).panicked = false → Mid K W u0 ν s (l.reverse ++ D) (l.foldl (txMined K) cur)) := by
  intro l
  induction l with
  | nil => intro D cur _ h; simpa using h
  | cons X r ih =>
    intro D cur hW h
    simp only [List.foldl_cons, List.reverse_cons, List.append_assoc, List.singleton_append]
    apply ih (X :: D) (txMined K cur X) (fun Y hY => hW Y (List.mem_cons_of_mem _ hY))
    intro hp
    exact txMined_mid U s hc3 D X (hW X List.mem_cons_self) cur (h (alive_of_env (txMined_env K cur X) hp)) hp

/-- the pool invariant between the two loops of BlockMined: after txMined over the block, last transaction first -/
theorem minedAll_good {K : Keys} {W : Tx → Prop} {rank : TxId → Nat} {u0 : UT} {ν : OutPoint → Nat}
    (U : Univ2 K W rank u0 ν) (s : State) (hh : Nat) (txs : List Tx) (hW : ∀ t ∈ txs, W t)
    (hc : ChainOK u0 ν s) (g : PGoodP K W u0 ν s) (hI : InvR K W s)
    (cs : ConnectSound u0 ν s (connectUtxo s hh txs) txs) :
    PGoodP K W u0 ν (txs.reverse.foldl (txMined K) (connectUtxo s hh txs)) := by
  obtain ⟨e1, _, e3, e4, sc, e5⟩ := connectUtxo_fields s hh txs
  have hb1 := connectUtxo_InvR s hh txs hI hW
  -- the invariant at the start of the txMined loop
  have start : (connectUtxo s hh txs).panicked = false → Mid K W u0 ν s [] (connectUtxo s hh txs) := by
    intro hp
    rw [e4] at hp
    have g0 := g hp
    have : PoolOK K W ν (AWith s []) (CfDone u0 s []) s :=
      ⟨g0.w.mono (fun _ _ _ _ _ _ _ ha => Or.inl ha) (fun _ _ _ hcf => by
        rcases hcf with hcf | ⟨Y, hY, _⟩
        · exact hcf
        · simp at hY), g0.par⟩
    exact ⟨this.of_pool_eq hb1 e1 e3, by intro b x _ i _ ⟨Y, hY, _⟩; simp at hY⟩
  have hc3 := hc.conf_of_inU
  have hm := mid_fold U s hc3 txs.reverse [] (connectUtxo s hh txs)
    (fun X hX => hW X (List.mem_reverse.mp hX)) start
  -- from the end of the loop to the invariant against the new chain side
  intro hp
  have m : Mid K W u0 ν s txs (txs.reverse.foldl (txMined K) (connectUtxo s hh txs)) := by simpa using hm hp
  apply PGood.of_env _ (foldl_env (txMined K) (fun s t => txMined_env K s t) txs.reverse (connectUtxo s hh txs))
  refine ⟨m.ok.w.mono ?_ ?_, m.ok.par⟩
  · intro b x hx k i hk _ ha
    have hns := m.ns b x hx i (List.mem_of_getElem? hk)
    rcases ha with ha | ha
    · exact cs.keep _ ha hns
    · exact cs.made _ ha hns
  · intro b x _ hcf
    rcases hcf with hcf | ⟨e', he', Y, hY, hid⟩
    · exact Or.inl (Or.inl hcf)
    · rw [e5] at he'
      rcases List.mem_cons.mp he' with e2 | e2
      · rw [e2] at hY; exact Or.inr ⟨Y, hY, hid⟩
      · exact Or.inl (Or.inr ⟨e', e2, Y, hY, hid⟩)

theorem blockMined_good {K : Keys} {W : Tx → Prop} {rank : TxId → Nat} {u0 : UT} {ν : OutPoint → Nat}
    (U : Univ2 K W rank u0 ν) (mf : Nat) (s : State) (hh : Nat) (txs : List Tx) (hW : ∀ t ∈ txs, W t)
    (hc : ChainOK u0 ν s) (g : PGoodP K W u0 ν s) (hI : InvR K W s)
    (cs : ConnectSound u0 ν s (connectUtxo s hh txs) txs) :
    PGoodP K W u0 ν (blockMined K mf (connectUtxo s hh txs) txs) := by
  have g1 := minedAll_good U s hh txs hW hc g hI cs
  have c1 := cs.chain.of_env (foldl_env (txMined K) (fun s t => txMined_env K s t) txs.reverse (connectUtxo s hh txs))
  rw [blockMined_eq]
  exact (foldl_inv (fun cur => ChainOK u0 ν cur ∧ PGoodP K W u0 ν cur) _
    (fun cur t h => (txAccepted_reach mf cur _).good U h.1 h.2) txs _ ⟨c1, g1⟩).2

/-! ### BlockUndone -/

/-- the counterpart of C06 `undo_commitTxs` on the pool's own chain side (assumed in `AdmOp`, derived in
    Proofs/C12Chain `undo_sound_model`; C06 is not imported): the chain side `s'` after disconnecting the block `txs`
    from `s` is consistent again; what the block created is gone, what was unspent and was not created by the
    block stays unspent -/
structure UndoCommitTxs (u0 : UT) (ν : OutPoint → Nat) (s s' : State) (txs : List Tx) : Prop where
  chain : ChainOK u0 ν s'
  gone : ∀ o, createdBy txs o → ¬ inU s' o
  keep : ∀ o, inU s o → ¬ createdBy txs o → inU s' o

theorem disconnectUtxo_fields (s s' : State) (txs : List Tx) (h : disconnectUtxo s = some (s', txs)) :
    s'.pool = s.pool ∧ s'.weightTotal = s.weightTotal ∧ s'.panicked = s.panicked ∧
    ∃ sc, s.undo = (txs, sc) :: s'.undo := by
  unfold disconnectUtxo at h
  split at h
  · cases h
  · rename_i txs0 sc rest hu
    simp only [Option.some.injEq, Prod.mk.injEq] at h
    obtain ⟨rfl, rfl⟩ := h
    exact ⟨rfl, rfl, rfl, sc, hu⟩

variable {K : Keys} {W : Tx → Prop} {rank : TxId → Nat} {u0 : UT} {ν : OutPoint → Nat}

theorem undoneStep_ok (U : Univ2 K W rank u0 ν) (mf : Nat) (s' : State) (hc : ChainOK u0 ν s') (X : Tx) (R : List Tx)
    (hX : W X)
    (hnd : X.inOps.Nodup) (cur : State) (e : Env s' cur)
    (h : PoolOK K W ν (AWith s' (X :: R)) (Conf u0 s'.undo) cur)
    (hp : (undoneStep K mf cur X).panicked = false) :
    PoolOK K W ν (AWith s' R) (Conf u0 s'.undo) (undoneStep K mf cur X) := by
  unfold undoneStep at hp ⊢
  dsimp only at hp ⊢
  have e1 := rejDeleteByIdx_env K cur (K.bidx X.id)
  have h1 := h.frame (rejDeleteByIdx_frame K W cur (K.bidx X.id))
  have e12 := (e.trans e1)
  have hc1 := hc.of_env e12
  have h2 := processTx_ok U mf _ X { trusted := true, unmined := true } h1 hX
    (fun o ho => Or.inl (by unfold inU; rw [e12.utxo] at ho; exact ho))
    hc1.val (fun _ => hnd) (by
      have := conf_spent_input U _ hc1 h1.w.base.undoW X hX
      rw [e12.undo] at this
      exact this)
  split
  · rename_i hres
    simp only [hres, if_true] at hp
    split
    · rename_i r hr
      simp only [hr] at hp
      have hrx : r.tx = X := pooled_tx_eq U h2.w.base hX hr
      apply unminedFlags_ok U r _ _ (by rw [hrx]; exact hr) hp
      refine ⟨h2.w.mono ?_ (fun _ _ _ hcf => hcf), h2.par⟩
      intro _ _ _ _ i _ _ ha
      rcases ha with ha | ha
      · exact Or.inl (Or.inl ha)
      · rcases (createdBy_cons X R _).mp ha with ⟨a1, a2⟩ | a
        · exact Or.inr ⟨by rw [hrx]; exact a1, Nat.zero_le _, by rw [hrx]; exact a2⟩
        · exact Or.inl (Or.inr a)
    · rename_i hnone
      simp [hnone] at hp
  · rename_i hres
    simp [hres] at hp

/-- the pool invariant at the start of BlockUndone, against what the undone block leaves to re-create -/
theorem undone_start {K : Keys} {W : Tx → Prop} {u0 : UT} {ν : OutPoint → Nat}
    (s s' : State) (txs : List Tx) (hd : disconnectUtxo s = some (s', txs)) (g : PGoodP K W u0 ν s) (hI : InvR K W s)
    (uc : UndoCommitTxs u0 ν s s' txs) (hp : s'.panicked = false) :
    PoolOK K W ν (AWith s' txs) (Conf u0 s'.undo) s' := by
  obtain ⟨e1, e3, e4, sc, e5⟩ := disconnectUtxo_fields s s' txs hd
  rw [e4] at hp
  have g0 := g hp
  have : PoolOK K W ν (AWith s' txs) (Conf u0 s'.undo) s := by
    refine ⟨g0.w.mono ?_ ?_, g0.par⟩
    · intro _ _ _ _ i _ _ ha
      by_cases hcr : createdBy txs (i.prev, i.vout)
      · exact Or.inr hcr
      · exact Or.inl (uc.keep _ ha hcr)
    · intro _ _ _ hcf
      rcases hcf with hcf | ⟨e', he', Y, hY, hid⟩
      · exact Or.inl hcf
      · exact Or.inr ⟨e', by rw [e5]; exact List.mem_cons_of_mem _ he', Y, hY, hid⟩
  exact this.of_pool_eq (disconnectUtxo_InvR s s' txs hI hd).1 e1 e3

/-- the loop of BlockUndone: the pool invariant against the shrinking rest of the block, together with any `J` that
    each iteration keeps in a live state with that invariant -/
theorem undone_fold {J : State → Prop}
    (U : Univ2 K W rank u0 ν) (mf : Nat) (s' : State) (hc : ChainOK u0 ν s')
    (hJ : ∀ X (r : List Tx) cur, W X → Env s' cur → PoolOK K W ν (AWith s' (X :: r)) (Conf u0 s'.undo) cur → J cur →
      J (undoneStep K mf cur X)) :
    ∀ (l : List Tx) (cur : State), (∀ X ∈ l, W X ∧ X.inOps.Nodup) → Env s' cur →
      (cur.panicked = false → PoolOK K W ν (AWith s' l) (Conf u0 s'.undo) cur ∧ J cur) →
      (l.foldl (undoneStep K mf) cur).panicked = false →
        PGood K W u0 ν (l.foldl (undoneStep K mf) cur) ∧ J (l.foldl (undoneStep K mf) cur) := by
  intro l
  induction l with
  | nil =>
    intro cur _ e h hp
    obtain ⟨this, hj⟩ := h hp
    refine ⟨PGood.of_env ⟨this.w.mono ?_ (fun _ _ _ hcf => hcf), this.par⟩ e, hj⟩
    intro _ _ _ _ i _ _ ha
    rcases ha with ha | ⟨Y, hY, _⟩
    · exact ha
    · simp at hY
  | cons X r ih =>
    intro cur hl e h
    simp only [List.foldl_cons]
    have e2 := undoneStep_env K mf cur X
    apply ih _ (fun Y hY => hl Y (List.mem_cons_of_mem _ hY)) (e.trans e2)
    intro hp
    obtain ⟨hXW, hXn⟩ := hl X List.mem_cons_self
    obtain ⟨h0, hj⟩ := h (alive_of_env e2 hp)
    exact ⟨undoneStep_ok U mf s' hc X r hXW hXn cur e h0 hp, hJ X r cur hXW e h0 hj⟩

theorem blockUndone_good (U : Univ2 K W rank u0 ν) (mf : Nat) (s s' : State) (txs : List Tx)
    (hd : disconnectUtxo s = some (s', txs))
    (hc : ChainOK u0 ν s) (g : PGoodP K W u0 ν s) (hI : InvR K W s)
    (uc : UndoCommitTxs u0 ν s s' txs) : PGoodP K W u0 ν (blockUndone K mf s' txs) := by
  obtain ⟨_, _, _, sc, e5⟩ := disconnectUtxo_fields s s' txs hd
  have hW := (disconnectUtxo_InvR s s' txs hI hd).2
  rw [blockUndone_eq]
  exact fun hp => (undone_fold (J := fun _ => True) U mf s' uc.chain (fun _ _ _ _ _ _ _ => trivial) txs s'
    (fun X hX => ⟨hW X hX, hc.nd (txs, sc) (by rw [e5]; exact List.mem_cons_self) X hX⟩) (Env.refl _)
    (fun hp => ⟨undone_start s s' txs hd g hI uc hp, trivial⟩) hp).1

end GocoinV.Mempool
