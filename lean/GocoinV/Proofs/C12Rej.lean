/-
  Proofs.C12Rej — the reject-list indexes of rjected.go (TRIdxArray ring, TransactionsRejected, WaitingForInputs,
  RejectedSpentOutputs): list facts, the two loops (`spAdd`, `spDel`) and the two look-ups (`wAdd`, `wDel`) of OneTxRejected.Add and
  OneTxRejected.cleanup under names, and
  membership in RejectedSpentOutputs after them (helper lemmas for Props/C12 `reject_index_inv`; the invariant itself is
  in Proofs/C12RejCore).  Core Lean only.
-/
import GocoinV.Proofs.C12Inv
namespace GocoinV.Mempool

/-! ### lists -/

theorem eraseFirst_eq_erase (b : Nat) : ∀ l : List Nat, eraseFirst b l = l.erase b
  | [] => rfl
  | x :: r => by simp only [eraseFirst, List.erase_cons, beq_iff_eq, eraseFirst_eq_erase b r]

theorem nodup_eraseFirst (b : Nat) (l : List Nat) (h : l.Nodup) : (eraseFirst b l).Nodup :=
  eraseFirst_eq_erase b l ▸ h.erase b

theorem mem_eraseFirst (b : Nat) : ∀ (l : List Nat), l.Nodup → ∀ x, x ∈ eraseFirst b l ↔ x ∈ l ∧ x ≠ b := by
  intro l h x; rw [eraseFirst_eq_erase, h.mem_erase_iff, and_comm]

theorem length_eraseFirst_le (b : Nat) : ∀ (l : List Nat), l.length ≤ (eraseFirst b l).length + 1 := by
  intro l; rw [eraseFirst_eq_erase, List.length_erase]; split <;> omega

/-- the non-zero slots of the ring, oldest first -/
def ringKeys (l : List (Option Nat)) : List Nat := l.filterMap id

theorem mem_ringKeys (l : List (Option Nat)) (x : Nat) : x ∈ ringKeys l ↔ some x ∈ l := by
  simp [ringKeys, List.mem_filterMap]

theorem ringKeys_zeroSlot (b : Nat) : ∀ (l : List (Option Nat)), ringKeys (zeroSlot b l) = eraseFirst b (ringKeys l)
  | [] => rfl
  | none :: r => ringKeys_zeroSlot b r
  | some x :: r => by
    unfold zeroSlot
    show _ = if x = b then ringKeys r else x :: eraseFirst b (ringKeys r)
    split
    · rfl
    · exact congrArg (x :: ·) (ringKeys_zeroSlot b r)

theorem ringKeys_normRing : ∀ (l : List (Option Nat)), ringKeys (normRing l) = ringKeys l
  | [] | some _ :: _ => rfl
  | none :: r => ringKeys_normRing r

theorem ringKeys_append (l : List (Option Nat)) (b : Nat) : ringKeys (l ++ [some b]) = ringKeys l ++ [b] := by
  simp [ringKeys, List.filterMap_append]

/-- the list stored under `u` in RejectedSpentOutputs (nil if there is no entry) -/
def lst (m : AList Nat (List Nat)) (u : Nat) : List Nat := (m.get? u).getD []

/-- the Ids stored under `k` in WaitingForInputs (nil if there is no entry) -/
def wl (m : AList Nat (TxId × List Nat)) (k : Nat) : List Nat := ((m.get? k).map Prod.snd).getD []

theorem lst_of_get {m : AList Nat (List Nat)} {u : Nat} {l : List Nat} (h : m.get? u = some l) : lst m u = l := by
  simp [lst, h]

theorem wl_of_get {m : AList Nat (TxId × List Nat)} {k : Nat} {id : TxId} {ids : List Nat}
    (h : m.get? k = some (id, ids)) : wl m k = ids := by
  simp [wl, h]

theorem wl_of_none {m : AList Nat (TxId × List Nat)} {k : Nat} (h : m.get? k = none) : wl m k = [] := by
  simp [wl, h]

/-! ### the four loops of Add / cleanup, named -/

def spDelStep (K : Keys) (b : Nat) (m : AList Nat (List Nat)) (i : TxIn) : AList Nat (List Nat) :=
  let u := K.uidx i.prev i.vout
  match m.get? u with
  | none => m
  | some ref =>
    let nr := ref.filter (· ≠ b)
    if nr.length ≠ ref.length then (if nr.isEmpty then m.del u else m.set u nr) else m

def spDel (K : Keys) (b : Nat) (ins : List TxIn) (m : AList Nat (List Nat)) : AList Nat (List Nat) :=
  ins.foldl (spDelStep K b) m

def wDel (K : Keys) (b : Nat) (w4 : Option TxId) (m : AList Nat (TxId × List Nat)) : AList Nat (TxId × List Nat) :=
  match w4 with
  | none => m
  | some w4 =>
    let k := K.bidx w4
    match m.get? k with
    | none => m
    | some (id, ids) =>
      if ids.length = 1 then (if ids = [b] then m.del k else m)
      else m.set k (id, eraseFirst b ids)

def spAddStep (K : Keys) (b : Nat) (m : AList Nat (List Nat)) (i : TxIn) : AList Nat (List Nat) :=
  let u := K.uidx i.prev i.vout
  m.set u ((m.get? u).getD [] ++ [b])

def spAdd (K : Keys) (b : Nat) (ins : List TxIn) (m : AList Nat (List Nat)) : AList Nat (List Nat) :=
  ins.foldl (spAddStep K b) m

def wAdd (K : Keys) (b : Nat) (w4 : Option TxId) (m : AList Nat (TxId × List Nat)) : AList Nat (TxId × List Nat) :=
  match w4 with
  | none => m
  | some w4 =>
    let k := K.bidx w4
    match m.get? k with
    | none => m.set k (w4, [b])
    | some (id, ids) => m.set k (id, ids ++ [b])

theorem rejCleanup_eq (K : Keys) (s : State) (r : Rej) (t : Tx) :
    rejCleanup K s r t = { s with rejSpent := spDel K (K.bidx r.id) t.ins s.rejSpent,
                                  waiting := wDel K (K.bidx r.id) r.waiting4 s.waiting } := rfl

theorem rejAddRefs_eq (K : Keys) (s : State) (r : Rej) :
    rejAddRefs K s r = match r.tx with
      | none => s
      | some t => { s with rejSpent := spAdd K (K.bidx r.id) t.ins s.rejSpent,
                           waiting := wAdd K (K.bidx r.id) r.waiting4 s.waiting } := rfl

/-- the inputs of the stored transaction (nil if the record has no data) -/
def rins (r : Rej) : List TxIn := match r.tx with
  | some t => t.ins
  | none => []

def uof (K : Keys) (i : TxIn) : Nat := K.uidx i.prev i.vout

/-! ### RejectedSpentOutputs: membership after the loops -/

theorem spDelStep_spec (K : Keys) (b : Nat) (m : AList Nat (List Nat)) (i : TxIn)
    (hne : ∀ u l, m.get? u = some l → l ≠ []) :
    (∀ u l, (spDelStep K b m i).get? u = some l → l ≠ []) ∧
    ∀ u x, x ∈ lst (spDelStep K b m i) u ↔ x ∈ lst m u ∧ ¬ (x = b ∧ u = uof K i) := by
  unfold spDelStep
  dsimp only
  cases hm : m.get? (K.uidx i.prev i.vout) with
  | none =>
    refine ⟨hne, fun u x => ⟨fun hx => ⟨hx, ?_⟩, And.left⟩⟩
    rintro ⟨_, e⟩
    rw [e] at hx
    simp [lst, uof, hm] at hx
  | some ref =>
    dsimp only
    have hf : ∀ x, x ∈ ref.filter (fun x => decide (x ≠ b)) ↔ x ∈ ref ∧ x ≠ b := by
      intro x; simp [List.mem_filter]
    split
    · split
      · rename_i hemp
        have hnil : ref.filter (fun x => decide (x ≠ b)) = [] := by simpa using hemp
        refine ⟨fun u l hl => hne u l (AList.get?_del_some hl).2, ?_⟩
        intro u x
        unfold lst
        rw [AList.get?_del]
        by_cases hu : u = K.uidx i.prev i.vout
        · simp only [hu, if_true, Option.getD_none, List.not_mem_nil, false_iff, hm, Option.getD_some, uof]
          rintro ⟨hx, hnb⟩
          have : x ∈ ref.filter (fun x => decide (x ≠ b)) := (hf x).mpr ⟨hx, fun e => hnb ⟨e, trivial⟩⟩
          rw [hnil] at this
          cases this
        · simp only [hu, if_false, uof, and_false, not_false_eq_true, and_true]
      · rename_i hemp
        refine ⟨?_, ?_⟩
        · intro u l hl
          rcases AList.get?_set_some hl with ⟨_, rfl⟩ | ⟨_, h2⟩
          · intro e
            exact hemp (by rw [e]; rfl)
          · exact hne u l h2
        · intro u x
          unfold lst
          rw [AList.get?_set]
          by_cases hu : u = K.uidx i.prev i.vout
          · simp only [hu, if_true, Option.getD_some, hm, uof, and_true]
            exact hf x
          · simp only [hu, if_false, uof, and_false, not_false_eq_true, and_true]
    · rename_i hlen
      have hnb : ¬ b ∈ ref := by simpa using hlen
      refine ⟨hne, fun u x => ⟨fun hx => ⟨hx, ?_⟩, And.left⟩⟩
      rintro ⟨e1, e2⟩
      rw [e2] at hx
      simp only [lst, uof, hm, Option.getD_some] at hx
      exact hnb (e1 ▸ hx)

theorem spDel_spec (K : Keys) (b : Nat) : ∀ (ins : List TxIn) (m : AList Nat (List Nat)),
    (∀ u l, m.get? u = some l → l ≠ []) →
    (∀ u l, (spDel K b ins m).get? u = some l → l ≠ []) ∧
    ∀ u x, x ∈ lst (spDel K b ins m) u ↔ x ∈ lst m u ∧ ¬ (x = b ∧ u ∈ ins.map (uof K)) := by
  intro ins
  induction ins with
  | nil => intro m h; exact ⟨h, by simp [spDel]⟩
  | cons i r ih =>
    intro m h
    obtain ⟨s1, s2⟩ := spDelStep_spec K b m i h
    obtain ⟨i1, i2⟩ := ih _ s1
    refine ⟨i1, ?_⟩
    intro u x
    have : spDel K b (i :: r) m = spDel K b r (spDelStep K b m i) := rfl
    rw [this, i2 u x, s2 u x, List.map_cons, List.mem_cons, and_or_left, not_or, and_assoc]

theorem spAddStep_spec (K : Keys) (b : Nat) (m : AList Nat (List Nat)) (i : TxIn)
    (hne : ∀ u l, m.get? u = some l → l ≠ []) :
    (∀ u l, (spAddStep K b m i).get? u = some l → l ≠ []) ∧
    ∀ u x, x ∈ lst (spAddStep K b m i) u ↔ x ∈ lst m u ∨ (x = b ∧ u = uof K i) := by
  unfold spAddStep
  refine ⟨?_, ?_⟩
  · intro u l hl
    rcases AList.get?_set_some hl with ⟨_, rfl⟩ | ⟨_, h2⟩
    · simp
    · exact hne u l h2
  · intro u x
    unfold lst
    rw [AList.get?_set]
    by_cases hu : u = K.uidx i.prev i.vout
    · simp only [hu, if_true, Option.getD_some, List.mem_append, List.mem_singleton, uof, and_true]
    · simp only [hu, if_false, uof, and_false, or_false]

theorem spAdd_spec (K : Keys) (b : Nat) : ∀ (ins : List TxIn) (m : AList Nat (List Nat)),
    (∀ u l, m.get? u = some l → l ≠ []) →
    (∀ u l, (spAdd K b ins m).get? u = some l → l ≠ []) ∧
    ∀ u x, x ∈ lst (spAdd K b ins m) u ↔ x ∈ lst m u ∨ (x = b ∧ u ∈ ins.map (uof K)) := by
  intro ins
  induction ins with
  | nil => intro m h; exact ⟨h, by simp [spAdd]⟩
  | cons i r ih =>
    intro m h
    obtain ⟨s1, s2⟩ := spAddStep_spec K b m i h
    obtain ⟨i1, i2⟩ := ih _ s1
    refine ⟨i1, ?_⟩
    intro u x
    have : spAdd K b (i :: r) m = spAdd K b r (spAddStep K b m i) := rfl
    rw [this, i2 u x, s2 u x, List.map_cons, List.mem_cons, and_or_left, or_assoc]

end GocoinV.Mempool
