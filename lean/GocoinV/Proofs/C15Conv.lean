/-
  Proofs.C15Conv — `convert_bits` (lib/others/bech32/segwit.go) as a positional-number conversion.
  The model's accumulator is a wrapping UInt32 exactly as in the Go code; the ghost value `vN : Nat`
  is the unbounded big-endian value of the consumed input. Invariant (`Inv`):
     val32 = vN mod 2^32,   out = the leading base-2^outbits digits of vN  (Vr out.reverse = vN / 2^bits),
     every emitted symbol < 2^outbits.
-/
import GocoinV.Proofs.C15Bech32Step
namespace GocoinV.Bech32

/-- little-endian value in base 2^w (applied to the REVERSED output, so it is the big-endian value) -/
def Vr (w : Nat) : Bytes → Nat
  | [] => 0
  | x :: t => x.toNat + 2 ^ w * Vr w t

/-- big-endian value in base 2^w by the left fold that the Go loop performs on `val` (unbounded) -/
def VN (w : Nat) (inp : Bytes) (acc : Nat) : Nat := inp.foldl (fun a x => a * 2 ^ w + x.toNat) acc

theorem VN_append (w : Nat) (a b : Bytes) (acc : Nat) : VN w (a ++ b) acc = VN w b (VN w a acc) := by
  simp [VN, List.foldl_append]

theorem Vr_reverse_snoc (w : Nat) (a : Bytes) (x : UInt8) :
    Vr w (a ++ [x]).reverse = x.toNat + 2 ^ w * Vr w a.reverse := by
  simp [Vr]

theorem VN_eq_Vr (w : Nat) (inp : Bytes) : ∀ pre : Bytes,
    VN w inp (Vr w pre.reverse) = Vr w (pre ++ inp).reverse := by
  induction inp with
  | nil => intro pre; simp [VN]
  | cons x t ih =>
    intro pre
    rw [List.append_cons, ← ih, Vr_reverse_snoc]
    simp only [VN, List.foldl_cons]
    congr 1
    rw [Nat.mul_comm]; omega

theorem VN_zero_eq_Vr (w : Nat) (inp : Bytes) : VN w inp 0 = Vr w inp.reverse := by
  simpa [Vr] using VN_eq_Vr w inp []

theorem Vr_lt (w : Nat) : ∀ (l : Bytes), (∀ x ∈ l, x.toNat < 2 ^ w) → Vr w l < 2 ^ (w * l.length)
  | [], _ => by simp [Vr]
  | x :: t, h => by
    have ⟨hx, h'⟩ := List.forall_mem_cons.mp h
    have ht := Vr_lt w t h'
    have : 2 ^ w * (Vr w t + 1) ≤ 2 ^ w * 2 ^ (w * t.length) := Nat.mul_le_mul_left _ ht
    rw [Vr, List.length_cons, Nat.mul_succ, Nat.pow_add, Nat.mul_comm (2 ^ (w * t.length))]
    rw [Nat.mul_add] at this
    omega

theorem Vr_digit (w : Nat) : ∀ (l : Bytes), (∀ x ∈ l, x.toNat < 2 ^ w) → ∀ j,
    Vr w l / 2 ^ (w * j) % 2 ^ w = (l.getD j 0).toNat
  | [], _, j => by simp [Vr]
  | x :: t, h, 0 => by
    rw [Vr, Nat.mul_zero, Nat.pow_zero, Nat.div_one, Nat.add_mul_mod_self_left]
    exact Nat.mod_eq_of_lt (h x List.mem_cons_self)
  | x :: t, h, j+1 => by
    have ⟨hx, h'⟩ := List.forall_mem_cons.mp h
    rw [Vr, Nat.mul_succ, Nat.pow_add, Nat.mul_comm (2 ^ (w * j)), ← Nat.div_div_eq_div_mul,
      Nat.add_mul_div_left _ _ (Nat.two_pow_pos w), Nat.div_eq_of_lt hx, Nat.zero_add]
    exact Vr_digit w t h' j

theorem Vr_inj (w : Nat) (a b : Bytes) (hl : a.length = b.length)
    (ha : ∀ x ∈ a, x.toNat < 2 ^ w) (hb : ∀ x ∈ b, x.toNat < 2 ^ w) (hv : Vr w a = Vr w b) : a = b := by
  refine List.ext_getElem hl fun j h1 h2 => UInt8.toNat_inj.mp ?_
  rw [List.getElem_eq_getD 0, List.getElem_eq_getD 0, ← Vr_digit w a ha j, ← Vr_digit w b hb j, hv]

theorem two_pow_split (b n : Nat) (h : b ≤ n) : 2 ^ n = 2 ^ b * 2 ^ (n - b) := by
  rw [← Nat.pow_add, Nat.add_sub_cancel' h]

/-- the invariant tying the wrapping UInt32 accumulator to the unbounded value -/
structure Inv (o : Nat) (s : CB) (vN : Nat) : Prop where
  val : s.val.toNat = vN % 2 ^ 32
  lt : ∀ x ∈ s.out, x.toNat < 2 ^ o
  dig : Vr o s.out.reverse = vN / 2 ^ s.bits

/-- the symbol written by one turn of the inner loop -/
theorem sym_toNat (val maxv : UInt32) (vN b o : Nat) (hv : val.toNat = vN % 2 ^ 32)
    (hm : maxv.toNat = 2 ^ o - 1) (ho : o ≤ 8) (ho1 : 1 ≤ o) (hb : b + o ≤ 32) :
    (((val >>> UInt32.ofNat b) &&& maxv).toUInt8).toNat = (vN / 2 ^ b) % 2 ^ o := by
  -- reading `o` bits at position `b` of the wrapped accumulator = reading them from the unbounded one
  have hw : (vN % 2 ^ 32 / 2 ^ b) % 2 ^ o = (vN / 2 ^ b) % 2 ^ o := by
    rw [two_pow_split b 32 (by omega), Nat.mod_mul_right_div_self]
    exact Nat.mod_mod_of_dvd _ (Nat.pow_dvd_pow 2 (by omega))
  rw [UInt32.toNat_toUInt8, UInt32.toNat_and, shr_toNat _ _ (by omega), hm,
      Nat.and_two_pow_sub_one_eq_mod, hv, hw]
  have : (2 : Nat) ^ o ≤ 2 ^ 8 := Nat.pow_le_pow_right (by omega) ho
  omega

theorem Inv_emit (o : Nat) (s : CB) (vN : Nat) (maxv : UInt32) (hm : maxv.toNat = 2 ^ o - 1) (ho : o ≤ 8) (ho1 : 1 ≤ o)
    (hI : Inv o s vN) (hge : s.bits ≥ o) (hb : s.bits ≤ 32) :
    Inv o { s with bits := s.bits - o,
                   out := s.out ++ [((s.val >>> UInt32.ofNat (s.bits - o)) &&& maxv).toUInt8] } vN := by
  have hs := sym_toNat s.val maxv vN (s.bits - o) o hI.val hm ho ho1 (by omega)
  refine ⟨hI.val, ?_, ?_⟩
  · refine List.forall_mem_append.mpr ⟨hI.lt, List.forall_mem_singleton.mpr ?_⟩
    rw [hs]; exact Nat.mod_lt _ (Nat.two_pow_pos _)
  · show Vr o (s.out ++ [_]).reverse = vN / 2 ^ (s.bits - o)
    rw [Vr_reverse_snoc, hs, hI.dig]
    have : vN / 2 ^ s.bits = vN / 2 ^ (s.bits - o) / 2 ^ o := by
      rw [Nat.div_div_eq_div_mul, ← Nat.pow_add, Nat.sub_add_cancel hge]
    rw [this]
    exact Nat.mod_add_div _ _

/-- the inner loop (`for bits >= outbits`) with enough fuel: `bits < o·f`. `convertBits` (Model/Bech32.lean) gives it the
    fuel 8; `fold_spec` enters it with `bits < o + i ≤ o + 8 ≤ 8·o`, which is where it needs `2 ≤ o` -/
theorem cbStep_spec (o i : Nat) (maxv : UInt32) (hm : maxv.toNat = 2 ^ o - 1) (ho : o ≤ 8) (ho1 : 1 ≤ o) :
    ∀ (f : Nat) (s : CB) (vN : Nat), Inv o s vN → s.bits ≤ 32 → s.bits < o * f →
      let s' := cbStep o i maxv f s
      Inv o s' vN ∧ s'.bits < o ∧ s'.val = s.val ∧ s'.bits + o * s'.out.length = s.bits + o * s.out.length := by
  intro f
  induction f with
  | zero => intro s vN _ _ h; simp at h
  | succ f ih =>
    intro s vN hI hb hf
    unfold cbStep
    by_cases hge : s.bits ≥ o <;> simp only [hge, ↓reduceIte]
    · have hI' := Inv_emit o s vN maxv hm ho ho1 hI hge hb
      obtain ⟨h1, h2, h3, h4⟩ := ih _ vN hI' (by show s.bits - o ≤ 32; omega)
        (by show s.bits - o < o * f; rw [Nat.mul_succ] at hf; omega)
      refine ⟨h1, h2, h3, ?_⟩
      rw [h4]
      simp only [List.length_append, List.length_cons, List.length_nil]
      rw [Nat.mul_add]; omega
    · exact ⟨hI, by omega, trivial, trivial⟩

theorem or_low (a x i : Nat) (hx : x < 2 ^ i) (hi : i ≤ 8) :
    ((a % 2 ^ 32 * 2 ^ i) % 2 ^ 32 ||| x) = (a * 2 ^ i + x) % 2 ^ 32 := by
  have e := two_pow_split i 32 (by omega)
  have h1 : (a % 2 ^ 32 * 2 ^ i) % 2 ^ 32 = (a % 2 ^ (32 - i)) <<< i := by
    rw [Nat.mul_mod, Nat.mod_mod, ← Nat.mul_mod, e, Nat.mul_comm (2 ^ i), Nat.mul_mod_mul_right, Nat.shiftLeft_eq]
  have h2 : (a * 2 ^ i + x) % 2 ^ 32 = (a % 2 ^ (32 - i)) <<< i + x := by
    rw [e, Nat.mod_mul, Nat.mul_comm a, Nat.mul_add_mod, Nat.mod_eq_of_lt hx, Nat.mul_add_div (Nat.two_pow_pos i),
      Nat.div_eq_of_lt hx, Nat.add_zero, Nat.shiftLeft_eq, Nat.add_comm, Nat.mul_comm]
  rw [h1, h2]
  exact (Nat.shiftLeft_add_eq_or_of_lt hx _).symm

theorem Inv_input (o i : Nat) (s : CB) (vN : Nat) (x : UInt8) (hx : x.toNat < 2 ^ i) (hi : i ≤ 8)
    (hI : Inv o s vN) :
    Inv o { s with val := (s.val <<< UInt32.ofNat i) ||| x.toUInt32, bits := s.bits + i } (vN * 2 ^ i + x.toNat) := by
  refine ⟨?_, hI.lt, ?_⟩
  · show ((s.val <<< UInt32.ofNat i) ||| x.toUInt32).toNat = _
    rw [UInt32.toNat_or, shl_toNat _ _ (by omega), UInt8.toNat_toUInt32, hI.val]
    exact or_low _ _ _ hx hi
  · show Vr o s.out.reverse = (vN * 2 ^ i + x.toNat) / 2 ^ (s.bits + i)
    rw [hI.dig, Nat.pow_add, Nat.mul_comm (2 ^ s.bits), ← Nat.div_div_eq_div_mul]
    congr 1
    rw [Nat.mul_comm, Nat.mul_add_div (Nat.two_pow_pos _), Nat.div_eq_of_lt hx]
    rfl

theorem fold_spec (o i : Nat) (maxv : UInt32) (hm : maxv.toNat = 2 ^ o - 1) (ho : o ≤ 8) (ho2 : 2 ≤ o) (hi : i ≤ 8) :
    ∀ (inp : Bytes) (s : CB) (vN : Nat), (∀ x ∈ inp, x.toNat < 2 ^ i) → Inv o s vN → s.bits < o →
      let s' := inp.foldl (fun (s : CB) (x : UInt8) =>
        cbStep o i maxv 8 { s with val := (s.val <<< UInt32.ofNat i) ||| x.toUInt32, bits := s.bits + i }) s
      Inv o s' (VN i inp vN) ∧ s'.bits < o ∧
        s'.bits + o * s'.out.length = s.bits + o * s.out.length + i * inp.length := by
  intro inp
  induction inp with
  | nil => intro s vN _ hI hb; exact ⟨hI, hb, by simp⟩
  | cons x t ih =>
    intro s vN hx hI hb
    simp only [List.foldl_cons]
    obtain ⟨hx1, hxt⟩ := List.forall_mem_cons.mp hx
    have hI1 := Inv_input o i s vN x hx1 hi hI
    obtain ⟨h1, h2, _, h4⟩ := cbStep_spec o i maxv hm ho (by omega) 8 _ _ hI1 (by show s.bits + i ≤ 32; omega)
      (by show s.bits + i < o * 8; omega)
    obtain ⟨g1, g2, g3⟩ := ih _ _ hxt h1 h2
    refine ⟨?_, g2, ?_⟩
    · simpa [VN] using g1
    · rw [g3, h4]
      simp only [List.length_cons]
      rw [Nat.mul_succ]; omega

end GocoinV.Bech32
