/-
  Proofs.C04Cost — the consensus sigop cost of a block is bounded by 160 × (bytes of its scripts + number of inputs),
  so for a block within the weight limit it is far below 2^32: gocoin's uint32 accumulator equals the exact cost.
-/
import GocoinV.Proofs.C04Basic
namespace GocoinV.Proofs.C04
open GocoinV GocoinV.Connect
open GocoinV.Spec.Connect (Coin Utxo InAcc Acc spendInput spendInputs connectTx connectTxs inputSigOpCost)

theorem getOpcode_bounds (scr : Bytes) (op : Nat) (d : Bytes) (le : Nat) (h : getOpcode scr = some (op, d, le)) :
    1 ≤ le ∧ le ≤ scr.length ∧ d.length + 1 ≤ le := by
  unfold getOpcode at h
  cases scr with
  | nil => simp at h
  | cons x t =>
    simp only [] at h
    split at h
    · split at h
      · cases h
      · rename_i size hl _
        split at h
        · cases h
        · rename_i hlen
          simp only [Option.some.injEq, Prod.mk.injEq] at h
          obtain ⟨_, rfl, rfl⟩ := h
          simp only [List.length_take, List.length_drop]
          omega
    · simp only [Option.some.injEq, Prod.mk.injEq] at h
      obtain ⟨_, rfl, rfl⟩ := h
      simp

theorem sigOpLoop_le (acc : Bool) (fuel : Nat) (scr : Bytes) (last n : Nat) :
    Spec.Connect.sigOpLoop acc fuel scr last n ≤ n + 20 * scr.length := by
  induction fuel generalizing scr last n with
  | zero => unfold Spec.Connect.sigOpLoop; omega
  | succ f ih =>
    unfold Spec.Connect.sigOpLoop
    split
    · omega
    · split
      · omega
      · rename_i opcode d le hg
        obtain ⟨b1, b2, _⟩ := getOpcode_bounds scr opcode d le hg
        refine Nat.le_trans (ih _ _ _) ?_
        rw [List.length_drop]
        repeat' split
        all_goals omega

theorem sigOpCount_le (scr : Bytes) (acc : Bool) : Spec.Connect.sigOpCount scr acc ≤ 20 * scr.length := by
  have := sigOpLoop_le acc scr.length scr 0xff 0
  unfold Spec.Connect.sigOpCount
  omega

theorem lastPushOnly_len (fuel : Nat) (scr d d' : Bytes) (N : Nat) (hd : d.length ≤ N) (hs : scr.length ≤ N)
    (h : Spec.Connect.lastPushOnly fuel scr d = some d') : d'.length ≤ N := by
  induction fuel generalizing scr d with
  | zero =>
    cases h; exact hd
  | succ f ih =>
    unfold Spec.Connect.lastPushOnly at h
    split at h
    · cases h; exact hd
    · split at h
      · cases h
      · rename_i opcode dd le hg
        obtain ⟨b1, b2, b3⟩ := getOpcode_bounds scr opcode dd le hg
        split at h
        · cases h
        · exact ih (scr.drop le) dd (by omega) (by simp; omega) h

theorem p2shSigOps_le (scriptSig : Bytes) : Spec.Connect.p2shSigOps scriptSig ≤ 20 * scriptSig.length := by
  unfold Spec.Connect.p2shSigOps
  cases h : Spec.Connect.lastPushOnly scriptSig.length scriptSig [] with
  | none => simp
  | some r =>
    have := lastPushOnly_len _ _ _ r scriptSig.length (by simp) (Nat.le_refl _) h
    have := sigOpCount_le r true
    simp only []
    omega

theorem witProg_le (v : Nat) (p : Bytes) (w : List Bytes) :
    Spec.Connect.witProgSigOps v p w ≤ 1 + 20 * (w.getLastD []).length := by
  unfold Spec.Connect.witProgSigOps
  split
  · omega
  · split
    · have := sigOpCount_le (w.getLastD []) true; omega
    · omega

theorem witnessSigOps_le (inp : TxIn) (pk : Bytes) :
    Spec.Connect.witnessSigOps inp pk ≤ 1 + 20 * (inp.witness.getLastD []).length := by
  unfold Spec.Connect.witnessSigOps
  split
  · exact witProg_le _ _ _
  · split
    · split
      · split
        · exact witProg_le _ _ _
        · omega
      · omega
    · omega

/-- bytes attributed to one input: 1 + scriptSig + the last witness item (the script that witness sigops are counted in) -/
def inBytes (i : TxIn) : Nat := 1 + i.scriptSig.length + (i.witness.getLastD []).length
/-- script bytes of a transaction (a lower bound of its serialised size) -/
def txScriptBytes (tx : Tx) : Nat := (tx.ins.map inBytes).sum + (tx.outs.map (·.script.length)).sum
def blockScriptBytes (b : Block) : Nat := (b.txs.map txScriptBytes).sum

theorem inputSigOpCost_le (b : Block) (inp : TxIn) (c : Coin) :
    inputSigOpCost b inp c ≤ 80 * inBytes inp := by
  unfold inputSigOpCost inBytes
  have h1 := p2shSigOps_le inp.scriptSig
  have h2 := witnessSigOps_le inp c.script
  split <;> split <;> omega

theorem spendInput_sigops (b : Block) (tx : Tx) (inp : TxIn) (a a' : InAcc) (h : spendInput b tx inp a = .ok a') :
    a'.sigops ≤ a.sigops + 80 * inBytes inp := by
  unfold spendInput at h
  cases hc : aGet a.utxo inp.prev with
  | none => rw [hc] at h; cases h
  | some c =>
    rw [hc] at h
    iterate 4 obtain ⟨-, h⟩ := guard_ok h
    cases h
    have := inputSigOpCost_le b inp c
    show _ + _ ≤ _
    omega

theorem spendInputs_sigops (b : Block) (tx : Tx) (ins : List TxIn) (a a' : InAcc) (h : spendInputs b tx ins a = .ok a') :
    a'.sigops ≤ a.sigops + 80 * (ins.map inBytes).sum := by
  induction ins generalizing a with
  | nil => cases h; simp
  | cons i r ih =>
    unfold spendInputs at h
    cases hp : spendInput b tx i a with
    | error e => simp [hp] at h
    | ok a1 =>
      simp only [hp] at h
      have h1 := spendInput_sigops b tx i a a1 hp
      have h2 := ih a1 h
      simp only [List.map_cons, List.sum_cons]
      omega

theorem sum_sigOpCount_le {α : Type} (l : List α) (f : α → Bytes) :
    (l.map fun x => Spec.Connect.sigOpCount (f x) false).sum ≤ 20 * (l.map fun x => (f x).length).sum := by
  induction l with
  | nil => simp
  | cons x r ih =>
    simp only [List.map_cons, List.sum_cons]
    have := sigOpCount_le (f x) false
    omega

theorem sum_le_inBytes (ins : List TxIn) : (ins.map fun i => i.scriptSig.length).sum ≤ (ins.map inBytes).sum := by
  induction ins with
  | nil => simp
  | cons x r ih =>
    simp only [List.map_cons, List.sum_cons, inBytes]
    omega

theorem legacy_le (tx : Tx) : 4 * Spec.Connect.legacySigOps tx ≤ 80 * txScriptBytes tx := by
  unfold Spec.Connect.legacySigOps txScriptBytes
  have h1 := sum_sigOpCount_le tx.ins (·.scriptSig)
  have h2 := sum_sigOpCount_le tx.outs (·.script)
  have h3 := sum_le_inBytes tx.ins
  omega

theorem connectTx_sigops (b : Block) (tx : Tx) (a a' : Acc) (h : connectTx b tx a = .ok a') :
    a'.sigops ≤ a.sigops + 160 * txScriptBytes tx := by
  obtain ⟨r, hs, -, -, rfl⟩ := connectTx_inv h
  have h1 := spendInputs_sigops b tx tx.ins _ r hs
  have h2 := legacy_le tx
  have h3 : (tx.ins.map inBytes).sum ≤ txScriptBytes tx := by unfold txScriptBytes; omega
  simp only [] at h1 ⊢
  omega

theorem connectTxs_sigops (b : Block) (txs : List Tx) (a a' : Acc) (h : connectTxs b txs a = .ok a') :
    a'.sigops ≤ a.sigops + 160 * (txs.map txScriptBytes).sum := by
  induction txs generalizing a with
  | nil => cases h; simp
  | cons t r ih =>
    unfold connectTxs at h
    cases hp : connectTx b t a with
    | error e => simp [hp] at h
    | ok a1 =>
      simp only [hp] at h
      have h1 := connectTx_sigops b t a a1 hp
      have h2 := ih a1 h
      simp only [List.map_cons, List.sum_cons]
      omega

/-- below 4,000,000 script bytes the consensus cost of a block stays far below 2^32, from whatever map the run starts: the
    uint32 accumulator of the code cannot wrap -/
theorem cost_lt_of_bytes {b : Block} (hbytes : blockScriptBytes b ≤ 4000000) (u : Utxo) {cb : Tx} {rest : List Tx} {a : Acc}
    (ht : b.txs = cb :: rest) (ha : connectTxs b rest ⟨u, 0, 4 * Spec.Connect.legacySigOps cb⟩ = .ok a) :
    a.sigops < 2 ^ 32 := by
  have h1 := connectTxs_sigops b rest _ a ha
  have h2 := legacy_le cb
  have h3 : blockScriptBytes b = txScriptBytes cb + (rest.map txScriptBytes).sum := by
    unfold blockScriptBytes; rw [ht]; simp
  simp only [] at h1
  omega

end GocoinV.Proofs.C04
