/-
  Proofs.C19Effects — the directory of the model state is always the replay of the recorded effect list:
  every function of Model/Qdb changes `fs` only through `emit`. This is what makes "crash = a prefix of
  `effs`" a statement about the directories the model really goes through.
  The argument is made once for any reflexive-transitive relation (`Pre`) that its elementary steps keep: the buffered
  writer, NewDBExt (`OpenKept`) and every operation (`StepKept`) keep it then. `Replays`, "the ghost field is never
  written" and the frame relations of the later files are instances. `memput` / `memdel` in closed form stand here too.
-/
import GocoinV.Model.Qdb
namespace GocoinV.Proofs.C19
open GocoinV GocoinV.Qdb

variable {eg : Bool}

theorem applyAll_append (fs : FS) (a b : List Effect) : fs.applyAll (a ++ b) = (fs.applyAll a).applyAll b := by
  induction a generalizing fs with
  | nil => rfl
  | cons e t ih => simp only [List.cons_append, FS.applyAll, ih]

/-- `R later earlier`, reflexive and transitive. The buffered writer, its flush, a fold, `cleanupold`, `writedatfile` and
    NewDBExt keep such a relation as soon as their elementary steps do; `Replays` (below), `Frame` (Proofs/C19), `Emits`
    (Proofs/C19CrashDefrag) and "this function of the state keeps its value" (`Pre.of_eq`) are instances. -/
structure Pre (R : DB → DB → Prop) : Prop where
  refl : ∀ a, R a a
  trans : ∀ {a b c}, R a b → R b c → R a c

theorem Pre.of_eq {β : Type} (g : DB → β) : Pre (fun a b => g a = g b) := ⟨fun _ => rfl, fun h1 h2 => h1.trans h2⟩

theorem Pre.foldl {R : DB → DB → Prop} (hR : Pre R) {α : Type} (f : DB → α → DB) (hf : ∀ d a, R (f d a) d)
    (l : List α) (db : DB) : R (l.foldl f db) db :=
  List.foldlRecOn (motive := fun b => R b db) l f (hR.refl _) fun b h a _ => hR.trans (hf b a) h

theorem Pre.bufWrite {R : DB → DB → Prop} (hR : Pre R) (sink : DB → Bytes → DB) (hs : ∀ d b, R (sink d b) d)
    (db : DB) (w : BufW) (p : Bytes) : R (bufWrite sink db w p).1 db := by
  unfold Qdb.bufWrite
  split
  · exact hR.refl _
  · split
    · exact hs _ _
    · dsimp only
      split
      · exact hR.trans (hs _ _) (hs _ _)
      · exact hs _ _

theorem Pre.bufFlush {R : DB → DB → Prop} (hR : Pre R) (sink : DB → Bytes → DB) (hs : ∀ d b, R (sink d b) d)
    (db : DB) (w : BufW) : R (bufFlush sink db w) db := by
  unfold Qdb.bufFlush
  split
  · exact hR.refl _
  · exact hs _ _

theorem Pre.bufWriteAll {R : DB → DB → Prop} (hR : Pre R) (sink : DB → Bytes → DB) (hs : ∀ d b, R (sink d b) d)
    (ps : List Bytes) (db : DB) (w : BufW) : R (bufWriteAll sink db w ps).1 db :=
  List.foldlRecOn (motive := fun b : _ × _ => R b.1 db) ps _ (hR.refl _) fun b h p _ =>
    hR.trans (hR.bufWrite sink hs b.1 b.2 p) h

theorem Pre.cleanupold {R : DB → DB → Prop} (hR : Pre R) (db : DB) (used : List Nat)
    (he : ∀ d s, ¬ used.contains s = true → R (emit d "qdb.cleanupold:removed" (.removeDat s)) d) :
    R (cleanupold db used) db := by
  unfold Qdb.cleanupold
  apply hR.foldl
  intro d s
  split
  · rename_i h
    exact he _ _ h.2
  · exact hR.refl _

theorem Pre.writedatfile {R : DB → DB → Prop} (hR : Pre R) (he : ∀ d t e, R (emit d t e) d)
    (h1 : ∀ (d : DB) i v, R { d with datIdx := i, verSeq := v } d) (h2 : ∀ d : DB, R { d with logOpen := false } d)
    (db : DB) : R (writedatfile db) db := by
  unfold Qdb.writedatfile
  dsimp only
  exact hR.trans (he _ _ _) (hR.trans (he _ _ _) (hR.trans (h2 _) (hR.trans (hR.bufFlush _ (fun _ _ => he _ _ _) _ _)
    (hR.trans (hR.bufWriteAll _ (fun _ _ => he _ _ _) _ _ _) (hR.trans (he _ _ _) (h1 _ _ _))))))

theorem Pre.defragFold {R : DB → DB → Prop} (hR : Pre R) (sink : DB → Bytes → DB) (hs : ∀ d b, R (sink d b) d)
    (hfail : ∀ d w, R (fail d w) d) (hpos : ∀ (d : DB) p, R { d with lastPos := p } d) (l : List (Key × Rec))
    (st : DB × BufW × List (Key × Rec)) : R (l.foldl (defragRec sink) st).1 st.1 := by
  refine List.foldlRecOn (motive := fun b : _ × _ => R b.1 st.1) l _ (hR.refl _) fun ⟨d, w, acc⟩ h kr _ => hR.trans ?_ h
  unfold defragRec
  dsimp only
  split
  · exact hR.refl _
  · split
    · exact hfail _ _
    · exact hR.trans (hpos _ _) (hR.bufWrite sink hs d w _)

theorem Pre.browseGen {R : DB → DB → Prop} (hR : Pre R) (hfail : ∀ d w, R (fail d w) d)
    (hidx : ∀ (d : DB) i, R { d with index := i } d) (all : Bool) (db : DB) (w : List (Key × Nat)) :
    R (browseGen all db w).1 db := by
  have : R (db.index.foldl (browseStep all w (visitSet Rec.flags all db.index w)) (db, [], [])).1 db := by
    refine List.foldlRecOn (motive := fun b : _ × _ => R b.1 db) _ _ (hR.refl _) fun ⟨d, a, o⟩ h kr _ => hR.trans ?_ h
    unfold browseStep
    dsimp only
    split
    · exact hR.refl _
    · split
      · exact hR.refl _
      · split
        · exact hfail _ _
        · exact hR.refl _
  unfold Qdb.browseGen
  split
  · exact hR.refl _
  · dsimp only
    split
    · exact this
    · exact hR.trans (hidx _ _) this

theorem Pre.get {R : DB → DB → Prop} (hR : Pre R) (hfail : ∀ d w, R (fail d w) d)
    (hidx : ∀ (d : DB) i, R { d with index := i } d) (db : DB) (k : Key) : R (Qdb.get db k).1 db := by
  unfold Qdb.get
  split
  · exact hR.refl _
  · split
    · exact hR.refl _
    · split
      · exact hfail _ _
      · exact hidx _ _

/-! ### `memput` / `memdel` in closed form -/

theorem ierase_absent {α : Type} (k : Key) (l : List (Key × α)) (h : ilookup k l = none) : ierase k l = l := by
  induction l with
  | nil => rfl
  | cons hd t ih =>
    obtain ⟨j, q⟩ := hd
    by_cases hj : j = k
    · simp [ilookup, hj] at h
    · simp only [ilookup, hj, ↓reduceIte] at h
      simp only [ierase, hj, ↓reduceIte, ih h]

def prvLen (db : DB) (k : Key) : Option Nat := (ilookup k db.index).map (·.len)

/-- ExtraSpaceUsed once the record a key held (length `p`, index entry of `c` bytes) is given up -/
def freedExtra (c : Nat) (vol : Bool) (extra : Nat) : Option Nat → Nat
  | some p => if vol then extra else add64 extra (u32 (c + p))
  | none => extra

/-- DiskSpaceNeeded once that record is given up -/
def freedNeed (c : Nat) (vol : Bool) (need : Nat) : Option Nat → Nat
  | some p => if vol then need else sub64 need (u32 (c + p))
  | none => need

/-- `memput` in closed form: it sets the index entry, the two space counters (which look at the mode and at the
    LENGTH of the record the key held, at nothing else) and MaxDatfileSequence -/
theorem memput_eq (db : DB) (k : Key) (r : Rec) :
    memput db k r = { db with
      index := iset k r db.index
      extra := freedExtra 24 db.volatile db.extra (prvLen db k)
      need := if db.volatile then freedNeed 24 db.volatile db.need (prvLen db k)
              else add64 (freedNeed 24 db.volatile db.need (prvLen db k)) (u32 (24 + r.len))
      maxSeq := if r.seq > db.maxSeq then r.seq else db.maxSeq } := by
  unfold memput prvLen
  cases ilookup k db.index <;> cases hv : db.volatile <;>
    simp only [Option.map, freedExtra, freedNeed, hv, Bool.false_eq_true, ↓reduceIte] <;> split <;> rfl

theorem memdel_eq (db : DB) (k : Key) :
    memdel db k = { db with
      index := ierase k db.index
      extra := freedExtra 12 db.volatile db.extra (prvLen db k)
      need := freedNeed 12 db.volatile db.need (prvLen db k) } := by
  unfold memdel prvLen
  cases hl : ilookup k db.index with
  | none => rw [ierase_absent k db.index hl]; rfl
  | some cur => cases hv : db.volatile <;> simp only [Option.map, freedExtra, freedNeed, hv, Bool.false_eq_true, ↓reduceIte]

/-! ### NewDBExt keeps what its elementary steps keep -/

structure OpenKept (R : DB → DB → Prop) : Prop where
  emit : ∀ d t e, R (emit d t e) d
  memput : ∀ d k r, R (memput d k r) d
  memdel : ∀ d k, R (memdel d k) d
  fail : ∀ d w, R (fail d w) d
  index : ∀ (d : DB) i, R { d with index := i } d
  logOpen : ∀ d : DB, R { d with logOpen := true } d
  slot : ∀ (d : DB) i s, R { d with datIdx := i, verSeq := s } d
  dataSeq : ∀ (d : DB) s, R { d with dataSeq := s } d

section
variable {R : DB → DB → Prop} (hR : Pre R)
include hR

theorem Pre.memputAll (hput : ∀ d k r, R (memput d k r) d) (recs : List (Key × Rec)) (db : DB) :
    R (memputAll db recs) db :=
  hR.foldl (fun db (kr : Key × Rec) => memput db kr.1 kr.2) (fun d kr => hput d kr.1 kr.2) recs db

theorem Pre.applyLog (hput : ∀ d k r, R (memput d k r) d) (hdel : ∀ d k, R (memdel d k) d) (es : List LogEntry)
    (db : DB) : R (applyLog db es) db := by
  apply hR.foldl
  intro d e
  cases e with
  | put k r => exact hput d k r
  | del k => exact hdel d k

theorem Pre.loadAll (hfail : ∀ d w, R (fail d w) d) (hidx : ∀ (d : DB) i, R { d with index := i } d) (db : DB) :
    R (loadAll db) db := by
  have : R (db.index.foldl Qdb.loadOne (db, [])).1 db := by
    refine List.foldlRecOn (motive := fun b : _ × _ => R b.1 db) _ _ (hR.refl _) fun st h kr _ => hR.trans ?_ h
    unfold Qdb.loadOne
    split
    · exact hR.refl _
    · split
      · exact hR.refl _
      · split
        · exact hfail _ _
        · split
          · exact hfail _ _
          · exact hR.refl _
  unfold Qdb.loadAll
  dsimp only
  split
  · exact this
  · exact hR.trans (hidx _ _) this

variable (hk : OpenKept R)
include hk

theorem Pre.loaddat (db : DB) : R (loaddat db).1 db := by
  unfold Qdb.loaddat
  split
  · exact hR.refl _
  · exact hR.trans (hR.memputAll hk.memput _ _) (hR.trans (hk.slot _ _ _) (hk.emit db _ _))

theorem Pre.loadlog (db : DB) (used : List Nat) : R (loadlog db used).1 db := by
  unfold Qdb.loadlog
  split
  · exact hR.refl _
  · split
    · exact hk.emit _ _ _
    · exact hR.trans (hk.logOpen _) (hR.applyLog hk.memput hk.memdel _ db)

theorem Pre.openIndex (db : DB) : R (openIndex db) db := by
  unfold Qdb.openIndex
  exact hR.trans (hR.cleanupold _ _ (fun _ _ _ => hk.emit _ _ _)) (hR.trans (hR.loadlog hk _ _) (hR.loaddat hk db))

theorem Pre.openDB (fs : FS) (vol load : Bool) (opts : Opts) (eg : Bool) :
    R (openDB fs vol load opts eg) { fs := fs, volatile := vol, opts := opts, eager := eg } := by
  unfold Qdb.openDB
  refine hR.trans (hk.dataSeq _ _) ?_
  split
  · exact hR.trans (hR.loadAll hk.fail hk.index _) (hR.openIndex hk _)
  · exact hR.openIndex hk _

end

/-- the arguments NewDBExt is called with, and NoSync: nothing it does changes them -/
def cfg (d : DB) := (d.eager, d.noSync, d.volatile, d.opts)

theorem cfgKept : OpenKept (fun a b => cfg a = cfg b) :=
  ⟨fun _ _ _ => rfl, fun d k r => by rw [memput_eq]; rfl, fun d k => by rw [memdel_eq]; rfl,
   fun d w => by unfold fail; split <;> rfl, fun _ _ => rfl, fun _ => rfl, fun _ _ _ => rfl, fun _ _ => rfl⟩

theorem openIndex_eager (F : FS) (vol : Bool) (opts : Opts) :
    (openIndex { fs := F, volatile := vol, opts := opts, eager := eg }).eager = eg :=
  congrArg (·.1) ((Pre.of_eq cfg).openIndex cfgKept { fs := F, volatile := vol, opts := opts, eager := eg })

theorem openDB_eager (F : FS) (vol load : Bool) (opts : Opts) : (openDB F vol load opts eg).eager = eg :=
  congrArg (·.1) ((Pre.of_eq cfg).openDB cfgKept F vol load opts eg)

theorem openDB_noSync (F : FS) (vol load : Bool) (opts : Opts) : (openDB F vol load opts eg).noSync = false :=
  congrArg (·.2.1) ((Pre.of_eq cfg).openDB cfgKept F vol load opts eg)

/-! ### every operation keeps what a file operation and a change in memory keep -/

/-- a relation kept by a file operation that holds of two states which differ in memory only (ghost field apart) -/
structure StepKept (R : DB → DB → Prop) : Prop where
  emit : ∀ d t e, R (emit d t e) d
  mem : ∀ a b : DB, a.fs = b.fs → a.effs = b.effs → a.eager = b.eager → R a b

section
variable {R : DB → DB → Prop} (hR : Pre R) (hk : StepKept R)
include hR hk

theorem Pre.after {a b c : DB} (h : R b c) (h1 : a.fs = b.fs) (h2 : a.effs = b.effs) (h3 : a.eager = b.eager) : R a c :=
  hR.trans (hk.mem _ _ h1 h2 h3) h

theorem Pre.fail (d : DB) (w : String) : R (Qdb.fail d w) d := by
  unfold Qdb.fail; split
  · exact hR.refl _
  · exact hk.mem _ _ rfl rfl rfl

theorem StepKept.open : OpenKept R :=
  ⟨hk.emit, fun d k r => by rw [memput_eq]; exact hk.mem _ _ rfl rfl rfl,
   fun d k => by rw [memdel_eq]; exact hk.mem _ _ rfl rfl rfl, Pre.fail hR hk, fun _ _ => hk.mem _ _ rfl rfl rfl,
   fun _ => hk.mem _ _ rfl rfl rfl, fun _ _ _ => hk.mem _ _ rfl rfl rfl, fun _ _ => hk.mem _ _ rfl rfl rfl⟩

theorem Pre.checkDat (db : DB) : R (Qdb.checkDat db) db := by
  unfold Qdb.checkDat
  split
  · exact hR.refl _
  · exact Pre.after hR hk (hR.trans (hk.emit _ _ _) (hk.emit _ _ _)) rfl rfl rfl

theorem Pre.checkLog (db : DB) : R (Qdb.checkLog db) db := by
  unfold Qdb.checkLog
  split
  · exact hR.refl _
  · exact Pre.after hR hk (hR.trans (hk.emit _ _ _) (hk.emit _ _ _)) rfl rfl rfl

theorem Pre.defragFinish (seq : Nat) (d : DB) (w : BufW) (recs : List (Key × Rec)) :
    R (Qdb.defragFinish seq d w recs) d := by
  have h : R (Qdb.cleanupold (Qdb.writedatfile (Qdb.bufFlush (defragSink seq) { d with index := recs } w))
      (if recs.isEmpty then [] else [seq])) d :=
    hR.trans (hR.cleanupold _ _ (fun _ _ _ => hk.emit _ _ _))
      (hR.trans (hR.writedatfile hk.emit (fun _ _ _ => hk.mem _ _ rfl rfl rfl) (fun _ => hk.mem _ _ rfl rfl rfl) _)
      (hR.trans (hR.bufFlush _ (fun _ _ => hk.emit _ _ _) _ w) (hk.mem _ _ rfl rfl rfl)))
  unfold Qdb.defragFinish
  exact Pre.after hR hk h rfl rfl rfl

theorem Pre.defrag (db : DB) : R (Qdb.defrag db) db := by
  have h0 : R (defragStart db) db := hR.trans (Pre.checkDat hR hk _) (hk.mem _ _ rfl rfl rfl)
  have h1 := hR.trans (hR.defragFold (defragSink (defragStart db).dataSeq) (fun _ _ => hk.emit _ _ _) (Pre.fail hR hk)
    (fun _ _ => hk.mem _ _ rfl rfl rfl) (defragStart db).index (defragStart db, {}, [])) h0
  unfold Qdb.defrag
  dsimp only
  split
  · exact h1
  · exact hR.trans (Pre.defragFinish hR hk _ _ _ _) h1

theorem Pre.syncFold (ks : List Key) (st : DB × Bytes) : R (ks.foldl syncKey st).1 st.1 := by
  refine List.foldlRecOn (motive := fun b : _ × _ => R b.1 st.1) ks _ (hR.refl _) fun b h k _ => hR.trans ?_ h
  unfold syncKey
  split
  · exact hR.refl _
  · split
    · split
      · exact Pre.fail hR hk _ _
      · unfold syncRec
        exact Pre.after hR hk (hk.emit _ _ _) rfl rfl rfl
    · exact hR.refl _

theorem Pre.sync (db : DB) : R (Qdb.sync db) db := by
  unfold Qdb.sync
  split
  · exact hR.refl _
  · split
    · exact hR.refl _
    · have h := hR.trans (Pre.syncFold hR hk db.pending (Qdb.checkDat db, [])) (Pre.checkDat hR hk db)
      dsimp only
      split
      · exact h
      · refine hR.trans ?_ h
        unfold syncFinish
        dsimp only
        split
        case' isTrue => refine hR.trans (Pre.defrag hR hk _) ?_
        all_goals exact Pre.after hR hk (hR.trans (hk.emit _ _ _) (Pre.checkLog hR hk _)) rfl rfl rfl

theorem Pre.afterChange (db : DB) (k : Key) : R (Qdb.afterChange db k) db := by
  have h : R (addPending db k) db := by unfold addPending; split <;> exact hk.mem _ _ rfl rfl rfl
  unfold Qdb.afterChange
  split
  · exact hk.mem _ _ rfl rfl rfl
  · split
    · exact hR.trans (Pre.sync hR hk _) h
    · exact h

theorem Pre.close (db : DB) : R (Qdb.close db) db := by
  unfold Qdb.close
  split
  · exact hR.refl _
  · have h : R (if db.volatile = true then if db.noSync = true then Qdb.defrag db else db else Qdb.sync db) db := by
      split
      · split
        · exact Pre.defrag hR hk db
        · exact hR.refl _
      · exact Pre.sync hR hk db
    dsimp only
    split
    · exact h
    · exact Pre.after hR hk h rfl rfl rfl

/-- the relation holds of NewDBExt after Close -/
def ReopenKept (R : DB → DB → Prop) : Prop :=
  ∀ (c : DB) (vol load : Bool) (opts : Opts), R ({ openDB c.fs vol load opts c.eager with
    effs := c.effs ++ (openDB c.fs vol load opts c.eager).effs } : DB) c

theorem Pre.step (hre : ReopenKept R) (db : DB) (op : Op) : R (Qdb.step db op) db := by
  have hput : ∀ k v f, R (putExt db k v f) db := fun k v f => by
    unfold putExt; split
    · exact hR.refl _
    · exact hR.trans (Pre.afterChange hR hk _ _) ((StepKept.open hR hk).memput _ _ _)
  cases op with
  | put k v => exact hput k v 0
  | putExt k v f => exact hput k v f
  | del k =>
    show R (del db k) db
    unfold del; split
    · exact hR.refl _
    · exact hR.trans (Pre.afterChange hR hk _ _) ((StepKept.open hR hk).memdel _ _)
  | get k => exact hR.get (Pre.fail hR hk) (fun _ _ => hk.mem _ _ rfl rfl rfl) db k
  | browse w => exact hR.browseGen (Pre.fail hR hk) (fun _ _ => hk.mem _ _ rfl rfl rfl) false db w
  | applyFlags k fl =>
    show R (applyFlags db k fl) db
    unfold applyFlags; split
    · exact hR.refl _
    · split
      · exact hR.refl _
      · exact hk.mem _ _ rfl rfl rfl
  | defrag f =>
    show R (defragOp db f).1 db
    unfold defragOp; split
    · exact hR.refl _
    · split
      · exact hR.refl _
      · dsimp only
        split
        · exact Pre.defrag hR hk db
        · exact hR.refl _
  | sync =>
    show R (syncOp db) db
    unfold syncOp; split
    · exact hR.refl _
    · split
      · exact hR.refl _
      · exact hR.trans (Pre.sync hR hk _) (hk.mem _ _ rfl rfl rfl)
  | noSync =>
    show R (noSyncOp db) db
    unfold noSyncOp; split
    · exact hR.refl _
    · split
      · exact hR.refl _
      · exact hk.mem _ _ rfl rfl rfl
  | reopen vol load opts =>
    show R (match (Qdb.close db).failed with
      | some _ => Qdb.close db
      | none => { Qdb.openDB (Qdb.close db).fs vol load opts (Qdb.close db).eager with
                  effs := (Qdb.close db).effs ++ (Qdb.openDB (Qdb.close db).fs vol load opts (Qdb.close db).eager).effs }) db
    split
    · exact Pre.close hR hk db
    · exact hR.trans (hre _ _ _ _) (Pre.close hR hk db)

theorem Pre.run (hre : ReopenKept R) (ops : List Op) (db : DB) : R (Qdb.run db ops) db :=
  hR.foldl Qdb.step (Pre.step hR hk hre) ops db

end

/-! ### the directory is the replay of the effect list -/

def Replays (a b : DB) : Prop := ∃ es, a.effs = b.effs ++ es ∧ a.fs = b.fs.applyAll (es.map (·.2))

theorem Replays.of_eq {a b : DB} (h1 : a.effs = b.effs) (h2 : a.fs = b.fs) : Replays a b :=
  ⟨[], by simp [h1], by simp [h2, FS.applyAll]⟩

theorem Replays.trans {a b c : DB} (h1 : Replays a b) (h2 : Replays b c) : Replays a c := by
  obtain ⟨e1, h1a, h1b⟩ := h1
  obtain ⟨e2, h2a, h2b⟩ := h2
  refine ⟨e2 ++ e1, by rw [h1a, h2a, List.append_assoc], ?_⟩
  rw [h1b, h2b, List.map_append, applyAll_append]

theorem replays_emit (db : DB) (t : String) (e : Effect) : Replays (emit db t e) db :=
  ⟨[(t, e)], rfl, rfl⟩

theorem replaysPre : Pre Replays := ⟨fun _ => .of_eq rfl rfl, Replays.trans⟩

theorem replaysKept : StepKept Replays := ⟨replays_emit, fun _ _ h1 h2 _ => Replays.of_eq h2 h1⟩

theorem replays_checkDat (db : DB) : Replays (checkDat db) db := Pre.checkDat replaysPre replaysKept db

theorem replays_checkLog (db : DB) : Replays (checkLog db) db := Pre.checkLog replaysPre replaysKept db

theorem replays_defrag (db : DB) : Replays (defrag db) db := Pre.defrag replaysPre replaysKept db

theorem replays_syncFold (ks : List Key) (st : DB × Bytes) : Replays (ks.foldl syncKey st).1 st.1 :=
  Pre.syncFold replaysPre replaysKept ks st

theorem replays_sync (db : DB) : Replays (sync db) db := Pre.sync replaysPre replaysKept db

theorem openDB_replays (fs : FS) (vol load : Bool) (opts : Opts) :
    (openDB fs vol load opts eg).fs = fs.applyAll ((openDB fs vol load opts eg).effs.map (·.2)) := by
  obtain ⟨es, h1, h2⟩ := replaysPre.openDB (StepKept.open replaysPre replaysKept) fs vol load opts eg
  simp only [List.nil_append] at h1
  rw [h1, h2]

theorem replaysReopen : ReopenKept Replays :=
  fun c vol load opts => ⟨(openDB c.fs vol load opts c.eager).effs, rfl, openDB_replays _ _ _ _⟩

theorem replays_step (db : DB) (op : Op) : Replays (step db op) db := Pre.step replaysPre replaysKept replaysReopen db op

theorem replays_run (ops : List Op) (db : DB) : Replays (run db ops) db :=
  Pre.run replaysPre replaysKept replaysReopen ops db

/-! ### the ghost field is never written -/

theorem eagerKept : StepKept (fun a b => a.eager = b.eager) := ⟨fun _ _ _ => rfl, fun _ _ _ _ h => h⟩

theorem eagerReopen : ReopenKept (fun a b => a.eager = b.eager) := fun c vol load opts => openDB_eager c.fs vol load opts

theorem step_eager_all (db : DB) (op : Op) : (step db op).eager = db.eager :=
  Pre.step (Pre.of_eq _) eagerKept eagerReopen db op

theorem run_eager_all (ops : List Op) (db : DB) : (run db ops).eager = db.eager :=
  Pre.run (Pre.of_eq _) eagerKept eagerReopen ops db

theorem hrun_eager_all (H : List HItem) (db : DB) : (hrun db H).eager = db.eager :=
  (Pre.of_eq _).foldl hstep (fun d i => by
    cases i with
    | op o => exact step_eager_all d o
    | crash o n ms vol opts => exact openDB_eager _ _ _ _) H db

/-! ### flag changes write nothing -/

theorem applyFlags_keeps (db : DB) (k : Key) (fl : Nat) :
    (applyFlags db k fl).fs = db.fs ∧ (applyFlags db k fl).effs = db.effs ∧ (applyFlags db k fl).pending = db.pending := by
  unfold applyFlags
  split
  · exact ⟨rfl, rfl, rfl⟩
  · split <;> exact ⟨rfl, rfl, rfl⟩

theorem get_keeps (db : DB) (k : Key) :
    (Qdb.get db k).1.fs = db.fs ∧ (Qdb.get db k).1.effs = db.effs ∧ (Qdb.get db k).1.pending = db.pending := by
  simpa only [Prod.mk.injEq] using (Pre.of_eq fun d : DB => (d.fs, d.effs, d.pending)).get
    (fun d w => by unfold fail; split <;> rfl) (fun _ _ => rfl) db k

theorem browseGen_keeps (all : Bool) (db : DB) (w : List (Key × Nat)) :
    (browseGen all db w).1.fs = db.fs ∧ (browseGen all db w).1.effs = db.effs ∧
    (browseGen all db w).1.pending = db.pending := by
  simpa only [Prod.mk.injEq] using (Pre.of_eq fun d : DB => (d.fs, d.effs, d.pending)).browseGen
    (fun d w => by unfold fail; split <;> rfl) (fun _ _ => rfl) all db w

end GocoinV.Proofs.C19
