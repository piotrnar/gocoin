/-
  Proofs.C06Path — the active-branch invariant `PathOK` (Spec/ChainReplay) through the primitive steps of the chain
  model: UndoLastBlock, the disconnect loop of MoveToBlock (undoTo), the connect step of ParseTillBlock / CommitBlock.
  Also: how the list operations of the model (modNode / append / filter) act on the tree as a function `getNode c`, the
  trees after AcceptHeader and after a refused block in that form, and deliveries that extend the tip (`deliver_on_tip`,
  `OnTip`: only the blocks-only special cases `reorg_inv_partial` / `replay_inv_deliver_on_tip` of Props/C06 use them).
-/
import GocoinV.Spec.ChainReplay
import GocoinV.Proofs.C06Replay
import GocoinV.Proofs.C06Chain
namespace GocoinV.ChainTree
open GocoinV.UtxoOps

theorem headId_congr {c c' : Chain} (hr : c'.root = c.root) (p : List PE) : headId c' p = headId c p := by
  cases p <;> simp [headId, hr]

theorem Linked_mono {c c' : Chain} (hr : c'.root = c.root) (p : List PE)
    (hnodes : ∀ e ∈ p, ∀ n, getNode c e.id = some n → ∃ n', getNode c' e.id = some n' ∧ n'.parent = n.parent)
    (hstore : ∀ e ∈ p, ∀ b0, alookup e.id c.store = some b0 → ∃ b1, alookup e.id c'.store = some b1 ∧ b1.txs = b0.txs)
    (h : Linked c p) : Linked c' p := by
  induction p with
  | nil => trivial
  | cons e rest ih =>
    obtain ⟨⟨n, h1, h2⟩, ⟨blk, h3, h4⟩, h5⟩ := h
    obtain ⟨n', hn', hp'⟩ := hnodes e List.mem_cons_self _ h1
    obtain ⟨b1, hb1, ht1⟩ := hstore e List.mem_cons_self _ h3
    exact ⟨⟨n', hn', by rw [hp', h2, headId_congr hr]⟩, ⟨b1, hb1, ht1.trans h4⟩,
      ih (fun x hx => hnodes x (List.mem_cons_of_mem _ hx)) (fun x hx => hstore x (List.mem_cons_of_mem _ hx)) h5⟩

theorem UndoOK_mono {c c' : Chain} (fl fl' N : Nat) (hfl : fl' ≥ fl)
    (hfiles : ∀ k, k > fl' → k ≤ N → alookup k c'.undoFiles = alookup k c.undoFiles)
    (p : List PE) (hN : p.length ≤ N) (h : UndoOK c fl p) : UndoOK c' fl' p := by
  induction p with
  | nil => trivial
  | cons e rest ih =>
    simp only [List.length_cons] at hN
    refine ⟨?_, ih (by omega) h.2⟩
    intro hgt
    obtain ⟨u, ch, h1, h2, h3⟩ := h.1 (by omega)
    exact ⟨u, ch, h1, h2, by rw [hfiles _ hgt (by omega)]; exact h3⟩

/-- **UndoLastBlock under the invariant**: it does not panic (tip node, stored block and undo file are found) and the
    result satisfies the invariant for the path without its tip — the unspent map is again the replay of the
    remaining branch. -/
theorem undoLast_path (c : Chain) (fl : Nat) (e : PE) (rest : List PE) (h : PathOK c fl (e :: rest))
    (hfl : rest.length + 1 > fl) :
    ∃ c', undoLast c = .ok c' ∧ PathOK c' fl rest ∧ c'.nodes = c.nodes ∧ c'.store = c.store ∧ c'.root = c.root ∧
      c'.undoFiles = c.undoFiles := by
  obtain ⟨htip, hlast, ⟨⟨n, hn, hnp⟩, ⟨blk, hblk, htxs⟩, hl⟩, ⟨u2, hr2, heq⟩, ⟨hun, hurest⟩, ⟨hfr, hfrest⟩⟩ := h
  obtain ⟨u, ch, hru, hct, hfile⟩ := hun hfl
  simp only [replay, hru, hct, Option.some.injEq] at hr2
  subst hr2
  refine ⟨_, undoLast_ok c n blk ch.undo (htip ▸ hn) (getNode_id hn ▸ hblk) (hlast ▸ hfile), ?_, rfl, rfl, rfl, rfl⟩
  refine ⟨hnp, ?_, ?_, ⟨u, hru, ?_⟩, ?_, hfrest⟩
  · show c.lastHeight - 1 = rest.length
    rw [hlast]; rfl
  · exact Linked_mono (c := c) (by rfl) rest (by exact fun _ _ n hn => ⟨n, hn, rfl⟩) (by exact fun _ _ b0 hb0 => ⟨b0, hb0, rfl⟩) hl
  · show DBEq (undoBlock c.utxo (blk.txs.map (·.txid)) ch.undo) u
    rw [htxs]
    exact undo_step heq hct (hfr u hru)
  · exact UndoOK_mono (c := c) fl fl rest.length (Nat.le_refl _) (by exact fun _ _ _ => rfl) rest (Nat.le_refl _) hurest


/-- **The disconnect loop of MoveToBlock under the invariant**: unwinding the blocks `pre` above a block of the active
    branch (`post` = the branch up to and including the target) never panics and ends in a state whose unspent map is
    the replay of `post` — whatever happens afterwards, the disconnected blocks have left no residue. -/
theorem undoTo_path (target : Nat) (fl : Nat) (post : List PE) :
    ∀ (pre : List PE) (f : Nat) (c : Chain), PathOK c fl (pre ++ post) → post.length ≥ fl →
      target = headId c post → (∀ e ∈ pre, e.id ≠ target) → f > pre.length →
      ∃ c', undoTo target f c = .ok c' ∧ PathOK c' fl post ∧ c'.nodes = c.nodes ∧ c'.store = c.store ∧
        c'.root = c.root ∧ c'.undoFiles = c.undoFiles := by
  intro pre
  induction pre with
  | nil =>
    intro f c h _ ht _ hf
    cases f with
    | zero => omega
    | succ f =>
      refine ⟨c, ?_, h, rfl, rfl, rfl, rfl⟩
      have : c.tip = target := by rw [ht]; exact h.tip
      simp [undoTo, this, pure, Except.pure]
  | cons e pre ih =>
    intro f c h hfl ht hne hf
    cases f with
    | zero => omega
    | succ f =>
      have htip : c.tip = e.id := h.tip
      have hne1 : (c.tip == target) = false := by
        rw [htip]; simpa using hne e List.mem_cons_self
      obtain ⟨c1, h1, hp1, hn1, hs1, hr1, hu1⟩ :=
        undoLast_path c fl e (pre ++ post) h (by simp only [List.length_append]; omega)
      have ht1 : target = headId c1 post := by rw [ht]; exact (headId_congr hr1 post).symm
      obtain ⟨c2, h2, hp2, hn2, hs2, hr2, hu2⟩ :=
        ih f c1 hp1 hfl ht1 (fun x hx => hne x (List.mem_cons_of_mem _ hx)) (by simp only [List.length_cons] at hf; omega)
      refine ⟨c2, ?_, hp2, hn2.trans hn1, hs2.trans hs1, hr2.trans hr1, hu2.trans hu1⟩
      simp only [undoTo, hne1, Bool.false_eq_true, if_false, bind, Except.bind, h1]
      exact h2


-- ------------------------------------------------------------------------------------------ connecting a block

theorem alookup_aset_ne {β} (k j : Nat) (v : β) (l : List (Nat × β)) (h : k ≠ j) :
    alookup k (aset j v l) = alookup k l := by
  rw [alookup_eq, aset_eq, Assoc.lookup_insert, if_neg (Ne.symm h), alookup_eq]

theorem cbt_root (c : Chain) (h : Nat) (w : Bool) (t : List Nat) (ch : Changes) :
    (commitBlockTxs c h w t ch).root = c.root := by
  unfold commitBlockTxs
  by_cases hv : validChangesB c.utxo t ch = true <;> simp [hv]

/-- `commitBlockTxs` leaves every other undo file alone, except the one it prunes (height − UnwindBufLen) -/
theorem cbt_undo_other (c : Chain) (h k : Nat) (t : List Nat) (ch : Changes) (hk : k ≠ h)
    (hp : k + UnwindBufLen ≠ h) :
    alookup k (commitBlockTxs c h true t ch).undoFiles = alookup k c.undoFiles := by
  rw [cbt_undoFiles]
  split
  · rw [alookup_filter_ne _ _ _ (by omega)]
    exact alookup_aset_ne _ _ _ _ hk
  · exact alookup_aset_ne _ _ _ _ hk

theorem getNode_nodes {c c' : Chain} (h : c'.nodes = c.nodes) (x : Nat) : getNode c' x = getNode c x := by
  unfold getNode; rw [h]

/-- **Connecting a block under the invariant** (the step shared by CommitBlock's tip extension and ParseTillBlock):
    `c1` is `c` with the block stored / marked trusted / its node's TxCount set (anything that keeps parents and stored
    transactions); if `commitTxs` accepts the block's transactions on the current map, its txids are not in the map
    (BIP30), and its node hangs below the tip, then after `CommitBlockTxs` + SetLast the invariant holds for the path
    extended by the block: the map is the replay of the longer branch and the new undo file is in place. -/
theorem connect_path (c c1 : Chain) (fl : Nat) (path : List PE) (h : PathOK c fl path) (nx : Nat) (txs : List Tx)
    (ch : Changes) (tr : Bool)
    (hroot : c1.root = c.root) (hutxo : c1.utxo = c.utxo) (hfiles : c1.undoFiles = c.undoFiles)
    (hnodes : ∀ e ∈ path, ∀ n, getNode c e.id = some n → ∃ n', getNode c1 e.id = some n' ∧ n'.parent = n.parent)
    (hstore : ∀ e ∈ path, ∀ b0, alookup e.id c.store = some b0 → ∃ b1, alookup e.id c1.store = some b1 ∧ b1.txs = b0.txs)
    (hn : ∃ n, getNode c1 nx = some n ∧ n.parent = c.tip)
    (hs : ∃ blk, alookup nx c1.store = some blk ∧ blk.txs = txs)
    (hct : commitTxs c.utxo (path.length + 1) (reward (path.length + 1)) tr txs = .ok ch)
    (hfresh : ∀ t ∈ txs.map (·.txid), c.utxo.get t = none) :
    PathOK { commitBlockTxs c1 (path.length + 1) true (txs.map (·.txid)) ch with tip := nx }
      (max fl (path.length + 1 - UnwindBufLen)) (⟨nx, txs⟩ :: path) := by
  obtain ⟨u, hru, heq⟩ := h.utxo
  have hf := cbt_fields c1 (path.length + 1) true (txs.map (·.txid)) ch
  have hst := cbt_store c1 (path.length + 1) true (txs.map (·.txid)) ch
  have hrt := cbt_root c1 (path.length + 1) true (txs.map (·.txid)) ch
  have hct' : commitTxs u (path.length + 1) (reward (path.length + 1)) true txs = .ok ch := by
    rw [← commitTxs_congr heq]; exact commitTxs_trusted hct
  have hrep : replay (⟨nx, txs⟩ :: path) = some (commit u ch) := by
    simp only [replay, hru, hct']
  have hgn : ∀ x, getNode { commitBlockTxs c1 (path.length + 1) true (txs.map (·.txid)) ch with tip := nx } x = getNode c1 x :=
    getNode_nodes hf.2.2.2
  refine ⟨rfl, ?_, ⟨?_, ?_, ?_⟩, ⟨_, hrep, ?_⟩, ⟨?_, ?_⟩, ⟨?_, h.fresh⟩⟩
  · simp only [hf.2.1, List.length_cons]
  · obtain ⟨n, hg, hp⟩ := hn
    refine ⟨n, (hgn nx).trans hg, ?_⟩
    rw [hp, h.tip]
    exact (headId_congr (c := c) (by simp only [hrt, hroot]) path).symm
  · simp only [hst]
    exact hs
  · exact Linked_mono (c := c) (by simp only [hrt, hroot]) path (fun e he n hg => by rw [hgn]; exact hnodes e he n hg)
      (by intro e he b0 hb0; simp only [hst]; exact hstore e he b0 hb0) h.linked
  · simp only [hf.1, hutxo]
    exact commit_congr heq ch
  · intro _
    exact ⟨u, ch, hru, hct', cbt_undo_file c1 _ _ ch⟩
  · refine UndoOK_mono (c := c) fl _ path.length (Nat.le_max_left _ _) ?_ path (Nat.le_refl _) h.undo
    intro k hk1 hk2
    rw [cbt_undo_other c1 _ k _ ch (by omega) (by have := Nat.le_max_right fl (path.length + 1 - UnwindBufLen); omega), hfiles]
  · intro u' hu' t ht
    rw [hru] at hu'
    cases hu'
    rw [← heq t]; exact hfresh t ht


-- ------------------------------------------------------------------------------------------ the tree as a function; the two callers

theorem getNode_modNode_eq (c : Chain) (id x : Nat) (f : Node → Node) (hf : ∀ m, (f m).id = m.id) :
    getNode (modNode c id f) x = (getNode c x).map (fun n => if n.id == id then f n else n) := by
  unfold getNode modNode
  simp only
  rw [List.find?_map]
  congr 2
  funext m
  simp only [Function.comp]
  split <;> simp only [hf]

theorem getNode_mem {c : Chain} {x : Nat} {n : Node} (h : getNode c x = some n) : n ∈ c.nodes :=
  List.mem_of_find?_eq_some h

theorem getNode_append_eq (c : Chain) (n : Node) (x : Nat) :
    getNode { c with nodes := c.nodes ++ [n] } x =
      match getNode c x with
      | some m => some m
      | none => if n.id == x then some n else none := by
  unfold getNode
  simp only [List.find?_append]
  cases List.find? (fun n => n.id == x) c.nodes with
  | some m => rfl
  | none => simp [List.find?_cons]; split <;> simp_all

theorem getNode_filter_eq (c : Chain) (q : Nat → Bool) (x : Nat) :
    getNode { c with nodes := c.nodes.filter (fun m => q m.id) } x = if q x then getNode c x else none := by
  unfold getNode
  simp only [List.find?_filter]
  split
  · congr 1
    funext m
    by_cases hm : m.id = x <;> simp [*]
  · rw [List.find?_eq_none]
    intro m _
    by_cases hm : m.id = x <;> simp [*]

theorem getNode_modNode {c : Chain} {id x : Nat} {f : Node → Node} {n : Node}
    (hf : ∀ m, (f m).id = m.id ∧ (f m).parent = m.parent) (h : getNode c x = some n) :
    ∃ n', getNode (modNode c id f) x = some n' ∧ n'.parent = n.parent := by
  rw [getNode_modNode_eq c id x f (fun m => (hf m).1), h]
  refine ⟨_, rfl, ?_⟩
  dsimp only
  split
  · exact (hf n).2
  · rfl

theorem commitBlock_path (c : Chain) (fl : Nat) (path : List PE) (h : PathOK c fl path) (b : Block) (ch : Changes)
    (htip : c.tip = b.parent)
    (hnode : ∃ n, getNode c b.id = some n ∧ n.parent = b.parent)
    (hnew : ∀ e ∈ path, e.id ≠ b.id)
    (hok : commitTxs c.utxo (path.length + 1) (reward (path.length + 1)) false b.txs = .ok ch)
    (hfresh : ∀ t ∈ b.txs.map (·.txid), c.utxo.get t = none) :
    PathOK (commitBlock c b (path.length + 1)).1 (max fl (path.length + 1 - UnwindBufLen)) (⟨b.id, b.txs⟩ :: path) := by
  rw [commitBlock_ok_eq c b _ ch htip hok]
  have hfm : ∀ m : Node, ({ m with txCount := b.txs.length } : Node).id = m.id ∧
      ({ m with txCount := b.txs.length } : Node).parent = m.parent := fun m => ⟨rfl, rfl⟩
  refine connect_path c (preCommit c b) fl path h b.id b.txs ch false rfl rfl rfl ?_ ?_ ?_
    ⟨_, alookup_aset _ _ _, rfl⟩ hok hfresh
  · intro e _ n hg
    exact getNode_modNode (id := b.id) hfm hg
  · intro e he b0 hb0
    exact ⟨b0, (alookup_aset_ne _ _ _ _ (hnew e he)).trans hb0, rfl⟩
  · obtain ⟨n, hg, hp⟩ := hnode
    obtain ⟨n', h1, h2⟩ := getNode_modNode (id := b.id) hfm hg
    exact ⟨n', h1, by rw [h2, hp, htip]⟩

/-- the state ParseTillBlock produces when it connects the stored block `nx` (one loop iteration, success branch) -/
def parseStep (c : Chain) (nx : Nat) (nxt : Node) (blk : Stored) (ch : Changes) (w : Bool) : Chain :=
  { commitBlockTxs { c with store := aset nx { blk with trusted := true } c.store } nxt.height w
      (blk.txs.map (·.txid)) ch with tip := nx }

/-- **ParseTillBlock's connect step under the invariant** (undo data written, i.e. within UnwindBufLen of the target). -/
theorem parseStep_path (c : Chain) (fl : Nat) (path : List PE) (h : PathOK c fl path) (nx : Nat) (nxt : Node)
    (blk : Stored) (ch : Changes)
    (hnode : getNode c nx = some nxt) (hpar : nxt.parent = c.tip) (hh : nxt.height = path.length + 1)
    (hblk : alookup nx c.store = some blk)
    (hok : commitTxs c.utxo nxt.height (reward nxt.height) blk.trusted blk.txs = .ok ch)
    (hfresh : ∀ t ∈ blk.txs.map (·.txid), c.utxo.get t = none) :
    PathOK (parseStep c nx nxt blk ch true) (max fl (path.length + 1 - UnwindBufLen)) (⟨nx, blk.txs⟩ :: path) := by
  unfold parseStep
  rw [hh] at hok ⊢
  refine connect_path c { c with store := aset nx { blk with trusted := true } c.store } fl path h nx blk.txs ch
    blk.trusted rfl rfl rfl (fun e _ n hg => ⟨n, hg, rfl⟩) ?_ ⟨nxt, hnode, hpar⟩ ⟨_, alookup_aset _ _ _, rfl⟩ hok hfresh
  intro e _ b0 hb0
  by_cases he : e.id = nx
  · rw [he] at hb0 ⊢
    rw [hblk] at hb0; cases hb0
    exact ⟨_, alookup_aset _ _ _, rfl⟩
  · exact ⟨b0, (alookup_aset_ne _ _ _ _ he).trans hb0, rfl⟩

theorem init_path (r bits : Nat) : PathOK (ChainTree.init r bits) 0 [] :=
  ⟨rfl, rfl, trivial, ⟨[], rfl, fun _ => rfl⟩, trivial, trivial⟩

theorem deleteBranch_fields (c : Chain) (id : Nat) :
    (deleteBranch c id).utxo = c.utxo ∧ (deleteBranch c id).undoFiles = c.undoFiles ∧
    (deleteBranch c id).tip = c.tip ∧ (deleteBranch c id).lastHeight = c.lastHeight ∧
    (deleteBranch c id).root = c.root := by
  unfold deleteBranch
  cases getNode c id <;> exact ⟨rfl, rfl, rfl, rfl, rfl⟩


/-- `parseStep` IS the success branch of one `parseTill` iteration -/
theorem parseTill_step (f : Nat) (c : Chain) (e nx : Nat) (last en nxt : Node) (blk : Stored) (ch : Changes)
    (hne : c.tip ≠ e) (hlast : getNode c c.tip = some last) (hen : getNode c e = some en)
    (hpath : findPathTo c last en = .ok (some nx)) (hnxt : getNode c nx = some nxt) (htx : nxt.txCount ≠ 0)
    (hblk : alookup nx c.store = some blk)
    (hok : commitTxs c.utxo nxt.height (reward nxt.height) blk.trusted blk.txs = .ok ch) :
    parseTill (f + 1) c e =
      parseTill f (parseStep c nx nxt blk ch (decide (nxt.height + UnwindBufLen ≥ en.height))) e := by
  have h1 : (c.tip == e) = false := by simpa using hne
  have h2 : (nxt.txCount == 0) = false := by simpa using htx
  rw [parseTill]
  simp only [h1, Bool.false_eq_true, if_false, node!, hlast, hen, hnxt, bind, Except.bind, pure, Except.pure, hpath, h2, hblk, hok, parseStep]


/-- MoveToBlock = the three climbing loops, then the disconnect loop `undoTo` down to the common block, then ParseTillBlock -/
theorem moveTo_eq (f : Nat) (c : Chain) (dst : Nat) (d lb cur lb2 anc : Node)
    (hd : getNode c dst = some d) (hlb : getNode c c.tip = some lb)
    (h1 : climbChecked c lb.height (d.height + 1) d = .ok (some cur))
    (h2 : climbChecked c cur.height (lb.height + 1) lb = .ok (some lb2))
    (h3 : commonAnc c (cur.height + 2) lb2 cur = .ok (some anc)) :
    moveTo (f + 1) c dst = (undoTo anc.id (lb.height + 2) c >>= fun c1 => parseTill f c1 dst) := by
  rw [moveTo]
  simp only [node!, hd, hlb, bind, Except.bind, pure, Except.pure, h1, h2, h3]

/-- **A reorganisation's disconnect phase leaves no residue.** If the invariant holds for the active branch
    `pre ++ post`, where `post` ends in the common block `anc` found by MoveToBlock's climbing loops, then MoveToBlock
    does not panic while disconnecting and hands ParseTillBlock a state whose unspent map is exactly the replay of `post`
    (tip = the common block, LastBlockHeight = its height, undo files of `post` intact, tree and store untouched). -/
theorem moveTo_unwind (f : Nat) (c : Chain) (fl : Nat) (pre post : List PE) (dst : Nat) (d lb cur lb2 anc : Node)
    (h : PathOK c fl (pre ++ post)) (hfl : post.length ≥ fl)
    (hd : getNode c dst = some d) (hlb : getNode c c.tip = some lb)
    (h1 : climbChecked c lb.height (d.height + 1) d = .ok (some cur))
    (h2 : climbChecked c cur.height (lb.height + 1) lb = .ok (some lb2))
    (h3 : commonAnc c (cur.height + 2) lb2 cur = .ok (some anc))
    (hanc : anc.id = headId c post) (hne : ∀ e ∈ pre, e.id ≠ anc.id) (hh : lb.height + 1 ≥ pre.length) :
    ∃ c1, PathOK c1 fl post ∧ c1.nodes = c.nodes ∧ c1.store = c.store ∧ c1.root = c.root ∧
      moveTo (f + 1) c dst = parseTill f c1 dst := by
  obtain ⟨c1, hu, hp, hn, hs, hr, _⟩ := undoTo_path anc.id fl post pre (lb.height + 2) c h hfl hanc hne (by omega)
  refine ⟨c1, hp, hn, hs, hr, ?_⟩
  rw [moveTo_eq f c dst d lb cur lb2 anc hd hlb h1 h2 h3, hu]
  rfl

-- ------------------------------------------------------------------------------------------ surviving nodes; the trees after AcceptHeader and after a refused block


/-- node `x` survives from `c` to `c'` with the same parent and height -/
def NP (c c' : Chain) (x : Nat) : Prop :=
  ∀ n, getNode c x = some n → ∃ n', getNode c' x = some n' ∧ n'.parent = n.parent ∧ n'.height = n.height

theorem NP.trans {a b c : Chain} {x : Nat} (h1 : NP a b x) (h2 : NP b c x) : NP a c x := by
  intro n hn
  obtain ⟨n1, g1, p1, q1⟩ := h1 n hn
  obtain ⟨n2, g2, p2, q2⟩ := h2 n1 g1
  exact ⟨n2, g2, p2.trans p1, q2.trans q1⟩

theorem Linked_mem {c : Chain} {p : List PE} (h : Linked c p) :
    ∀ e ∈ p, (∃ n, getNode c e.id = some n) ∧ ∃ blk, alookup e.id c.store = some blk ∧ blk.txs = e.txs := by
  induction p with
  | nil => intro e he; cases he
  | cons a rest ih => exact List.forall_mem_cons.mpr ⟨⟨h.1.imp fun _ g => g.1, h.2.1⟩, ih h.2.2⟩

/-- the invariant is insensitive to changes of the tree that keep every node of the path (parent) and of the store
    that keep every block of the path -/
theorem PathOK_mono {c c' : Chain} {fl : Nat} {path : List PE} (h : PathOK c fl path)
    (hroot : c'.root = c.root) (htip : c'.tip = c.tip) (hutxo : c'.utxo = c.utxo) (hfiles : c'.undoFiles = c.undoFiles)
    (hlast : c'.lastHeight = c.lastHeight)
    (hnodes : ∀ e ∈ path, NP c c' e.id)
    (hstore : ∀ e ∈ path, ∀ b0, alookup e.id c.store = some b0 → ∃ b1, alookup e.id c'.store = some b1 ∧ b1.txs = b0.txs) :
    PathOK c' fl path := by
  refine ⟨?_, ?_, ?_, ?_,
    UndoOK_mono fl fl path.length (Nat.le_refl _) (fun _ _ _ => by rw [hfiles]) path (Nat.le_refl _) h.undo, h.fresh⟩
  · rw [htip, h.tip, headId_congr hroot]
  · rw [hlast, h.lastH]
  · exact Linked_mono hroot path (fun e he n hn => (hnodes e he n hn).imp fun _ g => ⟨g.1, g.2.1⟩) hstore h.linked
  · rw [hutxo]; exact h.utxo


/-- `PathOK` plus: the tip node exists and its height is the length of the active branch -/
def PathOKH (c : Chain) (fl : Nat) (path : List PE) : Prop :=
  PathOK c fl path ∧ ∃ t, getNode c c.tip = some t ∧ t.height = path.length

/-- the header-only node AcceptHeader creates for `b` under the parent node `p` -/
def hdrNode (b : Block) (p : Node) : Node :=
  { id := b.id, parent := p.id, height := p.height + 1, bits := b.bits, childs := [], txCount := 0 }

/-- the chain after AcceptHeader for a block on the tip node `t` -/
def accepted (c : Chain) (b : Block) (t : Node) : Chain :=
  { modNode c t.id (fun q => { q with childs := q.childs ++ [b.id] }) with
    nodes := (modNode c t.id (fun q => { q with childs := q.childs ++ [b.id] })).nodes ++ [hdrNode b t] }

theorem NP_accepted (c : Chain) (b : Block) (t : Node) (x : Nat) : NP c (accepted c b t) x := by
  intro n hn
  have e : getNode (accepted c b t) x = _ :=
    getNode_append_eq (modNode c t.id (fun q => { q with childs := q.childs ++ [b.id] })) _ x
  rw [e, getNode_modNode_eq c t.id x (fun q => { q with childs := q.childs ++ [b.id] }) (fun _ => rfl), hn]
  refine ⟨_, rfl, ?_⟩
  dsimp only
  split <;> exact ⟨rfl, rfl⟩

theorem getNode_accepted (c : Chain) (b : Block) (p : Node) (hb : getNode c b.id = none)
    (hp : getNode c b.parent = some p) (x : Nat) :
    getNode (accepted c b p) x =
      if x = b.id then some (hdrNode b p)
      else if x = b.parent then some { p with childs := p.childs ++ [b.id] } else getNode c x := by
  have hpid : p.id = b.parent := getNode_id hp
  have e : getNode (accepted c b p) x = _ :=
    getNode_append_eq (modNode c p.id (fun q => { q with childs := q.childs ++ [b.id] })) (hdrNode b p) x
  rw [e, getNode_modNode_eq c p.id x (fun q => { q with childs := q.childs ++ [b.id] }) (fun _ => rfl),
    show (hdrNode b p).id = b.id from rfl]
  by_cases hx : x = b.id
  · subst hx
    simp only [hb, Option.map_none, beq_self_eq_true, if_true]
  · simp only [if_neg hx]
    by_cases hxp : x = b.parent
    · rw [hxp, hp]
      simp only [Option.map_some, beq_self_eq_true, if_true]
    · simp only [if_neg hxp]
      cases hg : getNode c x with
      | none =>
        have hx' : (b.id == x) = false := by simpa using fun e : b.id = x => hx e.symm
        simp only [Option.map_none, hx', Bool.false_eq_true, if_false]
      | some n =>
        have e1 : (n.id == p.id) = false := by rw [getNode_id hg, hpid]; simpa using hxp
        simp only [Option.map_some, e1, Bool.false_eq_true, if_false]

theorem deliver_eq (c : Chain) (b : Block) (p t : Node) (hb : getNode c b.id = none)
    (hp : getNode c b.parent = some p) (ht : getNode c c.tip = some t)
    (hdeep : (p.id != t.id && decide (t.height ≥ p.height + 1 + MovingCheckpointDepth)) = false) :
    deliver c b = commitBlock (accepted c b p) b (p.height + 1) := by
  unfold deliver deliverAt accepted hdrNode
  simp only [hb, Option.isSome_none, Bool.false_eq_true, if_false, hp, ht, hdeep]

theorem PathOK_accepted {c : Chain} {fl : Nat} {path : List PE} (h : PathOK c fl path) (b : Block) (t : Node) :
    PathOK (accepted c b t) fl path :=
  PathOK_mono h rfl rfl rfl rfl rfl (fun e _ => NP_accepted c b t e.id) (fun _ _ b0 hb0 => ⟨b0, hb0, rfl⟩)

/-- what `commitBlock` leaves when `commitTxs` rejects a block on the tip -/
def rejectedChain (a : Chain) (b : Block) : Chain :=
  { a with
    nodes := List.filter (fun n => n.id != b.id)
          (List.map (fun n => if (n.id == b.parent) = true then
                { n with childs := List.filter (fun x => x != b.id) n.childs } else n)
            (List.map (fun n => if (n.id == b.id) = true then { n with txCount := b.txs.length } else n) a.nodes)),
    tip := b.parent }

theorem getNode_rejectedChain (a : Chain) (b : Block) (x : Nat) :
    getNode (rejectedChain a b) x = if x = b.id then none else (getNode a x).map fun n =>
      if n.id == b.parent then { n with childs := n.childs.filter (· != b.id) } else n := by
  have e2 : getNode (rejectedChain a b) x = _ := (getNode_nodes (c' := rejectedChain a b) rfl x).trans
    (getNode_filter_eq (modNode (modNode a b.id (fun n => { n with txCount := b.txs.length })) b.parent
      (fun m => { m with childs := m.childs.filter (fun z => z != b.id) })) (fun i => i != b.id) x)
  rw [e2]
  by_cases hx : x = b.id
  · simp [hx]
  · have h2 : (x != b.id) = true := by simpa using hx
    simp only [h2, if_true, if_neg hx]
    rw [getNode_modNode_eq _ b.parent x (fun m => { m with childs := m.childs.filter (fun z => z != b.id) }) (fun _ => rfl),
      getNode_modNode_eq a b.id x (fun n => { n with txCount := b.txs.length }) (fun _ => rfl)]
    cases hg : getNode a x with
    | none => rfl
    | some n =>
      have : (n.id == b.id) = false := by rw [getNode_id hg]; simpa using hx
      simp only [Option.map_some, this, Bool.false_eq_true, if_false]

theorem NP_rejectedChain (a : Chain) (b : Block) {x : Nat} (hx : x ≠ b.id) : NP a (rejectedChain a b) x := by
  intro n hn
  rw [getNode_rejectedChain, if_neg hx, hn]
  refine ⟨_, rfl, ?_⟩
  dsimp only
  split <;> exact ⟨rfl, rfl⟩

theorem commitBlock_tip_err (a : Chain) (b : Block) (h : Nat) (e : Err) (htip : a.tip = b.parent)
    (herr : commitTxs a.utxo h (reward h) false b.txs = .error e) :
    commitBlock a b h = (rejectedChain a b, Outcome.rejected e) := by
  unfold commitBlock rejectedChain
  simp only [modNode, htip, beq_self_eq_true, if_true, herr]


-- ------------------------------------------------------------------------------------------ deliveries on the tip

/-- **A delivery on the tip keeps the invariant** — whether the block is accepted (branch extended, map = replay of the
    longer branch) or rejected by `commitTxs` (block dropped from the tree, nothing else changes) or is a duplicate. -/
theorem deliver_on_tip (c : Chain) (fl : Nat) (path : List PE) (h : PathOKH c fl path) (b : Block)
    (hpar : b.parent = c.tip) (hfresh : ∀ t ∈ b.txs.map (·.txid), c.utxo.get t = none) :
    ∃ fl' path', PathOKH (deliver c b).1 fl' path' := by
  obtain ⟨hp, t, ht, hth⟩ := h
  cases hb : getNode c b.id with
  | some n0 =>
    have : deliver c b = (c, Outcome.dup) := by unfold deliver; simp [hb]
    rw [this]; exact ⟨fl, path, hp, t, ht, hth⟩
  | none =>
    rw [deliver_eq c b t t hb (hpar ▸ ht) ht (by simp), hth]
    have hnewnode : getNode (accepted c b t) b.id = some (hdrNode b t) := by
      rw [getNode_accepted c b t hb (hpar ▸ ht), if_pos rfl]
    have hnew : ∀ e ∈ path, e.id ≠ b.id := by
      intro e he heq
      obtain ⟨n, hn⟩ := (Linked_mem hp.linked e he).1
      rw [heq, hb] at hn; cases hn
    have htip2 : (accepted c b t).tip = b.parent := hpar.symm
    cases hct : commitTxs (accepted c b t).utxo (path.length + 1) (reward (path.length + 1)) false b.txs with
    | ok ch =>
      refine ⟨_, _, commitBlock_path (accepted c b t) fl path (PathOK_accepted hp b t) b ch htip2
        ⟨_, hnewnode, (getNode_id ht).trans hpar.symm⟩ hnew hct hfresh, ?_⟩
      rw [commitBlock_ok_eq _ b _ ch htip2 hct]
      have hf := cbt_fields (preCommit (accepted c b t) b) (path.length + 1) true (b.txs.map (·.txid)) ch
      refine ⟨_, (getNode_nodes hf.2.2.2 b.id).trans ((getNode_modNode_eq (accepted c b t) b.id b.id
        (fun n => { n with txCount := b.txs.length }) (fun _ => rfl)).trans (by rw [hnewnode]; rfl)), ?_⟩
      simp [hdrNode, hth]
    | error e =>
      rw [commitBlock_tip_err _ b _ e htip2 hct]
      have hNP : ∀ x, x ≠ b.id → NP c (rejectedChain (accepted c b t) b) x :=
        fun x hx => (NP_accepted c b t x).trans (NP_rejectedChain _ b hx)
      obtain ⟨n', g, _, hh⟩ := hNP c.tip (fun e => by rw [e, hb] at ht; cases ht) t ht
      exact ⟨fl, path, PathOK_mono hp rfl hpar rfl rfl rfl (fun e he => hNP e.id (hnew e he))
        (fun _ _ b0 hb0 => ⟨b0, hb0, rfl⟩), n', (hpar ▸ g : getNode _ b.parent = some n'),
        hh.trans hth⟩

/-- every block of the list is delivered on the then-current tip and re-uses no txid still in the map (BIP30) -/
def OnTip (c : Chain) : List Block → Prop
  | [] => True
  | b :: bs => b.parent = c.tip ∧ (∀ t ∈ b.txs.map (·.txid), c.utxo.get t = none) ∧ OnTip (deliver c b).1 bs

theorem deliver_all_on_tip (bs : List Block) : ∀ (c : Chain) (fl : Nat) (path : List PE), PathOKH c fl path →
    OnTip c bs → ∃ fl' path', PathOKH (bs.foldl (fun c b => (deliver c b).1) c) fl' path' := by
  induction bs with
  | nil => intro c fl path h _; exact ⟨fl, path, h⟩
  | cons b bs ih =>
    intro c fl path h hon
    obtain ⟨fl1, p1, h1⟩ := deliver_on_tip c fl path h b hon.1 hon.2.1
    exact ih _ fl1 p1 h1 hon.2.2

theorem init_pathH (r bits : Nat) : PathOKH (ChainTree.init r bits) 0 [] :=
  ⟨init_path r bits, { id := r, parent := r, height := 0, bits := bits, childs := [], txCount := 0 },
   by simp [getNode, ChainTree.init], rfl⟩

end GocoinV.ChainTree
