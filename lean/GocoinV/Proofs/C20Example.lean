/-
  Proofs.C20Example — a relocating defragClass pass, evaluated inside Lean.  Std.HashMap does not reduce in
  the kernel, so the pass is evaluated by `simp` with the map laws (`KMap.get?_set` …) instead of `decide`:
  `exS1` is the state after `Malloc(131040)` on the empty allocator (largest shared class 49, 8 slots per page);
  `defragClass exS1 49 [1]` accepts the order [page 1], marks page 1, relocates its one live record to a fresh
  page 2, unlinks and unmaps page 1 (`exS2`).  (DefragAllImproved itself would not start class 49 in `exS1`: the
  trigger needs more than 12 pages' worth of free slots, i.e. a trace of > 200 operations — such passes are
  exercised by the correspondence run only.)  The numbers 49 / 8 / 131064 are those of the generated table.
  `exS1` and `exS2` are written as the unreduced write histories the model produces (`(KMap.empty.set 49 …).set 49 …`):
  `exS1_malloc` / `exS1_defrag` close by `simp` up to syntactic equality.  The second half (`exS1_run`, `exS1_allocSlot`,
  `exS1_beginEvac`, `exFree_changes_node`) evaluates a Malloc / Malloc / Free trace for the examples of Props/C20.lean.
-/
import GocoinV.Proofs.C20Total
namespace GocoinV.Alloc
open GocoinV.Gen.MemClasses

theorem c49 : classOf 131064 = 49 ∧ capOf 49 = 8 ∧ maxShared = 131064 ∧ slotSize 49 = 131064 ∧
    minFreePagesTo = 4 := by decide +kernel

def exS1 : State Nat :=
  { cls := (KMap.empty.set 49 { cur := some 1, plist := [1], pageCount := 1, freeSlots := 8 }).set 49
              { cur := some 1, plist := [1], pageCount := 1, freeSlots := 7 },
    pages := (KMap.empty.set 1 { cls := 49, free := 8 }).set 1 { cls := 49, brk := 1, used := 1, free := 7 },
    mem := KMap.empty.set (Addr.sh 1 0) { data := some (Addr.sh 1 0), len := 131040, cap := 131040, val := none },
    nextPage := 2, allocs := 1, bytes := pageSize, sharedMmaps := 1,
    live := KMap.empty.set (Addr.sh 1 0) { size := 131040, val := none },
    heap := hLinkPage { } 49 1 }

def exS2 : State Nat :=
  { cls :=
      ((((((KMap.empty.set 49 { cur := some 1, plist := [1], pageCount := 1, freeSlots := 8 }).set 49
        { cur := some 1, plist := [1], pageCount := 1, freeSlots := 7 }).set
        49 { plist := [1], pageCount := 1, freeSlots := 7 }).set
        49 { cur := some 2, plist := [1, 2], pageCount := 2, freeSlots := 15 }).set
        49 { cur := some 2, plist := [1, 2], pageCount := 2, freeSlots := 14 }).set
        49 { cur := some 2, plist := [1, 2], pageCount := 2, freeSlots := 15 }).set
        49 { cur := some 2, plist := [2], pageCount := 1, freeSlots := 7 },
    pages :=
      ((((((KMap.empty.set 1 { cls := 49, free := 8 }).set 1 { cls := 49, brk := 1, used := 1, free := 7 }).set 1
        { cls := 49, evac := true, brk := 1, used := 1, free := 7 }).set
        2 { cls := 49, free := 8 }).set
        2 { cls := 49, brk := 1, used := 1, free := 7 }).set
        1 { cls := 49, evac := true, brk := 1, free := 8, scan := 1 }).del 1,
    mem :=
      (KMap.empty.set (Addr.sh 1 0) { data := some (Addr.sh 1 0), len := 131040, cap := 131040, val := none }).set
        (Addr.sh 2 0) { data := some (Addr.sh 2 0), len := 131040, cap := 131040, val := none },
    nextPage := 3, allocs := 1, bytes := pageSize, sharedMmaps := 1,
    live :=
      (((KMap.empty.set (Addr.sh 1 0) { size := 131040, val := none }).set (Addr.sh 2 0)
        { size := 131040, val := none }).del (Addr.sh 1 0)).set (Addr.sh 2 0) { size := 131040, val := none },
    relog := [(Addr.sh 1 0, Addr.sh 2 0)],
    heap := hUnlinkPage (hLinkPage (hPurge (hLinkPage { } 49 1) 49 1 1) 49 2) 49 1 }

theorem exS1_malloc : malloc (init : State Nat) 131040 = .ok (exS1, .sh 1 0) := by
  simp [malloc, c49, allocLive, allocSlot, newPage, init, State.K, KMap.get?_set, sliceHdrLen, exS1]

theorem exS1_choice : choiceOk exS1 49 [1] = true := by
  simp [choiceOk, exS1, State.K, KMap.get?_set, c49, usedOf, selUsed, sortNat, insertSorted, selCount, legalChoice]

theorem exS1_defrag : defragClass exS1 49 [1] = .ok exS2 := by
  simp [defragClass, exS1, exS2, State.K, KMap.get?_set, c49, usedOf, selUsed, sortNat, insertSorted, selCount,
    legalChoice, foldE, beginEvac, evacPage, iter, moveNext, allocLive, allocSlot, newPage, freeSlot, endEvac,
    clobber]

theorem exS2_facts : exS2.relog = [(Addr.sh 1 0, Addr.sh 2 0)] ∧
    exS2.live.get? (.sh 2 0) = some ⟨131040, none⟩ ∧ exS2.live.get? (.sh 1 0) = none ∧
    exS2.pages.get? 1 = none ∧
    exS2.mem.get? (.sh 2 0) = some ⟨some (.sh 2 0), 131040, 131040, none⟩ := by
  simp [exS2, KMap.get?_set, KMap.get?_del]

/-! ### non-trivial states for the non-vacuity examples of node_writes_clobbered / rep_step / counters_step -/

theorem exS1_run : run (init : State Nat) [.malloc 131040] = .ok exS1 := by
  simp [run, foldE, step, exS1_malloc]

/-- in `exS1` (one page of class 49, one live record) allocSlot succeeds (bump path) -/
theorem exS1_allocSlot : ∃ r, allocSlot exS1 49 = .ok r := by
  simp [allocSlot, exS1, State.K, KMap.get?_set]

theorem exS1_beginEvac : ∃ s', beginEvac exS1 49 1 = .ok s' := by
  simp [beginEvac, exS1, KMap.get?_set]

/-- A reachable state in which a freeSlot really changes ANOTHER slot's node: after Malloc, Malloc, Free(1,0)
the global list of class 49 is [(1,0)]; freeing (1,1) pushes it in front and writes `(1,0).prev = (1,1)`
(the back-link `next.prev = p` of uintptrFreeShared). -/
theorem exFree_changes_node : ∃ (s : State Nat) (h : Page),
    run init [.malloc 131040, .malloc 131040, .free (.sh 1 0)] = .ok s ∧ s.pages.get? 1 = some h ∧
    (freeSlot s 1 1 h).heap.N (1, 0) ≠ s.heap.N (1, 0) := by
  have g1 : lnkPushGlobalBack = true := by decide
  have g2 : lnkPushPageBack = true := by decide
  simp [run, foldE, step, exS1_malloc]
  simp [malloc, free, c49, allocLive, allocSlot, freeSlot, exS1, State.K, KMap.get?_set, sliceHdrLen,
    hPush, hLinkPage, Heap.setN, Heap.setH, Heap.setC, Heap.N, Heap.H, Heap.C, onSome, g1, g2]

end GocoinV.Alloc
