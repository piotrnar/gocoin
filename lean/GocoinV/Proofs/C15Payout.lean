/-
  Proofs.C15Payout — histories of the payout-address configuration (`minadr`, getwork templates, validateaddress;
  Model/AddrPayout.lean): the string in force after a history, and how `run` splits over appended histories.
-/
import GocoinV.Model.AddrPayout
namespace GocoinV.Addr.Payout
open GocoinV.Addr

theorem inForce_nil (H : Hashes) (c : Bytes) : inForce H c [] = c := by simp [inForce]

theorem inForce_cons (H : Hashes) (c s : Bytes) (r : List Bytes) :
    inForce H c (s :: r) = inForce H (minadr H c s) r := by
  unfold inForce minadr
  simp only [List.reverse_cons, List.find?_append]
  cases hr : r.reverse.find? (fun s => decide (s ≠ [] ∧ accepted H s = true)) with
  | some x => simp
  | none =>
    by_cases h1 : s = []
    · simp [h1]
    · by_cases h2 : accepted H s = true <;> simp [h1, h2]

theorem cfgAfter_eq_inForce (H : Hashes) (steps : List Step) (c : Bytes) :
    cfgAfter H steps c = inForce H c (typedOf steps) := by
  induction steps generalizing c with
  | nil => simp [cfgAfter, typedOf, inForce_nil]
  | cons st r ih =>
    cases st <;> simp only [cfgAfter, typedOf, inForce_cons] <;> exact ih _

theorem run_append (H : Hashes) (a b : List Step) (c : Bytes) :
    run H (a ++ b) c = run H a c ++ run H b (cfgAfter H a c) := by
  induction a generalizing c with
  | nil => simp [run, cfgAfter]
  | cons st r ih => cases st <;> simp only [List.cons_append, run, cfgAfter, ih]

theorem run_length (H : Hashes) (a : List Step) (c : Bytes) : (run H a c).length = a.length := by
  induction a generalizing c with
  | nil => simp [run]
  | cons st r ih => cases st <;> simp [run, ih]

theorem inForce_snoc (H : Hashes) (c s : Bytes) (r : List Bytes) :
    inForce H c (r ++ [s]) = minadr H (inForce H c r) s := by
  induction r generalizing c with
  | nil => simp [inForce_cons, inForce_nil]
  | cons x r ih => simp only [List.cons_append, inForce_cons]; exact ih _

end GocoinV.Addr.Payout
