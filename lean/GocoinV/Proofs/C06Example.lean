/-
  Proofs.C06Example — a concrete block tree with a fork satisfying `BlockTree` (non-vacuity of the hypotheses of the
  C06 theorems): root 0; x1 on the root; a2 and b2 on x1; b3 on b2; b2 spends an unknown output, so the branch b2-b3
  is invalid once connected (a delivery of x1, a2, b2, b3 ends in a failed reorganisation).
-/
import GocoinV.Spec.ChainReplay
namespace GocoinV.ChainTree
open GocoinV.UtxoOps

def exBits : Nat := 0x207fffff
def exCb (id : Nat) : Tx := { txid := id, ins := [], outs := [{ value := 5000000000, script := "51" }], scriptsOk := true }
def exT1 : List Tx := [exCb 1001]
def exT2 : List Tx := [exCb 1002]
def exT3 : List Tx := [exCb 1003, { txid := 2000, ins := [{ txid := 999, vout := 0 }], outs := [], scriptsOk := true }]
def exT4 : List Tx := [exCb 1004]

def exU : List Block :=
  [ { id := 1, parent := 0, bits := exBits, txs := exT1 },
    { id := 2, parent := 1, bits := exBits, txs := exT2 },
    { id := 3, parent := 1, bits := exBits, txs := exT3 },
    { id := 4, parent := 3, bits := exBits, txs := exT4 } ]

theorem exU_inv {e : PE} {rest : List PE} (h : UChain exU 0 (e :: rest)) :
    ((e.id = 1 ∧ e.txs = exT1 ∧ headR 0 rest = 0) ∨ (e.id = 2 ∧ e.txs = exT2 ∧ headR 0 rest = 1) ∨
     (e.id = 3 ∧ e.txs = exT3 ∧ headR 0 rest = 1) ∨ (e.id = 4 ∧ e.txs = exT4 ∧ headR 0 rest = 3)) ∧ UChain exU 0 rest := by
  obtain ⟨⟨b, hb, h1, h2, h3⟩, hr⟩ := h
  refine ⟨?_, hr⟩
  simp only [exU, List.mem_cons, List.mem_nil_iff, or_false] at hb
  rcases hb with rfl | rfl | rfl | rfl
  · exact Or.inl ⟨h1.symm, h2.symm, h3.symm⟩
  · exact Or.inr (Or.inl ⟨h1.symm, h2.symm, h3.symm⟩)
  · exact Or.inr (Or.inr (Or.inl ⟨h1.symm, h2.symm, h3.symm⟩))
  · exact Or.inr (Or.inr (Or.inr ⟨h1.symm, h2.symm, h3.symm⟩))

theorem exU_head0 {rest : List PE} (h : UChain exU 0 rest) (h0 : headR 0 rest = 0) : rest = [] := by
  cases rest with
  | nil => rfl
  | cons e r =>
    have := (exU_inv h).1
    simp only [headR] at h0
    omega

theorem exPE {e : PE} {i : Nat} {t : List Tx} (a : e.id = i) (b : e.txs = t) : e = ⟨i, t⟩ := by
  subst a b; rfl

theorem exU_head1 {rest : List PE} (h : UChain exU 0 rest) (h1 : headR 0 rest = 1) : rest = [⟨1, exT1⟩] := by
  cases rest with
  | nil => cases h1
  | cons e r =>
    obtain ⟨hc, hr⟩ := exU_inv h
    simp only [headR] at h1
    rcases hc with ⟨a, b, c⟩ | ⟨a, _, _⟩ | ⟨a, _, _⟩ | ⟨a, _, _⟩
    · rw [exU_head0 hr c, exPE a b]
    all_goals omega

theorem exU_head3 {rest : List PE} (h : UChain exU 0 rest) (h3 : headR 0 rest = 3) : rest = [⟨3, exT3⟩, ⟨1, exT1⟩] := by
  cases rest with
  | nil => cases h3
  | cons e r =>
    obtain ⟨hc, hr⟩ := exU_inv h
    simp only [headR] at h3
    rcases hc with ⟨a, _, _⟩ | ⟨a, _, _⟩ | ⟨a, b, c⟩ | ⟨a, _, _⟩
    · omega
    · omega
    · rw [exU_head1 hr c, exPE a b]
    · omega

theorem exU_chains {p : List PE} (h : UChain exU 0 p) :
    p = [] ∨ p = [⟨1, exT1⟩] ∨ p = [⟨2, exT2⟩, ⟨1, exT1⟩] ∨ p = [⟨3, exT3⟩, ⟨1, exT1⟩] ∨
    p = [⟨4, exT4⟩, ⟨3, exT3⟩, ⟨1, exT1⟩] := by
  cases p with
  | nil => exact Or.inl rfl
  | cons e r =>
    obtain ⟨hc, hr⟩ := exU_inv h
    rcases hc with ⟨a, b, c⟩ | ⟨a, b, c⟩ | ⟨a, b, c⟩ | ⟨a, b, c⟩
    · rw [exU_head0 hr c, exPE a b]; exact Or.inr (Or.inl rfl)
    · rw [exU_head1 hr c, exPE a b]; exact Or.inr (Or.inr (Or.inl rfl))
    · rw [exU_head1 hr c, exPE a b]; exact Or.inr (Or.inr (Or.inr (Or.inl rfl)))
    · rw [exU_head3 hr c, exPE a b]; exact Or.inr (Or.inr (Or.inr (Or.inr rfl)))

theorem exFresh1 : Fresh [⟨1, exT1⟩] := by
  refine ⟨?_, trivial⟩
  intro u hu t ht
  cases hu; rfl

theorem exReplay1 : replay [⟨1, exT1⟩] =
    some [{ txid := 1001, height := 1, coinbase := true, outs := [some ⟨5000000000, "51"⟩] }] := by rfl

theorem exFresh2 : Fresh [⟨2, exT2⟩, ⟨1, exT1⟩] := by
  refine ⟨?_, exFresh1⟩
  intro u hu
  rw [exReplay1] at hu; cases hu
  decide

theorem exFresh3 : Fresh [⟨3, exT3⟩, ⟨1, exT1⟩] := by
  refine ⟨?_, exFresh1⟩
  intro u hu
  rw [exReplay1] at hu; cases hu
  decide

theorem exReplay3 : replay [⟨3, exT3⟩, ⟨1, exT1⟩] = none := by rfl

theorem exFresh4 : Fresh [⟨4, exT4⟩, ⟨3, exT3⟩, ⟨1, exT1⟩] := by
  refine ⟨?_, exFresh3⟩
  intro u hu
  rw [exReplay3] at hu; cases hu

theorem exU_blockTree : BlockTree 0 exU := by
  refine ⟨?_, by decide, by decide, ?_, ?_⟩
  · intro b1 h1 b2 h2 hid
    simp only [exU, List.mem_cons, List.mem_nil_iff, or_false] at h1 h2
    rcases h1 with rfl | rfl | rfl | rfl <;> rcases h2 with rfl | rfl | rfl | rfl <;> first | rfl | (simp at hid)
  · intro p hp
    rcases exU_chains hp with rfl | rfl | rfl | rfl | rfl
    · trivial
    · exact exFresh1
    · exact exFresh2
    · exact exFresh3
    · exact exFresh4
  · intro p hp
    rcases exU_chains hp with rfl | rfl | rfl | rfl | rfl <;> simp [UnwindBufLen]

end GocoinV.ChainTree
