/-
  Proofs.C01Sig — signature / public-key encoding checks (BIP66 strict DER, LOW_S, STRICTENC hash types, key
  types): model (lib/script/misc.go) vs spec.
-/
import GocoinV.Proofs.C01Arith
namespace GocoinV.Proofs.C01
open GocoinV GocoinV.Script

theorem u8_toNat_and128 (x : UInt8) : (x.toNat &&& 128 = 0) = (x.toNat < 128) := by
  revert x; exact u8_forall (by decide +kernel)
theorem u8_toNat_and128' (x : UInt8) : (x.toNat &&& 128) = if x.toNat < 128 then 0 else 128 := by
  revert x; exact u8_forall (by decide +kernel)
theorem u8_eq_iff (x k : UInt8) : (x = k) = (x.toNat = k.toNat) := propext UInt8.toNat_inj.symm

theorem u8_and128_eq0 (x : UInt8) : (x &&& 128 = 0) = (x.toNat < 128) := by
  rw [u8_eq_iff, UInt8.toNat_and]
  exact u8_toNat_and128 x
theorem isValidSignatureEncoding_eq (sig : Bytes) : isValidSignatureEncoding sig = ScriptSpec.isValidSignatureEncoding sig := by
  unfold isValidSignatureEncoding ScriptSpec.isValidSignatureEncoding at'
  simp only [u8_and80]
  simp
  rw [Bool.eq_iff_iff]
  simp [u8_eq_iff, u8_toNat_and128']
  -- the same conjuncts on both sides, bracketed differently
  simp only [and_assoc]

theorem isLowS_eq (sig : Bytes) :
    isLowS sig = (ScriptSpec.isValidSignatureEncoding sig && decide (ScriptSpec.derS sig ≤ ScriptSpec.secpHalfOrder)) := by
  unfold isLowS
  rw [isValidSignatureEncoding_eq]
  by_cases hv : ScriptSpec.isValidSignatureEncoding sig = true
  · simp only [hv, Bool.not_true, Bool.false_eq_true, ↓reduceIte, Bool.true_and]
    unfold ScriptSpec.isValidSignatureEncoding at hv
    simp at hv
    have hp : sigParseBytes sig = some ((sig.drop 4).take (sig.getD 3 0).toNat,
        (sig.drop (6 + (sig.getD 3 0).toNat)).take (sig.getD (5 + (sig.getD 3 0).toNat) 0).toNat) := by
      unfold sigParseBytes at'
      have e1 : (sig.getD 3 0).toNat + 5 = 5 + (sig.getD 3 0).toNat := by omega
      simp only [e1]
      simp [u8_eq_iff]
      omega
    rw [hp]
    simp [ScriptSpec.derS, show halfOrder = ScriptSpec.secpHalfOrder from rfl]
  · simp [hv]

theorem isDefinedHashtype_eq (sig : Bytes) : isDefinedHashtypeSignature sig = ScriptSpec.isDefinedHashtypeSignature sig := by
  unfold isDefinedHashtypeSignature ScriptSpec.isDefinedHashtypeSignature
  cases sig.getLast? with
  | none => rfl
  | some l =>
    simp only
    exact u8_forall (P := fun l => (!((l &&& (0x80 ^^^ 0xff)) < 1 || (l &&& (0x80 ^^^ 0xff)) > 3)) =
      (decide (1 ≤ l.toNat % 128) && decide (l.toNat % 128 ≤ 3))) (by decide +kernel) l

theorem checkSignatureEncoding_eq (sig : Bytes) (flags : Nat) :
    checkSignatureEncoding sig flags =
      (match ScriptSpec.checkSignatureEncoding (ScriptSpec.Flags.ofMask flags) sig with | .ok _ => true | .error _ => false) := by
  unfold checkSignatureEncoding ScriptSpec.checkSignatureEncoding ScriptSpec.isLowDERSignature
  simp only [isValidSignatureEncoding_eq, isLowS_eq, isDefinedHashtype_eq, flag_dersig, flag_strictenc, flag_lows]
  cases sig with
  | nil => rfl
  | cons a r =>
    generalize ScriptSpec.isValidSignatureEncoding (a :: r) = v
    generalize decide (ScriptSpec.derS (a :: r) ≤ ScriptSpec.secpHalfOrder) = lo
    generalize ((ScriptSpec.Flags.ofMask flags).strictenc && !ScriptSpec.isDefinedHashtypeSignature (a :: r)) = Q
    generalize (ScriptSpec.Flags.ofMask flags).dersig = fd
    generalize (ScriptSpec.Flags.ofMask flags).strictenc = fs
    generalize (ScriptSpec.Flags.ofMask flags).lowS = fl
    cases v <;> cases fl <;> cases lo <;> cases Q <;> cases fd <;> cases fs <;> rfl

theorem isCompOrUncomp_eq (pk : Bytes) : isCompressedOrUncompressedPubKey pk = ScriptSpec.isCompressedOrUncompressedPubKey pk := by
  unfold isCompressedOrUncompressedPubKey ScriptSpec.isCompressedOrUncompressedPubKey at'
  cases pk <;> simp
theorem isCompressed_eq (pk : Bytes) : isCompressedPubKey pk = ScriptSpec.isCompressedPubKey pk := by
  unfold isCompressedPubKey ScriptSpec.isCompressedPubKey at'
  cases pk with
  | nil => simp
  | cons h t =>
    by_cases hl : t.length = 32 <;> simp [hl]
theorem checkPubKeyEncoding_eq (pk : Bytes) (flags : Nat) (sv : SigVersion) :
    checkPubKeyEncoding pk flags sv =
      (match ScriptSpec.checkPubKeyEncoding (ScriptSpec.Flags.ofMask flags) sv pk with | .ok _ => true | .error _ => false) := by
  unfold checkPubKeyEncoding ScriptSpec.checkPubKeyEncoding
  simp only [isCompOrUncomp_eq, isCompressed_eq, flag_strictenc, flag_witpubkey]
  -- each side is two refusals in a row, on the same two conditions
  generalize ((ScriptSpec.Flags.ofMask flags).strictenc && !ScriptSpec.isCompressedOrUncompressedPubKey pk) = A
  generalize ((ScriptSpec.Flags.ofMask flags).witnessPubkeytype && sv == SigVersion.witnessV0 && !ScriptSpec.isCompressedPubKey pk) = B
  cases A <;> cases B <;> rfl

end GocoinV.Proofs.C01
