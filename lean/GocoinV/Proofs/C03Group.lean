/-
  Proofs.C03Group — the curve points of Base/Secp as an additive group (`CurvePt`): `Secp.mul` is the k-fold sum, n·G = ∞
  (`order_G`; that no smaller multiple is ∞ is `mul_G_ne_none` in Proofs/C03Ecdsa.lean), and the two field identities behind ECDSA verification and recovery (Proofs/C03Ecdsa.lean builds on these).

  `SecpGroupLaw` is the ONE package of group-law facts used: `Secp.add` is closed, commutative and
  associative on curve points. (Neutral element, inverses and n·G = ∞ are proved here directly.)
  Proofs/C03Curve.lean discharges it from Mathlib's `WeierstrassCurve.Affine.Point` group.
-/
import GocoinV.Proofs.C03Field
import GocoinV.Proofs.C03Jac
namespace GocoinV.Proofs.C03
open GocoinV GocoinV.Secp GocoinV.Model GocoinV.Model.Sig

/-- the point is ∞ or satisfies y² = x³ + 7 with coordinates below p -/
def OnC (P : Point) : Prop := onCurve P = true

/-- The group law of the reference curve, as far as C03 needs it. -/
class SecpGroupLaw : Prop where
  add_closed : ∀ P Q, OnC P → OnC Q → OnC (add P Q)
  add_comm : ∀ P Q, OnC P → OnC Q → add P Q = add Q P
  add_assoc : ∀ P Q R, OnC P → OnC Q → OnC R → add (add P Q) R = add P (add Q R)

theorem add_none_right (P : Point) : add P none = P := by
  cases P <;> rfl

theorem neg_onC (P : Point) (h : OnC P) : OnC (neg P) := by
  cases P with
  | none => exact h
  | some q =>
    obtain ⟨x, y⟩ := q
    obtain ⟨hx, hy, heq⟩ := (onCurve_iff x y).mp h
    refine (onCurve_iff _ _).mpr ⟨hx, Nat.mod_lt _ p_pos, ?_⟩
    rw [ZMod.natCast_mod, Nat.cast_sub (by omega), ZMod.natCast_self, zero_sub, neg_sq]
    exact heq

theorem add_neg_self (P : Point) (h : OnC P) : add P (neg P) = none := by
  cases P with
  | none => rfl
  | some q =>
    obtain ⟨x, y⟩ := q
    have hy0 := onCurve_y_ne_zero x y h
    obtain ⟨hx, hy, _⟩ := (onCurve_iff x y).mp h
    have hpodd : p % 2 = 1 := by decide
    have hne : y ≠ (p - y) % p := by
      rw [Nat.mod_eq_of_lt (by omega)]; omega
    simp only [neg, add, ↓reduceIte, hne]

def CurvePt := {P : Point // OnC P}

instance : Zero CurvePt := ⟨⟨none, rfl⟩⟩
instance [L : SecpGroupLaw] : Add CurvePt := ⟨fun P Q => ⟨add P.1 Q.1, L.add_closed _ _ P.2 Q.2⟩⟩
instance : Neg CurvePt := ⟨fun P => ⟨neg P.1, neg_onC _ P.2⟩⟩

instance instGroup [L : SecpGroupLaw] : AddCommGroup CurvePt where
  add_assoc P Q R := Subtype.ext (L.add_assoc _ _ _ P.2 Q.2 R.2)
  zero_add P := Subtype.ext rfl
  add_zero P := Subtype.ext (add_none_right P.1)
  neg_add_cancel P := Subtype.ext (by
    show add (neg P.1) P.1 = none
    rw [L.add_comm _ _ (neg_onC _ P.2) P.2]; exact add_neg_self _ P.2)
  add_comm P Q := Subtype.ext (L.add_comm _ _ P.2 Q.2)
  nsmul := nsmulRec
  zsmul := zsmulRec

theorem val_zero : (0 : CurvePt).1 = none := rfl
theorem val_neg (P : CurvePt) : (-P).1 = neg P.1 := rfl

theorem dbl_eq_add (P : Point) : dbl P = add P P := by
  cases P with
  | none => rfl
  | some q => obtain ⟨x, y⟩ := q; simp [add]

theorem mul_n_G : mul n G = none := by rw [mul_eq_mulJ]; decide +kernel

section
variable [L : SecpGroupLaw]

theorem val_add (P Q : CurvePt) : (P + Q).1 = add P.1 Q.1 := rfl

/-- the double-and-add loop computes 2^i·acc + (k mod 2^i)·P -/
theorem mulAux_nsmul (P : CurvePt) : ∀ (i k : Nat) (acc : CurvePt),
    mulAux P.1 i k acc.1 = ((2 ^ i) • acc + (k % 2 ^ i) • P).1 := by
  intro i
  induction i with
  | zero => intro k acc; simp [mulAux, Nat.mod_one]
  | succ i ih =>
    intro k acc
    simp only [mulAux]
    have hk : k % 2 ^ (i + 1) = k % 2 ^ i + 2 ^ i * (if k.testBit i then 1 else 0) := by
      rw [Nat.mod_pow_succ, ← Nat.toNat_testBit]
      cases k.testBit i <;> rfl
    by_cases hb : k.testBit i
    · simp only [hb, ↓reduceIte] at hk ⊢
      rw [dbl_eq_add]
      refine (ih k (acc + acc + P)).trans ?_
      rw [hk]
      congr 1
      rw [pow_succ, mul_nsmul, two_nsmul, add_nsmul, smul_add, smul_add, _root_.mul_one]
      abel
    · simp only [hb, Bool.false_eq_true, ↓reduceIte] at hk ⊢
      rw [dbl_eq_add]
      refine (ih k (acc + acc)).trans ?_
      rw [hk]
      congr 1
      rw [pow_succ, mul_nsmul, two_nsmul, smul_add, mul_zero, add_zero]

theorem mul_eq_nsmul (k : Nat) (P : CurvePt) : mul k P.1 = (k • P).1 := by
  unfold mul
  have h := mulAux_nsmul P (k.log2 + 1) k 0
  rw [val_zero] at h
  rw [h, smul_zero, zero_add, Nat.mod_eq_of_lt Nat.lt_log2_self]

def Gc : CurvePt := ⟨G, by unfold OnC; decide +kernel⟩

theorem nsmul_of_mul_none (R : CurvePt) (h : mul n R.1 = none) : n • R = 0 :=
  Subtype.ext (by rw [← mul_eq_nsmul]; exact h)

theorem order_G : n • Gc = 0 := nsmul_of_mul_none Gc mul_n_G

theorem nsmul_congr_of_order (R : CurvePt) (hR : n • R = 0) (a b : Nat)
    (h : (a : ZMod n) = (b : ZMod n)) : a • R = b • R := by
  rw [nsmul_eq_mod_nsmul a hR, nsmul_eq_mod_nsmul b hR, (mod_eq_iff_cast n a b).mpr h]

theorem nsmul_G_congr (a b : Nat) (h : (a : ZMod n) = (b : ZMod n)) : a • Gc = b • Gc :=
  nsmul_congr_of_order Gc order_G a b h

theorem sub_nsmul_of_order (R : CurvePt) (hR : n • R = 0) (k : Nat) (hk : k ≤ n) : (n - k) • R = -(k • R) := by
  apply eq_neg_of_add_eq_zero_left
  rw [← add_nsmul, Nat.sub_add_cancel hk, hR]

theorem mul_G (k : Nat) : mul k G = (k • Gc).1 := mul_eq_nsmul k Gc

theorem mul_neg_G (k x y : Nat) (hk : k ≤ n) (h : mul k G = some (x, y)) :
    ((n - k) • Gc).1 = some (x, (p - y) % p) := by
  rw [sub_nsmul_of_order Gc order_G k hk, val_neg, ← mul_G, h]; rfl

end

/-! ### field identities behind ECDSA -/

theorem cast_ne_zero_of_lt {q : Nat} (a : Nat) (h0 : 0 < a) (hl : a < q) : (a : ZMod q) ≠ 0 :=
  mt (ZMod.natCast_eq_zero_iff a q).mp (Nat.not_dvd_of_pos_of_lt h0 hl)

/-- verification of an own signature in a field: with s = k⁻¹(r·d + m), the verifier's d·(s⁻¹r) + s⁻¹m is k -/
theorem fld_verify {F : Type} [Field F] (K T S r d m : F) (hT : T = r * d + m) (hS : S = K⁻¹ * T)
    (hS0 : S ≠ 0) : d * (S⁻¹ * r) + S⁻¹ * m = K := by
  have hT0 : T ≠ 0 := by rintro rfl; simp at hS; exact hS0 hS
  subst hS
  have e : d * ((K⁻¹ * T)⁻¹ * r) + (K⁻¹ * T)⁻¹ * m = K * (T⁻¹ * (r * d + m)) := by
    rw [mul_inv, inv_inv]; ring
  rw [e, ← hT, inv_mul_cancel₀ hT0, _root_.mul_one]

/-- recovery in a field: with s = k⁻¹(r·d + m), k·(r⁻¹s) − r⁻¹m is d -/
theorem fld_recover {F : Type} [Field F] (K T S r d m : F) (hT : T = r * d + m) (hS : S = K⁻¹ * T)
    (hK : K ≠ 0) (hr : r ≠ 0) : K * (r⁻¹ * S) + -(r⁻¹ * m) = d := by
  subst hS hT
  field_simp
  ring

end GocoinV.Proofs.C03
