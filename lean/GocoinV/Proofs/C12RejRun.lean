/-
  Proofs.C12RejRun — the reject-list invariant through the steps of the pool side (`Prim.rj`), through blocks (txMined
  incl. its RejectedSpentOutputs loop, BlockMined, BlockUndone), and through every single operation (`step_RJ`, with the
  side condition `UndoOK` on undo operations).  `run_RJ` at the end is the induction for histories that carry `UndoOK` as a
  hypothesis; Props/C12 `reject_index_inv` does not go through it (its histories derive `UndoOK` step by step:
  `undoOK_of_full`, `run_carried` in Proofs/C12Chain).  The readable form `RejInv` is in Proofs/C12RejInv, the
  unreachable panic branches in Proofs/C12RejPanic.  Core Lean only.
  (helper lemmas for Props/C12 `reject_index_inv`)
-/
import GocoinV.Proofs.C12RejOps
namespace GocoinV.Mempool

theorem Shrink.of_eq {s s' : State} (h1 : s'.cfg = s.cfg := by rfl) (h2 : s'.rej = s.rej := by rfl)
    (h3 : s'.ring = s.ring := by rfl) (h4 : s'.waiting = s.waiting := by rfl) (h5 : s'.rejSpent = s.rejSpent := by rfl)
    (h6 : s'.pool = s.pool := by rfl) : Shrink s s' :=
  ⟨⟨h1, h2, h3, h4, h5⟩, PoolSub.of_eq h6⟩

theorem resubmit_RJ {K : Keys} {W : Tx → Prop} {rank : TxId → Nat} (U : Univ K W rank) (mf : Nat) (s : State)
    (cur first : Nat) (txr : Rej) (t : Tx) (hI : InvR K W s) (h : RJ K s) (htxr : s.rej.get? first = some txr)
    (htx : txr.tx = some t) : InvR K W (resubmit K mf s cur txr t).2 ∧ RJ K (resubmit K mf s cur txr t).2 := by
  have hk := h.rc.key _ txr htxr
  have h1 := rejDelete_RJ h txr (by rw [hk]; exact htxr)
  have hI1 := InvR_of_frame hI (rejDelete_frame K W s txr)
  have ht : W t := hI.rejW _ txr t htxr htx
  -- the record just deleted was the only one under its key, and no pooled record has that key
  have hid : t.id = txr.id := (h.rc.shape _ txr htxr).id t htx
  have hf : (rejDelete K s txr).rej.get? (K.bidx t.id) = none := by
    rw [rejDelete_rej, hid, AList.get?_del_self]
  have hp : (rejDelete K s txr).pool.get? (K.bidx t.id) = none := by
    rw [(rejDelete_core K s txr).1, hid, hk]
    exact Option.eq_none_iff_forall_ne_some.mpr fun x hx => by cases (h.disj _ x hx).symm.trans htxr
  have h2 := processTx_RJ mf _ t {} hI1 h1 hf hp
  have hI2 := processTx_InvR U mf _ t {} hI1 ht
  refine resubmit_cases (P := fun r => InvR K W r ∧ RJ K r) K mf s cur txr t ⟨hI2, h2⟩ fun hres => ?_
  obtain ⟨q1, q2, _⟩ := rejDeleteByIdx_RJ h2 (K.bidx t.id)
  refine ⟨InvR_of_frame hI2 ((rejDeleteByIdx_frame K W _ (K.bidx t.id)).trans
    (rejectTx_frame K W _ t R_BAD_INPUT none ht)), (rejectTx_RJ q1 t R_BAD_INPUT none q2 ?_ (by decide)).1⟩
  rw [(rejDeleteByIdx_core K _ _).1, (processTx_pool K mf (rejDelete K s txr) t {}).1 (by rw [hres]; decide), hp]

/-- LoadRawTx's "make as own": the reject side is untouched and no pool key is new -/
theorem markLocal_shrink (K : Keys) (s : State) (id : TxId) : Shrink s (markLocal K s id) := by
  unfold markLocal
  split
  · rename_i r hr
    refine ⟨⟨rfl, rfl, rfl, rfl, rfl⟩, ?_⟩
    intro b x hx
    rcases AList.get?_set_some hx with ⟨e, _⟩ | ⟨_, h2⟩
    · exact ⟨r, by rw [e]; exact hr⟩
    · exact ⟨x, h2⟩
  · exact Shrink.refl s

/-! ### MemInputs flags, Delete(with_children) -/

theorem minedFlags_shrink (K : Keys) (s : State) (t : T2S) : Shrink s (minedFlags K s t) :=
  ⟨foldl_inv (RejSame s) _ (fun s1 v h => h.trans (minedStep_cases K t s1 v (fun _ => RejSame.refl s1)
    ⟨rfl, rfl, rfl, rfl, rfl⟩ fun _ _ _ _ _ _ _ => ⟨rfl, rfl, rfl, rfl, rfl⟩)) _ s (RejSame.refl s),
    PoolSub.of_back (minedFlags_back K s t)⟩

theorem unminedFlags_shrink (K : Keys) (s : State) (t : T2S) : Shrink s (unminedFlags K s t) :=
  ⟨foldl_inv (RejSame s) _ (fun s1 v h => h.trans (unminedStep_cases K t s1 v (RejSame.refl s1) ⟨rfl, rfl, rfl, rfl, rfl⟩
    (fun _ _ _ _ _ _ _ => ⟨rfl, rfl, rfl, rfl, rfl⟩) fun _ _ _ _ _ _ _ => ⟨rfl, rfl, rfl, rfl, rfl⟩)) _ s
    (RejSame.refl s), PoolSub.of_back (unminedFlags_back K s t)⟩

theorem delWC0_shrink (K : Keys) : ∀ (fuel : Nat) (s : State) (t : T2S), Shrink s (delWithChildren K 0 fuel s t) := by
  intro fuel
  induction fuel with
  | zero => intro s t; exact Shrink.of_eq
  | succ n ih =>
    intro s t
    unfold delWithChildren
    refine Shrink.trans (foldl_inv (Shrink s) _ (fun s v h => h.trans ?_) _ s (Shrink.refl s)) (delOne0_shrink K _ t)
    split
    · exact Shrink.refl s
    · split
      · exact Shrink.refl s
      · exact ih _ _

/-! ### txMined -/

theorem RC.congr_sp {K : Keys} {e : Option Nat} {rej : AList Nat Rej} {rk : List Nat}
    {wt : AList Nat (TxId × List Nat)} {sp sp' : AList Nat (List Nat)} (h : RC K e rej rk wt sp)
    (hs : ∀ u, sp'.get? u = sp.get? u) : RC K e rej rk wt sp' := by
  have hl : ∀ u, lst sp' u = lst sp u := by intro u; unfold lst; rw [hs]
  exact { h with
    spNe := fun u l hu => h.spNe u l (hs u ▸ hu)
    spSound := fun u x hx => h.spSound u x (hl u ▸ hx)
    spCompl := fun b r t hb hne ht u hu => hl u ▸ h.spCompl b r t hb hne ht u hu }

/-- the loop of txMined over one RejectedSpentOutputs list: every listed record is gone afterwards -/
theorem rejLoop_spec (K : Keys) (b : Nat) : ∀ (l : List Nat) (acc : Bool × State), RJ K acc.2 →
    RJ K (l.foldl (fun (acc : Bool × State) rb =>
      match acc.2.rej.get? rb with
      | some txr => (acc.1 || rb = b, rejDelete K acc.2 txr)
      | none => (acc.1, acc.2)) acc).2 ∧
    ∀ x r, (l.foldl (fun (acc : Bool × State) rb =>
      match acc.2.rej.get? rb with
      | some txr => (acc.1 || rb = b, rejDelete K acc.2 txr)
      | none => (acc.1, acc.2)) acc).2.rej.get? x = some r → acc.2.rej.get? x = some r ∧ x ∉ l := by
  intro l
  induction l with
  | nil => intro acc h; exact ⟨h, fun x r hx => ⟨hx, by simp⟩⟩
  | cons rb l' ih =>
    intro acc h
    simp only [List.foldl_cons]
    cases hrb : acc.2.rej.get? rb with
    | none =>
      obtain ⟨i1, i2⟩ := ih (acc.1, acc.2) h
      refine ⟨i1, fun x r hx => ?_⟩
      obtain ⟨j1, j2⟩ := i2 x r hx
      refine ⟨j1, List.not_mem_cons_of_ne_of_not_mem (fun e => ?_) j2⟩
      cases hrb.symm.trans (e ▸ j1)
    | some txr =>
      have hk := h.rc.key rb txr hrb
      have h1 := rejDelete_RJ h txr (by rw [hk]; exact hrb)
      obtain ⟨i1, i2⟩ := ih (acc.1 || decide (rb = b), rejDelete K acc.2 txr) h1
      refine ⟨i1, ?_⟩
      intro x r hx
      obtain ⟨j1, j2⟩ := i2 x r hx
      rw [rejDelete_rej, hk] at j1
      obtain ⟨hne, j1⟩ := AList.get?_del_some j1
      exact ⟨j1, List.not_mem_cons_of_ne_of_not_mem hne j2⟩

theorem txMinedStep_RJ (K : Keys) (b : Nat) (wasIn : Bool) (acc : Bool × State) (i : TxIn) (h : RJ K acc.2) :
    RJ K (txMinedStep K b wasIn acc i).2 := by
  unfold txMinedStep
  dsimp only
  have h1 : RJ K (if wasIn then acc.2 else minedConf K acc.2 i) := by
    refine ite_cases (fun _ => h) fun _ => ?_
    unfold minedConf
    split
    · exact h
    · split
      · exact h.of_shrink (delWC0_shrink K _ _ _)
      · exact h.of_shrink Shrink.of_eq
  generalize (if wasIn then acc.2 else minedConf K acc.2 i) = s1 at h1 ⊢
  split
  · exact h1
  · rename_i l hl
    obtain ⟨q1, q2⟩ := rejLoop_spec K b l (acc.1, s1) h1
    generalize (l.foldl (fun (acc : Bool × State) rb =>
      match acc.2.rej.get? rb with
      | some txr => (acc.1 || rb = b, rejDelete K acc.2 txr)
      | none => (acc.1, acc.2)) (acc.1, s1)) = q at q1 q2 ⊢
    -- nothing is listed under `u` any more
    have hemp : q.2.rejSpent.get? (K.uidx i.prev i.vout) = none := by
      refine Option.eq_none_iff_forall_ne_some.mpr fun l' hg => ?_
      obtain ⟨x, hx⟩ := List.exists_mem_of_ne_nil l' (q1.rc.spNe _ l' hg)
      rw [← lst_of_get hg] at hx
      obtain ⟨_, r, t, hr, ht, hu⟩ := q1.rc.spSound _ x hx
      obtain ⟨j1, j2⟩ := q2 x r hr
      have := h1.rc.spCompl x r t j1 (by simp) ht _ hu
      rw [lst_of_get hl] at this
      exact j2 this
    refine ⟨q1.cap, ?_, q1.disj⟩
    apply RC.congr_sp q1.rc
    intro u
    rw [AList.get?_del]
    split
    · rename_i hu; rw [hu, hemp]
    · rfl

theorem txMined_RJ (K : Keys) (s : State) (t : Tx) (h : RJ K s) : RJ K (txMined K s t) :=
  txMined_ind_iter K t (fun s r h _ => h.of_shrink ((minedFlags_shrink K s r).trans (delOne0_shrink K _ r)))
    (fun w acc i ha => txMinedStep_RJ K _ w acc i ha) (fun _ h => (rejDeleteByIdx_RJ h _).1) s h

/-! ### BlockUndone -/

/-- none of the transactions of the undone block is pooled when BlockUndone reaches it -/
def UndoFresh (K : Keys) (mf : Nat) : State → List Tx → Prop
  | _, [] => True
  | s, t :: r => s.pool.get? (K.bidx t.id) = none ∧ UndoFresh K mf (undoneStep K mf s t) r

theorem undoneStep_RJ {K : Keys} {W : Tx → Prop} (mf : Nat) (s : State) (t : Tx)
    (hI : InvR K W s) (h : RJ K s) (hfresh : s.pool.get? (K.bidx t.id) = none) : RJ K (undoneStep K mf s t) := by
  obtain ⟨q1, q2, _⟩ := rejDeleteByIdx_RJ h (K.bidx t.id)
  have hI1 := InvR_of_frame hI (rejDeleteByIdx_frame K W s (K.bidx t.id))
  have hp : (rejDeleteByIdx K s (K.bidx t.id)).pool.get? (K.bidx t.id) = none := by
    rw [(rejDeleteByIdx_core K s _).1]; exact hfresh
  have h2 := processTx_RJ mf _ t { trusted := true, unmined := true } hI1 q1 q2 hp
  exact undoneStep_cases K mf s _ t rfl (h2.of_shrink Shrink.of_eq)
    fun r _ _ => h2.of_shrink (unminedFlags_shrink K _ r)

theorem blockUndone_RJ {K : Keys} {W : Tx → Prop} {rank : TxId → Nat} (U : Univ K W rank) (mf : Nat) (s : State)
    (txs : List Tx) (hI : InvR K W s) (h : RJ K s) (hW : ∀ t ∈ txs, W t) (hu : UndoFresh K mf s txs) :
    RJ K (blockUndone K mf s txs) := by
  rw [blockUndone_eq]
  induction txs generalizing s with
  | nil => exact h
  | cons t r ih =>
    have ht := hW t List.mem_cons_self
    exact ih _ (undoneStep_InvR U mf s t hI ht) (undoneStep_RJ mf s t hI h hu.1)
      (fun t' ht' => hW t' (List.mem_cons_of_mem _ ht')) hu.2

theorem undoneStep_pool (K : Keys) (mf : Nat) (s : State) (t : Tx) :
    ∀ x y, (undoneStep K mf s t).pool.get? x = some y → x = K.bidx t.id ∨ ∃ y0, s.pool.get? x = some y0 := by
  have base : ∀ x y, (processTx K mf (rejDeleteByIdx K s (K.bidx t.id)) t { trusted := true, unmined := true }).2.pool.get? x
      = some y → x = K.bidx t.id ∨ ∃ y0, s.pool.get? x = some y0 := by
    intro x y hx
    rw [← (rejDeleteByIdx_core K s (K.bidx t.id)).1]
    exact (processTx_pool K mf _ t _).2 x y hx
  refine undoneStep_cases (P := fun s' => ∀ x y, s'.pool.get? x = some y → x = K.bidx t.id ∨ ∃ y0, s.pool.get? x = some y0)
    K mf s _ t rfl base fun r _ _ x y hx => ?_
  obtain ⟨y1, h1⟩ := (unminedFlags_shrink K _ r).sub x y hx
  exact base x y1 h1

/-- sufficient for `UndoFresh`: the transactions of the undone block have pairwise different BIDX and none of them is
    pooled when the block is undone -/
theorem undoFresh_of_nodup (K : Keys) (mf : Nat) : ∀ (txs : List Tx) (s : State),
    (txs.map fun t => K.bidx t.id).Nodup → (∀ t ∈ txs, s.pool.get? (K.bidx t.id) = none) → UndoFresh K mf s txs := by
  intro txs
  induction txs with
  | nil => intro s _ _; trivial
  | cons t r ih =>
    intro s hn hp
    rw [List.forall_mem_cons] at hp
    simp only [List.map_cons, List.nodup_cons] at hn
    refine ⟨hp.1, ih _ hn.2 fun t' ht' => Option.eq_none_iff_forall_ne_some.mpr fun y hx => ?_⟩
    rcases undoneStep_pool K mf s t _ y hx with e | ⟨y0, h0⟩
    · exact hn.1 (List.mem_map.mpr ⟨t', ht', e⟩)
    · cases (hp.2 t' ht').symm.trans h0

/-! ### resort, save + reload -/

theorem buildSorted_shrink (K : Keys) (s : State) : Shrink s (buildSorted K s) := by
  unfold buildSorted
  split
  · exact Shrink.of_eq
  · exact Shrink.refl s

theorem RC_empty (K : Keys) : RC K none [] [] [] [] := by
  refine ⟨by simp, by simp, ?_, ?_, ?_, ?_, ?_, ?_, ?_, ?_, ?_, ?_⟩
  · intro b hb; simp at hb
  · intro b r h; simp [AList.get?] at h
  · intro b r h; simp [AList.get?] at h
  · intro b r h; simp [AList.get?] at h
  · intro u l h; simp [AList.get?] at h
  · intro u x h; simp [lst, AList.get?] at h
  · intro b r t h; simp [AList.get?] at h
  · intro k id ids h; simp [AList.get?] at h
  · intro k x h; simp [wl, AList.get?] at h
  · intro b r w h; simp [AList.get?] at h

/-- MempoolLoad rebuilds the reject structures by re-adding the records of the ring one by one (`rejAdd_RJ`), oldest
    first; carried through the fold: the keys still to come are not in the rebuilt list, and no pool key is new -/
theorem reload_RJ {K : Keys} (s : State) (h : RJ K s) : RJ K (reload K s) := by
  rw [reload_eq]
  have base : RJ K (reloadBase K s) := ⟨h.cap, RC_empty K, fun _ _ _ => rfl⟩
  have bsub : PoolSub s (reloadBase K s) := fun b x hx => (reloadPool_back K s b x hx).imp fun _ h => h.1
  have gen : ∀ (l : List (Option Nat)) (st : State), (ringKeys l).Nodup → (∀ b, b ∈ ringKeys l → ∃ r, s.rej.get? b = some r) →
      RJ K st → (∀ x r, st.rej.get? x = some r → x ∉ ringKeys l) → PoolSub s st →
      RJ K (l.foldl (reloadRej K s) st) := by
    intro l
    induction l with
    | nil => intro st _ _ hst _ _; exact hst
    | cons slot l' ih =>
      intro st hn hall hst hnot hsub
      simp only [List.foldl_cons]
      cases slot with
      | none => exact ih st hn hall hst hnot hsub
      | some b =>
        have e : ringKeys (some b :: l') = b :: ringKeys l' := rfl
        rw [e] at hn hall hnot
        simp only [List.nodup_cons] at hn
        obtain ⟨r, hr⟩ := hall b List.mem_cons_self
        have hk := h.rc.key b r hr
        have hsh := h.rc.shape b r hr
        have step : reloadRej K s st (some b) = rejAdd K st (if r.tx.isNone then { r with waiting4 := none } else r) := by
          unfold reloadRej
          simp only [hr]
        rw [step]
        generalize hr' : (if r.tx.isNone then { r with waiting4 := none } else r) = r'
        have hid : r'.id = r.id := by rw [← hr']; split <;> rfl
        have hshape : RejShape r' := by
          rw [← hr']
          split
          · rename_i hn'
            exact { hsh with w := fun _ => rfl, w4 := hsh.w (by simpa using hn') ▸ hsh.w4 }
          · exact hsh
        have hkb : K.bidx r'.id = b := by rw [hid]; exact hk
        have hf : st.rej.get? (K.bidx r'.id) = none := by
          rw [hkb]
          exact Option.eq_none_iff_forall_ne_some.mpr fun x hg => hnot b x hg List.mem_cons_self
        have hp : st.pool.get? (K.bidx r'.id) = none := by
          rw [hkb]
          refine Option.eq_none_iff_forall_ne_some.mpr fun x hg => ?_
          obtain ⟨x0, h0⟩ := hsub b x hg
          cases (h.disj b x0 h0).symm.trans hr
        obtain ⟨a1, a2⟩ := rejAdd_RJ hst r' hf hp hshape
        apply ih _ hn.2 (fun b' hb' => hall b' (List.mem_cons_of_mem _ hb')) a1
        · intro x rx hx
          rcases a2 x rx hx with e1 | e1
          · rw [e1, hkb]; exact hn.1
          · exact fun hm => hnot x rx e1 (List.mem_cons_of_mem _ hm)
        · intro k y hy
          exact hsub k y ((rejAdd_core K st r').1 ▸ hy)
  exact gen s.ring _ h.rc.nodupRing h.rc.ringRej base (fun x r hx => by simp [reloadBase, AList.get?] at hx) bsub

/-! ### every operation -/

/-- what the undo operation needs on top of the invariants: see `UndoFresh` -/
def UndoOK (K : Keys) (s : State) : Op → Prop
  | .undo _ mf => ∀ s' txs, disconnectUtxo s = some (s', txs) → UndoFresh K mf s' txs
  | _ => True

def UndoOKRun (K : Keys) : State → List Op → Prop
  | _, [] => True
  | s, op :: r => UndoOK K s op ∧ UndoOKRun K (step K s op) r

theorem connectUtxo_shrink (s : State) (hh : Nat) (txs : List Tx) : Shrink s (connectUtxo s hh txs) := by
  unfold connectUtxo
  split
  exact Shrink.of_eq

theorem disconnectUtxo_shrink (s s' : State) (txs : List Tx) (hd : disconnectUtxo s = some (s', txs)) : Shrink s s' := by
  unfold disconnectUtxo at hd
  split at hd
  · cases hd
  · simp only [Option.some.injEq, Prod.mk.injEq] at hd
    obtain ⟨rfl, rfl⟩ := hd
    exact Shrink.of_eq

theorem Prim.rj {K : Keys} {W : Tx → Prop} {rank : TxId → Nat} (U : Univ K W rank) {s s' : State} (p : Prim K W s s')
    (h : InvR K W s ∧ RJ K s) : InvR K W s' ∧ RJ K s' := by
  refine ⟨p.invR U h.1, ?_⟩
  obtain ⟨hI, h⟩ := h
  cases p with
  | panic => exact h.of_shrink Shrink.of_eq
  | rejDel b r hr => exact rejDelete_RJ h r (by rw [h.rc.key _ r hr]; exact hr)
  | resubmit mf cur first txr t htxr htx => exact (resubmit_RJ U mf s cur first txr t hI h htxr htx).2
  | submit mf t fl _ _ hp hf => exact processTx_RJ mf s t fl hI h hf hp
  | markLocal id => exact h.of_shrink (markLocal_shrink K s id)
  | delTree b t _ => exact h.of_shrink (delWC0_shrink K _ s t)
  | evictOne b t _ _ => exact h.of_shrink (delOne0_shrink K s t)
  | resort => exact h.of_shrink (buildSorted_shrink K s)
  | reload => exact reload_RJ s h
  | tip hh | commitFlag y => exact h.of_shrink Shrink.of_eq

theorem Reach.rj {K : Keys} {W : Tx → Prop} {rank : TxId → Nat} (U : Univ K W rank) {s s' : State}
    (r : Reach K W s s') (hI : InvR K W s) (h : RJ K s) : RJ K s' := (r.inv (fun _ _ p => p.rj U) ⟨hI, h⟩).2

theorem blockMined_RJ {K : Keys} {W : Tx → Prop} {rank : TxId → Nat} (U : Univ K W rank) (mf : Nat) (s : State)
    (txs : List Tx) (hI : InvR K W s) (h : RJ K s) : RJ K (blockMined K mf s txs) := by
  rw [blockMined_eq]
  have h1 : InvR K W (txs.reverse.foldl (txMined K) s) ∧ RJ K (txs.reverse.foldl (txMined K) s) :=
    foldl_inv (fun s => InvR K W s ∧ RJ K s) (txMined K)
      (fun s t hs => ⟨txMined_InvR U s t hs.1, txMined_RJ K s t hs.2⟩) txs.reverse s ⟨hI, h⟩
  exact (foldl_inv (fun s => InvR K W s ∧ RJ K s) (fun s t => txAccepted K mf s (K.bidx t.id))
    (fun s t hs => (txAccepted_reach mf s _).inv (fun _ _ p => p.rj U) hs) txs _ h1).2

theorem step_RJ {K : Keys} {W : Tx → Prop} {rank : TxId → Nat} (U : Univ K W rank) (s : State) (op : Op)
    (hI : InvR K W s) (h : RJ K s) (hW : ∀ t ∈ op.txs, W t) (hu : UndoOK K s op) : RJ K (step K s op) := by
  cases op with
  | block hh txs mf =>
    exact blockMined_RJ U mf _ txs (connectUtxo_InvR s hh txs hI hW) (h.of_shrink (connectUtxo_shrink s hh txs))
  | undo uh mf =>
    simp only [step]
    cases hd : disconnectUtxo s with
    | none => exact h
    | some p =>
      obtain ⟨h1, h2⟩ := disconnectUtxo_InvR s p.1 p.2 hI hd
      exact (expire_reach _ _ _ (.refl _)).rj U (blockUndone_InvR U mf p.1 p.2 h1 h2)
        (blockUndone_RJ U mf p.1 p.2 h1 (h.of_shrink (disconnectUtxo_shrink s p.1 p.2 hd)) h2 (hu p.1 p.2 hd))
  | _ => exact (step_reach s _ hW rfl).rj U hI h

theorem run_RJ {K : Keys} {W : Tx → Prop} {rank : TxId → Nat} (U : Univ K W rank) :
    ∀ (ops : List Op) (s : State), InvR K W s → RJ K s → (∀ op ∈ ops, ∀ t ∈ op.txs, W t) → UndoOKRun K s ops →
    RJ K (run K s ops) := by
  intro ops
  induction ops with
  | nil => intro s _ h _ _; exact h
  | cons op r ih =>
    intro s hI h hW hu
    exact ih _ (step_InvR U s op hI (hW op List.mem_cons_self)) (step_RJ U s op hI h (hW op List.mem_cons_self) hu.1)
      (fun o ho => hW o (List.mem_cons_of_mem _ ho)) hu.2

end GocoinV.Mempool
