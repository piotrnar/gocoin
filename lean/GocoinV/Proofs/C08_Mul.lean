/-
  Proofs.C08_Mul — `Field.Mul` of the GENERATED limb code (Gen.Field5x52.mul, one `let` per Go assignment):
  every 128-bit accumulator `(hi, lo)` built from bits.Mul64/bits.Add64 pairs stays below 2^128 for inputs of
  magnitude ≤ 8 (interval tracked step by step in `St`), the result has magnitude 1, and value(r) + K·p = value(a)·value(b) for an explicit K (from 2^256 = p + 0x1000003D1).
  `Mul` and `Sqr` are the same statements in the same order over different products: the chain is proved once, for the program
  `core` over the nine columns (`core_spec`), and `mul` / `sqr` are shown to be instances (`mul_eq_core`, `sqr_eq_core` in C08_Sqr).
-/
import GocoinV.Proofs.C08_Field
import Mathlib.Tactic.Ring
namespace GocoinV.C08
open GocoinV.Gen.Field5x52

theorem lt_mul_c {x : Nat} (c : Nat) (h : x < 18446744073709551616) : x * c ≤ 18446744073709551615 * c :=
  Nat.mul_le_mul_right c (by omega)

theorem mag8_bounds (a : Fe) (h : a.mag 8) :
    a.n0 ≤ 72057594037927920 ∧ a.n1 ≤ 72057594037927920 ∧ a.n2 ≤ 72057594037927920 ∧
    a.n3 ≤ 72057594037927920 ∧ a.n4 ≤ 4503599627370480 := by
  unfold Fe.mag at h; omega

theorem u0_3_eq (u0 tx t4 u3 : Nat)
    (q1 : tx = t4 >>> 48) (q2 : u3 = ((u0 <<< 4) % 18446744073709551616) ||| tx)
    (h4 : t4 < 4503599627370496) (hu : u0 < 4503599627370496) :
    u3 = u0 * 16 + tx ∧ u3 ≤ 72057594037927935 ∧ tx = t4 / 281474976710656 := by
  rw [Nat.shiftRight_eq_div_pow] at q1
  rw [Nat.shiftLeft_eq] at q2
  have e : u0 * 2 ^ 4 % 18446744073709551616 = u0 * 2 ^ 4 := by omega
  have htx : tx < 2 ^ 4 := by omega
  rw [e, Nat.or_comm, or_shl _ _ _ htx] at q2
  omega

theorem r4_bound (c17 t4f t4 r4 B : Nat) (hc : c17 ≤ B) (hB : B ≤ 281474976710655)
    (ht4 : t4 = t4f &&& 281474976710655) (hr4 : r4 = (c17 + t4) % 18446744073709551616) :
    r4 = c17 + t4f % 281474976710656 ∧ r4 ≤ 2 * 1 * (2^48 - 1) := by
  rw [and_M48] at ht4; omega


/-- `hi, lo = bits.Mul64(..)`; `dlo, carry = bits.Add64(dlo, lo, 0)`; `dhi, _ = bits.Add64(dhi, hi, carry)`,
    on an accumulator `(dhi, dlo)` -/
def mac (d : Nat × Nat) (x : Nat) : Nat × Nat :=
  ((d.1 + x / 18446744073709551616 + (d.2 + x % 18446744073709551616 + 0) / 18446744073709551616) % 18446744073709551616,
   (d.2 + x % 18446744073709551616 + 0) % 18446744073709551616)

/-- `dlo, carry = bits.Add64(dlo, x, 0)`; `dhi, _ = bits.Add64(dhi, 0, carry)` -/
def addw (d : Nat × Nat) (x : Nat) : Nat × Nat :=
  ((d.1 + 0 + (d.2 + x + 0) / 18446744073709551616) % 18446744073709551616, (d.2 + x + 0) % 18446744073709551616)

/-- `dlo = dlo>>52 | dhi<<12; dhi >>= 52` -/
def shr52 (d : Nat × Nat) : Nat × Nat := (d.1 >>> 52, (d.2 >>> 52) ||| ((d.1 <<< 12) % 18446744073709551616))

/-- What `Mul` and `Sqr` share: the same statements in the same order, over the nine columns of the schoolbook product — `kᵢ` lists the
    products of weight 2^(52i) (`p3` the first of column 3, with which the accumulator starts; `p0`, `p8` the only ones of columns 0, 8).
    Two instances are needed because `sqr a = mul a a` is false: Sqr sums the folded products `aᵢ·2·aⱼ`, two where Mul has four. -/
def core (p3 : Nat) (k3 k4 k5 : List Nat) (p0 : Nat) (k1 k6 k2 k7 : List Nat) (p8 : Nat) : Fe :=
  let d := k3.foldl mac (p3 / 18446744073709551616, p3 % 18446744073709551616)
  let c := (p8 / 18446744073709551616, p8 % 18446744073709551616)
  let d := mac d (c.2 * 68719492368)
  let t3 := d.2 &&& 4503599627370495
  let d := mac (k4.foldl mac (shr52 d)) (281475040739328 * c.1)
  let t4 := d.2 &&& 4503599627370495
  let tx := t4 >>> 48
  let c := (p0 / 18446744073709551616, p0 % 18446744073709551616)
  let d := k5.foldl mac (shr52 d)
  let u0 := ((d.2 &&& 4503599627370495) <<< 4) % 18446744073709551616 ||| tx
  let c := mac c (u0 * 4294968273)
  let r0 := c.2 &&& 4503599627370495
  let c := k1.foldl mac (shr52 c)
  let d := k6.foldl mac (shr52 d)
  let c := mac c ((d.2 &&& 4503599627370495) * 68719492368)
  let r1 := c.2 &&& 4503599627370495
  let c := k2.foldl mac (shr52 c)
  let d := k7.foldl mac (shr52 d)
  let c := mac c (68719492368 * d.2)
  let r2 := c.2 &&& 4503599627370495
  let c := addw (mac (shr52 c) (281475040739328 * d.1)) t3
  let r3 := c.2 &&& 4503599627370495
  ⟨r0, r1, r2, r3, ((shr52 c).2 + (t4 &&& 281474976710655)) % 18446744073709551616⟩

theorem mul_eq_core (a b : Fe) : mul a b = core (a.n0 * b.n3) [a.n1 * b.n2, a.n2 * b.n1, a.n3 * b.n0]
    [a.n0 * b.n4, a.n1 * b.n3, a.n2 * b.n2, a.n3 * b.n1, a.n4 * b.n0] [a.n1 * b.n4, a.n2 * b.n3, a.n3 * b.n2, a.n4 * b.n1]
    (a.n0 * b.n0) [a.n0 * b.n1, a.n1 * b.n0] [a.n2 * b.n4, a.n3 * b.n3, a.n4 * b.n2]
    [a.n0 * b.n2, a.n1 * b.n1, a.n2 * b.n0] [a.n3 * b.n4, a.n4 * b.n3] (a.n4 * b.n4) := by
  unfold mul core
  simp only [List.foldl, mac, addw, shr52]

/-- a 128-bit accumulator `(hi, lo)` stands for the number `V`, which is at most `B` -/
def St (d : Nat × Nat) (V B : Nat) : Prop := d.1 * 18446744073709551616 + d.2 = V ∧ V ≤ B ∧ d.2 < 18446744073709551616

theorem St.init (x : Nat) {BX : Nat} (hx : x ≤ BX) :
    St (x / 18446744073709551616, x % 18446744073709551616) x BX := by
  unfold St; dsimp only; omega

theorem St.acc {d : Nat × Nat} {V B : Nat} (h : St d V B) (x : Nat) {BX : Nat}
    (hx : x ≤ BX) (hB : B + BX < 340282366920938463463374607431768211456) : St (mac d x) (V + x) (B + BX) := by
  obtain ⟨rfl, h2, h3⟩ := h
  refine ⟨?_, Nat.add_le_add h2 hx, ?_⟩ <;> dsimp only [mac] <;> omega

theorem St.addw {d : Nat × Nat} {V B : Nat} (h : St d V B) (x : Nat) {BX : Nat}
    (hx : x ≤ BX) (hB : B + BX < 340282366920938463463374607431768211456) : St (GocoinV.C08.addw d x) (V + x) (B + BX) := by
  obtain ⟨rfl, h2, h3⟩ := h
  refine ⟨?_, Nat.add_le_add h2 hx, ?_⟩ <;> dsimp only [GocoinV.C08.addw] <;> omega

/-- a whole column of products -/
theorem St.accs {d : Nat × Nat} {V B : Nat} (h : St d V B) (xs : List Nat) {BX : Nat}
    (hx : xs.sum ≤ BX) (hB : B + BX < 340282366920938463463374607431768211456) :
    St (xs.foldl mac d) (V + xs.sum) (B + BX) := by
  induction xs generalizing d V B BX with
  | nil => exact ⟨h.1, Nat.le_add_right_of_le h.2.1, h.2.2⟩
  | cons x xs ih =>
    rw [List.sum_cons] at hx ⊢
    have := ih (h.acc x (Nat.le_refl x) (by omega)) (BX := BX - x) (by omega) (by omega)
    rwa [Nat.add_assoc, Nat.add_assoc, Nat.add_sub_cancel' (by omega)] at this

theorem St.shr {d : Nat × Nat} {V B : Nat} (h : St d V B) :
    St (shr52 d) (V / 4503599627370496) (B / 4503599627370496) := by
  obtain ⟨rfl, h2, h3⟩ := h
  have e : d.1 * 2 ^ 12 % 18446744073709551616 = (d.1 % 4503599627370496) * 2 ^ 12 := by omega
  unfold St shr52
  dsimp only
  rw [Nat.shiftRight_eq_div_pow, Nat.shiftRight_eq_div_pow, Nat.shiftLeft_eq, e, or_shl _ _ _ (by omega)]
  refine ⟨?_, ?_, ?_⟩ <;> omega

theorem St.lo52 {d : Nat × Nat} {V B : Nat} (h : St d V B) : d.2 &&& 4503599627370495 = V % 4503599627370496 := by
  obtain ⟨rfl, h2, h3⟩ := h; rw [and_M52]; omega

theorem St.hi {d : Nat × Nat} {V B : Nat} (h : St d V B) : d.1 ≤ B / 18446744073709551616 := by
  obtain ⟨rfl, h2, h3⟩ := h; omega

theorem St.small {d : Nat × Nat} {V B : Nat} (h : St d V B) (hB : B < 18446744073709551616) : d.2 = V := by
  obtain ⟨rfl, h2, h3⟩ := h; omega

theorem St.le {d : Nat × Nat} {V B : Nat} (h : St d V B) : V ≤ B := h.2.1

theorem and_M52_mag1 (x : Nat) : x &&& 4503599627370495 ≤ 2 * 1 * (2^52 - 1) :=
  Nat.le_trans Nat.and_le_right (by decide)

theorem St.split {d : Nat × Nat} {V B : Nat} (h : St d V B) :
    V = V / 4503599627370496 * 4503599627370496 + (d.2 &&& 4503599627370495) := by
  rw [h.lo52]; omega

/-- The reduction `core` performs on the nine column sums s0 … s8 (weight 2^(52k)), every `V & M`, `V >> 52` pair
    of the program given as `V = q·2^52 + r`: the columns above 2^260 are folded down with
    2^260 = 16·(p + 0x1000003D1), so the five result words differ from Σ s_k·2^(52k) by a multiple of p. -/
theorem reduce_linear (s0 s1 s2 s3 s4 s5 s6 s7 s8 : Nat)
    (chi2 clo2 q6 t3 q13 t4f tx t4 q18 u0 u3 q4 r0 q22 v q8 r1 dhi25 dlo25 q13c r2 c17 r3 : Nat)
    (hC2 : chi2 * 18446744073709551616 + clo2 = s8)
    (h6 : s3 + clo2 * 68719492368 = q6 * 4503599627370496 + t3)
    (h13 : q6 + s4 + 281475040739328 * chi2 = q13 * 4503599627370496 + t4f)
    (h4f : t4f = tx * 281474976710656 + t4)
    (h18 : q13 + s5 = q18 * 4503599627370496 + u0) (hu3 : u3 = u0 * 16 + tx)
    (hC4 : s0 + u3 * 4294968273 = q4 * 4503599627370496 + r0)
    (h22 : q18 + s6 = q22 * 4503599627370496 + v)
    (hC8 : q4 + s1 + v * 68719492368 = q8 * 4503599627370496 + r1)
    (h25 : dhi25 * 18446744073709551616 + dlo25 = q22 + s7)
    (hC13 : q8 + s2 + 68719492368 * dlo25 = q13c * 4503599627370496 + r2)
    (hC16 : q13c + 281475040739328 * dhi25 + t3 = c17 * 4503599627370496 + r3) :
    r0 + r1 * 2^52 + r2 * 2^104 + r3 * 2^156 + (c17 + t4) * 2^208
      + (16 * (s5 + s6 * 2^52 + s7 * 2^104 + s8 * 2^156 + q13) + tx)
        * 115792089237316195423570985008687907853269984665640564039457584007908834671663
    = s0 + s1 * 2^52 + s2 * 2^104 + s3 * 2^156 + s4 * 2^208 + s5 * 2^260 + s6 * 2^312 + s7 * 2^364 + s8 * 2^416 := by
  omega

/-- `core` on columns of at most 2^114 each (sums of products of 56-bit words): no accumulator overflows, the result has
    magnitude 1 and differs from Σ column_k·2^(52k) by a multiple of p -/
theorem core_spec (p3 : Nat) (k3 k4 k5 : List Nat) (p0 : Nat) (k1 k6 k2 k7 : List Nat) (p8 : Nat)
    (hp3 : p3 ≤ 2^114) (h3 : k3.sum ≤ 2^114) (h4 : k4.sum ≤ 2^114) (h5 : k5.sum ≤ 2^114) (h0 : p0 ≤ 2^114)
    (h1 : k1.sum ≤ 2^114) (h6 : k6.sum ≤ 2^114) (h2 : k2.sum ≤ 2^114) (h7 : k7.sum ≤ 2^114) (h8 : p8 ≤ 2^114) :
    (∃ K, (core p3 k3 k4 k5 p0 k1 k6 k2 k7 p8).val + K * P = p0 + k1.sum * 2^52 + k2.sum * 2^104 + (p3 + k3.sum) * 2^156
      + k4.sum * 2^208 + k5.sum * 2^260 + k6.sum * 2^312 + k7.sum * 2^364 + p8 * 2^416)
    ∧ (core p3 k3 k4 k5 p0 k1 k6 k2 k7 p8).mag 1 := by
  unfold core
  extract_lets d1 c1 d2 t3 d3 t4 tx c2 d4 u0 c3 r0 c4 d5 c5 r1 c6 d6 c7 r2 c8 r3
  have C1 := St.init p8 h8
  have D2 := ((St.init p3 hp3).accs k3 h3 (by decide)).acc (c1.2 * 68719492368) (lt_mul_c _ C1.2.2) (by decide)
  have D3 := (D2.shr.accs k4 h4 (by decide)).acc (281475040739328 * c1.1) (Nat.mul_le_mul_left _ C1.hi) (by decide)
  have D4 := D3.shr.accs k5 h5 (by decide)
  have hu3 := u0_3_eq _ tx t4 u0 rfl rfl (Nat.lt_succ_of_le Nat.and_le_right) (Nat.lt_succ_of_le Nat.and_le_right)
  have C3 := (St.init p0 h0).acc (u0 * 4294968273) (Nat.mul_le_mul_right _ hu3.2.1) (by decide)
  have D5 := D4.shr.accs k6 h6 (by decide)
  have C5 := (C3.shr.accs k1 h1 (by decide)).acc ((d5.2 &&& 4503599627370495) * 68719492368)
    (Nat.mul_le_mul_right _ Nat.and_le_right) (by decide)
  have D6 := D5.shr.accs k7 h7 (by decide)
  have C7 := (C5.shr.accs k2 h2 (by decide)).acc (68719492368 * d6.2)
    (Nat.mul_le_mul_left _ (Nat.le_of_lt_succ D6.2.2)) (by decide)
  have C8 := (C7.shr.acc (281475040739328 * d6.1) (Nat.mul_le_mul_left _ D6.hi) (by decide)).addw t3
    Nat.and_le_right (by decide)
  have C9s := C8.shr.small (by decide)
  have h4 := r4_bound (shr52 c8).2 t4 _ _ _ (C9s ▸ C8.shr.le) (by decide) rfl rfl
  have key := reduce_linear p0 k1.sum k2.sum (p3 + k3.sum) k4.sum k5.sum k6.sum k7.sum p8
    _ _ _ _ _ _ _ _ _ _ _ _ _ _ _ _ _ _ _ _ _ _ _
    C1.1 D2.split D3.split (hu3.2.2 ▸ (Nat.div_add_mod' t4 281474976710656).symm) D4.split hu3.1
    C3.split D5.split C5.split D6.1 C7.split C8.split
  exact ⟨⟨_, by rw [P_eq, h4.1, C9s]; exact key⟩, and_M52_mag1 _, and_M52_mag1 _, and_M52_mag1 _, and_M52_mag1 _, h4.2⟩

set_option exponentiation.threshold 600 in
theorem mul_core (a b : Fe) (ha : a.mag 8) (hb : b.mag 8) :
    (∃ K, (mul a b).val + K * P = a.val * b.val) ∧ (mul a b).mag 1 := by
  obtain ⟨ha0, ha1, ha2, ha3, ha4⟩ := mag8_bounds a ha
  obtain ⟨hb0, hb1, hb2, hb3, hb4⟩ := mag8_bounds b hb
  rw [mul_eq_core]
  -- every column is a sum of at most five products of 56-bit (top limb: 52-bit) words
  refine (core_spec _ _ _ _ _ _ _ _ _ _
    (Nat.le_trans (Nat.mul_le_mul ha0 hb3) (by decide))
    (Nat.le_trans (Nat.add_le_add (Nat.mul_le_mul ha1 hb2) (Nat.add_le_add (Nat.mul_le_mul ha2 hb1) (Nat.add_le_add (Nat.mul_le_mul ha3 hb0) (Nat.le_refl 0)))) (by decide))
    (Nat.le_trans (Nat.add_le_add (Nat.mul_le_mul ha0 hb4) (Nat.add_le_add (Nat.mul_le_mul ha1 hb3) (Nat.add_le_add (Nat.mul_le_mul ha2 hb2) (Nat.add_le_add (Nat.mul_le_mul ha3 hb1) (Nat.add_le_add (Nat.mul_le_mul ha4 hb0) (Nat.le_refl 0)))))) (by decide))
    (Nat.le_trans (Nat.add_le_add (Nat.mul_le_mul ha1 hb4) (Nat.add_le_add (Nat.mul_le_mul ha2 hb3) (Nat.add_le_add (Nat.mul_le_mul ha3 hb2) (Nat.add_le_add (Nat.mul_le_mul ha4 hb1) (Nat.le_refl 0))))) (by decide))
    (Nat.le_trans (Nat.mul_le_mul ha0 hb0) (by decide))
    (Nat.le_trans (Nat.add_le_add (Nat.mul_le_mul ha0 hb1) (Nat.add_le_add (Nat.mul_le_mul ha1 hb0) (Nat.le_refl 0))) (by decide))
    (Nat.le_trans (Nat.add_le_add (Nat.mul_le_mul ha2 hb4) (Nat.add_le_add (Nat.mul_le_mul ha3 hb3) (Nat.add_le_add (Nat.mul_le_mul ha4 hb2) (Nat.le_refl 0)))) (by decide))
    (Nat.le_trans (Nat.add_le_add (Nat.mul_le_mul ha0 hb2) (Nat.add_le_add (Nat.mul_le_mul ha1 hb1) (Nat.add_le_add (Nat.mul_le_mul ha2 hb0) (Nat.le_refl 0)))) (by decide))
    (Nat.le_trans (Nat.add_le_add (Nat.mul_le_mul ha3 hb4) (Nat.add_le_add (Nat.mul_le_mul ha4 hb3) (Nat.le_refl 0))) (by decide))
    (Nat.le_trans (Nat.mul_le_mul ha4 hb4) (by decide))).imp
    (Exists.imp fun K hK => hK.trans ?_) id
  simp only [Fe.val, List.sum_cons, List.sum_nil]; ring

theorem mul_val (a b : Fe) (ha : a.mag 8) (hb : b.mag 8) :
    (mul a b).val % P = a.val * b.val % P ∧ (mul a b).mag 1 := by
  obtain ⟨⟨K, hK⟩, hm⟩ := mul_core a b ha hb
  exact ⟨by rw [← hK, Nat.add_mul_mod_self_right], hm⟩
end GocoinV.C08
