/-
  Proofs.C04Config — lemmas about the models of the mechanisms around commitTxs: the pool hook (Model/ConnectTrust),
  the undo files (Model/ConnectUndo), the scratch pools of the compressed serializer (Model/ConnectScratch), the real
  pool's verification cache (Model/ConnectCache), ownership of record bytes in UndoBlockTxs (Model/ConnectOwn). The
  coinbase mark of a block object's transaction list (Model/ConnectEntry) is imported for Props/C04; it needs no
  lemma here.
-/
import GocoinV.Model.ConnectTrust
import GocoinV.Model.ConnectUndo
import GocoinV.Model.ConnectScratch
import GocoinV.Model.ConnectCache
import GocoinV.Model.ConnectOwn
import GocoinV.Model.ConnectEntry
import GocoinV.Proofs.C04Basic
import GocoinV.Proofs.C04Witness
namespace GocoinV.Proofs.C04
open GocoinV GocoinV.Connect

/-! ### pool hook -/

theorem skipScripts_id (tx : Tx) (h : ∀ i ∈ tx.ins, i.scriptOk = true) : skipScripts tx = tx := by
  unfold skipScripts
  rw [List.map_congr_left (g := id) fun i hi => by have := h i hi; cases i; simp_all, List.map_id]

theorem trustPerTx_honest (chk : TxChecker) (txs : List Tx)
    (h : ∀ tx ∈ txs, chk.says tx = true → ∀ i ∈ tx.ins, i.scriptOk = true) : trustPerTx chk txs = txs := by
  induction txs with
  | nil => rfl
  | cons tx r ih =>
    simp only [trustPerTx]
    rw [ih (fun t ht => h t (List.mem_cons_of_mem _ ht))]
    by_cases hs : chk.says tx = true
    · rw [if_pos hs, skipScripts_id tx (h tx (List.mem_cons_self ..) hs)]
    · rw [if_neg hs]

theorem effBlock_honest (chk : TxChecker) (b : Block)
    (h : ∀ tx ∈ b.txs.tail, chk.says tx = true → ∀ i ∈ tx.ins, i.scriptOk = true) : effBlock true chk b = b := by
  unfold effBlock
  cases hb : b.txs with
  | nil => rfl
  | cons cb rest =>
    simp only [↓reduceIte]
    rw [hb] at h
    rw [trustPerTx_honest chk rest h, ← hb]

theorem effBlock_none (perTx : Bool) (b : Block) : effBlock perTx none b = b := by
  cases perTx
  · have hs : ∀ txs, trustSticky none false txs = txs := by
      intro txs; induction txs with
      | nil => rfl
      | cons t r ih => simp [trustSticky, TxChecker.says, ih]
    unfold effBlock
    cases hb : b.txs with
    | nil => rfl
    | cons cb rest => simp [hs, ← hb]
  · exact effBlock_honest none b fun _ _ h => nomatch h

namespace W
/-- the pool knows T1 (spends (h1,0), valid); T2 spends T1's output with a script that FAILS and is not known to the pool -/
def blockPoolBad : Block :=
  blk [cbTx 5000000000, spend 1 1 h1 0xffffffff [⟨1000, [0x51]⟩],
       { spend 2 1 (idOf 1) 0xffffffff [⟨1000, [0x52]⟩] with
         ins := [{ prev := ⟨idOf 1, 0⟩, scriptSig := [], sequence := 0xffffffff, witness := [], scriptOk := false }] }]
def poolKnowsT1 : TxChecker := some fun tx => tx.txid == idOf 1
end W

/-! ### undo files -/

theorem readUndo_writeUndo (dir : UndoDir) (h : Nat) (recs : List Rec) :
    readUndo ⟨true, true⟩ (writeUndo ⟨true, true⟩ dir h (some recs)) h = some recs := by
  simp [readUndo, writeUndo, aGet_aSet]

theorem readUndo_missing (dir : UndoDir) (h : Nat) (hm : aGet dir h = none) : readUndo ⟨true, true⟩ dir h = none := by
  simp [readUndo, hm]

/-! ### scratch pools -/

open GocoinV.Scratch

theorem length_pass1 {α β : Type} (f : α → β) (outs : List (Option α)) (i : Nat) (pool : List β) :
    (pass1 f outs i pool).length = pool.length := by
  induction outs generalizing i pool with
  | nil => rfl
  | cons o r ih =>
    cases o with
    | none => exact ih (i + 1) pool
    | some a => simp only [pass1]; rw [ih]; simp

theorem getD_pass1_lt {α β : Type} (f : α → β) (d : β) (outs : List (Option α)) (i j : Nat) (pool : List β) (hj : j < i) :
    (pass1 f outs i pool).getD j d = pool.getD j d := by
  induction outs generalizing i pool with
  | nil => rfl
  | cons o r ih =>
    cases o with
    | none => exact ih (i + 1) pool (by omega)
    | some a =>
      simp only [pass1]
      rw [ih (i + 1) _ (by omega)]
      simp only [List.getD_eq_getElem?_getD]
      rw [List.getElem?_set_ne (by omega)]

/-- one serialization alone is exact whatever the pool held before (stale entries of earlier records are overwritten
    before they are read), provided the pool is long enough — which the allocation at the top of SerializeC ensures -/
theorem pass2_pass1 {α β : Type} (f : α → β) (d : β) (outs : List (Option α)) (i : Nat) (pool : List β)
    (hl : i + outs.length ≤ pool.length) : pass2 d outs i (pass1 f outs i pool) = expected f outs i := by
  induction outs generalizing i pool with
  | nil => rfl
  | cons o r ih =>
    cases o with
    | none =>
      simp only [pass1, pass2, expected]
      exact ih (i + 1) pool (by simp at hl; omega)
    | some a =>
      simp only [pass1, pass2, expected]
      have hl' : i + 1 + r.length ≤ (pool.set i (f a)).length := by simp at hl ⊢; omega
      rw [ih (i + 1) _ hl', getD_pass1_lt f d r (i + 1) i _ (by omega)]
      simp only [List.getD_eq_getElem?_getD]
      rw [List.getElem?_set_self (by simp at hl; omega)]
      rfl

/-! ### the pool's cache -/

/-- with the witness comparison, a `true` answer names a pooled, non-local entry with exactly this wtxid -/
theorem cacheSays_true (cache : List CacheEntry) (txid wtxid : Bytes) (h : cacheSays ⟨true⟩ cache txid wtxid = true) :
    ∃ e ∈ cache, e.state = .toSend ∧ e.localTx = false ∧ e.wtxid = wtxid := by
  unfold cacheSays at h
  cases hf : cacheFind cache txid with
  | none => rw [hf] at h; simp at h
  | some e =>
    rw [hf] at h
    simp only [↓reduceIte] at h
    cases hs : e.state with
    | toSend =>
      rw [hs] at h
      simp only [Bool.and_eq_true, Bool.not_eq_true', beq_iff_eq] at h
      exact ⟨e, List.mem_of_find?_eq_some hf, hs, h.1, h.2⟩
    | replaced => rw [hs] at h; simp at h
    | rejectedOther => rw [hs] at h; simp at h

/-! ### ownership -/

theorem addBackOwn_live (junk : Junk) (db : DB) (r : Rec) : addBackOwn ⟨true⟩ junk db r = addBack db r := by
  unfold addBackOwn addBack
  cases aGet db (key8 r.txid) <;> simp

theorem foldl_addBackOwn_live (junk : Junk) (recs : List Rec) (db : DB) :
    recs.foldl (addBackOwn ⟨true⟩ junk) db = recs.foldl addBack db := by
  rw [show addBackOwn ⟨true⟩ junk = addBack from funext fun d => funext (addBackOwn_live junk d)]

/-- the regenerated structural facts (Gen/C04Facts.lean) as they are for the source the check ran against; the theorems about
    the configured models rewrite with these, and stop checking when one of them changes -/
theorem facts_current :
    Gen.C04Facts.txTrustedPerTx = true ∧ Gen.C04Facts.scratchUnderLock = true ∧ UndoCfg.current = ⟨true, true⟩ ∧
    HookCfg.current = ⟨true⟩ ∧ OwnCfg.current = ⟨true⟩ ∧ ListCfg.current = ⟨true, true⟩ := by decide

end GocoinV.Proofs.C04
