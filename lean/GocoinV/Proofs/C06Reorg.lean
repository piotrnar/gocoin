/-
  Proofs.C06Reorg — the reorganisation machinery of the chain model (the mutual recursion MoveToBlock / ParseTillBlock /
  fall-back after a failure) under the invariants: it never panics, never runs out of the fuel `fuelOf` gives it, keeps
  "unspent map = replay of the active branch" (`PathOKH`) and the tree invariant (`TreeWF`), and ends either on its
  target with the tree untouched or — after a block failed to connect — on a node of maximum work among the remaining
  nodes that have their data.
-/
import Mathlib.Tactic.Ring
import GocoinV.Proofs.C06Climb
import GocoinV.Proofs.C06Farthest
import GocoinV.Proofs.C06MorePow
import GocoinV.Proofs.C06Delete
import GocoinV.Proofs.C06Ext
namespace GocoinV.ChainTree
open GocoinV.UtxoOps


theorem Desc_same {c c' : Chain} (hr : c'.root = c.root) (hg : ∀ x, getNode c' x = getNode c x) {a x : Nat}
    (h : Desc c a x) : Desc c' a x := by
  induction h with
  | refl => exact Desc.refl
  | @step x n hn hx _ ih => exact Desc.step (by rw [hg]; exact hn) (by rw [hr]; exact hx) ih

/-- the tip is a maximum-work node among the nodes that have their data (rational form of `MaxWork`) -/
def MaxW (c : Chain) : Prop :=
  ∃ t, getNode c c.tip = some t ∧ ∀ x n, getNode c x = some n → HasData c x n → W c n ≤ W c t

theorem MaxW_iff {U : List Block} {c : Chain} (w : TreeWF U c) (hU : BlockTree c.root U) : MaxWork c ↔ MaxW c :=
  exists_congr fun _ => and_congr_right fun ht => forall_congr' fun _ => forall_congr' fun _ =>
    imp_congr_right fun hn => imp_congr_right fun _ => workOf_not_gt_iff w hU hn ht

/-- the tip stays a maximum-work node when its work does not shrink and every node with data is an old node with data or
    has no more work than the new tip -/
theorem MaxW.of_le {U : List Block} {c c' : Chain} (w : TreeWF U c) (w' : TreeWF U c') (hU : BlockTree c.root U)
    (hr : c'.root = c.root) (hm : MaxW c) {t' : Node} (ht' : getNode c' c'.tip = some t')
    (hle : ∀ t, getNode c c.tip = some t → W c t ≤ W c' t')
    (h : ∀ x n', getNode c' x = some n' → HasData c' x n' →
      (∃ n, getNode c x = some n ∧ HasData c x n) ∨ W c' n' ≤ W c' t') : MaxW c' := by
  obtain ⟨t, ht, hmax⟩ := hm
  refine ⟨t', ht', fun x n' hn' hd' => ?_⟩
  rcases h x n' hn' hd' with ⟨n, hn, hd⟩ | h2
  · rw [w.W_eq w' hU hr hn hn']
    exact le_trans (hmax x n hn hd) (hle t ht)
  · exact h2

/-- every node of `c'` is a node of `c` with the same transaction count: the reorganisation machinery creates no node and
    neither gives nor takes block data -/
def NodesSub (c c' : Chain) : Prop :=
  ∀ x n', getNode c' x = some n' → ∃ n, getNode c x = some n ∧ n'.txCount = n.txCount

theorem NodesSub.of_getNode {c c' : Chain} (hg : ∀ x, getNode c' x = getNode c x) : NodesSub c c' :=
  fun x n' h => ⟨n', by rw [← hg]; exact h, rfl⟩

theorem NodesSub.trans {a b c : Chain} (h1 : NodesSub a b) (h2 : NodesSub b c) : NodesSub a c := by
  intro x n' h
  obtain ⟨n, g1, g2⟩ := h2 x n' h
  obtain ⟨m, g3, g4⟩ := h1 x n g1
  exact ⟨m, g3, g2.trans g4⟩

theorem Linked_has_data {U : List Block} {c : Chain} (w : TreeWF U c) {p : List PE} (h : Linked c p) :
    ∀ e ∈ p, ∀ n, getNode c e.id = some n → n.txCount ≠ 0 :=
  fun e he _ hn => let ⟨_, hb, _⟩ := (Linked_mem h e he).2; w.stored_has_data hn hb

theorem tip_has_data {U : List Block} {c : Chain} (w : TreeWF U c) {fl : Nat} {path : List PE} (hp : PathOK c fl path)
    {t : Node} (ht : getNode c c.tip = some t) : HasData c c.tip t := by
  cases path with
  | nil => left; rw [hp.tip]; rfl
  | cons e rest =>
    right
    rw [hp.tip] at ht
    exact Linked_has_data w hp.linked e List.mem_cons_self t ht

theorem Linked_mem_height {U : List Block} {c : Chain} (w : TreeWF U c) {p : List PE} (h : Linked c p) :
    ∀ e ∈ p, ∃ n, getNode c e.id = some n ∧ n.height ≤ p.length := by
  induction p with
  | nil => intro e he; cases he
  | cons a rest ih =>
    refine List.forall_mem_cons.mpr ⟨?_, fun e he => ?_⟩
    · obtain ⟨t, ht, hth⟩ := Linked_head_height w h
      exact ⟨t, ht, by omega⟩
    · obtain ⟨n, hn, hh⟩ := ih h.2.2 e he
      exact ⟨n, hn, by simp only [List.length_cons]; omega⟩

theorem path_not_below {U : List Block} {c : Chain} (w : TreeWF U c) {path : List PE} (hl : Linked c path) {nx : Nat}
    {nxt : Node} (hnxt : getNode c nx = some nxt) (hh : nxt.height = path.length + 1) : ∀ e ∈ path, ¬ Desc c nx e.id := by
  intro e he
  obtain ⟨m, hm, hmh⟩ := Linked_mem_height w hl e he
  exact not_below_of_le w hnxt hm (by omega)

-- ------------------------------------------------------------------------------------------ equations of the loop

theorem parseTill_done (f : Nat) (c : Chain) (e : Nat) (h : c.tip = e) : parseTill (f + 1) c e = .ok c := by
  rw [parseTill]; simp [h, pure, Except.pure]

theorem parseTill_fail (f : Nat) (c : Chain) (e nx : Nat) (last en nxt : Node) (blk : Stored) (err : Err)
    (hne : c.tip ≠ e) (hlast : getNode c c.tip = some last) (hen : getNode c e = some en)
    (hpath : findPathTo c last en = .ok (some nx)) (hnxt : getNode c nx = some nxt) (htx : nxt.txCount ≠ 0)
    (hblk : alookup nx c.store = some blk)
    (herr : commitTxs c.utxo nxt.height (reward nxt.height) blk.trusted blk.txs = .error err) :
    parseTill (f + 1) c e = afterFail f (deleteBranch c nx) := by
  have h1 : (c.tip == e) = false := by simpa using hne
  have h2 : (nxt.txCount == 0) = false := by simpa using htx
  rw [parseTill]
  simp only [h1, Bool.false_eq_true, if_false, node!, hlast, hen, hnxt, bind, Except.bind, pure, Except.pure, hpath, h2, hblk, herr]

theorem afterFail_eq (f : Nat) (c : Chain) (r : Node) (hr : getNode c c.root = some r) :
    afterFail (f + 1) c = moveTo f c (farthestS c (c.nodes.length + 1) r).1 := by
  rw [afterFail]
  simp only [node!, hr, bind, Except.bind, pure, Except.pure]

-- ------------------------------------------------------------------------------------------ the three specifications

/-- ParseTillBlock(e) from a state satisfying the invariants, `e` a descendant-or-self of the tip THAT HAS ITS DATA, with
    enough fuel: no panic; invariants kept; ends on `e` with the tree untouched, or — after a failure — on a maximum-work
    node (among those with data); no node is created and no node's transaction count changes -/
def PSpec (U : List Block) (f : Nat) : Prop :=
  ∀ (c : Chain) (e : Nat) (en : Node) (path : List PE),
    TreeWF U c → PathOKH c 0 path → Ext c path → BlockTree c.root U → getNode c e = some en → HasData c e en →
    Desc c c.tip e →
    f ≥ (en.height - path.length) + 1 + c.nodes.length * (c.nodes.length + 4) →
    ∃ c' path', parseTill f c e = .ok c' ∧ TreeWF U c' ∧ PathOKH c' 0 path' ∧ c'.root = c.root ∧
      ((c'.tip = e ∧ c'.nodes = c.nodes) ∨ MaxW c') ∧ Ext c' path' ∧ Lost U c.root c c' ∧ NodesSub c c'

/-- the fall-back after a failure (`farthestS` = findFarthestWithData from the root, then MoveToBlock to it) -/
def ASpec (U : List Block) (f : Nat) : Prop :=
  ∀ (c : Chain) (path : List PE),
    TreeWF U c → PathOKH c 0 path → Ext c path → BlockTree c.root U →
    f ≥ c.nodes.length * (c.nodes.length + 4) + c.nodes.length + 2 →
    ∃ c' path', afterFail f c = .ok c' ∧ TreeWF U c' ∧ PathOKH c' 0 path' ∧ c'.root = c.root ∧ MaxW c' ∧
      Ext c' path' ∧ Lost U c.root c c' ∧ NodesSub c c'

/-- MoveToBlock(dst) for any node `dst` of the tree that has its data -/
def MSpec (U : List Block) (f : Nat) : Prop :=
  ∀ (c : Chain) (dst : Nat) (d : Node) (path : List PE),
    TreeWF U c → PathOKH c 0 path → Ext c path → BlockTree c.root U → getNode c dst = some d → HasData c dst d →
    f ≥ c.nodes.length * (c.nodes.length + 4) + c.nodes.length + 1 →
    ∃ c' path', moveTo f c dst = .ok c' ∧ TreeWF U c' ∧ PathOKH c' 0 path' ∧ c'.root = c.root ∧
      ((c'.tip = dst ∧ c'.nodes = c.nodes) ∨ MaxW c') ∧ Ext c' path' ∧ Lost U c.root c c' ∧ NodesSub c c'

/- The fuel the three specifications ask for: `n·(n+4)` pays for every failure still possible in a tree of `n` nodes (a
   failure deletes at least one node — `deleteBranch_spec` — and then costs the fall-back: `n + 2` for FindFarthest +
   MoveToBlock, see `fuel_ineq`); on top of it come the blocks still to connect (`PSpec`: `en.height − |path| + 1`) resp.
   the calls before ParseTillBlock starts (`MSpec`: `n + 1`, `ASpec`: `n + 2`). `fuelOf c = (n+3)²` covers `MSpec`
   (`fuelOf_enough`, Proofs/C06Deliver). -/
theorem fuel_ineq (a b : Nat) (h : a < b) : a * (a + 4) + a + 2 ≤ b * (b + 4) := by
  have h1 : (a + 1) * (a + 5) ≤ b * (b + 4) := Nat.mul_le_mul h (by omega)
  have h2 : (a + 1) * (a + 5) = a * (a + 4) + a + 2 + (a + 3) := by ring
  omega

/-- one block connected: the fuel left still covers the rest of the climb -/
theorem fuel_connect (f eh pl n : Nat) (hf : f + 1 ≥ (eh - pl) + 1 + n) (h : pl + 1 ≤ eh) : f ≥ (eh - (pl + 1)) + 1 + n := by
  omega

theorem parseStep_facts (c : Chain) (nx : Nat) (nxt : Node) (blk : Stored) (ch : Changes) (wu : Bool) :
    (parseStep c nx nxt blk ch wu).nodes = c.nodes ∧ (parseStep c nx nxt blk ch wu).root = c.root ∧
    (parseStep c nx nxt blk ch wu).store = aset nx { blk with trusted := true } c.store ∧
    (parseStep c nx nxt blk ch wu).tip = nx :=
  ⟨(cbt_fields _ nxt.height wu _ ch).2.2.2, cbt_root _ nxt.height wu _ ch, cbt_store _ nxt.height wu _ ch, rfl⟩

theorem PSpec_step {U : List Block} (f : Nat) (ihP : PSpec U f) (ihA : ASpec U f) : PSpec U (f + 1) := by
  intro c e en path w hp hx hU he hed hd hf
  by_cases htip : c.tip = e
  · exact ⟨c, path, parseTill_done f c e htip, w, hp, rfl, Or.inl ⟨htip, rfl⟩, hx, Lost.of_getNode (fun _ => rfl),
      NodesSub.of_getNode (fun _ => rfl)⟩
  obtain ⟨hpo, t, ht, hth⟩ := hp
  obtain ⟨nx, nxt, hfp, hnxt, hpar, hnxr, hdx⟩ := findPathTo_spec w ht he hd htip
  have htx : nxt.txCount ≠ 0 := (Desc.has_data w hdx en he hed nxt hnxt).resolve_left hnxr
  obtain ⟨_, _, _, _, _, _, s, hs, _⟩ := w.blkData hnxt hnxr htx
  obtain ⟨pp, hpp, hph, _⟩ := w.par nx nxt hnxt hnxr
  rw [hpar, ht] at hpp; cases hpp
  have hh : nxt.height = path.length + 1 := by omega
  obtain ⟨na, hna, hle, _⟩ := Desc.height w hdx en he
  rw [hnxt] at hna; cases hna
  cases hct : commitTxs c.utxo nxt.height (reward nxt.height) s.trusted s.txs with
  | ok ch =>
    have hlk : Linked c (⟨nx, s.txs⟩ :: path) :=
      ⟨⟨nxt, hnxt, by rw [hpar]; exact hpo.tip⟩, ⟨s, hs, rfl⟩, hpo.linked⟩
    have hfr := (hU.fresh _ (Linked_UChain w hlk)).1
    obtain ⟨u, hru, heq⟩ := hpo.utxo
    have hfresh : ∀ t ∈ s.txs.map (·.txid), c.utxo.get t = none := fun t ht => by
      rw [heq t]; exact hfr u hru t ht
    obtain ⟨bp, hbl, _, hblen⟩ := branch_exists w en.height e en he hed rfl
    have hdep : en.height ≤ UnwindBufLen := by rw [← hblen]; exact hU.depth _ (Linked_UChain w hbl)
    have hdec : decide (nxt.height + UnwindBufLen ≥ en.height) = true := decide_eq_true (by omega)
    have hstep := parseTill_step f c e nx t en nxt s ch htip ht he hfp hnxt htx hs hct
    rw [hdec] at hstep
    have hpath2 := parseStep_path c 0 path hpo nx nxt s ch hnxt hpar hh hs hct hfresh
    have hfl : max 0 (path.length + 1 - UnwindBufLen) = 0 := by
      rw [Nat.sub_eq_zero_of_le (by omega)]; rfl
    rw [hfl] at hpath2
    obtain ⟨hn2, hr2, hst2, ht2⟩ := parseStep_facts c nx nxt s ch true
    have hg2 : ∀ x, getNode (parseStep c nx nxt s ch true) x = getNode c x := getNode_nodes hn2
    have w2 : TreeWF U (parseStep c nx nxt s ch true) := by
      refine TreeWF_same w hr2 hg2 ?_
      intro k
      rw [hst2, alookup_aset_eq]
      by_cases hk : nx = k
      · subst hk; simp [hs]
      · simp [hk]
    have hp2 : PathOKH (parseStep c nx nxt s ch true) 0 (⟨nx, s.txs⟩ :: path) :=
      ⟨hpath2, nxt, by rw [ht2, hg2]; exact hnxt, hh⟩
    have hx2 : Ext (parseStep c nx nxt s ch true) (⟨nx, s.txs⟩ :: path) := hx.connect nx s _ _ ch hs hct hst2
    obtain ⟨c', path', h1, h2, h3, h4, h5, h6, h7, h8⟩ := ihP (parseStep c nx nxt s ch true) e en _ w2 hp2 hx2 (by rw [hr2]; exact hU)
      (by rw [hg2]; exact he) ((HasData.congr hr2 rfl).mpr hed) (by rw [ht2]; exact Desc_same hr2 hg2 hdx)
      (by rw [hn2]; exact fuel_connect _ _ _ _ hf (hh ▸ hle))
    simp only [hr2, hn2] at h4 h5 h7
    exact ⟨c', path', by rw [hstep]; exact h1, h2, h3, h4, h5, h6, (Lost.of_getNode hg2).trans h7,
      (NodesSub.of_getNode hg2).trans h8⟩
  | error err =>
    have hfail := parseTill_fail f c e nx t en nxt s err htip ht he hfp hnxt htx hs hct
    obtain ⟨w2, hlen, keep, bk, skeep⟩ := deleteBranch_spec w hnxt hnxr
    have hf2 := deleteBranch_fields c nx
    have hal := path_not_below w hpo.linked hnxt hh
    have hpo2 : PathOK (deleteBranch c nx) 0 path := by
      refine PathOK_mono hpo hf2.2.2.2.2 hf2.2.2.1 hf2.1 hf2.2.1 hf2.2.2.2.1 ?_ ?_
      · intro e he n hn
        obtain ⟨n', g1, g2, g3, _⟩ := keep e.id n hn (hal e he)
        exact ⟨n', g1, g2, g3⟩
      · intro e he b0 hb0
        exact ⟨b0, skeep e.id b0 hb0 (hal e he), rfl⟩
    have htip2 : ∃ t', getNode (deleteBranch c nx) (deleteBranch c nx).tip = some t' ∧ t'.height = path.length := by
      obtain ⟨n', g1, _, g3, _⟩ := keep c.tip t ht (not_below_of_le w hnxt ht (by omega))
      exact ⟨n', by rw [hf2.2.2.1]; exact g1, by omega⟩
    have hfu := fuel_ineq _ _ hlen
    have hx2 : Ext (deleteBranch c nx) path := hx.deleteBranch w hnxt hal
    have hlost : Lost U c.root c (deleteBranch c nx) :=
      Lost.deleteBranch w hpo hnxt hnxr hpar s hs err (by rw [← hh]; exact hct)
    obtain ⟨c', path', h1, h2, h3, h4, h5, h6, h7, h8⟩ := ihA (deleteBranch c nx) path w2 ⟨hpo2, htip2⟩ hx2
      (by rw [hf2.2.2.2.2]; exact hU) (by omega)
    have hsub : NodesSub c (deleteBranch c nx) := fun x n' h => by
      obtain ⟨n, g1, _, _, _, g5⟩ := bk x n' h
      exact ⟨n, g1, g5⟩
    rw [hf2.2.2.2.2] at h4 h7
    exact ⟨c', path', by rw [hfail]; exact h1, h2, h3, h4, Or.inr h5, h6, hlost.trans h7, hsub.trans h8⟩

theorem ASpec_step {U : List Block} (f : Nat) (ihM : MSpec U f) : ASpec U (f + 1) := by
  intro c path w hp hx hU hf
  obtain ⟨r, hr, _⟩ := w.root
  obtain ⟨nL, hL, hLd, hmax⟩ := farthestS_spec w hU hr
  obtain ⟨c', path', h1, h2, h3, h4, h5, h6⟩ := ihM c _ nL path w hp hx hU hL hLd (by omega)
  refine ⟨c', path', by rw [afterFail_eq f c r hr]; exact h1, h2, h3, h4, ?_, h6⟩
  rcases h5 with ⟨a, b⟩ | h5
  · have hg : ∀ x, getNode c' x = getNode c x := getNode_nodes b
    refine ⟨nL, by rw [a, hg]; exact hL, fun x n hn hd => ?_⟩
    rw [w.W_eq h2 hU h4 (hg x ▸ hn) hn, w.W_eq h2 hU h4 hL (hg _ ▸ hL)]
    exact hmax x n (hg x ▸ hn) ((HasData.congr h4 rfl).mp hd)
  · exact h5

theorem MSpec_step {U : List Block} (f : Nat) (ihP : PSpec U f) : MSpec U (f + 1) := by
  intro c dst d path w hp hx hU hd hdd0 hf
  obtain ⟨hpo, lb, hlb, hlbh⟩ := hp
  obtain ⟨cur, h1, hcur, hdcur, hcurh, hcurd⟩ := climbChecked_spec w lb.height (d.height + 1) dst d hd hdd0 (by omega)
  obtain ⟨lb2, h2, hlb2, hdlb2, hlb2h, hlb2d⟩ := climbChecked_spec w cur.height (lb.height + 1) c.tip lb hlb (tip_has_data w hpo hlb) (by omega)
  obtain ⟨anc, h3, hanc, hda1, hda2⟩ :=
    commonAnc_spec w (cur.height + 2) lb2.id cur.id lb2 cur hlb2 hcur hlb2d hcurd (by omega) (by omega)
  have hdt : Desc c anc.id c.tip := hda1.trans hdlb2
  have hdd : Desc c anc.id dst := hda2.trans hdcur
  obtain ⟨pre, post, hpp, hhead, hne⟩ := path_split path hpo.linked (by rw [← hpo.tip]; exact hdt)
  subst hpp
  obtain ⟨c1, hp1, hn1, hs1, hr1, hmv⟩ := moveTo_unwind f c 0 pre post dst d lb cur lb2 anc hpo (Nat.zero_le _) hd hlb
    h1 h2 h3 hhead.symm hne (by simp only [List.length_append] at hlbh; omega)
  have hg1 : ∀ x, getNode c1 x = getNode c x := getNode_nodes hn1
  have w1 : TreeWF U c1 := TreeWF_same w hr1 hg1 (fun k => by rw [hs1])
  obtain ⟨t1, ht1, ht1h⟩ := Linked_head_height w1 hp1.linked
  have hp1' : PathOKH c1 0 post := ⟨hp1, t1, by rw [hp1.tip]; exact ht1, ht1h⟩
  have hdh := height_lt_length w hd
  have hx1 : Ext c1 post := (hx.of_store_eq hs1).suffix
  obtain ⟨c', path', g1, g2, g3, g4, g5, g6, g7, g8⟩ := ihP c1 dst d post w1 hp1' hx1 (by rw [hr1]; exact hU) (by rw [hg1]; exact hd)
    ((HasData.congr hr1 rfl).mpr hdd0)
    (by rw [hp1.tip, headId_congr hr1, hhead]; exact Desc_same hr1 hg1 hdd) (by rw [hn1]; omega)
  simp only [hr1, hn1] at g4 g5 g7
  exact ⟨c', path', by rw [hmv]; exact g1, g2, g3, g4, g5, g6, (Lost.of_getNode hg1).trans g7,
    (NodesSub.of_getNode hg1).trans g8⟩

/-- **the reorganisation machinery is correct for every fuel that is large enough** -/
theorem reorg_specs (U : List Block) : ∀ f, PSpec U f ∧ ASpec U f ∧ MSpec U f := by
  intro f
  induction f with
  | zero =>
    refine ⟨?_, ?_, ?_⟩
    · intro c e en path _ _ _ _ _ _ _ hf; omega
    · intro c path _ _ _ _ hf; omega
    · intro c dst d path _ _ _ _ _ _ hf; omega
  | succ f ih =>
    exact ⟨PSpec_step f ih.1 ih.2.1, ASpec_step f ih.2.2, MSpec_step f ih.1⟩

end GocoinV.ChainTree
