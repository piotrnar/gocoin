/-
  Proofs.C12Load — the refused MempoolLoad / InitMempool of Model/MempoolLoad.lean (`initMempool`, `loadPartial`,
  `loadRefused`): the state it leaves is the freshly initialised pool over the unchanged chain side (only the sticky
  panic flag may have been raised while the rejected records were read), whatever the position at which the file was
  cut, and it satisfies the three invariants the C12 theorems carry: `Full` (InvR + ChainOK + PGoodP, Proofs/C12Run),
  `RejInv` (Proofs/C12RejInv), `SortInvP` (Proofs/C12SortDef).  Core Lean only.
-/
import GocoinV.Model.MempoolLoad
import GocoinV.Proofs.C12Run
import GocoinV.Proofs.C12RejInv
import GocoinV.Proofs.C12SortRun
namespace GocoinV.Mempool

/-! ### the freshly initialised pool, with any value of the sticky panic flag -/

theorem fresh_full {K : Keys} {W : Tx → Prop} {u0 : UT} {ν : OutPoint → Nat} (s : State) (p : Bool)
    (f : Full K W u0 ν s) : Full K W u0 ν { initMempool s with panicked := p } := by
  have hI : InvR K W { initMempool s with panicked := p } := by
    refine ⟨⟨?_, ?_, ?_⟩, by simp [initMempool], ?_, ?_, ?_⟩
    · intro b t h; simp [initMempool, AList.get?] at h
    · intro u b h; simp [initMempool, AList.get?] at h
    · intro b t h; simp [initMempool, AList.get?] at h
    · intro b t h; simp [initMempool, AList.get?] at h
    · intro b r t h; simp [initMempool, AList.get?] at h
    · exact f.inv.undoW
  refine ⟨hI, { f.chain with }, ?_⟩
  intro _
  refine ⟨⟨hI, ?_, ?_, ?_, rfl⟩, ?_⟩
  · intro b t h; simp [initMempool, AList.get?] at h
  · intro b t h; simp [initMempool, AList.get?] at h
  · intro b t h; simp [initMempool, AList.get?] at h
  · intro b t h; simp [initMempool, AList.get?] at h

theorem fresh_rejInv (K : Keys) (s : State) (p : Bool) (hcap : 2 ≤ s.cfg.ringCap) :
    RejInv K { initMempool s with panicked := p } := RJ.toRejInv ⟨hcap, RC_empty K, fun _ _ _ => rfl⟩

theorem fresh_sort (K : Keys) (s : State) (p : Bool) : SortInvP K { initMempool s with panicked := p } := by
  intro _ _ _
  refine ⟨List.Pairwise.nil, ?_, ?_, List.Pairwise.nil, ?_⟩
  · intro b hb; cases hb
  · intro b; simp [initMempool, AList.get?]
  · intro b t hb; simp [initMempool, AList.get?] at hb

theorem initMempool_eq (s : State) : initMempool s = { initMempool s with panicked := s.panicked } := rfl

/-! ### InitMempool() -/

theorem initMempool_full {K : Keys} {W : Tx → Prop} {u0 : UT} {ν : OutPoint → Nat} (s : State)
    (f : Full K W u0 ν s) : Full K W u0 ν (initMempool s) := fresh_full s s.panicked f

theorem initMempool_rejInv (K : Keys) (s : State) (r : RejInv K s) : RejInv K (initMempool s) :=
  fresh_rejInv K s s.panicked r.cap

theorem initMempool_sort (K : Keys) (s : State) : SortInvP K (initMempool s) := fresh_sort K s s.panicked

/-! ### the partial load touches nothing InitMempool() keeps, except the panic flag -/

/-- the fields a second InitMempool() keeps (but for `panicked`) are those of the first -/
def SameKept (s s' : State) : Prop :=
  s'.cfg = s.cfg ∧ s'.sortDisabled = s.sortDisabled ∧ s'.utxo = s.utxo ∧ s'.height = s.height ∧ s'.undo = s.undo

theorem SameKept.trans {a b c : State} (h1 : SameKept a b) (h2 : SameKept b c) : SameKept a c :=
  ⟨h2.1.trans h1.1, h2.2.1.trans h1.2.1, h2.2.2.1.trans h1.2.2.1, h2.2.2.2.1.trans h1.2.2.2.1,
   h2.2.2.2.2.trans h1.2.2.2.2⟩

theorem rejDelete_kept (K : Keys) (s : State) (r : Rej) : SameKept s (rejDelete K s r) := by
  unfold rejDelete
  cases r.tx <;> exact ⟨rfl, rfl, rfl, rfl, rfl⟩

theorem rejEvictOldest_kept (K : Keys) (s : State) : SameKept s (rejEvictOldest K s) := by
  unfold rejEvictOldest
  split
  · split
    · split
      · exact rejDelete_kept K s _
      · exact ⟨rfl, rfl, rfl, rfl, rfl⟩
    · exact ⟨rfl, rfl, rfl, rfl, rfl⟩
  · exact ⟨rfl, rfl, rfl, rfl, rfl⟩

theorem rejAddRefs_kept (K : Keys) (s : State) (r : Rej) : SameKept s (rejAddRefs K s r) := by
  unfold rejAddRefs
  cases r.tx <;> exact ⟨rfl, rfl, rfl, rfl, rfl⟩

theorem rejAdd_kept (K : Keys) (s : State) (r : Rej) : SameKept s (rejAdd K s r) := by
  unfold rejAdd
  have h0 : SameKept s { s with ring := s.ring ++ [some (K.bidx r.id)], rej := s.rej.set (K.bidx r.id) r } :=
    ⟨rfl, rfl, rfl, rfl, rfl⟩
  exact (h0.trans (rejEvictOldest_kept K _)).trans (rejAddRefs_kept K _ r)

theorem loadPartial_chain (K : Keys) (s : State) (k : Nat) (j : Option Nat) : SameKept s (loadPartial K s k j) := by
  cases j with
  | none => exact ⟨rfl, rfl, rfl, rfl, rfl⟩
  | some n =>
    simp only [loadPartial]
    exact foldl_inv (SameKept s) _ (fun st r h => h.trans (rejAdd_kept K st _)) _ _ ⟨rfl, rfl, rfl, rfl, rfl⟩

/-! ### MempoolLoad returning false -/

/-- the state a refused load leaves does not depend on where the file was cut, except through the panic flag -/
theorem loadRefused_eq (K : Keys) (s : State) (k : Nat) (j : Option Nat) :
    loadRefused K s k j = { initMempool s with panicked := (loadPartial K s k j).panicked } := by
  obtain ⟨h1, h2, h3, h4, h5⟩ := loadPartial_chain K s k j
  unfold loadRefused
  show initMempool (loadPartial K s k j) = _
  simp only [initMempool, h1, h2, h3, h4, h5]

theorem loadRefused_eq_none (K : Keys) (s : State) (k : Nat) : loadRefused K s k none = initMempool s := rfl

theorem loadRefused_inv {K : Keys} {W : Tx → Prop} {u0 : UT} {ν : OutPoint → Nat} (s : State) (k : Nat)
    (j : Option Nat) (f : Full K W u0 ν s) (r : RejInv K s) :
    Full K W u0 ν (loadRefused K s k j) ∧ RejInv K (loadRefused K s k j) ∧ SortInvP K (loadRefused K s k j) := by
  rw [loadRefused_eq]
  exact ⟨fresh_full s _ f, fresh_rejInv K s _ r.cap, fresh_sort K s _⟩

end GocoinV.Mempool
