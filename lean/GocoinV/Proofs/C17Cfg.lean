/-
  Proofs.C17Cfg — config changes during the build of the index (Model.BalancesCfg): `common.Reset()` leaves the minimum in
  force alone (`afterReset_keeps`, from the generated fact `resetMayWriteMinVal` of Gen.WalletCfgFacts), and the load loop
  under any schedule of changes is the plain load loop with the minimum it started with (`loadLoopR_eq`).
-/
import GocoinV.Proofs.C17Load
import GocoinV.Model.BalancesCfg
namespace GocoinV.Proofs.C17Cfg
open GocoinV GocoinV.Model.Balances GocoinV.Model.BalancesLoad GocoinV.Model.BalancesCfg
open GocoinV.Gen.WalletCfgFacts

/-- Reset leaves the minimum in force alone (by the generated fact `resetMayWriteMinVal = false`) -/
theorem afterReset_keeps (m v : Nat) : afterReset m v = m := by
  have h : resetMayWriteMinVal = false := rfl
  simp [afterReset, h]

theorem loadLoopR_eq (P : Parser) (um : Nat) (H : Bytes → Nat) (tick : Nat → Bool) (chg : Nat → Option Nat) (m : Nat) :
    ∀ (raw : List Bytes) (n : Nat) (st : Static) (bal : BalMap),
      loadLoopR P um H tick chg raw n st m bal =
        (loadLoop P { min := m, useMapCnt := um } H tick raw n st bal).map (fun r => (r.1, r.2.1, r.2.2, m)) := by
  intro raw
  induction raw with
  | nil => intro n st bal; simp [loadLoopR, loadLoop]
  | cons b rest ih =>
    intro n st bal
    unfold loadLoopR loadLoop
    cases hd : staticDec P b st with
    | ok v =>
      obtain ⟨r, st'⟩ := v
      cases hc : chg (n + 1) with
      | none =>
        cases ht : tick (n + 1)
        · simp only [Bool.false_eq_true, if_false]; exact ih (n + 1) st' _
        · simp
      | some v =>
        simp only [afterReset_keeps]
        cases ht : tick (n + 1)
        · simp only [Bool.false_eq_true, if_false]; exact ih (n + 1) st' _
        · simp
    | panic | hang => simp

end GocoinV.Proofs.C17Cfg
