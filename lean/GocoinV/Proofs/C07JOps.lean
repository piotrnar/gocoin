/-
  Proofs.C07JOps — CommitBlockTxs, UndoBlockTxs, ParseTillBlock, FindFirstFather / FindPathTo and MoveToBlock
  keep the consistency invariant (`JD` + `Chain`, Proofs/C07J.lean) as long as no undo
  file of another block is read (ghost flag `St.foreign`).  Every tree node heads a chain of tree nodes (`TChain`), so
  FindFirstFather returns a common ancestor within its fuel and FindPathTo succeeds from it (`road`).  Of CommitBlock and
  AcceptBlock only that the ghost flag, once set, stays set (`commitBlock_mono`, `submit_mono`); that they keep the
  invariant is `commitBlock_J`, `submit_J` in Proofs/C07JHist.lean.  Core Lean only.
-/
import GocoinV.Proofs.C07J
namespace GocoinV.Proofs.C07
open GocoinV.Persist

variable {bs : List Block} {s : St}

/-! ### the block tree -/

def par (tree : List TNode) (id : BlockId) : BlockId :=
  match tree.find? (·.id == id) with
  | some t => t.parent
  | none => 0

theorem parentOf_eq (n : Node) (id : BlockId) : parentOf n id = par n.tree id := rfl

def InT (tree : List TNode) (id : BlockId) : Prop := ∃ t ∈ tree, t.id = id

theorem inT_mono {tree tree' : List TNode} (h : ∀ t ∈ tree, t ∈ tree') {id : BlockId} (hi : InT tree id) : InT tree' id := by
  obtain ⟨t, ht, e⟩ := hi
  exact ⟨t, h t ht, e⟩

theorem find_tree {tree : List TNode} {id : BlockId} (h : InT tree id) :
    ∃ t, tree.find? (·.id == id) = some t ∧ t ∈ tree ∧ t.id = id := by
  obtain ⟨t0, ht0, e⟩ := h
  obtain ⟨t, hf⟩ : ∃ t, tree.find? (·.id == id) = some t :=
    Option.isSome_iff_exists.1 (List.find?_isSome.2 ⟨t0, ht0, beq_iff_eq.2 e⟩)
  exact ⟨t, hf, List.mem_of_find?_eq_some hf, by simpa using List.find?_some hf⟩

theorem tree_of_block (hwf : WF bs) (h : JD bs s) {b : Block} (hb : b ∈ bs) {t : TNode} (ht : t ∈ s.n.tree) (e : t.id = b.id) :
    t.parent = b.parent ∧ t.height = b.height := by
  obtain ⟨b', hb', e1, e2, e3⟩ := h.treeB t ht
  obtain rfl : b' = b := hwf.uniq b' hb' b hb (e1.trans e)
  exact ⟨e2.symm, e3.symm⟩

theorem par_block (hwf : WF bs) (h : JD bs s) {b : Block} (hb : b ∈ bs) (hin : InT s.n.tree b.id) :
    par s.n.tree b.id = b.parent ∧ heightOf s.n b.id = some b.height := by
  obtain ⟨t, hf, htm, hte⟩ := find_tree hin
  obtain ⟨e1, e2⟩ := tree_of_block hwf h hb htm hte
  refine ⟨by simp only [par, hf, e1], ?_⟩
  have hnz : (b.id == 0) = false := by simpa using hwf.idNZ b hb
  simp only [heightOf, hnz, hf, Option.map_some, e2]
  rfl

theorem not_inT_zero (hwf : WF bs) (h : JD bs s) : ¬ InT s.n.tree 0 := by
  rintro ⟨t, ht, e⟩
  obtain ⟨b, hb, e1, _⟩ := h.treeB t ht
  exact hwf.idNZ b hb (e1.trans e)

theorem par_zero (hwf : WF bs) (h : JD bs s) : par s.n.tree 0 = 0 := by
  have hf : s.n.tree.find? (·.id == 0) = none :=
    List.find?_eq_none.2 fun t ht e => not_inT_zero hwf h ⟨t, ht, by simpa using e⟩
  simp only [par, hf]

theorem par_closed (h : JD bs s) {id : BlockId} (hin : InT s.n.tree id) :
    par s.n.tree id = 0 ∨ InT s.n.tree (par s.n.tree id) := by
  obtain ⟨t, hf, htm, _⟩ := find_tree hin
  simp only [par, hf]
  exact h.treeC t htm

/-! ### walking down the active chain -/

theorem headId_drop_succ {path : List Block} (hc : ChainOK bs path) (j : Nat) :
    ∀ b rest, path.drop j = b :: rest → b.parent = headId (path.drop (j + 1)) := by
  intro b rest hd
  have h1 := ChainOK.drop j hc
  rw [hd] at h1
  rw [← List.drop_drop, hd]; exact h1.2.1

/-- a chain of blocks all of which are tree nodes (the active chain is one: `Chain.toT`) -/
structure TChain (bs : List Block) (tree : List TNode) (path : List Block) : Prop where
  ok : ChainOK bs path
  inT : ∀ b ∈ path, InT tree b.id

theorem Chain.toT {n : Node} {path : List Block} (h : Chain bs n path) : TChain bs n.tree path := ⟨h.ok, h.inT⟩

theorem TChain.nil (tree : List TNode) : TChain bs tree [] := ⟨trivial, fun _ h => by cases h⟩

theorem twalk_par (hwf : WF bs) (h : JD bs s) {path : List Block} (hc : TChain bs s.n.tree path) (j : Nat) :
    par s.n.tree (headId (path.drop j)) = headId (path.drop (j + 1)) := by
  cases hd : path.drop j with
  | nil =>
    rw [← List.drop_drop, hd]; exact par_zero hwf h
  | cons b rest =>
    have hbm : b ∈ path := List.mem_of_mem_drop (by rw [hd]; simp)
    rw [show headId (b :: rest) = b.id from rfl, (par_block hwf h (ChainOK.mem hc.ok b hbm) (hc.inT b hbm)).1]
    exact headId_drop_succ hc.ok j b rest hd

theorem twalk_height (hwf : WF bs) (h : JD bs s) {path : List Block} (hc : TChain bs s.n.tree path) (j : Nat) :
    heightOf s.n (headId (path.drop j)) = some (path.length - j) := by
  cases hd : path.drop j with
  | nil =>
    rw [Nat.sub_eq_zero_of_le (List.drop_eq_nil_iff.1 hd)]; rfl
  | cons b rest =>
    have hbm : b ∈ path := List.mem_of_mem_drop (by rw [hd]; simp)
    rw [show headId (b :: rest) = b.id from rfl, (par_block hwf h (ChainOK.mem hc.ok b hbm) (hc.inT b hbm)).2]
    have h1 := ChainOK.drop j hc.ok
    rw [hd] at h1
    have hl := congrArg List.length hd
    simp at hl
    rw [h1.2.2.1]; congr 1; omega

/-! ### FindPathTo -/

/-- `p` is a top-down list of tree nodes, each the child of the previous one, the first a child of `cur` -/
def Down (tree : List TNode) : BlockId → List BlockId → Prop
  | _, [] => True
  | cur, x :: r => InT tree x ∧ par tree x = cur ∧ Down tree x r

def lastOr (d : BlockId) : List BlockId → BlockId
  | [] => d
  | x :: r => lastOr x r

theorem pathUp_down (h : JD bs s) : ∀ (fuel : Nat) (a b : BlockId) (acc p : List BlockId),
    (b = 0 ∨ InT s.n.tree b) → Down s.n.tree b acc → pathUp s.n fuel a b acc = some p →
    Down s.n.tree a p ∧ lastOr a p = lastOr b acc
  | 0, _, _, _, _, _, _, hp => by simp [pathUp] at hp
  | fuel + 1, a, b, acc, p, hb, hacc, hp => by
    unfold pathUp at hp
    split at hp
    · rename_i hba
      have : b = a := by simpa using hba
      cases hp; subst this; exact ⟨hacc, rfl⟩
    · split at hp
      · cases hp
      · rename_i hb0
        have hb0 : b ≠ 0 := by simpa using hb0
        have hin : InT s.n.tree b := hb.resolve_left hb0
        exact pathUp_down h fuel a (parentOf s.n b) (b :: acc) p (par_closed h hin) ⟨hin, rfl, hacc⟩ hp

/-! ### chains of tree nodes -/

theorem headId_drop_zero (hwf : WF bs) {path : List Block} (hc : ChainOK bs path) (j : Nat) :
    headId (path.drop j) = 0 ↔ path.length ≤ j := by
  rw [← List.drop_eq_nil_iff]
  cases hd : path.drop j with
  | nil => exact iff_of_true rfl rfl
  | cons b rest =>
    have hbm : b ∈ path := List.mem_of_mem_drop (by rw [hd]; simp)
    exact iff_of_false (hwf.idNZ b (ChainOK.mem hc b hbm)) (List.cons_ne_nil b rest)

/-- every tree node is the head of a chain of tree nodes of length = its height -/
theorem tchain_exists (hwf : WF bs) (h : JD bs s) : ∀ (n : Nat) (t : TNode), t ∈ s.n.tree → t.height = n →
    ∃ path, TChain bs s.n.tree path ∧ headId path = t.id ∧ path.length = t.height := by
  intro n
  induction n using Nat.strongRecOn with
  | _ n ih =>
    intro t ht hn
    obtain ⟨b, hb, e1, e2, e3⟩ := h.treeB t ht
    -- the chain below `b`: empty if `b` has no parent, else the parent's chain
    obtain ⟨path', hc', hp⟩ : ∃ path', TChain bs s.n.tree path' ∧ b.parent = headId path' := by
      rcases h.treeC t ht with h0 | ⟨t', ht', e'⟩
      · exact ⟨[], TChain.nil _, e2.trans h0⟩
      · obtain ⟨b', hb', f1, _, f3⟩ := h.treeB t' ht'
        have hpar : b.parent = b'.id := by rw [e2, ← e', f1]
        have hh : b.height = b'.height + 1 := by
          rcases hwf.height b hb with ⟨h0, _⟩ | ⟨p, hp, hpi, hph⟩
          · exact absurd (hpar.symm.trans h0) (hwf.idNZ b' hb')
          · have : p = b' := hwf.uniq p hp b' hb' (hpi.trans hpar)
            subst this; exact hph
        obtain ⟨path', hc', hd', _⟩ := ih t'.height (by rw [← hn, ← e3, hh, f3]; omega) t' ht' rfl
        exact ⟨path', hc', by rw [hd', e', e2]⟩
    have hbh := height_on hwf hc'.ok hb hp
    exact ⟨b :: path', ⟨⟨hb, hp, hbh, valid_on hwf hc'.ok hb hp, hc'.ok⟩, List.forall_mem_cons.2 ⟨⟨t, ht, e1.symm⟩, hc'.inT⟩⟩,
      e1, by rw [← e3, hbh]; rfl⟩

theorem tchain_of_inT (hwf : WF bs) (h : JD bs s) {id : BlockId} (hin : InT s.n.tree id) :
    ∃ path, TChain bs s.n.tree path ∧ headId path = id := by
  obtain ⟨t, ht, e⟩ := hin
  obtain ⟨path, hc, hd, _⟩ := tchain_exists hwf h t.height t ht rfl
  exact ⟨path, hc, hd.trans e⟩

theorem tchain_of (hwf : WF bs) (h : JD bs s) {id : BlockId} (hin : id = 0 ∨ InT s.n.tree id) :
    ∃ path, TChain bs s.n.tree path ∧ headId path = id := by
  rcases hin with h0 | hin
  · exact ⟨[], TChain.nil _, h0.symm⟩
  · exact tchain_of_inT hwf h hin

theorem ids_nodup (hwf : WF bs) {path : List Block} (h : ChainOK bs path) : (path.map (·.id)).Nodup :=
  List.pairwise_map.2 ((ChainOK.nodup h).imp_of_mem fun hx hy hne e =>
    hne (hwf.uniq _ (ChainOK.mem h _ hx) _ (ChainOK.mem h _ hy) e))

/-- a chain of tree nodes is no longer than the tree (pigeonhole on ids) -/
theorem tchain_len (hwf : WF bs) {tree : List TNode} {path : List Block} (hc : TChain bs tree path) :
    path.length ≤ tree.length := by
  have := List.Nodup.length_le_of_subset (ids_nodup hwf hc.ok) (l₂ := tree.map (·.id)) (by
    intro x hx
    obtain ⟨b, hb, e⟩ := List.mem_map.1 hx
    obtain ⟨t, ht, e'⟩ := hc.inT b hb
    exact List.mem_map.2 ⟨t, ht, e'.trans e⟩)
  simpa using this

/-- FindFirstFather of two chain heads returns, within its fuel, a common ancestor (a later element of both chains) -/
theorem firstFather_spec (hwf : WF bs) (h : JD bs s) {pa pb : List Block} (ha : TChain bs s.n.tree pa)
    (hb : TChain bs s.n.tree pb) :
    ∀ (fuel i j : Nat), (pa.length - i) + (pb.length - j) < fuel →
      ∃ i' j', i ≤ i' ∧ j ≤ j' ∧ firstFather s.n fuel (headId (pa.drop i)) (headId (pb.drop j)) = headId (pa.drop i') ∧
        headId (pa.drop i') = headId (pb.drop j')
  | 0, _, _, hf => by omega
  | fuel + 1, i, j, hf => by
    unfold firstFather
    split
    · rename_i heq
      exact ⟨i, j, Nat.le_refl _, Nat.le_refl _, rfl, by simpa using heq⟩
    · rename_i hne
      simp only [twalk_height hwf h ha i, twalk_height hwf h hb j, Option.getD_some, parentOf_eq,
        twalk_par hwf h ha i, twalk_par hwf h hb j]
      split
      · obtain ⟨i', j', h1, h2, h3, h4⟩ := firstFather_spec hwf h ha hb fuel (i + 1) j (by omega)
        exact ⟨i', j', by omega, h2, h3, h4⟩
      · split
        · obtain ⟨i', j', h1, h2, h3, h4⟩ := firstFather_spec hwf h ha hb fuel i (j + 1) (by omega)
          exact ⟨i', j', h1, by omega, h3, h4⟩
        · have hpos : pa.length - i ≠ 0 := by
            intro h0
            have ea : headId (pa.drop i) = 0 := (headId_drop_zero hwf ha.ok i).2 (by omega)
            have eb : headId (pb.drop j) = 0 := (headId_drop_zero hwf hb.ok j).2 (by omega)
            rw [ea, eb] at hne
            simp at hne
          obtain ⟨i', j', h1, h2, h3, h4⟩ := firstFather_spec hwf h ha hb fuel (i + 1) (j + 1) (by omega)
          exact ⟨i', j', by omega, by omega, h3, h4⟩

/-- FindPathTo from an ancestor succeeds within its fuel -/
theorem pathUp_some (hwf : WF bs) (h : JD bs s) {pb : List Block} (hb : TChain bs s.n.tree pb) (j' : Nat) :
    ∀ (fuel j : Nat) (acc : List BlockId), j ≤ j' → (min j' pb.length - j) < fuel →
      ∃ p, pathUp s.n fuel (headId (pb.drop j')) (headId (pb.drop j)) acc = some p
  | 0, _, _, _, hf => by omega
  | fuel + 1, j, acc, hjj, hf => by
    unfold pathUp
    split
    · exact ⟨acc, rfl⟩
    · rename_i hne
      split
      · rename_i h0
        exfalso
        have h0 : headId (pb.drop j) = 0 := by simpa using h0
        have hl := (headId_drop_zero hwf hb.ok j).1 h0
        have ea : headId (pb.drop j') = 0 := (headId_drop_zero hwf hb.ok j').2 (by omega)
        rw [h0, ea] at hne
        simp at hne
      · rename_i hn0
        have hjl : j < pb.length :=
          Nat.lt_of_not_le fun hl => hn0 (by simp [(headId_drop_zero hwf hb.ok j).2 hl])
        have hjlt : j < j' := by
          apply Nat.lt_of_le_of_ne hjj
          intro e; subst e; simp at hne
        rw [parentOf_eq, twalk_par hwf h hb j]
        exact pathUp_some hwf h hb j' fuel (j + 1) _ (by omega) (by omega)

/-! ### monotonicity of the ghost flag -/

theorem undoLast_mono (s : St) : (undoLastBlock s).foreign = false → s.foreign = false := by
  unfold undoLastBlock
  split
  · exact id
  · split
    · rw [(fail_frame _ _).2.2.2]; exact id
    · simp only []
      split
      · rw [(fail_frame _ _).2.2.2, (abortSave_neutral (bs := []) _).foreign]; exact id
      · intro hf
        exact (abortSave_neutral (bs := []) (s.emit .nop .undoBeforeUtxo)).foreign.symm.trans (Bool.or_eq_false_iff.1 hf).1

theorem undoN_mono : ∀ (k : Nat) (s : St), (undoN s k).foreign = false → s.foreign = false
  | 0, _, h => h
  | k + 1, s, h => undoLast_mono s (undoN_mono k _ h)

theorem commitBlockTxs_spec (s : St) (b : Block) (hb : b ∈ bs) :
    ∃ s1, Neutral bs s s1 ∧ commitBlockTxs s b =
      { s1 with n := { s1.n with utxo := commitU s1.n.utxo b, lastHeight := b.height, dirty := true } } :=
  ⟨((((((abortSave s).emit .nop .undoBeforeWrite).emit (.writeUndoTmp { blk := b.id, coins := b.spends }) .undoTmpWritten).emit
      (.renameUndoTmp b.height) .undoRenamed).emit .nop .beforeCommit).emit .nop .afterCommit),
    (((((abortSave_neutral s).then_emit .nop .undoBeforeWrite trivial).then_emit (.writeUndoTmp { blk := b.id, coins := b.spends }) .undoTmpWritten (show EffB bs (.writeUndoTmp { blk := b.id, coins := b.spends }) from ⟨b, hb, rfl⟩)).then_emit (.renameUndoTmp b.height) .undoRenamed
      trivial).then_emit .nop .beforeCommit trivial).then_emit .nop .afterCommit trivial, rfl⟩

theorem commitBlockTxs_foreign (s : St) (b : Block) : (commitBlockTxs s b).foreign = s.foreign := by
  obtain ⟨s1, hn, e⟩ := commitBlockTxs_spec (bs := [b]) s b (by simp)
  rw [e]; exact hn.foreign

theorem commitBlockTxs_err (s : St) (b : Block) : (commitBlockTxs s b).err = s.err := by
  obtain ⟨s1, hn, e⟩ := commitBlockTxs_spec (bs := [b]) s b (by simp)
  rw [e]; exact hn.err

theorem parseOne_foreign (s : St) (id : BlockId) (b : Block) : (parseOne s id b).foreign = s.foreign := by
  unfold parseOne
  simp only [St.emit, commitBlockTxs_foreign]
  exact (blockTrusted_neutral (bs := []) s id).foreign

/-- ParseTillBlock's step in closed form: steps that touch nothing of the invariant, then set, heights and tip change -/
theorem parseOne_spec (s : St) (id : BlockId) (b : Block) (hb : b ∈ bs) :
    ∃ s2, Neutral bs s s2 ∧ parseOne s id b =
      { s2 with n := { s2.n with utxo := commitU s2.n.utxo b, lastHeight := b.height, dirty := true, tip := id, tipHeight := b.height } } := by
  obtain ⟨s1, hN, eq⟩ := commitBlockTxs_spec ((blockTrusted s id).emit .nop .parseBeforeUtxo) b hb
  refine ⟨s1.emit .nop .parseAfterUtxo,
    (((blockTrusted_neutral s id).then_emit .nop .parseBeforeUtxo trivial).trans hN).then_emit .nop .parseAfterUtxo trivial, ?_⟩
  unfold parseOne
  rw [eq]
  rfl

theorem parsePath_foreign : ∀ (p : List BlockId) (s : St), (parsePath s p).foreign = s.foreign
  | [], _ => rfl
  | id :: rest, s => by
    rcases parsePath_cons_cases s id rest with ⟨_, e⟩ | ⟨m, e⟩ | ⟨b, _, _, _, e⟩
    · rw [e]
    · rw [e]; exact (fail_frame _ _).2.2.2
    · rw [e, parsePath_foreign rest]; exact parseOne_foreign s id b

/-- MoveToBlock after its undo phase: FindPathTo, ParseTillBlock -/
def moveUp (s1 : St) (f : Nat) (anc dst : BlockId) : St :=
  if s1.err.isSome then s1 else
  match pathUp (s1.emit .nop .moveUndone).n f anc dst [] with
  | none => (s1.emit .nop .moveUndone).fail "unknown path to block"
  | some p =>
    if (parsePath (s1.emit .nop .moveUndone) p).err.isSome then parsePath (s1.emit .nop .moveUndone) p
    else (parsePath (s1.emit .nop .moveUndone) p).emit .nop .moveDone

theorem moveUp_foreign (s1 : St) (f : Nat) (anc dst : BlockId) : (moveUp s1 f anc dst).foreign = s1.foreign := by
  unfold moveUp
  split
  · rfl
  · split
    · exact (fail_frame _ _).2.2.2
    · split <;> exact parsePath_foreign _ (s1.emit .nop .moveUndone)

/-- MoveToBlock raises the ghost flag only while it undoes blocks -/
theorem moveToBlock_undone (s : St) (dst : BlockId) (hf : (moveToBlock s dst).foreign = false) :
    (undoN s (s.n.tipHeight - (heightOf s.n (firstFather s.n (2 * fuelOf s.n) s.n.tip dst)).getD 0)).foreign = false :=
  (moveUp_foreign _ (fuelOf s.n) (firstFather s.n (2 * fuelOf s.n) s.n.tip dst) dst).symm.trans hf

theorem commitTail_foreign (s : St) (b : Block) : (commitTail s b).foreign = s.foreign := by
  unfold commitTail
  simp only [St.emit, commitBlockTxs_foreign]

theorem commitBlock_mono (s : St) (b : Block) : (commitBlock s b).foreign = false → s.foreign = false := by
  by_cases he : s.err.isSome = true
  · rw [commitBlock_of_err b he]; exact id
  have he := Option.not_isSome_iff_eq_none.1 he
  by_cases htp : s.n.tip = b.parent
  · cases hv : validOn s.n.utxo b with
    | false => rw [commitBlock_invalid b he htp hv]; exact id
    | true =>
      rw [commitBlock_active b he htp hv, commitTail_foreign, (commitHead_neutral (bs := [b]) s b (by simp)).foreign]
      exact id
  · rw [commitBlock_side b he htp]
    split
    · exact fun hf => undoN_mono _ (sideStored s b) (moveToBlock_undone _ b.id hf)
    · exact id

theorem submit_mono (s : St) (b : Block) : (submit s b).foreign = false → s.foreign = false := by
  by_cases hfr : Fresh s b
  · rw [submit_of_fresh hfr]; exact commitBlock_mono (withNode s b) b
  · rw [submit_of_not_fresh hfr]; exact id

/-! ### UndoBlockTxs / UndoLastBlock -/

theorem JD.of_eq (h : JD bs s) (s' : St) (e1 : s'.d = s.d) (e2 : s'.es = s.es) (e3 : s'.n.mem = s.n.mem)
    (e4 : s'.n.queue = s.n.queue) (e5 : s'.n.tree = s.n.tree) : JD bs s' :=
  ⟨e1 ▸ h.prov, e2 ▸ h.effs, e3 ▸ h.memB, e4 ▸ h.queueB, e5 ▸ h.treeB, e5 ▸ h.treeC⟩

theorem JD.setNode (h : JD bs s) (n' : Node) (h1 : n'.mem = s.n.mem) (h2 : n'.queue = s.n.queue) (h3 : n'.tree = s.n.tree) :
    JD bs { s with n := n' } :=
  h.of_eq _ rfl rfl h1 h2 h3

theorem JD.setForeign (h : JD bs s) (f : Bool) : JD bs { s with foreign := f } :=
  { h with }

theorem blockData_in (h : JD bs s) {id : BlockId} {b : Block} (hb : blockData s id = some b) : b ∈ bs ∧ b.id = id := by
  obtain ⟨hm, e⟩ := blockData_mem hb
  exact ⟨hm.elim (h.memB b) (h.prov.datB b), e⟩

theorem getUndo_mem {l : List (Nat × UndoFile)} {hh : Nat} {u : UndoFile} (h : getUndo l hh = some u) : ∃ p ∈ l, p.2 = u := by
  obtain ⟨p, hf, e⟩ := Option.map_eq_some_iff.1 h
  exact ⟨p, List.mem_of_find?_eq_some hf, e⟩

/-- UndoLastBlock: as long as the undo file read belongs to the tip, the chain loses exactly its top block -/
theorem undoLast_spec (hwf : WF bs) (h : JD bs s) {path : List Block} (hc : Chain bs s.n path)
    (hf : (undoLastBlock s).foreign = false) :
    JD bs (undoLastBlock s) ∧ (undoLastBlock s).n.tree = s.n.tree ∧
    ∃ path', Chain bs (undoLastBlock s).n path' ∧ ((undoLastBlock s).err = none → s.err = none ∧ path' = path.drop 1 ∧ path ≠ []) := by
  revert hf
  unfold undoLastBlock
  split
  · rename_i he
    exact fun _ => ⟨h, rfl, path, hc, fun h0 => by rw [h0] at he; cases he⟩
  · split
    · obtain ⟨a, _⟩ := fail_frame s "UndoLastBlock: block data unavailable"
      intro _
      exact ⟨h.fail _, by rw [a], path, by rw [a]; exact hc, fun h0 => absurd h0 (fail_err _ _)⟩
    · rename_i herr _ b hb
      have hs0 : s.err = none := Option.not_isSome_iff_eq_none.1 herr
      obtain ⟨hbs, hbid⟩ := blockData_in h hb
      have hN : Neutral bs s (abortSave (s.emit .nop .undoBeforeUtxo)) :=
        (Neutral.emit s .nop .undoBeforeUtxo trivial).trans (abortSave_neutral _)
      have h2 := h.neutral hN
      simp only []
      split
      · obtain ⟨a, _⟩ := fail_frame (abortSave (s.emit .nop .undoBeforeUtxo)) "UndoBlockTxs: undo file missing"
        intro _
        exact ⟨h2.fail _, by rw [a]; exact hN.tree, path, by rw [a]; exact hc.neutral hN, fun h0 => absurd h0 (fail_err _ _)⟩
      · rename_i uf huf
        intro hf
        have hblk : uf.blk = s.n.tip := by simpa [hN.tip] using (Bool.or_eq_false_iff.1 hf).2
        -- the path is not empty, its top block is `b`
        cases path with
        | nil =>
          exact absurd (hbid.trans hc.tip) (hwf.idNZ b hbs)
        | cons b0 rest =>
          obtain rfl : b0 = b := hwf.uniq b0 hc.ok.1 b hbs (hc.tip.symm.trans hbid.symm)
          obtain ⟨p, hpm, hpu⟩ := getUndo_mem huf
          obtain ⟨b', hb', hu'⟩ := h2.prov.undoB p hpm
          obtain rfl : uf = ⟨b'.id, b'.spends⟩ := hpu.symm.trans hu'
          obtain rfl : b' = b0 := hwf.uniq b' hb' b0 hbs (hblk.trans hc.tip)
          refine ⟨?_, hN.tree, rest, ?_, fun _ => ⟨hs0, rfl, by simp⟩⟩
          · exact (h2.neutral (Neutral.emit _ .nop .undoAfterUtxo trivial)).of_eq _ rfl rfl rfl rfl rfl
          · have hc2 := hc.neutral hN
            refine ⟨hc.ok.2.2.2.2, hc.ok.2.1, ?_, ?_, ?_, ?_⟩
            · show SameSet (undoU (abortSave (s.emit .nop .undoBeforeUtxo)).n.utxo b' b'.spends) (rp rest)
              exact undo_top hwf hc.ok hc2.utxo
            · show (abortSave (s.emit .nop .undoBeforeUtxo)).n.lastHeight - 1 = rest.length
              rw [hc2.lastH]; rfl
            · show b'.height - 1 = rest.length
              rw [hc.ok.2.2.1]; rfl
            · exact fun x hx => hc2.inT x (List.mem_cons_of_mem _ hx)

theorem undoN_spec (hwf : WF bs) : ∀ (k : Nat) (s : St) (path : List Block), JD bs s → Chain bs s.n path →
    (undoN s k).foreign = false →
    JD bs (undoN s k) ∧ (undoN s k).n.tree = s.n.tree ∧
    ∃ path', Chain bs (undoN s k).n path' ∧ ((undoN s k).err = none → s.err = none ∧ path' = path.drop k ∧ k ≤ path.length)
  | 0, s, path, h, hc, _ => ⟨h, rfl, path, hc, fun h0 => ⟨h0, rfl, Nat.zero_le _⟩⟩
  | k + 1, s, path, h, hc, hf => by
    have hf1 : (undoLastBlock s).foreign = false := undoN_mono k _ hf
    obtain ⟨h1, t1, path1, hc1, e1⟩ := undoLast_spec hwf h hc hf1
    obtain ⟨h2, t2, path2, hc2, e2⟩ := undoN_spec hwf k (undoLastBlock s) path1 h1 hc1 hf
    refine ⟨h2, t2.trans t1, path2, hc2, ?_⟩
    intro h0
    obtain ⟨a1, a2, a3⟩ := e2 h0
    obtain ⟨b1, b2, b3⟩ := e1 a1
    refine ⟨b1, ?_, ?_⟩
    · rw [a2, b2, List.drop_drop]; congr 1; omega
    · rw [b2, List.length_drop] at a3
      have := List.length_pos_iff.2 b3
      omega

/-! ### ParseTillBlock -/

/-- one more block on top of the chain -/
theorem Chain.push (hwf : WF bs) {n : Node} {path : List Block} (h : Chain bs n path) {b : Block} (hb : b ∈ bs)
    (hp : b.parent = n.tip) (ht : ∃ t ∈ n.tree, t.id = b.id) (n' : Node) (e1 : n'.tip = b.id)
    (e2 : n'.utxo = commitU n.utxo b) (e3 : n'.lastHeight = b.height) (e4 : n'.tipHeight = b.height) (e5 : n'.tree = n.tree) :
    Chain bs n' (b :: path) := by
  have hh := height_on hwf h.ok hb (hp.trans h.tip)
  refine ⟨⟨hb, hp.trans h.tip, hh, valid_on hwf h.ok hb (hp.trans h.tip), h.ok⟩, e1, ?_, by rw [e3, hh]; rfl, by rw [e4, hh]; rfl, ?_⟩
  · rw [e2]; exact commitU_congr h.utxo b
  · rw [e5]; exact List.forall_mem_cons.2 ⟨ht, h.inT⟩

theorem parsePath_spec (hwf : WF bs) : ∀ (p : List BlockId) (s : St) (path : List Block), JD bs s → Chain bs s.n path →
    Down s.n.tree (headId path) p → s.err = none →
    JD bs (parsePath s p) ∧ (parsePath s p).n.tree = s.n.tree ∧
    ∃ path', Chain bs (parsePath s p).n path' ∧ ((parsePath s p).err = none → headId path' = lastOr (headId path) p)
  | [], s, path, h, hc, _, _ => ⟨h, rfl, path, hc, fun _ => rfl⟩
  | id :: rest, s, path, h, hc, hd, he => by
    rcases parsePath_cons_cases s id rest with ⟨he', _⟩ | ⟨m, e⟩ | ⟨b, _, hb, _, e⟩
    · rw [he] at he'; cases he'
    · rw [e, (fail_frame s m).1]
      exact ⟨h.fail _, rfl, path, hc, fun h0 => absurd h0 (fail_err _ _)⟩
    · rw [e]
      obtain ⟨hbs, hbid⟩ := blockData_in h hb
      obtain ⟨hin, hpar, hrest⟩ := hd
      have hbp : b.parent = s.n.tip := by
        rw [hc.tip, ← hpar, ← hbid]
        exact (par_block hwf h hbs (hbid ▸ hin)).1.symm
      obtain ⟨s2, hN, eq⟩ := parseOne_spec s id b hbs
      rw [eq]
      obtain ⟨r1, r2, path', r3, r4⟩ := parsePath_spec hwf rest
        { s2 with n := { s2.n with utxo := commitU s2.n.utxo b, lastHeight := b.height, dirty := true, tip := id, tipHeight := b.height } }
        (b :: path) ((h.neutral hN).of_eq _ rfl rfl rfl rfl rfl)
        ((hc.neutral hN).push hwf hbs (by rw [hN.tip]; exact hbp) (by rw [hN.tree]; exact hbid ▸ hin) _ hbid.symm rfl rfl rfl rfl)
        (by show Down s2.n.tree b.id rest; rw [hN.tree, hbid]; exact hrest) (hN.err.trans he)
      refine ⟨r1, r2.trans hN.tree, path', r3, ?_⟩
      intro h0
      rw [r4 h0]
      show lastOr b.id rest = lastOr (headId path) (id :: rest)
      rw [hbid]; rfl

/-! ### MoveToBlock -/

/-- the number of blocks MoveToBlock undoes, and where it then stands, from FindFirstFather's answer as a position `i` on the
    active chain -/
theorem move_down (hwf : WF bs) (h : JD bs s) {path : List Block} (hc : Chain bs s.n path) {i : Nat} {a : BlockId}
    (hff : a = headId (path.drop i)) :
    s.n.tipHeight - (heightOf s.n a).getD 0 = min i path.length ∧ a = headId (path.drop (min i path.length)) := by
  subst hff
  constructor
  · rw [twalk_height hwf h hc.toT i, hc.tipH]; simp; omega
  · by_cases hjl : i ≤ path.length
    · rw [Nat.min_eq_left hjl]
    · rw [Nat.min_eq_right (by omega), List.drop_of_length_le (by omega), List.drop_of_length_le (Nat.le_refl _)]

/-- FindPathTo reads the node's tree only -/
theorem pathUp_tree {n n' : Node} (h : n'.tree = n.tree) : ∀ (fuel : Nat) (a b : BlockId) (acc : List BlockId),
    pathUp n' fuel a b acc = pathUp n fuel a b acc
  | 0, _, _, _ => rfl
  | fuel + 1, a, b, acc => by
    unfold pathUp
    rw [parentOf_eq, parentOf_eq, h, pathUp_tree h fuel]

/-- the road MoveToBlock (and the client's recovery loop) takes to a tree node `dst`: FindFirstFather(tip, dst) is the block
    `i` steps below the tip on the active chain, the tip is `i` blocks above it, and FindPathTo finds the way from it to `dst` -/
theorem road (hwf : WF bs) (h : JD bs s) {path : List Block} (hc : Chain bs s.n path) {dst : BlockId} (hdst : InT s.n.tree dst) :
    ∃ i p, i ≤ path.length ∧ firstFather s.n (2 * fuelOf s.n) s.n.tip dst = headId (path.drop i) ∧
      s.n.tipHeight - (heightOf s.n (headId (path.drop i))).getD 0 = i ∧
      pathUp s.n (fuelOf s.n) (headId (path.drop i)) dst [] = some p ∧
      Down s.n.tree (headId (path.drop i)) p ∧ lastOr (headId (path.drop i)) p = dst := by
  obtain ⟨pd, hpd, hpdh⟩ := tchain_of_inT hwf h hdst
  have l1 := tchain_len hwf hc.toT
  have l2 := tchain_len hwf hpd
  obtain ⟨i', j', _, _, hff, hcom⟩ := firstFather_spec hwf h hc.toT hpd (2 * fuelOf s.n) 0 0 (by unfold fuelOf; omega)
  rw [show headId (path.drop 0) = s.n.tip from hc.tip.symm, show headId (pd.drop 0) = dst from hpdh] at hff
  obtain ⟨hdown, hanc⟩ := move_down hwf h hc hff
  obtain ⟨p, hp⟩ := pathUp_some hwf h hpd j' (fuelOf s.n) 0 [] (Nat.zero_le _) (by unfold fuelOf; omega)
  rw [show headId (pd.drop 0) = dst from hpdh, ← hcom, ← hff, hanc] at hp
  have hdn := pathUp_down h _ _ _ [] p (Or.inr hdst) trivial hp
  exact ⟨min i' path.length, p, Nat.min_le_right _ _, hanc, hanc ▸ hdown, hp, hdn.1, hdn.2⟩

theorem moveToBlock_spec (hwf : WF bs) (h : JD bs s) {path : List Block} (hc : Chain bs s.n path) (he : s.err = none)
    (dst : BlockId) (hdst : InT s.n.tree dst) (hf : (moveToBlock s dst).foreign = false) :
    JD bs (moveToBlock s dst) ∧ (moveToBlock s dst).n.tree = s.n.tree ∧
    ∃ path', Chain bs (moveToBlock s dst).n path' ∧ ((moveToBlock s dst).err = none → headId path' = dst) := by
  obtain ⟨i, p, _, hff, hdown, hp, hD, hlast⟩ := road hwf h hc hdst
  have hfu : (undoN s i).foreign = false := hdown ▸ hff ▸ moveToBlock_undone s dst hf
  unfold moveToBlock
  simp only []
  rw [hff, hdown]
  obtain ⟨h1, t1, path1, hc1, e1⟩ := undoN_spec hwf i s path h hc hfu
  split
  · rename_i herr
    exact ⟨h1, t1, path1, hc1, fun h0 => by rw [h0] at herr; cases herr⟩
  · rename_i herr
    have he1 : (undoN s i).err = none := Option.not_isSome_iff_eq_none.1 herr
    obtain ⟨_, hp1, _⟩ := e1 he1
    have hN : Neutral bs (undoN s i) ((undoN s i).emit .nop .moveUndone) := Neutral.emit _ .nop .moveUndone trivial
    have ht2 : ((undoN s i).emit .nop .moveUndone).n.tree = s.n.tree := t1
    rw [pathUp_tree ht2]
    simp only [hp]
    obtain ⟨r1, r2, path', r3, r4⟩ := parsePath_spec hwf p _ path1 (h1.neutral hN) (hc1.neutral hN)
      (by rw [ht2, hp1]; exact hD) he1
    split
    · rename_i herr2
      exact ⟨r1, r2.trans t1, path', r3, fun h0 => by rw [h0] at herr2; cases herr2⟩
    · rename_i herr2
      have hN3 := Neutral.emit (bs := bs) (parsePath ((undoN s i).emit .nop .moveUndone) p) .nop .moveDone trivial
      exact ⟨r1.neutral hN3, r2.trans t1, path', r3.neutral hN3,
        fun _ => by rw [r4 (Option.not_isSome_iff_eq_none.1 herr2), hp1]; exact hlast⟩

end GocoinV.Proofs.C07
