/-
  Proofs.C07Torn — a snapshot file that cannot be read (torn UTXO.db and/or UTXO.old: power loss, full disk) at ANY crash prefix
  of ANY history: the directory stays good, NewChainExt opens it at UTXO.old's state / at genesis.
  Crash points that differ by pure hook points are the same crash (`crash_points_of_changes`).  Core Lean only.
-/
import GocoinV.Proofs.C07Hist
import GocoinV.Model.PersistSpec
namespace GocoinV.Proofs.C07
open GocoinV.Persist

theorem ids_tearDb (d : Disk) (a b : Bool) : ids (tearDb d a b) = ids d := rfl

theorem tearDb_inv {P : Snap → Prop} {d : Disk} (hd : DiskInv P d) (a b : Bool) : DiskInv P (tearDb d a b) := by
  refine { hd with dbGood := fun sn h => ?_, oldGood := fun sn h => ?_ }
  · cases a
    · exact hd.dbGood sn h
    · cases h
  · cases b
    · exact hd.oldGood sn h
    · cases h

theorem crashAt_eq_restartFrom' (bigs : List Coin) (ops : List Op) (k : Nat) :
    crashAt bigs ops k = restartFrom (applyAll {} ((run bigs ops).es.take k)) bigs ops := rfl

/-- NewChainExt on the directory left by a crash after ANY k effects of ANY history, with UTXO.db and/or UTXO.old unreadable -/
theorem torn_reopen' (bigs : List Coin) (ops : List Op) (k : Nat) (a b : Bool) :
    ∃ s1, openNode (tearDb (applyAll {} ((run bigs ops).es.take k)) a b) bigs 0 = .ok s1 ∧ s1.err = none ∧
      ((s1.n.tip = 0 ∧ s1.n.utxo = [] ∧ s1.n.lastHeight = 0) ∨ PastState bigs ops ⟨s1.n.tip, s1.n.lastHeight, s1.n.utxo⟩) ∧
      inTree s1.n s1.n.tip = true ∧
      ((a = true ∧ b = true) → s1.n.tip = 0 ∧ s1.n.utxo = []) := by
  obtain ⟨q, h⟩ := run_inv bigs ops
  have hd := tearDb_inv (h.pref k) a b
  obtain ⟨s1, ho, _, he, hcase, hin, _⟩ := openNode_inv hd bigs 0
  refine ⟨s1, ho, he, ?_, hin, ?_⟩
  · rcases hcase with ⟨_, h0⟩ | ⟨sn, hl, ht, hu, hh⟩
    · exact Or.inl h0
    · right; rw [ht, hu, hh]; exact (loadSnap_good hd hl).1
  · rintro ⟨rfl, rfl⟩
    rcases hcase with ⟨_, h0, h1', _⟩ | ⟨sn, hl, _⟩
    · exact ⟨h0, h1'⟩
    · simp [loadSnap, tearDb] at hl

/-- the k-th effect is a pure hook point -/
def nopAt (es : List LEffect) (k : Nat) : Bool :=
  match es[k]? with
  | some (.nop, _) => true
  | _ => false

/-- a kill right after a pure hook point leaves the directory of a kill right before it -/
theorem applyAll_take_succ_of_nop (d : Disk) (es : List LEffect) (k : Nat) (h : nopAt es k = true) :
    applyAll d (es.take (k + 1)) = applyAll d (es.take k) := by
  unfold nopAt at h
  split at h
  · rename_i p he
    rw [List.take_add_one, he, applyAll_append]
    rfl
  · cases h

theorem crashAt_succ_of_nop (bigs : List Coin) (ops : List Op) (k : Nat) (h : nopAt (run bigs ops).es k = true) :
    crashAt bigs ops (k + 1) = crashAt bigs ops k := by
  rw [crashAt_eq_restartFrom', crashAt_eq_restartFrom', applyAll_take_succ_of_nop _ _ k h]

theorem consistentAt_succ_of_nop (bigs : List Coin) (ops : List Op) (k : Nat) (h : nopAt (run bigs ops).es k = true) :
    consistentAt bigs ops (k + 1) = consistentAt bigs ops k := by
  unfold consistentAt
  rw [crashAt_succ_of_nop bigs ops k h]

theorem foreignAt_succ_of_nop (bigs : List Coin) (ops : List Op) (k : Nat) (h : nopAt (run bigs ops).es k = true) :
    foreignAt bigs ops (k + 1) = foreignAt bigs ops k := by
  unfold foreignAt
  rw [crashAt_succ_of_nop bigs ops k h]

theorem crashForeign_succ_of_nop (bigs : List Coin) (ops : List Op) (k : Nat) (h : nopAt (run bigs ops).es k = true) :
    crashForeign bigs ops (k + 1) = crashForeign bigs ops k := by
  unfold crashForeign crashS3
  rw [applyAll_take_succ_of_nop _ _ k h]

/-- a table `f = g` over the crash points 0 … N of an effect list need only be evaluated at 0 and right after the effects
    that change the directory, provided `g` does not change across a pure hook point -/
theorem crash_points_of_changes {α : Type} (es : List LEffect) (f g : Nat → α)
    (hf : ∀ k, nopAt es k = true → f (k + 1) = f k) (N : Nat)
    (h : ∀ k, k < N + 1 → (k ≠ 0 ∧ nopAt es (k - 1) = true ∧ g k = g (k - 1)) ∨ f k = g k) :
    ∀ k, k ≤ N → f k = g k
  | 0, h0 => (h 0 (by omega)).resolve_left (fun c => c.1 rfl)
  | k + 1, hk => by
    rcases h (k + 1) (by omega) with ⟨_, hn, hg⟩ | e
    · rw [hf k hn, hg]; exact crash_points_of_changes es f g hf N h k (by omega)
    · exact e

/-- the witness history at every crash point, evaluated once: consistency fails, and the restart reads an undo file of
    another block (both ghost flags), exactly inside the window -/
theorem witness_table : ∀ k, k ≤ (run [] witnessOps).es.length →
    (consistentAt [] witnessOps k, foreignAt [] witnessOps k, crashForeign [] witnessOps k) =
      (!decide (witnessLo ≤ k ∧ k < witnessHi), decide (witnessLo ≤ k ∧ k < witnessHi), decide (witnessLo ≤ k ∧ k < witnessHi)) :=
  crash_points_of_changes _ _ _ (fun k h => by
    rw [consistentAt_succ_of_nop _ _ k h, foreignAt_succ_of_nop _ _ k h, crashForeign_succ_of_nop _ _ k h]) _ (by decide +kernel)
end GocoinV.Proofs.C07
