/-
  Proofs.C07Hist — the restart keeps / re-establishes the invariant, whole histories keep it, and what
  NewChainExt makes of ANY crash prefix of ANY history.  Core Lean only.
-/
import GocoinV.Proofs.C07AcceptIdle
namespace GocoinV.Proofs.C07
open GocoinV.Persist

variable {P : Snap → Prop} {base : Disk} {T : List BlockId} {Q : List Block} {s : St}

/-! ### NewChainExt -/

theorem loadSnap_good {d : Disk} (hd : DiskInv P d) {sn : Snap} (h : loadSnap d = some sn) : GoodSnap P d sn :=
  (loadSnap_some h).elim (hd.dbGood _) (hd.oldGood _)

theorem find_idx_some (l : List IdxRec) (id : BlockId) (h : id ∈ l.map (·.id)) :
    (List.find? (fun (x : BRec) => x.id == id) (l.map (fun r => ({ id := r.id, trusted := r.trusted, onDisk := true } : BRec)))).isSome := by
  rw [List.find?_isSome]
  obtain ⟨r, hr, e⟩ := List.mem_map.1 h
  exact ⟨_, List.mem_map_of_mem hr, by simp [e]⟩

theorem find_idx_mem (l : List IdxRec) (id : BlockId) (r : BRec)
    (h : List.find? (fun (x : BRec) => x.id == id) (l.map (fun r => ({ id := r.id, trusted := r.trusted, onDisk := true } : BRec))) = some r) :
    r.onDisk = true ∧ id ∈ l.map (·.id) := by
  have hid : r.id = id := by simpa using List.find?_some h
  obtain ⟨x, hx, rfl⟩ := List.mem_map.1 (List.mem_of_find?_eq_some h)
  exact ⟨rfl, List.mem_map.2 ⟨x, hx, hid⟩⟩

theorem fresh_node {d1 : Disk} (hd1 : DiskInv P d1) (n : Node)
    (hrecs : n.recs = d1.idx.map (fun r => ({ id := r.id, trusted := r.trusted, onDisk := true } : BRec)))
    (htree : n.tree = d1.idx.map (fun r => ({ id := r.id, parent := r.parent, height := r.height } : TNode)))
    (hmem : n.mem = []) (htip : n.tip = 0 ∨ n.tip ∈ ids d1) : NodeInv n (ids d1) [] (· = 0) [] := by
  constructor
  · intro id r hr _; rw [hrecs] at hr; exact (find_idx_mem _ _ _ hr).2
  · intro id r hr ho; rw [hrecs] at hr; rw [(find_idx_mem _ _ _ hr).1] at ho; cases ho
  · intro b hb; cases hb
  · intro id hid; rw [hrecs]; exact find_idx_some _ _ hid
  · rw [hrecs]; exact htip.imp id (find_idx_some _ _)
  · rw [htree, hrecs]
    exact List.forall_mem_map.2 fun r hr => Or.inr (find_idx_some _ _ (List.mem_map_of_mem hr))
  · rw [htree, hrecs]
    exact List.forall_mem_map.2 fun r hr => (hd1.idxClosed r hr).imp id (find_idx_some _ _)
  · intro b hb; rw [hmem] at hb; cases hb
  · intro id hid; cases hid
  · trivial

/-- the node NewChainExt builds from a good directory: the whole index file as block tree and as BlockDB index -/
def openBase (d : Disk) (bigs : List Coin) (skip : Nat) : Node :=
  { tree := d.idx.map (fun r => { id := r.id, parent := r.parent, height := r.height }),
    recs := d.idx.map (fun r => { id := r.id, trusted := r.trusted, onDisk := true }), bigs := bigs, skip := skip }

/-- genesis and every indexed block are in the tree NewChainExt builds -/
theorem openBase_inTree {d : Disk} (bigs : List Coin) (skip : Nat) {t : BlockId} (h : t = 0 ∨ t ∈ ids d) :
    inTree (openBase d bigs skip) t = true := by
  simpa [inTree, openBase, ids] using h

/-- … at the snapshot it loads (genesis and the empty set when there is none), after NewUnspentDb's removals -/
def opened (d : Disk) (bigs : List Coin) (skip : Nat) : St :=
  { n := match loadSnap d with
      | none => openBase d bigs skip
      | some sn => { openBase d bigs skip with tip := sn.tip, tipHeight := sn.height, utxo := sn.coins, lastHeight := sn.height,
                                               heightOnDisk := sn.height },
    d := (recoverUnspent d).1, es := (recoverUnspent d).2.1 }

/-- NewChainExt on a good directory does not panic ("Last Block Hash not found"): the snapshot's block is indexed -/
theorem openNode_eq {d : Disk} (hd : DiskInv P d) (bigs : List Coin) (skip : Nat) :
    openNode d bigs skip = .ok (opened d bigs skip) := by
  have hd1 := recover_inv hd
  have hf := recover_fields d
  have hrecs : ((recoverUnspent d).1.idx.filter (fun r => !r.invalid)) = d.idx := by
    rw [List.filter_eq_self.2 (fun r hr => by simp [hd1.idxValid r hr]), hf.2.2.2.2.1]
  have htree : loadTree (recoverUnspent d).1 = (openBase d bigs skip).tree := by rw [loadTree_all hd1, hf.2.2.2.2.1]; rfl
  unfold openNode opened
  simp only [hrecs, htree, recover_snap]
  cases hl : loadSnap d with
  | none => rfl
  | some sn =>
    have hcheck : (sn.tip != 0 && !(openBase d bigs skip).tree.any (·.id == sn.tip)) = false := by
      have hin := openBase_inTree bigs skip (loadSnap_good hd hl).2
      rw [inTree, Bool.or_eq_true, beq_iff_eq] at hin
      rcases hin with h0 | h0 <;> simp [h0]
    simp only [hcheck]
    rfl

theorem opened_n (d : Disk) (bigs : List Coin) (skip : Nat) :
    (opened d bigs skip).n.tree = (openBase d bigs skip).tree ∧ (opened d bigs skip).n.recs = (openBase d bigs skip).recs ∧
    (opened d bigs skip).n.mem = [] ∧ (opened d bigs skip).n.queue = [] ∧
    (opened d bigs skip).n.tipHeight = (opened d bigs skip).n.lastHeight ∧ (opened d bigs skip).n.saving = none ∧
    (opened d bigs skip).n.skip = skip := by
  unfold opened
  cases loadSnap d <;> exact ⟨rfl, rfl, rfl, rfl, rfl, rfl, rfl⟩

theorem opened_snap (d : Disk) (bigs : List Coin) (skip : Nat) :
    (loadSnap d = none ∧ (opened d bigs skip).n.tip = 0 ∧ (opened d bigs skip).n.utxo = [] ∧ (opened d bigs skip).n.lastHeight = 0) ∨
    ∃ sn, loadSnap d = some sn ∧ (opened d bigs skip).n.tip = sn.tip ∧ (opened d bigs skip).n.utxo = sn.coins ∧
      (opened d bigs skip).n.lastHeight = sn.height := by
  unfold opened
  cases h : loadSnap d with
  | none => exact Or.inl ⟨rfl, rfl, rfl, rfl⟩
  | some sn => exact Or.inr ⟨sn, rfl, rfl, rfl, rfl⟩

/-- NewChainExt on a good directory: it does not panic; it comes up at the snapshot the directory holds (or at
    genesis with the empty set when it holds none); the node it builds satisfies the invariant -/
theorem openNode_inv {d : Disk} (hd : DiskInv P d) (bigs : List Coin) (skip : Nat) :
    ∃ s1, openNode d bigs skip = .ok s1 ∧ InvQ ⟨P, d, (· = 0), [], [], []⟩ s1 ∧ s1.err = none ∧
      ((loadSnap d = none ∧ s1.n.tip = 0 ∧ s1.n.utxo = [] ∧ s1.n.lastHeight = 0) ∨
       (∃ sn, loadSnap d = some sn ∧ s1.n.tip = sn.tip ∧ s1.n.utxo = sn.coins ∧ s1.n.lastHeight = sn.height)) ∧
      inTree s1.n s1.n.tip = true ∧ s1.n.skip = skip := by
  obtain ⟨htree, hrecs, hmem, hq, _, hsav, hskip⟩ := opened_n d bigs skip
  have hd1 := recover_inv hd
  have hf := recover_fields d
  have hidx : (recoverUnspent d).1.idx = d.idx := hf.2.2.2.2.1
  have hls : loadSnap (recoverUnspent d).1 = loadSnap d := loadSnap_of _ _ hf.1 hf.2.1
  -- the tip is genesis or indexed
  have htip : (opened d bigs skip).n.tip = 0 ∨ (opened d bigs skip).n.tip ∈ ids (recoverUnspent d).1 := by
    rcases opened_snap d bigs skip with ⟨_, h0, _⟩ | ⟨sn, hl, h0, _⟩
    · exact Or.inl h0
    · rw [h0]; exact (loadSnap_good hd1 (hls.trans hl)).2
  refine ⟨_, openNode_eq hd bigs skip, ⟨rfl, ?_, ?_, ⟨?_, ?_⟩, hq⟩, rfl, opened_snap d bigs skip, ?_, hskip⟩
  · -- the history of the re-opening process so far: only removals
    exact fun k => applyAll_safe _ _ hd fun e he => recover_safe d e (List.mem_of_mem_take he)
  · exact fresh_node hd1 _ (by rw [hrecs, hidx]; rfl) (by rw [htree, hidx]; rfl) hmem htip
  · intro sn k hk; rw [hsav] at hk; cases hk
  · intro _
    show loadSnap (recoverUnspent d).1 = _ ∨ loadSnap (recoverUnspent d).1 = _ ∧ _
    rw [hls]
    rcases opened_snap d bigs skip with ⟨hl, h1, h2, h3⟩ | ⟨sn, hl, h1, h2, h3⟩
    · exact Or.inr ⟨hl, h1, h3, h2⟩
    · exact Or.inl (by rw [hl, h1, h2, h3])
  · rw [inTree, htree]
    rw [ids, hidx] at htip
    exact openBase_inTree bigs skip htip

/-! ### the client's recovery loop -/

theorem feedPath_inv : ∀ (p : List BlockId) (s : St) (Q : List Block), InvQ ⟨P, base, (· = 0), T, Q, Q⟩ s →
    ∃ q, InvQ ⟨P, base, (· = 0), T, q, q⟩ (feedPath s p)
  | [], _, Q, h => ⟨Q, h⟩
  | id :: rest, s, Q, h => by
    unfold feedPath
    split
    · exact ⟨Q, h⟩
    · rename_i herr
      split
      · exact ⟨Q, h.fail _⟩
      · rename_i b hb
        have herr' : (abortSave s).err = none := by
          rw [abortSave_err]
          exact Option.not_isSome_iff_eq_none.1 herr
        have hp : b.parent = 0 ∨ (rf[(abortSave s).n, b.parent]).isSome := by
          rw [abortSave_recs]
          exact (h.disk.datParent b (List.mem_of_find?_eq_some hb)).imp (fun x => x) (h.node.idxRec _)
        obtain ⟨q, h1⟩ := commitBlock_inv (abortSave_inv h) b herr' hp (fun i hi => Or.inl hi)
        exact feedPath_inv rest _ q h1

theorem clientRecover_inv (h : InvQ ⟨P, base, (· = 0), T, Q, Q⟩ s) :
    ∃ q, InvQ ⟨P, base, (· = 0), T, q, q⟩ (clientRecover s) := by
  unfold clientRecover
  simp only []
  split
  · exact ⟨Q, h⟩
  · split
    · exact ⟨Q, h.fail _⟩
    · exact feedPath_inv _ _ Q h

/-- a state produced by a restart on the running node's directory continues the running node's history -/
theorem rebase {s s2 : St} {q : List Block} (hs : Hist ⟨P, base, (· = 0), [], Q, Q⟩ s)
    (h2 : InvQ ⟨P, s.d, (· = 0), [], q, q⟩ s2) (n' : Node) (f : Bool)
    (h1 : n'.recs = s2.n.recs) (h2' : n'.tip = s2.n.tip) (h3 : n'.tree = s2.n.tree) (h4 : n'.mem = s2.n.mem)
    (h5 : n'.utxo = s2.n.utxo) (h6 : n'.lastHeight = s2.n.lastHeight) (h7 : n'.dirty = s2.n.dirty)
    (h8 : n'.saving = s2.n.saving) (h9 : n'.queue = s2.n.queue) :
    InvQ ⟨P, base, (· = 0), [], q, q⟩ { s2 with es := s.es ++ s2.es, foreign := f, n := n' } := by
  have hb := (h2.setNode n' h1 h2' h3 h4 h5 h6 h7 h8 h9)
  refine ⟨?_, ?_, hb.node, hb.snap, hb.qeq⟩
  · show s2.d = applyAll base (s.es ++ s2.es)
    rw [applyAll_append, ← hs.hist]; exact h2.hist
  · intro k
    show DiskInv P (applyAll base ((s.es ++ s2.es).take k))
    rw [List.take_append, applyAll_append]
    by_cases hk : k ≤ s.es.length
    · have : k - s.es.length = 0 := by omega
      rw [this, List.take_zero, applyAll_nil]; exact hs.pref k
    · rw [List.take_of_length_le (by omega), ← hs.hist]; exact h2.pref _

/-! ### one operation, whole histories -/

theorem step_inv (h : InvQ ⟨P, base, (· = 0), [], Q, Q⟩ s) (hP : P ⟨s.n.tip, s.n.lastHeight, s.n.utxo⟩) (op : Op) :
    ∃ q, InvQ ⟨P, base, (· = 0), [], q, q⟩ (step s op) := by
  cases op with
  | submit b => exact submit_inv h b
  | idle => exact idle_inv h hP
  | close => exact close_inv h hP
  | skip _ | pause _ => exact ⟨Q, h.setNode _ rfl rfl rfl rfl rfl rfl rfl rfl rfl⟩
  | hurry =>
    simp only [step]
    split
    · exact ⟨Q, h⟩
    · exact ⟨Q, hurrySave_inv h⟩
  | reopen =>
    simp only [step]
    split
    · exact ⟨Q, h⟩
    · obtain ⟨s1, ho, h1, _, _, _, _⟩ := openNode_inv h.disk s.n.bigs 0
      simp only [recover, ho]
      obtain ⟨q, h2⟩ := clientRecover_inv h1
      split
      · exact ⟨Q, (h.fail _).setForeign _⟩
      · rename_i s' heq
        split at heq
        · cases heq
        · cases heq
          exact ⟨q, rebase h.toHist h2 _ _ rfl rfl rfl rfl rfl rfl rfl rfl rfl⟩

theorem init_inv (bigs : List Coin) : InvQ ⟨P, {}, (· = 0), [], [], []⟩ { n := { bigs := bigs }, d := {} } := by
  refine ⟨rfl, ?_, ?_, ?_, rfl⟩
  · intro k; simp only [List.take_nil]; exact DiskInv.empty P
  · constructor <;> simp [ids]
    trivial
  · exact ⟨fun sn k hk => (by cases hk), fun _ => Or.inr ⟨rfl, rfl, rfl, rfl⟩⟩

/-- "a (tip, unspent set) pair the running node held at an operation boundary" -/
def PastState (bigs : List Coin) (ops : List Op) (sn : Snap) : Prop :=
  ∃ j, j ≤ ops.length ∧ (run bigs (ops.take j)).n.tip = sn.tip ∧ (run bigs (ops.take j)).n.utxo = sn.coins ∧
    (run bigs (ops.take j)).n.lastHeight = sn.height

theorem run_take_succ (bigs : List Coin) (ops : List Op) (j : Nat) (h : j < ops.length) :
    run bigs (ops.take (j + 1)) = step (run bigs (ops.take j)) ops[j] := by
  unfold run
  rw [List.take_add_one, List.getElem?_eq_getElem h, List.foldl_append]
  rfl

/-- the invariant at every operation boundary `j` of the history; the side condition of Idle / Close ("the state to be saved is
    one the node held at a boundary") is boundary `j` itself -/
theorem run_invQ (bigs : List Coin) (ops : List Op) : ∀ j, j ≤ ops.length →
    ∃ q, InvQ ⟨PastState bigs ops, {}, (· = 0), [], q, q⟩ (run bigs (ops.take j))
  | 0, _ => ⟨[], init_inv bigs⟩
  | j + 1, hj => by
    obtain ⟨q, hq⟩ := run_invQ bigs ops j (by omega)
    rw [run_take_succ bigs ops j hj]
    exact step_inv hq ⟨j, by omega, rfl, rfl, rfl⟩ _

theorem run_inv (bigs : List Coin) (ops : List Op) :
    ∃ q, InvQ ⟨PastState bigs ops, {}, (· = 0), [], q, q⟩ (run bigs ops) := by
  have := run_invQ bigs ops ops.length (Nat.le_refl _)
  rwa [List.take_length] at this


/-- NewChainExt on the directory left by a crash after ANY k effects of ANY history -/
theorem crash_reopen' (bigs : List Coin) (ops : List Op) (k : Nat) :
    ∃ s1, openNode (applyAll {} ((run bigs ops).es.take k)) bigs 0 = .ok s1 ∧
      ((s1.n.tip = 0 ∧ s1.n.utxo = [] ∧ s1.n.lastHeight = 0) ∨ PastState bigs ops ⟨s1.n.tip, s1.n.lastHeight, s1.n.utxo⟩) ∧
      inTree s1.n s1.n.tip = true ∧
      (∀ r ∈ s1.d.idx, (∃ b ∈ s1.d.dat, b.id = r.id) ∧ r.invalid = false ∧ (r.parent = 0 ∨ ∃ r' ∈ s1.d.idx, r'.id = r.parent)) ∧
      (∀ b ∈ s1.d.dat, b.parent = 0 ∨ ∃ r ∈ s1.d.idx, r.id = b.parent) := by
  obtain ⟨q, h⟩ := run_inv bigs ops
  have hd := h.pref k
  obtain ⟨s1, ho, h1, _, hcase, hin, _⟩ := openNode_inv hd bigs 0
  have hd1 := h1.disk
  have memids : ∀ x, x ∈ ids s1.d → ∃ r ∈ s1.d.idx, r.id = x := by
    intro x hx; simpa [ids] using hx
  refine ⟨s1, ho, ?_, hin, ?_, ?_⟩
  · rcases hcase with ⟨_, h0, h1', h2'⟩ | ⟨sn, hl, ht, hu, hh⟩
    · exact Or.inl ⟨h0, h1', h2'⟩
    · right; rw [ht, hu, hh]; exact (loadSnap_good hd hl).1
  · intro r hr
    exact ⟨hd1.datCovers r.id (List.mem_map_of_mem hr), hd1.idxValid r hr, (hd1.idxClosed r hr).imp id (memids _)⟩
  · intro b hb
    exact (hd1.datParent b hb).imp id (memids _)

theorem close_err_some (s : St) (h : s.err.isSome = true) : close s = s := by
  unfold close; simp [h]

theorem hurrySave_dirty (s : St) (h : s.n.saving.isSome = true) : (hurrySave s).n.dirty = false := by
  unfold hurrySave
  split
  · rename_i hn; rw [hn] at h; cases h
  · rfl

theorem startSave_true_dirty (s : St) (h : ¬ s.n.saving.isSome = true) : (startSave s true).n.dirty = false := by
  unfold startSave
  rw [if_neg h]
  simp only [Bool.not_true, Bool.and_false]
  rfl

theorem close_clean (s : St) (h : s.err = none) : (close s).n.dirty = false := by
  unfold close
  rw [if_neg (by simp [h])]
  simp only []
  split
  · split
    · rename_i hs; exact hurrySave_dirty _ hs
    · rename_i hs; exact startSave_true_dirty _ hs
  · rename_i hd; simpa using hd

/-- NewChainExt after a clean shutdown: exactly the node's tip, unspent set (same list) and height -/
theorem clean_restart_reopen' (bigs : List Coin) (ops : List Op) (herr : (run bigs (ops ++ [.close])).err = none) :
    ∃ s1, openNode (run bigs (ops ++ [.close])).d bigs 0 = .ok s1 ∧
      s1.n.tip = (run bigs (ops ++ [.close])).n.tip ∧ s1.n.utxo = (run bigs (ops ++ [.close])).n.utxo ∧
      s1.n.lastHeight = (run bigs (ops ++ [.close])).n.lastHeight := by
  obtain ⟨q, h⟩ := run_inv bigs (ops ++ [.close])
  have hrun : run bigs (ops ++ [.close]) = close (run bigs ops) := by
    simp [run, step]
  have herr0 : (run bigs ops).err = none := Option.not_isSome_iff_eq_none.1 fun hx => by
    rw [hrun, close_err_some _ hx] at herr; rw [herr] at hx; cases hx
  have hdirty : (run bigs (ops ++ [.close])).n.dirty = false := by rw [hrun]; exact close_clean _ herr0
  obtain ⟨s1, ho, _, _, hcase, _, _⟩ := openNode_inv h.disk bigs 0
  refine ⟨s1, ho, ?_⟩
  rcases h.snap.cleanOK hdirty with hl | ⟨hl, h1, h2, h3⟩
  · rcases hcase with ⟨hn, _⟩ | ⟨sn, hs, a1, a2, a3⟩
    · rw [hn] at hl; cases hl
    · rw [hs] at hl; cases hl; exact ⟨a1, a2, a3⟩
  · rcases hcase with ⟨_, a1, a2, a3⟩ | ⟨sn, hs, _⟩
    · exact ⟨a1.trans h1.symm, a2.trans h3.symm, a3.trans h2.symm⟩
    · rw [hs] at hl; cases hl

end GocoinV.Proofs.C07
