/-
  Proofs.C07J — the "consistency" invariant of the persistence model: provenance of everything on disk
  (`Prov`: every data block / index record / undo file comes from the block universe `bs`, every snapshot
  file holds the replay of its block's chain), the same for every emitted effect (`EffB`, which gives `Prov`
  at EVERY crash prefix), and the in-memory chain (`Chain`: the node's unspent set is the replay of an
  explicit chain ending at its tip).  `JD bs s` = `Prov` of the disk, `EffB` of every emitted effect, and cache, write queue
  and tree nodes from `bs` (everything of the invariant `J` except the chain).  `Neutral` = steps that touch none of this.
  This is the second of three walks through the operations of Model/Persist.lean.  The first (`InvQ`, `EffOK`: Proofs/C07Disk,
  C07Node, C07Ops, C07AcceptIdle, C07Hist) couples disk and node for EVERY history and any snapshot content `P`: every crash
  directory reopens.  This one (`J` = `JD` + `Chain`; `EffB`) says what the contents ARE; it holds only over a well-formed
  block universe and while no undo file of another block is read, also along runs that end in a panic, and its reopen case
  takes the disk facts from `InvQ`.  The third (`K`, `EffU`, `Fr`: Proofs/C07K, C07KOps, C07KHist) is "no panic, tip = best
  leaf"; every step of it needs `J`'s chain to know which block and undo file must be found.  The three have different
  hypotheses and each is used where the next does not hold (the counterexample history satisfies `InvQ` only; `J`'s lemmas
  speak also of states in which an undo file is missing, where `K0` fails), so they are three inductions, each with its own
  side condition on an emitted effect.
  Core Lean only.
-/
import GocoinV.Proofs.C07Chain
import GocoinV.Proofs.C07Ops
namespace GocoinV.Proofs.C07
open GocoinV.Persist

/-- a snapshot holding the replay of its block's chain (and that chain's length as height) -/
def Cons (bs : List Block) (sn : Snap) : Prop :=
  ∃ path, ChainOK bs path ∧ sn.tip = headId path ∧ SameSet sn.coins (rp path) ∧ sn.height = path.length

def OwnUndo (bs : List Block) (u : UndoFile) : Prop := ∃ b ∈ bs, u = ⟨b.id, b.spends⟩
def RecOf (bs : List Block) (r : IdxRec) : Prop := ∃ b ∈ bs, b.id = r.id ∧ b.parent = r.parent ∧ b.height = r.height

structure Prov (bs : List Block) (d : Disk) : Prop where
  datB : ∀ b ∈ d.dat, b ∈ bs
  idxB : ∀ r ∈ d.idx, RecOf bs r
  undoB : ∀ p ∈ d.undo, OwnUndo bs p.2
  tmpB : ∀ u, d.undoTmp = some u → OwnUndo bs u
  dbB : ∀ sn, d.db = some sn → Cons bs sn
  oldB : ∀ sn, d.old = some sn → Cons bs sn
  tmpsB : ∀ t ∈ d.tmps, Cons bs t.snap

theorem Prov.empty (bs : List Block) : Prov bs {} := by
  constructor <;> simp

/-- state-independent side condition of an effect -/
def EffB (bs : List Block) : Effect → Prop
  | .appendDat b => b ∈ bs
  | .appendIdx r => RecOf bs r
  | .writeUndoTmp u => OwnUndo bs u
  | .createTmp sn => Cons bs sn
  | _ => True

theorem apply_prov {bs : List Block} {d : Disk} (h : Prov bs d) (e : Effect) (ok : EffB bs e) : Prov bs (apply d e) := by
  have tg : ∀ t ∈ (apply d e).tmps, Cons bs t.snap := fun t ht =>
    (tmps_apply ht).elim (fun ⟨t0, h0, e0⟩ => e0 ▸ h.tmpsB t0 h0) (fun e' => by subst e'; exact ok)
  cases e with
  | nop => exact h
  | renameDbOld =>
    simp only [apply]
    split
    · exact h
    · rename_i s hs
      exact { h with dbB := by intro sn hsn; simp at hsn, oldB := by intro sn hsn; simp at hsn; subst hsn; exact h.dbB _ hs }
  | createTmp _ | chunkTmp _ | flushTmp _ | removeTmp _ => exact { h with tmpsB := tg }
  | renameTmpDb t =>
    simp only [apply] at tg ⊢
    split
    · exact h
    · rename_i x hx
      simp only [hx] at tg
      exact { h with dbB := by intro sn hsn; simp at hsn; subst hsn; exact h.tmpsB x (List.mem_of_find?_eq_some hx), tmpsB := tg }
  | writeUndoTmp u =>
    refine { h with tmpB := ?_ }
    intro u' hu'
    simp only [apply, Option.some.injEq] at hu'
    subst hu'; exact ok
  | renameUndoTmp hh =>
    simp only [apply]
    split
    · exact h
    · rename_i u hu
      exact { h with tmpB := by intro u' hu'; simp at hu'
                     undoB := List.forall_mem_cons.2 ⟨h.tmpB u hu, fun p hp => h.undoB p (List.mem_filter.1 hp).1⟩ }
  | removeUndoTmp => exact { h with tmpB := by intro u' hu'; simp [apply] at hu' }
  | appendDat b =>
    exact { h with datB := List.forall_mem_append.2 ⟨h.datB, List.forall_mem_singleton.2 ok⟩ }
  | appendIdx r =>
    exact { h with idxB := List.forall_mem_append.2 ⟨h.idxB, List.forall_mem_singleton.2 ok⟩ }
  | setTrusted id =>
    refine { h with idxB := List.forall_mem_map.2 fun x hx => ?_ }
    have := h.idxB x hx
    split <;> exact this

theorem applyAll_prov {bs : List Block} : ∀ (es : List LEffect) (d : Disk), Prov bs d → (∀ e ∈ es, EffB bs e.1) →
    Prov bs (applyAll d es) :=
  fun es _ h hs => List.foldlRecOn (motive := Prov bs) es _ h fun _ hd e he => apply_prov hd e.1 (hs e he)

/-! ### the in-memory chain -/

structure Chain (bs : List Block) (n : Node) (path : List Block) : Prop where
  ok : ChainOK bs path
  tip : n.tip = headId path
  utxo : SameSet n.utxo (rp path)
  lastH : n.lastHeight = path.length
  tipH : n.tipHeight = path.length
  inT : ∀ b ∈ path, ∃ t ∈ n.tree, t.id = b.id

theorem Chain.congr {bs : List Block} {n n' : Node} {path : List Block} (h : Chain bs n path)
    (h1 : n'.tip = n.tip) (h2 : n'.utxo = n.utxo) (h3 : n'.lastHeight = n.lastHeight) (h4 : n'.tipHeight = n.tipHeight)
    (h5 : n'.tree = n.tree) : Chain bs n' path :=
  ⟨h.ok, h1 ▸ h.tip, h2 ▸ h.utxo, h3 ▸ h.lastH, h4 ▸ h.tipH, h5 ▸ h.inT⟩

theorem Chain.cons (bs : List Block) {n : Node} {path : List Block} (h : Chain bs n path) : Cons bs ⟨n.tip, n.lastHeight, n.utxo⟩ :=
  ⟨path, h.ok, h.tip, h.utxo, h.lastH⟩

/-- everything of the invariant except the chain -/
structure JD (bs : List Block) (s : St) : Prop where
  prov : Prov bs s.d
  effs : ∀ e ∈ s.es, EffB bs e.1
  memB : ∀ b ∈ s.n.mem, b ∈ bs
  queueB : ∀ b ∈ s.n.queue, b ∈ bs
  treeB : ∀ t ∈ s.n.tree, ∃ b ∈ bs, b.id = t.id ∧ b.parent = t.parent ∧ b.height = t.height
  treeC : ∀ t ∈ s.n.tree, t.parent = 0 ∨ ∃ t' ∈ s.n.tree, t'.id = t.parent

theorem JD.prov_take {bs : List Block} {s : St} (h : JD bs s) (k : Nat) : Prov bs (applyAll {} (s.es.take k)) :=
  applyAll_prov _ _ (Prov.empty bs) (fun e he => h.effs e (List.mem_of_mem_take he))

/-- a step that changes neither tip, set, heights, tree, ghost flag nor error, adds only blocks of `bs` to the cache and
    the write queue, and emits only effects satisfying `EffB` -/
structure Neutral (bs : List Block) (s s' : St) : Prop where
  tip : s'.n.tip = s.n.tip
  utxo : s'.n.utxo = s.n.utxo
  lastH : s'.n.lastHeight = s.n.lastHeight
  tipH : s'.n.tipHeight = s.n.tipHeight
  tree : s'.n.tree = s.n.tree
  foreign : s'.foreign = s.foreign
  err : s'.err = s.err
  memS : ∀ x ∈ s'.n.mem, x ∈ s.n.mem ∨ x ∈ bs
  queueS : ∀ x ∈ s'.n.queue, x ∈ s.n.queue ∨ x ∈ bs
  disk : Prov bs s.d → Prov bs s'.d
  effs : (∀ e ∈ s.es, EffB bs e.1) → ∀ e ∈ s'.es, EffB bs e.1

variable {bs : List Block} {s s' s'' : St}

theorem Neutral.refl (bs : List Block) (s : St) : Neutral bs s s :=
  ⟨rfl, rfl, rfl, rfl, rfl, rfl, rfl, fun _ h => Or.inl h, fun _ h => Or.inl h, id, id⟩

theorem Neutral.trans (h1 : Neutral bs s s') (h2 : Neutral bs s' s'') : Neutral bs s s'' :=
  ⟨h2.tip.trans h1.tip, h2.utxo.trans h1.utxo, h2.lastH.trans h1.lastH, h2.tipH.trans h1.tipH, h2.tree.trans h1.tree,
   h2.foreign.trans h1.foreign, h2.err.trans h1.err,
   fun x hx => (h2.memS x hx).elim (h1.memS x) Or.inr, fun x hx => (h2.queueS x hx).elim (h1.queueS x) Or.inr,
   fun h => h2.disk (h1.disk h), fun h => h2.effs (h1.effs h)⟩

theorem Neutral.emit (s : St) (e : Effect) (p : Pt) (ok : EffB bs e) : Neutral bs s (s.emit e p) :=
  { Neutral.refl bs s with
    disk := fun h => apply_prov h e ok, effs := fun h => List.forall_mem_append.2 ⟨h, List.forall_mem_singleton.2 ok⟩ }

theorem Neutral.then_emit (h : Neutral bs s s') (e : Effect) (p : Pt) (ok : EffB bs e) : Neutral bs s (s'.emit e p) :=
  h.trans (Neutral.emit s' e p ok)

/-- replacing the node by one that differs only in fields the invariant does not mention -/
theorem Neutral.setNode (s : St) (n' : Node) (h1 : n'.tip = s.n.tip) (h2 : n'.utxo = s.n.utxo)
    (h3 : n'.lastHeight = s.n.lastHeight) (h4 : n'.tipHeight = s.n.tipHeight) (h5 : n'.tree = s.n.tree)
    (h6 : ∀ x ∈ n'.mem, x ∈ s.n.mem ∨ x ∈ bs) (h7 : ∀ x ∈ n'.queue, x ∈ s.n.queue ∨ x ∈ bs) :
    Neutral bs s { s with n := n' } :=
  ⟨h1, h2, h3, h4, h5, rfl, rfl, h6, h7, id, id⟩

theorem Neutral.then_setNode (h : Neutral bs s s') (n' : Node) (h1 : n'.tip = s'.n.tip) (h2 : n'.utxo = s'.n.utxo)
    (h3 : n'.lastHeight = s'.n.lastHeight) (h4 : n'.tipHeight = s'.n.tipHeight) (h5 : n'.tree = s'.n.tree)
    (h6 : ∀ x ∈ n'.mem, x ∈ s'.n.mem ∨ x ∈ bs) (h7 : ∀ x ∈ n'.queue, x ∈ s'.n.queue ∨ x ∈ bs) :
    Neutral bs s { s' with n := n' } :=
  h.trans (Neutral.setNode s' n' h1 h2 h3 h4 h5 h6 h7)

theorem JD.neutral (h : JD bs s) (hn : Neutral bs s s') : JD bs s' := by
  refine ⟨hn.disk h.prov, hn.effs h.effs, ?_, ?_, ?_, ?_⟩
  · intro b hb; exact (hn.memS b hb).elim (h.memB b) id
  · intro b hb; exact (hn.queueS b hb).elim (h.queueB b) id
  · rw [hn.tree]; exact h.treeB
  · rw [hn.tree]; exact h.treeC

theorem Chain.neutral {path : List Block} (h : Chain bs s.n path) (hn : Neutral bs s s') : Chain bs s'.n path :=
  h.congr hn.tip hn.utxo hn.lastH hn.tipH hn.tree

/-- a panic changes only `err` -/
theorem fail_frame (s : St) (m : String) :
    (s.fail m).n = s.n ∧ (s.fail m).d = s.d ∧ (s.fail m).es = s.es ∧ (s.fail m).foreign = s.foreign := by
  unfold St.fail; split <;> exact ⟨rfl, rfl, rfl, rfl⟩

theorem JD.fail (h : JD bs s) (m : String) : JD bs (s.fail m) := by
  obtain ⟨a, b, c, _⟩ := fail_frame s m
  exact ⟨b ▸ h.prov, c ▸ h.effs, a ▸ h.memB, a ▸ h.queueB, a ▸ h.treeB, a ▸ h.treeC⟩

theorem fail_err (s : St) (m : String) : (s.fail m).err ≠ none := by
  unfold St.fail; split
  · rename_i h; exact Option.isSome_iff_ne_none.1 h
  · simp

/-! ### the neutral operations: UnspentDB.save / abort / hurry-up, BlockTrusted, BlockAdd, writeOne -/

theorem fullChunks_neutral (t : BlockId) : ∀ (k : Nat) (s : St), Neutral bs s (fullChunks s t k)
  | 0, s => Neutral.refl bs s
  | k + 1, s => ((Neutral.emit s .nop .saveChunk trivial).then_emit (.chunkTmp t) .fileChunk trivial).trans
      (fullChunks_neutral t k _)

theorem finishSave_neutral (s : St) (sn : Snap) : Neutral bs s (finishSave s sn) := by
  unfold finishSave
  exact ((((Neutral.emit s .nop .saveFinito trivial).then_emit (.chunkTmp sn.tip) .fileChunk trivial).then_emit
    (.flushTmp sn.tip) .fileClosed trivial).then_emit (.renameTmpDb sn.tip) .fileRenamed trivial).then_setNode _ rfl rfl rfl rfl rfl
    (fun _ h => Or.inl h) (fun _ h => Or.inl h)

theorem startSave_neutral (s : St) (hurry : Bool) (hc : Cons bs ⟨s.n.tip, s.n.lastHeight, s.n.utxo⟩) :
    Neutral bs s (startSave s hurry) := by
  unfold startSave
  split
  · exact Neutral.refl bs s
  · have h3 : Neutral bs s (((s.emit .nop .saveBegin).emit .renameDbOld .saveRenamedOld).emit
        (.createTmp ⟨s.n.tip, s.n.lastHeight, s.n.utxo⟩) .fileCreated) :=
      ((Neutral.emit s .nop .saveBegin trivial).then_emit .renameDbOld .saveRenamedOld trivial).then_emit _ .fileCreated hc
    simp only []
    split
    · exact ((h3.then_emit .nop .saveChunk trivial).then_emit (.chunkTmp s.n.tip) .fileChunk trivial).then_setNode _ rfl rfl rfl rfl rfl
        (fun _ h => Or.inl h) (fun _ h => Or.inl h)
    · exact (h3.trans (fullChunks_neutral _ _ _)).trans (finishSave_neutral _ _)

theorem abortSave_neutral (s : St) : Neutral bs s (abortSave s) := by
  unfold abortSave
  split
  · exact Neutral.refl bs s
  · exact (((Neutral.emit s .nop .saveFinito trivial).then_emit .nop .fileAbortClosed trivial).then_emit (.removeTmp _) .fileAbortRemoved trivial).then_setNode
      _ rfl rfl rfl rfl rfl (fun _ h => Or.inl h) (fun _ h => Or.inl h)

theorem hurrySave_neutral (s : St) : Neutral bs s (hurrySave s) := by
  unfold hurrySave
  split
  · exact Neutral.refl bs s
  · exact (fullChunks_neutral _ _ _).trans (finishSave_neutral _ _)

theorem blockTrusted_neutral (s : St) (id : BlockId) : Neutral bs s (blockTrusted s id) := by
  unfold blockTrusted
  split
  · exact Neutral.refl bs s
  · simp only []
    refine ((Neutral.emit s .nop .flagBefore trivial).then_emit _ .flagAfter ?_).then_setNode _ rfl rfl rfl rfl rfl
      (fun _ h => Or.inl h) (fun _ h => Or.inl h)
    split
    · split <;> trivial
    · trivial

theorem blockAdd_neutral (s : St) (b : Block) (t : Bool) (hb : b ∈ bs) : Neutral bs s { s with n := blockAdd s.n b t } := by
  unfold blockAdd
  split
  · refine Neutral.setNode s _ rfl rfl rfl rfl rfl (fun x hx => (mem_ite_snoc hx).imp id fun (e : x = b) => e ▸ hb) ?_
    exact List.forall_mem_append.2 ⟨fun _ h => Or.inl h, List.forall_mem_singleton.2 (Or.inr hb)⟩
  · split
    · exact Neutral.setNode s _ rfl rfl rfl rfl rfl (fun _ h => Or.inl h) (fun _ h => Or.inl h)
    · exact Neutral.refl bs s

theorem commitHead_neutral (s : St) (b : Block) (hb : b ∈ bs) : Neutral bs s (commitHead s b) := by
  unfold commitHead
  split
  · exact (Neutral.emit s .nop .cBeforeBlockAdd trivial).trans (blockTrusted_neutral _ _)
  · exact (Neutral.emit s .nop .cBeforeBlockAdd trivial).trans (blockAdd_neutral _ b true hb)

theorem writeOne_neutral (s : St) (b : Block) (hb : b ∈ bs) : Neutral bs s (writeOne s b) := by
  unfold writeOne
  split
  · exact Neutral.refl bs s
  · split
    · exact Neutral.refl bs s
    · rename_i r _ _
      have hr : EffB bs (.appendIdx { id := b.id, parent := b.parent, height := b.height, trusted := r.trusted, invalid := false }) :=
        ⟨b, hb, rfl, rfl, rfl⟩
      exact ((((Neutral.emit s .nop .wrBeforeDat trivial).then_emit (.appendDat b) .wrDatWritten hb).then_emit _ .wrIdxWritten
        hr).then_emit .nop .wrBeforePublish trivial).then_setNode _ rfl rfl rfl rfl rfl
        (fun _ h => Or.inl h) (fun _ h => Or.inl h)

theorem foldl_writeOne_neutral : ∀ (q : List Block) (s : St), (∀ b ∈ q, b ∈ bs) → Neutral bs s (q.foldl writeOne s) :=
  fun q s h => List.foldlRecOn (motive := Neutral bs s) q _ (Neutral.refl bs s) fun t ht b hb => ht.trans (writeOne_neutral t b (h b hb))

theorem writeAll_neutral (s : St) (hq : ∀ b ∈ s.n.queue, b ∈ bs) : Neutral bs s (writeAll s) := by
  unfold writeAll
  exact (Neutral.setNode s { s.n with queue := [] } rfl rfl rfl rfl rfl (fun _ h => Or.inl h) (fun _ h => by cases h)).trans
    (foldl_writeOne_neutral _ _ hq)

end GocoinV.Proofs.C07
