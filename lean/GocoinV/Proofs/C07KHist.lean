/-
  Proofs.C07KHist — `K s` = `K0 s` (no panic, Proofs/C07KOps.lean) and `MaxH s` (no tree node is higher than the tip) through
  AcceptBlock, Idle, Close, NewChainExt, the client's recovery loop and every single operation of a history.  Whole histories
  and crash points: Proofs/C07KMain.lean.
  Core Lean only.
-/
import GocoinV.Proofs.C07KOps
namespace GocoinV.Proofs.C07
open GocoinV.Persist

variable {bs : List Block} {s : St}

/-- every block in the tree is at most as high as the tip -/
def MaxH (s : St) : Prop := ∀ t ∈ s.n.tree, t.height ≤ s.n.tipHeight

/-- the no-panic invariant of a history: `K0` (Proofs/C07KOps.lean) and no tree node higher than the tip -/
structure K (s : St) : Prop where
  k0 : K0 s
  maxH : MaxH s

theorem K.neutral {s s' : St} (hk : K s) (hn : Neutral bs s s') (hf : Fr s s') : K s' :=
  ⟨hk.k0.neutral hn hf, by intro t ht; rw [hn.tipH]; rw [hn.tree] at ht; exact hk.maxH t ht⟩

/-! ### Chain.CommitBlock, AcceptBlock -/

theorem commitBlock_maxH (hwf : WF bs) (hj : J bs s) (hk : K0 s) (b : Block) (hb : b ∈ bs) (hin : InT s.n.tree b.id)
    (hf : (commitBlock s b).foreign = false) (hm : ∀ t ∈ s.n.tree, t.height ≤ s.n.tipHeight ∨ t.id = b.id) :
    MaxH (commitBlock s b) := by
  obtain ⟨j1, htree⟩ := commitBlock_J hwf hj b hb hin hf
  obtain ⟨_, _, tA, tB⟩ := commitBlock_K hwf hj hk b hb hin hf
  obtain ⟨path, hc⟩ := hj.chain
  obtain ⟨path1, hc1⟩ := j1.chain
  intro t ht
  rw [htree] at ht
  have hle : t.height ≤ s.n.tipHeight ∨ t.height = b.height :=
    (hm t ht).imp_right fun e => (tree_of_block hwf hj.jd hb ht e).2
  by_cases hA : s.n.tip = b.parent ∨ b.height > s.n.tipHeight
  · have e1 := tA hA
    rw [Chain.tipHeight_eq hwf hc1 hb e1]
    have hge : s.n.tipHeight ≤ b.height := by
      rcases hA with hA | hA
      · have := height_on hwf hc.ok hb (hA.symm.trans hc.tip)
        rw [this, hc.tipH]; omega
      · omega
    omega
  · obtain ⟨h1, h2⟩ := not_or.1 hA
    rw [(tB h1 h2).2]
    omega

theorem withNode_fr (s : St) (b : Block) : Fr s (withNode s b) :=
  ⟨⟨[], (List.append_nil _).symm, rfl, trivial⟩,
    fun _ => mem_ite_snoc_left,
    fun h r hr => inT_mono (fun _ => List.mem_append_left _) (h r hr)⟩

theorem K0.withNode (hk : K0 s) (b : Block) : K0 (withNode s b) := by
  have hF := withNode_fr s b
  refine ⟨hk.err, hF.recT hk.recT, List.forall_mem_append.2 ⟨fun t ht => (hk.data t ht).mono hF, List.forall_mem_singleton.2 (Or.inl ?_)⟩, hk.undo⟩
  show ∃ x ∈ (if s.n.mem.any (·.id == b.id) then s.n.mem else s.n.mem ++ [b]), x.id = b.id
  split
  · rename_i hany
    obtain ⟨x, hx, e⟩ := List.any_eq_true.1 hany
    exact ⟨x, hx, by simpa using e⟩
  · exact ⟨b, List.mem_append_right _ (List.mem_singleton.2 rfl), rfl⟩

theorem submit_K (hwf : WF bs) (hj : J bs s) (hk : K s) (b : Block) (hb : b ∈ bs) (hf : (submit s b).foreign = false) :
    K (submit s b) ∧ Fr s (submit s b) ∧ (∀ t ∈ s.n.tree, t ∈ (submit s b).n.tree) ∧
      ((b.parent = 0 ∨ InT s.n.tree b.parent) → InT (submit s b).n.tree b.id) := by
  by_cases hfr : Fresh s b
  · rw [submit_of_fresh hfr] at hf ⊢
    have hJ := hj.withNode hb ((inTree_iff _ _).1 hfr.2.2)
    have hK0 := hk.k0.withNode b
    obtain ⟨j1, htree⟩ := commitBlock_J hwf hJ b hb (withNode_inT s b) hf
    obtain ⟨k1, f1, _, _⟩ := commitBlock_K hwf hJ hK0 b hb (withNode_inT s b) hf
    have m1 := commitBlock_maxH hwf hJ hK0 b hb (withNode_inT s b) hf
      (List.forall_mem_append.2 ⟨fun t ht => Or.inl (hk.maxH t ht), List.forall_mem_singleton.2 (Or.inr rfl)⟩)
    refine ⟨⟨k1, m1⟩, (withNode_fr s b).trans f1, ?_, fun _ => ?_⟩
    · intro t ht; rw [htree]; exact List.mem_append_left _ ht
    · rw [htree]; exact withNode_inT s b
  · rw [submit_of_not_fresh hfr]
    refine ⟨hk, Fr.refl s, fun _ h => h, fun hp => ?_⟩
    -- not fresh with a known parent and no panic: the block is in the tree already
    have hin : inTree s.n b.id = true :=
      Bool.of_not_eq_false fun hx => hfr ⟨hk.k0.err, hx, (inTree_iff _ _).2 hp⟩
    exact ((inTree_iff _ _).1 hin).resolve_left (hwf.idNZ b hb)

/-! ### Idle, Close -/

theorem writeAll_undo (hk : K0 s) : UndoUpTo (writeAll s).d (writeAll s).n.lastHeight := by
  rw [(writeAll_frame s).2.2.2.2.2.1]; exact (writeAll_fr s).ext.undo hk.undo

theorem idle_K (hj : J bs s) (hk : K s) : K (idle s) ∧ Fr s (idle s) ∧ Neutral bs s (idle s) := by
  suffices h : Fr s (idle s) ∧ Neutral bs s (idle s) from ⟨hk.neutral h.2 h.1, h⟩
  unfold idle
  rw [if_neg (by simp [hk.k0.err])]
  have hN := writeAll_neutral s hj.jd.queueB
  have hF := writeAll_fr s
  simp only []
  split
  · obtain ⟨path, hc⟩ := hj.chain
    exact ⟨hF.trans (startSave_fr _ false (writeAll_undo hk.k0)), hN.trans (startSave_neutral _ false ((hc.neutral hN).cons bs))⟩
  · exact ⟨hF, hN⟩

theorem close_K (hj : J bs s) (hk : K s) : K (close s) ∧ Fr s (close s) ∧ Neutral bs s (close s) := by
  suffices h : Fr s (close s) ∧ Neutral bs s (close s) from ⟨hk.neutral h.2 h.1, h⟩
  unfold close
  rw [if_neg (by simp [hk.k0.err])]
  have hN := writeAll_neutral s hj.jd.queueB
  have hF := writeAll_fr s
  simp only []
  split
  · split
    · exact ⟨hF.trans (hurrySave_fr _), hN.trans (hurrySave_neutral _)⟩
    · obtain ⟨path, hc⟩ := hj.chain
      exact ⟨hF.trans (startSave_fr _ true (writeAll_undo hk.k0)), hN.trans (startSave_neutral _ true ((hc.neutral hN).cons bs))⟩
  · exact ⟨hF, hN⟩

/-! ### NewChainExt -/

theorem UGoodFrom.of_safe : ∀ (es : List LEffect) (d : Disk), (∀ e ∈ es, safeEff e.1) → UGoodFrom d es
  | [], _, _ => trivial
  | e :: r, d, h => by
    refine ⟨?_, UGoodFrom.of_safe r _ (fun x hx => h x (by simp [hx]))⟩
    have := h e (by simp)
    cases he : e.1 <;> rw [he] at this <;> simp [safeEff] at this <;> trivial

/-- the node NewChainExt builds: no error, every index record / tree node comes from an index record on disk with its block in
    the data file, the undo files up to the snapshot's height exist -/
theorem openNode_K {P : Snap → Prop} {d : Disk} (hd : DiskInv P d) (hu : UInv d) (bigs : List Coin) (skip : Nat)
    {s1 : St} (ho : openNode d bigs skip = .ok s1) :
    K0 s1 ∧ ExtFrom d [] s1 ∧ s1.n.tipHeight = s1.n.lastHeight ∧
    (∀ t ∈ s1.n.tree, (∃ r ∈ d.idx, r.id = t.id ∧ r.height = t.height) ∧ ∃ b ∈ s1.d.dat, b.id = t.id) := by
  obtain rfl : opened d bigs skip = s1 := Except.ok.inj ((openNode_eq hd bigs skip).symm.trans ho)
  obtain ⟨htree, hrecs, _, _, hth, _⟩ := opened_n d bigs skip
  have hd1 := recover_inv hd
  have hext : ExtFrom d [] (opened d bigs skip) := ⟨_, (List.nil_append _).symm, rfl, UGoodFrom.of_safe _ _ (recover_safe d)⟩
  have htr : ∀ t ∈ (opened d bigs skip).n.tree,
      (∃ r ∈ d.idx, r.id = t.id ∧ r.height = t.height) ∧ ∃ b ∈ (recoverUnspent d).1.dat, b.id = t.id := by
    rw [htree]
    exact List.forall_mem_map.2 fun x hx => ⟨⟨x, hx, rfl, rfl⟩,
      hd1.datCovers x.id (by simp only [ids, (recover_fields d).2.2.2.2.1, List.mem_map]; exact ⟨x, hx, rfl⟩)⟩
  refine ⟨⟨rfl, ?_, fun t ht => Or.inr (htr t ht).2, ?_⟩, hext, hth, htr⟩
  · rw [hrecs, htree]
    exact List.forall_mem_map.2 fun x hx => ⟨_, List.mem_map_of_mem hx, rfl⟩
  · rcases opened_snap d bigs skip with ⟨_, _, _, h0⟩ | ⟨sn, hl, _, _, h0⟩
    · rw [h0]; intro h h1 h2; omega
    · rw [h0]; exact hext.undo (((loadSnap_some hl).elim (hu.db _) (hu.old _)))

/-! ### the client's recovery loop -/

theorem lastOr_mem : ∀ (p : List BlockId) (d : BlockId), p ≠ [] → lastOr d p ∈ p
  | [], _, h => absurd rfl h
  | [x], _, _ => by simp [lastOr]
  | x :: y :: r, _, _ => by
    have := lastOr_mem (y :: r) x (by simp)
    show lastOr x (y :: r) ∈ x :: y :: r
    exact List.mem_cons_of_mem _ this

theorem feedPath_K (hwf : WF bs) : ∀ (p : List BlockId) (s : St) (cur : BlockId), J bs s → K0 s → Down s.n.tree cur p →
    (∀ id ∈ p, ∃ b ∈ s.d.dat, b.id = id) → (feedPath s p).foreign = false →
    J bs (feedPath s p) ∧ K0 (feedPath s p) ∧ Fr s (feedPath s p) ∧ (feedPath s p).n.tree = s.n.tree ∧
    (s.n.tip = cur → (feedPath s p).n.tip = lastOr cur p) ∧
    ((feedPath s p).n.tip = lastOr cur p ∨ ((feedPath s p).n.tip = s.n.tip ∧ (feedPath s p).n.tipHeight = s.n.tipHeight ∧
      ∀ id ∈ p, ∀ t ∈ s.n.tree, t.id = id → t.height ≤ s.n.tipHeight))
  | [], s, cur, hj, hk, _, _, _ =>
    ⟨hj, hk, Fr.refl s, rfl, fun h => h, Or.inr ⟨rfl, rfl, fun _ h => by cases h⟩⟩
  | id :: rest, s, cur, hj, hk, hd, hdat, hf => by
    obtain ⟨bd, hbm, hbid⟩ := hdat id (by simp)
    revert hf
    unfold feedPath
    rw [if_neg (by simp [hk.err])]
    split
    · rename_i hx; exact absurd (by simp [hbid]) (List.find?_eq_none.1 hx bd hbm)
    · rename_i b hb
      intro hf
      have hbs : b ∈ bs := hj.jd.prov.datB b (List.mem_of_find?_eq_some hb)
      have hbid : b.id = id := by simpa using List.find?_some hb
      have hN := abortSave_neutral (bs := bs) s
      have hF := abortSave_fr s
      have hjA := hj.neutral hN
      have hkA := hk.neutral hN hF
      have hinA : InT (abortSave s).n.tree b.id := by rw [hN.tree, hbid]; exact hd.1
      have hf1 : (commitBlock (abortSave s) b).foreign = false := feedPath_mono rest _ hf
      obtain ⟨j1, t1⟩ := commitBlock_J hwf hjA b hbs hinA hf1
      obtain ⟨k1, f1, tA, tB⟩ := commitBlock_K hwf hjA hkA b hbs hinA hf1
      have hpar : b.parent = cur := by
        rw [← hd.2.1, ← hbid]
        exact (par_block hwf hj.jd hbs (hbid ▸ hd.1)).1.symm
      have htr : (commitBlock (abortSave s) b).n.tree = s.n.tree := t1.trans hN.tree
      obtain ⟨r1, r2, r3, r4, rA, rB⟩ := feedPath_K hwf rest (commitBlock (abortSave s) b) id j1 k1 (by rw [htr]; exact hd.2.2)
        (by
          intro x hx
          obtain ⟨y, hy, e⟩ := hdat x (by simp [hx])
          exact ⟨y, (hF.trans f1).ext.dat hy, e⟩) hf
      refine ⟨r1, r2, (hF.trans f1).trans r3, r4.trans htr, ?_, ?_⟩
      · intro e
        exact rA ((tA (Or.inl (by rw [hN.tip, e, hpar]))).trans hbid)
      · by_cases hA : (abortSave s).n.tip = b.parent ∨ b.height > (abortSave s).n.tipHeight
        · exact Or.inl (rA ((tA hA).trans hbid))
        · obtain ⟨h1, h2⟩ := not_or.1 hA
          obtain ⟨e1, e2⟩ := tB h1 h2
          rcases rB with rB | ⟨q1, q2, q3⟩
          · exact Or.inl rB
          · refine Or.inr ⟨q1.trans (e1.trans hN.tip), q2.trans (e2.trans hN.tipH),
              List.forall_mem_cons.2 ⟨fun t ht e => ?_, fun x hx t ht e => ?_⟩⟩
            · rw [(tree_of_block hwf hj.jd hbs ht (e.trans hbid.symm)).2, ← hN.tipH]; omega
            · have := q3 x hx t (by rw [htr]; exact ht) e
              rw [e2, hN.tipH] at this; exact this

/-- the recovery loop: no panic, and it ends at the highest stored block -/
theorem clientRecover_K (hwf : WF bs) (hj : J bs s) (hk : K0 s) (hdat : ∀ t ∈ s.n.tree, ∃ b ∈ s.d.dat, b.id = t.id)
    (hf : (clientRecover s).foreign = false) :
    K (clientRecover s) ∧ Fr s (clientRecover s) ∧ (clientRecover s).n.tree = s.n.tree ∧
    ((farthest s.n).2.1 ≤ s.n.tipHeight → clientRecover s = s) := by
  obtain ⟨fmax, fwit⟩ := farthest_spec s.n
  obtain ⟨path, hc⟩ := hj.chain
  revert hf
  unfold clientRecover
  simp only []
  split
  · rename_i hle
    intro _
    exact ⟨⟨hk, fun t ht => Nat.le_trans (fmax t ht) hle⟩, Fr.refl s, rfl, fun _ => rfl⟩
  · rename_i hgt
    have hgt : s.n.tipHeight < (farthest s.n).2.1 := Nat.lt_of_not_le hgt
    obtain ⟨te, hte, hteid, hteh⟩ : ∃ t ∈ s.n.tree, t.id = (farthest s.n).1 ∧ t.height = (farthest s.n).2.1 :=
      fwit.resolve_left fun h0 => by omega
    have hine : InT s.n.tree (farthest s.n).1 := ⟨te, hte, hteid⟩
    obtain ⟨be, hbe, be1, _, be3⟩ := hj.jd.treeB te hte
    obtain ⟨i, p, _, hff, _, hp, hD, hlast⟩ := road hwf hj.jd hc hine
    rw [hff]
    simp only [hp]
    intro hf
    obtain ⟨r1, r2, r3, r4, _, rB⟩ := feedPath_K hwf p s _ hj hk hD (by
      intro id hid
      obtain ⟨t, ht, e⟩ := down_inT p _ hD id hid
      obtain ⟨b, hb, e'⟩ := hdat t ht
      exact ⟨b, hb, e'.trans e⟩) hf
    refine ⟨⟨r2, ?_⟩, r3, r4, fun h => absurd h (by omega)⟩
    rcases rB with rB | ⟨_, _, q3⟩
    · -- the tip is the farthest node
      rw [hlast] at rB
      obtain ⟨path', hc'⟩ := r1.chain
      intro t ht
      rw [r4] at ht
      rw [Chain.tipHeight_eq hwf hc' hbe (rB.trans (hteid.symm.trans be1.symm)), be3, hteh]
      exact fmax t ht
    · exfalso
      by_cases hpn : p = []
      · subst hpn
        have h1 := (par_block hwf hj.jd hbe (by rw [be1, hteid]; exact hine)).2
        rw [be1, hteid, ← hlast, show lastOr (headId (path.drop i)) [] = headId (path.drop i) from rfl,
          twalk_height hwf hj.jd hc.toT i] at h1
        have := Option.some.inj h1
        rw [← hteh, ← be3, hc.tipH] at hgt
        omega
      · have hm := lastOr_mem p (headId (path.drop i)) hpn
        rw [hlast] at hm
        have := q3 _ hm te hte hteid
        omega

/-! ### one operation, whole histories -/

variable {P : Snap → Prop} {base : Disk} {Q : List Block}

theorem K.congr {s s' : St} (hk : K s) (e1 : s'.err = s.err) (e2 : s'.n.recs = s.n.recs) (e3 : s'.n.tree = s.n.tree)
    (e4 : s'.n.mem = s.n.mem) (e5 : s'.d = s.d) (e6 : s'.n.lastHeight = s.n.lastHeight) (e7 : s'.n.tipHeight = s.n.tipHeight) : K s' := by
  refine ⟨⟨e1.trans hk.k0.err, by rw [e2, e3]; exact hk.k0.recT, ?_, by rw [e5, e6]; exact hk.k0.undo⟩, ?_⟩
  · intro t ht
    rw [e3] at ht
    exact (hk.k0.data t ht).imp (fun ⟨b, hb, e⟩ => ⟨b, by rw [e4]; exact hb, e⟩) (fun ⟨b, hb, e⟩ => ⟨b, by rw [e5]; exact hb, e⟩)
  · intro t ht; rw [e3] at ht; rw [e7]; exact hk.maxH t ht

theorem step_K (hwf : WF bs) (hq : InvQ ⟨P, base, (· = 0), [], Q, Q⟩ s) (hj : J bs s) (hk : K s) (hu : UP base s) (op : Op)
    (hb : ∀ b, op = .submit b → b ∈ bs) (hf : (step s op).foreign = false) :
    K (step s op) ∧ UP base (step s op) := by
  cases op with
  | submit b =>
    obtain ⟨k1, f1, _, _⟩ := submit_K hwf hj hk b (hb b rfl) hf
    exact ⟨k1, hu.ext f1.ext⟩
  | idle => exact ⟨(idle_K hj hk).1, hu.ext (idle_K hj hk).2.1.ext⟩
  | close => exact ⟨(close_K hj hk).1, hu.ext (close_K hj hk).2.1.ext⟩
  | skip _ | pause _ => exact ⟨hk.congr rfl rfl rfl rfl rfl rfl rfl, ⟨hu.hist, hu.pref⟩⟩
  | hurry =>
    simp only [step]
    split
    · exact ⟨hk, hu⟩
    · exact ⟨hk.neutral (hurrySave_neutral (bs := bs) _) (hurrySave_fr _), hu.ext (hurrySave_fr _).ext⟩
  | reopen =>
    obtain ⟨s1, ho, _, _, _, _, _⟩ := openNode_inv hq.disk s.n.bigs 0
    obtain ⟨j1, fo1, _⟩ := openNode_J hwf hj.jd.prov hq.disk s.n.bigs 0 ho
    obtain ⟨k1, x1, _, d1⟩ := openNode_K hq.disk hu.disk s.n.bigs 0 ho
    have hfc : (clientRecover s1).foreign = false := by
      rw [reopen_foreign s hk.k0.err, show recoverForeign s.d s.n.bigs = (clientRecover s1).foreign by
        simp only [recoverForeign, ho]] at hf
      exact (Bool.or_eq_false_iff.1 hf).2
    obtain ⟨k2, f2, _, _⟩ := clientRecover_K hwf j1 k1 (fun t ht => (d1 t ht).2) hfc
    have hrec : recover s.d s.n.bigs = .ok (clientRecover s1) := by
      simp only [recover, ho, k2.k0.err]
    simp only [step]
    rw [if_neg (by simp [hk.k0.err]), hrec]
    simp only []
    refine ⟨k2.congr rfl rfl rfl rfl rfl rfl rfl, ?_⟩
    obtain ⟨new, a, b, c⟩ := x1.trans f2.ext
    exact UP.of_ext hu.hist hu.pref ⟨new, by simp only [List.nil_append] at a; rw [a], b, c⟩

end GocoinV.Proofs.C07
