/-
  Proofs.C06MorePow — `BlockTreeNode.MorePOW` of the chain model (`morePOW`: climb both nodes to their common
  ancestor summing the exact difficulties) decides "strictly more cumulative work" in a well-formed tree.
-/
import GocoinV.Proofs.C06Work
namespace GocoinV.ChainTree
open GocoinV.UtxoOps

/-- the climbing loop of MorePOW with accumulated sums `s1`, `s2`: with enough fuel it compares
    `W b1 + s1` with `W b2 + s2` -/
theorem morePOWAux_spec {U : List Block} {c : Chain} (w : TreeWF U c) (hU : BlockTree c.root U) :
    ∀ (f : Nat) (y1 y2 : Nat) (b1 b2 : Node) (s1 s2 : Q), getNode c y1 = some b1 → getNode c y2 = some b2 →
      s1.den > 0 → s2.den > 0 → f > b1.height + b2.height →
      (morePOWAux c f b1 b2 s1 s2 = true ↔ W c b1 + s1.val > W c b2 + s2.val) := by
  -- one step up from a node that is not the root: its difficulty moves from the node's work into the accumulated sum
  have up : ∀ {y : Nat} {b : Node} {s : Q}, getNode c y = some b → s.den > 0 → b.height > 0 →
      ∃ p, getNode c b.parent = some p ∧ b.height = p.height + 1 ∧ (s.add (difficulty b.bits)).den > 0 ∧
        W c b + s.val = W c p + (s.add (difficulty b.bits)).val := by
    intro y b s h d hpos
    have hx : y ≠ c.root := not_root_of_height_pos w h hpos
    obtain ⟨p, hp, hh, _⟩ := w.par y b h hx
    have hb := difficulty_den_pos _ (node_bits_ok w hU h hx)
    refine ⟨p, hp, hh, Q.add_den_pos _ _ d hb, ?_⟩
    rw [Q.val_add _ _ d hb, (W_step w hU h hx hp).1, add_assoc, add_comm (difficulty b.bits).val]
  intro f
  induction f with
  | zero => intro y1 y2 b1 b2 s1 s2 _ _ _ _ hf; omega
  | succ f ih =>
    intro y1 y2 b1 b2 s1 s2 h1 h2 d1 d2 hf
    rw [morePOWAux]
    by_cases c1 : b1.height > b2.height
    · rw [if_pos c1]
      obtain ⟨p, hp, hh, hd, hW⟩ := up h1 d1 (by omega)
      simp only [hp]
      rw [ih _ _ p b2 _ _ hp h2 hd d2 (by omega), hW]
    · rw [if_neg c1]
      by_cases c2 : b2.height > b1.height
      · rw [if_pos c2]
        obtain ⟨p, hp, hh, hd, hW⟩ := up h2 d2 (by omega)
        simp only [hp]
        rw [ih _ _ b1 p _ _ h1 hp d1 hd (by omega), hW]
      · rw [if_neg c2]
        have i1 := getNode_id h1
        have i2 := getNode_id h2
        by_cases c3 : b1.id = b2.id
        · have hb : (b1.id == b2.id) = true := by simpa using c3
          rw [if_pos hb]
          rw [i1, i2] at c3
          subst c3
          cases h1.symm.trans h2
          rw [Q.gt_iff _ _ d1 d2]
          exact (add_lt_add_iff_left _).symm
        · have hb : ¬ (b1.id == b2.id) = true := by simpa using c3
          rw [if_neg hb]
          have hpos : b1.height > 0 := by
            apply Nat.pos_of_ne_zero
            intro h0
            have e1 := w.root_of_height0 h1 h0
            have e2 := w.root_of_height0 h2 (by omega)
            exact c3 (by rw [i1, i2, e1, e2])
          obtain ⟨p1, hp1, hh1, hd1, hW1⟩ := up h1 d1 hpos
          obtain ⟨p2, hp2, hh2, hd2, hW2⟩ := up h2 d2 (by omega)
          simp only [hp1, hp2]
          rw [ih _ _ p1 p2 _ _ hp1 hp2 hd1 hd2 (by omega), hW1, hW2]

/-- **MorePOW is the comparison of cumulative work**: in a well-formed tree over a block tree with valid bits,
    `b1.MorePOW(b2)` holds exactly when the exact cumulative work of `b1` exceeds that of `b2`
    (it never runs out of fuel and never meets a missing parent). -/
theorem morePOW_spec {U : List Block} {c : Chain} (w : TreeWF U c) (hU : BlockTree c.root U) {x1 x2 : Nat} {b1 b2 : Node}
    (h1 : getNode c x1 = some b1) (h2 : getNode c x2 = some b2) :
    morePOW c b1 b2 = true ↔ W c b1 > W c b2 := by
  unfold morePOW
  rw [morePOWAux_spec w hU _ x1 x2 b1 b2 Q.zero Q.zero h1 h2 (by decide) (by decide) (by omega), Q.val_zero]
  simp
