/-
  Proofs.C12SortDef — the invariant of the incrementally maintained (non-dirty) sorted list BestT2S…WorstT2S with its
  SortRank values (sort.go AddToSort / DelFromSort / fixIndex / reindexDown / reindexEverything / buildSortedList):
  definitions and the lifting lemmas shared by C12SortDel (deletions, frames), C12SortAdd (insertion) and C12SortRun
  (C12SortIns, the rank arithmetic of insertion, uses none of them).
  Core Lean only.
-/
import GocoinV.Proofs.C12Env
namespace GocoinV.Mempool

/-- `y` is not a flagged (MemInputs) parent of the pooled record with key `x` -/
def NoLaterParent (K : Keys) (s : State) (x y : Nat) : Prop := ∀ t, s.pool.get? x = some t → y ∉ memParents K t

/-- what the non-dirty sorted list satisfies -/
structure SortOK (K : Keys) (s : State) : Prop where
  /-- SortRank strictly increases from BestT2S to WorstT2S … -/
  asc : (s.sorted.map (rankOf s)).Pairwise (· < ·)
  /-- … inside uint64 -/
  bnd : ∀ b ∈ s.sorted, rankOf s b < U64
  /-- the list holds exactly the keys of TransactionsToSend -/
  sync : ∀ b, b ∈ s.sorted ↔ (s.pool.get? b).isSome = true
  /-- nothing listed after a record is one of its flagged parents -/
  pf : s.sorted.Pairwise (NoLaterParent K s)
  /-- no record is its own flagged parent -/
  irr : ∀ b t, s.pool.get? b = some t → b ∉ memParents K t

/-- the invariant: whenever the list is not dirty and no SortRank computation since its last rebuild left the uint64
    range (ghost flag `rankWrap`) -/
def SortInv (K : Keys) (s : State) : Prop := s.sortDirty = false → s.rankWrap = false → SortOK K s

/-- … claimed for states in which the process is alive -/
def SortInvP (K : Keys) (s : State) : Prop := s.panicked = false → SortInv K s

theorem SortInvP.lift {K : Keys} {s s' : State} (e : Env s s') (f : SortInv K s → SortInv K s')
    (h : SortInvP K s) : SortInvP K s' :=
  fun hp => f (h (alive_of_env e hp))

/-- the fields `SortOK` reads (`pool`, `sorted`, `ranks`) and the two flags `SortInv` reads besides (`dirty`, `wrap`) are
    the same in both states -/
structure SortSame (s s' : State) : Prop where
  pool : ∀ x, s'.pool.get? x = s.pool.get? x
  sorted : s'.sorted = s.sorted
  ranks : s'.ranks = s.ranks
  dirty : s'.sortDirty = s.sortDirty
  wrap : s'.rankWrap = s.rankWrap

/-- … in particular when the pool is literally the same -/
theorem SortSame.of_eq {s s' : State} (h1 : s'.pool = s.pool := by rfl) (h2 : s'.sorted = s.sorted := by rfl)
    (h3 : s'.ranks = s.ranks := by rfl) (h4 : s'.sortDirty = s.sortDirty := by rfl)
    (h5 : s'.rankWrap = s.rankWrap := by rfl) : SortSame s s' :=
  ⟨fun _ => by rw [h1], h2, h3, h4, h5⟩

theorem SortSame.trans {a b c : State} (h1 : SortSame a b) (h2 : SortSame b c) : SortSame a c :=
  ⟨fun x => (h2.pool x).trans (h1.pool x), h2.sorted.trans h1.sorted, h2.ranks.trans h1.ranks, h2.dirty.trans h1.dirty,
   h2.wrap.trans h1.wrap⟩

theorem SortOK.of_same {K : Keys} {s s' : State} (f : SortSame s s') (h : SortOK K s) : SortOK K s' := by
  have hr : rankOf s' = rankOf s := funext fun b => by unfold rankOf; rw [f.ranks]
  refine ⟨?_, ?_, ?_, ?_, ?_⟩
  · rw [f.sorted, hr]; exact h.asc
  · rw [f.sorted, hr]; exact h.bnd
  · intro b; rw [f.sorted, f.pool b]; exact h.sync b
  · rw [f.sorted]
    have : NoLaterParent K s' = NoLaterParent K s := by
      funext x y; unfold NoLaterParent; rw [f.pool x]
    rw [this]; exact h.pf
  · intro b t hb; rw [f.pool b] at hb; exact h.irr b t hb

theorem SortInv.of_same {K : Keys} {s s' : State} (f : SortSame s s') (h : SortInv K s) : SortInv K s' := by
  intro hd hw
  rw [f.dirty] at hd
  rw [f.wrap] at hw
  exact (h hd hw).of_same f

theorem SortInv.of_dirty {K : Keys} {s : State} (h : s.sortDirty = true) : SortInv K s := by
  intro hd; rw [h] at hd; cases hd

end GocoinV.Mempool
