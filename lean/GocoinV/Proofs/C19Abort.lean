/-
  Proofs.C19Abort — BR_ABORT: what the visit set of a Browse is (`visitSet`), that every visiting order Go's map iteration
  can take is the visit set of some walk list, and what a Browse that may abort shows and does at the level of the map.
-/
import GocoinV.Proofs.C19Lz
namespace GocoinV.Proofs.C19
open GocoinV GocoinV.Qdb GocoinV.QdbSpec

/-! ### `walkRes` on concatenations -/

theorem walkRes_append_mem (pre r : List (Key × Nat)) (k : Key) (h : k ∈ pre.map (·.1)) :
    walkRes (pre ++ r) k = walkRes pre k := by
  unfold walkRes
  rw [List.find?_append]
  obtain ⟨x, hx, hk⟩ := List.mem_map.mp h
  cases hf : pre.find? (·.1 = k) with
  | none =>
    have := List.find?_eq_none.mp hf x hx
    simp [hk] at this
  | some y => rfl

theorem walkRes_append_not_mem (pre r : List (Key × Nat)) (k : Key) (h : k ∉ pre.map (·.1)) :
    walkRes (pre ++ r) k = walkRes r k := by
  unfold walkRes
  rw [List.find?_append]
  have : pre.find? (·.1 = k) = none := by
    apply List.find?_eq_none.mpr
    intro x hx hk
    exact h (List.mem_map.mpr ⟨x, hx, by simpa using hk⟩)
  rw [this]
  rfl

/-! ### what the visit set is -/

/-- what `visitSet_char` says of a visit set of the walk list `w` under the eligibility test `el`
    (`visitSetAux_char` proves it for `w = pre ++ rest`, `pre` the entries already gone through) -/
def VisitSpec (el : Key → Bool) (w : List (Key × Nat)) : Option (List Key) → Prop
  | none => ∀ k, el k = true → hasFlag (walkRes w k) BR_ABORT = false
  | some l => ∃ k t, l = k :: t ∧ el k = true ∧ hasFlag (walkRes w k) BR_ABORT = true ∧
      ∀ k' ∈ t, el k' = true ∧ hasFlag (walkRes w k') BR_ABORT = false

theorem visitSetAux_char (el : Key → Bool) (rest pre : List (Key × Nat)) (seen : List Key)
    (h1 : ∀ k, k ∈ seen ↔ (el k = true ∧ k ∈ pre.map (·.1)))
    (h2 : ∀ k ∈ seen, hasFlag (walkRes pre k) BR_ABORT = false) :
    VisitSpec el (pre ++ rest) (visitSetAux el rest seen) := by
  induction rest generalizing pre seen with
  | nil =>
    simp only [visitSetAux, VisitSpec, List.append_nil]
    intro k hk
    by_cases hm : k ∈ pre.map (·.1)
    · exact h2 k ((h1 k).mpr ⟨hk, hm⟩)
    · rw [← List.append_nil pre, walkRes_append_not_mem pre [] k hm]; exact (by decide : hasFlag 0 BR_ABORT = false)
  | cons x t ih =>
    obtain ⟨k, f⟩ := x
    have happ : pre ++ (k, f) :: t = (pre ++ [(k, f)]) ++ t := by simp
    have hkeys : (pre ++ [(k, f)]).map (·.1) = pre.map (·.1) ++ [k] := by simp
    have hold : ∀ r, ∀ k' ∈ seen, hasFlag (walkRes (pre ++ r) k') BR_ABORT = false := fun r k' hk' => by
      rw [walkRes_append_mem pre r k' ((h1 k').mp hk').2]; exact h2 k' hk'
    simp only [visitSetAux]
    by_cases hc : (seen.contains k || !el k) = true
    · rw [if_pos hc, happ]
      apply ih (pre ++ [(k, f)]) seen
      · intro k'
        rw [hkeys, List.mem_append, List.mem_singleton]
        constructor
        · intro hs; exact ⟨((h1 k').mp hs).1, Or.inl ((h1 k').mp hs).2⟩
        · rintro ⟨he, hm | rfl⟩
          · exact (h1 k').mpr ⟨he, hm⟩
          · simp only [Bool.or_eq_true, List.contains_iff_mem, Bool.not_eq_eq_eq_not, Bool.not_true] at hc
            rcases hc with hc | hc
            · exact hc
            · rw [he] at hc; cases hc
      · exact hold _
    · rw [if_neg hc]
      simp only [Bool.or_eq_true, List.contains_iff_mem, Bool.not_eq_eq_eq_not, Bool.not_true, not_or,
        Bool.not_eq_false] at hc
      obtain ⟨hns, hel⟩ := hc
      have hnp : k ∉ pre.map (·.1) := fun hm => hns ((h1 k).mpr ⟨hel, hm⟩)
      have hwk : ∀ r, walkRes (pre ++ (k, f) :: r) k = f := fun r => by
        rw [walkRes_append_not_mem pre _ k hnp]; simp [walkRes]
      by_cases ha : hasFlag f BR_ABORT = true
      · rw [if_pos ha]
        exact ⟨k, seen, rfl, hel, by rw [hwk]; exact ha, fun k' hk' => ⟨((h1 k').mp hk').1, hold _ k' hk'⟩⟩
      · rw [if_neg ha, happ]
        apply ih (pre ++ [(k, f)]) (k :: seen)
        · intro k'
          rw [hkeys, List.mem_append, List.mem_singleton, List.mem_cons]
          constructor
          · rintro (rfl | hs)
            · exact ⟨hel, Or.inr rfl⟩
            · exact ⟨((h1 k').mp hs).1, Or.inl ((h1 k').mp hs).2⟩
          · rintro ⟨he, hm | rfl⟩
            · exact Or.inr ((h1 k').mpr ⟨he, hm⟩)
            · exact Or.inl rfl
        · intro k' hk'
          rcases List.mem_cons.mp hk' with rfl | hs
          · have := hwk []
            rw [this]; simpa using ha
          · exact hold _ k' hs

/-- `none` (everything eligible is visited) exactly when no eligible record's answer carries
    BR_ABORT; `some (k :: t)`: the answer for `k` carries BR_ABORT, `k` and the keys of `t` are eligible, and no answer
    for a key of `t` carries it — the browse hands these records to the walk function, `k` last, and stops. -/
theorem visitSet_char {α : Type} (flagsOf : α → Nat) (all : Bool) (idx : List (Key × α)) (w : List (Key × Nat)) :
    VisitSpec (eligible flagsOf all idx) w (visitSet flagsOf all idx w) := by
  have := visitSetAux_char (eligible flagsOf all idx) w [] [] (by simp) (by simp)
  simpa [visitSet] using this

/-! ### every order Go's map iteration can take is the visit set of a walk list -/

theorem visitSetAux_prefix (el : Key → Bool) (g : Key → Nat) (init : List Key) (rest : List (Key × Nat)) (seen : List Key)
    (hnd : init.Nodup) (hel : ∀ k ∈ init, el k = true) (hns : ∀ k ∈ init, k ∉ seen)
    (hna : ∀ k ∈ init, hasFlag (g k) BR_ABORT = false) :
    visitSetAux el (init.map (fun k => (k, g k)) ++ rest) seen = visitSetAux el rest (init.reverse ++ seen) := by
  induction init generalizing seen with
  | nil => rfl
  | cons k t ih =>
    have hk1 : seen.contains k = false := by
      simpa [List.contains_iff_mem] using hns k List.mem_cons_self
    simp only [List.map_cons, List.cons_append, visitSetAux, hk1, hel k List.mem_cons_self,
      hna k List.mem_cons_self, Bool.not_true, Bool.or_self, Bool.false_eq_true, ↓reduceIte]
    rw [ih (k :: seen) (List.nodup_cons.mp hnd).2 (fun x hx => hel x (List.mem_cons_of_mem _ hx))
      (fun x hx hm => by
        rcases List.mem_cons.mp hm with rfl | hm
        · exact (List.nodup_cons.mp hnd).1 hx
        · exact hns x (List.mem_cons_of_mem _ hx) hm)
      (fun x hx => hna x (List.mem_cons_of_mem _ hx))]
    simp

theorem walkRes_ordered (w0 : List (Key × Nat)) (ord : List Key) (k : Key) :
    walkRes (ord.map (fun k => (k, walkRes w0 k)) ++ w0) k = walkRes w0 k := by
  induction ord with
  | nil => rfl
  | cons x t ih =>
    by_cases hx : x = k
    · subst hx; simp [walkRes]
    · unfold walkRes at ih ⊢
      simp only [List.map_cons, List.cons_append, List.find?_cons, hx, decide_false]
      exact ih

/-- EVERY STOPPING POINT GO CAN REACH IS A WALK LIST. Take a walk function (`walkRes w0`), and any visiting sequence
    Go's map iteration can produce for it when the browse aborts: distinct eligible keys `init ++ [last]` where the
    answer for `last` carries BR_ABORT and no earlier one does. Listing these keys in front, in that order (what the
    harness does with the order observed on the real store), gives a walk list with the same answers whose visit set
    is exactly that sequence. -/
theorem every_abort_order_is_a_walk_list {α : Type} (flagsOf : α → Nat) (all : Bool) (idx : List (Key × α))
    (w0 : List (Key × Nat)) (init : List Key) (last : Key)
    (hnd : (init ++ [last]).Nodup) (hel : ∀ k ∈ init ++ [last], eligible flagsOf all idx k = true)
    (hna : ∀ k ∈ init, hasFlag (walkRes w0 k) BR_ABORT = false) (hab : hasFlag (walkRes w0 last) BR_ABORT = true) :
    let w := (init ++ [last]).map (fun k => (k, walkRes w0 k)) ++ w0
    (∀ k, walkRes w k = walkRes w0 k) ∧ visitSet flagsOf all idx w = some (last :: init.reverse) := by
  intro w
  refine ⟨fun k => walkRes_ordered w0 _ k, ?_⟩
  show visitSetAux _ ((init ++ [last]).map (fun k => (k, walkRes w0 k)) ++ w0) [] = _
  have hnd' := List.nodup_append.mp hnd
  rw [List.map_append, List.append_assoc,
    visitSetAux_prefix _ (walkRes w0) init _ [] hnd'.1 (fun k hk => hel k (List.mem_append_left _ hk))
      (fun _ _ h => by cases h) hna]
  have hl : last ∉ init := fun hm => hnd'.2.2 last hm last (List.mem_singleton.mpr rfl) rfl
  simp [visitSetAux, hl, hel last (by simp), hab]

/-! ### the map's side of a Browse that may abort -/

theorem mbrowseOutV_visited (vs : Option (List Key)) (m : M) :
    ∀ kv ∈ mbrowseOutV vs m, ∃ f, (kv.1, kv.2, f) ∈ m ∧ skipB false vs f kv.1 = false := by
  intro kv hkv
  unfold mbrowseOutV at hkv
  obtain ⟨⟨k, v, f⟩, hmem, hf⟩ := List.mem_filterMap.mp hkv
  simp only [] at hf
  split at hf
  · cases hf
  · rename_i hs
    cases hf
    exact ⟨f, hmem, by simpa using hs⟩

theorem mbrowseOutV_sound (vs : Option (List Key)) (m : M) (hnd : (Keys m).Nodup) :
    ∀ kv ∈ mbrowseOutV vs m, mget m kv.1 = some kv.2 := by
  intro kv hkv
  obtain ⟨f, hmem, _⟩ := mbrowseOutV_visited vs m kv hkv
  unfold mget
  rw [ilookup_of_mem_nodup _ hnd kv.1 (kv.2, f) hmem]
  rfl

theorem mbrowseOutV_complete (vs : Option (List Key)) (m : M) (k : Key) (v : Bytes) (f : Nat)
    (hl : ilookup k m = some (v, f)) (hs : skipB false vs f k = false) : (k, v) ∈ mbrowseOutV vs m := by
  unfold mbrowseOutV
  exact List.mem_filterMap.mpr ⟨(k, v, f), ilookup_key_pair k (v, f) _ hl, by simp [hs]⟩

/-- the flag word of every entry after a Browse: the walk function's answer is applied to exactly the visited ones -/
theorem mbrowseState_lookup (m : M) (w : List (Key × Nat)) (k : Key) (v : Bytes) (f : Nat)
    (hl : ilookup k m = some (v, f)) :
    ilookup k (mbrowseState m w) =
      some (v, if skipB false (mvisitSet false m w) f k then f else applyBrowsingFlags f (walkRes w k)) := by
  rw [ilookup_mbrowseState, hl]
  simp only [Option.map_some, browseGM]
  split <;> rfl

/-- THE ABORTING RECORD GETS ITS FLAGS. When the browse stops at `k` (its answer carries BR_ABORT), whatever else the
    answer carries — NO_BROWSE, YES_BROWSE, NO_CACHE, YES_CACHE — is applied to `k`'s flag word like for every other
    visited record. -/
theorem abort_answer_flags_applied (m : M) (w : List (Key × Nat)) (k : Key) (t : List Key) (v : Bytes) (f : Nat)
    (hvs : mvisitSet false m w = some (k :: t)) (hl : ilookup k m = some (v, f)) :
    hasFlag (walkRes w k) BR_ABORT = true ∧
    ilookup k (mbrowseState m w) = some (v, applyBrowsingFlags f (walkRes w k)) := by
  have hc := visitSet_char (α := Bytes × Nat) (·.2) false m w
  rw [show visitSet _ false m w = _ from hvs] at hc
  obtain ⟨k0, t0, he, hel, hab, _⟩ := hc
  cases he
  refine ⟨hab, ?_⟩
  have hnb : hasFlag f NO_BROWSE = false := by
    unfold eligible at hel
    rw [hl] at hel
    simpa using hel
  rw [mbrowseState_lookup m w k v f hl, hvs]
  simp [skipB, hnb]

end GocoinV.Proofs.C19
