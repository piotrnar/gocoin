/-
  Proofs.C15BchTree — a table: the binary search tree mapping each of the 2759 values (x^k·u mod g) >>> 5
  (u = 1..31, k = 1..89, g = the Bech32 generator) to the tag 128·u + k, produced once by a 20-line script (polymod
  step, sort, balanced split). No proof consults it: the weight-3 distance computation (Proofs/C15BchOrbit.lean) needs no
  certificate — by the GF(32)-linearity of the step it compares the 90 residues of x^k up to scalars. The tree follows
  the generator constants of lib/others/bech32/bech32.go only by hand.
-/
namespace GocoinV.Bech32

inductive OTree where
  | L : OTree
  | N (l : OTree) (key tag : Nat) (r : OTree) : OTree

namespace OTree
def lookup : OTree → Nat → Option Nat
  | L, _ => none
  | N l k t r, v => if v < k then lookup l v else if k < v then lookup r v else some t
end OTree
open OTree
def otaaaa : OTree := (N (N (N (N (N (N (N (N L 1 129 L) 2 257 L) 3 385 (N (N L 4 513 L) 5 641 L)) 6 769 (N (N (N L 7 897 L) 8 1025 L) 9 1153 (N L 10 1281 L))) 11 1409 (N (N (N (N L 12 1537 L) 13 1665 L) 14 1793 (N (N L 15 1921 L) 16 2049 L)) 17 2177 (N (N (N L 18 2305 L) 19 2433 L) 20 2561 (N L 21 2689 L)))) 22 2817 (N (N (N (N (N L 23 2945 L) 24 3073 L) 25 3201 (N (N L 26 3329 L) 27 3457 L)) 28 3585 (N (N (N L 29 3713 L) 30 3841 L) 31 3969 (N L 32 130 L))) 64 258 (N (N (N (N L 96 386 L) 128 514 L) 160 642 (N (N L 192 770 L) 224 898 L)) 256 1026 (N (N (N L 288 1154 L) 320 1282 L) 352 1410 (N L 384 1538 L))))) 416 1666 (N (N (N (N (N (N L 448 1794 L) 480 1922 L) 512 2050 (N (N L 544 2178 L) 576 2306 L)) 608 2434 (N (N (N L 640 2562 L) 672 2690 L) 704 2818 (N L 736 2946 L))) 768 3074 (N (N (N (N L 800 3202 L) 832 3330 L) 864 3458 (N (N L 896 3586 L) 928 3714 L)) 960 3842 (N (N (N L 992 3970 L) 1024 131 L) 2048 259 (N L 3072 387 L)))) 4096 515 (N (N (N (N (N L 5120 643 L) 6144 771 L) 7168 899 (N (N L 8192 1027 L) 9216 1155 L)) 10240 1283 (N (N (N L 11264 1411 L) 12288 1539 L) 13312 1667 (N L 14336 1795 L))) 15360 1923 (N (N (N (N L 16384 2051 L) 17408 2179 L) 18432 2307 (N L 19456 2435 L)) 20480 2563 (N (N (N L 21504 2691 L) 22528 2819 L) 23552 2947 (N L 24576 3075 L)))))) 25600 3203 (N (N (N (N (N (N (N L 26624 3331 L) 27648 3459 L) 28672 3587 (N (N L 29696 3715 L) 30720 3843 L)) 31744 3971 (N (N (N L 32768 132 L) 39659 2715 L) 43872 2867 (N L 47575 2210 L))) 49150 1740 (N (N (N (N L 53028 1429 L) 63340 531 L) 65536 260 (N (N L 78070 411 L) 81768 2837 L)) 86008 1043 (N (N (N L 87008 691 L) 95111 1442 L) 97013 3404 (N L 98304 388 L)))) 109085 2843 (N (N (N (N (N L 112788 1555 L) 115979 3020 L) 117328 3362 (N (N L 127052 3733 L) 129152 2483 L)) 131072 516 (N (N (N L 132832 1331 L) 147193 2067 L) 149038 2850 (N L 152803 3788 L))) 156101 795 (N (N (N (N L 162800 661 L) 163840 644 L) 175488 3635 (N L 177364 1813 L)) 182677 2579 (N (N (N L 191261 2124 L) 195374 2459 L) 196601 930 (N L 196608 772 L))))) 208406 972 (N (N (N (N (N (N L 210345 3746 L) 214168 2453 L) 217395 667 (N (N L 218368 1971 L) 225537 3091 L)) 229376 900 (N (N (N L 231021 3603 L) 232380 3093 L) 232574 1570 (N L 233960 1356 L))) 248792 2075 (N (N (N (N L 261728 3251 L) 262144 1028 L) 264416 2611 (N (N L 265670 2508 L) 273788 674 L)) 284393 1301 (N (N (N L 288650 1563 L) 293115 1171 L) 294912 1156 (N L 298903 1683 L)))) 300203 2594 (N (N (N (N (N L 301517 149 L) 304000 307 L) 307768 3916 (N (N L 327009 3227 L) 327680 1284 L)) 341763 147 (N (N (N L 350076 1947 L) 350976 2227 L) 351995 1826 (N L 354689 3605 L))) 358195 1228 (N (N (N (N L 360448 1412 L) 370341 2965 L) 376943 659 (N L 379085 588 L)) 380311 3355 (N (N (N L 386860 4002 L) 389216 947 L) 393216 1540 (N L 394831 1307 L)))))))
def otaaab : OTree := (N (N (N (N (N (N (N (N L 404761 1941 L) 411138 3219 L) 416037 1868 (N (N L 420690 2466 L) 425984 1668 L)) 433316 3995 (N (N (N L 435552 1075 L) 438638 3731 L) 447109 290 (N L 451133 533 L))) 452315 460 (N (N (N (N L 458752 1796 L) 461306 2195 L) 463473 3221 (N (N L 465109 3106 L) 467920 2636 L)) 472761 1179 (N (N (N L 482784 3507 L) 491520 1924 L) 498734 3276 (N L 499970 1186 L)))) 502866 3611 (N (N (N (N (N L 515413 2325 L) 521856 1715 L) 523926 2707 (N (N L 524288 2052 L) 527602 2581 L)) 528832 179 (N (N (N L 531340 1996 L) 546271 2323 L) 547537 1314 (N L 552500 3099 L))) 557056 2180 (N (N (N (N L 565939 2835 L) 566386 332 L) 572064 2995 (N L 574422 3989 L)) 582406 3490 (N (N (N L 586975 1691 L) 589824 2308 L) 596519 3347 (N L 600406 162 L))))) 603034 277 (N (N (N (N (N (N L 606752 563 L) 614082 3483 L) 614777 2764 (N (N L 622592 2436 L) 626817 2082 L)) 640041 1819 (N (N (N L 646791 3148 L) 649536 2355 L) 650571 3859 (N L 654526 1173 L))) 655360 2564 (N (N (N (N L 659441 3867 L) 661280 1459 L) 662783 3618 (N (N L 675695 2380 L) 682790 275 L)) 685826 2197 (N (N (N L 688128 2692 L) 693530 1435 L) 695370 787 (N L 697640 1698 L)))) 702502 3349 (N (N (N (N (N L 703552 3763 L) 716945 4044 L) 720896 2820 (N (N L 730334 1299 L) 734618 1100 L)) 737031 3739 (N (N (N L 738496 1843 L) 739434 917 L) 749432 2978 (N L 753664 2948 L))) 755534 1557 (N (N (N (N L 756324 716 L) 763372 1051 L) 775090 1811 (N L 775855 802 L)) 782240 3123 (N (N (N L 786432 3076 L) 788926 2587 L) 792138 3660 (N L 792864 2739 L)))))) 797988 3475 (N (N (N (N (N (N (N L 809499 3861 L) 817069 1954 L) 819200 3204 (N (N L 824149 155 L) 824639 2709 L)) 829876 2252 (N (N (N L 832064 435 L) 839290 3874 L) 842312 3987 (N L 851968 3332 L))) 853034 546 (N (N (N (N L 866632 2971 L) 871104 2099 L) 877276 2451 (N (N L 877939 1045 L) 879807 844 L)) 884736 3460 (N (N (N L 890288 2963 L) 893859 283 L) 895575 405 (N L 900605 2722 L)))) 906049 1484 (N (N (N (N (N L 909728 819 L) 917504 3588 L) 922589 1427 (N (N L 925632 4019 L) 926187 3477 L)) 930179 3234 (N (N (N L 934569 204 L) 944251 2331 L) 950272 3716 (N L 952404 1058 L))) 963744 1203 (N (N (N (N L 976049 1939 L) 978639 2069 L) 979600 923 (N L 982359 1612 L)) 983040 3844 (N (N (N L 990851 1685 L) 997468 3532 L) 999940 2338 (N L 1002528 3379 L))))) 1005709 2203 (N (N (N (N (N (N L 1006629 403 L) 1015808 3972 L) 1017762 2892 (N (N L 1026889 915 L) 1032806 539 L)) 1036711 789 (N (N (N L 1042240 1587 L) 1047507 418 L) 1048576 133 (N L 1073446 329 L))) 1098744 2568 (N (N (N (N L 1103180 3103 L) 1108127 3540 L) 1114076 3256 (N (N L 1143804 2073 L) 1147980 1866 L)) 1171628 1732 (N (N (N L 1228944 1067 L) 1232529 3340 L) 1269104 2716 (N L 1282146 2313 L)))) 1313368 2864 (N (N (N (N (N L 1324086 188 L) 1377446 3975 L) 1381733 3766 (N (N L 1398443 1290 L) 1399614 968 L)) 1402343 3116 (N (N (N L 1403916 2868 L) 1437302 1326 L) 1449787 1950 (N L 1454962 323 L))) 1463888 831 (N (N (N (N L 1491060 804 L) 1522409 2211 L) 1522979 1493 (N L 1531307 1361 L)) 1540497 909 (N (N (N L 1552171 559 L) 1562180 1477 L) 1565383 1957 (N L 1572343 3088 L)))))))
def otaaa : OTree := N otaaaa 396800 3891 otaaab
def otaaba : OTree := (N (N (N (N (N (N (N (N L 1605508 1351 L) 1615904 2216 L) 1639498 3261 (N (N L 1645407 1978 L) 1684415 1726 L)) 1688688 2263 (N (N (N L 1696916 1430 L) 1714486 600 L) 1718485 4033 (N L 1719144 334 L))) 1725820 1937 (N (N (N (N L 1812879 2861 L) 1818315 1550 L) 1829002 3538 (N (N L 1830455 3616 L) 1839663 433 L)) 1846334 1190 (N (N (N L 1864891 2357 L) 1886437 3027 L) 1891841 902 (N L 1905841 3753 L)))) 1921820 1622 (N (N (N (N (N L 1931123 4038 L) 1941997 3242 L) 1950637 729 (N (N L 1960389 3480 L) 1961906 2768 L)) 1964888 1047 (N (N (N L 1985761 3339 L) 1997620 187 L) 2000360 3122 (N L 2005051 2322 L))) 2005577 1995 (N (N (N (N L 2017691 794 L) 2019593 1441 L) 2026884 532 (N (N L 2033681 834 L) 2034615 2205 L)) 2041810 2233 (N (N (N L 2044246 3367 L) 2050587 2895 L) 2072683 3215 (N L 2084960 3511 L))))) 2088217 3008 (N (N (N (N (N (N L 2097152 261 L) 2123340 585 L) 2133713 3857 (N (N L 2150981 1112 L) 2158979 3009 L)) 2159600 590 (N (N (N L 2166424 3231 L) 2172665 136 L) 2186929 3512 (N L 2192663 4052 L))) 2246385 1177 (N (N (N (N L 2295960 3658 L) 2319704 3396 L) 2347806 685 (N (N L 2356500 4050 L) 2357430 3086 L)) 2358631 2208 (N (N (N L 2416168 2631 L) 2434313 2091 L) 2440235 3724 (N L 2478144 1448 L)))) 2498249 412 (N (N (N (N (N L 2525332 3517 L) 2536375 3898 L) 2564292 1673 (N (N L 2600137 1495 L) 2613879 3390 L)) 2616577 2838 (N (N (N L 2625977 688 L) 2648133 316 L) 2670018 3723 (N L 2676577 315 L))) 2721298 2849 (N (N (N (N L 2722768 3250 L) 2732127 1682 L) 2732466 3915 (N L 2733855 1562 L)) 2752264 1044 (N (N (N L 2754892 2951 L) 2755702 2570 L) 2758517 1864 (N L 2763466 2486 L)))))) 2781134 3244 (N (N (N (N (N (N (N L 2784280 692 L) 2789387 1602 L) 2789991 1437 (N (N L 2798911 719 L) 2804397 1465 L)) 2810501 3751 (N (N (N L 2850277 2606 L) 2852032 4023 L) 2858523 960 (N L 2867414 3471 L))) 2887081 1599 (N (N (N (N L 2898815 3870 L) 2909165 579 L) 2924926 817 (N (N L 2936159 1717 L) 2938965 2342 L)) 2958529 1572 (N (N (N L 2989346 1798 L) 2995658 979 L) 3022678 2641 (N L 3043570 1443 L)))) 3045958 2901 (N (N (N (N (N L 3049265 3158 L) 3057995 2473 L) 3067887 3014 (N (N L 3080971 1805 L) 3083688 2885 L)) 3103606 1071 (N (N (N L 3104424 3405 L) 3104711 3216 L) 3105966 3877 (N L 3122810 1369 L))) 3130330 3498 (N (N (N (N L 3135417 2071 L) 3143562 3992 L) 3145325 464 (N L 3145728 389 L)) 3147626 841 (N (N (N L 3191633 689 L) 3193316 4021 L) 3208299 3494 (N L 3228451 1158 L))))) 3243311 2131 (N (N (N (N (N (N L 3251592 596 L) 3252589 312 L) 3267540 159 (N (N L 3269889 2696 L) 3281375 2896 L)) 3284559 536 (N (N (N L 3288289 3095 L) 3301943 298 L) 3302871 2009 (N L 3311092 3012 L))) 3312852 2378 (N (N (N (N L 3355917 3225 L) 3389596 1094 L) 3390970 1833 (N (N L 3396653 2646 L) 3425026 2112 L)) 3429536 567 (N (N (N L 3432637 271 L) 3453094 3977 L) 3490745 2844 (N L 3512346 1346 L)))) 3512784 3357 (N (N (N (N (N L 3527635 935 L) 3534207 3385 L) 3538724 2511 (N (N L 3583061 443 L) 3600675 907 L)) 3608120 178 (N (N (N L 3609228 1556 L) 3614820 3986 L) 3615739 2251 (N L 3626779 3745 L))) 3636868 1306 (N (N (N (N L 3663257 3115 L) 3666618 908 L) 3674960 1696 (N L 3677598 594 L)) 3688061 2574 (N (N (N L 3701393 2477 L) 3703450 1165 L) 3704425 2213 (N L 3711340 3021 L)))))))
def otaabb : OTree := (N (N (N (N (N (N (N (N L 3726316 3781 L) 3732573 1583 L) 3752701 3921 (N (N L 3753829 3797 L) 3754523 3363 L)) 3810372 2206 (N (N (N L 3821727 835 L) 3824633 1343 L) 3852440 846 (N L 3852630 1089 L))) 3857325 2193 (N (N (N (N L 3865459 1624 L) 3925173 1316 L) 3939297 2480 (N (N L 3955827 444 L) 3973548 3911 L)) 4028512 3368 (N (N (N L 4065685 3734 L) 4084168 3006 L) 4090041 3415 (N L 4101011 3886 L)))) 4131369 172 (N (N (N (N (N L 4132330 1031 L) 4132884 2484 L) 4145071 1846 (N (N L 4148299 1224 L) 4152029 3850 L)) 4164830 317 (N (N (N L 4172008 2234 L) 4194304 517 L) 4222392 1097 (N L 4231832 903 L))) 4233413 138 (N (N (N (N L 4238307 3656 L) 4247732 1974 L) 4250649 1332 (N L 4259516 3500 L)) 4261290 2136 (N (N (N L 4266155 2705 L) 4277993 1102 L) 4278022 961 (N L 4300822 3138 L))))) 4301294 2845 (N (N (N (N (N (N L 4306042 2873 L) 4318250 2471 L) 4319831 1359 (N (N L 4331577 3487 L) 4332651 4024 L)) 4344059 264 (N (N (N L 4345351 3028 L) 4382666 174 L) 4426112 2999 (N L 4433285 3983 L))) 4438335 1856 (N (N (N (N L 4467947 2329 L) 4498267 1328 L) 4519050 572 (N (N L 4558818 571 L) 4586372 2443 L)) 4591897 2250 (N (N (N L 4615833 3780 L) 4654901 1325 L) 4673025 3026 (N L 4674885 3214 L)))) 4677326 1440 (N (N (N (N (N L 4688173 673 L) 4690601 3506 L) 4710192 2068 (N (N L 4710551 3346 L) 4711245 2763 L)) 4713271 3098 (N (N (N L 4766629 209 L) 4769229 2851 L) 4773292 725 (N L 4791664 199 L))) 4819819 3286 (N (N (N (N L 4833022 966 L) 4838038 1961 L) 4868626 1195 (N L 4880470 2444 L)) 4883254 3597 (N (N (N L 4888549 2095 L) 4889424 709 L) 4889712 3789 (N L 4890286 3472 L)))))) 4910428 2725 (N (N (N (N (N (N (N L 4916352 2856 L) 4951675 1175 L) 4957885 4010 (N (N L 4966909 2649 L) 4967988 2968 L)) 4972026 848 (N (N (N L 4995250 796 L) 5020498 3135 L) 5039866 1091 (N L 5043191 2718 L))) 5050625 4029 (N (N (N (N L 5071463 2746 L) 5084291 1702 L) 5095063 3381 (N (N L 5096149 1585 L) 5128584 3337 L)) 5163394 3108 (N (N (N L 5200274 2903 L) 5203431 3774 L) 5209602 662 (N L 5225028 3590 L)))) 5237652 1875 (N (N (N (N (N L 5242880 645 L) 5246110 1353 L) 5286147 3632 (N (N L 5292220 700 L) 5333748 1479 L)) 5355709 550 (N (N (N L 5360172 1077 L) 5361914 1969 L) 5409539 2824 (N L 5416600 1620 L))) 5426549 415 (N (N (N (N L 5432247 824 L) 5448561 3283 L) 5465157 3462 (N L 5483680 936 L)) 5510475 829 (N (N (N L 5536056 3386 L) 5555751 2345 L) 5556621 3142 (N L 5560439 2774 L))))) 5594903 281 (N (N (N (N (N (N L 5609022 3079 L) 5610331 428 L) 5615637 3636 (N (N L 5621201 2358 L) 5623406 1418 L)) 5632221 3528 (N (N (N L 5637968 810 L) 5638736 2265 L) 5646321 1560 (N L 5648968 2512 L))) 5666083 151 (N (N (N (N L 5675670 1814 L) 5676514 983 L) 5690968 2110 (N (N L 5714364 1454 L) 5738037 2116 L)) 5739861 4042 (N (N (N L 5769718 3876 L) 5802626 171 L) 5813959 1164 (N L 5838657 434 L)))) 5841580 3866 (N (N (N (N (N L 5845684 2580 L) 5855268 1825 L) 5863596 1042 (N (N L 5863684 3403 L) 5950722 3903 L)) 5952904 1347 (N (N (N L 5958860 3358 L) 5975196 2648 L) 5983703 3345 (N L 5995905 1358 L))) 5996499 3137 (N (N (N (N L 6010725 1163 L) 6026454 699 L) 6030830 783 (N L 6052320 1591 L)) 6054950 3264 (N (N (N L 6071947 1618 L) 6074042 3629 L) 6074617 2976 (N L 6089614 2702 L)))))))
def otaab : OTree := N otaaba 3711536 144 otaabb
def otaa : OTree := N otaaa 1572804 1741 otaab
def otabaa : OTree := (N (N (N (N (N (N (N (N L 6098843 3365 L) 6109390 2607 L) 6114580 1861 (N (N L 6120281 400 L) 6120372 2125 L)) 6148586 1033 (N (N (N L 6198184 953 L) 6201420 3663 L) 6203399 3906 (N L 6203993 925 L))) 6215036 1191 (N (N (N (N L 6251970 2460 L) 6284814 1489 L) 6285455 1877 (N (N L 6291236 931 L) 6291456 773 L)) 6294516 1609 (N (N (N L 6325527 1603 L) 6330107 2623 L) 6342792 1438 (N L 6376662 4006 L)))) 6382507 1329 (N (N (N (N (N L 6386632 2997 L) 6395514 1425 L) 6403353 1614 (N (N L 6403717 2113 L) 6412271 3160 L)) 6432614 2310 (N (N (N L 6446686 1235 L) 6493857 287 L) 6503184 1108 (N L 6505178 568 L))) 6516226 392 (N (N (N (N L 6548803 2596 L) 6562711 720 L) 6568382 1048 (N (N L 6576578 3223 L) 6579559 554 L)) 6582151 3929 (N (N (N L 6595497 3360 L) 6598131 142 L) 6601493 1106 (N L 6607915 1965 L))))) 6622145 964 (N (N (N (N (N (N L 6625665 1738 L) 6651965 2317 L) 6654450 1445 (N (N L 6657784 2501 L) 6668649 272 L)) 6669016 973 (N (N (N L 6671507 3119 L) 6711834 3481 L) 6726899 2769 (N L 6729706 2517 L))) 6731071 3747 (N (N (N (N L 6753370 214 L) 6779153 2118 L) 6781917 3625 (N (N L 6819136 1079 L) 6825764 1216 L)) 6841683 527 (N (N (N L 6850448 958 L) 6853379 2454 L) 6878555 3799 (N L 6906188 2953 L)))) 6922799 2734 (N (N (N (N (N L 6956667 668 L) 6984050 300 L) 6984883 2698 (N (N L 6986708 2055 L) 6987777 1972 L)) 6995094 2376 (N (N (N L 7010942 3638 L) 7014063 1831 L) 7024669 2626 (N L 7025545 3741 L))) 7036776 1999 (N (N (N (N L 7044823 3769 L) 7051669 573 L) 7066064 1466 (N L 7118031 828 L)) 7123682 1968 (N (N (N L 7161414 1803 L) 7166083 827 L) 7193432 2759 (N L 7212863 2465 L)))))) 7215481 306 (N (N (N (N (N (N (N L 7217208 3092 L) 7229640 2962 L) 7230207 1483 (N (N L 7232552 2586 L) 7263424 3752 L)) 7292029 1804 (N (N (N L 7302939 3243 L) 7340032 901 L) 7367378 1865 (N L 7378355 2330 L))) 7380113 3378 (N (N (N (N L 7391414 587 L) 7391475 658 L) 7392700 3604 (N (N L 7396918 3105 L) 7418155 1623 L)) 7418927 1342 (N (N (N L 7436183 3094 L) 7442390 1571 L) 7443145 3157 (N L 7469400 4049 L)))) 7471532 2701 (N (N (N (N (N L 7486622 3344 L) 7486748 1357 L) 7487676 3141 (N (N L 7496632 3631 L) 7498549 549 L)) 7511519 3773 (N (N (N L 7522959 570 L) 7539367 2571 L) 7545783 955 (N L 7581178 2952 L))) 7585030 3768 (N (N (N (N L 7586797 3359 L) 7590799 2516 L) 7607667 3279 (N L 7616505 2599 L)) 7616524 2370 (N (N (N L 7616574 1565 L) 7624965 1593 L) 7642573 458 (N L 7662445 1348 L))))) 7679287 2340 (N (N (N (N (N (N L 7716060 4039 L) 7765216 1576 L) 7779941 1859 (N (N L 7782571 2367 L) 7788467 542 L)) 7805414 1433 (N (N (N L 7849272 3727 L) 7855392 2487 L) 7862845 3904 (N L 7907577 956 L))) 7911610 3248 (N (N (N (N L 7961355 2076 L) 7971482 2199 L) 7973930 3545 (N (N L 7980170 3754 L) 7982117 2128 L)) 7983227 2456 (N (N (N L 7997026 1990 L) 8019782 1750 L) 8023916 169 (N L 8057134 649 L)))) 8097360 1985 (N (N (N (N (N L 8097393 1870 L) 8110854 529 L) 8126169 3672 (N (N L 8146009 4014 L) 8193907 693 L)) 8216808 2854 (N (N (N L 8221060 1201 L) 8227564 2572 L) 8236939 2219 (N L 8296123 3923 L))) 8321383 2694 (N (N (N (N L 8327992 1678 L) 8342942 800 L) 8344479 2514 (N L 8355236 3245 L)) 8363890 1927 (N (N (N L 8372760 3978 L) 8375309 3252 L) 8382376 2760 (N L 8384283 182 L)))))))
def otabab : OTree := (N (N (N (N (N (N (N (N L 8388608 1029 L) 8421209 2121 L) 8434989 2347 (N (N L 8443013 1932 L) 8455489 3894 L)) 8461339 2612 (N (N (N L 8462393 1799 L) 8466826 266 L) 8475366 2248 (N L 8477809 4012 L))) 8487781 2189 (N (N (N (N L 8497898 1199 L) 8500137 1349 L) 8501372 3984 (N (N L 8501449 2509 L) 8519313 421 L)) 8522580 1240 (N (N (N L 8531186 2126 L) 8531756 1857 L) 8532310 401 (N L 8554752 680 L)))) 8601605 3266 (N (N (N (N (N L 8602588 669 L) 8612061 697 L) 8612948 1959 (N (N L 8615335 2639 L) 8624639 2327 L)) 8626141 1616 (N (N (N L 8632275 217 L) 8633697 920 L) 8636531 2986 (N L 8663131 3999 L))) 8664543 520 (N (N (N (N L 8665302 3000 L) 8666414 980 L) 8724148 302 (N L 8752984 1365 L)) 8761242 675 (N (N (N L 8778346 337 L) 8829641 327 L) 8852224 951 (N L 8866570 2959 L))))) 8876631 3648 (N (N (N (N (N (N L 8881189 3881 L) 8885238 3542 L) 8911093 1862 (N (N L 8935894 1689 L) 8955664 3721 L)) 8995775 2608 (N (N (N L 8998164 1084 L) 9025284 3236 L) 9082637 727 (N L 9100580 1302 L))) 9105358 2494 (N (N (N (N L 9116388 1083 L) 9131560 1931 L) 9171368 2182 (N (N L 9172513 3667 L) 9183771 1482 L)) 9206843 2500 (N (N (N L 9236813 1564 L) 9286573 3263 L) 9291495 414 (N L 9301245 2115 L)))) 9309027 2605 (N (N (N (N (N L 9309834 3470 L) 9313468 2848 L) 9321762 978 (N (N L 9347586 3005 L) 9364974 442 L)) 9376346 1313 (N (N (N L 9379689 1172 L) 9379954 4018 L) 9397511 3730 (N L 9398202 459 L))) 9402215 3226 (N (N (N (N L 9413795 3121 L) 9414918 3366 L) 9435175 3765 (N L 9437184 1157 L)) 9444991 2377 (N (N (N L 9498818 1070 L) 9545114 946 L) 9551612 3994 (N L 9552723 161 L)))))) 9564909 1684 (N (N (N (N (N (N (N L 9567548 1938 L) 9567731 1611 L) 9574932 2700 (N (N L 9598397 3371 L) 9606515 2595 L)) 9613249 1105 (N (N (N L 9613947 213 L) 9648560 150 L) 9655165 2647 (N L 9657457 3902 L))) 9667896 2470 (N (N (N (N L 9669788 1973 L) 9680524 3505 L) 9701848 2888 (N (N L 9703460 438 L) 9708703 2183 L)) 9714070 940 (N (N (N L 9725729 1034 L) 9728023 308 L) 9750282 1848 (N L 9754033 3668 L)))) 9757975 927 (N (N (N (N (N L 9762343 2056 L) 9771721 2699 L) 9789904 1211 (N (N L 9806572 301 L) 9809985 2958 L)) 9819560 3666 (N (N (N L 9826955 1312 L) 9831156 2829 L) 9831873 1711 (N L 9837654 1573 L))) 9848203 912 (N (N (N (N L 9848589 3917 L) 9856493 197 L) 9908137 2822 (N L 9912004 1491 L)) 9938504 1853 (N (N (N L 9961137 1594 L) 9967514 2382 L) 9967609 2241 (N L 9970274 1752 L))))) 9987114 1553 (N (N (N (N (N (N L 10006350 1472 L) 10011488 3639 L) 10021729 1807 (N (N L 10037802 3737 L) 10101024 2600 L)) 10129286 2246 (N (N (N L 10129556 425 L) 10141930 3030 L) 10172274 1929 (N L 10213852 1566 L))) 10215311 2371 (N (N (N (N L 10216957 4031 L) 10239932 335 L) 10242068 4034 (N (N L 10242155 2589 L) 10243855 2617 L)) 10247426 2727 (N (N (N L 10308071 304 L) 10320162 1212 L) 10329239 3908 (N L 10331735 714 L)))) 10376356 3608 (N (N (N (N (N L 10379943 3351 L) 10381726 1834 L) 10383471 3280 (N (N L 10384510 601 L) 10405197 1095 L)) 10450800 4004 (N (N (N L 10464317 3228 L) 10485760 1285 L) 10492181 2633 (N L 10560849 1340 L))) 10572294 2224 (N (N (N (N L 10587920 2627 L) 10599940 2751 L) 10616216 3742 (N L 10642657 2887 L)) 10665863 3729 (N (N (N L 10672401 216 L) 10673839 3265 L) 10673922 2638 (N L 10683869 3889 L)))))))
def otaba : OTree := N otabaa 8385685 3372 otabab
def otabba : OTree := (N (N (N (N (N (N (N (N L 10711379 1062 L) 10734981 1339 L) 10742762 2315 (N (N L 10785733 2724 L) 10818342 648 L)) 10829507 799 (N (N (N L 10831929 3156 L) 10839655 1592 L) 10850340 299 (N L 10873006 2316 L))) 10896363 3539 (N (N (N (N L 10906762 3974 L) 10916936 3617 L) 10922914 818 (N (N L 10928248 2714 L) 10933592 2066 L)) 10933768 3787 (N (N (N L 10936417 148 L) 10967360 1832 L) 11020950 1597 (N L 11032153 3770 L)))) 11080903 470 (N (N (N (N (N L 11087214 1705 L) 11089690 3270 L) 11112145 2343 (N (N L 11117168 1849 L) 11124888 2255 L)) 11128846 2754 (N (N (N L 11129275 1821 L) 11149095 537 L) 11202436 1948 (N L 11217269 3207 L))) 11218827 1718 (N (N (N (N L 11219903 812 L) 11222524 2826 L) 11224467 4040 (N (N L 11231235 2228 L) 11263848 1827 L)) 11267388 2897 (N (N (N L 11269406 3669 L) 11275177 1578 L) 11276713 1497 (N L 11291371 3096 L))))) 11292230 279 (N (N (N (N (N (N L 11297200 2000 L) 11307996 1551 L) 11311040 3127 (N (N L 11332684 3520 L) 11341241 1214 L)) 11350053 3606 (N (N (N L 11353028 1879 L) 11388982 3154 L) 11393149 2221 (N L 11395547 928 L))) 11400764 398 (N (N (N (N L 11428689 2862 L) 11436142 3981 L) 11442751 3749 (N (N L 11451905 3653 L) 11462241 1229 L)) 11462587 784 (N (N (N L 11465116 175 L) 11475299 1220 L) 11479683 3018 (N L 11503572 2057 L)))) 11534336 1413 (N (N (N (N (N L 11565107 2889 L) 11611868 2749 L) 11619590 2362 (N (N L 11636226 3408 L) 11641646 408 L)) 11643460 2730 (N (N (N L 11646238 1303 L) 11653636 1881 L) 11686833 2468 (N L 11742135 2703 L))) 11743573 1600 (N (N (N (N L 11749280 439 L) 11811295 2089 L) 11812969 838 (N L 11814875 2006 L)) 11845126 574 (N (N (N L 11850929 2966 L) 11861940 4055 L) 11866471 1468 (N L 11884638 944 L)))))) 11901371 2744 (N (N (N (N (N (N (N L 11903142 468 L) 11915486 2184 L) 11922319 3871 (N (N L 11931628 3488 L) 11935932 466 L)) 11946231 1934 (N (N (N L 11956722 941 L) 11961762 4025 L) 11963011 975 (N L 11976583 1063 L))) 11982879 2498 (N (N (N (N L 11983372 3997 L) 12002879 1036 L) 12013748 1323 (N (N L 12041314 2883 L) 12051107 2334 L)) 12052564 2495 (N (N (N L 12061155 2458 L) 12062181 660 L) 12070474 3890 (N L 12076353 2977 L)))) 12078145 2379 (N (N (N (N (N L 12078435 274 L) 12117098 2894 L) 12117626 833 (N (N L 12118779 2321 L) 12120103 728 L)) 12124671 3085 (N (N (N L 12130725 589 L) 12130892 3856 L) 12148407 687 (N L 12150853 3013 L))) 12155128 2341 (N (N (N (N L 12169972 3356 L) 12196709 3655 L) 12225294 1619 (N L 12235403 3078 L)) 12283099 2585 (N (N (N L 12291367 3630 L) 12326838 265 L) 12365975 3665 (N L 12372029 3029 L))))) 12379521 4003 (N (N (N (N (N (N L 12429067 1035 L) 12433073 1467 L) 12454927 948 (N (N L 12459693 3144 L) 12463571 775 L)) 12466926 2102 (N (N (N L 12473944 3884 L) 12479319 3594 L) 12496591 3274 (N L 12515791 580 L))) 12523506 3761 (N (N (N (N L 12534211 309 L) 12541293 166 L) 12579168 4008 (N (N L 12582912 1541 L) 12587745 3145 L)) 12634623 1308 (N (N (N L 12651015 3139 L) 12658943 191 L) 12662032 2846 (N L 12690125 556 L)))) 12691791 394 (N (N (N (N (N L 12694177 1159 L) 12697602 3892 L) 12703221 2230 (N (N L 12712197 1736 L) 12729733 2982 L)) 12732080 949 (N (N (N L 12740214 2609 L) 12748926 3623 L) 12754928 3919 (N L 12770471 2489 L))) 12771347 194 (N (N (N (N L 12771890 2461 L) 12783358 3288 L) 12790269 2833 (N L 12806186 1217 L)) 12806683 3150 (N (N (N L 12814217 2874 L) 12825347 1085 L) 12852661 2387 (N L 12864492 1670 L)))))))
def otabbb : OTree := (N (N (N (N (N (N (N (N L 12897128 2368 L) 12906127 1039 L) 12945961 1854 (N (N L 12952358 1942 L) 12963487 2519 L)) 12985533 1080 (N (N (N L 12986466 543 L) 13005609 2132 L) 13008164 776 (N L 13035160 905 L))) 13074054 164 (N (N (N (N L 13091198 430 L) 13113220 3479 L) 13124135 1360 (N (N L 13135566 1066 L) 13136725 2072 L)) 13139502 2777 (N (N (N L 13141239 2891 L) 13141392 914 L) 13146999 1953 (N L 13147216 154 L)))) 13152987 562 (N (N (N (N (N L 13156441 3220 L) 13175894 3885 L) 13189746 3744 (N (N L 13196239 270 L) 13202211 2130 L)) 13208960 2472 (N (N (N L 13243042 1860 L) 13251330 3402 L) 13282515 3596 (N L 13303615 3499 L))) 13303891 1677 (N (N (N (N L 13308877 2853 L) 13313209 1869 L) 13313746 528 (N L 13314297 1989 L)) 13319439 3247 (N (N (N L 13399357 3993 L) 13453775 465 L) 13458164 2005 (N L 13462103 2467 L))))) 13482398 1596 (N (N (N (N (N (N L 13492452 3888 L) 13506717 342 L) 13518347 1222 (N (N L 13522611 2217 L) 13538566 1595 L)) 13544876 3595 (N (N (N L 13608889 455 L) 13631488 1669 L) 13661127 3401 (N L 13689165 779 L))) 13692466 1723 (N (N (N (N L 13706656 296 L) 13745906 932 L) 13774600 1198 (N (N L 13802409 1490 L) 13805017 1069 L)) 13806661 160 (N (N (N L 13821188 1806 L) 13840760 2886 L) 13844994 1577 (N L 13847425 1878 L)))) 13866127 3996 (N (N (N (N (N L 13935163 1352 L) 13937678 1076 L) 13940231 2823 (N (N L 13942928 1590 L) 13944618 3628 L)) 13959140 1162 (N (N (N L 13989626 2697 L) 13998736 1432 L) 14003605 4048 (N L 14007683 2137 L))) 14012195 2218 (N (N (N (N L 14019804 2455 L) 14032299 2706 L) 14032574 3275 (N L 14036445 3732 L)) 14038835 3634 (N (N (N L 14043774 545 L) 14046667 922 L) 14064566 1492 (N L 14073564 2312 L)))))) 14080865 2232 (N (N (N (N (N (N (N L 14089518 3615 L) 14101035 3230 L) 14104949 3395 (N (N L 14122671 959 L) 14145597 1223 L)) 14172079 2475 (N (N (N L 14180930 780 L) 14194157 1286 L) 14210384 723 (N L 14231496 3800 L))) 14242047 2881 (N (N (N (N L 14242163 3406 L) 14253185 3217 L) 14257576 1724 (N (N L 14281404 1072 L) 14292068 1233 L)) 14307518 291 (N (N (N L 14313431 597 L) 14326998 3258 L) 14333769 2237 (N L 14358129 704 L)))) 14371552 1463 (N (N (N (N (N L 14372580 2191 L) 14399310 2634 L) 14414350 452 (N (N L 14420719 343 L) 14432662 446 L)) 14436274 534 (N (N (N L 14451138 1293 L) 14455332 3759 L) 14474021 3600 (N L 14474109 461 L))) 14479626 3237 (N (N (N (N L 14483133 581 L) 14485185 1945 L) 14530856 807 (N L 14538219 1103 L)) 14542850 962 (N (N (N L 14543237 285 L) 14547829 313 L) 14553531 3878 (N L 14561803 2741 L))))) 14578777 2993 (N (N (N (N (N (N L 14680064 1797 L) 14709933 3657 L) 14715364 3910 (N (N L 14720940 3414 L) 14745592 297 L)) 14753125 3233 (N (N (N L 14756687 1690 L) 14759237 1099 L) 14759375 1298 (N L 14760203 3762 L))) 14761809 2196 (N (N (N (N L 14796380 1289 L) 14831143 3222 L) 14836310 3159 (N (N L 14837854 2622 L) 14883493 3107 L)) 14885042 3285 (N (N (N L 14898841 3025 L) 14916009 3905 L) 14916075 3662 (N L 14919468 1041 L)))) 14933179 2264 (N (N (N (N (N L 14943064 397 L) 14951761 3269 L) 14968441 2223 (N (N L 14972771 1061 L) 14973205 3728 L)) 14973457 2637 (N (N (N L 15021118 1082 L) 15022999 2493 L) 15061467 1852 (N L 15069533 3504 L))) 15077486 139 (N (N (N (N L 15090279 1851 L) 15128374 1180 L) 15140414 2004 (N L 15148794 3743 L)) 15162333 904 (N (N (N L 15170060 2488 L) 15172831 1944 L) 15183124 2474 (N L 15187018 1232 L)))))))
def otabb : OTree := N otabba 12884608 2103 otabbb
def otab : OTree := N otaba 10696056 2101 otabb
def ota : OTree := N otaa 6095527 3469 otab
def otbaaa : OTree := (N (N (N (N (N (N (N (N L 15194196 4057 L) 15209994 3129 L) 15215311 3535 (N (N L 15231739 167 L) 15233048 1730 L)) 15233109 3101 (N (N (N L 15285146 842 L) 15300602 2628 L) 15313023 2771 (N L 15324878 390 L))) 15358535 1700 (N (N (N (N L 15369783 2002 L) 15377273 3342 L) 15384341 1568 (N (N L 15392584 3501 L) 15432081 3015 L)) 15443257 2954 (N (N (N L 15449069 3847 L) 15449114 3508 L) 15453443 3756 (N L 15462000 456 L)))) 15466303 310 (N (N (N (N (N L 15490496 3112 L) 15514779 2990 L) 15535727 1054 (N (N L 15541590 1727 L) 15559146 3651 L)) 15610828 2841 (N (N (N L 15633391 1333 L) 15648520 2353 L) 15656400 678 (N L 15670848 1975 L))) 15674969 2447 (N (N (N (N L 15684979 2752 L) 15700216 140 L) 15718966 1451 (N (N L 15728640 1925 L) 15734155 3913 L)) 15763562 320 (N (N (N L 15765042 1295 L) 15781408 2615 L) 15801778 2830 (N L 15814946 2080 L))))) 15822525 2642 (N (N (N (N (N (N L 15824583 1709 L) 15853037 1980 L) 15858437 1712 (N (N L 15881790 3081 L) 15911406 1574 L)) 15914279 2225 (N (N (N L 15925076 3125 L) 15926805 3783 L) 15958729 525 (N L 15959266 656 L))) 15959509 3277 (N (N (N (N L 15963556 933 L) 15976786 2735 L) 15987477 2373 (N (N L 15993650 3793 L) 15998353 2389 L)) 15999052 1187 (N (N (N L 16053728 1192 L) 16058575 518 L) 16081050 339 (N L 16091718 3612 L)))) 16200152 1209 (N (N (N (N (N L 16210861 3495 L) 16212180 1743 L) 16218121 1474 (N (N L 16219106 1181 L) 16221648 1336 L)) 16226341 2440 (N (N (N L 16248481 2644 L) 16249782 671 L) 16267603 1979 (N L 16276623 3467 L))) 16291670 3268 (N (N (N (N L 16302038 1098 L) 16339693 3758 L) 16359804 193 (N L 16360067 3918 L)) 16380496 913 (N (N (N L 16381325 2776 L) 16387321 1322 L) 16391161 3417 (N L 16399205 407 L)))))) 16405496 3664 (N (N (N (N (N (N (N L 16411930 2584 L) 16453972 926 L) 16472728 3907 (N (N L 16478982 1471 L) 16492070 1239 L)) 16493235 2326 (N (N (N L 16505825 3262 L) 16527201 954 L) 16531421 1341 (N L 16554547 1444 L))) 16587430 427 (N (N (N (N L 16604777 3468 L) 16633008 2902 L) 16640841 4009 (N (N L 16645783 198 L) 16689380 684 L)) 16692558 584 (N (N (N L 16695115 135 L) 16699414 1716 L) 16706138 4022 (N L 16708498 3722 L)))) 16728112 793 (N (N (N (N (N L 16756212 3090 L) 16756492 971 L) 16760035 690 (N (N L 16764012 2337 L) 16765653 2708 L)) 16769748 1434 (N (N (N L 16777216 2053 L) 16801723 1225 L) 16846090 3852 (N L 16869978 1707 L))) 16883272 2582 (N (N (N (N L 16886586 1367 L) 16907964 1982 L) 16909548 1480 (N L 16910978 2742 L)) 16915659 2988 (N (N (N L 16922655 180 L) 16924763 3591 L) 16933652 522 (N L 16944496 3851 L))))) 16953576 2107 (N (N (N (N (N (N L 16974826 1421 L) 16994548 2351 L) 16997419 805 (N (N L 16999026 2629 L) 17002705 2960 L)) 17002898 1997 (N (N (N L 17024848 1414 L) 17026402 2259 L) 17044385 2392 (N L 17062349 1230 L))) 17062776 3649 (N (N (N (N L 17064581 785 L) 17078149 3353 L) 17109504 1320 (N (N L 17156905 2441 L) 17179658 3522 L)) 17180337 1309 (N (N (N L 17190734 207 L) 17200531 1337 L) 17202305 3879 (N L 17213047 176 L)))) 17219073 2108 (N (N (N (N (N L 17249239 1687 L) 17249487 938 L) 17250995 3152 (N (N L 17263279 345 L) 17267394 1816 L)) 17296168 3492 (N (N (N L 17326239 2975 L) 17329047 1032 L) 17330565 952 (N L 17332828 1876 L))) 17339366 173 (N (N (N (N L 17340468 3982 L) 17348945 672 L) 17365572 1874 (N L 17416484 957 L)) 17428444 826 (N (N (N L 17447009 558 L) 17473981 2593 L) 17480690 2324 (N L 17481933 2994 L)))))))
def otbaab : OTree := (N (N (N (N (N (N (N (N L 17493518 2450 L) 17493629 843 L) 17505209 2645 (N (N L 17516020 593 L) 17521213 1315 L)) 17549638 3249 (N (N (N L 17551884 3750 L) 17552462 2485 L) 17613119 2890 (N L 17620063 1988 L))) 17658034 583 (N (N (N (N L 17680026 3100 L) 17703712 1847 L) 17708852 911 (N (N L 17712551 2240 L) 17762378 2729 L)) 17769189 4054 (N (N (N L 17782211 3654 L) 17804526 798 L) 17818234 3519 (N L 17825235 1219 L)))) 17825792 2181 (N (N (N (N (N L 17841821 1481 L) 17876334 3901 L) 17888387 1210 (N (N L 17902428 3748 L) 17930079 3855 L)) 17930430 832 (N (N (N L 17953600 2743 L) 17964283 1065 L) 17965744 454 (N L 17986041 2518 L))) 17992247 2236 (N (N (N (N L 18000943 2992 L) 18027214 2770 L) 18032383 2446 (N L 18037353 2989 L)) 18044774 3232 (N (N (N L 18066122 683 L) 18072475 524 L) 18089589 3738 (N L 18105637 1970 L))))) 18110070 2836 (N (N (N (N (N (N L 18116788 4001 L) 18117684 1227 L) 18118197 146 (N (N L 18121339 1549 L) 18124070 1936 L)) 18124374 333 (N (N (N L 18134070 4037 L) 18136812 1189 L) 18153439 2863 (N L 18157366 1863 L))) 18211961 1305 (N (N (N (N L 18242379 137 L) 18292711 1078 L) 18298303 1802 (N (N L 18302205 391 L) 18306067 2996 L)) 18309074 1608 (N (N (N L 18315564 1964 L) 18325749 181 L) 18340713 3377 (N L 18349618 2598 L)))) 18369795 318 (N (N (N (N (N L 18378570 3543 L) 18381532 3990 L) 18386521 3896 (N (N L 18387651 2772 L) 18393199 3592 L)) 18396627 1951 (N (N (N L 18416981 3023 L) 18426907 3778 L) 18427142 3485 (N L 18435543 551 L))) 18436673 3513 (N (N (N (N L 18461653 1182 L) 18461738 3775 L) 18468513 1475 (N L 18518791 2712 L)) 18519330 3882 (N (N (N L 18524418 985 L) 18532495 663 L) 18535681 1744 (N L 18618463 1873 L)))))) 18622106 4053 (N (N (N (N (N (N (N L 18637012 3491 L) 18661777 523 L) 18664412 2235 (N (N L 18693363 324 L) 18695539 3146 L)) 18725408 3496 (N (N (N L 18757625 1169 L) 18758295 2904 L) 18768549 1486 (N L 18768813 449 L))) 18783210 1692 (N (N (N (N L 18810247 851 L) 18815313 1542 L) 18863639 1838 (N (N L 18874368 2309 L) 18889207 1737 L)) 18924096 168 (N (N (N L 18957700 2094 L) 18979372 1478 L) 18981121 809 (N L 18982356 982 L)))) 19065837 3849 (N (N (N (N (N L 19081135 289 L) 19088634 3348 L) 19090205 1842 (N (N L 19095121 3858 L) 19095503 3147 L)) 19101937 2970 (N (N (N L 19109777 3102 L) 19111486 1731 L) 19132371 3007 (N L 19149089 396 L))) 19156819 3755 (N (N (N (N L 19180093 1742 L) 19180283 1473 L) 19186148 3416 (N L 19197012 3089 L)) 19213007 163 (N (N (N L 19225250 2129 L) 19227135 341 L) 19245024 2231 (N L 19258300 2880 L))))) 19265506 3599 (N (N (N (N (N (N L 19269619 215 L) 19274955 2750 L) 19297097 278 (N (N L 19321204 2457 L) 19335769 1958 L)) 19339537 3893 (N (N (N L 19359800 4017 L) 19403673 712 L) 19406920 822 (N L 19416071 564 L))) 19417367 1415 (N (N (N (N L 19427170 2058 L) 19428101 1836 L) 19434824 2200 (N (N L 19449054 3536 L) 19451093 1113 L)) 19457134 3735 (N (N (N L 19461909 3626 L) 19468107 2260 L) 19476276 3640 (N L 19484014 1160 L)))) 19492359 1823 (N (N (N (N (N L 19508890 2119 L) 19542194 395 L) 19556233 2363 (N (N L 19582953 2980 L) 19599184 2258 L)) 19611896 557 (N (N (N L 19612726 2592 L) 19619970 910 L) 19650643 3484 (N L 19661025 653 L))) 19663746 3375 (N (N (N (N L 19672854 1808 L) 19672890 2765 L) 19675269 3109 (N L 19689434 325 L)) 19701252 423 (N (N (N L 19706881 3010 L) 19707094 157 L) 19709758 185 (N L 19724913 591 L)))))))
def otbaa : OTree := N otbaaa 17485806 3482 otbaab
def otbaba : OTree := (N (N (N (N (N (N (N (N L 19822760 2899 L) 19838926 560 L) 19846724 2364 (N (N L 19876272 3645 L) 19881067 3130 L)) 19904775 2756 (N (N (N L 19909031 1354 L) 19922944 2437 L) 19945681 1993 (N L 19966465 1056 L))) 19979849 1422 (N (N (N (N L 19982298 1362 L) 19982711 2349 L) 20020111 1545 (N (N L 20042014 3399 L) 20055817 3409 L)) 20058150 2083 (N (N (N L 20077788 1237 L) 20087923 262 L) 20099149 211 (N L 20158700 2105 L)))) 20164434 3239 (N (N (N (N (N L 20164714 2383 L) 20167696 2242 L) 20168545 2077 (N (N L 20192445 2491 L) 20216915 3211 L)) 20229106 3374 (N (N (N L 20254584 1753 L) 20258614 2711 L) 20261740 1872 (N L 20272888 682 L))) 20276365 1304 (N (N (N (N L 20285610 2974 L) 20294988 1987 L) 20298115 2239 (N (N L 20334388 3002 L) 20336122 701 L)) 20352963 2731 (N (N (N L 20381616 3212 L) 20423304 409 L) 20474464 2088 (N L 20481315 1820 L))))) 20549270 3720 (N (N (N (N (N (N L 20560715 2847 L) 20566248 696 L) 20572116 1364 (N (N L 20580005 192 L) 20600713 655 L)) 20608896 1335 (N (N (N L 20626838 2352 L) 20636274 2492 L) 20653671 806 (N L 20671914 1589 L))) 20675095 3633 (N (N (N (N L 20676976 269 L) 20685993 3887 L) 20691358 1221 (N (N L 20697342 3149 L) 20697825 2832 L)) 20699714 2981 (N (N (N L 20713373 2212 L) 20755888 3497 L) 20770143 2630 (N L 20772552 1494 L)))) 20780770 2860 (N (N (N (N (N L 20785163 2356 L) 20788525 3510 L) 20789705 3338 (N (N L 20793511 328 L) 20794801 2567 L)) 20818302 3860 (N (N (N L 20820330 2202 L) 20825478 3019 L) 20825706 1554 (N L 20827893 2866 L))) 20838054 1185 (N (N (N (N L 20860395 586 L) 20863403 3140 L) 20877653 1998 (N L 20877870 2625 L)) 20887848 2961 (N (N (N L 20900050 3928 L) 20944861 1174 L) 20950900 3134 (N L 20956035 2135 L)))))) 20971520 2565 (N (N (N (N (N (N (N L 20984323 201 L) 21019502 1049 L) 21102120 3868 (N (N L 21103916 1456 L) 21121675 2620 L)) 21147407 3016 (N (N (N L 21156547 3463 L) 21158454 3382 L) 21160567 1580 (N L 21160966 1460 L))) 21167057 650 (N (N (N (N L 21175081 195 L) 21192473 2462 L) 21199144 447 (N (N L 21209072 3619 L) 21220885 2261 L)) 21233233 721 (N (N (N L 21261762 711 L) 21269947 2490 L) 21286949 3133 (N L 21304843 344 L)))) 21306494 3521 (N (N (N (N (N L 21307172 206 L) 21330478 2449 L) 21367699 2737 (N (N L 21382799 2086 L) 21392089 1205 L)) 21408142 854 (N (N (N L 21420764 3369 L) 21424957 3526 L) 21446410 2619 (N L 21460724 1675 L))) 21464092 450 (N (N (N (N L 21464927 3613 L) 21469355 1703 L) 21472537 1487 (N L 21479913 3641 L)) 21555115 686 (N (N (N L 21570218 420 L) 21594332 2957 L) 21606775 2469 (N L 21612305 303 L))))) 21622242 2381 (N (N (N (N (N (N L 21622399 1552 L) 21625122 2245 L) 21635948 1288 (N (N L 21640283 3284 L) 21655022 3128 L)) 21657766 1567 (N (N (N L 21672646 2372 L) 21680166 970 L) 21700680 555 (N L 21722460 1676 L))) 21727905 1161 (N (N (N (N L 21767926 4051 L) 21789972 2950 L) 21795442 3114 (N (N L 21799762 2905 L) 21804278 3224 L)) 21806508 535 (N (N (N L 21817161 3920 L) 21826864 2507 L) 21827225 1170 (N L 21832921 410 L)))) 21833872 2209 (N (N (N (N (N L 21844580 1586 L) 21849282 276 L) 21861041 3087 (N (N L 21867168 3255 L) 21888152 4032 L)) 21894784 3624 (N (N (N L 21928795 2366 L) 21946442 2198 L) 21951144 3671 (N L 21992659 1453 L))) 22000709 3282 (N (N (N (N L 22007153 782 L) 22013855 1824 L) 22020096 2693 (N L 22041381 457 L)) 22061845 2054 (N (N (N L 22081043 1107 L) 22087931 1488 L) 22098847 170 (N L 22103796 1559 L)))))))
def otbabb : OTree := (N (N (N (N (N (N (N (N L 22110463 2521 L) 22136978 3097 L) 22159745 1088 (N (N L 22164186 143 L) 22182592 311 L)) 22192984 1436 (N (N (N L 22251846 788 L) 22255266 3474 L) 22255481 3659 (N L 22271884 2610 L))) 22277442 666 (N (N (N (N L 22280601 3361 L) 22284712 2336 L) 22297948 3757 (N (N L 22305999 338 L) 22311866 1294 L)) 22324218 2001 (N (N (N L 22324505 1699 L) 22344502 3413 L) 22358107 451 (N L 22359928 703 L)))) 22364194 3614 (N (N (N (N (N L 22417268 3760 L) 22445757 2748 L) 22462112 1704 (N (N L 22480094 3350 L) 22489316 4030 L)) 22492888 1751 (N (N (N L 22513552 2604 L) 22513674 3764 L) 22523258 1930 (N L 22531923 950 L))) 22533733 519 (N (N (N (N L 22541361 2120 L) 22551235 3465 L) 22580237 706 (N L 22580456 1693 L)) 22587901 2983 (N (N (N L 22603323 1721 L) 22605570 3791 L) 22624789 2955 (N L 22627390 2747 L))))) 22657997 2956 (N (N (N (N (N (N L 22667480 1579 L) 22682044 2865 L) 22683234 3509 (N (N L 22702769 3238 L) 22712882 184 L)) 22719978 2591 (N (N (N L 22731972 340 L) 22732948 3848 L) 22762090 4036 (N L 22762602 1226 L))) 22781006 582 (N (N (N (N L 22793837 937 L) 22805138 1366 L) 22811206 1991 (N (N L 22874589 1966 L) 22910692 3642 L)) 22926447 189 (N (N (N L 22937933 2061 L) 22942246 4045 L) 22942600 2576 (N L 22949734 3397 L)))) 22959024 3621 (N (N (N (N (N L 22964282 815 L) 23012428 462 L) 23012523 577 (N (N L 23015250 3601 L) 23019325 856 L)) 23061214 676 (N (N (N L 23068672 2821 L) 23090255 713 L) 23114730 2247 (N L 23171900 3155 L))) 23191606 3206 (N (N (N (N L 23215628 1722 L) 23222449 445 L) 23264671 153 (N L 23266600 3673 L)) 23271716 3792 (N (N (N L 23282556 792 L) 23286184 426 L) 23292437 2583 (N L 23304782 2222 L)))))) 23332459 1956 (N (N (N (N (N (N (N L 23368646 1946 L) 23370698 1300 L) 23375490 929 (N (N L 23379074 1739 L) 23379654 530 L)) 23386548 2738 (N (N (N L 23446606 1368 L) 23456980 718 L) 23457277 1601 (N L 23459071 1681 L))) 23473760 823 (N (N (N (N L 23482983 399 L) 23487107 3136 L) 23495639 3213 (N (N L 23501927 1327 L) 23507384 2704 L)) 23507786 1101 (N (N (N L 23516633 1701 L) 23524490 965 L) 23584993 3740 (N L 23602386 1606 L)))) 23604927 3926 (N (N (N (N (N L 23622551 1193 L) 23629241 2732 L) 23631902 1844 (N (N L 23640186 3272 L) 23649167 1543 L)) 23654652 1206 (N (N (N L 23656359 2186 L) 23661899 918 L) 23682657 3031 (N L 23689516 1086 L))) 23713694 1092 (N (N (N (N L 23713982 3530 L) 23729301 1840 L) 23732942 2876 (N L 23764698 294 L)) 23766918 565 (N (N (N L 23767789 2481 L) 23790997 1416 L) 23802719 440 (N L 23806284 852 L))))) 23819838 2719 (N (N (N (N (N (N L 23840448 2984 L) 23862008 4000 L) 23868871 3854 (N (N L 23871825 850 L) 23873485 1837 L)) 23898725 521 (N (N (N L 23923524 3001 L) 23924774 1871 L) 23925783 1986 (N L 23926072 2973 L))) 23951918 2087 (N (N (N (N L 23966803 981 L) 23978247 2257 L) 23981826 2979 (N (N L 23987521 2603 L) 24004983 2060 L)) 24077414 1694 (N (N (N L 24081537 1983 L) 24082628 707 L) 24103734 2059 (N L 24111211 2875 L)))) 24117248 2949 (N (N (N (N (N L 24130921 969 L) 24156689 855 L) 24169107 702 (N (N L 24177119 1558 L) 24183366 3853 L)) 24191694 1605 (N (N (N L 24195916 1839 L) 24196894 293 L) 24202319 1680 (N L 24202382 717 L))) 24217559 1291 (N (N (N (N L 24220511 3003 L) 24255494 1218 L) 24256143 797 (N L 24259734 825 L)) 24267640 1319 (N (N (N L 24271421 3151 L) 24299039 1188 L) 24342240 808 (N L 24350307 2201 L)))))))
def otbab : OTree := N otbaba 22109491 280 otbabb
def otba : OTree := N otbaa 19815026 646 otbab
def otbbaa : OTree := (N (N (N (N (N (N (N (N L 24466337 2502 L) 24471334 2601 L) 24477091 2390 (N (N L 24540216 3502 L) 24556260 1446 L)) 24557762 2097 (N (N (N L 24564541 2869 L) 24611596 2318 L) 24619483 3794 (N L 24636994 3117 L))) 24638671 416 (N (N (N (N L 24655666 708 L) 24665330 2762 L) 24693870 3527 (N (N L 24715985 1215 L) 24726454 963 L)) 24738653 286 (N (N (N L 24756122 1984 L) 24769036 3343 L) 24772096 3767 (N L 24782539 331 L)))) 24782589 2834 (N (N (N (N (N L 24795741 1178 L) 24796252 1714 L) 24802894 1812 (N (N L 24805259 1569 L) 24807792 1621 L)) 24820908 3537 (N (N (N L 24827371 803 L) 24847699 314 L) 24861947 3389 (N L 24879986 1695 L))) 24881619 3796 (N (N (N (N L 24888941 3976 L) 24890499 3384 L) 24938470 1292 (N (N L 24954321 3627 L) 24985143 3846 L)) 24992729 2003 (N (N (N L 25010444 3466 L) 25026345 2439 L) 25027396 3912 (N L 25027993 2614 L))))) 25028702 1708 (N (N (N (N (N (N L 25031698 3124 L) 25040632 3004 L) 25042637 3120 (N (N L 25071949 3607 L) 25078457 3736 L)) 25085573 3289 (N (N (N L 25096261 3370 L) 25097878 1104 L) 25115143 2825 (N L 25141635 273 L))) 25154856 2497 (N (N (N (N L 25155516 974 L) 25161080 1880 L) 25165824 3077 (N (N L 25174242 3273 L) 25206884 3652 L)) 25223972 3786 (N (N (N L 25245655 2588 L) 25287055 2188 L) 25288567 4011 (N L 25301294 3267 L)))) 25317847 319 (N (N (N (N (N L 25324041 670 L) 25329807 3341 L) 25338554 677 (N (N L 25348269 1040 L) 25348443 3661 L)) 25350619 3909 (N (N (N L 25360926 3503 L) 25366467 1462 L) 25371652 2740 (N L 25379002 1068 L))) 25383582 778 (N (N (N (N L 25384458 3400 L) 25387106 2311 L) 25439337 1845 (N L 25456101 177 L)) 25459466 934 (N (N (N L 25470318 2640 L) 25471528 3991 L) 25479075 1176 (N L 25484668 473 L)))))) 25492668 2090 (N (N (N (N (N (N (N L 25497813 2215 L) 25501006 1977 L) 25508585 2767 (N (N L 25519119 322 L) 25519469 1949 L)) 25528775 715 (N (N (N L 25529097 1810 L) 25535643 3476 L) 25539559 3873 (N L 25540745 282 L))) 25551039 1074 (N (N (N (N L 25565429 3544 L) 25580499 657 L) 25588820 2369 (N (N L 25589055 3278 L) 25597630 526 L)) 25598085 2733 (N (N (N L 25601517 2464 L) 25610086 1234 L) 25627186 698 (N L 25649958 2109 L)))) 25664256 1960 (N (N (N (N (N L 25704184 3334 L) 25705283 1747 L) 25726063 1449 (N (N L 25734454 2374 L) 25735443 598 L)) 25767968 1207 (N (N (N L 25769968 1728 L) 25787454 2063 L) 25799180 3131 (N L 25811800 2187 L))) 25891186 3646 (N (N (N (N L 25902135 2007 L) 25903980 3862 L) 25938555 839 (N L 25970546 1236 L)) 25971027 2104 (N (N (N L 25972932 1055 L) 25976392 1544 L) 26005075 2969 (N L 26045497 1801 L))))) 26106924 292 (N (N (N (N (N (N L 26121441 3925 L) 26130334 849 L) 26146215 1955 (N (N L 26158805 814 L) 26207688 2736 L)) 26211093 3132 (N (N (N L 26214400 3205 L) 26231236 3529 L) 26296520 2244 (N L 26306408 2506 L))) 26372775 156 (N (N (N (N L 26387149 2238 L) 26388472 2710 L) 26409031 3927 (N (N L 26416926 1420 L) 26419175 2987 L)) 26457599 1607 (N (N (N L 26478471 575 L) 26485340 3523 L) 26506546 1310 (N L 26536185 3718 L)))) 26538918 3411 (N (N (N (N (N L 26542366 3725 L) 26544031 2757 L) 26555738 2064 (N (N L 26556063 2253 L) 26558589 1317 L)) 26563893 4015 (N (N (N L 26581214 2857 L) 26597957 1734 L) 26599951 1110 (N L 26608693 1546 L))) 26610996 3784 (N (N (N (N L 26614438 2870 L) 26617181 2092 L) 26626056 436 (N L 26633412 1671 L)) 26664021 1167 (N (N (N L 26665024 2359 L) 26667753 3392 L) 26711993 1419 (N L 26726712 3259 L)))))))
def otbbab : OTree := (N (N (N (N (N (N (N (N L 26761426 3637 L) 26771402 305 L) 26778712 548 (N (N L 26812113 857 L) 26816102 2328 L)) 26823388 208 (N (N (N L 26825072 2967 L) 26828113 1194 L) 26847682 2773 (N L 26857294 3875 L))) 26864181 1617 (N (N (N (N L 26878339 1447 L) 26884764 3897 L) 26897438 578 (N (N L 26898138 3869 L) 26898674 463 L)) 26921123 1582 (N (N (N L 26940210 3602 L) 26940302 1355 L) 26954015 3988 (N L 26960622 2721 L)))) 26961239 2098 (N (N (N (N (N L 26964242 538 L) 26986275 3260 L) 26996624 432 (N (N L 27002543 1297 L) 27013571 4056 L)) 27020417 1729 (N (N (N L 27020887 3534 L) 27035016 2079 L) 27041200 3080 (N L 27045869 2388 L))) 27047567 1208 (N (N (N (N L 27076725 1038 L) 27078636 2386 L) 27078922 429 (N L 27085786 1952 L)) 27114927 921 (N (N (N L 27136365 1338 L) 27158380 1213 L) 27196507 3593 (N L 27210528 3880 L))))) 27262976 3333 (N (N (N (N (N (N L 27281070 3785 L) 27297109 547 L) 27306184 2385 (N (N L 27324071 1109 L) 27354778 1547 L)) 27360621 3387 (N (N (N L 27376005 3514 L) 27388850 1469 L) 27413312 552 (N L 27437547 1344 L))) 27440352 2871 (N (N (N (N L 27442408 1423 L) 27490541 1828 L) 27510076 836 (N (N L 27519932 202 L) 27548464 2350 L)) 27583908 1548 (N (N (N L 27589246 1963 L) 27603570 2898 L) 27610011 2093 (N L 27613322 288 L)))) 27618824 3598 (N (N (N (N (N L 27627145 1363 L) 27634650 2566 L) 27665700 3113 (N (N L 27670050 3670 L) 27681497 710 L)) 27690455 705 (N (N (N L 27690703 3790 L) 27708080 2520 L) 27712770 3473 (N L 27732254 2972 L))) 27761488 3388 (N (N (N (N L 27784305 2096 L) 27829087 2726 L) 27839643 945 (N L 27844918 437 L)) 27862281 3126 (N (N (N L 27864948 2220 L) 27869567 2632 L) 27875356 2100 (N L 27877096 2314 L)))))) 27879726 647 (N (N (N (N (N (N (N L 27938045 393 L) 27996201 2840 L) 28000102 1450 (N (N L 28007171 3024 L) 28015366 1241 L)) 28016017 1943 (N (N (N L 28053398 1818 L) 28063221 1057 L) 28063861 3531 (N L 28064598 402 L))) 28072851 2452 (N (N (N (N L 28076911 2226 L) 28086526 599 L) 28094061 1046 (N (N L 28111621 830 L) 28121058 1464 L)) 28127845 2900 (N (N (N L 28139100 2207 L) 28145841 1672 L) 28148612 2573 (N L 28153706 2192 L)))) 28153843 845 (N (N (N (N (N L 28156264 2479 L) 28165652 3493 L) 28171379 1093 (N (N L 28201334 3486 L) 28204158 1855 L)) 28209859 3779 (N (N (N L 28215458 3865 L) 28251219 2375 L) 28282838 2127 (N L 28301283 569 L))) 28308048 1575 (N (N (N (N L 28308484 1858 L) 28309258 541 L) 28311552 3461 (N L 28321672 4041 L)) 28361478 2855 (N (N (N L 28362189 847 L) 28373041 2745 L) 28376085 1090 (N L 28376253 2717 L))))) 28423494 3118 (N (N (N (N (N (N L 28452240 1476 L) 28471280 1994 L) 28484156 2635 (N (N L 28484461 2194 L) 28489239 2964 L)) 28493325 1050 (N (N (N L 28501244 417 L) 28503687 1202 L) 28553062 3516 (N L 28573225 816 L))) 28603502 284 (N (N (N (N L 28610401 3622 L) 28611981 2229 L) 28630708 561 (N (N L 28655802 1470 L) 28658425 406 L)) 28660878 2775 (N (N (N L 28686489 1060 L) 28715829 2828 L) 28719854 939 (N L 28739273 919 L)))) 28745355 2346 (N (N (N (N (N L 28751025 336 L) 28752043 1625 L) 28760556 1688 (N (N L 28797911 3143 L) 28819388 2723 L)) 28824452 469 (N (N (N L 28833123 3153 L) 28838446 1087 L) 28852657 4035 (N L 28855885 2590 L))) 28877530 2618 (N (N (N (N L 28897272 2365 L) 28919404 3795 L) 28931547 2438 (N L 28957855 2185 L)) 28967445 2445 (N (N (N L 28969527 453 L) 28970563 2991 L) 28976339 2597 (N L 28993591 1485 L)))))))
def otbba : OTree := N otbbaa 26761012 1830 otbbab
def otbbba : OTree := (N (N (N (N (N (N (N (N L 29025120 2728 L) 29037994 3398 L) 29045141 681 (N (N L 29058366 2134 L) 29100099 3082 L)) 29104705 2504 (N (N (N L 29110380 694 L) 29111312 820 L) 29117075 1196 (N L 29126024 3335 L))) 29132926 2577 (N (N (N (N L 29146370 3393 L) 29146535 4046 L) 29156230 3032 (N (N L 29170819 2319 L) 29189248 1719 L)) 29193458 3776 (N (N (N L 29199120 1183 L) 29211465 3208 L) 29219578 1748 (N L 29222974 2360 L)))) 29275837 3872 (N (N (N (N (N L 29282499 2062 L) 29285112 1746 L) 29286932 813 (N (N L 29296217 3515 L) 29305467 2827 L)) 29358942 1817 (N (N (N L 29360128 3589 L) 29379930 2249 L) 29398446 3364 (N L 29430728 2758 L))) 29440632 3798 (N (N (N (N L 29449977 553 L) 29460839 3922 L) 29466544 4013 (N (N L 29475835 3726 L) 29489955 3104 L)) 29506250 3489 (N (N (N L 29512638 3354 L) 29518474 2123 L) 29518750 2578 (N L 29520406 2482 L))))) 29522859 1428 (N (N (N (N (N (N L 29546251 967 L) 29568433 2569 L) 29605382 2476 (N (N L 29608539 906 L) 29613943 566 L)) 29618938 2695 (N (N (N L 29620253 4020 L) 29621737 840 L) 29637998 3478 (N L 29648293 3287 L))) 29652117 190 (N (N (N (N L 29665588 3257 L) 29672473 3394 L) 29672579 3229 (N (N L 29675710 4047 L) 29684991 295 L)) 29756475 977 (N (N (N L 29765738 3235 L) 29770061 3541 L) 29806333 196 (N L 29815357 1610 L)))) 29826399 1496 (N (N (N (N (N L 29832018 2753 L) 29832150 2254 L) 29838200 2065 (N (N L 29854908 774 L) 29872343 467 L)) 29885369 781 (N (N (N L 29903499 3525 L) 29904870 2085 L) 29906219 205 (N L 29906435 2448 L))) 29912571 1455 (N (N (N (N L 29942456 665 L) 29987582 2613 L) 29994800 1713 (N L 30011273 1318 L)) 30042197 2106 (N (N (N L 30044711 1981 L) 30052047 448 L) 30063008 3895 (N L 30071227 1935 L)))))) 30082975 3644 (N (N (N (N (N (N (N L 30099091 4016 L) 30119269 2859 L) 30122457 268 (N (N L 30154972 267 L) 30156270 3643 L)) 30187392 3240 (N (N (N L 30216037 2332 L) 30275871 942 L) 30280053 3924 (N L 30283443 1800 L))) 30296317 2463 (N (N (N (N L 30299448 1976 L) 30317054 2078 L) 30329477 3391 (N (N L 30341076 2243 L) 30345623 3864 L)) 30348417 3033 (N (N (N L 30352467 2839 L) 30366209 1962 L) 30374036 2384 (N L 30408704 3717 L)))) 30420092 2505 (N (N (N (N (N L 30457299 777 L) 30476931 1059 L) 30495120 1745 (N (N L 30506094 2133 L) 30564058 3771 L)) 30567485 3083 (N (N (N L 30578470 976 L) 30594860 2393 L) 30596875 3863 (N L 30597202 664 L))) 30604268 2858 (N (N (N (N L 30634762 4026 L) 30635629 2877 L) 30685088 1064 (N L 30757846 2624 L)) 30763456 695 (N (N (N L 30767568 2831 L) 30784799 1841 L) 30786487 422 (N L 30795333 821 L))))) 30823898 3620 (N (N (N (N (N (N L 30839825 1204 L) 30842096 1674 L) 30844631 200 (N (N L 30853650 3254 L) 30858209 1452 L)) 30864988 1287 (N (N (N L 30879313 1604 L) 30897777 330 L) 30938985 1710 (N L 30967493 3998 L))) 30973141 3647 (N (N (N (N L 30983334 2499 L) 31020533 3883 L) 31027016 3084 (N (N L 31035716 2713 L) 31069460 544 L)) 31077951 1197 (N (N (N L 31089133 722 L) 31096112 2190 L) 31107215 1735 (N L 31135794 2643 L)))) 31150781 134 (N (N (N (N (N L 31166182 1081 L) 31169189 1231 L) 31180201 3111 (N (N L 31181832 3650 L) 31182644 1053 L)) 31214152 3241 (N (N (N L 31220923 1350 L) 31222116 2262 L) 31233583 1940 (N L 31234597 3610 L))) 31255491 2081 (N (N (N (N L 31256771 4043 L) 31257509 786 L) 31258622 1458 (N L 31262910 2510 L)) 31263623 1345 (N (N (N L 31268356 3985 L) 31274089 2008 L) 31302101 1111 (N L 31311658 1598 L)))))))
def otbbbb : OTree := (N (N (N (N (N (N (N (N L 31347221 924 L) 31366577 1439 L) 31369956 2872 (N (N L 31380811 3336 L) 31384042 724 L)) 31404969 3772 (N (N (N L 31411403 1200 L) 31425064 141 L) 31431887 2117 (N L 31435503 1613 L))) 31435764 1424 (N (N (N (N L 31436065 4005 L) 31441616 1967 L) 31457280 3845 (N (N L 31468310 2761 L) 31491833 2256 L)) 31496667 2602 (N (N (N L 31503099 3801 L) 31519722 791 L) 31522333 152 (N L 31527124 576 L)))) 31529325 2575 (N (N (N (N (N L 31538528 183 L) 31589956 1184 L) 31603533 654 (N (N L 31607982 3373 L) 31620211 210 L)) 31626297 2755 (N (N (N L 31629953 1822 L) 31639340 2879 L) 31676202 3376 (N L 31682522 3900 L))) 31692514 3518 (N (N (N (N L 31705452 2391 L) 31707247 1686 L) 31722869 3209 (N L 31759646 3979 L)) 31781519 3899 (N (N (N L 31788622 1457 L) 31799260 3110 L) 31809441 3253 (N L 31828901 3524 L))))) 31849125 2122 (N (N (N (N (N (N L 31852835 2503 L) 31884538 2478 L) 31916210 1037 (N (N L 31918532 1296 L) 31918979 3533 L)) 31927112 1829 (N (N (N L 31929997 431 L) 31934243 1733 L) 31965222 2766 (N L 31965905 321 L))) 31966633 1809 (N (N (N (N L 31969050 472 L) 31986541 2513 L) 31996683 1749 (N (N L 31998104 2339 L) 32067520 2344 L)) 32080901 3380 (N (N (N L 32097837 2442 L) 32100808 1324 L) 32107164 1096 (N L 32110013 2998 L)))) 32111542 263 (N (N (N (N (N L 32117150 1030 L) 32138525 595 L) 32154697 1561 (N (N L 32182700 2204 L) 32212131 404 L)) 32226520 1697 (N (N (N L 32234296 1867 L) 32234433 3218 L) 32236705 2842 (N L 32242118 1330 L))) 32300002 1850 (N (N (N (N L 32307891 2621 L) 32354671 2852 L) 32380538 4007 (N L 32396306 2882 L)) 32397028 2333 (N (N (N L 32400281 2361 L) 32400769 3407 L) 32415218 3980 (N L 32419948 811 L)))))) 32443273 2616 (N (N (N (N (N (N (N L 32452682 1928 L) 32458341 1311 L) 32472162 212 (N (N L 32488777 726 L) 32496679 326 L)) 32503730 2985 (N (N (N L 32505856 3973 L) 32524848 3017 L) 32538915 1933 (N L 32543079 837 L))) 32545190 943 (N (N (N (N L 32557455 165 L) 32568371 2320 L) 32568391 2893 (N (N L 32581420 679 L) 32583578 1615 L)) 32588875 441 (N (N (N L 32594947 2114 L) 32595283 413 L) 32630752 424 (N L 32680788 3782 L)))) 32695043 1321 (N (N (N (N (N L 32697941 1238 L) 32729740 3246 L) 32787209 2884 (N (N L 32800489 3914 L) 32805244 2111 L)) 32810827 3011 (N (N (N L 32816570 158 L) 32845114 2074 L) 32850289 203 (N L 32850938 1426 L))) 32860455 916 (N (N (N (N L 32861649 801 L) 32865326 2354 L) 32882877 186 (N L 32898809 1725 L)) 32943608 2515 (N (N (N L 32952223 1926 L) 32988140 4028 L) 32988530 1584 (N L 33004823 1417 L))))) 33049820 540 (N (N (N (N (N (N L 33102818 2214 L) 33102945 1073 L) 33106714 1461 (N (N L 33129862 1166 L) 33133817 3410 L)) 33154337 1581 (N (N (N L 33155187 2720 L) 33164572 471 L) 33170781 2878 (N L 33174779 790 L))) 33196475 4027 (N (N (N (N L 33214975 651 L) 33255707 2084 L) 33281973 3609 (N (N L 33313635 652 L) 33321212 1835 L)) 33329286 3210 (N (N (N L 33337762 1992 L) 33338415 2348 L) 33349848 1334 (N L 33351689 1588 L)))) 33357584 3719 (N (N (N (N (N L 33360050 1815 L) 33363928 3352 L) 33372214 1706 (N (N L 33384779 592 L) 33386838 3161 L)) 33394901 145 (N (N (N L 33416748 984 L) 33421828 3777 L) 33422158 3022 (N L 33453735 3271 L))) 33470726 1679 (N (N (N (N L 33476045 2496 L) 33484032 3383 L) 33490472 853 (N L 33509062 3281 L)) 33520241 419 (N (N (N L 33526569 2335 L) 33527037 3412 L) 33551282 3464 (N L 33551445 1720 L)))))))
def otbbb : OTree := N otbbba 31316474 2070 otbbbb
def otbb : OTree := N otbba 28994205 1168 otbbb
def otb : OTree := N otba 24427921 1052 otbb
def ot : OTree := N ota 15188029 1431 otb

/-- the certificate tree (2759 nodes) -/
def orbitTree : OTree := ot

end GocoinV.Bech32
