/-
  Proofs.C07Ops — every operation of Model/Persist.lean keeps the invariant `InvQ` (Proofs/C07Node.lean),
  in particular every PREFIX of the effect list it emits leaves a directory satisfying `DiskInv`.
  Core Lean only.
-/
import GocoinV.Proofs.C07Node
namespace GocoinV.Proofs.C07
open GocoinV.Persist

variable {c : Par} {s : St}

/-! ### UnspentDB.save, abort, hurry-up -/

theorem fullChunks_inv (t : BlockId) : ∀ (k : Nat) (s : St), InvQ c s → InvQ c (fullChunks s t k)
  | 0, _, h => h
  | k + 1, _, h => fullChunks_inv t k _ ((h.emit_nop _).emit_frame (.chunkTmp t) _ rfl)

theorem fullChunks_hasTmp (t : BlockId) (sn : Snap) : ∀ (k : Nat) (s : St), hasTmp s.d sn → hasTmp (fullChunks s t k).d sn
  | 0, _, h => h
  | k + 1, s, h => fullChunks_hasTmp t sn k _ (apply_keeper _ (.chunkTmp t) sn rfl (apply_keeper s.d .nop sn rfl h))

theorem finishSave_inv (h : InvQ c s) (sn : Snap) (ht : hasTmp s.d sn)
    (hsn : sn = ⟨s.n.tip, s.n.lastHeight, s.n.utxo⟩) : InvQ c (finishSave s sn) := by
  have h3 := ((h.emit_nop .saveFinito).emit_frame (.chunkTmp sn.tip) .fileChunk rfl).emit_frame (.flushTmp sn.tip) .fileClosed rfl
  have ht3 : hasTmp (((s.emit .nop .saveFinito).emit (.chunkTmp sn.tip) .fileChunk).emit (.flushTmp sn.tip) .fileClosed).d sn :=
    apply_keeper _ (.flushTmp sn.tip) sn rfl (apply_keeper _ (.chunkTmp sn.tip) sn rfl (apply_keeper s.d .nop sn rfl ht))
  exact h3.emit_renameTmpDb_finish sn .fileRenamed ht3 hsn

theorem startSave_inv (h : InvQ c s) (hurry : Bool) (hP : c.P ⟨s.n.tip, s.n.lastHeight, s.n.utxo⟩)
    (htip : s.n.tip = 0 ∨ s.n.tip ∈ ids s.d) : InvQ c (startSave s hurry) := by
  unfold startSave
  split
  · exact h
  · rename_i hs
    have hs' : s.n.saving = none := Option.not_isSome_iff_eq_none.1 hs
    have h2 := (h.emit_nop .saveBegin).emit_frame .renameDbOld .saveRenamedOld rfl
    have hi2 : ids ((s.emit .nop .saveBegin).emit .renameDbOld .saveRenamedOld).d = ids s.d :=
      ids_apply _ .renameDbOld (by intro r hr; cases hr)
    have ok : GoodSnap c.P ((s.emit .nop .saveBegin).emit .renameDbOld .saveRenamedOld).d ⟨s.n.tip, s.n.lastHeight, s.n.utxo⟩ :=
      ⟨hP, by rw [hi2]; exact htip⟩
    have h3 := h2.emit_createTmp ⟨s.n.tip, s.n.lastHeight, s.n.utxo⟩ .fileCreated hs' ok
    have ht3 := hasTmp_create ((s.emit .nop .saveBegin).emit .renameDbOld .saveRenamedOld).d ⟨s.n.tip, s.n.lastHeight, s.n.utxo⟩
    simp only []
    split
    · have h5 := (h3.emit_nop .saveChunk).emit_frame (.chunkTmp s.n.tip) .fileChunk rfl
      exact h5.setSaving ⟨s.n.tip, s.n.lastHeight, s.n.utxo⟩ _
        (apply_keeper _ (.chunkTmp s.n.tip) _ rfl (apply_keeper _ .nop _ rfl ht3)) rfl
    · exact finishSave_inv (fullChunks_inv _ _ _ h3) _ (fullChunks_hasTmp _ _ _ _ ht3) (by rw [(fullChunks_es _ _ _).2]; rfl)

theorem abortSave_inv (h : InvQ c s) : InvQ c (abortSave s) := by
  unfold abortSave
  split
  · exact h
  · exact ((h.emit_nop .saveFinito).emit_nop .fileAbortClosed).emit_removeTmp_clear _ .fileAbortRemoved

theorem abortSave_saving (s : St) : (abortSave s).n.saving = none := by
  unfold abortSave
  split
  · assumption
  · rfl

theorem abortSave_dirty (s : St) : (abortSave s).n.dirty = s.n.dirty := by
  unfold abortSave
  split <;> rfl

theorem abortSave_recs (s : St) : (abortSave s).n.recs = s.n.recs := by
  unfold abortSave; split <;> rfl

theorem abortSave_err (s : St) : (abortSave s).err = s.err := by
  unfold abortSave
  split <;> rfl

theorem hurrySave_inv (h : InvQ c s) : InvQ c (hurrySave s) := by
  unfold hurrySave
  split
  · exact h
  · rename_i sn rest heq
    obtain ⟨hsn, ht⟩ := h.snap.savingOK sn rest heq
    exact finishSave_inv (fullChunks_inv _ _ _ h) sn (fullChunks_hasTmp _ _ _ _ ht) (by rw [(fullChunks_es _ _ _).2]; exact hsn)

/-! ### CommitBlockTxs, UndoBlockTxs -/

theorem commitBlockTxs_inv (h : InvQ c s) (b : Block) :
    InvQ c (commitBlockTxs s b) ∧ (commitBlockTxs s b).n.saving = none ∧ (commitBlockTxs s b).n.dirty = true := by
  have h0 := abortSave_inv h
  have hs0 := abortSave_saving s
  have h4 := (((h0.emit_nop .undoBeforeWrite).emit_frame (.writeUndoTmp { blk := b.id, coins := b.spends }) .undoTmpWritten rfl).emit_frame
    (.renameUndoTmp b.height) .undoRenamed rfl).emit_nop .beforeCommit
  have h5 := (h4.emit_nop .afterCommit).setUtxoDirty hs0 (commitU (abortSave s).n.utxo b) b.height
  exact ⟨h5, hs0, rfl⟩

theorem blockData_mem {s : St} {id : BlockId} {b : Block} (h : blockData s id = some b) :
    (b ∈ s.n.mem ∨ b ∈ s.d.dat) ∧ b.id = id := by
  unfold blockData at h
  split at h
  · rename_i x hx
    cases h
    exact ⟨Or.inl (List.mem_of_find?_eq_some hx), by simpa using List.find?_some hx⟩
  · exact ⟨Or.inr (List.mem_of_find?_eq_some h), by simpa using List.find?_some h⟩

theorem parent_has_rec (h : InvQ c s) {id : BlockId} {b : Block} (hb : blockData s id = some b) :
    b.parent = 0 ∨ (rf[s.n, b.parent]).isSome := by
  rcases (blockData_mem hb).1 with hm | hd
  · exact h.node.memParent b hm
  · exact (h.disk.datParent b hd).imp (fun x => x) (h.node.idxRec _)

theorem undoLastBlock_inv (h : InvQ c s) : InvQ c (undoLastBlock s) := by
  unfold undoLastBlock
  split
  · exact h
  · split
    · exact h.fail _
    · rename_i b hb
      have hp := parent_has_rec h hb
      have h1 := abortSave_inv (h.emit_nop .undoBeforeUtxo)
      have hs1 := abortSave_saving (s.emit .nop .undoBeforeUtxo)
      simp only []
      split
      · exact h1.fail _
      · rename_i uf _
        have h2 := (h1.setForeign ((abortSave (s.emit .nop .undoBeforeUtxo)).foreign || uf.blk != (abortSave (s.emit .nop .undoBeforeUtxo)).n.tip)).setUtxoDirty hs1
          (undoU (abortSave (s.emit .nop .undoBeforeUtxo)).n.utxo b uf.coins)
          ((abortSave (s.emit .nop .undoBeforeUtxo)).n.lastHeight - 1)
        have h3 := h2.emit_nop .undoAfterUtxo
        refine h3.setTip hs1 rfl b.parent (b.height - 1) ?_
        show b.parent = 0 ∨ (List.find? (fun (x : BRec) => x.id == b.parent) (abortSave (s.emit .nop .undoBeforeUtxo)).n.recs).isSome
        rw [abortSave_recs]; exact hp

theorem undoN_inv : ∀ (k : Nat) (s : St), InvQ c s → InvQ c (undoN s k)
  | 0, _, h => h
  | k + 1, _, h => undoN_inv k _ (undoLastBlock_inv h)

theorem blockTrusted_inv (h : InvQ c s) (id : BlockId) : InvQ c (blockTrusted s id) := by
  unfold blockTrusted
  split
  · exact h
  · simp only []
    have h1 := h.emit_nop .flagBefore
    refine (h1.emit_frame _ .flagAfter ?_).setTrustedRec id
    split
    · split <;> rfl
    · rfl

theorem blockTrusted_sd (s : St) (id : BlockId) :
    (blockTrusted s id).n.saving = s.n.saving ∧ (blockTrusted s id).n.dirty = s.n.dirty := by
  unfold blockTrusted
  split <;> exact ⟨rfl, rfl⟩

/-- ParseTillBlock connects the block `b` found under `id` -/
def parseOne (s : St) (id : BlockId) (b : Block) : St :=
  { ((commitBlockTxs ((blockTrusted s id).emit .nop .parseBeforeUtxo) b).emit .nop .parseAfterUtxo) with
    n := { ((commitBlockTxs ((blockTrusted s id).emit .nop .parseBeforeUtxo) b).emit .nop .parseAfterUtxo).n with
      tip := id, tipHeight := b.height } }

theorem parsePath_cons {id : BlockId} {b : Block} (rest : List BlockId) (he : s.err = none) (hb : blockData s id = some b)
    (hv : validOn s.n.utxo b = true) : parsePath s (id :: rest) = parsePath (parseOne s id b) rest := by
  rw [parsePath, if_neg (by simp [he]), hb]
  simp only []
  rw [if_neg (by simp [hv])]
  rfl

/-- one round of ParseTillBlock: it has stopped before, it panics, or it connects the next block and goes on -/
theorem parsePath_cons_cases (s : St) (id : BlockId) (rest : List BlockId) :
    (s.err.isSome = true ∧ parsePath s (id :: rest) = s) ∨ (∃ m, parsePath s (id :: rest) = s.fail m) ∨
    ∃ b, s.err = none ∧ blockData s id = some b ∧ validOn s.n.utxo b = true ∧
      parsePath s (id :: rest) = parsePath (parseOne s id b) rest := by
  by_cases he : s.err.isSome = true
  · exact Or.inl ⟨he, by rw [parsePath, if_pos he]⟩
  cases hb : blockData s id with
  | none => exact Or.inr (Or.inl ⟨"Db.BlockGet(): block data unavailable", by rw [parsePath, if_neg he, hb]⟩)
  | some b =>
    by_cases hv : validOn s.n.utxo b = true
    · have he := Option.not_isSome_iff_eq_none.1 he
      exact Or.inr (Or.inr ⟨b, he, rfl, hv, parsePath_cons rest he hb hv⟩)
    · refine Or.inr (Or.inl ⟨"unsupported: invalid block on the new branch", ?_⟩)
      rw [parsePath, if_neg he, hb]
      simp only []
      rw [if_pos (by simpa using hv)]

/-- ParseTillBlock over a path all of whose ids are ghost ids (they keep a record) -/
theorem parsePath_inv : ∀ (p : List BlockId) (s : St), InvQ c s → (∀ id ∈ p, id ∈ c.T) → InvQ c (parsePath s p)
  | [], _, h, _ => h
  | id :: rest, s, h, hT => by
    rcases parsePath_cons_cases s id rest with ⟨_, e⟩ | ⟨m, e⟩ | ⟨b, _, _, _, e⟩
    · rw [e]; exact h
    · rw [e]; exact h.fail m
    · rw [e]
      have h1 := (blockTrusted_inv h id).emit_nop .parseBeforeUtxo
      obtain ⟨h2, hs2, hd2⟩ := commitBlockTxs_inv h1 b
      have h3 := h2.emit_nop .parseAfterUtxo
      have h4 := h3.setTip hs2 hd2 id b.height (h3.node.ghost id (List.forall_mem_cons.1 hT).1)
      exact parsePath_inv rest _ h4 (List.forall_mem_cons.1 hT).2

/-! ### the path MoveToBlock walks -/

theorem pathUp_ok {n : Node} (hpar : ∀ t ∈ n.tree, t.parent = 0 ∨ (rf[n, t.parent]).isSome) :
    ∀ (fuel : Nat) (a b : BlockId) (acc p : List BlockId),
      (b = 0 ∨ (rf[n, b]).isSome) → (∀ id ∈ acc, id = 0 ∨ (rf[n, id]).isSome) →
      pathUp n fuel a b acc = some p → ∀ id ∈ p, id = 0 ∨ (rf[n, id]).isSome
  | 0, _, _, _, _, _, _, h => by simp [pathUp] at h
  | fuel + 1, a, b, acc, p, hb, hacc, h => by
    unfold pathUp at h
    split at h
    · cases h; exact hacc
    · split at h
      · cases h
      · refine pathUp_ok hpar fuel a (parentOf n b) (b :: acc) p ?_ ?_ h
        · unfold parentOf
          split
          · rename_i t ht
            exact hpar t (List.mem_of_find?_eq_some ht)
          · exact Or.inl rfl
        · exact List.forall_mem_cons.2 ⟨hb, hacc⟩

theorem InvQ.ghostMono {P : Snap → Prop} {base : Disk} {X : BlockId → Prop} {T : List BlockId} {Q Qn : List Block}
    (h : InvQ ⟨P, base, X, T, Q, Qn⟩ s) (T' : List BlockId) (hs : ∀ id ∈ T', id ∈ T) : InvQ ⟨P, base, X, T', Q, Qn⟩ s :=
  { h with node := { h.node with ghost := fun id hid => h.node.ghost id (hs id hid) } }

theorem moveToBlock_inv (h : InvQ c s) (dst : BlockId) (hdst : dst = 0 ∨ (rf[s.n, dst]).isSome) :
    InvQ c (moveToBlock s dst) := by
  -- remember dst as a ghost id while the old branch is undone
  have hg : InvQ { c with T := dst :: c.T } s :=
    h.ghostSet (dst :: c.T) (List.forall_mem_cons.2 ⟨hdst, h.node.ghost⟩)
  unfold moveToBlock
  simp only []
  have h1 := undoN_inv (s.n.tipHeight - (heightOf s.n (firstFather s.n (2 * fuelOf s.n) s.n.tip dst)).getD 0) s hg
  split
  · exact h1.ghostMono c.T (fun _ => List.mem_cons_of_mem _)
  · have h2 := h1.emit_nop .moveUndone
    split
    · exact (h2.fail _).ghostMono c.T (fun _ => List.mem_cons_of_mem _)
    · rename_i p hp
      have hpok := pathUp_ok h2.node.treePar _ _ _ _ _ (h2.node.ghost dst (by simp)) (by intro id hid; cases hid) hp
      have h3 : InvQ { c with T := p ++ c.T } _ := (h2.ghostMono c.T (fun _ => List.mem_cons_of_mem _)).ghostSet (p ++ c.T)
        (List.forall_mem_append.2 ⟨hpok, fun id hid => h2.node.ghost id (List.mem_cons_of_mem _ hid)⟩)
      have h4 := parsePath_inv p _ h3 (fun _ => List.mem_append_left _)
      split
      · exact h4.ghostMono c.T (fun _ => List.mem_append_right _)
      · exact (h4.emit_nop .moveDone).ghostMono c.T (fun _ => List.mem_append_right _)

/-! ### BlockDB.BlockAdd, Chain.CommitBlock, AcceptBlock -/

theorem blockAdd_frame (n : Node) (b : Block) (t : Bool) :
    (blockAdd n b t).tip = n.tip ∧ (blockAdd n b t).utxo = n.utxo ∧ (blockAdd n b t).lastHeight = n.lastHeight ∧
    (blockAdd n b t).dirty = n.dirty ∧ (blockAdd n b t).saving = n.saving ∧ (blockAdd n b t).tree = n.tree := by
  unfold blockAdd
  split
  · exact ⟨rfl, rfl, rfl, rfl, rfl, rfl⟩
  · split <;> exact ⟨rfl, rfl, rfl, rfl, rfl, rfl⟩

/-- the cache after a block was offered to it: what was there, and at most that block -/
theorem mem_ite_snoc {α} {p : Prop} [Decidable p] {l : List α} {b x : α} (hx : x ∈ (if p then l else l ++ [b])) :
    x ∈ l ∨ x = b := by
  split at hx
  · exact Or.inl hx
  · exact (List.mem_append.1 hx).imp id List.eq_of_mem_singleton

/-- the other direction of `mem_ite_snoc` -/
theorem mem_ite_snoc_left {α} {p : Prop} [Decidable p] {l : List α} {b x : α} (hx : x ∈ l) : x ∈ (if p then l else l ++ [b]) := by
  split
  · exact hx
  · exact List.mem_append_left _ hx

variable {P : Snap → Prop} {base : Disk} {X : BlockId → Prop} {T : List BlockId} {Q : List Block}

/-- a block that has a record is indexed on disk or waits in the write queue -/
theorem NodeInv.recPlace {n : Node} {I : List BlockId} (hn : NodeInv n I Q X T) {id : BlockId} (h : (rf[n, id]).isSome) :
    id ∈ I ∨ ∃ b ∈ Q, b.id = id := by
  obtain ⟨r, hr⟩ := Option.isSome_iff_exists.1 h
  cases ho : r.onDisk with
  | true => exact Or.inl (hn.recDisk id r hr ho)
  | false => exact Or.inr (hn.recQueue id r hr ho)

theorem InvQ.narrowGhost {Qn : List Block} (h : InvQ ⟨P, base, X, T, Q, Qn⟩ s) (bid : BlockId) (hX : ∀ i, X i → i = 0 ∨ i = bid)
    (hsome : (rf[s.n, bid]).isSome) : InvQ ⟨P, base, (· = 0), bid :: T, Q, Qn⟩ s := by
  refine { h with node := { h.node with treeRec := ?_, ghost := ?_ } }
  · intro t ht
    rcases h.node.treeRec t ht with hx | hx
    · exact (hX _ hx).imp id (fun h0 => by rw [h0]; exact hsome)
    · exact Or.inr hx
  · exact List.forall_mem_cons.2 ⟨Or.inr hsome, h.node.ghost⟩

/-- BlockAdd of a block whose parent has a record: afterwards the block itself has one (ghost id), every tree node
    has one, and a new block sits at the end of the write queue -/
theorem blockAdd_step (h : InvQ ⟨P, base, X, T, Q, Q⟩ s) (b : Block) (t : Bool)
    (hp : b.parent = 0 ∨ (rf[s.n, b.parent]).isSome) (hX : ∀ i, X i → i = 0 ∨ i = b.id) :
    ∃ q, InvQ ⟨P, base, (· = 0), b.id :: T, q, q⟩ { s with n := blockAdd s.n b t } := by
  obtain ⟨f1, f2, f3, f4, f5, f6⟩ := blockAdd_frame s.n b t
  have hsnap : SnapInv (blockAdd s.n b t) s.d := by
    refine ⟨?_, ?_⟩
    · rw [f1, f2, f3, f5]; exact h.snap.savingOK
    · rw [f1, f2, f3, f4]; exact h.snap.cleanOK
  have hn : NodeInv s.n (ids s.d) Q X T := h.node
  have hqe : s.n.queue = Q := h.qeq
  cases hfind : List.find? (fun (x : BRec) => x.id == b.id) s.n.recs with
  | some r =>
    -- known record: at most the trusted flag changes
    have hsome : (rf[s.n, b.id]).isSome := by rw [hfind]; rfl
    have hn' := (h.narrowGhost b.id hX hsome).node
    refine ⟨Q, h.hist, h.pref, ?_, hsnap, ?_⟩
    · show NodeInv (blockAdd s.n b t) (ids s.d) Q _ _
      unfold blockAdd
      simp only [hfind]
      split
      · exact hn'.mapRecs _ (by intro x; split <;> rfl) (by intro x; split <;> rfl)
      · exact hn'
    · show (blockAdd s.n b t).queue = Q
      unfold blockAdd
      simp only [hfind]
      split <;> exact hqe
  | none =>
    have up : ∀ id, (rf[s.n, id]).isSome →
        (List.find? (fun (x : BRec) => x.id == id) (s.n.recs ++ [⟨b.id, t, false⟩])).isSome := by
      intro id hid; rw [List.find?_append, List.find?_singleton]; cases hx : rf[s.n, id] <;> simp_all
    have hnew : (List.find? (fun (x : BRec) => x.id == b.id) (s.n.recs ++ [⟨b.id, t, false⟩])).isSome := by
      rw [List.find?_append, List.find?_singleton, hfind]; simp
    have split2 : ∀ id r, List.find? (fun (x : BRec) => x.id == id) (s.n.recs ++ [⟨b.id, t, false⟩]) = some r →
        rf[s.n, id] = some r ∨ (r.onDisk = false ∧ id = b.id) := by
      intro id r hr
      rw [List.find?_append, List.find?_singleton, Option.or_eq_some_iff] at hr
      rcases hr with h1 | ⟨_, h1⟩
      · exact Or.inl h1
      · split at h1
        · rename_i he; cases h1; exact Or.inr ⟨rfl, (by simpa using he : b.id = id).symm⟩
        · cases h1
    refine ⟨Q ++ [b], h.hist, h.pref, ?_, hsnap, ?_⟩
    · show NodeInv (blockAdd s.n b t) (ids s.d) (Q ++ [b]) _ _
      unfold blockAdd
      simp only [hfind]
      constructor
      · intro id r hr ho
        rcases split2 id r hr with h1 | ⟨h1, _⟩
        · exact hn.recDisk id r h1 ho
        · rw [h1] at ho; cases ho
      · intro id r hr ho
        rcases split2 id r hr with h1 | ⟨_, h1⟩
        · obtain ⟨x, hx, e⟩ := hn.recQueue id r h1 ho
          exact ⟨x, List.mem_append_left _ hx, e⟩
        · exact ⟨b, by simp, h1.symm⟩
      · exact List.forall_mem_append.2 ⟨fun x hx => up _ (hn.queueRec x hx), List.forall_mem_singleton.2 hnew⟩
      · intro id hid; exact up _ (hn.idxRec id hid)
      · exact hn.tipRec.imp id (up _)
      · intro x hx
        rcases hn.treeRec x hx with h1 | h1
        · exact (hX _ h1).imp id (fun h0 => by rw [h0]; exact hnew)
        · exact Or.inr (up _ h1)
      · intro x hx; exact (hn.treePar x hx).imp id (up _)
      · intro x hx
        rcases mem_ite_snoc hx with hx' | hx'
        · exact (hn.memParent x hx').imp id (up _)
        · subst hx'; exact hp.imp id (up _)
      · exact List.forall_mem_cons.2 ⟨Or.inr hnew, fun id hid => (hn.ghost id hid).imp (fun x => x) (up _)⟩
      · exact hn.queueOK.append (hp.imp id hn.recPlace)
    · show (blockAdd s.n b t).queue = Q ++ [b]
      unfold blockAdd
      simp only [hfind, hqe]

/-- the block has a record that is untrusted and already on disk -/
def viaFlag (n : Node) (id : BlockId) : Bool :=
  match n.recs.find? (·.id == id) with
  | some r => !r.trusted && r.onDisk
  | none => false

/-- BlockAdd inside CommitBlock; where `viaFlag` holds it goes through BlockTrusted (flag rewrite) instead -/
def commitHead (s : St) (b : Block) : St :=
  if viaFlag s.n b.id then blockTrusted (s.emit .nop .cBeforeBlockAdd) b.id
  else { (s.emit .nop .cBeforeBlockAdd) with n := blockAdd s.n b true }

/-- CommitBlockTxs, then the tip moves -/
def commitTail (s2 : St) (b : Block) : St :=
  { ((commitBlockTxs (s2.emit .nop .cAfterBlockAdd) b).emit .nop .cAfterUtxo) with
    n := { ((commitBlockTxs (s2.emit .nop .cAfterBlockAdd) b).emit .nop .cAfterUtxo).n with tip := b.id, tipHeight := b.height } }

/-- BlockAdd of a block that is not a child of the tip -/
def sideStored (s : St) (b : Block) : St := ({ s with n := blockAdd s.n b false } : St).emit .nop .cSideStored

/-! the four branches of CommitBlock -/

theorem commitBlock_of_err (b : Block) (he : s.err.isSome = true) : commitBlock s b = s := by
  unfold commitBlock
  rw [if_pos he]

theorem commitBlock_invalid (b : Block) (he : s.err = none) (htp : s.n.tip = b.parent) (hv : validOn s.n.utxo b = false) :
    commitBlock s b = { s with n := { s.n with tree := s.n.tree.filter (·.id != b.id) } } := by
  unfold commitBlock
  rw [he, htp, hv, beq_self_eq_true]
  rfl

theorem commitBlock_active (b : Block) (he : s.err = none) (htp : s.n.tip = b.parent) (hv : validOn s.n.utxo b = true) :
    commitBlock s b = commitTail (commitHead s b) b := by
  unfold commitBlock
  rw [he, htp, hv, beq_self_eq_true]
  rfl

theorem commitBlock_side (b : Block) (he : s.err = none) (htp : s.n.tip ≠ b.parent) :
    commitBlock s b = if b.height > (sideStored s b).n.tipHeight then moveToBlock (sideStored s b) b.id else sideStored s b := by
  unfold commitBlock
  rw [if_neg (by simp [he]), if_neg (by simpa using htp)]
  rfl

/-- AcceptBlock goes on to CommitBlock: no panic so far, the block is new, its parent is known -/
def Fresh (s : St) (b : Block) : Prop := s.err = none ∧ inTree s.n b.id = false ∧ inTree s.n b.parent = true

/-- AcceptBlock's new tree node, and the block in the cache -/
def withNode (s : St) (b : Block) : St :=
  { s with n := { s.n with tree := s.n.tree ++ [{ id := b.id, parent := b.parent, height := b.height }],
                           mem := if s.n.mem.any (·.id == b.id) then s.n.mem else s.n.mem ++ [b] } }

theorem submit_of_fresh {b : Block} (h : Fresh s b) : submit s b = commitBlock (withNode s b) b := by
  unfold submit
  rw [if_neg (by simp [h.1]), if_neg (by simp [h.2.1]), if_neg (by simp [h.2.2])]
  rfl

theorem submit_of_not_fresh {b : Block} (h : ¬ Fresh s b) : submit s b = s := by
  unfold submit
  by_cases h1 : s.err.isSome = true
  · rw [if_pos h1]
  by_cases h2 : inTree s.n b.id = true
  · rw [if_neg h1, if_pos h2]
  by_cases h3 : (!inTree s.n b.parent) = true
  · rw [if_neg h1, if_neg h2, if_pos h3]
  exact absurd ⟨Option.not_isSome_iff_eq_none.1 h1, by simpa using h2, by simpa using h3⟩ h

end GocoinV.Proofs.C07
