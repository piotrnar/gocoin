/-
  Proofs.C12PanicRbf — the two R_PANIC branches of `rbfStep` (nil dereference of the spender recorded in SpentOutputs,
  or of one of its descendants returned by GetAllChildren) are unreachable from states that satisfy the structural
  invariant `InvS` (every SpentOutputs value is a pooled key).  Core Lean only.
-/
import GocoinV.Proofs.C12
namespace GocoinV.Mempool

/-- `b` is a key of TransactionsToSend -/
def Pooled (s : State) (b : Nat) : Prop := ∃ x, s.pool.get? b = some x

theorem addNew_fold_pooled {s : State} : ∀ (l acc : List Nat), (∀ c ∈ l, Pooled s c) → (∀ c ∈ acc, Pooled s c) →
    ∀ c ∈ l.foldl (fun a c => if a.contains c then a else a ++ [c]) acc, Pooled s c := by
  intro l acc hl ha
  refine List.foldlRecOn l _ (motive := fun a => ∀ c ∈ a, Pooled s c) ha fun a ha x hx => ?_
  split
  · exact ha
  · exact List.forall_mem_append.mpr ⟨ha, List.forall_mem_singleton.mpr (hl _ hx)⟩

theorem children_pooled {K : Keys} {s : State} (h : InvS K s) (t : T2S) : ∀ c ∈ children K s t, Pooled s c := by
  have e : children K s t = ((iota t.tx.outs.length).filterMap fun v => s.spent.get? (K.uidx t.tx.id v)).foldl
      (fun a c => if a.contains c then a else a ++ [c]) [] := by
    rw [List.foldl_filterMap]; unfold children; congr; funext x y; cases s.spent.get? (K.uidx t.tx.id y) <;> rfl
  rw [e]
  refine addNew_fold_pooled _ [] (fun c hc => ?_) (by simp)
  obtain ⟨v, _, hv⟩ := List.mem_filterMap.mp hc
  obtain ⟨x, hx, _⟩ := h.sound _ _ hv
  exact ⟨x, hx⟩

theorem allChildrenAux_pooled {K : Keys} {s : State} (h : InvS K s) : ∀ (fuel : Nat) (acc : List Nat) (idx : Nat),
    (∀ c ∈ acc, Pooled s c) → ∀ c ∈ allChildrenAux K s fuel acc idx, Pooled s c := by
  intro fuel
  induction fuel with
  | zero => intro acc idx ha; exact ha
  | succ n ih =>
    intro acc idx ha
    unfold allChildrenAux
    cases hi : acc[idx]? with
    | none => exact ha
    | some b =>
      simp only []
      cases hb : s.pool.get? b with
      | none => exact ih _ _ ha
      | some t =>
        simp only []
        exact ih _ _ (addNew_fold_pooled _ _ (children_pooled h t) ha)

/-- towards Props/C12 `panic_branches_unreachable` (3): in a state with `InvS`, the RBF part of an input whose UIdx
    has an entry `so` in SpentOutputs never takes one of the two R_PANIC exits of `rbfStep` -/
theorem rbfStep_no_panic {K : Keys} {s : State} (h : InvS K s) (fl : Flags) (u so : Nat) (rbf : List Nat)
    (hu : s.spent.get? u = some so) : ∀ e, rbfStep K s fl so rbf = .error e → e.code ≠ R_PANIC := by
  intro e he
  rcases rbfStep_err K s fl so rbf e he with ⟨_, c, hn, hc⟩ | rfl | rfl
  · exfalso
    rcases hc with rfl | ⟨ctx, _, hc⟩
    · obtain ⟨x, hx, _⟩ := h.sound u c hu
      rw [hn] at hx; cases hx
    · obtain ⟨x, hx⟩ := allChildrenAux_pooled h _ _ _ (children_pooled h ctx) c hc
      rw [hn] at hx; cases hx
  · decide
  · decide

/-- … hence no input of `processTx` fails with R_PANIC (the other exits of `inputStep` have other codes) -/
theorem inputStep_no_panic {K : Keys} {s : State} (h : InvS K s) (fl : Flags) (a : Acc) (i : TxIn) :
    ∀ e, inputStep K s fl a i = .error e → e.code ≠ R_PANIC := by
  intro e
  refine inputStep_cases (P := fun r => r = .error e → e.code ≠ R_PANIC) K s fl a i (fun so e1 hsp h1 he => ?_)
    (fun e1 _ hp he => ?_) fun _ _ _ _ _ _ _ _ he => ?_
  · cases he; exact rbfStep_no_panic h fl _ so a.rbf hsp _ h1
  · cases he; exact hp
  · cases he

theorem inputs_no_panic {K : Keys} {s : State} (h : InvS K s) (fl : Flags) (ins : List TxIn) (a : Acc) :
    ∀ e, ins.foldlM (inputStep K s fl) a = .error e → e.code ≠ R_PANIC :=
  foldlM_except_err (fun e => e.code ≠ R_PANIC) _ ins (fun b i e _ hf => inputStep_no_panic h fl b i e hf) a

end GocoinV.Mempool
