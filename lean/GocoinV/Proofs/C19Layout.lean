/-
  Proofs.C19Layout — facts about the index that defrag lays out (`layout`, defined in Proofs/C19Disk): its keys, members,
  sequence number, length, sizes and abstract value; `memputAll` on distinct keys; Close after defrag. Opening the
  directory defrag left (`open_snapshot`, `open_after_defrag`) is in Proofs/C19Crash.
-/
import GocoinV.Proofs.C19Disk
namespace GocoinV.Proofs.C19
open GocoinV GocoinV.Qdb GocoinV.QdbSpec

variable {eg : Bool}

def RecWF (kr : Key × Rec) : Prop :=
  kr.1 < 2^64 ∧ kr.2.flags < 2^32 ∧ kr.2.len = (kr.2.data.getD []).length

structure IndexWF (eg : Bool) (l : List (Key × Rec)) : Prop where
  cached : AllCached eg l
  wf : ∀ kr ∈ l, RecWF kr
  nodup : (l.map (·.1)).Nodup
  small : 4 + (valsOf l).flatten.length < 2^32

/-! ### memputAll on distinct keys appends -/

theorem iset_append_new {α : Type} (k : Key) (r : α) (l : List (Key × α)) (h : k ∉ l.map (·.1)) :
    iset k r l = l ++ [(k, r)] := by
  rw [iset_eq]; exact Assoc.insert_of_not_mem r h

theorem memputAll_index (recs : List (Key × Rec)) (db : DB)
    (hnd : (db.index.map (·.1) ++ recs.map (·.1)).Nodup) :
    (memputAll db recs).index = db.index ++ recs := by
  unfold memputAll
  induction recs generalizing db with
  | nil => simp
  | cons kr t ih =>
    simp only [List.foldl_cons]
    have hk : kr.1 ∉ db.index.map (·.1) := by
      intro hmem
      have := List.nodup_append.mp hnd
      exact this.2.2 _ hmem _ (by simp) rfl
    have hi : (memput db kr.1 kr.2).index = db.index ++ [(kr.1, kr.2)] := by
      rw [(memput_spec db kr.1 kr.2).1]
      exact iset_append_new _ _ _ hk
    rw [ih (memput db kr.1 kr.2) (by
      rw [hi]
      simpa [List.append_assoc] using hnd)]
    rw [hi]
    simp [List.append_assoc]

/-! ### the laid-out index: keys, members, sequence number, length -/

theorem layout_keys (s base : Nat) (l : List (Key × Rec)) : (layout s base l).map (·.1) = l.map (·.1) := by
  induction l generalizing base with
  | nil => rfl
  | cons kr t ih => obtain ⟨k, r⟩ := kr; simp [layout, ih]

theorem mem_layout (s base : Nat) (l : List (Key × Rec)) (k : Key) (x : Rec) (h : (k, x) ∈ layout s base l) :
    ∃ r p, (k, r) ∈ l ∧ x = { r with pos := p, seq := s } := by
  induction l generalizing base with
  | nil => cases h
  | cons hd t ih =>
    obtain ⟨j, r⟩ := hd
    simp only [layout, List.mem_cons] at h
    rcases h with h | h
    · cases h; exact ⟨r, _, List.mem_cons_self, rfl⟩
    · obtain ⟨r', p, hm, e⟩ := ih _ h
      exact ⟨r', p, List.mem_cons_of_mem _ hm, e⟩

theorem layout_seq (s base : Nat) (l : List (Key × Rec)) : ∀ kr ∈ layout s base l, kr.2.seq = s := by
  intro kr h
  obtain ⟨r, p, _, e⟩ := mem_layout s base l kr.1 kr.2 h
  rw [e]

theorem layout_length (s base : Nat) (l : List (Key × Rec)) : (layout s base l).length = l.length := by
  simpa using congrArg List.length (layout_keys s base l)

def stripKR (kr : Key × Rec) : Key × Rec := (kr.1, strip kr.2)

/-! ### the laid-out index fits the formats; what `memputAll` leaves alone; Close after defrag -/

theorem layout_fits (s : Nat) (hs : s < 2^32) (l : List (Key × Rec)) (hw : ∀ kr ∈ l, RecWF kr) (base : Nat)
    (hsmall : base + (valsOf l).flatten.length < 2^32) : ∀ kr ∈ layout s base l, RecFits kr.1 kr.2 := by
  induction l generalizing base with
  | nil => intro kr h; cases h
  | cons hd t ih =>
    obtain ⟨k, r⟩ := hd
    have hv : (valsOf ((k, r) :: t)).flatten = r.data.getD [] ++ (valsOf t).flatten := by simp [valsOf]
    rw [hv, List.length_append] at hsmall
    obtain ⟨hk, hf, hl⟩ := hw (k, r) List.mem_cons_self
    intro kr h
    simp only [layout, List.mem_cons] at h
    rcases h with h | h
    · rw [h]
      refine ⟨hk, Nat.mod_lt _ (by decide), ?_, hs, hf⟩
      show r.len < 2^32
      have hl' : r.len = (r.data.getD []).length := hl
      rw [hl']; omega
    · exact ih (fun x hx => hw x (List.mem_cons_of_mem _ hx)) _ (by omega) kr h

theorem memput_fs (db : DB) (k : Key) (r : Rec) :
    (memput db k r).fs = db.fs ∧ (memput db k r).dataSeq = db.dataSeq := by
  rw [memput_eq]
  exact ⟨rfl, rfl⟩

theorem memputAll_fs (recs : List (Key × Rec)) (db : DB) :
    (memputAll db recs).fs = db.fs ∧ (memputAll db recs).dataSeq = db.dataSeq ∧
    (memputAll db recs).failed = db.failed := by
  simpa only [Prod.mk.injEq] using
    (Pre.of_eq fun d : DB => (d.fs, d.dataSeq, d.failed)).memputAll (fun d k r => by rw [memput_eq]) recs db

theorem pickIdx_single (F : FS) (i v : Nat) (X : Bytes) (hc : checkIdxFile (some X) = some (v, X))
    (h1 : idxFile F i = some X) (h2 : otherIdx F i = none) :
    ∃ j, pickIdx F = some (j, v, X) := by
  unfold idxFile at h1
  unfold otherIdx at h2
  unfold pickIdx
  by_cases hi : i = 0 <;> simp only [hi, ↓reduceIte] at h1 h2 <;> rw [h1, h2, hc] <;> exact ⟨_, rfl⟩

theorem memputAll_eager (recs : List (Key × Rec)) (db : DB) : (memputAll db recs).eager = db.eager :=
  (Pre.of_eq (·.eager)).memputAll memput_eager recs db

theorem layout_abs (s base : Nat) (l : List (Key × Rec)) : (layout s base l).map absE = l.map absE := by
  induction l generalizing base with
  | nil => rfl
  | cons kr t ih => obtain ⟨k, r⟩ := kr; simp [layout, ih, absE, absRec]

theorem u32_lt (n : Nat) : u32 n < 2^32 := Nat.mod_lt _ (by decide)

theorem close_after_defrag_nonvolatile (db : DB) (h : Cached db) (hv : db.volatile = false) :
    (close (defrag db)).failed = none ∧ (close (defrag db)).fs = (defrag db).fs := by
  have hk := defrag_cached db h
  have hp : (defrag db).pending = [] := by
    obtain ⟨d', w', hd, _⟩ := defrag_eq db h
    rw [hd]
    exact (defragFinish_spec _ _ _ _).2.2.2.2.2.1
  have hvol : (defrag db).volatile = false := hk.volatile.trans hv
  have hsync : sync (defrag db) = defrag db := by
    unfold sync
    simp [hvol, hp]
  unfold close
  rw [if_neg (notFailed hk.cached)]
  simp only [hvol, Bool.false_eq_true, ↓reduceIte, hsync, hk.cached.1]
  exact ⟨trivial, trivial⟩

end GocoinV.Proofs.C19
