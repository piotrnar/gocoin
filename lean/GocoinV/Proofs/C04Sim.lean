/-
  Proofs.C04Sim — what the locals of commitTxs mean.
  `viewOf cfg mtpOf db b s` is the coin map that DeledTxs marks and blUnsp slots denote on top of the confirmed set `db`,
  for either configuration; `resolve_view`: a successful coin look-up finds exactly the coin the view holds and leaves
  the view with that coin removed. Everything about spending inside a block is read off this: that nothing is spent
  twice (C04NoDouble, every configuration), and the simulation by the specification's sequential map (`Inv`,
  `resolve_sim`, C04SimLoops; current code).
-/
import GocoinV.Proofs.C04Apply
namespace GocoinV.Proofs.C04
open GocoinV GocoinV.Connect
open GocoinV.Spec.Connect (Coin Utxo absGet)

/-- the coin that a successful `UnspentGet` stands for -/
def foundCoin (mtpOf : Nat → Nat) (f : Found) : Coin := ⟨f.value, f.script, f.height, f.coinbase, mtpOf f.height⟩

theorem absGet_unspentGet (mtpOf : Nat → Nat) (db : DB) (op : OutPoint) :
    absGet mtpOf db op = (unspentGet Cfg.current db op).map (foundCoin mtpOf) := by
  unfold absGet unspentGet
  have hft : Cfg.current.fullTxid = true := rfl
  cases hg : aGet db (key8 op.hash) with
  | none => rfl
  | some r =>
    simp only [hft, true_and]
    by_cases hr : r.txid = op.hash
    · simp only [hr, ↓reduceIte, ne_eq, not_true_eq_false]
      cases r.outs.getD op.vout none <;> rfl
    · simp [hr]

/-- a coin that `UnspentGet` finds comes from the record filed under the 8-byte key, whichever way the txid is compared -/
theorem unspentGet_rec {cfg : Cfg} {db : DB} {op : OutPoint} {f : Found} (h : unspentGet cfg db op = some f) :
    ∃ r, aGet db (key8 op.hash) = some r ∧ f.height = r.height := by
  unfold unspentGet at h
  cases hg : aGet db (key8 op.hash) with
  | none => simp [hg] at h
  | some r =>
    refine ⟨r, rfl, ?_⟩
    simp only [hg] at h
    split at h
    · cases h
    · split at h
      · cases h
      · cases h; rfl

theorem unspentGet_slot (db : DB) (op : OutPoint) (f : Found) (h : unspentGet Cfg.current db op = some f) :
    ∃ r, aGet db (key8 op.hash) = some r ∧ f.height = r.height :=
  unspentGet_rec h

theorem unspentGet_vout_lt (cfg : Cfg) (db : DB) (op : OutPoint) (tout : Found)
    (hu : unspentGet cfg db op = some tout) : op.vout < tout.voutCount := by
  unfold unspentGet at hu
  split at hu
  · simp at hu
  · split at hu
    · simp at hu
    · rename_i r _ _
      cases ho : r.outs.getD op.vout none with
      | none => rw [ho] at hu; cases hu
      | some o =>
        rw [ho] at hu; cases hu
        apply Classical.byContradiction; intro hl
        rw [List.getD_eq_getElem?_getD, List.getElem?_eq_none (Nat.not_lt.mp hl)] at ho; cases ho

theorem getD_set_self (m : List Bool) (v : Nat) (h : v < m.length) : (m.set v true).getD v false = true := by
  simp [List.getD_eq_getElem?_getD, h]


theorem getD_set_none_self {α : Type} (t : List (Option α)) (v : Nat) : (t.set v none).getD v none = none := by
  simp only [List.getD_eq_getElem?_getD, List.getElem?_set, ↓reduceIte]
  split <;> rfl

/-- the coin map denoted by the locals of commitTxs on top of the confirmed set -/
def viewOf (cfg : Cfg) (mtpOf : Nat → Nat) (db : DB) (b : Block) (s : St) (op : OutPoint) : Option Coin :=
  match unspentGet cfg db op with
  | some f => if delMarked s.deled op = true then none else some (foundCoin mtpOf f)
  | none =>
    match aGet s.blUnsp op.hash with
    | some (cb, t) => (t.getD op.vout none).map fun o => ⟨o.value, o.script, b.height, cb, b.mtp⟩
    | none => none

/-- `viewOf` for the current code -/
abbrev view (mtpOf : Nat → Nat) (db : DB) (b : Block) (s : St) (op : OutPoint) : Option Coin :=
  viewOf Cfg.current mtpOf db b s op

theorem delMarked_aSet (deled : List (Bytes × List Bool)) (h : Bytes) (m : List Bool) (op : OutPoint) :
    delMarked (aSet deled h m) op = if h = op.hash then m.getD op.vout false else delMarked deled op := by
  unfold delMarked
  rw [aGet_aSet]
  by_cases hk : h = op.hash <;> simp only [hk, ↓reduceIte]

theorem op_eq_iff (p q : OutPoint) : p = q ↔ p.hash = q.hash ∧ p.vout = q.vout := by
  cases p; cases q; simp

theorem getD_set_ne {α : Type} (l : List α) (v w : Nat) (x d : α) (h : v ≠ w) : (l.set v x).getD w d = l.getD w d := by
  simp [List.getD_eq_getElem?_getD, List.getElem?_set_ne h]

theorem viewOf_congr {cfg : Cfg} {mtpOf : Nat → Nat} {db : DB} {b : Block} {s s' : St}
    (hd : s'.deled = s.deled) (hb : s'.blUnsp = s.blUnsp) : viewOf cfg mtpOf db b s' = viewOf cfg mtpOf db b s := by
  funext op; unfold viewOf; rw [hd, hb]

theorem earlyCheck_none {m : List Bool} {v : Nat} (h : earlyCheck (some m) v = none) :
    v < m.length ∧ m.getD v false = false := by
  unfold earlyCheck at h
  simp only [] at h
  split at h
  · cases h
  · split at h
    · cases h
    · rename_i h1 h2
      exact ⟨Nat.not_le.mp h1, by simpa using h2⟩

/-- A successful look-up of commitTxs, in either configuration: it finds the coin `c` that the locals denote for that
    outpoint, passes the code's (uint32) maturity test on it, and afterwards the locals denote the same map without
    that coin. `c` is the confirmed coin of the outpoint — then its height is that of a record of the set — or was
    created in this very block. -/
theorem resolve_view (cfg : Cfg) (mtpOf : Nat → Nat) (db : DB) (b : Block) (inp : TxIn) (s s1 : St) (v : Nat) (pk : Bytes)
    (h : resolve cfg db b inp s = .ok (s1, v, pk)) :
    ∃ c, viewOf cfg mtpOf db b s inp.prev = some c ∧ c.value = v ∧ c.script = pk
      ∧ ¬ (c.coinbase = true ∧ sub32 b.height c.height < COINBASE_MATURITY)
      ∧ (∀ op, viewOf cfg mtpOf db b s1 op = if inp.prev = op then none else viewOf cfg mtpOf db b s op)
      ∧ ((keys s.deled).Nodup → (keys s1.deled).Nodup)
      ∧ keys s1.blUnsp = keys s.blUnsp
      ∧ ((∃ r, aGet db (key8 inp.prev.hash) = some r ∧ c.height = r.height
            ∧ (unspentGet cfg db inp.prev).map (foundCoin mtpOf) = some c)
          ∨ ((unspentGet cfg db inp.prev).map (foundCoin mtpOf) = none ∧ c.height = b.height ∧ c.mtpPrev = b.mtp)) := by
  unfold resolve at h
  cases he : earlyCheck (aGet s.deled inp.prev.hash) inp.prev.vout with
  | some e => simp [he] at h
  | none =>
    simp only [he] at h
    cases hu : unspentGet cfg db inp.prev with
    | some tout =>
      simp only [hu] at h
      unfold fromDb at h
      split at h
      · cases h
      · rename_i hmat
        simp only [Except.ok.injEq, Prod.mk.injEq] at h
        obtain ⟨h1, h2, h3⟩ := h
        have hnm : delMarked s.deled inp.prev = false := by
          unfold delMarked
          cases hd : aGet s.deled inp.prev.hash with
          | none => rfl
          | some m => rw [hd] at he; exact (earlyCheck_none he).2
        have hvc : inp.prev.vout < tout.voutCount := unspentGet_vout_lt _ db inp.prev tout hu
        have hmark : ∃ m' : List Bool,
            s1 = { s with deled := aSet s.deled inp.prev.hash (m'.set inp.prev.vout true) }
            ∧ inp.prev.vout < m'.length
            ∧ ∀ op : OutPoint, inp.prev.hash = op.hash → m'.getD op.vout false = delMarked s.deled op := by
          cases hd : aGet s.deled inp.prev.hash with
          | none =>
            rw [hd] at h1
            refine ⟨List.replicate tout.voutCount false, h1.symm, by simpa using hvc, ?_⟩
            intro op hop
            unfold delMarked
            rw [← hop, hd]
            simp only [List.getD_eq_getElem?_getD, List.getElem?_replicate]
            split <;> rfl
          | some m =>
            rw [hd] at h1
            refine ⟨m, h1.symm, (earlyCheck_none (hd ▸ he)).1, ?_⟩
            intro op hop
            unfold delMarked
            rw [← hop, hd]
        obtain ⟨m', rfl, hlen', hget'⟩ := hmark
        refine ⟨foundCoin mtpOf tout, ?_, h2, h3, hmat, ?_, fun hn => ?_, ?_, Or.inl ((unspentGet_rec hu).imp fun r hr => ⟨hr.1, hr.2, rfl⟩)⟩
        · rw [viewOf, hu]; simp [hnm]
        · -- the viewOf after the mark
          intro op
          symm
          unfold viewOf
          simp only [delMarked_aSet]
          cases huo : unspentGet cfg db op with
          | none =>
            have : ¬ inp.prev = op := by intro e; rw [e, huo] at hu; cases hu
            simp only [this, ↓reduceIte]
          | some f =>
            by_cases hop : inp.prev = op
            · subst hop
              simp only [↓reduceIte]
              rw [getD_set_self _ _ hlen']
              simp
            · simp only [hop, ↓reduceIte]
              by_cases hhash : inp.prev.hash = op.hash
              · have hv : inp.prev.vout ≠ op.vout := fun e => hop ((op_eq_iff _ _).mpr ⟨hhash, e⟩)
                simp only [hhash, ↓reduceIte]
                rw [getD_set_ne _ _ _ _ _ hv, hget' op hhash]
              · simp only [hhash, ↓reduceIte]
        · exact aSet_keys_nodup _ _ _ hn
        · rfl
    | none =>
      simp only [hu] at h
      obtain ⟨t, o, hbu, hv, ho, rfl, rfl, rfl⟩ := fromBlock_ok h
      refine ⟨⟨o.value, o.script, b.height, false, b.mtp⟩, ?_, rfl, rfl, by simp, ?_, fun hn => hn, ?_, Or.inr ⟨rfl, rfl, rfl⟩⟩
      · rw [viewOf, hu]; simp only [hbu, ho, Option.map_some]
      · intro op
        symm
        unfold viewOf
        cases huo : unspentGet cfg db op with
        | some f =>
          have : ¬ inp.prev = op := by intro e; rw [e, huo] at hu; cases hu
          simp [this]
        | none =>
          simp only [aGet_aSet]
          by_cases hhash : inp.prev.hash = op.hash
          · simp only [hhash, ↓reduceIte]
            rw [← hhash, hbu]
            by_cases hvv : inp.prev.vout = op.vout
            · have : inp.prev = op := (op_eq_iff _ _).mpr ⟨hhash, hvv⟩
              simp only [this, ↓reduceIte]
              rw [← hvv, getD_set_none_self]; rfl
            · have : ¬ inp.prev = op := fun e => hvv (by rw [e])
              simp only [this, ↓reduceIte]
              rw [getD_set_ne _ _ _ _ _ hvv]
          · have : ¬ inp.prev = op := fun e => hhash (by rw [e])
            simp [this, hhash]
      · simp only [aSet_keys]
        exact if_pos (List.mem_map.mpr ⟨_, aGet_mem _ _ _ hbu, rfl⟩)

/-- state invariant carried through the loops: the view is the sequential map, DeledTxs is a map (unique keys) -/
structure Inv (mtpOf : Nat → Nat) (db : DB) (b : Block) (s : St) (u : Utxo) : Prop where
  rel : ∀ op, aGet u op = view mtpOf db b s op
  dnodup : (keys s.deled).Nodup

theorem sub32_eq {bh rh : Nat} (h1 : rh ≤ bh) (h2 : bh < 2 ^ 32) : sub32 bh rh = bh - rh := by
  unfold sub32; omega

/-- A successful lookup of commitTxs finds the coin that the sequential map holds for that outpoint, the maturity test
    of the code is the specification's (given that no record is higher than the block), and afterwards the locals
    denote the map with that coin deleted. -/
theorem resolve_sim (mtpOf : Nat → Nat) (db : DB) (b : Block) (inp : TxIn) (s s1 : St) (v : Nat) (pk : Bytes) (u : Utxo)
    (hh : ∀ k r, aGet db k = some r → r.height ≤ b.height) (hb : b.height < 2 ^ 32)
    (hinv : Inv mtpOf db b s u) (h : resolve Cfg.current db b inp s = .ok (s1, v, pk)) :
    ∃ c, aGet u inp.prev = some c ∧ c.value = v ∧ c.script = pk
      ∧ ¬ (c.coinbase = true ∧ b.height - c.height < 100)
      ∧ Inv mtpOf db b s1 (aDel u inp.prev)
      ∧ keys s1.blUnsp = keys s.blUnsp
      ∧ (absGet mtpOf db inp.prev = some c ∨ (absGet mtpOf db inp.prev = none ∧ c.height = b.height ∧ c.mtpPrev = b.mtp)) := by
  obtain ⟨c, c1, c2, c3, c4, c5, c6, c7, c8⟩ := resolve_view Cfg.current mtpOf db b inp s s1 v pk h
  rw [← absGet_unspentGet] at c8
  have hle : c.height ≤ b.height := by
    rcases c8 with ⟨r, hr, e, -⟩ | ⟨-, e, -⟩
    · exact e ▸ hh _ r hr
    · exact Nat.le_of_eq e
  rw [sub32_eq hle hb] at c4
  exact ⟨c, hinv.rel _ ▸ c1, c2, c3, c4, ⟨fun op => by rw [aGet_aDel, hinv.rel]; exact (c5 op).symm, c6 hinv.dnodup⟩, c7,
    c8.imp (fun ⟨_, _, _, e⟩ => e) id⟩

end GocoinV.Proofs.C04
