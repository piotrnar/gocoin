/-
  Proofs.C11Own — invariants of the ownership models of Model/ConcOwn.lean (Ring, Undo, Collect).
-/
import GocoinV.Model.ConcOwn
import GocoinV.Proofs.C11
import GocoinV.Base.Lemmas
namespace GocoinV.Proofs.C11Own
open GocoinV.Conc.Own GocoinV.Proofs.C11

namespace RingP
open Ring

structure Inv (st : St) : Prop where
  fr : st.flushed ≤ st.recvd
  rf : st.recvd ≤ st.flushed + 1
  rs : st.recvd ≤ st.sent
  room : st.sent - st.recvd ≤ st.cap
  clean : st.dirty = []
  ok : st.written.all (·.2) = true
  order : st.written.map (·.1) = List.range st.flushed

theorem clobbered_nil (st : St) (h : st.n = 0 ∨ st.cap + 1 ≤ st.n) (i : Inv st) (hroom : st.sent - st.recvd < st.cap) :
    clobbered st = [] := by
  unfold clobbered
  rw [List.filter_eq_nil_iff]
  intro c hc
  rw [List.mem_map] at hc
  obtain ⟨k, hk, rfl⟩ := hc
  rw [List.mem_range] at hk
  have h2 := i.rf
  simp only [beq_iff_eq]
  unfold buf
  rcases h with h | h
  · simp only [h, if_true]; omega
  · have hn : st.n ≠ 0 := by omega
    simp only [hn, if_false]
    exact mod_ne (k + st.flushed) st.sent st.n (by omega) (by omega)

theorem step_n (st st' : St) (l : Lab) (h : step st l = some st') : st'.n = st.n ∧ st'.cap = st.cap := by
  cases l <;> simp only [step] at h <;> split at h <;> simp only [Option.some.injEq, reduceCtorEq] at h <;> subst h <;> exact ⟨rfl, rfl⟩

theorem inv_step (st st' : St) (l : Lab) (hn : st.n = 0 ∨ st.cap + 1 ≤ st.n) (i : Inv st) (h : step st l = some st') : Inv st' := by
  have h1 := i.fr; have h3 := i.rs; have h4 := i.room
  cases l <;> simp only [step] at h <;> split at h <;> simp only [Option.some.injEq, reduceCtorEq] at h <;> subst h
  · -- fill
    rename_i hc
    exact { i with clean := by simp [i.clean, clobbered_nil st hn i hc.2] }
  · -- send
    exact { i with rs := by simp only; omega, room := by simp only; omega }
  · -- recv
    exact ⟨by simp only; omega, by simp only; omega, by simp only; omega, by simp only; omega, i.clean, i.ok, i.order⟩
  · -- flush
    refine ⟨by simp only; omega, by simp only; omega, h3, h4, i.clean, ?_, ?_⟩
    · simp only [List.all_append, i.ok, i.clean, List.all_cons, List.all_nil, Bool.and_true, Bool.true_and]
      simp
    · simp only [List.map_append, i.order, List.map_cons, List.map_nil, List.range_succ]

theorem inv_init (n cap total : Nat) : Inv (init n cap total) :=
  ⟨Nat.le_refl _, Nat.le_succ _, Nat.le_refl _, Nat.zero_le _, rfl, rfl, rfl⟩

theorem inv_run (st : St) (ls : List Lab) (hn : st.n = 0 ∨ st.cap + 1 ≤ st.n) (i : Inv st) : Inv (run st ls) :=
  (run_induct (P := fun s => (s.n = 0 ∨ s.cap + 1 ≤ s.n) ∧ Inv s) (fun _ => rfl) (fun _ _ _ => rfl)
    (fun s s' l h hs => have hc := step_n s s' l hs; ⟨by rw [hc.1, hc.2]; exact h.1, inv_step s s' l h.1 h.2 hs⟩)
    st ls ⟨hn, i⟩).2

end RingP

namespace UndoP
open Undo

def val : Entry → Option Nat
  | .copy v => some v
  | .alias _ => none

/-- all remaining entries are copies of `vs`' tail, and the file so far is the head -/
def Inv (vs : List Nat) (st : St) : Prop := st.out ++ st.todo.filterMap val = vs ∧ ∀ e ∈ st.todo, ∃ v, e = .copy v

theorem inv_step (vs : List Nat) (st st' : St) (l : Lab) (i : Inv vs st) (h : step st l = some st') : Inv vs st' := by
  cases l <;> simp only [step] at h
  · split at h <;> simp only [Option.some.injEq, reduceCtorEq] at h
    subst h; exact i
  · split at h
    · split at h <;> simp only [Option.some.injEq] at h <;> subst h <;> exact i
    · simp only [reduceCtorEq] at h
  · split at h
    · rename_i e r he
      simp only [Option.some.injEq] at h
      subst h
      obtain ⟨v, rfl⟩ := i.2 e (by rw [he]; exact List.mem_cons_self)
      refine ⟨?_, fun e' he' => i.2 e' (by rw [he]; exact List.mem_cons_of_mem _ he')⟩
      simpa [he, Entry.read, val, List.append_assoc] using i.1
    · simp only [reduceCtorEq] at h

theorem inv_run (vs : List Nat) (st : St) (ls : List Lab) (i : Inv vs st) : Inv vs (run st ls) :=
  run_induct (fun _ => rfl) (fun _ _ _ => rfl) (inv_step vs) st ls i

end UndoP

namespace CollectP
open Collect

/-- with the workers started after the collection: a worker exists only once everything is resolved, and every recorded view
    is complete -/
def Inv (N : Nat) (st : St) : Prop :=
  st.nin = N ∧ st.early = false ∧ st.resolved ≤ st.nin ∧ (0 < st.spawned → st.resolved = st.nin) ∧ ∀ v ∈ st.views, v.2 = N

theorem inv_step (N : Nat) (st st' : St) (l : Lab) (i : Inv N st) (h : step st l = some st') : Inv N st' := by
  obtain ⟨hN, he, hr, hs, hv⟩ := i
  cases l <;> simp only [step] at h
  · split at h
    · simp only [he, Bool.false_eq_true, if_false, Option.some.injEq] at h
      subst h
      refine ⟨hN, rfl, by simp only; omega, ?_, hv⟩
      intro hp; have := hs hp; omega
    · split at h
      · simp only [Option.some.injEq] at h
        subst h
        exact ⟨hN, he, hr, fun _ => by simp only; omega, hv⟩
      · simp only [reduceCtorEq] at h
  · split at h
    · rename_i hc
      simp only [Option.some.injEq] at h
      subst h
      exact ⟨hN, he, hr, hs,
        List.forall_mem_append.mpr ⟨hv, List.forall_mem_singleton.mpr ((hs (by omega)).trans hN)⟩⟩
    · simp only [reduceCtorEq] at h

theorem inv_run (N : Nat) (st : St) (ls : List Lab) (i : Inv N st) : Inv N (run st ls) :=
  run_induct (fun _ => rfl) (fun _ _ _ => rfl) (inv_step N) st ls i

end CollectP

end GocoinV.Proofs.C11Own
