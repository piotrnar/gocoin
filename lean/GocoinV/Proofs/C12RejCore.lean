/-
  Proofs.C12RejCore — the consistency invariant of the reject-list indexes on the level of the four maps (`RC`), and
  its preservation by OneTxRejected.Delete (`rejDelete`, with cleanup), the eviction of the oldest record
  (`rejEvictOldest`) and OneTxRejected.Add (`rejAdd`).  Core Lean only.  (helper lemmas for Props/C12 `reject_index_inv`)
-/
import GocoinV.Proofs.C12Rej
namespace GocoinV.Mempool

/-! ### WaitingForInputs: membership after cleanup / Add -/

theorem wDel_spec (K : Keys) (b : Nat) (w : TxId) (m : AList Nat (TxId × List Nat))
    (hK : ∀ id ids, m.get? (K.bidx w) = some (id, ids) → ids ≠ [] ∧ ids.Nodup) :
    (∀ k', k' ≠ K.bidx w → (wDel K b (some w) m).get? k' = m.get? k') ∧
    (∀ x, x ∈ wl (wDel K b (some w) m) (K.bidx w) ↔ x ∈ wl m (K.bidx w) ∧ x ≠ b) ∧
    (∀ id' ids', (wDel K b (some w) m).get? (K.bidx w) = some (id', ids') →
      (∃ ids, m.get? (K.bidx w) = some (id', ids)) ∧ ids' ≠ [] ∧ ids'.Nodup) := by
  unfold wDel
  dsimp only
  cases hm : m.get? (K.bidx w) with
  | none =>
    refine ⟨fun _ _ => rfl, ?_, ?_⟩
    · intro x; rw [wl_of_none hm]; simp
    · intro id' ids' h; rw [hm] at h; cases h
  | some p =>
    obtain ⟨id, ids⟩ := p
    obtain ⟨hne, hnd⟩ := hK id ids hm
    dsimp only
    split
    · rename_i hlen
      obtain ⟨c, hc⟩ := List.length_eq_one_iff.mp hlen
      split
      · rename_i hb
        refine ⟨fun k' hk' => AList.get?_del_other _ _ _ hk', ?_, ?_⟩
        · intro x
          rw [wl_of_none (AList.get?_del_self _ _), wl_of_get hm, hb]
          simp
        · intro id' ids' h
          rw [AList.get?_del_self] at h; cases h
      · rename_i hb
        refine ⟨fun _ _ => rfl, ?_, ?_⟩
        · intro x
          rw [wl_of_get hm, hc]
          simp only [List.mem_singleton]
          exact ⟨fun e => ⟨e, fun e' => hb (by rw [hc, ← e', e])⟩, And.left⟩
        · intro id' ids' h
          rw [hm] at h
          cases h
          exact ⟨⟨ids, rfl⟩, hne, hnd⟩
    · rename_i hlen
      refine ⟨fun k' hk' => AList.get?_set_other _ _ _ _ hk', ?_, ?_⟩
      · intro x
        rw [wl_of_get (AList.get?_set_self _ _ _), wl_of_get hm]
        exact mem_eraseFirst b ids hnd x
      · intro id' ids' h
        rw [AList.get?_set_self] at h
        cases h
        refine ⟨⟨ids, rfl⟩, fun e => ?_, nodup_eraseFirst b ids hnd⟩
        have h1 := length_eraseFirst_le b ids
        have h2 := mt List.length_eq_zero_iff.mp hne
        rw [e, List.length_nil] at h1
        omega

theorem wAdd_spec (K : Keys) (b : Nat) (w : TxId) (m : AList Nat (TxId × List Nat)) :
    (∀ k', k' ≠ K.bidx w → (wAdd K b (some w) m).get? k' = m.get? k') ∧
    (∀ x, x ∈ wl (wAdd K b (some w) m) (K.bidx w) ↔ x ∈ wl m (K.bidx w) ∨ x = b) ∧
    (∀ id' ids', (wAdd K b (some w) m).get? (K.bidx w) = some (id', ids') →
      ids' = wl m (K.bidx w) ++ [b] ∧ (id' = w ∨ ∃ ids, m.get? (K.bidx w) = some (id', ids))) := by
  unfold wAdd
  dsimp only
  cases hm : m.get? (K.bidx w) with
  | none =>
    refine ⟨fun k' hk' => AList.get?_set_other _ _ _ _ hk', ?_, ?_⟩
    · intro x
      rw [wl_of_get (AList.get?_set_self _ _ _), wl_of_none hm]
      simp
    · intro id' ids' h
      rw [AList.get?_set_self] at h
      cases h
      rw [wl_of_none hm]
      exact ⟨rfl, Or.inl rfl⟩
  | some p =>
    obtain ⟨id, ids⟩ := p
    refine ⟨fun k' hk' => AList.get?_set_other _ _ _ _ hk', ?_, ?_⟩
    · intro x
      rw [wl_of_get (AList.get?_set_self _ _ _), wl_of_get hm]
      simp
    · intro id' ids' h
      rw [AList.get?_set_self] at h
      cases h
      rw [wl_of_get hm]
      exact ⟨rfl, Or.inr ⟨ids, rfl⟩⟩

/-! ### the invariant on the level of the maps -/

/-- shape of one TransactionsRejected record: Waiting4 only with data; the stored transaction is the rejected one;
    data is kept exactly for the reasons ≥ 200; Waiting4 is set exactly for the reason NO_TXOU -/
structure RejShape (r : Rej) : Prop where
  w : r.tx = none → r.waiting4 = none
  id : ∀ t, r.tx = some t → t.id = r.id
  reason : r.tx.isSome = true ↔ r.reason ≥ 200
  w4 : r.waiting4.isSome = true ↔ r.reason = R_NO_TXOU

/-- consistency of TransactionsRejected `rej`, the non-zero ring slots `rk`, WaitingForInputs `wt` and
    RejectedSpentOutputs `sp`.  `e` is the key of a record that is already in `rej` and in the ring but whose
    references are not yet added (the situation in the middle of `OneTxRejected.Add`); `e = none` is the invariant. -/
structure RC (K : Keys) (e : Option Nat) (rej : AList Nat Rej) (rk : List Nat)
    (wt : AList Nat (TxId × List Nat)) (sp : AList Nat (List Nat)) : Prop where
  nodupRej : (rej.map Prod.fst).Nodup
  nodupRing : rk.Nodup
  ringRej : ∀ b, b ∈ rk → ∃ r, rej.get? b = some r
  rejRing : ∀ b r, rej.get? b = some r → b ∈ rk
  key : ∀ b r, rej.get? b = some r → K.bidx r.id = b
  shape : ∀ b r, rej.get? b = some r → RejShape r
  spNe : ∀ u l, sp.get? u = some l → l ≠ []
  spSound : ∀ u x, x ∈ lst sp u → some x ≠ e ∧ ∃ r t, rej.get? x = some r ∧ r.tx = some t ∧ u ∈ uidxs K t
  spCompl : ∀ b r t, rej.get? b = some r → some b ≠ e → r.tx = some t → ∀ u ∈ uidxs K t, b ∈ lst sp u
  wKey : ∀ k id ids, wt.get? k = some (id, ids) → K.bidx id = k ∧ ids ≠ [] ∧ ids.Nodup
  wSound : ∀ k x, x ∈ wl wt k → some x ≠ e ∧ ∃ r w, rej.get? x = some r ∧ r.waiting4 = some w ∧ K.bidx w = k
  wCompl : ∀ b r w, rej.get? b = some r → some b ≠ e → r.waiting4 = some w → b ∈ wl wt (K.bidx w)

theorem uidxs_rins (K : Keys) (r : Rej) (t : Tx) (h : r.tx = some t) : (rins r).map (uof K) = uidxs K t := by
  simp [rins, h, uidxs, uof]

theorem wl_congr {m m' : AList Nat (TxId × List Nat)} {k : Nat} (h : m'.get? k = m.get? k) : wl m' k = wl m k := by
  unfold wl; rw [h]

/-- Delete of one record on the level of the four maps: the key leaves `rej` and the ring, `cleanup` takes its references
    out of WaitingForInputs and RejectedSpentOutputs — every field of `RC` for the smaller maps from the same field before -/
theorem RC_delete {K : Keys} {e : Option Nat} {rej : AList Nat Rej} {rk : List Nat}
    {wt : AList Nat (TxId × List Nat)} {sp : AList Nat (List Nat)} (h : RC K e rej rk wt sp)
    (b : Nat) (r : Rej) (hr : rej.get? b = some r) :
    RC K e (rej.del b) (eraseFirst b rk) (wDel K b r.waiting4 wt) (spDel K b (rins r) sp) := by
  have back : ∀ x r', (rej.del b).get? x = some r' → x ≠ b ∧ rej.get? x = some r' :=
    fun _ _ => AList.get?_del_some
  have fwd : ∀ x r', x ≠ b → rej.get? x = some r' → (rej.del b).get? x = some r' :=
    fun x r' hx h1 => (AList.get?_del_other _ _ _ hx).trans h1
  obtain ⟨sp1, sp2⟩ := spDel_spec K b (rins r) sp h.spNe
  -- the waiting part, uniformly
  have wpart : (∀ k id ids, (wDel K b r.waiting4 wt).get? k = some (id, ids) → K.bidx id = k ∧ ids ≠ [] ∧ ids.Nodup) ∧
      (∀ k x, x ∈ wl (wDel K b r.waiting4 wt) k ↔ x ∈ wl wt k ∧ ¬ (x = b ∧ ∃ w, r.waiting4 = some w ∧ K.bidx w = k)) := by
    cases hw : r.waiting4 with
    | none =>
      refine ⟨h.wKey, ?_⟩
      intro k x
      constructor
      · intro hx
        refine ⟨hx, ?_⟩
        rintro ⟨_, w, hw', _⟩
        cases hw'
      · exact fun h => h.1
    | some w =>
      obtain ⟨wa, wb, wc⟩ := wDel_spec K b w wt (fun id ids hh => (h.wKey _ id ids hh).2)
      refine ⟨?_, ?_⟩
      · intro k id ids hg
        by_cases hk : k = K.bidx w
        · rw [hk] at hg ⊢
          obtain ⟨⟨ids0, h0⟩, h1, h2⟩ := wc id ids hg
          exact ⟨(h.wKey _ id ids0 h0).1, h1, h2⟩
        · rw [wa k hk] at hg
          exact h.wKey k id ids hg
      · intro k x
        by_cases hk : k = K.bidx w
        · rw [hk, wb x]
          constructor
          · rintro ⟨h1, h2⟩
            exact ⟨h1, fun h3 => h2 h3.1⟩
          · rintro ⟨h1, h2⟩
            exact ⟨h1, fun h3 => h2 ⟨h3, w, rfl, rfl⟩⟩
        · rw [wl_congr (wa k hk)]
          constructor
          · intro hx
            refine ⟨hx, ?_⟩
            rintro ⟨_, w', hw', hk'⟩
            cases hw'
            exact hk hk'.symm
          · exact fun h => h.1
  obtain ⟨w1, w2⟩ := wpart
  refine ⟨AList.nodup_del _ _ h.nodupRej, nodup_eraseFirst b rk h.nodupRing, ?_, ?_, ?_, ?_, sp1, ?_, ?_, w1, ?_, ?_⟩
  · intro x hx
    obtain ⟨hx1, hx2⟩ := (mem_eraseFirst b rk h.nodupRing x).mp hx
    obtain ⟨r', hr'⟩ := h.ringRej x hx1
    exact ⟨r', fwd x r' hx2 hr'⟩
  · intro x r' hx
    obtain ⟨h1, h2⟩ := back x r' hx
    exact (mem_eraseFirst b rk h.nodupRing x).mpr ⟨h.rejRing x r' h2, h1⟩
  · intro x r' hx
    exact h.key x r' (back x r' hx).2
  · intro x r' hx
    exact h.shape x r' (back x r' hx).2
  · intro u x hx
    obtain ⟨hx1, hx2⟩ := (sp2 u x).mp hx
    obtain ⟨hne, r', t', hr', ht', hu⟩ := h.spSound u x hx1
    refine ⟨hne, r', t', fwd x r' ?_ hr', ht', hu⟩
    rintro rfl
    cases hr.symm.trans hr'
    exact hx2 ⟨rfl, by rw [uidxs_rins K r t' ht']; exact hu⟩
  · intro x r' t' hx hne ht' u hu
    obtain ⟨h1, h2⟩ := back x r' hx
    exact (sp2 u x).mpr ⟨h.spCompl x r' t' h2 hne ht' u hu, fun h3 => h1 h3.1⟩
  · intro k x hx
    obtain ⟨hx1, hx2⟩ := (w2 k x).mp hx
    obtain ⟨hne, r', w', hr', hw', hk⟩ := h.wSound k x hx1
    refine ⟨hne, r', w', fwd x r' ?_ hr', hw', hk⟩
    rintro rfl
    cases hr.symm.trans hr'
    exact hx2 ⟨rfl, w', hw', hk⟩
  · intro x r' w' hx hne hw'
    obtain ⟨h1, h2⟩ := back x r' hx
    exact (w2 _ x).mpr ⟨h.wCompl x r' w' h2 hne hw', fun h3 => h1 h3.1⟩

/-- first half of Add: the record is in `rej` and in the ring, its references are not yet added — `RC` with the new key
    excused (`e = some b`) -/
theorem RC_add_record {K : Keys} {rej : AList Nat Rej} {rk : List Nat}
    {wt : AList Nat (TxId × List Nat)} {sp : AList Nat (List Nat)} (h : RC K none rej rk wt sp)
    (b : Nat) (r : Rej) (hf : rej.get? b = none) (hk : K.bidx r.id = b) (hs : RejShape r) :
    RC K (some b) (rej.set b r) (rk ++ [b]) wt sp := by
  have back : ∀ x r', (rej.set b r).get? x = some r' → (x = b ∧ r' = r) ∨ (x ≠ b ∧ rej.get? x = some r') :=
    fun _ _ => AList.get?_set_some
  have fwd : ∀ x r', rej.get? x = some r' → x ≠ b ∧ (rej.set b r).get? x = some r' := by
    intro x r' h1
    have : x ≠ b := by intro e; rw [e, hf] at h1; cases h1
    exact ⟨this, by rw [AList.get?_set_other _ _ _ _ this]; exact h1⟩
  have hnb : b ∉ rk := by
    intro hb
    obtain ⟨r', hr'⟩ := h.ringRej b hb
    rw [hf] at hr'; cases hr'
  refine ⟨AList.nodup_set _ _ _ h.nodupRej, ?_, ?_, ?_, ?_, ?_, h.spNe, ?_, ?_, h.wKey, ?_, ?_⟩
  · exact (List.perm_append_singleton b rk).nodup_iff.mpr (List.nodup_cons.mpr ⟨hnb, h.nodupRing⟩)
  · intro x hx
    rcases List.mem_append.mp hx with hx | hx
    · obtain ⟨r', hr'⟩ := h.ringRej x hx
      exact ⟨r', (fwd x r' hr').2⟩
    · simp only [List.mem_singleton] at hx
      exact ⟨r, by rw [hx, AList.get?_set_self]⟩
  · intro x r' hx
    rcases back x r' hx with ⟨e, _⟩ | ⟨_, h2⟩
    · rw [e]; simp
    · exact List.mem_append_left _ (h.rejRing x r' h2)
  · intro x r' hx
    rcases back x r' hx with ⟨e1, e2⟩ | ⟨_, h2⟩
    · rw [e1, e2]; exact hk
    · exact h.key x r' h2
  · intro x r' hx
    rcases back x r' hx with ⟨_, e2⟩ | ⟨_, h2⟩
    · rw [e2]; exact hs
    · exact h.shape x r' h2
  · intro u x hx
    obtain ⟨_, r', t', hr', ht', hu⟩ := h.spSound u x hx
    obtain ⟨f1, f2⟩ := fwd x r' hr'
    exact ⟨fun e => f1 (Option.some.inj e), r', t', f2, ht', hu⟩
  · intro x r' t' hx hne ht' u hu
    rcases back x r' hx with ⟨e1, _⟩ | ⟨_, h2⟩
    · exact absurd (by rw [e1]) hne
    · exact h.spCompl x r' t' h2 (by simp) ht' u hu
  · intro k x hx
    obtain ⟨_, r', w', hr', hw', hk'⟩ := h.wSound k x hx
    obtain ⟨f1, f2⟩ := fwd x r' hr'
    exact ⟨fun e => f1 (Option.some.inj e), r', w', f2, hw', hk'⟩
  · intro x r' w' hx hne hw'
    rcases back x r' hx with ⟨e1, _⟩ | ⟨_, h2⟩
    · exact absurd (by rw [e1]) hne
    · exact h.wCompl x r' w' h2 (by simp) hw'

/-- second half of Add: the references of the excused record are added to WaitingForInputs and RejectedSpentOutputs, and
    nothing is excused any more (`e = none`) -/
theorem RC_add_refs {K : Keys} {rej : AList Nat Rej} {rk : List Nat}
    {wt : AList Nat (TxId × List Nat)} {sp : AList Nat (List Nat)} (b : Nat) (h : RC K (some b) rej rk wt sp)
    (r : Rej) (hr : rej.get? b = some r) :
    RC K none rej rk (wAdd K b r.waiting4 wt) (spAdd K b (rins r) sp) := by
  obtain ⟨sp1, sp2⟩ := spAdd_spec K b (rins r) sp h.spNe
  have wpart : (∀ k id ids, (wAdd K b r.waiting4 wt).get? k = some (id, ids) → K.bidx id = k ∧ ids ≠ [] ∧ ids.Nodup) ∧
      (∀ k x, x ∈ wl (wAdd K b r.waiting4 wt) k ↔ x ∈ wl wt k ∨ (x = b ∧ ∃ w, r.waiting4 = some w ∧ K.bidx w = k)) := by
    cases hw : r.waiting4 with
    | none =>
      refine ⟨h.wKey, ?_⟩
      intro k x
      constructor
      · exact Or.inl
      · rintro (h1 | ⟨_, w, hw', _⟩)
        · exact h1
        · cases hw'
    | some w =>
      obtain ⟨wa, wb, wc⟩ := wAdd_spec K b w wt
      refine ⟨?_, ?_⟩
      · intro k id ids hg
        by_cases hk : k = K.bidx w
        · rw [hk] at hg ⊢
          obtain ⟨h1, h2⟩ := wc id ids hg
          refine ⟨?_, by rw [h1]; simp, ?_⟩
          · rcases h2 with e | ⟨ids0, h0⟩
            · rw [e]
            · exact (h.wKey _ id ids0 h0).1
          · rw [h1]
            refine (List.perm_append_singleton b _).nodup_iff.mpr
              (List.nodup_cons.mpr ⟨fun hb => (h.wSound _ b hb).1 rfl, ?_⟩)
            cases hg0 : wt.get? (K.bidx w) with
            | none => rw [wl_of_none hg0]; simp
            | some p =>
              obtain ⟨id0, ids0⟩ := p
              rw [wl_of_get hg0]
              exact (h.wKey _ id0 ids0 hg0).2.2
        · rw [wa k hk] at hg
          exact h.wKey k id ids hg
      · intro k x
        by_cases hk : k = K.bidx w
        · rw [hk, wb x]
          constructor
          · rintro (h1 | h1)
            · exact Or.inl h1
            · exact Or.inr ⟨h1, w, rfl, rfl⟩
          · rintro (h1 | h1)
            · exact Or.inl h1
            · exact Or.inr h1.1
        · rw [wl_congr (wa k hk)]
          constructor
          · exact Or.inl
          · rintro (h1 | ⟨_, w', hw', hk'⟩)
            · exact h1
            · cases hw'
              exact absurd hk'.symm hk
  obtain ⟨w1, w2⟩ := wpart
  refine ⟨h.nodupRej, h.nodupRing, h.ringRej, h.rejRing, h.key, h.shape, sp1, ?_, ?_, w1, ?_, ?_⟩
  · intro u x hx
    refine ⟨by simp, ?_⟩
    rcases (sp2 u x).mp hx with h1 | ⟨e, hu⟩
    · exact (h.spSound u x h1).2
    · rw [e]
      cases ht : r.tx with
      | none => simp [rins, ht] at hu
      | some t => exact ⟨r, t, hr, ht, by rw [← uidxs_rins K r t ht]; exact hu⟩
  · intro x r' t' hx _ ht' u hu
    by_cases e : x = b
    · rw [e] at hx ⊢
      rw [hr] at hx; cases hx
      exact (sp2 u b).mpr (Or.inr ⟨rfl, by rw [uidxs_rins K r t' ht']; exact hu⟩)
    · exact (sp2 u x).mpr (Or.inl (h.spCompl x r' t' hx (fun e' => e (Option.some.inj e')) ht' u hu))
  · intro k x hx
    refine ⟨by simp, ?_⟩
    rcases (w2 k x).mp hx with h1 | ⟨e, w, hw, hk⟩
    · exact (h.wSound k x h1).2
    · rw [e]; exact ⟨r, w, hr, hw, hk⟩
  · intro x r' w' hx _ hw'
    by_cases e : x = b
    · rw [e] at hx ⊢
      rw [hr] at hx; cases hx
      exact (w2 _ b).mpr (Or.inr ⟨rfl, w', hw', rfl⟩)
    · exact (w2 _ x).mpr (Or.inl (h.wCompl x r' w' hx (fun e' => e (Option.some.inj e')) hw'))

theorem RC.congr {K : Keys} {e : Option Nat} {rej rej' : AList Nat Rej} {rk rk' : List Nat}
    {wt wt' : AList Nat (TxId × List Nat)} {sp sp' : AList Nat (List Nat)} (h : RC K e rej rk wt sp)
    (h1 : rej' = rej) (h2 : rk' = rk) (h3 : wt' = wt) (h4 : sp' = sp) : RC K e rej' rk' wt' sp' := by
  subst h1 h2 h3 h4; exact h

/-! ### on states -/

def RCs (K : Keys) (e : Option Nat) (s : State) : Prop := RC K e s.rej (ringKeys s.ring) s.waiting s.rejSpent

theorem rejDelete_rej (K : Keys) (s : State) (r : Rej) : (rejDelete K s r).rej = s.rej.del (K.bidx r.id) := by
  unfold rejDelete; cases r.tx <;> rfl

theorem rejDelete_ring (K : Keys) (s : State) (r : Rej) :
    (rejDelete K s r).ring = normRing (zeroSlot (K.bidx r.id) s.ring) := by
  unfold rejDelete; cases r.tx <;> rfl

theorem rejDelete_cfg (K : Keys) (s : State) (r : Rej) : (rejDelete K s r).cfg = s.cfg := by
  unfold rejDelete; cases r.tx <;> rfl

theorem rejDelete_panicked (K : Keys) (s : State) (r : Rej) : (rejDelete K s r).panicked = s.panicked := by
  unfold rejDelete; cases r.tx <;> rfl

theorem rejDelete_refs (K : Keys) (s : State) (r : Rej) :
    (rejDelete K s r).waiting = (match r.tx with
      | some _ => wDel K (K.bidx r.id) r.waiting4 s.waiting
      | none => s.waiting) ∧
    (rejDelete K s r).rejSpent = spDel K (K.bidx r.id) (rins r) s.rejSpent := by
  unfold rejDelete rins
  cases r.tx <;> exact ⟨rfl, rfl⟩

theorem rejDelete_RCs {K : Keys} {e : Option Nat} {s : State} (h : RCs K e s) (r : Rej)
    (hr : s.rej.get? (K.bidx r.id) = some r) : RCs K e (rejDelete K s r) := by
  have := RC_delete h (K.bidx r.id) r hr
  obtain ⟨e1, e2⟩ := rejDelete_refs K s r
  refine this.congr (rejDelete_rej K s r) ?_ ?_ e2
  · rw [rejDelete_ring, ringKeys_normRing, ringKeys_zeroSlot]
  · rw [e1]
    cases ht : r.tx with
    | none => rw [(h.shape _ r hr).w ht]; rfl
    | some t => rfl

theorem rejEvictOldest_cases (K : Keys) (s : State) :
    rejEvictOldest K s = s ∨
    (∃ old rest o, s.ring = some old :: rest ∧ s.cfg.ringCap ≤ s.ring.length ∧ s.rej.get? old = some o ∧
      rejEvictOldest K s = rejDelete K s o) ∨
    (∃ old rest, s.ring = some old :: rest ∧ s.rej.get? old = none ∧ rejEvictOldest K s = { s with panicked := true }) ∨
    ((∀ old rest, s.ring ≠ some old :: rest) ∧ rejEvictOldest K s = { s with ring := normRing s.ring }) := by
  unfold rejEvictOldest
  split
  · rename_i hlen
    split
    · rename_i old rest hring
      split
      · rename_i o ho
        exact Or.inr (Or.inl ⟨old, rest, o, hring, hlen, ho, rfl⟩)
      · rename_i ho
        exact Or.inr (Or.inr (Or.inl ⟨old, rest, hring, ho, rfl⟩))
    · rename_i hno
      exact Or.inr (Or.inr (Or.inr ⟨hno, rfl⟩))
  · exact Or.inl rfl

/-- the eviction inside Add: when the ring is full its oldest slot is deleted (`rejDelete_RCs`) — never the excused
    record itself, by `hne` — and the ring is normalised -/
theorem rejEvictOldest_RCs {K : Keys} {e : Option Nat} {s : State} (h : RCs K e s)
    (hne : ∀ old rest, s.ring = some old :: rest → s.cfg.ringCap ≤ s.ring.length → some old ≠ e) :
    RCs K e (rejEvictOldest K s) ∧ (rejEvictOldest K s).panicked = s.panicked ∧
    (rejEvictOldest K s).cfg = s.cfg ∧
    (∀ x r, (rejEvictOldest K s).rej.get? x = some r → s.rej.get? x = some r) ∧
    (∀ x r, some x = e → s.rej.get? x = some r → (rejEvictOldest K s).rej.get? x = some r) := by
  rcases rejEvictOldest_cases K s with e0 | ⟨old, rest, o, hring, hlen, ho, e0⟩ | ⟨old, rest, hring, ho, _⟩ | ⟨_, e0⟩
  · rw [e0]; exact ⟨h, rfl, rfl, fun _ _ h => h, fun _ _ _ h => h⟩
  · rw [e0]
    have hk : K.bidx o.id = old := h.key old o ho
    have hne' := hne old rest hring hlen
    refine ⟨rejDelete_RCs h o (by rw [hk]; exact ho), rejDelete_panicked K s o,
      rejDelete_cfg K s o, ?_, ?_⟩
    · intro x r hx
      rw [rejDelete_rej] at hx
      exact (AList.get?_del_some hx).2
    · intro x r hxe hx
      rw [rejDelete_rej, hk, AList.get?_del_other]
      · exact hx
      · intro exo
        rw [exo] at hxe
        exact hne' hxe
  · -- under the invariant the panic branch of the eviction (ring slot without record) is never taken
    obtain ⟨o, ho'⟩ := h.ringRej old ((mem_ringKeys _ _).mpr (by rw [hring]; exact List.mem_cons_self))
    rw [ho] at ho'; cases ho'
  · rw [e0]
    refine ⟨?_, rfl, rfl, fun _ _ h => h, fun _ _ _ h => h⟩
    exact RC.congr (rk' := ringKeys (normRing s.ring)) h rfl (ringKeys_normRing _) rfl rfl

theorem rejAddRefs_fix (K : Keys) (s : State) (r : Rej) : (rejAddRefs K s r).rej = s.rej ∧
    (rejAddRefs K s r).panicked = s.panicked ∧ (rejAddRefs K s r).cfg = s.cfg := by
  rw [rejAddRefs_eq]; cases r.tx <;> exact ⟨rfl, rfl, rfl⟩

theorem rejAddRefs_RCs {K : Keys} {s : State} (r : Rej) (h : RCs K (some (K.bidx r.id)) s)
    (hr : s.rej.get? (K.bidx r.id) = some r) : RCs K none (rejAddRefs K s r) := by
  have := RC_add_refs (K.bidx r.id) h r hr
  rw [rejAddRefs_eq]
  cases ht : r.tx with
  | none =>
    rw [(h.shape _ r hr).w ht] at this
    simp only [rins, ht] at this
    exact this
  | some t =>
    simp only [rins, ht] at this
    exact this

/-- OneTxRejected.Add as the chain of the three steps: `RC_add_record`, `rejEvictOldest_RCs` (the ring keeps the new
    record because it has at least two slots), `rejAddRefs_RCs` -/
theorem rejAdd_RCs {K : Keys} {s : State} (h : RCs K none s) (hcap : 2 ≤ s.cfg.ringCap) (r : Rej)
    (hf : s.rej.get? (K.bidx r.id) = none) (hs : RejShape r) :
    RCs K none (rejAdd K s r) ∧ (rejAdd K s r).panicked = s.panicked ∧ (rejAdd K s r).cfg = s.cfg ∧
    (∀ x r', (rejAdd K s r).rej.get? x = some r' → (x = K.bidx r.id ∧ r' = r) ∨ s.rej.get? x = some r') := by
  unfold rejAdd
  dsimp only
  generalize hs1 : ({ s with ring := s.ring ++ [some (K.bidx r.id)], rej := s.rej.set (K.bidx r.id) r } : State) = s1
  have r1 : s1.rej = s.rej.set (K.bidx r.id) r := by rw [← hs1]
  have g1 : s1.ring = s.ring ++ [some (K.bidx r.id)] := by rw [← hs1]
  have c1 : s1.cfg = s.cfg := by rw [← hs1]
  have p1 : s1.panicked = s.panicked := by rw [← hs1]
  have h1 : RCs K (some (K.bidx r.id)) s1 := by
    have := RC_add_record h (K.bidx r.id) r hf rfl hs
    refine this.congr r1 ?_ (by rw [← hs1]) (by rw [← hs1])
    rw [g1, ringKeys_append]
  obtain ⟨h2, p2, c2, m2, k2⟩ := rejEvictOldest_RCs h1 (by
    intro old rest hring hlen
    rw [g1] at hring hlen
    cases hsr : s.ring with
    | nil =>
      rw [hsr] at hlen
      simp only [List.nil_append, List.length_cons, List.length_nil] at hlen
      rw [c1] at hlen
      omega
    | cons o rest' =>
      rw [hsr] at hring
      simp only [List.cons_append, List.cons.injEq] at hring
      have : old ∈ ringKeys s.ring := (mem_ringKeys _ _).mpr (by rw [hsr, hring.1]; exact List.mem_cons_self)
      obtain ⟨r', hr'⟩ := h.ringRej old this
      intro e
      rw [Option.some.inj e, hf] at hr'
      cases hr')
  have hb : (rejEvictOldest K s1).rej.get? (K.bidx r.id) = some r :=
    k2 _ r rfl (by rw [r1, AList.get?_set_self])
  obtain ⟨e3, e4, e5⟩ := rejAddRefs_fix K (rejEvictOldest K s1) r
  refine ⟨rejAddRefs_RCs r h2 hb, e4.trans (p2.trans p1), e5.trans (c2.trans c1), fun x r' hx => ?_⟩
  have := m2 x r' (e3 ▸ hx)
  rw [r1] at this
  exact (AList.get?_set_some this).imp_right And.right

end GocoinV.Mempool
