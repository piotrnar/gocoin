/-
  Proofs.C15Reuse — one `btc.BtcAddr` object over time (lib/btc/addr.go; Model/AddrObj.lean): calls change only the two
  caches, OutScript ignores earlier calls, and under the callers' re-use idiom (caches reset when a field is assigned)
  String()/OutScript() are those of a new address for the destination last pointed to.
-/
import GocoinV.Model.AddrObj
import GocoinV.Proofs.C15Addr
import GocoinV.Proofs.C15Base58Inv
namespace GocoinV.Addr
open GocoinV

/-- the fields that say WHICH destination the object denotes -/
def Obj.core (o : Obj) : Option (Bytes × Nat × Bytes) × UInt8 × Bytes := (o.seg, o.ver, o.h160)

theorem Obj.string_core (H : Hashes) (o : Obj) : (o.string H).2.core = o.core := by
  unfold Obj.string Obj.core
  split
  · rfl
  · split <;> rfl

theorem Obj.string_of_enc_ne (H : Hashes) (o : Obj) (h : o.enc ≠ []) : (o.string H).1 = o.enc := by
  unfold Obj.string
  rw [if_pos h]

theorem Obj.dest_of_core {o o' : Obj} (h : o.core = o'.core) : o.dest = o'.dest := by
  simp only [Obj.core, Prod.mk.injEq] at h
  obtain ⟨h1, h2, h3⟩ := h
  unfold Obj.dest
  rw [h1, h2, h3]

theorem Obj.apply_core_call (H : Hashes) (o : Obj) (op : Op) (h : op.isCall = true) :
    (o.apply H op).core = o.core := by
  cases op <;> simp only [Op.isCall, Bool.false_eq_true] at h
  · exact Obj.string_core H o
  · rfl

theorem Obj.apply_core_assign (H : Hashes) (o o' : Obj) (op : Op) (h : op.isCall = false)
    (hc : o.core = o'.core) : (o.apply H op).core = (o'.apply H op).core := by
  simp only [Obj.core, Prod.mk.injEq] at hc
  obtain ⟨h1, h2, h3⟩ := hc
  cases op <;> simp only [Op.isCall, Bool.true_eq_false] at h <;>
    simp only [Obj.apply, Obj.core, h1, h2, h3]

theorem Obj.exec_core_filter (H : Hashes) (ops : List Op) :
    ∀ o o' : Obj, o.core = o'.core →
      (Obj.exec H ops o).core = (Obj.exec H (ops.filter (fun op => !op.isCall)) o').core := by
  induction ops with
  | nil => intro o o' h; exact h
  | cons op ops ih =>
    intro o o' h
    cases hc : op.isCall <;> simp only [List.filter, hc, Bool.not_true, Bool.not_false, Obj.exec]
    · exact ih _ _ (Obj.apply_core_assign H o o' op hc h)
    · exact ih _ _ ((Obj.apply_core_call H o op hc).trans h)

theorem Obj.exec_append (H : Hashes) (a b : List Op) : ∀ o : Obj,
    Obj.exec H (a ++ b) o = Obj.exec H b (Obj.exec H a o) := by
  induction a with
  | nil => intro o; rfl
  | cons x a ih => intro o; simp only [List.cons_append, Obj.exec]; exact ih _

theorem copy4_of_length {c : Bytes} (h : c.length = 4) : copy4 c = c := by
  unfold copy4
  rw [List.take_of_length_le (by omega)]
  simp [h]

/-- `String()` on a coherent object: returns what a new object would, and leaves the object coherent -/
theorem Obj.string_coherent (H : Hashes) (hH : ∀ x, (H.sha2sum x).length = 32) (o : Obj)
    (hc : o.Coherent H) : (o.string H).1 = o.fresh H ∧ (o.string H).2.Coherent H := by
  obtain ⟨he, hk⟩ := hc
  have h4 := take4_length (hH (o.ver :: o.h160))
  unfold Obj.string
  by_cases hne : o.enc ≠ []
  · rw [if_pos hne]
    rcases he with he | he
    · exact absurd he hne
    · exact ⟨he, Or.inr he, hk⟩
  · rw [if_neg hne]
    cases hs : o.seg with
    | some t =>
      obtain ⟨hrp, v, p⟩ := t
      simp only
      refine ⟨?_, Or.inr ?_, hk⟩ <;> simp only [Obj.fresh, Obj.dest, hs, Addr.toString]
    | none =>
      rcases hk with hk | hk <;> rw [hk] <;> simp only [copy4_of_length h4] <;>
        refine ⟨?_, Or.inr ?_, Or.inr rfl⟩ <;>
        simp only [Obj.fresh, Obj.dest, hs, Addr.toString, Option.getD_some]

theorem Obj.reuse_step_coherent (H : Hashes) (hH : ∀ x, (H.sha2sum x).length = 32) (s : Reuse) (o : Obj)
    (hc : o.Coherent H) : (Obj.exec H s.ops o).Coherent H := by
  cases s with
  | point d =>
    cases d with
    | segwit hrp v p => exact ⟨Or.inl rfl, hc.2⟩
    | legacy ver h => exact ⟨Or.inl rfl, Or.inl rfl⟩
  | dropSegwit => exact ⟨Or.inl rfl, hc.2⟩
  | string => exact (Obj.string_coherent H hH o hc).2
  | outScript => exact hc

/-- the object after a history written in the callers' idiom -/
def Obj.reuse (H : Hashes) (steps : List Reuse) (o : Obj) : Obj := Obj.exec H (steps.flatMap Reuse.ops) o

theorem Obj.reuse_cons (H : Hashes) (s : Reuse) (steps : List Reuse) (o : Obj) :
    Obj.reuse H (s :: steps) o = Obj.reuse H steps (Obj.exec H s.ops o) := by
  simp only [Obj.reuse, List.flatMap_cons, Obj.exec_append]

theorem Obj.reuse_append (H : Hashes) (a b : List Reuse) (o : Obj) :
    Obj.reuse H (a ++ b) o = Obj.reuse H b (Obj.reuse H a o) := by
  simp only [Obj.reuse, List.flatMap_append, Obj.exec_append]

theorem Obj.reuse_coherent (H : Hashes) (hH : ∀ x, (H.sha2sum x).length = 32) (steps : List Reuse) :
    ∀ o : Obj, o.Coherent H → (Obj.reuse H steps o).Coherent H := by
  induction steps with
  | nil => intro o h; exact h
  | cons s steps ih =>
    intro o h
    rw [Obj.reuse_cons]
    exact ih _ (Obj.reuse_step_coherent H hH s o h)

theorem Obj.reuse_calls_core (H : Hashes) (cs : List Reuse) (hcs : ∀ s ∈ cs, s.isCall = true) :
    ∀ o : Obj, (Obj.reuse H cs o).core = o.core := by
  induction cs with
  | nil => intro o; rfl
  | cons s cs ih =>
    intro o
    rw [Obj.reuse_cons, ih (fun x hx => hcs x (List.mem_cons_of_mem _ hx))]
    have := hcs s List.mem_cons_self
    cases s <;> simp only [Reuse.isCall, Bool.false_eq_true] at this
    · exact Obj.string_core H o
    · rfl

theorem Obj.point_dest (H : Hashes) (d : Dest) (o : Obj) : (Obj.exec H (Reuse.point d).ops o).dest = d.addr := by
  cases d <;> rfl

/-- a Base58Check address as `NewAddrFromString` leaves it (Version, Hash160, Checksum = the string's last four
    payload bytes, Enc58str = the string) is coherent -/
theorem Obj.parsed_b58_coherent (H : Hashes) (hs : Bytes) (hlen : 4 ≤ hs.length) (hp : ¬ segwitPrefix hs)
    (a : Addr) (dec : Bytes) (hd : Base58.decode hs = some dec) (h : fromString H hs = .ok a) :
    Obj.Coherent H ⟨none, hs, some (dec.drop 21), dec.headD 0, (dec.drop 1).take 20⟩ := by
  obtain ⟨dec', hd', hl, hck, -⟩ := (b58check_accept_iff H hs hlen hp a).mp h
  cases hd.symm.trans hd'
  have h21 := headD_cons_take dec 20 hl
  refine ⟨Or.inr ?_, Or.inr ?_⟩
  · simp only [Obj.fresh, Obj.dest, Addr.toString, Option.getD_some, h21, hck, List.take_append_drop]
    exact (Base58.encode_decode hs dec hd).symm
  · simp only [h21, hck]

end GocoinV.Addr
