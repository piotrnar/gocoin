/-
  Proofs.C06Ops — histories of the three operations `header` / `commit` / `block` (`step`, Model/ChainTree): every
  operation keeps the whole invariant and never panics, hence the invariant — and the completeness of the tree w.r.t. the
  blocks whose DATA was admitted — holds after every history. Side conditions (`OpOK`): the operation's block is a block
  of `U` and not the root; a `block` operation (CheckBlock + AcceptBlock: header and data at once) is applied on top of a
  parent that has its data and not below an entry that is unreachable from the root.
-/
import GocoinV.Proofs.C06Header
import GocoinV.Proofs.C06CommitNode
namespace GocoinV.ChainTree
open GocoinV.UtxoOps

/-- side conditions on one operation in the state `c` -/
def OpOK (U : List Block) (c : Chain) (op : Op) : Prop :=
  op.blk ∈ U ∧ op.blk.id ≠ c.root ∧
  match op with
  | .block b => (∀ p, getNode c b.parent = some p → HasData c b.parent p) ∧ (step c (.block b)).2 ≠ Outcome.detached
  | _ => True

/-- a history all of whose operations satisfy the side conditions when they are applied -/
def ClientLike (U : List Block) : Chain → List Op → Prop
  | _, [] => True
  | c, op :: rest => OpOK U c op ∧ ClientLike U (step c op).1 rest

/-- does the operation hand over block data? (a header alone does not: it is not "admitted", whatever the answer) -/
def Op.hasData : Op → Bool
  | .header _ => false
  | _ => true

/-- one operation, with the GHOST list (no counterpart in the code) of the ids whose DATA was admitted so far -/
def stepG (s : Chain × List Nat) (op : Op) : Chain × List Nat :=
  ((step s.1 op).1, if op.hasData && (step s.1 op).2.admitted then op.blk.id :: s.2 else s.2)

theorem foldl_stepG_fst (ops : List Op) (s : Chain × List Nat) :
    (ops.foldl stepG s).1 = ops.foldl (fun c op => (step c op).1) s.1 :=
  (List.foldl_hom Prod.fst (fun _ _ => rfl)).symm

theorem step_block_cases (c : Chain) (b : Block) :
    (step c (.block b) = (c, Outcome.dup) ∧ (inLimbo c b.id).isSome = true) ∨
    step c (.block b) = (c, Outcome.detached) ∨
    step c (.block b) = deliver c b := by
  by_cases hl : (inLimbo c b.id).isSome = true
  · left; simp only [step, hl, if_true]; exact ⟨trivial, trivial⟩
  · by_cases hdt : ((getNode c b.id).isNone && (getNode c b.parent).isNone && (inLimbo c b.parent).isSome) = true
    · right; left; simp only [step, hl, Bool.false_eq_true, if_false, hdt, if_true]
    · right; right; simp only [step, hl, Bool.false_eq_true, if_false, hdt]

/-- **one operation keeps the whole invariant and does not panic**; nothing but excused nodes is lost; a block whose data
    was admitted is a node with its data afterwards or excused; the tip moves only to the operation's block or in the fall-back
    of a failed reorganisation -/
theorem step_ok {U : List Block} {c : Chain} (hi : Inv U c) (hU : BlockTree c.root U) (op : Op) (hok : OpOK U c op) :
    StepOK U c op.blk op.hasData (step c op) := by
  obtain ⟨hbU, hbr, hextra⟩ := hok
  cases op with
  | header b => exact header_ok hi hU b hbU
  | commit b => exact commitNode_ok hi hU b hbU hbr
  | block b =>
    rcases step_block_cases c b with ⟨he, _⟩ | he | he
    · rw [he]; exact .noop hi _ (fun s hs => by cases hs) rfl
    · exact absurd (by rw [he]) hextra.2
    · rw [he]; exact (deliver_ok hi hU b hbU hextra.1).1

/-- **after every history of operations: the invariant, and completeness w.r.t. the blocks whose data was admitted** -/
theorem stepG_all {U : List Block} (ops : List Op) : ∀ (s : Chain × List Nat), InvC U s.2 s.1 → ClientLike U s.1 ops →
    AdmittedHaveData U s.1.root s.2 s.1 →
    InvC U (ops.foldl stepG s).2 (ops.foldl stepG s).1 ∧
      AdmittedHaveData U (ops.foldl stepG s).1.root (ops.foldl stepG s).2 (ops.foldl stepG s).1 ∧
      (ops.foldl stepG s).1.root = s.1.root := by
  induction ops with
  | nil => intro s k _ hd; exact ⟨k, hd, rfl⟩
  | cons op rest ih =>
    intro s k hcl hd
    have h := step_ok k.inv k.tree op hcl.1
    have hr : (stepG s op).1.root = s.1.root := h.root
    obtain ⟨h1, h2, h3⟩ := ih (stepG s op) (h.invC k) hcl.2 (by rw [hr]; exact h.data s.2 hd)
    exact ⟨h1, h2, h3.trans hr⟩

theorem step_history (r bits : Nat) (U : List Block) (ops : List Op) (hbits : bits % 0x1000000 ≠ 0) (hU : BlockTree r U)
    (hcl : ClientLike U (ChainTree.init r bits) ops) :
    InvC U (ops.foldl stepG (ChainTree.init r bits, [])).2 (ops.foldl (fun c op => (step c op).1) (ChainTree.init r bits)) ∧
    AdmittedHaveData U (ops.foldl (fun c op => (step c op).1) (ChainTree.init r bits)).root
      (ops.foldl stepG (ChainTree.init r bits, [])).2 (ops.foldl (fun c op => (step c op).1) (ChainTree.init r bits)) ∧
    (ops.foldl (fun c op => (step c op).1) (ChainTree.init r bits)).root = r := by
  have h := stepG_all ops (ChainTree.init r bits, []) ⟨hU, init_inv U r bits hbits, fun x hx => by cases hx⟩ hcl
    (fun x hx => by cases hx)
  rw [foldl_stepG_fst] at h
  exact h

end GocoinV.ChainTree
