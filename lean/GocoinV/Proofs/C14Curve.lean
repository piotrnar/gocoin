/-
  Proofs.C14Curve — the reference-curve facts the BIP32 theorems of Props/C14 need, DERIVED from the
  theorems of C03 / C08 (imported, not copied) so that those theorems carry no curve hypotheses:
    * `Proofs.C03.secpGroupLaw`   (Proofs/C03Curve.lean)  — `Secp.add` is Mathlib's Weierstrass group law
    * `Proofs.C03.mul_eq_nsmul`   (Proofs/C03Group.lean)  — double-and-add = k-fold sum
    * `Proofs.C03.order_G`, `mul_G_ne_none`, `mul_mod_G`, `mul_G_none_iff` (C03Group / C03Ecdsa) — G has order exactly n
      (n prime: C08_Primes)
    * `Proofs.C03.parsePubkey_ser33` + `parsePubkey_eq` (C03Ecdsa / C03) — parse ∘ serP = id on curve points
      (square roots for p ≡ 3 mod 4: Proofs/C03Field.lean)
-/
import GocoinV.Proofs.C03Curve
import GocoinV.Proofs.C03Ecdsa
namespace GocoinV.Proofs.C14
open GocoinV GocoinV.Secp GocoinV.Proofs.C03

theorem mul_G_onCurve (k : Nat) : onCurve (Secp.mul k G) = true := by
  rw [mul_G]; exact (k • Gc).2

theorem mul_add_G (a b : Nat) : Secp.mul (a + b) G = Secp.add (Secp.mul a G) (Secp.mul b G) := by
  rw [mul_G, mul_G, mul_G, add_nsmul, val_add]

theorem mul_add_mod_G (a k : Nat) :
    Secp.mul ((a + k) % n) G = Secp.add (Secp.mul a G) (Secp.mul k G) := by
  rw [Proofs.C03.mul_mod_G, mul_add_G]

theorem mul_G_none_iff (k : Nat) : Secp.mul k G = none ↔ k % n = 0 := Proofs.C03.mul_G_none_iff k

/-- j·G is a finite point for 0 < j < n (C03's `mul_G_ne_none` as an existence statement) -/
theorem mul_G_finite (j : Nat) (h0 : 0 < j) (hn : j < n) : ∃ P, Secp.mul j G = some P :=
  Option.ne_none_iff_exists'.mp (mul_G_ne_none j h0 hn)

theorem mul_G_some (k : Nat) (hk : k % n ≠ 0) : ∃ P, Secp.mul k G = some P :=
  Option.ne_none_iff_exists'.mp fun h => hk ((mul_G_none_iff k).mp h)

/-- strict SEC1 parsing reads the compressed serialisation of a curve point back (used by
    `pub_commutes` / `ckd_pub_spec`) -/
theorem parse_ser33 (P : Nat × Nat) (h : onCurve (some P) = true) :
    Secp.parsePubkey (ser33 (some P)) = some P := by
  obtain ⟨x, y⟩ := P
  rw [← parsePubkey_eq _ (not_exceptional _)]
  exact parsePubkey_ser33 x y h

theorem add_onCurve (P Q : Point) (hP : onCurve P = true) (hQ : onCurve Q = true) :
    onCurve (Secp.add P Q) = true :=
  secpGroupLaw.add_closed P Q hP hQ

theorem add_mul_G_none_iff (a k : Nat) :
    Secp.add (Secp.mul a G) (Secp.mul k G) = none ↔ (a + k) % n = 0 := by
  rw [← mul_add_G, mul_G_none_iff]

end GocoinV.Proofs.C14
