/-
  Proofs.C08_MultGen — `ECmultGen` (64×16 comb over the table `prec`, then `+ fin`) followed through the
  proved `XYZ.AddXY`: the result represents the left-nested reference sum of the selected table points;
  pointwise meaning of the table `prec` from its proved row relations.
-/
import GocoinV.Proofs.C08_Group
import GocoinV.Proofs.C08_TabPrec
import GocoinV.Proofs.C08_TabAll

namespace GocoinV.C08
open GocoinV.Gen.Field5x52 GocoinV.Gen

theorem ofLimbs_toPoint (l : List Nat) : (XY.ofLimbs l).toPoint = ptOfLimbs l := by
  unfold XY.toPoint XY.ofLimbs ptOfLimbs ptF
  simp only [Bool.false_eq_true, if_false, secp_p_eq]
  unfold Fe.z
  rw [ZMod.val_natCast, ZMod.val_natCast]

theorem precXY_ok (j i : Nat) (h : j * 16 + i < 1024) : (precXY j i).ok :=
  have hr := rowsOK_sound _ _ _ prec_ok
  hr.2.2 _ (getD_mem (by rw [hr.2.1]; exact h) _)

theorem finXY_ok : finXY.ok := by
  obtain ⟨q, hq⟩ := Option.isSome_iff_exists.1 fin_ok
  exact (entryPt_some hq).2

/-- the reference value of `ECmultGen(a)`: the table points selected by the 64 hex digits of `a`
    (row j, column digit_j), added left to right, then `fin` -/
def ecmultGenRef (a : Nat) : Secp.Point :=
  Secp.add
    ((List.range 63).foldl (fun r k => Secp.add r (ptOfLimbs (Tables.precAt ((k + 1) * 16 + (a / 16 ^ (k + 1)) % 16))))
      (ptOfLimbs (Tables.precAt (0 * 16 + a % 16))))
    (ptOfLimbs Tables.fin)

theorem ecmultGen_ref (a : Nat) : (ecmultGen a).ok ∧ (ecmultGen a).toPoint = ecmultGenRef a := by
  unfold ecmultGen ecmultGenRef
  simp only []
  have h0 := ofXY_ok (precXY 0 (a % 16)) (precXY_ok 0 (a % 16) (by omega))
  rw [show (precXY 0 (a % 16)).toPoint = _ from ofLimbs_toPoint _] at h0
  obtain ⟨hr, hp⟩ := List.foldl_rel (r := fun (r : XYZ) (Q : Secp.Point) => r.ok ∧ r.toPoint = Q) h0
    (fun k hk r Q hr => by
      have hk' : k < 63 := List.mem_range.1 hk
      have := addXY_ok r (precXY (k + 1) ((a / 16 ^ (k + 1)) % 16)) hr.1 (precXY_ok _ _ (by omega))
      rw [show (precXY (k + 1) ((a / 16 ^ (k + 1)) % 16)).toPoint = _ from ofLimbs_toPoint _, hr.2] at this
      exact this)
  have hfin := addXY_ok _ finXY hr finXY_ok
  rw [show finXY.toPoint = _ from ofLimbs_toPoint _, hp] at hfin
  exact hfin

/-- base point of row j counted from a first row base h: B_0 = h, B_{j+1} = 16·B_j (15 reference additions of B_j to itself) -/
def rbFrom : Secp.Point → Nat → Secp.Point
  | h, 0 => h
  | h, j+1 => rbFrom (addSteps h h 15) j

theorem getLastD_eq_getD {α : Type} (l : List α) (d : α) (n : Nat) (h : l.length = n + 1) :
    l.getLastD d = l.getD n d := by
  rw [List.getLastD_eq_getLast?, List.getLast?_eq_getElem?, h, Nat.add_sub_cancel, List.getD_eq_getElem?_getD]

theorem rows_pointwise : ∀ (n : Nat) (h : Secp.Point) (l : List Secp.Point), precRowsOK n h l = true →
    ∀ j i, j < n → i < 16 → l.getD (j * 16 + i) none = addSteps (rbFrom h j) (rbFrom h j) i := by
  intro n
  induction n with
  | zero => intro h l _ j i hj; omega
  | succ n ih =>
    intro h l hok j i hj hi
    unfold precRowsOK at hok
    simp only [Bool.and_eq_true, beq_iff_eq] at hok
    obtain ⟨⟨⟨hlen, hhead⟩, hchain⟩, hrec⟩ := hok
    have hhead' : (l.take 16).head? = some h := by
      cases hrow : l.take 16 with
      | nil => rw [hrow] at hlen; simp at hlen
      | cons a t => rw [hrow] at hhead; simp at hhead; simp [hhead]
    have e : ∀ k, k < 16 → (l.take 16).getD k none = l.getD k none := fun k hk => by
      simp only [List.getD_eq_getElem?_getD, List.getElem?_take, hk, if_true]
    have hrowi : ∀ k, k < 16 → l.getD k none = addSteps h h k := fun k hk =>
      (e k hk).symm.trans (chain_spec h h (l.take 16) hchain hhead' k (by omega))
    cases j with
    | zero =>
      show l.getD (0 * 16 + i) none = addSteps h h i
      rw [Nat.zero_mul, Nat.zero_add]
      exact hrowi i hi
    | succ j' =>
      have hlast : (l.take 16).getLastD none = addSteps h h 15 :=
        (getLastD_eq_getD _ _ 15 hlen).trans ((e 15 (by omega)).trans (hrowi 15 (by omega)))
      rw [hlast] at hrec
      have := ih _ _ hrec j' i (by omega) hi
      have e : l.getD ((j' + 1) * 16 + i) none = (l.drop 16).getD (j' * 16 + i) none := by
        simp only [List.getD_eq_getElem?_getD, List.getElem?_drop]
        congr 2
        omega
      exact e.trans this

/-- 16^j·G by repeated reference addition -/
def precBase (j : Nat) : Secp.Point := rbFrom Secp.G j

theorem rbFrom_succ (h : Secp.Point) (j : Nat) :
    rbFrom h (j + 1) = addSteps (rbFrom h j) (rbFrom h j) 15 := by
  induction j generalizing h with
  | zero => rfl
  | succ k ih =>
    show rbFrom (addSteps h h 15) (k + 1) = _
    rw [ih]; rfl

/-- pointwise form of the comb table: prec[j][i] = B_j + i·B_j = (i+1)·16^j·G (repeated reference addition) -/
theorem prec_pointwise' (j i : Nat) (hj : j < 64) (hi : i < 16) :
    ptOfLimbs (Tables.precAt (j * 16 + i)) = addSteps (precBase j) (precBase j) i := by
  have h := rows_pointwise 64 Secp.G (pts Tables.precAll) prec_rows j i hj hi
  rw [pts_getD _ _ (by rw [(rowsOK_sound _ _ _ prec_ok).2.1]; omega)] at h
  exact h

end GocoinV.C08
