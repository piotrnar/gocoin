/-
  Proofs.C01FindDel — gocoin's `delSig` (decode instruction by instruction, drop the instructions that are
  byte-for-byte the push of the signature) against Core's `FindAndDelete` (skip every occurrence of the pattern
  at an instruction boundary, by byte comparison), on scripts without a decode error.  On a script WITH a decode
  error the two differ (delSig drops the undecodable tail) — such a script fails as a whole in both interpreters.
-/
import GocoinV.Proofs.C01Decode
namespace GocoinV.Proofs.C01
open GocoinV GocoinV.Script

/-- what the two deletion loops need to know about the pattern `b`, for positions `pc` of length ≤ L:
    "the instruction decoded at `pc` is byte-for-byte `b`" (gocoin) ⇔ "`pc` starts with `b`" (Core) -/
structure PatOk (b : Bytes) (L : Nat) : Prop where
  ne : b ≠ []
  some : ∀ pc op, pc.length ≤ L → getOpcode pc = some op →
    ((pc.take op.n == b) = (decide (pc.length ≥ b.length) && ScriptSpec.startsWith pc b))
  none : ∀ pc, pc.length ≤ L → getOpcode pc = none → (decide (pc.length ≥ b.length) && ScriptSpec.startsWith pc b) = false

theorem skip_fuel (b : Bytes) (hne : b ≠ []) : ∀ k1 k2 X c, X.length ≤ k1 → X.length ≤ k2 →
    ScriptSpec.skipMatches b k1 X c = ScriptSpec.skipMatches b k2 X c := by
  intro k1
  induction k1 with
  | zero =>
    intro k2 X c h1 _
    cases k2 <;> simp [ScriptSpec.skipMatches, List.eq_nil_of_length_eq_zero (Nat.le_zero.1 h1), hne]
  | succ k1 ih =>
    intro k2 X c h1 h2
    cases k2 with
    | zero => simp [ScriptSpec.skipMatches, List.eq_nil_of_length_eq_zero (Nat.le_zero.1 h2), hne]
    | succ k2 =>
      simp only [ScriptSpec.skipMatches]
      by_cases hm : (decide (X.length ≥ b.length) && ScriptSpec.startsWith X b) = true
      · simp only [hm, ↓reduceIte]
        have hx : X.length ≥ b.length := by simp at hm; exact hm.1
        have hbl := List.length_pos_iff.2 hne
        apply ih <;> simp <;> omega
      · simp [hm]

theorem skip_nomatch (b : Bytes) (k : Nat) (X : Bytes) (c : Nat)
    (h : (decide (X.length ≥ b.length) && ScriptSpec.startsWith X b) = false) :
    ScriptSpec.skipMatches b k X c = (X, c) := by
  cases k with
  | zero => rfl
  | succ k => simp [ScriptSpec.skipMatches, h]

/-- induction over `delSig`'s loop on a script that decodes to its end: the script is used up, or the next instruction
    (decoded on both sides) is kept or dropped and the loop goes on behind it; `out` is what the rest of the loop returns -/
theorem delSigAux_induct (b : Bytes) {P : Nat → Bytes → Bytes → Nat → Bytes × Nat → Prop}
    (nil : ∀ f res cnt, P f [] res cnt (res, cnt))
    (keep : ∀ f pc res cnt op i out, getOpcode pc = some op → ScriptSpec.parseOne pc = some i → i.after = pc.drop op.n →
      1 ≤ op.n → op.n ≤ pc.length → (pc.take op.n != b) = true →
      P f (pc.drop op.n) (res ++ pc.take op.n) cnt out → P (f + 1) pc res cnt out)
    (drop : ∀ f pc res cnt op i out, getOpcode pc = some op → ScriptSpec.parseOne pc = some i → i.after = pc.drop op.n →
      1 ≤ op.n → op.n ≤ pc.length → (pc.take op.n != b) = false →
      P f (pc.drop op.n) res (cnt + 1) out → P (f + 1) pc res cnt out) :
    ∀ f pc res cnt, (ScriptSpec.parseAux f pc).2 = false → P f pc res cnt (delSigAux b f pc res cnt) := by
  intro f
  induction f with
  | zero =>
    intro pc res cnt hw
    cases pc with
    | nil => exact nil 0 res cnt
    | cons _ _ => simp [ScriptSpec.parseAux] at hw
  | succ f ih =>
    intro pc res cnt hw
    by_cases he : pc.isEmpty
    · rw [List.isEmpty_iff.1 he]
      exact nil (f + 1) res cnt
    · simp only [ScriptSpec.parseAux, he, Bool.false_eq_true, ↓reduceIte] at hw
      cases hgo : getOpcode pc with
      | none => simp [parseOne_none_of_getOpcode hgo] at hw
      | some op =>
        obtain ⟨i, hp, _, _, h3, _, hn1, hn2⟩ := parseOne_of_getOpcode hgo
        simp only [hp, h3] at hw
        simp only [delSigAux, he, Bool.false_eq_true, ↓reduceIte, hgo]
        by_cases hne : (pc.take op.n != b) = true
        · rw [if_pos hne]; exact keep f pc res cnt op i _ hgo hp h3 hn1 hn2 hne (ih _ _ _ hw)
        · rw [if_neg hne]; exact drop f pc res cnt op i _ hgo hp h3 hn1 hn2 (by simpa using hne) (ih _ _ _ hw)

theorem fad_loop (b : Bytes) (L : Nat) (hb : PatOk b L) :
    ∀ f pc res cnt g, pc.length ≤ L → (ScriptSpec.parseAux f pc).2 = false → pc.length + 1 ≤ g →
      ScriptSpec.findAndDeleteAux b g pc res cnt = delSigAux b f pc res cnt := by
  have hbl : b.length ≥ 1 := List.length_pos_iff.2 hb.ne
  intro f pc res cnt g hL hw hg
  obtain ⟨g, rfl⟩ : ∃ k, g = k + 1 := ⟨g - 1, by omega⟩
  refine delSigAux_induct b (P := fun _ pc res cnt out => ∀ g, pc.length ≤ L → pc.length ≤ g →
      ScriptSpec.findAndDeleteAux b (g + 1) pc res cnt = out) ?_ ?_ ?_ f pc res cnt hw g hL (by omega)
  · intro _ res cnt g _ _
    simp [ScriptSpec.findAndDeleteAux, ScriptSpec.skipMatches, ScriptSpec.parseOne]
  · intro _ pc res cnt op i out hgo hp h3 hn1 hn2 hne ih g hL hg
    have hmf : (decide (pc.length ≥ b.length) && ScriptSpec.startsWith pc b) = false := by
      rw [← hb.some pc op hL hgo]; simpa [bne] using hne
    simp only [ScriptSpec.findAndDeleteAux, skip_nomatch b _ pc cnt hmf, hp]
    have hlen : pc.length - i.after.length = op.n := by rw [h3]; simp; omega
    rw [hlen, h3]
    obtain ⟨g, rfl⟩ : ∃ k, g = k + 1 := ⟨g - 1, by omega⟩
    exact ih g (by simp; omega) (by simp; omega)
  · intro _ pc res cnt op i out hgo hp h3 hn1 hn2 hne ih g hL hg
    have hmatch : (pc.take op.n == b) = true := by simpa [bne] using hne
    have hm := hb.some pc op hL hgo
    rw [hmatch] at hm
    have hbn : op.n = b.length := by
      have := congrArg List.length (beq_iff_eq.mp hmatch)
      simp at this; omega
    rw [← ih g (by simp; omega) (by simp; omega)]
    simp only [ScriptSpec.findAndDeleteAux]
    have hpl : pc.length = (pc.length - 1) + 1 := by omega
    have hskip : ScriptSpec.skipMatches b pc.length pc cnt =
        ScriptSpec.skipMatches b (pc.drop op.n).length (pc.drop op.n) (cnt + 1) := by
      rw [hpl]
      simp only [ScriptSpec.skipMatches]
      rw [← hm]
      simp only [↓reduceIte, hbn]
      apply skip_fuel b hb.ne <;> simp <;> omega
    rw [hskip]

theorem delSig_count (b : Bytes) : ∀ f pc res cnt, (ScriptSpec.parseAux f pc).2 = false →
    cnt ≤ (delSigAux b f pc res cnt).2 ∧ ((delSigAux b f pc res cnt).2 = cnt → (delSigAux b f pc res cnt).1 = res ++ pc) := by
  refine delSigAux_induct b (P := fun _ pc res cnt out => cnt ≤ out.2 ∧ (out.2 = cnt → out.1 = res ++ pc))
    (fun _ res cnt => by simp) (fun _ pc res cnt op _ out _ _ _ _ _ _ ih => ⟨ih.1, fun h => ?_⟩)
    (fun _ pc res cnt op _ out _ _ _ _ _ _ ih => ⟨by omega, fun h => by omega⟩)
  rw [ih.2 h, List.append_assoc, List.take_append_drop]

theorem ofNat_mod256 (n : Nat) : UInt8.ofNat (n % 256) = UInt8.ofNat n := UInt8.ofNat_mod_size

theorem sigPushPrefix_eq (sig : Bytes) : sigPushPrefix sig.length ++ sig = ScriptSpec.pushEncoding sig := by
  unfold sigPushPrefix ScriptSpec.pushEncoding
  simp only
  by_cases h1 : sig.length < 0x4c
  · simp [h1]
  · by_cases h2 : sig.length ≤ 0xff
    · simp [h1, h2]
    · by_cases h3 : sig.length ≤ 0xffff
      · simp [h1, h2, h3, leBytes, ofNat_mod256, Nat.shiftRight_eq_div_pow]
      · simp [h1, h2, h3, leBytes, ofNat_mod256, Nat.shiftRight_eq_div_pow, Nat.div_div_eq_div_mul]


theorem pushEncoding_length (sig : Bytes) : sig.length < (ScriptSpec.pushEncoding sig).length := by
  unfold ScriptSpec.pushEncoding
  simp only
  split
  · simp
  · split
    · simp; omega
    · split <;> simp <;> omega

theorem getOpcode_push (sig rest : Bytes) (h : sig.length < 2 ^ 32) :
    ∃ opc, getOpcode (ScriptSpec.pushEncoding sig ++ rest) = some ⟨opc, some sig, (ScriptSpec.pushEncoding sig).length⟩ := by
  unfold ScriptSpec.pushEncoding
  simp only
  have ht : sig.length ≤ 0xff → (UInt8.ofNat sig.length).toNat = sig.length := fun _ => ofNat_toNat_small _ (by omega)
  have wide : ∀ w, sig.length < 256 ^ w → leVal (leBytes w sig.length) = sig.length ∧
      List.take w (leBytes w sig.length ++ (sig ++ rest)) = leBytes w sig.length ∧
      List.drop w (leBytes w sig.length ++ (sig ++ rest)) = sig ++ rest := fun w hw =>
    ⟨leVal_leBytes_of_lt _ _ hw, List.take_left' (leBytes_length _ _), List.drop_left' (leBytes_length _ _)⟩
  by_cases h1 : sig.length < 0x4c
  · refine ⟨sig.length, ?_⟩
    have h2 : sig.length ≤ 0x4e := by omega
    simp [h1, getOpcode, ht (by omega), h2]
    omega
  · by_cases h2 : sig.length ≤ 0xff
    · refine ⟨0x4c, ?_⟩
      simp [h1, h2, getOpcode, leVal, ht h2]
      omega
    · by_cases h3 : sig.length ≤ 0xffff
      · refine ⟨0x4d, ?_⟩
        simp only [h1, h2, h3, ↓reduceIte, List.cons_append, List.append_assoc, getOpcode]
        simp [wide 2 (by omega)]
        omega
      · refine ⟨0x4e, ?_⟩
        simp only [h1, h2, h3, ↓reduceIte, List.cons_append, List.append_assoc, getOpcode]
        simp [wide 4 (by omega)]
        omega

theorem patOk_push (sig : Bytes) (L : Nat) (hL : L < 2 ^ 32) : PatOk (ScriptSpec.pushEncoding sig) L := by
  have hlen := pushEncoding_length sig
  have key : ∀ pc, pc.length ≤ L →
      (decide (pc.length ≥ (ScriptSpec.pushEncoding sig).length) && ScriptSpec.startsWith pc (ScriptSpec.pushEncoding sig)) = true →
      ∃ opc, getOpcode pc = some ⟨opc, some sig, (ScriptSpec.pushEncoding sig).length⟩ := by
    intro pc hpl hs
    simp only [Bool.and_eq_true, decide_eq_true_eq, ScriptSpec.startsWith, beq_iff_eq] at hs
    rw [← List.take_append_drop (ScriptSpec.pushEncoding sig).length pc, hs.2]
    exact getOpcode_push sig _ (by omega)
  refine ⟨?_, ?_, ?_⟩
  · intro h; rw [h] at hlen; simp at hlen
  · intro pc op hpl hgo
    obtain ⟨i, _, _, _, _, _, hn1, hn2⟩ := parseOne_of_getOpcode hgo
    refine Bool.eq_iff_iff.2 ⟨fun hm => ?_, fun hs => ?_⟩
    · have hbl : (ScriptSpec.pushEncoding sig).length = op.n := by rw [← beq_iff_eq.mp hm]; simp; omega
      simp only [ScriptSpec.startsWith, hbl, hm]
      simp; omega
    · obtain ⟨opc, hg2⟩ := key pc hpl hs
      rw [hgo] at hg2
      cases hg2
      exact (Bool.and_eq_true _ _ ▸ hs).2
  · intro pc hpl hgo
    refine Bool.eq_false_iff.2 fun hs => ?_
    obtain ⟨opc, hg2⟩ := key pc hpl hs
    rw [hgo] at hg2
    cases hg2

/-- `delSig(code, sig)` = `FindAndDelete(code, CScript() << sig)` (new script AND number of deletions) for every
    script that decodes to its end and is shorter than 2^32 bytes -/
theorem delSig_eq (code sig : Bytes) (hw : (ScriptSpec.parse code).2 = false) (hL : code.length < 2 ^ 32) :
    delSig code sig = ScriptSpec.findAndDelete code (ScriptSpec.pushEncoding sig) := by
  unfold delSig ScriptSpec.findAndDelete
  rw [sigPushPrefix_eq]
  have hb := patOk_push sig code.length hL
  simp only [List.isEmpty_eq_false_iff.2 hb.ne, Bool.false_eq_true, ↓reduceIte]
  rw [fad_loop _ _ hb code.length code [] 0 (code.length + 1) (Nat.le_refl _) hw (Nat.le_refl _)]
  have hc := delSig_count (ScriptSpec.pushEncoding sig) code.length code [] 0 hw
  generalize delSigAux (ScriptSpec.pushEncoding sig) code.length code [] 0 = rr at hc
  obtain ⟨r, n⟩ := rr
  simp only at hc ⊢
  by_cases hn : n > 0
  · simp [hn]
  · have : n = 0 := by omega
    subst this
    have := hc.2 rfl
    simp at this
    simp [this]

end GocoinV.Proofs.C01
