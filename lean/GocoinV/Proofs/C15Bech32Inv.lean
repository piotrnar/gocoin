/-
  Proofs.C15Bech32Inv — the decode → encode direction of Bech32 (lib/others/bech32/bech32.go): whatever `Decode` accepts,
  `Encode` of the decoded (hrp, data, variant) reproduces, lower-cased; and `Decode` refuses mixed case. `decode_some`
  reads `Decode`'s guards once, with the loops in closed form; the last six symbols are the checksum symbols of the
  number they spell, which the converse of the checksum lemma (`checksum_unique`) identifies as the encoder's.
-/
import GocoinV.Proofs.C15Bech32Loops
import GocoinV.Proofs.C15Conv
import GocoinV.Proofs.C15Base58
namespace GocoinV.Bech32
open GocoinV.Addr (asciiLower)

theorem group_eq (P : UInt32) (j : Nat) (hj : j ≤ 5) (v : UInt8) (h : (P.toNat / 2 ^ (5 * j)) % 2 ^ 5 = v.toNat) :
    ((P >>> UInt32.ofNat (5 * j)) &&& 31).toUInt8 = v := by
  apply UInt8.toNat_inj.1
  rw [sym_toNat P 31 P.toNat (5 * j) 5 (Nat.mod_eq_of_lt P.toNat_lt).symm (by decide) (by omega) (by omega) (by omega)]
  exact h

theorem len6 (l : Bytes) (h : l.length = 6) : ∃ a b c d e f, l = [a, b, c, d, e, f] := by
  match l, h with
  | [a, b, c, d, e, f], _ => exact ⟨a, b, c, d, e, f, rfl⟩

theorem syms_of_six (w : Bytes) (hl : w.length = 6) (h31 : ∀ x ∈ w, x.toNat ≤ 31) :
    ∃ P, hi30 P ∧ checksumSyms P = w := by
  obtain ⟨v1, v2, v3, v4, v5, v6, rfl⟩ := len6 w hl
  have hlt : ∀ x ∈ [v6, v5, v4, v3, v2, v1], x.toNat < 2 ^ 5 := fun x hx =>
    Nat.lt_succ_of_le (h31 x (by simpa [or_comm, or_left_comm] using hx))
  have hV := Vr_lt 5 _ hlt
  have hN : (UInt32.ofNat (Vr 5 [v6, v5, v4, v3, v2, v1])).toNat = Vr 5 [v6, v5, v4, v3, v2, v1] := by
    rw [UInt32.toNat_ofNat']; exact Nat.mod_eq_of_lt (by simp at hV; omega)
  refine ⟨UInt32.ofNat (Vr 5 [v6, v5, v4, v3, v2, v1]), by unfold hi30; rw [hN]; simpa using hV, ?_⟩
  have hd := fun j => hN ▸ Vr_digit 5 _ hlt j
  rw [checksumSyms_eq, group_eq _ 5 (by omega) v1 (hd 5), group_eq _ 4 (by omega) v2 (hd 4),
    group_eq _ 3 (by omega) v3 (hd 3), group_eq _ 2 (by omega) v4 (hd 2), group_eq _ 1 (by omega) v5 (hd 1),
    group_eq _ 0 (by omega) v6 (hd 0)]

theorem split_at_sep (s : Bytes) (h : dataLenOf s + 1 ≤ s.length) :
    ∃ H T, s = H ++ [49] ++ T ∧ T.length = dataLenOf s := by
  have e := List.takeWhile_append_dropWhile (p := (· ≠ 49)) (l := s.reverse)
  generalize hd : s.reverse.dropWhile (· ≠ 49) = D at e
  cases D with
  | nil =>
    have := congrArg List.length e
    simp only [List.append_nil, List.length_reverse] at this
    unfold dataLenOf at h; omega
  | cons x r =>
    obtain rfl : x = 49 := by simpa using Base58.dropWhile_head_false _ _ _ _ hd
    refine ⟨r.reverse, (s.reverse.takeWhile (· ≠ 49)).reverse, ?_, by simp [dataLenOf]⟩
    have := congrArg List.reverse e
    simp only [List.reverse_append, List.reverse_cons, List.reverse_reverse] at this
    exact this.symm

/-- what `Decode` accepts, read off its guards: hrp ‖ '1' ‖ tail, the characters pass both loops, not both cases,
    and the fold of the tail's symbols from the state of the lower-cased hrp is the constant of the variant returned -/
theorem decode_some {s : Bytes} {r : Bytes × Bytes × Bool} (h : decode s = some r) :
    ∃ H T, s = H ++ [49] ++ T ∧ T.length = dataLenOf s ∧ 8 ≤ s.length ∧ s.length ≤ 90 ∧ 6 ≤ T.length ∧
      1 ≤ H.length ∧ (∀ c ∈ H, 33 ≤ c.toNat ∧ c.toNat ≤ 126) ∧
      (∀ c ∈ T, c &&& 0x80 = 0 ∧ (charsetRev c).toNat ≤ 31) ∧
      ((H.any isLower || T.any isLower) && (H.any isUpper || T.any isUpper)) = false ∧
      pf (hrpState (H.map asciiLower)) (T.map charsetRev) = finalConstant r.2.2 ∧ r.1 = H.map asciiLower ∧
      r.2.1 = (T.map charsetRev).take (T.length - 6) := by
  unfold decode at h
  dsimp only at h
  by_cases c1 : s.length < 8 ∨ s.length > 90
  · rw [if_pos c1] at h; cases h
  rw [if_neg c1] at h
  by_cases c2 : s.length < 1 + dataLenOf s + 1 ∨ dataLenOf s < 6
  · rw [if_pos c2] at h; cases h
  rw [if_neg c2] at h
  obtain ⟨H, T, hs, hT⟩ := split_at_sep s (by omega)
  generalize dataLenOf s = L at *
  subst hT
  obtain ⟨hslen, htk, hdr⟩ := sep_parts hs
  rw [show s.length - (1 + T.length) = H.length by omega, htk, hdr, decHrp?_eq] at h
  by_cases hH : ∀ c ∈ H, 33 ≤ c.toNat ∧ c.toNat ≤ 126
  · rw [if_pos hH] at h
    dsimp only at h
    rw [decData?_eq] at h
    by_cases hTg : ∀ c ∈ T, c &&& 0x80 = 0 ∧ (charsetRev c).toNat ≤ 31
    · rw [if_pos hTg] at h
      simp only [List.nil_append, Bool.false_or, hrpLow_eq, List.map_map, Function.comp_def] at h
      by_cases c3 : ((H.any isLower || T.any isLower) && (H.any isUpper || T.any isUpper)) = true
      · rw [if_pos c3] at h; cases h
      rw [if_neg c3] at h
      refine ⟨H, T, hs, rfl, by omega, by omega, by omega, by omega, hH, hTg, by simpa using c3, ?_⟩
      simp only [hrpState, List.map_map, Function.comp_def, low5_lower]
      split at h
      · rename_i c4; cases h; exact ⟨c4, rfl, rfl⟩
      split at h
      · rename_i c5; cases h; exact ⟨c5, rfl, rfl⟩
      cases h
    · rw [if_neg hTg] at h; cases h
  · rw [if_neg hH] at h; cases h

theorem decode_not_mixed (s : Bytes) (r : Bytes × Bytes × Bool) (h : decode s = some r) :
    ¬ (s.any isLower = true ∧ s.any isUpper = true) := by
  obtain ⟨H, T, hs, _, _, _, _, _, _, _, hmix, _⟩ := decode_some h
  intro hc
  rw [hs] at hc
  have e1 : isLower 49 = false := by decide
  have e2 : isUpper 49 = false := by decide
  simp only [List.any_append, List.any_cons, List.any_nil, e1, e2, Bool.or_false] at hc
  simp [hc.1, hc.2] at hmix

theorem encode_decode (s hrp data : Bytes) (m : Bool) (h : decode s = some (hrp, data, m)) :
    encode hrp data m = some (s.map asciiLower) := by
  obtain ⟨H, T, hs, _, _, hs90, h6, h1, hH, hTg, _, hchk, hhrp, hdata⟩ := decode_some h
  dsimp only at hchk hhrp hdata
  subst hhrp hdata
  have hv31 : ∀ x ∈ T.map charsetRev, x.toNat ≤ 31 := List.forall_mem_map.mpr fun c hc => (hTg c hc).2
  have hTlow : T.map asciiLower = (T.map charsetRev).map charsetAt := by
    rw [List.map_map]
    exact (List.map_congr_left fun c hc => (rev_at c (hTg c hc).1 (Nat.not_lt_of_le (hTg c hc).2)).1).symm
  have hsplit := (List.take_append_drop (T.length - 6) (T.map charsetRev)).symm
  obtain ⟨P, hP, hsyms⟩ := syms_of_six ((T.map charsetRev).drop (T.length - 6)) (by simp; omega)
    fun x hx => hv31 x (List.mem_of_mem_drop hx)
  rw [← hsyms] at hsplit
  rw [hsplit, pf_append] at hchk
  rw [encode_eq, if_pos, ← checksum_unique _ _ _ hP hchk, ← hsplit, ← hTlow, hs]
  · simp [lower_sep]
  · refine ⟨?_, ?_, ?_, ?_⟩
    · exact List.ne_nil_of_length_pos (by rw [List.length_map]; exact h1)
    · refine List.forall_mem_map.mpr fun x hx => ?_
      have := range_lower x (by have := hH x hx; omega)
      exact ⟨by omega, by omega, notUpper_lower x⟩
    · intro x hx; exact hv31 x (List.mem_of_mem_take hx)
    · have := (sep_parts hs).1
      simp; omega

end GocoinV.Bech32
