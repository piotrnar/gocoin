/-
  Proofs.C08_Wnaf — `ecmult_wnaf` (Model.Group.wnafAux / wnaf): for every window w ≥ 2 and every integer a with
  |a| ≤ 2^L (L < 400) the digit list represents a (Σ dᵢ·2^i = a), every digit is 0 or odd with |d| < 2^(w−1),
  and the list has at most L+1 entries — so for |a| ≤ 2^128 the fixed 129-slot array is never overrun.
-/
import GocoinV.Model.Group
import Mathlib.Logic.Function.Iterate
import Mathlib.Tactic.Ring
import Mathlib.Tactic.Linarith
import Mathlib.Tactic.Positivity

namespace GocoinV.C08

/-- Σ dᵢ·2^i, least significant digit first -/
def valD : List Int → Int
  | [] => 0
  | d :: r => d + 2 * valD r

theorem valD_append (l m : List Int) : valD (l ++ m) = valD l + 2 ^ l.length * valD m := by
  induction l with
  | nil => simp [valD]
  | cons d t ih => simp only [List.cons_append, valD, ih, List.length_cons, pow_succ]; ring

theorem valD_replicate (k : Nat) : valD (List.replicate k 0) = 0 := by
  induction k with
  | zero => rfl
  | succ n ih => simp [List.replicate_succ, valD, ih]

/-- a wNAF digit: zero, or odd and strictly inside (−2^(w−1), 2^(w−1)) -/
def Dig (w : Nat) (d : Int) : Prop := d = 0 ∨ (d % 2 = 1 ∧ -(2 : Int) ^ (w - 1) < d ∧ d < 2 ^ (w - 1))

/-- one round of the zero-stripping loop (`for X.is_even { zeroes++; X.rsh(1) }`) with a done flag -/
def stripStep (s : Int × Nat × Bool) : Int × Nat × Bool :=
  if s.2.2 then s else if s.1 % 2 = 0 then (s.1 >>> 1, s.2.1 + 1, false) else (s.1, s.2.1, true)

theorem shr1 (x : Int) : x >>> 1 = x / 2 := by
  rw [Int.shiftRight_eq_div_pow]; rfl

theorem pow_pos_int (n : Nat) : (0 : Int) < 2 ^ n := by positivity

/-- 2^600: the zero-stripping loop of the model looks at no more than 600 bits -/
def Q600 : Int := 2 ^ 600

/-- n rounds of the stripping loop finish on a non-zero number below 2^n in absolute value -/
theorem strip_iter : ∀ (n : Nat) (x : Int) (z : Nat), x ≠ 0 → -(2 : Int) ^ n < x → x < 2 ^ n →
    ∃ k x', stripStep^[n] (x, z, false) = (x', z + k, true) ∧ x = x' * 2 ^ k ∧ x' % 2 = 1 := by
  intro n
  induction n with
  | zero => intro x z h0 h1 h2; omega
  | succ m ih =>
    intro x z h0 h1 h2
    rw [Function.iterate_succ_apply]
    rw [pow_succ] at h1 h2
    by_cases he : x % 2 = 0
    · obtain ⟨k, x', hk, hx, ho⟩ := ih (x / 2) (z + 1) (by omega) (by omega) (by omega)
      refine ⟨k + 1, x', ?_, by rw [pow_succ, ← mul_assoc, ← hx]; omega, ho⟩
      simp only [stripStep, Bool.false_eq_true, if_false, he, if_true, shr1, hk, Nat.add_assoc, Nat.add_comm 1 k]
    · refine ⟨0, x, ?_, by simp, by omega⟩
      simp only [stripStep, Bool.false_eq_true, if_false, he]
      exact Function.iterate_fixed rfl m

theorem strip_spec (x : Int) (z : Nat) (hx0 : x ≠ 0) (hlo : -Q600 < x) (hhi : x < Q600) :
    ∃ k x', (List.range 600).foldl (fun (s : Int × Nat × Bool) (_ : Nat) =>
        if s.2.2 then s else if s.1 % 2 = 0 then (s.1 >>> 1, s.2.1 + 1, false) else (s.1, s.2.1, true)) (x, z, false)
        = (x', z + k, true) ∧ x = x' * 2 ^ k ∧ x' % 2 = 1 :=
  (List.foldl_const stripStep (x, z, false) (List.range 600)).trans (by rw [List.length_range]) ▸
    strip_iter 600 x z hx0 hlo hhi

/-! ### arithmetic of one emitted digit -/

/-- the digit chosen from the odd x': x' = 2M·xnew + d with d odd, −M < d < M (M = 2^(w−1) ≥ 2) -/
theorem digit_choice (x' M : Int) (hM : 2 ≤ M) (hMe : M % 2 = 0) (hodd : x' % 2 = 1) :
    let word := x' % (2 * M)
    (word / M % 2 ≠ 0 → x' = 2 * M * (x' / (2 * M) + 1) + (word - 2 * M) ∧ (word - 2 * M) % 2 = 1 ∧
        -M < word - 2 * M ∧ word - 2 * M < M) ∧
    (¬ word / M % 2 ≠ 0 → x' = 2 * M * (x' / (2 * M)) + word ∧ word % 2 = 1 ∧ -M < word ∧ word < M) := by
  intro word
  have h2M : (0 : Int) < 2 * M := by omega
  have hw0 : 0 ≤ word := Int.emod_nonneg _ (by omega)
  have hw1 : word < 2 * M := Int.emod_lt_of_pos _ h2M
  have hdiv : 2 * M * (x' / (2 * M)) + word = x' := Int.mul_ediv_add_emod x' (2 * M)
  have hwodd : word % 2 = 1 := by
    have : (x' % (2 * M)) % 2 = x' % 2 := Int.emod_emod_of_dvd x' ⟨M, rfl⟩
    rw [← hodd, ← this]
  by_cases hlt : word < M
  · have hq : word / M = 0 := Int.ediv_eq_zero_of_lt hw0 hlt
    refine ⟨fun h => absurd (by rw [hq]; rfl) h, fun _ => ⟨hdiv.symm, hwodd, by omega, hlt⟩⟩
  · have hq : word / M = 1 ∧ word % M = word - M :=
      (Int.ediv_emod_unique (by omega : (0 : Int) < M)).2 ⟨by ring, by omega, by omega⟩
    refine ⟨fun _ => ⟨by linarith [hdiv], by omega, by omega, by omega⟩,
      fun h => absurd (by rw [hq.1]; decide) h⟩

/-- invariant (B): 2·|value so far| < 2^(position of the next digit) -/
theorem B_step (v d T M : Int) (hT : 0 < T) (hv1 : -T < 2 * v) (hv2 : 2 * v < T) (hd1 : -M < d) (hd2 : d < M) :
    -(T * (2 * M)) < 2 * (v + T * d) ∧ 2 * (v + T * d) < T * (2 * M) := by
  have h1 : T * d ≤ T * (M - 1) := mul_le_mul_of_nonneg_left (by omega) hT.le
  have h2 : T * (-(M - 1)) ≤ T * d := mul_le_mul_of_nonneg_left (by omega) hT.le
  constructor <;> linarith

theorem two_pow_even (n : Nat) (h : 1 ≤ n) : (2 : Int) ^ n % 2 = 0 := by
  obtain ⟨m, rfl⟩ : ∃ m, n = m + 1 := ⟨n - 1, by omega⟩
  rw [pow_succ]; omega

theorem two_le_pow (n : Nat) (h : 1 ≤ n) : (2 : Int) ≤ 2 ^ n := by
  obtain ⟨m, rfl⟩ : ∃ m, n = m + 1 := ⟨n - 1, by omega⟩
  have := pow_pos_int m
  rw [pow_succ]; omega

/-- where the loop stands: value so far v with 2·|v| < T, rest x at position T, |a| ≤ A ⟹ |x| ≤ A, and T < 2·A
    unless x = 0 -/
theorem pos_bound (a v x T A : Int) (hT : 0 < T) (hA : v + x * T = a) (hv1 : -T < 2 * v) (hv2 : 2 * v < T)
    (ha1 : -A ≤ a) (ha2 : a ≤ A) : -A ≤ x ∧ x ≤ A ∧ (x ≠ 0 → T < 2 * A) := by
  rcases lt_trichotomy x 0 with h0 | h0 | h0
  · have : (x + 1) * T ≤ (x + 1) * 1 := mul_le_mul_of_nonpos_left (by omega) (by omega)
    refine ⟨by linarith, by linarith, fun _ => by linarith⟩
  · subst h0; exact ⟨by linarith, by linarith, fun h => absurd rfl h⟩
  · have : (x - 1) * 1 ≤ (x - 1) * T := mul_le_mul_of_nonneg_left (by omega) (by omega)
    refine ⟨by linarith, by linarith, fun _ => by linarith⟩


theorem exp_lt {p L : Nat} (h : (2 : Int) ^ p < 2 * 2 ^ L) : p ≤ L := by
  rw [← pow_succ'] at h
  have := (pow_lt_pow_iff_right₀ (by norm_num : (1 : Int) < 2)).1 h
  omega

/-- the loop invariant of `ecmult_wnaf`, by induction on the fuel: the digits so far are worth less than half the
    next position, so the next position is at most L while anything is left, and each round advances it by ≥ w -/
theorem wnafAux_spec (w : Nat) (hw : 2 ≤ w) (a : Int) (L : Nat) (hL : L < 600) (ha1 : -(2 : Int) ^ L ≤ a)
    (ha2 : a ≤ 2 ^ L) :
    ∀ (fuel : Nat) (x : Int) (zeroes : Nat) (acc : List Int),
      valD acc + x * 2 ^ (acc.length + zeroes) = a →
      -(2 : Int) ^ (acc.length + zeroes) < 2 * valD acc → 2 * valD acc < 2 ^ (acc.length + zeroes) →
      (∀ d ∈ acc, Dig w d) → L < acc.length + zeroes + fuel → acc.length ≤ L + 1 →
      valD (wnafAux w fuel x zeroes acc) = a ∧ (∀ d ∈ wnafAux w fuel x zeroes acc, Dig w d) ∧
        (wnafAux w fuel x zeroes acc).length ≤ L + 1 := by
  intro fuel
  induction fuel with
  | zero =>
    intro x zeroes acc hA hB1 hB2 hD hF hlen
    have hx : x = 0 := by
      by_contra hx
      have := exp_lt ((pos_bound a _ x _ _ (pow_pos_int _) hA hB1 hB2 ha1 ha2).2.2 hx)
      omega
    unfold wnafAux
    subst hx
    rw [zero_mul, add_zero] at hA
    exact ⟨hA, hD, hlen⟩
  | succ f ih =>
    intro x zeroes acc hA hB1 hB2 hD hF hlen
    unfold wnafAux
    by_cases hx0 : x = 0
    · simp only [hx0, if_true]
      subst hx0
      rw [zero_mul, add_zero] at hA
      exact ⟨hA, hD, hlen⟩
    · simp only [hx0, if_false]
      obtain ⟨hy1, hy2, -⟩ := pos_bound a _ x _ _ (pow_pos_int _) hA hB1 hB2 ha1 ha2
      have h600 : (2 : Int) ^ L < Q600 := pow_lt_pow_right₀ (by norm_num) hL
      obtain ⟨k, x', hstrip, hxk, hodd⟩ := strip_spec x zeroes hx0 (by linarith only [hy1, h600]) (by linarith only [hy2, h600])
      rw [hstrip]
      simp only []
      have hMw : (2 : Int) ^ w = 2 * 2 ^ (w - 1) := (mul_pow_sub_one (by omega) 2).symm
      have hM2 := two_le_pow (w - 1) (by omega)
      have hMe := two_pow_even (w - 1) (by omega)
      have hsh : x' >>> w = x' / (2 * 2 ^ (w - 1)) := by
        rw [Int.shiftRight_eq_div_pow, Nat.cast_pow, Nat.cast_ofNat, hMw]
      rw [hsh, hMw]
      have hdc := digit_choice x' (2 ^ (w - 1)) hM2 hMe hodd
      simp only [] at hdc
      -- the padded accumulator
      have hT := pow_pos_int (acc.length + zeroes + k)
      have hlen' : (acc ++ List.replicate (zeroes + k) 0).length = acc.length + zeroes + k := by
        simp [Nat.add_assoc]
      have hval' : valD (acc ++ List.replicate (zeroes + k) 0) = valD acc := by
        rw [valD_append, valD_replicate, mul_zero, add_zero]
      have hA' : valD acc + x' * 2 ^ (acc.length + zeroes + k) = a := by
        rw [← hA, hxk, pow_add]; ring
      have hTle : (2 : Int) ^ (acc.length + zeroes) ≤ 2 ^ (acc.length + zeroes + k) :=
        pow_le_pow_right₀ (by norm_num) (Nat.le_add_right _ _)
      have hx'0 : x' ≠ 0 := by rintro rfl; simp at hodd
      have hposL : acc.length + zeroes + k ≤ L :=
        exp_lt ((pos_bound a _ x' _ _ hT hA' (by linarith only [hB1, hTle]) (by linarith only [hB2, hTle]) ha1 ha2).2.2 hx'0)
      have hDpad : ∀ d ∈ acc ++ List.replicate (zeroes + k) 0, Dig w d :=
        List.forall_mem_append.2 ⟨hD, fun d h => Or.inl (List.eq_of_mem_replicate h)⟩
      -- both branches share the same continuation argument
      have cont : ∀ (xnew d : Int), x' = 2 * 2 ^ (w - 1) * xnew + d → d % 2 = 1 → -(2 : Int) ^ (w - 1) < d →
          d < 2 ^ (w - 1) →
          valD (wnafAux w f xnew (w - 1) (acc ++ List.replicate (zeroes + k) 0 ++ [d])) = a ∧
          (∀ e ∈ wnafAux w f xnew (w - 1) (acc ++ List.replicate (zeroes + k) 0 ++ [d]), Dig w e) ∧
          (wnafAux w f xnew (w - 1) (acc ++ List.replicate (zeroes + k) 0 ++ [d])).length ≤ L + 1 := by
        intro xnew d hxd hdo hd1 hd2
        have hlen2 : (acc ++ List.replicate (zeroes + k) 0 ++ [d]).length + (w - 1) = acc.length + zeroes + k + w := by
          rw [List.length_append, hlen']; simp; omega
        have hval2 : valD (acc ++ List.replicate (zeroes + k) 0 ++ [d]) = valD acc + 2 ^ (acc.length + zeroes + k) * d := by
          rw [valD_append, hval', hlen']; simp [valD]
        have hpw : (2 : Int) ^ (acc.length + zeroes + k + w) = 2 ^ (acc.length + zeroes + k) * (2 * 2 ^ (w - 1)) := by
          rw [pow_add, hMw]
        obtain ⟨hb1, hb2⟩ := B_step (valD acc) d (2 ^ (acc.length + zeroes + k)) (2 ^ (w - 1)) hT
          (by linarith only [hB1, hTle]) (by linarith only [hB2, hTle]) hd1 hd2
        apply ih xnew (w - 1) (acc ++ List.replicate (zeroes + k) 0 ++ [d])
        · rw [hlen2, hval2, hpw, ← hA', hxd]; ring
        · rw [hlen2, hval2, hpw]; exact hb1
        · rw [hlen2, hval2, hpw]; exact hb2
        · exact List.forall_mem_append.2 ⟨hDpad, List.forall_mem_singleton.2 (Or.inr ⟨hdo, hd1, hd2⟩)⟩
        · rw [hlen2]; omega
        · rw [List.length_append, hlen']; simp; omega
      split
      · rename_i hc
        obtain ⟨e1, e2, e3, e4⟩ := hdc.1 hc
        exact cont _ _ e1 e2 e3 e4
      · rename_i hc
        obtain ⟨e1, e2, e3, e4⟩ := hdc.2 hc
        exact cont _ _ e1 e2 e3 e4

theorem wnafAux_run (a : Int) (w : Nat) (hw : 2 ≤ w) (L : Nat) (hL : L < 400) (ha1 : -(2 : Int) ^ L ≤ a)
    (ha2 : a ≤ 2 ^ L) :
    valD (wnafAux w 400 a 0 []) = a ∧ (∀ d ∈ wnafAux w 400 a 0 [], Dig w d) ∧ (wnafAux w 400 a 0 []).length ≤ L + 1 := by
  apply wnafAux_spec w hw a L (by omega) ha1 ha2 400 a 0 []
  · simp [valD]
  · simp [valD]
  · simp [valD]
  · intro d hd; simp at hd
  · simpa using hL
  · simp

/-- `ecmult_wnaf` as called by `ECmult` (numbers of at most 128 bits, either sign): never overruns the 129-slot
    array, and the digits represent the number -/
theorem wnaf_ok (a : Int) (w : Nat) (hw : 2 ≤ w) (ha1 : -(2 : Int) ^ 128 ≤ a) (ha2 : a ≤ 2 ^ 128) :
    ∃ ds, wnaf a w = some ds ∧ valD ds = a ∧ (∀ d ∈ ds, Dig w d) ∧ ds.length ≤ 129 := by
  obtain ⟨h1, h2, h3⟩ := wnafAux_run a w hw 128 (by decide) ha1 ha2
  refine ⟨wnafAux w 400 a 0 [], ?_, h1, h2, h3⟩
  unfold wnaf
  simp only [h3, if_true]
end GocoinV.C08
