/-
  Proofs.C15StrB58 — the digit loop of `Decodeb58` (lib/btc/addr.go) over the CODE POINTS of the typed string
  (Model/Base58Str.lean) computes the bytewise model `Base58.value?`: every alphabet character is ASCII, so a byte ≥ 0x80
  is refused; the first byte of a code point of width > 1, and of an invalid sequence, is ≥ 0x80 and so is the code
  point; hence looking up the byte `s[i]` at the positions `range` yields (lookup 0), or the code point itself
  (lookup 2), gives the same value, and `decodeGo` is `Base58.decode`.
-/
import GocoinV.Model.Base58Str
import GocoinV.Proofs.C15Base58Inv
namespace GocoinV.Base58Str
open GocoinV.Base58 Gen.Base58Consts

theorem digitChar_ascii_tab : ∀ d : Fin 58, (digitChar d.val).toNat < 128 := by decide +kernel

theorem chr2int_hi (c : UInt8) (h : 128 ≤ c.toNat) : chr2int c = none := by
  cases hc : chr2int c with
  | none => rfl
  | some d =>
    obtain ⟨hd, rfl⟩ := chr2int_inv c d hc
    exact absurd (digitChar_ascii_tab ⟨d, hd⟩) (Nat.not_lt.mpr h)

theorem value?_hi (s : Bytes) : ∀ acc, (∃ c ∈ s, 128 ≤ c.toNat) → value? s acc = none := by
  intro acc ⟨c, hc, h⟩
  cases hv : value? s acc with
  | none => rfl
  | some v =>
    obtain ⟨ds, hlt, rfl⟩ := value?_digits s acc v hv
    obtain ⟨d, hd, rfl⟩ := List.mem_map.mp hc
    exact absurd (digitChar_ascii_tab ⟨d, hlt d hd⟩) (Nat.not_lt.mpr h)

theorem decode_hi (s : Bytes) (h : ∃ c ∈ s, 128 ≤ c.toNat) : decode s = none := by
  simp only [decode, value?_hi s 0 h]

theorem decodeRune_ascii (c : UInt8) (t : Bytes) (h : c.toNat < 128) : decodeRune (c :: t) = (c.toNat, 1) := by
  simp only [decodeRune]
  rw [if_pos h]

/-- the code point that starts with a byte ≥ 0x80 is ≥ 0x80 (U+FFFD for an invalid sequence) -/
theorem decodeRune_hi (c : UInt8) (t : Bytes) (h : 128 ≤ c.toNat) : 128 ≤ (decodeRune (c :: t)).1 := by
  simp only [decodeRune]
  rw [if_neg (by omega)]
  repeat' split
  all_goals (simp only; omega)

theorem lookupOf_ascii (lookup : Nat) (hl : lookup = 0 ∨ lookup = 2) (c : UInt8) (h : c.toNat < 128) :
    lookupOf lookup c c.toNat = chr2int c := by
  unfold lookupOf
  rcases hl with h0 | h2
  · rw [if_pos h0]
  · rw [if_neg (by omega), if_pos h2, if_pos (by omega)]
    simp

theorem lookupOf_hi (lookup : Nat) (hl : lookup = 0 ∨ lookup = 2) (c : UInt8) (r : Nat) (h : 128 ≤ c.toNat)
    (hr : 128 ≤ r) : lookupOf lookup c r = none := by
  unfold lookupOf
  rcases hl with h0 | h2
  · rw [if_pos h0]; exact chr2int_hi c h
  · rw [if_neg (by omega), if_pos h2]
    split
    · apply chr2int_hi
      rw [UInt8.toNat_ofNat']
      omega
    · rfl

/-- looking up the byte (0) or the code point at full width (2) at the code-point positions = the bytewise loop -/
theorem valueR_eq (lookup : Nat) (hl : lookup = 0 ∨ lookup = 2) (s : Bytes) : ∀ acc, valueR lookup s 0 acc = value? s acc := by
  induction s with
  | nil => intro _; rfl
  | cons c t ih =>
    intro acc
    simp only [valueR, value?]
    rcases Nat.lt_or_ge c.toNat 128 with h | h'
    · rw [decodeRune_ascii c t h]
      simp only [lookupOf_ascii lookup hl c h]
      cases chr2int c with
      | none => rfl
      | some v => exact ih _
    · rw [lookupOf_hi lookup hl c _ h' (decodeRune_hi c t h'), chr2int_hi c h']

theorem decodeGo_eq (ranges : Bool) (lookup : Nat) (hl : lookup = 0 ∨ lookup = 2) (s : Bytes) :
    decodeGo ranges lookup s = decode s := by
  have hv : valueGo ranges lookup s = value? s 0 := by
    unfold valueGo
    cases ranges
    · rfl
    · simp only [if_true]; exact valueR_eq lookup hl s 0
  unfold decodeGo decode
  rw [hv]
  cases value? s 0 <;> rfl

end GocoinV.Base58Str
