/-
  Proofs.C19Chunk — why the 1 MiB bound on the index snapshot is needed: the bytes of a snapshot cut at a buffer boundary
  can be a complete snapshot of fewer records (`snapBytes_take`), and when the snapshot is larger than the bufio buffer
  the first Write of writedatfile that reaches the file carries exactly such a cut (model level; the observation in
  Props/C19).
-/
import GocoinV.Proofs.C19CrashDefrag
namespace GocoinV.Proofs.C19
open GocoinV GocoinV.Qdb

theorem le32_ffff (ver : Nat) : le32 (ver * 2^32 + 0xFFFFFFFF) = ffff := by
  simp only [le32, leBytes, Nat.div_div_eq_div_mul, ffff]
  have h0 : (ver * 2^32 + 0xFFFFFFFF) % 256 = 255 := by omega
  have h1 : (ver * 2^32 + 0xFFFFFFFF) / 256 % 256 = 255 := by omega
  have h2 : (ver * 2^32 + 0xFFFFFFFF) / (256 * 256) % 256 = 255 := by omega
  have h3 : (ver * 2^32 + 0xFFFFFFFF) / (256 * 256 * 256) % 256 = 255 := by omega
  rw [h0, h1, h2, h3]
  rfl

theorem le64_trailer (ver : Nat) : le64 (ver * 2^32 + 0xFFFFFFFF) = ffff ++ le32 ver := by
  have hs : ∀ n, le64 n = le32 n ++ le32 (n / 2^32) := fun n => by
    simp only [le64, le32, leBytes, Nat.div_div_eq_div_mul, List.cons_append, List.nil_append]
  rw [hs, le32_ffff]
  congr 2
  omega

theorem le32_fini : le32 0x494E4946 = fini := by decide

/-- a snapshot cut 12 bytes into a record whose key is (version << 32) | 0xFFFFFFFF and whose datpos spells "FINI"
    IS the complete snapshot of the records before it -/
theorem snapBytes_take (ver : Nat) (pre post : List (Key × Rec)) (r : Rec) (hp : r.pos = 0x494E4946) :
    (snapBytes ver (pre ++ (ver * 2^32 + 0xFFFFFFFF, r) :: post)).take (16 + 24 * pre.length) = snapBytes ver pre := by
  have e : snapBytes ver (pre ++ (ver * 2^32 + 0xFFFFFFFF, r) :: post) =
      snapBytes ver pre ++ (le32 r.len ++ le32 r.seq ++ le32 r.flags ++ (snapBody post ++ (ffff ++ (le32 ver ++ fini)))) := by
    simp only [snapBytes, snapBody, List.flatMap_append, List.flatMap_cons, encRec, le64_trailer, hp, le32_fini,
      List.append_assoc]
  rw [e, ← snapBytes_length ver pre]
  exact List.take_left' rfl

/-- small writes that overflow a non-empty bufio buffer: the first Write that reaches the file carries exactly the first
    `bufSize` bytes of the stream -/
theorem bufWriteAll_first_flush (sink : DB → Bytes → DB) (ps1 : List Bytes) (p : Bytes) (ps2 : List Bytes) (d : DB)
    (h1 : ps1.flatten.length ≤ bufSize) (hne : ps1.flatten ≠ []) (h2 : bufSize < ps1.flatten.length + p.length)
    (h3 : p.length - (bufSize - ps1.flatten.length) ≤ bufSize) :
    bufWriteAll sink d {} (ps1 ++ p :: ps2) =
      bufWriteAll sink (sink d ((ps1.flatten ++ p).take bufSize)) { buf := p.drop (bufSize - ps1.flatten.length) } ps2 := by
  have hs := bufWriteAll_small sink ps1 d {} (by simpa using h1)
  unfold bufWriteAll at hs ⊢
  rw [List.foldl_append, hs, List.foldl_cons]
  have hstep : bufWrite sink d { buf := ([] : Bytes) ++ ps1.flatten } p =
      (sink d ((ps1.flatten ++ p).take bufSize), { buf := p.drop (bufSize - ps1.flatten.length) }) := by
    unfold bufWrite
    simp only [List.nil_append]
    rw [if_neg (by omega)]
    simp only [List.isEmpty_iff, hne, ↓reduceIte]
    rw [if_neg (by rw [List.length_drop]; omega)]
    rw [List.take_append, List.take_of_length_le h1]
  rw [hstep]

theorem idxSink_emitsT (i : Nat) : SinkEmits (fun _ => True) (idxSink i) :=
  fun d _ => emits_emit d _ _ trivial

theorem writedatfile_tail_effs (i j : Nat) (S : DB) (w : BufW) (ps : List Bytes) (X : List (String × Effect))
    (hS : S.effs = X) :
    ∃ rest, (emit (emit { bufFlush (idxSink i) (bufWriteAll (idxSink i) S w ps).1 (bufWriteAll (idxSink i) S w ps).2 with
        logOpen := false } "qdb.writedatfile:log-removed" .removeLog) "qdb.writedatfile:old-removed" (.removeIdx j)).effs =
      X ++ rest := by
  have hE : Emits (fun _ => True) (emit (emit { bufFlush (idxSink i) (bufWriteAll (idxSink i) S w ps).1
      (bufWriteAll (idxSink i) S w ps).2 with logOpen := false } "qdb.writedatfile:log-removed" .removeLog)
      "qdb.writedatfile:old-removed" (.removeIdx j)) S :=
    (emits_emit _ _ _ trivial).trans ((emits_emit _ _ _ trivial).trans ((Emits.of_eq rfl).trans
      ((emits_bufFlush _ (idxSink_emitsT _) _ _).trans ((emitsPre _).bufWriteAll _ (idxSink_emitsT _) _ _ _))))
  obtain ⟨es, h, _⟩ := hE
  exact ⟨es, by rw [h, hS]⟩

/-- the pieces writedatfile hands to its bufio.Writer when record number `pre.length` is `(k, r)` -/
theorem idxWrites_split (pre post : List (Key × Rec)) (k : Key) (r : Rec) (ver : Nat) :
    idxWrites (pre ++ (k, r) :: post) ver =
      ([le32 ver] ++ pre.flatMap (fun kr => [le64 kr.1, le32 kr.2.pos, le32 kr.2.len, le32 kr.2.seq, le32 kr.2.flags]) ++
        [le64 k, le32 r.pos]) ++ le32 r.len ::
      ([le32 r.seq, le32 r.flags] ++ post.flatMap (fun kr => [le64 kr.1, le32 kr.2.pos, le32 kr.2.len, le32 kr.2.seq, le32 kr.2.flags]) ++
        [[0xff, 0xff, 0xff, 0xff], le32 ver, [0x46, 0x49, 0x4e, 0x49]]) := by
  simp [idxWrites, List.flatMap_append, List.append_assoc]

theorem idxWrites_head_flatten (pre : List (Key × Rec)) (r : Rec) (ver : Nat) (hp : r.pos = 0x494E4946) :
    ([le32 ver] ++ pre.flatMap (fun kr => [le64 kr.1, le32 kr.2.pos, le32 kr.2.len, le32 kr.2.seq, le32 kr.2.flags]) ++
        [le64 (ver * 2^32 + 0xFFFFFFFF), le32 r.pos]).flatten = snapBytes ver pre := by
  rw [← idxWrites_flatten pre ver]
  simp only [idxWrites, List.flatten_append, List.flatten_cons, List.flatten_nil, List.append_nil, le64_trailer, hp,
    le32_fini, List.append_assoc]
  rfl

/-- OBSERVATION in the model: with the record of snapshot_cut_at_buffer_boundary_observation at position 43 690 of the
    index, the first Write of writedatfile that reaches the new index file carries exactly the complete snapshot of the
    first 43 690 records -/
theorem writedatfile_first_write (db : DB) (pre post : List (Key × Rec)) (r : Rec)
    (hidx : db.index = pre ++ (u32 (db.verSeq + 1) * 2^32 + 0xFFFFFFFF, r) :: post)
    (hn : pre.length = 43690) (hp : r.pos = 0x494E4946) :
    ∃ rest, (writedatfile db).effs = db.effs ++
      [("qdb.writedatfile:created", .createIdx (1 - db.datIdx)),
       ("qdb.writedatfile:written", .appendIdx (1 - db.datIdx) (snapBytes (u32 (db.verSeq + 1)) pre))] ++ rest := by
  unfold writedatfile
  dsimp only
  generalize hD : (emit { db with datIdx := 1 - db.datIdx, verSeq := u32 (db.verSeq + 1) } "qdb.writedatfile:created"
      (.createIdx (1 - db.datIdx))) = D0
  have e1 : D0.index = db.index := by rw [← hD]; rfl
  have e2 : D0.verSeq = u32 (db.verSeq + 1) := by rw [← hD]; rfl
  have e4 : D0.effs = db.effs ++ [("qdb.writedatfile:created", .createIdx (1 - db.datIdx))] := by rw [← hD]; rfl
  rw [e1, e2, hidx, idxWrites_split]
  have hfl := idxWrites_head_flatten pre r (u32 (db.verSeq + 1)) hp
  have hlen : (snapBytes (u32 (db.verSeq + 1)) pre).length = bufSize := by
    rw [snapBytes_length, hn]; decide
  rw [bufWriteAll_first_flush (idxSink (1 - db.datIdx)) _ (le32 r.len) _ D0 (by rw [hfl, hlen]; exact Nat.le_refl _)
    (by rw [hfl]; intro h; rw [h] at hlen; cases hlen) (by rw [hfl, hlen]; simp [le32]) (by rw [hfl, hlen]; simp [le32]; decide)]
  rw [hfl, List.take_append_of_le_length (by rw [hlen]; exact Nat.le_refl _), ← hlen, List.take_length]
  generalize hS : idxSink (1 - db.datIdx) D0 (snapBytes (u32 (db.verSeq + 1)) pre) = S
  have eS : S.effs = db.effs ++ [("qdb.writedatfile:created", .createIdx (1 - db.datIdx)),
       ("qdb.writedatfile:written", .appendIdx (1 - db.datIdx) (snapBytes (u32 (db.verSeq + 1)) pre))] := by
    rw [← hS]; simp [idxSink, emit, e4]
  exact writedatfile_tail_effs _ _ S _ _ _ eS
theorem idxFile_create_append (F : FS) (i : Nat) (X : Bytes) :
    idxFile (F.applyAll [.createIdx i, .appendIdx i X]) i = some X := by
  by_cases h : i = 0
  · simp [FS.applyAll, FS.apply, idxFile, h]
  · simp [FS.applyAll, FS.apply, idxFile, h]
end GocoinV.Proofs.C19
