/-
  Proofs.C08_TabDefs — what a precomputed table entry MEANS, in terms of the reference group law
  `GocoinV.Secp` (affine, textbook formulas): consecutive entries differ by a fixed point (`chainOK`), so entry i
  is `start + i·d` (`chain_spec`). `tableOK` is the check the kernel runs ONCE over a whole raw table
  (C08_TabPreG, C08_TabPrec): the number of entries, the magnitude of every limb, the first point, and every step
  `entry + d = next entry` with the slope equations cleared of their denominator (`addOK`); C08_TabAll proves that
  it implies `chainOK` and the affine contract of every entry. Core-only.
-/
import GocoinV.Model.FieldIO
import GocoinV.Base.Secp

namespace GocoinV.C08
open GocoinV.Gen.Field5x52

/-- the affine point a 10-limb table entry stands for (coordinates reduced mod p) -/
def ptOfLimbs (l : List Nat) : Secp.Point :=
  some ((Fe.ofList (l.take 5)).val % Secp.p, (Fe.ofList (l.drop 5)).val % Secp.p)

def pts (l : List (List Nat)) : List Secp.Point := l.map ptOfLimbs

/-- every entry is the previous one plus `d` under the reference group law -/
def chainOK (d : Secp.Point) : List Secp.Point → Bool
  | a :: b :: rest => (Secp.add a d == b) && chainOK d (b :: rest)
  | _ => true

/-- `start + i·d` by repeated reference addition -/
def addSteps (d : Secp.Point) (start : Secp.Point) : Nat → Secp.Point
  | 0 => start
  | i+1 => Secp.add (addSteps d start i) d

def iterDbl : Nat → Secp.Point → Secp.Point
  | 0, a => a
  | n+1, a => iterDbl n (Secp.dbl a)

/-- 2^128·G by 128 reference doublings -/
def g128 : Secp.Point := iterDbl 128 Secp.G

/-- `Secp.add a d = b`, decided without the Fermat inversion of the slope `n/m` (chord: `n = y2 - y1`,
    `m = x2 - x1`; tangent: `n = 3·x1²`, `m = 2·y1`): the two equations `x3 = (n/m)² - x1 - x2` and
    `y3 = (n/m)·(x1 - x3) - y1` multiplied through by `m²` and `m`, with `m ≠ 0` (`addOK_sound`) -/
def addOK : Secp.Point → Secp.Point → Secp.Point → Bool
  | some (x1, y1), some (x2, y2), some (x3, y3) =>
    x3 < Secp.p && y3 < Secp.p &&
    if x1 = x2 then
      let n := 3 * x1 % Secp.p * x1 % Secp.p
      let m := 2 * y1 % Secp.p
      y1 == y2 && y1 != 0 && m != 0 &&
        (x3 + 2 * x1) * (m * m % Secp.p) % Secp.p == n * n % Secp.p &&
        (y3 + y1) * m % Secp.p == n * Secp.subMod x1 x3 Secp.p % Secp.p
    else
      let n := Secp.subMod y2 y1 Secp.p
      let m := Secp.subMod x2 x1 Secp.p
      m != 0 &&
        (x3 + x1 + x2) * (m * m % Secp.p) % Secp.p == n * n % Secp.p &&
        (y3 + y1) * m % Secp.p == n * Secp.subMod x1 x3 Secp.p % Secp.p
  | _, _, _ => false

/-- the point of a 10-limb table entry whose coordinates are within magnitude 2 (inside the affine contract `XY.ok`, which is
    magnitude ≤ 8; `fin` has a negated, magnitude-2 y): limbs 0–3 at most 4·(2^52−1), top limb at most 4·(2^48−1); `none` for anything
    else. ONE match on literal bounds delivers the magnitudes and the point, because the kernel runs this on every
    entry of every table and pays for each list cell it opens. -/
def entryPt : List Nat → Secp.Point
  | [x0, x1, x2, x3, x4, y0, y1, y2, y3, y4] =>
    if Nat.ble x0 18014398509481980 && Nat.ble x1 18014398509481980 && Nat.ble x2 18014398509481980 &&
       Nat.ble x3 18014398509481980 && Nat.ble x4 1125899906842620 && Nat.ble y0 18014398509481980 &&
       Nat.ble y1 18014398509481980 && Nat.ble y2 18014398509481980 && Nat.ble y3 18014398509481980 &&
       Nat.ble y4 1125899906842620 then
      some ((Fe.mk x0 x1 x2 x3 x4).val % Secp.p, (Fe.mk y0 y1 y2 y3 y4).val % Secp.p)
    else none
  | _ => none

/-- exactly `n` more entries, each admissible and equal to the previous point plus `d` -/
def restOK (d : Secp.Point) : Secp.Point → Nat → List (List Nat) → Bool
  | _, 0, l => l.isEmpty
  | _, _+1, [] => false
  | a, n+1, e :: l => addOK a d (entryPt e) && restOK d (entryPt e) n l

/-- one pass over a raw table: `n + 1` admissible entries `s, s + d, s + 2d, …` -/
def tableOK (d s : Secp.Point) (n : Nat) : List (List Nat) → Bool
  | e :: l => (entryPt e == s) && s.isSome && restOK d s n l
  | [] => false

theorem chainOK_step (d : Secp.Point) (l : List Secp.Point) (h : chainOK d l = true) (i : Nat)
    (hi : i + 1 < l.length) : l.getD (i + 1) none = Secp.add (l.getD i none) d := by
  induction l generalizing i with
  | nil => simp at hi
  | cons a t ih =>
    cases t with
    | nil => simp at hi
    | cons b t' =>
      simp only [chainOK, Bool.and_eq_true, beq_iff_eq] at h
      cases i with
      | zero => simp [h.1]
      | succ j =>
        have := ih h.2 j (by simpa using hi)
        simpa using this

/-- a table whose consecutive entries differ by `d` and that starts at `s` lists `s + i·d` -/
theorem chain_spec (d s : Secp.Point) (l : List Secp.Point) (h : chainOK d l = true)
    (h0 : l.head? = some s) (i : Nat) (hi : i < l.length) : l.getD i none = addSteps d s i := by
  induction i with
  | zero =>
    cases l with
    | nil => simp at hi
    | cons a t => simp at h0; simp [addSteps, h0]
  | succ j ih =>
    rw [chainOK_step d l h j hi, ih (by omega)]
    rfl

end GocoinV.C08
