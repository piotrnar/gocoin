/-
  Proofs.C01Multisig — OP_CHECKMULTISIG(VERIFY): gocoin's cursor arithmetic over the stack slice (ikey / isig /
  ikey2, clean-up loop with the NULLFAIL test while popping) against the spec's list form; signature deletion from
  the script code for every signature (well-formedness of the intermediate script codes), NULLDUMMY.
-/
import GocoinV.Proofs.C01Checksig
namespace GocoinV.Proofs.C01
open GocoinV GocoinV.Script

/-- the script decodes to its end -/
def WF (s : Bytes) : Prop := (ScriptSpec.parse s).2 = false

theorem wf_iff (s : Bytes) (f : Nat) (h : s.length ≤ f) : WF s ↔ (ScriptSpec.parseAux f s).2 = false := by
  unfold WF ScriptSpec.parse
  rw [parseAux_fuel s.length f s (Nat.le_refl _) h]

theorem wf_append_aux : ∀ f x y, x.length ≤ f → (ScriptSpec.parseAux f x).2 = false → WF y → WF (x ++ y) := by
  intro f
  induction f with
  | zero =>
    intro x y h1 _ hy
    rwa [List.eq_nil_of_length_eq_zero (Nat.le_zero.1 h1)]
  | succ f ih =>
    intro x y h1 hx hy
    by_cases he : x.isEmpty
    · rwa [List.isEmpty_iff.1 he]
    · simp only [ScriptSpec.parseAux, he, Bool.false_eq_true, ↓reduceIte] at hx
      cases hp : ScriptSpec.parseOne x with
      | none => simp [hp] at hx
      | some i =>
        simp only [hp] at hx
        have hlt := parseOne_after_lt x i hp
        have hrec := ih i.after y (by omega) hx hy
        have hne : (x ++ y).isEmpty = false := by cases x with | nil => simp at he | cons _ _ => rfl
        rw [wf_iff (x ++ y) ((x ++ y).length - 1 + 1) (by omega)]
        simp only [ScriptSpec.parseAux, hne, Bool.false_eq_true, ↓reduceIte, parseOne_append x y i hp]
        rw [wf_iff (i.after ++ y) ((x ++ y).length - 1) (by simp; omega)] at hrec
        exact hrec

theorem wf_chunk (pc : Bytes) (i : ScriptSpec.Instr) (h : ScriptSpec.parseOne pc = some i) :
    WF (pc.take (pc.length - i.after.length)) := by
  obtain ⟨chunk, hne, rfl, hf⟩ := parseOne_frame h
  have hp := hf []
  rw [List.append_nil] at hp
  obtain ⟨n, hn⟩ : ∃ n, chunk.length = n + 1 := ⟨chunk.length - 1, by have := List.length_pos_iff.2 hne; omega⟩
  have he := List.isEmpty_eq_false_iff.2 hne
  rw [List.length_append, Nat.add_sub_cancel, List.take_left' rfl]
  unfold WF ScriptSpec.parse
  rw [hn]
  simp only [ScriptSpec.parseAux, he, Bool.false_eq_true, ↓reduceIte, hp]
  cases n <;> simp [ScriptSpec.parseAux]

theorem delSigAux_wf (b : Bytes) : ∀ f pc res cnt, (ScriptSpec.parseAux f pc).2 = false → WF res →
    WF (delSigAux b f pc res cnt).1 ∧ (delSigAux b f pc res cnt).1.length ≤ res.length + pc.length := by
  intro f pc res cnt hw
  refine delSigAux_induct b (P := fun _ pc res _ out => WF res → WF out.1 ∧ out.1.length ≤ res.length + pc.length)
    (fun _ res _ hr => ⟨hr, by simp⟩) ?_ ?_ f pc res cnt hw
  · intro _ pc res _ op i out _ hp h3 _ hn2 _ ih hr
    have hch : WF (pc.take op.n) := by
      have := wf_chunk pc i hp
      rw [h3] at this
      simpa [show pc.length - (pc.length - op.n) = op.n by omega] using this
    refine (ih (wf_append_aux _ _ _ (Nat.le_refl _) hr hch)).imp_right fun h2 => ?_
    simp at h2 ⊢
    omega
  · intro _ pc res _ op _ out _ _ _ _ hn2 _ ih hr
    refine (ih hr).imp_right fun h2 => ?_
    simp at h2 ⊢
    omega

theorem delSig_wf (code sig : Bytes) (h : WF code) : WF (delSig code sig).1 ∧ (delSig code sig).1.length ≤ code.length := by
  unfold delSig
  have := delSigAux_wf (sigPushPrefix sig.length ++ sig) code.length code [] 0 h (by simp [WF, ScriptSpec.parse, ScriptSpec.parseAux])
  simpa using this


theorem top_of_drop (stack : Stack) (j : Nat) (x : Bytes) (rest : List Bytes) (hj : j ≥ 1)
    (h : stack.drop (j - 1) = x :: rest) : top stack j = .ok x := by
  unfold top
  rw [if_neg (by omega), ← List.head?_drop, h]
  rfl

theorem drop_succ_of_drop {α} {l : List α} {j : Nat} {x : α} {rest : List α} (hj : j ≥ 1) (h : l.drop (j - 1) = x :: rest) :
    l.drop (j + 1 - 1) = rest := by
  rw [Nat.add_sub_cancel, ← Nat.sub_add_cancel hj, ← List.drop_drop, h]
  rfl

theorem take_drop_cons {α : Type} {l : List α} {k : Nat} {x : α} {r : List α} (h : l.drop k = x :: r) :
    l = l.take k ++ x :: r ∧ (l.take k).length = k := by
  refine ⟨by rw [← h, List.take_append_drop], ?_⟩
  have := congrArg List.length h
  simp at this ⊢
  omega

/-- list form of the signature-deletion loop of OP_CHECKMULTISIG -/
def delSigsList (flags : Nat) : List Bytes → Bytes → Res Bytes
  | [], x => .ok x
  | s :: S, x => if (delSig x s).2 > 0 && has flags VER_CONST_SCRIPTCODE then .fail else delSigsList flags S (delSig x s).1

theorem msDelSigs_list (stack : Stack) (flags isig : Nat) (hi : isig ≥ 1) : ∀ S k xxx rest,
    stack.drop (isig + k - 1) = S ++ rest → msDelSigs stack flags isig S.length k xxx = delSigsList flags S xxx := by
  intro S
  induction S with
  | nil => intros; rfl
  | cons s S' ih =>
    intro k xxx rest hd
    simp only [List.length_cons, msDelSigs, delSigsList]
    rw [top_of_drop stack (isig + k) s (S' ++ rest) (by omega) hd]
    simp only [Res.ok_bind]
    by_cases hf : ((delSig xxx s).2 > 0 && has flags VER_CONST_SCRIPTCODE) = true
    · simp [hf]
    · simp only [hf, Bool.false_eq_true, ↓reduceIte]
      exact ih (k + 1) _ rest (drop_succ_of_drop (j := isig + k) (by omega) hd)

def specDelFold (f : ScriptSpec.Flags) (sigs : List Bytes) (code : Bytes) : ScriptSpec.E Bytes :=
  sigs.foldlM (fun sc sg =>
    let (sc', found) := ScriptSpec.findAndDelete sc (ScriptSpec.pushEncoding sg)
    if found > 0 && f.constScriptcode then throw ScriptSpec.ScriptError.SIG_FINDANDDELETE else pure sc') code

theorem delSigsList_spec (flags : Nat) : ∀ S x, WF x → x.length < 2 ^ 32 →
    Sim Eq (delSigsList flags S x) (specDelFold (ScriptSpec.Flags.ofMask flags) S x) := by
  intro S
  induction S with
  | nil => intro x _ _; simp [specDelFold, delSigsList, epure, sim_ok]
  | cons s S' ih =>
    intro x hw hl
    have he := delSig_eq x s hw hl
    have hwf := delSig_wf x s hw
    have ih' := ih (delSig x s).1 hwf.1 (by omega)
    unfold specDelFold at ih' ⊢
    simp only [List.foldlM_cons, delSigsList, ← he, ← flag_const] at ih' ⊢
    by_cases hf : ((delSig x s).2 > 0 && has flags VER_CONST_SCRIPTCODE) = true
    · simp [hf, sim_fail, bind, Except.bind, ethrow]
    · simp only [hf, Bool.false_eq_true, ↓reduceIte, pure_bind]
      exact ih'

theorem msVerifyLoop_agree (T : TotalOracles) (c : Ctx) (hO : c.O = T.toOracles) (leaf : Bytes) (annex : Option Bytes)
    (stack : Stack) (xxx : Bytes) : ∀ (K S : List Bytes) (ikey isig : Nat) (restK restS : List Bytes),
    ikey ≥ 1 → isig ≥ 1 → stack.drop (ikey - 1) = K ++ restK → stack.drop (isig - 1) = S ++ restS → S.length ≤ K.length →
    Sim Eq (msVerifyLoop c stack xxx K.length S.length ikey isig) (ScriptSpec.multisigLoop (envOf T c leaf annex) xxx K S) := by
  intro K
  induction K with
  | nil =>
    intro S ikey isig restK restS _ _ _ _ hle
    simp [List.eq_nil_of_length_eq_zero (Nat.le_zero.1 hle), msVerifyLoop, ScriptSpec.multisigLoop, sim_ok, epure]
  | cons k K' ih =>
    intro S ikey isig restK restS hik his hdk hds hle
    cases S with
    | nil => simp [msVerifyLoop, ScriptSpec.multisigLoop, sim_ok, epure]
    | cons s S' =>
      have hnz : ¬ ((s :: S').length = 0) := by simp
      have hgt : ¬ ((s :: S').length > (k :: K').length) := by omega
      simp only [List.length_cons] at hle
      have htk := top_of_drop stack ikey k (K' ++ restK) hik hdk
      have hts := top_of_drop stack isig s (S' ++ restS) his hds
      have hdk' := drop_succ_of_drop hik hdk
      have hds' := drop_succ_of_drop his hds
      rw [show (k :: K').length = K'.length + 1 from rfl]
      simp only [msVerifyLoop, hnz, ↓reduceIte, htk, hts, Res.ok_bind, ScriptSpec.multisigLoop, hgt,
        checkSignatureEncoding_eq, checkPubKeyEncoding_eq, hO, verifyECDSA_eq, specECDSA_eq T (envOf T c leaf annex) rfl, envOf_f, envOf_sv]
      rcases eunit_cases (ScriptSpec.checkSignatureEncoding (ScriptSpec.Flags.ofMask c.flags) s) with h1 | ⟨e1, h1⟩
      · rcases eunit_cases (ScriptSpec.checkPubKeyEncoding (ScriptSpec.Flags.ofMask c.flags) c.sv k) with h2 | ⟨e2, h2⟩
        · simp only [h1, h2, Bool.not_true, Bool.or_self, Bool.false_eq_true, ↓reduceIte, bind, Except.bind]
          cases hok : ecdsaOk T c.sv xxx s k
          · -- signature does not match this key: same signature, next key
            simp only [Bool.false_eq_true, ↓reduceIte, List.length_cons]
            by_cases hshort : S'.length + 1 > K'.length
            · simp only [hshort, ↓reduceIte]
              -- more signatures left than keys: the spec's loop gives up at once as well
              have short : ScriptSpec.multisigLoop (envOf T c leaf annex) xxx K' (s :: S') = .ok false := by
                have h : (s :: S').length > K'.length := by simpa using hshort
                cases K' with
                | nil => rfl
                | cons k K'' => simp only [ScriptSpec.multisigLoop, h, ↓reduceIte]; rfl
              rw [short]
              simp [sim_ok]
            · simp only [hshort, ↓reduceIte]
              have := ih (s :: S') (ikey + 1) isig restK restS (by omega) his hdk' hds (by simp; omega)
              simpa using this
          · simp only [↓reduceIte, List.length_cons, Nat.add_sub_cancel]
            have hns : ¬ S'.length > K'.length := by omega
            simp only [hns, ↓reduceIte]
            exact ih S' (ikey + 1) (isig + 1) restK restS (by omega) (by omega) hdk' hds' (by omega)
        · simp [h1, h2, sim_fail, bind, Except.bind]
      · simp [h1, sim_fail, bind, Except.bind]

theorem msCleanup_pre (flags : Nat) (su : Bool) : ∀ (pre : List Bytes) (n : Nat) (t : Stack),
    msCleanup flags su (pre.length + n) pre.length (pre ++ t) = msCleanup flags su n 0 t := by
  intro pre
  induction pre with
  | nil => intro n t; simp
  | cons x pre' ih =>
    intro n t
    rw [List.length_cons, Nat.add_right_comm]
    simp only [List.cons_append, msCleanup, beq_false_of_ne (Nat.succ_ne_zero _), Bool.and_false, Bool.false_and, Bool.false_eq_true, ↓reduceIte, Nat.add_sub_cancel]
    exact ih n t

theorem msCleanup_sigs (flags : Nat) (su : Bool) : ∀ (sigs : List Bytes) (rest : Stack),
    msCleanup flags su sigs.length 0 (sigs ++ rest) =
      if !su && has flags VER_NULLFAIL && sigs.any (fun sg => !sg.isEmpty) then .fail else .ok rest := by
  intro sigs
  induction sigs with
  | nil => intro rest; simp [msCleanup]
  | cons x sigs' ih =>
    intro rest
    simp only [List.length_cons, List.cons_append, msCleanup, beq_self_eq_true, Bool.and_true, List.any_cons, Nat.zero_sub]
    have hx : decide (x.length > 0) = !x.isEmpty := by cases x <;> simp
    rw [hx, ih rest]
    by_cases hxe : x.isEmpty = true <;> cases su <;> cases has flags VER_NULLFAIL <;> simp [hxe]


theorem execOp_multisig (c : Ctx) (st : St) (op idx pos : Nat) (b : Bool) (h : op = 0xae ∨ op = 0xaf) :
    execOp c st op idx pos b = checkMultisig c st op := by
  rcases h with h | h <;> subst h <;> rfl

theorem execOpcode_multisig (e : ScriptSpec.Env) (s : ScriptSpec.State) (i : ScriptSpec.Instr) (pos : Nat) (b : Bool)
    (h : i.op = 0xae ∨ i.op = 0xaf) :
    ScriptSpec.execOpcode e s i b pos = ScriptSpec.opCheckMultisig e s (i.op == 0xaf) := by
  obtain ⟨iop, idata, iafter⟩ := i
  simp only at h
  rcases h with h | h <;> subst h <;> rfl

variable {T : TotalOracles} {c : Ctx} {leaf : Bytes} {annex : Option Bytes} {st : St} {s : ScriptSpec.State}
  {i : ScriptSpec.Instr} {idx pos : Nat}

/-- gocoin's cursor arithmetic over the stack slice against the spec's list form, in one walk through both functions:
    the checks in lock-step (`simp -zeta only`: see `Agree.guard`), then the three loops through their list forms -/
theorem multisig_agree (hO : c.O = T.toOracles) (hR : Rel c leaf annex st s) (hs : i.op = 0xae ∨ i.op = 0xaf) (hS : SigSide T c s) :
    Agree c leaf annex (execOp c st i.op idx pos true) (ScriptSpec.execOpcode (envOf T c leaf annex) s i true pos) := by
  rw [execOp_multisig c st i.op idx pos true hs, execOpcode_multisig _ s i pos true hs]
  generalize i.op = opcode
  unfold checkMultisig ScriptSpec.opCheckMultisig
  simp -zeta only [envOf_sv, MAX_OPS, ScriptSpec.MAX_OPS_PER_SCRIPT, ScriptSpec.MAX_PUBKEYS_PER_MULTISIG, ← hR.stack, ← hR.opcnt]
  refine Agree.guard fun _ => ?_
  rcases st.stack with _ | ⟨nk, r1⟩
  · exact Agree.fail
  rw [if_neg (by simp)]
  -- key count, op count
  refine readNum_agree (d := nk) rfl fun n => ?_
  refine Agree.guard fun hr1 => Agree.guard fun hop => ?_
  have hn0 : (n.toNat : Int) = n := by simp at hr1; omega
  refine Agree.guardIff (by simp; omega) fun hl2 => ?_
  rcases hd : r1.drop n.toNat with _ | ⟨ns, r2⟩
  · have := List.drop_eq_nil_iff.1 hd; omega
  obtain ⟨hr1eq, hkl⟩ := take_drop_cons hd
  -- signature count
  refine readNum_agree (d := ns) (top_of_drop _ _ ns r2 (by omega) (by
    rw [show 2 + n.toNat - 1 = n.toNat + 1 by omega, List.drop_succ_cons, hd])) fun m => ?_
  refine Agree.guardIff (by rw [hn0]) fun hr2 => ?_
  have hr1len : r1.length = n.toNat + 1 + r2.length := by
    have := congrArg List.length hr1eq; simp [hkl] at this; omega
  rcases hd2 : r2.drop m.toNat with _ | ⟨dummy, r4⟩
  · -- no dummy element: gocoin fails at once, the spec at the latest when it looks for the dummy
    have hle := List.drop_eq_nil_iff.1 hd2
    exact Agree.failedAt (by simp; omega) (Agree.failGuard (Agree.failBind fun code => Agree.failBind fun su =>
      Agree.failGuard Agree.fail))
  have hsl : m.toNat + 1 ≤ r2.length := by have := congrArg List.length hd2; simp at this; omega
  obtain ⟨hr2eq, hsl'⟩ := take_drop_cons hd2
  refine Agree.guardIff (by simp; omega) fun _ => ?_
  -- the stack is  nk :: keys ++ ns :: sigs ++ dummy :: r4
  generalize hkeys : r1.take n.toNat = keys at hr1eq hkl ⊢
  generalize hsigs : r2.take m.toNat = sigs at hr2eq hsl' ⊢
  have hshape : nk :: r1 = nk :: (keys ++ ns :: (sigs ++ dummy :: r4)) := by rw [← hr2eq, ← hr1eq]
  have hsk : sigs.length ≤ keys.length := by simp at hr2; omega
  -- the script code (legacy: without the signatures), the matching loop, the clean-up loop (= the NULLFAIL test)
  have hdsig : (nk :: r1).drop (2 + n.toNat + 1 - 1) = sigs ++ dummy :: r4 := by
    rw [hshape, ← hkl, show 2 + keys.length + 1 - 1 = (keys.length + 1) + 1 by omega, List.drop_succ_cons, ← List.drop_drop,
      List.drop_left]; rfl
  have hcode : Sim Eq
      (if c.sv == .base then msDelSigs (nk :: r1) c.flags (2 + n.toNat + 1) m.toNat 0 (c.p.drop st.pbegin) else pure (c.p.drop st.pbegin))
      (if (envOf T c leaf annex).sv == .base then specDelFold (envOf T c leaf annex).f sigs s.code else pure s.code) := by
    rw [envOf_sv, envOf_f, hR.code]
    by_cases hb : c.sv = .base
    · rw [if_pos (by simp [hb]), if_pos (by simp [hb])]
      rw [← hsl', msDelSigs_list (nk :: r1) c.flags (2 + n.toNat + 1) (by omega) sigs 0 _ (dummy :: r4) hdsig]
      exact delSigsList_spec c.flags sigs s.code (hS.code hb).1 (hS.code hb).2
    · rw [if_neg (by simp [hb]), if_neg (by simp [hb])]; exact Sim.ok rfl
  refine hcode.agreeBind fun xxx _ h => ?_
  subst h
  have hloop := msVerifyLoop_agree T c hO leaf annex (nk :: r1) xxx keys sigs 2 (2 + n.toNat + 1)
    (ns :: (sigs ++ dummy :: r4)) (dummy :: r4) (by omega) (by omega) (by rw [hshape]; rfl) hdsig hsk
  rw [hkl, hsl'] at hloop
  refine hloop.agreeBind fun su _ h => ?_
  subst h
  have hclean : msCleanup c.flags su (2 + n.toNat + 1 + m.toNat - 1) (n.toNat + 2) (nk :: r1) =
      if !su && has c.flags VER_NULLFAIL && sigs.any (fun sg => !sg.isEmpty) then .fail else .ok (dummy :: r4) := by
    have hpre : nk :: r1 = (nk :: (keys ++ [ns])) ++ (sigs ++ dummy :: r4) := by rw [hshape]; simp
    have hpl : (nk :: (keys ++ [ns])).length = n.toNat + 2 := by simp [hkl]
    rw [hpre, show 2 + n.toNat + 1 + m.toNat - 1 = (nk :: (keys ++ [ns])).length + sigs.length by rw [hpl, hsl']; omega, ← hpl,
      msCleanup_pre, msCleanup_sigs]
  rw [hclean]
  refine Agree.guardOk (by rw [envOf_f, ← flag_nullfail]) fun _ => ?_
  refine Agree.guardIff (by rw [envOf_f, ← flag_nulldummy]; cases dummy <;> simp) fun _ => ?_
  have ok : ∀ x, Agree c leaf annex (.ok { st with stack := x, opcnt := st.opcnt + n.toNat })
      (.ok { s with opCount := st.opcnt + n.toNat, stack := x }) := fun x => Agree.ok { hR with stack := rfl, opcnt := rfl }
  refine Agree.ite (fun _ => ?_) fun _ => boolBytes_ofBool su ▸ ok _
  cases su
  · exact Agree.fail
  · exact ok _

end GocoinV.Proofs.C01
