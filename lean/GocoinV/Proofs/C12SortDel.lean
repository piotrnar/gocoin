/-
  Proofs.C12SortDel — the operations of Model/Mempool.lean that do not insert into the sorted list (except markLocal, tip and
  the commit flag, which are in C12SortRun) keep the
  invariant `SortInv` of the incrementally maintained list (Proofs/C12SortDef.lean), with no hypothesis about the pool:
  the reject-list functions and the chain side do not touch the fields it reads (`SortSame`), Delete removes the key from
  the map, the list and the ranks together (`delOne_sort` and everything built from it), the MemInputs flag maintenance
  either marks the list dirty or stores the same record again, and save + reload leaves the list dirty (`reload_sort`).
  Core Lean only.
-/
import GocoinV.Proofs.C12SortDef
namespace GocoinV.Mempool

/-- `SortInv.of_same` with the invariant first (fixes the source state before the frame is elaborated) -/
theorem SortInv.same {K : Keys} {s s' : State} (h : SortInv K s) (f : SortSame s s') : SortInv K s' := h.of_same f

/-! ### the reject list -/

theorem rejDelete_same (K : Keys) (s : State) (r : Rej) : SortSame s (rejDelete K s r) := by
  unfold rejDelete
  cases r.tx <;> exact SortSame.of_eq

theorem rejDeleteByIdx_same (K : Keys) (s : State) (b : Nat) : SortSame s (rejDeleteByIdx K s b) := by
  unfold rejDeleteByIdx
  split
  · exact rejDelete_same K s _
  · exact SortSame.of_eq

theorem rejEvictOldest_same (K : Keys) (s : State) : SortSame s (rejEvictOldest K s) := by
  unfold rejEvictOldest
  split
  · split
    · split
      · exact rejDelete_same K s _
      · exact SortSame.of_eq
    · exact SortSame.of_eq
  · exact SortSame.of_eq

theorem rejAddRefs_same (K : Keys) (s : State) (r : Rej) : SortSame s (rejAddRefs K s r) := by
  unfold rejAddRefs
  cases r.tx <;> exact SortSame.of_eq

theorem rejAdd_same (K : Keys) (s : State) (r : Rej) : SortSame s (rejAdd K s r) := by
  unfold rejAdd
  have h0 : SortSame s { s with ring := s.ring ++ [some (K.bidx r.id)], rej := s.rej.set (K.bidx r.id) r } :=
    SortSame.of_eq
  exact (h0.trans (rejEvictOldest_same K _)).trans (rejAddRefs_same K _ r)

theorem rejectTx_same (K : Keys) (s : State) (t : Tx) (why : Nat) (m : Option TxId) :
    SortSame s (rejectTx K s t why m) := rejAdd_same K s _

/-! ### DelFromSort together with the removal from the map -/

theorem get?_of_del {s s' : State} {b : Nat} (hp : s'.pool = s.pool.del b) {x : Nat} {t : T2S}
    (h : s'.pool.get? x = some t) : s.pool.get? x = some t := by
  rw [hp] at h
  exact (AList.get?_del_some h).2

theorem SortOK.del {K : Keys} {s s' : State} (b : Nat) (hp : s'.pool = s.pool.del b)
    (hs : s'.sorted = s.sorted.filter (· ≠ b)) (hr : s'.ranks = s.ranks.del b) (h : SortOK K s) : SortOK K s' := by
  have hrank : ∀ x, x ≠ b → rankOf s' x = rankOf s x := by
    intro x hx
    unfold rankOf
    rw [hr, AList.get?_del_other _ _ _ hx]
  have hmem : ∀ x, x ∈ s'.sorted ↔ x ∈ s.sorted ∧ x ≠ b := by
    intro x
    rw [hs, List.mem_filter]
    simp
  refine ⟨?_, ?_, ?_, ?_, ?_⟩
  · have e : s'.sorted.map (rankOf s') = (s.sorted.filter (· ≠ b)).map (rankOf s) := by
      rw [hs]
      apply List.map_congr_left
      intro x hx
      rw [← hs] at hx
      exact hrank x ((hmem x).1 hx).2
    rw [e]
    exact h.asc.sublist (List.Sublist.map _ List.filter_sublist)
  · intro x hx
    have := (hmem x).1 hx
    rw [hrank x this.2]
    exact h.bnd x this.1
  · intro x
    rw [hmem x, hp]
    by_cases hx : x = b
    · rw [hx, AList.get?_del_self]
      simp
    · rw [AList.get?_del_other _ _ _ hx, h.sync x]
      simp [hx]
  · rw [hs]
    refine (h.pf.filter _).imp ?_
    intro x y hxy t ht
    exact hxy t (get?_of_del hp ht)
  · intro x t ht
    exact h.irr x t (get?_of_del hp ht)

theorem delFromSort_sort (K : Keys) (s s1 : State) (b : Nat) (hp : s1.pool = s.pool.del b)
    (hs : s1.sorted = s.sorted) (hr : s1.ranks = s.ranks) (hd : s1.sortDirty = s.sortDirty)
    (hw : s1.rankWrap = s.rankWrap) (h : SortInv K s) : SortInv K (delFromSort s1 b) := by
  unfold delFromSort
  split
  · rename_i hdirty
    exact SortInv.of_dirty hdirty
  · split
    · exact SortInv.of_dirty rfl
    · exact fun hd' hw' => SortOK.del (s := s) b hp (congrArg _ hs) (congrArg (·.del b) hr)
        (h (hd.symm.trans hd') (hw.symm.trans hw'))

theorem delOne_sort (K : Keys) (s : State) (t : T2S) (reason : Nat) (h : SortInv K s) :
    SortInv K (delOne K s t reason) :=
  have e3 : SortInv K (delPre K s t) :=
    SortInv.of_same SortSame.of_eq (delFromSort_sort K s
      { s with spent := t.tx.ins.foldl (fun (m : AList Nat Nat) i => m.del (K.uidx i.prev i.vout)) s.spent,
               pool := s.pool.del (K.bidx t.tx.id) } (K.bidx t.tx.id) rfl rfl rfl rfl rfl h)
  delOne_cases K s t reason (e3.of_same (rejectTx_same K _ _ _ _)) e3

theorem delKeys_sort (K : Keys) (reason : Nat) : ∀ (l : List Nat) (s : State), SortInv K s →
    SortInv K (delKeys K reason s l) := by
  intro l s h
  unfold delKeys
  refine foldl_inv (SortInv K) _ ?_ l s h
  intro s b hs
  split
  · exact delOne_sort K s _ reason hs
  · exact hs

theorem deleteRbf_sort (K : Keys) (s : State) (rbf : List Nat) : SortInv K s → SortInv K (deleteRbf K s rbf) :=
  delKeys_sort K R_REPLACED rbf.reverse s

theorem delWithChildren_sort (K : Keys) (reason : Nat) : ∀ (fuel : Nat) (s : State) (t : T2S), SortInv K s →
    SortInv K (delWithChildren K reason fuel s t) := by
  intro fuel
  induction fuel with
  | zero => intro s t h; exact SortInv.of_same (s := s) SortSame.of_eq h
  | succ n ih =>
    intro s t h
    unfold delWithChildren
    dsimp only
    refine delOne_sort K _ t reason (foldl_inv (SortInv K) _ ?_ _ s h)
    intro s v hs
    split
    · exact hs
    · split
      · exact hs
      · exact ih _ _ hs

/-! ### MemInputs flag maintenance (mining.go mined / unmined) -/

theorem minedFlags_sort (K : Keys) (s : State) (t : T2S) (h : SortInv K s) : SortInv K (minedFlags K s t) :=
  foldl_inv (SortInv K) _ (fun s v hs => minedStep_cases K t s v (fun _ => hs)
    (SortInv.of_same (s := s) SortSame.of_eq hs) fun _ _ _ _ _ _ _ => SortInv.of_dirty rfl) _ s h

theorem getD_replicate_false (n idx : Nat) : (List.replicate n false).getD idx false = false := by
  rw [List.getD_eq_getElem?_getD, List.getElem?_replicate]
  split <;> rfl

theorem set_same_get? (m : AList Nat T2S) (b : Nat) (r : T2S) (h : m.get? b = some r) (x : Nat) :
    (m.set b r).get? x = m.get? x := by
  by_cases hx : x = b
  · rw [hx, AList.get?_set_self, h]
  · rw [AList.get?_set_other _ _ _ _ hx]

theorem unminedFlags_sort (K : Keys) (s : State) (t : T2S) (h : SortInv K s) : SortInv K (unminedFlags K s t) := by
  rw [unminedFlags_eq]
  refine foldl_inv (SortInv K) _ (fun s v hs => ?_) _ s h
  refine unminedStep_cases K t s v hs (hs.same SortSame.of_eq) (fun val r idx _ hr _ hf => ?_)
    fun _ _ _ _ _ _ _ => SortInv.of_dirty rfl
  -- the flag is set already, so MemInputs is allocated and the record stored is the one that was there
  have hm : memOf r = r.mem := by
    unfold memOf at hf ⊢
    by_cases he : r.mem.isEmpty = true
    · rw [if_pos he, getD_replicate_false] at hf; cases hf
    · rw [if_neg he]
  have hrr : memRec r = r := by unfold memRec; rw [hm]
  rw [hrr]
  exact hs.same ⟨set_same_get? s.pool _ r hr, rfl, rfl, rfl, rfl⟩

theorem txMined_sort (K : Keys) (s : State) (t : Tx) : SortInv K s → SortInv K (txMined K s t) :=
  txMined_ind K t (fun s r h _ => delOne_sort K _ _ 0 (minedFlags_sort K s r h))
    (fun s _ r h _ => delWithChildren_sort K 0 _ s r h)
    (fun s _ _ h _ _ => SortInv.of_same (s := s) SortSame.of_eq h)
    (fun s _ txr h _ => SortInv.of_same (rejDelete_same K s txr) h)
    (fun s _ h => SortInv.of_same (s := s) SortSame.of_eq h)
    (fun s h => SortInv.of_same (rejDeleteByIdx_same K s _) h) s

/-! ### save + load, the chain side -/

theorem reload_sort (K : Keys) (s : State) : SortInv K (reload K s) := by
  rw [reload_eq]
  refine foldl_inv (SortInv K) _ ?_ _ _ (SortInv.of_dirty rfl)
  intro st slot hst
  unfold reloadRej
  split
  · exact hst
  · split
    · exact hst
    · exact SortInv.of_same (rejAdd_same K st _) hst

theorem connectUtxo_same (s : State) (h : Nat) (txs : List Tx) : SortSame s (connectUtxo s h txs) := by
  unfold connectUtxo
  split
  exact SortSame.of_eq

theorem disconnectUtxo_same (s s' : State) (txs : List Tx) : disconnectUtxo s = some (s', txs) → SortSame s s' := by
  intro hd
  unfold disconnectUtxo at hd
  split at hd
  · cases hd
  · simp only [Option.some.injEq, Prod.mk.injEq] at hd
    obtain ⟨rfl, rfl⟩ := hd
    exact SortSame.of_eq

end GocoinV.Mempool
