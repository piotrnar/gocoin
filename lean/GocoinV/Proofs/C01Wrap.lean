/-
  Proofs.C01Wrap — the functions around the interpreter: ExecuteWitnessScript (OP_SUCCESS pre-scan, initial stack
  limits, clean-stack rule), VerifyTaprootCommitment (tapleaf hash, merkle path, tweak), VerifyWitnessProgram
  (v0 P2WPKH / P2WSH, v1 key path and script path with annex, control-block sizes, leaf versions, the
  validation-weight budget over the WHOLE witness) and VerifyTxScript (scriptSig / scriptPubKey / P2SH / witness
  dispatch, CLEANSTACK, WITNESS_UNEXPECTED) — model vs spec.
-/
import GocoinV.Proofs.C01Loop
import GocoinV.Proofs.C01NoPanic
namespace GocoinV.Proofs.C01
open GocoinV GocoinV.Script

theorem executeWitnessScript_agree (T : TotalOracles) (tx : TxCtx) (stack : Stack) (script : Bytes) (flags : Nat)
    (sv : SigVersion) (ed : ExecData) (hT : TapSigHashOk T tx) (hq : NopsOk flags) :
    Sim Eq (executeWitnessScript T.toOracles tx stack script flags sv ed)
      (ScriptSpec.executeWitnessScript T.toOracles tx (ScriptSpec.Flags.ofMask flags) {} stack script sv ed.tapleafHash ed.annexHash ed.weightLeft) := by
  -- the part behind the pre-scan
  have rest : Sim Eq
      (if stack.any (fun d => d.length > MAX_SCRIPT_ELEMENT_SIZE) then .fail
       else do
        let s ← evalScript T.toOracles tx flags script stack sv ed
        match s with
        | [x] => if bts2bool x then pure () else .fail
        | _ => .fail)
      (do
        if stack.any (fun x => x.length > ScriptSpec.MAX_SCRIPT_ELEMENT_SIZE) then throw ScriptSpec.ScriptError.PUSH_SIZE
        let s ← ScriptSpec.evalScript ⟨T.toOracles, tx, ScriptSpec.Flags.ofMask flags, sv, {}, ed.tapleafHash, ed.annexHash⟩ script stack ed.weightLeft
        match s with
        | [x] => if ScriptSpec.castToBool x then pure () else throw ScriptSpec.ScriptError.EVAL_FALSE
        | [] => throw ScriptSpec.ScriptError.EVAL_FALSE
        | _ => throw ScriptSpec.ScriptError.CLEANSTACK) :=
    Sim.guard fun _ => (evalScript_agree_all T tx flags script stack sv ed hT hq).bind fun s _ _ hs => by
      subst hs
      rcases s with _ | ⟨x, _ | ⟨y, r⟩⟩
      · exact Sim.fail
      · simp only [bts2bool_eq]
        exact Sim.ite (fun _ => Sim.ok rfl) fun _ => Sim.fail
      · exact Sim.fail
  unfold executeWitnessScript ScriptSpec.executeWitnessScript
  by_cases hts : sv = .tapscript
  · subst hts
    simp only [beq_self_eq_true, ↓reduceIte, opSuccessScan_eq script.length script, ← flag_dissuccess,
      show ScriptSpec.MAX_STACK_SIZE = MAX_STACK_SIZE from rfl]
    unfold ScriptSpec.parse
    generalize hpr : ScriptSpec.parseAux script.length script = pr
    obtain ⟨instrs, bad⟩ := pr
    rcases hscan : ScriptSpec.scanOpSuccess instrs bad with _ | _ | _ <;> dsimp only
    · by_cases hss : stack.length > MAX_STACK_SIZE
      · rw [if_pos hss, if_pos hss]; exact Sim.fail
      · rw [if_neg hss, if_neg hss]; exact rest
    · exact Sim.fail
    · cases has flags VER_DIS_SUCCESS
      · exact Sim.ok rfl
      · exact Sim.fail
  · simp only [beq_false_of_ne hts, Bool.false_eq_true, ↓reduceIte]
    exact rest

theorem lexLt_eq : ∀ a b : Bytes, lexLt a b = ScriptSpec.bytesLt a b := by
  intro a
  induction a with
  | nil => intro b; cases b <;> simp [lexLt, ScriptSpec.bytesLt]
  | cons x a ih =>
    intro b
    cases b with
    | nil => simp [lexLt, ScriptSpec.bytesLt]
    | cons y b =>
      simp only [lexLt, ScriptSpec.bytesLt, ih]
      by_cases h1 : y < x
      · simp [h1, UInt8.lt_asymm h1, Ne.symm (UInt8.ne_of_lt h1)]
      · by_cases h2 : x < y
        · simp [h1, h2]
        · simp [UInt8.le_antisymm (UInt8.not_lt.mp h1) (UInt8.not_lt.mp h2)]

theorem taggedHash_eq (O : Oracles) (tag : String) (msg : Bytes) : taggedHash O tag msg = ScriptSpec.taggedHash O tag msg := rfl

theorem merklePath_eq (O : Oracles) (control : Bytes) : ∀ n i k,
    merklePath O control n i k = ScriptSpec.merkleRoot O (ScriptSpec.chunks32 n (control.drop (33 + 32 * i))) k := by
  intro n
  induction n with
  | zero => intro i k; rfl
  | succ n ih =>
    intro i k
    simp only [merklePath, ScriptSpec.chunks32, ScriptSpec.merkleRoot, TAPROOT_CONTROL_BASE_SIZE, TAPROOT_CONTROL_NODE_SIZE, lexLt_eq, taggedHash_eq]
    rw [ih (i + 1), List.drop_drop, show 33 + 32 * i + 32 = 33 + 32 * (i + 1) by omega]

theorem u8_leafver (c0 : UInt8) : (c0 &&& TAPROOT_LEAF_MASK) = UInt8.ofNat (c0.toNat / 2 * 2) := by
  revert c0; exact u8_forall (by decide +kernel)
theorem u8_parity (c0 : UInt8) : ((c0 &&& 1) != 0) = (c0.toNat % 2 == 1) := by
  revert c0; exact u8_forall (by decide +kernel)

theorem verifyTaprootCommitment_eq (T : TotalOracles) (control program script : Bytes) :
    verifyTaprootCommitment T.toOracles control program script =
      (let c0 := control.getD 0 0
       let leafVersion : UInt8 := UInt8.ofNat (c0.toNat / 2 * 2)
       let tapleaf := ScriptSpec.tapleafHash T.toOracles leafVersion script
       let internalKey := (control.drop 1).take 32
       let root := ScriptSpec.merkleRoot T.toOracles (ScriptSpec.chunks32 ((control.length - 33) / 32) (control.drop 33)) tapleaf
       let tweak := ScriptSpec.taggedHash T.toOracles "TapTweak" (internalKey ++ root)
       .ok (T.tweakCheck program internalKey tweak (c0.toNat % 2 == 1), tapleaf)) := by
  unfold verifyTaprootCommitment
  simp only [merklePath_eq, taggedHash_eq, at', u8_leafver, u8_parity, ScriptSpec.tapleafHash, writeVlen, TAPROOT_CONTROL_BASE_SIZE,
    TAPROOT_CONTROL_NODE_SIZE, Nat.mul_zero, Nat.add_zero, TotalOracles.toOracles, Res.ask, Res.ok_bind, Res.pure_eq]
  rfl

theorem annexTag_eq (dat : Bytes) : (decide (dat.length > 0) && at' dat 0 == ANNEX_TAG) = (dat.take 1 == [0x50]) := by
  cases dat with
  | nil => simp [at']
  | cons x r =>
    simp [at', ANNEX_TAG]

theorem p2wpkh_script (program : Bytes) (h : program.length = 20) :
    ([0x76, 0xa9, 0x14] ++ program ++ [0x88, 0xac] : Bytes) = [0x76, 0xa9] ++ ScriptSpec.pushEncoding program ++ [0x88, 0xac] := by
  unfold ScriptSpec.pushEncoding
  simp [h]

theorem verifyWitnessProgram_agree (T : TotalOracles) (tx : TxCtx) (witness : List Bytes) (ver : Nat) (prog : Bytes)
    (flags : Nat) (isP2sh : Bool) (hT : TapSigHashOk T tx) (hq : NopsOk flags) :
    Sim Eq (verifyWitnessProgram T.toOracles tx witness ver prog flags isP2sh)
      (ScriptSpec.verifyWitnessProgram T.toOracles tx (ScriptSpec.Flags.ofMask flags) {} witness ver prog isP2sh) := by
  unfold verifyWitnessProgram ScriptSpec.verifyWitnessProgram
  simp only [← flag_taproot, ← flag_witprog, List.length_reverse,
    show ∀ scr, (T.toOracles.sha256 scr != prog) = (prog != T.toOracles.sha256 scr) from fun scr => bne_comm]
  refine Sim.ite (fun _ => Sim.ite (fun _ => ?_) fun _ => Sim.ite (fun h20 => ?_) fun _ => Sim.fail)
    fun _ => Sim.ite (fun _ => ?_) fun _ => Sim.ite (fun _ => Sim.fail) fun _ => Sim.ok rfl
  · rcases witness.reverse with _ | ⟨scr, rest⟩
    · exact Sim.fail
    · exact Sim.guard fun _ => executeWitnessScript_agree T tx rest scr flags .witnessV0 {} hT hq
  · simp only [beq_iff_eq] at h20
    rw [← p2wpkh_script prog h20]
    exact Sim.guard fun _ => executeWitnessScript_agree T tx witness.reverse _ flags .witnessV0 {} hT hq
  · by_cases hft : has flags VER_TAPROOT = true
    · simp only [hft, Bool.not_true, Bool.false_eq_true, ↓reduceIte]
      rcases hw : witness.reverse with _ | ⟨dat, rest⟩
      · simp [List.reverse_eq_nil_iff.1 hw, sim_fail, bind, Except.bind, ethrow]
      · have hwl : witness.length = rest.length + 1 := by simpa using congrArg List.length hw
        have hne : (witness.length == 0) = false := by simp [hwl]
        have hie := List.isEmpty_eq_false_iff.2 (List.ne_nil_of_length_eq_add_one hwl)
        simp -zeta only [hne, hie, Bool.false_eq_true, ↓reduceIte, ← annexTag_eq, Bool.and_assoc]
        -- model and spec bind the annex differently; name the stack and annex hash that come out, tie them once, and
        -- walk the rest of both functions for ANY non-empty stack and annex hash
        generalize hC : (decide (witness.length ≥ 2) && (decide (dat.length > 0) && at' dat 0 == ANNEX_TAG)) = C
        generalize hp : (if C = true then (rest, _) else _ : Stack × Option Bytes) = p
        generalize hs : (if C = true then List.drop 1 (dat :: rest) else _ : List Bytes) = st
        generalize ha : (if C = true then some _ else none : Option Bytes) = ah
        have key : p = (st, ah) ∧ st ≠ [] := by
          subst hp hs ha
          cases C
          · exact ⟨rfl, by simp⟩
          · refine ⟨rfl, fun h => ?_⟩
            simp only [↓reduceIte, List.drop_succ_cons, List.drop_zero] at h
            subst h
            simp [hwl] at hC
        obtain ⟨rfl, hst⟩ := key
        rcases st with _ | ⟨a, _ | ⟨b, rest'⟩⟩
        · exact absurd rfl hst
        · -- key path
          have := checkSchnorr_agree T ⟨T.toOracles, tx, flags, .taproot, []⟩ hT a prog { annexHash := ah }
          simp only at this ⊢
          rw [this]
          change Sim Eq _ (ScriptSpec.checkSchnorrSignature (envOf T ⟨T.toOracles, tx, flags, .taproot, []⟩ [] ah) a prog 0)
          generalize ScriptSpec.checkSchnorrSignature _ a prog 0 = r
          rcases eunit_cases r with rfl | ⟨e, rfl⟩
          · simp [sim_ok]
          · simp [sim_fail]
        · -- script path
          have htw : ∀ q p k par, T.toOracles.tweakCheck q p k par = some (T.tweakCheck q p k par) := fun _ _ _ _ => rfl
          simp only [verifyTaprootCommitment_eq, Res.ok_bind, u8_leafver, at', ← flag_distapver, TAPROOT_LEAF_TAPSCRIPT, ScriptSpec.ask, htw,
            TAPROOT_CONTROL_BASE_SIZE, TAPROOT_CONTROL_NODE_SIZE, TAPROOT_CONTROL_MAX_SIZE, pure_bind]
          refine Sim.guard fun _ => Sim.guard fun _ => Sim.ite (fun _ => ?_) fun _ =>
            Sim.ite (fun _ => Sim.fail) fun _ => Sim.ok rfl
          simpa only [serializeSize, show ScriptSpec.VALIDATION_WEIGHT_OFFSET = VALIDATION_WEIGHT_OFFSET from rfl] using
            executeWitnessScript_agree T tx rest' b flags .tapscript
              { tapleafHash := ScriptSpec.tapleafHash T.toOracles (UInt8.ofNat ((a.getD 0 0).toNat / 2 * 2)) b, annexHash := ah,
                weightLeft := ((serializeSize witness + VALIDATION_WEIGHT_OFFSET : Nat) : Int) } hT hq
    · simp [hft, sim_ok, epure]

theorem isPushOnly_eq (s : Bytes) : isPushOnly s = ScriptSpec.isPushOnly s := by
  unfold isPushOnly ScriptSpec.isPushOnly ScriptSpec.parse
  rw [isPushOnlyAux_eq]

theorem isPayToScript_eq (s : Bytes) : isPayToScript s = ScriptSpec.isPayToScriptHash s := by
  unfold isPayToScript ScriptSpec.isPayToScriptHash
  by_cases hl : s.length = 23
  · match s, hl with
    | a :: b :: t, hl =>
      -- the last of the 23 bytes is all that `drop 22` leaves
      have ht : t.length = 21 := by simpa using hl
      have hx : t.drop 20 = [t[20]] := by rw [List.drop_eq_getElem_cons (by omega), List.drop_eq_nil_of_le (by omega)]
      simp [hx, ht, Bool.and_assoc]
  · simp [beq_eq_false_iff_ne.mpr hl]

theorem isWitnessProgram_eq (s : Bytes) : isWitnessProgram s = ScriptSpec.witnessProgram? s := by
  unfold isWitnessProgram ScriptSpec.witnessProgram? decodeOpN
  match s with
  | [] => simp
  | [a] => simp
  | v :: l :: prog =>
    simp only [List.length_cons, List.getD_cons_zero, List.getD_cons_succ, List.drop_succ_cons, List.drop_zero]
    have hv : (v == 0) = (v.toNat == 0) := by
      rw [Bool.eq_iff_iff]; simp [← UInt8.toNat_inj]
    rw [hv]
    -- the model's three refusals are the negations of the spec's three conjuncts
    have e1 : (decide (prog.length + 1 + 1 < 4) || decide (prog.length + 1 + 1 > 42)) =
        !(decide (4 ≤ prog.length + 1 + 1) && decide (prog.length + 1 + 1 ≤ 42)) := by
      rw [Bool.eq_iff_iff]; simp; omega
    have e2 : (v.toNat != 0 && (decide (v.toNat < 0x51) || decide (v.toNat > 0x60))) =
        !(v.toNat == 0 || decide (0x51 ≤ v.toNat) && decide (v.toNat ≤ 0x60)) := by
      rw [Bool.eq_iff_iff]; simp
    have e3 : decide (l.toNat + 2 = prog.length + 1 + 1) = (l.toNat == prog.length) := by
      rw [Bool.eq_iff_iff]; simp
    simp only [e1, e2, ← e3]
    generalize (decide (4 ≤ prog.length + 1 + 1) && decide (prog.length + 1 + 1 ≤ 42)) = A
    generalize (v.toNat == 0 || decide (0x51 ≤ v.toNat) && decide (v.toNat ≤ 0x60)) = B
    by_cases hC : l.toNat + 2 = prog.length + 1 + 1 <;> cases A <;> cases B <;> simp [hC]

/-- the bare-witness / P2SH-witness step of the model's VerifyTxScript -/
def mWit (O : Oracles) (tx : TxCtx) (flags : Nat) (scr : Bytes) (mm isP2sh had0 : Bool) (stack : Stack) : Res (Bool × Stack) :=
  if has flags VER_WITNESS then
    match isWitnessProgram scr with
    | some (ver, prog) =>
      if mm then .fail
      else do
        verifyWitnessProgram O tx (if has flags VER_WITNESS then tx.witness else []) ver prog flags isP2sh
        let s ← resize1 stack
        pure (true, s)
    | none => pure (had0, stack)
  else pure (had0, stack)

/-- what a witness-program step leaves: whether a witness program has been seen so far, and a stack of the size the
    CLEANSTACK rule looks at -/
def WRel (had0 : Bool) (stack : Stack) (p : Bool × Stack) (hadw : Bool) : Prop :=
  p.1 = (had0 || hadw) ∧ p.2.length = if hadw then 1 else stack.length

theorem wstep_agree (T : TotalOracles) (tx : TxCtx) (flags : Nat) (scr : Bytes) (mm malleated : Bool) (err : ScriptSpec.ScriptError)
    (isP2sh had0 : Bool) (stack : Stack) (hT : TapSigHashOk T tx) (hq : NopsOk flags) (hne : stack ≠ [])
    (hmal : ∀ vp, ScriptSpec.witnessProgram? scr = some vp → mm = malleated) :
    Sim (WRel had0 stack) (mWit T.toOracles tx flags scr mm isP2sh had0 stack)
      (ScriptSpec.witnessStep T.toOracles tx (ScriptSpec.Flags.ofMask flags) {} scr malleated err isP2sh) := by
  have none : Sim (WRel had0 stack) (pure (had0, stack)) (pure false) := Sim.ok ⟨by simp, rfl⟩
  unfold ScriptSpec.witnessStep mWit
  rw [← flag_witness, isWitnessProgram_eq]
  by_cases hw : has flags VER_WITNESS = true
  · simp only [hw, ↓reduceIte, Bool.not_true, Bool.false_eq_true]
    rcases hwp : ScriptSpec.witnessProgram? scr with _ | ⟨ver, prog⟩
    · exact none
    · rw [hmal _ hwp]
      refine Sim.guard fun _ => (verifyWitnessProgram_agree T tx tx.witness ver prog flags isP2sh hT hq).bind fun _ _ _ _ => ?_
      -- `stack.resize(1)` keeps the bottom element of a non-empty stack
      rw [resize1, List.getLast?_eq_some_getLast hne]
      exact Sim.ok ⟨by simp, rfl⟩
  · simp only [hw, Bool.false_eq_true, ↓reduceIte, Bool.not_false]
    exact none

/-- the test "the top element is true" in front of the rest -/
theorem Sim.topTrue {γ δ : Type} {Q : γ → δ → Prop} {stack : Stack} {e1 e2 : ScriptSpec.ScriptError}
    {K : Res γ} {K' : ScriptSpec.E δ}
    (h : ∀ t r, stack = t :: r → ScriptSpec.castToBool t = true → Sim Q K K') :
    Sim Q (match (generalizing := false) stack with
        | [] => .fail
        | t :: _ => if !bts2bool t then .fail else K)
      (do match stack with
          | [] => throw e1
          | t :: _ => if !ScriptSpec.castToBool t then throw e2
          K') := by
  rcases stack with _ | ⟨t, r⟩
  · exact Sim.fail
  · simp only [bts2bool_eq]
    exact Sim.guard fun hc => h t r rfl (by simpa using hc)

theorem writePutLen_eq (v : Bytes) (h : v.length ≤ 42) : writePutLen v.length ++ v = ScriptSpec.pushEncoding v := by
  unfold writePutLen ScriptSpec.pushEncoding
  simp [show v.length < 0x4c by omega]

theorem witnessProgram_len (s : Bytes) (vp : Nat × Bytes) (h : ScriptSpec.witnessProgram? s = some vp) : s.length ≤ 42 := by
  unfold ScriptSpec.witnessProgram? at h
  match s, h with
  | v :: l :: prog, h =>
    refine Decidable.byContradiction fun hc => ?_
    simp only [hc, decide_false, Bool.and_false, Bool.false_and, Bool.false_eq_true, ↓reduceIte] at h
    cases h

theorem eok_bind {α β : Type} (a : α) (f : α → ScriptSpec.E β) : (Except.ok a >>= f : ScriptSpec.E β) = f a := rfl
theorem eerr_bind {α β : Type} (e : ScriptSpec.ScriptError) (f : α → ScriptSpec.E β) : (Except.error e >>= f : ScriptSpec.E β) = Except.error e := rfl
theorem ethrow_bind {α β : Type} (e : ScriptSpec.ScriptError) (f : α → ScriptSpec.E β) : ((throw e : ScriptSpec.E α) >>= f : ScriptSpec.E β) = Except.error e := rfl
theorem epure_bind {α β : Type} (a : α) (f : α → ScriptSpec.E β) : ((pure a : ScriptSpec.E α) >>= f : ScriptSpec.E β) = f a := rfl

/-- `VerifyTxScript` returns true exactly where Bitcoin's `VerifyScript` raises no error -/
theorem verifyTxScript_agree (T : TotalOracles) (tx : TxCtx) (pk : Bytes) (flags : Nat)
    (hf : ScriptSpec.FlagsOk (ScriptSpec.Flags.ofMask flags)) (hq : NopsOk flags) (hT : TapSigHashOk T tx) :
    Sim Eq (verifyTxScript T.toOracles tx pk flags) (ScriptSpec.verifyScript T.toOracles tx pk (ScriptSpec.Flags.ofMask flags)) := by
  unfold verifyTxScript ScriptSpec.verifyScript
  have hev := fun p st => evalScript_agree_all T tx flags p st .base {} hT hq
  refine Sim.guardIff (by rw [flag_sigpushonly, isPushOnly_eq]) fun _ => (hev tx.sigScript []).bind fun stack1 _ _ h1 => ?_
  subst h1
  refine (hev pk stack1).bind fun stack2 _ hm2 h2 => ?_
  subst h2
  refine Sim.topTrue fun t r hst _ => ?_
  refine (wstep_agree T tx flags pk (tx.sigScript.length != 0) (!tx.sigScript.isEmpty) ScriptSpec.ScriptError.WITNESS_MALLEATED
    false false stack2 hT hq (by simp [hst]) (fun _ _ => by cases tx.sigScript <;> simp)).bind fun p1 had1 _ hw => ?_
  obtain ⟨rfl, hl⟩ : p1.1 = had1 ∧ _ := hw
  obtain ⟨had1, stA⟩ := p1
  simp only at hl ⊢
  -- the P2SH part
  refine Sim.bind (R := fun p q => p.1 = q.1 ∧ p.2.length = q.2) ?_ fun ⟨h2, st2⟩ ⟨had2, n2⟩ _ h => ?_
  · simp -zeta only [← flag_p2sh, ← isPayToScript_eq, ← isPushOnly_eq]
    refine Sim.ite (fun hp => Sim.guard fun _ => ?_) fun _ => Sim.ok ⟨rfl, hl⟩
    simp only [Bool.and_eq_true] at hp
    rcases stack1 with _ | ⟨redeem, rest⟩
    · -- `stackCopy.pop()` on an empty copy is not reached: the P2SH script has failed on the empty stack
      rw [p2sh_on_empty_stack_fails T.toOracles tx flags pk {} hp.2] at hm2
      cases hm2
    · have hl' : (has flags VER_P2SH && decide ((redeem :: rest).length > 0)) = true := by simp [hp.1]
      simp only [hl', ↓reduceIte, pop, Res.ok_bind]
      refine (hev redeem rest).bind fun stack3 _ _ h3 => ?_
      subst h3
      refine Sim.topTrue fun t r hst _ => ?_
      exact (wstep_agree T tx flags redeem (tx.sigScript != writePutLen redeem.length ++ redeem)
        (tx.sigScript != ScriptSpec.pushEncoding redeem) ScriptSpec.ScriptError.WITNESS_MALLEATED_P2SH true had1 stack3 hT hq (by simp [hst])
        (fun vp hvp => by rw [writePutLen_eq redeem (witnessProgram_len redeem vp hvp)])).mapR fun p hadw hw => hw
  -- CLEANSTACK and WITNESS_UNEXPECTED; the two explicit panics need a flag set outside FlagsOk
  obtain ⟨rfl, rfl⟩ : h2 = had2 ∧ st2.length = n2 := h
  obtain ⟨hw, hc, _⟩ := hf
  rw [← flag_witness, ← flag_p2sh] at hw
  rw [← flag_cleanstack, ← flag_p2sh, ← flag_witness] at hc
  simp only [← flag_cleanstack, ← flag_witness]
  have hwe : (tx.witness.length != 0) = !tx.witness.isEmpty := by cases tx.witness <;> simp
  cases hcs : has flags VER_CLEANSTACK
  · cases hwt : has flags VER_WITNESS
    · simp [sim_ok, epure]
    · simp only [hw hwt, hwe, Bool.false_and, Bool.not_true, Bool.and_false, Bool.false_eq_true, ↓reduceIte, Bool.true_and, 
        epure]
      exact Sim.ite (fun _ => Sim.fail) fun _ => Sim.ok rfl
  · simp only [hc hcs, hwe, Bool.not_true, Bool.and_false, Bool.false_eq_true, ↓reduceIte, Bool.true_and, bind, Except.bind, epure]
    exact Sim.ite (fun _ => Sim.fail) fun _ => Sim.ite (fun _ => Sim.fail) fun _ => Sim.ok rfl

end GocoinV.Proofs.C01
