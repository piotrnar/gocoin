/-
  Proofs.C16Trust — the in-memory trusted flag of a key that was added and never marked invalid is the specification's
  latest trusted flag, along every history and every option combination (restarts: LoadBlockIndex reads the flag bit that
  `Disk` ties to the in-memory flag).
-/
import GocoinV.Proofs.C16Listing
namespace GocoinV.BlockDB

def Trust (s : State) (sp : Spec) : Prop :=
  ∀ k e r, AL.get sp.m k = some e → e.tainted = false → AL.get s.index k = some r → r.trusted = e.trusted

theorem trust_change (s s' : State) (sp sp' : Spec) (h : Trust s sp) (k : Key)
    (hidx : ∀ k', k ≠ k' → AL.get s'.index k' = AL.get s.index k')
    (hm : ∀ k', k ≠ k' → AL.get sp'.m k' = AL.get sp.m k')
    (hk : ∀ e' r', AL.get sp'.m k = some e' → e'.tainted = false → AL.get s'.index k = some r' → r'.trusted = e'.trusted) :
    Trust s' sp' := by
  intro k' e r he ht hr
  by_cases hkk : k = k'
  · subst hkk; exact hk e r he ht hr
  · rw [hm k' hkk] at he; rw [hidx k' hkk] at hr; exact h k' e r he ht hr

/-- the record of key `k` is replaced by `r1` -/
theorem trust_update (s s' : State) (sp sp' : Spec) (h : Trust s sp) (k : Key) (r1 : Rec)
    (hidx : ∀ k', AL.get s'.index k' = if k = k' then some r1 else AL.get s.index k')
    (hm : ∀ k', k ≠ k' → AL.get sp'.m k' = AL.get sp.m k')
    (hk : ∀ e', AL.get sp'.m k = some e' → e'.tainted = false → r1.trusted = e'.trusted) : Trust s' sp' := by
  refine trust_change s s' sp sp' h k (fun k' hne => by rw [hidx, if_neg hne]) hm ?_
  intro e' r' he' ht hr'
  rw [hidx, if_pos rfl] at hr'; cases hr'
  exact hk e' he' ht

/-- every primitive transition keeps the trusted flags in step (`hI`: every index key has a map entry — `Disk.idxspec`) -/
theorem Move.trust_inv {env : Env} {s s' : State} {sp sp' : Spec} (m : Move env s sp s' sp') (h : Trust s sp)
    (hI : ∀ k r, AL.get s.index k = some r → ∃ e, AL.get sp.m k = some e) : Trust s' sp' := by
  cases m with
  | touch | pop => exact h
  | olen k r0 n hr =>
    exact trust_update s _ sp sp h k _ (fun k' => AL.get_set _ _ k' _) (fun _ _ => rfl) fun e he ht => h _ e r0 he ht hr
  | trust k r0 _ hr _ off hs =>
    refine trust_update s _ sp sp' h k _ (setBlockFlag_fields s k r0 _).1 off.2 ?_
    intro e' he' _
    obtain ⟨e, he⟩ := hI k r0 hr
    rw [hs e he] at he'; cases he'
    simp
  | spec k _ off hc =>
    refine trust_change s s sp sp' h k (fun _ _ => rfl) off.2 ?_
    intro e' r' he' hte hr'
    obtain ⟨e, he, hte0, _, _, _, ht⟩ := hc (hI k) e' he' hte
    exact ht r' hr' (h k e r' he hte0 hr')
  | drop k _ off hn =>
    refine trust_change s s sp sp' h k (fun _ _ => rfl) off.2 ?_
    intro e' r' he'; rw [hn] at he'; cases he'
  | forget k r0 =>
    refine trust_change s _ sp sp h k (fun k' hne => by simp only [AL.get_del, if_neg hne]) (fun _ _ => rfl) ?_
    intro e r' _ _ hr'
    simp only [AL.get_del, ↓reduceIte] at hr'; cases hr'
  | flagI k r0 p _ _ _ htaint =>
    refine trust_update s _ sp sp h k _ (setBlockFlag_fields s k r0 _).1 (fun _ _ => rfl) ?_
    intro e he hte; rw [htaint e he] at hte; cases hte
  | write b q r0 cbts _ _ hr0 =>
    obtain ⟨_, m2, _⟩ := maybeRoll_facts { s with queue := q, datToWrite := s.datToWrite - b.data.length } cbts.length
    refine trust_change s _ sp sp h b.idx ?_ (fun _ _ => rfl) ?_
    · intro k' hne; unfold writeRecord; simp only [m2, AL.get_set, if_neg hne]
    · intro e r' he ht hr'
      unfold writeRecord at hr'
      simp only [m2, AL.get_set, ↓reduceIte, Option.some.injEq] at hr'
      subst hr'
      exact h b.idx e r0 he ht hr0

/-- the new record carries the trusted flag of the new entry (`hD`: a claimed key is in the index — `Disk.ent`) -/
theorem queued_trust (s : State) (sp sp' : Spec) (h : Trust s sp)
    (hD : ∀ k e, AL.get sp.m k = some e → e.tainted = false → ∃ r, AL.get s.index k = some r)
    (hash : Bytes) (ht tx : Nat) (tr : Bool) (raw : Bytes) (c : List (Key × CacheEnt)) (hnone : AL.get s.index (keyOf hash) = none)
    (off : sp.OffKey sp' (keyOf hash))
    (hn : AL.get sp.m (keyOf hash) = none → AL.get sp'.m (keyOf hash) = some ⟨raw, ht, tx % 2^32, tr, false⟩)
    (hs : ∀ e, AL.get sp.m (keyOf hash) = some e → AL.get sp'.m (keyOf hash) = some { e with trusted := e.trusted || tr }) :
    Trust (s.queued hash ht tx tr raw c) sp' := by
  refine trust_change s _ sp sp' h (keyOf hash) (fun k' hne => by simp only [State.queued, AL.get_set, if_neg hne]) off.2 ?_
  intro e' r' he' hte hr'
  simp only [State.queued, AL.get_set, ↓reduceIte, Option.some.injEq] at hr'
  subst hr'
  rw [(added_entry hn hs fun e he hte => by
    obtain ⟨r, hr⟩ := hD _ e he hte
    rw [hnone] at hr; cases hr).2 e' he' hte]

theorem reopen_trust (env : Env) (hadv : env.advInvalid = true) (s : State) (sp sp' : Spec) (n : Nat) (hT : Trust s sp)
    (hD : Disk env s sp n) (hI : IdxInv s) (hn : n < 2^31) (hm : sp'.m = sp.m) (o : Opts) :
    Trust (reopen env s.fs o).1 sp' := by
  have L := load_linv env hadv s sp n hD hI hn
  intro k e r he ht hr
  rw [hm] at he
  obtain ⟨r0, p0, _, a2, a3, _, a5⟩ := L.l1 k r hr
  obtain ⟨_, md⟩ := hD.mem k r0 p0 a2 a3
  subst a5
  rw [(recOf_fields _ r0 p0 md).2.2.2.2.2.1]
  exact hT k e r0 he ht a2

theorem init_trust : Trust init {} := by
  intro k e r he; simp [AL.get] at he

end GocoinV.BlockDB
