/-
  Proofs.C04Sums — with the MoneyRange checks (`Cfg.current`) no uint64 sum of commitTxs / CheckTransaction wraps.
  Here `settle` (coinbase and ordinary transaction) and `finalChecks` are opened once.
-/
import GocoinV.Proofs.C04Basic
namespace GocoinV.Proofs.C04
open GocoinV GocoinV.Connect

theorem MAX_MONEY_val : MAX_MONEY = 2100000000000000 := by decide

def exactOut (outs : List TxOut) : Nat := (outs.map (·.value)).sum

theorem checkOutValues_exact (outs : List TxOut) (tot : Nat) (ht : tot ≤ MAX_MONEY)
    (h : checkOutValues outs tot = .ok ()) :
    tot + exactOut outs ≤ MAX_MONEY ∧ outs.foldl (fun a o => u64 (a + o.value)) tot = tot + exactOut outs := by
  induction outs generalizing tot with
  | nil => simp [exactOut, ht]
  | cons o r ih =>
    unfold checkOutValues at h
    have hm := MAX_MONEY_val
    by_cases h1 : o.value > MAX_MONEY
    · simp [h1] at h
    · simp only [h1, ↓reduceIte] at h
      have hu : u64 (tot + o.value) = tot + o.value := by unfold u64; omega
      rw [hu] at h
      by_cases h2 : tot + o.value > MAX_MONEY
      · simp [h2] at h
      · simp only [h2, ↓reduceIte] at h
        obtain ⟨ha, hb⟩ := ih (tot + o.value) (by omega) h
        simp only [exactOut, List.map_cons, List.sum_cons, List.foldl_cons] at *
        rw [hu, hb]
        omega

theorem procInput_sum {db : DB} {b : Block} {inp : TxIn} {s s' : St} {a a' : Nat}
    (h : procInput Cfg.current db b inp s a = .ok (s', a')) (ha : a ≤ MAX_MONEY) :
    ∃ s1 v pk so, resolve Cfg.current db b inp s = .ok (s1, v, pk) ∧ s' = { s1 with sigops := so } ∧ a' = a + v
      ∧ a' ≤ MAX_MONEY := by
  obtain ⟨s1, v, pk, so, hr, hs', rfl, hm⟩ := procInput_ok h
  obtain ⟨hv, hs⟩ := hm rfl
  have hu : u64 (a + v) = a + v := by have := MAX_MONEY_val; unfold u64; omega
  exact ⟨s1, v, pk, so, hr, hs', hu, hu ▸ hs⟩

theorem procInputs_sum {db : DB} {b : Block} {ins : List TxIn} {s s' : St} {a a' : Nat}
    (h : procInputs Cfg.current db b ins s a = .ok (s', a')) (ha : a ≤ MAX_MONEY) : a' ≤ MAX_MONEY := by
  induction ins generalizing s a with
  | nil => cases h; exact ha
  | cons i r ih =>
    obtain ⟨s1, a1, hp, h⟩ := procInputs_cons_ok h
    obtain ⟨_, _, _, _, _, _, -, hle⟩ := procInput_sum hp ha
    exact ih h hle

theorem settle_cb_ok {s1 s2 : St} {a o : Nat} (h : settle Cfg.current true s1 a o = .ok s2) : s2 = { s1 with sumOut := o } := by
  simp only [settle, show Cfg.current.moneyRange = true from rfl, ↓reduceIte, Except.ok.injEq] at h
  exact h.symm

theorem settle_current_ok {s1 s2 : St} {a o : Nat} (h : settle Cfg.current false s1 a o = .ok s2)
    (ha : a ≤ MAX_MONEY) (hf : s1.fees ≤ MAX_MONEY) :
    o ≤ a ∧ s2 = { s1 with fees := s1.fees + (a - o) } ∧ s1.fees + (a - o) ≤ MAX_MONEY := by
  have hm := MAX_MONEY_val
  simp only [settle, show Cfg.current.moneyRange = true from rfl, ↓reduceIte, Bool.false_eq_true] at h
  split at h; · cases h
  have hs : sub64 a o = a - o := by unfold sub64; omega
  have hu : u64 (s1.fees + (a - o)) = s1.fees + (a - o) := by unfold u64; omega
  rw [hs, hu] at h
  split at h; · cases h
  cases h; exact ⟨by omega, rfl, by omega⟩

theorem procTx_current {db : DB} {b : Block} {isCb : Bool} {tx : Tx} {s s' : St}
    (h : procTx Cfg.current db b isCb tx s = .ok s') (hf : s.fees ≤ MAX_MONEY) :
    s'.sumIn = s.sumIn ∧ s'.fees ≤ MAX_MONEY := by
  obtain ⟨s1, a, s2, h1, h2, rfl⟩ := procTx_ok h
  cases isCb with
  | true =>
    obtain ⟨rfl, -⟩ := txInputs_cb_ok h1
    obtain rfl := settle_cb_ok h2
    exact ⟨rfl, hf⟩
  | false =>
    obtain ⟨sp, hp, rfl⟩ := txInputs_ok h1
    have ha := procInputs_sum hp (Nat.zero_le _)
    obtain ⟨d, bl, so, rfl⟩ := procInputs_frame hp
    obtain ⟨-, rfl, g⟩ := settle_current_ok h2 ha hf
    exact ⟨rfl, g⟩

theorem procTxs_current {db : DB} {b : Block} {first : Bool} {txs : List Tx} {s s' : St}
    (h : procTxs Cfg.current db b first txs s = .ok s') (hf : s.fees ≤ MAX_MONEY) :
    s'.sumIn = s.sumIn ∧ s'.fees ≤ MAX_MONEY := by
  induction txs generalizing s first with
  | nil => cases h; exact ⟨rfl, hf⟩
  | cons tx r ih =>
    obtain ⟨s1, hp, h⟩ := procTxs_cons_ok h
    obtain ⟨f1, f2⟩ := procTx_current hp hf
    obtain ⟨g1, g2⟩ := ih h f2
    exact ⟨g1.trans f1, g2⟩

theorem commitTxs_sums (db : DB) (b : Block) (s : St) (h : commitTxs Cfg.current db b = .ok s) :
    s.sumIn = getBlockReward b.height ∧ s.fees ≤ MAX_MONEY ∧ s.sumIn + s.fees < 2 ^ 64
    ∧ s.sumOut ≤ getBlockReward b.height + s.fees := by
  have hm := MAX_MONEY_val
  obtain ⟨hp, -, e2, -⟩ := commitTxs_ok h
  obtain ⟨f1, f2⟩ := procTxs_current hp (Nat.zero_le _)
  have hr : getBlockReward b.height ≤ 5000000000 := by
    rw [reward_eq_div]; exact Nat.div_le_self _ _
  have hi : (St.init b).sumIn = getBlockReward b.height := rfl
  have hmr : Cfg.current.moneyRange = true := rfl
  simp only [hmr, ↓reduceIte] at e2
  have hu : u64 (s.sumIn + s.fees) = s.sumIn + s.fees := by unfold u64; omega
  rw [hu] at e2
  refine ⟨by omega, f2, by omega, by omega⟩

theorem commitTxs_sigops (cfg : Cfg) (db : DB) (b : Block) (s : St) (h : commitTxs cfg db b = .ok s) :
    s.sigops ≤ MAX_BLOCK_SIGOPS_COST :=
  (commitTxs_ok h).2.2.2

end GocoinV.Proofs.C04
