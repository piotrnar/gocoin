/-
  Proofs.C04Equiv — the three Lean models that mention CheckTransaction / IsFinal / commitTxs say the same thing: C05's
  two functions (Model/BlockCheck.lean) are C04's (Model/Connect.lean) on the projected transaction, and C06's reduced
  commitTxs (Model/UtxoOps.lean) is the projection of C04's.
    * Model/Connect.lean     (C04, this property): checkTransaction, isFinal, commitTxs with everything in it;
    * Model/BlockCheck.lean  (C05): checkTransaction / isFinal over a parsed-transaction record that keeps only what
                              CheckBlock reads (null flags, script lengths, values) and whose constants are REGENERATED
                              from /repo by gen_c05 (Gen/ConsensusConsts.lean);
    * Model/UtxoOps.lean     (C06): a reduced commitTxs over a map keyed by the whole txid (a number), exact sums,
                              no sigops, no MoneyRange tests, no coinbase-script-length test, plus undo data.
  Whenever C04's `connect` accepts a block, C06's commitTxs accepts the projected block on the projected map and returns
  the projected delete list and add list (`Props.C04.c06_commitTxs_is_projection`, proved there from `c06_procTxs_rest`
  of this module); at the level of one input the two coin look-ups agree in BOTH directions, error kind by error kind.
-/
import GocoinV.Proofs.C04Final
import GocoinV.Model.BlockCheck
import GocoinV.Model.UtxoOps
namespace GocoinV.Proofs.C04
open GocoinV GocoinV.Connect

/-! ## C05: CheckTransaction / IsFinal -/

/-- what C05's parsed-transaction record keeps of a transaction -/
def toBC (tx : Tx) : BlockCheck.Tx :=
  { ins := tx.ins.map fun i => ⟨i.prev.isNull, i.sequence, i.scriptSig.length⟩
    in0Script := (tx.ins.headD default).scriptSig
    outs := tx.outs.map (·.script)
    outValues := tx.outs.map (·.value)
    segwit := none, txid := tx.txid, wtxid := tx.txid
    lockTime := tx.lockTime, noWitSize := tx.noWitSize, size := tx.noWitSize }

/-- C05's error names in C04's vocabulary -/
def ofBCErr : BlockCheck.TxErr → Err
  | .vinEmpty => .vinEmpty | .voutEmpty => .voutEmpty | .oversize => .oversize | .voutTooLarge => .voutTooLarge
  | .totalTooLarge => .txoutTotal | .cbLength => .cbLength | .prevoutNull => .prevoutNull | .nonFinal => .nonFinal

def errOf {α : Type} : Except Err α → Option Err
  | .ok _ => none
  | .error e => some e

theorem c05_constants :
    Gen.ConsensusConsts.MAX_MONEY = MAX_MONEY ∧ Gen.ConsensusConsts.txMaxWeight = MAX_BLOCK_WEIGHT
    ∧ Gen.ConsensusConsts.cbScriptMin = 2 ∧ Gen.ConsensusConsts.cbScriptMax = 100
    ∧ Gen.ConsensusConsts.LOCKTIME_THRESHOLD = LOCKTIME_THRESHOLD := by decide

theorem c05_isCoinBase (tx : Tx) : (toBC tx).isCoinBase = tx.isCoinBase := by
  unfold BlockCheck.Tx.isCoinBase Tx.isCoinBase toBC
  cases tx.ins with
  | nil => rfl
  | cons i r => cases r <;> rfl

theorem c05_checkOutValues (outs : List TxOut) (tot : Nat) :
    (BlockCheck.checkOutValues (outs.map (·.value)) tot).map ofBCErr = errOf (checkOutValues outs tot) := by
  induction outs generalizing tot with
  | nil => rfl
  | cons o r ih =>
    simp only [List.map_cons, BlockCheck.checkOutValues, checkOutValues, c05_constants.1, u64]
    by_cases h1 : o.value > MAX_MONEY
    · simp [h1, errOf, ofBCErr]
    · simp only [h1, ↓reduceIte]
      by_cases h2 : (tot + o.value) % 2 ^ 64 > MAX_MONEY
      · simp [h2, errOf, ofBCErr]
      · simp only [h2, ↓reduceIte]; exact ih _

theorem errOf_cases {α : Type} {o : Option BlockCheck.TxErr} {x : Except Err α} (h : o.map ofBCErr = errOf x) :
    (o = none ∧ ∃ u, x = .ok u) ∨ ∃ e, o = some e ∧ x = .error (ofBCErr e) := by
  cases o <;> cases x <;> simp_all [errOf]

/-- **C05's `checkTransaction` is C04's** (Cfg.current) on the projected transaction: same verdict, same error. -/
theorem c05_checkTransaction_eq (tx : Tx) :
    (BlockCheck.checkTransaction (toBC tx)).map ofBCErr = errOf (checkTransaction Cfg.current tx) := by
  have hc := c05_constants
  have hcb := c05_isCoinBase tx
  have hov := c05_checkOutValues tx.outs 0
  unfold BlockCheck.checkTransaction checkTransaction
  simp only [hcb]
  simp only [toBC, List.length_map, hc.2.1, hc.2.2.1, hc.2.2.2.1, u32, bind, Except.bind, pure, Except.pure,
    throw, throwThe, MonadExceptOf.throw, List.isEmpty_iff, List.length_eq_zero_iff] at hov ⊢
  by_cases h1 : tx.ins = []
  · simp [h1, errOf, ofBCErr]
  · by_cases h2 : tx.outs = []
    · simp [h1, h2, errOf, ofBCErr]
    · by_cases h3 : tx.noWitSize * 4 % 2 ^ 32 > MAX_BLOCK_WEIGHT
      · simp [h1, h2, h3, errOf, ofBCErr]
      · have hmr : Cfg.current.moneyRange = true := rfl
        simp only [h1, h2, h3, hmr, ↓reduceIte]
        rcases errOf_cases hov with ⟨hb, u, hco⟩ | ⟨e', hb, hco⟩ <;> rw [hb, hco]
        · cases hcbx : tx.isCoinBase with
          | true =>
            obtain ⟨i, r, hi⟩ := List.exists_cons_of_ne_nil h1
            simp only [hi, List.map_cons, List.headD_cons, ↓reduceIte]
            by_cases hl : i.scriptSig.length < 2 ∨ i.scriptSig.length > 100 <;> simp [hl, errOf, ofBCErr]
          | false =>
            simp only [Bool.false_eq_true, ↓reduceIte, List.any_map, Function.comp_def]
            cases tx.ins.any fun x => x.prev.isNull <;> simp [errOf, ofBCErr]
        · simp [errOf]

theorem c05_isFinal_eq (tx : Tx) (height time : Nat) :
    BlockCheck.isFinal (toBC tx).lockTime ((toBC tx).ins.map (·.seq)) height time = isFinal tx height time := by
  unfold BlockCheck.isFinal isFinal toBC
  simp only [c05_constants.2.2.2.2, List.map_map, List.all_map]
  by_cases h1 : tx.lockTime < LOCKTIME_THRESHOLD
  · simp [h1, Nat.not_le.mpr h1]; rfl
  · simp [h1, Nat.not_lt.mp h1]; rfl

/-- what one goroutine of CheckTransactions reports (C05: `checkOneTx`) is what one step of C04's `checkBlockTxs` loop
    throws -/
theorem c05_checkOneTx_eq (tx : Tx) (height time : Nat) :
    (BlockCheck.checkOneTx (toBC tx) height time).map ofBCErr
      = errOf (do checkTransaction Cfg.current tx; if !isFinal tx height time then throw Err.nonFinal : Except Err Unit) := by
  unfold BlockCheck.checkOneTx
  have h2 := c05_isFinal_eq tx height time
  rcases errOf_cases (c05_checkTransaction_eq tx) with ⟨hb, u, hc⟩ | ⟨e', hb, hc⟩ <;> rw [hb, hc]
  · simp only [h2, bind, Except.bind]
    cases isFinal tx height time <;> simp [errOf, ofBCErr, throw, throwThe, MonadExceptOf.throw, pure, Except.pure]
  · simp [errOf, bind, Except.bind]

/-! ## C06: commitTxs

  `enc` turns a txid into the number C06's model uses as a key (any injective coding), `encS` a script into C06's opaque
  script text (any function: C06 never looks inside a script). -/

section C06
variable (enc : Bytes → Nat) (encS : Bytes → String)

def pOut (o : TxOut) : UtxoOps.Out := ⟨o.value, encS o.script⟩
def pOuts (l : List (Option TxOut)) : List (Option UtxoOps.Out) := l.map (Option.map (pOut encS))
def pRec (r : Rec) : UtxoOps.Rec := ⟨enc r.txid, r.height, r.coinbase, pOuts encS r.outs⟩
def pDB (db : DB) : UtxoOps.DB := db.map fun kr => pRec enc encS kr.2
def pIn (i : TxIn) : UtxoOps.TxIn := ⟨enc i.prev.hash, i.prev.vout⟩
def pTx (tx : Tx) : UtxoOps.Tx := ⟨enc tx.txid, tx.ins.map (pIn enc), tx.outs.map (pOut encS), tx.ins.all (·.scriptOk)⟩
def pDeled (d : List (Bytes × List Bool)) : List (Nat × List Bool) := d.map fun p => (enc p.1, p.2)
def pBl (l : List (Bytes × (Bool × List (Option TxOut)))) : List (Nat × (List (Option UtxoOps.Out) × Bool)) :=
  l.map fun p => (enc p.1, (pOuts encS p.2.2, p.2.1))

/-- the error kinds the two models share (C06 has no name for C04's sigop / MoneyRange / script-length errors) -/
def pErr : Err → UtxoOps.Err
  | .voutTooBig => .spentVoutTooBig | .doubleSpend => .doubleSpend | .unknownInput => .unknownInput
  | .voutTooBig2 => .voutTooBig | .alreadySpent => .voutAlreadySpent | .ownCoinbase => .ownCoinbase
  | .immature => .immature | .moreSpent => .moreSpent | .scripts => .scripts | .cbTooMuch => .outGtIn
  | _ => .noCoinbase

/-- the part of commitTxs' locals the two models share -/
def RelC06 (s : St) (c : UtxoOps.CState) : Prop :=
  c.deled = pDeled enc s.deled ∧ c.blUnsp = pBl enc encS s.blUnsp

variable {enc} {encS}

theorem alookup_map {β γ : Type} (henc : ∀ a b, enc a = enc b → a = b) (f : β → γ) (l : List (Bytes × β)) (h : Bytes) :
    UtxoOps.alookup (enc h) (l.map fun p => (enc p.1, f p.2)) = (aGet l h).map f := by
  induction l with
  | nil => rfl
  | cons p r ih =>
    obtain ⟨a, x⟩ := p
    simp only [List.map_cons, UtxoOps.alookup, aGet, beq_iff_eq]
    by_cases hk : a = h
    · simp [hk]
    · have : enc a ≠ enc h := fun e => hk (henc _ _ e)
      simp [hk, this, ih]

theorem aset_map {β γ : Type} (henc : ∀ a b, enc a = enc b → a = b) (f : β → γ) (l : List (Bytes × β)) (h : Bytes) (v : β) :
    UtxoOps.aset (enc h) (f v) (l.map fun p => (enc p.1, f p.2)) = (aSet l h v).map fun p => (enc p.1, f p.2) := by
  induction l with
  | nil => rfl
  | cons p r ih =>
    obtain ⟨a, x⟩ := p
    simp only [List.map_cons, UtxoOps.aset, aSet, beq_iff_eq]
    by_cases hk : a = h
    · simp [hk]
    · have : enc a ≠ enc h := fun e => hk (henc _ _ e)
      simp [hk, this, ih]

theorem pDB_get (henc : ∀ a b, enc a = enc b → a = b) (db : DB) (hwf : WF db) (h : Bytes) :
    UtxoOps.DB.get (pDB enc encS db) (enc h) =
      match aGet db (key8 h) with
      | some r => if r.txid = h then some (pRec enc encS r) else none
      | none => none := by
  obtain ⟨hf, hn⟩ := hwf
  induction db with
  | nil => rfl
  | cons p rest ih =>
    obtain ⟨k, r⟩ := p
    have hk : k = key8 r.txid := hf (k, r) (by simp)
    have hn' : k ∉ keys rest ∧ (keys rest).Nodup := by simpa [keys] using hn
    have ih' := ih (fun kr hkr => hf kr (by simp [hkr])) hn'.2
    simp only [pDB, List.map_cons, UtxoOps.DB.get, List.find?_cons, aGet] at ih' ⊢
    by_cases ht : r.txid = h
    · subst ht
      simp [pRec, hk]
    · have hne : enc r.txid ≠ enc h := fun e => ht (henc _ _ e)
      have hb : ((pRec enc encS r).txid == enc h) = false := by simp [pRec, hne]
      rw [hb]
      by_cases hkk : k = key8 h
      · have hnone : aGet rest (key8 h) = none := (aGet_none_iff rest _).mpr (hkk ▸ hn'.1)
        rw [hnone] at ih'
        simp [hkk, ht, ih']
      · simp [hkk, ih']

theorem pOuts_getD (l : List (Option TxOut)) (v : Nat) :
    (pOuts encS l)[v]? = (l[v]?).map (Option.map (pOut encS)) := by
  simp [pOuts]

/-! C06's `procInput` (written with `do`) in the shape of C04's `resolve`: two plain functions (the early check is C04's `earlyCheck` with the errors renamed) -/

def uFromBlock (st : UtxoOps.CState) (i : UtxoOps.TxIn) : Except UtxoOps.Err (UtxoOps.CState × Nat) :=
  match UtxoOps.alookup i.txid st.blUnsp with
  | none => .error .unknownInput
  | some (t, wasCb) =>
    if i.vout ≥ t.length then .error .voutTooBig
    else match t.getD i.vout none with
      | none => .error .voutAlreadySpent
      | some o =>
        if wasCb then .error .ownCoinbase
        else .ok ({ st with blUnsp := UtxoOps.aset i.txid (t.set i.vout none, wasCb) st.blUnsp }, o.value)

def uFromDb (height : Nat) (st : UtxoOps.CState) (i : UtxoOps.TxIn) (r : UtxoOps.Rec) (o : UtxoOps.Out) :
    Except UtxoOps.Err (UtxoOps.CState × Nat) :=
  if r.coinbase && height - r.height < UtxoOps.COINBASE_MATURITY then .error .immature
  else
    let m := ((UtxoOps.alookup i.txid st.deled).getD (List.replicate r.outs.length false)).set i.vout true
    let undo := UtxoOps.recSet i.txid (fun u => { u with outs := u.outs.set i.vout (some o) })
      (fun _ => { txid := i.txid, height := r.height, coinbase := r.coinbase, outs := List.replicate r.outs.length none })
      st.undo
    .ok ({ st with deled := UtxoOps.aset i.txid m st.deled, undo := undo }, o.value)

theorem uProcInput_eq (db : UtxoOps.DB) (height : Nat) (st : UtxoOps.CState) (i : UtxoOps.TxIn) :
    UtxoOps.procInput db height st i =
      match (earlyCheck (UtxoOps.alookup i.txid st.deled) i.vout).map pErr with
      | some e => .error e
      | none =>
        match UtxoOps.unspentGet db i.txid i.vout with
        | none => uFromBlock st i
        | some (r, o) => uFromDb height st i r o := by
  unfold UtxoOps.procInput earlyCheck uFromBlock uFromDb
  simp only [bind, Except.bind, pure, Except.pure, throw, throwThe, MonadExceptOf.throw]
  cases UtxoOps.alookup i.txid st.deled
  case' some m =>
    by_cases h0 : i.vout ≥ m.length
    · simp [h0, pErr]
    simp only [h0, ↓reduceIte]
    cases m.getD i.vout false
    case true => rfl
    simp only [Bool.false_eq_true, ↓reduceIte]
  all_goals
    cases UtxoOps.unspentGet db i.txid i.vout with
    | some p => rfl
    | none =>
      cases UtxoOps.alookup i.txid st.blUnsp with
      | none => rfl
      | some p =>
        obtain ⟨t, wasCb⟩ := p
        by_cases h1 : i.vout ≥ t.length
        · simp [h1]
        · simp only [h1, ↓reduceIte]
          cases t.getD i.vout none with
          | none => rfl
          | some o => cases wasCb <;> simp

theorem pOuts_set (l : List (Option TxOut)) (v : Nat) : pOuts encS (l.set v none) = (pOuts encS l).set v none := by
  simp [pOuts, List.map_set]

theorem fromBlock_proj (henc : ∀ a b, enc a = enc b → a = b) (s : St) (c : UtxoOps.CState) (hR : RelC06 enc encS s c)
    (h : Bytes) (v : Nat) :
    match fromBlock s h v with
    | .error e => uFromBlock c ⟨enc h, v⟩ = .error (pErr e)
    | .ok (s1, val, _) => ∃ c1, uFromBlock c ⟨enc h, v⟩ = .ok (c1, val) ∧ RelC06 enc encS s1 c1 := by
  obtain ⟨hd, hbl⟩ := hR
  have hlb : UtxoOps.alookup (enc h) c.blUnsp = (aGet s.blUnsp h).map (fun p => (pOuts encS p.2, p.1)) := by
    rw [hbl]; unfold pBl
    exact alookup_map (enc := enc) henc (fun (p : Bool × List (Option TxOut)) => (pOuts encS p.2, p.1)) s.blUnsp h
  unfold fromBlock uFromBlock
  simp only [hlb]
  cases hg : aGet s.blUnsp h with
  | none => simp [pErr]
  | some p =>
    obtain ⟨cb, t⟩ := p
    simp only [Option.map_some]
    have hlen : (pOuts encS t).length = t.length := by simp [pOuts]
    rw [hlen]
    by_cases h1 : v ≥ t.length
    · simp [h1, pErr]
    · simp only [h1, ↓reduceIte]
      have hgd : (pOuts encS t).getD v none = (t.getD v none).map (pOut encS) := by
        simp [pOuts, List.getD_eq_getElem?_getD]
        cases t[v]? <;> simp
      rw [hgd]
      cases ho : t.getD v none with
      | none => simp [pErr]
      | some o =>
        simp only [Option.map_some]
        cases cb with
        | true => simp [pErr]
        | false =>
          simp only [Bool.false_eq_true, ↓reduceIte]
          refine ⟨_, rfl, ?_, ?_⟩
          · exact hd
          · simp only [hbl]
            rw [← pOuts_set]
            exact aset_map (enc := enc) henc (fun (p : Bool × List (Option TxOut)) => (pOuts encS p.2, p.1)) s.blUnsp h (false, t.set v none)

theorem pDeled_get (henc : ∀ a b, enc a = enc b → a = b) (d : List (Bytes × List Bool)) (h : Bytes) :
    UtxoOps.alookup (enc h) (pDeled enc d) = aGet d h := by
  simpa [pDeled] using alookup_map (enc := enc) henc (fun (x : List Bool) => x) d h

theorem fromDb_proj (henc : ∀ a b, enc a = enc b → a = b) (b : Block) (s : St) (c : UtxoOps.CState)
    (hR : RelC06 enc encS s c) (h : Bytes) (v : Nat) (r : Rec) (o : TxOut) (hrh : r.height ≤ b.height) (hb : b.height < 2 ^ 32) :
    match fromDb b s h v ⟨o.value, o.script, r.height, r.outs.length, r.coinbase⟩ with
    | .error e => uFromDb b.height c ⟨enc h, v⟩ (pRec enc encS r) (pOut encS o) = .error (pErr e)
    | .ok (s1, val, _) => ∃ c1, uFromDb b.height c ⟨enc h, v⟩ (pRec enc encS r) (pOut encS o) = .ok (c1, val) ∧ RelC06 enc encS s1 c1 := by
  obtain ⟨hd, hbl⟩ := hR
  have hlk : UtxoOps.alookup (enc h) c.deled = aGet s.deled h := hd ▸ pDeled_get henc _ _
  unfold fromDb uFromDb
  have hmat : (sub32 b.height r.height < COINBASE_MATURITY) = (b.height - r.height < UtxoOps.COINBASE_MATURITY) := by
    rw [sub32_eq hrh hb]; rfl
  simp only [pRec, pOut, hlk]
  have hlen : (pOuts encS r.outs).length = r.outs.length := by simp [pOuts]
  rw [hlen]
  by_cases hi : r.coinbase = true ∧ sub32 b.height r.height < COINBASE_MATURITY
  · simp only [hi, and_self, ↓reduceIte]
    split
    · rfl
    · rename_i hc
      rw [hmat] at hi
      simp [hi.2] at hc
  · simp only [hi, ↓reduceIte]
    split
    · rename_i hc
      rw [hmat] at hi
      simp only [Bool.and_eq_true] at hc
      exact absurd ⟨hc.1, of_decide_eq_true hc.2⟩ hi
    refine ⟨_, rfl, ?_, ?_⟩
    · simp only [hd]
      have hm : (aGet s.deled h).getD (List.replicate r.outs.length false)
          = (match aGet s.deled h with | some m => m | none => List.replicate r.outs.length false) := by
        cases aGet s.deled h <;> rfl
      rw [hm]
      unfold pDeled
      exact aset_map (enc := enc) henc (fun (x : List Bool) => x) s.deled h _
    · exact hbl

/-- **one input**: C06's `procInput` on the projected map and locals does what C04's coin look-up `resolve` does —
    same error kind when it fails, same value and corresponding locals when it succeeds. -/
theorem c06_procInput_projection (henc : ∀ a b, enc a = enc b → a = b) (db : DB) (hwf : WF db) (b : Block)
    (hh : ∀ k r, aGet db k = some r → r.height ≤ b.height) (hb : b.height < 2 ^ 32)
    (inp : TxIn) (s : St) (c : UtxoOps.CState) (hR : RelC06 enc encS s c) :
    match resolve Cfg.current db b inp s with
    | .error e => UtxoOps.procInput (pDB enc encS db) b.height c (pIn enc inp) = .error (pErr e)
    | .ok (s1, v, _) => ∃ c1, UtxoOps.procInput (pDB enc encS db) b.height c (pIn enc inp) = .ok (c1, v) ∧ RelC06 enc encS s1 c1 := by
  have hlk : UtxoOps.alookup (enc inp.prev.hash) c.deled = aGet s.deled inp.prev.hash := hR.1 ▸ pDeled_get henc _ _
  have hfb := fromBlock_proj henc s c hR inp.prev.hash inp.prev.vout
  have hget := pDB_get (enc := enc) (encS := encS) henc db hwf inp.prev.hash
  rw [uProcInput_eq]
  unfold resolve
  simp only [pIn, hlk]
  cases hearly : earlyCheck (aGet s.deled inp.prev.hash) inp.prev.vout with
  | some e => simp
  | none =>
    simp only [Option.map_none]
    unfold UtxoOps.unspentGet unspentGet
    rw [hget]
    have hfull : Cfg.current.fullTxid = true := rfl
    cases hdb : aGet db (key8 inp.prev.hash) with
    | none => exact hfb
    | some r =>
      simp only [hfull, true_and]
      by_cases ht : r.txid = inp.prev.hash
      · simp only [ht, ne_eq, not_true_eq_false, ↓reduceIte]
        have hidx : (pRec enc encS r).outs[inp.prev.vout]? = (r.outs[inp.prev.vout]?).map (Option.map (pOut encS)) :=
          pOuts_getD r.outs inp.prev.vout
        rw [hidx, List.getD_eq_getElem?_getD]
        cases ho : r.outs[inp.prev.vout]? with
        | none =>
          simp only [Option.getD_none, Option.map_none]
          exact hfb
        | some oo =>
          cases oo with
          | none =>
            simp only [Option.getD_some, Option.map_some, Option.map_none]
            exact hfb
          | some o =>
            simp only [Option.getD_some, Option.map_some]
            exact fromDb_proj henc b s c hR inp.prev.hash inp.prev.vout r o (hh _ r hdb) hb
      · simp only [ht, ne_eq, not_false_eq_true, ↓reduceIte]
        exact hfb

theorem c06_procInputs_projection (henc : ∀ a b, enc a = enc b → a = b) {db : DB} (hwf : WF db) {b : Block}
    {ins : List TxIn} {s s' : St} {c : UtxoOps.CState} {a a' : Nat}
    (h : procInputs Cfg.current db b ins s a = .ok (s', a'))
    (hh : ∀ k r, aGet db k = some r → r.height ≤ b.height) (hb : b.height < 2 ^ 32)
    (hR : RelC06 enc encS s c) (ha : a ≤ MAX_MONEY) :
    ∃ c' sv, UtxoOps.procInputs (pDB enc encS db) b.height c (ins.map (pIn enc)) = .ok (c', sv)
      ∧ a' = a + sv ∧ a' ≤ MAX_MONEY ∧ RelC06 enc encS s' c' := by
  induction ins generalizing s c a with
  | nil => cases h; exact ⟨c, 0, rfl, rfl, ha, hR⟩
  | cons i r ih =>
    obtain ⟨s1, a1, hp, h⟩ := procInputs_cons_ok h
    obtain ⟨s0, v, pk, so, hr, rfl, rfl, hle⟩ := procInput_sum hp ha
    have hproj := c06_procInput_projection (encS := encS) henc db hwf b hh hb i s c hR
    rw [hr] at hproj
    obtain ⟨c1, hc1, hR1⟩ := hproj
    obtain ⟨c', sv, hcs, rfl, hles, hR'⟩ := ih h hR1 hle
    refine ⟨c', v + sv, ?_, Nat.add_assoc .., hles, hR'⟩
    simp only [List.map_cons, UtxoOps.procInputs, hc1, hcs, bind, Except.bind, pure, Except.pure]

theorem uSumOuts (outs : List TxOut) : UtxoOps.sumOuts (outs.map (pOut encS)) = exactOut outs := by
  unfold UtxoOps.sumOuts exactOut
  simp [pOut, List.map_map, Function.comp_def]

theorem pBl_aSet (henc : ∀ a b, enc a = enc b → a = b) (bl : List (Bytes × (Bool × List (Option TxOut)))) (tx : Tx) (isCb : Bool) :
    UtxoOps.aset (enc tx.txid) ((tx.outs.map (pOut encS)).map some, isCb) (pBl enc encS bl)
      = pBl enc encS (aSet bl tx.txid (isCb, tx.outs.map some)) := by
  unfold pBl
  have := aset_map (enc := enc) henc (fun (p : Bool × List (Option TxOut)) => (pOuts encS p.2, p.1)) bl tx.txid (isCb, tx.outs.map some)
  simp only [pOuts, List.map_map] at this ⊢
  exact this

/-- the transaction loop, for the transactions after the coinbase -/
theorem c06_procTxs_rest (henc : ∀ a b, enc a = enc b → a = b) {db : DB} (hwf : WF db) {b : Block}
    {txs : List Tx} {s s' : St} {c : UtxoOps.CState} (h : procTxs Cfg.current db b false txs s = .ok s')
    (hh : ∀ k r, aGet db k = some r → r.height ≤ b.height) (hb : b.height < 2 ^ 32)
    (hR : RelC06 enc encS s c) (hf : s.fees ≤ MAX_MONEY)
    (hex : ∀ tx ∈ txs, sumOuts tx.outs = exactOut tx.outs) :
    ∃ c' sin sout ok, UtxoOps.procTxs (pDB enc encS db) b.height false c (txs.map (pTx enc encS)) = .ok (c', sin, sout, ok)
      ∧ RelC06 enc encS s' c' ∧ s'.scriptBad = (s.scriptBad || !ok)
      ∧ s'.fees + sout = s.fees + sin ∧ s'.sumOut = s.sumOut := by
  induction txs generalizing s c with
  | nil => cases h; exact ⟨c, 0, 0, true, rfl, hR, by simp, rfl, rfl⟩
  | cons tx r ih =>
    obtain ⟨s2, hp, h⟩ := procTxs_cons_ok h
    obtain ⟨s1, a0, s1b, hti, hst, rfl⟩ := procTx_ok hp
    obtain ⟨sp, hpi, rfl⟩ := txInputs_ok hti
    obtain ⟨c1, sv, hc1, hsv, ha0, hR1⟩ := c06_procInputs_projection (encS := encS) henc hwf hpi hh hb hR (Nat.zero_le _)
    obtain rfl : a0 = sv := by omega
    obtain ⟨d, bl, so, rfl⟩ := procInputs_frame hpi
    have hexo : sumOuts tx.outs = exactOut tx.outs := hex tx (List.mem_cons_self ..)
    obtain ⟨hle, rfl, hf2⟩ := settle_current_ok hst ha0 hf
    obtain ⟨c', sin, sout, ok, hrest, hR', hsb, hfees, hsum⟩ :=
      ih (c := { c1 with blUnsp := UtxoOps.aset (enc tx.txid) ((tx.outs.map (pOut encS)).map some, false) c1.blUnsp }) h
        ⟨hR1.1, by simp only [hR1.2]; exact pBl_aSet henc _ tx false⟩ hf2 (fun t ht => hex t (List.mem_cons_of_mem _ ht))
    refine ⟨c', a0 + sin, exactOut tx.outs + sout, (tx.ins.all (·.scriptOk)) && ok, ?_, hR', ?_, ?_, hsum⟩
    · simp only [List.map_cons, UtxoOps.procTxs, pTx, hc1, uSumOuts, bind, Except.bind, pure, Except.pure,
        Bool.false_eq_true, ↓reduceIte, Bool.not_false, Bool.true_and, Bool.false_or]
      have : ¬ exactOut tx.outs > a0 := by rw [← hexo]; omega
      simp only [decide_eq_true_eq, this, ↓reduceIte, hrest]
    · rw [hsb, ← List.not_all_eq_any_not]
      cases s.scriptBad <;> cases (tx.ins.all fun i => i.scriptOk) <;> cases ok <;> rfl
    · simp only [] at hfees ⊢; rw [hexo] at hfees hle; omega

theorem addList_proj (b : Block) (s : St) :
    UtxoOps.addListOf b.height (pBl enc encS s.blUnsp) = (addList b s).map (pRec enc encS) := by
  unfold UtxoOps.addListOf pBl addList
  rw [List.filterMap_map, List.map_filterMap]
  congr 1; funext ⟨k, cb, outs⟩
  have hany : (pOuts encS outs).any Option.isSome = outs.any Option.isSome := by
    unfold pOuts
    rw [List.any_map]
    congr 1; funext o; cases o <;> rfl
  simp only [Function.comp_apply, hany]
  cases outs.any Option.isSome <;> rfl

end C06

/-! ## an injective coding of txids (so that the projection theorems are not vacuous in `enc`) -/

/-- an injective numeration in base 257: digits 1..256, most significant digit last -/
def encBytes : Bytes → Nat
  | [] => 0
  | x :: r => encBytes r * 257 + x.toNat + 1

theorem encBytes_inj : ∀ a b : Bytes, encBytes a = encBytes b → a = b
  | [], [], _ => rfl
  | [], y :: s, h => by simp only [encBytes] at h; omega
  | x :: r, [], h => by simp only [encBytes] at h; omega
  | x :: r, y :: s, h => by
    simp only [encBytes] at h
    have hx := x.toNat_lt
    have hy := y.toNat_lt
    have h1 : x.toNat = y.toNat := by omega
    have h2 : encBytes r = encBytes s := by omega
    rw [UInt8.toNat_inj.mp h1, encBytes_inj r s h2]

end GocoinV.Proofs.C04
