/-
  Proofs.C02Tail — `evalScript_bad`, the lemma behind `Props.C02.tail_irrelevant` (DESIGN §6 C02 (d)): a script with a decode error never evaluates to true in
  C01's model of gocoin's interpreter (Model/ScriptEval.lean), whatever the stack, flags, signature version and
  oracle instance — so wherever gocoin's `SignatureHash` drops the undecodable tail of a script code (`break`)
  and the original algorithm keeps part of it, the verdict of the caller is already `false`. Core only.
-/
import GocoinV.Proofs.C01Decode
namespace GocoinV.Proofs.C02T
open GocoinV GocoinV.Script GocoinV.Proofs.C01

theorem bind_ne_ok {α β : Type} (x : Res α) (f : α → Res β) (h : ∀ a, x = .ok a → ∀ b, f a ≠ .ok b) :
    ∀ b, (x >>= f) ≠ .ok b := by
  intro b
  cases x with
  | ok a => simpa using h a rfl b
  | fail | panic | need q => simp

theorem evalLoop_bad (c : Ctx) : ∀ (f : Nat) (rest : Bytes) (pos : Nat) (st : St),
    (ScriptSpec.parseAux f rest).2 = true → ∀ s, evalLoop c f rest pos st ≠ .ok s := by
  intro f
  induction f with
  | zero =>
    intro rest pos st h s
    simp only [ScriptSpec.parseAux, Bool.not_eq_true'] at h
    simp [evalLoop, h]
  | succ f ih =>
    intro rest pos st h s
    unfold evalLoop
    by_cases he : rest.isEmpty = true
    · simp [ScriptSpec.parseAux, he] at h
    · simp only [he, Bool.false_eq_true, ↓reduceIte]
      cases hg : getOpcode rest with
      | none => simp
      | some op =>
        obtain ⟨i, hp, _, _, hafter, _, _, _⟩ := parseOne_of_getOpcode hg
        have hb : (ScriptSpec.parseAux f (rest.drop op.n)).2 = true := by
          simp only [ScriptSpec.parseAux, he, Bool.false_eq_true, ↓reduceIte, hp] at h
          rw [← hafter]; exact h
        exact bind_ne_ok _ _ (fun st' _ b => ih (rest.drop op.n) (pos + 1) st' hb b) s

theorem evalScript_bad (O : Oracles) (tx : TxCtx) (flags : Nat) (p : Bytes) (stack : Stack) (sv : SigVersion)
    (ed : ExecData) (h : (ScriptSpec.parse p).2 = true) : ∀ s, evalScript O tx flags p stack sv ed ≠ .ok s := by
  intro s
  unfold evalScript
  split
  · simp
  · intro hr
    have rp : ∀ r : Res Stack, recoverPanic r = .ok s → r = .ok s := fun r => by cases r <;> simp [recoverPanic]
    refine bind_ne_ok _ _ (fun a ha => ?_) s (rp _ hr)
    exact absurd ha (evalLoop_bad _ _ _ _ _ h a)

end GocoinV.Proofs.C02T
