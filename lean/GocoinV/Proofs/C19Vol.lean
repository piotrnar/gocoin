/-
  Proofs.C19Vol — volatile stores across reopen. A volatile store performs no file operation between NewDBExt and
  Close; it is shadowed by the non-volatile store with the same fields in which every changed key is pending and
  never synced (`ghost`), so that the disk invariants of the non-volatile analysis carry over. Close of a changed
  volatile store is a defrag. `OpOK3` is `OpOK2` (Proofs/C19ReopenRun) with the reopen in either mode.
-/
import GocoinV.Proofs.C19Hist
namespace GocoinV.Proofs.C19
open GocoinV GocoinV.Qdb GocoinV.QdbSpec

variable {eg : Bool}

/-- the non-volatile store that shadows a volatile one: same fields, the changed keys `P` pending -/
def ghost (db : DB) (P : List Key) : DB := { db with volatile := false, pending := P }

/-- invariant of an open volatile store -/
structure VInv (db : DB) : Prop where
  vol : db.volatile = true
  gh : ∃ P, Inv3 (ghost db P) ∧ (db.noSync = false → P = [])

theorem VInv.cached {db : DB} (h : VInv db) : Cached db := by
  obtain ⟨P, h3, _⟩ := h.gh
  exact h3.inv.cached

theorem VInv.disk {db : DB} (h : VInv db) (hns : db.noSync = false) (k : Key) : diskValue db.fs k = vals db k := by
  obtain ⟨P, h3, hP⟩ := h.gh
  have hP0 : P = [] := hP hns
  subst hP0
  exact diskValue_of_inv (ghost db []) h3.inv rfl k

theorem vinv_effs {db : DB} (h : VInv db) (e : List (String × Effect)) : VInv { db with effs := e } := by
  obtain ⟨P, h3, hp⟩ := h.gh
  exact ⟨h.vol, P, inv3_effs _ h3 e, hp⟩

/-- the invariant of an open store, non-volatile or volatile -/
def SInv (db : DB) : Prop := Inv3 db ∨ VInv db

theorem sinv_effs {db : DB} (h : SInv db) (e : List (String × Effect)) : SInv { db with effs := e } := by
  rcases h with h | h
  · exact Or.inl (inv3_effs _ h e)
  · exact Or.inr (vinv_effs h e)

/-! ### NewDBExt(volatile) -/

theorem open_vinv (F : FS) (opts : Opts) (h : OpenOK eg F)
    (hmax : (openIndex { fs := F, volatile := true, opts := opts, eager := eg }).maxSeq + 1 < 2^32) :
    VInv (openDB F true true opts eg) ∧ (openDB F true true opts eg).noSync = false ∧
    ∀ k, vals (openDB F true true opts eg) k = diskValue F k := by
  refine ⟨?_, openDB_noSync F true true opts, fun k => by
    rw [vals_eq]; exact (open_readable F h.readable true opts).2 k⟩
  obtain ⟨F', E, S, hE, hlog, hsv, hR, _⟩ := openOK_state F true opts h
  generalize hX : openIndex { fs := F, volatile := true, opts := opts, eager := eg } = X at S hmax
  have S0 : OpenState F' false { X with volatile := false } :=
    { S with volatile := rfl }
  have hXe : X.eager = eg := by rw [← hX]; exact openIndex_eager F true opts
  obtain ⟨_, h3⟩ := inv3_of_openState F' _ S0 E hE hlog hsv hR hmax hXe
  have hload := loadAll_of_openState F' true X S hR hXe
  rw [openDB_of_loadAll hX hload]
  refine ⟨S.volatile, X.pending, h3, fun _ => S.pending⟩

/-- NewDBExt (either mode, LoadData) of an openable directory: the mode asked for, the directory's values, all durable -/
theorem open_sinv (F : FS) (vol : Bool) (opts : Opts) (h : OpenOK eg F)
    (hmax : (openIndex { fs := F, volatile := vol, opts := opts, eager := eg }).maxSeq + 1 < 2^32) :
    SInv (openDB F vol true opts eg) ∧ (openDB F vol true opts eg).volatile = vol ∧
    (∀ k, vals (openDB F vol true opts eg) k = diskValue F k) ∧
    ∀ k, diskValue (openDB F vol true opts eg).fs k = vals (openDB F vol true opts eg) k := by
  cases vol with
  | false =>
    obtain ⟨h3, hp⟩ := open_inv3g F opts h hmax
    exact ⟨Or.inl h3, h3.inv.nv, fun k => open_vals F opts h k, fun k => diskValue_of_inv _ h3.inv hp k⟩
  | true =>
    obtain ⟨hV, hns, hvv⟩ := open_vinv F opts h hmax
    exact ⟨Or.inr hV, hV.vol, hvv, hV.disk hns⟩

/-! ### operations of an open volatile store: memory only -/

/-- the keys changed since they were last written, after one more operation -/
def nextP (P : List Key) : Op → List Key
  | .put k _ => pendingAdd P k
  | .putExt k _ _ => pendingAdd P k
  | .del k => pendingAdd P k
  | _ => P

theorem ghost_applyFlags (db : DB) (P : List Key) (k : Key) (fl : Nat) :
    applyFlags (ghost db P) k fl = ghost (applyFlags db k fl) P := by
  unfold applyFlags
  show (if db.failed.isSome = true then _ else _) = _
  split
  · rfl
  · show (match ilookup k db.index with | none => _ | some r => _) = _
    cases ilookup k db.index <;> rfl

/-- one operation (not a reopen) on an open volatile store: the shadow keeps its invariant, and only memory changes -/
theorem vstep_mem (db : DB) (hv : db.volatile = true) (P : List Key) (h3 : Inv3 (ghost db P))
    (hP : db.noSync = false → P = []) (op : Op) (ok : OpOK db.eager op) (fits : OpFits db op) :
    ((step db op).volatile = true ∧ Inv3 (ghost (step db op) (nextP P op)) ∧
     ((step db op).noSync = false → nextP P op = [])) ∧ (step db op).effs = db.effs ∧ (step db op).fs = db.fs := by
  have hc : Cached db := h3.inv.cached
  have hput : ∀ k v f, k < 2^64 → v.length < 2^32 → f < 2^32 → hasFlag f (ncOf db.eager) = false →
      ((putExt db k v f).volatile = true ∧ Inv3 (ghost (putExt db k v f) (pendingAdd P k)) ∧
       ((putExt db k v f).noSync = false → pendingAdd P k = [])) ∧
      (putExt db k v f).effs = db.effs ∧ (putExt db k v f).fs = db.fs := by
    intro k v f a b c okf
    have hM := putExt_addPending_inv (ghost db P) h3.inv k v f a b c okf
    rw [addPending_same, memput_eq] at hM
    rw [putExt_ok db k v f hc.1, afterChange_vol _ k ((memput_spec db k _).2.2.1.trans hv), memput_eq]
    exact ⟨⟨hv, ⟨hM.upd _ _ _ _ _ _ _, inv2_same h3.i2 rfl rfl rfl rfl⟩, fun hn => by simp at hn⟩, rfl, rfl⟩
  -- Get, Browse and ApplyFlags change the index alone, in the store and in its shadow alike
  have hidx : ∀ o i, step db o = { db with index := i } → step (ghost db P) o = ghost (step db o) P →
      OpOK db.eager o → OpFits (ghost db P) o →
      ((step db o).volatile = true ∧ Inv3 (ghost (step db o) P) ∧ ((step db o).noSync = false → P = [])) ∧
      (step db o).effs = db.effs ∧ (step db o).fs = db.fs := by
    intro o i e eg' oko fo
    have g3 := step_inv3 (ghost db P) h3 o oko fo
    rw [eg'] at g3
    rw [e] at g3 ⊢
    exact ⟨⟨hv, g3, hP⟩, rfl, rfl⟩
  cases op with
  | reopen a b c => exact absurd ok (by simp [OpOK])
  | put k v => exact hput k v 0 fits.1 fits.2.1 (by decide) (zeroFlags_ok _)
  | putExt k v f => exact hput k v f fits.1 fits.2.1 fits.2.2.1 ok
  | del k =>
    have hM := del_addPending_inv (ghost db P) h3.inv k fits.1
    rw [addPending_same, memdel_eq] at hM
    show ((del db k).volatile = true ∧ Inv3 (ghost (del db k) (pendingAdd P k)) ∧
      ((del db k).noSync = false → pendingAdd P k = [])) ∧ (del db k).effs = db.effs ∧ (del db k).fs = db.fs
    rw [del_ok db k hc.1, afterChange_vol _ k ((memdel_spec db k).2.2.1.trans hv), memdel_eq]
    exact ⟨⟨hv, ⟨hM.upd _ _ _ _ _ _ _, inv2_same h3.i2 rfl rfl rfl rfl⟩, fun hn => by simp at hn⟩, rfl, rfl⟩
  | get k =>
    have e : step db (.get k) = applyFlags db k YES_CACHE := get_eq_applyFlags db k hc
    have eg' : step (ghost db P) (.get k) = applyFlags (ghost db P) k YES_CACHE := get_eq_applyFlags _ k hc
    obtain ⟨i, hi⟩ := applyFlags_shape db k YES_CACHE
    exact hidx (.get k) i (e.trans hi) (by rw [eg', e]; exact ghost_applyFlags db P k _) ok trivial
  | applyFlags k fl =>
    obtain ⟨i, hi⟩ := applyFlags_shape db k fl
    exact hidx (.applyFlags k fl) i hi (ghost_applyFlags db P k fl) ok trivial
  | browse w =>
    obtain ⟨b1, _⟩ := browseGen_cached false db w hc ok
    obtain ⟨b2, _⟩ := browseGen_cached false (ghost db P) w hc ok
    have e1 : step db (.browse w) = { db with index := db.index.map (browseRec false w (vsOf false db w)) } := b1
    exact hidx (.browse w) _ e1 (by rw [e1]; exact b2) ok trivial
  | defrag f => rw [show step db (.defrag f) = db from defragOp_vol db f hv]; exact ⟨⟨hv, h3, hP⟩, rfl, rfl⟩
  | sync => rw [show step db .sync = db from syncOp_vol db hv]; exact ⟨⟨hv, h3, hP⟩, rfl, rfl⟩
  | noSync => rw [show step db .noSync = db from noSyncOp_vol db hv]; exact ⟨⟨hv, h3, hP⟩, rfl, rfl⟩

/-- one operation (not a reopen) on an open volatile store, with the shadow's pending set made explicit -/
theorem vstep_ghost (db : DB) (hv : db.volatile = true) (P : List Key) (h3 : Inv3 (ghost db P))
    (hP : db.noSync = false → P = []) (op : Op) (ok : OpOK db.eager op) (fits : OpFits db op) :
    (step db op).volatile = true ∧ Inv3 (ghost (step db op) (nextP P op)) ∧
    ((step db op).noSync = false → nextP P op = []) :=
  (vstep_mem db hv P h3 hP op ok fits).1

/-- one operation (not a reopen) on an open volatile store: the invariant stays, the values follow the map, and no
    file operation happens -/
theorem vstep_vinv (db : DB) (h : VInv db) (op : Op) (ok : OpOK db.eager op) (fits : OpFits db op) :
    VInv (step db op) ∧ (∀ k, vals (step db op) k = vstep (vals db) op k) ∧
    (step db op).effs = db.effs ∧ (step db op).fs = db.fs := by
  obtain ⟨P, h3, hP⟩ := h.gh
  obtain ⟨⟨g1, g2, g3⟩, g4⟩ := vstep_mem db h.vol P h3 hP op ok fits
  exact ⟨⟨g1, nextP P op, g2, g3⟩, vals_step db h3.inv.cached h3.inv.nodup op ok, g4⟩

/-! ### Close, in both modes, and the NewDBExt that follows -/

/-- what Close leaves, in a form shared by both modes -/
structure Closed (db : DB) : Prop where
  failed : (close db).failed = none
  ok : OpenOK db.eager (close db).fs
  vals : ∀ k, diskValue (close db).fs k = vals db k
  atomic : ∃ es, (close db).effs = db.effs ++ es ∧ (close db).fs = db.fs.applyAll (es.map (·.2)) ∧
    Atomic db.eager db.fs (es.map (·.2)) (C19.vals db)
  eager : (close db).eager = db.eager

/-- Close of a non-volatile store is a sync -/
theorem nclose (db : DB) (h : Inv3 db) (hs : SizeOK db) (hd : DFits db) : Closed db := by
  have inv := h.inv
  obtain ⟨sinv, sabs, spe, _⟩ := sync_inv db inv hs
  have hclose := close_sync db inv.cached.1 inv.nv sinv.cached.1
  obtain ⟨es1, x1, y1, z1⟩ := sync_atomic db h hs hd
  refine ⟨hclose.1, by rw [hclose.2.1, ← (sync_cached db inv.cached).eager]; exact openOK_of_inv _ sinv, fun k => ?_,
    ⟨es1, by rw [hclose.2.2]; exact x1, by rw [hclose.2.1]; exact y1, z1⟩, close_eager db inv.cached⟩
  rw [hclose.2.1, diskValue_of_inv _ sinv spe k]
  unfold C19.vals
  rw [sabs]

/-- Close of a volatile store: nothing when unchanged, a defrag otherwise -/
theorem vclose (db : DB) (h : VInv db) (hsm : 4 + (valsOf db.index).flatten.length < 2^32) (hd : DFits db) :
    Closed db := by
  obtain ⟨P, h3, hP⟩ := h.gh
  have hc : Cached db := h3.inv.cached
  cases hn : db.noSync with
  | false =>
    obtain rfl : P = [] := hP hn
    have hok := openOK_of_inv (ghost db []) h3.inv
    constructor <;> rw [close_vol db hc.1 h.vol hn]
    · exact hc.1
    · exact hok
    · exact diskValue_of_inv (ghost db []) h3.inv rfl
    · exact ⟨[], by simp, rfl, atomic_nil _ _ hok⟩
  | true =>
    have hk := defrag_cached db hc
    have r := defragReady_of (ghost db P) h3 hsm ⟨hd.seq, hd.small⟩
    have hready : DefragReady db := { r with }
    obtain ⟨es, he, hA⟩ := defrag_atomic' db hready
    obtain ⟨es', he1, he2⟩ := replays_defrag db
    have hes : es' = es := List.append_cancel_left (he1.symm.trans he)
    rw [hes] at he2
    have hok : OpenOK db.eager (defrag db).fs := by
      have := (hA (es.map (·.2)).length).1
      rw [List.take_length, ← he2] at this
      exact this
    constructor <;> rw [close_vol_defrag db hc.1 h.vol hn hk.cached.1]
    · exact hk.cached.1
    · exact hok
    · intro k
      obtain ⟨_, _, o3⟩ := open_after_defrag db hc hready.wf false {}
      have o4 := (open_readable (defrag db).fs hok.readable false {}).2 k
      show diskValue (defrag db).fs k = _
      rw [← o4, ← vals_eq]
      unfold C19.vals
      rw [o3]
    · exact ⟨es, he, he2, hA⟩
    · exact hk.eager

/-- NewDBExt (either mode, LoadData) after a Close: the invariant of the new mode, the same values, and every crash
    point of Close + NewDBExt is all-old or all-new -/
theorem reopen_from (db : DB) (c : Closed db) (vol : Bool) (opts : Opts)
    (hmax : (openIndex { fs := (close db).fs, volatile := vol, opts := opts, eager := db.eager }).maxSeq + 1 < 2^32) :
    (SInv (step db (.reopen vol true opts)) ∧ (step db (.reopen vol true opts)).volatile = vol) ∧
    (∀ k, vals (step db (.reopen vol true opts)) k = vals db k) ∧
    (∀ k, diskValue (step db (.reopen vol true opts)).fs k = vals db k) ∧
    ∃ es, (step db (.reopen vol true opts)).effs = db.effs ++ es ∧
      Atomic db.eager db.fs (es.map (·.2)) (vals db) := by
  obtain ⟨es1, x1, y1, z1⟩ := c.atomic
  obtain ⟨hs, hm, hv, hdk⟩ := open_sinv (close db).fs vol opts c.ok hmax
  have hval : ∀ k, vals (openDB (close db).fs vol true opts db.eager) k = vals db k :=
    fun k => (hv k).trans (c.vals k)
  have hT := open_prefix_trim (eg := db.eager) (close db).fs vol true opts
  rw [step_reopen db vol true opts c.failed, c.eager]
  dsimp only
  refine ⟨⟨sinv_effs hs _, hm⟩, fun k => (vals_effs _ _ k).trans (hval k), fun k => (hdk k).trans (hval k),
    es1 ++ (openDB (close db).fs vol true opts db.eager).effs,
    by show (close db).effs ++ _ = _; rw [x1, List.append_assoc], ?_⟩
  rw [List.map_append]
  apply atomic_append z1
  rw [← y1]
  intro n
  obtain ⟨o, v⟩ := (hT n).ok c.ok
  exact ⟨o, Or.inl v⟩

/-- All crash points of one operation. The file operations `es` of `op` are such that after ANY number of them the
    directory is openable and holds, for all keys at once, either what it held before `op` or the complete in-memory
    content after `op`. -/
theorem step_crash (db : DB) (h : Inv3 db) (op : Op) (ok : OpOK2 db.eager op) (fits : OpFits2 db op)
    (hd : DFits (preSync db op)) :
    ∃ es, (step db op).effs = db.effs ++ es ∧ (step db op).fs = db.fs.applyAll (es.map (·.2)) ∧
      Atomic db.eager db.fs (es.map (·.2)) (vals (step db op)) := by
  obtain ⟨es, he1, he2⟩ := replays_step db op
  refine ⟨es, he1, he2, ?_⟩
  suffices hsuff : ∃ es', (step db op).effs = db.effs ++ es' ∧ Atomic db.eager db.fs (es'.map (·.2)) (vals (step db op)) by
    obtain ⟨es', h1, h2⟩ := hsuff
    have : es = es' := List.append_cancel_left (he1.symm.trans h1)
    rw [this]; exact h2
  cases op with
  | reopen vol load opts =>
    obtain ⟨rfl, rfl⟩ := ok
    have hfs := (close_sync db h.inv.cached.1 h.inv.nv (sync_inv db h.inv fits.1).1.cached.1).2.1
    obtain ⟨_, hv, _, es', he, hA⟩ := reopen_from db (nclose db h fits.1 hd) false opts (by rw [hfs]; exact fits.2)
    exact ⟨es', he, hA.congr (fun k => (hv k).symm)⟩
  | _ => exact step_crash_nv db h _ ok fits hd

/-! ### one operation in either mode -/

theorem SInv.mode {db : DB} (h : SInv db) : (db.volatile = false ∧ Inv3 db) ∨ (db.volatile = true ∧ VInv db) := by
  rcases h with h | h
  · exact Or.inl ⟨h.inv.nv, h⟩
  · exact Or.inr ⟨h.vol, h⟩

theorem SInv.cached {db : DB} (h : SInv db) : Cached db := by
  rcases h with h | h
  · exact h.inv.cached
  · exact h.cached

theorem SInv.nodup {db : DB} (h : SInv db) : (Keys db.index).Nodup := by
  rcases h with h | h
  · exact h.inv.nodup
  · obtain ⟨P, h3, _⟩ := h.gh
    exact h3.inv.nodup

/-- operations of the sub-language, both modes: no NO_CACHE flag; Close + NewDBExt(any mode, LoadData, any options) -/
def OpOK3 (eg : Bool) : Op → Prop
  | .reopen _ load _ => load = true
  | op => OpOK eg op

/-- side conditions of one operation, both modes -/
def OpFits3 (db : DB) : Op → Prop
  | .reopen vol _ opts => SizeOK db ∧
      (openIndex { fs := (close db).fs, volatile := vol, opts := opts, eager := db.eager }).maxSeq + 1 < 2^32
  | op => OpFits db op

/-- operations after which everything written so far must be durable: Close + reopen in both modes; Sync and
    Defrag(true) on a non-volatile store (on a volatile store they do nothing) -/
def mustSyncV (vol : Bool) : Op → Bool
  | .reopen _ _ _ => true
  | .sync => !vol
  | .defrag true => !vol
  | _ => false

/-- the mode after an operation: a reopen chooses it -/
def modeAfter (vol : Bool) : Op → Bool
  | .reopen v _ _ => v
  | _ => vol

/-- what the history theorem needs from one operation -/
structure StepOK (db : DB) (op : Op) : Prop where
  inv : SInv (step db op)
  mode : (step db op).volatile = modeAfter db.volatile op
  vals : ∀ k, vals (step db op) k = vstep (C19.vals db) op k
  atomic : ∃ es, (step db op).effs = db.effs ++ es ∧ Atomic db.eager db.fs (es.map (·.2)) (C19.vals (step db op))
  dur : (∀ k, diskValue (step db op).fs k = diskValue db.fs k) ∨
        (∀ k, diskValue (step db op).fs k = C19.vals (step db op) k)
  must : mustSyncV db.volatile op = true → ∀ k, diskValue (step db op).fs k = C19.vals (step db op) k
  eager : (step db op).eager = db.eager

theorem stepOK_nv (db : DB) (h : Inv3 db) (op : Op) (hnr : ∀ a b c, op ≠ .reopen a b c) (ok : OpOK db.eager op)
    (fits : OpFits db op) (hd : DFits (preSync db op)) : StepOK db op := by
  have ok2 : OpOK2 db.eager op := by
    cases op <;> first | exact ok | exact absurd rfl (hnr _ _ _)
  have fits2 : OpFits2 db op := by
    cases op <;> first | exact fits | exact absurd rfl (hnr _ _ _)
  obtain ⟨h1, hv⟩ := step_inv3' db h op ok2 fits2
  obtain ⟨es, e1, e2, A⟩ := step_crash db h op ok2 fits2 hd
  have hfin := (A (es.map (·.2)).length).2
  rw [List.take_length, ← e2] at hfin
  have hm : modeAfter db.volatile op = db.volatile := by
    cases op <;> first | rfl | exact absurd rfl (hnr _ _ _)
  refine ⟨Or.inl h1, by rw [hm, h1.inv.nv, h.inv.nv], hv, ⟨es, e1, A⟩, hfin, fun hms k => ?_, step_eager2 db h op ok2 fits2⟩
  have hms' : mustSync op = true := by
    rw [h.inv.nv] at hms
    cases op with
    | defrag f => cases f <;> simpa [mustSyncV, mustSync] using hms
    | reopen a b c => exact absurd rfl (hnr _ _ _)
    | sync => rfl
    | _ => cases hms
  exact diskValue_of_inv _ h1.inv (mustSync_pending db h op ok2 fits2 hms') k

theorem stepOK_v (db : DB) (h : VInv db) (op : Op) (hnr : ∀ a b c, op ≠ .reopen a b c) (ok : OpOK db.eager op)
    (fits : OpFits db op) : StepOK db op := by
  obtain ⟨h1, hv, he, hf⟩ := vstep_vinv db h op ok fits
  obtain ⟨P, h3, _⟩ := h.gh
  have hm : modeAfter db.volatile op = db.volatile := by
    cases op <;> first | rfl | exact absurd rfl (hnr _ _ _)
  refine ⟨Or.inr h1, by rw [hm, h1.vol, h.vol], hv, ⟨[], by rw [he]; simp, atomic_nil _ _ (openOK_of_inv (ghost db P) h3.inv)⟩,
    Or.inl (fun k => by rw [hf]), fun hms => ?_, step_eager db op h.cached ok⟩
  rw [h.vol] at hms
  cases op with
  | defrag f => cases f <;> cases hms
  | reopen a b c => exact absurd rfl (hnr _ _ _)
  | _ => cases hms

theorem stepOK_reopen (db : DB) (c : Closed db) (vol : Bool) (opts : Opts)
    (hmax : (openIndex { fs := (close db).fs, volatile := vol, opts := opts, eager := db.eager }).maxSeq + 1 < 2^32) :
    StepOK db (.reopen vol true opts) := by
  obtain ⟨hi, hv, hdv, es, he, hA⟩ := reopen_from db c vol opts hmax
  have hvf : ∀ k, vals (step db (.reopen vol true opts)) k = vstep (vals db) (.reopen vol true opts) k := hv
  exact ⟨hi.1, hi.2, hvf, ⟨es, he, hA.congr (fun k => (hv k).symm)⟩, Or.inr (fun k => (hdv k).trans (hv k).symm),
    fun _ k => (hdv k).trans (hv k).symm, step_eager_all _ _⟩

theorem stepOK (db : DB) (h : SInv db) (op : Op) (ok : OpOK3 db.eager op) (fits : OpFits3 db op)
    (hd : DFits (preSync db op)) : StepOK db op := by
  cases op with
  | reopen vol load opts =>
    obtain rfl : load = true := ok
    exact stepOK_reopen db (h.elim (nclose db · fits.1 hd) (vclose db · fits.1.2 hd)) vol opts fits.2
  | _ =>
    exact h.elim (stepOK_nv db · _ (fun _ _ _ => by simp) ok fits hd) (stepOK_v db · _ (fun _ _ _ => by simp) ok fits)

/-! ### histories with crashes, both modes, against the durable-map specification -/

/-- The durable-map specification along a history with crashes. `vol` is the current mode, `m` the in-memory map,
    `d` the durable one (what a reopen would find). An operation changes `m` as on a plain map (`vstep`); the durable
    map either stays or becomes the complete new in-memory map — it MUST become it at Close + reopen and, on a
    non-volatile store, at Sync and Defrag(true) (`mustSyncV`). A crash inside an operation loses the in-memory map:
    the store continues (in the mode the recovery chose) with the durable map from before the operation or with the
    complete map after it, never a mixture, and that is then durable. `DurOK vol m d H m' d'`: `H` can lead from `(m, d)` to
    `(m', d')`. -/
def DurOK : Bool → (Key → Option Bytes) → (Key → Option Bytes) → List HItem →
    (Key → Option Bytes) → (Key → Option Bytes) → Prop
  | _, m, d, [], m', d' => m' = m ∧ d' = d
  | vol, m, d, .op o :: t, m', d' =>
      DurOK (modeAfter vol o) (vstep m o) (vstep m o) t m' d' ∨
      (mustSyncV vol o = false ∧ DurOK (modeAfter vol o) (vstep m o) d t m' d')
  | _, m, d, .crash o _ _ vol _ :: t, m', d' =>
      DurOK vol d d t m' d' ∨ DurOK vol (vstep m o) (vstep m o) t m' d'

def HOK (eg : Bool) (i : HItem) : Prop := OpOK3 eg (itemOp i)

/-- side conditions along a history: those of every operation (`OpFits3`), the bounds of the crash analysis
    (`DFits`: data-file numbers do not wrap, index snapshot at most the 1 MiB bufio buffer) and, for every recovery,
    that the data-file numbers found on disk do not wrap -/
def HFits : DB → List HItem → Prop
  | _, [] => True
  | db, .op o :: t => OpFits3 db o ∧ DFits (preSync db o) ∧ HFits (step db o) t
  | db, .crash o n ms vol opts :: t => OpFits3 db o ∧ DFits (preSync db o) ∧
      (openIndex { fs := recrash opts (crashDir db o n) ms, volatile := vol, opts := opts, eager := db.eager }).maxSeq + 1 < 2^32 ∧
      HFits (hstep db (.crash o n ms vol opts)) t

/-- Under the specification, every value the store holds at the end (in memory or durably) was held at the start or
    was written by a Put / PutExt of the history (possibly the one the process died in). -/
theorem durOK_origin (H : List HItem) (vol : Bool) (m d m' d' : Key → Option Bytes) (h : DurOK vol m d H m' d')
    (k : Key) (v : Bytes) (hv : m' k = some v ∨ d' k = some v) :
    m k = some v ∨ d k = some v ∨ ∃ i ∈ H, writes (itemOp i) k v := by
  induction H generalizing vol m d with
  | nil =>
    obtain ⟨rfl, rfl⟩ := h
    rcases hv with hv | hv
    · exact Or.inl hv
    · exact Or.inr (Or.inl hv)
  | cons i t ih =>
    have lift : (∃ j ∈ t, writes (itemOp j) k v) → ∃ j ∈ i :: t, writes (itemOp j) k v :=
      fun ⟨j, hj, hw⟩ => ⟨j, List.mem_cons_of_mem _ hj, hw⟩
    have here : ∀ o, itemOp i = o → (vstep m o k = some v) →
        m k = some v ∨ d k = some v ∨ ∃ j ∈ i :: t, writes (itemOp j) k v := by
      intro o ho hs
      rcases vstep_origin m o k v hs with h1 | h1
      · exact Or.inl h1
      · exact Or.inr (Or.inr ⟨i, List.mem_cons_self, by rw [ho]; exact h1⟩)
    cases i with
    | op o =>
      rcases h with h | ⟨_, h⟩
      · rcases ih _ _ _ h with r | r | r
        · exact here o rfl r
        · exact here o rfl r
        · exact Or.inr (Or.inr (lift r))
      · rcases ih _ _ _ h with r | r | r
        · exact here o rfl r
        · exact Or.inr (Or.inl r)
        · exact Or.inr (Or.inr (lift r))
    | crash o n ms vol opts =>
      rcases h with h | h
      · rcases ih _ _ _ h with r | r | r
        · exact Or.inr (Or.inl r)
        · exact Or.inr (Or.inl r)
        · exact Or.inr (Or.inr (lift r))
      · rcases ih _ _ _ h with r | r | r
        · exact here o rfl r
        · exact here o rfl r
        · exact Or.inr (Or.inr (lift r))

/-- the directory left by a crash inside `o` — after any number of its file operations — and by any number of crashed
    recovery attempts can be opened, and its durable map is the one from before `o` or the complete map after `o` -/
theorem crash_dir (db : DB) (h : SInv db) (o : Op) (ok : OpOK3 db.eager o) (f1 : OpFits3 db o)
    (f2 : DFits (preSync db o)) (n : Nat) (ms : List Nat) (ropts : Opts) :
    OpenOK db.eager (recrash ropts (crashDir db o n) ms) ∧
    ((∀ k, diskValue (recrash ropts (crashDir db o n) ms) k = diskValue db.fs k) ∨
     (∀ k, diskValue (recrash ropts (crashDir db o n) ms) k = vstep (vals db) o k)) := by
  have S := stepOK db h o ok f1 f2
  obtain ⟨es, e1, A⟩ := S.atomic
  have hcd : crashDir db o n = db.fs.applyAll ((es.map (·.2)).take n) := by
    unfold crashDir opEffs
    rw [e1, List.drop_left]
  obtain ⟨o1, v1⟩ := A n
  rw [← hcd] at o1 v1
  obtain ⟨o2, v2⟩ := recrash_ok ropts ms _ o1
  exact ⟨o2, v1.imp (fun hv k => (v2 k).trans (hv k)) fun hv k => (v2 k).trans ((hv k).trans (S.vals k))⟩

/-- EVERY history of operations (both modes) and crashes (anywhere inside any operation, and inside any number of
    recovery attempts) keeps the invariants and follows the durable-map specification. -/
theorem hrun_dur (H : List HItem) (db : DB) (h : SInv db) (ok : ∀ i ∈ H, HOK db.eager i) (fits : HFits db H) :
    SInv (hrun db H) ∧
    DurOK db.volatile (vals db) (diskValue db.fs) H (vals (hrun db H)) (diskValue (hrun db H).fs) := by
  induction H generalizing db with
  | nil => exact ⟨h, rfl, rfl⟩
  | cons i t ih =>
    have rest : ∀ x, SInv (hstep db x) → (hstep db x).eager = db.eager → HFits (hstep db x) t →
        SInv (hrun db (x :: t)) ∧ ∀ vol m d, (hstep db x).volatile = vol → (∀ k, vals (hstep db x) k = m k) →
          (∀ k, diskValue (hstep db x).fs k = d k) →
          DurOK vol m d t (vals (hrun db (x :: t))) (diskValue (hrun db (x :: t)).fs) := by
      intro x hs he hf
      obtain ⟨i1, i2⟩ := ih (hstep db x) hs (fun y hy => by rw [he]; exact ok y (List.mem_cons_of_mem _ hy)) hf
      refine ⟨i1, fun vol m d hvol hm hd => ?_⟩
      rw [← hvol, ← funext hm, ← funext hd]
      exact i2
    cases i with
    | op o =>
      have oko : OpOK3 db.eager o := ok (.op o) List.mem_cons_self
      obtain ⟨f1, f2, f3⟩ := fits
      have S := stepOK db h o oko f1 f2
      obtain ⟨i1, i2⟩ := rest (.op o) S.inv S.eager f3
      refine ⟨i1, ?_⟩
      show DurOK (modeAfter db.volatile o) (vstep (vals db) o) (vstep (vals db) o) t _ _ ∨
        (mustSyncV db.volatile o = false ∧ DurOK (modeAfter db.volatile o) (vstep (vals db) o) (diskValue db.fs) t _ _)
      have hnew : (∀ k, diskValue (step db o).fs k = vals (step db o) k) →
          DurOK (modeAfter db.volatile o) (vstep (vals db) o) (vstep (vals db) o) t _ _ :=
        fun hn => i2 _ _ _ S.mode S.vals (fun k => (hn k).trans (S.vals k))
      cases hm : mustSyncV db.volatile o with
      | true => exact Or.inl (hnew (S.must hm))
      | false =>
        rcases S.dur with hold | hn
        · exact Or.inr ⟨rfl, i2 _ _ _ S.mode S.vals hold⟩
        · exact Or.inl (hnew hn)
    | crash o n ms vol opts =>
      have oko : OpOK3 db.eager o := ok (.crash o n ms vol opts) List.mem_cons_self
      obtain ⟨f1, f2, f3, f4⟩ := fits
      obtain ⟨o2, v1⟩ := crash_dir db h o oko f1 f2 n ms opts
      -- the recovered store, in the mode the recovery chose
      obtain ⟨hsi, hmode, hval, hdur⟩ := open_sinv _ vol opts o2 f3
      obtain ⟨i1, i2⟩ := rest (.crash o n ms vol opts) hsi (openDB_eager _ _ _ _) f4
      refine ⟨i1, ?_⟩
      show DurOK vol (diskValue db.fs) (diskValue db.fs) t _ _ ∨
        DurOK vol (vstep (vals db) o) (vstep (vals db) o) t _ _
      have hone : ∀ m, (∀ k, diskValue (recrash opts (crashDir db o n) ms) k = m k) → DurOK vol m m t _ _ :=
        fun m hm => i2 vol m m hmode (fun k => (hval k).trans (hm k))
          (fun k => (hdur k).trans ((hval k).trans (hm k)))
      rcases v1 with hold | hn
      · exact Or.inl (hone _ hold)
      · exact Or.inr (hone _ hn)

/-- the ghost field `eager` (not the shadow store `ghost` of this file) never changes along a history -/
theorem hrun_eager (H : List HItem) (db : DB) (h : SInv db) (ok : ∀ i ∈ H, HOK db.eager i) (fits : HFits db H) :
    (hrun db H).eager = db.eager := hrun_eager_all H db

end GocoinV.Proofs.C19
