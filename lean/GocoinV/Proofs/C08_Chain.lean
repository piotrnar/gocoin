/-
  Proofs.C08_Chain — the addition chains `Field.Inv` and `Field.Sqrt` (Model.Group.inv / sqrt over the
  generated mul/sqr): the result is a^(p−2) = a⁻¹ resp. a^((p+1)/4) in F_p, magnitude 1, for every input of
  magnitude ≤ 8 (exponent bookkeeping: (a^e1)^(2^k)·a^e2 = a^(e1·2^k+e2); closed exponents compared by evaluation).
-/
import GocoinV.Model.Group
import GocoinV.Proofs.C08_Zp

namespace GocoinV.C08
open GocoinV.Gen.Field5x52

theorem sqrN_succ (k : Nat) (x : Fe) : sqrN (k+1) x = sqrN k (sqr x) := iterN_succ sqr k x
theorem sqrN_zero (x : Fe) : sqrN 0 x = x := iterN_zero sqr x

theorem sqrN_S (n : Nat) : ∀ {x : Fe} {v : F}, FeS x 1 v → FeS (sqrN n x) 1 (v ^ (2 ^ n)) := by
  induction n with
  | zero =>
    intro x v h
    rw [sqrN_zero, pow_zero, pow_one]; exact h
  | succ k ih =>
    intro x v h
    have h2 := ih (h.sqr (by decide))
    rw [← pow_two, ← pow_mul, ← pow_succ'] at h2
    rw [sqrN_succ]
    exact h2

/-- one link of the chain: `x.Sqr` k times, then `Mul` by y -/
theorem chain_step {a : F} {x y : Fe} {e1 e2 m : Nat} (k : Nat) (hx : FeS x 1 (a ^ e1)) (hy : FeS y m (a ^ e2))
    (hm : m ≤ 8) (e : Nat) (he : e1 * 2 ^ k + e2 = e) : FeS (mul (sqrN k x) y) 1 (a ^ e) := by
  have h := (sqrN_S k hx).mul hy (by decide) hm
  rw [← pow_mul, ← pow_add, he] at h
  exact h

theorem chain223_spec (a : Fe) (m : Nat) (ha : a.mag m) (hm : m ≤ 8) :
    FeS (chain223 a).1 1 (a.z ^ 3) ∧ FeS (chain223 a).2.1 1 (a.z ^ 7) ∧
    FeS (chain223 a).2.2.1 1 (a.z ^ (2 ^ 22 - 1)) ∧ FeS (chain223 a).2.2.2 1 (a.z ^ (2 ^ 223 - 1)) := by
  have h1 : FeS a m (a.z ^ 1) := by simpa using FeS.self ha
  have x2 : FeS (mul (sqr a) a) 1 (a.z ^ 3) := by
    have := (h1.sqr hm).mul h1 (by decide) hm
    rw [← pow_add, ← pow_add] at this; exact this
  have x3 : FeS (mul (sqr (mul (sqr a) a)) a) 1 (a.z ^ 7) := by
    have := (x2.sqr (by decide)).mul h1 (by decide) hm
    rw [← pow_add, ← pow_add] at this; exact this
  have x6 := chain_step 3 x3 x3 (by decide) (2 ^ 6 - 1) (by decide)
  have x9 := chain_step 3 x6 x3 (by decide) (2 ^ 9 - 1) (by decide)
  have x11 := chain_step 2 x9 x2 (by decide) (2 ^ 11 - 1) (by decide)
  have x22 := chain_step 11 x11 x11 (by decide) (2 ^ 22 - 1) (by decide)
  have x44 := chain_step 22 x22 x22 (by decide) (2 ^ 44 - 1) (by decide)
  have x88 := chain_step 44 x44 x44 (by decide) (2 ^ 88 - 1) (by decide)
  have x176 := chain_step 88 x88 x88 (by decide) (2 ^ 176 - 1) (by decide)
  have x220 := chain_step 44 x176 x44 (by decide) (2 ^ 220 - 1) (by decide)
  have x223 := chain_step 3 x220 x3 (by decide) (2 ^ 223 - 1) (by decide)
  exact ⟨x2, x3, x22, x223⟩

theorem inv_pow (a : Fe) (m : Nat) (ha : a.mag m) (hm : m ≤ 8) : FeS (inv a) 1 (a.z ^ (P - 2)) := by
  obtain ⟨x2, _, x22, x223⟩ := chain223_spec a m ha hm
  have h1 : FeS a m (a.z ^ 1) := by simpa using FeS.self ha
  have t1 := chain_step 23 x223 x22 (by decide) _ rfl
  have t2 := chain_step 5 t1 h1 hm _ rfl
  have t3 := chain_step 3 t2 x2 (by decide) _ rfl
  have t4 := chain_step 2 t3 h1 hm (P - 2) (by decide)
  exact t4

theorem sqrt_pow (a : Fe) (m : Nat) (ha : a.mag m) (hm : m ≤ 8) : FeS (sqrt a) 1 (a.z ^ ((P + 1) / 4)) := by
  obtain ⟨x2, _, x22, x223⟩ := chain223_spec a m ha hm
  have t1 := chain_step 23 x223 x22 (by decide) _ rfl
  have t2 := chain_step 6 t1 x2 (by decide) _ rfl
  have t3 := sqrN_S 2 t2
  rw [← pow_mul] at t3
  have e : (((2 ^ 223 - 1) * 2 ^ 23 + (2 ^ 22 - 1)) * 2 ^ 6 + 3) * 2 ^ 2 = (P + 1) / 4 := by decide
  rw [e] at t3
  exact t3

theorem pow_p_sub_two (v : F) : v ^ (P - 2) = v⁻¹ := by
  by_cases h : v = 0
  · subst h
    rw [inv_zero, zero_pow]; decide
  · have h1 : v ^ (P - 1) = 1 := ZMod.pow_card_sub_one_eq_one h
    have e : P - 1 = (P - 2) + 1 := by decide
    rw [e, pow_succ] at h1
    exact eq_inv_of_mul_eq_one_left h1

/-- `Field.Inv`: the inverse in F_p (0 ↦ 0), magnitude 1, for every input of magnitude ≤ 8 -/
theorem inv_S (a : Fe) (m : Nat) (ha : a.mag m) (hm : m ≤ 8) : FeS (inv a) 1 (a.z)⁻¹ := by
  have := inv_pow a m ha hm
  rwa [pow_p_sub_two] at this

/-- if a is a square in F_p then `Field.Sqrt(a)` is one of its square roots -/
theorem sqrt_sq (v r : F) (h : r * r = v) : (v ^ ((P + 1) / 4)) * (v ^ ((P + 1) / 4)) = v := by
  by_cases hr : r = 0
  · subst hr
    rw [← h, mul_zero, zero_pow (by decide), mul_zero]
  · have h1 : r ^ (P - 1) = 1 := ZMod.pow_card_sub_one_eq_one hr
    rw [← pow_add, ← h, ← pow_two, ← pow_mul]
    have e : 2 * ((P + 1) / 4 + (P + 1) / 4) = (P - 1) + 2 := by decide
    rw [e, pow_add, h1, one_mul]

end GocoinV.C08
