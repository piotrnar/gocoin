/-
  Proofs.C13Der — the DER bridges between C03's vocabulary (a signature without the hash-type byte: `isStrictDER`,
  `ParseBytes`) and the script rules' (`IsValidSignatureEncoding`, `derS` on the signature with the byte appended). Core only.
-/
import GocoinV.Spec.Script
import GocoinV.Spec.Ecdsa
import GocoinV.Model.Sig
namespace GocoinV.Proofs.C13D
open GocoinV GocoinV.Model

/-- S as Core reads it is the S `ParseBytes` returns -/
theorem derS_of_parseBytes (sig : Bytes) (r s c : Nat) (h : Sig.parseBytes sig = some (r, s, c)) : ScriptSpec.derS sig = s := by
  unfold Sig.parseBytes at h
  split at h
  · simp at h
  · simp only [] at h
    split at h
    · simp at h
    · split at h
      · simp at h
      · simp only [Option.some.injEq, Prod.mk.injEq] at h
        unfold ScriptSpec.derS
        simp only []
        rw [Nat.add_comm 5, h.2.1]

/-- BIP66 strict DER without the hash-type byte (C03's `isStrictDER`) is Core's `IsValidSignatureEncoding` of
    the signature with any hash-type byte appended -/
theorem strict_append (der : Bytes) (ht : UInt8) (h : Spec.Ecdsa.isStrictDER der = true) :
    ScriptSpec.isValidSignatureEncoding (der ++ [ht]) = true := by
  simp only [Spec.Ecdsa.isStrictDER, Bool.ite_eq_true_distrib, Bool.false_eq_true, if_false_left, not_or, not_and, Decidable.not_not, Nat.not_lt, Nat.not_le,
    ne_eq, UInt8.le_iff_toNat_le, UInt8.lt_iff_toNat_lt, ← UInt8.toNat_inj, UInt8.reduceToNat] at h
  obtain ⟨c1, c2, c3, c4, c5, c6, c7, c8, -⟩ := h
  generalize hlr : (der.getD 3 0).toNat = lr at *
  generalize hls : (der.getD (5 + lr) 0).toNat = ls at *
  have g : ∀ i, i < der.length → (der ++ [ht]).getD i 0 = der.getD i 0 := fun i h => by
    simp [List.getD, List.getElem?_append_left h]
  unfold ScriptSpec.isValidSignatureEncoding
  simp only [List.length_append, List.length_singleton, g 0 (by omega), g 1 (by omega), g 2 (by omega), g 3 (by omega),
    g 4 (by omega), g 5 (by omega), hlr, g (5 + lr) (by omega), hls, g (lr + 4) (by omega), g (lr + 6) (by omega),
    Bool.and_eq_true, decide_eq_true_eq, beq_iff_eq, bne_iff_ne, Bool.not_eq_true', Bool.and_eq_false_imp,
    decide_eq_false_iff_not]
  -- (with the implications c6, c8 in sight omega splits cases)
  have e1 : (der.getD 1 0).toNat = der.length + 1 - 3 := by clear c6 c8; omega
  refine ⟨⟨⟨⟨Nat.succ_le_succ c1.1, Nat.succ_le_succ c1.2⟩, c2.1⟩, e1⟩, Nat.lt_succ_of_lt c3,
    ⟨⟨⟨⟨⟨⟨⟨congrArg (· + 1) c4, c5.1⟩, c5.2.1⟩, c5.2.2⟩, fun hl => Nat.not_lt.mpr (c6 hl.1 hl.2)⟩, c7.1⟩, c7.2.1⟩, c7.2.2⟩,
    fun hl => ?_⟩
  -- the byte after a one-byte S would be the hash type: it is only looked at when S is longer
  rw [g (lr + 7) (by omega)]
  exact Nat.not_lt.mpr (c8 hl.1 hl.2)

end GocoinV.Proofs.C13D
