/-
  Proofs.C15Bech32Loops — the five loops of the model of `Encode` / `Decode` (Model/Bech32.lean; seven `for` statements
  in lib/others/bech32/bech32.go, see Proofs/C15Bech32Fold.lean) in closed form: each is the
  polymod fold `pf` (Proofs/C15Bech32Fold.lean) over a byte-wise image of its input, under a guard on the characters. With
  them `Encode` itself has a closed form (`encode_eq`): BIP173's "hrp expansion ‖ data ‖ checksum" with the guards as
  one condition; and `Decode` replayed on such a code word reads it back (encode → decode).
-/
import GocoinV.Proofs.C15Bech32Sum
namespace GocoinV.Bech32
open GocoinV.Addr (asciiLower)

theorem dataFold?_eq (d : Bytes) : ∀ c, dataFold? d c = if ∀ x ∈ d, x.toNat ≤ 31 then some (pf c d) else none := by
  induction d with
  | nil => intro c; simp [dataFold?, pf]
  | cons x t ih =>
    intro c
    simp only [dataFold?, ih, ne_eq, shr5_eq_zero_iff, List.forall_mem_cons, pf_cons]
    by_cases hx : x.toNat ≤ 31 <;> simp [hx]

theorem hrpLow_eq (h : Bytes) : ∀ c, hrpLow h c = pf c (h.map (· &&& 0x1f)) := by
  induction h with
  | nil => intro c; rfl
  | cons x t ih => intro c; simp only [hrpLow, ih, List.map_cons, pf_cons]

theorem hrpHigh?_eq (h : Bytes) : ∀ c, hrpHigh? h c =
    if ∀ ch ∈ h, 33 ≤ ch.toNat ∧ ch.toNat ≤ 126 ∧ isUpper ch = false then some (pf c (h.map (· >>> (5 : UInt8))))
    else none := by
  induction h with
  | nil => intro c; simp [hrpHigh?, pf]
  | cons x t ih =>
    intro c
    simp only [hrpHigh?, ih, List.forall_mem_cons, List.map_cons, pf_cons, shr5_toUInt32]
    by_cases hr : x.toNat < 33 ∨ x.toNat > 126
    · rw [if_pos hr, if_neg (by omega)]
    · cases hu : isUpper x <;> simp [Nat.le_of_not_lt, not_or.mp hr]

theorem decData?_eq (l : Bytes) : ∀ s : DataScan, decData? l s =
    if ∀ c ∈ l, c &&& 0x80 = 0 ∧ (charsetRev c).toNat ≤ 31 then
      some ⟨pf s.chk (l.map charsetRev), s.vals ++ l.map charsetRev, s.lower || l.any isLower, s.upper || l.any isUpper⟩
    else none := by
  induction l with
  | nil => intro s; simp [decData?, pf]
  | cons c t ih =>
    intro s
    simp only [decData?, ih, List.forall_mem_cons, List.map_cons, pf_cons, List.any_cons, ne_eq, Nat.not_lt.symm]
    by_cases h80 : c &&& 0x80 = 0
    · by_cases hv : (charsetRev c).toNat > 31 <;> simp [h80, hv, Bool.or_assoc]
    · simp [h80]

theorem decHrp?_eq (l : Bytes) : ∀ s : HrpScan, decHrp? l s =
    if ∀ c ∈ l, 33 ≤ c.toNat ∧ c.toNat ≤ 126 then
      some ⟨pf s.chk ((l.map asciiLower).map (· >>> (5 : UInt8))), s.hrp ++ l.map asciiLower, s.lower || l.any isLower,
        s.upper || l.any isUpper⟩
    else none := by
  induction l with
  | nil => intro s; simp [decHrp?, pf]
  | cons c t ih =>
    intro s
    simp only [decHrp?, hrp_lower]
    simp only [ih, List.forall_mem_cons, List.map_cons, pf_cons, List.any_cons, upper_simpl]
    by_cases hr : c.toNat < 33 ∨ c.toNat > 126
    · rw [if_pos hr, if_neg (by omega)]
    · simp [Bool.or_assoc, Nat.le_of_not_lt, not_or.mp hr]

theorem decData_encoded (w : Bytes) (hw : ∀ x ∈ w, x.toNat ≤ 31) (s : DataScan) :
    decData? (w.map charsetAt) s =
      some ⟨pf s.chk w, s.vals ++ w, s.lower || (w.map charsetAt).any isLower, s.upper⟩ := by
  have hr : (w.map charsetAt).map charsetRev = w := by
    rw [List.map_map]
    exact (List.map_congr_left fun v hv => charsetRev_charsetAt v (hw v hv)).trans
      (List.map_id _)
  rw [decData?_eq, if_pos, hr]
  · simp [charsetAt_not_upper]
  · refine List.forall_mem_map.mpr fun v hv => ?_
    rw [charsetRev_charsetAt v (hw v hv)]
    exact ⟨charsetAt_lo7 v, hw v hv⟩

/-- the state after the human-readable part: BIP173's expansion "high bits, 0, low bits" fed from 1 -/
def hrpState (hrp : Bytes) : UInt32 := pf (polymodStep (pf 1 (hrp.map (· >>> (5 : UInt8))))) (hrp.map (· &&& 0x1f))

theorem encode_eq (hrp data : Bytes) (m : Bool) : encode hrp data m =
    if hrp ≠ [] ∧ (∀ c ∈ hrp, 33 ≤ c.toNat ∧ c.toNat ≤ 126 ∧ isUpper c = false) ∧ (∀ x ∈ data, x.toNat ≤ 31) ∧
        hrp.length + 7 + data.length ≤ 90 then
      some (hrp ++ [49] ++ (data ++ checksumSyms (six (pf (hrpState hrp) data) ^^^ finalConstant m)).map charsetAt)
    else none := by
  unfold encode
  rw [hrpHigh?_eq]
  by_cases h0 : hrp = []
  · simp [h0]
  have h0' : ¬ hrp.length < 1 := fun h => h0 (List.length_eq_zero_iff.mp (by omega))
  rw [if_neg h0']
  by_cases h1 : ∀ c ∈ hrp, 33 ≤ c.toNat ∧ c.toNat ≤ 126 ∧ isUpper c = false
  · rw [if_pos h1]
    by_cases h2 : hrp.length + 7 + data.length > 90
    · rw [if_neg (by omega)]; simp [h2]
    · by_cases h3 : ∀ x ∈ data, x.toNat ≤ 31
      · rw [if_pos ⟨h0, h1, h3, by omega⟩]
        simp [h2, dataFold?_eq, if_pos h3, hrpLow_eq, hrpState]
      · rw [if_neg (fun h => h3 h.2.2.1)]
        simp [h2, dataFold?_eq, if_neg h3]
  · rw [if_neg h1, if_neg (fun h => h1 h.2.1)]; rfl

/-- `Encode` refuses the empty human-readable part (the guard of /repo's fix aaaa0fae) -/
theorem encode_nil (data : Bytes) (m : Bool) : encode [] data m = none := by
  rw [encode_eq]; simp

theorem encode_isSome_iff (hrp data : Bytes) (m : Bool) :
    (encode hrp data m).isSome = true ↔
      hrp ≠ [] ∧ (∀ c ∈ hrp, 33 ≤ c.toNat ∧ c.toNat ≤ 126 ∧ isUpper c = false) ∧ (∀ x ∈ data, x.toNat ≤ 31) ∧
        hrp.length + 7 + data.length ≤ 90 := by
  rw [encode_eq]
  split <;> rename_i h
  · exact ⟨fun _ => h, fun _ => rfl⟩
  · exact ⟨Bool.noConfusion, fun h' => absurd h' h⟩

/-- what `Encode` outputs, as a code word: hrp ‖ '1' ‖ charset image of a word `w` of |data| + 6 symbols whose fold
    from the hrp state is the final constant of the variant -/
theorem encode_word {hrp d s : Bytes} {m : Bool} (h : encode hrp d m = some s) :
    ∃ w, s = hrp ++ [49] ++ w.map charsetAt ∧ w = d ++ w.drop d.length ∧ w.length = d.length + 6 ∧
      hrp.length + 7 + d.length ≤ 90 ∧ (∀ x ∈ w, x.toNat ≤ 31) ∧ pf (hrpState hrp) w = finalConstant m := by
  rw [encode_eq] at h
  split at h <;> cases h
  rename_i hg
  refine ⟨_, rfl, by simp, by simp [checksumSyms_eq], hg.2.2.2, ?_, ?_⟩
  · exact List.forall_mem_append.mpr ⟨hg.2.2.1, checksumSyms_le31 _⟩
  · rw [pf_append]; exact feed_checksum _ _ (finalConstant_hi m)

theorem hrpHigh_hi (hrp : Bytes) : ∀ c c', hrpHigh? hrp c = some c' → hi30 c → hi30 c' := by
  intro c c' hf h
  rw [hrpHigh?_eq] at hf
  split at hf <;> cases hf
  exact pf_hi _ _ h

theorem dataLenOf_encoded (hrp tail : Bytes) (ht : ∀ x ∈ tail, x ≠ 49) :
    dataLenOf (hrp ++ [49] ++ tail) = tail.length := by
  unfold dataLenOf
  simp only [List.reverse_append, List.reverse_cons, List.reverse_nil, List.nil_append, List.append_assoc]
  rw [List.takeWhile_append_of_pos (by
    intro x hx
    simpa using ht x (List.mem_reverse.mp hx))]
  simp

theorem sep_parts {s H T : Bytes} (hs : s = H ++ [49] ++ T) :
    s.length = H.length + 1 + T.length ∧ s.take H.length = H ∧ s.drop (H.length + 1) = T := by
  subst hs
  exact ⟨by simp; omega, by simp, by simp⟩

theorem decode_encode (hrp data s : Bytes) (m : Bool)
    (h : encode hrp data m = some s) : decode s = some (hrp, data, m) := by
  obtain ⟨hne, hok, _⟩ := (encode_isSome_iff hrp data m).mp (by rw [h]; rfl)
  obtain ⟨w, hs, hwd, hwl, hlen, hw31, hpf⟩ := encode_word h
  have hhl : 1 ≤ hrp.length := List.length_pos_iff.mpr hne
  obtain ⟨hsl, htk, hdr⟩ := sep_parts hs
  rw [List.length_map] at hsl
  have hdl : dataLenOf s = w.length := by
    rw [hs, dataLenOf_encoded hrp _ (List.forall_mem_map.mpr fun v _ => charsetAt_ne_sep v)]
    simp
  have hlow : hrp.map asciiLower = hrp :=
    (List.map_congr_left fun c hc => lower_of_notUpper c (hok c hc).2.2).trans (List.map_id _)
  have hup : hrp.any isUpper = false := List.any_eq_false.mpr fun c hc => ne_true_of_eq_false (hok c hc).2.2
  unfold decode
  simp only [hdl]
  rw [if_neg (by omega), if_neg (by omega), show s.length - (1 + w.length) = hrp.length by omega,
    htk, hdr, decHrp?_eq, if_pos fun c hc => ⟨(hok c hc).1, (hok c hc).2.1⟩]
  simp only [hlow, List.nil_append, Bool.false_or, hup, decData_encoded w hw31, Bool.and_false, Bool.false_eq_true,
    ↓reduceIte, hrpLow_eq]
  unfold hrpState at hpf
  rw [hpf, show w.take (w.length - 6) = data by rw [hwl, hwd]; simp]
  cases m <;> simp [finalConstant, final_ne]

end GocoinV.Bech32
