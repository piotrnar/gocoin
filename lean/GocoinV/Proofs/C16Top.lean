/-
  Proofs.C16Top — data-file numbers are never reused.
  `TopInv`: every record of the index file — invalid-flagged ones included — carries BLOCK_INDEX / BLOCK_LENGTH and a
  non-zero size; the current file number `maxdatfileidx` is 0 or the file number of some record of the index file; and every
  number in the ghost list `FS.lost` is BELOW `maxdatfileidx`.
  Within a session the number only grows (`Grows`); across close + reopen LoadBlockIndex recomputes it as the maximum over
  ALL records — which needs the invalid-record branch to count (`Gen.BlockDBFacts.invalidCountsFile`, the repair
  72419de0): with the fact `false` the theorems of this file are not provable (without the repair the store falls back to a
  lower, possibly lost, file number).
-/
import GocoinV.Proofs.C16Restart
import GocoinV.Proofs.C16Window
namespace GocoinV.BlockDB

/-- what every record written by `writeOne` has, and a flag update (OR of TRUSTED / INVALID) keeps -/
def WellRec (c : Bytes) : Prop :=
  hasFlag (flagAt c) BLOCK_INDEX = true ∧ hasFlag (flagAt c) BLOCK_LENGTH = true ∧ 0 < field c 32 36

structure TopInv (s : State) : Prop where
  well : ∀ p, p % 136 = 0 → p + 136 ≤ s.fs.idx.length → WellRec (recAt s.fs.idx p)
  top : s.maxdatfileidx = 0 ∨
    ∃ p, p % 136 = 0 ∧ p + 136 ≤ s.fs.idx.length ∧ field (recAt s.fs.idx p) 28 32 = s.maxdatfileidx
  below : ∀ i, i ∈ s.fs.lost → i < s.maxdatfileidx

theorem below_grows (s s' : State) (h : ∀ i, i ∈ s.fs.lost → i < s.maxdatfileidx) (g : Grows s s') :
    ∀ i, i ∈ s'.fs.lost → i < s'.maxdatfileidx := by
  intro i hi
  rcases g.2.2 i hi with h1 | h1
  · have := h i h1; have := g.2.1; omega
  · have := h1.2.2; omega

theorem wellRec_mkRecord (c t : Bool) (di ol he fp bl tx : Nat) (data : Bytes) (h4 : 0 < ol) (h5 : ol < 2^32) :
    WellRec (mkRecord (flagsOf c t) di ol he fp bl tx data) := by
  obtain ⟨_, f2, _⟩ := field_mk (flagsOf c t) di ol he fp bl tx data
  obtain ⟨b0, b1, b2, _⟩ := flagsOf_bits c t
  have hf : flagAt (mkRecord (flagsOf c t) di ol he fp bl tx data) = flagsOf c t := by
    unfold flagAt
    rw [mkRecord_flag]
    exact ofNat_toNat_small _ b0
  refine ⟨by rw [hf]; exact b2, by rw [hf]; exact b1, ?_⟩
  rw [f2, Nat.mod_eq_of_lt h5]; exact h4

theorem wellRec_flag (c : Bytes) (fl : Nat) (hfl : fl = BLOCK_TRUSTED ∨ fl = BLOCK_INVALID) (h : WellRec c) :
    WellRec (UInt8.ofNat (flagAt c ||| fl) :: c.drop 1) := by
  obtain ⟨o1, _⟩ := or_flag_bits _ (flagAt_lt c)
  have hf := flagAt_or c fl hfl (c.drop 1)
  refine ⟨?_, ?_, ?_⟩
  · rw [hf, o1 fl hfl BLOCK_INDEX (by simp)]; exact h.1
  · rw [hf, o1 fl hfl BLOCK_LENGTH (by simp)]; exact h.2.1
  · rw [field_cons_drop _ _ _ _ (by decide)]; exact h.2.2

/-- `setBlockFlag`: one flag byte of one whole record changes -/
theorem setBlockFlag_top (s : State) (h : TopInv s) (hi : IdxInv s) (k : Key) (r0 : Rec) (fl : Nat)
    (hr : AL.get s.index k = some r0) (hfl : fl = BLOCK_TRUSTED ∨ fl = BLOCK_INVALID) :
    TopInv (setBlockFlag s k r0 fl) := by
  obtain ⟨_, _, _, i3, _, _, _, _, i8⟩ := setBlockFlag_fields s k r0 fl
  cases hp : r0.ipos with
  | none =>
    have hfs := setBlockFlag_idx_none s k r0 fl hp
    exact ⟨by rw [hfs]; exact h.well, by rw [hfs, i8]; exact h.top, by rw [i8, i3.2.2]; exact h.below⟩
  | some p =>
    obtain ⟨hlen, hsame, hat⟩ := setBlockFlag_idx s hi k r0 p fl hr hp
    refine ⟨?_, ?_, by rw [i8, i3.2.2]; exact h.below⟩
    · intro p' hp1 hp2
      rw [hlen] at hp2
      by_cases e : p' = p
      · subst e; rw [hat]; exact wellRec_flag _ fl hfl (h.well p' hp1 hp2)
      · rw [hsame p' hp1 e]; exact h.well p' hp1 hp2
    · rw [i8, hlen]
      refine h.top.imp_right fun ⟨p', a1, a2, a3⟩ => ⟨p', a1, a2, ?_⟩
      by_cases e : p' = p
      · subst e; rw [hat, field_cons_drop _ _ _ _ (by omega)]; exact a3
      · rw [hsame p' a1 e]; exact a3

/-- `writeOne` writes the head of the queue: the appended record is well-formed and carries the current file number -/
theorem top_write (s : State) (n : Nat) (hn : n < 2^31) (h : TopInv s) (hi : IdxInv s) (ho : s.isOpen = true)
    (hc : s.maxdatfileidx + s.queue.length ≤ n) (b : B2W) (q : List B2W) (r0 : Rec) (cbts : Bytes) (m : Nat) (hq : s.queue = b :: q)
    (hsz : b.data.length ≤ 0xffffffff) {s' : State}
    (hs' : writeRecord (maybeRoll { s with queue := q, datToWrite := m } cbts.length) b r0 cbts = s')
    (hbelow : ∀ i, i ∈ s'.fs.lost → i < s'.maxdatfileidx) : TopInv s' := by
  subst hs'
  have hlen : s.queue.length = q.length + 1 := by rw [hq]; simp
  have hb80 : b.data.length ≥ 80 := hi.queue b (by rw [hq]; simp)
  have hroll := maybeRoll_pos { s with queue := q, datToWrite := m } cbts.length
  generalize hs1 : maybeRoll { s with queue := q, datToWrite := m } cbts.length = s1 at *
  simp only at hroll
  have hlm := hi.len_mod
  generalize hfl : mkRecord (flagsOf s1.opts.compress r0.trusted) s1.maxdatfileidx b.data.length b.height s1.maxdatfilepos
    cbts.length b.txcount b.data = fl
  obtain ⟨hfll, hidx', _, _, _, hold, hnew⟩ := writeRecord_idx s s1 hi ho b q r0 cbts fl m hq hs1 hfl
  have hmi : (writeRecord s1 b r0 cbts).maxdatfileidx = s1.maxdatfileidx := by unfold writeRecord; simp only
  have hwell : WellRec fl := by
    rw [← hfl]; exact wellRec_mkRecord _ _ _ _ _ _ _ _ _ (by omega) (by omega)
  have hfield : field fl 28 32 = s1.maxdatfileidx := by
    rw [← hfl, (field_mk _ _ _ _ _ _ _ _).2.2.2.2.2]; exact Nat.mod_eq_of_lt (by omega)
  refine ⟨?_, ?_, hbelow⟩
  · intro p hp1 hp2
    rw [hidx'] at hp2 ⊢
    simp only [List.length_append, hfll] at hp2
    rcases rec_pos_cases hlm hp1 hp2 with rfl | hp3
    · rw [hnew]; exact hwell
    · rw [hold p hp3]; exact h.well p hp1 hp3
  · right
    refine ⟨s.fs.idx.length, hlm, by rw [hidx']; simp [hfll], ?_⟩
    rw [hidx', hnew, hmi]; exact hfield

/-- every primitive transition keeps the file-number invariant (`Disk` bounds the file number and the queued blocks' sizes) -/
theorem Move.top {env : Env} {s s' : State} {sp sp' : Spec} {n : Nat} (m : Move env s sp s' sp') (h : TopInv s) (hi : IdxInv s)
    (hD : Disk env s sp n) (hn : n < 2^31) : TopInv s' := by
  have hb := below_grows s s' h.below m.grows
  cases m with
  | trust k r0 _ hr => exact setBlockFlag_top s h hi k r0 _ hr (.inl rfl)
  | flagI k r0 _ hr => exact setBlockFlag_top s h hi k r0 _ hr (.inr rfl)
  | write b q r0 cbts ho hq =>
    exact top_write s n hn h hi ho hD.cnt1 b q r0 cbts _ hq (hD.qsize b (by rw [hq]; simp)).1 rfl hb
  | _ => exact { h with }

/-! ### LoadBlockIndex: the file number it computes is the maximum over ALL records -/

/-- one record of a well-formed index file: the accumulator's file number becomes the maximum of itself and the record's
    number — for a record that is flagged invalid too, PROVIDED the source has the repair (`invalidCountsFile`) -/
theorem loadRecord_mdi (env : Env) (hic : Gen.BlockDBFacts.invalidCountsFile = true) (a : LoadAcc) (c : Bytes)
    (hw : WellRec c) (hx : field c 28 32 ≠ 0xffffffff) :
    (loadRecord env a c).maxdatfileidx = max a.maxdatfileidx (field c 28 32) := by
  obtain ⟨w1, w2, w3⟩ := hw
  have f1 : hasFlag (c.getD 0 0).toNat BLOCK_INDEX = true := w1
  have f2 : hasFlag (c.getD 0 0).toNat BLOCK_LENGTH = true := w2
  unfold loadRecord
  simp only
  split
  · have e : (bumpInvalid a (c.getD 0 0).toNat c).maxdatfileidx = max a.maxdatfileidx (field c 28 32) := by
      unfold bumpInvalid
      simp only [f1, ↓reduceIte, hic, true_and]
      split
      · simp only; omega
      · omega
    split
    · simp only; exact e
    · exact e
  · simp only
    by_cases hb : field c 28 32 > a.maxdatfileidx
    · have : (0 < field c 32 36 ∧ field c 28 32 ≠ 0xffffffff ∧ field c 28 32 > a.maxdatfileidx) := ⟨w3, hx, hb⟩
      simp only [this, ne_eq, not_false_eq_true, and_self, decide_true, ↓reduceIte]
      omega
    · simp only [hb, and_false, decide_false, Bool.false_eq_true, ↓reduceIte]
      omega

/-- the loop invariant: the accumulator's file number is the maximum of the records read so far -/
structure TInv (full : Bytes) (pos : Nat) (a : LoadAcc) : Prop where
  pm : pos % 136 = 0
  ge : ∀ p, p % 136 = 0 → p + 136 ≤ pos → field (recAt full p) 28 32 ≤ a.maxdatfileidx
  top : a.maxdatfileidx = 0 ∨ ∃ p, p % 136 = 0 ∧ p + 136 ≤ pos ∧ field (recAt full p) 28 32 = a.maxdatfileidx

theorem load_tinv (env : Env) (hic : Gen.BlockDBFacts.invalidCountsFile = true) (s : State) (sp : Spec) (n : Nat)
    (h : TopInv s) (hD : Disk env s sp n) (hI : IdxInv s) (hn : n < 2^31) :
    TInv s.fs.idx s.fs.idx.length (loadLoop env (s.fs.idx.length / RECSIZE + 1) s.fs.idx {}) := by
  have h0 : TInv s.fs.idx 0 {} := ⟨rfl, fun p _ hp => by omega, .inl rfl⟩
  have hm := hI.len_mod
  have hstep : ∀ pos a, pos + 136 ≤ s.fs.idx.length → TInv s.fs.idx pos a →
      TInv s.fs.idx (pos + 136) (loadRecord env a (recAt s.fs.idx pos)) := by
    intro pos a hpos t
    have hb := hD.allidx pos t.pm hpos
    have e := loadRecord_mdi env hic a (recAt s.fs.idx pos) (h.well pos t.pm hpos) (by omega)
    refine ⟨by have := t.pm; omega, ?_, ?_⟩
    · intro p hp1 hp2
      rw [e]
      by_cases ep : p = pos
      · subst ep; omega
      · have := t.ge p hp1 (by have := t.pm; omega); omega
    · rw [e]
      by_cases hgt : field (recAt s.fs.idx pos) 28 32 > a.maxdatfileidx
      · right; exact ⟨pos, t.pm, by omega, by omega⟩
      · rw [Nat.max_eq_left (by omega)]
        exact t.top.imp_right fun ⟨p, a1, a2, a3⟩ => ⟨p, a1, by omega, a3⟩
  have := loadLoop_ind env s.fs.idx (TInv s.fs.idx) hstep h0
  rwa [show 136 * (s.fs.idx.length / 136) = s.fs.idx.length by omega] at this

/-- close + reopen: the invariant is re-established, and the current file number does NOT go down -/
theorem reopen_top (env : Env) (hic : Gen.BlockDBFacts.invalidCountsFile = true) (hrb : Gen.BlockDBFacts.restoresBackup = true)
    (s : State) (sp : Spec) (n : Nat) (h : TopInv s) (hD : Disk env s sp n) (hI : IdxInv s) (hn : n < 2^31) (o : Opts) :
    TopInv (reopen env s.fs o).1 ∧ s.maxdatfileidx ≤ (reopen env s.fs o).1.maxdatfileidx := by
  have T := load_tinv env hic s sp n h hD hI hn
  obtain ⟨_, _, _, e4, _⟩ := reopen_state env s.fs o
  have e0 := reopen_fs_idx env s.fs o
  have hmono : s.maxdatfileidx ≤ (reopen env s.fs o).1.maxdatfileidx := by
    rw [e4]
    rcases h.top with h0 | ⟨p, a1, a2, a3⟩
    · omega
    · rw [← a3]; exact T.ge p a1 a2
  refine ⟨⟨by rw [e0]; exact h.well, by rw [e0, e4]; exact T.top, ?_⟩, hmono⟩
  intro i hi
  rcases reopen_lost env hrb s.fs o i hi with h1 | h1
  · have := h.below i h1; omega
  · have := h1.2.2; omega

theorem init_top : TopInv init :=
  ⟨fun p _ hp => by simp [init] at hp, .inl rfl, fun i hi => by simp [init] at hi⟩

/-! ### a record that becomes written gets the CURRENT file number (never a lower one) -/

/-- from `s` to `s'`: the current file number does not decrease, and every written record of `s'` either was written in `s`
    with the same data-file number, or carries a number that is at least the current file number of `s` -/
def Fresh (s s' : State) : Prop :=
  s.maxdatfileidx ≤ s'.maxdatfileidx ∧
  ∀ k r', AL.get s'.index k = some r' → r'.ipos.isSome = true →
    (∃ r, AL.get s.index k = some r ∧ r.ipos.isSome = true ∧ r.datfileidx = r'.datfileidx) ∨ s.maxdatfileidx ≤ r'.datfileidx

theorem Fresh.refl (s : State) : Fresh s s := ⟨Nat.le_refl _, fun _ r' h1 h2 => .inl ⟨r', h1, h2, rfl⟩⟩

theorem Fresh.trans {a b c : State} (h1 : Fresh a b) (h2 : Fresh b c) : Fresh a c := by
  refine ⟨Nat.le_trans h1.1 h2.1, ?_⟩
  intro k r'' g1 g2
  rcases h2.2 k r'' g1 g2 with ⟨r', e1, e2, e3⟩ | e
  · rcases h1.2 k r' e1 e2 with ⟨r, d1, d2, d3⟩ | d
    · exact .inl ⟨r, d1, d2, by rw [d3, e3]⟩
    · exact .inr (by omega)
  · exact .inr (by have := h1.1; omega)

theorem fresh_update (s s' : State) (k : Key) (r1 : Rec)
    (hidx : ∀ k', AL.get s'.index k' = if k = k' then some r1 else AL.get s.index k')
    (h2 : s.maxdatfileidx ≤ s'.maxdatfileidx)
    (g : r1.ipos.isSome = true → (∃ r, AL.get s.index k = some r ∧ r.ipos.isSome = true ∧ r.datfileidx = r1.datfileidx) ∨
      s.maxdatfileidx ≤ r1.datfileidx) : Fresh s s' := by
  refine ⟨h2, ?_⟩
  intro k' r' e1 e2
  rw [hidx] at e1
  split at e1
  · rename_i e; subst e
    simp only [Option.some.injEq] at e1; subst e1
    exact g e2
  · exact .inl ⟨r', e1, e2, rfl⟩

theorem Move.fresh {env : Env} {s s' : State} {sp sp' : Spec} (m : Move env s sp s' sp') : Fresh s s' := by
  have flag : ∀ k r0 fl, AL.get s.index k = some r0 → Fresh s (setBlockFlag s k r0 fl) := by
    intro k r0 fl hr
    obtain ⟨i0, _, _, _, _, _, _, _, i8⟩ := setBlockFlag_fields s k r0 fl
    exact fresh_update s _ k _ i0 (Nat.le_of_eq i8.symm) fun h => .inl ⟨r0, hr, h, rfl⟩
  have hm := m.grows.2.1
  cases m with
  | olen k r0 n hr => exact fresh_update s _ k _ (fun k' => AL.get_set _ _ k' _) hm fun h => .inl ⟨r0, hr, h, rfl⟩
  | trust k r0 _ hr | flagI k r0 _ hr => exact flag k r0 _ hr
  | forget k =>
    refine ⟨Nat.le_refl _, ?_⟩
    exact fun k' r' e1 e2 => .inl ⟨r', AL.get_of_del e1, e2, rfl⟩
  | write b q r0 cbts =>
    -- a record that becomes written gets the current file number, which a roll-over can only have raised
    obtain ⟨_, f2, _, _, _⟩ :=
      maybeRoll_facts { s with queue := q, datToWrite := s.datToWrite - b.data.length } cbts.length
    generalize maybeRoll { s with queue := q, datToWrite := s.datToWrite - b.data.length } cbts.length = s1 at *
    simp only at f2
    exact fresh_update s _ b.idx _ (fun k' => by rw [← f2]; exact AL.get_set _ _ k' _) hm fun _ => .inr hm
  | _ => exact Fresh.refl s

theorem queued_fresh (s : State) (hash : Bytes) (ht tx : Nat) (tr : Bool) (raw : Bytes) (c : List (Key × CacheEnt)) :
    Fresh s (s.queued hash ht tx tr raw c) :=
  fresh_update s _ (keyOf hash) _ (fun k' => AL.get_set _ _ k' _) (Nat.le_refl _) fun h => by cases h

/-- close + reopen: every record of the rebuilt index was written before, with the same file number -/
theorem reopen_fresh (env : Env) (hadv : env.advInvalid = true) (s : State) (sp : Spec) (n : Nat) (hD : Disk env s sp n)
    (hI : IdxInv s) (hn : n < 2^31) (o : Opts) (hmono : s.maxdatfileidx ≤ (reopen env s.fs o).1.maxdatfileidx) :
    Fresh s (reopen env s.fs o).1 := by
  have L := load_linv env hadv s sp n hD hI hn
  obtain ⟨e1, _⟩ := reopen_state env s.fs o
  refine ⟨hmono, ?_⟩
  intro k r' g1 _
  rw [e1] at g1
  obtain ⟨r0, p0, _, a2, a3, _, a5⟩ := L.l1 k r' g1
  obtain ⟨_, m2⟩ := hD.mem k r0 p0 a2 a3
  obtain ⟨_, _, q3, _⟩ := recOf_fields _ r0 p0 m2
  exact .inl ⟨r0, a2, by rw [a3]; rfl, by rw [a5, q3]⟩

theorem step_fresh (env : Env) (hadv : env.advInvalid = true) (hic : Gen.BlockDBFacts.invalidCountsFile = true)
    (hrb : Gen.BlockDBFacts.restoresBackup = true) (s : State) (sp : Spec) (n : Nat) (h : TopInv s) (hC : Core env s sp n)
    (op : Op) (hn : n < 2^31) : Fresh s (step env s op).1 :=
  step_ind (P := fun t _ => Fresh s t) env s sp op hC.opn (Fresh.refl s) (fun _ _ _ _ _ g m => g.trans m.fresh)
    (fun hash ht tx tr raw c _ _ _ _ _ _ _ _ _ => queued_fresh s hash ht tx tr raw c) (fun _ g => g)
    (fun o _ _ => reopen_fresh env hadv s sp n hC.disk hC.inv hn o (reopen_top env hic hrb s sp n h hC.disk hC.inv hn o).2)

end GocoinV.BlockDB
