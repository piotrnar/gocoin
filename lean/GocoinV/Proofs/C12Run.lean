/-
  Proofs.C12Run — the full pool invariant through ONE operation whose block / undo part is admissible on the chain side
  (`AdmOp`, `Full`, `step_full`), and the initial state `genesis` with its invariants (helper lemmas and vocabulary for
  Props/C12 `pool_inv`; the induction over histories is `run_carried` in Proofs/C12Chain).  Core Lean only.
-/
import GocoinV.Proofs.C12Block
namespace GocoinV.Mempool

/-- chain-side admissibility of one operation in state `s` (only `block` and `undo` touch the chain side; the
    conditions read nothing but `s.utxo` and `s.undo`) -/
def AdmOp (u0 : UT) (ν : OutPoint → Nat) (s : State) : Op → Prop
  | .block h txs _ => ConnectSound u0 ν s (connectUtxo s h txs) txs
  | .undo _ _ => ∀ s' txs, disconnectUtxo s = some (s', txs) → UndoCommitTxs u0 ν s s' txs
  | _ => True

/-- every block / undo operation of the history is admissible in the state it is applied to -/
def AdmRun (K : Keys) (u0 : UT) (ν : OutPoint → Nat) : State → List Op → Prop
  | _, [] => True
  | s, op :: r => AdmOp u0 ν s op ∧ AdmRun K u0 ν (step K s op) r

/-- what one operation carries on the pool side: the structural invariant, a consistent chain side, and the pool
    invariant whenever the process is alive -/
structure Full (K : Keys) (W : Tx → Prop) (u0 : UT) (ν : OutPoint → Nat) (s : State) : Prop where
  inv : InvR K W s
  chain : ChainOK u0 ν s
  good : PGoodP K W u0 ν s

theorem step_full {K : Keys} {W : Tx → Prop} {rank : TxId → Nat} {u0 : UT} {ν : OutPoint → Nat}
    (U : Univ2 K W rank u0 ν) (s : State) (op : Op) (h : Full K W u0 ν s) (hW : ∀ t ∈ op.txs, W t)
    (ha : AdmOp u0 ν s op) : Full K W u0 ν (step K s op) := by
  suffices h2 : ChainOK u0 ν (step K s op) ∧ PGoodP K W u0 ν (step K s op) from
    ⟨step_InvR U.base s op h.inv hW, h2.1, h2.2⟩
  cases op with
  | block hh txs mf =>
    exact ⟨ha.chain.of_env (blockMined_env K mf _ txs), blockMined_good U mf s hh txs hW h.chain h.good h.inv ha⟩
  | undo uh mf =>
    simp only [step]
    cases hd : disconnectUtxo s with
    | none => exact ⟨h.chain, h.good⟩
    | some p =>
      -- BlockUndone followed by removeUnspendableCoinbaseSpends (a `fix:` commit of the repository)
      exact (expire_reach _ _ _ (.refl _)).good U ((ha p.1 p.2 hd).chain.of_env (blockUndone_env K mf p.1 p.2))
        (blockUndone_good U mf s p.1 p.2 hd h.chain h.good h.inv (ha p.1 p.2 hd))
  | _ => exact (step_reach s _ hW rfl).good U h.chain h.good

/-- the initial state: an empty pool over the confirmed set `u0` -/
def genesis (cfg : Cfg) (u0 : UT) (h0 : Nat) : State := { cfg := cfg, utxo := u0, height := h0 }

theorem InvR_genesis (K : Keys) (W : Tx → Prop) (cfg : Cfg) (u0 : UT) (h0 : Nat) : InvR K W (genesis cfg u0 h0) := by
  refine ⟨⟨?_, ?_, ?_⟩, by simp [genesis], ?_, ?_, ?_⟩
  · intro b t h; simp [genesis, AList.get?] at h
  · intro u b h; simp [genesis, AList.get?] at h
  · intro b t h; simp [genesis, AList.get?] at h
  · intro b t h; simp [genesis, AList.get?] at h
  · intro b r t h; simp [genesis, AList.get?] at h
  · intro e he; simp [genesis] at he

theorem InvR_init (K : Keys) (W : Tx → Prop) : InvR K W {} := InvR_genesis K W {} [] 0

theorem full_genesis {K : Keys} {W : Tx → Prop} {rank : TxId → Nat} {u0 : UT} {ν : OutPoint → Nat}
    (U : Univ2 K W rank u0 ν) (cfg : Cfg) (h0 : Nat) : Full K W u0 ν (genesis cfg u0 h0) := by
  have hI := InvR_genesis K W cfg u0 h0
  refine ⟨hI, ⟨?_, ?_, ?_, ?_, ?_⟩, ?_⟩
  · intro e he; simp [genesis] at he
  · intro e he; simp [genesis] at he
  · intro o c h
    exact Or.inl ⟨o.2, c, h⟩
  · intro o c h
    exact (U.val_u0 o c h).symm
  · intro e he; simp [genesis] at he
  · intro _
    refine ⟨⟨hI, ?_, ?_, ?_, rfl⟩, ?_⟩
    · intro b t h; simp [genesis, AList.get?] at h
    · intro b t h; simp [genesis, AList.get?] at h
    · intro b t h; simp [genesis, AList.get?] at h
    · intro b t h; simp [genesis, AList.get?] at h

-- states are compared by evaluation where an example history states its final state once
deriving instance DecidableEq for Cfg, State

end GocoinV.Mempool
