/-
  Proofs.C08_Zp — the generated limb functions seen in the field `ZMod P`:
  `Fe.z a` is the residue of the value of a limb vector; `FeS a m v` says "magnitude ≤ m and residue v".
  One rule per limb function (from the value theorems of C08_Field / C08_Mul / C08_Sqr), so that group
  formulas can be followed symbolically with the magnitude contract checked at every step.
-/
import GocoinV.Proofs.C08_Sqr
import GocoinV.Proofs.C08_Primes
import Mathlib.Data.ZMod.Basic
import Mathlib.FieldTheory.Finite.Basic
import Mathlib.Tactic.Ring
import Mathlib.Tactic.FieldSimp
import Mathlib.Tactic.LinearCombination

namespace GocoinV.C08
open GocoinV.Gen.Field5x52

instance instFactP : Fact (Nat.Prime P) := ⟨by rw [P_eq]; exact secp_p_prime⟩

abbrev F := ZMod P

/-- residue of the value of a limb vector -/
def _root_.GocoinV.Gen.Field5x52.Fe.z (a : Fe) : F := (a.val : F)

/-- fully normalised: canonical limbs and value < p -/
def _root_.GocoinV.Gen.Field5x52.Fe.normd (a : Fe) : Prop := a.canon ∧ a.val < P

/-- magnitude ≤ m and residue v -/
def FeS (a : Fe) (m : Nat) (v : F) : Prop := a.mag m ∧ a.z = v

theorem mag_mono {a : Fe} {m m' : Nat} (h : a.mag m) (hm : m ≤ m') : a.mag m' := by
  unfold Fe.mag at *
  obtain ⟨h0, h1, h2, h3, h4⟩ := h
  have e1 : 2 * m * (2 ^ 52 - 1) ≤ 2 * m' * (2 ^ 52 - 1) := Nat.mul_le_mul_right _ (Nat.mul_le_mul_left _ hm)
  have e2 : 2 * m * (2 ^ 48 - 1) ≤ 2 * m' * (2 ^ 48 - 1) := Nat.mul_le_mul_right _ (Nat.mul_le_mul_left _ hm)
  exact ⟨Nat.le_trans h0 e1, Nat.le_trans h1 e1, Nat.le_trans h2 e1, Nat.le_trans h3 e1, Nat.le_trans h4 e2⟩

theorem canon_mag1 {a : Fe} (h : a.canon) : a.mag 1 := by
  unfold Fe.canon at h; unfold Fe.mag; omega

theorem FeS.mono {a : Fe} {m m' : Nat} {v : F} (h : FeS a m v) (hm : m ≤ m') : FeS a m' v :=
  ⟨mag_mono h.1 hm, h.2⟩

theorem FeS.self {a : Fe} {m : Nat} (h : a.mag m) : FeS a m a.z := ⟨h, rfl⟩

theorem z_of_mod {a : Fe} {n : Nat} (h : a.val % P = n % P) : a.z = (n : F) :=
  (ZMod.natCast_eq_natCast_iff' _ _ _).2 h

theorem FeS.mul {a b : Fe} {m1 m2 : Nat} {v1 v2 : F} (ha : FeS a m1 v1) (hb : FeS b m2 v2)
    (h1 : m1 ≤ 8) (h2 : m2 ≤ 8) : FeS (mul a b) 1 (v1 * v2) := by
  obtain ⟨hv, hm⟩ := mul_val a b (mag_mono ha.1 h1) (mag_mono hb.1 h2)
  refine ⟨hm, ?_⟩
  rw [z_of_mod hv, Nat.cast_mul, ← ha.2, ← hb.2]; rfl

theorem FeS.sqr {a : Fe} {m1 : Nat} {v1 : F} (ha : FeS a m1 v1) (h1 : m1 ≤ 8) : FeS (sqr a) 1 (v1 * v1) := by
  obtain ⟨hv, hm⟩ := sqr_val a (mag_mono ha.1 h1)
  refine ⟨hm, ?_⟩
  rw [z_of_mod hv, Nat.cast_mul, ← ha.2]; rfl

theorem FeS.add {a b : Fe} {m1 m2 : Nat} {v1 v2 : F} (ha : FeS a m1 v1) (hb : FeS b m2 v2)
    (h : m1 + m2 ≤ 32) : FeS (setAdd a b) (m1 + m2) (v1 + v2) := by
  obtain ⟨hv, hm⟩ := setAdd_val a b m1 m2 ha.1 hb.1 h
  refine ⟨hm, ?_⟩
  unfold Fe.z; rw [hv, Nat.cast_add, ← ha.2, ← hb.2]; rfl

theorem FeS.mulInt {a : Fe} {m : Nat} {v : F} (ha : FeS a m v) (k : Nat) (h : m * k ≤ 32) :
    FeS (mulInt a k) (m * k) (v * (k : F)) := by
  obtain ⟨hv, hm⟩ := mulInt_val a m k ha.1 h
  refine ⟨hm, ?_⟩
  unfold Fe.z; rw [hv, Nat.cast_mul, ← ha.2]; rfl

theorem FeS.neg {a : Fe} {m : Nat} {v : F} (ha : FeS a m v) (m' : Nat) (h1 : m ≤ m') (h2 : m' ≤ 31) :
    FeS (negate a m') (m' + 1) (-v) := by
  obtain ⟨hv, hm⟩ := negate_val a m' (mag_mono ha.1 h1) h2
  refine ⟨hm, ?_⟩
  have h := congrArg (fun n : Nat => (n : F)) hv
  simp only [Nat.cast_add, Nat.cast_mul, ZMod.natCast_self, mul_zero] at h
  rw [← ha.2]
  exact eq_neg_of_add_eq_zero_left h

theorem FeS.norm {a : Fe} {m : Nat} {v : F} (ha : FeS a m v) (h : m ≤ 32) :
    FeS (normalize a) 1 v ∧ (normalize a).normd := by
  have hm := mag_mono ha.1 h
  obtain ⟨hv, hc⟩ := normalize_val a hm
  refine ⟨⟨canon_mag1 hc, ?_⟩, hc, by rw [hv]; exact Nat.mod_lt _ (by rw [P_eq]; decide)⟩
  rw [← ha.2]; unfold Fe.z; rw [hv, ZMod.natCast_mod]

theorem FeS.ofInt (k : Nat) (h : k ≤ 9007199254740990) : FeS (GocoinV.Gen.Field5x52.setInt k) 1 (k : F) := by
  refine ⟨?_, ?_⟩
  · unfold GocoinV.Gen.Field5x52.setInt Fe.mag; simp only []; omega
  · unfold Fe.z GocoinV.Gen.Field5x52.setInt Fe.val; simp

theorem normd_z_inj {a b : Fe} (ha : a.normd) (hb : b.normd) (h : a.z = b.z) : a = b := by
  have h' := (ZMod.natCast_eq_natCast_iff' _ _ _).1 h
  rw [Nat.mod_eq_of_lt ha.2, Nat.mod_eq_of_lt hb.2] at h'
  exact canon_val_inj a b ha.1 hb.1 h'

/-- `Equals` on two fully normalised elements decides equality in F_p -/
theorem equals_normd {a b : Fe} (ha : a.normd) (hb : b.normd) : equals a b = true ↔ a.z = b.z := by
  rw [equals_iff']
  exact ⟨fun h => by rw [h], normd_z_inj ha hb⟩

/-- `IsZero` on a fully normalised element decides `= 0` in F_p -/
theorem isZero_normd {a : Fe} (ha : a.normd) : isZero a = true ↔ a.z = 0 := by
  rw [isZero_iff']
  constructor
  · intro h; unfold Fe.z; rw [h]; simp
  · intro h
    have h' := (ZMod.natCast_eq_zero_iff _ _).1 h
    exact Nat.eq_zero_of_dvd_of_lt h' ha.2

theorem val_of_normd {a : Fe} (ha : a.normd) : a.z.val = a.val := by
  unfold Fe.z; rw [ZMod.val_natCast, Nat.mod_eq_of_lt ha.2]

end GocoinV.C08
