/-
  Proofs.C12Proc — processTx keeps the full pool invariant: the rbf list is closed under in-pool children
  (GetAllChildren is complete, its fuel suffices), the input loop resolves every input in the pool or the confirmed
  set, the new record's Fee/Volume/MemInputs are exact (helper lemmas for Props/C12 `pool_inv`).  Core Lean only.
-/
import GocoinV.Proofs.C12Good
namespace GocoinV.Mempool

/-! ### GetChildren / GetAllChildren -/

def addAll (acc cs : List Nat) : List Nat := cs.foldl (fun a c => if a.contains c then a else a ++ [c]) acc

theorem nodup_addRbf (l : List Nat) (b : Nat) (h : l.Nodup) : (addRbf l b).Nodup := by
  unfold addRbf
  split
  · exact h
  · exact List.nodup_append.mpr ⟨h, by simp, fun a ha b' hb e => by simp_all⟩

theorem addAll_spec : ∀ (cs acc : List Nat), acc.Nodup →
    (addAll acc cs).Nodup ∧ (∀ x, x ∈ addAll acc cs ↔ x ∈ acc ∨ x ∈ cs) ∧ ∃ extra, addAll acc cs = acc ++ extra := by
  intro cs
  induction cs with
  | nil => intro acc h; exact ⟨h, by simp [addAll], [], by simp [addAll]⟩
  | cons c r ih =>
    intro acc h
    obtain ⟨i1, i2, e, i3⟩ := ih (addRbf acc c) (nodup_addRbf acc c h)
    refine ⟨i1, fun x => ?_, ?_⟩
    · exact (i2 x).trans (by rw [mem_addRbf, List.mem_cons, or_assoc])
    · show ∃ extra, addAll (addRbf acc c) r = acc ++ extra
      rw [i3]; unfold addRbf; split
      · exact ⟨e, rfl⟩
      · exact ⟨[c] ++ e, by simp⟩

theorem children_eq (K : Keys) (s : State) (t : T2S) :
    children K s t = addAll [] ((iota t.tx.outs.length).filterMap fun v => s.spent.get? (K.uidx t.tx.id v)) := by
  unfold addAll children
  rw [List.foldl_filterMap]
  congr; funext x y; cases s.spent.get? (K.uidx t.tx.id y) <;> rfl

theorem mem_children (K : Keys) (s : State) (t : T2S) (x : Nat) :
    x ∈ children K s t ↔ ∃ v, v < t.tx.outs.length ∧ s.spent.get? (K.uidx t.tx.id v) = some x := by
  rw [children_eq, (addAll_spec _ [] List.nodup_nil).2.1]
  simp [iota]

/-- `R` contains every pooled spender of an output of each of its pooled members -/
def ChildClosed (K : Keys) (s : State) (R : List Nat) : Prop :=
  ∀ x ∈ R, ∀ p, s.pool.get? x = some p → ∀ c ∈ children K s p, c ∈ R

theorem pooled_length_le (s : State) (acc : List Nat) (hn : acc.Nodup)
    (hp : ∀ x ∈ acc, ∃ p, s.pool.get? x = some p) : acc.length ≤ s.pool.length := by
  have : acc ⊆ s.pool.map Prod.fst := by
    intro x hx
    obtain ⟨p, hp⟩ := hp x hx
    exact List.mem_map.mpr ⟨(x, p), AList.mem_of_get? _ _ _ hp, rfl⟩
  simpa using List.Nodup.length_le_of_subset hn this

/-- the worklist loop of GetAllChildren: the entries of `acc` before `idx` are processed (their children are in `acc`); all
    entries are pooled and distinct, so `acc` is never longer than the pool and `fuel + idx > |pool|` lets the loop reach
    the end of `acc` — where `acc` is closed under children -/
theorem allChildrenAux_closed (K : Keys) (s : State) (hs : InvS K s) : ∀ (fuel : Nat) (acc : List Nat) (idx : Nat),
    acc.Nodup → (∀ x ∈ acc, ∃ p, s.pool.get? x = some p) →
    (∀ j b, j < idx → acc[j]? = some b → ∀ p, s.pool.get? b = some p → ∀ c ∈ children K s p, c ∈ acc) →
    s.pool.length + 1 ≤ fuel + idx →
    (∀ x ∈ acc, x ∈ allChildrenAux K s fuel acc idx) ∧ ChildClosed K s (allChildrenAux K s fuel acc idx) := by
  intro fuel
  have done : ∀ (acc : List Nat) (idx : Nat), acc.length ≤ idx →
      (∀ j b, j < idx → acc[j]? = some b → ∀ p, s.pool.get? b = some p → ∀ c ∈ children K s p, c ∈ acc) →
      ChildClosed K s acc := by
    intro acc idx hle hproc x hx p hp c hc
    obtain ⟨j, hj⟩ := List.mem_iff_getElem?.mp hx
    have hjl : j < acc.length := (List.getElem?_eq_some_iff.mp hj).1
    exact hproc j x (by omega) hj p hp c hc
  induction fuel with
  | zero =>
    intro acc idx hn hp hproc hf
    simp only [allChildrenAux]
    have := pooled_length_le s acc hn hp
    exact ⟨fun x hx => hx, done acc idx (by omega) hproc⟩
  | succ n ih =>
    intro acc idx hn hp hproc hf
    unfold allChildrenAux
    split
    · rename_i hnone
      have hle : acc.length ≤ idx := List.getElem?_eq_none_iff.mp hnone
      exact ⟨fun x hx => hx, done acc idx hle hproc⟩
    · rename_i b hb
      have hidx : idx < acc.length := (List.getElem?_eq_some_iff.mp hb).1
      split
      · rename_i hnone
        apply ih acc (idx + 1) hn hp _ (by omega)
        intro j b' hj hb' p hp' c hc
        by_cases e : j = idx
        · rw [e, hb] at hb'; cases hb'; rw [hnone] at hp'; cases hp'
        · exact hproc j b' (by omega) hb' p hp' c hc
      · rename_i t ht
        obtain ⟨a1, a2, extra, a3⟩ := addAll_spec (children K s t) acc hn
        have := ih (addAll acc (children K s t)) (idx + 1) a1 ?_ ?_ (by omega)
        · exact ⟨fun x hx => this.1 x ((a2 x).mpr (Or.inl hx)), this.2⟩
        · intro x hx
          rcases (a2 x).mp hx with h1 | h1
          · exact hp x h1
          · obtain ⟨v, _, hv⟩ := (mem_children K s t x).mp h1
            obtain ⟨t', ht', _⟩ := hs.sound _ _ hv
            exact ⟨t', ht'⟩
        · intro j b' hj hb' p hp' c hc
          have hjl : j < acc.length := by omega
          have hb'' : acc[j]? = some b' := by
            rw [a3, List.getElem?_append_left hjl] at hb'; exact hb'
          by_cases e2 : j = idx
          · rw [e2, hb] at hb''; cases hb''
            rw [ht] at hp'; cases hp'
            exact (a2 c).mpr (Or.inr hc)
          · exact (a2 c).mpr (Or.inl (hproc j b' (by omega) hb'' p hp' c hc))

theorem children_nodup (K : Keys) (s : State) (t : T2S) : (children K s t).Nodup := by
  rw [children_eq]
  exact (addAll_spec _ [] List.nodup_nil).1

theorem allChildren_closed (K : Keys) (s : State) (hs : InvS K s) (t : T2S) :
    (∀ c ∈ children K s t, c ∈ allChildren K s t) ∧ ChildClosed K s (allChildren K s t) := by
  unfold allChildren
  dsimp only
  apply allChildrenAux_closed K s hs _ _ 0 (children_nodup K s t)
  · intro x hx
    obtain ⟨v, _, hv⟩ := (mem_children K s t x).mp hx
    obtain ⟨t', ht', _⟩ := hs.sound _ _ hv
    exact ⟨t', ht'⟩
  · intro j b hj; omega
  · omega

theorem rbfStep_closed (K : Keys) (s : State) (hs : InvS K s) (fl : Flags) (so : Nat) (rbf r : List Nat)
    (h : rbfStep K s fl so rbf = .ok r) (hc : ChildClosed K s rbf) : ChildClosed K s r := by
  obtain ⟨ctx, hctx, hm⟩ := rbfStep_mem K s fl so rbf r h
  obtain ⟨a1, a2⟩ := allChildren_closed K s hs ctx
  intro x hx p hp c hcc
  rcases (hm x).mp hx with h1 | h1 | h1
  · exact (hm c).mpr (Or.inl (hc x h1 p hp c hcc))
  · rw [h1, hctx] at hp; cases hp
    exact (hm c).mpr (Or.inr (Or.inr (a1 c hcc)))
  · exact (hm c).mpr (Or.inr (Or.inr (a2 x h1 p hp c hcc)))

/-! ### the input loop of processTx -/

theorem inputs_rbf_closed (K : Keys) (s : State) (hs : InvS K s) (fl : Flags) : ∀ (ins : List TxIn) (a a' : Acc),
    ins.foldlM (inputStep K s fl) a = .ok a' → ChildClosed K s a.rbf → ChildClosed K s a'.rbf := by
  intro ins
  induction ins with
  | nil => intro a a' h hc; cases h; exact hc
  | cons i r ih =>
    intro a a' h hc
    obtain ⟨a1, hf, h⟩ := foldlM_cons_ok h
    apply ih a1 a' h
    rcases (inputStep_ok K s fl a a1 i hf).1 with ⟨_, e⟩ | ⟨so, _, e⟩
    · rw [e]; exact hc
    · exact rbfStep_closed K s hs fl so _ _ e hc

theorem inputs_res (K : Keys) (s : State) (fl : Flags) (ν : OutPoint → Nat) : ∀ (ins : List TxIn) (a a' : Acc),
    (∀ i ∈ ins, ∀ m v, Res K s i m v → v = ν (i.prev, i.vout)) →
    ins.foldlM (inputStep K s fl) a = .ok a' →
    ∃ ms : List Bool, a'.frommem = a.frommem ++ ms ∧ ms.length = ins.length ∧ a'.totinp = sumν ν ins a.totinp ∧
      ∀ k i, ins[k]? = some i → ∃ v, Res K s i (ms.getD k false) v := by
  intro ins
  induction ins with
  | nil =>
    intro a a' _ h
    cases h
    exact ⟨[], by simp, rfl, rfl, by simp⟩
  | cons i r ih =>
    intro a a' hv h
    obtain ⟨a1, hf, h⟩ := foldlM_cons_ok h
    obtain ⟨m, v, e1, e2, e3⟩ := (inputStep_ok K s fl a a1 i hf).2
    obtain ⟨ms, f1, f2, f3, f4⟩ := ih a1 a' (fun j hj => hv j (List.mem_cons_of_mem _ hj)) h
    refine ⟨m :: ms, by rw [f1, e1]; simp, by simp [f2], ?_, ?_⟩
    · rw [f3, e2, hv i List.mem_cons_self m v e3]
      rfl
    · intro k j hk
      cases k with
      | zero =>
        simp only [List.getElem?_cons_zero, Option.some.injEq] at hk
        subst hk
        exact ⟨v, by simpa using e3⟩
      | succ n =>
        simp only [List.getElem?_cons_succ] at hk
        simpa using f4 n j hk

theorem hasDupInput_nodup : ∀ (ins : List TxIn), hasDupInput ins = false → (ins.map TxIn.op).Nodup := by
  intro ins
  induction ins with
  | nil => intro _; simp
  | cons i r ih =>
    intro h
    simp only [hasDupInput, Bool.or_eq_false_iff] at h
    simp only [List.map_cons, List.nodup_cons]
    refine ⟨?_, ih h.2⟩
    intro hm
    obtain ⟨j, hj, e⟩ := List.mem_map.mp hm
    have := List.any_eq_false.mp h.1 j hj
    simp only [TxIn.op, Prod.mk.injEq] at e
    simp [e.1, e.2] at this

theorem spendsReplaced_spec (K : Keys) (rbf : List Nat) : ∀ (ins : List TxIn) (ms : List Bool),
    spendsReplaced K ins ms rbf = false → ∀ k i, ins[k]? = some i → ms.getD k false = true →
    K.bidx i.prev ∉ rbf := by
  intro ins ms h k i hk hm
  have := List.any_eq_false.mp h (i, true)
    (List.mem_iff_getElem?.mpr ⟨k, List.getElem?_zip_eq_some.mpr ⟨hk, (getD_true ms k).mp hm⟩⟩)
  simpa using this

/-! ### processTx -/

theorem delKeys_w {K : Keys} {W : Tx → Prop} {ν : OutPoint → Nat} {A : OutPoint → Prop} {Cf : TxId → Prop}
    (reason : Nat) : ∀ (l : List Nat) (s : State), PoolW K W ν A Cf s → PoolW K W ν A Cf (delKeys K reason s l) := by
  intro l s h
  refine foldl_inv (PoolW K W ν A Cf) _ (fun s b h => ?_) l s h
  cases hb : s.pool.get? b with
  | none => exact h
  | some t => exact delOne_w s t reason h (h.base.str.at_key hb)

variable {K : Keys} {W : Tx → Prop} {rank : TxId → Nat} {u0 : UT} {ν : OutPoint → Nat}
  {A : OutPoint → Prop} {Cf : TxId → Prop}

theorem parent_id (U : Univ2 K W rank u0 ν) {s : State} (hb : InvR K W s) {t : Tx} (ht : W t) {i : TxIn}
    (hi : i ∈ t.ins)
    {par : T2S} (hp : s.pool.get? (K.bidx i.prev) = some par) : par.tx.id = i.prev :=
  U.bidx_play _ _ (Play.self (hb.poolW _ _ hp)) (Play.prev ht hi) (hb.str.key _ _ hp)

/-- the state in which processTx calls Add: the replaced records are gone and the pool invariant still holds, the new
    key is free and nothing pooled spends the new inputs; the loop has summed the input values; a flagged input has a
    pooled parent (which is not being replaced) with that output, an unflagged one names an unspent confirmed coin -/
theorem accept_pre (U : Univ2 K W rank u0 ν) (s : State) (t : Tx)
    (fl : Flags) (a : Acc)
    (loc : Bool) (h : PoolOK K W ν A Cf s) (ht : W t)
    (hV : ∀ o c, s.utxo.get? o = some c → c.value = ν o)
    (ha : t.ins.foldlM (inputStep K s fl) ({} : Acc) = .ok a)
    (hsr : spendsReplaced K t.ins a.frommem a.rbf = false) :
    PoolOK K W ν A Cf (deleteRbf K s a.rbf) ∧ (deleteRbf K s a.rbf).pool.get? (K.bidx t.id) = none ∧
    (∀ u ∈ uidxs K t, (deleteRbf K s a.rbf).spent.get? u = none) ∧
    a.totinp = sumν ν t.ins 0 ∧ a.frommem.length = t.ins.length ∧
    ∀ k i, t.ins[k]? = some i →
      (flag (newRec t a loc) k = true → ∃ p, (deleteRbf K s a.rbf).pool.get? (K.bidx i.prev) = some p ∧
        s.pool.get? (K.bidx i.prev) = some p ∧ p.tx.id = i.prev ∧ i.vout < p.tx.outs.length) ∧
      (flag (newRec t a loc) k = false → ∃ c, s.utxo.get? (i.prev, i.vout) = some c) := by
  have hb := h.w.base
  -- the input loop
  have hval : ∀ i ∈ t.ins, ∀ m v, Res K s i m v → v = ν (i.prev, i.vout) := by
    intro i hi m v hr
    rcases hr with ⟨_, par, hp, _, e⟩ | ⟨_, c, hc, e⟩
    · rw [e, ← parent_id U hb ht hi hp]
      exact (U.val_tx _ (hb.poolW _ _ hp) _).symm
    · rw [e]; exact hV _ c hc
  obtain ⟨ms, f1, f2, f3, f4⟩ := inputs_res K s fl ν t.ins {} a hval ha
  have f1' : a.frommem = ms := by simpa using f1
  -- the state after the replaced records are gone
  obtain ⟨_, notin, keep, _⟩ := delList_spec K W R_REPLACED a.rbf.reverse s hb
  simp only [List.mem_reverse] at notin keep
  obtain ⟨_, _, d3⟩ := deleteRbf_spec K W s a.rbf hb
  have w1 : PoolW K W ν A Cf (deleteRbf K s a.rbf) := delKeys_w R_REPLACED _ s h.w
  have closed := inputs_rbf_closed K s hb.str fl t.ins {} a ha (by intro x hx; simp at hx)
  have p1 : ParOK K (deleteRbf K s a.rbf) := by
    intro b x hx k i hk hf
    have hx0 := d3 b x hx
    obtain ⟨p, hp1, hp2, hp3⟩ := h.par b x hx0 k i hk hf
    refine ⟨p, (keep _ fun hm => ?_).trans hp1, hp2, hp3⟩
    have hc : b ∈ a.rbf := closed _ hm p hp1 b <| (mem_children K s p b).mpr ⟨i.vout, hp3, by
      rw [hp2]; exact hb.str.complete b x hx0 _ (List.mem_map.mpr ⟨i, List.mem_of_getElem? hk, rfl⟩)⟩
    cases (notin b hc).symm.trans hx
  -- the new record
  obtain ⟨hfresh, hfree⟩ := accept_free U.base s t fl a hb ht ha
  have hflag : ∀ k, flag (newRec t a loc) k = ms.getD k false := by
    intro k
    unfold flag newRec
    dsimp only
    split
    · rename_i hz
      rw [f1'] at hz
      rw [count_zero_getD ms k hz]; simp
    · rw [f1']
  refine ⟨⟨w1, p1⟩, hfresh, hfree, f3, by rw [f1']; exact f2, fun k i hk => ?_⟩
  rw [hflag]
  obtain ⟨v, hr⟩ := f4 k i hk
  rcases hr with ⟨hm, par, hp, hlt, _⟩ | ⟨hm, c, hc, _⟩
  · refine ⟨fun hf => ?_, fun hf => (by rw [hm] at hf; cases hf)⟩
    have hnr := spendsReplaced_spec K a.rbf t.ins a.frommem hsr k i hk (by rw [f1']; exact hf)
    exact ⟨par, (keep _ hnr).trans hp, hp, parent_id U hb ht (List.mem_of_getElem? hk) hp, hlt⟩
  · exact ⟨fun hf => (by rw [hm] at hf; cases hf), fun _ => ⟨c, hc⟩⟩

/-- processTx keeps the pool invariant `PoolOK` against any `A` / `Cf` that fit the chain side: `hA` unspent outputs are
    available, `hV` coin values are the oracle's, `hcf` a transaction with a confirmed id has a spent input naming a
    confirmed id -/
theorem processTx_ok (U : Univ2 K W rank u0 ν) (mf : Nat) (s : State)
    (t : Tx) (fl : Flags)
    (h : PoolOK K W ν A Cf s) (ht : W t)
    (hA : ∀ o, (s.utxo.get? o).isSome → A o)
    (hV : ∀ o c, s.utxo.get? o = some c → c.value = ν o)
    (hnd : fl.unmined = true → t.inOps.Nodup)
    (hcf : Cf t.id → ∃ i ∈ t.ins, s.utxo.get? (i.prev, i.vout) = none ∧ Cf i.prev) :
    PoolOK K W ν A Cf (processTx K mf s t fl).2 := by
  refine processTx_cases (P := fun r => PoolOK K W ν A Cf r.2) K mf s t fl
    (fun why m _ _ => h.frame (rejectTx_frame K W s t why m ht)) (fun _ _ => h)
    (h.frame Frame.of_eq) fun a hdup ha hsr hov => ?_
  have hnd' : t.inOps.Nodup := by
    cases hu : fl.unmined with
    | true => exact hnd hu
    | false => exact hasDupInput_nodup _ (hdup hu)
  -- the accepted branch: the rbf list is removed, the new record added
  obtain ⟨ok1, hfresh, hfree, hvol, hlen, hin⟩ := accept_pre U s t fl a fl.loc h ht hV ha hsr
  apply addT2S_ok _ (newRec t a fl.loc) ok1 ht hfresh hfree
  · refine ⟨?_, ?_, hnd', hvol, ?_⟩
    · unfold newRec
      dsimp only
      split
      · exact Or.inl rfl
      · exact Or.inr hlen
    · unfold newRec
      dsimp only
      split
      · rename_i hz; rw [hz]; rfl
      · rfl
    · unfold newRec; dsimp only; omega
  · intro k i hk hf
    obtain ⟨p, hp, _, hid, hlt⟩ := (hin k i hk).1 hf
    exact ⟨p, hp, hid, hlt⟩
  · intro k i hk hf
    obtain ⟨c, hc⟩ := (hin k i hk).2 hf
    exact hA _ (by rw [hc]; rfl)
  · intro hc
    obtain ⟨i, hi, hnone, hci⟩ := hcf hc
    obtain ⟨k, hk⟩ := List.mem_iff_getElem?.mp hi
    cases hf : flag (newRec t a fl.loc) k with
    | true =>
      obtain ⟨p, _, hp, hid, _⟩ := (hin k i hk).1 hf
      have := h.w.ncf _ p hp
      rw [hid] at this
      exact this hci
    | false =>
      obtain ⟨c, hc'⟩ := (hin k i hk).2 hf
      rw [hnone] at hc'; cases hc'

end GocoinV.Mempool
