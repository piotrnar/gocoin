/-
  Proofs.C18Locks — the lock-set scan of Model/NetParseLocks.lean is run over the regenerated traces ONCE, by the
  kernel, in `flagged_current`: of all traced functions exactly two have a scan that reports anything, and it reports
  one explicit panic under a lock for each. Selecting those traces adds no string comparison to the scans (a trace is kept
  iff its report is non-empty); function names and messages are compared only against the two entries that remain. Every statement of the form
  "the reports over all traces, each passed through `g`, are …" (`complaints`, `complaintsRaw`) then follows from
  `flatMap_flagged`, as long as `g` makes nothing out of an empty report. Core only.
-/
import GocoinV.Model.NetParseLocks
namespace GocoinV.NetParse.Locks

/-- the functions whose scan reports something, with what it reports -/
def flagged (trs : List (String × List Tok)) : List (String × List String) :=
  trs.filterMap fun p => if (scan p.1 p.2).isEmpty then none else some (p.1, scan p.1 p.2)

theorem dropProved_nil (fn : String) : dropProved fn [] = [] := by
  unfold dropProved
  generalize panicUnreachable = l
  induction l with
  | nil => rfl
  | cons w l ih => rw [List.foldl_cons]; split <;> exact ih

theorem flatMap_flagged (g : String → List String → List String) (hg : ∀ fn, g fn [] = [])
    (trs : List (String × List Tok)) :
    trs.flatMap (fun p => g p.1 (scan p.1 p.2)) = (flagged trs).flatMap fun q => g q.1 q.2 := by
  induction trs with
  | nil => rfl
  | cons p r ih =>
    rw [List.flatMap_cons, ih]
    unfold flagged
    rw [List.filterMap_cons]
    cases scan p.1 p.2 with
    | nil => rw [hg]; rfl
    | cons a l => rfl

theorem flagged_current : flagged Gen.NetFacts.lockTraces =
    [("OneConnection.FetchMessage", ["panic with c.Mutex held"]),
     ("OneConnection.ProcessCmpctBlock", ["panic with txpool.TxMutex held"])] := by decide +kernel

end GocoinV.NetParse.Locks
