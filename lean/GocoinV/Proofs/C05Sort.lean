/-
  Proofs.C05Sort — helper lemmas for C05: insertion sort is a sorted permutation; order statistics of a sorted list.
-/
import GocoinV.Model.Retarget
open GocoinV GocoinV.Retarget

namespace GocoinV.Proofs.C05

theorem insertSorted_perm (x : Nat) (l : List Nat) : (insertSorted x l).Perm (x :: l) := by
  induction l with
  | nil => simp [insertSorted]
  | cons y ys ih =>
    simp only [insertSorted]
    split
    · exact List.Perm.refl _
    · exact (List.Perm.cons y ih).trans (List.Perm.swap x y ys)

theorem isort_perm (l : List Nat) : (isort l).Perm l := by
  induction l with
  | nil => simp [isort]
  | cons x xs ih => exact (insertSorted_perm x (isort xs)).trans (List.Perm.cons x ih)

theorem insertSorted_sorted (x : Nat) (l : List Nat) (h : l.Pairwise (· ≤ ·)) :
    (insertSorted x l).Pairwise (· ≤ ·) := by
  induction l with
  | nil => simp [insertSorted]
  | cons y ys ih =>
    simp only [insertSorted]
    split
    · rename_i hxy
      rw [List.pairwise_cons]
      refine ⟨?_, h⟩
      intro a ha
      rcases List.mem_cons.mp ha with rfl | ha
      · exact hxy
      · exact Nat.le_trans hxy (List.rel_of_pairwise_cons h ha)
    · rename_i hxy
      rw [List.pairwise_cons]
      refine ⟨?_, ih h.of_cons⟩
      intro a ha
      have := (insertSorted_perm x ys).mem_iff.mp ha
      rcases List.mem_cons.mp this with rfl | ha
      · omega
      · exact List.rel_of_pairwise_cons h ha

theorem isort_sorted (l : List Nat) : (isort l).Pairwise (· ≤ ·) := by
  induction l with
  | nil => simp [isort]
  | cons x xs ih => exact insertSorted_sorted x _ ih

theorem sorted_getElem_le (s : List Nat) (hs : s.Pairwise (· ≤ ·)) (i j : Nat) (hij : i ≤ j) (hj : j < s.length) :
    s[i]'(by omega) ≤ s[j] := by
  rcases Nat.lt_or_eq_of_le hij with h | h
  · exact (List.pairwise_iff_getElem.mp hs) i j (by omega) hj h
  · subst h; exact Nat.le_refl _

theorem sorted_count_lt (s : List Nat) (hs : s.Pairwise (· ≤ ·)) (k : Nat) (hk : k < s.length) :
    s.countP (· < s[k]) ≤ k := by
  have h1 : s.countP (· < s[k]) = (s.take k).countP (· < s[k]) + (s.drop k).countP (· < s[k]) := by
    rw [← List.countP_append, List.take_append_drop]
  have h0 : (s.drop k).countP (· < s[k]) = 0 := by
    rw [List.countP_eq_zero]
    intro a ha
    obtain ⟨i, hi, rfl⟩ := List.mem_drop_iff_getElem.mp ha
    have := sorted_getElem_le s hs k (k+i) (by omega) (by omega)
    simp; omega
  rw [h1, h0]
  exact Nat.le_trans List.countP_le_length (List.length_take_le ..)

theorem sorted_count_le (s : List Nat) (hs : s.Pairwise (· ≤ ·)) (k : Nat) (hk : k < s.length) :
    k + 1 ≤ s.countP (· ≤ s[k]) := by
  have h1 : s.countP (· ≤ s[k]) = (s.take (k+1)).countP (· ≤ s[k]) + (s.drop (k+1)).countP (· ≤ s[k]) := by
    rw [← List.countP_append, List.take_append_drop]
  have h0 : (s.take (k+1)).countP (· ≤ s[k]) = (s.take (k+1)).length := by
    rw [List.countP_eq_length]
    intro a ha
    obtain ⟨i, hi, rfl⟩ := List.mem_take_iff_getElem.mp ha
    have := sorted_getElem_le s hs i k (by omega) hk
    simpa using this
  rw [h1, h0, List.length_take]
  omega

/-- the value picked by `GetMedianTimePast` is an order statistic of the collected timestamps -/
theorem median_spec (l : List Nat) (m : Nat) (h : (isort l)[l.length / 2]? = some m) :
    m ∈ l ∧ l.countP (· < m) ≤ l.length / 2 ∧ l.length / 2 < l.countP (· ≤ m) := by
  have hp := isort_perm l
  have hs := isort_sorted l
  obtain ⟨hk, hm⟩ := List.getElem?_eq_some_iff.mp h
  subst hm
  rw [← hp.countP_eq, ← hp.countP_eq]
  exact ⟨hp.mem_iff.mp (List.getElem_mem hk), sorted_count_lt _ hs _ hk, sorted_count_le _ hs _ hk⟩

end GocoinV.Proofs.C05
