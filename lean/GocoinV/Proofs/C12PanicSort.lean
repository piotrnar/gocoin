/-
  Proofs.C12PanicSort — the panic branch of `addToSort` (AddToSort dereferences the SortRank of a flagged parent that
  is not in the map) is unreachable when every flagged parent of the record being added is pooled, which is what
  `accept_pre` (Proofs/C12Proc) establishes for the state in which processTx calls Add: the `spendsReplaced` check
  of processTx guarantees that no flagged parent was on the rbf list that `deleteRbf` removed.

  The fall-through of `fixIndex` (insertion in front of a head whose SortRank is in 1 … sortIndexStep: nil `better`) is
  a known latent defect of the code; it is NOT proved unreachable here, it is excluded by the explicit hypothesis
  `¬ FixFall …`.  Core Lean only.
-/
import GocoinV.Proofs.C12SortAdd
import GocoinV.Proofs.C12Proc
namespace GocoinV.Mempool

/-- the guard of the fall-through of `fixIndex`: there is no better neighbour, the worse neighbour `w` has a SortRank
    `rw` with `0 < rw ≤ sortIndexStep` (so that `rw - step` would wrap and `rw / 2 ≠ rw`) -/
def FixFall (s : State) (bt wr : Option Nat) : Prop :=
  bt = none ∧ ∃ w, wr = some w ∧ ¬ rankOf s w > s.sortStep ∧ ¬ rankOf s w / 2 = rankOf s w

theorem reindexDown_panicked (s : State) (rb : Nat) (below : List Nat) :
    (reindexDown s rb below).panicked = s.panicked := by
  unfold reindexDown
  dsimp only
  split <;> rfl

theorem fixIndex_panicked (s : State) (b : Nat) (bt wr : Option Nat) (below : List Nat) (h : ¬ FixFall s bt wr) :
    (fixIndex s b bt wr below).panicked = s.panicked := by
  cases bt with
  | none =>
    cases wr with
    | none => rfl
    | some w =>
      simp only [fixIndex]
      split
      · rfl
      · rename_i h1
        split
        · rfl
        · rename_i h2
          exact absurd ⟨rfl, w, rfl, h1, h2⟩ h
  | some p =>
    cases wr with
    | none => rfl
    | some w =>
      simp only [fixIndex]
      split
      · rfl
      · exact reindexDown_panicked _ _ _

/-- Props/C12 `panic_branches_unreachable` (4): AddToSort does not raise the panic flag when every flagged parent of
    the record is in the map (hypothesis `hpar`) and the insertion does not run into the fall-through of `fixIndex`
    (hypothesis `hfix`, the latent defect kept as is) -/
theorem addToSort_panicked (K : Keys) (s : State) (b : Nat) (t : T2S)
    (hpar : ∀ p ∈ memParents K t, (s.pool.get? p).isSome = true)
    (hfix : ¬ FixFall (insState s b (insJ K s t)) (s.sorted.take (insJ K s t)).getLast?
      (s.sorted.drop (insJ K s t)).head?) :
    (addToSort K s b t).panicked = s.panicked := by
  have h4 : ¬ (!((memParents K t).all fun p => s.pool.has p)) = true := by
    simp only [Bool.not_eq_true', Bool.not_eq_false, List.all_eq_true]
    exact hpar
  by_cases h1 : s.sortDirty = true
  · unfold addToSort; rw [if_pos h1]
  by_cases h2 : s.sortDisabled = true
  · unfold addToSort; rw [if_neg h1, if_pos h2]
  by_cases h3 : s.sorted.isEmpty = true
  · unfold addToSort; rw [if_neg h1, if_neg h2, if_pos h3]
  rw [addToSort_main K s b t h1 h2 h3 h4]
  exact fixIndex_panicked _ _ _ _ _ hfix

/-- the state in which Add calls AddToSort -/
def addPre (K : Keys) (s : State) (t : T2S) : State :=
  { s with spent := t.tx.ins.foldl (fun (m : AList Nat Nat) i => m.set (K.uidx i.prev i.vout) (K.bidx t.tx.id)) s.spent,
           pool := s.pool.set (K.bidx t.tx.id) t, weightTotal := s.weightTotal + t.tx.weight }

theorem addT2S_eq (K : Keys) (s : State) (t : T2S) :
    addT2S K s t = addToSort K (addPre K s t) (K.bidx t.tx.id) t := rfl

/-- OneTxToSend.Add does not raise the panic flag when every flagged parent of the new record is pooled -/
theorem addT2S_panicked (K : Keys) (s : State) (t : T2S)
    (hpar : ∀ p ∈ memParents K t, (s.pool.get? p).isSome = true)
    (hfix : ¬ FixFall (insState (addPre K s t) (K.bidx t.tx.id) (insJ K (addPre K s t) t))
      ((addPre K s t).sorted.take (insJ K (addPre K s t) t)).getLast?
      ((addPre K s t).sorted.drop (insJ K (addPre K s t) t)).head?) :
    (addT2S K s t).panicked = s.panicked := by
  rw [addT2S_eq, addToSort_panicked K _ _ t ?_ hfix]
  · rfl
  · intro p hp
    show ((s.pool.set (K.bidx t.tx.id) t).get? p).isSome = true
    rw [AList.get?_set]
    split
    · rfl
    · exact hpar p hp

/-- … which holds at the call of Add in processTx: in a state with the pool invariant `PoolOK`, for an accumulator `a`
    of the input loop that passed the `spendsReplaced` check, the Add of the new record after `deleteRbf` does not
    raise the panic flag (fall-through of `fixIndex` excluded by `hfix`) -/
theorem accept_add_panicked {K : Keys} {W : Tx → Prop} {rank : TxId → Nat} {u0 : UT} {ν : OutPoint → Nat}
    {A : OutPoint → Prop} {Cf : TxId → Prop} (U : Univ2 K W rank u0 ν) (s : State) (t : Tx) (fl : Flags) (a : Acc)
    (loc : Bool) (h : PoolOK K W ν A Cf s) (ht : W t)
    (hV : ∀ o c, s.utxo.get? o = some c → c.value = ν o)
    (ha : t.ins.foldlM (inputStep K s fl) ({} : Acc) = .ok a)
    (hsr : spendsReplaced K t.ins a.frommem a.rbf = false)
    (hfix : ¬ FixFall (insState (addPre K (deleteRbf K s a.rbf) (newRec t a loc)) (K.bidx t.id)
        (insJ K (addPre K (deleteRbf K s a.rbf) (newRec t a loc)) (newRec t a loc)))
      ((addPre K (deleteRbf K s a.rbf) (newRec t a loc)).sorted.take
        (insJ K (addPre K (deleteRbf K s a.rbf) (newRec t a loc)) (newRec t a loc))).getLast?
      ((addPre K (deleteRbf K s a.rbf) (newRec t a loc)).sorted.drop
        (insJ K (addPre K (deleteRbf K s a.rbf) (newRec t a loc)) (newRec t a loc))).head?) :
    (addT2S K (deleteRbf K s a.rbf) (newRec t a loc)).panicked = (deleteRbf K s a.rbf).panicked := by
  obtain ⟨_, _, _, _, _, hin⟩ := accept_pre U s t fl a loc h ht hV ha hsr
  refine addT2S_panicked K _ _ ?_ hfix
  intro p hpm
  obtain ⟨k, i, hk, hf, e⟩ := (mem_memParents K _ p).mp hpm
  obtain ⟨par, hpar, _⟩ := (hin k i hk).1 hf
  rw [← e, hpar]; rfl

end GocoinV.Mempool
