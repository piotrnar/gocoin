/-
  Proofs.C07AcceptIdle — Chain.CommitBlock / AcceptBlock, BlockDB.writeAll, Chain.Idle / Close keep the invariant `InvQ`
  (the restart and whole histories: Proofs/C07Hist.lean).
  Core Lean only.
-/
import GocoinV.Proofs.C07Ops
namespace GocoinV.Proofs.C07
open GocoinV.Persist

variable {P : Snap → Prop} {base : Disk} {X : BlockId → Prop} {T : List BlockId} {Q Qn : List Block} {s : St}

theorem InvQ.filterTree (h : InvQ ⟨P, base, X, T, Q, Qn⟩ s) (bid : BlockId) (hX : ∀ i, X i → i = 0 ∨ i = bid) :
    InvQ ⟨P, base, (· = 0), T, Q, Qn⟩ { s with n := { s.n with tree := s.n.tree.filter (·.id != bid) } } := by
  refine { h with snap := { h.snap with },
                  node := { h.node with treeRec := ?_, treePar := fun t ht => h.node.treePar t (List.mem_filter.1 ht).1 } }
  · intro t ht
    simp only [List.mem_filter, bne_iff_ne] at ht
    rcases h.node.treeRec t ht.1 with hx | hx
    · exact (hX _ hx).imp id fun h0 => absurd h0 ht.2
    · exact Or.inr hx

theorem commitHead_inv (h : InvQ ⟨P, base, X, T, Q, Q⟩ s) (b : Block)
    (hp : b.parent = 0 ∨ (rf[s.n, b.parent]).isSome) (hX : ∀ i, X i → i = 0 ∨ i = b.id) :
    ∃ q, InvQ ⟨P, base, (· = 0), b.id :: T, q, q⟩ (commitHead s b) := by
  have h1 := h.emit_nop .cBeforeBlockAdd
  unfold commitHead
  split
  · rename_i hv
    refine ⟨Q, blockTrusted_inv (h1.narrowGhost b.id hX ?_) b.id⟩
    unfold viaFlag at hv
    split at hv
    · rename_i r hr; exact hr ▸ rfl
    · cases hv
  · exact blockAdd_step h1 b true hp hX

theorem commitBlock_inv (h : InvQ ⟨P, base, X, T, Q, Q⟩ s) (b : Block) (herr : s.err = none)
    (hp : b.parent = 0 ∨ (rf[s.n, b.parent]).isSome) (hX : ∀ i, X i → i = 0 ∨ i = b.id) :
    ∃ q, InvQ ⟨P, base, (· = 0), T, q, q⟩ (commitBlock s b) := by
  by_cases htp : s.n.tip = b.parent
  · cases hv : validOn s.n.utxo b with
    | false => rw [commitBlock_invalid b herr htp hv]; exact ⟨Q, h.filterTree b.id hX⟩
    | true =>
      rw [commitBlock_active b herr htp hv]
      obtain ⟨q, h2⟩ := commitHead_inv h b hp hX
      -- the block has a record now: CommitBlockTxs, then the tip moves to it
      obtain ⟨h4, hs4, hd4⟩ := commitBlockTxs_inv (h2.emit_nop .cAfterBlockAdd) b
      have h5 := h4.emit_nop .cAfterUtxo
      exact ⟨q, (h5.setTip hs4 hd4 b.id b.height (h5.node.ghost b.id (by simp))).ghostMono T
        (fun _ => List.mem_cons_of_mem _)⟩
  · obtain ⟨q, h1⟩ := blockAdd_step h b false hp hX
    have h2 : InvQ ⟨P, base, (· = 0), b.id :: T, q, q⟩ (sideStored s b) := h1.emit_nop .cSideStored
    rw [commitBlock_side b herr htp]
    split
    · exact ⟨q, (moveToBlock_inv h2 b.id (h2.node.ghost b.id (by simp))).ghostMono T (fun _ => List.mem_cons_of_mem _)⟩
    · exact ⟨q, h2.ghostMono T (fun _ => List.mem_cons_of_mem _)⟩

theorem submit_inv (h : InvQ ⟨P, base, (· = 0), T, Q, Q⟩ s) (b : Block) :
    ∃ q, InvQ ⟨P, base, (· = 0), T, q, q⟩ (submit s b) := by
  by_cases hf : Fresh s b
  · have hp : b.parent = 0 ∨ (rf[s.n, b.parent]).isSome := by
      have hin := hf.2.2
      simp only [inTree, Bool.or_eq_true, beq_iff_eq, List.any_eq_true] at hin
      rcases hin with h0 | ⟨t, ht, e⟩
      · exact Or.inl h0
      · exact (h.node.treeRec t ht).imp (fun h1 => e ▸ h1) (fun h1 => e ▸ h1)
    rw [submit_of_fresh hf]
    refine commitBlock_inv (X := fun i => i = 0 ∨ i = b.id) (Q := Q) ?_ b hf.1 hp (fun i hi => hi)
    refine { h with node := { h.node with treeRec := ?_, treePar := ?_, memParent := ?_ }, snap := { h.snap with } }
    · exact List.forall_mem_append.2 ⟨fun t ht => (h.node.treeRec t ht).imp Or.inl id,
        List.forall_mem_singleton.2 (Or.inl (Or.inr rfl))⟩
    · exact List.forall_mem_append.2 ⟨h.node.treePar, List.forall_mem_singleton.2 hp⟩
    · intro x hx
      rcases mem_ite_snoc hx with hx' | hx'
      · exact h.node.memParent x hx'
      · subst hx'; exact hp
  · rw [submit_of_not_fresh hf]; exact ⟨Q, h⟩

/-! ### BlockDB.writeAll -/

theorem writeOne_frame (s : St) (b : Block) :
    (writeOne s b).n.tip = s.n.tip ∧ (writeOne s b).n.utxo = s.n.utxo ∧ (writeOne s b).err = s.err ∧
    (writeOne s b).n.dirty = s.n.dirty ∧ (writeOne s b).n.saving = s.n.saving ∧ (writeOne s b).n.lastHeight = s.n.lastHeight ∧
    (writeOne s b).n.skip = s.n.skip := by
  unfold writeOne
  split
  · exact ⟨rfl, rfl, rfl, rfl, rfl, rfl, rfl⟩
  · split <;> exact ⟨rfl, rfl, rfl, rfl, rfl, rfl, rfl⟩

theorem writeOne_inv (b : Block) (rest : List Block) (h : InvQ ⟨P, base, X, T, b :: rest, []⟩ s) :
    InvQ ⟨P, base, X, T, rest, []⟩ (writeOne s b) := by
  have hn : NodeInv s.n (ids s.d) (b :: rest) X T := h.node
  have hq : QOK (· ∈ ids s.d) (b :: rest) := hn.queueOK
  unfold writeOne
  split
  · rename_i hnone
    have := hn.queueRec b (by simp)
    rw [hnone] at this; cases this
  · rename_i r hr
    split
    · rename_i ho
      -- already on disk: nothing is written, the queue entry is dropped
      have hin : b.id ∈ ids s.d := hn.recDisk b.id r hr ho
      refine { h with node := { hn with recQueue := ?_, queueRec := fun x hx => hn.queueRec x (List.mem_cons_of_mem _ hx), queueOK := ?_ } }
      · intro id r' hr' ho'
        obtain ⟨x, hx, e⟩ := hn.recQueue id r' hr' ho'
        rcases List.mem_cons.1 hx with hx | hx
        · subst hx
          rw [e] at hr; rw [hr] at hr'; cases hr'
          rw [ho] at ho'; cases ho'
        · exact ⟨x, hx, e⟩
      · exact hq.2.mono (fun x hx => hx.elim (fun e => e ▸ hin) id)
    · have hpar : b.parent = 0 ∨ b.parent ∈ ids s.d := hq.1
      have h2 := (h.emit_nop .wrBeforeDat).emit_appendDat b .wrDatWritten hpar
      have hH := ((h2.toHist.emit (.appendIdx { id := b.id, parent := b.parent, height := b.height, trusted := r.trusted, invalid := false }) .wrIdxWritten
        ⟨rfl, hpar, b, by simp [emit_d, apply], rfl⟩).emit .nop .wrBeforePublish trivial)
      have hids : ids ((((s.emit .nop .wrBeforeDat).emit (.appendDat b) .wrDatWritten).emit
          (.appendIdx { id := b.id, parent := b.parent, height := b.height, trusted := r.trusted, invalid := false }) .wrIdxWritten).emit .nop .wrBeforePublish).d
          = ids s.d ++ [b.id] := by
        simp [emit_d, ids, apply]
      let f : BRec → BRec := fun x => if x.id == b.id then { x with onDisk := true } else x
      have key : ∀ id, List.find? (fun (x : BRec) => x.id == id) (s.n.recs.map f) = (rf[s.n, id]).map f :=
        fun id => find_map_brec _ id f (by intro x; simp only [f]; split <;> rfl)
      refine ⟨hH.hist, hH.pref, ?_, ?_, h.qeq⟩
      · show NodeInv { s.n with recs := s.n.recs.map f } _ rest X T
        rw [hids]
        constructor
        · intro id r' hr' ho'
          simp only [key, Option.map_eq_some_iff] at hr'
          obtain ⟨r0, h0, rfl⟩ := hr'
          have hid0 : r0.id = id := by simpa using List.find?_some h0
          by_cases hb : r0.id = b.id
          · exact List.mem_append_right _ (by simp [← hid0, hb])
          · have : f r0 = r0 := by simp [f, hb]
            rw [this] at ho'
            exact List.mem_append_left _ (hn.recDisk id r0 h0 ho')
        · intro id r' hr' ho'
          simp only [key, Option.map_eq_some_iff] at hr'
          obtain ⟨r0, h0, rfl⟩ := hr'
          have hid0 : r0.id = id := by simpa using List.find?_some h0
          by_cases hb : r0.id = b.id
          · simp [f, hb] at ho'
          · have : f r0 = r0 := by simp [f, hb]
            rw [this] at ho'
            obtain ⟨x, hx, e⟩ := hn.recQueue id r0 h0 ho'
            rcases List.mem_cons.1 hx with hx | hx
            · subst hx; exact absurd (hid0.trans e.symm) hb
            · exact ⟨x, hx, e⟩
        · intro x hx; simp only [key, Option.isSome_map]; exact hn.queueRec x (List.mem_cons_of_mem _ hx)
        · simp only [key, Option.isSome_map]
          exact List.forall_mem_append.2 ⟨hn.idxRec, List.forall_mem_singleton.2 (by rw [hr]; rfl)⟩
        · simp only [key, Option.isSome_map]; exact hn.tipRec
        · intro t ht; simp only [key, Option.isSome_map]; exact hn.treeRec t ht
        · intro t ht; simp only [key, Option.isSome_map]; exact hn.treePar t ht
        · intro x hx; simp only [key, Option.isSome_map]; exact hn.memParent x hx
        · intro id hid; simp only [key, Option.isSome_map]; exact hn.ghost id hid
        · exact hq.2.mono fun x hx => hx.elim (fun e => List.mem_append_right _ (by simp [e])) (List.mem_append_left _)
      · exact ⟨fun sn k hs => ⟨(h.snap.savingOK sn k hs).1, hasTmp_of_tmps rfl sn (h.snap.savingOK sn k hs).2⟩, h.snap.cleanOK⟩

theorem foldl_writeOne_inv : ∀ (q : List Block) (s : St), InvQ ⟨P, base, X, T, q, []⟩ s →
    InvQ ⟨P, base, X, T, [], []⟩ (q.foldl writeOne s)
  | [], _, h => h
  | b :: rest, _, h => foldl_writeOne_inv rest _ (writeOne_inv b rest h)

theorem foldl_writeOne_frame : ∀ (q : List Block) (s : St),
    (q.foldl writeOne s).n.tip = s.n.tip ∧ (q.foldl writeOne s).n.utxo = s.n.utxo ∧ (q.foldl writeOne s).err = s.err ∧
    (q.foldl writeOne s).n.dirty = s.n.dirty ∧ (q.foldl writeOne s).n.saving = s.n.saving ∧
    (q.foldl writeOne s).n.lastHeight = s.n.lastHeight ∧ (q.foldl writeOne s).n.skip = s.n.skip
  | [], _ => ⟨rfl, rfl, rfl, rfl, rfl, rfl, rfl⟩
  | b :: rest, s => by
    obtain ⟨a1, a2, a3, a4, a5, a6, a7⟩ := foldl_writeOne_frame rest (writeOne s b)
    obtain ⟨b1, b2, b3, b4, b5, b6, b7⟩ := writeOne_frame s b
    exact ⟨a1.trans b1, a2.trans b2, a3.trans b3, a4.trans b4, a5.trans b5, a6.trans b6, a7.trans b7⟩

theorem writeAll_inv (h : InvQ ⟨P, base, X, T, Q, Q⟩ s) : InvQ ⟨P, base, X, T, [], []⟩ (writeAll s) := by
  unfold writeAll
  have hq : s.n.queue = Q := h.qeq
  rw [hq]
  apply foldl_writeOne_inv
  -- the same node facts, read at the emptied queue field
  exact { h with node := { h.node with }, snap := { h.snap with }, qeq := rfl }

theorem writeAll_frame (s : St) :
    (writeAll s).n.tip = s.n.tip ∧ (writeAll s).n.utxo = s.n.utxo ∧ (writeAll s).err = s.err ∧
    (writeAll s).n.dirty = s.n.dirty ∧ (writeAll s).n.saving = s.n.saving ∧ (writeAll s).n.lastHeight = s.n.lastHeight ∧
    (writeAll s).n.skip = s.n.skip := by
  unfold writeAll
  exact foldl_writeOne_frame _ _

/-- once the queue is empty the tip's record is in the index file -/
theorem tip_on_disk (h : InvQ ⟨P, base, X, T, [], Qn⟩ s) : s.n.tip = 0 ∨ s.n.tip ∈ ids s.d := by
  refine h.node.tipRec.imp id fun h0 => ?_
  rcases h.node.recPlace h0 with hd | ⟨_, ⟨⟩, _⟩
  exact hd

/-! ### Chain.Idle, Chain.Close -/

theorem idle_inv (h : InvQ ⟨P, base, X, T, Q, Q⟩ s) (hP : P ⟨s.n.tip, s.n.lastHeight, s.n.utxo⟩) :
    ∃ q, InvQ ⟨P, base, X, T, q, q⟩ (idle s) := by
  unfold idle
  split
  · exact ⟨Q, h⟩
  · have h1 := writeAll_inv h
    obtain ⟨f1, f2, _, _, _, f6, _⟩ := writeAll_frame s
    simp only []
    split
    · exact ⟨[], startSave_inv h1 false (by rw [f1, f2, f6]; exact hP) (tip_on_disk h1)⟩
    · exact ⟨[], h1⟩

theorem close_inv (h : InvQ ⟨P, base, X, T, Q, Q⟩ s) (hP : P ⟨s.n.tip, s.n.lastHeight, s.n.utxo⟩) :
    ∃ q, InvQ ⟨P, base, X, T, q, q⟩ (close s) := by
  unfold close
  split
  · exact ⟨Q, h⟩
  · have h1 := writeAll_inv h
    obtain ⟨f1, f2, _, _, _, f6, _⟩ := writeAll_frame s
    simp only []
    split
    · split
      · exact ⟨[], hurrySave_inv h1⟩
      · exact ⟨[], startSave_inv h1 true (by rw [f1, f2, f6]; exact hP) (tip_on_disk h1)⟩
    · exact ⟨[], h1⟩

end GocoinV.Proofs.C07
