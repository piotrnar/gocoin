/-
  Proofs.C16Move — what the block store can do, said once.
  Every operation other than the restart is a chain of a few primitive transitions of the pair (store, durable map):
  the cache is rebuilt, a record's decoded length is noted, a trusted flag is raised, the map's entry of one key is
  replaced or dropped, a queued block is forgotten, a written one flagged invalid, the head of the write queue is
  discarded or written. `Move` has one constructor per transition; each carries the facts the code has established
  when it gets there (the look-up that succeeded, the branch conditions, what the map's new entry is), because that is
  all an invariant's proof may use of the operation. `step_ind` (and `stepX_ind`
  for the one-pass read) shows ONCE that `step` / `specStep` is such a chain; an invariant is then proved per
  constructor (`Move.inv`, `Move.ref`, `Move.disk`, …) plus the restart.
  Store and map move together exactly where neither could move alone without breaking `Ref` / `Disk` (`trust`, and
  the queueing of a new block).
  BlockAdd of a known key is BlockTrusted or nothing — on the store (`setBlockFlag_unwritten`: the in-memory branch is
  `setBlockFlag … BLOCK_TRUSTED` of an unwritten record) and on the map (`e.trusted || true`) — so there is no
  transition of its own for it. The queueing of a NEW block is not a constructor either: it happens at most once, first, and
  it is where the hypotheses about the operation (`Op.sizeOK`, `Op.wf`) and the operation count of `Disk` come in, so
  `step_ind` asks for it as a case about the state the operation starts from, like the restart and the closing.
-/
import GocoinV.Proofs.C16Load
import GocoinV.Spec.BlockStoreMapNC
namespace GocoinV.BlockDB

theorem blockInvalid_panics (s : State) (hash : Bytes) (hp : panics s (keyOf hash) = true) :
    blockInvalid s hash = (s, .panic) := by
  unfold panics at hp
  unfold blockInvalid
  simp only
  split at hp
  · rename_i r hr
    simp only [hr, hp, ↓reduceIte]
  · cases hp

theorem blockInvalid_forgets (s : State) (hash : Bytes) (hf : forgets s (keyOf hash) = true) :
    AL.get (blockInvalid s hash).1.index (keyOf hash) = none := by
  unfold forgets at hf
  unfold blockInvalid
  simp only
  split
  · rename_i hn; exact hn
  · rename_i r0 hr0
    rw [hr0] at hf
    simp only [Bool.and_eq_true, Bool.not_eq_eq_eq_not, Bool.not_true] at hf
    simp only [hf.1, Bool.false_eq_true, ↓reduceIte, hf.2, AL.get_del]

/-- the durable map changes at key `k` only -/
def Spec.OffKey (sp sp' : Spec) (k : Key) : Prop :=
  sp'.isOpen = sp.isOpen ∧ ∀ k', k ≠ k' → AL.get sp'.m k' = AL.get sp.m k'

/-- the entry of key `k` after the BlockAdd of a block whose key has no untainted entry: there is one, and an untainted one is
    the new block -/
theorem added_entry {sp sp' : Spec} {k : Key} {new : SEnt} {tr : Bool}
    (hn : AL.get sp.m k = none → AL.get sp'.m k = some new)
    (hs : ∀ e, AL.get sp.m k = some e → AL.get sp'.m k = some { e with trusted := e.trusted || tr })
    (hno : ∀ e, AL.get sp.m k = some e → e.tainted = false → False) :
    (∃ e', AL.get sp'.m k = some e') ∧ ∀ e', AL.get sp'.m k = some e' → e'.tainted = false → e' = new := by
  cases hsp : AL.get sp.m k with
  | none => exact ⟨⟨_, hn hsp⟩, fun e' he' _ => by rw [hn hsp] at he'; exact (Option.some.inj he').symm⟩
  | some e => exact ⟨⟨_, hs e hsp⟩, fun e' he' hte => by rw [hs e hsp] at he'; cases he'; exact (hno e hsp hte).elim⟩

/-- The primitive transitions of store and durable map that the operations are made of. -/
inductive Move (env : Env) (s : State) (sp : Spec) : State → Spec → Prop
  /-- the cache is rebuilt (hit: `LastUsed`; insertion with eviction), the clock ticks -/
  | touch (c : List (Key × CacheEnt)) : CacheStep env s c → Move env s sp { s with cache := c, clock := s.clock + 1 } sp
  /-- a read records the decoded length where `olen` was 0 -/
  | olen (k : Key) (r0 : Rec) (n : Nat) : AL.get s.index k = some r0 → (r0.olen ≠ 0 → n = r0.olen) →
      Move env s sp { s with index := AL.set s.index k { r0 with olen := n } } sp
  /-- `setBlockFlag … BLOCK_TRUSTED` of an untrusted record, the entry's flag raised with it -/
  | trust (k : Key) (r0 : Rec) (sp' : Spec) : AL.get s.index k = some r0 → r0.trusted = false → sp.OffKey sp' k →
      (∀ e, AL.get sp.m k = some e → AL.get sp'.m k = some { e with trusted := true }) →
      Move env s sp (setBlockFlag s k r0 BLOCK_TRUSTED) sp'
  /-- the entry of `k` is replaced by one that claims the same or nothing; the store does not move -/
  | spec (k : Key) (sp' : Spec) : sp.OffKey sp' k →
      ((∀ r, AL.get s.index k = some r → ∃ e, AL.get sp.m k = some e) →
        ∀ e', AL.get sp'.m k = some e' → e'.tainted = false → ∃ e, AL.get sp.m k = some e ∧ e.tainted = false ∧
        e.raw = e'.raw ∧ e.height = e'.height ∧ e.txcount = e'.txcount ∧
        ∀ r, AL.get s.index k = some r → r.trusted = e.trusted → r.trusted = e'.trusted) →
      (∀ e, AL.get sp.m k = some e → ∃ e', AL.get sp'.m k = some e') → Move env s sp s sp'
  /-- an entry whose key has left the index is dropped -/
  | drop (k : Key) (sp' : Spec) : sp.OffKey sp' k → AL.get sp'.m k = none → AL.get s.index k = none → Move env s sp s sp'
  /-- BlockInvalid of a queued block: forgotten -/
  | forget (k : Key) (r0 : Rec) : AL.get s.index k = some r0 → r0.trusted = false → r0.ipos = none →
      (∀ e, AL.get sp.m k = some e → e.tainted = true) →
      Move env s sp { s with cache := AL.del s.cache k, index := AL.del s.index k } sp
  /-- BlockInvalid of a written block: flagged on disk -/
  | flagI (k : Key) (r0 : Rec) (p : Nat) : AL.get s.index k = some r0 → r0.trusted = false → r0.ipos = some p →
      (∀ e, AL.get sp.m k = some e → e.tainted = true) → Move env s sp (setBlockFlag s k r0 BLOCK_INVALID) sp
  /-- `writeOne` discards the head of the queue -/
  | pop (b : B2W) (q : List B2W) : s.queue = b :: q →
      (∀ r0, AL.get s.index b.idx = some r0 → r0.seq ≠ b.seq ∨ r0.ipos.isSome = true) →
      Move env s sp { s with queue := q, datToWrite := s.datToWrite - b.data.length } sp
  /-- `writeOne` writes the head of the queue -/
  | write (b : B2W) (q : List B2W) (r0 : Rec) (cbts : Bytes) : s.isOpen = true → s.queue = b :: q → AL.get s.index b.idx = some r0 →
      r0.seq = b.seq → r0.ipos = none → cbts = (if s.opts.compress then env.enc b.data else b.data) →
      Move env s sp
        (writeRecord (maybeRoll { s with queue := q, datToWrite := s.datToWrite - b.data.length } cbts.length) b r0 cbts) sp

theorem blockInvalid_isOpen (s : State) (hash : Bytes) : (blockInvalid s hash).1.isOpen = s.isOpen :=
  blockInvalid_state (P := fun t => t.isOpen = s.isOpen) s hash rfl (fun _ _ _ _ => rfl)
    (fun r0 _ _ _ _ => (setBlockFlag_fields s _ r0 _).2.2.2.2.2.1)

theorem Move.specOpen {env : Env} {s s' : State} {sp sp' : Spec} (m : Move env s sp s' sp') : sp'.isOpen = sp.isOpen := by
  cases m with
  | trust _ _ _ _ _ off | spec _ _ off | drop _ _ off => exact off.1
  | _ => rfl

theorem Move.isOpen {env : Env} {s s' : State} {sp sp' : Spec} (m : Move env s sp s' sp') : s'.isOpen = s.isOpen := by
  cases m with
  | trust k r0 | flagI k r0 => exact (setBlockFlag_fields s k r0 _).2.2.2.2.2.1
  | write b q r0 cbts => show (maybeRoll _ _).isOpen = _; unfold maybeRoll; split <;> rfl
  | _ => rfl

theorem flush_moves {P : State → Spec → Prop} (env : Env) (sp : Spec)
    (move : ∀ t tp t' tp', t.isOpen = true → P t tp → Move env t tp t' tp' → P t' tp')
    (s : State) (ho : s.isOpen = true) (h : P s sp) : P (flush env s) sp ∧ (flush env s).isOpen = true := by
  refine flush_state (P := fun s => P s sp ∧ s.isOpen = true) env ?_ s ⟨h, ho⟩
  intro s s' ⟨h, ho⟩ hw
  refine writeOne_state (P := fun s' => P s' sp ∧ s'.isOpen = true) env s s' hw ?_ ?_
  · intro b q hq hs
    exact ⟨move _ _ _ _ ho h (.pop b q hq hs), ho⟩
  · intro b q r0 cbts hq hr hs hp hc
    have m := Move.write (env := env) (sp := sp) b q r0 cbts ho hq hr hs hp hc
    exact ⟨move _ _ _ _ ho h m, m.isOpen.trans ho⟩

/-- Every operation is a restart, or a chain of primitive transitions of an open store — after the queueing of the new block when
    it is the BlockAdd of an unknown key, and followed by the closing when it is `close`. -/
theorem step_ind {P : State → Spec → Prop} (env : Env) (s : State) (sp : Spec) (op : Op)
    (hopn : sp.isOpen = s.isOpen) (h : P s sp)
    (move : ∀ t tp t' tp', t.isOpen = true → P t tp → Move env t tp t' tp' → P t' tp')
    (queued : ∀ hash ht tx tr raw c sp', op = .add hash ht tx tr raw → s.isOpen = true → AL.get s.index (keyOf hash) = none →
      80 ≤ raw.length → sp.OffKey sp' (keyOf hash) →
      c = (addToCache { s with index := AL.set s.index (keyOf hash) { ipos := none, trusted := tr, olen := raw.length, seq := s.nextSeq } }
        (keyOf hash) raw).cache →
      (AL.get sp.m (keyOf hash) = none → AL.get sp'.m (keyOf hash) = some ⟨raw, ht, tx % 2^32, tr, false⟩) →
      (∀ e, AL.get sp.m (keyOf hash) = some e → AL.get sp'.m (keyOf hash) = some { e with trusted := e.trusted || tr }) →
      P (s.queued hash ht tx tr raw c) sp')
    (close : s.isOpen = true → P (flush env s) sp → P { flush env s with isOpen := false } { sp with isOpen := false })
    (reopen : ∀ o, op = .reopen o → s.isOpen = false → P (reopen env s.fs o).1 { sp with isOpen := true }) :
    P (step env s op).1 (specStep s sp op) := by
  unfold step specStep
  cases ho : s.isOpen
  · rw [ho] at hopn
    cases op with
    | reopen o => simp only [hopn, Bool.false_eq_true, ↓reduceIte]; exact reopen o rfl ho
    | _ => simp only [hopn, Bool.not_false, ↓reduceIte]; exact h
  rw [ho] at hopn
  have get : ∀ hash, P (blockGet env s hash).1 sp := fun hash =>
    (blockGet_moves (P := fun t => t.isOpen = true ∧ P t sp) env s hash ⟨ho, h⟩
      (fun t c h hc => ⟨h.1, move t _ _ _ h.1 h.2 (.touch c hc)⟩) (fun r0 n hr hn => ⟨ho, move _ _ _ _ ho h (.olen _ r0 n hr hn)⟩)).2
  have offSet : ∀ k v, sp.OffKey ⟨true, AL.set sp.m k v⟩ k := fun _ _ =>
    ⟨hopn.symm, fun k' hne => by simp only [AL.get_set, if_neg hne]⟩
  cases op <;> simp only [hopn, Bool.not_true, Bool.false_eq_true, ↓reduceIte]
  case reopen o => exact h
  case get hash => exact get hash
  case length hash d =>
    exact blockLength_state (P := fun s' => P s' sp) env s hash d h (get hash)
  case idle => exact (flush_moves env sp move s ho h).1
  case close =>
    exact close ho (flush_moves env sp move s ho h).1
  case add hash ht tx tr raw =>
    split
    · exact h
    -- the map's entry of the key is created, or gets its trusted flag raised
    have add : ∀ sp', sp.OffKey sp' (keyOf hash) →
        (AL.get sp.m (keyOf hash) = none → AL.get sp'.m (keyOf hash) = some ⟨raw, ht, tx % 2^32, tr, false⟩) →
        (∀ e, AL.get sp.m (keyOf hash) = some e → AL.get sp'.m (keyOf hash) = some { e with trusted := e.trusted || tr }) →
        P (blockAdd env s hash ht tx tr raw) sp' := by
      intro sp' off hn hs
      refine blockAdd_state (P := fun t => P t sp') env s hash ht tx tr raw ?_ ?_ ?_
      · intro hnone c hc
        have q := queued hash ht tx tr raw c sp' rfl ho hnone (by omega) off hc hn hs
        exact ⟨q, (flush_moves env sp' move (s.queued hash ht tx tr raw c) ho q).1⟩
      · intro r0 hr0 hc
        refine move _ _ _ _ ho h (.spec (keyOf hash) sp' off ?_ (fun e he => ⟨_, hs e he⟩))
        intro hI e' he' hte
        obtain ⟨e, he⟩ := hI r0 hr0
        rw [hs e he] at he'; cases he'
        refine ⟨e, he, hte, rfl, rfl, rfl, ?_⟩
        intro r hr ht'
        rw [hr0] at hr; cases hr
        show r0.trusted = (e.trusted || tr)
        rw [← ht']
        cases h5 : r0.trusted
        · rw [h5] at hc; simpa using hc
        · rfl
      · intro r0 hr0 h1 h2
        exact move _ _ _ _ ho h (.trust _ r0 sp' hr0 h1 off (fun e he => by rw [hs e he, h2, Bool.or_true]))
    cases hsp : AL.get sp.m (keyOf hash) with
    | none =>
      simp only
      exact add _ (offSet _ _) (fun _ => by simp only [AL.get_set, ↓reduceIte])
        (fun e he => by rw [hsp] at he; cases he)
    | some e =>
      simp only
      exact add _ (offSet _ _) (fun he => by rw [hsp] at he; cases he)
        (fun e' he' => by rw [hsp] at he'; cases he'; simp only [AL.get_set, ↓reduceIte])
  case trusted hash =>
    -- the entry of the key, if there is one, gets its trusted flag raised
    have go : ∀ sp', sp.OffKey sp' (keyOf hash) →
        (∀ e', AL.get sp'.m (keyOf hash) = some e' → ∃ e, AL.get sp.m (keyOf hash) = some e ∧ e' = { e with trusted := true }) →
        (∀ e, AL.get sp.m (keyOf hash) = some e → AL.get sp'.m (keyOf hash) = some { e with trusted := true }) →
        P (blockTrusted s hash) sp' := by
      intro sp' off hk hs
      have noop : (∀ r, AL.get s.index (keyOf hash) = some r → r.trusted = true) → P s sp' := by
        intro hr
        refine move _ _ _ _ ho h (.spec (keyOf hash) sp' off ?_ (fun e he => ⟨_, hs e he⟩))
        intro _ e' he' hte
        obtain ⟨e, he, rfl⟩ := hk e' he'
        exact ⟨e, he, hte, rfl, rfl, rfl, fun r h1 _ => hr r h1⟩
      exact blockTrusted_state (P := fun t => P t sp') s hash noop
        (fun r0 hr ht => move _ _ _ _ ho h (.trust _ r0 sp' hr ht off hs))
    cases hsp : AL.get sp.m (keyOf hash) with
    | none => exact go sp ⟨rfl, fun _ _ => rfl⟩ (fun e' he' => by rw [hsp] at he'; cases he') (fun e he => by rw [hsp] at he; cases he)
    | some e =>
      simp only
      exact go _ (offSet _ _)
        (fun e' he' => ⟨e, hsp, by simp only [AL.get_set, ↓reduceIte, Option.some.injEq] at he'; exact he'.symm⟩)
        (fun e' he' => by rw [hsp] at he'; cases he'; simp only [AL.get_set, ↓reduceIte])
  case invalid hash =>
    have stateMove : ∀ tp : Spec, P s tp → (∀ e, AL.get tp.m (keyOf hash) = some e → e.tainted = true) →
        P (blockInvalid s hash).1 tp := fun tp h ht =>
      blockInvalid_state (P := fun t => P t tp) s hash h
        (fun r0 hr0 h1 hp => move _ _ _ _ ho h (.forget _ r0 hr0 h1 hp ht))
        (fun r0 p hr0 h1 hp => move _ _ _ _ ho h (.flagI _ r0 p hr0 h1 hp ht))
    cases hsp : AL.get sp.m (keyOf hash) with
    | none => exact stateMove sp h (fun e he => by rw [hsp] at he; cases he)
    | some e0 =>
      simp only
      by_cases hpn : panics s (keyOf hash) = true
      · simp only [hpn, ↓reduceIte]
        rw [blockInvalid_panics s hash hpn]; exact h
      simp only [hpn, Bool.false_eq_true, ↓reduceIte]
      -- the entry is tainted first: then the store may forget or flag the block, and a forgotten block's entry be dropped
      have h1 : P s { isOpen := true, m := AL.set sp.m (keyOf hash) { e0 with tainted := true } } := by
        refine move _ _ _ _ ho h (.spec (keyOf hash) _ (offSet _ _) ?_
          (fun _ _ => ⟨_, by rw [AL.get_set, if_pos rfl]⟩))
        intro _ e' he' hte
        simp only [AL.get_set, ↓reduceIte, Option.some.injEq] at he'
        subst he'; cases hte
      have h2 := stateMove _ h1 (fun e he => by
        simp only [AL.get_set, ↓reduceIte, Option.some.injEq] at he
        subst he; rfl)
      by_cases hf : forgets s (keyOf hash) = true
      · simp only [hf, ↓reduceIte]
        exact move _ _ _ _ ((blockInvalid_isOpen s hash).trans ho) h2 (.drop (keyOf hash) _ ⟨rfl, fun k' hne => by simp only [AL.get_set, AL.get_del, if_neg hne]⟩
          (by simp only [AL.get_del, ↓reduceIte]) (blockInvalid_forgets s hash hf))
      · simp only [hf, Bool.false_eq_true, ↓reduceIte]
        exact h2

/-- the one-pass read is made of the same primitive transitions -/
theorem stepX_ind {P : State → Spec → Prop} (env : Env) (s : State) (sp : Spec) (op : OpX)
    (hopn : sp.isOpen = s.isOpen) (h : P s sp)
    (move : ∀ t tp t' tp', t.isOpen = true → P t tp → Move env t tp t' tp' → P t' tp')
    (queued : ∀ hash ht tx tr raw c sp', op = .op (.add hash ht tx tr raw) → s.isOpen = true → AL.get s.index (keyOf hash) = none →
      80 ≤ raw.length → sp.OffKey sp' (keyOf hash) →
      c = (addToCache { s with index := AL.set s.index (keyOf hash) { ipos := none, trusted := tr, olen := raw.length, seq := s.nextSeq } }
        (keyOf hash) raw).cache →
      (AL.get sp.m (keyOf hash) = none → AL.get sp'.m (keyOf hash) = some ⟨raw, ht, tx % 2^32, tr, false⟩) →
      (∀ e, AL.get sp.m (keyOf hash) = some e → AL.get sp'.m (keyOf hash) = some { e with trusted := e.trusted || tr }) →
      P (s.queued hash ht tx tr raw c) sp')
    (close : s.isOpen = true → P (flush env s) sp → P { flush env s with isOpen := false } { sp with isOpen := false })
    (reopen : ∀ o, op = .op (.reopen o) → s.isOpen = false → P (reopen env s.fs o).1 { sp with isOpen := true }) :
    P (stepX env s op).1 (specStepX s sp op) := by
  cases op with
  | op o =>
    exact step_ind env s sp o hopn h move (fun hash ht tx tr raw c sp' e => queued hash ht tx tr raw c sp' (by rw [e])) close
      (fun o' e => reopen o' (by rw [e]))
  | getNC hash =>
    unfold stepX specStepX
    cases ho : s.isOpen with
    | false => exact h
    | true =>
      exact (blockGetNC_moves (P := fun t => t.isOpen = true ∧ P t sp) env s hash ⟨ho, h⟩
        (fun t c h hc => ⟨h.1, move t _ _ _ h.1 h.2 (.touch c hc)⟩) (fun r0 n hr hn => ⟨ho, move _ _ _ _ ho h (.olen _ r0 n hr hn)⟩)).2

end GocoinV.BlockDB
