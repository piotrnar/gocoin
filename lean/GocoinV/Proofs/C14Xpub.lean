/-
  Proofs.C14Xpub — lemmas for the theorems about extended PUBLIC keys whose key bytes are (not) a curve
  point (finding `xpub-noncanonical-x`, fixed): what `StringWallet` lets in, what `Child` does with the rest,
  and that the child of an importable xpub is importable again.
-/
import GocoinV.Proofs.C14HD
import GocoinV.Proofs.C03Recover
namespace GocoinV.Proofs.C14
open GocoinV GocoinV.Secp GocoinV.Model GocoinV.Model.Sig GocoinV.Proofs.C03 HD

theorem parse33_onCurve (b : Bytes) (P : Nat × Nat) (hl : b.length = 33)
    (h : Secp.parsePubkey b = some P) : onCurve (some P) = true := by
  rw [← parsePubkey_eq b (not_exceptional b)] at h
  cases b with
  | nil => simp at hl
  | cons hd t =>
    unfold Sig.parsePubkey at h
    simp only [hl, true_and, ↓reduceIte] at h
    have n65 : ¬ ((33 : Nat) = 65 ∧ (hd = 4 ∨ hd = 6 ∨ hd = 7)) := by intro ⟨a, _⟩; omega
    by_cases h23 : hd = 2 ∨ hd = 3
    · rw [if_pos h23] at h
      by_cases hx : beVal t ≥ p
      · rw [if_pos hx] at h; cases h
      · rw [if_neg hx] at h
        by_cases hv : isValid (beVal t) (setXO (beVal t) (hd == 3)) = true
        · rw [if_pos hv] at h
          simp only [Option.some.injEq] at h
          rw [← h, ← isValid_eq_onCurve _ _ (by omega) (setXO_lt _ _)]
          exact hv
        · rw [if_neg hv] at h; cases h
    · rw [if_neg h23, if_neg n65] at h; cases h

/-- whatever the public branch of `Child` returns: the parent bytes parse, I_L·G + P is finite, and the result is
    the record built from them -/
theorem child_pub_ok (C : WalletCrypto) (w w' : HDWallet) (i : Nat)
    (hpub : isPublicPfx w.pfx = true) (hlen : w.key.length = 33) (hi : i < 2 ^ 31) (h : child C w i = .ok w') :
    ∃ P Q, Secp.parsePubkey w.key = some P ∧
      Secp.add (Secp.mul (beVal ((C.hmac512 w.chCode (w.key ++ beBytes 4 i)).take 32)) Secp.G) (some P) = some Q ∧
      w' = { pfx := w.pfx, depth := (w.depth + 1) % 256, checksum := (C.hash160 w.key).take 4, idx := i,
             chCode := (C.hmac512 w.chCode (w.key ++ beBytes 4 i)).drop 32, key := Secp.ser33 (some Q) } := by
  rw [child_pub_cases C w i hpub hlen hi] at h
  split at h
  · cases h
  rename_i P hP
  split at h
  · cases h
  rename_i Q hQ
  exact ⟨P, Q, hP, hQ, (Except.ok.inj h).symm⟩

/-- `ByteCheck` passed and the version is public ⇒ the key bytes parse -/
theorem parseBytes_pub_point (C : WalletCrypto) (dbin : Bytes) (w : HDWallet)
    (h : HD.parseBytes C dbin = .ok w) (hpub : isPublicPfx w.pfx = true) :
    w.key.length = 33 ∧ ∃ P, Secp.parsePubkey w.key = some P := by
  unfold HD.parseBytes at h
  split at h
  · simp at h
  · rename_i hbc
    split at h
    · simp at h
    · simp only [Except.ok.injEq] at h
      unfold byteCheck at hbc
      split at hbc
      · simp at hbc
      · rename_i hlen
        simp only at hbc
        split at hbc
        · simp at hbc
        · split at hbc
          · simp at hbc
          · rename_i hk
            rw [← h] at hpub ⊢
            simp only at hpub ⊢
            have hl : ((dbin.drop 45).take 33).length = 33 := by
              simp only [List.length_take, List.length_drop]; omega
            exact ⟨hl, Option.ne_none_iff_exists'.mp fun hp => hk ⟨hpub, hp⟩⟩

end GocoinV.Proofs.C14
