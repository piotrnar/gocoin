/-
  Proofs.C06HasAll — the two loops of the header-first delivery of the chain model, `onActive` (ch.OnActiveBranch) and
  `hasAllParents` (ch.HasAllParents), in a well-formed tree: they never panic, OnActiveBranch answers true only for
  the start node or one of its ancestors, and HasAllParents answers true only when the parent has its data.
-/
import GocoinV.Proofs.C06Reorg
namespace GocoinV.ChainTree
open GocoinV.UtxoOps

/-- OnActiveBranch in a well-formed tree: from a node `top` (id `y`) the walk never panics, and answers true only for a
    node whose id is `y` or the id of an ancestor of `y` -/
theorem onActive_spec {U : List Block} {c : Chain} (w : TreeWF U c) (d : Node) :
    ∀ (f : Nat) (y : Nat) (top : Node), getNode c y = some top → f > top.height →
      ∃ v, onActive c d f top = .ok v ∧ (v = true → Desc c d.id y) := by
  intro f
  induction f with
  | zero => intro _ _ _ hf; omega
  | succ f ih =>
    intro y top ht hf
    have hid := getNode_id ht
    rw [onActive]
    by_cases he : d.id = top.id
    · refine ⟨true, ?_, fun _ => by rw [he, hid]; exact Desc.refl⟩
      simp only [he, beq_self_eq_true, if_true, pure, Except.pure]
    · have he' : (d.id == top.id) = false := by simpa using he
      by_cases hh : d.height ≥ top.height
      · refine ⟨false, ?_, fun h => by cases h⟩
        simp only [he', Bool.false_eq_true, if_false, hh, if_true, pure, Except.pure]
      · have hyr : y ≠ c.root := not_root_of_height_pos w ht (by omega)
        obtain ⟨q, hq, hqh, _⟩ := w.par y top ht hyr
        obtain ⟨v, hv, hvd⟩ := ih top.parent q hq (by omega)
        refine ⟨v, ?_, fun h => Desc.trans (hvd h) (Desc.parent ht hyr)⟩
        simp only [he', Bool.false_eq_true, if_false, hh, node!, hq, bind, Except.bind, pure, Except.pure, hv]

/-- OnActiveBranch finds the root from every node: the walk down always ends on it -/
theorem onActive_root {U : List Block} {c : Chain} (w : TreeWF U c) {r : Node} (hr : getNode c c.root = some r) :
    ∀ (f : Nat) (y : Nat) (top : Node), getNode c y = some top → f > top.height →
      onActive c r f top = .ok true := by
  intro f
  induction f with
  | zero => intro _ _ _ hf; omega
  | succ f ih =>
    intro y top ht hf
    have hid := getNode_id ht
    have hrid := getNode_id hr
    have hr0 : r.height = 0 := Nat.eq_zero_of_not_pos fun h => not_root_of_height_pos w hr h rfl
    rw [onActive]
    by_cases he : r.id = top.id
    · simp only [he, beq_self_eq_true, if_true, pure, Except.pure]
    · have he' : (r.id == top.id) = false := by simpa using he
      have hyr : y ≠ c.root := by omega
      have hpos := w.height_pos ht hyr
      have hh : ¬ (r.height ≥ top.height) := by omega
      obtain ⟨q, hq, hqh, _⟩ := w.par y top ht hyr
      have := ih top.parent q hq (by omega)
      simp only [he', Bool.false_eq_true, if_false, hh, node!, hq, bind, Except.bind, pure, Except.pure, this]

/-- **HasAllParents never panics, and answers true only when the parent has its data** (or is the root): for a non-root
    node `n` (id `x`) of a well-formed tree whose tip has its data (`PathOKH`), `hasAllParents` returns a Boolean, and
    when that is `true` the parent of `n` is a node that has its data — what the client relies on when it calls
    CommitBlock on `n` -/
theorem hasAllParents_spec {U : List Block} {c : Chain} (w : TreeWF U c) {path : List PE} (hp : PathOKH c 0 path) :
    ∀ (f x : Nat) (n : Node), getNode c x = some n → x ≠ c.root → f > n.height →
      ∃ v, hasAllParents c f n = .ok v ∧
        (v = true → ∃ p, getNode c n.parent = some p ∧ HasData c n.parent p) := by
  obtain ⟨hpo, t, ht, _⟩ := hp
  have htd := tip_has_data w hpo ht
  intro f
  induction f with
  | zero => intro _ _ _ _ hf; omega
  | succ f ih =>
    intro x n hn hx hf
    obtain ⟨p, hpn, hph, _⟩ := w.par x n hn hx
    have hpid := getNode_id hpn
    obtain ⟨v1, hv1, hd1⟩ := onActive_spec w p (t.height + 1) c.tip t ht (by omega)
    rw [hasAllParents]
    cases v1 with
    | true =>
      have hdesc : Desc c n.parent c.tip := by rw [← hpid]; exact hd1 rfl
      refine ⟨true, ?_, fun _ => ⟨p, hpn, Desc.has_data w hdesc t ht htd p hpn⟩⟩
      simp only [node!, hpn, ht, bind, Except.bind, pure, Except.pure, hv1, if_true]
    | false =>
      by_cases h0 : p.txCount = 0
      · refine ⟨false, ?_, fun h => by cases h⟩
        simp only [node!, hpn, ht, bind, Except.bind, pure, Except.pure, hv1, Bool.false_eq_true, if_false, h0,
          beq_self_eq_true, if_true]
      · have h0' : (p.txCount == 0) = false := by simpa using h0
        have hpr : n.parent ≠ c.root := by
          intro e
          rw [e] at hpn
          have := onActive_root w hpn (t.height + 1) c.tip t ht (by omega)
          rw [this] at hv1; cases hv1
        obtain ⟨v, hv, _⟩ := ih n.parent p hpn hpr (by omega)
        refine ⟨v, ?_, fun _ => ⟨p, hpn, Or.inr h0⟩⟩
        simp only [node!, hpn, ht, bind, Except.bind, pure, Except.pure, hv1, Bool.false_eq_true, if_false, h0', hv]

end GocoinV.ChainTree
