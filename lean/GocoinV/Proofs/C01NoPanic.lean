/-
  Proofs.C01NoPanic — where a Go panic can escape script verification. `NP r` = "r is not a panic".
  evalScript has a recover (NP by construction); VerifyWitnessProgram / ExecuteWitnessScript / CheckSchnorrSignature /
  VerifyTaprootCommitment have no panicking statement that is reachable; VerifyTxScript has four candidates:
  `stack.pop()` of the P2SH branch (shown unreachable with an empty stack), `stack.resize(1)` of the witness branches
  (`resize1`, reached with a non-empty stack only: `NP_resize1`) and the two explicit
  `panic("VER_CLEANSTACK without VER_P2SH")` / `panic("VER_WITNESS must be used with P2SH")` (excluded by FlagsOk).
-/
import GocoinV.Proofs.C01Ops
namespace GocoinV.Proofs.C01
open GocoinV GocoinV.Script

def NP {α : Type} (r : Res α) : Prop := r ≠ .panic
theorem NP_ok {α} (a : α) : NP (Res.ok a) := by simp [NP]
theorem NP_fail {α} : NP (Res.fail : Res α) := by simp [NP]
theorem NP_need {α} (q) : NP (Res.need q : Res α) := by simp [NP]
theorem NP_ask {α} (q) (o : Option α) : NP (Res.ask q o) := by cases o <;> simp [NP, Res.ask]
theorem NP_bind {α β} (x : Res α) (f : α → Res β) (hx : NP x) (hf : ∀ a, x = .ok a → NP (f a)) : NP (x >>= f) := by
  cases x with
  | ok a => simpa using hf a rfl
  | fail => simp [NP]
  | panic => exact absurd rfl hx
  | need q => simp [NP]

theorem NP_ite {α} {p : Prop} [Decidable p] {x y : Res α} (hx : NP x) (hy : NP y) : NP (if p then x else y) := by
  split
  · exact hx
  · exact hy

/-- the deferred `recover()` -/
theorem NP_recover {α} (r : Res α) : NP (recoverPanic r) := by cases r <;> simp [NP, recoverPanic]

theorem NP_evalScript (O : Oracles) (tx : TxCtx) (flags : Nat) (p : Bytes) (stack : Stack) (sv : SigVersion) (ed : ExecData) :
    NP (evalScript O tx flags p stack sv ed) :=
  NP_ite NP_fail (NP_recover _)

theorem NP_checkSchnorr (O : Oracles) (sig pk : Bytes) (sv : SigVersion) (ed : ExecData) :
    NP (checkSchnorrSignature O sig pk sv ed) :=
  NP_ite (NP_ok _) (NP_ite (NP_ok _) (NP_bind _ _ (NP_ask _ _) fun _ _ => NP_ite (NP_ok _) (NP_ask _ _)))

theorem NP_executeWitnessScript (O : Oracles) (tx : TxCtx) (stack : Stack) (script : Bytes) (flags : Nat) (sv : SigVersion)
    (ed : ExecData) : NP (executeWitnessScript O tx stack script flags sv ed) := by
  unfold executeWitnessScript
  dsimp only
  generalize hpre : (if (sv == SigVersion.tapscript) = true then _ else none : Option (Res Unit)) = pre
  rcases pre with _ | r
  · refine NP_ite NP_fail (NP_bind _ _ (NP_evalScript O tx flags script stack sv ed) fun s _ => ?_)
    split
    · exact NP_ite (NP_ok _) NP_fail
    · exact NP_fail
  · -- the pre-scan has decided: its verdicts are `.fail` and `.ok ()`
    split at hpre
    · split at hpre
      · cases hpre; exact NP_fail
      · split at hpre <;> cases hpre
        · exact NP_fail
        · exact NP_ok _
      · split at hpre <;> cases hpre
        exact NP_fail
    · cases hpre

theorem NP_verifyTaprootCommitment (O : Oracles) (control program script : Bytes) :
    NP (verifyTaprootCommitment O control program script) :=
  NP_bind _ _ (NP_ask _ _) fun _ _ => NP_ok _

theorem NP_verifyWitnessProgram (O : Oracles) (tx : TxCtx) (witness : List Bytes) (ver : Nat) (prog : Bytes) (flags : Nat)
    (isP2sh : Bool) : NP (verifyWitnessProgram O tx witness ver prog flags isP2sh) := by
  unfold verifyWitnessProgram
  refine NP_ite (NP_ite ?_ (NP_ite (NP_ite NP_fail (NP_executeWitnessScript _ _ _ _ _ _ _)) NP_fail))
    (NP_ite (NP_ite (NP_ok _) ?_) (NP_ite NP_fail (NP_ok _)))
  · split
    · exact NP_fail
    · exact NP_ite NP_fail (NP_executeWitnessScript _ _ _ _ _ _ _)
  · split
    · exact NP_fail
    · rename_i hlen
      split
      rename_i stack annexHash hP
      -- the annex is only dropped when two elements are present, so the remaining stack is not empty
      have hne : stack ≠ [] := by
        intro h0
        subst h0
        cases hw : witness.reverse with
        | nil => simp [hw] at hlen
        | cons dat rest =>
          rw [hw] at hP
          simp only at hP
          split at hP
          · rename_i hc
            cases hP
            simp at hc
          · cases hP
      rcases stack with _ | ⟨sig, _ | ⟨scr, r⟩⟩
      · exact absurd rfl hne
      · exact NP_bind _ _ (NP_checkSchnorr _ _ _ _ _) fun _ _ => NP_ite (NP_ok _) NP_fail
      · refine NP_ite NP_fail (NP_bind _ _ (NP_verifyTaprootCommitment _ _ _ _) fun a _ => ?_)
        exact NP_ite NP_fail (NP_ite (NP_executeWitnessScript _ _ _ _ _ _ _) (NP_ite NP_fail (NP_ok _)))

/-- a P2SH scriptPubKey (HASH160 <20 bytes> EQUAL) evaluated on the EMPTY stack returns false — so the
    `stack.pop()` of VerifyTxScript's P2SH branch (outside any recover) is never reached with an empty stackCopy -/
theorem p2sh_on_empty_stack_fails (O : Oracles) (tx : TxCtx) (flags : Nat) (pk : Bytes) (ed : ExecData)
    (h : isPayToScript pk = true) : evalScript O tx flags pk [] .base ed = .fail := by
  unfold isPayToScript at h
  simp only [Bool.and_eq_true, beq_iff_eq] at h
  obtain ⟨⟨⟨hlen, h0⟩, _⟩, _⟩ := h
  match pk, hlen, h0 with
  | c :: t, hlen, h0 =>
    simp only [List.getD_cons_zero] at h0
    subst h0
    unfold evalScript
    have hsz : ¬ ((SigVersion.base == .base || SigVersion.base == .witnessV0) && decide ((0xa9 :: t : Bytes).length > MAX_SCRIPT_SIZE)) = true := by
      simp [hlen, MAX_SCRIPT_SIZE]
    rw [if_neg hsz, List.length_cons]
    -- the first instruction is OP_HASH160, which fails on the empty stack
    rfl

theorem NP_resize1 (t : Bytes) (r : Stack) : NP (resize1 (t :: r)) := by
  unfold resize1
  cases h : (t :: r).getLast? with
  | none => simp at h
  | some b => exact NP_ok _

theorem NP_verifyTxScript (O : Oracles) (tx : TxCtx) (pk : Bytes) (flags : Nat)
    (hf : ScriptSpec.FlagsOk (ScriptSpec.Flags.ofMask flags)) : NP (verifyTxScript O tx pk flags) := by
  obtain ⟨hw, hc, _⟩ := hf
  rw [← flag_witness, ← flag_p2sh] at hw
  rw [← flag_cleanstack, ← flag_p2sh, ← flag_witness] at hc
  -- a witness program found (bare or inside P2SH): `VerifyWitnessProgram`, then `stack.resize(1)` on a non-empty stack
  have wp : ∀ (w : List Bytes) (ver : Nat) (prog : Bytes) (b : Bool) (t : Bytes) (r : Stack), NP (do
      verifyWitnessProgram O tx w ver prog flags b
      let s ← resize1 (t :: r)
      pure (true, s) : Res (Bool × Stack)) := fun _ _ _ _ _ _ =>
    NP_bind _ _ (NP_verifyWitnessProgram _ _ _ _ _ _ _) fun _ _ => NP_bind _ _ (NP_resize1 _ _) fun _ _ => NP_ok _
  unfold verifyTxScript
  refine NP_ite NP_fail (NP_bind _ _ (NP_evalScript _ _ _ _ _ _ _) fun stack1 hs1 =>
    NP_bind _ _ (NP_evalScript _ _ _ _ _ _ _) fun stack2 hs2 => ?_)
  rcases stack2 with _ | ⟨t, rest⟩
  · exact NP_fail
  refine NP_ite NP_fail (NP_bind _ _ ?_ fun p1 _ => NP_bind _ _ ?_ fun p2 _ => ?_)
  · refine NP_ite ?_ (NP_ok _)
    split
    · exact NP_ite NP_fail (wp _ _ _ _ _ _)
    · exact NP_ok _
  · split
    · rename_i hp2sh
      refine NP_ite NP_fail ?_
      simp only [Bool.and_eq_true] at hp2sh
      -- `stackCopy.pop()`: stackCopy is empty only if the scriptSig left nothing, and then the P2SH script failed
      rcases stack1 with _ | ⟨x, xs⟩
      · rw [p2sh_on_empty_stack_fails O tx flags pk {} hp2sh.2] at hs2
        cases hs2
      · simp only [hp2sh.1, List.length_cons, Nat.zero_lt_succ, decide_true, Bool.and_self, ↓reduceIte, pop, Res.ok_bind]
        refine NP_bind _ _ (NP_evalScript _ _ _ _ _ _ _) fun stack3 _ => ?_
        rcases stack3 with _ | ⟨t3, r3⟩
        · exact NP_fail
        · refine NP_ite NP_fail (NP_ite ?_ (NP_ok _))
          split
          · exact NP_ite NP_fail (wp _ _ _ _ _ _)
          · exact NP_ok _
    · exact NP_ok _
  · -- the two explicit panics need CLEANSTACK or WITNESS without P2SH, which FlagsOk excludes
    have h1 : ¬ (has flags VER_CLEANSTACK && !has flags VER_P2SH) = true := by
      intro h
      simp only [Bool.and_eq_true, Bool.not_eq_true'] at h
      rw [(hc h.1).1] at h; simp at h
    have h2 : ¬ (has flags VER_WITNESS && !has flags VER_P2SH) = true := by
      intro h
      simp only [Bool.and_eq_true, Bool.not_eq_true'] at h
      rw [hw h.1] at h; simp at h
    obtain ⟨hw2, st2⟩ := p2
    simp only [if_neg h1, if_neg h2]
    exact NP_ite NP_fail (NP_ite NP_fail (NP_ok _))

end GocoinV.Proofs.C01
