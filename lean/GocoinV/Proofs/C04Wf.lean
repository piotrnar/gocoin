/-
  Proofs.C04Wf — the hypotheses `hwf` / `hheights` of connect_sound are invariants: UnspentDB.commit keeps every record
  filed under the key of its txid with unique keys, and no record gets higher than the block just connected.
-/
import GocoinV.Proofs.C04Apply
namespace GocoinV.Proofs.C04
open GocoinV GocoinV.Connect

def Good (h : Nat) (db : DB) : Prop := WF db ∧ ∀ kr ∈ db, kr.2.height ≤ h

theorem mem_aSet {κ β : Type} [DecidableEq κ] (l : List (κ × β)) (k : κ) (v : β) (x : κ × β) (h : x ∈ aSet l k v) :
    x ∈ l ∨ x = (k, v) := Assoc.mem_insert (aSet_eq l k v ▸ h)

theorem Good_aSet (h : Nat) (db : DB) (k : Bytes) (r : Rec) (hg : Good h db) (hk : k = key8 r.txid) (hr : r.height ≤ h) :
    Good h (aSet db k r) :=
  ⟨⟨fun x hx => (mem_aSet _ _ _ _ hx).elim (hg.1.filed x) (· ▸ hk), aSet_keys_nodup _ _ _ hg.1.nodup⟩,
    fun x hx => (mem_aSet _ _ _ _ hx).elim (hg.2 x) (· ▸ hr)⟩

theorem Good_aDel (h : Nat) (db : DB) (k : Bytes) (hg : Good h db) : Good h (aDel db k) := by
  rw [aDel_eq_filter]
  refine ⟨⟨?_, ?_⟩, ?_⟩
  · intro x hx; exact hg.1.filed x (List.mem_filter.mp hx).1
  · exact List.Nodup.sublist (List.Sublist.map _ List.filter_sublist) hg.1.nodup
  · intro x hx; exact hg.2 x (List.mem_filter.mp hx).1

theorem Good_dbDel (h : Nat) (db : DB) (t : Bytes) (m : List Bool) (hg : Good h db) : Good h (dbDel Cfg.current db t m) := by
  unfold dbDel
  cases hget : aGet db (key8 t) with
  | none => exact hg
  | some r =>
    simp only [show Cfg.current.fullTxid = true from rfl, true_and]
    by_cases hr : r.txid = t
    · rw [if_neg (· hr)]
      split
      · exact Good_aSet h db _ _ hg (congrArg key8 hr.symm) (hg.2 _ (aGet_mem db _ r hget))
      · exact Good_aDel h db _ hg
    · rw [if_pos hr]; exact hg

theorem Good_applyChanges (db : DB) (b : Block) (s : St) (hg : Good b.height db) :
    Good b.height (applyChanges Cfg.current db b s) := by
  unfold applyChanges
  refine List.foldlRecOn _ dbAdd (List.foldlRecOn _ _ hg fun d hd e _ => Good_dbDel _ d e.1 e.2 hd)
    fun d hd r hr => Good_aSet _ d _ r hd rfl ?_
  rw [addList_eq] at hr
  obtain ⟨e, _, he⟩ := List.mem_filterMap.mp hr
  unfold addRec at he
  split at he
  · simp only [Option.some.injEq] at he; subst he; exact Nat.le_refl _
  · cases he

theorem Good_mono (h h' : Nat) (db : DB) (hle : h ≤ h') (hg : Good h db) : Good h' db :=
  ⟨hg.1, fun kr hkr => Nat.le_trans (hg.2 kr hkr) hle⟩

end GocoinV.Proofs.C04
