/-
  Proofs.C15Bech32Sum — the six checksum symbols of `bech32.Encode`: fed to the polymod fold from state `c`, the six 5-bit
  groups of a 30-bit number `P` lead to `six c ^^^ P` (the fold is affine and the groups spell `P`), so the encoder's
  `P = six c ^^^ K` is the one choice that ends in the final constant `K`; and the table facts about charset /
  charset_rev / ASCII case that the round trips need, `decide`d over the GENERATED tables.
-/
import GocoinV.Model.Addr
import GocoinV.Proofs.C15Bech32Fold
namespace GocoinV.Bech32
open Gen.Bech32Consts
open GocoinV.Addr (asciiLower)

theorem shr5_eq_zero_iff (v : UInt8) : v >>> 5 = 0 ↔ v.toNat ≤ 31 := by
  rw [← UInt8.toNat_inj, UInt8.toNat_shiftRight, Nat.shiftRight_eq_div_pow]
  show v.toNat / 32 = 0 ↔ _
  omega

theorem sym_props (x : UInt32) : (x &&& 31).toUInt8.toNat ≤ 31 ∧ ((x &&& 31).toUInt8).toUInt32 = x &&& 31 := by
  have hlt : (x &&& 31).toNat < 32 := UInt32.toNat_and .. ▸ Nat.and_lt_two_pow _ (by decide : 31 < 2 ^ 5)
  constructor
  · rw [UInt32.toNat_toUInt8]; omega
  · apply UInt32.toNat_inj.1
    simp only [UInt8.toNat_toUInt32, UInt32.toNat_toUInt8]
    omega

theorem checksumSyms_eq (P : UInt32) : checksumSyms P =
    [((P >>> UInt32.ofNat (5 * 5)) &&& 31).toUInt8, ((P >>> UInt32.ofNat (5 * 4)) &&& 31).toUInt8,
     ((P >>> UInt32.ofNat (5 * 3)) &&& 31).toUInt8, ((P >>> UInt32.ofNat (5 * 2)) &&& 31).toUInt8,
     ((P >>> UInt32.ofNat (5 * 1)) &&& 31).toUInt8, ((P >>> UInt32.ofNat (5 * 0)) &&& 31).toUInt8] := by
  simp [checksumSyms, List.range, List.range.loop]

theorem pf_sym (c x : UInt32) (t : Bytes) :
    pf c ((x &&& 31).toUInt8 :: t) = pf (polymodStep c ^^^ (x &&& 31)) t := by
  rw [pf_cons, (sym_props x).2]

theorem pf_syms0 (P : UInt32) (hP : hi30 P) : pf 0 (checksumSyms P) = P := by
  have h6 : (0 : UInt32) = P >>> UInt32.ofNat (5 * (5 + 1)) := by
    apply UInt32.toNat_inj.1
    rw [shr_toNat _ _ (by omega)]
    exact (Nat.div_eq_of_lt hP).symm
  rw [checksumSyms_eq, pf_sym, pf_sym, pf_sym, pf_sym, pf_sym, pf_sym, h6, shift_step P 5 (by omega) hP,
    shift_step P 4 (by omega) hP, shift_step P 3 (by omega) hP, shift_step P 2 (by omega) hP,
    shift_step P 1 (by omega) hP, shift_step P 0 (by omega) hP]
  exact UInt32.shiftRight_zero

theorem pf_syms (c P : UInt32) (hP : hi30 P) : pf c (checksumSyms P) = six c ^^^ P := by
  rw [pf_affine, pf_syms0 P hP, checksumSyms_eq]; rfl

/-- the heart of "create then verify": with `P = six c ^^^ K` the decoder ends in state `K` -/
theorem feed_checksum (c K : UInt32) (hK : hi30 K) : pf c (checksumSyms (six c ^^^ K)) = K := by
  rw [pf_syms _ _ (show hi30 (six c ^^^ K) from xor_hi (ps_hi _) hK), xor_cancel_left]

/-- converse: if the decoder ends in `K` after the six groups of `P`, then `P` is the checksum the encoder computes -/
theorem checksum_unique (c K P : UInt32) (hP : hi30 P) (h : pf c (checksumSyms P) = K) : P = six c ^^^ K := by
  rw [← h, pf_syms c P hP, xor_cancel_left]

theorem checksumSyms_le31 (P : UInt32) : ∀ x ∈ checksumSyms P, x.toNat ≤ 31 :=
  List.forall_mem_map.mpr fun _ _ => (sym_props _).1

theorem shr5_toUInt32 (ch : UInt8) : (ch >>> 5).toUInt32 = ch.toUInt32 >>> 5 := by
  rw [← UInt32.toNat_inj, UInt8.toNat_toUInt32, UInt8.toNat_shiftRight, UInt32.toNat_shiftRight, UInt8.toNat_toUInt32]
  rfl

/-- a symbol's character is an entry of the table, or the 0 that `getD` gives outside it -/
theorem charsetAt_mem (v : UInt8) : charsetAt v ∈ 0 :: charset := by
  unfold charsetAt
  by_cases h : v.toNat < charset.length
  · rw [List.getD_eq_getElem?_getD, List.getElem?_eq_getElem h]
    exact List.mem_cons_of_mem _ (List.getElem_mem h)
  · rw [List.getD_eq_getElem?_getD, List.getElem?_eq_none (by omega)]
    exact List.mem_cons_self

theorem charset_tab : ∀ c ∈ 0 :: charset, c ≠ 49 ∧ c &&& 0x80 = 0 ∧ isUpper c = false := by decide

theorem charsetAt_ne_sep (v : UInt8) : charsetAt v ≠ 49 := (charset_tab _ (charsetAt_mem v)).1
theorem charsetAt_lo7 (v : UInt8) : charsetAt v &&& 0x80 = 0 := (charset_tab _ (charsetAt_mem v)).2.1
theorem charsetAt_not_upper (v : UInt8) : isUpper (charsetAt v) = false := (charset_tab _ (charsetAt_mem v)).2.2

theorem charsetRev_charsetAt (v : UInt8) (h : v.toNat ≤ 31) : charsetRev (charsetAt v) = v := by
  have tab : ∀ i : Fin 32, charsetRev (charsetAt (UInt8.ofNat i.val)) = UInt8.ofNat i.val := by decide +kernel
  simpa using tab ⟨v.toNat, Nat.lt_succ_of_le h⟩
theorem final_ne : finalM ≠ final1 := by decide

theorem finalConstant_hi (m : Bool) : hi30 (finalConstant m) := by
  cases m <;> (unfold hi30; decide)


theorem hrp_lower : ∀ ch : UInt8,
    (if (!isLower ch && isUpper ch) = true then (ch - 65) + 97 else ch) = asciiLower ch :=
  u8_forall (by decide +kernel)
theorem low5_lower : ∀ ch : UInt8, (asciiLower ch &&& 0x1f) = (ch &&& 0x1f) := u8_forall (by decide +kernel)
theorem notUpper_lower : ∀ ch : UInt8, isUpper (asciiLower ch) = false := u8_forall (by decide +kernel)
theorem range_lower : ∀ ch : UInt8, ¬ (ch.toNat < 33 ∨ ch.toNat > 126) →
    ¬ ((asciiLower ch).toNat < 33 ∨ (asciiLower ch).toNat > 126) := u8_forall (by decide +kernel)
theorem rev_at : ∀ c : UInt8, c &&& 0x80 = 0 → ¬ (charsetRev c).toNat > 31 →
    charsetAt (charsetRev c) = asciiLower c ∧ (charsetRev c) >>> 5 = 0 := u8_forall (by decide +kernel)
theorem lower_sep : asciiLower 49 = 49 := by decide
theorem upper_simpl : ∀ c : UInt8, (!isLower c && isUpper c) = isUpper c := u8_forall (by decide +kernel)
theorem lower_of_notUpper : ∀ c : UInt8, isUpper c = false → asciiLower c = c := u8_forall (by decide +kernel)

end GocoinV.Bech32
