/-
  Proofs.C12Flags — OneTxToSend.mined / unmined: clearing / setting the MemInputs flag of the children keeps the
  full pool invariant, the "unflagged input is available" predicate moving with the block
  (helper lemmas for Props/C12 `pool_inv`); at the end, the pool invariant through every step of the pool side
  (`Prim.good`).  Core Lean only.
-/
import GocoinV.Proofs.C12Ops
namespace GocoinV.Mempool

/-! ### lists of flags -/

theorem getD_set_bool (l : List Bool) (idx k : Nat) (v : Bool) (h : idx < l.length) :
    (l.set idx v).getD k false = if k = idx then v else l.getD k false := by
  rw [List.getD_eq_getElem?_getD, List.getElem?_set, List.getD_eq_getElem?_getD]
  by_cases e : k = idx
  · simp [e, h]
  · simp [e, Ne.symm e]

theorem count_set_false : ∀ (l : List Bool) (idx : Nat), l.getD idx false = true →
    ((l.set idx false).filter id).length + 1 = (l.filter id).length := by
  intro l idx h
  obtain ⟨hl, e⟩ := List.getElem?_eq_some_iff.mp ((getD_true l idx).mp h)
  have := List.countP_pos_iff.mpr ⟨l[idx], List.getElem_mem hl, (congrArg id e : id l[idx] = true)⟩
  rw [← List.countP_eq_length_filter, ← List.countP_eq_length_filter, List.countP_set hl, e]
  simp
  omega

theorem count_set_true : ∀ (l : List Bool) (idx : Nat), l.getD idx false = false → idx < l.length →
    ((l.set idx true).filter id).length = (l.filter id).length + 1 := by
  intro l idx h hl
  have e : l[idx] = false := by simpa [List.getD_eq_getElem?_getD, hl] using h
  rw [← List.countP_eq_length_filter, ← List.countP_eq_length_filter, List.countP_set hl, e]
  simp

theorem getD_true_lt (l : List Bool) (idx : Nat) (h : l.getD idx false = true) : idx < l.length :=
  (List.getElem?_eq_some_iff.mp ((getD_true l idx).mp h)).1

theorem iidx_spec (K : Keys) (r : T2S) (u idx : Nat) (h : iidx K r u = some idx) :
    ∃ i, r.tx.ins[idx]? = some i ∧ K.uidx i.prev i.vout = u := by
  unfold iidx at h
  obtain ⟨l1, l2, hl, e⟩ := posOf_split u _ 0 idx h
  have hb := congrArg (·[idx]?) hl
  simp only [e, Nat.zero_add, List.getElem?_append_right (Nat.le_refl _), Nat.sub_self, List.getElem?_cons_zero,
    List.getElem?_map] at hb
  rw [e, Nat.zero_add]
  exact Option.map_eq_some_iff.mp hb

theorem nodup_pos (t : Tx) (h : t.inOps.Nodup) (k j : Nat) (a b : TxIn) (hk : t.ins[k]? = some a)
    (hj : t.ins[j]? = some b) (e1 : a.prev = b.prev) (e2 : a.vout = b.vout) : k = j := by
  have hkl : k < t.inOps.length := by
    unfold Tx.inOps; rw [List.length_map]; exact (List.getElem?_eq_some_iff.mp hk).1
  apply (List.getElem?_inj hkl h).mp
  unfold Tx.inOps
  rw [List.getElem?_map, List.getElem?_map, hk, hj]
  simp [TxIn.op, e1, e2]

theorem setRec_ok {val : Nat} {K : Keys} {W : Tx → Prop} {ν : OutPoint → Nat} {A0 A : OutPoint → Prop} {Cf : TxId → Prop}
    {s s' : State} (h : PoolOK K W ν A0 Cf s)
    (hmono : ∀ b x, b ≠ val → s.pool.get? b = some x → ∀ k i, x.tx.ins[k]? = some i → flag x k = false →
      A0 (i.prev, i.vout) → A (i.prev, i.vout)) (r r' : T2S)
    (hr : s.pool.get? val = some r) (htx : r'.tx = r.tx)
    (e1 : s'.pool = s.pool.set val r') (e2 : s'.spent = s.spent) (e3 : s'.rej = s.rej) (e4 : s'.undo = s.undo)
    (e5 : s'.weightTotal = s.weightTotal) (hl : RecL ν r')
    (hp : ∀ k i, r.tx.ins[k]? = some i → flag r' k = true →
      ∃ p, s.pool.get? (K.bidx i.prev) = some p ∧ p.tx.id = i.prev ∧ i.vout < p.tx.outs.length)
    (hu : ∀ k i, r.tx.ins[k]? = some i → flag r' k = false → A (i.prev, i.vout)) :
    PoolOK K W ν A Cf s' := by
  obtain ⟨hI, look⟩ := setRec_InvR h.w.base val r' e1 hr htx e2 e3 e4
  have back : ∀ b x, s'.pool.get? b = some x → (b = val ∧ x = r') ∨ (b ≠ val ∧ s.pool.get? b = some x) :=
    fun b x hx => AList.get?_set_some (e1 ▸ hx)
  have lift : ∀ i : TxIn, (∃ p, s.pool.get? (K.bidx i.prev) = some p ∧ p.tx.id = i.prev ∧ i.vout < p.tx.outs.length) →
      ∃ p, s'.pool.get? (K.bidx i.prev) = some p ∧ p.tx.id = i.prev ∧ i.vout < p.tx.outs.length := by
    rintro i ⟨p, h1, h2, h3⟩
    obtain ⟨p', h1', e⟩ := look _ p h1
    exact ⟨p', h1', by rw [e]; exact h2, by rw [e]; exact h3⟩
  refine ⟨⟨hI, ?_, ?_, ?_, ?_⟩, ?_⟩
  · intro b x hx
    rcases back b x hx with ⟨_, rfl⟩ | ⟨_, h2⟩
    · exact hl
    · exact h.w.loc b x h2
  · intro b x hx k i hk hf
    rcases back b x hx with ⟨_, rfl⟩ | ⟨hne, h2⟩
    · rw [htx] at hk; exact hu k i hk hf
    · exact hmono b x hne h2 k i hk hf (h.w.unf b x h2 k i hk hf)
  · intro b x hx
    rcases back b x hx with ⟨_, rfl⟩ | ⟨_, h2⟩
    · rw [htx]; exact h.w.ncf val r hr
    · exact h.w.ncf b x h2
  · rw [e5, e1, poolWeight_set_same _ _ r r' h.w.base.nodup hr (by rw [htx]), h.w.wt]
  · intro b x hx k i hk hf
    rcases back b x hx with ⟨_, rfl⟩ | ⟨_, h2⟩
    · rw [htx] at hk; exact lift i (hp k i hk hf)
    · exact lift i (h.par b x h2 k i hk hf)

/-! ### mined: clear the flags of the children -/

/-- unflagged inputs: available by `A`, or one of the first `n` outputs of `id` -/
def AMined (A : OutPoint → Prop) (id : TxId) (n : Nat) (o : OutPoint) : Prop := A o ∨ (o.1 = id ∧ o.2 < n)

/-- the loop invariant of `mined` after the outputs `< n` -/
structure MinedInv (K : Keys) (W : Tx → Prop) (ν : OutPoint → Nat) (A : OutPoint → Prop) (Cf : TxId → Prop)
    (t : T2S) (n : Nat) (s : State) : Prop where
  ok : PoolOK K W ν (AMined A t.tx.id n) Cf s
  self : ∃ t', s.pool.get? (K.bidx t.tx.id) = some t' ∧ t'.tx = t.tx
  prog : ∀ b r, s.pool.get? b = some r → ∀ k i, r.tx.ins[k]? = some i → flag r k = true → i.prev = t.tx.id →
    n ≤ i.vout

variable {K : Keys} {W : Tx → Prop} {rank : TxId → Nat} {u0 : UT} {ν : OutPoint → Nat}
  {A : OutPoint → Prop} {Cf : TxId → Prop}

theorem InvS.spender {s : State} (h : InvS K s) {b k : Nat} {r : T2S} {i : TxIn}
    (hr : s.pool.get? b = some r) (hk : r.tx.ins[k]? = some i) : s.spent.get? (K.uidx i.prev i.vout) = some b :=
  h.complete b r hr _ (List.mem_map.mpr ⟨i, List.mem_of_getElem? hk, rfl⟩)

/-- the record `r` that SpentOutputs names for output `n` of `t` has that input at the position IIdx finds, and it
    is the only pooled input naming that output -/
theorem child_input (U : Univ2 K W rank u0 ν) {s : State} (hb : InvR K W s) {t : T2S} (htW : W t.tx) {n : Nat}
    (hn : n < t.tx.outs.length) {val idx : Nat} {r : T2S} (hval : s.spent.get? (K.uidx t.tx.id n) = some val)
    (hr : s.pool.get? val = some r) (hidx : iidx K r (K.uidx t.tx.id n) = some idx) (hnd : r.tx.inOps.Nodup) :
    (∃ j, r.tx.ins[idx]? = some j ∧ j.prev = t.tx.id ∧ j.vout = n) ∧
    ∀ b x k i, s.pool.get? b = some x → x.tx.ins[k]? = some i → i.prev = t.tx.id → i.vout = n → b = val ∧ k = idx := by
  obtain ⟨j, hj, hju⟩ := iidx_spec K r _ idx hidx
  have hjm : j ∈ r.tx.ins := List.mem_of_getElem? hj
  have hrW := hb.poolW _ _ hr
  obtain ⟨jp, jv⟩ := U.uidx_play _ _ _ _ (Play.prev hrW hjm) (Play.self htW) (VPlay.vin hrW hjm) (VPlay.out htW hn) hju
  refine ⟨⟨j, hj, jp, jv⟩, fun b x k i hx hk e1 e2 => ?_⟩
  have hs := hb.str.spender hx hk
  rw [e1, e2, hval] at hs
  cases hs
  rw [hr] at hx
  cases hx
  exact ⟨rfl, nodup_pos r.tx hnd k idx i j hk hj (by rw [e1, jp]) (by rw [e2, jv])⟩

/-- the flag of the input that spends output `n` is still set: unflagged, the input would be available by `A`, that
    is, `t` would be confirmed -/
theorem mined_child_flag (hAC : ∀ o, A o → Cf o.1) {t : T2S} {n : Nat} {s : State} (h : MinedInv K W ν A Cf t n s)
    {val idx : Nat} {r : T2S} {j : TxIn} (hr : s.pool.get? val = some r) (hj : r.tx.ins[idx]? = some j)
    (jp : j.prev = t.tx.id) (jv : j.vout = n) : flag r idx = true := by
  obtain ⟨t', ht', htx⟩ := h.self
  cases hf : flag r idx with
  | true => rfl
  | false =>
    exfalso
    rcases h.ok.w.unf _ _ hr idx j hj hf with ha | ⟨_, h2⟩
    · have := hAC _ ha
      rw [jp, ← htx] at this
      exact h.ok.w.ncf _ _ ht' this
    · rw [jv] at h2; exact Nat.lt_irrefl _ h2

theorem minedStep_ok (U : Univ2 K W rank u0 ν) (hAC : ∀ o, A o → Cf o.1)
    (t : T2S) (n : Nat) (hn : n < t.tx.outs.length) (s : State) (h : MinedInv K W ν A Cf t n s)
    (hp : (minedStep K t s n).panicked = false) : MinedInv K W ν A Cf t (n + 1) (minedStep K t s n) := by
  have hb := h.ok.w.base
  obtain ⟨t', ht', htx⟩ := h.self
  have htW : W t.tx := by rw [← htx]; exact hb.poolW _ _ ht'
  have mono : PoolOK K W ν (AMined A t.tx.id (n + 1)) Cf s :=
    ⟨h.ok.w.mono (fun _ _ _ _ _ _ _ ha => Or.imp_right (fun h => ⟨h.1, Nat.lt_succ_of_lt h.2⟩) ha)
      (fun _ _ _ hc => hc), h.ok.par⟩
  revert hp
  refine minedStep_cases (P := fun s' => s'.panicked = false → MinedInv K W ν A Cf t (n + 1) s') K t s n
    (fun hsame _ => ?_) (fun hp => by cases hp) fun val r idx hval hr hidx hne _ => ?_
  · -- nothing pooled spends output `n`
    have hnone : s.spent.get? (K.uidx t.tx.id n) = none :=
      Option.eq_none_iff_forall_ne_some.mpr fun val hv => by
        obtain ⟨x, hx, _⟩ := hb.str.sound _ _ hv
        rw [hsame val hv] at hx; cases hx
    refine ⟨mono, ⟨t', ht', htx⟩, ?_⟩
    intro b r hr k i hk hf e
    refine Nat.lt_of_le_of_ne (h.prog b r hr k i hk hf e) fun e2 => ?_
    have hs := hb.str.spender hr hk
    rw [e, ← e2, hnone] at hs; cases hs
  · have rl := h.ok.w.loc _ _ hr
    obtain ⟨⟨j, hj, jp, jv⟩, uniq⟩ := child_input U hb htW hn hval hr hidx rl.nodupIn
    have hfl : flag r idx = true := mined_child_flag hAC h hr hj jp jv
    have hlt : idx < r.mem.length := getD_true_lt _ _ hfl
    have hcnt := count_set_false r.mem idx hfl
    -- the flags of the new record
    have hflag : ∀ k, flag (clrRec r idx) k = if k = idx then false else flag r k := by
      intro k
      unfold flag clrRec
      dsimp only
      split
      · rename_i hz
        have hz' : ((r.mem.set idx false).filter id).length = 0 := by rw [rl.memCnt] at hz; omega
        rw [← getD_set_bool _ _ _ _ hlt, count_zero_getD _ k hz']
        rfl
      · exact getD_set_bool _ _ _ _ hlt
    have hl' : RecL ν (clrRec r idx) := by
      unfold clrRec
      split
      · rename_i hz
        exact ⟨Or.inl rfl, by rw [hz]; rfl, rl.nodupIn, rl.vol, rl.fee⟩
      · refine ⟨Or.inr ?_, by dsimp only; rw [rl.memCnt]; omega, rl.nodupIn, rl.vol, rl.fee⟩
        rcases rl.memLen with e | e
        · rw [e] at hlt; simp at hlt
        · simpa using e
    have ok' := setRec_ok (s' := { s with pool := s.pool.set val (clrRec r idx), sortDirty := true })
      mono (fun _ _ _ _ _ _ _ _ ha => ha) r (clrRec r idx) hr rfl rfl rfl rfl rfl rfl hl'
      (by
        intro k i hk hf
        rw [hflag] at hf
        split at hf
        · cases hf
        · exact h.ok.par _ _ hr k i hk hf)
      (by
        intro k i hk hf
        rw [hflag] at hf
        split at hf
        · rename_i e
          rw [e, hj] at hk
          cases hk
          exact Or.inr ⟨jp, by rw [jv]; omega⟩
        · exact mono.w.unf _ _ hr k i hk hf)
    refine ⟨ok', ?_, ?_⟩
    · obtain ⟨x', hx', e⟩ := (setRec_txs (s' := { s with pool := s.pool.set val (clrRec r idx), sortDirty := true })
        val r (clrRec r idx) hr rfl rfl).1 _ t' ht'
      exact ⟨x', hx', e.trans htx⟩
    · intro b x hx k i hk hf e
      rcases AList.get?_set_some (m := s.pool) hx with ⟨rfl, rfl⟩ | ⟨eb, hx'⟩
      · rw [hflag] at hf
        split at hf
        · cases hf
        · rename_i hk'
          exact Nat.lt_of_le_of_ne (h.prog _ _ hr k i hk hf e) fun e2 => hk' (uniq _ _ k i hr hk e e2.symm).2
      · exact Nat.lt_of_le_of_ne (h.prog b x hx' k i hk hf e) fun e2 => eb (uniq b x k i hx' hk e e2.symm).1

theorem minedFlags_ok (U : Univ2 K W rank u0 ν) (hAC : ∀ o, A o → Cf o.1)
    (t : T2S) (s : State) (h : PoolOK K W ν A Cf s) (hin : s.pool.get? (K.bidx t.tx.id) = some t)
    (hp : (minedFlags K s t).panicked = false) :
    MinedInv K W ν A Cf t t.tx.outs.length (minedFlags K s t) := by
  rw [minedFlags_eq] at hp ⊢
  unfold iota at hp ⊢
  refine (range_foldl_ind (fun n s1 => Env s s1 ∧ (s1.panicked = false → MinedInv K W ν A Cf t n s1)) _ _ s
    ⟨Env.refl s, fun _ => ⟨⟨h.w.mono (fun _ _ _ _ _ _ _ ha => Or.inl ha) (fun _ _ _ hc => hc), h.par⟩,
      ⟨t, hin, rfl⟩, fun _ _ _ _ _ _ _ _ => Nat.zero_le _⟩⟩ fun n s1 hn i => ?_).2 hp
  have e2 := minedStep_env K t s1 n
  exact ⟨i.1.trans e2, fun hp' => minedStep_ok U hAC t n hn _ (i.2 (alive_of_env e2 hp')) hp'⟩

/-! ### unmined: set the flags of the children -/

theorem memOf_getD (r : T2S) (k : Nat) : (memOf r).getD k false = flag r k := by
  unfold memOf flag
  split
  · rename_i he
    rw [List.isEmpty_iff.mp he, List.getD_eq_getElem?_getD, List.getElem?_replicate]
    split <;> rfl
  · rfl

theorem memOf_spec (ν : OutPoint → Nat) (r : T2S) (h : RecL ν r) :
    (memOf r).length = r.tx.ins.length ∧ ((memOf r).filter id).length = (r.mem.filter id).length := by
  unfold memOf
  split
  · rename_i he
    rw [List.isEmpty_iff.mp he]
    simp
  · rename_i hne
    rcases h.memLen with e | e
    · rw [e] at hne; simp at hne
    · exact ⟨e, rfl⟩

/-- unflagged inputs: available by `B`, or one of the outputs `n ≤ · < m` of `id` -/
def AUnm (B : OutPoint → Prop) (id : TxId) (m n : Nat) (o : OutPoint) : Prop := B o ∨ (o.1 = id ∧ n ≤ o.2 ∧ o.2 < m)

/-- the loop invariant of `unmined` after the outputs `< n`: the pool invariant with the outputs `n ≤ · < m` of `t` still
    counted as available (`AUnm`), and `t` still pooled -/
structure UnmInv (K : Keys) (W : Tx → Prop) (ν : OutPoint → Nat) (B : OutPoint → Prop) (Cf : TxId → Prop)
    (t : T2S) (n : Nat) (s : State) : Prop where
  ok : PoolOK K W ν (AUnm B t.tx.id t.tx.outs.length n) Cf s
  self : ∃ t', s.pool.get? (K.bidx t.tx.id) = some t' ∧ t'.tx = t.tx

theorem unminedStep_ok {B : OutPoint → Prop} {Cf : TxId → Prop} (U : Univ2 K W rank u0 ν)
    (t : T2S) (n : Nat) (hn : n < t.tx.outs.length) (s : State) (h : UnmInv K W ν B Cf t n s)
    (hp : (unminedStep K t s n).panicked = false) : UnmInv K W ν B Cf t (n + 1) (unminedStep K t s n) := by
  have hb := h.ok.w.base
  obtain ⟨t', ht', htx⟩ := h.self
  have htW : W t.tx := by rw [← htx]; exact hb.poolW _ _ ht'
  -- an unflagged input that is not (t.id, n) stays available
  have shrink : ∀ (i : TxIn), AUnm B t.tx.id t.tx.outs.length n (i.prev, i.vout) → ¬ (i.prev = t.tx.id ∧ i.vout = n) →
      AUnm B t.tx.id t.tx.outs.length (n + 1) (i.prev, i.vout) := by
    intro i ha hne
    exact Or.imp_right (fun h => ⟨h.1, Nat.lt_of_le_of_ne h.2.1 fun e => hne ⟨h.1, e.symm⟩, h.2.2⟩) ha
  unfold unminedStep at hp ⊢
  dsimp only at hp ⊢
  split
  · rename_i hnone
    refine ⟨⟨h.ok.w.mono (fun b x hx k i hk _ ha => shrink i ha (fun ⟨e1, e2⟩ => by
      have hs := hb.str.spender hx hk
      rw [e1, e2, hnone] at hs; cases hs)) (fun _ _ _ hc => hc), h.ok.par⟩, ⟨t', ht', htx⟩⟩
  · rename_i val hval
    split
    · rename_i hnone
      obtain ⟨x, hx, _⟩ := hb.str.sound _ _ hval
      rw [hnone] at hx; cases hx
    · rename_i r hr
      rw [hval] at hp
      simp only [hr] at hp
      split
      · rename_i hi
        rw [hi] at hp; simp at hp
      · rename_i idx hidx
        have rl := h.ok.w.loc _ _ hr
        obtain ⟨⟨j, hj, jp, jv⟩, uniq⟩ := child_input U hb htW hn hval hr hidx rl.nodupIn
        obtain ⟨ml, mc⟩ := memOf_spec ν r rl
        have hidxlt : idx < (memOf r).length := by rw [ml]; exact (List.getElem?_eq_some_iff.mp hj).1
        have hmono : ∀ b x, b ≠ val → s.pool.get? b = some x → ∀ k i, x.tx.ins[k]? = some i → flag x k = false →
            AUnm B t.tx.id t.tx.outs.length n (i.prev, i.vout) →
            AUnm B t.tx.id t.tx.outs.length (n + 1) (i.prev, i.vout) := by
          intro b x hne hx k i hk _ ha
          exact shrink i ha fun ⟨e1, e2⟩ => hne (uniq b x k i hx hk e1 e2).1
        have selfk : ∀ k i, r.tx.ins[k]? = some i → k ≠ idx → ¬ (i.prev = t.tx.id ∧ i.vout = n) :=
          fun k i hk hne ⟨e1, e2⟩ => hne (uniq _ _ k i hr hk e1 e2).2
        have self' : ∀ (s' : State) (r' : T2S), s'.pool = s.pool.set val r' → r'.tx = r.tx →
            ∃ t', s'.pool.get? (K.bidx t.tx.id) = some t' ∧ t'.tx = t.tx := by
          intro s' r' e1 e2
          obtain ⟨x', hx', e⟩ := (setRec_txs val r r' hr e2 e1).1 _ t' ht'
          exact ⟨x', hx', e.trans htx⟩
        split
        · rename_i hset
          have hfl : flag r idx = true := by rw [← memOf_getD]; exact hset
          have hflag : ∀ k, flag (memRec r) k = flag r k := by
            intro k; rw [← memOf_getD r k]; rfl
          have ok' := setRec_ok (s' := { s with pool := s.pool.set val (memRec r) }) h.ok hmono r (memRec r) hr rfl
            rfl rfl rfl rfl rfl
            ⟨Or.inr ml, by show r.memCnt = ((memOf r).filter id).length; rw [mc]; exact rl.memCnt, rl.nodupIn, rl.vol, rl.fee⟩
            (by intro k i hk hf; rw [hflag] at hf; exact h.ok.par _ _ hr k i hk hf)
            (by
              intro k i hk hf
              rw [hflag] at hf
              apply shrink i (h.ok.w.unf _ _ hr k i hk hf)
              apply selfk k i hk
              intro e; rw [e, hfl] at hf; cases hf)
          exact ⟨ok', self' _ (memRec r) rfl rfl⟩
        · rename_i hset
          have hfl : (memOf r).getD idx false = false := by simpa using hset
          have hflag : ∀ k, flag (setRecF r idx) k = if k = idx then true else flag r k := by
            intro k
            rw [← memOf_getD r k]
            exact getD_set_bool _ _ _ _ hidxlt
          have ok' := setRec_ok (s' := { s with pool := s.pool.set val (setRecF r idx), sortDirty := true }) h.ok hmono
            r (setRecF r idx) hr rfl rfl rfl rfl rfl rfl
            ⟨Or.inr (by show ((memOf r).set idx true).length = r.tx.ins.length; rw [List.length_set]; exact ml),
             by show r.memCnt + 1 = (((memOf r).set idx true).filter id).length
                rw [count_set_true _ _ hfl hidxlt, mc, rl.memCnt], rl.nodupIn, rl.vol, rl.fee⟩
            (by
              intro k i hk hf
              rw [hflag] at hf
              split at hf
              · rename_i e
                rw [e, hj] at hk
                cases hk
                refine ⟨t', by rw [jp]; exact ht', by rw [htx, jp], ?_⟩
                rw [htx, jv]; exact hn
              · exact h.ok.par _ _ hr k i hk hf)
            (by
              intro k i hk hf
              rw [hflag] at hf
              split at hf
              · cases hf
              · rename_i hk'
                exact shrink i (h.ok.w.unf _ _ hr k i hk hf) (selfk k i hk hk'))
          exact ⟨ok', self' _ (setRecF r idx) rfl rfl⟩

theorem unminedFlags_ok {B : OutPoint → Prop} {Cf : TxId → Prop} (U : Univ2 K W rank u0 ν)
    (t : T2S) (s : State) (h : PoolOK K W ν (AUnm B t.tx.id t.tx.outs.length 0) Cf s)
    (hin : s.pool.get? (K.bidx t.tx.id) = some t)
    (hp : (unminedFlags K s t).panicked = false) : PoolOK K W ν B Cf (unminedFlags K s t) := by
  rw [unminedFlags_eq] at hp ⊢
  unfold iota at hp ⊢
  have fin := (range_foldl_ind (fun n s1 => Env s s1 ∧ (s1.panicked = false → UnmInv K W ν B Cf t n s1)) _ _ s
    ⟨Env.refl s, fun _ => ⟨h, ⟨t, hin, rfl⟩⟩⟩ fun n s1 hn i =>
      have e2 := unminedStep_env K t s1 n
      ⟨i.1.trans e2, fun hp' => unminedStep_ok U t n hn _ (i.2 (alive_of_env e2 hp')) hp'⟩).2 hp
  exact ⟨fin.ok.w.mono (fun _ _ _ _ _ _ _ ha => Or.resolve_right ha fun h =>
    Nat.lt_irrefl _ (Nat.lt_of_le_of_lt h.2.1 h.2.2)) (fun _ _ _ hc => hc), fin.ok.par⟩

theorem markLocal_good {K : Keys} {W : Tx → Prop} {u0 : UT} {ν : OutPoint → Nat} (s : State) (id : TxId)
    (h : PGood K W u0 ν s) : PGood K W u0 ν (markLocal K s id) := by
  have e := markLocal_env K s id
  refine PGood.of_env ?_ e
  unfold markLocal
  split
  · rename_i r hr
    have rl := h.w.loc _ _ hr
    exact setRec_ok (val := K.bidx id) h (fun _ _ _ _ _ _ _ _ ha => ha) r { r with loc := true } hr rfl rfl rfl rfl rfl rfl
      { rl with }
      (fun k i hk hf => h.par _ _ hr k i hk hf) (fun k i hk hf => h.w.unf _ _ hr k i hk hf)
  · exact h

theorem Prim.good (U : Univ2 K W rank u0 ν) {s s' : State} (p : Prim K W s s')
    (h : ChainOK u0 ν s ∧ PGoodP K W u0 ν s) : ChainOK u0 ν s' ∧ PGoodP K W u0 ν s' := by
  have e := p.env
  refine ⟨h.1.of_env e, ?_⟩
  obtain ⟨hc, h⟩ := h
  -- what the step does to a live state that satisfies the invariant
  have lift : (PGood K W u0 ν s → PoolOK K W ν (inU s) (Conf u0 s.undo) s') → PGoodP K W u0 ν s' :=
    fun f hp => PGood.of_env (f (h (alive_of_env e hp))) e
  cases p with
  | panic => intro hp; cases hp
  | rejDel b r _ => exact PGoodP.lift e (fun g => g.frame (rejDelete_frame K W s r)) h
  | resubmit mf cur first txr t htxr htx =>
    have e1 := rejDelete_env K s txr
    have e2 := processTx_env K mf (rejDelete K s txr) t {}
    have ht : (processTx K mf (rejDelete K s txr) t {}).2.panicked = false → W t := fun hp =>
      (h (alive_of_env e1 (alive_of_env e2 hp))).w.base.rejW _ txr t htxr htx
    have g2 : PGoodP K W u0 ν (processTx K mf (rejDelete K s txr) t {}).2 := fun hp =>
      processTx_good U mf _ t {} (hc.of_env e1)
        ((h (alive_of_env e1 (alive_of_env e2 hp))).frame (rejDelete_frame K W s txr)) (ht hp) (by intro hu; cases hu)
    refine resubmit_cases (P := PGoodP K W u0 ν) K mf s cur txr t g2 fun _ hp => ?_
    have hp2 := alive_of_env ((rejDeleteByIdx_env K _ (K.bidx t.id)).trans (rejectTx_env K _ t R_BAD_INPUT none)) hp
    exact (g2 hp2).frame ((rejDeleteByIdx_frame K W _ (K.bidx t.id)).trans
      (rejectTx_frame K W _ t R_BAD_INPUT none (ht hp2)))
  | submit mf t fl ht hu _ _ =>
    exact PGoodP.lift e (fun g => processTx_good U mf s t fl hc g ht (by rw [hu]; intro x; cases x)) h
  | markLocal id => exact PGoodP.lift e (markLocal_good s id) h
  | delTree b t ht =>
    intro hp
    have g := h (alive_of_env e hp)
    exact PGood.of_env (delWC_ok U.base 0 _ s t g (g.w.base.str.at_key ht) hp).1.ok e
  | evictOne b t ht hc =>
    refine lift fun g => ?_
    have hin := g.w.base.str.at_key ht
    exact delOne_ok s t 0 g hin (noflag_of_childless s t g hin (hasNoChildren_spec K s t hc))
  | resort =>
    refine PGoodP.lift e (fun g => ?_) h
    unfold buildSorted
    split
    · exact g.frame Frame.of_eq
    · exact g
  | reload =>
    exact lift fun g => reload_ok U s g hc.conf_of_inU
  | tip hh | commitFlag y => exact PGoodP.lift e (fun g => g.frame Frame.of_eq) h

theorem Reach.good (U : Univ2 K W rank u0 ν) {s s' : State} (r : Reach K W s s') (hc : ChainOK u0 ν s)
    (g : PGoodP K W u0 ν s) : ChainOK u0 ν s' ∧ PGoodP K W u0 ν s' := r.inv (fun _ _ p => p.good U) ⟨hc, g⟩

end GocoinV.Mempool
