/-
  Proofs.C11Live — control invariants of the snapshot protocol (`CtlInv`: who owns db.Mutex, what the writingDone
  counter counts, where an abort token can be); the walk over the transitions of the main goroutine and the saver,
  which says at each transition why `SnapP.inv`, `FileInv` and `CtlInv` survive it, hence every schedule keeps them
  (`run_all`) and all three hold in every reachable state (`reach`); deadlock freedom: every reachable state of the Snap transition system with a data_channel of
  capacity ≥ 1 is final or has an enabled step. Last: without a foreign Save the extended system of
  Model/ConcThread.lean is the snapshot protocol itself.
-/
import GocoinV.Proofs.C11Snap
import GocoinV.Model.ConcThread
namespace GocoinV.Proofs.C11.SnapL
open GocoinV.Conc GocoinV.Conc.Snap GocoinV.Proofs.C11.SnapP GocoinV.Proofs.C11.SnapC

/-- the main goroutine holds db.Mutex -/
def mLocked : MPc → Bool
  | .cAbort _ | .cMut1 | .cMut2 | .cUnlock | .iCheck | .sChk .idle | .sSet .idle | .sAdd .idle | .sGo .idle
  | .iUnlock | .aAbort _ | .aUnlock => true
  | _ => false

def xLocked : XPc → Bool | .aAbort _ | .aUnlock => true | _ => false

/-- between sending the abort token and having drained the channel -/
def mAborting : MPc → Bool
  | .cAbort .wait | .cAbort .drain | .aAbort .wait | .aAbort .drain => true | _ => false

def xAborting : XPc → Bool | .aAbort .wait | .aAbort .drain => true | _ => false

@[simp] theorem mLocked_ret_idle : mLocked (saveRetPc .idle) = true := rfl
@[simp] theorem mLocked_ret_direct : mLocked (saveRetPc .direct) = false := rfl
@[simp] theorem mLocked_ret_close : mLocked (saveRetPc .close) = false := rfl
@[simp] theorem mAborting_ret (r) : mAborting (saveRetPc r) = false := by cases r <;> rfl

structure CtlInv (st : St) : Prop where
  wd : st.wdone = (if st.s.isSome then 1 else 0) + (if isSGo st.mpc then 1 else 0)
  mx_m : st.mtx = some true ↔ mLocked st.mpc = true
  mx_x : st.mtx = some false ↔ xLocked st.xpc = true
  ab : st.abortCh = true → mAborting st.mpc = true ∨ xAborting st.xpc = true

theorem ctl_init (mp xp cap) : CtlInv (init mp xp cap) := by
  constructor <;> simp [init, isSGo, mLocked, xLocked]

theorem mAborting_locked (p : MPc) (h : mAborting p = true) : mLocked p = true := by
  cases p <;> first | rfl | cases h

theorem xAborting_locked (p : XPc) (h : xAborting p = true) : xLocked p = true := by
  cases p <;> first | rfl | cases h

namespace CtlInv
variable {st : St} (h : CtlInv st)
include h

theorem free (hn : st.mtx = none) : st.abortCh = false :=
  eq_false_of_ne_true fun hc => (h.ab hc).elim
    (fun ha => nomatch hn.symm.trans (h.mx_m.mpr (mAborting_locked _ ha)))
    fun ha => nomatch hn.symm.trans (h.mx_x.mpr (xAborting_locked _ ha))

/-- any step that leaves db.Mutex alone, keeps both goroutines on their side of it, keeps the count, and puts no
    new abort token into the channel -/
theorem upd {p' : MPc} {x' : XPc} {s' : Option Saver} {wdone' : Nat} {c : Bool}
    {mprog xprog wip dirty hurryCh fclosed ver stable f dataCh exitCh visible}
    (hwd : wdone' = (if s'.isSome then 1 else 0) + (if isSGo p' then 1 else 0))
    (hl : mLocked p' = mLocked st.mpc) (hx : xLocked x' = xLocked st.xpc)
    (ha : c = true → st.abortCh = true ∧ (mAborting st.mpc = true → mAborting p' = true) ∧
      (xAborting st.xpc = true → xAborting x' = true)) :
    CtlInv { st with mpc := p', xpc := x', s := s', wdone := wdone', abortCh := c, mprog := mprog, xprog := xprog,
                     wip := wip, dirty := dirty, hurryCh := hurryCh, fclosed := fclosed, ver := ver, stable := stable,
                     f := f, dataCh := dataCh, exitCh := exitCh, visible := visible } where
  wd := hwd
  mx_m := by show _ ↔ mLocked p' = true; rw [hl]; exact h.mx_m
  mx_x := by show _ ↔ xLocked x' = true; rw [hx]; exact h.mx_x
  ab hc := (h.ab (ha hc).1).imp (ha hc).2.1 (ha hc).2.2

/-- the same for a step of the main goroutine (or of the saver and file goroutines, with `p' = st.mpc`) -/
theorem step {p' : MPc} {s' : Option Saver} {wdone' : Nat}
    {mprog xprog wip dirty hurryCh fclosed ver stable f dataCh exitCh visible}
    (hwd : wdone' = (if s'.isSome then 1 else 0) + (if isSGo p' then 1 else 0))
    (hl : mLocked p' = mLocked st.mpc) (ha : mAborting st.mpc = true → mAborting p' = true) :
    CtlInv { st with mpc := p', s := s', wdone := wdone', mprog := mprog, xprog := xprog,
                     wip := wip, dirty := dirty, hurryCh := hurryCh, fclosed := fclosed, ver := ver, stable := stable,
                     f := f, dataCh := dataCh, exitCh := exitCh, visible := visible } :=
  h.upd hwd hl rfl fun hc => ⟨hc, ha, id⟩

theorem excl (hm : mLocked st.mpc = true) (hx : xLocked st.xpc = true) : False :=
  nomatch (h.mx_m.mpr hm).symm.trans (h.mx_x.mpr hx)

theorem lockM {p' : MPc} (hn : st.mtx = none)
    (hwd : st.wdone = (if st.s.isSome then 1 else 0) + (if isSGo p' then 1 else 0)) (hl : mLocked p' = true) :
    CtlInv { st with mtx := some true, mpc := p' } where
  wd := hwd
  mx_m := ⟨fun _ => hl, fun _ => rfl⟩
  mx_x := ⟨nofun, fun hx => nomatch hn.symm.trans (h.mx_x.mpr hx)⟩
  ab hc := nomatch (h.free hn).symm.trans hc

theorem lockX {x' : XPc} (hn : st.mtx = none) (hl : xLocked x' = true) :
    CtlInv { st with mtx := some false, xpc := x' } where
  wd := h.wd
  mx_m := ⟨nofun, fun hm => nomatch hn.symm.trans (h.mx_m.mpr hm)⟩
  mx_x := ⟨fun _ => hl, fun _ => rfl⟩
  ab hc := nomatch (h.free hn).symm.trans hc

theorem unlockM {p' : MPc} (hl : mLocked st.mpc = true) (ha : mAborting st.mpc = false)
    (hwd : st.wdone = (if st.s.isSome then 1 else 0) + (if isSGo p' then 1 else 0)) (hl' : mLocked p' = false) :
    CtlInv { st with mtx := none, mpc := p' } where
  wd := hwd
  mx_m := ⟨nofun, fun hm => nomatch hl'.symm.trans hm⟩
  mx_x := ⟨nofun, fun hx => (h.excl hl hx).elim⟩
  ab hc := (h.ab hc).elim (fun hm => nomatch ha.symm.trans hm) fun hx => (h.excl hl (xAborting_locked _ hx)).elim

theorem unlockX {x' : XPc} (hl : xLocked st.xpc = true) (ha : xAborting st.xpc = false) (hl' : xLocked x' = false) :
    CtlInv { st with mtx := none, xpc := x' } where
  wd := h.wd
  mx_m := ⟨nofun, fun hm => (h.excl hm hl).elim⟩
  mx_x := ⟨nofun, fun hx => nomatch hl'.symm.trans hx⟩
  ab hc := (h.ab hc).elim (fun hm => (h.excl (mAborting_locked _ hm) hl).elim) fun hx => nomatch ha.symm.trans hx

/-- the holder of db.Mutex takes one step of `abortWriting` -/
theorem abort {a a1 : APc} {c : Bool} {p' : MPc} {x' : XPc}
    (hc' : c = true → a1 = .wait ∨ a1 = .drain ∨ st.abortCh = true ∧ a = .check) (hg : isSGo p' = isSGo st.mpc)
    (hl : mLocked p' = mLocked st.mpc) (hx : xLocked x' = xLocked st.xpc)
    (hw : a1 = .wait ∨ a1 = .drain → mAborting p' = true ∨ xAborting x' = true)
    (hc : a = .check → mLocked st.mpc = true ∧ mAborting st.mpc = false ∨
      xLocked st.xpc = true ∧ xAborting st.xpc = false) :
    CtlInv { st with abortCh := c, mpc := p', xpc := x' } := by
  refine ⟨?_, ?_, ?_, fun hcc => ?_⟩
  · show _ = _ + if isSGo p' then 1 else 0
    rw [hg]; exact h.wd
  · show _ ↔ mLocked p' = true
    rw [hl]; exact h.mx_m
  · show _ ↔ xLocked x' = true
    rw [hx]; exact h.mx_x
  · rcases hc' hcc with h1 | h1 | ⟨h1, h2⟩
    · exact hw (.inl h1)
    · exact hw (.inr h1)
    · -- a token found at `check` would be the holder's own or that of the goroutine outside db.Mutex
      rcases hc h2, h.ab h1 with ⟨⟨hm, hma⟩ | ⟨hxl, hxa⟩, hm' | hx'⟩
      · exact nomatch hma.symm.trans hm'
      · exact (h.excl hm (xAborting_locked _ hx')).elim
      · exact (h.excl (mAborting_locked _ hm') hxl).elim
      · exact nomatch hxa.symm.trans hx'

end CtlInv

/-! Each goroutine's step function is walked once; at every transition the lemmas above say why each invariant
    survives it. -/

/-- the auxiliary goroutine touches only its own program counter, db.Mutex and the two token channels -/
theorem stepX_all {st st' : St} (hs : stepX st = some st') :
    (∃ xprog xpc mtx hurryCh abortCh,
      st' = { st with xprog := xprog, xpc := xpc, mtx := mtx, hurryCh := hurryCh, abortCh := abortCh }) ∧
    (CtlInv st → CtlInv st') := by
  obtain ⟨mprog, mpc, xprog, xpc, mtx, wip, dirty, abortCh, hurryCh, wdone, fclosed, ver, stable, s, f, dataCh,
    exitCh, cap, visible⟩ := st
  cases xpc <;> simp only [stepX] at hs
  case next =>
    cases xprog <;> try cases hs
    rename_i op _
    cases op <;> cases hs <;> exact ⟨⟨_, _, _, _, _, rfl⟩, fun h => h.upd h.wd rfl rfl fun hc => ⟨hc, id, nofun⟩⟩
  case aLock =>
    split at hs <;> cases hs
    exact ⟨⟨_, _, _, _, _, rfl⟩, fun h => h.lockX (Option.isNone_iff_eq_none.mp ‹_›) rfl⟩
  case aAbort a =>
    cases a <;> simp only at hs
    case done => cases hs; exact ⟨⟨_, _, _, _, _, rfl⟩, fun h => h.upd h.wd rfl rfl fun hc => ⟨hc, id, nofun⟩⟩
    all_goals
      simp only [Option.map_eq_some_iff] at hs
      obtain ⟨⟨st1, a1⟩, hab, rfl⟩ := hs
      obtain ⟨⟨c, rfl, hc⟩, -⟩ := abortStep_spec hab
      exact ⟨⟨_, _, _, _, _, rfl⟩, fun h => h.abort hc rfl rfl rfl
        (fun ha => .inr (by rcases ha with rfl | rfl <;> rfl)) fun ha => by cases ha <;> exact .inr ⟨rfl, rfl⟩⟩
  case aUnlock => cases hs; exact ⟨⟨_, _, _, _, _, rfl⟩, fun h => h.unlockX rfl rfl rfl⟩

theorem stepM_all {st st' : St} (hs : stepM st = some st') :
    (inv st → inv st') ∧ Frame st st' ∧ (CtlInv st → CtlInv st') := by
  obtain ⟨mprog, mpc, xprog, xpc, mtx, wip, dirty, abortCh, hurryCh, wdone, fclosed, ver, stable, s, f, dataCh,
    exitCh, cap, visible⟩ := st
  cases mpc <;> simp only [stepM] at hs
  case next =>
    cases mprog <;> cases hs
    rename_i op _
    cases op <;> exact ⟨fun h => h.move' nofun _ rfl nofun, Frame.ctl .., fun hc => hc.step hc.wd rfl nofun⟩
  case cLock | iLock | aLock =>
    split at hs <;> cases hs
    exact ⟨fun h => h.move' nofun _ rfl nofun, Frame.ctl ..,
      fun hc => hc.lockM (Option.isNone_iff_eq_none.mp ‹_›) hc.wd rfl⟩
  -- `cAbort` is in the critical part (`mCrit`), `aAbort` is not: of each `first | … | nofun` the first alternative serves
  -- the one, `nofun` the other
  case cAbort a | aAbort a =>
    cases a <;> simp only at hs
    case done =>
      cases hs
      exact ⟨fun h => h.move' nofun _ rfl (by first | exact fun _ => .inl rfl | exact nofun), Frame.ctl ..,
        fun hc => hc.step hc.wd rfl nofun⟩
    all_goals
      simp only [Option.map_eq_some_iff] at hs
      obtain ⟨⟨st1, a1⟩, hab, rfl⟩ := hs
      obtain ⟨⟨c, rfl, hc'⟩, hcr⟩ := abortStep_spec hab
      exact ⟨fun h => h.move' nofun _ rfl (by first | exact hcr | exact nofun), Frame.ctl ..,
        fun hc => hc.abort hc' rfl rfl rfl (fun ha => .inl (by rcases ha with rfl | rfl <;> rfl))
          fun ha => by cases ha <;> exact .inl ⟨rfl, rfl⟩⟩
  case cMut1 =>
    cases hs
    exact ⟨fun h => h.move _ _ rfl (fun _ => .inl rfl) fun _ => rfl,
      ⟨rfl, rfl, rfl, rfl, rfl, rfl, .inl rfl, .inr (.inl rfl)⟩, fun hc => hc.step hc.wd rfl nofun⟩
  case cMut2 =>
    cases hs
    exact ⟨fun h => h.move _ _ rfl nofun nofun, ⟨rfl, rfl, rfl, rfl, rfl, rfl, .inl rfl, .inr (.inr rfl)⟩,
      fun hc => hc.step hc.wd rfl nofun⟩
  case cUnlock | iUnlock | aUnlock =>
    cases hs; exact ⟨fun h => h.move' nofun _ rfl nofun, Frame.ctl .., fun hc => hc.unlockM rfl rfl hc.wd rfl⟩
  case iCheck | clCheck =>
    cases hs
    cases dirty <;> exact ⟨fun h => h.move' nofun _ rfl nofun, Frame.ctl .., fun hc => hc.step hc.wd rfl nofun⟩
  case clWait1 | clWait2 =>
    split at hs <;> cases hs
    exact ⟨fun h => h.move' nofun _ rfl nofun, Frame.ctl .., fun hc => hc.step hc.wd rfl nofun⟩
  case closed => cases hs
  case sChk r =>
    cases hs
    cases wip
    · cases r <;> exact ⟨fun h => h.chk, Frame.ctl .., fun hc => hc.step hc.wd rfl nofun⟩
    · cases r <;> exact ⟨fun h => h.move' nofun _ rfl nofun, Frame.ctl .., fun hc => hc.step hc.wd rfl nofun⟩
  case sSet r => cases hs; cases r <;> exact ⟨fun h => h.set, Frame.ctl .., fun hc => hc.step hc.wd rfl nofun⟩
  -- `writingDone` and the saver count go up together
  case sAdd r =>
    cases hs
    cases r <;> exact ⟨fun h => h.add, Frame.ctl .., fun hc => hc.step (congrArg (· + 1) hc.wd) rfl nofun⟩
  case sGo r =>
    cases s <;> cases hs
    cases r <;> exact ⟨fun h => h.go, ⟨rfl, rfl, rfl, rfl, rfl, rfl, .inr ⟨rfl, rfl⟩, .inl rfl⟩,
      fun hc => hc.step hc.wd rfl nofun⟩

theorem stepS_all {st st' : St} {l : Lab} (hs : stepS st l = some st') :
    st'.cap = st.cap ∧ (inv st → inv st' ∧ (FileInv st → FileInv st')) ∧ (CtlInv st → CtlInv st') := by
  unfold stepS at hs
  split at hs
  · cases hs
  · rename_i sv hsv
    have hnp : paired sv.pc = false → ∀ sv', st.s = some sv' → paired sv'.pc = false := by
      intro h1 sv' h'
      cases hsv.symm.trans h'
      exact h1
    have hI : inv st → SnapP.Inv (some sv) st.wip st.wdone st.mpc st.stable := fun hi => by
      rwa [inv, hsv] at hi
    have hwd : ∀ hc : CtlInv st, st.wdone = 1 + if isSGo st.mpc then 1 else 0 := fun hc => by
      have := hc.wd; rwa [hsv] at this
    split at hs
    · -- waitFile
      rename_i hpc
      split at hs <;> cases hs
      exact ⟨rfl, fun hi => ⟨(hI hi).saver (by rw [preClr, hpc]) fun _ => by rw [reading, hpc],
        fun h => h.unpaired (hnp (by rw [hpc]; rfl)) _ (by rintro _ ⟨⟩; rfl) _ _⟩,
        fun hc => hc.step (hwd hc) rfl id⟩
    · -- hdr, sBegin k
      rename_i k hpc
      split at hs
      · rename_i hfn
        cases hs
        refine ⟨rfl, fun hi => ⟨(hI hi).saver (by rw [preClr, hpc]) fun _ => by rw [reading, hpc],
          fun h => ?_⟩, fun hc => hc.step (hwd hc) rfl id⟩
        refine .of_filer rfl h.vis (by rw [h.fcl, Option.isNone_iff_eq_none.mp hfn]; rfl) (fun _ _ _ => rfl)
          (hi.stable_reading hsv (by rw [reading, hpc])) (fun _ hc => nomatch hc) nofun
          fun _ => ⟨fun _ hc => (nomatch hc), ?_, ?_, ?_, fun h3 => (nomatch h3 _ rfl)⟩
        · rintro _ ⟨⟩ _; exact ⟨rfl, rfl, by simp⟩
        iterate 2 · rintro _ ⟨⟩ h4; cases h4
      · cases hs
    · -- loop, sAbort
      rename_i hpc
      split at hs <;> cases hs
      exact ⟨rfl,
        fun hi => ⟨(hI hi).saver (by rw [preClr, hpc]) nofun, fun h => h.toFin hsv hpc true nofun rfl _⟩,
        fun hc => hc.upd (hwd hc) rfl rfl nofun⟩
    · -- loop, sHurry
      split at hs <;> cases hs
      exact ⟨rfl, fun hi => ⟨hi, fun h => h.congr rfl rfl rfl rfl rfl rfl fun _ _ _ => rfl⟩, fun hc => hc.step hc.wd rfl id⟩
    · -- loop, sStep
      rename_i hpc
      split at hs
      · rename_i hk
        cases hs
        exact ⟨rfl, fun hi => ⟨(hI hi).saver (by rw [preClr, hpc]) nofun,
          fun h => h.toFin hsv hpc false (fun _ => hk) rfl _⟩, fun hc => hc.step (hwd hc) rfl id⟩
      · split at hs
        · rename_i hk hlen
          cases hs
          refine ⟨rfl, fun hi => ⟨(hI hi).saver (by rw [preClr, hpc]) fun _ => by rw [reading, hpc],
            fun h => ?_⟩, fun hc => hc.step (hwd hc) rfl id⟩
          obtain ⟨fl0, hf0, hr0⟩ := h.pair sv hsv (by simp [hpc, paired])
          obtain ⟨he0, hv0, hc0⟩ := h.ch_loop fl0 sv hf0 hr0 hsv hpc
          refine .of_filer hf0 h.vis (h.fcl_some hf0) (fun _ _ _ => hr0) (h.fl_hst fl0 hf0) (h.fl_cont fl0 hf0)
            (h.fl_ren fl0 hf0) fun _ => ⟨List.forall_mem_append.mpr
              ⟨h.fl_data fl0 hf0 hr0, List.forall_mem_singleton.mpr hv0⟩, ?_, ?_, ?_, fun h3 => ?_⟩
          · rintro _ ⟨⟩ _
            refine ⟨he0, hv0, ?_⟩
            simp only [List.length_append, List.length_singleton]
            omega
          iterate 2 · rintro _ ⟨⟩ h4; rw [hpc] at h4; cases h4
          · have := h3 _ rfl; simp [paired, hpc] at this
        · cases hs
    · -- fin a, sStep
      rename_i a hpc
      cases hs
      refine ⟨rfl, fun hi => ⟨(hI hi).saver (by rw [preClr, hpc]) nofun, fun h => ?_⟩,
        fun hc => hc.step (hwd hc) rfl id⟩
      obtain ⟨fl0, hf0, hr0⟩ := h.pair sv hsv (by simp [hpc, paired])
      refine .of_filer hf0 h.vis (h.fcl_some hf0) (by rintro _ ⟨⟩ hp; cases hp) (h.fl_hst fl0 hf0) (h.fl_cont fl0 hf0)
        (h.fl_ren fl0 hf0) fun _ => ⟨h.fl_data fl0 hf0 hr0, ?_, ?_, ?_, fun _ => ?_⟩
      iterate 3 · rintro _ ⟨⟩ h4; cases h4
      · cases a with
        | true => exact .inl rfl
        | false => exact .inr ⟨rfl, (h.ch_finF fl0 sv hf0 hr0 hsv hpc).2⟩
    · -- clr
      rename_i hpc
      cases hs
      exact ⟨rfl, fun hi => ⟨(hI hi).clr hpc rfl,
        fun h => h.unpaired (hnp (by rw [hpc]; rfl)) _ (by rintro _ ⟨⟩; rfl) _ _⟩,
        fun hc => hc.step (hwd hc) rfl id⟩
    · -- done: the saver is gone, and `writingDone` goes down with it
      rename_i hpc
      cases hs
      exact ⟨rfl, fun hi => ⟨(hI hi).fin,
        fun h => h.unpaired (hnp (by rw [hpc]; rfl)) none nofun _ _⟩,
        fun hc => hc.step (by rw [hwd hc]; simp only [Option.isSome_none, Bool.false_eq_true, if_false]; omega)
          rfl id⟩
    · cases hs

/-- one step of any goroutine: the capacity stays, and so does each invariant (`FileInv` given `SnapP.inv`) -/
theorem step_all {st st' : St} {l : Lab} (hs : step st l = some st') :
    st'.cap = st.cap ∧ (inv st → inv st' ∧ (FileInv st → FileInv st')) ∧ (CtlInv st → CtlInv st') := by
  cases l with
  | m =>
    obtain ⟨hi, fr, hc⟩ := stepM_all hs
    exact ⟨fr.cap, fun h => ⟨hi h, fun hf => fileInv_frame st st' h hf fr⟩, hc⟩
  | x =>
    obtain ⟨⟨_, _, _, _, _, rfl⟩, hc⟩ := stepX_all hs
    exact ⟨rfl, fun h => ⟨h, fun hf => fileInv_frame st _ h hf (Frame.ctl ..)⟩, hc⟩
  | fStep | fExit =>
    obtain ⟨⟨_, _, _, _, _, rfl⟩, hf⟩ := stepF_all hs
    exact ⟨rfl, fun h => ⟨h, hf⟩, fun hc => hc.step hc.wd rfl id⟩
  | sStep | sBegin k | sAbort | sHurry => exact stepS_all hs

theorem run_all (st : St) (ls : List Lab) :
    (run st ls).cap = st.cap ∧ (inv st → inv (run st ls) ∧ (FileInv st → FileInv (run st ls))) ∧
      (CtlInv st → CtlInv (run st ls)) :=
  run_induct (P := fun s => s.cap = st.cap ∧ (inv st → inv s ∧ (FileInv st → FileInv s)) ∧ (CtlInv st → CtlInv s))
    (fun _ => rfl) (fun _ _ _ => rfl)
    (fun _ _ _ h hs => have k := step_all hs
      ⟨k.1.trans h.1, fun hi => ⟨(k.2.1 (h.2.1 hi).1).1, fun hf => (k.2.1 (h.2.1 hi).1).2 ((h.2.1 hi).2 hf)⟩,
        fun hc => k.2.2 (h.2.2 hc)⟩)
    st ls ⟨rfl, fun hi => ⟨hi, id⟩, id⟩

theorem reach (mp : List MOp) (xp : List XOp) (cap : Nat) (ls : List Lab) :
    inv (run (init mp xp cap) ls) ∧ FileInv (run (init mp xp cap) ls) ∧ CtlInv (run (init mp xp cap) ls) :=
  have k := run_all (init mp xp cap) ls
  have ki := k.2.1 (inv_init mp xp cap)
  ⟨ki.1, ki.2 (fileInv_init mp xp cap), k.2.2 (ctl_init mp xp cap)⟩

theorem cap_run (st : St) (ls : List Lab) : (run st ls).cap = st.cap := (run_all st ls).1

theorem hasStep_of (st : St) (l : Lab)
    (hl : l ∈ [Lab.m, .x, .sStep, .sBegin 1, .sAbort, .sHurry, .fStep, .fExit])
    (h : (step st l).isSome = true) : hasStep st = true := by
  unfold hasStep allLabs
  rw [List.any_eq_true]
  refine ⟨l, ?_, h⟩
  cases st.s <;> simpa using hl

/-- a file goroutine whose saver is not (any more) in the paired part of `save` can always move:
    it has data to write, or the exit token is there, or it is past its loop -/
theorem filer_progress (st : St) (h : FileInv st) (fl : Filer) (hf : st.f = some fl)
    (hnp : ∀ sv, st.s = some sv → paired sv.pc = false) : (stepF st .fStep).isSome = true := by
  unfold stepF
  rw [hf]
  simp only
  cases hpc : fl.pc with
  | run =>
    cases hd : st.dataCh with
    | cons c r => simp
    | nil =>
      rcases h.ch_unp fl hf hpc hnp with hu | ⟨hu, _⟩ <;> simp [hu]
  | rename | remove | done => simp

theorem saver_progress (st : St) (h : FileInv st) (sv : Saver) (hs : st.s = some sv) (hcap : 0 < st.cap) :
    (stepS st .sStep).isSome = true ∨ (stepS st (.sBegin 1)).isSome = true ∨ (stepF st .fStep).isSome = true := by
  unfold stepS; rw [hs]; simp only
  cases hpc : sv.pc with
  | waitFile =>
    by_cases hz : st.fclosed = 0
    · left; simp [hz]
    · right; right
      have hfc := h.fcl
      cases hf : st.f with
      | none => simp [hf] at hfc; exact absurd hfc hz
      | some fl =>
        exact filer_progress st h fl hf (by rw [hs]; rintro _ ⟨⟩; simp [hpc, paired])
  | hdr =>
    cases hf : st.f with
    | none => right; left; simp
    | some fl =>
      right; right
      exact filer_progress st h fl hf (by rw [hs]; rintro _ ⟨⟩; simp [hpc, paired])
  | loop =>
    by_cases hk : sv.k = 0
    · left; simp [hk]
    · by_cases hl : st.dataCh.length < st.cap
      · left; simp [hk, hl]
      · right; right
        obtain ⟨fl, hf, hr⟩ := h.pair sv hs (by simp [hpc, paired])
        unfold stepF; rw [hf]; simp only [hr]
        cases hd : st.dataCh with
        | nil => simp [hd] at hl; omega
        | cons c r => simp
  | fin a | clr | done => left; simp

def mDone (st : St) : Bool := st.mpc == .closed || (st.mpc == .next && st.mprog.isEmpty)

/-- an aborter that holds db.Mutex is never blocked once no saver is left (and nobody is about to start one) -/
theorem abort_enabled (st : St) (hc : CtlInv st) (hs : st.s = none) (hsg : isSGo st.mpc = false) (a : APc)
    (ha : a ≠ .done) (hnab : a = .send → st.abortCh = false) : (abortStep st a).isSome = true := by
  have hw : st.wdone = 0 := by simpa [hs, hsg] using hc.wd
  cases a with
  | check | drain => simp [abortStep]
  | send => simp [abortStep, hnab rfl]
  | wait => simp [abortStep, hw]
  | done => exact absurd rfl ha

theorem m_progress (st : St) (hc : CtlInv st) (hs : st.s = none) (hfc : st.fclosed = 0) :
    (stepM st).isSome = true ∨
      (mLocked st.mpc = false ∧ isSGo st.mpc = false) ∧ (mDone st = true ∨ st.mtx ≠ none) := by
  have hsendM : ∀ mk : APc → MPc, st.mpc = mk .send → mLocked (mk .send) = true → mAborting (mk .send) = false →
      st.abortCh = false := by
    intro mk hpc hl hna
    refine eq_false_of_ne_true fun hab => ?_
    rcases hc.ab hab with h1 | h1
    · rw [hpc, hna] at h1; cases h1
    · exact hc.excl (by rw [hpc]; exact hl) (xAborting_locked _ h1)
  unfold stepM
  cases hpc : st.mpc with
  | next =>
    cases hp : st.mprog with
    | nil => right; exact ⟨⟨rfl, rfl⟩, .inl (by simp [mDone, hpc, hp])⟩
    | cons op r => left; simp
  | cLock | iLock | aLock =>
    cases hm : st.mtx with
    | none => left; simp
    | some b => right; exact ⟨⟨rfl, rfl⟩, .inr nofun⟩
  | cAbort a | aAbort a =>
    left
    by_cases hd : a = .done
    · subst hd; simp
    · have := abort_enabled st hc hs (by simp [hpc, isSGo]) a hd
        (by rintro rfl; exact hsendM _ hpc rfl rfl)
      cases a <;> simp_all
  | sGo r => left; simp [hs]
  | clWait1 =>
    left
    have hw : st.wdone = 0 := by simpa [hs, hpc, isSGo] using hc.wd
    simp [hw]
  | clWait2 => left; simp [hfc]
  | closed => right; exact ⟨⟨rfl, rfl⟩, .inl (by simp [mDone, hpc])⟩
  | cMut1 | cMut2 | cUnlock | iCheck | sChk r | sSet r | sAdd r | iUnlock | aUnlock | clCheck =>
    left; simp

theorem x_progress (st : St) (hc : CtlInv st) (hs : st.s = none) (hml : mLocked st.mpc = false)
    (hsg : isSGo st.mpc = false) : (stepX st).isSome = true ∨ (st.xpc = .next ∧ st.xprog = []) := by
  unfold stepX
  cases hpc : st.xpc with
  | next =>
    cases hp : st.xprog with
    | nil => right; exact ⟨rfl, rfl⟩
    | cons op r => left; cases op <;> simp
  | aLock =>
    left
    cases hm : st.mtx with
    | none => simp
    | some b =>
      cases b with
      | false => have := hc.mx_x.mp hm; rw [hpc] at this; cases this
      | true => exact nomatch hml.symm.trans (hc.mx_m.mp hm)
  | aAbort a =>
    left
    by_cases hd : a = .done
    · subst hd; simp
    · have := abort_enabled st hc hs hsg a hd (by
        rintro rfl
        refine eq_false_of_ne_true fun hab => ?_
        rcases hc.ab hab with h1 | h1
        · exact nomatch hml.symm.trans (mAborting_locked _ h1)
        · simp [hpc, xAborting] at h1)
      cases a <;> simp_all
  | aUnlock => left; simp

theorem progress (st : St) (hf : FileInv st) (hc : CtlInv st) (hcap : 0 < st.cap) :
    final st = true ∨ hasStep st = true := by
  cases hs : st.s with
  | some sv =>
    right
    rcases saver_progress st hf sv hs hcap with h | h | h
    · exact hasStep_of st .sStep (by simp) h
    · exact hasStep_of st (.sBegin 1) (by simp) h
    · exact hasStep_of st .fStep (by simp) h
  | none =>
    cases hff : st.f with
    | some fl =>
      right
      exact hasStep_of st .fStep (by simp) (filer_progress st hf fl hff (by rw [hs]; nofun))
    | none =>
      have hfc : st.fclosed = 0 := by simpa [hff] using hf.fcl
      rcases m_progress st hc hs hfc with h | ⟨⟨hml, hsg⟩, h⟩
      · right; exact hasStep_of st .m (by simp) h
      rcases x_progress st hc hs hml hsg with hx | ⟨hx1, hx2⟩
      · right; exact hasStep_of st .x (by simp) hx
      rcases h with h | h2
      · -- both goroutines have finished
        left
        simp only [mDone] at h
        simp [final, h, hx1, hx2, hs, hff]
      · -- the main goroutine waits for db.Mutex, so the auxiliary goroutine holds it: it is not at rest
        cases hm : st.mtx with
        | none => exact absurd hm h2
        | some b =>
          cases b with
          | false => have hxl := hc.mx_x.mp hm; rw [hx1] at hxl; cases hxl
          | true => exact nomatch hml.symm.trans (hc.mx_m.mp hm)

end GocoinV.Proofs.C11.SnapL

namespace GocoinV.Proofs.C11.SnapC
open GocoinV.Conc GocoinV.Conc.Snap GocoinV.Proofs.C11.SnapP

theorem stepX_mpc (st st' : St) (h : stepX st = some st') : st'.mpc = st.mpc := by
  obtain ⟨⟨_, _, _, _, _, rfl⟩, -⟩ := SnapL.stepX_all h
  rfl

end GocoinV.Proofs.C11.SnapC

namespace GocoinV.Proofs.C11Thread
open GocoinV.Conc GocoinV.Conc.Thread

/-- a foreign goroutine that never calls Save is invisible: the run is the run of `Snap` on the protocol's own labels -/
theorem run_no_foreign (st : St) (ls : List Lab) (h0 : st.fsaves = 0) (hp : st.fpc = .next) :
    (run st ls).base = Snap.run st.base (baseLabs ls) ∧ (run st ls).fsaves = 0 ∧ (run st ls).fpc = .next := by
  induction ls generalizing st with
  | nil => exact ⟨rfl, h0, hp⟩
  | cons l r ih =>
    cases l with
    | foreign =>
      have e : Thread.stepF st = none := by unfold Thread.stepF; rw [hp]; simp [h0]
      simp only [run, step, e, Option.getD_none, baseLabs]
      exact ih st h0 hp
    | base b =>
      simp only [run, step, baseLabs, Snap.run]
      cases hb : Snap.step st.base b with
      | none => simpa [hb] using ih st h0 hp
      | some nb =>
        simp only [Option.map_some, Option.getD_some]
        exact ih { st with base := nb } h0 hp

end GocoinV.Proofs.C11Thread
