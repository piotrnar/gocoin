/-
  Proofs.C09Block — block-level decoding. `decodeBlock_eq` opens `NewBlock + BuildTxList` once (it stops before the
  transactions, or builds what `decodeTxs` parsed behind the count); from it: the transactions built are the ones
  serialised one after the other behind the count and `Txs[i].Hash` is the txid of the i-th, the build succeeds
  exactly when a non-zero count was read and that many were built, `BlockWeight` is the BIP141 weight, and
  `MerkleRootMatch` is "built, and CalcMerkle gives the header's root unmutated" (with C05's `calcMerkle_spec`).
  Core tactics only.
-/
import GocoinV.Model.WireBlock
import GocoinV.Proofs.C09
import GocoinV.Proofs.C05Merkle
namespace GocoinV.Wire
open GocoinV GocoinV.CompactSize

theorem mkBlockTxs_hash (H : Bytes → Bytes) : ∀ (l : List (Decoded × Bytes)) (f : Bool), (∀ p ∈ l, Good p) →
    (mkBlockTxs H f l).map (·.ids.hash) = l.map (fun p => txid H p.1.tx) := by
  intro l
  induction l with
  | nil => intro f _; simp [mkBlockTxs]
  | cons p l ih =>
    intro f g
    obtain ⟨d, raw⟩ := p
    have ⟨g1, _, _⟩ := g (d, raw) (by simp)
    simp only [mkBlockTxs, List.map_cons, ih false (fun q hq => g q (by simp [hq])), List.cons.injEq, and_true]
    unfold blockTxIds txid
    cases hw : d.tx.witness with
    | some w => simp
    | none => simp [show raw = _ from g1, encodeTx, hw]

theorem mkBlockTxs_wtxid (H : Bytes → Bytes) : ∀ (l : List (Decoded × Bytes)), (∀ p ∈ l, Good p) →
    (mkBlockTxs H false l).map (·.ids.wtxid) = l.map (fun p => wtxid H p.1.tx) := by
  intro l
  induction l with
  | nil => intro _; simp [mkBlockTxs]
  | cons p l ih =>
    intro g
    obtain ⟨d, raw⟩ := p
    have ⟨g1, _, _⟩ := g (d, raw) (by simp)
    simp only [mkBlockTxs, List.map_cons, ih (fun q hq => g q (by simp [hq])), List.cons.injEq, and_true]
    unfold blockTxIds wtxid
    simp only at g1
    cases d.tx.witness <;> simp [g1]

theorem mkBlockTxs_length (H : Bytes → Bytes) (l : List (Decoded × Bytes)) (f : Bool) :
    (mkBlockTxs H f l).length = l.length := by
  simpa using congrArg List.length (mkBlockTxs_proj H l f)

/-- any function of (tx, raw, size, noWitSize) mapped over the built transactions, read off the parsed list -/
theorem mkBlockTxs_map {β : Type} (H : Bytes → Bytes) (l : List (Decoded × Bytes)) (f : Bool) (g : Tx × Bytes × Nat × Nat → β) :
    (mkBlockTxs H f l).map (fun t => g (t.tx, t.raw, t.ids.size, t.ids.noWitSize)) =
      l.map (fun p => g (p.1.tx, p.2, p.2.length % 2^32, p.1.noWitSize)) := by
  simpa [List.map_map, Function.comp_def] using congrArg (List.map g) (mkBlockTxs_proj H l f)

/-- `NewBlock + BuildTxList` opened once: it stops before the transactions (short block, no count, count 0), or builds
    what `decodeTxs` parsed behind the count -/
theorem decodeBlock_eq (H : Bytes → Bytes) (raw : Bytes) :
    (∃ e, decodeBlock H raw = { err := some e, txCount := 0, txs := [], weight := 0 }) ∨
    ∃ cnt rest l ok, vlenWire (raw.drop 80) = some (cnt, rest) ∧ cnt ≠ 0 ∧ decodeTxs cnt rest = (l, ok) ∧
      decodeBlock H raw =
        { err := if ok then none else some .txFailed, txCount := cnt, txs := mkBlockTxs H true l,
          weight := (4 * (80 + vlenSize cnt) +
            ((mkBlockTxs H true l).map (fun t => (3 * t.ids.noWitSize + t.ids.size) % 2^32)).sum) % 2^64 } := by
  unfold decodeBlock
  by_cases h80 : raw.length < 80
  · exact .inl ⟨.tooShort, by simp only [h80, ↓reduceIte]⟩
  simp only [h80, ↓reduceIte]
  cases hv : vlenWire (raw.drop 80) with
  | none => exact .inl ⟨_, rfl⟩
  | some pr =>
    obtain ⟨cnt, rest⟩ := pr
    by_cases hc0 : cnt = 0
    · exact .inl ⟨.badCount, by simp only [hc0, ↓reduceIte]⟩
    · exact .inr ⟨cnt, rest, _, _, rfl, hc0, rfl, by simp only [hc0, ↓reduceIte]⟩

/-- everything known about the transactions `NewBlock + BuildTxList` built from a block below 4 GiB -/
theorem decodeBlock_txs (H : Bytes → Bytes) (raw : Bytes) (hl : raw.length < 2^32) :
    ∃ l : List (Decoded × Bytes), (∀ p ∈ l, Good p) ∧
      (decodeBlock H raw).txs = mkBlockTxs H true l ∧
      ((decodeBlock H raw).err = none → l.length = (decodeBlock H raw).txCount ∧ (decodeBlock H raw).txCount ≠ 0 ∧
        ∃ rest, raw.drop 80 = putULe (decodeBlock H raw).txCount ++ ((l.map (·.2)).flatten ++ rest)) := by
  rcases decodeBlock_eq H raw with ⟨e, he⟩ | ⟨cnt, rest, l, ok, hv, hc0, hd, he⟩ <;> rw [he]
  · exact ⟨[], nofun, rfl, nofun⟩
  · obtain ⟨hr, -, -⟩ := vlenWire_spec hv
    have hrl : rest.length ≤ raw.length := Nat.le_trans (vlenWire_rest hv).2.2.2 (by simp)
    obtain ⟨g, -, k⟩ := decodeTxs_spec cnt rest (by omega) l ok hd
    obtain ⟨-, ⟨rest', hcat⟩, -⟩ := decodeTxs_all cnt rest l ok hd
    refine ⟨l, g, rfl, fun hok => ⟨k ?_, hc0, rest', by rw [hr, hcat]⟩⟩
    cases ok <;> first | rfl | cases hok

/-- BuildTxList succeeded ⇔ a non-zero count was read and that many transactions were built -/
theorem decodeBlock_err_none_iff (H : Bytes → Bytes) (raw : Bytes) :
    (decodeBlock H raw).err = none ↔
      (decodeBlock H raw).txCount ≠ 0 ∧ (decodeBlock H raw).txs.length = (decodeBlock H raw).txCount := by
  rcases decodeBlock_eq H raw with ⟨e, he⟩ | ⟨cnt, rest, l, ok, hv, hc0, hd, he⟩ <;> rw [he]
  · simp
  · have k := (decodeTxs_all cnt rest l ok hd).2.2
    simp only [mkBlockTxs_length]
    cases ok
    · simp only [Bool.false_eq_true, ↓reduceIte] at k ⊢
      exact ⟨nofun, fun h => absurd h.2 (by omega)⟩
    · simp only [↓reduceIte] at k ⊢
      exact ⟨fun _ => ⟨hc0, k⟩, fun _ => trivial⟩

/-- when the build succeeds on a block below 1 GiB, `Block.BlockWeight` is the BIP141 weight of header, count and the
    transactions built -/
theorem decodeBlock_weight (H : Bytes → Bytes) (raw : Bytes) (hl : raw.length < 2^30)
    (hok : (decodeBlock H raw).err = none) :
    (decodeBlock H raw).weight = blockWeightSpec ((decodeBlock H raw).txs.map (·.tx)) := by
  rcases decodeBlock_eq H raw with ⟨e, he⟩ | ⟨cnt, rest, l, ok, hv, hc0, hd, he⟩ <;> rw [he] at hok ⊢
  · cases hok
  have hrl : rest.length ≤ raw.length := Nat.le_trans (vlenWire_rest hv).2.2.2 (by simp)
  obtain ⟨g, sl, k⟩ := decodeTxs_spec cnt rest (by omega) l ok hd
  have k' : l.length = cnt := k (by cases ok <;> first | rfl | cases hok)
  have e1 : (mkBlockTxs H true l).map (fun t => (3 * t.ids.noWitSize + t.ids.size) % 2^32) =
      l.map (fun p => (3 * p.1.noWitSize + p.2.length % 2^32) % 2^32) :=
    mkBlockTxs_map H l true fun q => (3 * q.2.2.2 + q.2.2.1) % 2^32
  have e2 : ∀ f : Tx → Nat, ((mkBlockTxs H true l).map (·.tx)).map f = l.map (fun p => f p.1.tx) := fun f => by
    rw [List.map_map]; exact mkBlockTxs_map H l true fun q => f q.1
  have ws := weight_sum raw.length hl l g (by omega)
  have ⟨s1, s2⟩ := sum_le_of_weight l g
  have hvs : vlenSize cnt ≤ 9 := by
    unfold vlenSize; repeat' split
    all_goals omega
  simp only [blockWeightSpec, List.length_map, mkBlockTxs_length, k', e1, e2, ws]
  rw [Nat.mod_eq_of_lt (by omega)]
  omega

/-- `MerkleRootMatch` after `NewBlock + BuildTxList`: the build succeeded and CalcMerkle over the built hashes returns the
    header's root with the `mutated` flag clear -/
theorem merkleRootMatch_iff (H : Bytes → Bytes) (raw : Bytes) :
    merkleRootMatch H raw = true ↔ (decodeBlock H raw).err = none ∧
      BlockCheck.calcMerkle H ((decodeBlock H raw).txs.map (·.ids.hash)) = some (headerMerkleRoot raw, false) := by
  have herr := decodeBlock_err_none_iff H raw
  unfold merkleRootMatch getMerkle
  by_cases hc : (decodeBlock H raw).txCount = 0 ∨ (decodeBlock H raw).txs.length ≠ (decodeBlock H raw).txCount
  · simp only [hc, ↓reduceIte, Bool.false_eq_true, false_iff]
    rintro ⟨he, -⟩
    exact hc.elim (herr.1 he).1 fun h => h (herr.1 he).2
  · have he : (decodeBlock H raw).err = none :=
      herr.2 ⟨fun h => hc (.inl h), Decidable.byContradiction fun h => hc (.inr h)⟩
    simp only [hc, ↓reduceIte, he, true_and]
    cases BlockCheck.calcMerkle H _ with
    | none => simp
    | some p => obtain ⟨root, mutated⟩ := p; cases mutated <;> simp

/-- CalcMerkle (C05's `calcMerkle_spec`) returning root `r` with the flag clear: `r` is the root of the pairwise-hash tree and no
    level has two equal nodes hashed together -/
theorem calcMerkle_clean_iff (H : Bytes → Bytes) (ids : List Bytes) (hne : ids ≠ []) (r : Bytes) :
    BlockCheck.calcMerkle H ids = some (r, false) ↔
      (Spec.Merkle.root H ids.length ids).head? = some r ∧
      ¬ ∃ lv ∈ Spec.Merkle.levels H ids.length ids, ∃ j, 2 * j + 1 < lv.length ∧ lv[2 * j]? = lv[2 * j + 1]? := by
  have hs := Proofs.C05.calcMerkle_isSome H ids hne
  cases hm : BlockCheck.calcMerkle H ids with
  | none => simp [hm] at hs
  | some p =>
    obtain ⟨root, mutated⟩ := p
    obtain ⟨s1, s2⟩ := Proofs.C05.calcMerkle_spec H ids root mutated hm
    rw [s2, ← s1]
    cases mutated <;> simp

end GocoinV.Wire
