/-
  Proofs.C11Fan — the counting invariant of the commitTxs fan-out (Model/Conc.lean, namespace Fan):
  with the clone, under EVERY schedule, ver_err_cnt + (failing workers still pending) equals the number of
  failing inputs among the transactions the main loop has passed, so the verdict returned is
  `Fan.reference` — a function of the block only.
-/
import GocoinV.Model.Conc
import GocoinV.Proofs.C11
namespace GocoinV.Proofs.C11.FanC
open GocoinV.Conc GocoinV.Conc.Fan

def mem0 (txs : List Tx) : Mem := txs.map (fun t => List.replicate t.nout true)

/-- the worker for input `p = (tx, input)` reports a failure when run on the memory `m` -/
def isBad (f : Verify) (m : Mem) (p : Nat × Nat) : Bool := !f p.1 p.2 (m[p.1]?.getD [])

def pendBad (f : Verify) (m : Mem) (ps : List (Nat × Nat)) : Nat := (ps.filter (isBad f m)).length

def txBad (f : Verify) (m : Mem) (txs : List Tx) (t : Nat) : Nat :=
  ((List.range ((txs[t]?.map (·.nin)).getD 0)).filter (fun j => !f t j (m[t]?.getD []))).length

theorem failsOf_eq (f : Verify) (m : Mem) (txs : List Tx) (n : Nat) :
    failsOf f m txs n = ((List.range n).map (txBad f m txs)).sum := rfl

theorem failsOf_succ (f : Verify) (m : Mem) (txs : List Tx) (n : Nat) :
    failsOf f m txs (n + 1) = failsOf f m txs n + txBad f m txs n := by
  simp [failsOf_eq, List.range_succ, List.sum_append]

theorem pendBad_append (f : Verify) (m : Mem) (a b : List (Nat × Nat)) :
    pendBad f m (a ++ b) = pendBad f m a + pendBad f m b := by
  simp [pendBad, List.filter_append]

theorem pendBad_spawn (f : Verify) (m : Mem) (t n : Nat) :
    pendBad f m ((List.range n).map (fun i => (t, i))) =
      ((List.range n).filter (fun j => !f t j (m[t]?.getD []))).length := by
  simp only [pendBad, List.filter_map, List.length_map]
  rfl

theorem pendBad_eraseIdx (f : Verify) (m : Mem) (ps : List (Nat × Nat)) (i : Nat) (p : Nat × Nat)
    (h : ps[i]? = some p) :
    pendBad f m (ps.eraseIdx i) + (if isBad f m p then 1 else 0) = pendBad f m ps := by
  obtain ⟨hi, rfl⟩ := List.getElem?_eq_some_iff.mp h
  have e : ps = ps.take i ++ ps[i] :: ps.drop (i + 1) := by rw [← List.drop_eq_getElem_cons hi, List.take_append_drop]
  conv => rhs; rw [e]
  rw [List.eraseIdx_eq_take_drop_succ, pendBad_append, pendBad_append]
  simp only [pendBad, List.filter_cons]
  split <;> simp <;> omega

theorem firstEarly_some (txs : List Tx) (e : Nat) (tx : Tx) (h : txs[e]? = some tx) (he : tx.early = true)
    (hn : ∀ t, t < e → ∀ tx, txs[t]? = some tx → tx.early = false) : firstEarly txs = some e := by
  unfold firstEarly
  rw [List.findIdx?_eq_some_iff_getElem]
  obtain ⟨hlt, rfl⟩ := List.getElem?_eq_some_iff.mp h
  refine ⟨hlt, he, ?_⟩
  intro j hj
  have := hn j hj txs[j] (List.getElem?_eq_getElem (by omega))
  simp [this]

theorem firstEarly_none (txs : List Tx)
    (hn : ∀ t, t < txs.length → ∀ tx, txs[t]? = some tx → tx.early = false) : firstEarly txs = none := by
  unfold firstEarly
  rw [List.findIdx?_eq_none_iff]
  intro x hx
  obtain ⟨i, hi, rfl⟩ := List.getElem_of_mem hx
  exact hn i hi _ (List.getElem?_eq_getElem hi)

structure Inv (f : Verify) (txs : List Tx) (st : St) : Prop where
  txs_eq : st.txs = txs
  cloned : st.cloned = true
  mem_eq : st.mem = mem0 txs
  next_le : st.next ≤ txs.length
  noEarly : ∀ t, t < st.next → ∀ tx, txs[t]? = some tx → tx.early = false
  count : st.errCnt + pendBad f (mem0 txs) st.pending = failsOf f (mem0 txs) txs st.next
  mainErr : ∀ e, st.mainErr = some e → e = st.next ∧ ∃ tx, txs[e]? = some tx ∧ tx.early = true
  verdict : ∀ v, st.verdict = some v → v = reference f txs

theorem inv_init (f : Verify) (txs : List Tx) : Inv f txs (init txs true) where
  txs_eq := rfl
  cloned := rfl
  mem_eq := rfl
  next_le := Nat.zero_le _
  noEarly := nofun
  count := by simp [init, pendBad, failsOf]
  mainErr := nofun
  verdict := nofun

theorem reference_early (f : Verify) (txs : List Tx) (e : Nat) (h : firstEarly txs = some e) :
    reference f txs = (some e, failsOf f (mem0 txs) txs e) := by
  simp [reference, h, mem0]

theorem reference_none (f : Verify) (txs : List Tx) (h : firstEarly txs = none) :
    reference f txs = (none, failsOf f (mem0 txs) txs txs.length) := by
  simp [reference, h, mem0]

theorem inv_main (f : Verify) (txs : List Tx) (st st' : St) (h : Inv f txs st)
    (hs : step f st .main = some st') : Inv f txs st' := by
  have ⟨h1, h2, h3, h4, h5, h6, h7, h8⟩ := h
  -- once no worker is pending, ver_err_cnt is the number of failing inputs passed
  have hcnt : st.pending.isEmpty = true → st.errCnt = failsOf f (mem0 txs) txs st.next := fun hp => by
    rwa [List.isEmpty_iff.mp hp] at h6
  simp only [step] at hs
  split at hs
  · cases hs
  · rename_i hv
    split at hs
    · -- deferred wg.Wait on the early-return path
      rename_i e he
      split at hs
      · rename_i hp
        cases hs
        obtain ⟨hen, tx, htx, hearly⟩ := h7 e he
        refine { h with verdict := ?_ }
        intro v hvv
        cases hvv
        have hfe := firstEarly_some txs e tx htx hearly (by rw [hen]; exact h5)
        rw [reference_early f txs e hfe, hen, hcnt hp]
      · cases hs
    · rename_i hme
      split at hs
      · -- next transaction
        rename_i tx htx
        rw [h1] at htx
        have hlt : st.next < txs.length := (List.getElem?_eq_some_iff.mp htx).1
        simp only [h2] at hs
        split at hs
        · rename_i hearly
          cases hs
          refine { h with cloned := rfl, mainErr := ?_ }
          intro e he
          cases he
          exact ⟨rfl, tx, htx, hearly⟩
        · rename_i hearly
          cases hs
          refine ⟨h1, rfl, h3, hlt, ?_, ?_, ?_, h8⟩
          · intro t ht tx' htx'
            rcases Nat.lt_succ_iff_lt_or_eq.mp ht with hl | rfl
            · exact h5 t hl tx' htx'
            · rw [htx] at htx'
              cases htx'
              simpa using hearly
          · rw [pendBad_append, pendBad_spawn, failsOf_succ, ← h6]
            simp only [txBad, htx, Option.map_some, Option.getD_some]
            omega
          · intro e he
            rw [hme] at he; cases he
      · -- after the loop
        rename_i htx
        rw [h1] at htx
        split at hs
        · rename_i hp
          cases hs
          refine { h with verdict := ?_ }
          intro v hvv
          cases hvv
          have hnx : st.next = txs.length := Nat.le_antisymm h4 (List.getElem?_eq_none_iff.mp htx)
          have hfe := firstEarly_none txs (by rw [← hnx]; exact h5)
          rw [reference_none f txs hfe, ← hnx, hcnt hp]
        · cases hs

theorem inv_worker (f : Verify) (txs : List Tx) (st st' : St) (i : Nat) (h : Inv f txs st)
    (hs : step f st (.worker i) = some st') : Inv f txs st' := by
  simp only [step] at hs
  split at hs
  · cases hs
  · rename_i t j hp
    cases hs
    refine { h with count := ?_ }
    have := pendBad_eraseIdx f (mem0 txs) st.pending i (t, j) hp
    rw [← h.count, ← this]
    simp only [isBad, h.mem_eq]
    by_cases hf : f t j ((mem0 txs)[t]?.getD []) = true <;> simp [hf] <;> omega

theorem inv_step (f : Verify) (txs : List Tx) (st st' : St) (l : Lab) (h : Inv f txs st)
    (hs : step f st l = some st') : Inv f txs st' := by
  cases l with
  | main => exact inv_main f txs st st' h hs
  | worker i => exact inv_worker f txs st st' i h hs

theorem inv_run (f : Verify) (txs : List Tx) (st : St) (ls : List Lab) (h : Inv f txs st) :
    Inv f txs (run f st ls) :=
  run_induct (fun _ => rfl) (fun _ _ _ => rfl) (inv_step f txs) st ls h

end GocoinV.Proofs.C11.FanC
