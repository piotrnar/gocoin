/-
  Proofs.C17Addr — GetAllUnspent on ANY address value (Model.BalancesAddr): the sub-index and payload its branches pick are
  those of the address's OutScript, and every standard address is picked up.
-/
import GocoinV.Proofs.C17
import GocoinV.Model.BalancesAddr
namespace GocoinV.Proofs.C17
open GocoinV GocoinV.Model.Balances GocoinV.Spec.Balances

/-- whenever GetAllUnspent's branches pick a sub-index and payload, the address's OutScript is exactly the standard
    script of that sub-index with that payload, and the payload has the sub-index's length -/
theorem addrKey_spec (tn : Bool) (q : QAddr) (hw : q.WF) (a : Addr) (h : addrKey tn q = some a) :
    q.outScript = some a.script ∧ a.idx < 5 ∧ a.payload.length = (if a.idx < 3 then 20 else 32) := by
  cases q with
  | segwit v p =>
    simp only [addrKey] at h
    split at h
    · rename_i hc
      injection h with h; subst h
      simp [QAddr.outScript, Addr.script, hc.1, hc.2]
    split at h
    · cases h
    rename_i h0
    have hv : v = 0 := by omega
    split at h
    · rename_i hl
      injection h with h; subst h
      simp [QAddr.outScript, Addr.script, hv, hl]
    split at h
    · rename_i hl
      injection h with h; subst h
      simp [QAddr.outScript, Addr.script, hv, hl]
    · cases h
  | base58 v hh =>
    have hl : hh.length = 20 := hw
    simp only [addrKey] at h
    split at h
    · rename_i hc
      injection h with h; subst h
      cases tn <;> simp [verPubkey] at hc <;> simp [QAddr.outScript, Addr.script, hc, hl]
    split at h
    · rename_i hc
      injection h with h; subst h
      cases tn <;> simp [verScript] at hc <;> simp [QAddr.outScript, Addr.script, hc, hl]
    · cases h

theorem getAllQ_some {H : Bytes → Nat} {tn : Bool} {q : QAddr} {a : Addr} (h : addrKey tn q = some a) (s : State) :
    getAllUnspentQ H tn s q = getAllUnspent H s a ∧ totalQ H tn s q = total H s a := by
  simp [getAllUnspentQ, totalQ, h]

theorem getAllQ_none {H : Bytes → Nat} {tn : Bool} {q : QAddr} (h : addrKey tn q = none) (s : State) :
    getAllUnspentQ H tn s q = [] ∧ totalQ H tn s q = 0 := by
  simp [getAllUnspentQ, totalQ, h]

/-- every standard address is accepted by GetAllUnspent's branches, with its own sub-index and payload -/
theorem addrKey_toQ (tn : Bool) (a : Addr) (hv : a.idx < 5) (hl : a.payload.length = if a.idx < 3 then 20 else 32) :
    addrKey tn (a.toQ tn) = some a ∧ (a.toQ tn).WF := by
  obtain ⟨idx, p⟩ := a
  simp only at hv hl
  have : idx = 0 ∨ idx = 1 ∨ idx = 2 ∨ idx = 3 ∨ idx = 4 := by omega
  rcases this with h | h | h | h | h <;> subst h <;> simp at hl <;>
    cases tn <;> simp [Addr.toQ, addrKey, QAddr.WF, verPubkey, verScript, hl]

end GocoinV.Proofs.C17
