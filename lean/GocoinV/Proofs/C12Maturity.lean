/-
  Proofs.C12Maturity — what removeUnspendableCoinbaseSpends (a `fix:` commit of the repository; model: `expire` over `unspendableKeys`)
  achieves: in the state BlockUndone leaves for the block of height `h`, no pooled record has a confirmed (unflagged)
  input that a block of height `h` cannot spend (missing output, or coinbase output immature at `h`).  Core Lean only.
-/
import GocoinV.Proofs.C12Block
namespace GocoinV.Mempool

variable {K : Keys} {W : Tx → Prop} {rank : TxId → Nat} {u0 : UT} {ν : OutPoint → Nat}

/-- expiry only removes records, and removes every listed one — from a state with the pool invariant `PoolOK` (when
    alive), under `Univ2`, when the process stays alive -/
theorem expire_post {A : OutPoint → Prop} {Cf : TxId → Prop} (U : Univ2 K W rank u0 ν) :
    ∀ (old : List Nat) (s : State),
    (s.panicked = false → PoolOK K W ν A Cf s) → (expire K s old).panicked = false →
    (∀ b x, (expire K s old).pool.get? b = some x → s.pool.get? b = some x) ∧
    (∀ b ∈ old, (expire K s old).pool.get? b = none) := by
  intro old
  induction old with
  | nil => intro s _ _; exact ⟨fun _ _ h => h, fun _ hb => by cases hb⟩
  | cons b r ih =>
    intro s h hp
    obtain ⟨s1, hs1⟩ : ∃ s1, (match s.pool.get? b with
        | some t => delWithChildren K 0 (s.pool.length + 1) s t
        | none => s) = s1 := ⟨_, rfl⟩
    have hexp : expire K s (b :: r) = expire K s1 r := hs1 ▸ rfl
    rw [hexp] at hp ⊢
    have hp1 : s1.panicked = false := alive_of_env (expire_env K s1 r) hp
    have first : (s1.panicked = false → PoolOK K W ν A Cf s1) ∧
        (∀ b' x, s1.pool.get? b' = some x → s.pool.get? b' = some x) ∧ s1.pool.get? b = none := by
      cases hb : s.pool.get? b with
      | none =>
        rw [hb] at hs1
        subst hs1
        exact ⟨h, fun _ _ hx => hx, hb⟩
      | some t =>
        rw [hb] at hs1
        subst hs1
        have g := h (alive_of_env (delWithChildren_env K 0 _ s t) hp1)
        obtain rfl := g.w.base.str.key _ _ hb
        obtain ⟨d1, d2⟩ := delWC_ok U.base 0 _ s t g hb hp1
        exact ⟨fun _ => d1.ok, d1.subP, d2⟩
    obtain ⟨f1, f2, f3⟩ := first
    obtain ⟨i1, i2⟩ := ih s1 f1 hp
    refine ⟨fun b' x hx => f2 b' x (i1 b' x hx), List.forall_mem_cons.mpr ⟨?_, i2⟩⟩
    refine Option.eq_none_iff_forall_ne_some.mpr fun x hx => ?_
    rw [i1 b x hx] at f3
    cases f3

theorem sweep_clean (U : Univ2 K W rank u0 ν) (s : State) (h : Nat) (g : PGoodP K W u0 ν s)
    (hp : (expire K s (unspendableKeys s h)).panicked = false) :
    ∀ b t, (expire K s (unspendableKeys s h)).pool.get? b = some t →
      unspendableAt (expire K s (unspendableKeys s h)) h t = false := by
  obtain ⟨p1, p2⟩ := expire_post U (unspendableKeys s h) s g hp
  intro b t hb
  unfold unspendableAt
  rw [(expire_env K s _).utxo]
  refine eq_false_of_ne_true fun hu => ?_
  have hk : b ∈ unspendableKeys s h :=
    List.mem_map.mpr ⟨(b, t), List.mem_filter.mpr ⟨AList.mem_of_get? _ _ _ (p1 b t hb), hu⟩, rfl⟩
  rw [p2 b hk] at hb
  cases hb

/-- BlockUndone for the block of height `uh` (model `blockUndoneAt`), from a state with the carried invariants whose
    chain side was disconnected soundly (`uc : UndoCommitTxs`), under `Univ2`: if the
    process is alive afterwards, no pooled record has a confirmed input that a block of height `uh` cannot spend -/
theorem blockUndoneAt_clean (U : Univ2 K W rank u0 ν) (mf : Nat) (s s' : State) (uh : Nat) (txs : List Tx)
    (hd : disconnectUtxo s = some (s', txs))
    (hc : ChainOK u0 ν s) (g : PGoodP K W u0 ν s) (hI : InvR K W s)
    (uc : UndoCommitTxs u0 ν s s' txs)
    (hp : (blockUndoneAt K mf s' uh txs).panicked = false) :
    ∀ b t, (blockUndoneAt K mf s' uh txs).pool.get? b = some t →
      unspendableAt (blockUndoneAt K mf s' uh txs) uh t = false :=
  sweep_clean U _ uh (blockUndone_good U mf s s' txs hd hc g hI uc) hp

end GocoinV.Mempool
