/-
  Proofs.C02DelSig — signature removal: gocoin's `delSig` (`SigHash.delSig` of Model/SigHash.lean, the code after fix
  acaf95d6: canonical push PUSHDATA1/2/4) equals the specification's FindAndDelete on every script
  that decodes into operations, for every signature length.
-/
import GocoinV.Proofs.C02Legacy
namespace GocoinV.SigHash
open GocoinV.Spec.SigHash (nextOp parseOps)

theorem sigPush_eq_pushOf (sig : Bytes) : sigPushPrefix sig.length ++ sig = Spec.SigHash.pushOf sig := by
  unfold sigPushPrefix Spec.SigHash.pushOf
  split
  · rfl
  · split
    · rfl
    · split <;> rfl

theorem delSigAux_eq (pat : Bytes) : ∀ (fuel : Nat) (s : Bytes) (ops : List Bytes), parseOps fuel s = some ops →
    ∀ fuel', s.length ≤ fuel' →
      delSigAux pat fuel' s = ((ops.filter (· ≠ pat)).flatten, (ops.filter (· = pat)).length) := by
  intro fuel
  induction fuel with
  | zero =>
    intro s ops h fuel' _
    cases s with
    | nil =>
      simp only [parseOps, Option.some.injEq] at h; subst h
      cases fuel' <;> simp [delSigAux]
    | cons b t => simp [parseOps] at h
  | succ f ih =>
    intro s ops h fuel' hf
    cases s with
    | nil =>
      simp only [parseOps, Option.some.injEq] at h; subst h
      cases fuel' <;> simp [delSigAux]
    | cons b t =>
      obtain ⟨op, rest, ops', hn, hp, rfl⟩ := Proofs.C02D.parseOps_cons h
      obtain ⟨opc, n, hg, hop, hrest, hn1, _⟩ := getOpcode_of_nextOp (b :: t) op rest hn
      cases fuel' with
      | zero => simp at hf
      | succ f' =>
        have hlen : rest.length ≤ f' := by
          rw [hrest, List.length_drop]; simp only [List.length_cons] at hf ⊢; omega
        have ih' := ih rest ops' hp f' hlen
        simp only [delSigAux, List.isEmpty_cons, Bool.false_eq_true, ↓reduceIte, hg]
        rw [← hrest, ih', ← hop]
        by_cases hc : op = pat <;> simp [hc]

theorem delSig_eq (wh sig : Bytes) (ops : List Bytes) (h : Spec.SigHash.parse wh = some ops) :
    delSig wh sig = ((ops.filter (· ≠ Spec.SigHash.pushOf sig)).flatten, (ops.filter (· = Spec.SigHash.pushOf sig)).length) := by
  unfold delSig
  rw [sigPush_eq_pushOf]
  exact delSigAux_eq _ wh.length wh ops h wh.length (Nat.le_refl _)

end GocoinV.SigHash
