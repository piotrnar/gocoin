/-
  Proofs.C08_Group — gocoin's Jacobian group functions (Model.Group, built from the generated limb functions)
  against the reference affine law: magnitude contract followed step by step (`FeS` rules), residues of the
  result coordinates as polynomials, then `dbl_alg` / `add_alg`; the branch structure (∞, equal x → double or ∞)
  explicitly.
-/
import GocoinV.Proofs.C08_GroupAlg

namespace GocoinV.C08
open GocoinV.Gen.Field5x52

/-- the INPUT contract of the group layer: each coordinate is handed to `Field.Mul` / `Field.Sqr` somewhere in
    Double / Add / AddXY / mul_lambda / ECmult, whose contract is magnitude ≤ 8 (limb i ≤ 16·(2^52−1), top limb
    ≤ 16·(2^48−1)); no theorem needs anything narrower. Z ≠ 0 for finite points. It is what Add and ECmult admit; Double
    and Neg alone admit more (Y up to magnitude 32: `Props.C08.double_correct_full`, `neg_correct`). -/
def XYZ.ok (a : XYZ) : Prop := a.x.mag 8 ∧ a.y.mag 8 ∧ a.z.mag 8 ∧ (a.inf = false → a.z.z ≠ 0)

/-- what Double / Add / AddXY themselves PRODUCE for a finite result (X ≤ 6, Y ≤ 4, Z ≤ 2): a subset of `XYZ.ok` -/
def XYZ.okOut (a : XYZ) : Prop := a.x.mag 6 ∧ a.y.mag 4 ∧ a.z.mag 2 ∧ (a.inf = false → a.z.z ≠ 0)

theorem XYZ.okOut.ok {a : XYZ} (h : a.okOut) : a.ok :=
  ⟨mag_mono h.1 (by decide), mag_mono h.2.1 (by decide), mag_mono h.2.2.1 (by decide), h.2.2.2⟩

/-- affine input contract: both coordinates within what Mul/Sqr accept -/
def XY.ok (b : XY) : Prop := b.x.mag 8 ∧ b.y.mag 8

/-- the affine point a Jacobian triple stands for: (X/Z², Y/Z³) as canonical residues, `none` = ∞ -/
def XYZ.toPoint (a : XYZ) : Secp.Point :=
  if a.inf then none else ptF (a.x.z / a.z.z ^ 2) (a.y.z / a.z.z ^ 3)

def XY.toPoint (b : XY) : Secp.Point := if b.inf then none else ptF b.x.z b.y.z

theorem doubleCore_S {ax t5 az : Fe} {X Y Z : F} (hx : FeS ax 8 X) (hy : FeS t5 1 Y) (hz : FeS az 8 Z) :
    FeS (doubleCore ax t5 az).x 6 (9 * X ^ 4 - 8 * X * Y ^ 2) ∧
    FeS (doubleCore ax t5 az).y 4 (3 * X ^ 2 * (12 * X * Y ^ 2 - 9 * X ^ 4) - 8 * Y ^ 4) ∧
    FeS (doubleCore ax t5 az).z 2 (2 * Y * Z) ∧ (doubleCore ax t5 az).inf = false := by
  have rz := (hy.mul hz (by decide) (by decide)).mulInt 2 (by decide)
  have t1 := (hx.sqr (by decide)).mulInt 3 (by decide)
  have t2 := t1.sqr (by decide)
  have t3 := (hy.sqr (by decide)).mulInt 2 (by decide)
  have t4 := (t3.sqr (by decide)).mulInt 2 (by decide)
  have t3' := hx.mul t3 (by decide) (by decide)
  have rx := ((t3'.mulInt 4 (by decide)).neg 4 (by decide) (by decide)).add t2 (by decide)
  have t2' := t2.neg 1 (by decide) (by decide)
  have t3'' := (t3'.mulInt 6 (by decide)).add t2' (by decide)
  have ry := (t1.mul t3'' (by decide) (by decide)).add (t4.neg 2 (by decide) (by decide)) (by decide)
  refine ⟨⟨(rx.mono (by decide)).1, ?_⟩, ⟨(ry.mono (by decide)).1, ?_⟩, ⟨(rz.mono (by decide)).1, ?_⟩, rfl⟩
  · rw [show (doubleCore ax t5 az).x.z = _ from rx.2]; push_cast; ring
  · rw [show (doubleCore ax t5 az).y.z = _ from ry.2]; push_cast; ring
  · rw [show (doubleCore ax t5 az).z.z = _ from rz.2]; push_cast; ring


theorem addTail_S {u1 u2 s1 s2 : Fe} {U1 U2 S1 S2 W : F} (zmul : Fe → Fe)
    (hu1 : FeS u1 1 U1) (hu2 : FeS u2 1 U2) (hs1 : FeS s1 1 S1) (hs2 : FeS s2 1 S2)
    (hzm : ∀ (h : Fe) (H : F), FeS h 3 H → FeS (zmul h) 1 (W * H)) :
    FeS (addTail u1 u2 s1 s2 zmul).x 6 ((S2 - S1) ^ 2 - (2 * U1 * (U2 - U1) ^ 2 + (U2 - U1) ^ 3)) ∧
    FeS (addTail u1 u2 s1 s2 zmul).y 4
      ((U1 * (U2 - U1) ^ 2 - ((S2 - S1) ^ 2 - (2 * U1 * (U2 - U1) ^ 2 + (U2 - U1) ^ 3))) * (S2 - S1)
        - (U2 - U1) ^ 3 * S1) ∧
    FeS (addTail u1 u2 s1 s2 zmul).z 2 (W * (U2 - U1)) ∧ (addTail u1 u2 s1 s2 zmul).inf = false := by
  have h := (hu1.neg 1 (by decide) (by decide)).add hu2 (by decide)
  have i := (hs1.neg 1 (by decide) (by decide)).add hs2 (by decide)
  have i2 := i.sqr (by decide)
  have h2 := h.sqr (by decide)
  have h3 := h.mul h2 (by decide) (by decide)
  have rz := hzm _ _ h
  have t := hu1.mul h2 (by decide) (by decide)
  have rx := ((((t.mulInt 2 (by decide)).add h3 (by decide)).neg 3 (by decide) (by decide)).add i2 (by decide))
  have ry := (((rx.neg 5 (by decide) (by decide)).add t (by decide)).mul i (by decide) (by decide)).add
    ((h3.mul hs1 (by decide) (by decide)).neg 1 (by decide) (by decide)) (by decide)
  refine ⟨⟨(rx.mono (by decide)).1, ?_⟩, ⟨(ry.mono (by decide)).1, ?_⟩, ⟨(rz.mono (by decide)).1, ?_⟩, rfl⟩
  · rw [show (addTail u1 u2 s1 s2 zmul).x.z = _ from rx.2]; push_cast; ring
  · rw [show (addTail u1 u2 s1 s2 zmul).y.z = _ from ry.2]; push_cast; ring
  · rw [show (addTail u1 u2 s1 s2 zmul).z.z = _ from rz.2]; ring

theorem XYZ.toPoint_inf {a : XYZ} (h : a.inf = true) : a.toPoint = none := by
  unfold XYZ.toPoint; simp [h]

theorem XYZ.toPoint_fin {a : XYZ} (h : a.inf = false) :
    a.toPoint = ptF (a.x.z / a.z.z ^ 2) (a.y.z / a.z.z ^ 3) := by
  unfold XYZ.toPoint; simp [h]

/-- `XYZ.Double` over its FULL input contract: X and Z go into Sqr/Mul (magnitude ≤ 8), Y is normalised first
    (magnitude ≤ 32 = `Normalize`'s contract): the result is either the input with the Infinity flag set (∞ ↦ ∞, points
    with y = 0 ↦ ∞) or a finite point within the output contract (6/4/2), and stands for the double. -/
theorem double_full (a : XYZ) (hx : a.x.mag 8) (hy : a.y.mag 32) (hz : a.z.mag 8) (hz0 : a.inf = false → a.z.z ≠ 0) :
    (XYZ.double a = { a with inf := true } ∨ (XYZ.double a).okOut) ∧ (XYZ.double a).toPoint = Secp.dbl a.toPoint := by
  obtain ⟨hn, hnd⟩ := (FeS.self hy).norm (by decide)
  unfold XYZ.double
  simp only []
  cases hinf : a.inf with
  | true =>
    simp only [Bool.true_or, if_true]
    refine ⟨Or.inl trivial, ?_⟩
    rw [XYZ.toPoint_inf rfl, XYZ.toPoint_inf hinf]; rfl
  | false =>
    have hz0' := hz0 hinf
    rw [XYZ.toPoint_fin hinf, secp_dbl_F]
    by_cases hy0 : a.y.z = 0
    · have hzero : isZero (normalize a.y) = true := (isZero_normd hnd).2 (by rw [hn.2, hy0])
      simp only [hzero, Bool.or_true, if_true]
      refine ⟨Or.inl trivial, ?_⟩
      rw [XYZ.toPoint_inf rfl, if_pos (by rw [hy0, zero_div])]
    · have hzero : isZero (normalize a.y) = false :=
        Bool.eq_false_iff.2 fun hc => hy0 (by rw [← hn.2]; exact (isZero_normd hnd).1 hc)
      simp only [hzero, Bool.or_false, Bool.false_eq_true, if_false]
      obtain ⟨rx, ry, rz, ri⟩ := doubleCore_S (FeS.self hx) hn (FeS.self hz)
      obtain ⟨hrz0, e1, e2⟩ := dbl_alg a.x.z a.y.z a.z.z _ _ _ hz0' hy0 rz.2 rx.2 ry.2
      refine ⟨Or.inr ⟨rx.1, ry.1, rz.1, fun _ => hrz0⟩, ?_⟩
      rw [XYZ.toPoint_fin ri, if_neg (div_ne_zero hy0 (pow_ne_zero _ hz0')), e1, e2]

/-- `XYZ.Double` is the doubling of the reference group law (∞ ↦ ∞, points with y = 0 ↦ ∞) and keeps the contract -/
theorem double_ok (a : XYZ) (h : a.ok) :
    (XYZ.double a).ok ∧ (XYZ.double a).toPoint = Secp.dbl a.toPoint := by
  obtain ⟨hx, hy, hz, hz0⟩ := h
  obtain ⟨h1, h2⟩ := double_full a hx (mag_mono hy (by decide)) hz hz0
  refine ⟨?_, h2⟩
  cases h1 with
  | inl e => rw [e]; exact ⟨hx, hy, hz, fun h => by simp at h⟩
  | inr o => exact o.ok

theorem bool_eq_false_of_not {b : Bool} (h : ¬ b = true) : b = false := by
  cases b <;> simp_all

theorem div_sq_eq_iff {X1 X2 Z1 Z2 : F} (h1 : Z1 ≠ 0) (h2 : Z2 ≠ 0) :
    X1 / Z1 ^ 2 = X2 / Z2 ^ 2 ↔ X1 * (Z2 * Z2) = X2 * (Z1 * Z1) := by
  rw [div_eq_div_iff (pow_ne_zero _ h1) (pow_ne_zero _ h2), pow_two, pow_two]

theorem div_cu_eq_iff {Y1 Y2 Z1 Z2 : F} (h1 : Z1 ≠ 0) (h2 : Z2 ≠ 0) :
    Y1 / Z1 ^ 3 = Y2 / Z2 ^ 3 ↔ Y1 * (Z2 * Z2) * Z2 = Y2 * (Z1 * Z1) * Z1 := by
  rw [div_eq_div_iff (pow_ne_zero _ h1) (pow_ne_zero _ h2)]
  constructor <;> intro h <;> linear_combination h

/-- the branches Add and AddXY share once both operands are finite: `eu` / `es` are the two `Equals` tests, known to
    decide equality of the affine x resp. y coordinates; equal x and y → Double, equal x only → ∞, otherwise the chord
    formula `t`, for which the claim is assumed -/
theorem add_branches {a : XYZ} (ha : a.ok) (hia : a.inf = false) {eu es : Bool} {t : XYZ} {x2 y2 : F}
    (hu : eu = true ↔ a.x.z / a.z.z ^ 2 = x2) (hs : es = true ↔ a.y.z / a.z.z ^ 3 = y2)
    (ht : a.x.z / a.z.z ^ 2 ≠ x2 → t.ok ∧
      t.toPoint = ptF (addF (a.x.z / a.z.z ^ 2) (a.y.z / a.z.z ^ 3) x2 y2).1 (addF (a.x.z / a.z.z ^ 2) (a.y.z / a.z.z ^ 3) x2 y2).2) :
    (if eu = true then (if es = true then XYZ.double a else { a with inf := true }) else t).ok ∧
    (if eu = true then (if es = true then XYZ.double a else { a with inf := true }) else t).toPoint
      = Secp.add a.toPoint (ptF x2 y2) := by
  rw [XYZ.toPoint_fin hia, secp_add_F]
  by_cases hU : a.x.z / a.z.z ^ 2 = x2
  · rw [if_pos (hu.2 hU), if_pos hU]
    by_cases hS : a.y.z / a.z.z ^ 3 = y2
    · rw [if_pos (hs.2 hS), if_pos hS]
      have hd := double_ok a ha
      rwa [XYZ.toPoint_fin hia] at hd
    · rw [if_neg (mt hs.1 hS), if_neg hS]
      exact ⟨⟨ha.1, ha.2.1, ha.2.2.1, fun h => by simp at h⟩, XYZ.toPoint_inf rfl⟩
  · rw [if_neg (mt hu.1 hU), if_neg hU]
    exact ht hU

/-- the part `Add` and `AddXY` share once u1, u2, s1, s2 are computed: the second operand is (x2/z2², y2/z2³), with z2 = 1 for an
    affine one; `W` = Z1·Z2 resp. Z1 is what `zmul` multiplies with -/
theorem add_finish {a : XYZ} (ha : a.ok) (hia : a.inf = false) {x2 y2 z2 W : F} (hz2 : z2 ≠ 0) (hW : W = a.z.z * z2)
    {u1 u2 s1 s2 : Fe} {m1 m2 : Nat} (zmul : Fe → Fe)
    (hu1 : FeS u1 m1 (a.x.z * (z2 * z2))) (hu2 : FeS u2 m2 (x2 * (a.z.z * a.z.z)))
    (hs1 : FeS s1 1 (a.y.z * (z2 * z2) * z2)) (hs2 : FeS s2 1 (y2 * (a.z.z * a.z.z) * a.z.z))
    (h1 : m1 ≤ 32) (h2 : m2 ≤ 32)
    (hzm : ∀ (h : Fe) (H : F), FeS h 3 H → FeS (zmul h) 1 (W * H)) :
    let t := addTail (normalize u1) (normalize u2) s1 s2 zmul
    let r := if equals (normalize u1) (normalize u2) = true then
        (if equals (normalize s1) (normalize s2) = true then XYZ.double a else { a with inf := true }) else t
    r.ok ∧ r.toPoint = Secp.add a.toPoint (ptF (x2 / z2 ^ 2) (y2 / z2 ^ 3)) := by
  intro t r
  have hz1 := ha.2.2.2 hia
  obtain ⟨u1n, u1d⟩ := hu1.norm h1
  obtain ⟨u2n, u2d⟩ := hu2.norm h2
  obtain ⟨s1n, s1d⟩ := hs1.norm (by decide)
  obtain ⟨s2n, s2d⟩ := hs2.norm (by decide)
  have hequ := equals_normd u1d u2d
  rw [u1n.2, u2n.2] at hequ
  have heqs := equals_normd s1d s2d
  rw [s1n.2, s2n.2] at heqs
  refine add_branches ha hia (hequ.trans (div_sq_eq_iff hz1 hz2).symm) (heqs.trans (div_cu_eq_iff hz1 hz2).symm) fun hx => ?_
  obtain ⟨rx, ry, rz, ri⟩ := addTail_S zmul u1n u2n hs1 hs2 hzm
  obtain ⟨hrz0, e1, e2⟩ := add_alg (a.x.z / a.z.z ^ 2) (a.y.z / a.z.z ^ 3) (x2 / z2 ^ 2) (y2 / z2 ^ 3)
    W _ _ _ _ _ _ _ (hW ▸ mul_ne_zero hz1 hz2) hx
    (by subst hW; field_simp) (by subst hW; field_simp) (by subst hW; field_simp) (by subst hW; field_simp) rz.2 rx.2
    (ry.2.trans (by rw [rx.2]))
  exact ⟨XYZ.okOut.ok ⟨rx.1, ry.1, rz.1, fun _ => hrz0⟩, by rw [XYZ.toPoint_fin ri, e1, e2]⟩


/-- `XYZ.Add` (Jacobian + Jacobian) is the addition of the reference group law, including ∞ + Q, P + ∞,
    P + P (→ Double) and P + (−P) (→ ∞), and keeps the contract -/
theorem add_ok (a b : XYZ) (ha : a.ok) (hb : b.ok) :
    (XYZ.add a b).ok ∧ (XYZ.add a b).toPoint = Secp.add a.toPoint b.toPoint := by
  unfold XYZ.add
  cases hia : a.inf with
  | true =>
    simp only [if_true]
    exact ⟨hb, by rw [XYZ.toPoint_inf hia]; rfl⟩
  | false =>
    cases hib : b.inf with
    | true =>
      simp only [Bool.false_eq_true, if_false, if_true]
      exact ⟨ha, by rw [XYZ.toPoint_inf hib, XYZ.toPoint_fin hia]; rfl⟩
    | false =>
      simp only [Bool.false_eq_true, if_false]
      obtain ⟨hbx, hby, hbz, hbz0⟩ := hb
      have haz := ha.2.2.1
      have z22 := (FeS.self hbz).sqr (by decide)
      have z12 := (FeS.self haz).sqr (by decide)
      rw [XYZ.toPoint_fin hib]
      exact add_finish ha hia (hbz0 hib) rfl (fun h => mul (mul a.z b.z) h)
        ((FeS.self ha.1).mul z22 (by decide) (by decide)) ((FeS.self hbx).mul z12 (by decide) (by decide))
        (((FeS.self ha.2.1).mul z22 (by decide) (by decide)).mul (FeS.self hbz) (by decide) (by decide))
        (((FeS.self hby).mul z12 (by decide) (by decide)).mul (FeS.self haz) (by decide) (by decide)) (by decide) (by decide)
        fun h H hh => ((FeS.self haz).mul (FeS.self hbz) (by decide) (by decide)).mul hh (by decide) (by decide)

theorem XY.toPoint_fin {b : XY} (h : b.inf = false) : b.toPoint = ptF b.x.z b.y.z := by
  unfold XY.toPoint; simp [h]

theorem XY.toPoint_inf {b : XY} (h : b.inf = true) : b.toPoint = none := by
  unfold XY.toPoint; simp [h]

/-- `XYZ.SetXY`: an affine point as a Jacobian one (Z = 1) -/
theorem ofXY_ok (b : XY) (hb : b.ok) : (XYZ.ofXY b).ok ∧ (XYZ.ofXY b).toPoint = b.toPoint := by
  obtain ⟨hbx, hby⟩ := hb
  have one := FeS.ofInt 1 (by decide)
  unfold XYZ.ofXY
  refine ⟨⟨mag_mono hbx (by decide), mag_mono hby (by decide), mag_mono one.1 (by decide), fun _ => ?_⟩, ?_⟩
  · show (setInt 1).z ≠ 0
    rw [one.2, Nat.cast_one]; exact one_ne_zero
  · cases hib : b.inf with
    | true => rw [XY.toPoint_inf hib]; exact XYZ.toPoint_inf rfl
    | false =>
      rw [XY.toPoint_fin hib, XYZ.toPoint_fin rfl]
      show ptF (b.x.z / (setInt 1).z ^ 2) (b.y.z / (setInt 1).z ^ 3) = _
      rw [one.2, Nat.cast_one, one_pow, one_pow, div_one, div_one]

/-- `XYZ.AddXY` (Jacobian + affine) is the addition of the reference group law, including ∞ + Q, P + ∞,
    P + P (→ Double) and P + (−P) (→ ∞), and keeps the contract -/
theorem addXY_ok (a : XYZ) (b : XY) (ha : a.ok) (hb : b.ok) :
    (XYZ.addXY a b).ok ∧ (XYZ.addXY a b).toPoint = Secp.add a.toPoint b.toPoint := by
  unfold XYZ.addXY
  obtain ⟨hbx, hby⟩ := hb
  cases hia : a.inf with
  | true =>
    simp only [if_true]
    rw [XYZ.toPoint_inf hia]
    exact ofXY_ok b ⟨hbx, hby⟩
  | false =>
    cases hib : b.inf with
    | true =>
      simp only [Bool.false_eq_true, if_false, if_true]
      exact ⟨ha, by rw [XY.toPoint_inf hib, XYZ.toPoint_fin hia]; rfl⟩
    | false =>
      simp only [Bool.false_eq_true, if_false]
      have haz := ha.2.2.1
      have z12 := (FeS.self haz).sqr (by decide)
      obtain ⟨u1a, _⟩ := (FeS.self ha.1).norm (by decide)
      obtain ⟨s1, _⟩ := (FeS.self ha.2.1).norm (by decide)
      rw [XY.toPoint_fin hib]
      have := add_finish ha hia (z2 := 1) (x2 := b.x.z) (y2 := b.y.z) one_ne_zero (mul_one _).symm (fun h => mul a.z h)
        (by simpa using u1a) ((FeS.self hbx).mul z12 (by decide) (by decide)) (by simpa using s1)
        (((FeS.self hby).mul z12 (by decide) (by decide)).mul (FeS.self haz) (by decide) (by decide)) (by decide) (by decide)
        fun h H hh => (FeS.self haz).mul hh (by decide) (by decide)
      simpa using this

theorem secp_neg_F (x y : F) : Secp.neg (ptF x y) = ptF x (-y) := by
  unfold ptF Secp.neg
  simp only [secp_p_eq]
  congr 2

theorem XYZ.neg_x (a : XYZ) : (XYZ.neg a).x = a.x := by cases a; rfl
theorem XYZ.neg_z (a : XYZ) : (XYZ.neg a).z = a.z := by cases a; rfl
theorem XYZ.neg_inf (a : XYZ) : (XYZ.neg a).inf = a.inf := by cases a; rfl
theorem XYZ.neg_y (a : XYZ) : (XYZ.neg a).y = negate (normalize a.y) 1 := by cases a; rfl

/-- `XYZ.Neg` over its FULL input contract: X and Z are only copied (no hypothesis at all), Y is normalised first, so
    every Y within `Normalize`'s contract (magnitude ≤ 32 — in particular every Y that Mul/Sqr accept, magnitude ≤ 8,
    and every Y the library produces, ≤ 4) is admitted: X, Z, Infinity unchanged, new Y of magnitude ≤ 2, and the
    triple stands for the negated point. -/
theorem neg_full (a : XYZ) (hay : a.y.mag 32) :
    (XYZ.neg a).x = a.x ∧ (XYZ.neg a).z = a.z ∧ (XYZ.neg a).inf = a.inf ∧ (XYZ.neg a).y.mag 2 ∧
    (XYZ.neg a).toPoint = Secp.neg a.toPoint := by
  obtain ⟨yn, _⟩ := (FeS.self hay).norm (by decide)
  have y' := yn.neg 1 (by decide) (by decide)
  refine ⟨XYZ.neg_x a, XYZ.neg_z a, XYZ.neg_inf a, by rw [XYZ.neg_y]; exact y'.1, ?_⟩
  cases hia : a.inf with
  | true => rw [XYZ.toPoint_inf (by rw [XYZ.neg_inf]; exact hia), XYZ.toPoint_inf hia]; rfl
  | false =>
    rw [XYZ.toPoint_fin (by rw [XYZ.neg_inf]; exact hia), XYZ.toPoint_fin hia, secp_neg_F,
      XYZ.neg_x, XYZ.neg_z, XYZ.neg_y, y'.2, neg_div]

/-- `XYZ.Neg` is the negation of the reference group law and keeps the contract -/
theorem neg_ok (a : XYZ) (ha : a.ok) : (XYZ.neg a).ok ∧ (XYZ.neg a).toPoint = Secp.neg a.toPoint := by
  obtain ⟨hax, hay, haz, haz0⟩ := ha
  obtain ⟨ex, ez, ei, hy, hp⟩ := neg_full a (mag_mono hay (by decide))
  refine ⟨⟨by rw [ex]; exact hax, mag_mono hy (by decide), by rw [ez]; exact haz, ?_⟩, hp⟩
  rw [ei, ez]; exact haz0

theorem XY.neg_x (b : XY) : (XY.neg b).x = b.x := by cases b; rfl
theorem XY.neg_inf (b : XY) : (XY.neg b).inf = b.inf := by cases b; rfl
theorem XY.neg_y (b : XY) : (XY.neg b).y = negate (normalize b.y) 1 := by cases b; rfl

/-- `XY.Neg` (affine) over its FULL input contract: X copied (no hypothesis), any Y of magnitude ≤ 32 -/
theorem negXY_full (b : XY) (hby : b.y.mag 32) :
    (XY.neg b).x = b.x ∧ (XY.neg b).inf = b.inf ∧ (XY.neg b).y.mag 2 ∧ (XY.neg b).toPoint = Secp.neg b.toPoint := by
  obtain ⟨yn, _⟩ := (FeS.self hby).norm (by decide)
  have y' := yn.neg 1 (by decide) (by decide)
  refine ⟨XY.neg_x b, XY.neg_inf b, by rw [XY.neg_y]; exact y'.1, ?_⟩
  cases hib : b.inf with
  | true => rw [XY.toPoint_inf (by rw [XY.neg_inf]; exact hib), XY.toPoint_inf hib]; rfl
  | false =>
    rw [XY.toPoint_fin (by rw [XY.neg_inf]; exact hib), XY.toPoint_fin hib, secp_neg_F, XY.neg_x, XY.neg_y, y'.2]

theorem negXY_ok (b : XY) (hb : b.ok) : (XY.neg b).ok ∧ (XY.neg b).toPoint = Secp.neg b.toPoint := by
  obtain ⟨hbx, hby⟩ := hb
  obtain ⟨ex, _, hy, hp⟩ := negXY_full b (mag_mono hby (by decide))
  exact ⟨⟨by rw [ex]; exact hbx, mag_mono hy (by decide)⟩, hp⟩

end GocoinV.C08
