/-
  Proofs.C15BchOrbit — an error word of ≤ 89 symbols with at most three non-zero symbols has a non-zero syndrome
  (`pf_detect3`). Reduction (linearity + injectivity of the step, Proofs/C15Bech32Fold.lean): a weight-3 word with zero
  syndrome gives x^k1·u + x^k2·v = w (a constant) with 88 ≥ k1 > k2 ≥ 1 (k1 + 1 symbols from the first error to the
  last), hence equal high parts (x^k1·u mod g) >>> 5 = (x^k2·v mod g) >>> 5; a weight-2 word gives x^k·u = v with
  88 ≥ k ≥ 1: the high part of x^k·u is that of x^0·v, which is 0.
  The idea that makes the computation small: Bech32 is a code over GF(32) = GF(2)[α]/(α^5 + α^3 + 1), and the GENERATED
  polymod step is linear over GF(32), not only over GF(2): multiplying every 5-bit symbol of the state by α (`mulA`)
  commutes with the step (`mulA_ps`; the five generator constants are g, αg, …, α^4·g). Every symbol u ≠ 0 is a power
  of α (`sym_pow`), so x^k·u = α^j·(x^k·1): every value x^k·u is a scalar multiple of the residue of x^k. "Equal high
  parts" then means: the high parts of the residues of two powers of x are proportional. `canon` picks one
  representative from each class of proportional states (the least of r, αr, …, α^30·r), and the one table,
  `orbit1_tab`, checks by `decide +kernel` that the representatives of the high parts of x^0, x^1, …, x^89 are pairwise
  different — 90 entries: exponent 0 serves the weight-2 case, `orbit_inj` is stated for exponents ≤ 89, one more than
  `pf_detect3` reaches. Identities between XOR-additive maps on states are decided on the unit vectors (`lin_ext`); four
  more `decide +kernel` steps do that, or run over the 31 symbols: `mulA_ps`, `mulA_shr5`, `mulP_31`, `sym_pow`.
-/
import GocoinV.Proofs.C15Bech32Fold
namespace GocoinV.Bech32

/-- every symbol of a state times α: the low four bits of each symbol move up, the top bit comes back as α^3 + 1 -/
def mulA (r : UInt32) : UInt32 :=
  ((r &&& 0x1ef7bdef) <<< 1) ^^^ ((r &&& 0x21084210) >>> 1) ^^^ ((r &&& 0x21084210) >>> 4)

abbrev XorLin (f : UInt32 → UInt32) : Prop := ∀ a b, f (a ^^^ b) = f a ^^^ f b

theorem mulA_add : XorLin mulA := by
  intro a b
  simp only [mulA, and_xor_r, UInt32.shiftLeft_xor, UInt32.shiftRight_xor]
  ac_rfl

theorem XorLin.comp {f g : UInt32 → UInt32} (hf : XorLin f) (hg : XorLin g) : XorLin (f ∘ g) :=
  fun a b => by simp only [Function.comp, hg a b, hf _ _]

theorem XorLin.zero {f : UInt32 → UInt32} (hf : XorLin f) : f 0 = 0 := by
  have := hf 0 0
  rw [UInt32.xor_self] at this
  rw [this, UInt32.xor_self]

theorem xor_pow_lt {x n : Nat} (h1 : 2 ^ n ≤ x) (h2 : x < 2 ^ (n + 1)) : x ^^^ 2 ^ n < 2 ^ n := by
  apply Nat.lt_pow_two_of_testBit
  intro i hi
  rw [Nat.testBit_xor, Nat.testBit_two_pow]
  rcases Nat.lt_or_eq_of_le hi with h | h
  · have : x.testBit i = false := Nat.testBit_lt_two_pow (Nat.lt_of_lt_of_le h2 (Nat.pow_le_pow_right (by omega) h))
    simp [this]; omega
  · subst h
    have : x.testBit n = true := by
      rw [Nat.testBit_eq_decide_div_mod_eq]
      have : x / 2 ^ n = 1 := by
        apply Nat.div_eq_of_lt_le <;> omega
      simp [this]
    simp [this]

theorem lin_ext {f g : UInt32 → UInt32} (hf : XorLin f) (hg : XorLin g) {n : Nat} (hn : n ≤ 32)
    (h : ∀ i : Fin n, f (1 <<< UInt32.ofNat i.val) = g (1 <<< UInt32.ofNat i.val)) :
    ∀ x : UInt32, x.toNat < 2 ^ n → f x = g x := by
  induction n with
  | zero =>
    intro x hx
    have : x = 0 := UInt32.toNat_inj.mp (by simpa using hx)
    rw [this, hf.zero, hg.zero]
  | succ n ih =>
    intro x hx
    have ih := ih (by omega) fun i => h ⟨i.val, by omega⟩
    by_cases hlt : x.toNat < 2 ^ n
    · exact ih x hlt
    · have e : (1 <<< UInt32.ofNat n : UInt32).toNat = 2 ^ n := by
        rw [shl_toNat _ _ (by omega), UInt32.toNat_one, Nat.one_mul]
        exact Nat.mod_eq_of_lt (Nat.pow_lt_pow_right (by omega) (by omega))
      have hy : (x ^^^ 1 <<< UInt32.ofNat n).toNat < 2 ^ n := by
        rw [UInt32.toNat_xor, e]; exact xor_pow_lt (by omega) hx
      have hx' : x = (x ^^^ 1 <<< UInt32.ofNat n) ^^^ 1 <<< UInt32.ofNat n := by
        rw [UInt32.xor_assoc, UInt32.xor_self, UInt32.xor_zero]
      rw [hx', hf, hg, ih _ hy, h ⟨n, by omega⟩]

theorem mulA_ps (x : UInt32) : mulA (polymodStep x) = polymodStep (mulA x) :=
  lin_ext (f := mulA ∘ polymodStep) (g := polymodStep ∘ mulA) (mulA_add.comp ps_lin) (XorLin.comp ps_lin mulA_add)
    (Nat.le_refl 32) (by decide +kernel) x x.toNat_lt

theorem mulA_iter (k : Nat) : ∀ x, mulA (iter k x) = iter k (mulA x) := by
  induction k with
  | zero => intro x; rfl
  | succ k ih => intro x; exact (ih _).trans (congrArg _ (mulA_ps x))

theorem mulA_shr5 {x : UInt32} (hx : hi30 x) : mulA (x >>> 5) = mulA x >>> 5 :=
  lin_ext (f := mulA ∘ (· >>> (5 : UInt32))) (g := (· >>> (5 : UInt32)) ∘ mulA)
    (mulA_add.comp fun _ _ => UInt32.shiftRight_xor)
    (XorLin.comp (fun _ _ => UInt32.shiftRight_xor) mulA_add) (n := 30) (by decide) (by decide +kernel) x hx

theorem hi30_shr {x k : UInt32} (hx : hi30 x) : hi30 (x >>> k) := by
  unfold hi30 at *
  rw [UInt32.toNat_shiftRight]
  exact Nat.lt_of_le_of_lt (Nat.shiftRight_le _ _) hx

theorem mulA_hi (x : UInt32) : hi30 (mulA x) := by
  have h1 := Nat.and_le_right (n := x.toNat) (m := 0x1ef7bdef)
  have h2 : hi30 (x &&& 0x21084210) := by
    unfold hi30
    rw [UInt32.toNat_and]
    exact Nat.lt_of_le_of_lt Nat.and_le_right (by decide)
  refine xor_hi (xor_hi ?_ (hi30_shr h2)) (hi30_shr h2)
  unfold hi30
  rw [UInt32.toNat_shiftLeft, UInt32.toNat_and, Nat.shiftLeft_eq]
  show (x.toNat &&& 0x1ef7bdef) * 2 ^ 1 % 2 ^ 32 < _
  omega

/-- times αʲ -/
def mulP : Nat → UInt32 → UInt32
  | 0, r => r
  | j+1, r => mulP j (mulA r)

theorem mulP_add (n : Nat) : XorLin (mulP n) := by
  induction n with
  | zero => intro a b; rfl
  | succ n ih => intro a b; simp only [mulP, mulA_add a b, ih _ _]

theorem mulP_31 {x : UInt32} (hx : hi30 x) : mulP 31 x = x :=
  lin_ext (g := id) (mulP_add 31) (fun _ _ => rfl) (n := 30) (by decide) (by decide +kernel) x hx

/-- the least of r, αr, …, αⁿr -/
def orbMin : Nat → UInt32 → Nat
  | 0, r => r.toNat
  | n+1, r => min r.toNat (orbMin n (mulA r))

theorem orbMin_le (n : Nat) : ∀ r j, j ≤ n → orbMin n r ≤ (mulP j r).toNat := by
  induction n with
  | zero => intro r j hj; rw [Nat.le_zero.mp hj]
            exact Nat.le_refl _
  | succ n ih =>
    intro r j hj
    cases j with
    | zero => exact Nat.min_le_left ..
    | succ j => exact Nat.le_trans (Nat.min_le_right ..) (ih _ j (by omega))

theorem orbMin_mem (n : Nat) : ∀ r, ∃ j, j ≤ n ∧ orbMin n r = (mulP j r).toNat := by
  induction n with
  | zero => intro r; exact ⟨0, Nat.le_refl _, rfl⟩
  | succ n ih =>
    intro r
    obtain ⟨j, hj, e⟩ := ih (mulA r)
    by_cases h : r.toNat ≤ orbMin n (mulA r)
    · exact ⟨0, by omega, Nat.min_eq_left h⟩
    · exact ⟨j + 1, by omega, (Nat.min_eq_right (by omega)).trans e⟩

/-- the class of r under multiplication by scalars ≠ 0 has one representative -/
def canon (r : UInt32) : Nat := orbMin 30 r

theorem canon_mulA {r : UInt32} (hr : hi30 r) : canon (mulA r) = canon r := by
  apply Nat.le_antisymm
  · obtain ⟨j, hj, e⟩ := orbMin_mem 30 r
    rw [canon, canon, e]
    cases j with
    | zero => have := orbMin_le 30 (mulA r) 30 (Nat.le_refl _)
              rwa [← mulP, mulP_31 hr] at this
    | succ j => exact orbMin_le 30 (mulA r) j (by omega)
  · obtain ⟨j, hj, e⟩ := orbMin_mem 30 (mulA r)
    rw [canon, canon, e, ← mulP]
    rcases Nat.lt_or_eq_of_le hj with h | rfl
    · exact orbMin_le 30 r (j + 1) (by omega)
    · rw [mulP_31 hr]; exact orbMin_le 30 r 0 (by omega)

/-- every symbol ≠ 0 is a power of α -/
theorem sym_pow : ∀ u : Fin 32, u.val ≠ 0 → ∃ j : Fin 31, UInt32.ofNat u.val = mulP j.val 1 := by decide +kernel

/-- up to scalars, the high part of xᵏ·c does not depend on the scalar c -/
theorem canon_iter (k j : Nat) : ∀ r, hi30 r → canon (iter k (mulP j r) >>> 5) = canon (iter k r >>> 5) := by
  induction j with
  | zero => intro r _; rfl
  | succ j ih =>
    intro r hr
    rw [mulP, ih _ (mulA_hi r), ← mulA_iter, ← mulA_shr5 (iter_hi k r hr), canon_mulA (hi30_shr (iter_hi k r hr))]

/-- the representatives of the high parts of c, x·c, x²·c, … -/
def orbitReps : Nat → UInt32 → List Nat
  | 0, _ => []
  | n+1, x => canon (x >>> 5) :: orbitReps n (polymodStep x)

theorem orbitReps_get (n : Nat) : ∀ x j, j < n → (orbitReps n x)[j]? = some (canon (iter j x >>> 5)) := by
  induction n with
  | zero => intro x j h; omega
  | succ n ih =>
    intro x j h
    cases j with
    | zero => rfl
    | succ j => exact ih _ j (by omega)

/-- the high parts of 1, x, …, x⁸⁹ mod g are pairwise not proportional (and 1 has high part 0) -/
theorem orbit1_tab : (orbitReps 90 1).Nodup := by decide +kernel

theorem canon_sym {u : UInt8} (hu : u ≠ 0) (h31 : u.toNat ≤ 31) (k : Nat) :
    canon (iter k u.toUInt32 >>> 5) = canon (iter k 1 >>> 5) := by
  have hne : u.toNat ≠ 0 := fun h => hu (UInt8.toNat_inj.mp h)
  obtain ⟨j, e⟩ := sym_pow ⟨u.toNat, by omega⟩ hne
  have : u.toUInt32 = mulP j.val 1 := by rw [← e]; exact UInt32.toNat_inj.mp (by simp)
  rw [this]
  exact canon_iter k j 1 hi30_one

/-- the high part of xʲ·u mod g determines j ≤ 89, whatever the symbol u ≠ 0 -/
theorem orbit_inj {u v : UInt8} (hu : u ≠ 0) (hu31 : u.toNat ≤ 31) (hv : v ≠ 0) (hv31 : v.toNat ≤ 31) {j k : Nat}
    (hj : j ≤ 89) (hk : k ≤ 89) (h : iter j u.toUInt32 >>> 5 = iter k v.toUInt32 >>> 5) : j = k := by
  have e := congrArg canon h
  rw [canon_sym hu hu31, canon_sym hv hv31, ← Option.some_inj, ← orbitReps_get 90 1 j (by omega),
    ← orbitReps_get 90 1 k (by omega)] at e
  have hl : j < (orbitReps 90 1).length := (List.getElem?_eq_some_iff.mp (orbitReps_get 90 1 j (by omega))).1
  exact (List.getElem?_inj hl orbit1_tab).mp e

theorem shr5_eq_of_xor_small (A B W : UInt32) (h : A ^^^ B = W) (hw : W.toNat < 32) :
    A >>> 5 = B >>> 5 := by
  have hW : W >>> 5 = 0 := UInt32.toNat_inj.1 ((shr_toNat W 5 (by decide)).trans (Nat.div_eq_of_lt hw))
  rw [← h, UInt32.shiftRight_xor] at hW
  exact UInt32.xor_eq_zero_iff.mp hW

theorem pf_detect3 (e : Bytes) (hsym : ∀ x ∈ e, x.toNat ≤ 31) (hlen : e.length ≤ 89) (hw : weight e ≤ 3)
    (h : pf 0 e = 0) : e = List.replicate e.length 0 := by
  rcases split_nz e with h0 | ⟨a, u, t1, he, hu, hwe, hle⟩
  · exact h0
  exfalso
  obtain ⟨hum, ht1m⟩ := mem_of_split he
  rw [he, pf_zeros, iter_zero, pf_cons, ps_zero, UInt32.zero_xor] at h
  rcases split_nz t1 with h1 | ⟨b, v, t2, ht1, hv, hwt1, hlt1⟩
  · rw [h1, ← List.append_nil (List.replicate _ _), pf_zeros] at h
    exact u8_ne_zero_toUInt32 u hu (iter_inj0 _ _ (sym_hi u) h)
  obtain ⟨hvm, ht2m⟩ := mem_of_split ht1
  have oi := @orbit_inj u v hu (hsym u hum) hv (hsym v (ht1m v hvm))
  rw [ht1, pf_zeros, pf_cons, ← iter_succ'] at h
  have hX2 : hi30 (iter (b + 1) u.toUInt32 ^^^ v.toUInt32) := xor_hi (iter_hi _ _ (sym_hi u)) (sym_hi v)
  rcases split_nz t2 with h2 | ⟨c, w, t3, ht2, hwz, hwt2, hlt2⟩
  · rw [h2, ← List.append_nil (List.replicate _ _), pf_zeros] at h
    have heq : iter (b + 1) u.toUInt32 = iter 0 v.toUInt32 := UInt32.xor_eq_zero_iff.mp (iter_inj0 _ _ hX2 h)
    have := oi (by omega) (by omega) (congrArg (· >>> (5 : UInt32)) heq)
    omega
  obtain ⟨hwm, ht3m⟩ := mem_of_split ht2
  rw [ht2, pf_zeros, pf_cons, ← iter_succ'] at h
  rcases split_nz t3 with h3 | ⟨_, _, t4, _, _, hwt3, _⟩
  · rw [h3, ← List.append_nil (List.replicate _ _), pf_zeros] at h
    have hz := iter_inj0 _ _ (xor_hi (iter_hi _ _ hX2) (sym_hi w)) h
    rw [iter_xor, ← iter_add] at hz
    have hxw : iter (c + 1 + (b + 1)) u.toUInt32 ^^^ iter (c + 1) v.toUInt32 = w.toUInt32 :=
      UInt32.xor_eq_zero_iff.mp hz
    have hw31 := hsym w (ht1m w (ht2m w hwm))
    have hhigh := shr5_eq_of_xor_small _ _ _ hxw (by simp only [UInt8.toNat_toUInt32]; omega)
    have := oi (by omega) (by omega) hhigh
    omega
  · omega

end GocoinV.Bech32
