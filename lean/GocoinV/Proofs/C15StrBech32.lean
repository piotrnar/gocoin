/-
  Proofs.C15StrBech32 — the two hrp loops of `bech32.Encode` (lib/others/bech32/bech32.go) as written (range over the code
  points of the string, Model/Bech32Str.lean) against the bytewise loops: the first refuses a visited byte > 126 and a
  skipped byte follows such a byte, so on what it accepts both visit every byte
  (for `Props.C15.bech32_encode_as_written_is_bytewise`).
-/
import GocoinV.Model.Bech32Str
import GocoinV.Proofs.C15StrB58
import GocoinV.Proofs.C15Bech32Loops
namespace GocoinV.Bech32Str
open GocoinV.Bech32 GocoinV.Base58Str

/-- `Bech32.encode` without the do-notation -/
theorem encode_unfold (hrp data : Bytes) (m : Bool) :
    encode hrp data m =
      if hrp.length < 1 then none
      else match hrpHigh? hrp 1 with
        | none => none
        | some chk =>
          if hrp.length + 7 + data.length > 90 then none
          else match dataFold? data (hrpLow hrp (polymodStep chk)) with
            | none => none
            | some c =>
              some (hrp ++ [49] ++ data.map charsetAt ++ (checksumSyms (six c ^^^ finalConstant m)).map charsetAt) := by
  unfold encode
  by_cases h0 : hrp.length < 1
  · simp [h0]
  · simp only [h0, ↓reduceIte]
    cases hrpHigh? hrp 1 with
    | none => simp
    | some c1 =>
      simp only [Option.bind_eq_bind, Option.bind_some]
      by_cases hl : hrp.length + 7 + data.length > 90
      · simp [hl]
      · simp only [hl, ↓reduceIte]
        cases dataFold? data (hrpLow hrp (polymodStep c1)) <;> simp

/-- the first loop: positions visited = all bytes, and `i` ends as the number of bytes (unchanged for "") -/
theorem hrpHighR_eq (s : Bytes) : ∀ (pos : Nat) (chk : UInt32) (i : Nat),
    hrpHighR s 0 pos chk i = (hrpHigh? s chk).map (fun c => (c, if s = [] then i else pos + s.length)) := by
  induction s with
  | nil => intro pos chk i; simp [hrpHighR, hrpHigh?]
  | cons ch t ih =>
    intro pos chk i
    simp only [hrpHighR, hrpHigh?]
    by_cases hr : ch.toNat < 33 ∨ ch.toNat > 126
    · simp [hr]
    · simp only [hr, ↓reduceIte]
      by_cases hu : isUpper ch = true
      · simp [hu]
      · simp only [hu]
        rw [decodeRune_ascii ch t (by omega)]
        simp only [Nat.sub_self, Bool.false_eq_true, ↓reduceIte]
        rw [ih]
        cases hrpHigh? t (polymodStep chk ^^^ ch.toUInt32 >>> 5) with
        | none => rfl
        | some c =>
          simp only [Option.map_some, reduceCtorEq, ↓reduceIte, List.length_cons, Option.some.injEq, Prod.mk.injEq,
            true_and]
          split <;> simp_all <;> omega

theorem hrpHigh_ascii (s : Bytes) (chk c : UInt32) (h : hrpHigh? s chk = some c) : ∀ x ∈ s, x.toNat < 128 := by
  rw [hrpHigh?_eq] at h
  split at h <;> cases h
  rename_i hg
  exact fun x hx => Nat.lt_of_le_of_lt (hg x hx).2.1 (by decide)

theorem hrpLowR_eq (s : Bytes) : ∀ (chk : UInt32) (out : Bytes), (∀ x ∈ s, x.toNat < 128) →
    hrpLowR s 0 chk out = (hrpLow s chk, out ++ s) := by
  induction s with
  | nil => intro chk out _; simp [hrpLowR, hrpLow]
  | cons ch t ih =>
    intro chk out h
    obtain ⟨h1, h2⟩ := List.forall_mem_cons.mp h
    simp only [hrpLowR, hrpLow]
    rw [decodeRune_ascii ch t h1]
    simp only [Nat.sub_self]
    rw [ih _ _ h2]
    simp

end GocoinV.Bech32Str
