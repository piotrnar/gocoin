/-
  Proofs.C14Lookup — the signer's look-ups by public-key hash and by P2SH-P2WPKH script hash return the first key that
  answers to the hash (`pubhashToKeyIdx_spec`, `scripthashToKeyIdx_spec`, `scripthashToKeyIdx_bech32`, from
  `firstIdx_sound`), for `Props.C14.script_lookup_own_forms`; and `makeWalletPre_pass`, the configuration checks hand on
  exactly the password `getpass` returned, for `Props.C14.deterministic`. (The x-only taproot look-up is proved in place,
  `Props.C14.address_is_signing_key_tap`.)
-/
import GocoinV.Proofs.C14Wallet
namespace GocoinV.WalletKeys
open GocoinV HD Proofs.C14

/-! ### the per-template lookups of sign_tx / pkscr_to_key_idx (/repo ebf80672) -/

theorem firstIdx_sound {p : KeyRec → Bool} {keys : List KeyRec} {j : Nat}
    (e : (if keys.findIdx p < keys.length then some (keys.findIdx p) else none) = some j) :
    ∃ hj : j < keys.length, p keys[j] = true ∧ ∀ k (hk : k < j), p (keys[k]'(by omega)) = false := by
  split at e
  · rename_i hlt
    cases e
    exact ⟨hlt, (List.findIdx_eq hlt).mp rfl⟩
  · cases e

theorem pubhashToKeyIdx_spec (keys : List KeyRec) (i : Nat) (hi : i < keys.length) :
    ∃ j, ∃ hj : j < keys.length, j ≤ i ∧ pubhashToKeyIdx keys keys[i].h160 = some j ∧ keys[j].h160 = keys[i].h160 := by
  obtain ⟨j, hj, hle, e, hp⟩ := firstIdx_spec (fun k => k.h160 == keys[i].h160) keys i hi (by simp)
  exact ⟨j, hj, hle, e, by simpa using hp⟩

theorem scripthashToKeyIdx_spec (C : WalletCrypto) (c : Config) (keys : List KeyRec) (i : Nat) (hi : i < keys.length)
    (hm : bech32Mode c.atype = false) :
    ∃ j, ∃ hj : j < keys.length, j ≤ i ∧
      scripthashToKeyIdx C c keys (C.hash160 ([0, 20] ++ keys[i].h160)) = some j ∧
      C.hash160 ([0, 20] ++ keys[j].h160) = C.hash160 ([0, 20] ++ keys[i].h160) := by
  obtain ⟨j, hj, hle, e, hp⟩ := firstIdx_spec
    (fun k => !bech32Mode c.atype && C.hash160 ([0, 20] ++ k.h160) == C.hash160 ([0, 20] ++ keys[i].h160)) keys i hi (by simp [hm])
  exact ⟨j, hj, hle, e, by simpa [hm] using hp⟩

theorem scripthashToKeyIdx_bech32 (C : WalletCrypto) (c : Config) (keys : List KeyRec) (h : Bytes)
    (hm : bech32Mode c.atype = true) : scripthashToKeyIdx C c keys h = none := by
  unfold scripthashToKeyIdx
  rw [List.findIdx_eq_length.mpr]
  · exact if_neg (Nat.lt_irrefl _)
  · intro x _
    simp [hm]

/-- the configuration checks hand on exactly the password `getpass` returned -/
theorem makeWalletPre_pass (c : Config) (gp : Option Bytes) (path : Option (List Nat × Bytes × Bool)) (p0 : Bytes)
    (h : makeWalletPre c gp = .ok (path, p0)) : gp = some p0 := by
  unfold makeWalletPre at h
  simp only [bind, Except.bind, pure, Except.pure, throw, throwThe, MonadExceptOf.throw] at h
  cases gp <;> repeat' split at h
  all_goals first | cases h | skip
  all_goals simp_all

end GocoinV.WalletKeys
