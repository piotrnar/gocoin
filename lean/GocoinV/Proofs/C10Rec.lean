/-
  Proofs.C10Rec — the record codecs, plain and compressed, over one interface: a format of the output section
  (`OutFmt`: how a live output is written, the parser of one entry, the scan loop of the single-output look-up)
  carries one proof of each round trip; `fmtU` and `fmtC` are the two formats of lib/utxo.
  The decoding loop over a parser is `Model.BalancesLoad.genPure` / `genRec` (= `decOutsU` / `decOutsC`, `newRecU` / `newRecC`).
-/
import GocoinV.Model.BalancesLoad
import GocoinV.Proofs.C10Script
import GocoinV.Proofs.C10Amount
namespace GocoinV.UtxoRec
open GocoinV.CompactSize GocoinV.ScriptCompress
open GocoinV.Model.BalancesLoad (Parser entU entC genPure genRec)

theorem toInt64_small (n : Nat) (h : n < 2 ^ 63) : toInt64 n = (n : Int) := by
  unfold toInt64
  have : n % 2 ^ 64 = n := Nat.mod_eq_of_lt (by omega)
  simp [this, h]

theorem vlen_putULe (n : Nat) (h : n < 2 ^ 63) (rest : Bytes) :
    vlen (putULe n ++ rest) = ((n : Int), vlenSize n) := by
  unfold vlen
  rw [vule_putULe n (by omega) rest]
  simp [toInt64_small n h]

theorem shorter_eq_false {α : Type} (l : List α) (n : Nat) (h : n ≤ l.length) : shorter l n = false :=
  (shorter_false_iff l n).mpr h

/-- two lists of one length whose members are related pair by pair (`List.Forall₂` of Batteries, which this module does
    not import) -/
inductive Paired {α β : Type} (R : α → β → Prop) : List α → List β → Prop
  | nil : Paired R [] []
  | cons {r b rs bs} : R r b → Paired R rs bs → Paired R (r :: rs) (b :: bs)

/-- `rs.map ser = bs.map some`, pair by pair, with what is known of every member of `rs` -/
theorem forall₂_ser {α β : Type} (P : α → Prop) (ser : α → Option β) : ∀ (rs : List α) (bs : List β),
    (∀ r ∈ rs, P r) → rs.map ser = bs.map some → Paired (fun r b => P r ∧ ser r = some b) rs bs
  | [], [], _, _ => .nil
  | [], _ :: _, _, h => by simp at h
  | _ :: _, [], _, h => by simp at h
  | r :: rs, b :: bs, hP, h => by
    simp only [List.map_cons, List.cons.injEq] at h
    exact .cons ⟨hP r (by simp), h.1⟩ (forall₂_ser P ser rs bs (fun x hx => hP x (List.mem_cons_of_mem _ hx)) h.2)

theorem map_dec_of_map_ser {α β γ : Type} (ser : α → Option β) (dec : β → γ) (ok : α → γ) (rs : List α)
    (rt : ∀ r ∈ rs, ∀ b, ser r = some b → dec b = ok r) (bs : List β) (h : rs.map ser = bs.map some) :
    bs.map dec = rs.map ok := by
  have hp := forall₂_ser _ ser rs bs rt h
  clear rt h
  induction hp with
  | nil => rfl
  | cons hrb _ ih => simp only [List.map_cons, hrb.1 _ hrb.2, ih]

theorem vlen_small (t : UInt8) (h : t.toNat < 0xfd) (rest : Bytes) :
    vlen (t :: rest) = ((t.toNat : Int), 1) := by
  unfold vlen
  rw [vule_cons, if_pos h]
  simp [toInt64_small t.toNat (by omega)]

theorem putULe_append_isEmpty (n : Nat) (t : Bytes) : (putULe n ++ t).isEmpty = false := by
  cases h : putULe n with
  | nil => have := putULe_length_pos n; simp [h] at this
  | cons a t => simp

theorem outcnt_lt (r : Rec) (h : r.outs.length < 2 ^ 32) : outcnt r < 2 ^ 64 := by
  unfold outcnt at *; split <;> omega

theorem outcnt_div (r : Rec) : outcnt r / 2 = r.outs.length := by
  unfold outcnt; split <;> omega

theorem outcnt_mod (r : Rec) : (outcnt r % 2 == 1) = r.coinbase := by
  unfold outcnt; cases r.coinbase <;> simp <;> omega

theorem decHeader_ser (r : Rec) (h32 : r.txid.length = 32) (hh : r.inBlock < 2 ^ 32) (hc : r.outs.length < 2 ^ 32)
    (body : Bytes) :
    decHeader (r.txid ++ (putULe r.inBlock ++ (putULe (outcnt r) ++ body)))
      = some (r.txid, r.inBlock, outcnt r, body) := by
  unfold decHeader
  have hl : ¬ (r.txid ++ (putULe r.inBlock ++ (putULe (outcnt r) ++ body))).length < 32 := by
    simp; omega
  have hd : (r.txid ++ (putULe r.inBlock ++ (putULe (outcnt r) ++ body))).drop 32
      = putULe r.inBlock ++ (putULe (outcnt r) ++ body) := List.drop_left' h32
  have ht : (r.txid ++ (putULe r.inBlock ++ (putULe (outcnt r) ++ body))).take 32 = r.txid := List.take_left' h32
  simp only [hl, ↓reduceIte, hd, ht, vule_putULe r.inBlock (by omega),
    drop_putULe, vule_putULe (outcnt r) (outcnt_lt r hc)]

/-! ### a format of the output section -/

/-- `OneUtxoRec(dat, vout)` over the scan loop of a format (`oneU`, `oneC K` are this with `scanU`, `scanC K`) -/
def oneG (scan : Nat → Nat → Bytes → Scan) (dat : Bytes) (vout : Nat) : Res (Option TxOut) :=
  match decHeader dat with
  | none => .panic
  | some (_, h, c, rest) =>
    let vc := (c / 2) % 2 ^ 32
    if vc ≤ vout then .ok none
    else match scan vout rest.length rest with
      | .found v pk => .ok (some ⟨v, pk, h % 2 ^ 32, vc, c % 2 == 1⟩)
      | .nil => .ok none
      | .panic => .panic
      | .hang => .hang

/-- One format of a record's output section: `body x` is what is written for a live output behind its index and `enc i outs`
    the section from index `i` on; `P`, the parser of one entry that the decoding loops of the format share, reads a
    well-formed entry back whatever follows it; `scan`, the loop of the single-output look-up, steps over it or finds it. -/
structure OutFmt where
  body : Out → Bytes
  WF : Out → Prop
  enc : Nat → List (Option Out) → Bytes
  enc_nil : ∀ i, enc i [] = []
  enc_none : ∀ i t, enc i (none :: t) = enc (i + 1) t
  enc_some : ∀ i x t, enc i (some x :: t) = putULe i ++ (body x ++ enc (i + 1) t)
  P : Parser
  ent : ∀ i x rest, i < 2 ^ 64 → WF x → P (putULe i ++ (body x ++ rest)) = some (i, x, rest)
  scan : Nat → Nat → Bytes → Scan
  scan_nil : ∀ vout f, scan vout f [] = .nil
  scan_step : ∀ vout f i x rest, i < 2 ^ 32 → WF x → scan vout (f + 1) (putULe i ++ (body x ++ rest))
    = if i > vout then .nil else if i = vout then .found x.value x.pk else scan vout f rest

/-- `Serialize(rec, nil)` in the format -/
def OutFmt.ser (F : OutFmt) (r : Rec) : Option Bytes :=
  if anyOut r.outs then some (r.txid ++ (putULe r.inBlock ++ (putULe (outcnt r) ++ F.enc 0 r.outs))) else none

/-- what the Go types can hold: 32-byte txid, uint32 height, a slice the model allocates, outputs the format writes
    without loss -/
structure OutFmt.WFRec (F : OutFmt) (r : Rec) : Prop where
  txid : r.txid.length = 32
  height : r.inBlock < 2 ^ 32
  count : r.outs.length < 2 ^ 32
  outs : ∀ x, some x ∈ r.outs → F.WF x

section
variable (F : OutFmt)

/-- an entry costs fuel: the section from a live output on is not empty -/
theorem OutFmt.fuel_pos {i : Nat} {x : Out} {t : List (Option Out)} {fuel : Nat}
    (hf : (F.enc i (some x :: t)).length ≤ fuel) : ∃ f, fuel = f + 1 ∧ (F.enc (i + 1) t).length ≤ f := by
  rw [F.enc_some] at hf
  have := vlenSize_pos i
  simp only [List.length_append, putULe_length] at hf
  exact ⟨fuel - 1, by omega, by omega⟩

theorem genPure_step (f i : Nat) (x : Out) (rest : Bytes) (acc : List (Option Out))
    (hi : i < 2 ^ 64) (hx : F.WF x) (hacc : i < acc.length) :
    genPure F.P (f + 1) (putULe i ++ (F.body x ++ rest)) acc = genPure F.P f rest (acc.set i (some x)) := by
  simp only [genPure, putULe_append_isEmpty, Bool.false_eq_true, ↓reduceIte, F.ent i x rest hi hx,
    shorter_eq_false acc (i + 1) (by omega)]

theorem genPure_nil (P : Parser) (f : Nat) (acc : List (Option Out)) : genPure P f [] acc = .ok acc := by
  cases f <;> simp [genPure]

/-- decoding the output section written from index `pre.length` on, into a buffer that already
    holds `pre` and nil for the rest, yields `pre ++ suf` -/
theorem genPure_enc (suf : List (Option Out)) : ∀ (pre : List (Option Out)) (fuel : Nat),
    (F.enc pre.length suf).length ≤ fuel → pre.length + suf.length < 2 ^ 64 → (∀ x, some x ∈ suf → F.WF x) →
    genPure F.P fuel (F.enc pre.length suf) (pre ++ List.replicate suf.length none) = .ok (pre ++ suf) := by
  induction suf with
  | nil => intro pre fuel _ _ _; simp [F.enc_nil, genPure_nil]
  | cons o t ih =>
    intro pre fuel hf hlen hwf
    have hwt : ∀ x, some x ∈ t → F.WF x := fun x hx => hwf x (List.mem_cons_of_mem _ hx)
    simp only [List.length_cons] at hlen
    cases o with
    | none =>
      have := ih (pre ++ [none]) fuel (by simpa [F.enc_none] using hf) (by simp; omega) hwt
      simpa [F.enc_none, List.replicate_succ] using this
    | some x =>
      obtain ⟨f, rfl, hf'⟩ := F.fuel_pos hf
      rw [F.enc_some, genPure_step F f pre.length x _ _ (by omega) (hwf x (by simp)) (by simp)]
      have := ih (pre ++ [some x]) f (by simpa using hf') (by simp; omega) hwt
      simpa [List.replicate_succ] using this

/-- `NewUtxoRec(Serialize(rec)) = rec` in the format -/
theorem genRec_ser (r : Rec) (h : F.WFRec r) (b : Bytes) (hs : F.ser r = some b) : genRec F.P b = .ok r := by
  unfold OutFmt.ser at hs
  split at hs
  · injection hs with hs; subst hs
    unfold genRec
    rw [decHeader_ser r h.txid h.height h.count]
    have hc : ¬ (r.outs.length > maxOuts) := by have := h.count; unfold maxOuts; omega
    have := genPure_enc F r.outs [] (F.enc 0 r.outs).length (Nat.le_refl _) (by have := h.count; simp; omega) h.outs
    simp only [List.length_nil, List.nil_append] at this
    simp only [outcnt_div, hc, ↓reduceIte, this, outcnt_mod, Nat.mod_eq_of_lt h.height]
  · simp at hs

/-- looking up `vout` in the output section written from index `i` on: nothing below `i` (every index written is `≥ i`),
    otherwise the output at offset `vout - i` -/
theorem scan_enc (suf : List (Option Out)) : ∀ (i vout fuel : Nat),
    (F.enc i suf).length ≤ fuel → i + suf.length < 2 ^ 32 → (∀ x, some x ∈ suf → F.WF x) →
    F.scan vout fuel (F.enc i suf) =
      if vout < i then .nil else
      match suf.getD (vout - i) none with
      | some o => .found o.value o.pk
      | none => .nil := by
  induction suf with
  | nil => intro i vout fuel _ _ _; simp [F.enc_nil, F.scan_nil]
  | cons o t ih =>
    intro i vout fuel hf hlen hwf
    have hwt : ∀ x, some x ∈ t → F.WF x := fun x hx => hwf x (List.mem_cons_of_mem _ hx)
    have hsub : i < vout → vout - i = (vout - (i + 1)) + 1 := fun _ => by omega
    simp only [List.length_cons] at hlen
    cases o with
    | none =>
      rw [F.enc_none] at hf ⊢
      rw [ih (i + 1) vout fuel hf (by omega) hwt]
      by_cases h1 : vout < i
      · rw [if_pos h1, if_pos (by omega)]
      · by_cases h2 : vout = i
        · subst h2; simp
        · rw [if_neg h1, if_neg (by omega), hsub (by omega)]; simp
    | some x =>
      obtain ⟨f, rfl, hf'⟩ := F.fuel_pos hf
      rw [F.enc_some, F.scan_step vout f i x _ (by omega) (hwf x (by simp))]
      by_cases h1 : vout < i
      · simp [h1]
      · by_cases h2 : i = vout
        · subst h2; simp
        · rw [if_neg (by omega), if_neg h2, if_neg h1, ih (i + 1) vout f hf' (by omega) hwt, if_neg (by omega),
            hsub (by omega)]
          simp

/-- `OneUtxoRec(Serialize(rec), vout)` is field `vout` of `rec` -/
theorem oneG_ser (r : Rec) (h : F.WFRec r) (b : Bytes) (hs : F.ser r = some b) (vout : Nat) :
    oneG F.scan b vout = .ok (outOf r vout) := by
  unfold OutFmt.ser at hs
  split at hs
  · injection hs with hs; subst hs
    unfold oneG
    rw [decHeader_ser r h.txid h.height h.count]
    have hcnt := h.count
    simp only [outcnt_div, Nat.mod_eq_of_lt hcnt, outcnt_mod, Nat.mod_eq_of_lt h.height]
    by_cases hv : r.outs.length ≤ vout
    · simp only [hv, ↓reduceIte, outOf]
      simp [List.getD, List.getElem?_eq_none hv]
    · simp only [hv, ↓reduceIte]
      rw [scan_enc F r.outs 0 vout _ (Nat.le_refl _) (by omega) h.outs]
      simp only [Nat.not_lt_zero, ↓reduceIte, Nat.sub_zero, outOf]
      cases r.outs.getD vout none <;> simp
  · simp at hs

/-- the look-up agrees with decoding the whole record and taking the field -/
theorem one_eq (r : Rec) (h : F.WFRec r) (b : Bytes) (hs : F.ser r = some b) (vout : Nat) :
    oneG F.scan b vout = .ok (outOf r vout) ∧
      (∀ r', genRec F.P b = .ok r' → oneG F.scan b vout = .ok (outOf r' vout)) := by
  refine ⟨oneG_ser F r h b hs vout, fun r' hr' => ?_⟩
  rw [genRec_ser F r h b hs] at hr'
  injection hr' with hr'; subst hr'
  exact oneG_ser F r h b hs vout

end

/-! ### the plain format -/

/-- the decoding loop over `entU` is `NewUtxoRecOwnU`'s -/
theorem genPure_entU : ∀ (f : Nat) (rest : Bytes) (acc : List (Option Out)),
    genPure entU f rest acc = decOutsU f rest acc := by
  intro f
  induction f with
  | zero => intro rest acc; simp only [genPure, decOutsU]
  | succ f ih =>
    intro rest acc
    simp only [genPure, decOutsU, entU]
    split
    · rfl
    · by_cases hp : (vlen ((rest.drop (vule rest).2).drop (vule (rest.drop (vule rest).2)).2)).1 < 0 ∨
          shorter (((rest.drop (vule rest).2).drop (vule (rest.drop (vule rest).2)).2).drop
            (vlen ((rest.drop (vule rest).2).drop (vule (rest.drop (vule rest).2)).2)).2)
            (vlen ((rest.drop (vule rest).2).drop (vule (rest.drop (vule rest).2)).2)).1.toNat = true
      · simp only [hp, ↓reduceIte]
        split <;> rfl
      · simp only [hp, ↓reduceIte]
        split
        · rfl
        · exact ih _ _

theorem genRec_entU : genRec entU = newRecU := by
  funext dat
  unfold genRec newRecU
  cases decHeader dat with
  | none => rfl
  | some x =>
    obtain ⟨txid, h, c, rest⟩ := x
    simp only [genPure_entU]
    split
    · rfl
    · cases decOutsU rest.length rest (List.replicate (c / 2) none) <;> rfl

/-- well-formedness of one output: what a Go `uint64` / slice length can hold -/
def WFOut (o : Out) : Prop := o.value < 2 ^ 64 ∧ o.pk.length < 2 ^ 63

def WFOuts (outs : List (Option Out)) : Prop := ∀ o ∈ outs, ∀ x, o = some x → WFOut x

/-- what the Go types can hold: 32-byte txid, uint32 height, a slice the model allocates, uint64
    amounts, scripts shorter than 2^63 -/
structure WFRec (r : Rec) : Prop where
  txid : r.txid.length = 32
  height : r.inBlock < 2 ^ 32
  count : r.outs.length < 2 ^ 32
  outs : WFOuts r.outs

theorem entU_enc (i : Nat) (x : Out) (rest : Bytes) (hi : i < 2 ^ 64) (hx : WFOut x) :
    entU (putULe i ++ ((putULe x.value ++ (putULe x.pk.length ++ x.pk)) ++ rest)) = some (i, x, rest) := by
  unfold entU
  simp only [List.append_assoc, vule_putULe i hi, drop_putULe, vule_putULe x.value hx.1, vlen_putULe x.pk.length hx.2]
  have h2 : shorter (x.pk ++ rest) x.pk.length = false := shorter_eq_false _ _ (by simp)
  simp [h2]

theorem scanU_nil (vout f : Nat) : scanU vout f [] = .nil := by
  cases f <;> simp [scanU]

theorem scanU_step (vout f i : Nat) (x : Out) (rest : Bytes) (hi : i < 2 ^ 32) (hx : WFOut x) :
    scanU vout (f + 1) (putULe i ++ ((putULe x.value ++ (putULe x.pk.length ++ x.pk)) ++ rest))
      = if i > vout then .nil else if i = vout then .found x.value x.pk else scanU vout f rest := by
  rw [scanU]
  have h2 : shorter (x.pk ++ rest) x.pk.length = false := shorter_eq_false _ _ (by simp)
  have h3 : ¬ ((x.pk.length : Int) < 0) := by omega
  simp only [putULe_append_isEmpty, Bool.false_eq_true, ↓reduceIte, List.append_assoc, vule_putULe i (by omega), drop_putULe,
    vule_putULe x.value hx.1, vlen_putULe x.pk.length hx.2, Nat.mod_eq_of_lt hi]
  simp [h2, h3]

def fmtU : OutFmt where
  body x := putULe x.value ++ (putULe x.pk.length ++ x.pk)
  WF := WFOut
  enc := encOutsU
  enc_nil _ := rfl
  enc_none _ _ := rfl
  enc_some i x t := by simp [encOutsU]
  P := entU
  ent := entU_enc
  scan := scanU
  scan_nil := scanU_nil
  scan_step := scanU_step

theorem WFRec.fmt {r : Rec} (h : WFRec r) : fmtU.WFRec r :=
  ⟨h.txid, h.height, h.count, fun x hx => h.outs _ hx x rfl⟩

/-! ### the compressed format -/

theorem genPure_entC (K : KeyOps) : ∀ (f : Nat) (rest : Bytes) (acc : List (Option Out)),
    genPure (entC K) f rest acc = decOutsC K f rest acc := by
  intro f
  induction f with
  | zero => intro rest acc; simp only [genPure, decOutsC]
  | succ f ih =>
    intro rest acc
    simp only [genPure, decOutsC, entC]
    split
    · rfl
    · cases hd : decScrC K ((rest.drop (vule rest).2).drop (vule (rest.drop (vule rest).2)).2) with
      | none => simp only []; split <;> rfl
      | some x =>
        obtain ⟨pk, nxt⟩ := x
        simp only []
        split
        · rfl
        · exact ih _ _

theorem genRec_entC (K : KeyOps) : genRec (entC K) = newRecC K := by
  funext dat
  unfold genRec newRecC
  cases decHeader dat with
  | none => rfl
  | some x =>
    obtain ⟨txid, h, c, rest⟩ := x
    simp only [genPure_entC]
    split
    · rfl
    · cases decOutsC K rest.length rest (List.replicate (c / 2) none) <;> rfl

/-- the script field of a compressed record is read back exactly (both the special forms and the
    `6+len` form), whatever follows it -/
theorem decScrC_enc (K : KeyOps) (hK : K.Sound) (pk rest : Bytes) (hl : pk.length + 6 < 2 ^ 63) :
    decScrC K (encScrC K pk ++ rest) = some (pk, rest) := by
  unfold encScrC
  cases hc : compress K pk with
  | some c =>
    obtain ⟨⟨t, tl, rfl, ht, hlen⟩, hdec⟩ := compress_spec K pk c hc
    replace hdec := hdec hK
    simp only
    unfold decScrC
    rw [List.cons_append, vlen_small t (by omega)]
    have h1 : ((t.toNat : Int) < 6) := by omega
    have h2 : ¬ ((t.toNat : Int) < 0) := by omega
    simp only [h1, h2, ↓reduceIte, Int.toNat_natCast, ← hlen]
    have h3 : shorter (t :: (tl ++ rest)) (t :: tl).length = false :=
      shorter_eq_false _ _ (by simp)
    have h4 : (t :: (tl ++ rest)).take (t :: tl).length = t :: tl := by
      rw [← List.cons_append]; simp
    have h5 : (t :: (tl ++ rest)).drop (t :: tl).length = rest := by
      rw [← List.cons_append]; simp
    simp only [h3, Bool.false_eq_true, ↓reduceIte, h4, hdec, h5]
  | none =>
    simp only
    unfold decScrC
    rw [List.append_assoc, vlen_putULe (6 + pk.length) (by omega)]
    have h1 : ¬ (((6 + pk.length : Nat) : Int) < 6) := by omega
    have h3 : shorter (pk ++ rest) pk.length = false := shorter_eq_false _ _ (by simp)
    simp only [h1, ↓reduceIte, drop_putULe, Int.toNat_natCast, Nat.add_sub_cancel_left, h3,
      Bool.false_eq_true]
    simp


theorem skipScrC_enc (K : KeyOps) (pk rest : Bytes) (hl : pk.length + 6 < 2 ^ 63) :
    skipScrC (encScrC K pk ++ rest) = some rest := by
  unfold encScrC
  cases hc : compress K pk with
  | some c =>
    obtain ⟨t, tl, rfl, ht, hlen⟩ := (compress_spec K pk c hc).1
    simp only
    unfold skipScrC
    rw [List.cons_append, vlen_small t (by omega)]
    have h1 : ((t.toNat : Int) < 6) := by omega
    have h2 : ¬ ((t.toNat : Int) < 0) := by omega
    simp only [h1, h2, ↓reduceIte, Int.toNat_natCast, ← hlen]
    have h5 : (t :: (tl ++ rest)).drop (t :: tl).length = rest := by
      rw [← List.cons_append]; simp
    rw [h5]
  | none =>
    simp only
    unfold skipScrC
    rw [List.append_assoc, vlen_putULe (6 + pk.length) (by omega)]
    have h1 : ¬ (((6 + pk.length : Nat) : Int) < 6) := by omega
    simp only [h1, ↓reduceIte, drop_putULe, Int.toNat_natCast, Nat.add_sub_cancel_left]
    simp

/-- well-formedness for the compressed format: the amount is one `CompressAmount` does not wrap on -/
def WFOutC (o : Out) : Prop :=
  o.value < 2 ^ 64 ∧ AmountCompress.compressExact o.value < 2 ^ 64 ∧ o.pk.length + 6 < 2 ^ 63

def WFOutsC (outs : List (Option Out)) : Prop := ∀ o ∈ outs, ∀ x, o = some x → WFOutC x

theorem amount_rt (v : Nat) (hv : v < 2 ^ 64) (hc : AmountCompress.compressExact v < 2 ^ 64) :
    AmountCompress.compress v < 2 ^ 64 ∧
      AmountCompress.decompress (AmountCompress.compress v) = v := by
  have e : (2 : Nat) ^ 64 = AmountCompress.U64 := by decide
  rw [e] at hv hc ⊢
  rw [AmountCompress.compress_eq_exact v hc]
  exact ⟨hc, AmountCompress.decompress_compressExact v hv⟩

theorem entC_enc (K : KeyOps) (hK : K.Sound) (i : Nat) (x : Out) (rest : Bytes) (hi : i < 2 ^ 64) (hx : WFOutC x) :
    entC K (putULe i ++ ((putULe (AmountCompress.compress x.value) ++ encScrC K x.pk) ++ rest)) = some (i, x, rest) := by
  obtain ⟨hv, hc, hl⟩ := hx
  obtain ⟨hcv, hrt⟩ := amount_rt x.value hv hc
  unfold entC
  simp only [List.append_assoc, vule_putULe i hi, drop_putULe, vule_putULe _ hcv, decScrC_enc K hK x.pk rest hl, hrt]

theorem encScrC_length_pos (K : KeyOps) (pk : Bytes) : 0 < (encScrC K pk).length := by
  unfold encScrC
  cases hc : compress K pk with
  | some c =>
    obtain ⟨t, tl, rfl, _, _⟩ := (compress_spec K pk c hc).1
    simp
  | none => simp [putULe_length]; have := vlenSize_pos (6 + pk.length); omega

theorem scanC_nil (K : KeyOps) (vout f : Nat) : scanC K vout f [] = .nil := by
  cases f <;> simp [scanC]

theorem scanC_step (K : KeyOps) (hK : K.Sound) (vout f i : Nat) (x : Out) (rest : Bytes)
    (hi : i < 2 ^ 32) (hx : WFOutC x) :
    scanC K vout (f + 1) (putULe i ++ ((putULe (AmountCompress.compress x.value) ++ encScrC K x.pk) ++ rest))
      = if i > vout then .nil else if i = vout then .found x.value x.pk else scanC K vout f rest := by
  obtain ⟨hv, hc, hl⟩ := hx
  obtain ⟨hcv, hrt⟩ := amount_rt x.value hv hc
  rw [scanC]
  simp only [putULe_append_isEmpty, Bool.false_eq_true, ↓reduceIte, List.append_assoc, vule_putULe i (by omega), drop_putULe,
    vule_putULe _ hcv, Nat.mod_eq_of_lt hi, decScrC_enc K hK x.pk rest hl, skipScrC_enc K x.pk rest hl, hrt]
  simp

def fmtC (K : KeyOps) (hK : K.Sound) : OutFmt where
  body x := putULe (AmountCompress.compress x.value) ++ encScrC K x.pk
  WF := WFOutC
  enc := encOutsC K
  enc_nil _ := rfl
  enc_none _ _ := rfl
  enc_some i x t := by simp [encOutsC]
  P := entC K
  ent := entC_enc K hK
  scan := scanC K
  scan_nil := scanC_nil K
  scan_step := scanC_step K hK

structure WFRecC (r : Rec) : Prop where
  txid : r.txid.length = 32
  height : r.inBlock < 2 ^ 32
  count : r.outs.length < 2 ^ 32
  outs : WFOutsC r.outs

theorem WFRecC.fmt {K : KeyOps} {hK : K.Sound} {r : Rec} (h : WFRecC r) : (fmtC K hK).WFRec r :=
  ⟨h.txid, h.height, h.count, fun x hx => h.outs _ hx x rfl⟩

end GocoinV.UtxoRec
