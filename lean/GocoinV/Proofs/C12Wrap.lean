/-
  Proofs.C12Wrap — the fee-rate products of the model are computed in ℕ (Go: uint64). Under the stated bound the
  two agree.  Core Lean only.
-/
import GocoinV.Model.Mempool
namespace GocoinV.Mempool

/-- a product of a fee-like factor below 2^44 (≈ 175 000 BTC in satoshi) and a size-like factor below 2^20
    (weights ≤ 400 000 per tx; sums of vsizes / weights of ≤ 2^20) is not changed by uint64 wrap-around -/
theorem mul_nowrap (a b : Nat) (ha : a < 2 ^ 44) (hb : b < 2 ^ 20) : (a * b) % U64 = a * b :=
  Nat.mod_eq_of_lt (show a * b < 2 ^ 44 * 2 ^ 20 from Nat.mul_lt_mul'' ha hb)

/-- isFirstTxBetter with Go's wrapped products -/
def betterW (a b : T2S) : Bool := decide ((a.fee * b.tx.weight) % U64 > (b.fee * a.tx.weight) % U64)

theorem better_eq_wrapped (a b : T2S) (ha : a.fee < 2 ^ 44) (hb : b.fee < 2 ^ 44)
    (wa : a.tx.weight < 2 ^ 20) (wb : b.tx.weight < 2 ^ 20) : better a b = betterW a b := by
  unfold better betterW
  rw [mul_nowrap _ _ ha wb, mul_nowrap _ _ hb wa]

end GocoinV.Mempool
