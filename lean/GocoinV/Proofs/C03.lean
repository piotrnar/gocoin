/-
  Proofs.C03 — the model of Model/Sig.lean read against the specifications, function by function (parsers, `sigVerify_eq`,
  RFC 6979, `Sign`), and the bounds they need. Core Lean only.
-/
import GocoinV.Model.Sig
import GocoinV.Spec.Ecdsa
import GocoinV.Spec.Rfc6979
namespace GocoinV.Proofs.C03
open GocoinV GocoinV.Secp GocoinV.Model GocoinV.Model.Sig

theorem p_pos : 0 < p := by decide
theorem n_pos : 0 < n := by decide

theorem powModAux_lt (m : Nat) (hm : 0 < m) : ∀ fuel b e acc, acc < m → powModAux m fuel b e acc < m := by
  intro fuel
  induction fuel with
  | zero => intro b e acc h; simpa [powModAux] using h
  | succ f ih =>
    intro b e acc h
    simp only [powModAux]
    split
    · exact h
    · apply ih
      split
      · exact Nat.mod_lt _ hm
      · exact h
theorem powMod_lt (b e m : Nat) (hm : 1 < m) : powMod b e m < m := by
  unfold powMod
  apply powModAux_lt m (by omega)
  exact Nat.mod_lt _ (by omega)
theorem sq_neg (r : Nat) (h : r ≤ p) : (p - r) * (p - r) % p = r * r % p := by
  have key : ∀ a b : Nat, a + b = p → a ≤ b → b * b % p = a * a % p := by
    intro a b hab hle
    have : b * b = a * a + (b - a) * p := by
      have h1 := Nat.mul_self_sub_mul_self_eq b a
      have h2 : a * a ≤ b * b := Nat.mul_le_mul hle hle
      rw [← hab, Nat.mul_comm (b - a)]
      rw [Nat.add_comm a b, ← h1]; omega
    rw [this, Nat.add_mul_mod_self_right]
  by_cases hc : p - r ≤ r
  · exact (key (p - r) r (by omega) hc).symm
  · exact key r (p - r) (by omega) (by omega)

-- `Secp.powMod` (a 600-round loop) is not to be unfolded by unification or `decide` in this file
attribute [local irreducible] Secp.powMod

def curveRhs (x : Nat) : Nat := (x * x % p * x + 7) % p

theorem sqrtCand_lt (a : Nat) : sqrtCand a < p := powMod_lt _ _ _ (by decide)

theorem parity_eq (r : Nat) (odd : Bool) : ((r % 2 = 1) = (odd = true)) ↔ (r % 2 == 1) = odd := by
  cases odd <;> simp

theorem setXO_eq (x : Nat) (hx : x < p) (odd : Bool) :
    setXO x odd = (if (sqrtCand (curveRhs x) % 2 == 1) != odd then (p - sqrtCand (curveRhs x)) % p
      else sqrtCand (curveRhs x)) := by
  show (if (sqrtCand ((x % p * (x % p) % p * (x % p) + 7) % p) % 2 == 1) != odd then _ else _) = _
  rw [Nat.mod_eq_of_lt hx]; rfl

/-- the compressed-key core: model (SetXO + IsValid) against spec (sqrt? + parity choice) -/
theorem compressed_core (x : Nat) (hx : x < p) (odd : Bool) (hex : ¬ (odd = true ∧ curveRhs x = 0)) :
    (if isValid x (setXO x odd) then some (x, setXO x odd) else none)
    = (match sqrt? (curveRhs x) with
       | none => none
       | some y => some (x, if (y % 2 = 1) = (odd = true) then y else p - y)) := by
  have hxm : x % p = x := Nat.mod_eq_of_lt hx
  have hc : curveRhs x % p = curveRhs x := by unfold curveRhs; exact Nat.mod_mod _ _
  have hr := sqrtCand_lt (curveRhs x)
  have e1 : isValid x (setXO x odd) = (let y := setXO x odd; (y % p) * (y % p) % p == curveRhs x) := by
    show ((setXO x odd % p) * (setXO x odd % p) % p == (x % p * (x % p) % p * (x % p) + 7) % p) = _
    rw [hxm]; rfl
  have e3 : sqrt? (curveRhs x) = (if sqrtCand (curveRhs x) * sqrtCand (curveRhs x) % p = curveRhs x % p then some (sqrtCand (curveRhs x)) else none) := rfl
  rw [e1, e3]; simp only []; rw [setXO_eq x hx odd]
  generalize sqrtCand (curveRhs x) = r at hr ⊢
  generalize hcv : curveRhs x = c at hc hex ⊢
  rw [hc]
  by_cases hpar : (r % 2 == 1) = odd
  · have h1 : ((r % 2 == 1) != odd) = false := by rw [hpar]; exact bne_self_eq_false odd
    simp only [h1, Bool.false_eq_true, ↓reduceIte, Nat.mod_eq_of_lt hr, beq_iff_eq]
    have h2 := (parity_eq r odd).mpr hpar
    by_cases hv : r * r % p = c
    · simp [hv, h2]
    · simp [hv]
  · have h1 : ((r % 2 == 1) != odd) = true := bne_iff_ne.mpr hpar
    have h2 := mt (parity_eq r odd).mp hpar
    simp only [h1, ↓reduceIte, beq_iff_eq]
    by_cases hr0 : r = 0
    · subst hr0
      have hodd : odd = true := Bool.of_not_eq_false fun h => hpar h.symm
      have : ¬ (0 = c) := fun h => hex ⟨hodd, h.symm⟩
      simp [this]
    · have hlt : p - r < p := by omega
      rw [Nat.mod_eq_of_lt hlt, Nat.mod_eq_of_lt hlt, sq_neg r (by omega)]
      by_cases hv : r * r % p = c
      · simp [hv, h2]
      · simp [hv]

/-- Key encodings on which the model and the SEC1 reference could differ ONLY IF secp256k1 had a point
    with y = 0: `03 ‖ x` with x³ + 7 ≡ 0 (mod p). No such x exists: −7 is not a cube modulo p, PROVED in
    Proofs/C03Field.lean (`curveRhs_ne_zero`, `not_exceptional`: the class is empty), so `parsePubkey_eq`,
    the one theorem that carries `¬ Exceptional pk`, is applied unconditionally (`ecdsaVerify_eq_spec` in
    Proofs/C03Field.lean; `ecdsa_accept_iff`, `parsePubkey_is_sec1` in Props/C03.lean). -/
def Exceptional (pk : Bytes) : Prop :=
  ∃ t, pk = 0x03 :: t ∧ t.length = 32 ∧ curveRhs (beVal t) = 0

theorem isValid_eq_onCurve (x y : Nat) (hx : x < p) (hy : y < p) :
    isValid x y = onCurve (some (x, y)) := by
  unfold isValid onCurve
  simp [Nat.mod_eq_of_lt hx, Nat.mod_eq_of_lt hy, hx, hy]

theorem parsePubkey_eq (pk : Bytes) (hex : ¬ Exceptional pk) :
    Sig.parsePubkey true pk = Secp.parsePubkey pk := by
  cases pk with
  | nil => rfl
  | cons h t =>
    unfold Sig.parsePubkey Secp.parsePubkey
    simp only [List.length_cons, ↓reduceIte]
    by_cases hc : (h = 2 ∨ h = 3) ∧ t.length = 32
    · have hc' : t.length + 1 = 33 ∧ (h = 2 ∨ h = 3) := ⟨by omega, hc.1⟩
      rw [if_pos hc', if_pos hc]
      by_cases hx : beVal t ≥ p
      · simp [hx]
      · have hx' : beVal t < p := by omega
        simp only [hx, ↓reduceIte]
        have hex' : ¬ ((h == 3) = true ∧ curveRhs (beVal t) = 0) := by
          intro ⟨h3, h0⟩
          exact hex ⟨t, by rw [beq_iff_eq.mp h3], hc.2, h0⟩
        have := compressed_core (beVal t) hx' (h == 3) hex'
        simp only [beq_iff_eq] at this
        exact this
    · have hc' : ¬ (t.length + 1 = 33 ∧ (h = 2 ∨ h = 3)) := fun ⟨a, b⟩ => hc ⟨b, by omega⟩
      rw [if_neg hc', if_neg hc]
      by_cases hu : (h = 4 ∨ h = 6 ∨ h = 7) ∧ t.length = 64
      · have hu' : t.length + 1 = 65 ∧ (h = 4 ∨ h = 6 ∨ h = 7) := ⟨by omega, hu.1⟩
        rw [if_pos hu', if_pos hu]
        by_cases hr : beVal (List.take 32 t) ≥ p ∨ beVal (List.drop 32 t) ≥ p
        · simp [hr]
        · have hx : beVal (List.take 32 t) < p := by omega
          have hy : beVal (List.drop 32 t) < p := by omega
          simp only [hr, ↓reduceIte, isValid_eq_onCurve _ _ hx hy]
          generalize beVal (List.take 32 t) = x at *
          generalize beVal (List.drop 32 t) = y at *
          have hy2 : y % 2 = 0 ∨ y % 2 = 1 := by omega
          rcases hu.1 with rfl | rfl | rfl <;> cases hoc : onCurve (some (x, y)) <;> rcases hy2 with e | e <;>
            simp (decide := true) [e]
      · have hu' : ¬ (t.length + 1 = 65 ∧ (h = 4 ∨ h = 6 ∨ h = 7)) := fun ⟨a, b⟩ => hu ⟨b, by omega⟩
        rw [if_neg hu', if_neg hu]

theorem parseXOnly_none {pk : Bytes} (h : pk.length ≠ 32) : parseXOnly true pk = none := by
  unfold parseXOnly; simp [h]

theorem parseXOnly_eq_liftX (pk : Bytes) (h32 : pk.length = 32) : parseXOnly true pk = liftX (beVal pk) := by
  unfold parseXOnly liftX
  simp only [h32, ↓reduceIte, ne_eq, not_true_eq_false]
  by_cases hx : beVal pk ≥ p
  · have : ¬ (beVal pk < p) := by omega
    simp [hx, this]
  · have hx' : beVal pk < p := by omega
    simp only [hx, hx', true_and, ↓reduceIte]
    rw [compressed_core (beVal pk) hx' false (by simp),
      show (beVal pk * beVal pk % p * beVal pk + 7) % p = curveRhs (beVal pk) from rfl]
    cases sqrt? (curveRhs (beVal pk)) with
    | none => rfl
    | some y => rcases Nat.mod_two_eq_zero_or_one y with e | e <;> simp [e]

/-- both coordinates of a finite point are reduced (below p) -/
def Lt (P : Point) : Prop := ∀ x y, P = some (x, y) → x < p ∧ y < p

theorem subMod_lt (a b : Nat) : subMod a b p < p := Nat.mod_lt _ p_pos

theorem some_lt (x y : Nat) (hx : x < p) (hy : y < p) : Lt (some (x, y)) := by
  rintro _ _ ⟨⟩
  exact ⟨hx, hy⟩

theorem dbl_lt (P : Point) : Lt (dbl P) := by
  intro x y h
  cases P with
  | none => simp [dbl] at h
  | some q =>
    obtain ⟨x1, y1⟩ := q
    simp only [dbl] at h
    split at h
    · simp at h
    · exact some_lt _ _ (subMod_lt _ _) (subMod_lt _ _) x y h

theorem add_lt (P Q : Point) (hP : Lt P) (hQ : Lt Q) : Lt (add P Q) := by
  intro x y h
  cases P with
  | none => simp only [add] at h; exact hQ x y h
  | some a =>
    cases Q with
    | none => simp only [add] at h; exact hP x y h
    | some b =>
      obtain ⟨x1, y1⟩ := a
      obtain ⟨x2, y2⟩ := b
      simp only [add] at h
      split at h
      · split at h
        · exact dbl_lt _ x y h
        · simp at h
      · exact some_lt _ _ (subMod_lt _ _) (subMod_lt _ _) x y h

theorem mulAux_lt (P : Point) (hP : Lt P) : ∀ i k acc, Lt acc → Lt (mulAux P i k acc) := by
  intro i
  induction i with
  | zero => intro k acc h; simpa [mulAux] using h
  | succ i ih =>
    intro k acc h
    simp only [mulAux]
    apply ih
    split
    · exact add_lt _ _ (dbl_lt _) hP
    · exact dbl_lt _

theorem mul_lt (k : Nat) (P : Point) (hP : Lt P) : Lt (mul k P) := by
  unfold mul
  exact mulAux_lt P hP _ _ _ (by rintro _ _ ⟨⟩)

theorem G_lt : Lt G := some_lt Gx Gy (by decide) (by decide)

theorem liftX_onCurve (x : Nat) (P : Nat × Nat) (h : liftX x = some P) : onCurve (some P) = true := by
  unfold liftX at h
  split at h
  · cases h
  rename_i hx
  split at h
  · cases h
  rename_i r hs
  simp only [Option.some.injEq] at h
  unfold sqrt? at hs
  simp only at hs
  split at hs
  · rename_i hsq
    simp only [Option.some.injEq] at hs
    have hr : r < p := hs ▸ powMod_lt _ _ _ (by decide)
    rw [hs, Nat.mod_mod] at hsq
    subst h
    unfold onCurve
    simp only [Bool.and_eq_true, decide_eq_true_eq, beq_iff_eq]
    by_cases he : r % 2 = 0
    · rw [if_pos he]; exact ⟨⟨by omega, hr⟩, hsq⟩
    · rw [if_neg he]
      refine ⟨⟨by omega, by omega⟩, ?_⟩
      rw [sq_neg r (Nat.le_of_lt hr)]; exact hsq
  · simp at hs

theorem liftX_lt (x : Nat) : Lt (liftX x) := fun a b h => by
  have := liftX_onCurve x (a, b) h
  simp only [onCurve, Bool.and_eq_true, decide_eq_true_eq] at this
  exact this.1

theorem ecmult_nat (A : Point) (a g : Nat) :
    ecmult A (a : Int) g = add (mul (a % n) A) (mul (g % n) G) := by
  rw [ecmult, ← Int.natCast_emod, Int.toNat_natCast]

/-- the scalar n − e the Schnorr verifier passes to ECmult, reduced -/
theorem schnorr_scalar (a : Nat) : (((n : Int) - (a : Int)) % (n : Int)).toNat = (n - a % n) % n := by
  unfold n
  omega

theorem mul_one (P : Point) : mul 1 P = P := by
  unfold mul
  have : Nat.log2 1 = 0 := by decide
  rw [this]
  simp [mulAux, dbl, add]

theorem ecmult_one (P : Nat × Nat) (t : Nat) (ht : t < n) :
    ecmult (some P) 1 t = add (some P) (mul t G) := by
  have h := ecmult_nat (some P) 1 t
  rwa [show 1 % n = 1 by decide, mul_one, Nat.mod_eq_of_lt ht] at h

theorem drop_two {α} (l : List α) (k : Nat) (d : α) (h : k + 2 ≤ l.length) :
    ∃ r, l.drop k = l.getD k d :: l.getD (k + 1) d :: r ∧ l.drop (k + 2) = r ∧ r.length + k + 2 = l.length := by
  refine ⟨l.drop (k + 2), ?_, rfl, by simp; omega⟩
  rw [List.drop_eq_getElem_cons (by omega), List.drop_eq_getElem_cons (by omega), List.getElem_eq_getD d,
    List.getElem_eq_getD d]

theorem parseBytes_eq (sig : Bytes) :
    (Sig.parseBytes sig).map (fun t => (t.1, t.2.1)) = Spec.Ecdsa.decodeSig sig := by
  match sig with
  | [] => rfl
  | [_] => rfl
  | [_, _] => rfl
  | [_, _, _] => rfl
  | a :: b :: c :: d :: rest =>
    unfold Sig.parseBytes Spec.Ecdsa.decodeSig
    simp only [List.length_cons, List.getD_cons_zero, List.getD_cons_succ]
    by_cases hac : a ≠ 0x30 ∨ c ≠ 0x02
    · rcases hac with h | h
      · simp [h]
      · by_cases ha : a = 0x30 <;> simp [h, ha]
    · have ha : a = 0x30 := Decidable.of_not_not fun h => hac (Or.inl h)
      have hc : c = 0x02 := Decidable.of_not_not fun h => hac (Or.inr h)
      subst ha; subst hc
      simp only [ne_eq, not_true_eq_false, or_false, ↓reduceIte]
      by_cases hlen : d.toNat = 0 ∨ rest.length < d.toNat + 2
      · rw [if_pos hlen]
        by_cases h5 : rest.length + 1 + 1 + 1 + 1 < 5
        · simp [h5]
        · simp only [h5, ↓reduceIte]
          have : (d.toNat = 0 ∨ 5 + d.toNat ≥ rest.length + 1 + 1 + 1 + 1 ∨ ¬ rest.getD d.toNat 0 = 2) :=
            hlen.imp_right fun h => Or.inl (by omega)
          rw [if_pos this]; rfl
      · rw [if_neg hlen]
        have hl0 : d.toNat ≠ 0 := fun h => hlen (Or.inl h)
        have hl1 : d.toNat + 2 ≤ rest.length := Nat.le_of_not_lt fun h => hlen (Or.inr h)
        obtain ⟨rest2, hd, g2, g3⟩ := drop_two rest d.toNat 0 hl1
        rw [hd]
        simp only []
        have h5 : ¬ (rest.length + 1 + 1 + 1 + 1 < 5) := by omega
        simp only [h5]
        generalize rest.getD d.toNat 0 = t2
        generalize rest.getD (d.toNat + 1) 0 = ls
        have e6 : List.drop (6 + d.toNat) (48 :: b :: 2 :: d :: rest) = rest2 := by
          have : 6 + d.toNat = (d.toNat + 2) + 1 + 1 + 1 + 1 := by omega
          rw [this]; simp only [List.drop_succ_cons]; exact g2
        have e4' : List.drop 4 (48 :: b :: 2 :: d :: rest) = rest := rfl
        have hiff : (d.toNat + ls.toNat + 6 > rest.length + 1 + 1 + 1 + 1) ↔ rest2.length < ls.toNat := by omega
        have h2 : ¬ (5 + d.toNat ≥ rest.length + 1 + 1 + 1 + 1) := by omega
        rw [e6, e4']
        simp only [hiff, h2, hl0, false_or, ↓reduceIte]
        by_cases ht : t2 = 2 <;> by_cases hA : ls.toNat = 0 <;> by_cases hB : rest2.length < ls.toNat <;>
          by_cases hC : b.toNat = d.toNat + ls.toNat + 4 <;> simp [ht, hA, hB, hC]


theorem parseBytes_of_decodeSig (der : Bytes) (r s : Nat) (h : Spec.Ecdsa.decodeSig der = some (r, s)) :
    ∃ c, Sig.parseBytes der = some (r, s, c) := by
  rw [← parseBytes_eq] at h
  obtain ⟨t, hp, ht⟩ := Option.map_eq_some_iff.mp h
  cases ht
  exact ⟨t.2.2, hp⟩

theorem verify_iff (pk sig msg : Bytes) :
    Spec.Ecdsa.verify pk sig msg = true ↔ Spec.Ecdsa.Accepts pk sig msg := by
  unfold Spec.Ecdsa.verify Spec.Ecdsa.Accepts
  constructor
  · intro h
    split at h
    · rename_i Q r s hq hd
      simp only [Bool.and_eq_true, decide_eq_true_eq] at h
      exact ⟨Q, r, s, hq, hd, h.1.1.1.1, h.1.1.1.2, h.1.1.2, h.1.2, h.2⟩
    · cases h
  · rintro ⟨Q, r, s, hq, hd, h1, h2, h3, h4, h5⟩
    rw [hq, hd]
    simp only [Bool.and_eq_true, decide_eq_true_eq]
    exact ⟨⟨⟨⟨h1, h2⟩, h3⟩, h4⟩, h5⟩

section
open GocoinV.C03

theorem sigVerify_eq (r s m : Nat) (Q : Point) :
    Sig.sigVerify true r s Q m =
      (decide (1 ≤ r) && decide (r < n) && decide (1 ≤ s) && decide (s < n) && Spec.Ecdsa.verifyEq Q r s m) := by
  unfold Sig.sigVerify
  by_cases hrange : r = 0 ∨ r ≥ n ∨ s = 0 ∨ s ≥ n
  · rw [if_pos ⟨rfl, hrange⟩]
    have : (decide (1 ≤ r) && decide (r < n) && decide (1 ≤ s) && decide (s < n)) = false := by
      rw [Bool.eq_false_iff]; simp only [ne_eq, Bool.and_eq_true, decide_eq_true_eq]; omega
    rw [this, Bool.false_and]
  · have : (decide (1 ≤ r) && decide (r < n) && decide (1 ≤ s) && decide (s < n)) = true := by
      simp only [Bool.and_eq_true, decide_eq_true_eq]; omega
    rw [if_neg (fun h => hrange h.2), this, Bool.true_and]
    unfold Sig.recompute Spec.Ecdsa.verifyEq Sig.modInvN
    simp only [ecmult_nat, Nat.mod_mod, Nat.mul_comm (invMod s n)]
    cases add (mul (r * invMod s n % n) Q) (mul (m * invMod s n % n) G) with
    | none => rfl
    | some q => exact Bool.beq_comm

theorem hmacGo_eq (H : Hash) (key data : Bytes) (hk : key.length ≠ 64) :
    hmacGo H key data = hmac H key data := by
  unfold hmacGo hmac hmacKey
  rcases Nat.lt_or_gt_of_ne hk with h | h <;> simp [h, Nat.lt_asymm h]

open Spec.Rfc6979 in
/-- the Go generator's state (K, V, retry set) is the state of the RFC 6979 specification -/
def Rel (g : Rng) (st : St) : Prop := g.k = st.K ∧ g.v = st.V ∧ g.retry = true ∧ st.K.length = 32

open Spec.Rfc6979 in
theorem rel_step (H : Hash) (hH : ∀ b, (H b).length = 32) (g : Rng) (st : St) (h : Rel g st) :
    Rel (rngGenerate H g).1 (gen H (reseed H st)) ∧ (rngGenerate H g).2 = (gen H (reseed H st)).V := by
  obtain ⟨hk, hv, hr, hl⟩ := h
  have e1 : hmacGo H st.K (st.V ++ [0]) = hmac H st.K (st.V ++ [0]) := hmacGo_eq _ _ _ (by omega)
  have hl2 : (hmac H st.K (st.V ++ [0])).length = 32 := by unfold hmac; exact hH _
  unfold rngGenerate
  simp only [hr, ↓reduceIte, hk, hv]
  unfold Rel gen reseed
  simp only [e1, hmacGo_eq H (hmac H st.K (st.V ++ [0])) _ (by omega), hl2, and_self]

open Spec.Rfc6979 in
theorem loop_eq (H : Hash) (hH : ∀ b, (H b).length = 32) (x h1 : Bytes) :
    ∀ j i g out, Rel g (stateAt H x h1 i) → out = (stateAt H x h1 i).V →
      rngLoop H j g out = (stateAt H x h1 (i + j)).V := by
  intro j
  induction j with
  | zero => intro i g out _ ho; simpa [rngLoop] using ho
  | succ j ih =>
    intro i g out hrel _
    have := rel_step H hH g _ hrel
    simp only [rngLoop]
    rw [← Nat.succ_add_eq_add_succ]
    exact ih (i + 1) _ _ this.1 this.2

theorem halfOrder_lt : halfOrder < n := by decide

theorem low_s_step (s0 : Nat) (h0 : s0 ≠ 0) (hlt : s0 < n) :
    let s1 := if s0 % 2 = 1 then n - s0 else s0
    let s2 := if s1 > halfOrder then n - s1 else s1
    0 < s2 ∧ s2 ≤ halfOrder := by
  unfold n at *
  unfold halfOrder
  dsimp only
  split <;> split <;> omega

/-- what an output (r, s, recid) of `Sign` says: R = k·G = (x, y) with 0 < k < n, r = x mod n, s is k⁻¹(r·d + m) or its
    negative, whichever is low, and recid records the parity of y, the flip and x ≥ n -/
theorem sign_spec (d m k r s recid : Nat) (h : sign d m k = some (r, s, recid)) :
    ∃ x y, mul k G = some (x, y) ∧ 0 < k ∧ k < n ∧ 0 < s ∧ s ≤ halfOrder ∧ r = x % n ∧
      modInvN k * ((x % n * d % n + m) % n) % n ≠ 0 ∧
      ((s = modInvN k * ((x % n * d % n + m) % n) % n ∧
          recid = (if x ≥ n then 2 else 0) ||| (if y % 2 = 1 then 1 else 0)) ∨
       (s = n - modInvN k * ((x % n * d % n + m) % n) % n ∧
          recid = ((if x ≥ n then 2 else 0) ||| (if y % 2 = 1 then 1 else 0)) ^^^ 1)) := by
  unfold sign at h
  split at h
  · simp at h
  · rename_i hk
    split at h
    · simp at h
    · rename_i x y hxy
      dsimp only at h
      split at h
      · simp at h
      · rename_i hs0
        have hlt : modInvN k * ((x % n * d % n + m) % n) % n < n := Nat.mod_lt _ n_pos
        have hlow := low_s_step _ hs0 hlt
        dsimp only at hlow
        refine ⟨x, y, hxy, by omega, by omega, ?_⟩
        generalize modInvN k * ((x % n * d % n + m) % n) % n = s0 at *
        generalize ((if x ≥ n then 2 else 0) ||| (if y % 2 = 1 then 1 else 0)) = rec0 at *
        by_cases a : s0 % 2 = 1 <;> by_cases b : (if s0 % 2 = 1 then n - s0 else s0) > halfOrder <;>
          simp only [a, ↓reduceIte] at h b hlow <;>
          simp only [b, ↓reduceIte, Option.some.injEq, Prod.mk.injEq] at h hlow <;>
          obtain ⟨rfl, rfl, rfl⟩ := h <;>
          refine ⟨hlow.1, hlow.2, rfl, hs0, ?_⟩
        · exact Or.inl ⟨by omega, by simp [Nat.xor_assoc]⟩
        · exact Or.inr ⟨rfl, rfl⟩
        · exact Or.inr ⟨rfl, rfl⟩
        · exact Or.inl ⟨rfl, rfl⟩

theorem sign_low (sec msg k r s recid : Nat) (h : sign sec msg k = some (r, s, recid)) :
    0 < s ∧ s ≤ halfOrder ∧ r < n := by
  obtain ⟨x, _, _, _, _, h1, h2, rfl, _⟩ := sign_spec sec msg k r s recid h
  exact ⟨h1, h2, Nat.mod_lt _ n_pos⟩

end

end GocoinV.Proofs.C03
