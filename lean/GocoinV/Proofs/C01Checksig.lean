/-
  Proofs.C01Checksig — OP_CHECKSIG / OP_CHECKSIGVERIFY / OP_CHECKSIGADD: `evalChecksig` (pre-tapscript: script code
  with FindAndDelete, encodings, ECDSA, NULLFAIL; tapscript: validation-weight budget, key types, Schnorr with the
  "no digest ⇒ fail" rule) — model vs spec.
-/
import GocoinV.Proofs.C01FindDel
import GocoinV.Proofs.C01Sig
namespace GocoinV.Proofs.C01
open GocoinV GocoinV.Script

/-- the ECDSA verdict both sides compute, for a total instance of the cryptography -/
def ecdsaOk (T : TotalOracles) (sv : SigVersion) (code sig pk : Bytes) : Bool :=
  match sig.getLast? with
  | none => false
  | some l =>
    if pk.isEmpty then false
    else T.ecdsaVerify pk sig (if sv == .witnessV0 then T.sigHashWitV0 code l.toNat else T.sigHashLegacy code l.toNat)

theorem verifyECDSA_eq (T : TotalOracles) (code sig pk : Bytes) (sv : SigVersion) :
    verifyECDSA T.toOracles code sig pk sv = .ok (ecdsaOk T sv code sig pk) := by
  unfold verifyECDSA ecdsaOk
  cases hl : sig.getLast? with
  | none => rfl
  | some l =>
    have hsl : sig.length ≠ 0 := fun h => by simp [List.eq_nil_of_length_eq_zero h] at hl
    simp only [sigHashFor, btcEcdsaVerify, TotalOracles.toOracles]
    by_cases hw : sv = .witnessV0 <;> cases pk <;> simp [hw, hsl, Res.ask]

theorem specECDSA_eq (T : TotalOracles) (e : ScriptSpec.Env) (he : e.O = T.toOracles) (code sig pk : Bytes) :
    ScriptSpec.checkECDSASignature e sig pk code = .ok (ecdsaOk T e.sv code sig pk) := by
  unfold ScriptSpec.checkECDSASignature ecdsaOk
  cases hl : sig.getLast? with
  | none => rfl
  | some l =>
    simp only [he, TotalOracles.toOracles, ScriptSpec.ask]
    by_cases hp : pk.isEmpty = true
    · simp [hp, epure]
    · by_cases hw : e.sv = .witnessV0 <;> simp [hp, hw, epure, bind, Except.bind]

/-- the relation between the model's result record and the spec's verdict -/
def CsMatch (ed : ExecData) (m : Res CsRes) (sp : ScriptSpec.E Bool) : Prop :=
  match sp with
  | .ok b => m = .ok ⟨true, b, ed⟩
  | .error _ => ∃ su, m = .ok ⟨false, su, ed⟩

theorem eunit_cases (r : ScriptSpec.E Unit) : r = .ok () ∨ ∃ e, r = .error e := by
  cases r with
  | ok u => left; rfl
  | error e => right; exact ⟨e, rfl⟩

theorem checksigPre_agree (T : TotalOracles) (c : Ctx) (hO : c.O = T.toOracles) (leaf : Bytes) (annex : Option Bytes)
    (s : ScriptSpec.State) (sig pk : Bytes) (pbegin : Nat) (ed : ExecData)
    (hcode : c.p.drop pbegin = s.code)
    (hw : c.sv = .base → (ScriptSpec.parse s.code).2 = false ∧ s.code.length < 2 ^ 32) :
    CsMatch ed (evalChecksigPreTapscript c.O sig pk c.p pbegin c.flags c.sv ed)
      (ScriptSpec.evalChecksigPreTapscript (envOf T c leaf annex) s sig pk) := by
  rw [hO, show envOf T c leaf annex = ⟨T.toOracles, c.tx, ScriptSpec.Flags.ofMask c.flags, c.sv, {}, leaf, annex⟩ from rfl]
  have hv := fun code => verifyECDSA_eq T code sig pk c.sv
  unfold verifyECDSA at hv
  have hsl : decide (sig.length > 0) = !sig.isEmpty := by cases sig <;> simp
  unfold evalChecksigPreTapscript ScriptSpec.evalChecksigPreTapscript
  simp only [hv, Res.ok_bind, Res.pure_eq, hcode, specECDSA_eq T ⟨T.toOracles, c.tx, ScriptSpec.Flags.ofMask c.flags, c.sv, {}, leaf, annex⟩ rfl,
    checkSignatureEncoding_eq, checkPubKeyEncoding_eq, flag_const, flag_nullfail, hsl]
  -- the script code and the number of deletions, the same on both sides
  have hcf : (if (c.sv == SigVersion.base) = true then delSig s.code sig else (s.code, 0))
      = if (c.sv == SigVersion.base) = true then ScriptSpec.findAndDelete s.code (ScriptSpec.pushEncoding sig) else (s.code, 0) := by
    by_cases hb : c.sv = .base
    · simp only [hb, beq_self_eq_true, ↓reduceIte, delSig_eq s.code sig (hw hb).1 (hw hb).2]
    · simp [hb]
  have hsp : (if (c.sv == SigVersion.base) = true then
        if (decide ((ScriptSpec.findAndDelete s.code (ScriptSpec.pushEncoding sig)).snd > 0) &&
            (ScriptSpec.Flags.ofMask c.flags).constScriptcode) = true then
          (throw ScriptSpec.ScriptError.SIG_FINDANDDELETE : ScriptSpec.E Bytes)
        else pure (ScriptSpec.findAndDelete s.code (ScriptSpec.pushEncoding sig)).fst
      else pure s.code)
      = if (c.sv == SigVersion.base && decide ((if (c.sv == SigVersion.base) = true then
            ScriptSpec.findAndDelete s.code (ScriptSpec.pushEncoding sig) else (s.code, 0)).snd > 0) &&
            (ScriptSpec.Flags.ofMask c.flags).constScriptcode) = true
        then throw ScriptSpec.ScriptError.SIG_FINDANDDELETE
        else pure (if (c.sv == SigVersion.base) = true then
            ScriptSpec.findAndDelete s.code (ScriptSpec.pushEncoding sig) else (s.code, 0)).fst := by
    cases c.sv == SigVersion.base <;> simp
  rw [hcf, hsp]
  generalize (if (c.sv == SigVersion.base) = true then ScriptSpec.findAndDelete s.code (ScriptSpec.pushEncoding sig) else (s.code, 0)) = cf
  by_cases hf : (c.sv == SigVersion.base && decide (cf.snd > 0) && (ScriptSpec.Flags.ofMask c.flags).constScriptcode) = true
  · simp only [hf, ↓reduceIte, CsMatch, bind, Except.bind, ethrow]
    exact ⟨_, rfl⟩
  simp only [hf, Bool.false_eq_true, ↓reduceIte]
  -- a refused encoding: the model answers "not ok", the spec throws
  rcases eunit_cases (ScriptSpec.checkSignatureEncoding (ScriptSpec.Flags.ofMask c.flags) sig) with h1 | ⟨e1, h1⟩
  rotate_left
  · simp only [h1, CsMatch, bind, Except.bind, Bool.not_false, Bool.true_or, ↓reduceIte]
    exact ⟨_, rfl⟩
  rcases eunit_cases (ScriptSpec.checkPubKeyEncoding (ScriptSpec.Flags.ofMask c.flags) c.sv pk) with h2 | ⟨e2, h2⟩
  rotate_left
  · simp only [h1, h2, CsMatch, bind, Except.bind, Bool.not_false, Bool.not_true, Bool.or_true, ↓reduceIte]
    exact ⟨_, rfl⟩
  simp only [h1, h2, CsMatch, bind, Except.bind, epure, Bool.not_true, Bool.or_false, Bool.false_eq_true, ↓reduceIte]
  by_cases hn : (!ecdsaOk T c.sv cf.fst sig pk && (ScriptSpec.Flags.ofMask c.flags).nullfail && !sig.isEmpty) = true
  · simp only [hn, ↓reduceIte, ethrow]
    exact ⟨_, rfl⟩
  · simp only [hn, Bool.false_eq_true, ↓reduceIte]

/-- what script verification assumes of `Tx.TaprootSigHash` (property C02): it returns nil (modelled as the empty
    string) exactly where BIP341 defines no signature message — an undefined hash type, or SIGHASH_SINGLE without a
    corresponding output -/
def TapSigHashOk (T : TotalOracles) (tx : TxCtx) : Prop :=
  ∀ a l csp ht scr, ((T.sigHashTap a l csp ht scr).length == 0) = !ScriptSpec.tapHashTypeDefined tx ht

theorem checkSchnorr_agree (T : TotalOracles) (c : Ctx) (hT : TapSigHashOk T c.tx) (sig pk : Bytes) (ed : ExecData) :
    checkSchnorrSignature T.toOracles sig pk c.sv ed =
      .ok (match ScriptSpec.checkSchnorrSignature (envOf T c ed.tapleafHash ed.annexHash) sig pk ed.codesepPos with
           | .ok _ => true | .error _ => false) := by
  unfold checkSchnorrSignature ScriptSpec.checkSchnorrSignature
  simp only [envOf, TotalOracles.toOracles, Res.ask, ScriptSpec.ask, at']
  have hT' := fun ht => hT ed.annexHash ed.tapleafHash ed.codesepPos ht (c.sv == SigVersion.tapscript)
  by_cases h65 : sig.length = 65
  · by_cases hz : sig.getD 64 0 = 0
    · have h0 : (0 : UInt8).toNat = 0 := rfl
      simp only [h65, hz, h0, bind, Except.bind, ethrow, beq_self_eq_true, bne_self_eq_false,
        Bool.and_false, Bool.false_eq_true, ↓reduceIte, Nat.reduceBneDiff, Bool.and_self]
    · have hz' : ¬ (sig.getD 64 0).toNat = 0 := fun h => hz (UInt8.toNat_inj.mp (by simpa using h))
      simp only [h65, hz, hz', bind, Except.bind, ethrow, epure, Res.bind, beq_self_eq_true,
        Bool.and_false, Bool.false_eq_true, ↓reduceIte, Bool.true_and, beq_iff_eq, Nat.reduceBneDiff,
        Bool.not_false, hT']
      cases ScriptSpec.tapHashTypeDefined c.tx (sig.getD 64 0).toNat
      · simp
      · cases T.schnorrVerify pk _ _ <;> simp
  · by_cases h64 : sig.length = 64
    · simp only [h64, bind, Except.bind, ethrow, epure, Res.bind, beq_self_eq_true,
        bne_self_eq_false, Bool.false_eq_true, ↓reduceIte, Bool.true_and, beq_iff_eq, Nat.reduceEqDiff, Nat.reduceBneDiff,
        Bool.and_true, Bool.not_false, hT']
      cases ScriptSpec.tapHashTypeDefined c.tx 0
      · simp
      · cases T.schnorrVerify pk _ _ <;> simp
    · simp [h65, h64, bind, Except.bind, ethrow]
/-- model result record vs spec verdict + state, for `evalChecksig` -/
def CsMatch2 (ed : ExecData) (s : ScriptSpec.State) (m : Res CsRes) (sp : ScriptSpec.E (Bool × ScriptSpec.State)) : Prop :=
  match sp with
  | .ok (b, s') => ∃ w, m = .ok ⟨true, b, { ed with weightLeft := w }⟩ ∧ s' = { s with weightLeft := w }
  | .error _ => m = .panic ∨ ∃ su ed', m = .ok ⟨false, su, ed'⟩

theorem checksigTap_agree (T : TotalOracles) (c : Ctx) (hT : TapSigHashOk T c.tx) (s : ScriptSpec.State) (sig pk : Bytes) (ed : ExecData)
    (hwt : ed.weightLeft = s.weightLeft) (hcsp : ed.codesepPos = s.codesepPos) :
    CsMatch2 ed s (evalChecksigTapscript T.toOracles sig pk ed c.flags c.sv)
      (ScriptSpec.evalChecksigTapscript (envOf T c ed.tapleafHash ed.annexHash) s sig pk) := by
  unfold evalChecksigTapscript ScriptSpec.evalChecksigTapscript
  simp only [envOf_f, ← flag_dispubkey, show ScriptSpec.VALIDATION_WEIGHT_PER_SIGOP_PASSED = VALIDATION_WEIGHT_PER_SIGOP_PASSED from rfl]
  have hpe : (pk.length == 0) = pk.isEmpty := by cases pk <;> simp
  simp only [hpe]
  by_cases hsig : sig.length > 0
  · -- non-empty signature: costs 50
    have hsig' := List.isEmpty_eq_false_iff.2 (List.ne_nil_of_length_pos hsig)
    simp only [hsig, hsig', decide_true, Bool.not_false, ↓reduceIte, Bool.true_and, ← hwt, bind, Except.bind]
    by_cases hneg : ed.weightLeft - VALIDATION_WEIGHT_PER_SIGOP_PASSED < 0
    · simp [hneg, CsMatch2, ethrow]
    · simp only [hneg, decide_false, Bool.false_eq_true, ↓reduceIte, epure]
      cases pk.isEmpty
      · simp only [Bool.false_eq_true, ↓reduceIte]
        by_cases h32 : pk.length = 32
        · rw [checkSchnorr_agree T c hT sig pk { ed with weightLeft := ed.weightLeft - VALIDATION_WEIGHT_PER_SIGOP_PASSED }]
          simp only [h32, beq_self_eq_true, ↓reduceIte, Res.bind]
          rcases eunit_cases (ScriptSpec.checkSchnorrSignature (envOf T c ed.tapleafHash ed.annexHash) sig pk s.codesepPos) with h | ⟨e, h⟩ <;>
            simp [h, hcsp, CsMatch2]
        · simp only [beq_false_of_ne h32, Bool.false_eq_true, ↓reduceIte]
          cases has c.flags VER_DIS_PUBKEYTYPE <;> simp [CsMatch2, ethrow]
      · simp [CsMatch2, ethrow]
  · have hsig' := List.isEmpty_iff_length_eq_zero.2 (Nat.eq_zero_of_not_pos hsig)
    simp only [hsig, hsig', decide_false, Bool.not_true, Bool.false_eq_true, ↓reduceIte, Bool.false_and, bind, Except.bind, epure]
    cases pk.isEmpty
    · simp only [Bool.false_eq_true, ↓reduceIte]
      by_cases h32 : pk.length = 32
      · simp [h32, CsMatch2]
        exact ⟨ed.weightLeft, rfl, by rw [hwt]⟩
      · simp only [beq_false_of_ne h32, Bool.false_eq_true, ↓reduceIte]
        cases has c.flags VER_DIS_PUBKEYTYPE <;> simp [CsMatch2, ethrow]
        exact ⟨ed.weightLeft, rfl, by rw [hwt]⟩
    · simp [CsMatch2, ethrow]


/-- side conditions of the signature opcodes: the taproot sighash oracle, and (legacy only) the script being
    executed decodes to its end and is shorter than 2^32 bytes -/
structure SigSide (T : TotalOracles) (c : Ctx) (s : ScriptSpec.State) : Prop where
  tap : TapSigHashOk T c.tx
  code : c.sv = .base → (ScriptSpec.parse s.code).2 = false ∧ s.code.length < 2 ^ 32

theorem evalChecksig_agree (T : TotalOracles) (c : Ctx) (hO : c.O = T.toOracles) (leaf : Bytes) (annex : Option Bytes)
    (st : St) (s : ScriptSpec.State) (sig pk : Bytes) (hR : Rel c leaf annex st s) (hS : SigSide T c s) :
    CsMatch2 st.ed s (evalChecksig c sig pk st.pbegin st.ed) (ScriptSpec.evalChecksig (envOf T c leaf annex) s sig pk) := by
  unfold evalChecksig ScriptSpec.evalChecksig
  simp only [envOf_sv]
  have hpre := checksigPre_agree T c hO leaf annex s sig pk st.pbegin st.ed hR.code hS.code
  have htap := checksigTap_agree T c hS.tap s sig pk st.ed hR.weight hR.csp
  rw [hR.leaf, hR.annex, ← hO] at htap
  cases hsv : c.sv
  case base | witnessV0 =>
    simp only
    unfold CsMatch at hpre
    rcases h : ScriptSpec.evalChecksigPreTapscript (envOf T c leaf annex) s sig pk with e | b <;> rw [h, hsv] at hpre
    · obtain ⟨su, hm⟩ := hpre
      simp only [bind, Except.bind, CsMatch2]
      exact Or.inr ⟨su, st.ed, hm⟩
    · simp only [bind, Except.bind, epure, CsMatch2]
      exact ⟨st.ed.weightLeft, hpre, by rw [hR.weight]⟩
  case taproot => simp [CsMatch2, ethrow]
  case tapscript =>
    rwa [hsv] at htap

variable {T : TotalOracles} {c : Ctx} {leaf : Bytes} {annex : Option Bytes} {st : St} {s : ScriptSpec.State}
  {i : ScriptSpec.Instr} {idx pos : Nat}

/-- the signature check in front of the rest, on both sides: the model's "not ok" is the spec's error -/
theorem evalChecksig_bind (hO : c.O = T.toOracles) (hR : Rel c leaf annex st s) (hS : SigSide T c s) (sig pk : Bytes)
    {K : CsRes → Res St} {K' : Bool × ScriptSpec.State → ScriptSpec.E ScriptSpec.State}
    (hK : ∀ b w, Agree c leaf annex (K ⟨true, b, { st.ed with weightLeft := w }⟩) (K' (b, { s with weightLeft := w }))) :
    Agree c leaf annex (evalChecksig c sig pk st.pbegin st.ed >>= fun cs => if !cs.ok then .fail else K cs)
      (ScriptSpec.evalChecksig (envOf T c leaf annex) s sig pk >>= K') := by
  have hcs := evalChecksig_agree T c hO leaf annex st s sig pk hR hS
  unfold CsMatch2 at hcs
  rcases hsp : ScriptSpec.evalChecksig (envOf T c leaf annex) s sig pk with e | ⟨b, s'⟩ <;> rw [hsp] at hcs
  · rcases hcs with hm | ⟨su, ed', hm⟩ <;> rw [hm]
    · exact Agree.panic
    · exact Agree.fail
  · obtain ⟨w, hm, rfl⟩ := hcs
    rw [hm]
    exact hK b w

def checksigBody (c : Ctx) (st : St) (opcode : Nat) : Res St :=
    match st.stack with
    | vchPubKey :: vchSig :: r => do
      let cs ← evalChecksig c vchSig vchPubKey st.pbegin st.ed
      if !cs.ok then .fail
      else if opcode == 0xad then
        (if !cs.success then .fail else pure { st with stack := r, ed := cs.ed })
      else pure { st with stack := boolBytes cs.success :: r, ed := cs.ed }
    | _ => .fail

theorem execOp_checksig (c : Ctx) (st : St) (op idx pos : Nat) (b : Bool) (h : op = 0xac ∨ op = 0xad) :
    execOp c st op idx pos b = checksigBody c st op := by
  rcases h with h | h <;> subst h <;> rfl

theorem execOpcode_checksig (e : ScriptSpec.Env) (s : ScriptSpec.State) (i : ScriptSpec.Instr) (pos : Nat) (b : Bool)
    (h : i.op = 0xac ∨ i.op = 0xad) :
    ScriptSpec.execOpcode e s i b pos = ScriptSpec.opChecksig e s (i.op == 0xad) := by
  obtain ⟨iop, idata, iafter⟩ := i
  simp only at h
  rcases h with h | h <;> subst h <;> rfl

theorem checksig_agree (hO : c.O = T.toOracles) (hR : Rel c leaf annex st s) (hs : i.op = 0xac ∨ i.op = 0xad) (hS : SigSide T c s) :
    Agree c leaf annex (execOp c st i.op idx pos true) (ScriptSpec.execOpcode (envOf T c leaf annex) s i true pos) := by
  rw [execOp_checksig c st i.op idx pos true hs, execOpcode_checksig _ s i pos true hs]
  unfold checksigBody ScriptSpec.opChecksig
  rw [← hR.stack]
  rcases st.stack with _ | ⟨pk, _ | ⟨sig, r⟩⟩
  · exact Agree.fail
  · exact Agree.fail
  refine evalChecksig_bind hO hR hS sig pk fun b w => ?_
  have ok : ∀ x, Agree c leaf annex (.ok { st with stack := x, ed := { st.ed with weightLeft := w } })
      (.ok { s with weightLeft := w, stack := x }) := fun x => Agree.ok { hR with stack := rfl, weight := rfl }
  refine Agree.ite (fun _ => ?_) fun _ => boolBytes_ofBool b ▸ ok _
  cases b
  · exact Agree.fail
  · exact ok _

theorem execOp_csa (c : Ctx) (st : St) (idx pos : Nat) (b : Bool) :
    execOp c st 0xba idx pos b =
    (if c.sv == .base || c.sv == .witnessV0 then .fail
    else if st.stack.length < 3 then .fail
    else do
      let sig ← top st.stack 3
      let num ← topInt st.stack 2 (has c.flags VER_MINDATA)
      let pubkey ← top st.stack 1
      let cs ← evalChecksig c sig pubkey st.pbegin st.ed
      if !cs.ok then .fail
      else
        let num' := if cs.success then num + 1 else num
        pure { st with stack := intBytes num' :: st.stack.drop 3, ed := cs.ed }) := by
  rfl

theorem csa_agree (hO : c.O = T.toOracles) (hR : Rel c leaf annex st s) (hs : i.op = 0xba) (hS : SigSide T c s) :
    Agree c leaf annex (execOp c st i.op idx pos true) (ScriptSpec.execOpcode (envOf T c leaf annex) s i true pos) := by
  obtain ⟨iop, idata, iafter⟩ := i
  simp only at hs; subst hs
  rw [execOp_csa]
  show Agree c leaf annex _ (ScriptSpec.opChecksigAdd _ s)
  unfold ScriptSpec.opChecksigAdd
  rw [envOf_sv, ← hR.stack]
  refine Agree.guard fun _ => ?_
  rcases st.stack with _ | ⟨pk, _ | ⟨nb, _ | ⟨sig, r⟩⟩⟩
  · exact Agree.fail
  · exact Agree.fail
  · exact Agree.fail
  rw [if_neg (by simp)]
  refine readNum_agree (d := nb) rfl fun num => ?_
  refine evalChecksig_bind hO hR hS sig pk fun b w => ?_
  simp only [intBytes_eq_encode]
  exact Agree.ok { hR with stack := by cases b <;> simp, weight := rfl }

end GocoinV.Proofs.C01
