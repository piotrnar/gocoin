/-
  Proofs.C16Main — the session-level refinement theorem of the block store (one session on a fresh directory, one-pass
  reads anywhere; the forms without them are its instances), and the snappy model as codec.
-/
import GocoinV.Proofs.C16Window
import GocoinV.Proofs.C16SnappyRT
import GocoinV.Proofs.C16Restart
namespace GocoinV.BlockDB

/-- one session on a fresh directory, ANY options (retention / backup included), the one-pass read anywhere in the history:
    every reply satisfies the retention-aware claim of the durable-map specification -/
theorem session_refines_onepass (env : Env) (ok : EnvOK env) (o : Opts) (ops : List OpX) (hops : ∀ op ∈ ops, op.ok) :
    AllHold (specRunRX env init {} (.op (.reopen o) :: ops)) (runX env init (.op (.reopen o) :: ops)).2 := by
  have h0 := reopen_fresh_ref env o
  have h1 := runX_ref env ok ops (reopen env {} o).1 { isOpen := true, m := [] } h0 hops
  unfold runX specRunRX
  exact ⟨trivial, h1⟩

/-- … in particular without one-pass reads -/
theorem session_refines_retention (env : Env) (ok : EnvOK env) (o : Opts) (ops : List Op)
    (hops : ∀ op ∈ ops, op.isReopen = false ∧ op.sizeOK) :
    AllHold (specRunR env init {} (.reopen o :: ops)) (run env init (.reopen o :: ops)).2 := by
  rw [← runX_op, ← specRunRX_op]
  exact session_refines_onepass env ok o (ops.map .op) (List.forall_mem_map.mpr hops)

/-- one session on a fresh directory, retention off: every reply satisfies the (unconditional) claim -/
theorem session_refines (env : Env) (ok : EnvOK env) (o : Opts) (hk : o.keep = 0) (ops : List Op)
    (hops : ∀ op ∈ ops, op.isReopen = false ∧ op.sizeOK) :
    AllHold (specRun env init {} (.reopen o :: ops)) (run env init (.reopen o :: ops)).2 := by
  rw [← specRunR_eq_specRun env (.reopen o :: ops) init {} init_noloss]
  · exact session_refines_retention env ok o ops hops
  · exact List.forall_mem_cons.2 ⟨hk, fun op hop => keep0_of_not_reopen op (hops op hop).1⟩

/-- the codec the store really uses: the snappy model (`oracle_c16` runs the store model with exactly this) -/
def snappyEnv (hash : Bytes → Bytes) (adv : Bool) : Env :=
  { enc := Snappy.encode
    dec := fun b => match Snappy.decode b with | .ok d => some d | .error _ => none
    hash := hash
    advInvalid := adv }

theorem snappyEnv_ok (hash : Bytes → Bytes) (adv : Bool) : EnvOK (snappyEnv hash adv) := by
  constructor
  · intro x hx
    show (match Snappy.decode (Snappy.encode x) with | .ok d => some d | .error _ => none) = some x
    rw [Snappy.snappy_roundtrip x hx]
  · intro x
    show Snappy.encode x ≠ []
    unfold Snappy.encode
    intro h
    have := (List.append_eq_nil_iff.mp h).1
    unfold Snappy.putUvarint Snappy.putUvarintAux at this
    split at this <;> simp at this

/-- well-formed operations for the snappy codec, without reference to the encoder: the hash is the hash of the header, the block is
    at most 2^29 bytes, the height fits 32 bits — the stored form then fits the 32-bit length field, by
    `(Snappy.encode x).length ≤ 11 + 6·x.length` -/
theorem wf_snappy (hash : Bytes → Bytes) (adv : Bool) (op : Op)
    (h : match op with
      | .add h height _ _ raw => h = hash (raw.take 80) ∧ raw.length ≤ 2^29 ∧ height < 2^32
      | _ => True) : Op.wf (snappyEnv hash adv) op := by
  cases op with
  | add h' height tx tr raw =>
    obtain ⟨a1, a2, a3⟩ := h
    refine ⟨a1, by omega, ?_, a3⟩
    have := Snappy.encode_length_le raw (by omega)
    show (Snappy.encode raw).length ≤ 0xffffffff
    omega
  | _ => trivial

end GocoinV.BlockDB
