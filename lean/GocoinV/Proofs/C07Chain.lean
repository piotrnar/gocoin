/-
  Proofs.C07Chain — the specification side of "the unspent set equals the replay of the tip's chain":
  well-formed block universes, explicit chains (tip first), `rp` (replay of an explicit chain), the link
  between `rp` and the model's executable `replay`, and the set-level facts about commitU / undoU.
  Core Lean only.
-/
import GocoinV.Proofs.C07
namespace GocoinV.Proofs.C07
open GocoinV.Persist

/-- same coins (as sets) -/
def SameSet (a b : List Coin) : Prop := ∀ c, c ∈ a ↔ c ∈ b

theorem SameSet.refl (a : List Coin) : SameSet a a := fun _ => Iff.rfl
theorem SameSet.symm {a b : List Coin} (h : SameSet a b) : SameSet b a := fun c => (h c).symm
theorem SameSet.trans {a b c : List Coin} (h1 : SameSet a b) (h2 : SameSet b c) : SameSet a c :=
  fun x => (h1 x).trans (h2 x)

theorem sameSet_iff (a b : List Coin) : sameSet a b = true ↔ SameSet a b := by
  simp only [sameSet, Bool.and_eq_true, List.all_eq_true, List.contains_eq_mem, decide_eq_true_eq, SameSet,
    iff_iff_implies_and_implies, forall_and]

theorem mem_commitU (u : List Coin) (b : Block) (c : Coin) :
    c ∈ commitU u b ↔ (c ∈ u ∧ c ∉ b.spends) ∨ c ∈ b.creates := by
  simp [commitU]

theorem mem_undoU (u : List Coin) (b : Block) (back : List Coin) (c : Coin) :
    c ∈ undoU u b back ↔ (c ∈ u ∧ c ∉ b.creates) ∨ c ∈ back := by
  simp only [undoU, List.mem_append, List.mem_filter, List.contains_eq_mem, Bool.not_eq_true',
    decide_eq_false_iff_not]
  rw [or_and_left, and_iff_left (Classical.em _)]

theorem commitU_congr {u u' : List Coin} (h : SameSet u u') (b : Block) : SameSet (commitU u b) (commitU u' b) := by
  intro c; rw [mem_commitU, mem_commitU, h c]

theorem undoU_congr {u u' : List Coin} (h : SameSet u u') (b : Block) (back : List Coin) :
    SameSet (undoU u b back) (undoU u' b back) := by
  intro c; rw [mem_undoU, mem_undoU, h c]

theorem validOn_congr {u u' : List Coin} (h : SameSet u u') (b : Block) : validOn u b = validOn u' b := by
  simp only [validOn, List.contains_eq_mem, h _]

/-! ### explicit chains -/

/-- replay of an explicit chain (tip first) -/
def rp : List Block → List Coin
  | [] => []
  | b :: rest => commitU (rp rest) b

def headId : List Block → BlockId
  | [] => 0
  | b :: _ => b.id

/-- `path` (tip first) is a chain of blocks of `bs` from genesis: linked by parent ids, heights 1, 2, …, every block
    valid on the replay of the chain below it -/
def ChainOK (bs : List Block) : List Block → Prop
  | [] => True
  | b :: rest => b ∈ bs ∧ b.parent = headId rest ∧ b.height = rest.length + 1 ∧ validOn (rp rest) b = true ∧ ChainOK bs rest

/-- well-formed block universe: ids are non-zero and identify the block, a block's height is its parent's plus one
    (genesis = id 0, height 0), the coins a block creates are not unspent in the replay of its parent's chain, and every
    block is valid on (spends only coins of) the replay of its parent's chain (invalid blocks on a side branch lead to
    DeleteBranch, which Model/Persist.lean does not model).  All fields are decidable. -/
structure WF (bs : List Block) : Prop where
  idNZ : ∀ b ∈ bs, b.id ≠ 0
  uniq : ∀ b ∈ bs, ∀ b' ∈ bs, b.id = b'.id → b = b'
  height : ∀ b ∈ bs, (b.parent = 0 ∧ b.height = 1) ∨ ∃ p ∈ bs, p.id = b.parent ∧ b.height = p.height + 1
  fresh : ∀ b ∈ bs, ∀ c ∈ b.creates, c ∉ replay bs b.parent
  valid : ∀ b ∈ bs, validOn (replay bs b.parent) b = true

theorem ChainOK.mem {bs : List Block} : ∀ {path : List Block}, ChainOK bs path → ∀ b ∈ path, b ∈ bs
  | [], _ => nofun
  | _ :: _, h => List.forall_mem_cons.2 ⟨h.1, ChainOK.mem h.2.2.2.2⟩

theorem ChainOK.drop {bs : List Block} : ∀ (k : Nat) {path : List Block}, ChainOK bs path → ChainOK bs (path.drop k)
  | 0, _, h => h
  | _ + 1, [], _ => trivial
  | k + 1, _ :: rest, h => ChainOK.drop k (path := rest) h.2.2.2.2

theorem ChainOK.height_mem {bs : List Block} : ∀ {path : List Block}, ChainOK bs path → ∀ b ∈ path, 1 ≤ b.height ∧ b.height ≤ path.length
  | [], _ => nofun
  | x :: rest, h => by
    refine List.forall_mem_cons.2 ⟨by rw [h.2.2.1]; simp, fun b hb => ?_⟩
    have := ChainOK.height_mem h.2.2.2.2 b hb
    simp only [List.length_cons]; omega

/-- the blocks of a chain have pairwise different heights, hence the chain is no longer than the universe -/
theorem ChainOK.nodup {bs : List Block} : ∀ {path : List Block}, ChainOK bs path → path.Nodup
  | [], _ => List.nodup_nil
  | x :: rest, h => by
    refine List.nodup_cons.2 ⟨?_, ChainOK.nodup h.2.2.2.2⟩
    intro hx
    have := (ChainOK.height_mem h.2.2.2.2 x hx).2
    rw [h.2.2.1] at this; omega

theorem height_on {bs : List Block} (hwf : WF bs) {path : List Block} (hc : ChainOK bs path) {b : Block}
    (hb : b ∈ bs) (hp : b.parent = headId path) : b.height = path.length + 1 := by
  rcases hwf.height b hb with ⟨h0, h1⟩ | ⟨p, hpm, hpi, hh⟩
  · cases path with
    | nil => simpa using h1
    | cons x rest => exact absurd (hp.symm.trans h0 : x.id = 0) (hwf.idNZ x hc.1)
  · cases path with
    | nil => exact absurd (hpi.trans hp) (hwf.idNZ p hpm)
    | cons x rest =>
      obtain rfl : p = x := hwf.uniq p hpm x hc.1 (hpi.trans hp)
      rw [hh, hc.2.2.1]; rfl

/-! ### `replay` (the model's executable definition) of the head of a chain is `rp` of the chain -/

theorem findBlock_of {bs : List Block} (hwf : WF bs) {b : Block} (hb : b ∈ bs) : findBlock bs b.id = some b := by
  unfold findBlock
  obtain ⟨x, hf⟩ : ∃ x, bs.find? (·.id == b.id) = some x :=
    Option.isSome_iff_exists.1 (List.find?_isSome.2 ⟨b, hb, beq_self_eq_true _⟩)
  have hid : x.id = b.id := by simpa using List.find?_some hf
  rw [hf, hwf.uniq x (List.mem_of_find?_eq_some hf) b hb hid]

theorem chainOf_path {bs : List Block} (hwf : WF bs) : ∀ (path : List Block), ChainOK bs path →
    ∀ (fuel : Nat) (acc : List Block), path.length ≤ fuel → chainOf bs fuel (headId path) acc = path.reverse ++ acc
  | [], _, fuel, acc, _ => by cases fuel <;> simp [chainOf, headId]
  | b :: rest, h, fuel, acc, hf => by
    cases fuel with
    | zero => simp at hf
    | succ f =>
      have hnz : b.id ≠ 0 := hwf.idNZ b h.1
      simp only [chainOf, headId, beq_iff_eq, hnz, findBlock_of hwf h.1]
      rw [h.2.1, chainOf_path hwf rest h.2.2.2.2 f (b :: acc) (by simp at hf; omega)]
      simp

theorem foldl_commitU_rev : ∀ (path : List Block), path.reverse.foldl commitU [] = rp path
  | [] => rfl
  | b :: rest => by
    rw [List.reverse_cons, List.foldl_append, foldl_commitU_rev rest]; rfl

theorem replay_eq_rp {bs : List Block} (hwf : WF bs) {path : List Block} (hc : ChainOK bs path) :
    replay bs (headId path) = rp path := by
  unfold replay
  have hlen : path.length ≤ bs.length + 1 :=
    Nat.le_succ_of_le (List.Nodup.length_le_of_subset (ChainOK.nodup hc) (ChainOK.mem hc))
  rw [chainOf_path hwf path hc _ [] hlen, List.append_nil, foldl_commitU_rev]

theorem valid_on {bs : List Block} (hwf : WF bs) {path : List Block} (hc : ChainOK bs path) {b : Block}
    (hb : b ∈ bs) (hp : b.parent = headId path) : validOn (rp path) b = true := by
  have := hwf.valid b hb
  rwa [hp, replay_eq_rp hwf hc] at this

/-- undoing the top block of a chain with ITS OWN undo data gives back the replay of the rest -/
theorem undo_top {bs : List Block} (hwf : WF bs) {b : Block} {rest : List Block} (hc : ChainOK bs (b :: rest))
    {u : List Coin} (hu : SameSet u (rp (b :: rest))) : SameSet (undoU u b b.spends) (rp rest) := by
  have hfresh : ∀ c ∈ b.creates, c ∉ rp rest := by
    have := hwf.fresh b hc.1
    rwa [hc.2.1, replay_eq_rp hwf hc.2.2.2.2] at this
  exact (undoU_congr hu b b.spends).trans (undo_own_commit' (rp rest) b hc.2.2.2.1 hfresh)

end GocoinV.Proofs.C07
