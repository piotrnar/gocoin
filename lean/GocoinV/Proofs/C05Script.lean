/-
  Proofs.C05Script — helper lemmas for C05: UintToScript = CScript() << n, one lemma per byte length (both values of the top bit).
-/
import GocoinV.Model.BlockCheck
import GocoinV.Spec.ScriptNum
open GocoinV GocoinV.BlockCheck GocoinV.Spec.ScriptNum GocoinV.Gen.ConsensusConsts
namespace GocoinV.Proofs.C05

theorem u2s_small (n : Nat) (h : n ≤ 16) : uintToScript n = cscriptPush n := by
  unfold uintToScript cscriptPush
  by_cases h1 : 1 ≤ n ∧ n ≤ 16
  · simp only [h1, and_self, ↓reduceIte, OP_1]
    congr 2; omega
  · obtain rfl : n = 0 := by omega
    simp [OP_0]

theorem u2s_1 (n : Nat) (h : 17 ≤ n) (h2 : n < 256) : uintToScript n = cscriptPush n := by
  have a1 : ¬ (1 ≤ n ∧ n ≤ 16) := by omega
  have a0 : n ≠ 0 := by omega
  have e4 : n / 16777216 % 256 = 0 := by omega
  have e3 : n / 65536 % 256 = 0 := by omega
  have b1 : n / 256 = 0 := by omega
  have r2 : List.range 2 = [0, 1] := rfl
  by_cases t : 128 ≤ n % 256 <;>
    simp [uintToScript, cscriptPush, a1, a0, expLen, e4, e3, r2, expByte, serialize, leMinAux, b1, t]

theorem u2s_2 (n : Nat) (h : 256 ≤ n) (h2 : n < 65536) : uintToScript n = cscriptPush n := by
  have a1 : ¬ (1 ≤ n ∧ n ≤ 16) := by omega
  have a0 : n ≠ 0 := by omega
  have e4 : n / 16777216 % 256 = 0 := by omega
  have e2 : n / 256 % 256 ≠ 0 := by omega
  have b1 : n / 256 ≠ 0 := by omega
  have b2 : n / 65536 = 0 := by omega
  have r3 : List.range 3 = [0, 1, 2] := rfl
  have r2 : List.range 2 = [0, 1] := rfl
  by_cases t : 128 ≤ n / 256 % 256 <;>
    simp [uintToScript, cscriptPush, a1, a0, expLen, e4, e2, r2, r3, expByte, serialize, leMinAux, b1, b2, t, Nat.div_div_eq_div_mul]

theorem u2s_3 (n : Nat) (h : 65536 ≤ n) (h2 : n < 16777216) : uintToScript n = cscriptPush n := by
  have a1 : ¬ (1 ≤ n ∧ n ≤ 16) := by omega
  have a0 : n ≠ 0 := by omega
  have e3 : n / 65536 % 256 ≠ 0 := by omega
  have b1 : n / 256 ≠ 0 := by omega
  have b2 : n / 65536 ≠ 0 := by omega
  have b3 : n / 16777216 = 0 := by omega
  have r4 : List.range 4 = [0, 1, 2, 3] := rfl
  have r3 : List.range 3 = [0, 1, 2] := rfl
  by_cases t : 128 ≤ n / 65536 % 256 <;>
    simp [uintToScript, cscriptPush, a1, a0, expLen, e3, r3, r4, expByte, serialize, leMinAux, b1, b2, b3, t, Nat.div_div_eq_div_mul]

theorem u2s_4 (n : Nat) (h : 16777216 ≤ n) (h2 : n < 4294967296) : uintToScript n = cscriptPush n := by
  have a1 : ¬ (1 ≤ n ∧ n ≤ 16) := by omega
  have a0 : n ≠ 0 := by omega
  have e4 : n / 16777216 % 256 ≠ 0 := by omega
  have b1 : n / 256 ≠ 0 := by omega
  have b2 : n / 65536 ≠ 0 := by omega
  have b3 : n / 16777216 ≠ 0 := by omega
  have b4 : n / 4294967296 = 0 := by omega
  have r5 : List.range 5 = [0, 1, 2, 3, 4] := rfl
  have r4 : List.range 4 = [0, 1, 2, 3] := rfl
  by_cases t : 128 ≤ n / 16777216 % 256 <;>
    simp [uintToScript, cscriptPush, a1, a0, expLen, e4, r4, r5, expByte, serialize, leMinAux, b1, b2, b3, b4, t, Nat.div_div_eq_div_mul]

end GocoinV.Proofs.C05
