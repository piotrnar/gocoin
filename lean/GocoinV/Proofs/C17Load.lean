/-
  Proofs.C17Load — lemmas about Model.BalancesLoad: the static decoder shows exactly the stateless decoder's
  outputs (no residue) and never panics on a serialised record of either format (`UtxoRec.OutFmt`), the byte-level
  load equals the record-level `loadAll`, the abort path leaves the index empty and off.
-/
import GocoinV.Proofs.C17
import GocoinV.Model.BalancesLoad
import GocoinV.Proofs.C10Rec
namespace GocoinV.Proofs.C17Load
open GocoinV GocoinV.CompactSize GocoinV.Model.Balances GocoinV.Model.BalancesLoad GocoinV.Proofs.C17
open GocoinV.UtxoRec (Res decHeader maxOuts OutFmt)

/-! ### static buffers: invariant and simulation -/

/-- the slots the caller can see are nil or point to a pool object already handed out for THIS record -/
def Static.OK (st : Static) : Prop :=
  st.cnt ≤ st.slots.length ∧ ∀ i p, i < st.cnt → st.slots[i]? = some (some p) → p < st.idx

theorem outsList_ok (st : Static) (cnt : Nat) : Static.OK (outsList st cnt) := by
  unfold outsList
  split
  · refine ⟨by simp, ?_⟩
    intro i p hi h
    simp [List.getElem?_replicate] at h
  · refine ⟨by simp, ?_⟩
    intro i p hi h
    rw [List.getElem?_append_left (by simpa using hi)] at h
    simp [List.getElem?_replicate] at h

theorem outsList_cnt (st : Static) (cnt : Nat) : (outsList st cnt).cnt = cnt := by
  unfold outsList; split <;> rfl

theorem outsList_view (st : Static) (cnt : Nat) : (outsList st cnt).view = List.replicate cnt none := by
  unfold outsList Static.view
  split
  · simp
  · rw [List.take_append_of_le_length (by simp)]
    simp

theorem view_length {st : Static} (h : Static.OK st) : st.view.length = st.cnt := by
  unfold Static.view
  simp only [List.length_map, List.length_take]
  have := h.1
  omega

theorem view_put {st : Static} (h : Static.OK st) (i : Nat) (o : UOut) (hi : i < st.cnt)
    (hp : st.idx < st.pool.length) : (st.put i o).view = st.view.set i (some o) := by
  apply List.ext_getElem?
  intro n
  unfold Static.view Static.put
  simp only [List.getElem?_map, List.getElem?_take, List.getElem?_set]
  by_cases hn : n < st.cnt
  · simp only [hn, ↓reduceIte]
    by_cases hin : i = n
    · subst hin
      have h1 : i < st.slots.length := by have := h.1; omega
      have h2 : i < min st.cnt st.slots.length := by omega
      simp [h1, h2, hp]
    · simp only [hin, ↓reduceIte]
      rcases hs : st.slots[n]? with _ | _ | p
      · simp
      · simp
      · have hlt := h.2 n p hn hs
        have : st.idx ≠ p := by omega
        simp [this]
  · have hin : i ≠ n := by omega
    simp [hn, hin]

theorem put_ok {st : Static} (h : Static.OK st) (i : Nat) (o : UOut) : Static.OK (st.put i o) := by
  unfold Static.put
  refine ⟨by simpa using h.1, ?_⟩
  intro n p hn hs
  simp only at hn hs ⊢
  rw [List.getElem?_set] at hs
  split at hs
  · split at hs
    · simp at hs; omega
    · simp at hs
  · have := h.2 n p hn hs
    omega

/-- whatever the static loop returns is what the stateless loop returns on the caller-visible buffer -/
theorem genStatic_sim (P : Parser) : ∀ (f : Nat) (rest : Bytes) (st st' : Static), Static.OK st →
    genStatic P f rest st = .ok st' → genPure P f rest st.view = .ok st'.view ∧ Static.OK st' := by
  intro f
  induction f with
  | zero =>
    intro rest st st' hok h
    simp only [genStatic] at h
    simp only [genPure]
    split at h
    · injection h with h; subst h; simp [*]
    · cases h
  | succ f ih =>
    intro rest st st' hok h
    simp only [genStatic] at h
    simp only [genPure]
    split at h
    · injection h with h; subst h; simp [*]
    · rename_i hne
      simp only [hne]
      cases hP : P rest with
      | none => simp only [hP] at h; cases h
      | some x =>
        obtain ⟨i, o, nxt⟩ := x
        simp only [hP] at h ⊢
        split at h
        · cases h
        · rename_i hc
          split at h
          · cases h
          · rename_i hpool
            have hs : shorter st.view (i + 1) = false :=
              (shorter_false_iff _ _).mpr (by rw [view_length hok]; omega)
            simp only [hs, Bool.false_eq_true, ↓reduceIte]
            have := ih nxt (st.put i o) st' (put_ok hok i o) h
            rw [view_put hok i o (by omega) (by omega)] at this
            exact this

/-- NewUtxoRecStatic returns exactly what NewUtxoRec returns on the same bytes, whatever is in the static buffers -/
theorem staticDec_sound (P : Parser) (dat : Bytes) (st st' : Static) (r : URec)
    (h : staticDec P dat st = .ok (r, st')) : genRec P dat = .ok r := by
  unfold staticDec at h
  unfold genRec
  cases hd : decHeader dat with
  | none => simp only [hd] at h; cases h
  | some x =>
    obtain ⟨txid, hh, c, rest⟩ := x
    simp only [hd] at h ⊢
    split at h
    · cases h
    · rename_i hc
      simp only [hc, ↓reduceIte]
      cases hg : genStatic P rest.length rest (outsList st (c / 2)) with
      | ok s2 =>
        simp only [hg] at h
        injection h with h
        injection h with h1 h2
        subst h2
        have := (genStatic_sim P rest.length rest _ s2 (outsList_ok st (c / 2)) hg).1
        rw [outsList_view] at this
        simp only [this]
        rw [← h1]
      | panic | hang => simp only [hg] at h; cases h

/-! ### the byte-level load -/

/-- the stored bytes decode (statelessly) to the records of the model's UTXO map, in scan order -/
def Stored (P : Parser) : List Bytes → Utxo → Prop
  | [], [] => True
  | b :: bs, p :: ps => (∃ r, genRec P b = .ok r ∧ toBal r = p.2) ∧ Stored P bs ps
  | _, _ => False

theorem loadLoop_done (P : Parser) (cfg : Cfg) (H : Bytes → Nat) (tick : Nat → Bool) :
    ∀ (raw : List Bytes) (u : Utxo) (n : Nat) (st st' : Static) (bal bal' : BalMap), Stored P raw u →
      loadLoop P cfg H tick raw n st bal = some (bal', st', false) → bal' = loadAll cfg H u bal := by
  intro raw
  induction raw with
  | nil =>
    intro u n st st' bal bal' hs h
    cases u with
    | nil => simp only [loadLoop] at h; injection h with h; injection h with h; simp [loadAll, h]
    | cons _ _ => cases hs
  | cons b bs ih =>
    intro u n st st' bal bal' hs h
    cases u with
    | nil => cases hs
    | cons p ps =>
      obtain ⟨⟨r, hr, hrp⟩, hs'⟩ := hs
      simp only [loadLoop] at h
      cases hd : staticDec P b st with
      | ok x =>
        obtain ⟨r', st1⟩ := x
        simp only [hd] at h
        have hr' := staticDec_sound P b st st1 r' hd
        rw [hr] at hr'
        injection hr' with hr'
        subst hr'
        split at h
        · injection h with h; injection h with _ h; injection h with _ h; cases h
        · simp only [loadAll, ← hrp]
          exact ih ps (n + 1) st1 st' _ bal' hs' h
      | panic | hang => simp only [hd] at h; cases h

/-- the loop reports `aborted` exactly when the tick fired at one of the records it reached -/
theorem loadLoop_flag (P : Parser) (cfg : Cfg) (H : Bytes → Nat) (tick : Nat → Bool) :
    ∀ (raw : List Bytes) (n : Nat) (st st' : Static) (bal bal' : BalMap) (a : Bool),
      loadLoop P cfg H tick raw n st bal = some (bal', st', a) →
      (a = true ↔ ∃ k, n < k ∧ k ≤ n + raw.length ∧ tick k = true) := by
  intro raw
  induction raw with
  | nil =>
    intro n st st' bal bal' a h
    simp only [loadLoop] at h
    injection h with h; injection h with _ h; injection h with _ h
    subst h
    simp only [Bool.false_eq_true, List.length_nil, Nat.add_zero, false_iff, not_exists]
    intro k hk; omega
  | cons b bs ih =>
    intro n st st' bal bal' a h
    simp only [loadLoop] at h
    cases hd : staticDec P b st with
    | ok x =>
      obtain ⟨r', st1⟩ := x
      simp only [hd] at h
      by_cases ht : tick (n + 1) = true
      · simp only [ht, ↓reduceIte] at h
        injection h with h; injection h with _ h; injection h with _ h
        subst h
        simp only [true_iff]
        exact ⟨n + 1, by omega, by simp, ht⟩
      · simp only [ht, Bool.false_eq_true, ↓reduceIte] at h
        rw [ih (n + 1) st1 st' _ bal' a h]
        constructor
        · rintro ⟨k, h1, h2, h3⟩
          exact ⟨k, by omega, by simp at h2 ⊢; omega, h3⟩
        · rintro ⟨k, h1, h2, h3⟩
          have : k ≠ n + 1 := by intro e; subst e; exact ht h3
          exact ⟨k, by omega, by simp at h2 ⊢; omega, h3⟩
    | panic | hang => simp only [hd] at h; cases h

/-- a completed byte-level load is the record-level `.enable` step of Model.Balances -/
theorem loadFromUtxo_completed (P : Parser) (H : Bytes → Nat) (tick : Nat → Bool) (s s' : State) (st st' : Static)
    (raw : List Bytes) (mn um : Nat) (hs : Stored P raw s.utxo)
    (hq : ∀ k, 1 ≤ k → k ≤ raw.length → tick k = false)
    (h : loadFromUtxo P H tick s st raw mn um = some (s', st')) : s' = step H s (.enable mn um) := by
  unfold loadFromUtxo at h
  simp only [step]
  split at h
  · rename_i hon
    injection h with h; injection h with h _; rw [← h]; simp [hon]
  · rename_i hon
    simp only [hon, Bool.false_eq_true, ↓reduceIte]
    cases hl : loadLoop P { min := mn, useMapCnt := um } H tick raw 0 st [] with
    | none => simp only [hl] at h; cases h
    | some x =>
      obtain ⟨bal, st1, a⟩ := x
      simp only [hl] at h
      have hf := loadLoop_flag P _ H tick raw 0 st st1 [] bal a hl
      have ha : a = false := by
        refine Bool.eq_false_iff.2 fun e => ?_
        obtain ⟨k, h1, h2, h3⟩ := hf.mp e
        cases (hq k (by omega) (by omega)).symm.trans h3
      subst ha
      simp only [Bool.false_eq_true, ↓reduceIte] at h
      injection h with h; injection h with h _
      rw [← h, loadLoop_done P _ H tick raw s.utxo 0 st st1 [] bal hs hl]

/-- an aborted load: maps empty, index off, UTXO untouched (cfg is re-read but only matters while on) -/
theorem loadFromUtxo_aborted (P : Parser) (H : Bytes → Nat) (tick : Nat → Bool) (s s' : State) (st st' : Static)
    (raw : List Bytes) (mn um : Nat) (hoff : s.on = false)
    (hq : ∃ k, 1 ≤ k ∧ k ≤ raw.length ∧ tick k = true)
    (h : loadFromUtxo P H tick s st raw mn um = some (s', st')) :
    s' = { s with cfg := { min := mn, useMapCnt := um }, bal := [], on := false } := by
  unfold loadFromUtxo at h
  simp only [hoff, Bool.false_eq_true, ↓reduceIte] at h
  cases hl : loadLoop P { min := mn, useMapCnt := um } H tick raw 0 st [] with
  | none => simp only [hl] at h; cases h
  | some x =>
    obtain ⟨bal, st1, a⟩ := x
    simp only [hl] at h
    have hf := loadLoop_flag P _ H tick raw 0 st st1 [] bal a hl
    obtain ⟨k, h1, h2, h3⟩ := hq
    have ha : a = true := hf.mpr ⟨k, by omega, by omega, h3⟩
    subst ha
    simp only [↓reduceIte] at h
    injection h with h; injection h with h _
    rw [← h]

/-! ### sequences of records through the static decoder -/

/-- decode the records one after the other through the same static buffers; `none` = some decode panicked -/
def staticSeq (P : Parser) : List Bytes → Static → Option (List URec)
  | [], _ => some []
  | b :: bs, st =>
    match staticDec P b st with
    | .ok (r, st') => (staticSeq P bs st').map (r :: ·)
    | _ => none

/-! ### totality of the static decoder on serialised well-formed records -/

def Static.Sized (st : Static) : Prop := st.pool.length = st.slots.length

theorem outsList_sized {st : Static} (h : Static.Sized st) (cnt : Nat) : Static.Sized (outsList st cnt) := by
  unfold outsList Static.Sized at *
  split
  · simp
  · simp; omega

theorem genStatic_sized (P : Parser) : ∀ (f : Nat) (rest : Bytes) (st st' : Static), Static.Sized st →
    genStatic P f rest st = .ok st' → Static.Sized st' := by
  intro f
  induction f with
  | zero =>
    intro rest st st' hs h
    simp only [genStatic] at h
    split at h
    · injection h with h; subst h; exact hs
    · cases h
  | succ f ih =>
    intro rest st st' hs h
    simp only [genStatic] at h
    split at h
    · injection h with h; subst h; exact hs
    · cases hP : P rest with
      | none => simp only [hP] at h; cases h
      | some x =>
        obtain ⟨i, o, nxt⟩ := x
        simp only [hP] at h
        split at h
        · cases h
        · split at h
          · cases h
          · exact ih nxt _ st' (by unfold Static.put Static.Sized at *; simpa using hs) h

theorem genStatic_nil (P : Parser) (f : Nat) (st : Static) : genStatic P f [] st = .ok st := by
  cases f <;> simp [genStatic]

section
variable (F : OutFmt)

/-- The static loop never panics on a section of the format: slot indices increase strictly, so `rec_idx ≤ slot index < cnt`. -/
theorem genStatic_fmt (suf : List (Option UOut)) : ∀ (i fuel : Nat) (st : Static),
    (F.enc i suf).length ≤ fuel → i + suf.length < 2 ^ 64 → (∀ x, some x ∈ suf → F.WF x) → Static.OK st → st.idx ≤ i →
    i + suf.length ≤ st.cnt → st.cnt ≤ st.pool.length → ∃ st', genStatic F.P fuel (F.enc i suf) st = .ok st' := by
  induction suf with
  | nil => intro i fuel st _ _ _ _ _ _ _; exact ⟨st, by rw [F.enc_nil, genStatic_nil]⟩
  | cons o t ih =>
    intro i fuel st hf hlen hwf hok hidx hcnt hpool
    have hwt : ∀ x, some x ∈ t → F.WF x := fun x hx => hwf x (List.mem_cons_of_mem _ hx)
    simp only [List.length_cons] at hlen hcnt
    cases o with
    | none =>
      rw [F.enc_none] at hf ⊢
      exact ih (i + 1) fuel st hf (by omega) hwt hok (by omega) (by omega) hpool
    | some x =>
      obtain ⟨f, rfl, hf'⟩ := F.fuel_pos hf
      rw [F.enc_some]
      simp only [genStatic, UtxoRec.putULe_append_isEmpty, Bool.false_eq_true, ↓reduceIte, F.ent i x _ (by omega) (hwf x (by simp))]
      have h1 : ¬ st.cnt < i + 1 := by omega
      have h2 : ¬ st.pool.length ≤ st.idx := by omega
      simp only [h1, h2, ↓reduceIte]
      exact ih (i + 1) f (st.put i x) hf' (by omega) hwt (put_ok hok i x) (by simp [Static.put]; omega)
        (by simp [Static.put]; omega) (by simp [Static.put]; omega)

end

theorem outsList_pool {st : Static} (h : Static.Sized st) (cnt : Nat) : cnt ≤ (outsList st cnt).pool.length := by
  unfold outsList Static.Sized at *
  split
  · simp
  · simp only; omega

theorem outsList_idx (st : Static) (cnt : Nat) : (outsList st cnt).idx = 0 := by
  unfold outsList; split <;> rfl

section
variable (F : OutFmt)

/-- `NewUtxoRecStatic(Serialize(rec))` returns `rec`, from any buffers of equal length -/
theorem staticDec_total (r : URec) (h : F.WFRec r) (b : Bytes) (hs : F.ser r = some b) (st : Static)
    (hz : Static.Sized st) : ∃ st', staticDec F.P b st = .ok (r, st') ∧ Static.Sized st' := by
  have hrt := UtxoRec.genRec_ser F r h b hs
  unfold OutFmt.ser at hs
  split at hs
  · injection hs with hs; subst hs
    have hc : ¬ (r.outs.length > maxOuts) := by have := h.count; unfold maxOuts; omega
    obtain ⟨s2, hg⟩ := genStatic_fmt F r.outs 0 (F.enc 0 r.outs).length (outsList st r.outs.length) (Nat.le_refl _)
      (by have := h.count; omega) h.outs (outsList_ok _ _) (by rw [outsList_idx]; exact Nat.le_refl _)
      (by rw [outsList_cnt]; omega) (by rw [outsList_cnt]; exact outsList_pool hz _)
    obtain ⟨r', hd⟩ : ∃ r', staticDec F.P (r.txid ++ (putULe r.inBlock ++ (putULe (UtxoRec.outcnt r) ++ F.enc 0 r.outs))) st
        = .ok (r', s2) := by
      unfold staticDec
      rw [UtxoRec.decHeader_ser r h.txid h.height h.count]
      simp only [UtxoRec.outcnt_div, hc, ↓reduceIte, hg]
      exact ⟨_, rfl⟩
    have := staticDec_sound F.P _ st s2 r' hd
    rw [hrt] at this
    injection this with e
    subst e
    exact ⟨s2, hd, genStatic_sized F.P _ _ _ s2 (outsList_sized hz _) hg⟩
  · simp at hs

end

theorem static_init_sized (n : Nat) : Static.Sized (Static.init n) := by
  unfold Static.Sized Static.init; simp

/-! ### totality of the byte-level load -/

/-- every stored record is read back by the static decoder from any sized buffer state -/
def Readable (P : Parser) (raw : List Bytes) : Prop :=
  ∀ b ∈ raw, ∀ st, Static.Sized st → ∃ r st', staticDec P b st = .ok (r, st') ∧ Static.Sized st'

theorem loadLoop_total (P : Parser) (cfg : Cfg) (H : Bytes → Nat) (tick : Nat → Bool) :
    ∀ (raw : List Bytes), Readable P raw → ∀ (n : Nat) (st : Static) (bal : BalMap), Static.Sized st →
      ∃ bal' st' a, loadLoop P cfg H tick raw n st bal = some (bal', st', a) ∧ Static.Sized st' := by
  intro raw
  induction raw with
  | nil => intro _ n st bal hz; exact ⟨bal, st, false, rfl, hz⟩
  | cons b bs ih =>
    intro hr n st bal hz
    obtain ⟨r, st1, hd, hz1⟩ := hr b (by simp) st hz
    simp only [loadLoop, hd]
    by_cases ht : tick (n + 1) = true
    · simp only [ht, ↓reduceIte]; exact ⟨_, st1, true, rfl, hz1⟩
    · simp only [ht, Bool.false_eq_true, ↓reduceIte]
      exact ih (fun b' hb' => hr b' (List.mem_cons_of_mem _ hb')) (n + 1) st1 _ hz1

theorem loadFromUtxo_total (P : Parser) (H : Bytes → Nat) (tick : Nat → Bool) (s : State) (st : Static)
    (raw : List Bytes) (mn um : Nat) (hr : Readable P raw) (hz : Static.Sized st) :
    ∃ s' st', loadFromUtxo P H tick s st raw mn um = some (s', st') ∧ Static.Sized st' := by
  unfold loadFromUtxo
  split
  · exact ⟨s, st, rfl, hz⟩
  · obtain ⟨bal, st1, a, hl, hz1⟩ := loadLoop_total P { min := mn, useMapCnt := um } H tick raw hr 0 st [] hz
    simp only [hl]
    cases a <;> exact ⟨_, st1, rfl, hz1⟩

theorem readable_of_serialized (P : Parser) (ser : URec → Option Bytes) (rs : List URec)
    (tot : ∀ r ∈ rs, ∀ b st, ser r = some b → Static.Sized st → ∃ st', staticDec P b st = .ok (r, st') ∧ Static.Sized st') :
    ∀ (raw : List Bytes), rs.map ser = raw.map some → Readable P raw := by
  intro raw h b hb st hz
  obtain ⟨r, hr, hs⟩ := List.mem_map.mp (h ▸ List.mem_map.mpr ⟨b, hb, rfl⟩ : some b ∈ rs.map ser)
  exact ⟨r, tot r hr b st hs hz⟩

/-! ### over a format of the output section -/

section
variable (F : OutFmt)

/-- sequences of serialised records through the static decoder: no panic, exactly the records -/
theorem staticSeq_fmt (rs : List URec) (hwf : ∀ r ∈ rs, F.WFRec r) (bs : List Bytes)
    (hser : rs.map F.ser = bs.map some) (st : Static) (hz : Static.Sized st) : staticSeq F.P bs st = some rs := by
  have hp := UtxoRec.forall₂_ser _ _ rs bs hwf hser
  clear hwf hser
  induction hp generalizing st with
  | nil => rfl
  | cons hrb _ ih =>
    obtain ⟨st1, hd, hz1⟩ := staticDec_total F _ hrb.1 _ hrb.2 st hz
    simp only [staticSeq, hd, ih st1 hz1]
    rfl

/-- the same for runs in which no decode panics, from any buffer state -/
theorem staticSeq_fmt_partial (rs : List URec) (hwf : ∀ r ∈ rs, F.WFRec r) (bs : List Bytes)
    (hser : rs.map F.ser = bs.map some) (st : Static) (out : List URec)
    (h : staticSeq F.P bs st = some out) : out = rs := by
  have hp := UtxoRec.forall₂_ser _ _ rs bs hwf hser
  clear hwf hser
  induction hp generalizing st out with
  | nil => simp only [staticSeq] at h; injection h with h; exact h.symm
  | @cons r b _ bs hrb _ ih =>
    simp only [staticSeq] at h
    cases hd : staticDec F.P b st with
    | ok x =>
      obtain ⟨r', st1⟩ := x
      simp only [hd] at h
      have hr := staticDec_sound F.P b st st1 r' hd
      rw [UtxoRec.genRec_ser F r hrb.1 b hrb.2] at hr
      injection hr with hr
      cases ho : staticSeq F.P bs st1 with
      | none => simp [ho] at h
      | some o2 =>
        simp only [ho, Option.map_some, Option.some.injEq] at h
        rw [← h, ih st1 o2 ho, hr]
    | panic | hang => simp only [hd] at h; cases h

/-- the serialisations of the records of the unspent set are `Stored` -/
theorem stored_fmt (rs : List URec) (hwf : ∀ r ∈ rs, F.WFRec r) (raw : List Bytes) (hser : rs.map F.ser = raw.map some)
    (u : Utxo) (hu : rs.map toBal = u.map Prod.snd) : Stored F.P raw u := by
  have hp := UtxoRec.forall₂_ser _ _ rs raw hwf hser
  clear hwf hser
  induction hp generalizing u with
  | nil => cases u with
    | nil => trivial
    | cons _ _ => simp at hu
  | cons hrb _ ih =>
    cases u with
    | nil => simp at hu
    | cons p ps =>
      simp only [List.map_cons, List.cons.injEq] at hu
      exact ⟨⟨_, UtxoRec.genRec_ser F _ hrb.1 _ hrb.2, hu.1⟩, ih ps hu.2⟩

/-- the byte-level load is total on the serialisations of well-formed records, and is the record-level step -/
theorem load_fmt (H : Bytes → Nat) (tick : Nat → Bool) (s : State) (st : Static) (mn um : Nat)
    (rs : List URec) (hwf : ∀ r ∈ rs, F.WFRec r) (raw : List Bytes)
    (hser : rs.map F.ser = raw.map some) (hu : rs.map toBal = s.utxo.map Prod.snd)
    (hz : Static.Sized st) :
    ∃ s' st', loadFromUtxo F.P H tick s st raw mn um = some (s', st') ∧ Static.Sized st' ∧
      ((∀ k, 1 ≤ k → k ≤ raw.length → tick k = false) → s' = step H s (.enable mn um)) ∧
      (s.on = false → (∃ k, 1 ≤ k ∧ k ≤ raw.length ∧ tick k = true) →
        s' = { s with cfg := { min := mn, useMapCnt := um }, bal := [], on := false }) := by
  obtain ⟨s', st', h, hz'⟩ := loadFromUtxo_total F.P H tick s st raw mn um (readable_of_serialized _ _ rs
    (fun r hr b st hs hz => staticDec_total F r (hwf r hr) b hs st hz) raw hser) hz
  have hs := stored_fmt F rs hwf raw hser s.utxo hu
  exact ⟨s', st', h, hz', fun hq => loadFromUtxo_completed F.P H tick s s' st st' raw mn um hs hq h,
    fun hoff hq => loadFromUtxo_aborted F.P H tick s s' st st' raw mn um hoff hq h⟩
end

end GocoinV.Proofs.C17Load
