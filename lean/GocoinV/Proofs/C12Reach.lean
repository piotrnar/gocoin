/-
  Proofs.C12Reach — what the pool side can do, said once: `Prim`, the steps of which every operation that leaves the
  chain side alone (the two submissions, expiry, eviction, rebuild of the list, save + load, tip move, commit flag) and the
  orphan loop `txAccepted` are chains (`Reach`), so that an invariant is proved step by step (`Reach.inv`) and not
  operation by operation.  Core Lean only.

  The steps are not the smallest state changes (rejectTx, Add, Delete of one record …) but the points at which what an
  invariant needs is in the hands of the code: `processTx` at a submission (the txid neither pooled nor rejected), one
  re-submission of the orphan loop (the record found on the rejected list), Delete with children of a pooled record,
  Delete of a pooled, child-less one.  Below these the facts are not local: the structural invariant needs the
  transaction of a `rejectTx` to belong to the history, which a re-submission knows from the rejected list two changes
  earlier; the reject-list invariant needs the key of a `rejectTx` free, which follows from the state before the record
  left the list; the pool invariant does not hold between the Deletes of a replacement.
  Blocks are outside: under `txMined` / `BlockUndone` the pool invariant holds against a confirmed set that moves with
  the loop, and the reject-list invariant needs the RejectedSpentOutputs loop as a whole; their lemmas stand by
  themselves and use the chains below for the `txAccepted` / `expire` they end with.
-/
import GocoinV.Proofs.C12
namespace GocoinV.Mempool

/-- one re-submission of the txAccepted loop: the record `txr` (transaction `t`) that waits for `cur` has left the
    rejected list and goes through processTx again; refused for a missing output of the very parent being drained, it
    is rejected for good (a `fix:` commit of the repository) -/
def resubmit (K : Keys) (mf : Nat) (s : State) (cur : Nat) (txr : Rej) (t : Tx) : Nat × State :=
  let r := processTx K mf (rejDelete K s txr) t {}
  (r.1, if r.1 = R_NO_TXOU then
      match r.2.waiting.get? cur with
      | some (_, ids') =>
        if ids'.contains (K.bidx t.id) then rejectTx K (rejDeleteByIdx K r.2 (K.bidx t.id)) t R_BAD_INPUT none else r.2
      | none => r.2
    else r.2)

theorem resubmit_cases {P : State → Prop} (K : Keys) (mf : Nat) (s : State) (cur : Nat) (txr : Rej) (t : Tx)
    (plain : P (processTx K mf (rejDelete K s txr) t {}).2)
    (back : (processTx K mf (rejDelete K s txr) t {}).1 = R_NO_TXOU →
      P (rejectTx K (rejDeleteByIdx K (processTx K mf (rejDelete K s txr) t {}).2 (K.bidx t.id)) t R_BAD_INPUT none)) :
    P (resubmit K mf s cur txr t).2 := by
  unfold resubmit
  dsimp only
  refine ite_cases (fun hr => ?_) fun _ => plain
  cases (processTx K mf (rejDelete K s txr) t {}).2.waiting.get? cur with
  | none => exact plain
  | some p => exact ite_cases (fun _ => back hr) fun _ => plain

theorem needThisTx_zero (K : Keys) (s : State) (id : TxId) (h : ¬ needThisTx K s id ≠ 0) :
    s.pool.get? (K.bidx id) = none ∧ s.rej.get? (K.bidx id) = none := by
  unfold needThisTx at h
  dsimp only at h
  constructor
  · cases hx : s.pool.get? (K.bidx id) with
    | none => rfl
    | some x => simp [AList.has, hx] at h
  · cases hx : s.rej.get? (K.bidx id) with
    | none => rfl
    | some x =>
      exfalso
      apply h
      split
      · decide
      · simp [AList.has, hx]

/-- one step of the pool side, with what the code has established when it takes it; `W` = the transactions that may
    come in from outside -/
inductive Prim (K : Keys) (W : Tx → Prop) : State → State → Prop
  | panic (s : State) : Prim K W s { s with panicked := true }
  | rejDel (s : State) (b : Nat) (r : Rej) : s.rej.get? b = some r → Prim K W s (rejDelete K s r)
  | resubmit (s : State) (mf cur first : Nat) (txr : Rej) (t : Tx) : s.rej.get? first = some txr → txr.tx = some t →
      Prim K W s (resubmit K mf s cur txr t).2
  | submit (s : State) (mf : Nat) (t : Tx) (fl : Flags) : W t → fl.unmined = false →
      s.pool.get? (K.bidx t.id) = none → s.rej.get? (K.bidx t.id) = none → Prim K W s (processTx K mf s t fl).2
  | markLocal (s : State) (id : TxId) : Prim K W s (markLocal K s id)
  | delTree (s : State) (b : Nat) (t : T2S) : s.pool.get? b = some t →
      Prim K W s (delWithChildren K 0 (s.pool.length + 1) s t)
  | evictOne (s : State) (b : Nat) (t : T2S) : s.pool.get? b = some t → hasNoChildren K s t = true →
      Prim K W s (delOne K s t 0)
  | resort (s : State) : Prim K W s (buildSorted K s)
  | reload (s : State) : Prim K W s (reload K s)
  | tip (s : State) (h : Nat) : Prim K W s { s with height := h }
  | commitFlag (s : State) (y : Bool) : Prim K W s { s with sortDisabled := y }

inductive Reach (K : Keys) (W : Tx → Prop) : State → State → Prop
  | refl (s : State) : Reach K W s s
  | tail {s s1 s2 : State} : Reach K W s s1 → Prim K W s1 s2 → Reach K W s s2

variable {K : Keys} {W : Tx → Prop}

theorem Reach.inv {I : State → Prop} (hI : ∀ s s', Prim K W s s' → I s → I s') {s s' : State}
    (r : Reach K W s s') (h : I s) : I s' := by
  induction r with
  | refl => exact h
  | tail _ p ih => exact hI _ _ p ih

theorem Reach.one {s s' : State} (p : Prim K W s s') : Reach K W s s' := .tail (.refl s) p

theorem Reach.trans {a b c : State} (h1 : Reach K W a b) (h2 : Reach K W b c) : Reach K W a c :=
  h2.inv (fun _ _ p h => h.tail p) h1

/-! ### the operations as chains -/

theorem rejDeleteByIdx_reach (s : State) (b : Nat) : Reach K W s (rejDeleteByIdx K s b) := by
  unfold rejDeleteByIdx
  cases h : s.rej.get? b with
  | some r => exact .one (.rejDel s b r h)
  | none => exact .refl s

/-- the txAccepted loop: the process dies, a record leaves the rejected list, a record is re-submitted -/
theorem txAcceptedAux_reach (mf : Nat) : ∀ (fuel : Nat) (s0 s : State) (recs : List Nat) (d : Nat), Reach K W s0 s →
    Reach K W s0 (txAcceptedAux K mf fuel s recs d) := by
  intro fuel
  induction fuel with
  | zero => intro s0 s recs d h; exact h.tail (.panic s)
  | succ n ih =>
    intro s0 s recs d h
    unfold txAcceptedAux
    cases recs[d]? with
    | none => exact h
    | some cur =>
      dsimp only
      cases s.waiting.get? cur with
      | none => exact ih _ _ _ _ h
      | some p =>
        obtain ⟨id, ids⟩ := p
        cases ids with
        | nil => exact h.tail (.panic s)
        | cons first rest =>
          dsimp only
          cases htxr : s.rej.get? first with
          | none => exact h.tail (.panic s)
          | some txr =>
            dsimp only
            cases htx : txr.tx with
            | none => exact (h.tail (.rejDel s first txr htxr)).tail (.panic _)
            | some t => exact ih _ _ _ _ (h.tail (.resubmit s mf cur first txr t htxr htx))

theorem txAccepted_reach (mf : Nat) (s : State) (b : Nat) : Reach K W s (txAccepted K mf s b) :=
  txAcceptedAux_reach mf _ s s _ _ (.refl s)

/-- ParseTxNet + HandleNetTx: a known txid is dropped; an unknown one (neither pooled nor rejected) goes through
    processTx and, accepted, through txAccepted -/
theorem submitNet_reach (mf : Nat) (s : State) (t : Tx) (tr : Bool) (ht : W t) :
    Reach K W s (submitNet K mf s t tr).2 := by
  unfold submitNet
  dsimp only
  refine ite_cases (P := fun (x : Nat × State) => Reach K W s x.2) (fun _ => .refl s) fun hn => ?_
  obtain ⟨hp, hf⟩ := needThisTx_zero K s t.id hn
  have h2 : Reach K W s (processTx K mf s t { trusted := tr }).2 := .one (.submit s mf t _ ht rfl hp hf)
  exact ite_cases (P := fun (x : Nat × State) => Reach K W s x.2) (fun _ => h2.trans (txAccepted_reach mf _ _)) fun _ => h2

/-- usif.LoadRawTx + SubmitLocalTx: the same after DeleteRejectedByIdx; a pooled txid is marked Local -/
theorem submitLocal_reach (mf : Nat) (s : State) (t : Tx) (ht : W t) : Reach K W s (submitLocal K mf s t).2 := by
  have h1 : Reach K W s (rejDeleteByIdx K s (K.bidx t.id)) := rejDeleteByIdx_reach s _
  unfold submitLocal
  dsimp only
  refine ite_cases (P := fun (x : Nat × State) => Reach K W s x.2) (fun _ => h1.tail (.markLocal _ _)) fun hn => ?_
  obtain ⟨hp, hf⟩ := needThisTx_zero K _ t.id hn
  have h2 := h1.tail (.submit _ mf t { trusted := true, loc := true } ht rfl hp hf)
  exact ite_cases (P := fun (x : Nat × State) => Reach K W s x.2) (fun _ => h2.trans (txAccepted_reach mf _ _)) fun _ => h2

theorem expire_reach : ∀ (old : List Nat) (s0 s : State), Reach K W s0 s → Reach K W s0 (expire K s old) := by
  intro old s0 s h
  refine foldl_inv (Reach K W s0) _ (fun s b h => ?_) old s h
  cases hb : s.pool.get? b with
  | some t => exact h.tail (.delTree s b t hb)
  | none => exact h

theorem evict_reach (l : List Nat) (s s' : State) (he : evict K s l = some s') : Reach K W s s' :=
  evict_ind (I := Reach K W s) K (fun s1 b t h ht hc => h.tail (.evictOne s1 b t ht hc)) l s s' (.refl s) he

end GocoinV.Mempool
