/-
  Proofs.C12PanicUndo — the two panic branches of `blockUndone` (os.Exit(1): processTx with flags {trusted, unmined}
  returned a code ≠ 0; and: the record just added is not in the map), one iteration (`undoneStep`).

  Proved here (per iteration, in terms of the state `cur` at the iteration for the undone transaction `X`): if
    (ns)  no pooled record spends an input of `X`                       [SpentOutputs has no entry for its UIdxs],
    (in)  every input of `X` names an existing output of a pooled record, or — no record being pooled under the BIDX of
          its previous txid — an unspent output of the rolled-back confirmed set,
    (val) `X` does not overspend by the value oracle: Σ outs ≤ Σ ν(inputs) in uint64 arithmetic,
  then processTx returns 0, the record is in the map, and the iteration is `unminedFlags` after `addT2S`; its panic flag is
  the one `addT2S` (AddToSort, see C12PanicSort) leaves.
  (ns), (in), (val) are NOT consequences of `Full` + `UndoCommitTxs` as these are stated in Proofs/C12Run / C12Block:
  see the `-- OPEN:` note at the end of the file.  Core Lean only.
-/
import GocoinV.Proofs.C12PanicFlags
import GocoinV.Proofs.C12Run
namespace GocoinV.Mempool

/-- the flags with which BlockUndone calls processTx -/
abbrev undoFl : Flags := { trusted := true, unmined := true }

/-- (in) for one input -/
def InAvail (K : Keys) (s : State) (i : TxIn) : Prop :=
  (∃ par, s.pool.get? (K.bidx i.prev) = some par ∧ i.vout < par.tx.outs.length) ∨
  (s.pool.get? (K.bidx i.prev) = none ∧ ∃ c, s.utxo.get? (i.prev, i.vout) = some c)

theorem inputStep_unmined_ok (K : Keys) (s : State) (a : Acc) (i : TxIn)
    (hns : s.spent.get? (K.uidx i.prev i.vout) = none) (hin : InAvail K s i) :
    ∃ a1, inputStep K s undoFl a i = .ok a1 ∧ a1.rbf = a.rbf := by
  unfold inputStep
  simp only [bind, Except.bind, pure, Except.pure, hns]
  rcases hin with ⟨par, hp, hlt⟩ | ⟨hp, c, hc⟩
  · simp only [hp]
    rw [if_neg (by omega)]
    exact ⟨_, rfl, rfl⟩
  · simp only [hp, hc]
    exact ⟨_, rfl, rfl⟩

theorem inputs_unmined_ok (K : Keys) (s : State) : ∀ (ins : List TxIn) (a : Acc),
    (∀ i ∈ ins, s.spent.get? (K.uidx i.prev i.vout) = none) → (∀ i ∈ ins, InAvail K s i) →
    ∃ a', ins.foldlM (inputStep K s undoFl) a = .ok a' ∧ a'.rbf = a.rbf := by
  intro ins
  induction ins with
  | nil => intro a _ _; exact ⟨a, rfl, rfl⟩
  | cons i r ih =>
    intro a hns hin
    rw [List.forall_mem_cons] at hns hin
    obtain ⟨a1, h1, e1⟩ := inputStep_unmined_ok K s a i hns.1 hin.1
    obtain ⟨a', h2, e2⟩ := ih a1 hns.2 hin.2
    refine ⟨a', ?_, e2.trans e1⟩
    simp only [List.foldlM_cons, bind, Except.bind, h1]
    exact h2

theorem spendsReplaced_nil (K : Keys) (ins : List TxIn) (fm : List Bool) : spendsReplaced K ins fm [] = false := by
  unfold spendsReplaced
  rw [List.any_eq_false]
  intro p _
  simp

/-- under (ns), (in), (val) processTx on the unmined path accepts: it returns 0 and adds the record, replacing nothing -/
theorem processTx_unmined_accept {K : Keys} {W : Tx → Prop} {rank : TxId → Nat} {u0 : UT} {ν : OutPoint → Nat}
    (U : Univ2 K W rank u0 ν) (mf : Nat) (s : State) (X : Tx) (hX : W X) (hb : InvR K W s)
    (hV : ∀ o c, s.utxo.get? o = some c → c.value = ν o)
    (hns : ∀ i ∈ X.ins, s.spent.get? (K.uidx i.prev i.vout) = none)
    (hin : ∀ i ∈ X.ins, InAvail K s i)
    (hval : sumU64 X.outs ≤ sumν ν X.ins 0) :
    ∃ a, processTx K mf s X undoFl = (0, addT2S K s (newRec X a false)) := by
  obtain ⟨a, ha, (hrbf : a.rbf = [])⟩ := inputs_unmined_ok K s X.ins {} hns hin
  have hres : ∀ i ∈ X.ins, ∀ m v, Res K s i m v → v = ν (i.prev, i.vout) := by
    intro i hi m v hr
    rcases hr with ⟨_, par, hp, _, e⟩ | ⟨_, c, hc, e⟩
    · rw [e, ← parent_id U hb hX hi hp]
      exact (U.val_tx _ (hb.poolW _ _ hp) _).symm
    · rw [e]; exact hV _ c hc
  obtain ⟨_, _, _, f3, _⟩ := inputs_res K s undoFl ν X.ins {} a hres ha
  have hov : ¬ sumU64 X.outs > a.totinp := by
    rw [f3]
    show ¬ sumU64 X.outs > sumν ν X.ins 0
    omega
  refine ⟨a, ?_⟩
  unfold processTx
  rw [if_neg (by simp), if_neg (by simp)]
  simp only [ha]
  rw [hrbf, spendsReplaced_nil, if_neg (by simp), if_neg hov, if_neg (by simp), if_neg (by simp), if_neg (by simp)]
  rfl

/-- one iteration of BlockUndone: in a state `cur` with the structural invariant `InvR`, under (ns), (in), (val) for the
    undone transaction `X`, neither panic branch of BlockUndone is taken: processTx returns 0 and the record is in the
    map, the iteration is `unmined` of the record `Add` just put in; its panic flag is the one `Add` leaves
    (C12PanicSort `addT2S_panicked`: unchanged, unless AddToSort runs into the fall-through of `fixIndex`). -/
theorem undoneStep_no_exit {K : Keys} {W : Tx → Prop} {rank : TxId → Nat} {u0 : UT} {ν : OutPoint → Nat}
    (U : Univ2 K W rank u0 ν) (mf : Nat) (cur : State) (X : Tx) (hX : W X) (hb : InvR K W cur)
    (hV : ∀ o c, cur.utxo.get? o = some c → c.value = ν o)
    (hns : ∀ i ∈ X.ins, cur.spent.get? (K.uidx i.prev i.vout) = none)
    (hin : ∀ i ∈ X.ins, InAvail K cur i)
    (hval : sumU64 X.outs ≤ sumν ν X.ins 0) :
    ∃ a, (processTx K mf (rejDeleteByIdx K cur (K.bidx X.id)) X undoFl).1 = 0 ∧
      (processTx K mf (rejDeleteByIdx K cur (K.bidx X.id)) X undoFl).2.pool.get? (K.bidx X.id)
        = some (newRec X a false) ∧
      undoneStep K mf cur X = unminedFlags K (addT2S K (rejDeleteByIdx K cur (K.bidx X.id)) (newRec X a false))
        (newRec X a false) ∧
      (undoneStep K mf cur X).panicked
        = (addT2S K (rejDeleteByIdx K cur (K.bidx X.id)) (newRec X a false)).panicked := by
  have c := rejDeleteByIdx_core K cur (K.bidx X.id)
  have hb1 : InvR K W (rejDeleteByIdx K cur (K.bidx X.id)) := InvR_of_frame hb (rejDeleteByIdx_frame K W cur _)
  have hns1 : ∀ i ∈ X.ins, (rejDeleteByIdx K cur (K.bidx X.id)).spent.get? (K.uidx i.prev i.vout) = none := by
    rw [c.2.1]; exact hns
  have hin1 : ∀ i ∈ X.ins, InAvail K (rejDeleteByIdx K cur (K.bidx X.id)) i := by
    unfold InAvail; rw [c.1, c.2.2.1]; exact hin
  obtain ⟨a, hacc⟩ := processTx_unmined_accept U mf _ X hX hb1 (by rw [c.2.2.1]; exact hV) hns1 hin1 hval
  have hpool : (addT2S K (rejDeleteByIdx K cur (K.bidx X.id)) (newRec X a false)).pool.get? (K.bidx X.id)
      = some (newRec X a false) := by
    rw [(addT2S_pool_spent K _ _).1]
    exact AList.get?_set_self _ _ _
  have hstep : undoneStep K mf cur X
      = unminedFlags K (addT2S K (rejDeleteByIdx K cur (K.bidx X.id)) (newRec X a false)) (newRec X a false) := by
    unfold undoneStep
    dsimp only
    rw [hacc]
    simp only [if_true, hpool]
  refine ⟨a, by rw [hacc], by rw [hacc]; exact hpool, hstep, ?_⟩
  rw [hstep]
  have hI : InvS K (addT2S K (rejDeleteByIdx K cur (K.bidx X.id)) (newRec X a false)) :=
    addT2S_InvS K _ _ hb1.str (fresh_of_unspent U.base _ X hX hb1 hns1) (List.forall_mem_map.mpr hns1)
  exact (unminedFlags_panicked hI _).1

/-
-- OPEN: the statement over the whole loop,
--   theorem blockUndone_no_exit … (hd : disconnectUtxo s = some (s', txs)) (F : Full K W u0 ν s)
--     (uc : UndoCommitTxs u0 ν s s' txs) : (blockUndone K mf s' txs).panicked = s'.panicked
-- is NOT provable from `Full` + `UndoCommitTxs` as stated in Proofs/C12Block / C12Run: three facts of a VALID block
-- that are used by (ns), (in), (val) above are not among their conjuncts and would have to be added as hypotheses:
--   (H1) restored:  ∀ pre X post, txs = pre ++ X :: post → ∀ i ∈ X.ins,
--                     inU s' (i.prev, i.vout) ∨ ∃ Y ∈ pre, i.prev = Y.id ∧ i.vout < Y.outs.length
--        (`UndoCommitTxs` has `gone` and `keep` only: nothing says that what the block spent is unspent again, nor that
--         an in-block parent stands BEFORE its child and has that output — without it: R_NO_TXOU resp. R_BAD_INPUT);
--   (H2) no double spend inside the block: txs.Pairwise (fun Y X => ∀ o ∈ Y.inOps, o ∉ X.inOps)
--        (`ChainOK.nd` is per transaction; with a double spend the later transaction replaces the earlier one on the
--         unmined path — rbfStep is not strict there — and a child of the replaced one then fails with R_NO_TXOU);
--   (H3) value-validity: ∀ X ∈ txs, sumU64 X.outs ≤ sumν ν X.ins 0      (not part of ChainOK; without it: R_OVERSPEND).
-- With H1–H3 the loop invariant is: PoolOK against `AWith s' rest` (as in `blockUndone_good`) ∧ "no pooled record
-- spends an input of a transaction of `rest`" ∧ "the transactions of `pre` are pooled"; (ns) at the start follows from
-- PGood + ChainOK.c1/c2 of `s` (an unflagged pooled input is unspent in `s`, a flagged one names a pooled, hence
-- unconfirmed, id — the inputs of a connected transaction are spent and name confirmed ids). Not carried out here;
-- besides, `undoneStep_ok` needs `panicked = false` of the result, which in turn needs the `fixIndex`
-- fall-through of AddToSort excluded at every iteration (C12PanicSort `FixFall`).
-/

end GocoinV.Mempool
