/-
  Proofs.C20Heap — what the link writes of Model/Alloc.lean's pointer layer (hPush, hPop, hUnlinkG,
  hLinkPage, hUnlinkPage) do to each pointer field, as closed formulas.  The back-link writes are there
  because the generated facts `lnk*` (regenerated from the Go source) are `true`.
-/
import GocoinV.Proofs.C20DL
namespace GocoinV.Alloc
open GocoinV.Gen.MemClasses

def nxG (g : Heap) (x : Slot) : Option Slot := (g.N x).next
def pvG (g : Heap) (x : Slot) : Option Slot := (g.N x).prev
def nxP (g : Heap) (x : Slot) : Option Slot := (g.N x).nextInPage
def pvP (g : Heap) (x : Slot) : Option Slot := (g.N x).prevInPage
def nxH (g : Heap) (p : Nat) : Option Nat := (g.H p).next
def pvH (g : Heap) (p : Nat) : Option Nat := (g.H p).prev

namespace Heap
/- The six "other field" equations below hold by `rfl`, but are proved by unfolding: as `rfl` lemmas `simp` would
   apply them without leaving a proof step, and the kernel, asked to compare the two heaps again, unfolds the
   written map down to the hash table before it gives up on the short way. -/
theorem N_setN (g : Heap) (x y : Slot) (f : Node → Node) :
    (g.setN x f).N y = if x = y then f (g.N x) else g.N y := by
  simp only [N, setN, KMap.get?_set]; split <;> rfl
@[simp] theorem H_setN (g : Heap) (x : Slot) (f : Node → Node) (p : Nat) : (g.setN x f).H p = g.H p := by
  simp only [H, setN]
@[simp] theorem C_setN (g : Heap) (x : Slot) (f : Node → Node) (c : Nat) : (g.setN x f).C c = g.C c := by
  simp only [C, setN]
theorem H_setH (g : Heap) (p q : Nat) (f : PHdr → PHdr) :
    (g.setH p f).H q = if p = q then f (g.H p) else g.H q := by
  simp only [H, setH, KMap.get?_set]; split <;> rfl
@[simp] theorem N_setH (g : Heap) (p : Nat) (f : PHdr → PHdr) (x : Slot) : (g.setH p f).N x = g.N x := by
  simp only [N, setH]
@[simp] theorem C_setH (g : Heap) (p : Nat) (f : PHdr → PHdr) (c : Nat) : (g.setH p f).C c = g.C c := by
  simp only [C, setH]
theorem C_setC (g : Heap) (c d : Nat) (f : PCls → PCls) :
    (g.setC c f).C d = if c = d then f (g.C c) else g.C d := by
  simp only [C, setC, KMap.get?_set]; split <;> rfl
@[simp] theorem N_setC (g : Heap) (c : Nat) (f : PCls → PCls) (x : Slot) : (g.setC c f).N x = g.N x := by
  simp only [N, setC]
@[simp] theorem H_setC (g : Heap) (c : Nat) (f : PCls → PCls) (p : Nat) : (g.setC c f).H p = g.H p := by
  simp only [H, setC]
/-- A field `π` of the node at `y` after a write at `x`.  Both branches read the old heap at the queried key `y`, so
    reading through a sequence of writes stays linear, and a write that leaves `π` alone collapses by `ite_self`. -/
theorem N_setN_at {β : Type} (π : Node → β) (g : Heap) (x y : Slot) (f : Node → Node) :
    π ((g.setN x f).N y) = if x = y then π (f (g.N y)) else π (g.N y) := by
  rw [N_setN]; split
  · next e => rw [e]
  · rfl
theorem H_setH_at {β : Type} (π : PHdr → β) (g : Heap) (p q : Nat) (f : PHdr → PHdr) :
    π ((g.setH p f).H q) = if p = q then π (f (g.H q)) else π (g.H q) := by
  rw [H_setH]; split
  · next e => rw [e]
  · rfl
theorem C_setC_at {β : Type} (π : PCls → β) (g : Heap) (c d : Nat) (f : PCls → PCls) :
    π ((g.setC c f).C d) = if c = d then π (f (g.C d)) else π (g.C d) := by
  rw [C_setC]; split
  · next e => rw [e]
  · rfl
end Heap

/-- the same for an optional write (`if ptr != 0 { ptr.field = … }`) -/
theorem N_onSome_at {β : Type} (π : Node → β) (g : Heap) (o : Option Slot) (y : Slot) (f : Node → Node) :
    π ((onSome o g fun k g => g.setN k f).N y) = if o = some y then π (f (g.N y)) else π (g.N y) := by
  cases o
  · rfl
  · simp only [onSome, Heap.N_setN_at π, Option.some.injEq]
theorem H_onSome (g : Heap) (o : Option Slot) (f : Node → Node) (p : Nat) :
    (onSome o g fun k g => g.setN k f).H p = g.H p := by
  cases o <;> simp only [onSome, Heap.H_setN]
theorem C_onSome (g : Heap) (o : Option Slot) (f : Node → Node) (c : Nat) :
    (onSome o g fun k g => g.setN k f).C c = g.C c := by
  cases o <;> simp only [onSome, Heap.C_setN]

theorem lnk_all : lnkPushGlobalBack = true ∧ lnkPushPageBack = true ∧ lnkPopGlobalBack = true ∧
    lnkPopPageBack = true ∧ lnkPurgeBack = true ∧ lnkLinkPagePrev = true ∧ lnkUnlinkPageBack = true := by
  decide

structure PushSpec (g g' : Heap) (c : Nat) (x : Slot) : Prop where
  nxG : ∀ a, nxG g' a = if a = x then (g.C c).lists else nxG g a
  pvG : ∀ a, pvG g' a = if (g.C c).lists = some a then some x else if a = x then none else pvG g a
  nxP : ∀ a, nxP g' a = if a = x then (g.H x.1).freeList else nxP g a
  pvP : ∀ a, pvP g' a = if (g.H x.1).freeList = some a then some x else if a = x then none else pvP g a
  lists : ∀ d, (g'.C d).lists = if c = d then some x else (g.C d).lists
  first : ∀ d, (g'.C d).first = (g.C d).first
  last : ∀ d, (g'.C d).last = (g.C d).last
  fl : ∀ q, (g'.H q).freeList = if x.1 = q then some x else (g.H q).freeList
  hnx : ∀ q, nxH g' q = nxH g q
  hpv : ∀ q, pvH g' q = pvH g q

set_option linter.unusedSimpArgs false
/- Each field is read through the operation's writes, one after the other (`*_at`); `eq_comm (a := a)` turns the
   tests of the statement into the form `written = a` that those lemmas produce. -/
theorem hPush_spec (g : Heap) (c : Nat) (x : Slot) : PushSpec g (hPush g c x) c x := by
  have b1 := lnk_all.1
  have b2 := lnk_all.2.1
  constructor
  all_goals
    intro a
    simp only [hPush, b1, b2, nxG, pvG, nxP, pvP, nxH, pvH, eq_comm (a := a), ite_self, if_true, Heap.N_setH,
      Heap.N_setC, Heap.H_setN, Heap.H_setC, Heap.C_setN, Heap.C_setH, H_onSome, C_onSome,
      Heap.N_setN_at Node.next, N_onSome_at Node.next, Heap.N_setN_at Node.prev,
      N_onSome_at Node.prev, Heap.N_setN_at Node.nextInPage, N_onSome_at Node.nextInPage,
      Heap.N_setN_at Node.prevInPage, N_onSome_at Node.prevInPage, Heap.H_setH_at PHdr.next,
      Heap.H_setH_at PHdr.prev, Heap.H_setH_at PHdr.freeList, Heap.C_setC_at PCls.lists,
      Heap.C_setC_at PCls.first, Heap.C_setC_at PCls.last]

structure PopSpec (g g' : Heap) (c : Nat) (n : Slot) : Prop where
  nxG : ∀ a, nxG g' a = nxG g a
  pvG : ∀ a, pvG g' a = if (g.N n).next = some a then none else pvG g a
  nxP : ∀ a, nxP g' a = if (g.N n).prevInPage = some a then (g.N n).nextInPage else nxP g a
  pvP : ∀ a, pvP g' a = if (g.N n).nextInPage = some a then (g.N n).prevInPage else pvP g a
  lists : ∀ d, (g'.C d).lists = if c = d then (g.N n).next else (g.C d).lists
  first : ∀ d, (g'.C d).first = (g.C d).first
  last : ∀ d, (g'.C d).last = (g.C d).last
  fl : ∀ q, (g'.H q).freeList =
    if (g.N n).prevInPage = none ∧ n.1 = q then (g.N n).nextInPage else (g.H q).freeList
  hnx : ∀ q, nxH g' q = nxH g q
  hpv : ∀ q, pvH g' q = pvH g q

theorem hPop_spec (g : Heap) (c : Nat) (n : Slot) (hl : (g.C c).lists = some n) :
    PopSpec g (hPop g c) c n := by
  have b1 := lnk_all.2.2.1
  have b2 := lnk_all.2.2.2.1
  cases h2 : (g.N n).prevInPage <;> constructor
  all_goals
    intro a
    simp only [hPop, hl, h2, b1, b2, nxG, pvG, nxP, pvP, nxH, pvH, ite_self, if_true, if_false, reduceCtorEq,
      Option.some.injEq, true_and, false_and, Heap.N_setH, Heap.N_setC, Heap.H_setN, Heap.H_setC,
      Heap.C_setN, Heap.C_setH, H_onSome, C_onSome, Heap.N_setN_at Node.next,
      N_onSome_at Node.next, Heap.N_setN_at Node.prev, N_onSome_at Node.prev,
      Heap.N_setN_at Node.nextInPage, N_onSome_at Node.nextInPage, Heap.N_setN_at Node.prevInPage,
      N_onSome_at Node.prevInPage, Heap.H_setH_at PHdr.next, Heap.H_setH_at PHdr.prev,
      Heap.H_setH_at PHdr.freeList, Heap.C_setC_at PCls.lists, Heap.C_setC_at PCls.first,
      Heap.C_setC_at PCls.last]

structure UnlinkSpec (g g' : Heap) (c : Nat) (n : Slot) : Prop where
  nxG : ∀ a, nxG g' a = if (g.N n).prev = some a then (g.N n).next else nxG g a
  pvG : ∀ a, pvG g' a = if (g.N n).next = some a then (g.N n).prev else pvG g a
  nxP : ∀ a, nxP g' a = nxP g a
  pvP : ∀ a, pvP g' a = pvP g a
  lists : ∀ d, (g'.C d).lists = if (g.N n).prev = none ∧ c = d then (g.N n).next else (g.C d).lists
  first : ∀ d, (g'.C d).first = (g.C d).first
  last : ∀ d, (g'.C d).last = (g.C d).last
  hdr : ∀ q, g'.H q = g.H q

theorem hUnlinkG_spec (g : Heap) (c : Nat) (n : Slot) : UnlinkSpec g (hUnlinkG g c n) c n := by
  have b1 := lnk_all.2.2.2.2.1
  cases h2 : (g.N n).prev <;> constructor
  all_goals
    intro a
    simp only [hUnlinkG, h2, b1, nxG, pvG, nxP, pvP, ite_self, if_true, if_false, reduceCtorEq, Option.some.injEq,
      true_and, false_and, Heap.N_setC, Heap.H_setN, Heap.H_setC, Heap.C_setN, H_onSome, C_onSome,
      Heap.N_setN_at Node.next, N_onSome_at Node.next, Heap.N_setN_at Node.prev,
      N_onSome_at Node.prev, Heap.N_setN_at Node.nextInPage, N_onSome_at Node.nextInPage,
      Heap.N_setN_at Node.prevInPage, N_onSome_at Node.prevInPage, Heap.C_setC_at PCls.lists,
      Heap.C_setC_at PCls.first, Heap.C_setC_at PCls.last]

structure LinkPageSpec (g g' : Heap) (c p : Nat) : Prop where
  hnx : ∀ q, nxH g' q = if (g.C c).last = some q then some p else if q = p then none else nxH g q
  hpv : ∀ q, pvH g' q = if q = p then (g.C c).last else pvH g q
  fl : ∀ q, (g'.H q).freeList = if q = p then none else (g.H q).freeList
  first : ∀ d, (g'.C d).first =
    if c = d then (if (g.C c).first.isNone then some p else (g.C c).first) else (g.C d).first
  last : ∀ d, (g'.C d).last = if c = d then some p else (g.C d).last
  lists : ∀ d, (g'.C d).lists = (g.C d).lists
  node : ∀ x, g'.N x = g.N x

theorem hLinkPage_spec (g : Heap) (c p : Nat) : LinkPageSpec g (hLinkPage g c p) c p := by
  have b1 := lnk_all.2.2.2.2.2.1
  cases h1 : (g.C c).last <;> constructor
  case none.first | some.first =>
    intro d
    simp only [hLinkPage, onSome, h1, Heap.C_setC, Heap.C_setH, apply_ite PCls.first]
  all_goals
    intro a
    simp only [hLinkPage, onSome, h1, b1, nxH, pvH, eq_comm (a := a), ite_self, if_true, if_false, reduceCtorEq,
      Option.some.injEq, Heap.N_setH, Heap.N_setC, Heap.H_setC, Heap.C_setH,
      Heap.H_setH_at PHdr.next, Heap.H_setH_at PHdr.prev, Heap.H_setH_at PHdr.freeList,
      Heap.C_setC_at PCls.lists, Heap.C_setC_at PCls.last]

structure UnlinkPageSpec (g g' : Heap) (c pg : Nat) : Prop where
  hnx : ∀ q, nxH g' q = if (g.H pg).prev = some q then (g.H pg).next else nxH g q
  hpv : ∀ q, pvH g' q = if (g.H pg).next = some q then (g.H pg).prev else pvH g q
  fl : ∀ q, (g'.H q).freeList = (g.H q).freeList
  first : ∀ d, (g'.C d).first = if (g.H pg).prev = none ∧ c = d then (g.H pg).next else (g.C d).first
  last : ∀ d, (g'.C d).last = if (g.H pg).next = none ∧ c = d then (g.H pg).prev else (g.C d).last
  lists : ∀ d, (g'.C d).lists = (g.C d).lists
  node : ∀ x, g'.N x = g.N x

theorem hUnlinkPage_spec (g : Heap) (c pg : Nat) : UnlinkPageSpec g (hUnlinkPage g c pg) c pg := by
  have b1 := lnk_all.2.2.2.2.2.2
  cases h1 : (g.H pg).prev <;> cases h2 : (g.H pg).next <;> constructor
  all_goals
    intro a
    simp only [hUnlinkPage, h1, h2, b1, nxH, pvH, ite_self, if_true, if_false, reduceCtorEq, Option.some.injEq,
      true_and, false_and, Heap.N_setH, Heap.N_setC, Heap.H_setC, Heap.C_setH,
      Heap.H_setH_at PHdr.next, Heap.H_setH_at PHdr.prev, Heap.H_setH_at PHdr.freeList,
      Heap.C_setC_at PCls.lists, Heap.C_setC_at PCls.first, Heap.C_setC_at PCls.last]

end GocoinV.Alloc
