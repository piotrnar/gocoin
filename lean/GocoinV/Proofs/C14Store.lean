/-
  Proofs.C14Store — the key store over one invocation (Model/WalletKeysStore.lean): a list made of the freshly derived
  records followed by further copies of them answers every first-match lookup exactly like the fresh list; operations
  whose Go functions write no stored key leave the store alone; hence every operation of a session, whatever came
  before it in the same process, uses the key a fresh wallet's lookup gives.
-/
import GocoinV.Model.WalletKeysStore
import GocoinV.Proofs.C14Lookup
import GocoinV.Base.Lemmas
namespace GocoinV.WalletKeys.Store
open GocoinV HD WalletKeys

theorem firstIdx_append_sub {α} (p : α → Bool) (a b : List α) (hb : ∀ x ∈ b, x ∈ a) :
    (if (a ++ b).findIdx p < (a ++ b).length then some ((a ++ b).findIdx p) else none) =
    (if a.findIdx p < a.length then some (a.findIdx p) else none) := by
  rw [List.findIdx_append]
  by_cases h : a.findIdx p < a.length
  · rw [if_pos h, if_pos h, if_pos (by rw [List.length_append]; omega)]
  · rw [if_neg h, if_neg h]
    have hea : a.findIdx p = a.length := Nat.le_antisymm List.findIdx_le_length (Nat.le_of_not_lt h)
    have heb : b.findIdx p = b.length :=
      List.findIdx_eq_length.mpr fun x hx => List.findIdx_eq_length.mp hea x (hb x hx)
    rw [if_neg (by rw [List.length_append, heb]; omega)]

theorem addrToIdx_append_sub (C : WalletCrypto) (c : Config) (a b : List KeyRec) (hb : ∀ x ∈ b, x ∈ a) (addr : Bytes) :
    addrToIdx C c (a ++ b) addr = addrToIdx C c a addr := by
  unfold addrToIdx addressToKeyIdx hashToKeyIdx publicXoToKeyIdx
  simp only [firstIdx_append_sub _ a b hb]

theorem scriptToKeyIdx_append_sub (C : WalletCrypto) (c : Config) (a b : List KeyRec) (hb : ∀ x ∈ b, x ∈ a) (s : Bytes) :
    scriptToKeyIdx C c (a ++ b) s = scriptToKeyIdx C c a s := by
  unfold scriptToKeyIdx pubhashToKeyIdx scripthashToKeyIdx publicXoToKeyIdx
  simp only [firstIdx_append_sub _ a b hb]

theorem addrToIdx_lt (C : WalletCrypto) (c : Config) (a : List KeyRec) (addr : Bytes) (i : Nat)
    (e : addrToIdx C c a addr = some i) : i < a.length := by
  unfold addrToIdx addressToKeyIdx at e
  split at e
  · cases e
  · split at e
    · exact (firstIdx_sound e).1
    · split at e
      · exact (firstIdx_sound e).1
      · cases e
  · exact (firstIdx_sound e).1

theorem scriptToKeyIdx_p2pkh (C : WalletCrypto) (c : Config) (keys : List KeyRec) (h : Bytes) (hl : h.length = 20) :
    scriptToKeyIdx C c keys (p2pkhScr h) = pubhashToKeyIdx keys h := by
  simp [scriptToKeyIdx, p2pkhScr, hl, List.take_left' hl]

theorem scriptToKeyIdx_p2sh (C : WalletCrypto) (c : Config) (keys : List KeyRec) (h : Bytes) (hl : h.length = 20) :
    scriptToKeyIdx C c keys (p2shScr h) = scripthashToKeyIdx C c keys h := by
  simp [scriptToKeyIdx, p2shScr, hl, List.take_left' hl]

theorem scriptToKeyIdx_p2wpkh (C : WalletCrypto) (c : Config) (keys : List KeyRec) (h : Bytes) (hl : h.length = 20) :
    scriptToKeyIdx C c keys (p2wpkhScr h) = pubhashToKeyIdx keys h := by
  simp [scriptToKeyIdx, p2wpkhScr, hl]

theorem scriptToKeyIdx_p2tr (C : WalletCrypto) (c : Config) (keys : List KeyRec) (x : Bytes) (hl : x.length = 32) :
    scriptToKeyIdx C c keys (p2trScr x) = publicXoToKeyIdx keys x := by
  simp [scriptToKeyIdx, p2trScr, hl]

/-- soundness of the script lookup: a script attributed to record j IS one of record j's own four scripts -/
theorem scriptToKeyIdx_only_own (C : WalletCrypto) (c : Config) (keys : List KeyRec) (scr : Bytes) (j : Nat)
    (e : scriptToKeyIdx C c keys scr = some j) :
    ∃ hj : j < keys.length,
      scr = p2pkhScr keys[j].h160 ∨ scr = p2wpkhScr keys[j].h160 ∨
      (bech32Mode c.atype = false ∧ scr = p2shScr (C.hash160 ([0, 20] ++ keys[j].h160))) ∨
      scr = p2trScr ((keys[j].pubkey.drop 1).take 32) := by
  have two : ∀ pre x : Bytes, scr.take 2 = pre → x = scr.drop 2 → scr = pre ++ x :=
    fun _ _ h1 h2 => by rw [← h1, h2, List.take_append_drop]
  unfold scriptToKeyIdx at e
  split at e
  · rename_i h
    obtain ⟨hj, hp, _⟩ := firstIdx_sound e
    refine ⟨hj, Or.inl ?_⟩
    have hp' : keys[j].h160 = (scr.drop 3).take 20 := by simpa using hp
    have := split3 scr 3 20
    rw [h.2.1, h.2.2, ← hp'] at this
    simpa [p2pkhScr] using this
  · split at e
    · rename_i h
      obtain ⟨hj, hp, _⟩ := firstIdx_sound e
      refine ⟨hj, Or.inr (Or.inr (Or.inl ?_))⟩
      simp only [Bool.and_eq_true, Bool.not_eq_true', beq_iff_eq] at hp
      have := split3 scr 2 20
      rw [h.2.1, h.2.2, ← hp.2] at this
      exact ⟨hp.1, by simpa [p2shScr] using this⟩
    · split at e
      · rename_i h
        obtain ⟨hj, hp, _⟩ := firstIdx_sound e
        refine ⟨hj, Or.inr (Or.inl ?_)⟩
        exact two _ _ h.2 (by simpa using hp)
      · split at e
        · rename_i h
          obtain ⟨hj, hp, _⟩ := firstIdx_sound e
          refine ⟨hj, Or.inr (Or.inr (Or.inr ?_))⟩
          exact two _ _ h.2 (by simpa using hp)
        · cases e

theorem scriptToKeyIdx_lt (C : WalletCrypto) (c : Config) (a : List KeyRec) (s : Bytes) (i : Nat)
    (e : scriptToKeyIdx C c a s = some i) : i < a.length := (scriptToKeyIdx_only_own C c a s i e).1

theorem useAt_append (a b : List KeyRec) (i : Option Nat) (hi : ∀ j, i = some j → j < a.length) :
    useAt (a ++ b) i = useAt a i := by
  cases i with
  | none => rfl
  | some j =>
    simp only [useAt, Option.bind, List.getElem?_append_left (hi j rfl)]

theorem clobber_id {wipers : List String} {fn : String} {junk : Bytes} {st : List KeyRec} {idxs : List Nat}
    (h : wipers.contains fn = false) : clobber wipers fn junk st idxs = st := by
  unfold clobber
  rw [h]
  rfl

/-- the shape every store of a session has: the fresh records, then only further copies of them -/
def Inv (fresh st : List KeyRec) : Prop := ∃ rest, st = fresh ++ rest ∧ ∀ x ∈ rest, x ∈ fresh

theorem Inv.append_fresh {fresh st : List KeyRec} (h : Inv fresh st) : Inv fresh (st ++ fresh) := by
  obtain ⟨rest, e, hr⟩ := h
  exact ⟨rest ++ fresh, by rw [e, List.append_assoc], List.forall_mem_append.mpr ⟨hr, fun _ h => h⟩⟩

/-- no function a session is made of writes a stored key -/
def Quiet (wipers : List String) : Prop := ∀ f ∈ sessionFns, wipers.contains f = false

theorem step_quiet (wipers : List String) (hq : Quiet wipers) (C : WalletCrypto) (c : Config) (fresh : List KeyRec)
    (junk : Bytes) (st : List KeyRec) (hinv : Inv fresh st) (op : Op) :
    (step wipers C c fresh junk st op).2 = pureUse C c fresh op ∧
    (step wipers C c fresh junk st op).1 = (if op = .makeWallet then st ++ fresh else st) := by
  obtain ⟨rest, e, hr⟩ := hinv
  have q1 : wipers.contains "sign_message" = false := hq _ (by simp [sessionFns])
  have q2 : wipers.contains "sign_tx" = false := hq _ (by simp [sessionFns])
  have q3 : wipers.contains "dump_prvkey" = false := hq _ (by simp [sessionFns])
  subst e
  cases op with
  | makeWallet => exact ⟨rfl, by simp [step]⟩
  | signMessage a | dumpPrvkey a =>
    refine ⟨?_, by simp [step, clobber_id q1, clobber_id q3]⟩
    simp only [step, pureUse, addrToIdx_append_sub C c fresh rest hr]
    rw [useAt_append fresh rest _ (addrToIdx_lt C c fresh a)]
  | signTx scrs =>
    refine ⟨?_, by simp [step, clobber_id q2]⟩
    simp only [step, pureUse, List.map_map]
    apply List.map_congr_left
    intro s _
    simp only [Function.comp, scriptToKeyIdx_append_sub C c fresh rest hr]
    exact useAt_append fresh rest _ (scriptToKeyIdx_lt C c fresh s)

theorem run_quiet (wipers : List String) (hq : Quiet wipers) (C : WalletCrypto) (c : Config) (fresh : List KeyRec)
    (junk : Bytes) : ∀ (ops : List Op) (st : List KeyRec), Inv fresh st →
    (run wipers C c fresh junk st ops).2 = ops.map (pureUse C c fresh) ∧
    (run wipers C c fresh junk st ops).1 = st ++ (List.replicate (ops.count .makeWallet) fresh).flatten
  | [], st, _ => by simp [run]
  | op :: r, st, hinv => by
    obtain ⟨hu, hs⟩ := step_quiet wipers hq C c fresh junk st hinv op
    have hinv' : Inv fresh (step wipers C c fresh junk st op).1 := by
      rw [hs]
      split
      · exact hinv.append_fresh
      · exact hinv
    obtain ⟨ih1, ih2⟩ := run_quiet wipers hq C c fresh junk r _ hinv'
    refine ⟨?_, ?_⟩
    · simp only [run, List.map_cons]
      rw [ih1, hu]
    · simp only [run]
      rw [ih2, hs]
      by_cases hop : op = .makeWallet
      · subst hop
        simp [List.replicate_succ, List.append_assoc]
      · simp [hop]

/-- a whole quiet session from the empty store: the list is the fresh records once per make_wallet, and every
    operation uses what it finds in the fresh list -/
theorem run_session (wipers : List String) (hq : Quiet wipers) (C : WalletCrypto) (c : Config) (fresh : List KeyRec)
    (junk : Bytes) (ops : List Op) :
    run wipers C c fresh junk [] (.makeWallet :: ops) =
      ((List.replicate (ops.count .makeWallet + 1) fresh).flatten, [] :: ops.map (pureUse C c fresh)) := by
  obtain ⟨h1, h2⟩ := run_quiet wipers hq C c fresh junk ops ([] ++ fresh) ⟨[], by simp, by simp⟩
  simp only [run, step]
  rw [h1, h2]
  simp [List.replicate_succ]

end GocoinV.WalletKeys.Store
