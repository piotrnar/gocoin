/-
  Proofs.C16Load — basic lemmas about the block store model (Model/BlockDB.lean): association lists, `pwrite`,
  the positions LoadBlockIndex computes (`loadRecord`, `loadLoop`), the cache, and for every operation a case-analysis
  principle (`*_state`, `blockGet_moves`, `blockGetNC_moves`: stated for an arbitrary predicate `P` of the resulting
  state) from which `step_ind` (Proofs/C16Move.lean) is put together.
-/
import GocoinV.Model.BlockDBNC
import GocoinV.Base.Assoc
namespace GocoinV.BlockDB

/-! ### association lists -/
namespace AL
variable {κ : Type} [DecidableEq κ] {α : Type}

theorem get_eq (l : List (κ × α)) (k : κ) : get l k = Assoc.lookup l k :=
  Assoc.lookup_unique get (fun _ => rfl) (fun _ _ _ _ => rfl) l k

theorem get_set (l : List (κ × α)) (k k' : κ) (v : α) :
    get (set l k v) k' = if k = k' then some v else get l k' := by
  rw [get_eq, get_eq, Assoc.insert_unique set (fun _ _ => rfl) (fun _ _ _ _ _ => rfl)]
  exact Assoc.lookup_insert l k k' v

theorem get_del (l : List (κ × α)) (k k' : κ) :
    get (del l k) k' = if k = k' then none else get l k' := by
  rw [get_eq, get_eq, Assoc.filter_unique del (fun _ => rfl) (fun _ _ _ _ => rfl)]
  exact Assoc.lookup_erase l k k'

theorem get_of_del {l : List (κ × α)} {k k' : κ} {v : α} (h : get (del l k) k' = some v) : get l k' = some v := by
  rw [get_del] at h
  split at h
  · cases h
  · exact h

end AL

/-- a key that is present stays present when one key is set -/
theorem some_ite {α : Type} {c : Prop} [Decidable c] {a : α} {o : Option α} (h : ∃ r, o = some r) :
    ∃ r, (if c then some a else o) = some r := by
  split
  · exact ⟨_, rfl⟩
  · exact h

/-! ### pwrite -/

theorem pwrite_length_inside (f : Bytes) (p : Nat) (x : UInt8) (h : p < f.length) :
    (pwrite f p [x]).length = f.length := by
  simp [pwrite]; omega

theorem pwrite_at_end (f d : Bytes) : pwrite f f.length d = f ++ d := by
  simp [pwrite]

theorem mkRecord_length (fl di ol he fp bl tx : Nat) (hdr : Bytes) (h : hdr.length ≥ 80) :
    (mkRecord fl di ol he fp bl tx hdr).length = 136 := by
  simp [mkRecord]; omega

@[simp] theorem recsize_eq : RECSIZE = 136 := by decide

/-! ### LoadBlockIndex -/

theorem bumpInvalid_fields (a : LoadAcc) (fl : Nat) (b : Bytes) :
    (bumpInvalid a fl b).index = a.index ∧ (bumpInvalid a fl b).maxidxfilepos = a.maxidxfilepos ∧
    (bumpInvalid a fl b).walk = a.walk ∧ a.maxdatfileidx ≤ (bumpInvalid a fl b).maxdatfileidx ∧
    ((bumpInvalid a fl b).maxdatfileidx = a.maxdatfileidx → (bumpInvalid a fl b).maxdatfilepos = a.maxdatfilepos) ∧
    (bumpInvalid a fl b).maxdatfilepos ≤ a.maxdatfilepos ∧
    (bumpInvalid a fl b).maxdatfileidx ≤ max a.maxdatfileidx (field b 28 32) := by
  unfold bumpInvalid
  have hd : (if hasFlag fl BLOCK_INDEX = true then field b 28 32 else 0) ≤ field b 28 32 := by split <;> omega
  generalize (if hasFlag fl BLOCK_INDEX = true then field b 28 32 else 0) = d at hd
  by_cases hc : Gen.BlockDBFacts.invalidCountsFile = true ∧ d ≠ 0xffffffff ∧ d > a.maxdatfileidx
  · rw [if_pos hc]
    refine ⟨rfl, rfl, rfl, by simp only; omega, ?_, Nat.zero_le _, by simp only; omega⟩
    intro e; simp only at e; omega
  · rw [if_neg hc]
    exact ⟨rfl, rfl, rfl, Nat.le_refl _, fun _ => rfl, Nat.le_refl _, by omega⟩

/-- when LoadBlockIndex steps over invalid-flagged records (`env.advInvalid`), every record — valid or invalid-flagged —
    advances the index position by one record -/
theorem loadRecord_maxidx (env : Env) (h : env.advInvalid = true) (a : LoadAcc) (b : Bytes) :
    (loadRecord env a b).maxidxfilepos = a.maxidxfilepos + 136 := by
  unfold loadRecord
  simp only [h, recsize_eq]
  split
  · simp only [↓reduceIte, (bumpInvalid_fields a _ b).2.1]
  · simp

theorem loadRecord_ipos (env : Env) (h : env.advInvalid = true) (a : LoadAcc) (b : Bytes)
    (ha : ∀ k r p, AL.get a.index k = some r → r.ipos = some p → p + 136 ≤ a.maxidxfilepos ∧ p % 136 = 0)
    (hm : a.maxidxfilepos % 136 = 0) :
    ∀ k r p, AL.get (loadRecord env a b).index k = some r → r.ipos = some p →
      p + 136 ≤ (loadRecord env a b).maxidxfilepos ∧ p % 136 = 0 := by
  intro k r p
  rw [loadRecord_maxidx env h]
  unfold loadRecord
  simp only [h, recsize_eq]
  split
  · simp only [↓reduceIte, (bumpInvalid_fields a _ b).1]
    intro h1 h2
    have := ha k r p h1 h2
    omega
  · simp only [AL.get_set]
    split
    · intro h1 h2
      simp only [Option.some.injEq] at h1
      subst h1
      simp only [Option.some.injEq] at h2
      omega
    · intro h1 h2
      have := ha k r p h1 h2
      omega

/-! ### writing -/

/-- What `writeOne` does to the state: the head `b` of the queue is taken off; it is discarded when the index has no record
    for its key, another one (`seq`) or one that is written already; otherwise its bytes `cbts` (compressed if configured)
    are written after a possible roll-over. -/
theorem writeOne_state {P : State → Prop} (env : Env) (s s' : State) (hw : writeOne env s = some s')
    (skip : ∀ b q, s.queue = b :: q →
      (∀ r0, AL.get s.index b.idx = some r0 → r0.seq ≠ b.seq ∨ r0.ipos.isSome = true) →
      P { s with queue := q, datToWrite := s.datToWrite - b.data.length })
    (write : ∀ b q r0 cbts, s.queue = b :: q → AL.get s.index b.idx = some r0 → r0.seq = b.seq → r0.ipos = none →
      cbts = (if s.opts.compress then env.enc b.data else b.data) →
      P (writeRecord (maybeRoll { s with queue := q, datToWrite := s.datToWrite - b.data.length } cbts.length) b r0 cbts)) :
    P s' := by
  unfold writeOne at hw
  split at hw
  · cases hw
  · rename_i b q hq
    simp only at hw
    split at hw
    · rename_i hnone
      cases hw
      exact skip b q hq (fun r0 hr0 => by rw [hnone] at hr0; cases hr0)
    · rename_i r0 hr0
      split at hw
      · rename_i hc
        cases hw
        exact skip b q hq (fun r hr => by rw [hr0] at hr; cases hr; exact hc)
      · rename_i hc
        simp only [Option.some.injEq] at hw
        subst hw
        refine write b q r0 _ hq hr0 (Classical.not_not.1 fun e => hc (.inl e)) ?_ rfl
        cases hp : r0.ipos with
        | none => rfl
        | some p => exact absurd (.inr (by rw [hp]; rfl)) hc

theorem flush_state {P : State → Prop} (env : Env) (step : ∀ s s', P s → writeOne env s = some s' → P s') (s : State)
    (h : P s) : P (flush env s) := by
  unfold flush
  generalize s.queue.length = f
  induction f generalizing s with
  | zero => exact h
  | succ f ih =>
    unfold writeAll
    split
    · exact h
    · rename_i s' hw
      exact ih s' (step s s' h hw)

/-! ### the flag operations -/

theorem setBlockFlag_fields (s : State) (k : Key) (r0 : Rec) (fl : Nat) :
    (∀ k', AL.get (setBlockFlag s k r0 fl).index k' =
        if k = k' then some { r0 with trusted := r0.trusted || fl == BLOCK_TRUSTED } else AL.get s.index k') ∧
    (setBlockFlag s k r0 fl).cache = s.cache ∧ (setBlockFlag s k r0 fl).queue = s.queue ∧
    ((setBlockFlag s k r0 fl).fs.dats = s.fs.dats ∧ (setBlockFlag s k r0 fl).fs.olds = s.fs.olds ∧
      (setBlockFlag s k r0 fl).fs.lost = s.fs.lost) ∧ (setBlockFlag s k r0 fl).opts = s.opts ∧
    (setBlockFlag s k r0 fl).isOpen = s.isOpen ∧ (setBlockFlag s k r0 fl).nextSeq = s.nextSeq ∧
    (setBlockFlag s k r0 fl).maxdatfilepos = s.maxdatfilepos ∧ (setBlockFlag s k r0 fl).maxdatfileidx = s.maxdatfileidx := by
  unfold setBlockFlag
  split <;> simp [AL.get_set]

/-- `BlockTrusted` does nothing (unknown key, or already trusted) or sets the flag of an untrusted record -/
theorem blockTrusted_state {P : State → Prop} (s : State) (hash : Bytes)
    (same : (∀ r, AL.get s.index (keyOf hash) = some r → r.trusted = true) → P s)
    (flag : ∀ r0, AL.get s.index (keyOf hash) = some r0 → r0.trusted = false →
      P (setBlockFlag s (keyOf hash) r0 BLOCK_TRUSTED)) : P (blockTrusted s hash) := by
  unfold blockTrusted
  simp only
  split
  · rename_i hr; exact same (fun r h1 => by rw [hr] at h1; cases h1)
  · rename_i r0 hr0
    split
    · rename_i ht; exact same (fun r h1 => by rw [hr0] at h1; cases h1; exact ht)
    · exact flag r0 hr0 (by simpa using ‹¬ r0.trusted = true›)

/-- `BlockInvalid` does nothing (unknown key; trusted record: the call panics), forgets a record whose block is still queued,
    or flags a written record -/
theorem blockInvalid_state {P : State → Prop} (s : State) (hash : Bytes) (same : P s)
    (forget : ∀ r0, AL.get s.index (keyOf hash) = some r0 → r0.trusted = false → r0.ipos = none →
      P { s with cache := AL.del s.cache (keyOf hash), index := AL.del s.index (keyOf hash) })
    (flag : ∀ r0 p, AL.get s.index (keyOf hash) = some r0 → r0.trusted = false → r0.ipos = some p →
      P (setBlockFlag s (keyOf hash) r0 BLOCK_INVALID)) : P (blockInvalid s hash).1 := by
  unfold blockInvalid
  simp only
  split
  · exact same
  · rename_i r0 hr0
    split
    · exact same
    · have ht : r0.trusted = false := by simpa using ‹¬ r0.trusted = true›
      cases hp : r0.ipos with
      | none => simp only [Option.isNone_none, ↓reduceIte]; exact forget r0 hr0 ht hp
      | some p => simp only [Option.isNone_some, Bool.false_eq_true, ↓reduceIte]; exact flag r0 p hr0 ht hp

/-! ### the cache: entries of unwritten blocks are never evicted -/

theorem oldest_evictable (index : List (Key × Rec)) : ∀ (cache : List (Key × CacheEnt)) k u,
    oldest index cache = some (k, u) → evictable index k = true := by
  intro cache
  induction cache with
  | nil => intro k u h; simp [oldest] at h
  | cons hd t ih =>
    intro k u h
    unfold oldest at h
    split at h
    · split at h
      · simp only [Option.some.injEq, Prod.mk.injEq] at h; rw [← h.1]; assumption
      · cases h
    · rename_i k' u' hk
      split at h
      · rename_i hc
        simp only [Option.some.injEq, Prod.mk.injEq] at h; rw [← h.1]; exact hc.1
      · simp only [Option.some.injEq, Prod.mk.injEq] at h
        rw [← h.1]; exact ih k' u' hk

theorem evict_spec (index : List (Key × Rec)) (max : Nat) : ∀ (f : Nat) (cache : List (Key × CacheEnt)),
    (∀ k c, AL.get (evict index max f cache) k = some c → AL.get cache k = some c) ∧
    (∀ k c, AL.get cache k = some c → evictable index k = false → AL.get (evict index max f cache) k = some c) := by
  intro f
  induction f with
  | zero => intro cache; exact ⟨fun _ _ h => h, fun _ _ h _ => h⟩
  | succ f ih =>
    intro cache
    unfold evict
    split
    · split
      · exact ⟨fun _ _ h => h, fun _ _ h _ => h⟩
      · rename_i k u hk
        have hev := oldest_evictable index cache k u hk
        obtain ⟨i1, i2⟩ := ih (AL.del cache k)
        constructor
        · exact fun k' c h => AL.get_of_del (i1 k' c h)
        · intro k' c h hne
          apply i2 k' c _ hne
          rw [AL.get_del]
          split
          · rename_i e; subst e; rw [hev] at hne; cases hne
          · exact h
    · exact ⟨fun _ _ h => h, fun _ _ h _ => h⟩

theorem addToCache_cache (s : State) (k : Key) (d : Bytes) :
    (∀ k' c', AL.get (addToCache s k d).cache k' = some c' →
       (∃ c, AL.get s.cache k' = some c ∧ c.data = c'.data) ∨ (k' = k ∧ c'.data = d ∧ AL.get s.cache k = none)) ∧
    (∀ k' c, AL.get s.cache k' = some c → evictable s.index k' = false → ∃ c', AL.get (addToCache s k d).cache k' = some c') ∧
    (∃ c', AL.get (addToCache s k d).cache k = some c') := by
  unfold addToCache
  split
  · rename_i c0 hc0
    refine ⟨?_, ?_, ?_⟩
    · intro k' c' h
      simp only [AL.get_set] at h
      split at h
      · rename_i e; subst e
        simp only [Option.some.injEq] at h
        exact .inl ⟨c0, hc0, by rw [← h]⟩
      · exact .inl ⟨c', h, rfl⟩
    · intro k' c h _
      simp only [AL.get_set]; exact some_ite ⟨c, h⟩
    · simp [AL.get_set]
  · rename_i hc0
    obtain ⟨i1, i2⟩ := evict_spec s.index s.opts.maxCached s.cache.length s.cache
    refine ⟨?_, ?_, ?_⟩
    · intro k' c' h
      simp only [AL.get_set] at h
      split at h
      · rename_i e; subst e
        simp only [Option.some.injEq] at h
        exact .inr ⟨rfl, by rw [← h], hc0⟩
      · exact .inl ⟨c', i1 k' c' h, rfl⟩
    · intro k' c h hne
      simp only [AL.get_set]; exact some_ite ⟨c, i2 k' c h hne⟩
    · simp [AL.get_set]

theorem evictable_none (index : List (Key × Rec)) (k : Key) (r : Rec) (h : AL.get index k = some r) (hn : r.ipos = none) :
    evictable index k = false := by
  unfold evictable; rw [h]; simp [hn]

/-! ### BlockAdd -/

theorem addToCache_eq (s : State) (k : Key) (d : Bytes) :
    ∃ c, addToCache s k d = { s with cache := c, clock := s.clock + 1 } := by
  unfold addToCache
  split <;> exact ⟨_, rfl⟩

/-- the state in which `BlockAdd` has recorded, cached (cache `c`) and queued a block under a key that was not in the index -/
def State.queued (s : State) (hash : Bytes) (ht tx : Nat) (tr : Bool) (raw : Bytes) (c : List (Key × CacheEnt)) : State :=
  { s with index := AL.set s.index (keyOf hash) { ipos := none, trusted := tr, olen := raw.length, seq := s.nextSeq },
           cache := c, clock := s.clock + 1, datToWrite := s.datToWrite + raw.length, nextSeq := s.nextSeq + 1,
           queue := s.queue ++ [{ data := raw, idx := keyOf hash, height := ht, txcount := tx % 2^32, seq := s.nextSeq }] }

theorem setBlockFlag_idx_none (s : State) (k : Key) (r0 : Rec) (fl : Nat) (hp : r0.ipos = none) :
    (setBlockFlag s k r0 fl).fs.idx = s.fs.idx := by
  unfold setBlockFlag; simp only [hp]

/-- the in-memory branch of `BlockAdd` for a known, unwritten, untrusted block is `setBlockFlag … BLOCK_TRUSTED` -/
theorem setBlockFlag_unwritten (s : State) (k : Key) (r0 : Rec) (hp : r0.ipos = none) (ht : r0.trusted = false) :
    setBlockFlag s k r0 BLOCK_TRUSTED = { s with index := AL.set s.index k { r0 with trusted := true } } := by
  simp [setBlockFlag, hp, ht]

/-- What `BlockAdd` does to the state. Unknown key: a fresh unwritten record, the block cached (cache `c`) and queued, then the
    flush when a threshold is reached. Known key: nothing, or — an untrusted block added as trusted — what `BlockTrusted` does. -/
theorem blockAdd_state {P : State → Prop} (env : Env) (s : State) (hash : Bytes) (ht tx : Nat) (tr : Bool) (raw : Bytes)
    (new : AL.get s.index (keyOf hash) = none → ∀ c,
      c = (addToCache { s with index := AL.set s.index (keyOf hash) { ipos := none, trusted := tr, olen := raw.length, seq := s.nextSeq } }
        (keyOf hash) raw).cache →
      P (s.queued hash ht tx tr raw c) ∧ P (flush env (s.queued hash ht tx tr raw c)))
    (same : ∀ r0, AL.get s.index (keyOf hash) = some r0 → (!r0.trusted && tr) = false → P s)
    (raise : ∀ r0, AL.get s.index (keyOf hash) = some r0 → r0.trusted = false → tr = true →
      P (setBlockFlag s (keyOf hash) r0 BLOCK_TRUSTED)) : P (blockAdd env s hash ht tx tr raw) := by
  unfold blockAdd
  simp only
  split
  · rename_i hnone
    obtain ⟨c, ec⟩ := addToCache_eq
      { s with index := AL.set s.index (keyOf hash) { ipos := none, trusted := tr, olen := raw.length, seq := s.nextSeq } } (keyOf hash) raw
    obtain ⟨h1, h2⟩ := new hnone c (by rw [ec])
    rw [ec]
    split
    · exact h2
    · exact h1
  · rename_i r0 hr0
    split
    · rename_i hc
      simp only [Bool.and_eq_true, Bool.not_eq_eq_eq_not, Bool.not_true] at hc
      split
      · rw [← setBlockFlag_unwritten s _ r0 (by simpa using ‹r0.ipos.isNone = true›) hc.1]
        exact raise r0 hr0 hc.1 hc.2
      · unfold blockTrusted
        simp only [hr0, hc.1, Bool.false_eq_true, ↓reduceIte]
        exact raise r0 hr0 hc.1 hc.2
    · rename_i hc
      exact same r0 hr0 (by simpa using hc)

/-! ### the reads -/

/-- what a new cache `c` may hold: the old entries (an unwritten block's entry stays), and blocks decoded from their data file -/
def CacheStep (env : Env) (s : State) (c : List (Key × CacheEnt)) : Prop :=
  (∀ k' c', AL.get c k' = some c' → (∃ c0, AL.get s.cache k' = some c0 ∧ c0.data = c'.data) ∨
    ∃ r file, AL.get s.index k' = some r ∧ r.ipos.isSome = true ∧ (AL.get s.fs.dats r.datfileidx).orElse (fun _ => AL.get s.fs.olds r.datfileidx) = some file ∧
      c'.data = (decodeStored env r ((file.drop r.fpos).take r.blen)).1) ∧
  (∀ k' c0 r, AL.get s.cache k' = some c0 → AL.get s.index k' = some r → r.ipos = none → ∃ c', AL.get c k' = some c')

/-- a read fills in the decoded length where `olen` was 0 -/
theorem olen_fill (r0 : Rec) (n : Nat) :
    (if r0.olen = 0 then { r0 with olen := n } else r0) = { r0 with olen := if r0.olen = 0 then n else r0.olen } := by
  split <;> rfl

/-- What `BlockGet` does to the state: nothing (the error replies), a cache hit (`LastUsed` and the clock move), or a disk
    read: the decoded length is recorded where `olen` was 0 — no other field of the record changes — and the block is cached.
    Stated for a predicate `P` of the state, so that it applies to every invariant alike. -/
theorem blockGet_moves {P : State → Prop} (env : Env) (s : State) (hash : Bytes) (same : P s)
    (touch : ∀ t c, P t → CacheStep env t c → P { t with cache := c, clock := t.clock + 1 })
    (olen : ∀ r0 n, AL.get s.index (keyOf hash) = some r0 → (r0.olen ≠ 0 → n = r0.olen) →
      P { s with index := AL.set s.index (keyOf hash) { r0 with olen := n } }) :
    P (blockGet env s hash).1 := by
  unfold blockGet
  simp only
  split
  · exact same
  · rename_i r0 hr0
    split
    · rename_i c0 hc0
      refine touch s _ same ⟨?_, ?_⟩
      · intro k' c' hc'
        simp only [AL.get_set] at hc'
        split at hc'
        · rename_i e; subst e
          simp only [Option.some.injEq] at hc'
          exact .inl ⟨c0, hc0, by rw [← hc']⟩
        · exact .inl ⟨c', hc', rfl⟩
      · intro k' c r hc _ _
        simp only [AL.get_set]; exact some_ite ⟨c, hc⟩
    · split
      · exact same
      · rename_i hin
        split
        · exact same
        · split
          · exact same
          · rename_i file hfile
            split
            · exact same
            · generalize hble : decodeStored env r0 (List.take r0.blen (List.drop r0.fpos file)) = ble
              obtain ⟨bl, err⟩ := ble
              simp only [olen_fill]
              generalize hn : (if r0.olen = 0 then bl.length else r0.olen) = n
              have h1 := olen r0 n hr0 (fun hz => by rw [← hn, if_neg hz])
              obtain ⟨c, ec⟩ := addToCache_eq { s with index := AL.set s.index (keyOf hash) { r0 with olen := n } } (keyOf hash) bl
              obtain ⟨a1, a2, _⟩ := addToCache_cache { s with index := AL.set s.index (keyOf hash) { r0 with olen := n } } (keyOf hash) bl
              rw [ec] at a1 a2 ⊢
              have hs : r0.ipos.isSome = true := Option.isNone_eq_false_iff.mp (Bool.eq_false_iff.mpr hin)
              have key := touch { s with index := AL.set s.index (keyOf hash) { r0 with olen := n } } c h1 ⟨?_, ?_⟩
              · split <;> exact key
              · intro k' c' hc'
                rcases a1 k' c' hc' with h0 | ⟨e1, e2, _⟩
                · exact .inl h0
                · subst e1
                  refine .inr ⟨{ r0 with olen := n }, file, by simp only [AL.get_set, ↓reduceIte], hs, hfile, ?_⟩
                  rw [e2]
                  show bl = (decodeStored env r0 (List.take r0.blen (List.drop r0.fpos file))).1
                  rw [hble]
              · intro k' c0 r hc0 hr hn0
                exact a2 k' c0 hc0 (evictable_none _ k' r hr hn0)

theorem blockLength_state {P : State → Prop} (env : Env) (s : State) (hash : Bytes) (d : Bool) (same : P s)
    (get : P (blockGet env s hash).1) : P (blockLength env s hash d).1 := by
  unfold blockLength
  simp only
  split
  · exact same
  · split
    · exact same
    · split
      · exact same
      · split <;> simp only [*] at get <;> exact get

/-! ### the one-pass read -/

theorem blockGetNC_cases (env : Env) (s : State) (hash : Bytes) :
    (blockGetNC env s hash).2 = (blockGet env s hash).2 ∧
    (AL.get s.cache (keyOf hash) = none →
      (blockGetNC env s hash).1 = { (blockGet env s hash).1 with cache := s.cache, clock := s.clock }) := by
  cases hi : AL.get s.index (keyOf hash) with
  | none => simp only [blockGetNC, blockGet, hi, implies_true, and_self]
  | some r0 =>
    cases hc : AL.get s.cache (keyOf hash) with
    | some c => simp only [blockGetNC, blockGet, hi, hc, reduceCtorEq, false_implies, and_self]
    | none =>
      by_cases h1 : r0.ipos.isNone = true
      · simp only [blockGetNC, blockGet, hi, hc, h1, ↓reduceIte, implies_true, and_self]
      · by_cases h2 : r0.blen = 0
        · simp only [blockGetNC, blockGet, hi, hc, h1, h2, ↓reduceIte, implies_true, and_self, Bool.false_eq_true]
        · cases hf : (AL.get s.fs.dats r0.datfileidx).orElse (fun _ => AL.get s.fs.olds r0.datfileidx) with
          | none => simp only [blockGetNC, blockGet, hi, hc, h1, h2, hf, ↓reduceIte, implies_true, and_self, Bool.false_eq_true]
          | some file =>
            by_cases h3 : r0.fpos + r0.blen > file.length
            · simp only [blockGetNC, blockGet, hi, hc, h1, h2, hf, h3, ↓reduceIte, implies_true, and_self, Bool.false_eq_true]
            · simp only [blockGetNC, blockGet, hi, hc, h1, h2, hf, h3, ↓reduceIte, Bool.false_eq_true]
              generalize decodeStored env r0 _ = d
              obtain ⟨bl, err⟩ := d
              cases err <;> simp only [addToCache, hc, true_and, implies_true]

theorem blockGetNC_hit (env : Env) (s : State) (hash : Bytes) (c : CacheEnt)
    (hc : AL.get s.cache (keyOf hash) = some c) : blockGetNC env s hash = blockGet env s hash := by
  unfold blockGetNC blockGet
  simp only [hc]
  cases AL.get s.index (keyOf hash) <;> rfl

/-- What the one-pass read does to the state: what `BlockGet` does on a cache hit; on a disk read the decoded length is
    recorded where `olen` was 0 and the cache is not touched. -/
theorem blockGetNC_moves {P : State → Prop} (env : Env) (s : State) (hash : Bytes) (same : P s)
    (touch : ∀ t c, P t → CacheStep env t c → P { t with cache := c, clock := t.clock + 1 })
    (olen : ∀ r0 n, AL.get s.index (keyOf hash) = some r0 → (r0.olen ≠ 0 → n = r0.olen) →
      P { s with index := AL.set s.index (keyOf hash) { r0 with olen := n } }) :
    P (blockGetNC env s hash).1 := by
  cases hc : AL.get s.cache (keyOf hash) with
  | some c => rw [blockGetNC_hit env s hash c hc]; exact blockGet_moves env s hash same touch olen
  | none =>
    rw [(blockGetNC_cases env s hash).2 hc]
    exact blockGet_moves (P := fun t => P { t with cache := s.cache, clock := s.clock }) env s hash same (fun _ _ h _ => h) olen

theorem step_reopen_closed (env : Env) (s : State) (o : Opts) (hc : s.isOpen = false) :
    step env s (.reopen o) = reopen env s.fs o := by
  unfold step; simp [hc]

end GocoinV.BlockDB
