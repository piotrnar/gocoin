/-
  Proofs.C06Utxo — helper lemmas for Props/C06: the unspent map as a partial function (`DB.get` after
  put / erase / del / undoOne), the output-list algebra (mask / del / merge), folds over key-local updates.
-/
import GocoinV.Model.UtxoOps
import GocoinV.Base.Assoc
namespace GocoinV.UtxoOps

theorem alookup_eq {β} (k : Nat) (l : List (Nat × β)) : alookup k l = Assoc.lookup l k :=
  Assoc.lookup_unique (fun l k => alookup k l) (fun _ => rfl) (fun a b r k => by simp [alookup]) l k

theorem aset_eq {β} (k : Nat) (v : β) (l : List (Nat × β)) : aset k v l = Assoc.insert l k v :=
  Assoc.insert_unique (fun l k v => aset k v l) (fun _ _ => rfl)
    (fun a b r k v => by by_cases h : a = k <;> simp [aset, h]) l k v

theorem delOuts_nil_right (outs : List (Option Out)) : delOuts outs [] = outs := by
  cases outs <;> simp [delOuts]

theorem merge_mask_del (outs : List (Option Out)) (rm : List Bool) :
    mergeOuts (maskOuts outs rm) (delOuts outs rm) = outs := by
  fun_induction maskOuts outs rm with
  | case1 => rfl
  | case2 o os ih =>
    rw [delOuts_nil_right] at ih
    simp only [delOuts, mergeOuts, ih]
  | case3 o os b bs ih =>
    simp only [delOuts, mergeOuts, ih]
    cases b <;> cases o <;> simp

theorem mask_eq_of_del_empty (outs : List (Option Out)) (rm : List Bool)
    (h : (delOuts outs rm).any Option.isSome = false) : maskOuts outs rm = outs := by
  fun_induction maskOuts outs rm with
  | case1 => rfl
  | case2 o os ih =>
    rw [delOuts_nil_right] at h ih
    simp only [List.any_cons, Bool.or_eq_false_iff] at h
    rw [ih h.2]
    cases o with
    | none => rfl
    | some x => cases h.1
  | case3 o os b bs ih =>
    simp only [delOuts, List.any_cons, Bool.or_eq_false_iff] at h
    rw [ih h.2]
    -- an output that is deleted and absent afterwards (`b`) is kept by the mask; one that is not deleted was absent before
    cases b with
    | true => rfl
    | false =>
      cases o with
      | none => rfl
      | some x => cases h.1

theorem maskOuts_length (outs : List (Option Out)) (rm : List Bool) :
    (maskOuts outs rm).length = outs.length := by
  induction outs generalizing rm with
  | nil => simp [maskOuts]
  | cons o os ih => cases rm <;> simp [maskOuts, ih]

-- ------------------------------------------------------------------------------------------ the map view

theorem get_txid {db : DB} {t : Nat} {r : Rec} (h : db.get t = some r) : r.txid = t := by
  unfold DB.get at h
  have := List.find?_some h
  simpa using this

theorem get_erase (db : DB) (t k : Nat) : (db.erase t).get k = if t = k then none else db.get k := by
  unfold DB.erase DB.get
  rw [List.find?_filter]
  by_cases h : t = k
  · subst h; simp
  · simp only [h, if_false]
    congr 1
    funext r
    by_cases h3 : r.txid = k <;> simp [h3, Ne.symm h]

theorem get_cons (r : Rec) (db : DB) (k : Nat) :
    DB.get (r :: db) k = if r.txid = k then some r else DB.get db k := by
  unfold DB.get
  rw [List.find?_cons]
  split <;> simp_all

theorem get_put (db : DB) (r : Rec) (k : Nat) :
    (db.put r).get k = if r.txid = k then some r else db.get k := by
  unfold DB.put
  rw [get_cons, get_erase]
  by_cases h : r.txid = k <;> simp [h]

/-- what `del` leaves under its own key -/
def delResult (r : Rec) (rm : List Bool) : Option Rec :=
  if (delOuts r.outs rm).any Option.isSome then some { r with outs := delOuts r.outs rm } else none

theorem get_del (db : DB) (t : Nat) (rm : List Bool) (k : Nat) :
    (db.del t rm).get k =
      if t = k then (match db.get t with | none => none | some r => delResult r rm) else db.get k := by
  unfold DB.del
  cases hg : db.get t with
  | none =>
    by_cases h : t = k
    · subst h; simp [hg]
    · simp [h]
  | some r =>
    have ht := get_txid hg
    simp only [delResult]
    by_cases hany : (delOuts r.outs rm).any Option.isSome
    · simp only [hany, if_true, get_put, ht]
    · simp [hany, get_erase]

/-- what `undoOne` stores under the undo record's key -/
def undoResult (u : Rec) (v : Option Rec) : Option Rec :=
  match v with
  | some old => some { u with outs := mergeOuts u.outs old.outs }
  | none => some u

theorem get_undoOne (db : DB) (u : Rec) (k : Nat) :
    (undoOne db u).get k = if u.txid = k then undoResult u (db.get u.txid) else db.get k := by
  unfold undoOne undoResult
  cases db.get u.txid <;> simp only [get_put]

-- ------------------------------------------------------------------------------------------ folds of key-local steps

/-- a fold of steps that each touch only their own key leaves every other key alone -/
theorem foldl_get_other {α} (step : DB → α → DB) (key : α → Nat)
    (hloc : ∀ d x k, key x ≠ k → (step d x).get k = d.get k)
    (l : List α) (d : DB) (k : Nat) (hk : ∀ x ∈ l, key x ≠ k) :
    (l.foldl step d).get k = d.get k :=
  List.foldlRecOn (motive := (·.get k = d.get k)) l step rfl fun d' hd x hx => (hloc d' x k (hk x hx)).trans hd

/-- with pairwise distinct keys, the value under `key x` after the fold is what the single step `x` makes of the
    value that was there at the start (the step's result under its key depends only on that value) -/
theorem foldl_get_hit {α} (step : DB → α → DB) (key : α → Nat)
    (hloc : ∀ d x k, key x ≠ k → (step d x).get k = d.get k)
    (res : α → Option Rec → Option Rec)
    (hres : ∀ d x, (step d x).get (key x) = res x (d.get (key x)))
    (l : List α) (hnd : (l.map key).Nodup) (d : DB) (x : α) (hx : x ∈ l) :
    (l.foldl step d).get (key x) = res x (d.get (key x)) := by
  induction l generalizing d with
  | nil => cases hx
  | cons y ys ih =>
    simp only [List.map_cons, List.nodup_cons] at hnd
    simp only [List.foldl_cons]
    rcases List.mem_cons.mp hx with rfl | hin
    · rw [foldl_get_other step key hloc ys (step d x) (key x)]
      · exact hres d x
      · intro z hz heq
        exact hnd.1 (heq ▸ List.mem_map_of_mem hz)
    · rw [ih hnd.2 (step d y) hin, hloc d y (key x) fun heq => hnd.1 (heq ▸ List.mem_map_of_mem hin)]

theorem get_foldl_erase (l : List Nat) (d : DB) (k : Nat) :
    (l.foldl DB.erase d).get k = if k ∈ l then none else d.get k := by
  induction l generalizing d with
  | nil => simp
  | cons t ts ih =>
    simp only [List.foldl_cons, ih, get_erase, List.mem_cons]
    by_cases h1 : k ∈ ts <;> by_cases h2 : k = t <;> simp [h1, h2, Ne.symm]

theorem undoRecOf_txid (u : DB) (p : Nat × List Bool) : (undoRecOf u p).txid = p.1 := by
  unfold undoRecOf
  split
  · rename_i r h; exact (get_txid h : r.txid = p.1)
  · rfl

/-- what `commitTxs` guarantees about the changes of a block it accepted on `u` -/
structure ValidChanges (u : DB) (txids : List Nat) (ch : Changes) : Prop where
  nodup : (ch.deled.map (·.1)).Nodup
  present : ∀ p ∈ ch.deled, (u.get p.1).isSome
  undo_eq : ch.undo = undoOf u ch.deled
  fresh : ∀ t ∈ txids, u.get t = none
  adds : ∀ r ∈ ch.addList, r.txid ∈ txids

/-- core lemma, record level: undoing a committed block with the undo data it produced gives back the map -/
theorem undo_commit_get (u : DB) (txids : List Nat) (ch : Changes) (hv : ValidChanges u txids ch) (k : Nat) :
    (undoBlock (commit u ch) txids ch.undo).get k = u.get k := by
  obtain ⟨hnd, hpres, hundo, hfresh, hadds⟩ := hv
  unfold undoBlock commit
  simp only
  rw [hundo, undoOf, List.foldl_map]
  generalize hd1 : ch.deled.foldl (fun d p => d.del p.1 p.2) u = d1
  generalize hd2 : ch.addList.foldl DB.put d1 = d2
  generalize hd3 : txids.foldl DB.erase d2 = d3
  -- the map after the deletes: a deleted key holds what `del` leaves of its record, every other key is as before
  have hlocd : ∀ (d : DB) (x : Nat × List Bool) (k : Nat), x.1 ≠ k → (d.del x.1 x.2).get k = d.get k := by
    intro d x k h; rw [get_del]; simp [h]
  have hhit1 := foldl_get_hit (fun d p => d.del p.1 p.2) (·.1) hlocd
    (fun p v => match v with | none => none | some r => delResult r p.2)
    (by intro d x; rw [get_del]; simp) ch.deled hnd u
  have hoth1 := foldl_get_other (fun d p => d.del p.1 p.2) (·.1) hlocd ch.deled u
  rw [hd1] at hhit1 hoth1
  have h2 : ∀ k, k ∉ txids → d2.get k = d1.get k := by
    intro k hk
    rw [← hd2]
    exact foldl_get_other DB.put Rec.txid (by intro d x k h; rw [get_put]; simp [h]) ch.addList d1 k
      (by intro x hx heq; exact hk (heq ▸ hadds x hx))
  have h3 : ∀ k, d3.get k = if k ∈ txids then none else d2.get k := by
    intro k; rw [← hd3]; exact get_foldl_erase txids d2 k
  have hloc : ∀ (d : DB) (x : Nat × List Bool) (k : Nat), x.1 ≠ k → (undoOne d (undoRecOf u x)).get k = d.get k := by
    intro d x k h
    rw [get_undoOne, undoRecOf_txid]; simp [h]
  have hnotin : ∀ p ∈ ch.deled, p.1 ∉ txids := by
    intro p hp hin
    simpa [hfresh p.1 hin] using hpres p hp
  by_cases hk : ∃ p ∈ ch.deled, p.1 = k
  · obtain ⟨p, hp, rfl⟩ := hk
    have hhit := foldl_get_hit (fun d p => undoOne d (undoRecOf u p)) (·.1) hloc
      (fun p v => undoResult (undoRecOf u p) v)
      (by intro d x
          rw [get_undoOne, if_pos (undoRecOf_txid u x), undoRecOf_txid])
      ch.deled hnd d3 p hp
    rw [hhit, h3, if_neg (hnotin p hp), h2 _ (hnotin p hp), hhit1 p hp]
    obtain ⟨r, hg⟩ := Option.isSome_iff_exists.mp (hpres p hp)
    simp only [hg, delResult]
    by_cases hany : (delOuts r.outs p.2).any Option.isSome
    · simp only [hany, if_true, undoRecOf, hg, undoResult, merge_mask_del]
    · have hf : (delOuts r.outs p.2).any Option.isSome = false := by simpa using hany
      simp only [hf, undoRecOf, hg, undoResult]
      rw [mask_eq_of_del_empty _ _ hf]
      rfl
  · have hk' : ∀ p ∈ ch.deled, p.1 ≠ k := fun p hp heq => hk ⟨p, hp, heq⟩
    rw [foldl_get_other (fun d p => undoOne d (undoRecOf u p)) (·.1) hloc ch.deled d3 k hk', h3]
    by_cases hin : k ∈ txids
    · simp [hin, hfresh k hin]
    · simp only [hin, if_false]
      rw [h2 k hin, hoth1 k hk']

theorem nodupB_sound : ∀ l : List Nat, nodupB l = true → l.Nodup
  | [], _ => List.nodup_nil
  | x :: xs, h => by
    simp only [nodupB, Bool.and_eq_true, Bool.not_eq_true', List.contains_eq_mem, decide_eq_false_iff_not] at h
    exact List.nodup_cons.mpr ⟨h.1, nodupB_sound xs h.2⟩

theorem validChangesB_sound (u : DB) (txids : List Nat) (ch : Changes)
    (h : validChangesB u txids ch = true) : ValidChanges u txids ch := by
  simp only [validChangesB, Bool.and_eq_true, List.all_eq_true, decide_eq_true_eq] at h
  obtain ⟨⟨⟨⟨h1, h2⟩, h3⟩, h4⟩, h5⟩ := h
  exact ⟨nodupB_sound _ h1, h2, h3, fun t ht => by simpa using h4 t ht, fun r hr => by simpa using h5 r hr⟩

end GocoinV.UtxoOps
