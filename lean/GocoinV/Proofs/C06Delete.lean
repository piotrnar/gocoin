/-
  Proofs.C06Delete — DeleteBranch of the chain model in a well-formed tree: `subtree` (fuel #nodes+1) is exactly the set
  of descendants of the deleted block, the result is again well-formed, strictly smaller, and keeps every other node
  (parent, height, bits), every other stored block, and the ARRIVAL ORDER of the remaining children of every node.
-/
import GocoinV.Proofs.C06Wf
namespace GocoinV.ChainTree
open GocoinV.UtxoOps

-- ------------------------------------------------------------------------------------------ subtree = descendants

theorem self_mem_subtree (c : Chain) (f a : Nat) : a ∈ subtree c f a := by
  cases f with
  | zero => simp [subtree]
  | succ f => unfold subtree; split <;> simp

theorem subtree_desc {U : List Block} {c : Chain} (w : TreeWF U c) :
    ∀ (f a x : Nat), x ∈ subtree c f a → Desc c a x := by
  intro f
  induction f with
  | zero =>
    intro a x h
    simp only [subtree, List.mem_singleton] at h
    subst h; exact Desc.refl
  | succ f ih =>
    intro a x h
    unfold subtree at h
    split at h
    · simp only [List.mem_singleton] at h
      subst h; exact Desc.refl
    · rename_i na hna
      rcases List.mem_cons.mp h with h | h
      · subst h; exact Desc.refl
      · obtain ⟨ch, hch, hx⟩ := List.mem_flatMap.mp h
        obtain ⟨hcr, m, hm, hmp⟩ := w.childs a na hna ch hch
        have h1 : Desc c a ch := hmp ▸ Desc.parent hm hcr
        exact h1.trans (ih ch x hx)

theorem desc_subtree {U : List Block} {c : Chain} (w : TreeWF U c) (H : Nat)
    (hH : ∀ y m, getNode c y = some m → m.height < H) :
    ∀ (f a : Nat) (na : Node) (x : Nat), getNode c a = some na → na.height + f ≥ H → Desc c a x →
      x ∈ subtree c f a := by
  intro f
  induction f with
  | zero =>
    intro a na x hna hf _
    have := hH a na hna
    omega
  | succ f ih =>
    intro a na x hna hf hd
    unfold subtree
    rw [hna]
    simp only
    by_cases hax : a = x
    · subst hax; exact List.mem_cons_self
    · obtain ⟨ch, m, hm, hmp, hcr, hdd⟩ := hd.child_split hax
      obtain ⟨p, hp, hh, hmem⟩ := w.par ch m hm hcr
      rw [hmp, hna] at hp; cases hp
      exact List.mem_cons_of_mem _ (List.mem_flatMap.mpr ⟨ch, hmem, ih ch m x hm (by omega) hdd⟩)

/-- **`subtree` with fuel #nodes+1 is the set of descendants** -/
theorem mem_subtree_iff {U : List Block} {c : Chain} (w : TreeWF U c) {a : Nat} {na : Node}
    (hna : getNode c a = some na) (x : Nat) :
    x ∈ subtree c (c.nodes.length + 1) a ↔ Desc c a x :=
  ⟨subtree_desc w _ a x,
   desc_subtree w c.nodes.length (fun _ _ h => height_lt_length w h) _ a na x hna (by omega)⟩

/-- the filter of DeleteBranch: ids outside the subtree below `a` -/
def aliveB (c : Chain) (a : Nat) (x : Nat) : Bool := !(subtree c (c.nodes.length + 1) a).contains x

theorem dead_iff {U : List Block} {c : Chain} (w : TreeWF U c) {a : Nat} {na : Node}
    (hna : getNode c a = some na) (x : Nat) :
    aliveB c a x = true ↔ ¬ Desc c a x := by
  rw [← mem_subtree_iff w hna x]
  simp [aliveB]

-- ------------------------------------------------------------------------------------------ deleteBranch as a function

/-- what DeleteBranch does to the parent of the deleted node -/
def delChild (nx : Nat) (p : Node) : Node := { p with childs := p.childs.filter (· != nx) }

theorem deleteBranch_nodes {c : Chain} {nx : Nat} {nxt : Node} (hn : getNode c nx = some nxt) :
    (deleteBranch c nx).nodes = (modNode c nxt.parent (delChild nx)).nodes.filter
      (fun m => aliveB c nx m.id) := by
  unfold deleteBranch; rw [hn]; rfl

theorem deleteBranch_store {c : Chain} {nx : Nat} {nxt : Node} (hn : getNode c nx = some nxt) :
    (deleteBranch c nx).store = c.store.filter
      (fun s => aliveB c nx s.1) := by
  unfold deleteBranch; rw [hn]; rfl

theorem getNode_deleteBranch_aux {c : Chain} {nx : Nat} {nxt : Node} (hn : getNode c nx = some nxt) (x : Nat) :
    getNode (deleteBranch c nx) x =
      if aliveB c nx x = true then
        (getNode c x).map (fun n => if n.id == nxt.parent then delChild nx n else n) else none := by
  rw [(getNode_nodes (c' := deleteBranch c nx) (deleteBranch_nodes hn) x).trans
    (getNode_filter_eq (modNode c nxt.parent (delChild nx)) (aliveB c nx) x),
    getNode_modNode_eq c nxt.parent x (delChild nx) (fun _ => rfl)]

theorem getNode_deleteBranch_alive {U : List Block} {c : Chain} (w : TreeWF U c) {nx : Nat} {nxt : Node}
    (hn : getNode c nx = some nxt) (x : Nat) (ha : ¬ Desc c nx x) :
    getNode (deleteBranch c nx) x = (getNode c x).map fun n =>
      { n with childs := if x = nxt.parent then n.childs.filter (· != nx) else n.childs } := by
  rw [getNode_deleteBranch_aux hn, if_pos ((dead_iff w hn x).mpr ha)]
  cases h : getNode c x with
  | none => rfl
  | some n =>
    rw [← getNode_id h]
    simp only [Option.map_some, beq_iff_eq]
    split <;> rfl

theorem getNode_deleteBranch_dead {U : List Block} {c : Chain} (w : TreeWF U c) {nx : Nat} {nxt : Node}
    (hn : getNode c nx = some nxt) (x : Nat) (hd : Desc c nx x) : getNode (deleteBranch c nx) x = none := by
  rw [getNode_deleteBranch_aux hn, if_neg (fun h => (dead_iff w hn x).mp h hd)]

theorem store_deleteBranch_alive {U : List Block} {c : Chain} (w : TreeWF U c) {nx : Nat} {nxt : Node}
    (hn : getNode c nx = some nxt) (k : Nat) (ha : ¬ Desc c nx k) :
    alookup k (deleteBranch c nx).store = alookup k c.store := by
  rw [deleteBranch_store hn, alookup_filter_eq (aliveB c nx) k c.store, if_pos ((dead_iff w hn k).mpr ha)]

theorem store_deleteBranch_dead {U : List Block} {c : Chain} (w : TreeWF U c) {nx : Nat} {nxt : Node}
    (hn : getNode c nx = some nxt) (k : Nat) (hd : Desc c nx k) :
    alookup k (deleteBranch c nx).store = none := by
  rw [deleteBranch_store hn, alookup_filter_eq (aliveB c nx) k c.store, if_neg (fun h => (dead_iff w hn k).mp h hd)]

/-- a node that is not below `nx` survives with the same parent, height, bits, txCount, and its children except `nx` -/
theorem deleteBranch_old {U : List Block} {c : Chain} (w : TreeWF U c) {nx : Nat} {nxt : Node}
    (hn : getNode c nx = some nxt) (x : Nat) (n : Node) (h : getNode c x = some n) (ha : ¬ Desc c nx x) :
    ∃ n', getNode (deleteBranch c nx) x = some n' ∧ n'.parent = n.parent ∧ n'.height = n.height ∧
      n'.bits = n.bits ∧ n'.txCount = n.txCount := by
  rw [getNode_deleteBranch_alive w hn x ha, h]
  exact ⟨_, rfl, rfl, rfl, rfl, rfl⟩

/-- every node of the result is a node of `c` not below `nx`; the parent of `nx` no longer lists it -/
theorem deleteBranch_back {U : List Block} {c : Chain} (w : TreeWF U c) {nx : Nat} {nxt : Node}
    (hn : getNode c nx = some nxt) (x : Nat) (n' : Node) (h : getNode (deleteBranch c nx) x = some n') :
    ¬ Desc c nx x ∧ ∃ n, getNode c x = some n ∧ n'.parent = n.parent ∧ n'.height = n.height ∧
      n'.bits = n.bits ∧ n'.txCount = n.txCount := by
  by_cases ha : Desc c nx x
  · rw [getNode_deleteBranch_dead w hn x ha] at h; cases h
  · rw [getNode_deleteBranch_alive w hn x ha] at h
    obtain ⟨n, h1, rfl⟩ := Option.map_eq_some_iff.mp h
    exact ⟨ha, n, h1, rfl, rfl, rfl, rfl⟩

-- ------------------------------------------------------------------------------------------ the invariant

theorem deleteBranch_wf {U : List Block} {c : Chain} (w : TreeWF U c) {nx : Nat} {nxt : Node}
    (hn : getNode c nx = some nxt) (hx : nx ≠ c.root) : TreeWF U (deleteBranch c nx) := by
  have hr := (deleteBranch_fields c nx).2.2.2.2
  have old : ∀ x n, getNode c x = some n → ¬ Desc c nx x → getNode (deleteBranch c nx) x =
      some { n with childs := if x = nxt.parent then n.childs.filter (· != nx) else n.childs } :=
    fun x n h ha => by rw [getNode_deleteBranch_alive w hn x ha, h]; rfl
  have back : ∀ x n', getNode (deleteBranch c nx) x = some n' → ¬ Desc c nx x ∧ ∃ n, getNode c x = some n ∧
      { n with childs := if x = nxt.parent then n.childs.filter (· != nx) else n.childs } = n' := by
    intro x n' h
    by_cases ha : Desc c nx x
    · rw [getNode_deleteBranch_dead w hn x ha] at h; cases h
    · rw [getNode_deleteBranch_alive w hn x ha] at h
      exact ⟨ha, Option.map_eq_some_iff.mp h⟩
  have hrootAlive : ¬ Desc c nx c.root := fun h => hx (Desc.root_only h)
  refine ⟨?_, ?_, ?_, ?_, ?_, ?_, ?_⟩
  · obtain ⟨r, h1, h2⟩ := w.root
    rw [hr]; exact ⟨_, old _ _ h1 hrootAlive, h2⟩
  · intro x n' hn' hxr
    rw [hr] at hxr
    obtain ⟨ha, n, h1, rfl⟩ := back x n' hn'
    obtain ⟨p, h2, h3, h4⟩ := w.par x n h1 hxr
    refine ⟨_, old _ _ h2 fun hd => ha (Desc.step h1 hxr hd), h3, ?_⟩
    dsimp only; split
    · exact List.mem_filter.mpr ⟨h4, bne_iff_ne.mpr fun e => ha (e ▸ Desc.refl)⟩
    · exact h4
  · intro y p' hp' z hz
    obtain ⟨hya, p, h1, rfl⟩ := back y p' hp'
    have hz' : z ∈ p.childs ∧ (y = nxt.parent → z ≠ nx) := by
      dsimp only at hz; split at hz
      · exact ⟨(List.mem_filter.mp hz).1, fun _ => bne_iff_ne.mp (List.mem_filter.mp hz).2⟩
      · exact ⟨hz, fun e => absurd e ‹_›⟩
    obtain ⟨h3, m, h4, h5⟩ := w.childs y p h1 z hz'.1
    have hza : ¬ Desc c nx z := by
      intro hd
      cases hd with
      | refl =>
        rw [hn] at h4; cases h4
        exact hz'.2 h5.symm rfl
      | step hm _ hd2 =>
        rw [h4] at hm; cases hm
        rw [h5] at hd2
        exact hya hd2
    exact ⟨by rw [hr]; exact h3, _, old _ _ h4 hza, h5⟩
  · intro x n' hn' hxr
    rw [hr] at hxr
    obtain ⟨ha, n, h1, rfl⟩ := back x n' hn'
    rw [store_deleteBranch_alive w hn x ha]
    exact w.blk x n h1 hxr
  · intro x n' hn' h0
    obtain ⟨ha, n, h1, rfl⟩ := back x n' hn'
    rw [store_deleteBranch_alive w hn x ha]
    exact w.hdr x n h1 h0
  · intro x n' hn' hxr htc
    rw [hr] at hxr
    obtain ⟨ha, n, h1, rfl⟩ := back x n' hn'
    obtain ⟨p, h2, h3⟩ := w.anc x n h1 hxr htc
    exact ⟨_, old _ _ h2 fun hd => ha (Desc.step h1 hxr hd), (HasData.congr hr rfl).mpr h3⟩
  · intro k s h
    by_cases ha : Desc c nx k
    · rw [store_deleteBranch_dead w hn k ha] at h; cases h
    · rw [store_deleteBranch_alive w hn k ha] at h
      exact w.store_kept hr h fun n h3 => by rw [old _ _ h3 ha]; rfl

/-- **DeleteBranch keeps the tree well-formed and removes exactly the descendants of `nx`** -/
theorem deleteBranch_spec {U : List Block} {c : Chain} (w : TreeWF U c) {nx : Nat} {nxt : Node}
    (hn : getNode c nx = some nxt) (hx : nx ≠ c.root) :
    TreeWF U (deleteBranch c nx) ∧ (deleteBranch c nx).nodes.length < c.nodes.length ∧
    (∀ x n, getNode c x = some n → ¬ Desc c nx x →
      ∃ n', getNode (deleteBranch c nx) x = some n' ∧ n'.parent = n.parent ∧ n'.height = n.height ∧ n'.bits = n.bits ∧
        n'.txCount = n.txCount) ∧
    (∀ x n', getNode (deleteBranch c nx) x = some n' →
      ∃ n, getNode c x = some n ∧ n'.parent = n.parent ∧ n'.height = n.height ∧ n'.bits = n.bits ∧
        n'.txCount = n.txCount) ∧
    (∀ k s, alookup k c.store = some s → ¬ Desc c nx k → alookup k (deleteBranch c nx).store = some s) := by
  refine ⟨deleteBranch_wf w hn hx, ?_, deleteBranch_old w hn, fun x n' h => (deleteBranch_back w hn x n' h).2, ?_⟩
  · rw [deleteBranch_nodes hn]
    have hlen : (modNode c nxt.parent (delChild nx)).nodes.length = c.nodes.length := by
      unfold modNode; simp only [List.length_map]
    refine Nat.lt_of_lt_of_eq ?_ hlen
    apply List.length_filter_lt_length_iff_exists.mpr
    have h1 : getNode (modNode c nxt.parent (delChild nx)) nx =
        some (if nxt.id == nxt.parent then delChild nx nxt else nxt) := by
      rw [getNode_modNode_eq c nxt.parent nx (delChild nx) (fun _ => rfl), hn]; rfl
    refine ⟨_, getNode_mem h1, ?_⟩
    rw [getNode_id h1]
    exact fun h => (dead_iff w hn nx).mp h Desc.refl
  · intro k s h ha
    rw [store_deleteBranch_alive w hn k ha]; exact h

-- ------------------------------------------------------------------------------------------ the order of the remaining children

/- `Node.childs` mirrors `BlockTreeNode.Childs` (addChild appends; arrival order). `FindFarthestNode` lets the first child's
   subtree win an equal-work tie, so the order of the list is observable in the tip after a failed reorganisation. The Go
   `delChild` copies every child except the removed one into a new slice, in order; the model's `deleteBranch` filters the
   list. Below: the list of every surviving node after `deleteBranch c nx` is the old list with `nx` taken out and nothing
   else moved (a swap-remove — last child moved into the freed slot — does not satisfy this). -/

/-- children of every node that survives `deleteBranch c nx`: the old list without `nx`, order kept -/
theorem deleteBranch_childs {U : List Block} {c : Chain} (w : TreeWF U c) {nx : Nat} {nxt : Node}
    (hn : getNode c nx = some nxt) (y : Nat) (p : Node) (hp : getNode c y = some p) (ha : ¬ Desc c nx y) :
    ∃ p', getNode (deleteBranch c nx) y = some p' ∧ p'.childs = p.childs.filter (· != nx) ∧
      (y ≠ nxt.parent → p'.childs = p.childs) := by
  rw [getNode_deleteBranch_alive w hn y ha, hp]
  refine ⟨_, rfl, ?_, fun hne => if_neg hne⟩
  dsimp only; split
  · rfl
  · rename_i hq
    refine (List.filter_eq_self.mpr fun x hx => bne_iff_ne.mpr fun (e : x = nx) => ?_).symm
    obtain ⟨_, m, h4, h5⟩ := w.childs y p hp nx (e ▸ hx)
    rw [hn] at h4; cases h4
    exact hq h5.symm

/-- the parent of the deleted node survives, and its child list is the old one with `nx` erased -/
theorem deleteBranch_parent_childs {U : List Block} {c : Chain} (w : TreeWF U c) {nx : Nat} {nxt : Node}
    (hn : getNode c nx = some nxt) (hx : nx ≠ c.root) :
    ∃ p p', getNode c nxt.parent = some p ∧ getNode (deleteBranch c nx) nxt.parent = some p' ∧ nx ∈ p.childs ∧
      p'.childs = p.childs.filter (· != nx) := by
  obtain ⟨p, h2, h3, h4⟩ := w.par nx nxt hn hx
  obtain ⟨p', g1, g2, _⟩ := deleteBranch_childs w hn _ p h2 (not_below_of_le w hn h2 (by omega))
  exact ⟨p, p', h2, g1, h4, g2⟩

end GocoinV.ChainTree
