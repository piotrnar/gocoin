/-
  Proofs.C08_TabPrec — the comb table `prec` (64 rows × 16): ONE kernel evaluation of `rowsOK` establishes the 1024
  entries, every limb within the affine contract, and the row relations `precRowsOK` (`rowsOK_sound` in C08_TabAll).
  `fin` is within the contract; that it is −Σ_j 16^j·G is `fin_pt` in C08_MultGenFull.
-/
import GocoinV.Proofs.C08_TabDefs
import GocoinV.Gen.Tables

namespace GocoinV.C08
open GocoinV.Gen

/-- rows of 16: within a row every entry is the previous one plus the row's first entry
    (row = B, 2B, …, 16B); the next row starts at this row's last entry (16B); `n` rows, nothing left over -/
def precRowsOK : Nat → Secp.Point → List Secp.Point → Bool
  | 0, _, l => l.isEmpty
  | n+1, h, l =>
    let row := l.take 16
    (row.length == 16) && (row.headD none == h) && chainOK h row && precRowsOK n (row.getLastD none) (l.drop 16)

/-- Σ_j (first entry of row j), rows of 16, by reference additions -/
def headsSum : Nat → List Secp.Point → Secp.Point → Secp.Point
  | 0, _, acc => acc
  | n+1, l, acc => headsSum n (l.drop 16) (Secp.add acc (l.headD none))

/-- `precRowsOK` on the raw table, each row checked by `tableOK` -/
def rowsOK : Nat → Secp.Point → List (List Nat) → Bool
  | 0, _, l => l.isEmpty
  | n+1, h, l => tableOK h h 15 (l.take 16) && rowsOK n ((pts (l.take 16)).getLastD none) (l.drop 16)

theorem prec_ok : rowsOK 64 Secp.G Tables.precAll = true := by decide +kernel

theorem fin_ok : (entryPt Tables.fin).isSome = true := by decide +kernel

end GocoinV.C08
