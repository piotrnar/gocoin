/-
  Proofs.C04Final — assembling `connect_sound`: the context-free checks, the coinbase step, the final tests of
  commitTxs, and `abs (applyChanges …) = view of the final locals`.
-/
import GocoinV.Proofs.C04SimLoops
import GocoinV.Proofs.C04NoDouble
namespace GocoinV.Proofs.C04
open GocoinV GocoinV.Connect
open GocoinV.Spec.Connect (Coin Utxo absGet absList Acc connectTxs connectBlock addOuts outSum subsidy seqLockOk)

/-! ### script verdicts: commitTxs succeeds only if every input script verified -/

theorem procTx_scriptBad {cfg : Cfg} {db : DB} {b : Block} {isCb : Bool} {tx : Tx} {s s' : St}
    (h : procTx cfg db b isCb tx s = .ok s') :
    s'.scriptBad = (s.scriptBad || (!isCb && tx.ins.any (fun i => !i.scriptOk))) := by
  obtain ⟨s1, a, s2, h1, h2, rfl⟩ := procTx_ok h
  obtain ⟨_, _, _, rfl⟩ := settle_frame h2
  cases isCb with
  | true => obtain ⟨rfl, -⟩ := txInputs_cb_ok h1; simp
  | false =>
    obtain ⟨sp, hp, rfl⟩ := txInputs_ok h1
    obtain ⟨_, _, _, rfl⟩ := procInputs_frame hp
    simp

theorem procTxs_scripts (cfg : Cfg) (db : DB) (b : Block) (txs : List Tx) (s s' : St)
    (h : procTxs cfg db b false txs s = .ok s') (hb : s'.scriptBad = false) :
    s.scriptBad = false ∧ ∀ tx ∈ txs, ∀ i ∈ tx.ins, i.scriptOk = true := by
  induction txs generalizing s with
  | nil => cases h; exact ⟨hb, by simp⟩
  | cons tx r ih =>
    obtain ⟨s1, hp, h⟩ := procTxs_cons_ok h
    obtain ⟨g1, g2⟩ := ih s1 h
    have := procTx_scriptBad hp
    rw [g1] at this
    simp only [Bool.not_false, Bool.true_and] at this
    have h3 : s.scriptBad = false ∧ tx.ins.any (fun i => !i.scriptOk) = false := Bool.or_eq_false_iff.mp this.symm
    exact ⟨h3.1, List.forall_mem_cons.2 ⟨fun i hi => by simpa using List.any_eq_false.mp h3.2 i hi, g2⟩⟩

theorem procTx_coinbase {db : DB} {b : Block} {cb : Tx} {s1 : St}
    (h : procTx Cfg.current db b true cb (St.init b) = .ok s1) :
    s1 = { St.init b with blUnsp := [(cb.txid, (true, cb.outs.map some))], sigops := u32 (4 * legacySigOps cb),
                          sumOut := sumOuts cb.outs } := by
  obtain ⟨sa, a, s2, h1, h2, rfl⟩ := procTx_ok h
  obtain ⟨rfl, -⟩ := txInputs_cb_ok h1
  obtain rfl := settle_cb_ok h2
  simp only [St.init, aSet, St.mk.injEq, true_and, and_true, show WITNESS_SCALE_FACTOR = 4 from rfl]
  unfold u32; omega

/-! ### the result of UnspentDB.commit is the view of the final locals -/

theorem view_applyChanges (mtpOf : Nat → Nat) (db : DB) (b : Block) (s : St)
    (hn : (keys s.deled).Nodup) (hinj : ((keys s.blUnsp).map key8).Nodup)
    (hfree : ∀ k ∈ keys s.blUnsp, aGet db (key8 k) = none) (hmtp : mtpOf b.height = b.mtp) (op : OutPoint) :
    absGet mtpOf (applyChanges Cfg.current db b s) op = view mtpOf db b s op := by
  unfold applyChanges
  simp only [addList_eq]
  rw [foldl_dbAdd_abs mtpOf b s.blUnsp hinj _ (fun k hk => foldl_dbDel_none _ db _ (hfree k hk))]
  unfold view viewOf
  cases hbu : aGet s.blUnsp op.hash with
  | some ct =>
    have hu : unspentGet Cfg.current db op = none := by
      unfold unspentGet; rw [hfree _ (List.mem_map.mpr ⟨_, aGet_mem _ _ _ hbu, rfl⟩)]
    simp only [hu, hmtp]
  | none =>
    rw [foldl_dbDel_abs mtpOf s.deled hn db op, absGet_unspentGet]
    cases unspentGet Cfg.current db op <;> simp

/-! ### the context-free checks, and the shape of connectBlock -/

theorem isFinal_eq (tx : Tx) (h t : Nat) : isFinal tx h t = Spec.Connect.isFinalTx tx h t := by
  unfold isFinal Spec.Connect.isFinalTx
  rw [show LOCKTIME_THRESHOLD = 500000000 from rfl]
  by_cases h1 : tx.lockTime < 500000000
  · simp [h1, Nat.not_le.mpr h1, Bool.or_assoc]
  · simp [h1, Nat.not_lt.mp h1, Bool.or_assoc]

theorem checkOut_spec (outs : List TxOut) (tot : Nat) (ht : tot ≤ MAX_MONEY) (h : checkOutValues outs tot = .ok ()) :
    Spec.Connect.outsInRange outs tot = true := by
  induction outs generalizing tot with
  | nil => rfl
  | cons o r ih =>
    unfold checkOutValues at h
    have hm : MAX_MONEY = 2100000000000000 := by decide
    have hs : Spec.Connect.MAX_MONEY = 2100000000000000 := rfl
    by_cases h1 : o.value > MAX_MONEY
    · simp [h1] at h
    · simp only [h1, ↓reduceIte] at h
      have hu : u64 (tot + o.value) = tot + o.value := by unfold u64; omega
      rw [hu] at h
      by_cases h2 : tot + o.value > MAX_MONEY
      · simp [h2] at h
      · simp only [h2, ↓reduceIte] at h
        unfold Spec.Connect.outsInRange Spec.Connect.moneyRange
        rw [ih (tot + o.value) (by omega) h]
        simp [hs]
        omega

theorem forM_ok_iff {α ε : Type} (l : List α) (f : α → Except ε Unit) :
    l.forM f = .ok () ↔ ∀ x ∈ l, f x = .ok () := by
  induction l with
  | nil => simp [pure, Except.pure]
  | cons a r ih =>
    have hc : (a :: r).forM f = (f a >>= fun _ => r.forM f) := rfl
    rw [hc]
    cases ha : f a with
    | error e => simp [bind, Except.bind, ha]
    | ok u => simp [bind, Except.bind, ha]; exact ih

theorem isNull_eq (p : OutPoint) : p.isNull = Spec.Connect.isNull p := by
  unfold OutPoint.isNull Spec.Connect.isNull
  cases h : p.hash.all (· = 0) <;> simp

theorem isCoinBase_eq (tx : Tx) : tx.isCoinBase = Spec.Connect.isCoinBase tx := by
  unfold Tx.isCoinBase Spec.Connect.isCoinBase
  cases h : tx.ins with
  | nil => simp
  | cons i r =>
    cases r with
    | nil => simp [isNull_eq]
    | cons j r' => simp

theorem hasDup_of_nodup (l : List OutPoint) (h : l.Nodup) : Spec.Connect.hasDup l = false := by
  induction l with
  | nil => rfl
  | cons p r ih =>
    simp only [List.nodup_cons] at h
    unfold Spec.Connect.hasDup
    simp [ih h.2, h.1]

theorem checkTransaction_ok (tx : Tx) (h : checkTransaction Cfg.current tx = .ok ()) :
    tx.ins ≠ [] ∧ tx.outs ≠ [] ∧ u32 (tx.noWitSize * 4) ≤ MAX_BLOCK_WEIGHT ∧ checkOutValues tx.outs 0 = .ok ()
    ∧ (tx.isCoinBase = true → 2 ≤ (tx.ins.headD default).scriptSig.length ∧ (tx.ins.headD default).scriptSig.length ≤ 100)
    ∧ (tx.isCoinBase = false → tx.ins.any (·.prev.isNull) = false) := by
  unfold checkTransaction at h
  obtain ⟨h1, h⟩ := guard_ok h
  obtain ⟨h2, h⟩ := guard_ok h
  obtain ⟨h3, h⟩ := guard_ok h
  obtain ⟨_, h4, h⟩ := bind_ok h
  refine ⟨by simpa using h1, by simpa using h2, by omega, h4, ?_, ?_⟩
  · intro hc
    simp only [hc, ↓reduceIte] at h
    by_cases h5 : (tx.ins.headD default).scriptSig.length < 2 ∨ (tx.ins.headD default).scriptSig.length > 100
    · rw [if_pos h5] at h; cases h
    · omega
  · intro hc
    simp only [hc, Bool.false_eq_true, ↓reduceIte] at h
    by_cases h5 : tx.ins.any (·.prev.isNull) = true
    · rw [if_pos h5] at h; cases h
    · simpa using h5

/-- a coinbase has exactly one input -/
theorem isCoinBase_ins {tx : Tx} (h : tx.isCoinBase = true) : ∃ i, tx.ins = [i] := by
  unfold Tx.isCoinBase at h
  split at h
  · exact ⟨_, ‹_›⟩
  · cases h

theorem checkTx_spec (tx : Tx) (h : checkTransaction Cfg.current tx = .ok ()) (hsz : tx.noWitSize * 4 < 2 ^ 32)
    (hnd : (tx.ins.map (·.prev)).Nodup) : Spec.Connect.checkTransaction tx = .ok () := by
  obtain ⟨h1, h2, h3, h4, h5, h6⟩ := checkTransaction_ok tx h
  have hw : MAX_BLOCK_WEIGHT = 4000000 := rfl
  have hu : u32 (tx.noWitSize * 4) = tx.noWitSize * 4 := by unfold u32; omega
  rw [hu, hw] at h3
  have ho := checkOut_spec tx.outs 0 (by decide) h4
  have hd := hasDup_of_nodup _ hnd
  unfold Spec.Connect.checkTransaction
  have h3' : ¬ tx.noWitSize * 4 > 4000000 := by omega
  simp only [h1, h2, h3', ho, hd, ↓reduceIte, pure, Except.pure, Bool.not_true, Bool.false_eq_true]
  cases hc : tx.isCoinBase with
  | true =>
    rw [← isCoinBase_eq, hc]
    obtain ⟨q1, q2⟩ := h5 hc
    obtain ⟨i, hi⟩ := isCoinBase_ins hc
    rw [hi] at q1 q2
    simp only [List.headD_cons] at q1 q2
    have : ¬ (i.scriptSig.length < 2 ∨ i.scriptSig.length > 100) := by omega
    simp [hi, this]
  | false =>
    rw [← isCoinBase_eq, hc]
    have := h6 hc
    simp only [Bool.false_eq_true, ↓reduceIte]
    have e : (tx.ins.any fun i => Spec.Connect.isNull i.prev) = false := by
      rw [← this]; congr 1; funext i; exact (isNull_eq _).symm
    simp [e]

theorem checkBlockTxs_ok (b : Block) (h : checkBlockTxs Cfg.current b = .ok ()) :
    ∃ cb rest, b.txs = cb :: rest ∧ cb.isCoinBase = true ∧ rest.any (·.isCoinBase) = false
      ∧ ∀ tx ∈ b.txs, checkTransaction Cfg.current tx = .ok ()
          ∧ isFinal tx b.height (if b.csv then b.mtp else b.time) = true := by
  unfold checkBlockTxs at h
  cases ht : b.txs with
  | nil => simp [ht, bind, Except.bind, throw, throwThe, MonadExceptOf.throw] at h
  | cons cb rest =>
    simp only [ht] at h
    by_cases h1 : cb.isCoinBase = true
    · by_cases h2 : rest.any (·.isCoinBase) = true
      · simp [h1, h2, bind, Except.bind, throw, throwThe, MonadExceptOf.throw] at h
      · simp only [h1, h2, bind, Except.bind, pure, Except.pure, Bool.not_true, Bool.false_eq_true, ↓reduceIte] at h
        refine ⟨cb, rest, rfl, h1, by simpa using h2, ?_⟩
        have := (forM_ok_iff _ _).mp h
        intro tx htx
        obtain ⟨_, hq, q⟩ := bind_ok (this tx htx)
        refine ⟨hq, ?_⟩
        by_cases hf : isFinal tx b.height (if b.csv = true then b.mtp else b.time) = true
        · exact hf
        · simp [hf, throw, throwThe, MonadExceptOf.throw] at q
    · simp [h1, bind, Except.bind, throw, throwThe, MonadExceptOf.throw] at h

theorem forM_match_ok {α ε β : Type} (l : List α) (f : α → Except ε Unit) (r : β) (h : ∀ x ∈ l, f x = .ok ()) :
    (match l.forM f with
     | Except.error e => (Except.error e : Except ε β)
     | Except.ok _ => Except.ok r) = Except.ok r := by
  rw [(forM_ok_iff l f).mpr h]

theorem connectBlock_ok (u : Utxo) (b : Block) (cb : Tx) (rest : List Tx) (a : Acc)
    (ht : b.txs = cb :: rest) (h1 : Spec.Connect.isCoinBase cb = true) (h2 : rest.any Spec.Connect.isCoinBase = false)
    (h3 : ∀ tx ∈ b.txs, Spec.Connect.checkTransaction tx = .ok ()
            ∧ Spec.Connect.isFinalTx tx b.height (if b.csv then b.mtp else b.time) = true)
    (h4 : connectTxs b rest ⟨addOuts u cb.txid b true cb.outs 0, 0, 4 * Spec.Connect.legacySigOps cb⟩ = .ok a)
    (h5 : a.sigops ≤ 80000) (h6 : outSum cb ≤ subsidy b.height + a.fees) :
    connectBlock u b = .ok a.utxo := by
  unfold connectBlock
  have hforM : (b.txs.forM fun tx => do
      Spec.Connect.checkTransaction tx
      if !Spec.Connect.isFinalTx tx b.height (if b.csv then b.mtp else b.time) then throw Spec.Connect.Err.nonFinal) = .ok () := by
    apply (forM_ok_iff _ _).mpr
    intro tx htx
    obtain ⟨q1, q2⟩ := h3 tx htx
    simp [q1, q2, bind, Except.bind, pure, Except.pure]
  rw [ht] at hforM ⊢
  have h5' : ¬ a.sigops > 80000 := by omega
  have h6' : ¬ outSum cb > subsidy b.height + a.fees := by omega
  simp only [hforM]
  simp only [h1, h2, bind, Except.bind, pure, Except.pure, Bool.not_true, Bool.false_eq_true, ↓reduceIte, h4, h5', h6']


/-! ### assembling -/

theorem nodup_of_spentOps (txs : List Tx) (h : (spentOps txs).Nodup) : ∀ tx ∈ txs, (tx.ins.map (·.prev)).Nodup :=
  fun _ htx => List.Nodup.sublist (List.sublist_flatten_of_mem (List.mem_map_of_mem (f := fun t : Tx => t.ins.map (·.prev)) htx))
    (by rwa [spentOps, List.flatMap_def] at h)

/-- an accepted block passed the transaction checks; the new set and the cost come from the locals of `commitTxs` -/
theorem connect_ok {cfg : Cfg} {db db' : DB} {b : Block} {so : Nat} (h : connect cfg db b = .ok (db', so)) :
    checkBlockTxs cfg b = .ok () ∧ ∃ s, commitTxs cfg db b = .ok s ∧ applyChanges cfg db b s = db' ∧ s.sigops = so := by
  unfold connect at h
  obtain ⟨_, hc, h⟩ := bind_ok h
  obtain ⟨s, hs, h⟩ := bind_ok h
  cases h
  exact ⟨hc, s, hs, rfl, rfl⟩

/-- The refinement, with the no-wrap fact about the consensus sigop cost still a hypothesis (`hcost`); it is
    discharged from the size bound in `Props.C04.connect_sound`.  The conclusion exposes the run of the sequential
    specification over the non-coinbase transactions: it STARTS from `4 * legacySigOps cb` (the coinbase's own input
    script and output scripts), and the number it ends with is the `SigopsCost` the code reports. -/
theorem connect_sound_core_sigops (mtpOf : Nat → Nat) (db : DB) (b : Block) (db' : DB) (so : Nat)
    (hwf : WF db)
    (hinj : ((b.txs.map (·.txid)).map key8).Nodup)
    (hbip30 : ∀ tx ∈ b.txs, aGet db (key8 tx.txid) = none)
    (hseq : b.csv = true → ∀ tx ∈ b.txs, 2 ≤ tx.version → ∀ i ∈ tx.ins, ∀ c : Coin,
        (absGet mtpOf db i.prev = some c ∨ (absGet mtpOf db i.prev = none ∧ c.height = b.height ∧ c.mtpPrev = b.mtp)) → seqLockOk b.height b.mtp i c = true)
    (hret : ∀ tx ∈ b.txs, txCountsAgree tx = true)
    (hheights : ∀ k r, aGet db k = some r → r.height ≤ b.height) (hb : b.height < 2 ^ 32)
    (hmtp : mtpOf b.height = b.mtp)
    (hsize : ∀ tx ∈ b.txs, tx.noWitSize * 4 < 2 ^ 32)
    (hcost : ∀ cb rest a, b.txs = cb :: rest →
        connectTxs b rest ⟨addOuts (absList mtpOf db) cb.txid b true cb.outs 0, 0, 4 * Spec.Connect.legacySigOps cb⟩ = .ok a →
        a.sigops < 2 ^ 32)
    (h : connect Cfg.current db b = .ok (db', so)) :
    ∃ cb rest a', b.txs = cb :: rest
      ∧ connectTxs b rest ⟨addOuts (absList mtpOf db) cb.txid b true cb.outs 0, 0, 4 * Spec.Connect.legacySigOps cb⟩ = .ok a'
      ∧ connectBlock (absList mtpOf db) b = .ok a'.utxo ∧ (∀ op, aGet a'.utxo op = absGet mtpOf db' op)
      ∧ so = a'.sigops ∧ a'.sigops ≤ 80000 := by
  obtain ⟨hc, s, hs, hdb', hso'⟩ := connect_ok h
  obtain ⟨cb, rest, ht, hcb, hrest, hall⟩ := checkBlockTxs_ok b hc
  have hids : (b.txs.map (·.txid)).Nodup := List.Pairwise.of_map key8 (fun _ _ hne e => hne (congrArg key8 e)) hinj
  have hnd := commitTxs_nodup _ db b s hids hs
  obtain ⟨_, sf2, _, sf4⟩ := commitTxs_sums db b s hs
  have hsig80 := commitTxs_sigops _ db b s hs
  obtain ⟨hp, hsb, -, -⟩ := commitTxs_ok hs
  rw [ht] at hp hnd hids hinj
  obtain ⟨s1, hp1, hp⟩ := procTxs_cons_ok hp
  have e1 := procTx_coinbase hp1
  obtain ⟨_, hscr⟩ := procTxs_scripts _ db b rest s1 s hp hsb
  simp only [List.tail_cons] at hnd
  have hndtx := nodup_of_spentOps rest hnd
  simp only [List.map_cons, List.nodup_cons] at hids
  have hmem : ∀ tx ∈ rest, tx ∈ b.txs := fun tx htx => by rw [ht]; exact List.mem_cons_of_mem _ htx
  have hcbmem : cb ∈ b.txs := by rw [ht]; simp
  have htxok : ∀ tx ∈ rest, TxOk mtpOf db b tx := by
    intro tx htx
    have hr := hret tx (hmem tx htx)
    refine ⟨?_, hr, (checkTransaction_ok tx (hall tx (hmem tx htx)).1).2.2.2.1, hbip30 tx (hmem tx htx)⟩
    intro i hi
    unfold txCountsAgree at hr
    simp only [Bool.and_eq_true, List.all_eq_true] at hr
    exact ⟨hscr tx htx i hi, fun c hc q1 q2 => hseq q1 tx (hmem tx htx) q2 i hi c hc, (hr.1 i hi).1.2, (hr.1 i hi).2⟩
  -- the state after the coinbase denotes the map with the coinbase outputs added
  have hrel0 : ∀ op, aGet (absList mtpOf db) op = view mtpOf db b (St.init b) op := by
    intro op
    rw [aGet_absList mtpOf db hwf, absGet_unspentGet]
    unfold view viewOf
    cases hu : unspentGet Cfg.current db op with
    | none => simp [St.init, aGet]
    | some f => simp [St.init, delMarked, aGet]
  have hinv1 : Inv mtpOf db b s1 (addOuts (absList mtpOf db) cb.txid b true cb.outs 0) := by
    refine ⟨?_, by rw [e1]; exact List.nodup_nil⟩
    exact rel_addOuts mtpOf db b (St.init b) s1 _ cb.txid true cb.outs hrel0 (by simp [St.init, keys])
      (hbip30 cb hcbmem) (by rw [e1]) (by rw [e1]; rfl)
  have hfresh : ∀ tx ∈ rest, tx.txid ∉ keys s1.blUnsp := by
    intro tx htx
    rw [e1]
    simp only [keys, List.map_cons, List.map_nil, List.mem_singleton]
    intro e
    exact hids.1 (List.mem_map.mpr ⟨tx, htx, e⟩)
  have hsig1 : s1.sigops = u32 (4 * Spec.Connect.legacySigOps cb) := by
    rw [e1, ← legacy_eq cb (hret cb hcbmem)]
  obtain ⟨a', k1, k2, k3, k4, k5, k6, k7, k8, k9⟩ :=
    procTxs_sim mtpOf db b rest s1 s ⟨addOuts (absList mtpOf db) cb.txid b true cb.outs 0, 0, 4 * Spec.Connect.legacySigOps cb⟩
      hheights hb hinv1 (by rw [e1]; rfl) (by rw [e1]; exact Nat.zero_le _) hsig1 hfresh hids.2 htxok hp
  have hlt := hcost cb rest a' ht k1
  have hso : a'.sigops ≤ 80000 := by
    have hm : MAX_BLOCK_SIGOPS_COST = 80000 := rfl
    rw [k5, hm] at hsig80
    unfold u32 at hsig80
    omega
  obtain ⟨_, x2⟩ := checkOutValues_exact cb.outs 0 (by decide) (checkTransaction_ok cb (hall cb hcbmem).1).2.2.2.1
  simp only [Nat.zero_add] at x2
  have hcbout : outSum cb ≤ subsidy b.height + a'.fees := by
    have : s.sumOut = outSum cb := by rw [k8, e1]; unfold sumOuts; rw [x2]; rfl
    rw [← this, ← k3, ← reward_eq_subsidy]; exact sf4
  have hspecall : ∀ tx ∈ b.txs, Spec.Connect.checkTransaction tx = .ok ()
      ∧ Spec.Connect.isFinalTx tx b.height (if b.csv then b.mtp else b.time) = true := by
    intro tx htx
    obtain ⟨q1, q2⟩ := hall tx htx
    refine ⟨checkTx_spec tx q1 (hsize tx htx) ?_, by rw [← isFinal_eq]; exact q2⟩
    rw [ht] at htx
    simp only [List.mem_cons] at htx
    rcases htx with e | e
    · subst e; obtain ⟨i, hi⟩ := isCoinBase_ins hcb; simp [hi]
    · exact hndtx tx e
  have hrest' : rest.any Spec.Connect.isCoinBase = false := by
    rw [← hrest]; congr 1; funext t; exact (isCoinBase_eq t).symm
  have hcb' : Spec.Connect.isCoinBase cb = true := by rw [← isCoinBase_eq]; exact hcb
  have hsoeq : so = a'.sigops := by
    rw [← hso', k5]; unfold u32; omega
  refine ⟨cb, rest, a', ht, k1, connectBlock_ok _ b cb rest a' ht hcb' hrest' hspecall k1 hso hcbout, ?_, hsoeq, hso⟩
  intro op
  rw [k2.rel op, ← hdb']
  have hkeys : keys s.blUnsp = b.txs.map (·.txid) := by
    rw [k6, e1, ht]; simp [keys]
  symm
  apply view_applyChanges mtpOf db b s k2.dnodup
  · rw [hkeys, ht]; exact hinj
  · rw [hkeys, List.forall_mem_map]; exact hbip30
  · exact hmtp


/-! ### the sigop accumulator of the specification is a running sum -/

open GocoinV.Spec.Connect (connectTx spendInputs) in
/-- starting one transaction from `k'` instead of `k` changes nothing but the final count, by the same amount -/
theorem connectTx_shift (b : Block) (tx : Tx) (u : Utxo) (f k k' : Nat) (a : Acc)
    (h : connectTx b tx ⟨u, f, k⟩ = .ok a) :
    ∃ c, a.sigops = k + c ∧ connectTx b tx ⟨u, f, k'⟩ = .ok ⟨a.utxo, a.fees, k' + c⟩ := by
  obtain ⟨r, hs, h2, h3, rfl⟩ := connectTx_inv h
  exact ⟨4 * Spec.Connect.legacySigOps tx + r.sigops, Nat.add_assoc .., by
    rw [connectTx_ok b tx ⟨u, f, k'⟩ r hs h2 h3, Nat.add_assoc]⟩

open GocoinV.Spec.Connect (connectTx) in
theorem connectTxs_shift (b : Block) (txs : List Tx) (u : Utxo) (f k k' : Nat) (a : Acc)
    (h : connectTxs b txs ⟨u, f, k⟩ = .ok a) :
    ∃ c, a.sigops = k + c ∧ connectTxs b txs ⟨u, f, k'⟩ = .ok ⟨a.utxo, a.fees, k' + c⟩ := by
  induction txs generalizing u f k k' with
  | nil => cases h; exact ⟨0, rfl, rfl⟩
  | cons t r ih =>
    unfold connectTxs at h ⊢
    cases hp : connectTx b t ⟨u, f, k⟩ with
    | error e => simp [hp] at h
    | ok a1 =>
      simp only [hp] at h
      obtain ⟨c1, e1, g1⟩ := connectTx_shift b t u f k k' a1 hp
      simp only [g1]
      obtain ⟨c2, e2, g2⟩ := ih a1.utxo a1.fees (k + c1) (k' + c1) (e1 ▸ h)
      exact ⟨c1 + c2, by omega, by rw [g2]; simp [Nat.add_assoc]⟩

/-- consensus sigop count of the coinbase transaction's INPUT script(s) — Bitcoin's GetLegacySigOpCount reads the
    scriptSig of every input of every transaction, the coinbase's included -/
def cbScriptSigOps (cb : Tx) : Nat := (cb.ins.map fun i => Spec.Connect.sigOpCount i.scriptSig false).sum
/-- consensus sigop count of the coinbase transaction's output scripts -/
def cbOutputSigOps (cb : Tx) : Nat := (cb.outs.map fun o => Spec.Connect.sigOpCount o.script false).sum

/-- the refinement alone: `connect_sound_core_sigops` without its statements about the sigop cost -/
theorem connect_sound_core (mtpOf : Nat → Nat) (db : DB) (b : Block) (db' : DB) (so : Nat)
    (hwf : WF db)
    (hinj : ((b.txs.map (·.txid)).map key8).Nodup)
    (hbip30 : ∀ tx ∈ b.txs, aGet db (key8 tx.txid) = none)
    (hseq : b.csv = true → ∀ tx ∈ b.txs, 2 ≤ tx.version → ∀ i ∈ tx.ins, ∀ c : Coin,
        (absGet mtpOf db i.prev = some c ∨ (absGet mtpOf db i.prev = none ∧ c.height = b.height ∧ c.mtpPrev = b.mtp)) → seqLockOk b.height b.mtp i c = true)
    (hret : ∀ tx ∈ b.txs, txCountsAgree tx = true)
    (hheights : ∀ k r, aGet db k = some r → r.height ≤ b.height) (hb : b.height < 2 ^ 32)
    (hmtp : mtpOf b.height = b.mtp)
    (hsize : ∀ tx ∈ b.txs, tx.noWitSize * 4 < 2 ^ 32)
    (hcost : ∀ cb rest a, b.txs = cb :: rest →
        connectTxs b rest ⟨addOuts (absList mtpOf db) cb.txid b true cb.outs 0, 0, 4 * Spec.Connect.legacySigOps cb⟩ = .ok a →
        a.sigops < 2 ^ 32)
    (h : connect Cfg.current db b = .ok (db', so)) :
    ∃ u', connectBlock (absList mtpOf db) b = .ok u' ∧ ∀ op, aGet u' op = absGet mtpOf db' op := by
  obtain ⟨cb, rest, a', _, _, hcon, hrel, _, _⟩ :=
    connect_sound_core_sigops mtpOf db b db' so hwf hinj hbip30 hseq hret hheights hb hmtp hsize hcost h
  exact ⟨a'.utxo, hcon, hrel⟩

/-- the BIP68 hypothesis of `connect_sound`, from a test one can evaluate: every input of a version ≥ 2 transaction spends a
    confirmed coin that satisfies its relative lock -/
theorem hseq_of_confirmed {mtpOf : Nat → Nat} {db : DB} {b : Block}
    (h : ∀ tx ∈ b.txs, 2 ≤ tx.version → ∀ i ∈ tx.ins, (absGet mtpOf db i.prev).any (seqLockOk b.height b.mtp i) = true) :
    b.csv = true → ∀ tx ∈ b.txs, 2 ≤ tx.version → ∀ i ∈ tx.ins, ∀ c : Coin,
      (absGet mtpOf db i.prev = some c ∨ (absGet mtpOf db i.prev = none ∧ c.height = b.height ∧ c.mtpPrev = b.mtp)) →
      seqLockOk b.height b.mtp i c = true := by
  intro _ tx htx hv i hi c hc
  have := h tx htx hv i hi
  rcases hc with hc | ⟨hc, -⟩ <;> rw [hc] at this
  · exact this
  · cases this

end GocoinV.Proofs.C04
