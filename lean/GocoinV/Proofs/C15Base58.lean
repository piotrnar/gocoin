/-
  Proofs.C15Base58 — `Encodeb58` then `Decodeb58` (lib/btc/addr.go) returns the byte string, and the bounds behind the
  size of the encoder's buffer (`Props.C15.encode_fits`). The facts about `leVal` / `beVal` / `natBytes` and about leading zeros (`takeWhile` / `dropWhile`) that
  other C15 and C14 files share come first.
-/
import GocoinV.Model.Base58
namespace GocoinV.Base58
open Gen.Base58Consts

theorem leVal_replicate_zero (k : Nat) : leVal (List.replicate k (0 : UInt8)) = 0 := by
  induction k with
  | zero => rfl
  | succ k ih => simp [List.replicate_succ, leVal, ih]

theorem beVal_zeros_append (k : Nat) (l : Bytes) : beVal (List.replicate k (0 : UInt8) ++ l) = beVal l := by
  unfold beVal
  rw [List.reverse_append, leVal_append, List.reverse_replicate, leVal_replicate_zero]
  simp

theorem digits_zero : digits 0 = [] := by rw [digits]; simp

theorem digits_pos (n : Nat) (h : n ≠ 0) : digits n = digits (n / 58) ++ [n % 58] := by
  rw [digits]; simp [h]

theorem natBytes_zero : natBytes 0 = [] := by rw [natBytes]; simp

theorem takeWhile_eq_replicate (z : UInt8) (a : Bytes) :
    a.takeWhile (· == z) = List.replicate (a.takeWhile (· == z)).length z :=
  List.eq_replicate_iff.mpr ⟨rfl, fun b hb => by simpa using List.all_eq_true.mp List.all_takeWhile b hb⟩

theorem takeWhile_replicate_append (z : UInt8) (k : Nat) (rest : Bytes) (h : ∀ x t, rest = x :: t → x ≠ z) :
    ((List.replicate k z ++ rest).takeWhile (· == z)).length = k := by
  rw [List.takeWhile_append_of_pos (by intro x hx; rw [List.eq_of_mem_replicate hx]; exact beq_self_eq_true _)]
  have : rest.takeWhile (· == z) = [] := by
    cases rest with
    | nil => rfl
    | cons x t => exact List.takeWhile_cons_of_neg (by simpa using h x t rfl)
  rw [this]; simp

theorem dropWhile_head_false {α} (p : α → Bool) (l : List α) (x : α) (r : List α)
    (h : l.dropWhile p = x :: r) : p x = false := by
  simpa [h] using List.head_dropWhile_not p (l := l) (by rw [h]; simp)

/-- value of a base-58 digit list, most significant first -/
def ofDigits : List Nat → Nat → Nat
  | [], acc => acc
  | d :: t, acc => ofDigits t (acc * 58 + d)

theorem chr2int_digitChar : ∀ d : Fin 58, chr2int (digitChar d.val) = some d.val := by decide +kernel

theorem digitChar_ne_one : ∀ d : Fin 58, d.val ≠ 0 → (digitChar d.val == digitChar 0) = false := by decide +kernel

theorem value?_map (l : List Nat) (h : ∀ d ∈ l, d < 58) (acc : Nat) :
    value? (l.map digitChar) acc = some (ofDigits l acc) := by
  induction l generalizing acc with
  | nil => rfl
  | cons d t ih =>
    obtain ⟨hd, ht⟩ := List.forall_mem_cons.mp h
    have := chr2int_digitChar ⟨d, hd⟩
    simp only [List.map_cons, value?, this]
    exact ih ht _

theorem value?_replicate_zero (k : Nat) (rest : Bytes) :
    value? (List.replicate k (digitChar 0) ++ rest) 0 = value? rest 0 := by
  induction k with
  | zero => rfl
  | succ k ih =>
    have := chr2int_digitChar ⟨0, by omega⟩
    simp only [List.replicate_succ, List.cons_append, value?, this]
    simpa using ih

theorem ofDigits_append (a b : List Nat) (acc : Nat) :
    ofDigits (a ++ b) acc = ofDigits b (ofDigits a acc) := by
  induction a generalizing acc with
  | nil => rfl
  | cons d t ih => simp [ofDigits, ih]

theorem digits_lt (n : Nat) : ∀ d ∈ digits n, d < 58 := by
  induction n using Nat.strongRecOn with
  | _ n ih =>
    rw [digits]
    split
    · simp
    · exact List.forall_mem_append.mpr ⟨ih (n / 58) (by omega), fun d hd => by rw [List.mem_singleton.mp hd]; omega⟩

theorem ofDigits_digits (n : Nat) : ofDigits (digits n) 0 = n := by
  induction n using Nat.strongRecOn with
  | _ n ih =>
    rw [digits]
    split
    · simp_all [ofDigits]
    · rw [ofDigits_append, ih (n / 58) (by omega)]
      simp only [ofDigits]
      omega

theorem digits_head_ne_zero (n : Nat) : ∀ d t, digits n = d :: t → d ≠ 0 := by
  induction n using Nat.strongRecOn with
  | _ n ih =>
    intro d t hdt
    rw [digits] at hdt
    split at hdt
    · simp at hdt
    · by_cases hq : n / 58 = 0
      · rw [hq, digits] at hdt
        simp at hdt
        omega
      · cases hdq : digits (n / 58) with
        | nil =>
          rw [digits] at hdq
          simp [hq] at hdq
        | cons d' t' =>
          rw [hdq] at hdt
          simp at hdt
          exact hdt.1 ▸ ih (n / 58) (by omega) d' t' hdq

theorem natBytes_eq_nil (n : Nat) : natBytes n = [] ↔ n = 0 := by
  rw [natBytes]; split <;> simp [*]

theorem natBytes_leVal (r : Bytes) : natBytes (leVal r) = r.reverse.dropWhile (· == 0) := by
  induction r with
  | nil => rw [natBytes]; simp [leVal]
  | cons x r ih =>
    rw [List.reverse_cons, List.dropWhile_append, ← ih, leVal]
    have hx := x.toNat_lt
    by_cases hz : leVal r = 0
    · rw [if_pos (by rw [hz, natBytes_zero]; rfl), hz, natBytes]
      by_cases hx0 : x = 0
      · simp [hx0]
      · have : x.toNat ≠ 0 := fun h => hx0 (UInt8.toNat_inj.mp h)
        simp [this, hx0, natBytes_zero, Nat.div_eq_of_lt hx, Nat.mod_eq_of_lt hx]
    · rw [if_neg (by rw [List.isEmpty_iff, natBytes_eq_nil]; exact hz), natBytes, dif_neg (by omega), show (x.toNat + 256 * leVal r) / 256 = leVal r by omega,
        show (x.toNat + 256 * leVal r) % 256 = x.toNat by omega, UInt8.ofNat_toNat]

theorem natBytes_beVal (a : Bytes) : natBytes (beVal a) = a.dropWhile (· == 0) := by
  simpa [beVal] using natBytes_leVal a.reverse

theorem beVal_natBytes (n : Nat) : beVal (natBytes n) = n := by
  have h := beVal_beBytes_of_lt n n (Nat.lt_pow_self (by decide))
  have e := natBytes_beVal (beBytes n n)
  rw [h] at e
  rw [e, beVal_dropWhile_zero, h]

theorem replicate_takeWhile_dropWhile (z : UInt8) (a : Bytes) :
    List.replicate (a.takeWhile (· == z)).length z ++ a.dropWhile (· == z) = a := by
  rw [← takeWhile_eq_replicate, List.takeWhile_append_dropWhile]

theorem decode_encode (a : Bytes) (h : a ≠ []) : decode (encode a) = some a := by
  unfold decode encode
  rw [value?_replicate_zero, value?_map _ (digits_lt _), ofDigits_digits]
  have htw := takeWhile_replicate_append (digitChar 0) (leadingZeros a) ((digits (beVal a)).map digitChar)
    fun x t hx => by
      obtain ⟨d, t', hd, rfl, _⟩ := List.map_eq_cons_iff.mp hx
      simpa using digitChar_ne_one ⟨d, digits_lt _ d (by rw [hd]; exact List.mem_cons_self)⟩
        (digits_head_ne_zero _ d t' hd)
  simp only [htw]
  unfold leadingZeros
  rw [natBytes_beVal, replicate_takeWhile_dropWhile]
  exact if_neg (mt List.isEmpty_iff.mp h)

/-! why the Go buffer of len*138/100+1 bytes in `Encodeb58` is large enough: 256^m ≤ 58^(m*138/100+1) -/

theorem digits_length_le (L : Nat) : ∀ v, v < 58 ^ L → (digits v).length ≤ L := by
  induction L with
  | zero => intro v h; obtain rfl : v = 0 := by simpa using h
            simp [digits_zero]
  | succ L ih =>
    intro v h
    rw [digits]
    split
    · simp
    · have : v / 58 < 58 ^ L := Nat.div_lt_of_lt_mul (by rwa [← Nat.pow_succ'])
      have := ih _ this
      simp only [List.length_append, List.length_cons, List.length_nil]; omega

theorem pow100 : (256 : Nat) ^ 100 < 58 ^ 138 := by decide

theorem pow_resid : ∀ r : Fin 100, (256 : Nat) ^ r.val ≤ 58 ^ (r.val * 138 / 100 + 1) := by decide +kernel

theorem pow_bound (m : Nat) : (256 : Nat) ^ m ≤ 58 ^ (m * 138 / 100 + 1) := by
  have hq : m = 100 * (m / 100) + m % 100 := (Nat.div_add_mod m 100).symm
  generalize m / 100 = q at hq
  have hr : m % 100 < 100 := Nat.mod_lt _ (by omega)
  generalize m % 100 = r at hq hr
  subst hq
  have e : (100 * q + r) * 138 / 100 + 1 = 138 * q + (r * 138 / 100 + 1) := by omega
  rw [e, Nat.pow_add, Nat.pow_add, Nat.pow_mul, Nat.pow_mul]
  exact Nat.mul_le_mul (Nat.pow_le_pow_left (Nat.le_of_lt pow100) q) (pow_resid ⟨r, hr⟩)

end GocoinV.Base58

namespace GocoinV
theorem take4_length {l : Bytes} (h : l.length = 32) : (l.take 4).length = 4 := by
  rw [List.length_take, h]; rfl
end GocoinV

namespace GocoinV.Addr
theorem headD_cons_take (l : Bytes) (n : Nat) {k : Nat} (h : l.length = k + 1) : l.headD 0 :: (l.drop 1).take n = l.take (n + 1) := by
  cases l with
  | nil => cases h
  | cons x t => simp
end GocoinV.Addr
