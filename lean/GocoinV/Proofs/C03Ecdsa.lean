/-
  Proofs.C03Ecdsa — every output of `Signature.Sign` verifies, and public-key recovery returns the
  signer's key (under `SecpGroupLaw`, see Proofs/C03Group.lean). Also here, because they need n prime together with the
  group: G has order exactly n (`mul_G_ne_none`, `mul_mod_G`, `mul_G_none_iff`).
-/
import GocoinV.Proofs.C03Group
import GocoinV.Proofs.C03Der
namespace GocoinV.Proofs.C03
open GocoinV GocoinV.Secp GocoinV.Model GocoinV.Model.Sig

/-- the verifier accepts (r, s in range) when its point u2·Q + u1·G has x ≡ r mod n -/
theorem sigVerify_of_pt {r s m x y : Nat} {Q : Point} (hr0 : 0 < r) (hrn : r < n) (hs0 : 0 < s) (hsn : s < n)
    (hpt : add (mul (modInvN s * r % n % n) Q) (mul (modInvN s * m % n % n) G) = some (x, y)) (hx : x % n = r) :
    sigVerify true r s Q m = true := by
  unfold sigVerify recompute
  simp only [ecmult_nat]
  rw [if_neg (by omega), hpt]
  exact beq_iff_eq.2 hx.symm

/-- the S of `Sign` before its normalisation, k⁻¹(x·d + m), in ZMod n -/
theorem s0_cast (k x d m : Nat) : ((modInvN k * ((x % n * d % n + m) % n) % n : Nat) : ZMod n)
    = (k : ZMod n)⁻¹ * ((x : ZMod n) * d + m) := by
  simp only [ZMod.natCast_mod, Nat.cast_mul, Nat.cast_add, invN_cast]

/-- the scalar the verifier multiplies G with, in ZMod n -/
theorem verify_scalar (d m k x s : Nat) (hs0 : (s : ZMod n) ≠ 0)
    (hs : (s : ZMod n) = (k : ZMod n)⁻¹ * ((x : ZMod n) * d + m)) :
    (((d * (modInvN s * (x % n) % n % n) + modInvN s * m % n % n : Nat)) : ZMod n) = (k : ZMod n) := by
  have key := fld_verify (k : ZMod n) ((x : ZMod n) * d + m) _ (x : ZMod n) d m rfl hs hs0
  simp only [ZMod.natCast_mod, Nat.cast_mul, Nat.cast_add, invN_cast]
  exact key

theorem recid_bits (a b : Prop) [Decidable a] [Decidable b] :
    ((((if a then 2 else 0) ||| (if b then 1 else 0)) &&& 2 ≠ 0) ↔ a) ∧
    ((((if a then 2 else 0) ||| (if b then 1 else 0)) &&& 1 ≠ 0) ↔ b) := by
  by_cases ha : a <;> by_cases hb : b <;> simp [ha, hb]

/-- the scalar the recovery multiplies G with, in ZMod n -/
theorem recover_scalar (d m k x r s : Nat) (hk0 : 0 < k) (hkn : k < n) (hrx : r = x % n) (hr : r ≠ 0)
    (hs : (s : ZMod n) = (k : ZMod n)⁻¹ * ((x : ZMod n) * d + m)) :
    (((k * (modInvN r * s % n % n) + (n - modInvN r * m % n) % n : Nat)) : ZMod n) = (d : ZMod n) := by
  have hrn : r < n := by rw [hrx]; exact Nat.mod_lt _ n_pos
  have hrX : (r : ZMod n) = (x : ZMod n) := by rw [hrx, ZMod.natCast_mod]
  rw [← hrX] at hs
  have key := fld_recover (k : ZMod n) ((r : ZMod n) * d + m) _ (r : ZMod n) d m rfl hs
    (cast_ne_zero_of_lt k hk0 hkn) (cast_ne_zero_of_lt r (Nat.pos_of_ne_zero hr) hrn)
  have hle : modInvN r * m % n ≤ n := Nat.le_of_lt (Nat.mod_lt _ n_pos)
  simp only [ZMod.natCast_mod, Nat.cast_mul, Nat.cast_add, Nat.cast_sub hle, ZMod.natCast_self, invN_cast,
    zero_sub]
  exact key

/-- current code = pinned-snapshot computation followed by the refusal of the point at infinity -/
theorem recoverPublicKey_eq (r s : Nat) (hb : Bytes) (recid : Nat) :
    recoverPublicKey r s hb recid =
      match recoverPublicKeyLegacy r s hb recid with
      | some (some q) => some (some q)
      | _ => none := by
  unfold recoverPublicKey recoverPublicKeyLegacy
  by_cases hrange : r = 0 ∨ r ≥ n ∨ s = 0 ∨ s ≥ n
  · rw [if_pos hrange, if_pos hrange]
  rw [if_neg hrange, if_neg hrange]
  unfold recover recoverLegacy
  simp only
  by_cases h1 : recid &&& 2 ≠ 0 ∧ (if recid &&& 2 ≠ 0 then r + n else r) ≥ p
  · rw [if_pos h1, if_pos h1]
  rw [if_neg h1, if_neg h1]
  cases hv : isValid (if recid &&& 2 ≠ 0 then r + n else r)
      (setXO (if recid &&& 2 ≠ 0 then r + n else r) (decide (recid &&& 1 ≠ 0))) with
  | false => simp
  | true =>
    simp only [Bool.not_true, Bool.false_eq_true, ↓reduceIte]
    cases ecmult _ _ _ <;> rfl

/-- `XY.ParsePubkey` reads back the compressed serialisation of a curve point -/
theorem parsePubkey_ser33 (x y : Nat) (h : onCurve (some (x, y)) = true) :
    Sig.parsePubkey true (ser33 (some (x, y))) = some (x, y) := by
  obtain ⟨hx, hy, _⟩ := (onCurve_iff x y).mp h
  have hp256 : p < 256 ^ 32 := by decide
  have hbv : beVal (beBytes 32 x) = x := beVal_beBytes_of_lt 32 x (by omega)
  have hv : isValid x y = true := by rw [isValid_eq_onCurve x y hx hy]; exact h
  unfold ser33 Sig.parsePubkey
  have hlen : ((if y % 2 = 0 then (2 : UInt8) else 3) :: beBytes 32 x).length = 33 := by
    simp [beBytes]
  simp only [hlen, hbv, true_and]
  have hnx : ¬ x ≥ p := by omega
  rcases Nat.mod_two_eq_zero_or_one y with e | e
  · have hy' : setXO x ((2 : UInt8) == 3) = y := by
      rw [setXO_onCurve x y h]; simp [e]
    simp only [e, ↓reduceIte, hy', hnx, hv, true_or]
  · have hy' : setXO x ((3 : UInt8) == 3) = y := by
      rw [setXO_onCurve x y h]; simp [e]
    simp only [e, Nat.one_ne_zero, ↓reduceIte, hy', hnx, hv, or_true]

variable [L : SecpGroupLaw]

/-- An output of `Sign` is the plain ECDSA signature s = k'⁻¹(x·d + m) for the EFFECTIVE nonce k' — k itself, or n − k
    when the low-S step negated S: negating S is signing with −k, whose point is (x, p − y), and the flipped parity bit
    of the recovery id is the parity of p − y. -/
theorem sign_nf (d m k r s recid : Nat) (h : sign d m k = some (r, s, recid)) :
    ∃ k' x y, 0 < k' ∧ k' < n ∧ mul k' G = some (x, y) ∧ r = x % n ∧
      (s : ZMod n) = (k' : ZMod n)⁻¹ * ((x : ZMod n) * d + m) ∧
      recid = (if x ≥ n then 2 else 0) ||| (if y % 2 = 1 then 1 else 0) := by
  obtain ⟨x, y, hxy, hk0, hkn, -, -, hrx, hs0, hcase⟩ := sign_spec d m k r s recid h
  have hS := s0_cast k x d m
  rcases hcase with ⟨hs, hrec⟩ | ⟨hs, hrec⟩
  · exact ⟨k, x, y, hk0, hkn, hxy, hrx, by rw [hs, hS], hrec⟩
  · have hon : onCurve (some (x, y)) = true := by
      have := (k • Gc).2
      rwa [← mul_G, hxy] at this
    obtain ⟨-, hyp, -⟩ := (onCurve_iff x y).mp hon
    have hy0 := onCurve_y_ne_zero x y hon
    have hpodd : p % 2 = 1 := by decide
    have hpar : (p - y) % p % 2 = 1 ↔ ¬ y % 2 = 1 := by
      rw [Nat.mod_eq_of_lt (Nat.sub_lt p_pos (Nat.pos_of_ne_zero hy0))]
      omega
    refine ⟨n - k, x, (p - y) % p, Nat.sub_pos_of_lt hkn, Nat.sub_lt n_pos hk0,
      by rw [mul_G, mul_neg_G k x y (Nat.le_of_lt hkn) hxy], hrx, ?_, ?_⟩
    · rw [hs, Nat.cast_sub (Nat.le_of_lt (Nat.mod_lt _ n_pos)), Nat.cast_sub (Nat.le_of_lt hkn), ZMod.natCast_self, hS,
        zero_sub, zero_sub, inv_neg, neg_mul]
    · rw [hrec, if_congr hpar rfl rfl]
      by_cases a : x ≥ n <;> by_cases b : y % 2 = 1 <;> simp [a, b]

theorem lin_G (a k' b : Nat) : add (mul a (k' • Gc).1) (mul b G) = ((k' * a + b) • Gc).1 := by
  rw [mul_eq_nsmul a, mul_G b, ← val_add, ← mul_nsmul, ← add_nsmul]

/-- Every output of `Signature.Sign` (with R ≠ 0 mod n) passes `Signature.Verify` for the signer's
    public key d·G. -/
theorem sign_verify_core (d m k r s recid : Nat) (h : sign d m k = some (r, s, recid)) (hr : r ≠ 0) :
    sigVerify true r s (mul d G) m = true := by
  have hlow := sign_low d m k r s recid h
  have hhalf := halfOrder_lt
  obtain ⟨k', x, y, hk0, hkn, hxy, hrx, hs, -⟩ := sign_nf d m k r s recid h
  have hpt : add (mul (modInvN s * r % n % n) (mul d G)) (mul (modInvN s * m % n % n) G) = some (x, y) := by
    rw [mul_G d, lin_G, hrx,
      nsmul_G_congr _ _ (verify_scalar d m k' x s (cast_ne_zero_of_lt s hlow.1 (by omega)) hs), ← mul_G, hxy]
  exact sigVerify_of_pt (Nat.pos_of_ne_zero hr) hlow.2.2 hlow.1 (by omega) hpt hrx.symm

/-! ### recovery -/

/-- the point `Signature.recover` computes (before the test for infinity the current code applies to
    it) on an output of `Signature.Sign` (with R ≠ 0 mod n) is the signer's public key d·G. -/
theorem recover_sign_core_legacy (d k r s recid : Nat) (hb : Bytes)
    (h : sign d (beVal hb) k = some (r, s, recid)) (hr : r ≠ 0) :
    recoverPublicKeyLegacy r s hb recid = some (mul d G) := by
  have hlow := sign_low d (beVal hb) k r s recid h
  have hhalf := halfOrder_lt
  have hrange : ¬ (r = 0 ∨ r ≥ n ∨ s = 0 ∨ s ≥ n) := by omega
  obtain ⟨k', x, y, hk0, hkn, hxy, hrx, hs, hrec⟩ := sign_nf d (beVal hb) k r s recid h
  have hpt : (some (x, y) : Point) = (k' • Gc).1 := by rw [← mul_G, hxy]
  have hon : onCurve (some (x, y)) = true := by rw [hpt]; exact (k' • Gc).2
  obtain ⟨hxp, hyp, _⟩ := (onCurve_iff x y).mp hon
  have hpn : p < 2 * n := by decide
  obtain ⟨hb2, hb1⟩ := recid_bits (x ≥ n) (y % 2 = 1)
  rw [← hrec] at hb2 hb1
  -- the coordinates the code reconstructs from (r, recid)
  have hx2 : (if recid &&& 2 ≠ 0 then r + n else r) = x := by
    by_cases hge : x ≥ n
    · rw [if_pos (hb2.mpr hge), hrx, Nat.mod_eq_sub_mod hge, Nat.mod_eq_of_lt (by omega)]; omega
    · rw [if_neg (mt hb2.mp hge), hrx, Nat.mod_eq_of_lt (by omega)]
  have hy' : setXO x (decide (recid &&& 1 ≠ 0)) = y := by
    rw [setXO_onCurve x y hon, show decide (recid &&& 1 ≠ 0) = (y % 2 == 1) from decide_eq_decide.mpr hb1]; simp
  have hv : isValid x y = true := by rw [isValid_eq_onCurve x y hxp hyp]; exact hon
  unfold recoverPublicKeyLegacy
  rw [if_neg hrange]
  unfold recoverLegacy
  simp only [hx2, hy']
  rw [if_neg (by omega : ¬ (recid &&& 2 ≠ 0 ∧ x ≥ p))]
  simp only [hv, Bool.not_true, Bool.false_eq_true, ↓reduceIte, Nat.mod_eq_of_lt hxp, ecmult_nat]
  rw [hpt, lin_G, nsmul_G_congr _ _ (recover_scalar d (beVal hb) k' x r s hk0 hkn hrx hr hs), ← mul_G]

/-! ### G has order exactly n: k·G = ∞ iff n ∣ k -/

theorem mul_G_ne_none (d : Nat) (h0 : 0 < d) (hd : d < n) : mul d G ≠ none := by
  intro h
  have hz : d • Gc = 0 := Subtype.ext (by rw [← mul_G]; exact h)
  have hG : Gc ≠ 0 := fun e => Option.some_ne_none _ (congrArg Subtype.val e)
  rw [← addOrderOf_eq_prime order_G hG] at hd
  exact Nat.not_dvd_of_pos_of_lt h0 hd (addOrderOf_dvd_of_nsmul_eq_zero hz)

theorem mul_mod_G (a : Nat) : mul (a % n) G = mul a G := by
  rw [mul_G, mul_G, nsmul_G_congr (a % n) a (ZMod.natCast_mod a n)]

theorem mul_G_none_iff (k : Nat) : mul k G = none ↔ k % n = 0 := by
  rw [← mul_mod_G]
  refine ⟨fun h => Decidable.of_not_not fun h0 => ?_, fun h => by rw [h]; rfl⟩
  exact mul_G_ne_none (k % n) (Nat.pos_of_ne_zero h0) (Nat.mod_lt _ n_pos) h

/-! ### at the level of bytes: `btc.EcdsaVerify(pubkey, sig.Bytes(), hash)` -/

/-- the DER bytes of an output of `Sign` (R ≠ 0) are strict, and with anything behind them (the wallet appends the
    hash-type byte) `ParseBytes` reads (R, S) back and `btc.EcdsaVerify` accepts them under the compressed public key
    bytes of d·G -/
theorem own_signature_parsed (d k r s recid : Nat) (msg : Bytes) (hd0 : 0 < d) (hdn : d < n)
    (h : sign d (beVal msg) k = some (r, s, recid)) (hr : r ≠ 0) :
    ∃ der, sigBytes r s = some der ∧ Spec.Ecdsa.isStrictDER der = true ∧
      ∀ tail, (∃ c, Sig.parseBytes (der ++ tail) = some (r, s, c)) ∧
        Sig.ecdsaVerify true (ser33 (mul d G)) (der ++ tail) msg = true := by
  have hlow := sign_low d (beVal msg) k r s recid h
  have := n_lt
  have := halfOrder_lt
  obtain ⟨der, hder, hstrict, hdec⟩ := sigBytes_canonical r s (Nat.pos_of_ne_zero hr) (by omega) hlow.1 (by omega)
  refine ⟨der, hder, hstrict, fun tail => ?_⟩
  obtain ⟨c, hp⟩ := parseBytes_of_decodeSig (der ++ tail) r s (hdec tail)
  refine ⟨⟨c, hp⟩, ?_⟩
  have hv := sign_verify_core d (beVal msg) k r s recid h hr
  have hon : onCurve (mul d G) = true := by rw [mul_G]; exact (d • Gc).2
  cases hQ : mul d G with
  | none => exact absurd hQ (mul_G_ne_none d hd0 hdn)
  | some q =>
    obtain ⟨x, y⟩ := q
    rw [hQ] at hv hon
    unfold Sig.ecdsaVerify Sig.ecdsaVerifyCode
    rw [parsePubkey_ser33 x y hon, hp]
    have hl1 : ¬ ((ser33 (some (x, y))).length = 0 ∨ (der ++ tail).length = 0) := by
      have : der ++ tail ≠ [] := by
        intro e; rw [e] at hp; simp [Sig.parseBytes] at hp
      simp only [List.length_eq_zero_iff, this, or_false]
      simp [ser33]
    rw [if_neg hl1]
    simp only [hv, ↓reduceIte]
    rfl

/-- What the signer hands out is accepted by `btc.EcdsaVerify`: for a secret key 0 < d < n, the
    DER bytes of an output of `Sign` verify against the compressed public key bytes of d·G. -/
theorem own_signature_accepted (d k r s recid : Nat) (msg : Bytes) (hd0 : 0 < d) (hdn : d < n)
    (h : sign d (beVal msg) k = some (r, s, recid)) (hr : r ≠ 0) :
    ∃ der, sigBytes r s = some der ∧ Spec.Ecdsa.isStrictDER der = true ∧
      Sig.ecdsaVerify true (ser33 (mul d G)) der msg = true := by
  obtain ⟨der, h1, h2, h3⟩ := own_signature_parsed d k r s recid msg hd0 hdn h hr
  exact ⟨der, h1, h2, by simpa using (h3 []).2⟩

end GocoinV.Proofs.C03
