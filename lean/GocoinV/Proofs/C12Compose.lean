/-
  Proofs.C12Compose — from the full pool invariant to the hypotheses of `template_valid` for the block built from
  a parents-first listing of the pool, and the listing of GetSortedMempoolSlow as such a listing
  (helper lemmas for Props/C12 `template_from_pool`).  Core Lean only.
-/
import GocoinV.Proofs.C12Block
import GocoinV.Proofs.C12Rbf
import GocoinV.Proofs.C12Sort
namespace GocoinV.Mempool

/-- the records of a listing of keys -/
def recsOf (s : State) (l : List Nat) : List T2S := l.filterMap s.pool.get?

theorem listing_hnd {K : Keys} {W : Tx → Prop} {u0 : UT} {ν : OutPoint → Nat} (s : State) (g : PGood K W u0 ν s)
    (l : List Nat) : ∀ t ∈ recsOf s l, t.tx.inOps.Nodup := by
  intro t ht
  obtain ⟨b, _, hb⟩ := List.mem_filterMap.mp ht
  exact (g.w.loc b t hb).nodupIn

theorem listing_hconf {K : Keys} {W : Tx → Prop} {u0 : UT} {ν : OutPoint → Nat} (s : State) (g : PGood K W u0 ν s)
    (l : List Nat) (hn : l.Nodup) :
    (recsOf s l).Pairwise (fun a b => ∀ o ∈ a.tx.inOps, o ∉ b.tx.inOps) := by
  unfold recsOf
  apply List.Pairwise.filterMap (R := fun a b => a ≠ b) _ _ hn
  intro b1 b2 hne t1 ht1 t2 ht2 o ho1 ho2
  obtain ⟨i, hi, e1⟩ := List.mem_map.mp ho1
  obtain ⟨j, hj, e2⟩ := List.mem_map.mp ho2
  apply hne
  apply same_input_same_key g.w.base (Option.mem_def.mp ht1) (Option.mem_def.mp ht2) hi hj
  unfold TxIn.op at e1 e2
  rw [e1, e2]

theorem listing_hsp {K : Keys} {W : Tx → Prop} {u0 : UT} {ν : OutPoint → Nat} (s : State) (g : PGood K W u0 ν s)
    (l : List Nat) : ∀ t ∈ recsOf s l, ∀ i ∈ t.tx.ins, (s.utxo.get? i.op).isSome ∨
      ∃ p, s.pool.get? (K.bidx i.prev) = some p ∧ p.tx.id = i.prev ∧ i.vout < p.tx.outs.length := by
  intro t ht i hi
  obtain ⟨b, _, hb⟩ := List.mem_filterMap.mp ht
  obtain ⟨k, hk⟩ := List.mem_iff_getElem?.mp hi
  cases hf : flag t k with
  | true => exact Or.inr (g.par b t hb k i hk hf)
  | false => exact Or.inl (g.w.unf b t hb k i hk hf)

theorem listing_hpf {K : Keys} {W : Tx → Prop} {u0 : UT} {ν : OutPoint → Nat} (s : State) (g : PGood K W u0 ν s)
    (l : List Nat) (hl : PfKeysFrom K s [] l) :
    ∀ pre t post, recsOf s l = pre ++ t :: post → ∀ i ∈ t.tx.ins, ∀ p,
      s.pool.get? (K.bidx i.prev) = some p → (s.utxo.get? i.op).isSome = false → p ∈ pre := by
  intro pre t post heq i hi p hp hu
  unfold recsOf at heq
  obtain ⟨l1, l2, e1, e2, e3⟩ := List.filterMap_eq_append_iff.mp heq
  obtain ⟨l2a, b, l2b, f1, f2, f3, _⟩ := List.filterMap_eq_cons_iff.mp e3
  have hsplit : l = (l1 ++ l2a) ++ b :: l2b := by rw [e1, f1]; simp
  obtain ⟨t0, ht0, hpar⟩ := PfKeysFrom_at K s b l2b (l1 ++ l2a) [] (hsplit ▸ hl)
  obtain rfl : t = t0 := Option.some.inj (f3.symm.trans ht0)
  obtain ⟨k, hk⟩ := List.mem_iff_getElem?.mp hi
  have hf : flag t k = true := by
    cases hf : flag t k with
    | true => rfl
    | false =>
      have := g.w.unf b t ht0 k i hk hf
      unfold inU at this
      unfold TxIn.op at hu
      rw [this] at hu; cases hu
  have hm : K.bidx i.prev ∈ memParents K t := (mem_memParents K t _).mpr ⟨k, i, hk, hf, rfl⟩
  rw [← e2]
  rcases List.mem_append.mp ((hpar _ hm).resolve_left List.not_mem_nil) with h1 | h1
  · exact List.mem_filterMap.mpr ⟨_, h1, hp⟩
  · rw [f2 _ h1] at hp; cases hp

/-! ### GetSortedMempoolSlow lists entries of the pool -/

theorem appendTxs_sub (K : Keys) : ∀ (fuel : Nat) (res D : List Ent) (x : Ent),
    (appendTxs K fuel (res, D) x).2 = D ∧
    ∀ y ∈ (appendTxs K fuel (res, D) x).1, y ∈ res ∨ y = x ∨ y ∈ D := by
  intro fuel
  induction fuel with
  | zero => intro res D x; exact ⟨rfl, fun y hy => Or.inl hy⟩
  | succ n ih =>
    intro res D x
    rw [appendTxs_succ]
    refine List.foldlRecOn D _ (motive := fun st : List Ent × List Ent => st.2 = D ∧ ∀ y ∈ st.1, y ∈ res ∨ y = x ∨ y ∈ D)
      ⟨rfl, List.forall_mem_append.mpr ⟨fun _ h => Or.inl h, List.forall_mem_singleton.mpr (Or.inr (Or.inl rfl))⟩⟩
      fun st h d hd => ?_
    unfold retryStep
    split
    · exact h
    · split
      · have hst : st = (st.1, D) := by rw [← h.1]
        rw [hst]
        refine ⟨(ih st.1 D d).1, fun y hy => ?_⟩
        rcases (ih st.1 D d).2 y hy with e | e | e
        · exact h.2 y e
        · rw [e]; exact Or.inr (Or.inr hd)
        · exact Or.inr (Or.inr e)
      · exact h

theorem sortedSlowP_sub (K : Keys) (s : State) : ∀ y ∈ sortedSlowP K s, y ∈ s.pool := by
  intro y hy
  refine (feeOrder_perm s).mem_iff.mp ((List.foldlRecOn (feeOrder s) (slowStep K (s.pool.length + 1))
    (motive := fun st => (∀ y ∈ st.1, y ∈ feeOrder s) ∧ ∀ y ∈ st.2, y ∈ feeOrder s) ⟨by simp, by simp⟩
    fun st h p hp => ?_).1 y hy)
  unfold slowStep
  split
  · exact ⟨h.1, List.forall_mem_append.mpr ⟨h.2, List.forall_mem_singleton.mpr hp⟩⟩
  · rw [← Prod.eta st, (appendTxs_sub K _ st.1 st.2 p).1]
    refine ⟨fun y hy => ?_, h.2⟩
    rcases (appendTxs_sub K _ st.1 st.2 p).2 y hy with e | e | e
    · exact h.1 y e
    · rw [e]; exact hp
    · exact h.2 y e

theorem PfKeysFrom_of_PFfrom (K : Keys) (s : State) : ∀ (l : List Ent) (seen : List Nat), PFfrom K seen l →
    (∀ x ∈ l, s.pool.get? x.1 = some x.2) → PfKeysFrom K s seen (l.map (·.1)) := by
  intro l
  induction l with
  | nil => intro _ _ _; trivial
  | cons x r ih =>
    intro seen h hx
    rw [List.forall_mem_cons] at hx
    exact ⟨⟨x.2, hx.1, h.1⟩, ih (x.1 :: seen) h.2 hx.2⟩

theorem sortedSlow_listing {K : Keys} {W : Tx → Prop} {rank : TxId → Nat} {u0 : UT} {ν : OutPoint → Nat}
    (U : Univ2 K W rank u0 ν) (s : State) (g : PGood K W u0 ν s) :
    (sortedSlow K s).Nodup ∧ (∀ b t, s.pool.get? b = some t → b ∈ sortedSlow K s) ∧
    PfKeysFrom K s [] (sortedSlow K s) := by
  have hb := g.w.base
  have hc := sortedSlow_complete K s
    (fun b => match s.pool.get? b with | some t => rank t.tx.id | none => 0) hb.nodup (by
      intro b t hbt k hk
      have hg : s.pool.get? b = some t := AList.get?_of_mem _ _ _ hb.nodup hbt
      obtain ⟨kk, i, hi, hf, e⟩ := (mem_memParents K t k).mp hk
      obtain ⟨p, hp1, hp2, _⟩ := g.par b t hg kk i hi hf
      rw [e] at hp1
      refine ⟨⟨p, AList.mem_of_get? _ _ _ hp1⟩, ?_⟩
      simp only [hp1, hg, hp2]
      exact U.base.acyclic t.tx (hb.poolW _ _ hg) i (List.mem_of_getElem? hi))
  refine ⟨hc.1, ?_, ?_⟩
  · intro b t hbt
    exact (hc.2 b).mpr (List.mem_map.mpr ⟨(b, t), AList.mem_of_get? _ _ _ hbt, rfl⟩)
  · have pf : ParentsFirst K (sortedSlowP K s) := by
      unfold sortedSlowP
      exact foldl_slowStep_PF K _ _ _ (by simp [ParentsFirst, PFfrom])
    exact PfKeysFrom_of_PFfrom K s _ [] pf (fun x hx =>
      AList.get?_of_mem _ _ _ hb.nodup (sortedSlowP_sub K s x hx))

/-! ### the invariant in plain terms -/

/-- the pool invariant (the model counterpart of MempoolCheck plus the chain-related conjuncts), spelled out -/
structure PoolInv (K : Keys) (ν : OutPoint → Nat) (s : State) : Prop where
  /-- TransactionsToSend keyed by BIDX, SpentOutputs the exact inverse of the pooled inputs -/
  struct : InvS K s
  /-- every input is an existing output of a pooled transaction (flag set) or an unspent confirmed output (flag clear) -/
  spendable : ∀ b t, s.pool.get? b = some t → ∀ k i, t.tx.ins[k]? = some i →
    (flag t k = true → ∃ p, s.pool.get? (K.bidx i.prev) = some p ∧ p.tx.id = i.prev ∧ i.vout < p.tx.outs.length) ∧
    (flag t k = false → (s.utxo.get? (i.prev, i.vout)).isSome = true)
  /-- MemInputs is nil or one flag per input, MemInputCnt counts the set flags -/
  flags : ∀ b t, s.pool.get? b = some t →
    (t.mem = [] ∨ t.mem.length = t.tx.ins.length) ∧ t.memCnt = (t.mem.filter id).length
  /-- nothing pooled is confirmed: no unspent output carries its txid, no connected block contains it -/
  notConfirmed : ∀ b t, s.pool.get? b = some t →
    (∀ v, s.utxo.get? (t.tx.id, v) = none) ∧ ∀ e ∈ s.undo, ∀ X ∈ e.1, X.id ≠ t.tx.id
  /-- Volume = Σ input values, Fee + Σ output values = Volume (uint64 arithmetic as in the code) -/
  fee : ∀ b t, s.pool.get? b = some t → t.volume = sumν ν t.tx.ins 0 ∧ t.fee + sumU64 t.tx.outs = t.volume
  /-- no pooled transaction spends one outpoint twice -/
  noDupIn : ∀ b t, s.pool.get? b = some t → t.tx.inOps.Nodup
  /-- TransactionsToSendWeight = Σ weights -/
  weight : s.weightTotal = poolWeight s.pool

theorem PoolInv.of_good {K : Keys} {W : Tx → Prop} {u0 : UT} {ν : OutPoint → Nat} {s : State}
    (hc : ChainOK u0 ν s) (g : PGood K W u0 ν s) : PoolInv K ν s := by
  refine ⟨g.w.base.str, ?_, ?_, ?_, ?_, ?_, g.w.wt⟩
  · intro b t hb k i hk
    exact ⟨g.par b t hb k i hk, g.w.unf b t hb k i hk⟩
  · intro b t hb
    exact ⟨(g.w.loc b t hb).memLen, (g.w.loc b t hb).memCnt⟩
  · intro b t hb
    refine ⟨?_, ?_⟩
    · exact fun v => Option.eq_none_iff_forall_ne_some.mpr fun c hx => g.w.ncf b t hb (hc.c3 _ c hx)
    · intro e he X hX hid
      exact g.w.ncf b t hb (Or.inr ⟨e, he, X, hX, hid⟩)
  · intro b t hb
    exact ⟨(g.w.loc b t hb).vol, (g.w.loc b t hb).fee⟩
  · intro b t hb
    exact (g.w.loc b t hb).nodupIn

end GocoinV.Mempool
