/-
  Proofs.C15StrHi — a typed string with a byte ≥ 0x80 (any character outside ASCII, in any encoding) is refused by
  `bech32.Decode`, `SegwitDecode`, `NewAddrFromString` and `DecodePrivateAddr` (the models read bytes; the Base58
  part rests on Proofs/C15StrB58.lean).
-/
import GocoinV.Proofs.C15StrB58
import GocoinV.Proofs.C15Bech32Inv
import GocoinV.Model.AddrWif
namespace GocoinV.Bech32
open Gen.Bech32Consts

theorem hibit : ∀ c : UInt8, 128 ≤ c.toNat → c &&& 0x80 ≠ 0 := u8_forall (by decide +kernel)

theorem decode_hi (s : Bytes) (h : ∃ c ∈ s, 128 ≤ c.toNat) : decode s = none := by
  cases hd : decode s with
  | none => rfl
  | some r =>
    obtain ⟨H, T, hs, _, _, _, _, _, hH, hT, _⟩ := decode_some hd
    obtain ⟨c, hc, hge⟩ := h
    rw [hs] at hc
    simp only [List.mem_append, List.mem_singleton] at hc
    rcases hc with (hc | hc) | hc
    · have := (hH c hc).2; omega
    · subst hc; simp at hge
    · exact absurd (hT c hc).1 (hibit c hge)

theorem segwitDecode_hi (hrp s : Bytes) (h : ∃ c ∈ s, 128 ≤ c.toNat) : segwitDecode hrp s = .error .decode := by
  unfold segwitDecode
  rw [decode_hi s h]

end GocoinV.Bech32

namespace GocoinV.Addr

theorem fromString_hi (H : Hashes) (s : Bytes) (h : ∃ c ∈ s, 128 ≤ c.toNat) :
    fromString H s = .error .short ∨ fromString H s = .error (.segwit .decode) ∨ fromString H s = .error .b58decode := by
  unfold fromString
  split
  · exact Or.inl rfl
  · simp only
    split
    · rw [Bech32.segwitDecode_hi _ s h]
      exact Or.inr (Or.inl rfl)
    · rw [Base58Str.decode_hi s h]
      exact Or.inr (Or.inr rfl)

end GocoinV.Addr

namespace GocoinV.AddrWif

theorem decode_hi (C : WalletCrypto) (s : Bytes) (h : ∃ c ∈ s, 128 ≤ c.toNat) : decode C s = .error .b58 := by
  unfold decode
  rw [Base58Str.decode_hi s h]

end GocoinV.AddrWif
