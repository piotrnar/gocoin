/-
  Proofs.C10Shared — records on their way through shared state (Model.UtxoShared): the pooled decoders return what the fresh
  ones return once `OutsList` clears what it hands out; with `io.ReadFull` the record loop reads the same however the reader
  cuts the file; an undo entry that copies its script does not change with the heap.
-/
import GocoinV.Model.UtxoShared
import GocoinV.Proofs.C10Rec
namespace GocoinV.UtxoRec
open GocoinV.CompactSize
open ScriptCompress (KeyOps)

/-! ## pooled decoders -/

theorem outsList_cleared (s : PoolClear) (h : s.overReturned = true) (p : Pool) (cnt : Nat) :
    outsList s p cnt = List.replicate cnt none := by
  unfold outsList
  split
  · rfl
  · simp only [PoolClear.cleared, h, if_true, Nat.min_self, List.drop_take_self, List.append_nil]

theorem newRecStaticU_fst (s : PoolClear) (h : s.overReturned = true) (p : Pool) (dat : Bytes) :
    (newRecStaticU s p dat).1 = newRecU dat := by
  unfold newRecStaticU newRecU
  cases decHeader dat with
  | none => rfl
  | some x =>
    obtain ⟨txid, hh, c, rest⟩ := x
    simp only
    by_cases hc : c / 2 > maxOuts
    · simp only [hc, if_true]
    · simp only [hc, if_false]
      rw [outsList_cleared s h]
      cases decOutsU rest.length rest (List.replicate (c / 2) none) <;> rfl

theorem newRecStaticC_fst (s : PoolClear) (h : s.overReturned = true) (K : KeyOps) (p : Pool) (dat : Bytes) :
    (newRecStaticC s K p dat).1 = newRecC K dat := by
  unfold newRecStaticC newRecC
  cases decHeader dat with
  | none => rfl
  | some x =>
    obtain ⟨txid, hh, c, rest⟩ := x
    simp only
    by_cases hc : c / 2 > maxOuts
    · simp only [hc, if_true]
    · simp only [hc, if_false]
      rw [outsList_cleared s h]
      cases decOutsC K rest.length rest (List.replicate (c / 2) none) <;> rfl

theorem staticHistory_eq_fresh (s : PoolClear) (h : s.overReturned = true) (K : KeyOps) :
    ∀ (l : List (Bool × Bytes)) (p : Pool), staticHistory s K p l = freshHistory K l := by
  intro l
  induction l with
  | nil => intro p; rfl
  | cons x t ih =>
    intro p
    obtain ⟨c, dat⟩ := x
    simp only [staticHistory, freshHistory, List.map_cons]
    rw [ih]
    cases c
    · simp only [Bool.false_eq_true, if_false, newRecStaticU_fst s h, freshHistory]
    · simp only [if_true, newRecStaticC_fst s h, freshHistory]

/-! ## chunked reader -/

/-- what one `Read` of `n+1` bytes returns: a non-empty prefix of the data, unless the data is empty -/
theorem Rd.read_spec (r : Rd) (n : Nat) :
    ∃ k caps', 1 ≤ k ∧ k ≤ n + 1 ∧ r.read (n + 1) = (r.data.take k, ⟨r.data.drop k, caps'⟩) := by
  unfold Rd.read
  cases r.caps with
  | nil => exact ⟨n + 1, [], by omega, by omega, rfl⟩
  | cons c t => exact ⟨min (n + 1) (c + 1), t, by omega, by omega, rfl⟩

/-- `io.ReadFull` hands over the first `n` bytes, or fails when there are fewer, however the reader cuts them -/
theorem Rd.readFullAux_eq : ∀ (fuel n : Nat) (r : Rd), n ≤ fuel →
    ∃ caps', Rd.readFullAux fuel r n =
      if r.data.length < n then none else some (r.data.take n, ⟨r.data.drop n, caps'⟩) := by
  intro fuel
  induction fuel with
  | zero =>
    intro n r h
    obtain rfl : n = 0 := by omega
    exact ⟨r.caps, by simp [Rd.readFullAux]⟩
  | succ f ih =>
    intro n r h1
    cases n with
    | zero => exact ⟨r.caps, by simp [Rd.readFullAux]⟩
    | succ n =>
      obtain ⟨k, caps', hk1, hk2, he⟩ := r.read_spec n
      simp only [Rd.readFullAux, he]
      cases hd : r.data with
      | nil => exact ⟨[], by simp⟩
      | cons a t =>
        have hne : ((a :: t).take k).isEmpty = false := by
          cases k with
          | zero => omega
          | succ k => rfl
        have hl : ((a :: t).take k).length = min k (t.length + 1) := by simp
        obtain ⟨caps'', hrec⟩ := ih (n + 1 - ((a :: t).take k).length) ⟨(a :: t).drop k, caps'⟩ (by omega)
        refine ⟨caps'', ?_⟩
        rw [hl] at hrec
        simp only [hne, hrec, hl, List.length_drop, List.length_cons, Bool.false_eq_true, if_false]
        by_cases hs : t.length + 1 < n + 1
        · rw [if_pos hs, if_pos (by omega)]
        · rw [if_neg hs, Nat.min_eq_left (by omega), if_neg (by omega)]
          simp only [Option.some.injEq, Prod.mk.injEq, List.drop_drop, Rd.mk.injEq, and_true]
          have : n + 1 = k + (n + 1 - k) := by omega
          exact ⟨by conv => rhs; rw [this, List.take_add], by rw [← this]⟩

theorem Rd.readFull_short (r : Rd) (n : Nat) (h : r.data.length < n) : r.readFull n = none := by
  obtain ⟨_, e⟩ := Rd.readFullAux_eq n n r (Nat.le_refl n)
  rw [Rd.readFull, e, if_pos h]

theorem Rd.readFull_enough (r : Rd) (n : Nat) (h : n ≤ r.data.length) :
    ∃ caps', r.readFull n = some (r.data.take n, ⟨r.data.drop n, caps'⟩) := by
  obtain ⟨c, e⟩ := Rd.readFullAux_eq n n r (Nat.le_refl n)
  exact ⟨c, by rw [Rd.readFull, e, if_neg (Nat.not_lt.2 h)]⟩

/-- one byte: a plain `Read` and `io.ReadFull` do the same -/
theorem Rd.get_one_nil (b : Bool) (r : Rd) (h : r.data = []) : r.get b 1 = none := by
  cases b
  · simp [Rd.get, Rd.readPlain, Rd.read, h]
  · simp only [Rd.get, if_true]
    exact r.readFull_short 1 (by simp [h])

theorem Rd.get_one_cons (b : Bool) (r : Rd) (a : UInt8) (t : Bytes) (h : r.data = a :: t) :
    ∃ caps', r.get b 1 = some ([a], ⟨t, caps'⟩) := by
  cases b
  · obtain ⟨k, caps', hk1, hk2, he⟩ := r.read_spec 0
    obtain rfl : k = 1 := by omega
    refine ⟨caps', ?_⟩
    simp only [Rd.get, Bool.false_eq_true, if_false, Rd.readPlain, Nat.one_ne_zero]
    simp [he, h]
  · obtain ⟨caps', he⟩ := r.readFull_enough 1 (by simp [h])
    refine ⟨caps', ?_⟩
    simp only [Rd.get, if_true, he, h]
    simp

/-- `ReadVLen` through `io.ReadFull` for the length bytes reads what `ReadVLen` on the whole rest of the file reads,
    however the reader cuts the file into pieces -/
theorem readVLenRd_spec (sh : ReadShape) (hl : sh.lengthFull = true) (r : Rd) :
    (readVLen r.data = none ∧ readVLenRd sh r = none) ∨
      (∃ v rest caps', readVLen r.data = some (v, rest) ∧ readVLenRd sh r = some (v, ⟨rest, caps'⟩)) := by
  cases hd : r.data with
  | nil =>
    left
    refine ⟨rfl, ?_⟩
    simp only [readVLenRd, r.get_one_nil sh.markerFull hd]
  | cons a t =>
    obtain ⟨caps1, h1⟩ := r.get_one_cons sh.markerFull a t hd
    simp only [readVLenRd, h1, readVLen, List.getD_cons_zero]
    by_cases hlt : a.toNat < 0xfd
    · right
      exact ⟨a.toNat, t, caps1, by simp [hlt], by simp [hlt]⟩
    · simp only [hlt, if_false, Rd.get, hl, if_true]
      cases hs : shorter t (2 <<< (2 - (0xff - a.toNat)))
      · right
        have hle := (shorter_false_iff t _).mp hs
        obtain ⟨caps2, h2⟩ := Rd.readFull_enough ⟨t, caps1⟩ _ hle
        refine ⟨leVal (t.take (2 <<< (2 - (0xff - a.toNat)))), t.drop (2 <<< (2 - (0xff - a.toNat))), caps2, by simp, ?_⟩
        simp only [h2]
        simp [List.length_take_of_le hle]
      · left
        have hlt' := (shorter_iff t _).mp hs
        have h2 := Rd.readFull_short ⟨t, caps1⟩ _ hlt'
        exact ⟨by simp, by simp only [h2]⟩

/-- the record loop: with `io.ReadFull` for the length bytes and for the record, reading through ANY chunking gives
    exactly the records of the file -/
theorem decRecsRd_eq (sh : ReadShape) (hl : sh.lengthFull = true) (hr : sh.recordFull = true) :
    ∀ (n : Nat) (r : Rd), decRecsRd sh n r = decRecs n r.data := by
  intro n
  induction n with
  | zero => intro r; rfl
  | succ n ih =>
    intro r
    rcases readVLenRd_spec sh hl r with ⟨h1, h2⟩ | ⟨v, rest, caps', h1, h2⟩
    · simp only [decRecsRd, decRecs, h1, h2]
    · simp only [decRecsRd, decRecs, h1, h2, Rd.get, hr, if_true]
      cases hs : shorter rest v
      · have hle := (shorter_false_iff rest v).mp hs
        obtain ⟨caps2, h3⟩ := Rd.readFull_enough ⟨rest, caps'⟩ v hle
        simp only [h3, Bool.false_eq_true, if_false]
        rw [ih]
        simp only [List.length_take_of_le hle, Nat.sub_self, List.replicate_zero, List.append_nil]
        cases decRecs n (List.drop v rest) <;> rfl
      · have hlt := (shorter_iff rest v).mp hs
        have h3 := Rd.readFull_short ⟨rest, caps'⟩ v hlt
        simp only [h3, if_true]

/-! ## Boolean checks for the record hypotheses (`WFOuts`, `WFOutsC` of Proofs/C10Rec.lean), for the examples of Props/C10 -/

/-- a decidable way to `WFOuts` for concrete records -/
theorem wfOuts_of_all (l : List (Option Out))
    (h : l.all (fun o => match o with
      | none => true
      | some x => decide (x.value < 2 ^ 64) && decide (x.pk.length < 2 ^ 63)) = true) : WFOuts l := by
  intro o ho x hx
  subst hx
  simpa [WFOut] using List.all_eq_true.mp h _ ho

theorem wfOutsC_of_all (l : List (Option Out))
    (h : l.all (fun o => match o with
      | none => true
      | some x => decide (x.value < 2 ^ 64) && decide (AmountCompress.compressExact x.value < 2 ^ 64) &&
          decide (x.pk.length + 6 < 2 ^ 63)) = true) : WFOutsC l := by
  intro o ho x hx
  subst hx
  simpa [WFOutC, and_assoc] using List.all_eq_true.mp h _ ho

theorem undoEntry_owned (h : Heap) (evs : List HeapEv) (cell off len : Nat) :
    (undoEntry true h cell off len).read (evs.foldl HeapEv.apply h) = ((h cell).drop off).take len := by
  simp [undoEntry, ScrRef.read]

end GocoinV.UtxoRec
