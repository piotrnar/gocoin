/-
  Proofs.C04Apply — what `UnspentDB.commit` (applyChanges: the deletions of DeledTxs, then the additions of AddList)
  does to the abstract coin map `absGet`.
-/
import GocoinV.Proofs.C04Abs
namespace GocoinV.Proofs.C04
open GocoinV GocoinV.Connect
open GocoinV.Spec.Connect (Coin Utxo absGet absList recCoins)

theorem clearOuts_getD (outs : List (Option TxOut)) (m : List Bool) (v : Nat) :
    (clearOuts outs m).getD v none = if m.getD v false = true then none else outs.getD v none := by
  induction outs generalizing m v with
  | nil => cases m <;> simp [clearOuts]
  | cons o os ih =>
    cases m with
    | nil => simp [clearOuts]
    | cons rm rms =>
      cases v with
      | zero => cases rm <;> simp [clearOuts]
      | succ v =>
        have := ih rms v
        simp only [List.getD_eq_getElem?_getD] at this
        simpa [clearOuts] using this

theorem getD_none_of_not_any {α : Type} (l : List (Option α)) (h : ¬ l.any Option.isSome = true) (v : Nat) :
    l.getD v none = none := by
  induction l generalizing v with
  | nil => simp
  | cons o os ih =>
    simp only [List.any_cons, Bool.or_eq_true, not_or] at h
    cases v with
    | zero => cases o <;> simp_all
    | succ v => simpa using ih h.2 v

/-- one look-up after `dbDel`: only the record of `h` under its own key changes, to the cleared record or to nothing -/
theorem aGet_dbDel (db : DB) (h : Bytes) (m : List Bool) (k : Bytes) :
    aGet (dbDel Cfg.current db h m) k =
      match aGet db (key8 h) with
      | some r =>
        if r.txid = h ∧ key8 h = k then
          (if (clearOuts r.outs m).any Option.isSome = true then some { r with outs := clearOuts r.outs m } else none)
        else aGet db k
      | none => aGet db k := by
  unfold dbDel
  cases aGet db (key8 h) with
  | none => rfl
  | some r =>
    have hft : Cfg.current.fullTxid = true := rfl
    simp only [hft, true_and]
    by_cases hr : r.txid = h
    · by_cases hany : (clearOuts r.outs m).any Option.isSome = true
      · simp only [hr, hany, ne_eq, not_true_eq_false, ↓reduceIte, true_and, aGet_aSet]
      · simp only [hr, hany, ne_eq, not_true_eq_false, ↓reduceIte, true_and, aGet_aDel, Bool.false_eq_true]
    · simp only [hr, ne_eq, not_false_eq_true, ↓reduceIte, false_and]

/-- `UnspentDB.del h m` removes exactly the coins (h, v) with m[v] set -/
theorem dbDel_abs (mtpOf : Nat → Nat) (db : DB) (h : Bytes) (m : List Bool) (op : OutPoint) :
    absGet mtpOf (dbDel Cfg.current db h m) op =
      if op.hash = h ∧ m.getD op.vout false = true then none else absGet mtpOf db op := by
  rw [absGet_eq, aGet_dbDel, absGet_eq]
  cases hg : aGet db (key8 h) with
  | none =>
    by_cases ho : op.hash = h
    · subst ho; simp [hg]
    · simp [ho]
  | some r =>
    by_cases hc : r.txid = h ∧ key8 h = key8 op.hash
    · obtain ⟨rfl, hk⟩ := hc
      simp only [hk, and_self, ↓reduceIte]
      rw [← hk, hg]
      by_cases ho : r.txid = op.hash
      · by_cases hany : (clearOuts r.outs m).any Option.isSome = true
        · simp only [hany, ↓reduceIte, ho, true_and, recGet, clearOuts_getD]
          split <;> rfl
        · have := getD_none_of_not_any _ hany op.vout
          rw [clearOuts_getD] at this
          simp only [hany, Bool.false_eq_true, ↓reduceIte, ho, true_and, recGet]
          split
          · rfl
          · rename_i hm; rw [if_neg hm] at this; rw [this]; rfl
      · have ho' : ¬ op.hash = r.txid := fun e => ho e.symm
        by_cases hany : (clearOuts r.outs m).any Option.isSome = true <;> simp [hany, ho, ho']
    · simp only [hc, ↓reduceIte]
      by_cases ho : op.hash = h ∧ m.getD op.vout false = true
      · rw [if_pos ho]
        obtain ⟨rfl, _⟩ := ho
        rw [hg]
        have : ¬ r.txid = op.hash := fun e => hc ⟨e, rfl⟩
        simp [this]
      · rw [if_neg ho]

theorem dbDel_none (db : DB) (h : Bytes) (m : List Bool) (k : Bytes) (hn : aGet db k = none) :
    aGet (dbDel Cfg.current db h m) k = none := by
  rw [aGet_dbDel]
  cases hg : aGet db (key8 h) with
  | none => exact hn
  | some r =>
    simp only []
    split
    · rename_i hc; rw [← hc.2, hg] at hn; cases hn
    · exact hn

/-- is (hash, vout) marked in a DeledTxs list -/
def delMarked (deled : List (Bytes × List Bool)) (op : OutPoint) : Bool :=
  match aGet deled op.hash with
  | some m => m.getD op.vout false
  | none => false

theorem foldl_dbDel_none (L : List (Bytes × List Bool)) (db : DB) (k : Bytes) (hn : aGet db k = none) :
    aGet (L.foldl (fun d (kv : Bytes × List Bool) => dbDel Cfg.current d kv.1 kv.2) db) k = none :=
  List.foldlRecOn (motive := fun d => aGet d k = none) L _ hn fun d hd e _ => dbDel_none d e.1 e.2 k hd

/-- all deletions of a block: exactly the marked coins disappear (the list has unique keys, being a Go map) -/
theorem foldl_dbDel_abs (mtpOf : Nat → Nat) (L : List (Bytes × List Bool)) (hn : (keys L).Nodup) (db : DB) (op : OutPoint) :
    absGet mtpOf (L.foldl (fun d (kv : Bytes × List Bool) => dbDel Cfg.current d kv.1 kv.2) db) op =
      if delMarked L op = true then none else absGet mtpOf db op := by
  induction L generalizing db with
  | nil => simp [delMarked, aGet]
  | cons e r ih =>
    obtain ⟨h, m⟩ := e
    simp only [keys, List.map_cons, List.nodup_cons] at hn
    simp only [List.foldl_cons]
    rw [ih hn.2, dbDel_abs]
    unfold delMarked
    simp only [aGet]
    by_cases hh : h = op.hash
    · subst hh
      have : aGet r op.hash = none := (aGet_none_iff r _).mpr hn.1
      simp only [this, ↓reduceIte, true_and]
      simp
    · have : ¬ op.hash = h := fun e => hh e.symm
      simp [hh, this]

/-- `do_add` files the record under its 8-byte key, whatever was there -/
theorem dbAdd_abs (mtpOf : Nat → Nat) (db : DB) (r : Rec) (op : OutPoint) :
    absGet mtpOf (dbAdd db r) op =
      if key8 r.txid = key8 op.hash then (if r.txid = op.hash then recGet mtpOf r op.vout else none)
      else absGet mtpOf db op := by
  unfold dbAdd
  rw [absGet_eq, aGet_aSet]
  by_cases hk : key8 r.txid = key8 op.hash
  · simp [hk]
  · simp only [hk, ↓reduceIte]; rw [absGet_eq]

/-- record that AddList makes of one blUnsp entry -/
def addRec (b : Block) (e : Bytes × (Bool × List (Option TxOut))) : Option Rec :=
  if e.2.2.any Option.isSome then some { txid := e.1, height := b.height, coinbase := e.2.1, outs := e.2.2 } else none

theorem addList_eq (b : Block) (s : St) : addList b s = s.blUnsp.filterMap (addRec b) := by
  unfold addList addRec
  congr 1

/-- all additions of a block, when the 8-byte keys of the new txids are pairwise different and free in the map:
    the new coins are exactly the unspent slots of blUnsp -/
theorem foldl_dbAdd_abs (mtpOf : Nat → Nat) (b : Block) (L : List (Bytes × (Bool × List (Option TxOut))))
    (hinj : ((keys L).map key8).Nodup) (db : DB) (hfree : ∀ k ∈ keys L, aGet db (key8 k) = none) (op : OutPoint) :
    absGet mtpOf ((L.filterMap (addRec b)).foldl dbAdd db) op =
      match aGet L op.hash with
      | some (cb, t) => (t.getD op.vout none).map fun o => ⟨o.value, o.script, b.height, cb, mtpOf b.height⟩
      | none => absGet mtpOf db op := by
  induction L generalizing db with
  | nil => simp [aGet]
  | cons e r ih =>
    obtain ⟨k, cb, t⟩ := e
    simp only [keys, List.map_cons, List.nodup_cons] at hinj
    have hfree_k : aGet db (key8 k) = none := hfree k List.mem_cons_self
    have hrest_ne : ∀ k' ∈ keys r, key8 k' ≠ key8 k := fun k' hk' he => hinj.1 (List.mem_map.mpr ⟨k', hk', he⟩)
    have hget_rest : key8 k = key8 op.hash → aGet r op.hash = none := fun he =>
      (aGet_none_iff r _).mpr fun hm => hrest_ne _ hm he.symm
    simp only [List.filterMap_cons, aGet]
    by_cases hany : t.any Option.isSome = true
    case neg =>
      -- no unspent slot: nothing is filed
      have hnone : ∀ v, t.getD v none = none := getD_none_of_not_any _ hany
      simp only [addRec, hany, Bool.false_eq_true, ↓reduceIte]
      rw [ih hinj.2 db fun k' hk' => hfree k' (List.mem_cons_of_mem _ hk')]
      by_cases hk : k = op.hash
      · subst hk
        simp only [↓reduceIte, hget_rest rfl, hnone, Option.map_none]
        rw [absGet_eq, hfree_k]
      · simp [hk]
    case pos =>
      simp only [addRec, hany, ↓reduceIte, List.foldl_cons]
      have hfree' : ∀ k' ∈ keys r, aGet (dbAdd db ⟨k, b.height, cb, t⟩) (key8 k') = none := by
        intro k' hk'
        unfold dbAdd
        rw [aGet_aSet]
        simp only [(hrest_ne k' hk').symm, ↓reduceIte]
        exact hfree k' (List.mem_cons_of_mem _ hk')
      rw [ih hinj.2 _ hfree', dbAdd_abs]
      by_cases hk : k = op.hash
      · subst hk
        simp only [↓reduceIte, hget_rest rfl, recGet]
        rfl
      · simp only [hk, ↓reduceIte]
        cases hr : aGet r op.hash with
        | some x => rfl
        | none =>
          by_cases hk8 : key8 k = key8 op.hash
          · simp only [hk8, ↓reduceIte, absGet_eq]
            rw [← hk8, hfree_k]
          · simp [hk8]

end GocoinV.Proofs.C04
