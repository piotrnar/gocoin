/-
  Proofs.C01Loop — every opcode falls into a proved group (`op_classify`), so one loop iteration agrees for EVERY
  opcode (`stepAt_agree_all`); lifting to the whole interpreter loop on scripts that decode to their end
  (`evalLoop_agree_wf`), the separate argument for scripts with a decode error (both interpreters fail, whatever
  happens on the way), and `evalScript` ≡ `EvalScript` for all scripts. For the decode-error case Proofs/C02Tail.lean gives
  "the model's loop does not return true" for any oracles; to turn that into "false or panic" the block `NoNeed`
  (`noNeed_*`, `sigop_noNeed`, `checkMultisig_noNeed`, `execOp_noNeed_bad`, `stepAt_noNeed_bad`) shows that with total
  oracles no step ends in a request to the crypto table.
-/
import GocoinV.Proofs.C01Multisig
import GocoinV.Proofs.C02Tail
namespace GocoinV.Proofs.C01
open GocoinV GocoinV.Script

/-- the opcodes with an own lemma each -/
def isSingleOp (op : Nat) : Bool :=
  op == 0xa5 || op == 0x74 || op == 0x82 || op == 0x79 || op == 0x7a || op == 0xab || op == 0xb1 || op == 0xb2 ||
  op == 0xac || op == 0xad || op == 0xba || op == 0xae || op == 0xaf

theorem op_classify (op : Nat) (h : op > 0x4e) :
    (isConstOp op || ScriptSpec.isShuffle op || isMiscOp op || isNopOp op || isCondOp op || ScriptSpec.isUnaryNum op ||
      ScriptSpec.isBinaryNum op || isSingleOp op || isBadOp op) = true := by
  by_cases hbig : op ≥ 0xbb
  · simp [isBadOp, hbig]
  · have all : ∀ n, n < 0xbb → n > 0x4e →
        (isConstOp n || ScriptSpec.isShuffle n || isMiscOp n || isNopOp n || isCondOp n || ScriptSpec.isUnaryNum n ||
          ScriptSpec.isBinaryNum n || isSingleOp n || isBadOp n) = true := by decide +kernel
    exact all op (by omega) h

/-- the opcodes that ask the signature oracles -/
def isSigOp (op : Nat) : Bool := op == 0xac || op == 0xad || op == 0xba || op == 0xae || op == 0xaf

/-- side conditions of one step that do not change during a run -/
structure Side (T : TotalOracles) (c : Ctx) : Prop where
  tap : TapSigHashOk T c.tx
  nops : NopsOk c.flags

theorem condop_range (op : Nat) (h : isCondOp op = true) : 0x63 ≤ op ∧ op ≤ 0x68 := by
  simp only [isCondOp, Bool.or_eq_true, beq_iff_eq] at h; omega

theorem execOp_agree_all (T : TotalOracles) (c : Ctx) (hO : c.O = T.toOracles) (leaf : Bytes) (annex : Option Bytes)
    (st : St) (s : ScriptSpec.State) (i : ScriptSpec.Instr) (idx pos : Nat) (hR : Rel c leaf annex st s)
    (hgt : i.op > 0x4e) (hside : Side T c) (hidx : c.p.drop idx = i.after)
    (hwfa : c.sv = .base → (ScriptSpec.parse c.p).2 = false → (ScriptSpec.parse i.after).2 = false ∧ i.after.length < 2 ^ 32)
    (hgood : isSigOp i.op = true → c.sv = .base → (ScriptSpec.parse c.p).2 = false)
    (hor : st.exe.all id = true ∨ (0x63 ≤ i.op ∧ i.op ≤ 0x68)) :
    Agree c leaf annex (execOp c st i.op idx pos (st.exe.all id))
      (ScriptSpec.execOpcode (envOf T c leaf annex) s i (st.exe.all id) pos) := by
  have hS : isSigOp i.op = true → SigSide T c s := fun h => ⟨hside.tap, fun hb => hR.wf hb (hgood h hb)⟩
  by_cases hcond : isCondOp i.op = true
  · exact cond_agree hR hcond
  by_cases hbad : isBadOp i.op = true
  · exact bad_agree _ hbad
  -- everything else is only reached in an executed branch
  have hex : st.exe.all id = true := hor.resolve_right fun _ => by
    simp only [isCondOp, isBadOp, Bool.or_eq_true, beq_iff_eq] at hcond hbad; omega
  rw [hex]
  have hcl := op_classify i.op hgt
  simp only [Bool.or_eq_true] at hcl
  rcases hcl with (((((((h | h) | h) | h) | h) | h) | h) | h) | h
  · exact const_agree hR h
  · exact shuffle_agree hR h
  · exact misc_agree hO hR h
  · exact nop_agree hR h
  · exact absurd h hcond
  · exact unary_agree hR h
  · exact binary_agree hR h
  · simp only [isSingleOp, Bool.or_eq_true, beq_iff_eq] at h
    rcases h with (((((((((((h | h) | h) | h) | h) | h) | h) | h) | h) | h) | h) | h) | h
    · exact within_agree hR h
    · exact depth_size_agree hR (Or.inl h)
    · exact depth_size_agree hR (Or.inr h)
    · exact pickroll_agree hR (Or.inl h)
    · exact pickroll_agree hR (Or.inr h)
    · exact codesep_agree hR h hidx hwfa
    · exact cltv_agree hR h hside.nops
    · exact csv_agree hR h hside.nops
    · exact checksig_agree hO hR (Or.inl h) (hS (h ▸ rfl))
    · exact checksig_agree hO hR (Or.inr h) (hS (h ▸ rfl))
    · exact csa_agree hO hR h (hS (h ▸ rfl))
    · exact multisig_agree hO hR (Or.inl h) (hS (h ▸ rfl))
    · exact multisig_agree hO hR (Or.inr h) (hS (h ▸ rfl))
  · exact absurd h hbad

theorem stepAt_agree_all (T : TotalOracles) (c : Ctx) (hO : c.O = T.toOracles) (leaf : Bytes) (annex : Option Bytes)
    (st : St) (s : ScriptSpec.State) (op : Op) (i : ScriptSpec.Instr) (idx pos : Nat)
    (hop : i.op = op.opcode) (hdata : i.data = op.push.getD []) (hR : Rel c leaf annex st s) (hside : Side T c)
    (hidx : c.p.drop idx = i.after)
    (hwfa : c.sv = .base → (ScriptSpec.parse c.p).2 = false → (ScriptSpec.parse i.after).2 = false ∧ i.after.length < 2 ^ 32)
    (hgood : isSigOp i.op = true → c.sv = .base → (ScriptSpec.parse c.p).2 = false) :
    Agree c leaf annex (stepAt c st op idx pos) (ScriptSpec.execInstr (envOf T c leaf annex) s i pos) := by
  apply stepAt_frame T c leaf annex st s op i idx pos hop hdata hR
  intro hgt st1 s1 hR1 hor
  rw [← hop] at hgt hor ⊢
  exact execOp_agree_all T c hO leaf annex st1 s1 i idx pos hR1 hgt hside hidx hwfa hgood hor

/-- Whole-loop simulation on a script that decodes to its end: decoding while executing (model) against
    parse-then-execute (spec), every opcode. -/
theorem evalLoop_agree_wf (T : TotalOracles) (c : Ctx) (hO : c.O = T.toOracles) (leaf : Bytes) (annex : Option Bytes)
    (hside : Side T c) (hlen : c.sv = .base → c.p.length < 2 ^ 32) (hgood : (ScriptSpec.parse c.p).2 = false) :
    ∀ (f : Nat) (rest : Bytes) (pos : Nat) (st : St) (s : ScriptSpec.State), Rel c leaf annex st s →
      (∃ pre, c.p = pre ++ rest) → rest.length ≤ f → (ScriptSpec.parseAux f rest).2 = false →
      Agree c leaf annex (evalLoop c f rest pos st) (ScriptSpec.execInstrs (envOf T c leaf annex) (ScriptSpec.parseAux f rest).1 pos s) := by
  intro f
  induction f with
  | zero =>
    intro rest pos st s hR _ hl _
    obtain rfl := List.eq_nil_of_length_eq_zero (Nat.le_zero.1 hl)
    exact Agree.ok hR
  | succ f ih =>
    intro rest pos st s hR hpre hl hw
    by_cases he : rest.isEmpty
    · simp only [evalLoop, ScriptSpec.parseAux, he, ↓reduceIte, ScriptSpec.execInstrs, epure, agree_ok]; exact hR
    · simp only [evalLoop, ScriptSpec.parseAux, he, Bool.false_eq_true, ↓reduceIte] at hw ⊢
      cases hg : getOpcode rest with
      | none => simp [parseOne_none_of_getOpcode hg] at hw
      | some op =>
        obtain ⟨⟨o, d, _⟩, hp, h1, h2, rfl, _, hn1, hn2⟩ := parseOne_of_getOpcode hg
        simp only [hp, ScriptSpec.execInstrs] at hw ⊢
        obtain ⟨pre, hpre⟩ := hpre
        have hidx : c.p.drop (c.p.length - rest.length + op.n) = rest.drop op.n := by
          rw [hpre, List.length_append, Nat.add_sub_cancel, List.drop_length_add_append]
        have hal : (rest.drop op.n).length ≤ f := by simp; omega
        have hwfa : c.sv = .base → (ScriptSpec.parse c.p).2 = false →
            (ScriptSpec.parse (rest.drop op.n)).2 = false ∧ (rest.drop op.n).length < 2 ^ 32 := by
          intro hb _
          refine ⟨(wf_iff _ f hal).mpr hw, ?_⟩
          have := hlen hb
          rw [hpre] at this
          simp at this ⊢; omega
        have hstep := stepAt_agree_all T c hO leaf annex st s op ⟨o, d, _⟩ (c.p.length - rest.length + op.n) pos h1 h2 hR hside hidx hwfa (fun _ _ => hgood)
        exact hstep.bind fun a b hR' => ih _ (pos + 1) a b hR'
          ⟨pre ++ rest.take op.n, by rw [hpre, List.append_assoc, List.take_append_drop]⟩ hal hw


/-- the result is not a request to the crypto table (always so for total oracles) -/
def NoNeed {α : Type} (r : Res α) : Prop := ∀ q, r ≠ .need q
theorem noNeed_ok {α} (a : α) : NoNeed (Res.ok a) := by intro q h; cases h
theorem noNeed_fail {α} : NoNeed (Res.fail : Res α) := by intro q h; cases h
theorem noNeed_panic {α} : NoNeed (Res.panic : Res α) := by intro q h; cases h
theorem noNeed_bind {α β} (x : Res α) (f : α → Res β) (hx : NoNeed x) (hf : ∀ a, x = .ok a → NoNeed (f a)) : NoNeed (x >>= f) := by
  cases x with
  | ok a => simpa using hf a rfl
  | fail => exact noNeed_fail
  | panic => exact noNeed_panic
  | need q => exact absurd rfl (hx q)
theorem noNeed_ite {α} {p : Prop} [Decidable p] {x y : Res α} (hx : NoNeed x) (hy : NoNeed y) :
    NoNeed (if p then x else y) := by
  split
  · exact hx
  · exact hy
theorem agree_noNeed {c : Ctx} {leaf : Bytes} {annex : Option Bytes} {X : Res St} {Y : ScriptSpec.E ScriptSpec.State}
    (h : Agree c leaf annex X Y) : NoNeed X := by
  cases h with
  | ok _ => exact noNeed_ok _
  | fail => exact noNeed_fail
  | panic => exact noNeed_panic

theorem top_noNeed (s : Stack) (k : Nat) : NoNeed (top s k) := by
  unfold top
  refine noNeed_ite noNeed_panic ?_
  split
  · exact noNeed_ok _
  · exact noNeed_panic
theorem topInt_noNeed (s : Stack) (k : Nat) (chk : Bool) : NoNeed (topInt s k chk) :=
  noNeed_bind _ _ (top_noNeed s k) fun _ _ => noNeed_ite noNeed_panic (noNeed_ite noNeed_panic (noNeed_ok _))

theorem evalChecksig_noNeed (T : TotalOracles) (c : Ctx) (hO : c.O = T.toOracles) (hT : TapSigHashOk T c.tx)
    (sig pk : Bytes) (pbegin : Nat) (ed : ExecData) : NoNeed (evalChecksig c sig pk pbegin ed) := by
  have hpre : ∀ sv, NoNeed (evalChecksigPreTapscript T.toOracles sig pk c.p pbegin c.flags sv ed) := fun sv => by
    unfold evalChecksigPreTapscript
    exact noNeed_ite (noNeed_ok _) (noNeed_ite (noNeed_ok _) (noNeed_bind _ _
      (show NoNeed (verifyECDSA T.toOracles _ sig pk sv) from verifyECDSA_eq T _ sig pk sv ▸ noNeed_ok _)
      fun _ _ => noNeed_ite (noNeed_ok _) (noNeed_ok _)))
  unfold evalChecksig
  cases hsv : c.sv
  case base | witnessV0 => exact hO ▸ hpre _
  case taproot => exact noNeed_panic
  case tapscript =>
    simp only
    rw [hO]
    exact noNeed_ite (noNeed_ok _) (noNeed_ite (noNeed_ok _) (noNeed_ite
      (noNeed_ite (noNeed_bind _ _ (by rw [← hsv, checkSchnorr_agree T c hT]; exact noNeed_ok _) fun _ _ => noNeed_ite (noNeed_ok _) (noNeed_ok _)) (noNeed_ok _))
      (noNeed_ite (noNeed_ok _) (noNeed_ok _))))

theorem delSigsList_noNeed (flags : Nat) : ∀ S x, NoNeed (delSigsList flags S x) := by
  intro S
  induction S with
  | nil => intro x; exact noNeed_ok _
  | cons s S' ih => intro x; exact noNeed_ite noNeed_fail (ih _)

theorem msVerifyLoop_noNeed (T : TotalOracles) (c : Ctx) (hO : c.O = T.toOracles) (stack : Stack) (xxx : Bytes) :
    ∀ k sg ikey isig, NoNeed (msVerifyLoop c stack xxx k sg ikey isig) := by
  intro k
  induction k with
  | zero =>
    intro sg ikey isig
    unfold msVerifyLoop
    exact noNeed_ite (noNeed_ok _) noNeed_panic
  | succ k ih =>
    intro sg ikey isig
    unfold msVerifyLoop
    refine noNeed_ite (noNeed_ok _) (noNeed_bind _ _ (top_noNeed _ _) fun pk _ =>
      noNeed_bind _ _ (top_noNeed _ _) fun sig _ => noNeed_ite noNeed_fail ?_)
    rw [hO, verifyECDSA_eq]
    exact noNeed_bind _ _ (noNeed_ok _) fun _ _ => noNeed_ite (noNeed_ok _) (ih _ _ _)

theorem msCleanup_noNeed (flags : Nat) (su : Bool) : ∀ n k s, NoNeed (msCleanup flags su n k s) := by
  intro n
  induction n with
  | zero => intro k s; exact noNeed_ok _
  | succ n ih =>
    intro k s
    cases s with
    | nil => exact noNeed_panic
    | cons t r => exact noNeed_ite noNeed_fail (ih _ _)

theorem msDelSigs_noNeed (stack : Stack) (flags isig : Nat) : ∀ n k xxx, NoNeed (msDelSigs stack flags isig n k xxx) := by
  intro n
  induction n with
  | zero => intro k xxx; exact noNeed_ok _
  | succ n ih =>
    intro k xxx
    exact noNeed_bind _ _ (top_noNeed _ _) fun _ _ => noNeed_ite noNeed_fail (ih _ _)

theorem checkMultisig_noNeed (T : TotalOracles) (c : Ctx) (hO : c.O = T.toOracles) (st : St) (opcode : Nat) :
    NoNeed (checkMultisig c st opcode) := by
  unfold checkMultisig
  refine noNeed_ite noNeed_fail (noNeed_ite noNeed_fail (noNeed_bind _ _ (topInt_noNeed _ _ _) fun kI _ => ?_))
  refine noNeed_ite noNeed_fail (noNeed_ite noNeed_fail (noNeed_ite noNeed_fail
    (noNeed_bind _ _ (topInt_noNeed _ _ _) fun sI _ => ?_)))
  refine noNeed_ite noNeed_fail (noNeed_ite noNeed_fail
    (noNeed_bind _ _ (noNeed_ite (msDelSigs_noNeed _ _ _ _ _ _) (noNeed_ok _)) fun xxx _ => ?_))
  refine noNeed_bind _ _ (msVerifyLoop_noNeed T c hO _ _ _ _ _ _) fun su _ =>
    noNeed_bind _ _ (msCleanup_noNeed _ _ _ _ _) fun s1 _ => ?_
  cases s1 with
  | nil => exact noNeed_fail
  | cons dummy s2 => exact noNeed_ite noNeed_fail (noNeed_ite (noNeed_ite noNeed_fail (noNeed_ok _)) (noNeed_ok _))

theorem sigop_noNeed (T : TotalOracles) (c : Ctx) (hO : c.O = T.toOracles) (hT : TapSigHashOk T c.tx) (st : St) (op idx pos : Nat) (b : Bool)
    (h : isSigOp op = true) : NoNeed (execOp c st op idx pos b) := by
  have hcs := fun sig pk => evalChecksig_noNeed T c hO hT sig pk st.pbegin st.ed
  have body : NoNeed (checksigBody c st op) := by
    unfold checksigBody
    split
    · exact noNeed_bind _ _ (hcs _ _) fun _ _ =>
        noNeed_ite noNeed_fail (noNeed_ite (noNeed_ite noNeed_fail (noNeed_ok _)) (noNeed_ok _))
    · exact noNeed_fail
  simp only [isSigOp, Bool.or_eq_true, beq_iff_eq] at h
  rcases h with ((h | h) | h) | h
  · rw [execOp_checksig c st op idx pos b h]; exact body
  · subst h
    rw [execOp_csa]
    exact noNeed_ite noNeed_fail (noNeed_ite noNeed_fail (noNeed_bind _ _ (top_noNeed _ _) fun _ _ =>
      noNeed_bind _ _ (topInt_noNeed _ _ _) fun _ _ => noNeed_bind _ _ (top_noNeed _ _) fun _ _ =>
      noNeed_bind _ _ (hcs _ _) fun _ _ => noNeed_ite noNeed_fail (noNeed_ok _)))
  · rw [execOp_multisig c st op idx pos b (Or.inl h)]
    exact checkMultisig_noNeed T c hO st op
  · rw [execOp_multisig c st op idx pos b (Or.inr h)]
    exact checkMultisig_noNeed T c hO st op

/-- `NoNeed` for one opcode of a script WITH a decode error. For the opcodes that ask no signature oracle it is read off
    the agreement theorem `execOp_agree_all`, applied to a related spec state made up for the purpose: the only field of
    `Rel` that needs an argument, `wf`, starts from "the script has no decode error" and so holds vacuously (`hbad`).
    The signature opcodes, whose agreement needs a script that decodes, are walked by hand (`sigop_noNeed`). -/
theorem execOp_noNeed_bad (T : TotalOracles) (c : Ctx) (hO : c.O = T.toOracles) (hside : Side T c)
    (hbad : (ScriptSpec.parse c.p).2 = true) (st : St) (op idx pos : Nat) (hgt : op > 0x4e)
    (hor : st.exe.all id = true ∨ (0x63 ≤ op ∧ op ≤ 0x68)) :
    NoNeed (execOp c st op idx pos (st.exe.all id)) := by
  by_cases hsig : isSigOp op = true
  · exact sigop_noNeed T c hO hside.tap st op idx pos _ hsig
  · let s : ScriptSpec.State := ⟨st.stack, st.alt, condOf st.exe, st.opcnt, c.p.drop st.pbegin, st.ed.codesepPos, st.ed.weightLeft⟩
    have hR : Rel c st.ed.tapleafHash st.ed.annexHash st s :=
      ⟨rfl, rfl, rfl, rfl, rfl, rfl, rfl, rfl, rfl, fun _ hg => nomatch hbad.symm.trans hg⟩
    exact agree_noNeed (execOp_agree_all T c hO st.ed.tapleafHash st.ed.annexHash st s ⟨op, [], c.p.drop idx⟩ idx pos hR hgt hside rfl
      (fun _ hg => nomatch hbad.symm.trans hg) (fun h => absurd h hsig) hor)

theorem stepAt_noNeed_bad (T : TotalOracles) (c : Ctx) (hO : c.O = T.toOracles) (hside : Side T c)
    (hbad : (ScriptSpec.parse c.p).2 = true) (st : St) (op : Op) (idx pos : Nat) : NoNeed (stepAt c st op idx pos) := by
  unfold stepAt
  refine noNeed_ite noNeed_fail (noNeed_ite noNeed_fail (noNeed_ite noNeed_fail (noNeed_ite noNeed_fail
    (noNeed_bind _ _ ?_ fun _ _ => noNeed_ite noNeed_fail (noNeed_ok _)))))
  split
  · exact noNeed_ite noNeed_fail (noNeed_ok _)
  · rename_i hpush
    split
    · rename_i hex
      simp only [Bool.and_eq_true, decide_eq_true_eq, not_and] at hpush
      simp only [Bool.or_eq_true, Bool.and_eq_true, decide_eq_true_eq] at hex
      -- the opcode is above the push range: either it is executed and not a push, or it is one of IF … ENDIF
      exact execOp_noNeed_bad T c hO hside hbad _ op.opcode idx pos
        (hex.elim (fun h => Nat.lt_of_not_le (hpush h)) fun h => by omega) hex
    · exact noNeed_ok _

theorem evalLoop_noNeed (c : Ctx) (hnn : ∀ st op idx pos, NoNeed (stepAt c st op idx pos)) :
    ∀ f rest pos st, NoNeed (evalLoop c f rest pos st) := by
  intro f
  induction f with
  | zero => intro rest pos st; exact noNeed_ite (noNeed_ok _) noNeed_fail
  | succ f ih =>
    intro rest pos st
    unfold evalLoop
    refine noNeed_ite (noNeed_ok _) ?_
    split
    · exact noNeed_fail
    · exact noNeed_bind _ _ (hnn _ _ _ _) fun _ _ => ih _ _ _

/-- a script with a decode error: the model's loop does not return true (`C02T.evalLoop_bad`, any oracles), so with
    total oracles it returns false or panics -/
theorem evalLoop_bad (c : Ctx) (hnn : ∀ st op idx pos, NoNeed (stepAt c st op idx pos)) (f : Nat) (rest : Bytes) (pos : Nat)
    (st : St) (hb : (ScriptSpec.parseAux f rest).2 = true) :
    evalLoop c f rest pos st = .fail ∨ evalLoop c f rest pos st = .panic := by
  cases h : evalLoop c f rest pos st with
  | ok a => exact absurd h (C02T.evalLoop_bad c f rest pos st hb a)
  | fail => exact .inl rfl
  | panic => exact .inr rfl
  | need q => exact absurd h (evalLoop_noNeed c hnn f rest pos st q)

theorem specLoop_bad (e : ScriptSpec.Env) (instrs : List ScriptSpec.Instr) (s : ScriptSpec.State) :
    ∃ err, (do let st ← ScriptSpec.execInstrs e instrs 0 s
               if true then throw ScriptSpec.ScriptError.BAD_OPCODE
               if !st.cond.empty then throw ScriptSpec.ScriptError.UNBALANCED_CONDITIONAL
               pure st.stack : ScriptSpec.E (List Bytes)) = .error err := by
  cases ScriptSpec.execInstrs e instrs 0 s with
  | error x | ok st => exact ⟨_, rfl⟩

/-- `evalScript` (model, with its size check and recover) against `EvalScript` (spec) on EVERY script: both fail, or
    both succeed with the same final stack -/
theorem evalScript_agree_all (T : TotalOracles) (tx : TxCtx) (flags : Nat) (p : Bytes) (stack : Stack) (sv : SigVersion)
    (ed : ExecData) (hT : TapSigHashOk T tx) (hq : NopsOk flags) :
    Sim Eq (evalScript T.toOracles tx flags p stack sv ed)
      (ScriptSpec.evalScript (envOf T ⟨T.toOracles, tx, flags, sv, p⟩ ed.tapleafHash ed.annexHash) p stack ed.weightLeft) := by
  unfold evalScript ScriptSpec.evalScript
  simp only [envOf_sv, show ScriptSpec.MAX_SCRIPT_SIZE = MAX_SCRIPT_SIZE from rfl]
  by_cases hsz : ((sv == SigVersion.base || sv == SigVersion.witnessV0) && decide (p.length > MAX_SCRIPT_SIZE)) = true
  · simp [hsz, sim_fail, bind, Except.bind, ethrow]
  · simp only [hsz, Bool.false_eq_true, ↓reduceIte]
    have hside : Side T ⟨T.toOracles, tx, flags, sv, p⟩ := ⟨hT, hq⟩
    have hlen : sv = .base → p.length < 2 ^ 32 := by
      intro hb
      have : ¬ p.length > 10000 := by
        intro h; apply hsz; simp [hb, h, MAX_SCRIPT_SIZE]
      omega
    unfold ScriptSpec.parse
    rcases hpr : ScriptSpec.parseAux p.length p with ⟨instrs, _ | _⟩ <;> have hbad := congrArg Prod.snd hpr <;> simp only
    · -- the script decodes to its end: step simulation
      have hR0 : Rel ⟨T.toOracles, tx, flags, sv, p⟩ ed.tapleafHash ed.annexHash { stack := stack, ed := { ed with codesepPos := 0xFFFFFFFF } }
          { stack := stack, code := p, weightLeft := ed.weightLeft } :=
        ⟨rfl, rfl, rfl, rfl, by simp, rfl, rfl, rfl, rfl, fun hb _ => ⟨hbad, hlen hb⟩⟩
      have hloop := evalLoop_agree_wf T ⟨T.toOracles, tx, flags, sv, p⟩ rfl ed.tapleafHash ed.annexHash hside hlen hbad p.length p 0 _ _ hR0
        ⟨[], rfl⟩ (Nat.le_refl _) hbad
      rw [hpr] at hloop
      generalize evalLoop ⟨T.toOracles, tx, flags, sv, p⟩ p.length p 0 _ = X at hloop ⊢
      generalize ScriptSpec.execInstrs _ instrs 0 _ = Y at hloop ⊢
      cases hloop with
      | fail | panic => simp [sim_fail, recoverPanic, Res.bind, bind, Except.bind]
      | @ok a b hR =>
        simp only [bind, Except.bind, Res.bind, Bool.false_eq_true, ↓reduceIte, epure, hR.cond, condOf_empty]
        cases hex : a.exe with
        | nil => simp [sim_ok, recoverPanic, hR.stack]
        | cons x r => simp [sim_fail, recoverPanic, ethrow]
    · -- a decode error somewhere: both interpreters fail
      have hnn := stepAt_noNeed_bad T ⟨T.toOracles, tx, flags, sv, p⟩ rfl hside hbad
      have hm := evalLoop_bad ⟨T.toOracles, tx, flags, sv, p⟩ hnn p.length p 0
        { stack := stack, ed := { ed with codesepPos := 0xFFFFFFFF } } hbad
      generalize ScriptSpec.execInstrs _ instrs 0 _ = Y
      cases Y <;> rcases hm with hm | hm <;>
        simp [hm, sim_fail, recoverPanic, Res.bind, bind, Except.bind, ethrow]

end GocoinV.Proofs.C01
