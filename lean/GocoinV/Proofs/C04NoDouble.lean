/-
  Proofs.C04NoDouble — nothing is spent twice inside a block, in either configuration, read off the view of the
  locals (C04Sim). An outpoint that has been spent is `Gone` — it names a confirmed coin or a transaction of this
  block, and the locals denote no coin for it —, a coin look-up succeeds only where the view holds a coin and removes
  exactly that one, and filing the outputs of a new txid brings nothing back.
-/
import GocoinV.Proofs.C04Sim
namespace GocoinV.Proofs.C04
open GocoinV GocoinV.Connect

/-- `op` names a confirmed coin or an output of a transaction of this block, and the locals hold no coin for it -/
def Gone (cfg : Cfg) (db : DB) (b : Block) (s : St) (op : OutPoint) : Prop :=
  viewOf cfg (fun _ => 0) db b s op = none ∧ (unspentGet cfg db op ≠ none ∨ op.hash ∈ keys s.blUnsp)

/-- the outpoints spent so far: no repetition, all of them gone -/
def Spent (cfg : Cfg) (db : DB) (b : Block) (s : St) (L : List OutPoint) : Prop := L.Nodup ∧ ∀ op ∈ L, Gone cfg db b s op

theorem procInput_spent {cfg : Cfg} {db : DB} {b : Block} {inp : TxIn} {s s' : St} {a a' : Nat} {L : List OutPoint}
    (h : procInput cfg db b inp s a = .ok (s', a')) (hL : Spent cfg db b s L) :
    Spent cfg db b s' (L ++ [inp.prev]) ∧ keys s'.blUnsp = keys s.blUnsp := by
  obtain ⟨s1, v, pk, so, hr, rfl, -⟩ := procInput_ok h
  obtain ⟨c, c1, -, -, -, c5, -, c6, c7⟩ := resolve_view cfg (fun _ => 0) db b inp s s1 v pk hr
  -- the new outpoint and the old ones are gone afterwards
  have hg : ∀ op, (op = inp.prev ∨ Gone cfg db b s op) → Gone cfg db b s1 op := by
    intro op hop
    refine ⟨?_, ?_⟩
    · rw [c5]; rcases hop with rfl | hop
      · simp
      · simp [hop.1]
    · rw [c6]; rcases hop with rfl | hop
      · rcases c7 with ⟨_, _, _, c7⟩ | ⟨c7, -, -⟩
        · left; intro e; rw [e] at c7; cases c7
        · right
          unfold viewOf at c1; rw [Option.map_eq_none_iff.mp c7] at c1
          apply Classical.byContradiction; intro hn
          rw [(aGet_none_iff _ _).mpr hn] at c1; cases c1
      · exact hop.2
  refine ⟨⟨List.nodup_append.mpr ⟨hL.1, by simp, ?_⟩, fun op hop => hg op ?_⟩, c6⟩
  · -- the view held a coin for it, so it was not gone
    intro x hx y hy; rw [List.mem_singleton.mp hy]
    rintro rfl; rw [(hL.2 _ hx).1] at c1; cases c1
  · simp only [List.mem_append, List.mem_singleton] at hop
    exact hop.symm.imp id (hL.2 op)

theorem procInputs_spent {cfg : Cfg} {db : DB} {b : Block} {ins : List TxIn} {s s' : St} {a a' : Nat} {L : List OutPoint}
    (h : procInputs cfg db b ins s a = .ok (s', a')) (hL : Spent cfg db b s L) :
    Spent cfg db b s' (L ++ ins.map (·.prev)) ∧ keys s'.blUnsp = keys s.blUnsp := by
  induction ins generalizing s a L with
  | nil => cases h; simpa using hL
  | cons i r ih =>
    obtain ⟨s1, a1, hp, h⟩ := procInputs_cons_ok h
    obtain ⟨g1, g2⟩ := procInput_spent hp hL
    obtain ⟨k1, k2⟩ := ih h g1
    exact ⟨by simpa using k1, k2.trans g2⟩

theorem procTx_spent {cfg : Cfg} {db : DB} {b : Block} {tx : Tx} {s s' : St} {L : List OutPoint}
    (h : procTx cfg db b false tx s = .ok s') (hL : Spent cfg db b s L) (hfresh : tx.txid ∉ keys s.blUnsp) :
    Spent cfg db b s' (L ++ tx.ins.map (·.prev)) ∧ keys s'.blUnsp = keys s.blUnsp ++ [tx.txid] := by
  obtain ⟨s1, a, s2, h1, h2, rfl⟩ := procTx_ok h
  obtain ⟨_, _, _, rfl⟩ := settle_frame h2
  obtain ⟨sp, hp, rfl⟩ := txInputs_ok h1
  obtain ⟨g1, g2⟩ := procInputs_spent hp hL
  have hf : tx.txid ∉ keys sp.blUnsp := g2 ▸ hfresh
  refine ⟨⟨g1.1, fun op hop => ?_⟩, by simp only [aSet_keys, hf, ↓reduceIte]; exact congrArg (· ++ [tx.txid]) g2⟩
  obtain ⟨v1, v2⟩ := g1.2 op hop
  refine ⟨?_, v2.imp id (fun hm => by simp only [aSet_keys, hf, ↓reduceIte, List.mem_append]; exact Or.inl hm)⟩
  -- the new txid is no key of blUnsp, so filing it does not touch the slot of a spent outpoint
  unfold viewOf at v1 ⊢
  rcases v2 with v2 | v2
  · cases hu : unspentGet cfg db op with
    | none => exact absurd hu v2
    | some f => rw [hu] at v1; exact v1
  · have hne : ¬ tx.txid = op.hash := fun e => hf (e ▸ v2)
    simp only [aGet_aSet, hne, ↓reduceIte]; exact v1

/-- outpoints named by the inputs of a list of (non-coinbase) transactions, in block order -/
def spentOps (txs : List Tx) : List OutPoint := txs.flatMap fun t => t.ins.map (·.prev)

theorem procTxs_spent {cfg : Cfg} {db : DB} {b : Block} {txs : List Tx} {s s' : St} {L : List OutPoint}
    (h : procTxs cfg db b false txs s = .ok s') (hL : Spent cfg db b s L) (hids : (txs.map (·.txid)).Nodup)
    (hfresh : ∀ tx ∈ txs, tx.txid ∉ keys s.blUnsp) : (L ++ spentOps txs).Nodup := by
  induction txs generalizing s L with
  | nil => simpa [spentOps] using hL.1
  | cons tx r ih =>
    obtain ⟨s1, hp, h⟩ := procTxs_cons_ok h
    obtain ⟨g1, g2⟩ := procTx_spent hp hL (hfresh tx (by simp))
    simp only [List.map_cons, List.nodup_cons] at hids
    have := ih h g1 hids.2 (fun t ht => by
      rw [g2]; simp only [List.mem_append, List.mem_singleton, not_or]
      exact ⟨hfresh t (by simp [ht]), fun e => hids.1 (List.mem_map.mpr ⟨t, ht, e⟩)⟩)
    simpa [spentOps, List.append_assoc] using this

theorem commitTxs_nodup (cfg : Cfg) (db : DB) (b : Block) (s : St)
    (hids : (b.txs.map (·.txid)).Nodup) (h : commitTxs cfg db b = .ok s) :
    (spentOps b.txs.tail).Nodup := by
  have hp := (commitTxs_ok h).1
  cases ht : b.txs with
  | nil => simp [spentOps]
  | cons cb rest =>
    rw [ht] at hp hids
    obtain ⟨s1, h1, hp⟩ := procTxs_cons_ok hp
    obtain ⟨sa, a, s2, hi, h2, rfl⟩ := procTx_ok h1
    obtain ⟨_, _, _, rfl⟩ := settle_frame h2
    obtain ⟨rfl, -⟩ := txInputs_cb_ok hi
    simp only [List.map_cons, List.nodup_cons] at hids
    have := procTxs_spent (L := []) hp ⟨List.nodup_nil, by simp⟩ hids.2 (fun t ht' => by
      simp only [St.init, aSet, keys, List.map_cons, List.map_nil, List.mem_singleton]
      exact fun e => hids.1 (List.mem_map.mpr ⟨t, ht', e⟩))
    simpa using this

end GocoinV.Proofs.C04
