/-
  Proofs.C18 — every message handler of client/network as modelled in Model/NetParse.lean is total: no panic, no lock
  held at exit, within a stated number of loop steps (`GoodIn`), handler by handler; `parse_total` collects them over
  Run's dispatch. Also here: the header loop of FetchMessage stays within 24 bytes (`hdrReads_le`) and the bound of the
  message-size table (`maxMsgSize_le`). Core tactics only (no Mathlib).
-/
import GocoinV.Model.NetParse
import GocoinV.Gen.NetFacts
import GocoinV.Base.Lemmas
namespace GocoinV.NetParse
open GocoinV GocoinV.CompactSize

/-- a result is acceptable: no panic, no lock held at exit -/
def Good (r : Res) : Prop := r.out.isPanic = false ∧ r.locks = []

/-- acceptable, and reached within `k` steps -/
def GoodIn (k : Nat) (r : Res) : Prop := Good r ∧ r.steps ≤ k

/-! The handlers are nests of `if`s whose leaves are results. A property of the result is proved by walking down
    the nest with `ite_cases` and `guard_of` (`split` on such a goal re-simplifies the whole nest at every level). -/

/-- a bounds check that holds: the panic branch is dead -/
theorem guard_of {α : Type} {P : α → Prop} {c : Bool} {a b : α} (hc : c = true) (hb : P b) :
    P (if (!c) = true then a else b) := by
  rw [hc]; exact hb

theorem sliceOk_of {n a b : Int} (h : 0 ≤ a ∧ a ≤ b ∧ b ≤ n) : sliceOk n a b = true := decide_eq_true h

theorem indexOk_of {n i : Int} (h : 0 ≤ i ∧ i < n) : indexOk n i = true := decide_eq_true h

namespace GoodIn
variable {k st : Nat}
theorem reject (s : String) (h : st ≤ k) : GoodIn k ⟨.reject s, [], st⟩ := ⟨⟨rfl, rfl⟩, h⟩
theorem ok (c : String) (a : List Nat) (b : List Bytes) (h : st ≤ k) : GoodIn k ⟨.ok c a b, [], st⟩ :=
  ⟨⟨rfl, rfl⟩, h⟩
theorem mono {k' : Nat} {r : Res} (h : GoodIn k r) (hk : k ≤ k') : GoodIn k' r := ⟨h.1, Nat.le_trans h.2 hk⟩
end GoodIn

theorem wrap_id {x : Int} (h : 0 ≤ x ∧ x < 9223372036854775808) : wrap x = x := by
  unfold wrap; simp only []; split <;> omega
theorem vlen_size_le (b : Bytes) : (vlen b).2 ≤ b.length ∧ (vlen b).2 ≤ 9 :=
  vule_size_le b

theorem handleVersion_total (pl : Bytes) (hl : pl.length < 2^62) : GoodIn 1 (handleVersion pl) := by
  unfold handleVersion handleVersionG
  extract_lets n ver services ts ip nonce fin
  have le := Nat.le_refl 1
  have hfin : ∀ a h x d, GoodIn 1 (fin a h x d) := by
    intro a h x d
    simp only [fin]
    cases versionChecks ver services nonce
    · exact .ok _ _ _ le
    · exact .reject _ le

  refine ite_cases (fun _ => .reject _ le) fun _ => ite_cases (fun _ => ?_) fun _ => hfin ..
  generalize hv : vlen (List.drop 80 pl) = v
  obtain ⟨alen, ofs⟩ := v
  have hsz := vlen_size_le (List.drop 80 pl)
  rw [hv, List.length_drop] at hsz
  refine ite_cases (fun _ => .reject _ le) fun hbad => ?_
  simp only [↓reduceIte, Bool.or_eq_true, decide_eq_true_eq, not_or] at hbad
  obtain ⟨⟨h1, h2⟩, h3⟩ := hbad
  have e1 : wrap ((ofs : Int) + 80) = ofs + 80 := wrap_id (by omega)
  have e2 : wrap ((ofs : Int) + 80 + alen) = ofs + 80 + alen := wrap_id (by omega)
  have e3 : wrap ((ofs : Int) + 80 + alen + 4) = ofs + 80 + alen + 4 := wrap_id (by omega)
  simp only [e1, e2, e3]
  refine guard_of (sliceOk_of (by omega)) (ite_cases (fun _ => ?_) fun _ => hfin ..)
  refine guard_of (sliceOk_of (by omega)) (ite_cases (fun _ => ?_) fun _ => hfin ..)
  exact guard_of (indexOk_of (by omega)) (hfin ..)

theorem invLoop_good (n : Int) (hb : n < 2^62) : ∀ (k : Nat) (of : Int) (rest : Bytes) (acc : List Bytes) (st : Nat),
    0 ≤ of → of + 36 * (k : Int) = n → GoodIn (st + k) (invLoop n k of rest acc st) := by
  intro k
  induction k with
  | zero => intro of rest acc st _ _; exact .ok _ _ _ (Nat.le_refl _)
  | succ k ih =>
    intro of rest acc st h0 hn
    unfold invLoop
    rw [wrap_id (x := of + 4) (by omega), wrap_id (x := of + 36) (by omega)]
    exact guard_of (sliceOk_of (by omega)) (guard_of (sliceOk_of (by omega))
      ((ih (of + 36) _ _ (st + 1) (by omega) (by omega)).mono (by omega)))

theorem processInv_total (pl : Bytes) (hl : pl.length < 2^62) : GoodIn (pl.length + 1) (processInv pl) := by
  unfold processInv processInvG
  refine ite_cases (fun _ => .reject _ (by omega)) fun _ => ?_
  generalize hv : vlen pl = v
  obtain ⟨cnt, ofs⟩ := v
  have hsz := vlen_size_le pl
  rw [hv] at hsz
  refine ite_cases (fun _ => .reject _ (by omega)) fun hbad => ?_
  simp only [↓reduceIte, Bool.or_eq_true, decide_eq_true_eq, not_or] at hbad
  obtain ⟨⟨⟨h1, h2⟩, h3⟩, h4⟩ := hbad
  rw [wrap_id (x := 36 * cnt) (by omega), wrap_id (x := ofs + 36 * cnt) (by omega)] at h4
  exact (invLoop_good (pl.length : Int) (by omega) cnt.toNat ofs _ [] 1 (by omega) (by omega)).mono (by omega)

theorem readVLen_shrinks {b r : Bytes} {v : Nat} (h : readVLen b = some (v, r)) : r.length < b.length := by
  unfold readVLen at h
  split at h
  · simp at h
  · rename_i hd t
    by_cases h1 : hd.toNat < 0xfd
    · rw [if_pos h1] at h; cases h; exact Nat.lt_succ_self _
    · simp only [h1, ↓reduceIte] at h
      generalize (if hd = 0xfd then 2 else if hd = 0xfe then 4 else 8) = c at h
      split at h
      · simp at h
      · cases h
        simp only [List.length_drop, List.length_cons]; omega

theorem gbtLoop_good (ntx : Nat) : ∀ (f : Nat) (req : Bytes) (il exp : Nat) (acc : List Nat) (st : Nat),
    req.length < f → GoodIn (st + f) (gbtLoop true ntx f req il exp acc st) := by
  intro f
  induction f with
  | zero => intro req il exp acc st h; omega
  | succ f ih =>
    intro req il exp acc st hf
    have hst : st ≤ st + (f + 1) := Nat.le_add_right ..
    unfold gbtLoop
    cases hr : readVLen req with
    | none => exact .reject _ hst
    | some x =>
      obtain ⟨d, req'⟩ := x
      have hs := readVLen_shrinks hr
      refine ite_cases (fun _ => .reject _ hst) fun hidx => ?_
      simp only [↓reduceIte, decide_eq_true_eq] at hidx
      refine guard_of (indexOk_of (by omega)) (ite_cases (fun _ => .ok _ _ _ hst) fun _ => ?_)
      exact (ih req' _ _ _ (st + 1) (by omega)).mono (by omega)

theorem processGetBlockTxn_total (ntx : Option Nat) (pl : Bytes) :
    GoodIn (pl.length + 2) (processGetBlockTxn ntx pl) := by
  unfold processGetBlockTxn processGetBlockTxnG
  refine ite_cases (fun _ => .reject _ (by omega)) fun _ => ?_
  cases ntx with
  | none => exact .ok _ _ _ (by omega)
  | some ntx =>
    simp only []
    cases hr : readVLen (List.drop 32 pl) with
    | none => exact ite_cases (fun _ => .reject _ (by omega)) fun h => absurd rfl h
    | some x =>
      obtain ⟨il, req'⟩ := x
      have hs := readVLen_shrinks hr
      rw [List.length_drop] at hs
      exact ite_cases (fun _ => .reject _ (by omega)) fun _ =>
        (gbtLoop_good ntx (req'.length + 1) req' il 0 [] 1 (by omega)).mono (by omega)

theorem vule_small (b : Bytes) (hm : (vule b).2 ≤ 3) : (vule b).1 < 65536 := by
  unfold vule at *
  split
  · simp
  · rename_i h t
    repeat' split
    all_goals simp_all
    · exact leVal_take_lt t 2
    · have := h.toNat_lt; omega

theorem vlen_small (b : Bytes) (hm : (vlen b).2 ≤ 3) : 0 ≤ (vlen b).1 ∧ (vlen b).1 < 65536 := by
  have h := vule_small b hm
  unfold vlen
  simp only []
  unfold toInt64
  split <;> omega

/-- a CompactSize that passed the handlers' test `m == 0 || v < 0 || m > 3`: a count below 2^16, read from one to three
    bytes inside the buffer -/
theorem vlen_ok {b : Bytes} {v : Int} {m : Nat} (hv : vlen b = (v, m))
    (h : ¬(m == 0 || decide (v < 0) || decide (m > 3)) = true) :
    0 ≤ v ∧ v < 65536 ∧ 1 ≤ m ∧ m ≤ 3 ∧ m ≤ b.length := by
  have hsz := vlen_size_le b
  have hsm := vlen_small b
  rw [hv] at hsz hsm
  simp only [Bool.or_eq_true, beq_iff_eq, decide_eq_true_eq, not_or, Int.not_lt, Nat.not_lt] at h
  exact ⟨h.1.2, (hsm h.2).2, by omega, h.2, hsz.1⟩

/-- what the short-id loop guarantees: an early exit is acceptable; a normal exit after `k` iterations
    from `offs` leaves the offset at offs + 6k inside the payload, keeps what was in the map and has
    put every short id it read (`pl[offs+6j : offs+6j+6]`, j < k) into the map -/
def ShortIdPost (pl : Bytes) (n : Int) (bound : Nat) (offs : Int) (k : Nat) (seen : List Bytes) :
    Except Res (Int × List Bytes × Nat) → Prop
  | .error r => Good r ∧ r.steps ≤ bound
  | .ok (offs', seen', st') => offs' = offs + 6 * (k : Int) ∧ offs' ≤ n ∧ st' ≤ bound ∧ (∀ x, x ∈ seen → x ∈ seen') ∧
      ∀ j : Nat, j < k → ∀ a : Int, a = offs + 6 * (j : Int) → sub pl a (a + 6) ∈ seen'

theorem shortIdLoop_spec (pl : Bytes) (n : Int) (hb : n < 2^62) : ∀ (k : Nat) (offs : Int) (seen : List Bytes) (st : Nat),
    0 ≤ offs → offs ≤ n → ShortIdPost pl n (st + k) offs k seen (shortIdLoop pl n k offs seen st) := by
  intro k
  induction k with
  | zero =>
    intro offs seen st h0 h1
    exact ⟨by omega, h1, by omega, fun x hx => hx, fun j hj => by omega⟩
  | succ k ih =>
    intro offs seen st h0 h1
    unfold shortIdLoop
    rw [wrap_id (x := offs + 6) (by omega)]
    refine ite_cases (fun _ => GoodIn.reject _ (by omega)) fun h6 => ?_
    refine guard_of (sliceOk_of (by omega)) (ite_cases (fun _ => GoodIn.reject _ (by omega)) fun _ => ?_)
    have := ih (offs + 6) (sub pl offs (offs + 6) :: seen) (st + 1) (by omega) (by omega)
    revert this
    cases shortIdLoop pl n k (offs + 6) (sub pl offs (offs + 6) :: seen) (st + 1) with
    | error r => exact fun h => GoodIn.mono h (by omega)
    | ok v =>
      obtain ⟨a, b, c⟩ := v
      intro ⟨h1', h2', h3', h4', h5'⟩
      refine ⟨by omega, h2', by omega, fun x hx => h4' x (List.mem_cons_of_mem _ hx), ?_⟩
      intro j hj a' ha'
      cases j with
      | zero =>
        obtain rfl : a' = offs := by omega
        exact h4' _ (List.mem_cons_self ..)
      | succ j => exact h5' j (by omega) a' (by omega)

/-- the accumulator of the prefilled loop, [szₖ, idxₖ, …, sz₁, idx₁]: pairs, indices strictly
    decreasing from the head, all below `e` -/
def AccInv : Nat → List Nat → Prop
  | _, [] => True
  | _, [_] => False
  | e, _ :: idx :: t => idx < e ∧ AccInv idx t

theorem AccInv_mono {e e' : Nat} (h : e ≤ e') : ∀ {acc : List Nat}, AccInv e acc → AccInv e' acc
  | [], _ => trivial
  | [_], h' => h'.elim
  | _ :: _ :: _, h' => ⟨Nat.lt_of_lt_of_le h'.1 h, h'.2⟩

/-- what the prefilled loop guarantees about a normal exit: its result list is an accumulator of
    `len` numbers whose indices are strictly increasing and below `total` -/
def PrefGood (total : Int) (len k : Nat) (r : Res) : Prop :=
  GoodIn k r ∧ match r.out with
    | .ok _ nums _ => ∃ e : Nat, (e : Int) ≤ total ∧ AccInv e nums.reverse ∧ nums.length = len
    | _ => True

theorem PrefGood.reject {total : Int} {len k st : Nat} (s : String) (h : st ≤ k) :
    PrefGood total len k ⟨.reject s, [], st⟩ := ⟨.reject s h, trivial⟩

theorem prefilledLoop_good (txSize : Bytes → Nat) (hts : ∀ b, txSize b ≤ b.length) (pl : Bytes) (n : Int)
    (hn : n = pl.length) (hb : n < 2^62) (total : Int) (ht : total < 2^20) :
    ∀ (k : Nat) (offs exp : Int) (acc : List Nat) (st : Nat), 0 ≤ offs → offs ≤ n → 0 ≤ exp → exp ≤ total →
    AccInv exp.toNat acc →
    PrefGood total (acc.length + 2 * k) (st + k) (prefilledLoop true txSize pl n total k offs exp acc st) := by
  intro k
  induction k with
  | zero =>
    intro offs exp acc st _ _ he0 he1 hacc
    refine ⟨.ok _ _ _ (Nat.le_refl _), exp.toNat, by omega, ?_, ?_⟩
    · rw [List.reverse_reverse]; exact hacc
    · exact List.length_reverse
  | succ k ih =>
    intro offs exp acc st h0 h1 he0 he1 hacc
    have hst : st ≤ st + (k + 1) := Nat.le_add_right ..
    unfold prefilledLoop
    refine guard_of (sliceOk_of ⟨h0, h1, Int.le_refl n⟩) ?_
    generalize hv : vlen (List.drop offs.toNat pl) = v
    obtain ⟨idx0, m⟩ := v
    refine ite_cases (fun _ => .reject _ hst) fun hbad => ?_
    obtain ⟨hi0, hi1, hm0, hm3, hsz⟩ := vlen_ok hv hbad
    rw [List.length_drop] at hsz
    rw [wrap_id (x := idx0 + exp) (by omega), wrap_id (x := offs + m) (by omega)]
    simp only [↓reduceIte]
    refine ite_cases (fun _ => .reject _ hst) fun hidx => ?_
    simp only [decide_eq_true_eq] at hidx
    refine guard_of (sliceOk_of (by omega)) ?_
    have hsz2 := hts (List.drop (offs + ↑m).toNat pl)
    rw [List.length_drop] at hsz2
    refine ite_cases (fun _ => .reject _ hst) fun _ => ?_
    refine guard_of (indexOk_of (by omega)) ?_
    generalize txSize (List.drop (offs + ↑m).toNat pl) = sz at *
    rw [wrap_id (x := offs + ↑m + ↑sz) (by omega), wrap_id (x := idx0 + exp + 1) (by omega)]
    refine guard_of (sliceOk_of (by omega)) ?_
    have := ih (offs + ↑m + ↑sz) (idx0 + exp + 1) ((sz : Int).toNat :: (idx0 + exp).toNat :: acc) (st + 1)
      (by omega) (by omega) (by omega) (by omega) ⟨by omega, AccInv_mono (by omega) hacc⟩
    rwa [List.length_cons, List.length_cons, show acc.length + 1 + 1 + 2 * k = acc.length + 2 * (k + 1) by omega,
      show st + 1 + k = st + (k + 1) by omega] at this

theorem slotsOf_toList (total : Nat) (w : List Nat) :
    (slotsOf total w).toList = w.foldl (fun l i => l.set i true) (List.replicate total false) := by
  rw [← Array.toList_replicate]
  exact (List.foldl_hom Array.toList (fun a i => (Array.toList_setIfInBounds ..).symm)).symm

/-- marking the (strictly decreasing, in range) indices of an accumulator on a slot list whose slots
    below `e` are all empty fills exactly one empty slot per index -/
theorem mark_count : ∀ (acc : List Nat) (e : Nat) (l : List Bool), AccInv e acc → e ≤ l.length →
    (∀ i, i < e → l[i]? = some false) →
    ((pairIdx acc).foldl (fun l i => l.set i true) l).count false + (pairIdx acc).length = l.count false ∧
    ((pairIdx acc).foldl (fun l i => l.set i true) l).length = l.length ∧ 2 * (pairIdx acc).length = acc.length
  | [], _, _, _, _, _ => by simp [pairIdx]
  | [_], _, _, h, _, _ => h.elim
  | _ :: idx :: t, e, l, h, hl, hf => by
    obtain ⟨h1, h2⟩ := h
    have ih := mark_count t idx (l.set idx true) h2 (by simp only [List.length_set]; omega)
      (by intro i hi; rw [List.getElem?_set_ne (by omega)]; exact hf i (by omega))
    simp only [pairIdx, List.foldl_cons, List.length_cons, List.length_set] at ih ⊢
    have hc : (l.set idx true).count false + 1 = l.count false := by
      obtain ⟨hlt, hi⟩ := List.getElem?_eq_some_iff.mp (hf idx h1)
      have hpos : 0 < l.count false := List.count_pos_iff.2 (hi ▸ List.getElem_mem hlt)
      rw [List.count_set hlt]
      simp only [hi, beq_self_eq_true, ↓reduceIte, Bool.true_beq, Bool.false_eq_true]
      omega
    omega

/-- the slot list of an accumulator of `2·p` numbers with indices below `total`: `total` slots of which
    exactly `total - p` are not prefilled -/
theorem slots_count (total e : Nat) (acc : List Nat) (h : AccInv e acc) (he : e ≤ total) :
    ((slotsOf total (pairIdx acc)).toList).count false + acc.length / 2 = total ∧
    ((slotsOf total (pairIdx acc)).toList).length = total := by
  rw [slotsOf_toList]
  have := mark_count acc e (List.replicate total false) h (by simp only [List.length_replicate]; omega)
    (by intro i hi; rw [List.getElem?_replicate]; simp; omega)
  simp only [List.count_replicate_self, List.length_replicate] at this
  omega

/-- totality of the second pass: when the map `seen` holds every short id of the region
    pl[base : base + 6·scnt] (which lies inside the payload) and at most `scnt` slots are not
    prefilled, every read-back slice is legal and every lookup succeeds: neither panic is reachable. -/
theorem secondPass_good (pl : Bytes) (n : Int) (hb : n < 2^62) (seen : List Bytes) (base : Int) (scnt : Nat)
    (h0 : 0 ≤ base) (hin : base + 6 * (scnt : Int) ≤ n)
    (hseen : ∀ j : Nat, j < scnt → ∀ a : Int, a = base + 6 * (j : Int) → sub pl a (a + 6) ∈ seen) :
    ∀ (sl : List Bool) (j : Nat) (sidx : Int) (st : Nat), sidx = base + 6 * (j : Int) → j + sl.count false ≤ scnt →
      GoodIn (st + sl.length) (secondPass pl n seen sl sidx st) := by
  intro sl
  induction sl with
  | nil => intro j sidx st _ _; exact .ok _ _ _ (Nat.le_refl _)
  | cons b sl ih =>
    intro j sidx st hs hc
    have hlen : st + 1 + sl.length ≤ st + (b :: sl).length := by rw [List.length_cons]; omega
    cases b with
    | true =>
      exact (ih j sidx (st + 1) hs (by simpa using hc)).mono hlen
    | false =>
      unfold secondPass
      simp only [List.count_cons, beq_self_eq_true, ↓reduceIte] at hc
      rw [wrap_id (x := sidx + 6) (by omega)]
      exact guard_of (sliceOk_of (by omega))
        (guard_of (List.contains_iff_mem.2 (hseen j (by omega) sidx hs))
          ((ih (j + 1) (sidx + 6) (st + 1) (by omega) (by omega)).mono hlen))

/-- ProcessCmpctBlock, all three loops. Steps: 1 + scnt (short ids) + pcnt (prefilled) + (pcnt + scnt)
    (second pass over col.Txs) with both counts below 2^16 (at most 3 CompactSize bytes):
    ≤ 1 + 2·(65535 + 65535) = 262141. -/
theorem processCmpctBlock_total (txSize : Bytes → Nat) (hts : ∀ b, txSize b ≤ b.length) (pl : Bytes)
    (hl : pl.length < 2^62) : GoodIn 262141 (processCmpctBlock txSize pl) := by
  unfold processCmpctBlock processCmpctBlockG
  refine ite_cases (fun _ => .reject _ (by omega)) fun h90 => ?_
  generalize hv : vlen (List.drop 88 pl) = v
  obtain ⟨scnt, m⟩ := v
  refine ite_cases (fun _ => .reject _ (by omega)) fun hbad => ?_
  obtain ⟨hs0, hs1, hm0, hm3, hsz⟩ := vlen_ok hv hbad
  rw [List.length_drop] at hsz
  have hsn : ((scnt.toNat : Nat) : Int) = scnt := Int.toNat_of_nonneg hs0
  have hsp := shortIdLoop_spec pl (pl.length : Int) (by omega) scnt.toNat (88 + (m : Int)) [] 1 (by omega) (by omega)
  generalize shortIdLoop pl (pl.length : Int) scnt.toNat (88 + (m : Int)) [] 1 = sr at hsp ⊢
  cases sr with
  | error r => exact GoodIn.mono hsp (by omega)
  | ok v =>
    obtain ⟨offs, seen, st⟩ := v
    obtain ⟨hoe, ho1, hst, -, hseen⟩ := hsp
    have ho0 : 0 ≤ offs := by omega
    refine guard_of (sliceOk_of ⟨ho0, ho1, Int.le_refl _⟩) ?_
    generalize hv2 : vlen (List.drop offs.toNat pl) = v2
    obtain ⟨pcnt, m2⟩ := v2
    refine ite_cases (fun _ => .reject _ (by omega)) fun hbad2 => ?_
    obtain ⟨hp0, hp1, hm20, hm23, hsz2⟩ := vlen_ok hv2 hbad2
    rw [List.length_drop] at hsz2
    have hpn : ((pcnt.toNat : Nat) : Int) = pcnt := Int.toNat_of_nonneg hp0
    have hpl := prefilledLoop_good txSize hts pl (pl.length : Int) rfl (by omega) (pcnt + scnt) (by omega)
      pcnt.toNat (offs + m2) 0 [] st (by omega) (by omega) (by omega) (by omega) trivial
    rw [wrap_id (x := offs + m2) (by omega)]
    generalize prefilledLoop true txSize pl (pl.length : Int) (pcnt + scnt) pcnt.toNat (offs + m2) 0 [] st = r
      at hpl ⊢
    obtain ⟨out, locks, steps⟩ := r
    obtain ⟨⟨hg, hg3⟩, hg4⟩ := hpl
    replace hg3 : steps ≤ st + pcnt.toNat := hg3
    cases out with
    | reject r => exact ⟨hg, show steps ≤ _ by omega⟩
    | panic s => cases hg.1
    | ok t nums bl =>
      dsimp only
      obtain ⟨e, he, hacc, hlen⟩ := hg4
      have hcnt := slots_count (pcnt + scnt).toNat e nums.reverse hacc (by omega)
      rw [List.length_reverse, hlen] at hcnt
      have hsec := secondPass_good pl (pl.length : Int) (by omega) seen (88 + (m : Int)) scnt.toNat
        (by omega) (by omega) hseen
        (slotsOf (pcnt + scnt).toNat (pairIdx nums.reverse)).toList 0 (88 + (m : Int)) steps
        (by omega) (by simp only [List.length_nil] at hcnt; omega)
      generalize secondPass pl (pl.length : Int) seen (slotsOf (pcnt + scnt).toNat (pairIdx nums.reverse)).toList
        (88 + (m : Int)) steps = r2 at hsec ⊢
      obtain ⟨out2, locks2, steps2⟩ := r2
      obtain ⟨hh, hh3⟩ := hsec
      replace hh3 : steps2 ≤ steps + _ := hh3
      rw [hcnt.2] at hh3
      cases out2 with
      | panic s => cases hh.1
      | _ => exact ⟨hh, show steps2 ≤ _ by omega⟩

theorem blockTxnLoop_good (txSize : Bytes → Nat) (hts : ∀ b, txSize b ≤ b.length) (pl : Bytes) (n : Int)
    (hn : n = pl.length) (hb : n < 2^62) : ∀ (f : Nat) (offs : Int) (acc : List Nat) (st : Nat),
    0 ≤ offs → offs ≤ n → n - offs < f → GoodIn (st + f) (blockTxnLoop txSize pl n f offs acc st) := by
  intro f
  induction f with
  | zero => intro offs acc st h0 h1 h2; omega
  | succ f ih =>
    intro offs acc st h0 h1 h2
    have hst : st ≤ st + (f + 1) := Nat.le_add_right ..
    unfold blockTxnLoop
    refine ite_cases (fun _ => .ok _ _ _ hst) fun hlt => ?_
    simp only [decide_eq_false_iff_not, Bool.not_eq_eq_eq_not, Bool.not_true] at hlt
    refine guard_of (sliceOk_of ⟨h0, h1, Int.le_refl n⟩) ?_
    have hsz := hts (List.drop offs.toNat pl)
    rw [List.length_drop] at hsz
    generalize txSize (List.drop offs.toNat pl) = sz at *
    refine ite_cases (fun _ => .reject _ hst) fun hz => ?_
    rw [wrap_id (x := offs + ↑sz) (by omega)]
    refine guard_of (sliceOk_of (by omega)) ?_
    exact (ih (offs + ↑sz) ((sz : Int).toNat :: acc) (st + 1) (by omega) (by omega) (by omega)).mono (by omega)

theorem processBlockTxn_total (txSize : Bytes → Nat) (hts : ∀ b, txSize b ≤ b.length) (pl : Bytes)
    (hl : pl.length < 2^62) : GoodIn (pl.length + 2) (processBlockTxn txSize pl) := by
  unfold processBlockTxn
  refine ite_cases (fun _ => .reject _ (by omega)) fun _ => ?_
  generalize hv : vlen (List.drop 32 pl) = v
  obtain ⟨le, m⟩ := v
  have hsz := vlen_size_le (List.drop 32 pl)
  rw [hv, List.length_drop] at hsz
  exact ite_cases (fun _ => .reject _ (by omega)) fun _ =>
    (blockTxnLoop_good txSize hts pl (pl.length : Int) rfl (by omega) (pl.length + 1) (32 + (m : Int)) [] 1
      (by omega) (by omega) (by omega)).mono (by omega)

/-- the addr loop leaves at the first short read: whatever the announced count `k`, it makes at most
    |b|/30 iterations (every iteration that continues has consumed 30 bytes) -/
theorem addrLoop_good : ∀ (k : Nat) (b : Bytes) (acc : List Bytes) (st : Nat),
    GoodIn (st + b.length / 30) (addrLoop k b acc st) := by
  intro k
  induction k with
  | zero => intros; exact .ok _ _ _ (Nat.le_add_right ..)
  | succ k ih =>
    intro b acc st
    unfold addrLoop
    refine ite_cases (fun _ => .reject _ (Nat.le_add_right ..)) fun hc => (ih (b.drop 30) _ (st + 1)).mono ?_
    simp only [List.length_take, List.length_drop] at hc ⊢
    omega

theorem parseAddr_total (pl : Bytes) : GoodIn (pl.length / 30 + 2) (parseAddr pl) := by
  unfold parseAddr
  cases hr : readVLen pl with
  | none => exact (addrLoop_good _ [] [] 1).mono (by simp only [List.length_nil]; omega)
  | some x =>
    have hs := readVLen_shrinks (v := x.1) (r := x.2) hr
    exact (addrLoop_good _ x.2 [] 1).mono (by omega)

theorem getDataLoop_good : ∀ (f : Nat) (b : Bytes) (acc : List Bytes) (st : Nat), b.length < f →
    GoodIn (st + f) (getDataLoop f b acc st) := by
  intro f
  induction f with
  | zero => intro b acc st h; omega
  | succ f ih =>
    intro b acc st hf
    unfold getDataLoop
    exact ite_cases (fun _ => .ok _ _ _ (Nat.le_add_right ..)) fun hne =>
      (ih (b.drop 36) _ (st + 1) (by rw [List.length_drop]; omega)).mono (by omega)

theorem processGetData_total (pending : Option Nat) (pl : Bytes) :
    GoodIn (pl.length + 2) (processGetData pending pl) := by
  unfold processGetData
  cases hr : readVLen pl with
  | none => exact .ok _ _ _ (by omega)
  | some x =>
    have hs := readVLen_shrinks (v := x.1) (r := x.2) hr
    refine ite_cases (fun _ => .reject _ (by omega)) fun _ => ?_
    cases pending with
    | some p => exact ite_cases (fun _ => .reject _ (by omega)) fun _ => .ok _ _ _ (by omega)
    | none => exact (getDataLoop_good (x.2.length + 1) x.2 [] 1 (by omega)).mono (by omega)

theorem parseLocators_steps (pl : Bytes) : (parseLocators pl).2 ≤ 102 := by
  unfold parseLocators
  refine ite_cases (P := fun r : Option (List Bytes × Bytes) × Nat => r.2 ≤ 102) (fun _ => by decide) fun _ => ?_
  cases readVLen (pl.drop 4) with
  | none => decide
  | some x =>
    have hc : (if x.1 > MAX_LOCATOR_SZ then MAX_LOCATOR_SZ else x.1) + 1 ≤ 102 := by
      unfold MAX_LOCATOR_SZ; split <;> omega
    simp only []
    split <;> exact hc

theorem getBlocks_total (pl : Bytes) : GoodIn 102 (getBlocks pl) := by
  have h := parseLocators_steps pl
  unfold getBlocks
  generalize parseLocators pl = r at h ⊢
  match r with
  | (none, st) => exact .reject _ h
  | (some (hs, stop), st) => exact ite_cases (fun _ => .reject _ h) fun _ => .ok _ _ _ h

theorem getHeaders_total (pl : Bytes) : GoodIn 102 (getHeaders pl) := by
  have h := parseLocators_steps pl
  unfold getHeaders
  generalize parseLocators pl = r at h ⊢
  match r with
  | (none, st) => exact .reject _ h
  | (some (hs, stop), st) => exact ite_cases (fun _ => .reject _ h) fun _ => .ok _ _ _ h

theorem hdrLoop_good : ∀ (k : Nat) (b : Bytes) (acc : List Bytes) (st : Nat),
    GoodIn (st + k) (hdrLoop k b acc st) := by
  intro k
  induction k with
  | zero => intros; exact .ok _ _ _ (Nat.le_refl _)
  | succ k ih =>
    intro b acc st
    have hst : st ≤ st + (k + 1) := Nat.le_add_right ..
    unfold hdrLoop
    refine ite_cases (fun _ => .reject _ hst) fun _ => ?_
    cases readVLen (List.drop 80 b) with
    | none => exact .reject _ hst
    | some x => exact (ih x.2 _ (st + 1)).mono (by omega)

theorem handleHeaders_total (pl : Bytes) : GoodIn 2001 (handleHeaders pl) := by
  unfold handleHeaders
  cases readVLen pl with
  | none => exact .ok _ _ _ (by omega)
  | some x =>
    exact ite_cases (fun _ => .reject _ (by omega)) fun _ => (hdrLoop_good x.1 x.2 [] 1).mono (by omega)

/-- the getmp loop leaves at the first short read: at most |b|/8 iterations whatever the count says -/
theorem getMPLoop_good : ∀ (k : Nat) (b : Bytes) (got : Nat) (st : Nat),
    GoodIn (st + b.length / 8) (getMPLoop k b got st) := by
  intro k
  induction k with
  | zero => intros; exact .ok _ _ _ (Nat.le_add_right ..)
  | succ k ih =>
    intro b got st
    unfold getMPLoop
    refine ite_cases (fun _ => .reject _ (Nat.le_add_right ..)) fun hc => (ih (b.drop 8) _ (st + 1)).mono ?_
    simp only [List.length_take, List.length_drop] at hc ⊢
    omega

theorem processGetMP_total (pl : Bytes) : GoodIn (pl.length / 8 + 2) (processGetMP pl) := by
  unfold processGetMP
  cases hr : readVLen pl with
  | none => exact .reject _ (by omega)
  | some x =>
    have hs := readVLen_shrinks (v := x.1) (r := x.2) hr
    exact (getMPLoop_good _ x.2 0 1).mono (by omega)

theorem parseTxNet_total (newTx : Bytes → Option (Nat × Nat)) (pl : Bytes) : GoodIn 1 (parseTxNet newTx pl) := by
  unfold parseTxNet
  have le := Nat.le_refl 1
  cases newTx pl with
  | none => exact .reject _ le
  | some x => exact ite_cases (fun _ => .reject _ le) fun _ => ite_cases (fun _ => .reject _ le) fun _ => .ok _ _ _ le

theorem netBlockReceived_total (pl : Bytes) : GoodIn 1 (netBlockReceived pl) :=
  ite_cases (fun _ => .reject _ (Nat.le_refl 1)) fun _ => .ok _ _ _ (Nat.le_refl 1)

theorem feeFilter_total (pl : Bytes) : GoodIn 1 (feeFilter pl) :=
  have le := Nat.le_refl 1
  ite_cases (fun _ => guard_of (sliceOk_of (by omega)) (.ok _ _ _ le)) fun _ => .ok _ _ _ le

theorem sendCmpct_total (pl : Bytes) : GoodIn 1 (sendCmpct pl) :=
  have le := Nat.le_refl 1
  ite_cases (fun _ => guard_of (sliceOk_of (by omega)) (.ok _ _ _ le)) fun _ => .ok _ _ _ le

theorem authRcvd_total (already : Bool) (pl : Bytes) : GoodIn 1 (authRcvd already pl) :=
  have le := Nat.le_refl 1
  ite_cases (fun _ => .reject _ le) fun _ => ite_cases (fun _ => .reject _ le) fun _ =>
    guard_of (sliceOk_of (by omega)) (guard_of (sliceOk_of (by omega)) (.ok _ _ _ le))

theorem authAck_total (trusted : Bool) (pl : Bytes) : GoodIn 1 (authAck trusted pl) :=
  have le := Nat.le_refl 1
  ite_cases (fun _ => .ok _ _ _ le) fun _ =>
    ite_cases (fun _ => guard_of (indexOk_of (by omega)) (.ok _ _ _ le)) fun _ => .ok _ _ _ le

theorem getMPDone_total (ours : Bool) (pl : Bytes) : GoodIn 1 (getMPDone ours pl) :=
  have le := Nat.le_refl 1
  ite_cases (fun _ => .ok _ _ _ le) fun _ => ite_cases (fun _ => .ok _ _ _ le) fun _ =>
    guard_of (indexOk_of (by omega)) (.ok _ _ _ le)

theorem fetchMessage_total (E : FetchEnv) (w : Bytes) : GoodIn 1 (fetchMessage E w) := by
  unfold fetchMessage fetchMessageG
  have le := Nat.le_refl 1
  refine ite_cases (fun _ => ite_cases (fun _ => .reject _ le) fun _ => .ok _ _ _ le) fun _ => ?_
  refine ite_cases (fun _ => .reject _ le) fun _ => ?_
  refine ite_cases (fun _ => ite_cases (fun _ => .reject _ le) fun h => absurd rfl h) fun _ => ?_
  refine ite_cases (fun _ => .reject _ le) fun _ => ite_cases (fun _ => .ok _ _ _ le) fun _ => ?_
  refine ite_cases (fun _ => ite_cases (fun _ => .reject _ le) fun _ => .ok _ _ _ le) fun _ => ?_
  exact ite_cases (fun _ => .reject _ le) fun _ => .ok _ _ _ le


/-- under the net.Conn.Read contract the header loop never passes 24 bytes -/
theorem hdrReads_le (reads : List Nat) (hdrLen : Nat) (h : hdrLen ≤ 24) (hc : readsWithin reads hdrLen = true) :
    ∃ hl, hdrReads reads hdrLen = some hl ∧ hl ≤ 24 := by
  induction reads generalizing hdrLen with
  | nil => exact ⟨hdrLen, rfl, h⟩
  | cons n rs ih =>
    unfold hdrReads
    unfold readsWithin at hc
    by_cases h24 : hdrLen ≥ 24
    · rw [if_pos h24]; exact ⟨hdrLen, rfl, h⟩
    · simp only [h24, decide_false, Bool.false_or, Bool.and_eq_true, decide_eq_true_eq, ↓reduceIte] at hc ⊢
      rw [if_neg (by omega)]
      exact ih (hdrLen + n) (by omega) hc.2

/-- `if x = c then A else B`: close the `then` goal with `t`, continue with `B` (avoids `split`,
    which normalises the string comparison at great cost) -/
macro "case_cmd " x:term:max c:str " => " t:tactic : tactic =>
  `(tactic| (by_cases hcmd : $x = $c; (· (rw [if_pos hcmd] <;> $t)); rw [if_neg hcmd]; clear hcmd))

theorem maxMsgSize_le (cmd : String) : Gen.NetFacts.maxMsgSize cmd ≤ 8000009 := by
  unfold Gen.NetFacts.maxMsgSize
  case_cmd cmd "inv" => omega
  case_cmd cmd "tx" => omega
  case_cmd cmd "addr" => omega
  case_cmd cmd "block" => omega
  case_cmd cmd "getblocks" => omega
  case_cmd cmd "getdata" => omega
  case_cmd cmd "headers" => omega
  case_cmd cmd "getheaders" => omega
  case_cmd cmd "cmpctblock" => omega
  case_cmd cmd "getblocktxn" => omega
  case_cmd cmd "blocktxn" => omega
  case_cmd cmd "notfound" => omega
  case_cmd cmd "getmp" => omega
  omega

theorem lift {r : Res} {b B : Nat} (h : Good r ∧ r.steps ≤ b) (hb : b ≤ B) :
    r.out.isPanic = false ∧ r.locks = [] ∧ r.steps ≤ B :=
  ⟨h.1.1, h.1.2, by omega⟩

theorem parse_total (E : Env) (hts : ∀ b, E.txSize b ≤ b.length) (cmd : String) (pl : Bytes)
    (hl : pl.length < 2^62) :
    (parse E cmd pl).out.isPanic = false ∧ (parse E cmd pl).locks = [] ∧ (parse E cmd pl).steps ≤ pl.length + 262141 := by
  unfold parse
  case_cmd cmd "version" => exact lift (handleVersion_total pl hl) (by omega)
  case_cmd cmd "inv" => exact lift (processInv_total pl hl) (by omega)
  case_cmd cmd "tx" => exact lift (parseTxNet_total E.newTx pl) (by omega)
  case_cmd cmd "addr" => exact lift (parseAddr_total pl) (by omega)
  case_cmd cmd "block" => exact lift (netBlockReceived_total pl) (by omega)
  case_cmd cmd "getblocks" => exact lift (getBlocks_total pl) (by omega)
  case_cmd cmd "getdata" => exact lift (processGetData_total E.pendingGetData pl) (by omega)
  case_cmd cmd "pong" => simp [handlePong, Out.isPanic]
  case_cmd cmd "getheaders" => exact lift (getHeaders_total pl) (by omega)
  case_cmd cmd "headers" => exact lift (handleHeaders_total pl) (by omega)
  case_cmd cmd "feefilter" => exact lift (feeFilter_total pl) (by omega)
  case_cmd cmd "sendcmpct" => exact lift (sendCmpct_total pl) (by omega)
  case_cmd cmd "cmpctblock" => exact lift (processCmpctBlock_total E.txSize hts pl hl) (by omega)
  case_cmd cmd "getblocktxn" => exact lift (processGetBlockTxn_total E.ntx pl) (by omega)
  case_cmd cmd "blocktxn" => exact lift (processBlockTxn_total E.txSize hts pl hl) (by omega)
  case_cmd cmd "getmp" => (cases E.authorized <;> first | exact lift (processGetMP_total pl) (by omega) | simp [Out.isPanic])
  case_cmd cmd "xauth" => exact lift (authRcvd_total E.authGot pl) (by omega)
  case_cmd cmd "authack" => exact lift (authAck_total E.trusted pl) (by omega)
  case_cmd cmd "getmpdone" => exact lift (getMPDone_total E.getmpOurs pl) (by omega)
  simp [Out.isPanic]

end GocoinV.NetParse
