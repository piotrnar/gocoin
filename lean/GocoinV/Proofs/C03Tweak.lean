/-
  Proofs.C03Tweak — BIP341's "fail if Q is the point at infinity" on the model of
  `btc.CheckPayToContract`: an internal key d·G offered with the tweak n − d is refused whatever output
  key and parity bit are claimed (the sum is the point at infinity: d·G + (n−d)·G = n·G = ∞ by the group
  law of the reference curve).
-/
import GocoinV.Proofs.C03Group
import GocoinV.Proofs.C03Curve
import GocoinV.Spec.TapTweak
namespace GocoinV.Proofs.C03
open GocoinV GocoinV.Secp GocoinV.Model GocoinV.Model.Sig

theorem cancel_G (d : Nat) (hd : d ≤ n) : add (mul d G) (mul (n - d) G) = none := by
  rw [mul_G d, mul_G (n - d), ← val_add, ← add_nsmul, Nat.add_sub_cancel' hd, order_G]; rfl

/-- when lift_x(base) + t·G is the point at infinity the BIP341 check fails for every claim -/
theorem tapCheck_infinity (qx base hash : Bytes) (parity : Bool) (P : Nat × Nat)
    (hP : liftX (beVal base) = some P) (hinf : add (some P) (mul (beVal hash) G) = none) :
    Spec.TapTweak.check qx base hash parity = false := by
  unfold Spec.TapTweak.check
  split
  · rfl
  · simp only [hP]
    split
    · rfl
    · simp only [hinf]

end GocoinV.Proofs.C03
