/-
  Proofs.C15Addr — address level (lib/btc/addr.go: NewAddrFromString, String, OutScript, NewAddrFromPkScript;
  Model/Addr.lean): string ↔ address ↔ script round trips and the Base58Check acceptance condition. Hash functions are
  parameters.
-/
import GocoinV.Model.Addr
import GocoinV.Proofs.C15SegwitInv
import GocoinV.Proofs.C15Base58
namespace GocoinV.Addr
open GocoinV Bech32

theorem bc1 : strBytes "bc1" = [98, 99, 49] := by decide +kernel
theorem tb1 : strBytes "tb1" = [116, 98, 49] := by decide +kernel
theorem bc : strBytes "bc" = [98, 99] := by decide +kernel
theorem tb : strBytes "tb" = [116, 98] := by decide +kernel

/-- "the string looks like a segwit address": the test at the top of NewAddrFromString -/
def segwitPrefix (hs : Bytes) : Prop :=
  (hs.take 3).map asciiLower = strBytes "bc1" ∨ (hs.take 3).map asciiLower = strBytes "tb1"

theorem b58check_accept_iff (H : Hashes) (hs : Bytes) (hlen : 4 ≤ hs.length) (hp : ¬ segwitPrefix hs) (a : Addr) :
    fromString H hs = .ok a ↔
      ∃ dec, Base58.decode hs = some dec ∧ dec.length = 25 ∧ (H.sha2sum (dec.take 21)).take 4 = dec.drop 21 ∧
        a = .b58 (dec.headD 0) ((dec.drop 1).take 20) (some hs) := by
  unfold fromString
  unfold segwitPrefix at hp
  rw [if_neg (by omega), if_neg hp]
  cases hd : Base58.decode hs with
  | none => exact iff_of_false (fun h => by cases h) (fun ⟨_, h, _⟩ => by cases h)
  | some dec =>
    simp only [Option.some.injEq, exists_eq_left']
    by_cases h25 : dec.length < 25
    · rw [if_pos h25]; exact iff_of_false (fun h => by cases h) (fun h => by omega)
    rw [if_neg h25]
    by_cases he : dec.length = 25
    case neg => rw [if_neg he]; exact iff_of_false (fun h => by cases h) (fun h => he h.1)
    rw [if_pos he]
    by_cases hc : (H.sha2sum (dec.take 21)).take 4 ≠ dec.drop 21
    · rw [if_pos hc]; exact iff_of_false (fun h => by cases h) (fun h => hc h.2.1)
    rw [if_neg hc]
    exact ⟨fun h => ⟨he, Decidable.not_not.mp hc, (Except.ok.inj h).symm⟩, fun h => by rw [h.2.2]⟩

theorem fromString_toString_segwit (H : Hashes) (hrp prog s : Bytes) (v : Nat)
    (hh : hrp = strBytes "bc" ∨ hrp = strBytes "tb")
    (h : toString H (.segwit hrp v prog) = some s) : fromString H s = .ok (.segwit hrp v prog) := by
  have hdec := segwit_decode_encode hrp prog s v h
  obtain ⟨_, _, _, _, d, _, he⟩ := segwitEncode_some h
  obtain ⟨w, hs, _, hwl, _⟩ := encode_word he
  unfold fromString
  rw [if_neg (by rw [hs]; simp; omega)]
  rcases hh with e | e
  · rw [bc] at e; subst e
    have hpre : (s.take 3).map asciiLower = [98, 99, 49] := by rw [hs]; rfl
    simp only [hpre, bc1, true_or, ↓reduceIte, List.take_succ_cons, List.take_zero, hdec]
  · rw [tb] at e; subst e
    have hpre : (s.take 3).map asciiLower = [116, 98, 49] := by rw [hs]; rfl
    simp only [hpre, tb1, or_true, ↓reduceIte, List.take_succ_cons, List.take_zero, hdec]

/-- `SegwitEncode` succeeds on every supported (version, program) for the two Bitcoin hrps -/
theorem segwitEncode_isSome (hrp prog : Bytes) (v : Nat) (hh : hrp = strBytes "bc" ∨ hrp = strBytes "tb")
    (hv : v ≤ 16) (hl2 : 2 ≤ prog.length) (hl40 : prog.length ≤ 40)
    (hv0 : v = 0 → prog.length = 20 ∨ prog.length = 32) : ∃ s, segwitEncode hrp v prog = some s := by
  rw [bc, tb] at hh
  obtain ⟨d, hd⟩ := convertBits_85_total prog
  obtain ⟨hlt, p, hp, hlen, _⟩ := convertBits_85_spec prog d hd
  have hdat : ∀ x ∈ UInt8.ofNat v :: d, x.toNat ≤ 31 :=
    List.forall_mem_cons.mpr ⟨by rw [UInt8.toNat_ofNat']; omega, fun x hx => by have := hlt x hx; omega⟩
  unfold segwitEncode
  have c2 : ¬ (v = 0 ∧ prog.length ≠ 20 ∧ prog.length ≠ 32) := by
    intro hc; have := hv0 hc.1; omega
  rw [if_neg (by omega), if_neg c2, if_neg (by omega), hd]
  apply Option.isSome_iff_exists.mp
  refine (Bech32.encode_isSome_iff _ _ _).mpr ⟨?_, ?_, hdat, ?_⟩
  · rcases hh with e | e <;> subst e <;> simp
  · rcases hh with e | e <;> subst e <;> decide
  · rcases hh with e | e <;> subst e <;> simp only [List.length_cons, List.length_nil] <;> omega

theorem fromPkScript_outScript_segwit (H : Hashes) (hrp prog : Bytes) (v : Nat) (tn : Bool)
    (hv : v ≤ 16) (hl2 : 2 ≤ prog.length) (hl40 : prog.length ≤ 40)
    (hv0 : v = 0 → prog.length = 20 ∨ prog.length = 32) :
    ∃ scr, outScript (.segwit hrp v prog) = some scr ∧
      fromPkScript H scr tn = some (.segwit (if tn then strBytes "tb" else strBytes "bc") v prog) ∧
      outScript (.segwit (if tn then strBytes "tb" else strBytes "bc") v prog) = some scr := by
  have hlen8 : (UInt8.ofNat prog.length).toNat = prog.length := UInt8.toNat_ofNat_of_lt' (show _ < 256 by omega)
  obtain ⟨s, hs⟩ := segwitEncode_isSome (if tn then strBytes "tb" else strBytes "bc") prog v (by cases tn <;> simp) hv hl2 hl40 hv0
  by_cases h0 : v = 0
  · subst h0
    refine ⟨0x00 :: UInt8.ofNat prog.length :: prog, by simp [outScript], ?_, by simp [outScript]⟩
    unfold fromPkScript
    have hw : isWitnessProgram (0x00 :: UInt8.ofNat prog.length :: prog) = some (0, prog) := by
      simp [isWitnessProgram, hlen8]
      omega
    rw [hw]
    simp only [List.isEmpty_cons, Bool.false_eq_true, ↓reduceIte, hs]
  · have hop : (UInt8.ofNat (v - 1 + 0x51)).toNat = v + 0x50 := by
      rw [UInt8.toNat_ofNat_of_lt' (show _ < 256 by omega)]; omega
    have hopne : UInt8.ofNat (v - 1 + 0x51) ≠ 0 := by
      intro e; have := congrArg UInt8.toNat e; rw [hop] at this; simp at this
    refine ⟨UInt8.ofNat (v - 1 + 0x51) :: UInt8.ofNat prog.length :: prog, by simp [outScript, h0, hv], ?_,
      by simp [outScript, h0, hv]⟩
    unfold fromPkScript
    have hw : isWitnessProgram (UInt8.ofNat (v - 1 + 0x51) :: UInt8.ofNat prog.length :: prog) = some (v, prog) := by
      generalize UInt8.ofNat (v - 1 + 0x51) = op at hop hopne ⊢
      simp [isWitnessProgram, hlen8, hop, hopne]
      omega
    rw [hw]
    simp only [List.isEmpty_cons, Bool.false_eq_true, ↓reduceIte, hs]

/-! the pay-to-pubkey branches of `NewAddrFromPkScript`, `<33-byte push> OP_CHECKSIG` and `<65-byte push> OP_CHECKSIG`: the
    code does not look at the key bytes (no 02/03/04 prefix test), it hashes them and returns the P2PKH address of that hash -/

/-- compressed-key form: 21 <33 bytes> ac -/
theorem fromPkScript_p2pk33 (H : Hashes) (tn : Bool) (pk : Bytes) (h : pk.length = 33) :
    fromPkScript H (0x21 :: (pk ++ [0xac])) tn =
      some (.b58 (if tn then 111 else 0) (H.hash160 pk) none) := by
  simp [fromPkScript, isWitnessProgram, h, List.take_left' h]

/-- uncompressed-key form: 41 <65 bytes> ac -/
theorem fromPkScript_p2pk65 (H : Hashes) (tn : Bool) (pk : Bytes) (h : pk.length = 65) :
    fromPkScript H (0x41 :: (pk ++ [0xac])) tn =
      some (.b58 (if tn then 111 else 0) (H.hash160 pk) none) := by
  simp [fromPkScript, isWitnessProgram, h, List.take_left' h]

theorem fromPkScript_outScript_p2pkh (H : Hashes) (ver : UInt8) (h : Bytes) (enc : Option Bytes) (tn : Bool)
    (hl : h.length = 20) (hver : ver = 0 ∨ ver = 111 ∨ ver = 48) :
    ∃ scr, outScript (.b58 ver h enc) = some scr ∧
      fromPkScript H scr tn = some (.b58 (if tn then 111 else 0) h none) ∧
      outScript (.b58 (if tn then 111 else 0) h none) = some scr := by
  refine ⟨[0x76, 0xa9, 20] ++ h ++ [0x88, 0xac], ?_, ?_, ?_⟩
  · rcases hver with e | e | e <;> subst e <;> rfl
  · simp [fromPkScript, isWitnessProgram, hl]
  · cases tn <;> rfl

theorem fromPkScript_outScript_p2sh (H : Hashes) (ver : UInt8) (h : Bytes) (enc : Option Bytes) (tn : Bool)
    (hl : h.length = 20) (hver : ver = 5 ∨ ver = 196) :
    ∃ scr, outScript (.b58 ver h enc) = some scr ∧
      fromPkScript H scr tn = some (.b58 (if tn then 196 else 5) h none) ∧
      outScript (.b58 (if tn then 196 else 5) h none) = some scr := by
  refine ⟨[0xa9, 20] ++ h ++ [0x87], ?_, ?_, ?_⟩
  · rcases hver with e | e <;> subst e <;> rfl
  · simp [fromPkScript, isWitnessProgram, hl]
  · cases tn <;> rfl

end GocoinV.Addr
namespace GocoinV.Base58

theorem pow58_succ_le {k v : Nat} (h : 58 ^ (k + 1) ≤ v) : v ≠ 0 ∧ 58 ^ k ≤ v / 58 :=
  ⟨Nat.ne_of_gt (Nat.lt_of_lt_of_le (Nat.pow_pos (by omega)) h), by rw [Nat.le_div_iff_mul_le (by omega)]; rw [Nat.pow_succ] at h; exact h⟩

theorem digits_length_gt (k : Nat) : ∀ v, 58 ^ k ≤ v → k < (digits v).length := by
  induction k with
  | zero =>
    intro v h
    rw [digits_pos v (by omega)]
    simp
  | succ k ih =>
    intro v h
    obtain ⟨hv, this⟩ := pow58_succ_le h
    have := ih _ this
    rw [digits_pos v hv, List.length_append]; simp; omega

theorem encode_length_ge (a : Bytes) : a.length ≤ (encode a).length := by
  unfold encode leadingZeros
  simp only [List.length_append, List.length_replicate, List.length_map]
  have hsplit := congrArg List.length (List.takeWhile_append_dropWhile (p := (· == 0)) (l := a))
  simp only [List.length_append] at hsplit
  rw [← beVal_dropWhile_zero a]
  generalize hd : a.dropWhile (· == 0) = r at hsplit ⊢
  cases r with
  | nil => simp at hsplit; omega
  | cons x t =>
    have hx0 : x ≠ 0 := by simpa using dropWhile_head_false _ _ _ _ hd
    have hxp : 1 ≤ x.toNat := Nat.pos_of_ne_zero fun h => hx0 (UInt8.toNat_inj.mp h)
    have hb : 58 ^ t.length ≤ beVal (x :: t) := by
      rw [beVal_cons]
      have h1 : (58 : Nat) ^ t.length ≤ 256 ^ t.length := Nat.pow_le_pow_left (by omega) _
      have h2 : 1 * 256 ^ t.length ≤ x.toNat * 256 ^ t.length := Nat.mul_le_mul_right _ hxp
      omega
    have := digits_length_gt _ _ hb
    simp only [List.length_cons] at hsplit
    omega

end GocoinV.Base58
namespace GocoinV.Addr
open GocoinV Bech32

theorem fromString_toString_b58 (H : Hashes) (hH : ∀ x, (H.sha2sum x).length = 32) (ver : UInt8) (h s : Bytes)
    (hl : h.length = 20) (hs : toString H (.b58 ver h none) = some s) (hp : ¬ segwitPrefix s) :
    fromString H s = .ok (.b58 ver h (some s)) := by
  simp only [toString, Option.some.injEq] at hs
  have hck := take4_length (hH (ver :: h))
  have hdec := Base58.decode_encode (ver :: h ++ (H.sha2sum (ver :: h)).take 4) (by simp)
  have hlen := Base58.encode_length_ge (ver :: h ++ (H.sha2sum (ver :: h)).take 4)
  rw [hs] at hdec hlen
  simp only [List.cons_append, List.length_cons, List.length_append, hl, hck] at hlen
  rw [b58check_accept_iff H s (by omega) hp]
  have h21 : (ver :: h).length = 21 := by simp [hl]
  refine ⟨_, hdec, by simp [hl, hck], ?_, ?_⟩
  · rw [List.take_left' h21, List.drop_left' h21]
  · simp [List.take_left' hl]
end GocoinV.Addr
namespace GocoinV.Base58

theorem head_digit (k : Nat) : ∀ v, 58 ^ k ≤ v → v < 58 ^ (k + 1) → ∃ t, digits v = (v / 58 ^ k) :: t := by
  induction k with
  | zero =>
    intro v h1 h2
    have hv : v ≠ 0 := by omega
    have hq : v / 58 = 0 := by omega
    have hm : v % 58 = v := by omega
    rw [digits_pos v hv, hq, hm, digits_zero]
    simp
  | succ k ih =>
    intro v h1 h2
    obtain ⟨hv, g1⟩ := pow58_succ_le h1
    have g2 : v / 58 < 58 ^ (k + 1) := Nat.div_lt_of_lt_mul (by rwa [← Nat.pow_succ'])
    obtain ⟨t, ht⟩ := ih _ g1 g2
    rw [digits_pos v hv, ht, List.cons_append]
    refine ⟨t ++ [v % 58], ?_⟩
    rw [Nat.div_div_eq_div_mul, Nat.pow_succ, Nat.mul_comm]

/-- first character of the Base58 encoding of a 25-byte payload with a non-zero version byte, from
    numeric bounds on version·256^24 -/
theorem encode_first (ver : UInt8) (rest : Bytes) (hl : rest.length = 24) (k lo hi : Nat)
    (hlo : lo * 58 ^ k ≤ ver.toNat * 256 ^ 24) (hhi : (ver.toNat + 1) * 256 ^ 24 ≤ (hi + 1) * 58 ^ k)
    (hlo1 : 1 ≤ lo) (hhi58 : hi < 58) :
    ∃ d t, encode (ver :: rest) = digitChar d :: t ∧ lo ≤ d ∧ d ≤ hi := by
  have hp : 0 < 58 ^ k := Nat.pow_pos (by omega)
  have hlo58 : 1 * 58 ^ k ≤ lo * 58 ^ k := Nat.mul_le_mul_right _ hlo1
  have hv : ver ≠ 0 := by
    intro e; subst e
    simp at hlo; omega
  have hz : leadingZeros (ver :: rest) = 0 := by
    unfold leadingZeros
    rw [List.takeWhile_cons_of_neg (by simpa using hv)]; rfl
  have hval := beVal_cons ver rest
  have hlt := beVal_lt rest
  rw [hl] at hval hlt
  generalize hV : beVal (ver :: rest) = V at hval
  have b1 : lo * 58 ^ k ≤ V := by omega
  have b2 : V < (hi + 1) * 58 ^ k := by rw [Nat.add_mul] at hhi; omega
  have c1 : 58 ^ k ≤ V := by omega
  have c2 : V < 58 ^ (k + 1) := by
    have : (hi + 1) * 58 ^ k ≤ 58 * 58 ^ k := Nat.mul_le_mul_right _ (by omega)
    rw [Nat.pow_succ, Nat.mul_comm]; omega
  obtain ⟨t, ht⟩ := head_digit k V c1 c2
  refine ⟨V / 58 ^ k, t.map digitChar, ?_, ?_, ?_⟩
  · unfold encode; rw [hz, hV, ht]; rfl
  · rw [Nat.le_div_iff_mul_le hp]; exact b1
  · have : V / 58 ^ k < hi + 1 := by rw [Nat.div_lt_iff_lt_mul hp]; exact b2
    omega

end GocoinV.Base58
namespace GocoinV.Addr
open GocoinV Bech32

theorem digit_not_bt : ∀ d : Fin 58, d.val ≤ 2 ∨ d.val = 19 ∨ d.val = 44 ∨ d.val = 45 →
    asciiLower (Base58.digitChar d.val) ≠ 98 ∧ asciiLower (Base58.digitChar d.val) ≠ 116 := by decide +kernel

theorem not_prefix_of_first (c : UInt8) (t : Bytes) (h : asciiLower c ≠ 98 ∧ asciiLower c ≠ 116) :
    ¬ segwitPrefix (c :: t) := by
  unfold segwitPrefix
  rw [bc1, tb1]
  intro hc
  rcases hc with e | e <;> have := congrArg List.head? e <;> simp at this
  · exact h.1 this
  · exact h.2 this

/-- the Base58Check string of the five supported version bytes never looks like a segwit address
    (it starts with '1', '3', 'm'/'n', '2', 'L' respectively) -/
theorem b58_not_segwitPrefix (ver : UInt8) (rest : Bytes) (hl : rest.length = 24)
    (hver : ver = 0 ∨ ver = 5 ∨ ver = 111 ∨ ver = 196 ∨ ver = 48) :
    ¬ segwitPrefix (Base58.encode (ver :: rest)) := by
  have key : ∃ d t, Base58.encode (ver :: rest) = Base58.digitChar d :: t ∧
      (d ≤ 2 ∨ d = 19 ∨ d = 44 ∨ d = 45) := by
    rcases hver with e | e | e | e | e <;> subst e
    · refine ⟨0, ?_⟩
      unfold Base58.encode Base58.leadingZeros
      rw [List.takeWhile_cons_of_pos (by rfl)]
      simp only [List.length_cons, List.replicate_succ, List.cons_append]
      exact ⟨_, rfl, by omega⟩
    · exact (Base58.encode_first 5 rest hl 33 2 2 (by decide) (by decide) (by omega) (by omega)).imp
        fun _ => Exists.imp fun _ h => ⟨h.1, by omega⟩
    · exact (Base58.encode_first 111 rest hl 33 44 45 (by decide) (by decide) (by omega) (by omega)).imp
        fun _ => Exists.imp fun _ h => ⟨h.1, by omega⟩
    · exact (Base58.encode_first 196 rest hl 34 1 1 (by decide) (by decide) (by omega) (by omega)).imp
        fun _ => Exists.imp fun _ h => ⟨h.1, by omega⟩
    · exact (Base58.encode_first 48 rest hl 33 19 19 (by decide) (by decide) (by omega) (by omega)).imp
        fun _ => Exists.imp fun _ h => ⟨h.1, by omega⟩
  obtain ⟨d, t, he, hd⟩ := key
  rw [he]
  exact not_prefix_of_first _ _ (digit_not_bt ⟨d, by omega⟩ hd)

/-- the four supported destination forms: witness v0 (20/32 bytes), witness v1..16 (2..40 bytes),
    P2PKH (version bytes 0, 111, and Litecoin's 48), P2SH (5, 196) — five version bytes; 20-byte hashes -/
def Supported : Addr → Prop
  | .segwit _ v p => v ≤ 16 ∧ 2 ≤ p.length ∧ p.length ≤ 40 ∧ (v = 0 → p.length = 20 ∨ p.length = 32)
  | .b58 ver h _ => h.length = 20 ∧ (ver = 0 ∨ ver = 111 ∨ ver = 48 ∨ ver = 5 ∨ ver = 196)

theorem script_roundtrip (H : Hashes) (a : Addr) (tn : Bool) (hs : Supported a) :
    ∃ scr a', outScript a = some scr ∧ fromPkScript H scr tn = some a' ∧ outScript a' = some scr := by
  cases a with
  | segwit hrp v p =>
    obtain ⟨h1, h2, h3, h4⟩ := hs
    exact (fromPkScript_outScript_segwit H hrp p v tn h1 h2 h3 h4).imp fun _ h => ⟨_, h⟩
  | b58 ver h enc =>
    obtain ⟨hl, hv⟩ := hs
    rcases (by simpa only [or_assoc] using hv : (ver = 0 ∨ ver = 111 ∨ ver = 48) ∨ ver = 5 ∨ ver = 196) with e | e
    · exact (fromPkScript_outScript_p2pkh H ver h enc tn hl e).imp fun _ h => ⟨_, h⟩
    · exact (fromPkScript_outScript_p2sh H ver h enc tn hl e).imp fun _ h => ⟨_, h⟩

/-- addresses as the wallet builds them: bc/tb for witness programs, no cached string for Base58 -/
def Fresh : Addr → Prop
  | .segwit hrp _ _ => hrp = strBytes "bc" ∨ hrp = strBytes "tb"
  | .b58 _ _ enc => enc = none

end GocoinV.Addr
