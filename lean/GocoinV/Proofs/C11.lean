/-
  Proofs.C11 — the transition systems of Model/Conc.lean and Model/ConcOwn.lean all run a schedule the same way (a label
  that is not enabled is skipped), so what every step keeps, every schedule keeps (`run_induct`). Then: the invariant of
  the snapshot protocol (lib/utxo/unspent_db.go) that keeps mutation and saving apart (`SnapP.inv`), as lemmas about the
  five fields it reads (six clauses), one per kind of transition (the walk over the transitions is in Proofs/C11Live.lean); the
  publish invariant of BlockDB (`PubP`); the order-independence lemmas.
-/
import GocoinV.Model.Conc
namespace GocoinV.Proofs.C11
open GocoinV.Conc

theorem run_induct {σ L : Type} {step : σ → L → Option σ} {run : σ → List L → σ}
    (hnil : ∀ s, run s [] = s) (hcons : ∀ s l r, run s (l :: r) = run ((step s l).getD s) r)
    {P : σ → Prop} (hstep : ∀ s s' l, P s → step s l = some s' → P s') (s : σ) (ls : List L) (h : P s) :
    P (run s ls) := by
  induction ls generalizing s with
  | nil => rw [hnil]; exact h
  | cons l r ih =>
    rw [hcons]
    cases hs : step s l with
    | none => exact ih s h
    | some s' => exact ih s' (hstep s s' l h hs)

namespace SnapP
open Snap
def preClr (sv : Saver) : Bool := match sv.pc with | .waitFile | .hdr | .loop | .fin _ | .clr => true | _ => false
def reading (sv : Saver) : Bool := match sv.pc with | .waitFile | .hdr | .loop => true | _ => false
def mCrit : MPc → Bool | .cAbort .drain | .cAbort .done | .cMut1 | .cMut2 => true | _ => false
def isSGo : MPc → Bool | .sGo _ => true | _ => false
def inSave : MPc → Bool | .sSet _ | .sAdd _ | .sGo _ => true | _ => false
def wipSet : MPc → Bool | .sAdd _ | .sGo _ => true | _ => false
@[simp] theorem isSGo_ret (r) : isSGo (saveRetPc r) = false := by cases r <;> rfl
@[simp] theorem mCrit_ret (r) : mCrit (saveRetPc r) = false := by cases r <;> rfl
@[simp] theorem inSave_ret (r) : inSave (saveRetPc r) = false := by cases r <;> rfl
@[simp] theorem wipSet_ret (r) : wipSet (saveRetPc r) = false := by cases r <;> rfl

/-- the invariant, as a predicate of the five fields it reads -/
def Inv (s : Option Saver) (wip : Bool) (wdone : Nat) (mpc : MPc) (stable : Bool) : Prop :=
  (∀ sv, s = some sv → preClr sv = true → wip = true) ∧
  ((if s.isSome then 1 else 0) + (if isSGo mpc then 1 else 0) ≤ wdone) ∧
  (∀ sv, s = some sv → mCrit mpc = true → reading sv = false) ∧
  (stable = false → mpc = .cMut2) ∧
  (wipSet mpc = true → wip = true) ∧
  (∀ sv, s = some sv → inSave mpc = true → sv.pc = .done)

def inv (st : St) : Prop := Inv st.s st.wip st.wdone st.mpc st.stable

theorem inv_init (mp xp cap) : inv (init mp xp cap) := by
  simp [inv, Inv, init, isSGo, wipSet, inSave]

theorem reading_preClr {sv : Saver} (h : reading sv = true) : preClr sv = true := by
  cases hp : sv.pc <;> simp_all [reading, preClr]

theorem notSave {p : MPc} (h : inSave p = false) : isSGo p = false ∧ wipSet p = false := by
  cases p <;> first | exact ⟨rfl, rfl⟩ | cases h

/-- the main goroutine moves to a point outside `save`'s bookkeeping; it may enter the critical part only from
    it, or when no saver runs (`wdone = 0`), or when none is before its `clr` (`wip = false`) -/
theorem Inv.move {s wip wdone p stable} (h : Inv s wip wdone p stable) (p' : MPc) (stable' : Bool)
    (hsave : inSave p' = false)
    (hcrit : mCrit p' = true → mCrit p = true ∨ wdone = 0 ∨ wip = false)
    (hst : stable' = false → p' = .cMut2) : Inv s wip wdone p' stable' := by
  obtain ⟨hA, hB, hC, -, -, -⟩ := h
  obtain ⟨hgo, hws⟩ := notSave hsave
  refine ⟨hA, ?_, ?_, hst, by simp [hws], by simp [hsave]⟩
  · simp only [hgo, Bool.false_eq_true, if_false, Nat.add_zero]; omega
  · intro sv hsv hc
    rcases hcrit hc with h1 | h1 | h1
    · exact hC sv hsv h1
    · simp [hsv, h1] at hB
    · exact eq_false_of_ne_true fun hr => nomatch h1.symm.trans (hA sv hsv (reading_preClr hr))

theorem Inv.excl {s wip wdone p stable} (h : Inv s wip wdone p stable) {sv : Saver} (hs : s = some sv)
    (hc : mCrit p = true) : reading sv = false := h.2.2.1 sv hs hc

theorem Inv.single {s wip wdone p stable} (h : Inv s wip wdone p stable) {sv : Saver} (hs : s = some sv)
    (hi : inSave p = true) : sv.pc = .done := h.2.2.2.2.2 sv hs hi

/-- while the saver reads, no commit is half applied -/
theorem Inv.stable_reading {s wip wdone p stable} (h : Inv s wip wdone p stable) {sv : Saver} (hs : s = some sv)
    (hr : reading sv = true) : stable = true :=
  eq_true_of_ne_false fun hf => nomatch hr.symm.trans (h.excl hs (by rw [h.2.2.2.1 hf]; rfl))

theorem Inv.move' {s wip wdone p stable} (h : Inv s wip wdone p stable) (hp : p ≠ .cMut2) (p' : MPc)
    (hsave : inSave p' = false) (hcrit : mCrit p' = true → mCrit p = true ∨ wdone = 0 ∨ wip = false) :
    Inv s wip wdone p' stable :=
  h.move p' stable hsave hcrit fun hf => absurd (h.2.2.2.1 hf) hp

/-- `abortWriting` touches only the abort channel, and leaves a token there only on the way to `wait`/`drain`; it
    reaches its last two points only from `drain`, with `writingDone` at zero, or with nothing in progress -/
theorem abortStep_spec {st st1 : St} {a a1 : APc} (h : abortStep st a = some (st1, a1)) :
    (∃ c, st1 = { st with abortCh := c } ∧
      (c = true → a1 = .wait ∨ a1 = .drain ∨ st.abortCh = true ∧ a = .check)) ∧
    (mCrit (.cAbort a1) = true → mCrit (.cAbort a) = true ∨ st.wdone = 0 ∨ st.wip = false) := by
  cases a <;> simp only [abortStep] at h
  · cases h
    refine ⟨⟨_, rfl, fun hc => .inr (.inr ⟨hc, rfl⟩)⟩, fun hc => .inr (.inr ?_)⟩
    exact eq_false_of_ne_true fun hw => by rw [hw] at hc; cases hc
  · split at h <;> cases h
    exact ⟨⟨_, rfl, fun _ => .inl rfl⟩, nofun⟩
  · split at h <;> cases h
    exact ⟨⟨_, rfl, fun _ => .inr (.inl rfl)⟩, fun _ => .inr (.inl ‹_›)⟩
  · cases h
    exact ⟨⟨_, rfl, nofun⟩, fun _ => .inl rfl⟩
  · cases h

/-! the four bookkeeping steps of `save`: test `WritingInProgress`, set it, count the saver, start it -/

theorem Inv.chk {s wdone r stable} (h : Inv s false wdone (.sChk r) stable) : Inv s false wdone (.sSet r) stable := by
  obtain ⟨hA, hB, -, hE, -, -⟩ := h
  refine ⟨hA, hB, nofun, (nomatch hE ·), nofun, fun sv hsv _ => ?_⟩
  cases hp : sv.pc with
  | done => rfl
  | _ => exact nomatch hA sv hsv (by rw [preClr, hp])

theorem Inv.set {s wip wdone r stable} (h : Inv s wip wdone (.sSet r) stable) : Inv s true wdone (.sAdd r) stable := by
  obtain ⟨-, hB, -, hE, -, hG⟩ := h
  exact ⟨fun _ _ _ => rfl, hB, nofun, (nomatch hE ·), fun _ => rfl, fun sv hsv _ => hG sv hsv rfl⟩

theorem Inv.add {s wip wdone r stable} (h : Inv s wip wdone (.sAdd r) stable) :
    Inv s wip (wdone + 1) (.sGo r) stable := by
  obtain ⟨hA, hB, -, hE, hF, hG⟩ := h
  refine ⟨hA, ?_, nofun, (nomatch hE ·), hF, fun sv hsv _ => hG sv hsv rfl⟩
  simp only [isSGo, Bool.false_eq_true, if_false, if_true, Nat.add_zero] at hB ⊢
  omega

theorem Inv.go {wip wdone r stable} (h : Inv none wip wdone (.sGo r) stable) :
    Inv (some { pc := .waitFile }) wip wdone (saveRetPc r) stable := by
  obtain ⟨-, hB, -, hE, hF, -⟩ := h
  refine ⟨fun _ _ _ => hF rfl, ?_, by simp, (nomatch hE ·), by simp, by simp⟩
  simp [isSGo] at hB
  simpa using hB

/-- the saver, before it clears `WritingInProgress`, moves on and does not start reading again -/
theorem Inv.saver {sv sv' : Saver} {wip wdone p stable} (h : Inv (some sv) wip wdone p stable)
    (hp : preClr sv = true) (hr : reading sv' = true → reading sv = true) :
    Inv (some sv') wip wdone p stable := by
  obtain ⟨hA, hB, hC, hE, hF, hG⟩ := h
  have hns : inSave p = false := eq_false_of_ne_true fun hi => by rw [preClr, hG sv rfl hi] at hp; cases hp
  refine ⟨fun _ _ _ => hA sv rfl hp, hB, ?_, hE, hF, fun _ _ hi => nomatch hns.symm.trans hi⟩
  intro sv1 h1 hc
  cases h1
  exact eq_false_of_ne_true fun hr' => nomatch (hC sv rfl hc).symm.trans (hr hr')

theorem Inv.clr {sv sv' : Saver} {wip wdone p stable} (h : Inv (some sv) wip wdone p stable)
    (hp : sv.pc = .clr) (hp' : sv'.pc = .done) : Inv (some sv') false wdone p stable := by
  obtain ⟨-, hB, -, hE, hF, hG⟩ := h
  have hns : inSave p = false := eq_false_of_ne_true fun hi => nomatch hp.symm.trans (hG sv rfl hi)
  refine ⟨?_, hB, ?_, hE, (nomatch (notSave hns).2.symm.trans ·), fun sv1 h1 _ => by cases h1; exact hp'⟩
  · intro sv1 h1 hc; cases h1; rw [preClr, hp'] at hc; cases hc
  · intro sv1 h1 _; cases h1; rw [reading, hp']

theorem Inv.fin {sv : Saver} {wip wdone p stable} (h : Inv (some sv) wip wdone p stable) :
    Inv none wip (wdone - 1) p stable := by
  obtain ⟨-, hB, -, hE, hF, -⟩ := h
  refine ⟨nofun, ?_, nofun, hE, hF, nofun⟩
  simp only [Option.isSome_some, if_true, Option.isSome_none, Bool.false_eq_true, if_false] at hB ⊢
  omega

end SnapP

namespace PubP
open Pub
def inv (st : St) : Prop :=
  (st.r.inIndex = true → st.r.inCache = false → st.r.published = true) ∧
  (st.r.published = true → st.r.fields = true) ∧
  (st.rd = .gotRec false → st.r.published = true) ∧
  (st.rd = .readIpos → st.r.published = true) ∧
  (st.rd = .readFields → st.r.published = true) ∧
  (st.w = .pub1 → st.r.fields = true) ∧
  (st.r.inCache = true → st.r.inIndex = true) ∧
  (st.r.inIndex = false → st.rd = .idle ∧ st.w = .idle ∧ st.r.queued = false) ∧
  st.badRead = false

theorem inv_init : inv {} := by simp [inv]

/-- Nine clauses times nine labels: each label changes two or three fields, and each of the 81 clause-cases is closed by the
    guard of the step together with one or two other clauses (why the invariant holds is told at
    `Props.C11.pub_read_after_publish`); written out case by case the proof is ten times as long and says no more. -/
theorem inv_step (st st' : St) (l : Lab) (h : inv st) (hs : step st l = some st') : inv st' := by
  obtain ⟨h1, h2, h3, h4, h5, h6, h7, h9, h8⟩ := h
  cases l <;> simp only [step] at hs
  all_goals (try (split at hs))
  all_goals (try (split at hs))
  all_goals (try simp at hs)
  all_goals (try (subst hs))
  all_goals (try (simp_all [inv]))
  all_goals (try grind)

theorem inv_run (st : St) (ls : List Lab) (h : inv st) : inv (run st ls) :=
  run_induct (fun _ => rfl) (fun _ _ _ => rfl) inv_step st ls h
end PubP

theorem applyUpd_comm (m : Nat → Option Nat) (u v : Nat × Option Nat) (h : u.1 ≠ v.1) :
    applyUpd (applyUpd m u) v = applyUpd (applyUpd m v) u := by
  funext k
  simp only [applyUpd]
  by_cases h1 : k = v.1 <;> by_cases h2 : k = u.1 <;> simp_all

theorem disjoint_updates_commute (us vs : List (Nat × Option Nat)) (hp : us.Perm vs)
    (hd : (us.map (·.1)).Nodup) (m : Nat → Option Nat) : applyAll m us = applyAll m vs := by
  have hk := List.pairwise_map.mp hd
  refine hp.foldl_eq' (fun x hx y hy z => ?_) m
  by_cases h : x.1 = y.1
  · -- the keys are distinct: two members with one key are one member
    rw [List.Pairwise.forall_of_forall_of_flip (R := fun a b => a.1 = b.1 → a = b) (fun _ _ _ => rfl)
      (hk.imp fun hne e => absurd e hne) (hk.imp fun hne e => absurd e.symm hne) hx hy h]
  · exact applyUpd_comm z x y h

end GocoinV.Proofs.C11
