/-
  Proofs.C19Lz — records that are not in memory: the NO_CACHE flag (`freerec` and sync() drop a record's data once it
  is on disk, `load` skips it) and NewDBExt with LoadData = false. The real store `a` is related to its EAGER GHOST
  `g` (`Lz P a g`): the store with the ghost field `eager = true`, which tests a flag bit that is never set instead
  of NO_CACHE and therefore keeps every record's data in memory — while writing exactly the same bytes (the flags
  are the same). Every operation acts on both in lock step: same file operations, same results; a record of `a`
  that is not in memory loads to the ghost's record. The analysis of stores whose records are all in memory (the
  files this one imports, up to Proofs/C19Vol) applies to the ghost. `OpOK5` is `OpOK3` (Proofs/C19Vol) with any 32-bit
  flags (NO_CACHE included) and any LoadData.
-/
import GocoinV.Proofs.C19Lazy
namespace GocoinV.Proofs.C19
open GocoinV GocoinV.Qdb GocoinV.QdbSpec

variable {eg : Bool}

/-! ### records and indices up to "not in memory" -/

/-- `ra` is `rg`, possibly without its data in memory -/
def Sub (ra rg : Rec) : Prop := ra = rg ∨ ra = { rg with data := none }

theorem Sub.refl (r : Rec) : Sub r r := Or.inl rfl

theorem Sub.fields {ra rg : Rec} (h : Sub ra rg) :
    ra.seq = rg.seq ∧ ra.pos = rg.pos ∧ ra.len = rg.len ∧ ra.flags = rg.flags := by
  rcases h with rfl | rfl <;> exact ⟨rfl, rfl, rfl, rfl⟩

theorem Sub.of_data {ra rg : Rec} (h : Sub ra rg) (hd : ra.data.isSome = true) : ra = rg :=
  h.resolve_right fun h => by rw [h] at hd; cases hd

theorem Sub.withFlags {ra rg : Rec} (h : Sub ra rg) (f : Nat) : Sub { ra with flags := f } { rg with flags := f } := by
  rcases h with rfl | rfl
  · exact Or.inl rfl
  · exact Or.inr rfl

theorem freerec_sub (e : Bool) (r : Rec) : Sub (freerec e r) r := by
  unfold freerec
  split
  · exact Or.inr rfl
  · exact Or.inl rfl

def SubL : List (Key × Rec) → List (Key × Rec) → Prop
  | [], [] => True
  | (ka, ra) :: ta, (kg, rg) :: tg => ka = kg ∧ Sub ra rg ∧ SubL ta tg
  | _, _ => False

theorem SubL.refl (l : List (Key × Rec)) : SubL l l := by
  induction l with
  | nil => trivial
  | cons x t ih => exact ⟨rfl, Sub.refl _, ih⟩

theorem SubL.ind {motive : ∀ la lg, SubL la lg → Prop} (nil : motive [] [] trivial)
    (cons : ∀ k ra rg ta tg (hs : Sub ra rg) (ht : SubL ta tg), motive ta tg ht →
      motive ((k, ra) :: ta) ((k, rg) :: tg) ⟨rfl, hs, ht⟩) :
    ∀ la lg (h : SubL la lg), motive la lg h
  | [], [], _ => nil
  | (ka, _) :: _, (kg, _) :: _, ⟨hk, hs, ht⟩ => by
    cases hk
    exact cons _ _ _ _ _ hs ht (SubL.ind nil cons _ _ ht)
  | [], _ :: _, h => h.elim
  | _ :: _, [], h => h.elim

theorem SubL.lookup {la lg : List (Key × Rec)} (h : SubL la lg) (k : Key) :
    (ilookup k la = none ∧ ilookup k lg = none) ∨
    ∃ ra rg, ilookup k la = some ra ∧ ilookup k lg = some rg ∧ Sub ra rg := by
  induction la, lg, h using SubL.ind with
  | nil => exact Or.inl ⟨rfl, rfl⟩
  | cons ka ra rg ta tg hs ht ih =>
    simp only [ilookup]
    by_cases hk : ka = k <;> simp only [hk, ↓reduceIte]
    · exact Or.inr ⟨ra, rg, rfl, rfl, hs⟩
    · exact ih

theorem SubL.iset {la lg : List (Key × Rec)} (h : SubL la lg) (k : Key) (ra rg : Rec) (hs : Sub ra rg) :
    SubL (iset k ra la) (iset k rg lg) := by
  induction la, lg, h using SubL.ind with
  | nil => exact ⟨rfl, hs, trivial⟩
  | cons ka xa xg ta tg hx ht ih =>
    simp only [Qdb.iset]
    by_cases hk : ka = k <;> simp only [hk, ↓reduceIte]
    · exact ⟨rfl, hs, ht⟩
    · exact ⟨rfl, hx, ih⟩

theorem SubL.ierase {la lg : List (Key × Rec)} (h : SubL la lg) (k : Key) : SubL (ierase k la) (ierase k lg) := by
  induction la, lg, h using SubL.ind with
  | nil => trivial
  | cons ka xa xg ta tg hx ht ih =>
    simp only [Qdb.ierase]
    by_cases hk : ka = k <;> simp only [hk, ↓reduceIte]
    · exact ht
    · exact ⟨rfl, hx, ih⟩

theorem SubL.length {la lg : List (Key × Rec)} (h : SubL la lg) : la.length = lg.length := by
  induction la, lg, h using SubL.ind with
  | nil => rfl
  | cons ka xa xg ta tg hx ht ih => simp only [List.length_cons, ih]

theorem SubL.snoc {la lg : List (Key × Rec)} (h : SubL la lg) (k : Key) (ra rg : Rec) (hs : Sub ra rg) :
    SubL (la ++ [(k, ra)]) (lg ++ [(k, rg)]) := by
  induction la, lg, h using SubL.ind with
  | nil => exact ⟨rfl, hs, trivial⟩
  | cons ka xa xg ta tg hx ht ih => exact ⟨rfl, hx, ih⟩

/-! ### the relation between the real store and its eager ghost -/

/-- the state outside the index and the ghost field -/
def shell (d : DB) : DB := { d with index := [], eager := false }

/-- `P`: the keys changed since they were last written (the pending set; for a volatile store
    the pending set of the non-volatile store that shadows it, `ghost g P` of Proofs/C19Vol).
    `g` is `a` with every record's data in memory and the ghost field set; a record of `a` that is not in memory, or
    that has a place on disk, is not in `P` -/
structure Lz (P : List Key) (a g : DB) : Prop where
  sh : shell a = shell g
  idx : SubL a.index g.index
  np : ∀ k r, ilookup k a.index = some r → r.data = none → k ∉ P
  pz : ∀ k r, ilookup k a.index = some r → r.pos ≠ 0 → k ∉ P
  ge : g.eager = true

theorem Lz.fs {P : List Key} {a g : DB} (h : Lz P a g) : a.fs = g.fs := (congrArg DB.fs h.sh : (shell a).fs = (shell g).fs)
theorem Lz.effs {P : List Key} {a g : DB} (h : Lz P a g) : a.effs = g.effs := (congrArg DB.effs h.sh : (shell a).effs = (shell g).effs)
theorem Lz.pending {P : List Key} {a g : DB} (h : Lz P a g) : a.pending = g.pending := (congrArg DB.pending h.sh : (shell a).pending = (shell g).pending)
theorem Lz.failed {P : List Key} {a g : DB} (h : Lz P a g) : a.failed = g.failed := (congrArg DB.failed h.sh : (shell a).failed = (shell g).failed)
theorem Lz.volatile {P : List Key} {a g : DB} (h : Lz P a g) : a.volatile = g.volatile := (congrArg DB.volatile h.sh : (shell a).volatile = (shell g).volatile)
theorem Lz.noSync {P : List Key} {a g : DB} (h : Lz P a g) : a.noSync = g.noSync := (congrArg DB.noSync h.sh : (shell a).noSync = (shell g).noSync)
theorem Lz.dataSeq {P : List Key} {a g : DB} (h : Lz P a g) : a.dataSeq = g.dataSeq := (congrArg DB.dataSeq h.sh : (shell a).dataSeq = (shell g).dataSeq)

/-- `g` written over `a` -/
def reidx (d : DB) (i : List (Key × Rec)) : DB := { d with index := i, eager := true }

theorem Lz.g_reidx {P : List Key} {a g : DB} (h : Lz P a g) : reidx a g.index = g := by
  cases a; cases g; cases h.ge; cases h.sh; rfl

/-- nothing changed: a store whose ghost is the store itself with a fuller index -/
theorem Lz.of_reidx {d : DB} {i : List (Key × Rec)} (h : SubL d.index i) : Lz [] d (reidx d i) :=
  ⟨rfl, h, fun _ _ _ _ => List.not_mem_nil, fun _ _ _ _ => List.not_mem_nil, rfl⟩

/-- every record of `a` loads to the ghost's record -/
def Loads (a g : DB) : Prop :=
  ∀ k ra rg, ilookup k a.index = some ra → ilookup k g.index = some rg → Sub ra rg → Qdb.loadrec a.fs ra = some rg

/-- loading works when a store `G` with the ghost's index and directory, and `P` pending, satisfies the invariant -/
theorem Lz.loads {P : List Key} {a g : DB} (h : Lz P a g) (G : DB) (hi : G.index = g.index) (hf : G.fs = g.fs)
    (hp : G.pending = P) (inv : DiskInv G) : Loads a g := by
  intro k ra rg ha hg hs
  have hg' : ilookup k G.index = some rg := hi ▸ hg
  have hcg := allCached_lookup inv.cached.2 k rg hg'
  rcases hs with rfl | hra
  · exact loadrec_cached a.fs ra hcg
  · obtain ⟨f, hff, hrb⟩ := inv.files k rg (hp ▸ h.np k ra ha (by rw [hra])) hg'
    obtain ⟨v, hv⟩ := Option.isSome_iff_exists.mp hcg.1
    unfold Qdb.loadrec
    rw [hra]
    simp only [h.fs, ← hf, hff]
    rw [show readRec f { rg with data := none } = _ from readRec_of_readsBack hrb]
    cases rg
    simp only at hv
    simp [hv]

theorem SubL.keys {la lg : List (Key × Rec)} (h : SubL la lg) : Keys la = Keys lg := by
  induction la, lg, h using SubL.ind with
  | nil => rfl
  | cons ka xa xg ta tg hx ht ih =>
    simp only [Keys, List.map_cons] at *
    rw [ih]

/-! ### operations that do not touch the files -/

/-- the relation survives a new entry for `k` on both sides when the real store's entry, if not in memory or if on
    disk, belongs to a key that is not changed -/
theorem Lz.iset {P : List Key} {a g : DB} (h : Lz P a g) (k : Key) (ra rg : Rec) (hs : Sub ra rg)
    (hnp : ra.data = none → k ∉ P) (hpz : ra.pos ≠ 0 → k ∉ P) :
    Lz P { a with index := iset k ra a.index } { g with index := iset k rg g.index } := by
  have key : ∀ q : Rec → Prop, (q ra → k ∉ P) → (∀ j r, ilookup j a.index = some r → q r → j ∉ P) →
      ∀ j r, ilookup j (Qdb.iset k ra a.index) = some r → q r → j ∉ P := by
    intro q hk hold j r hl hq
    rw [ilookup_iset] at hl
    split at hl
    · rename_i hjk
      cases hl
      subst hjk
      exact hk hq
    · exact hold j r hl hq
  exact ⟨h.sh, h.idx.iset k _ _ hs, key _ hnp h.np, key _ hpz h.pz, h.ge⟩

theorem get_lz {P : List Key} {a g : DB} (h : Lz P a g) (hc : Cached g) (hl : Loads a g) (k : Key) :
    Lz P (Qdb.get a k).1 (Qdb.get g k).1 ∧ (Qdb.get a k).2 = (Qdb.get g k).2 := by
  unfold Qdb.get
  rw [if_neg (by simp [h.failed.trans hc.1]), if_neg (by simp [hc.1])]
  rcases h.idx.lookup k with ⟨h1, h2⟩ | ⟨ra, rg, h1, h2, hs⟩ <;> rw [h1, h2]
  · exact ⟨h, rfl⟩
  · have hcg := allCached_lookup hc.2 k rg h2
    dsimp only
    rw [hl k ra rg h1 h2 hs, loadrec_cached g.fs rg hcg]
    refine ⟨h.iset k _ _ (Sub.refl _) (fun hd => ?_) (fun hp => h.pz k ra h1 (by rw [hs.fields.2.1]; exact hp)), rfl⟩
    have := hcg.1
    rw [show rg.data = none from hd] at this
    cases this

theorem applyFlags_lz {P : List Key} {a g : DB} (h : Lz P a g) (hc : Cached g) (k : Key) (fl : Nat) :
    Lz P (applyFlags a k fl) (applyFlags g k fl) := by
  unfold applyFlags
  rw [if_neg (by simp [h.failed.trans hc.1]), if_neg (by simp [hc.1])]
  rcases h.idx.lookup k with ⟨h1, h2⟩ | ⟨ra, rg, h1, h2, hs⟩ <;> rw [h1, h2]
  · exact h
  · exact h.iset k _ _ (by rw [hs.fields.2.2.2]; exact hs.withFlags _) (h.np k ra h1) (h.pz k ra h1)

/-! ### memput / memdel -/

theorem Lz.prvLen {P : List Key} {a g : DB} (h : Lz P a g) (k : Key) : prvLen a k = prvLen g k := by
  unfold C19.prvLen
  rcases h.idx.lookup k with ⟨h1, h2⟩ | ⟨ra, rg, h1, h2, hs⟩ <;> rw [h1, h2]
  simp [hs.fields.2.2.1]

/-- `k` joins the changed keys: the two conditions on the real store's index survive when the other keys keep their
    records and the record of `k`, if any, is in memory and has no place on disk yet -/
theorem Lz.change {P : List Key} {a g : DB} (h : Lz P a g) (k : Key) (ia : List (Key × Rec))
    (hoff : ∀ j r, j ≠ k → ilookup j ia = some r → ilookup j a.index = some r)
    (hk : ∀ r, ilookup k ia = some r → r.data.isSome = true ∧ r.pos = 0) :
    (∀ j r, ilookup j ia = some r → r.data = none → j ∉ pendingAdd P k) ∧
    (∀ j r, ilookup j ia = some r → r.pos ≠ 0 → j ∉ pendingAdd P k) := by
  refine ⟨fun j r hl hd => ?_, fun j r hl hp => ?_⟩ <;> rw [mem_pendingAdd] <;> by_cases hjk : j = k
  · subst hjk
    have := (hk r hl).1
    rw [hd] at this
    cases this
  · exact fun hc => hc.elim hjk (h.np j r (hoff j r hjk hl) hd)
  · subst hjk
    exact absurd (hk r hl).2 hp
  · exact fun hc => hc.elim hjk (h.pz j r (hoff j r hjk hl) hp)

/-- memput of a fresh record (data in memory, no place on disk yet): `k` joins the changed keys -/
theorem memput_lz {P : List Key} {a g : DB} (h : Lz P a g) (k : Key) (r : Rec) (hr : r.data.isSome = true)
    (hp0 : r.pos = 0) : Lz (pendingAdd P k) (memput a k r) (memput g k r) := by
  have hia := (memput_spec a k r).1
  obtain ⟨c1, c2⟩ := h.change k (memput a k r).index
    (fun j rj hjk hl => by rw [hia, ilookup_iset, if_neg (Ne.symm hjk)] at hl; exact hl)
    (fun rj hl => by rw [hia, ilookup_iset, if_pos rfl] at hl; cases hl; exact ⟨hr, hp0⟩)
  refine ⟨?_, by rw [hia, (memput_spec g k r).1]; exact h.idx.iset k r r (Sub.refl r), c1, c2, (memput_eager g k r).trans h.ge⟩
  rw [memput_eq, memput_eq, ← h.prvLen k]
  cases a; cases g; cases h.sh; rfl

theorem memdel_lz {P : List Key} {a g : DB} (h : Lz P a g) (hnd : (Keys g.index).Nodup) (k : Key) :
    Lz (pendingAdd P k) (memdel a k) (memdel g k) := by
  have hia := (memdel_spec a k).1
  have hnda : (Keys a.index).Nodup := h.idx.keys ▸ hnd
  obtain ⟨c1, c2⟩ := h.change k (memdel a k).index
    (fun j rj hjk hl => by rw [hia, ilookup_ierase _ _ _ hnda, if_neg (Ne.symm hjk)] at hl; exact hl)
    (fun rj hl => by rw [hia, ilookup_ierase _ _ _ hnda, if_pos rfl] at hl; cases hl)
  refine ⟨?_, by rw [hia, (memdel_spec g k).1]; exact h.idx.ierase k, c1, c2, (memdel_eager g k).trans h.ge⟩
  rw [memdel_eq, memdel_eq, ← h.prvLen k]
  cases a; cases g; cases h.sh; rfl

/-! ### functions that look neither at the index nor at the ghost field -/

def IdxFree (f : DB → DB) : Prop := ∀ d i, f (reidx d i) = reidx (f d) i

theorem IdxFree.index {f : DB → DB} (hf : IdxFree f) (d : DB) : (f (reidx d d.index)).index = d.index := by
  rw [hf d d.index]; rfl

theorem idxFree_checkDat : IdxFree checkDat := by
  intro d i
  unfold checkDat reidx
  split <;> rfl

theorem idxFree_checkLog : IdxFree checkLog := by
  intro d i
  unfold checkLog reidx
  split <;> rfl

theorem fail_reidx (d : DB) (w : String) (i : List (Key × Rec)) : fail (reidx d i) w = reidx (fail d w) i := by
  unfold fail reidx
  dsimp only
  split <;> rfl

theorem idxFree_logWritten (b : Bytes) : IdxFree (fun d => logWritten d b) := by
  intro d i
  unfold logWritten
  simp only [idxFree_checkLog d i]
  rfl

/-! ### sync(): the real store may drop what it has just written -/

theorem syncKey_lz (d : DB) (ig : List (Key × Rec)) (b : Bytes) (k : Key) (hs : SubL d.index ig)
    (hl : ilookup k d.index = ilookup k ig)
    (hgf : ∀ r, ilookup k ig = some r → hasFlag r.flags (ncOf true) = false) :
    ∃ i', (syncKey (reidx d ig, b) k).1 = reidx (syncKey (d, b) k).1 i' ∧
      (syncKey (reidx d ig, b) k).2 = (syncKey (d, b) k).2 ∧ SubL (syncKey (d, b) k).1.index i' ∧
      (∀ j, j ≠ k → ilookup j d.index = ilookup j ig → ilookup j (syncKey (d, b) k).1.index = ilookup j i') ∧
      (∀ j, j ≠ k → ilookup j i' = ilookup j ig) := by
  have hfG : (reidx d ig).failed = d.failed := rfl
  have hiG : (reidx d ig).index = ig := rfl
  unfold syncKey
  simp only [hfG, hiG, ← hl]
  cases hf : d.failed with
  | some w => exact ⟨ig, rfl, rfl, hs, fun j _ hj => hj, fun _ _ => rfl⟩
  | none =>
    cases hk : ilookup k d.index with
    | none => exact ⟨ig, rfl, rfl, hs, fun j _ hj => hj, fun _ _ => rfl⟩
    | some rc =>
      dsimp only
      cases hd : rc.data with
      | none =>
        have hfi : (fail d "panic").index = d.index := by unfold fail; rw [hf]
        exact ⟨ig, fail_reidx d "panic" ig, rfl, hfi ▸ hs, fun j _ hj => hfi ▸ hj, fun _ _ => rfl⟩
      | some val =>
        have hgk := hgf rc (by rw [← hl]; exact hk)
        unfold syncRec
        have hee : (emit (reidx d ig) "qdb.sync:data-written" (.writeDat (reidx d ig).dataSeq (reidx d ig).lastPos val)).eager = true := rfl
        simp only [hee, hgk, Bool.false_eq_true, ↓reduceIte]
        refine ⟨iset k { rc with pos := u32 d.lastPos, seq := d.dataSeq } ig, rfl, rfl, ?_, ?_, ?_⟩
        · show SubL (Qdb.iset k _ d.index) (Qdb.iset k _ ig)
          apply hs.iset
          split
          · exact Or.inr rfl
          · exact Or.inl rfl
        · intro j hj hjl
          show ilookup j (Qdb.iset k _ d.index) = ilookup j (Qdb.iset k _ ig)
          rw [ilookup_iset, ilookup_iset, if_neg (Ne.symm hj), if_neg (Ne.symm hj), hjl]
        · intro j hj
          rw [ilookup_iset, if_neg (Ne.symm hj)]

theorem syncFold_lz (ks : List Key) (hnd : ks.Nodup) (d : DB) (ig : List (Key × Rec)) (b : Bytes) (hs : SubL d.index ig)
    (hks : ∀ k ∈ ks, ilookup k d.index = ilookup k ig)
    (hgf : ∀ k ∈ ks, ∀ r, ilookup k ig = some r → hasFlag r.flags (ncOf true) = false) :
    ∃ i', ks.foldl syncKey (reidx d ig, b) = (reidx (ks.foldl syncKey (d, b)).1 i', (ks.foldl syncKey (d, b)).2) ∧
      SubL (ks.foldl syncKey (d, b)).1.index i' := by
  induction ks generalizing d ig b with
  | nil => exact ⟨ig, rfl, hs⟩
  | cons k t ih =>
    simp only [List.foldl_cons]
    obtain ⟨hkt, hndt⟩ := List.nodup_cons.mp hnd
    obtain ⟨i1, e1, e2, s1, l1, l2⟩ := syncKey_lz d ig b k hs (hks k List.mem_cons_self) (hgf k List.mem_cons_self)
    rw [show syncKey (reidx d ig, b) k = (_, _) from Prod.ext e1 e2]
    have hne : ∀ k' ∈ t, k' ≠ k := fun k' hk' he => hkt (he ▸ hk')
    exact ih hndt (syncKey (d, b) k).1 i1 (syncKey (d, b) k).2 s1
      (fun k' hk' => l1 k' (hne k' hk') (hks k' (List.mem_cons_of_mem _ hk')))
      (fun k' hk' r hr => hgf k' (List.mem_cons_of_mem _ hk') r (by rw [← l2 k' (hne k' hk')]; exact hr))

/-! ### defrag(): every record is loaded and moved; the real store may drop what it has just moved -/

theorem bufWrite_reidx (sink : DB → Bytes → DB) (hsink : ∀ d b i, sink (reidx d i) b = reidx (sink d b) i)
    (d : DB) (w : BufW) (p : Bytes) (i : List (Key × Rec)) :
    bufWrite sink (reidx d i) w p = (reidx (bufWrite sink d w p).1 i, (bufWrite sink d w p).2) := by
  unfold bufWrite
  split
  · rfl
  · split
    · simp only [hsink]
    · dsimp only
      split <;> simp only [hsink]

theorem bufFlush_reidx (sink : DB → Bytes → DB) (hsink : ∀ d b i, sink (reidx d i) b = reidx (sink d b) i)
    (d : DB) (w : BufW) (i : List (Key × Rec)) :
    bufFlush sink (reidx d i) w = reidx (bufFlush sink d w) i := by
  unfold bufFlush
  split
  · rfl
  · exact hsink _ _ _

theorem bufWriteAll_reidx (sink : DB → Bytes → DB) (hsink : ∀ d b i, sink (reidx d i) b = reidx (sink d b) i)
    (ps : List Bytes) (d : DB) (w : BufW) (i : List (Key × Rec)) :
    bufWriteAll sink (reidx d i) w ps = (reidx (bufWriteAll sink d w ps).1 i, (bufWriteAll sink d w ps).2) := by
  unfold bufWriteAll
  induction ps generalizing d w with
  | nil => rfl
  | cons p t ih =>
    simp only [List.foldl_cons]
    rw [bufWrite_reidx sink hsink]
    exact ih _ _

theorem defragSink_reidx (S : Nat) (d : DB) (b : Bytes) (i : List (Key × Rec)) :
    defragSink S (reidx d i) b = reidx (defragSink S d b) i := rfl

theorem idxSink_reidx (j : Nat) (d : DB) (b : Bytes) (i : List (Key × Rec)) :
    idxSink j (reidx d i) b = reidx (idxSink j d b) i := rfl

theorem idxWrites_sub (la lg : List (Key × Rec)) (h : SubL la lg) (v : Nat) : idxWrites la v = idxWrites lg v := by
  unfold idxWrites
  congr 2
  induction la, lg, h using SubL.ind with
  | nil => rfl
  | cons ka ra rg ta tg hs ht ih =>
    obtain ⟨f1, f2, f3, f4⟩ := hs.fields
    simp only [List.flatMap_cons, f1, f2, f3, f4, ih]

theorem writedatfile_sub (x : DB) (ig : List (Key × Rec)) (h : SubL x.index ig) :
    writedatfile (reidx x ig) = reidx (writedatfile x) ig := by
  -- everything after the creation of the file, for any list `ws` of Write calls
  have key : ∀ (i : Nat) (d : DB) (ws : List Bytes),
      emit (emit { bufFlush (idxSink i) (bufWriteAll (idxSink i) (reidx d ig) {} ws).1
          (bufWriteAll (idxSink i) (reidx d ig) {} ws).2 with logOpen := false }
        "qdb.writedatfile:log-removed" .removeLog) "qdb.writedatfile:old-removed" (.removeIdx (1 - i)) =
      reidx (emit (emit { bufFlush (idxSink i) (bufWriteAll (idxSink i) d {} ws).1
          (bufWriteAll (idxSink i) d {} ws).2 with logOpen := false }
        "qdb.writedatfile:log-removed" .removeLog) "qdb.writedatfile:old-removed" (.removeIdx (1 - i))) ig := by
    intro i d ws
    rw [bufWriteAll_reidx _ (idxSink_reidx _), bufFlush_reidx _ (idxSink_reidx _)]
    rfl
  refine Eq.trans ?_ (key (1 - x.datIdx) (emit { x with datIdx := 1 - x.datIdx, verSeq := u32 (x.verSeq + 1) }
    "qdb.writedatfile:created" (.createIdx (1 - x.datIdx))) (idxWrites x.index (u32 (x.verSeq + 1))))
  rw [idxWrites_sub _ _ h]
  rfl

theorem cleanupold_comm (φ : DB → DB) (hfs : ∀ d, (φ d).fs = d.fs) (hds : ∀ d, (φ d).dataSeq = d.dataSeq)
    (he : ∀ d t e, φ (emit d t e) = emit (φ d) t e) (x : DB) (used : List Nat) :
    cleanupold (φ x) used = φ (cleanupold x used) := by
  unfold cleanupold
  rw [hfs]
  generalize (sortNat (x.fs.dats.map (·.1))) = l
  induction l generalizing x with
  | nil => rfl
  | cons s t ih =>
    simp only [List.foldl_cons]
    by_cases hc : s ≠ x.dataSeq ∧ ¬ used.contains s = true
    · rw [if_pos (by rw [hds]; exact hc), if_pos hc, ← he]
      exact ih _
    · rw [if_neg (by rw [hds]; exact hc), if_neg hc]
      exact ih x

theorem defragFinish_sub (S : Nat) (d : DB) (w : BufW) (accA accG ig : List (Key × Rec)) (h : SubL accA accG) :
    defragFinish S (reidx d ig) w accG = reidx (defragFinish S d w accA) accG := by
  unfold defragFinish
  have e1 : ({ reidx d ig with index := accG } : DB) = reidx { d with index := accA } accG := rfl
  have hemp : accG.isEmpty = accA.isEmpty := by
    have := h.length
    cases accA <;> cases accG <;> simp_all
  dsimp only
  rw [e1, bufFlush_reidx _ (defragSink_reidx S), writedatfile_sub _ _ (by
    rw [(frame_bufFlush _ (defragSink_framed S) _ w).index]; exact h),
    cleanupold_comm (reidx · accG) (fun _ => rfl) (fun _ => rfl) (fun _ _ _ => rfl), hemp]
  rfl

/-- the data files other than `S` -/
def offS (S : Nat) (F : FS) : Nat → Option Bytes := fun t => if t = S then none else dlookup t F.dats

theorem loadrec_offS (S : Nat) (F F' : FS) (r : Rec) (hr : r.seq ≠ S) (h : offS S F = offS S F') :
    Qdb.loadrec F r = Qdb.loadrec F' r := by
  have := congrFun h r.seq
  unfold offS at this
  simp only [hr, ↓reduceIte] at this
  unfold Qdb.loadrec
  rw [this]

theorem defragSink_offS (S : Nat) (d : DB) (b : Bytes) : offS S (defragSink S d b).fs = offS S d.fs := by
  have := defragSink_rest S d b
  unfold datRest at this
  simp only [Prod.mk.injEq] at this
  exact this.2.2.2.1

/-- one record of defrag's browse, on both sides -/
theorem defragRec_lz (S : Nat) (d : DB) (hf : d.failed = none) (w : BufW) (accA accG ig : List (Key × Rec)) (k : Key)
    (ra rg : Rec) (hla : Qdb.loadrec d.fs ra = some rg) (hlg : Qdb.loadrec d.fs rg = some rg)
    (hgf : hasFlag rg.flags (ncOf true) = false) :
    ∃ d' w' rA rG, Sub rA rG ∧ d'.failed = none ∧ offS S d'.fs = offS S d.fs ∧
      defragRec (defragSink S) (d, w, accA) (k, ra) = (d', w', accA ++ [(k, rA)]) ∧
      defragRec (defragSink S) (reidx d ig, w, accG) (k, rg) = (reidx d' ig, w', accG ++ [(k, rG)]) := by
  have hfr := frame_bufWrite (defragSink S) (defragSink_framed S) d w (rg.data.getD [])
  have hoff : offS S (bufWrite (defragSink S) d w (rg.data.getD [])).1.fs = offS S d.fs :=
    (bufWrite_gen (defragSink S) (datFile S) (fun x => offS S x.fs) (defragSink_file S)
      (defragSink_offS S) d w (rg.data.getD [])).2
  generalize hB : bufWrite (defragSink S) d w (rg.data.getD []) = B at hfr hoff
  refine ⟨{ B.1 with lastPos := B.1.lastPos + (rg.data.getD []).length }, B.2,
    freerec B.1.eager { rg with pos := u32 d.lastPos, seq := B.1.dataSeq },
    { rg with pos := u32 d.lastPos, seq := B.1.dataSeq }, freerec_sub _ _, hfr.failed.trans hf, hoff, ?_, ?_⟩ <;>
    unfold defragRec
  · simp only [hf, hla, hB]
  · have hfG : (reidx d ig).failed = none := hf
    have hfs : (reidx d ig).fs = d.fs := rfl
    simp only [hfG, hfs, hlg]
    rw [bufWrite_reidx _ (defragSink_reidx S), hB]
    have hlp : (reidx d ig).lastPos = d.lastPos := rfl
    simp only [hlp]
    rw [show ({ reidx B.1 ig with lastPos := (reidx B.1 ig).lastPos + (rg.data.getD []).length } : DB).eager
        = true from rfl, freerec_cached true _ (by exact hgf)]
    rfl

theorem defragFold_lz (S : Nat) (F0 : FS) (la lg : List (Key × Rec)) (hs : SubL la lg)
    (hc : ∀ k ra rg, (k, ra) ∈ la → (k, rg) ∈ lg → Sub ra rg → ∀ F, offS S F = offS S F0 →
      Qdb.loadrec F ra = some rg ∧ Qdb.loadrec F rg = some rg)
    (hgf : ∀ kr ∈ lg, hasFlag kr.2.flags (ncOf true) = false)
    (d : DB) (hf : d.failed = none) (w : BufW) (accA accG ig : List (Key × Rec)) (hacc : SubL accA accG)
    (hd : offS S d.fs = offS S F0) :
    ∃ d' w' rA rG, SubL rA rG ∧ d'.failed = none ∧
      la.foldl (defragRec (defragSink S)) (d, w, accA) = (d', w', rA) ∧
      lg.foldl (defragRec (defragSink S)) (reidx d ig, w, accG) = (reidx d' ig, w', rG) := by
  induction la, lg, hs using SubL.ind generalizing d w accA accG with
  | nil => exact ⟨d, w, accA, accG, hacc, hf, rfl, rfl⟩
  | cons ka ra rg ta tg hsub ht ih =>
    obtain ⟨l1, l2⟩ := hc ka ra rg List.mem_cons_self List.mem_cons_self hsub d.fs hd
    obtain ⟨d1, w1, rA, rG, hsr, hf1, ho1, ea, eg'⟩ :=
      defragRec_lz S d hf w accA accG ig ka ra rg l1 l2 (hgf (ka, rg) List.mem_cons_self)
    simp only [List.foldl_cons, ea, eg']
    exact ih (fun k r1 r2 h1 h2 h3 => hc k r1 r2 (List.mem_cons_of_mem _ h1) (List.mem_cons_of_mem _ h2) h3)
      (fun kr hkr => hgf kr (List.mem_cons_of_mem _ hkr)) d1 hf1 w1 _ _ (hacc.snoc ka rA rG hsr) (ho1.trans hd)

theorem idxFree_defragStart : IdxFree defragStart := by
  intro d i
  unfold defragStart
  exact idxFree_checkDat { d with dataSeq := u32 (d.dataSeq + 1), datOpen := false } i

theorem defragStart_offS (d : DB) : offS (u32 (d.dataSeq + 1)) (defragStart d).fs = offS (u32 (d.dataSeq + 1)) d.fs := by
  unfold defragStart checkDat
  simp only [Bool.false_eq_true, ↓reduceIte]
  unfold offS emit FS.apply
  funext t
  by_cases ht : t = u32 (d.dataSeq + 1)
  · simp [ht]
  · simp only [ht, ↓reduceIte, dlookup_dset_same]
    rw [dlookup_dset_other _ _ _ _ ht, dlookup_dset_other _ _ _ _ ht]

/-- defrag() on both sides: same file operations; afterwards nothing is pending and what the real store dropped
    again is on disk. `hseqs`: no record of the real store lives in the data file defrag is about to create. -/
theorem defrag_lz {P : List Key} {a g : DB} (h : Lz P a g) (hc : Cached g) (hnd : (Keys g.index).Nodup)
    (hl : Loads a g) (hseqs : ∀ k r, ilookup k a.index = some r → r.data = none → r.seq ≠ u32 (a.dataSeq + 1)) :
    Lz [] (defrag a) (defrag g) := by
  have hS : (defragStart a).dataSeq = u32 (a.dataSeq + 1) := (defragStart_disk a).2.2.1
  have hai : (defragStart a).index = a.index := (defragStart_disk a).2.2.2.1
  have haf : (defragStart a).failed = none := (defragStart_disk a).2.2.2.2.1.trans (h.failed.trans hc.1)
  have hnda : (Keys a.index).Nodup := by rw [h.idx.keys]; exact hnd
  have hcc : ∀ k ra rg, (k, ra) ∈ a.index → (k, rg) ∈ g.index → Sub ra rg → ∀ F,
      offS (u32 (a.dataSeq + 1)) F = offS (u32 (a.dataSeq + 1)) (defragStart a).fs →
      Qdb.loadrec F ra = some rg ∧ Qdb.loadrec F rg = some rg := by
    intro k ra rg hma hmg hsub F hF
    have hla := ilookup_of_mem_nodup a.index hnda k ra hma
    have hlg := ilookup_of_mem_nodup g.index hnd k rg hmg
    have hcg := allCached_lookup hc.2 k rg hlg
    refine ⟨?_, loadrec_cached F rg hcg⟩
    rcases hsub with rfl | hra
    · exact loadrec_cached F ra hcg
    · have hne := hseqs k ra hla (by rw [hra])
      rw [loadrec_offS _ F a.fs ra hne (hF.trans (defragStart_offS a))]
      exact hl k ra rg hla hlg (Or.inr hra)
  obtain ⟨d', w', rA, rG, hsr, hf', ea, eg'⟩ := defragFold_lz (u32 (a.dataSeq + 1)) (defragStart a).fs a.index g.index
    h.idx hcc (fun kr hkr => h.ge ▸ (hc.2 kr hkr).2) (defragStart a) haf {} [] [] g.index trivial rfl
  have hda : defrag a = defragFinish (u32 (a.dataSeq + 1)) d' w' rA := by
    unfold defrag
    dsimp only
    rw [hS, hai, ea]
    simp only [hf']
  have hdg : defrag g = reidx (defragFinish (u32 (a.dataSeq + 1)) d' w' rA) rG := by
    rw [← h.g_reidx]
    unfold defrag
    dsimp only
    rw [idxFree_defragStart a g.index]
    have e1 : (reidx (defragStart a) g.index).dataSeq = u32 (a.dataSeq + 1) := hS
    have e2 : (reidx (defragStart a) g.index).index = g.index := rfl
    rw [e1, e2, eg']
    have hfg : (reidx d' g.index).failed = none := hf'
    simp only [hfg]
    exact defragFinish_sub _ d' w' rA rG g.index hsr
  rw [hda, hdg]
  apply Lz.of_reidx
  rw [(defragFinish_spec _ d' w' rA).1]
  exact hsr

/-- a record that is not in memory lives in a data file older than the one defrag creates -/
theorem Lz.lazy_seq {P : List Key} {a g : DB} (h : Lz P a g) (G : DB) (hi : G.index = g.index)
    (hp : G.pending = P) (hds : G.dataSeq = g.dataSeq) (h3 : Inv3 G) (hseq : G.dataSeq + 1 < 2^32) :
    ∀ k r, ilookup k a.index = some r → r.data = none → r.seq ≠ u32 (a.dataSeq + 1) := by
  intro k ra hla hd
  rcases h.idx.lookup k with ⟨h1, _⟩ | ⟨ra', rg, h1, h2, hs⟩ <;> rw [h1] at hla <;> cases hla
  have hcl := h3.inv.clean k (hp ▸ h.np k ra h1 hd)
  rw [hi, h2] at hcl
  obtain ⟨rd, hdi, hcl⟩ := Option.map_eq_some_iff.mp hcl
  simp only [core, Prod.mk.injEq] at hcl
  have hle := h3.i2.seqs (k, rd) (ilookup_key_pair k rd _ hdi)
  have hu : u32 (a.dataSeq + 1) = a.dataSeq + 1 := Nat.mod_eq_of_lt (by rw [h.dataSeq, ← hds]; exact hseq)
  rw [hu, hs.fields.1, h.dataSeq, ← hds, ← hcl.1]
  exact Nat.ne_of_lt (Nat.lt_succ_of_le hle)

theorem sync_lz {a g : DB} (h : Lz a.pending a g) (h3 : Inv3 g) (hs : SizeOK g) (hseq : g.dataSeq + 1 < 2^32) :
    Lz (sync a).pending (sync a) (sync g) := by
  have inv := h3.inv
  have hva : a.volatile = false := h.volatile.trans inv.nv
  cases hp : g.pending.isEmpty with
  | true =>
    have e1 : sync g = g := by unfold sync; simp [inv.nv, hp]
    have e2 : sync a = a := by unfold sync; simp [hva, h.pending, hp]
    rw [e1, e2]; exact h
  | false =>
    obtain ⟨L, hL, h3L, _, pL, _, _, hLds, hLdef, _⟩ := sync_logWritten3 g h3 hp hs
    have hcd : checkDat g = reidx (checkDat a) g.index := by
      rw [← h.g_reidx]; exact idxFree_checkDat a g.index
    have hks : ∀ k ∈ a.pending, ilookup k (checkDat a).index = ilookup k g.index := by
      intro k hk
      rw [(frame_checkDat a).index]
      rcases h.idx.lookup k with ⟨h1, h2⟩ | ⟨ra, rg, h1, h2, rfl | hra⟩
      · rw [h1, h2]
      · rw [h1, h2]
      · exact absurd hk (h.np k ra h1 (by rw [hra]))
    obtain ⟨i', f1, f3⟩ := syncFold_lz a.pending (by rw [h.pending]; exact inv.pnodup) (checkDat a) g.index []
      (by rw [(frame_checkDat a).index]; exact h.idx) hks
      (fun k _ r hr => h.ge ▸ (allCached_lookup inv.cached.2 k r hr).2)
    generalize hFa : a.pending.foldl syncKey (checkDat a, []) = Fa at f1 f3
    have hFg : g.pending.foldl syncKey (checkDat g, []) = (reidx Fa.1 i', Fa.2) := by
      rw [← h.pending, hcd]; exact f1
    rw [hFg] at hLdef
    have hLM : L = reidx (logWritten Fa.1 Fa.2) i' := by
      rw [hLdef]; exact idxFree_logWritten Fa.2 Fa.1 i'
    have hfr := frame_checkLog Fa.1
    have hM : Lz [] (logWritten Fa.1 Fa.2) L := by
      rw [hLM]
      apply Lz.of_reidx
      show SubL (checkLog Fa.1).index i'
      rw [hfr.index]; exact f3
    have hFaf : Fa.1.failed = none := hfr.failed.symm.trans (hM.failed.trans h3L.inv.cached.1)
    have ea : sync a = (if L.extra > mul64 L.opts.forcedPerc L.need / 100
        then defrag (logWritten Fa.1 Fa.2) else logWritten Fa.1 Fa.2) := by
      unfold sync
      rw [if_neg (by simp [hva]), if_neg (by rw [h.pending]; simp [hp])]
      simp only [hFa, hFaf]
      rw [hLM]
      rfl
    have R : Lz [] (sync a) (sync g) := by
      rw [ea, hL]
      split
      · exact defrag_lz hM h3L.inv.cached h3L.inv.nodup (hM.loads L rfl rfl pL h3L.inv)
          (hM.lazy_seq L rfl pL rfl h3L (by rw [hLds]; exact hseq))
      · exact hM
    have hpe : (sync a).pending = [] := R.pending.trans (sync_inv g inv hs).2.2.1
    rw [hpe]
    exact R

/-! ### Browse: the real store may drop what it has just shown -/

theorem freerec_pos (e : Bool) (r : Rec) : (freerec e r).pos = r.pos := by
  unfold freerec; split <;> rfl

theorem freerec_none (e : Bool) (r : Rec) (hd : r.data.isSome = true) (h : (freerec e r).data = none) : r.pos ≠ 0 := by
  unfold freerec at h
  split at h
  · rename_i hc
    simp only [Bool.and_eq_true, bne_iff_ne, ne_eq] at hc
    exact hc.2
  · rw [h] at hd; cases hd

/-- the index Browse leaves in the real store (`ea` is its ghost field): skipped records stay, visited ones are
    loaded, flagged, and possibly dropped again -/
def mixL (all : Bool) (w : List (Key × Nat)) (vs : Option (List Key)) (ea : Bool) : List (Key × Rec) → List (Key × Rec) → List (Key × Rec)
  | (ka, ra) :: ta, (kg, rg) :: tg =>
      (if skipB all vs rg.flags kg then (ka, ra)
       else (kg, freerec ea { rg with flags := applyBrowsingFlags rg.flags (walkRes w kg) })) :: mixL all w vs ea ta tg
  | _, _ => []

theorem mixL_subL (all : Bool) (w : List (Key × Nat)) (vs : Option (List Key)) (ea : Bool) (la lg : List (Key × Rec)) (h : SubL la lg) :
    SubL (mixL all w vs ea la lg) (lg.map (browseRec all w vs)) := by
  induction la, lg, h using SubL.ind with
  | nil => trivial
  | cons ka ra rg ta tg hs ht ih =>
    simp only [mixL, List.map_cons, browseRec]
    by_cases hb : skipB all vs rg.flags ka = true
    · simp only [hb, ↓reduceIte]
      exact ⟨rfl, hs, ih⟩
    · simp only [hb, Bool.false_eq_true, ↓reduceIte]
      exact ⟨rfl, freerec_sub _ _, ih⟩

/-- a record of the new index comes from a record of the old one at the same place on disk; if it is not in memory,
    the old one was not in memory or is on disk -/
theorem mixL_lookup (all : Bool) (w : List (Key × Nat)) (vs : Option (List Key)) (ea : Bool) (la lg : List (Key × Rec)) (h : SubL la lg)
    (hc : ∀ kr ∈ lg, kr.2.data.isSome = true) (k : Key) (r : Rec) (hl : ilookup k (mixL all w vs ea la lg) = some r) :
    ∃ ra, ilookup k la = some ra ∧ ra.pos = r.pos ∧ (r.data = none → ra.data = none ∨ ra.pos ≠ 0) := by
  induction la, lg, h using SubL.ind with
  | nil => simp [mixL, ilookup] at hl
  | cons ka ra rg ta tg hs ht ih =>
    have hcg := hc (ka, rg) List.mem_cons_self
    simp only [mixL] at hl
    by_cases hk : ka = k
    · subst hk
      by_cases hb : skipB all vs rg.flags ka = true
      · simp only [hb, ↓reduceIte, ilookup] at hl ⊢
        cases hl
        exact ⟨_, rfl, rfl, fun hd => Or.inl hd⟩
      · simp only [hb, Bool.false_eq_true, ↓reduceIte, ilookup] at hl ⊢
        cases hl
        refine ⟨ra, rfl, ?_, fun hd => Or.inr ?_⟩
        · rw [freerec_pos]; exact hs.fields.2.1
        · have := freerec_none ea { rg with flags := applyBrowsingFlags rg.flags (walkRes w ka) } hcg hd
          rw [hs.fields.2.1]; exact this
    · split at hl <;> simp only [ilookup, hk, ↓reduceIte] at hl ⊢ <;>
        exact ih (fun x hx => hc x (List.mem_cons_of_mem _ hx)) hl

theorem browseFold_lz (all : Bool) (w : List (Key × Nat)) (vs : Option (List Key)) (db : DB) (hf : db.failed = none)
    (la lg : List (Key × Rec)) (hs : SubL la lg)
    (hload : ∀ k ra rg, (k, ra) ∈ la → (k, rg) ∈ lg → Sub ra rg → Qdb.loadrec db.fs ra = some rg)
    (acc : List (Key × Rec)) (out : List (Key × Bytes)) :
    la.foldl (browseStep all w vs) (db, acc, out) =
      (db, acc ++ mixL all w vs db.eager la lg, out ++ lg.filterMap (browseOut all vs)) := by
  induction la, lg, hs using SubL.ind generalizing acc out with
  | nil => simp [mixL]
  | cons ka ra rg ta tg hsub ht ih =>
    have hstep : browseStep all w vs (db, acc, out) (ka, ra) =
        (db, acc ++ [if skipB all vs rg.flags ka then (ka, ra)
          else (ka, freerec db.eager { rg with flags := applyBrowsingFlags rg.flags (walkRes w ka) })],
         out ++ (browseOut all vs (ka, rg)).toList) := by
      unfold browseStep browseOut
      simp only [hf, hsub.fields.2.2.2]
      by_cases hb : skipB all vs rg.flags ka = true
      · simp [hb]
      · simp only [hb]
        rw [hload ka ra rg List.mem_cons_self List.mem_cons_self hsub]
        simp
    simp only [List.foldl_cons, hstep]
    rw [ih (fun k r1 r2 h1 h2 h3 => hload k r1 r2 (List.mem_cons_of_mem _ h1) (List.mem_cons_of_mem _ h2) h3)]
    simp only [mixL, List.filterMap_cons]
    cases hb : browseOut all vs (ka, rg) <;> simp

/-- eligibility looks at keys and flag words only: the real store's index and its ghost's give the same visit set -/
theorem eligible_subL (all : Bool) {la lg : List (Key × Rec)} (h : SubL la lg) (k : Key) :
    eligible Rec.flags all la k = eligible Rec.flags all lg k := by
  unfold eligible
  rcases h.lookup k with ⟨h1, h2⟩ | ⟨ra, rg, h1, h2, hs⟩ <;> rw [h1, h2]
  simp only [hs.fields.2.2.2]

theorem browseGen_lz (all : Bool) {P : List Key} {a g : DB} (h : Lz P a g) (hc : Cached g) (hnd : (Keys g.index).Nodup)
    (hl : Loads a g) (w : List (Key × Nat)) (hw : WalkOK true w) :
    Lz P (browseGen all a w).1 (browseGen all g w).1 ∧ (browseGen all a w).2 = (browseGen all g w).2 := by
  have hfa : a.failed = none := h.failed.trans hc.1
  obtain ⟨g1, g2⟩ := browseGen_cached all g w hc (by rw [h.ge]; exact hw)
  have hvs : visitSet Rec.flags all a.index w = vsOf all g w := visitSetAux_congr _ _ (eligible_subL all h.idx) w []
  generalize vsOf all g w = vs at hvs g1 g2
  have hfold := browseFold_lz all w vs a hfa a.index g.index h.idx
    (fun k ra rg h1 h2 h3 => hl k ra rg (ilookup_of_mem_nodup _ (by rw [h.idx.keys]; exact hnd) k ra h1)
      (ilookup_of_mem_nodup _ hnd k rg h2) h3) [] []
  have ea : browseGen all a w = ({ a with index := mixL all w vs a.eager a.index g.index }, g.index.filterMap (browseOut all vs)) := by
    unfold browseGen
    simp only [hfa, Option.isSome_none, Bool.false_eq_true, ↓reduceIte]
    rw [hvs, hfold]
    simp [hfa]
  rw [ea, g1, g2]
  have hm := mixL_lookup all w vs a.eager _ _ h.idx (fun kr hkr => (hc.2 kr hkr).1)
  refine ⟨⟨h.sh, mixL_subL all w vs _ _ _ h.idx, fun k r hlk hd => ?_, fun k r hlk hp => ?_, h.ge⟩, rfl⟩
  · obtain ⟨ra, h1, _, h3⟩ := hm k r hlk
    exact (h3 hd).elim (h.np k ra h1) (h.pz k ra h1)
  · obtain ⟨ra, h1, h2, _⟩ := hm k r hlk
    exact h.pz k ra h1 (by rw [h2]; exact hp)

/-! ### every operation of a non-volatile store other than a reopen -/

theorem Lz.cast {P Q : List Key} {a g : DB} (h : Lz P a g) (e : P = Q) : Lz Q a g := e ▸ h

theorem Lz.setNoSync {P : List Key} {a g : DB} (h : Lz P a g) (b : Bool) :
    Lz P { a with noSync := b } { g with noSync := b } :=
  { h with sh := congrArg (fun d : DB => { d with noSync := b }) h.sh }

theorem syncneeded_lz {P : List Key} {a g : DB} (h : Lz P a g) : syncneeded a = syncneeded g := by
  have ho : a.opts = g.opts := (congrArg DB.opts h.sh : (shell a).opts = (shell g).opts)
  unfold syncneeded
  rw [h.volatile, h.pending, ho, h.noSync]

theorem addPending_lz {P : List Key} {Ma Mg : DB} (k : Key) (h : Lz P Ma Mg) (hp : pendingAdd Ma.pending k = P) :
    Lz (addPending Ma k).pending (addPending Ma k) (addPending Mg k) := by
  subst hp
  rw [addPending_same, addPending_same, ← h.pending]
  exact { h with sh := congrArg (fun d : DB => { d with pending := pendingAdd Ma.pending k }) h.sh }

theorem afterChange_lz {P : List Key} {Ma Mg : DB} (k : Key) (hM : Lz P Ma Mg) (hp : pendingAdd Ma.pending k = P)
    (h3 : Inv3 (addPending Mg k)) (hs : SizeOK (addPending Mg k)) (hseq : (addPending Mg k).dataSeq + 1 < 2^32) :
    Lz (afterChange Ma k).pending (afterChange Ma k) (afterChange Mg k) := by
  have h := addPending_lz k hM hp
  have hvg : Mg.volatile = false := by rw [← h3.inv.nv, addPending_same]
  unfold afterChange
  simp only [hM.volatile.trans hvg, hvg, Bool.false_eq_true, ↓reduceIte]
  rw [syncneeded_lz h]
  split
  · exact sync_lz h h3 hs hseq
  · exact h

theorem step_lz {a g : DB} (h : Lz a.pending a g) (h3 : Inv3 g) (op : Op) (hnr : ∀ x y z, op ≠ .reopen x y z)
    (ok : OpOK true op) (fits : OpFits g op) (hseq : (preSync g op).dataSeq + 1 < 2^32) :
    Lz (step a op).pending (step a op) (step g op) := by
  have inv := h3.inv
  have hfa : a.failed = none := h.failed.trans inv.cached.1
  have hva : a.volatile = false := h.volatile.trans inv.nv
  have hl : Loads a g := h.loads g rfl rfl h.pending.symm inv
  have hput : ∀ k v f, OpOK g.eager (.putExt k v f) → OpFits g (.putExt k v f) →
      (preSync g (.putExt k v f)).dataSeq + 1 < 2^32 →
      Lz (putExt a k v f).pending (putExt a k v f) (putExt g k v f) := by
    intro k v f okf ft hsq
    rw [putExt_ok a k v f hfa, putExt_ok g k v f inv.cached.1]
    exact afterChange_lz k (memput_lz h k (newRec v f) rfl rfl) (by rw [memput_eq])
      (preSync_inv3 g h3 (.putExt k v f) okf ft) ft.2.2.2 hsq
  cases op with
  | reopen x y z => exact absurd rfl (hnr x y z)
  | put k v => exact hput k v 0 (zeroFlags_ok _) ⟨fits.1, fits.2.1, by decide, fits.2.2⟩ hseq
  | putExt k v f => exact hput k v f (by rw [h.ge]; exact ok) fits hseq
  | del k =>
    show Lz (del a k).pending (del a k) (del g k)
    rw [del_ok a k hfa, del_ok g k inv.cached.1]
    exact afterChange_lz k (memdel_lz h inv.nodup k) (by rw [memdel_eq])
      (preSync_inv3 g h3 (.del k) trivial fits) fits.2 hseq
  | get k =>
    exact (get_lz h inv.cached hl k).1.cast (get_keeps a k).2.2.symm
  | browse w =>
    exact (browseGen_lz false h inv.cached inv.nodup hl w ok).1.cast (browseGen_keeps false a w).2.2.symm
  | applyFlags k fl =>
    exact (applyFlags_lz h inv.cached k fl).cast (applyFlags_keeps a k fl).2.2.symm
  | noSync =>
    rw [show step a .noSync = _ from noSyncOp_nv a hfa hva, show step g .noSync = _ from noSyncOp_nv g inv.cached.1 inv.nv]
    exact h.setNoSync true
  | sync =>
    rw [show step a .sync = _ from syncOp_nv a hfa hva, show step g .sync = _ from syncOp_nv g inv.cached.1 inv.nv]
    exact sync_lz (h.setNoSync false) ⟨inv_noSync g inv false, inv2_same h3.i2 rfl rfl rfl rfl⟩ fits hseq
  | defrag f =>
    show Lz (defragOp a f).1.pending (defragOp a f).1 (defragOp g f).1
    have hx : a.extra = g.extra := (congrArg DB.extra h.sh : (shell a).extra = (shell g).extra)
    have hn : a.need = g.need := (congrArg DB.need h.sh : (shell a).need = (shell g).need)
    have ho : a.opts = g.opts := (congrArg DB.opts h.sh : (shell a).opts = (shell g).opts)
    rw [defragOp_nv a f hfa hva, defragOp_nv g f inv.cached.1 inv.nv, hx, hn, ho]
    split
    · have r := defrag_lz h inv.cached inv.nodup hl (h.lazy_seq g rfl h.pending.symm rfl h3 hseq)
      have hp : (defrag a).pending = [] :=
        r.pending.trans (defrag_inv g inv.cached inv.nv ⟨inv.cached.2, inv.wf, inv.nodup, fits.2⟩).2.2
      rw [hp]; exact r
    · exact h

/-! ### NewDBExt: `NewDBidx` does not look at the ghost field; `load` skips what the real store need not hold -/

def setE (d : DB) (e : Bool) : DB := { d with eager := e }

theorem openIndex_setE (F : FS) (vol : Bool) (opts : Opts) (eg e : Bool) :
    openIndex { fs := F, volatile := vol, opts := opts, eager := e } =
      setE (openIndex { fs := F, volatile := vol, opts := opts, eager := eg }) e := by
  obtain ⟨x, n, m, h, _⟩ := openIndex_eq F vol opts
  rw [h e, h eg]
  exact Eq.trans (by rfl) (cleanupold_comm (setE · e) (fun _ => rfl) (fun _ => rfl) (fun _ _ _ => rfl) _ _)

theorem loadedRec_sub (fs : FS) (r : Rec) (hd : r.data = none) : Sub r (loadedRec fs r) := by
  refine Or.inr ?_
  unfold loadedRec
  cases r
  simp only at hd
  simp [hd]

/-- `load` in the real store: every record ends up loaded or stays as it is (not in memory) -/
theorem loadFold_sub (l : List (Key × Rec)) (hn : NoData l) (d : DB) (hf : d.failed = none)
    (hl : ∀ kr ∈ l, ∃ f v, dlookup kr.2.seq d.fs.dats = some f ∧ ReadsBack f kr.2 v) (acc : List (Key × Rec)) :
    ∃ l', l.foldl loadOne (d, acc) = (d, acc ++ l') ∧ SubL l' (mapV (loadedRec d.fs) l) := by
  induction l generalizing acc with
  | nil => exact ⟨[], by simp, trivial⟩
  | cons kr t ih =>
    have hsub := loadedRec_sub d.fs kr.2 (hn kr List.mem_cons_self)
    obtain ⟨r', hstep, hs'⟩ : ∃ r', loadOne (d, acc) kr = (d, acc ++ [(kr.1, r')]) ∧ Sub r' (loadedRec d.fs kr.2) := by
      by_cases hflag : hasFlag kr.2.flags (ncOf d.eager) = true
      · refine ⟨kr.2, ?_, hsub⟩
        unfold loadOne
        simp only [hf, hflag, ↓reduceIte]
      · exact ⟨_, loadFold_general [kr] d hf rfl (fun x hx => by
          rw [List.mem_singleton.mp hx]; exact ⟨by simpa using hflag, hl kr List.mem_cons_self⟩) acc, Sub.refl _⟩
    obtain ⟨l', e1, e2⟩ := ih (fun x hx => hn x (List.mem_cons_of_mem _ hx))
      (fun x hx => hl x (List.mem_cons_of_mem _ hx)) (acc ++ [(kr.1, r')])
    exact ⟨(kr.1, r') :: l', by simp only [List.foldl_cons, hstep, e1, List.append_assoc, List.singleton_append],
      rfl, hs', e2⟩

theorem subL_loaded (fs : FS) (l : List (Key × Rec)) (h : NoData l) : SubL l (mapV (loadedRec fs) l) := by
  induction l with
  | nil => trivial
  | cons x t ih =>
    exact ⟨rfl, loadedRec_sub fs x.2 (h x List.mem_cons_self), ih (fun kr hkr => h kr (List.mem_cons_of_mem _ hkr))⟩

/-- NewDBExt of the real store (any LoadData, any ghost field) against NewDBExt(LoadData) of the eager ghost -/
theorem open_lz (F : FS) (vol load : Bool) (opts : Opts) (ea : Bool) (h : OpenOK true F) :
    Lz [] (openDB F vol load opts ea) (openDB F vol true opts true) := by
  obtain ⟨F', _, S, _, _, _, hR, _⟩ := openOK_state F vol opts h
  have hXe := openIndex_eager (eg := true) F vol opts
  have hXa := openIndex_setE F vol opts true ea
  generalize hX : openIndex { fs := F, volatile := vol, opts := opts, eager := true } = X at S hXe hXa
  have hload := loadAll_of_openState F' vol X S hR hXe
  have hreads : ∀ kr ∈ diskIndex F', ∃ f v, dlookup kr.2.seq (setE X ea).fs.dats = some f ∧ ReadsBack f kr.2 v := by
    intro kr hkr
    obtain ⟨_, f, v, h3, h4⟩ := hR kr hkr
    exact ⟨f, v, by show dlookup kr.2.seq X.fs.dats = _; rw [S.dats kr hkr]; exact h3, h4⟩
  rw [openDB_of_loadAll hX hload]
  cases load with
  | false =>
    have ea2 : openDB F vol false opts ea = { setE X ea with dataSeq := u32 (X.maxSeq + 1) } := by
      unfold openDB
      simp only [Bool.false_eq_true, ↓reduceIte]
      rw [hXa]
      rfl
    rw [ea2]
    refine ⟨rfl, ?_, fun _ _ _ _ => List.not_mem_nil, fun _ _ _ _ => List.not_mem_nil, hXe⟩
    show SubL X.index _
    rw [S.index]
    exact subL_loaded X.fs _ (diskIndex_noData F')
  | true =>
    obtain ⟨l', e1, e2⟩ := loadFold_sub (diskIndex F') (diskIndex_noData F') (setE X ea) S.failed hreads []
    have hla : loadAll (setE X ea) = { setE X ea with index := l' } := by
      unfold loadAll
      rw [show (setE X ea).index = _ from S.index, e1]
      simp only [show (setE X ea).failed = none from S.failed, List.nil_append]
    rw [openDB_of_loadAll hXa hla]
    exact ⟨rfl, e2, fun _ _ _ _ => List.not_mem_nil, fun _ _ _ _ => List.not_mem_nil, hXe⟩

/-! ### the eager twin of a history -/

/-- the same operation with LoadData = true (the flags stay as they are) -/
def twinOp : Op → Op
  | .reopen v _ o => .reopen v true o
  | op => op

def twinItem : HItem → HItem
  | .op o => .op (twinOp o)
  | .crash o n ms vol opts => .crash (twinOp o) n ms vol opts

/-- the same history in which every NewDBExt loads the data at once — run by the eager ghost -/
def twin (H : List HItem) : List HItem := H.map twinItem

/-- what a walk function of Browse may return: ANY 32-bit word — NO_CACHE, NO_BROWSE, YES_CACHE, YES_BROWSE, every
    meaningless bit, and BR_ABORT in any combination with them. When an answer carries BR_ABORT the order of the list is
    the order in which Go's map iteration presents the listed keys (`visitSet` in Model/Qdb.lean): the theorems that
    assume `WalkOK5` hold for every list, i.e. for every order Go can take and every point at which the browse can stop. -/
def WalkOK5 (w : List (Key × Nat)) : Prop := ∀ kf ∈ w, kf.2 < 2^32

/-- the operations of the real store: ANY flags (32-bit, NO_CACHE included) in PutExt / ApplyFlags / walk results,
    Close + NewDBExt in ANY mode with ANY LoadData -/
def OpOK5 : Op → Prop
  | .putExt _ _ f => f < 2^32
  | .applyFlags _ fl => fl < 2^32
  | .browse w => WalkOK5 w
  | _ => True

theorem hasFlag_big32 (x : Nat) (h : x < 2^32) : hasFlag x (ncOf true) = false :=
  hasFlag_big_of_lt x (Nat.lt_trans h (by decide))

theorem opOK3_twin (op : Op) (h : OpOK5 op) : OpOK3 true (twinOp op) := by
  cases op with
  | putExt k v f => exact hasFlag_big32 f h
  | applyFlags k fl => exact hasFlag_big32 fl h
  | browse w => exact fun kf hkf => hasFlag_big32 kf.2 (h kf hkf)
  | reopen vol load opts => rfl
  | put k v | del k | get k | defrag f | sync | noSync => trivial

/-- the real store `a` and its eager ghost `g`, non-volatile mode -/
def TwinN (a g : DB) : Prop := Lz a.pending a g ∧ Inv3 g

/-- the real store `a` and its eager ghost `g`, volatile mode: `P` are the keys changed since NewDBExt. Two different things
    are called ghost here: `g` is the EAGER ghost of `a` (same store, field `eager = true`), and `ghost g P` (Proofs/C19Vol) is the
    non-volatile store that shadows the volatile `g` — the shadow of the eager ghost. -/
def TwinV (a g : DB) : Prop :=
  VInv g ∧ ∃ P, Inv3 (ghost g P) ∧ (g.noSync = false → P = []) ∧ Lz P a g

def Twin (a g : DB) : Prop := TwinN a g ∨ TwinV a g

theorem Twin.sinv {a g : DB} (h : Twin a g) : SInv g := Or.imp And.right And.left h

theorem Twin.ge {a g : DB} (h : Twin a g) : g.eager = true := by
  rcases h with ⟨h, _⟩ | ⟨_, P, _, _, h⟩ <;> exact h.ge

theorem Twin.fs {a g : DB} (h : Twin a g) : a.fs = g.fs := by
  rcases h with ⟨h, _⟩ | ⟨_, P, _, _, h⟩ <;> exact h.fs

theorem Twin.effs {a g : DB} (h : Twin a g) : a.effs = g.effs := by
  rcases h with ⟨h, _⟩ | ⟨_, P, _, _, h⟩ <;> exact h.effs

/-! #### NewDBExt after a close or a crash, into either mode -/

theorem lz_effs {P : List Key} {a g : DB} (h : Lz P a g) (E : List (String × Effect)) :
    Lz P { a with effs := E ++ a.effs } { g with effs := E ++ g.effs } :=
  { h with sh := congrArg (fun d : DB => { d with effs := E ++ d.effs }) h.sh }

theorem openDB_twin (F : FS) (vol load : Bool) (opts : Opts) (ea : Bool) (h : OpenOK true F)
    (hmax : (openIndex { fs := F, volatile := vol, opts := opts, eager := true }).maxSeq + 1 < 2^32) :
    Twin (openDB F vol load opts ea) (openDB F vol true opts true) := by
  have ho := open_lz F vol load opts ea h
  cases vol with
  | false =>
    obtain ⟨h3, hp⟩ := open_inv3g F opts h hmax
    exact Or.inl ⟨ho.cast (ho.pending.trans hp).symm, h3⟩
  | true =>
    obtain ⟨hV, hns, _⟩ := open_vinv F opts h hmax
    obtain ⟨P, h3, hP⟩ := hV.gh
    exact Or.inr ⟨hV, P, h3, hP, ho.cast (hP hns).symm⟩

theorem Twin.prefix {a g : DB} (h : Twin a g) (E : List (String × Effect)) :
    Twin { a with effs := E ++ a.effs } { g with effs := E ++ g.effs } := by
  rcases h with ⟨hl, h3⟩ | ⟨hV, P, h3, hP, hl⟩
  · exact Or.inl ⟨lz_effs hl E, inv3_effs _ h3 _⟩
  · exact Or.inr ⟨vinv_effs hV _, P, inv3_effs _ h3 _, hP, lz_effs hl E⟩

theorem open_twin (F : FS) (vol load : Bool) (opts : Opts) (ea : Bool) (E : List (String × Effect)) (h : OpenOK true F)
    (hmax : (openIndex { fs := F, volatile := vol, opts := opts, eager := true }).maxSeq + 1 < 2^32) :
    Twin { openDB F vol load opts ea with effs := E ++ (openDB F vol load opts ea).effs }
      { openDB F vol true opts true with effs := E ++ (openDB F vol true opts true).effs } :=
  (openDB_twin F vol load opts ea h hmax).prefix E

/-! #### Close -/

/-- Close of the real store and of its ghost leave the same directory, by the same file operations -/
theorem close_twin (a g : DB) (h : Twin a g) (hs : SizeOK g) (hd : DFits g) :
    (close a).failed = none ∧ (close a).fs = (close g).fs ∧ (close a).effs = (close g).effs ∧ Closed g := by
  rcases h with ⟨hl, h3⟩ | ⟨hV, P, h3, hP, hl⟩
  · have inv := h3.inv
    have hsl := sync_lz hl h3 hs hd.seq
    have hsf : (sync g).failed = none := (sync_inv g inv hs).1.cached.1
    have hsfa := hsl.failed.trans hsf
    rw [close_nv a (hl.failed.trans inv.cached.1) (hl.volatile.trans inv.nv) hsfa, close_nv g inv.cached.1 inv.nv hsf]
    exact ⟨hsfa, hsl.fs, hsl.effs, nclose g h3 hs hd⟩
  · have hc : Cached g := h3.inv.cached
    have hfa : a.failed = none := hl.failed.trans hc.1
    have hva : a.volatile = true := hl.volatile.trans hV.vol
    have c := vclose g hV hs.2 hd
    cases hn : g.noSync with
    | false =>
      rw [close_vol a hfa hva (hl.noSync.trans hn), close_vol g hc.1 hV.vol hn]
      exact ⟨hfa, hl.fs, hl.effs, c⟩
    | true =>
      have hdl := defrag_lz hl hc h3.inv.nodup (hl.loads (ghost g P) rfl rfl rfl h3.inv)
        (hl.lazy_seq (ghost g P) rfl rfl rfl h3 hd.seq)
      have hdf : (defrag g).failed = none := (defrag_cached g hc).cached.1
      have hdfa := hdl.failed.trans hdf
      rw [close_vol_defrag a hfa hva (hl.noSync.trans hn) hdfa, close_vol_defrag g hc.1 hV.vol hn hdf]
      exact ⟨hdfa, hdl.fs, hdl.effs, c⟩

/-! #### one operation, either mode -/

theorem twin_reopen (a g : DB) (h : Twin a g) (vol load : Bool) (opts : Opts)
    (fits : OpFits3 g (.reopen vol true opts)) (hd : DFits g) :
    Twin (step a (.reopen vol load opts)) (step g (.reopen vol true opts)) := by
  have hge := h.ge
  obtain ⟨hfl, hfs, hef, c⟩ := close_twin a g h fits.1 hd
  have hok := c.ok
  have hm := fits.2
  rw [hge] at hok hm
  rw [step_reopen a _ _ _ hfl, step_reopen g _ _ _ c.failed, hfs, hef, c.eager.trans hge]
  exact open_twin _ vol load opts _ _ hok hm

theorem twin_stepV (a g : DB) (hV : VInv g) (P : List Key) (h3 : Inv3 (ghost g P)) (hP : g.noSync = false → P = [])
    (hl : Lz P a g) (op : Op) (hnr : ∀ x y z, op ≠ .reopen x y z) (ok : OpOK true op) (fits : OpFits g op) :
    TwinV (step a op) (step g op) := by
  have okg : OpOK g.eager op := by rw [hl.ge]; exact ok
  obtain ⟨hV', _, _, _⟩ := vstep_vinv g hV op okg fits
  obtain ⟨_, h3', hP'⟩ := vstep_ghost g hV.vol P h3 hP op okg fits
  have hc : Cached g := h3.inv.cached
  have hnd : (Keys g.index).Nodup := h3.inv.nodup
  have hld : Loads a g := hl.loads (ghost g P) rfl rfl rfl h3.inv
  have hfa : a.failed = none := hl.failed.trans hc.1
  have hva : a.volatile = true := hl.volatile.trans hV.vol
  refine ⟨hV', nextP P op, h3', hP', ?_⟩
  have hput : ∀ k v f, Lz (pendingAdd P k) (putExt a k v f) (putExt g k v f) := by
    intro k v f
    rw [putExt_ok a k v f hfa, putExt_ok g k v f hc.1, afterChange_vol _ k ((memput_spec a k _).2.2.1.trans hva),
      afterChange_vol _ k ((memput_spec g k _).2.2.1.trans hV.vol)]
    exact (memput_lz hl k (newRec v f) rfl rfl).setNoSync true
  have same : ∀ {a' g'}, a' = a → g' = g → Lz P a' g' := fun e1 e2 => e1 ▸ e2 ▸ hl
  cases op with
  | reopen x y z => exact absurd rfl (hnr x y z)
  | put k v => exact hput k v 0
  | putExt k v f => exact hput k v f
  | del k =>
    show Lz (pendingAdd P k) (del a k) (del g k)
    rw [del_ok a k hfa, del_ok g k hc.1, afterChange_vol _ k ((memdel_spec a k).2.2.1.trans hva),
      afterChange_vol _ k ((memdel_spec g k).2.2.1.trans hV.vol)]
    exact (memdel_lz hl hnd k).setNoSync true
  | get k => exact (get_lz hl hc hld k).1
  | browse w => exact (browseGen_lz false hl hc hnd hld w ok).1
  | applyFlags k fl => exact applyFlags_lz hl hc k fl
  | sync => exact same (syncOp_vol a hva) (syncOp_vol g hV.vol)
  | defrag f => exact same (defragOp_vol a f hva) (defragOp_vol g f hV.vol)
  | noSync => exact same (noSyncOp_vol a hva) (noSyncOp_vol g hV.vol)

theorem twin_step (a g : DB) (h : Twin a g) (op : Op) (ok : OpOK5 op) (fits : OpFits3 g (twinOp op))
    (hd : DFits (preSync g (twinOp op))) : Twin (step a op) (step g (twinOp op)) := by
  have ok3 := opOK3_twin op ok
  have hge := h.ge
  cases op with
  | reopen vol load opts => exact twin_reopen a g h vol load opts fits hd
  | _ =>
    rcases h with ⟨hl, h3⟩ | ⟨hV, P, h3, hP, hl⟩
    · refine Or.inl ⟨step_lz hl h3 _ (fun _ _ _ => by simp) ok3 fits hd.seq, (step_inv3' g h3 _ ?_ ?_).1⟩
      · rw [hge]; exact ok3
      · exact fits
    · exact Or.inr (twin_stepV a g hV P h3 hP hl _ (fun _ _ _ => by simp) ok3 fits)

def HOK5 (i : HItem) : Prop := OpOK5 (itemOp i)

theorem hok_twin (H : List HItem) (ok : ∀ i ∈ H, HOK5 i) : ∀ i ∈ twin H, HOK true i :=
  List.forall_mem_map.mpr fun j hj => by cases j <;> exact opOK3_twin _ (ok _ hj)

theorem Twin.crashDir {a g : DB} (h : Twin a g) (o : Op) (oko : OpOK5 o) (f1 : OpFits3 g (twinOp o))
    (f2 : DFits (preSync g (twinOp o))) (n : Nat) : crashDir a o n = crashDir g (twinOp o) n := by
  unfold Qdb.crashDir opEffs
  rw [h.fs, h.effs, (twin_step a g h o oko f1 f2).effs]

/-- EVERY history: the real store (NO_CACHE flags, lazy loading, both modes, crashes, recoveries) against its eager
    ghost. The two runs stay related — same directory, same file operations (hence the same crash directories); the
    real store holds the ghost's records, some of them not in memory, and those load to the ghost's records. -/
theorem twin_run (H : List HItem) (a g : DB) (h : Twin a g) (ok : ∀ i ∈ H, HOK5 i)
    (fits : HFits g (twin H)) : Twin (hrun a H) (hrun g (twin H)) := by
  induction H generalizing a g with
  | nil => exact h
  | cons i t ih =>
    cases i with
    | op o =>
      obtain ⟨f1, f2, f3⟩ := fits
      exact ih (step a o) (step g (twinOp o)) (twin_step a g h o (ok (.op o) List.mem_cons_self) f1 f2)
        (fun x hx => ok x (List.mem_cons_of_mem _ hx)) f3
    | crash o n ms vol opts =>
      have oko : OpOK5 o := ok (.crash o n ms vol opts) List.mem_cons_self
      obtain ⟨f1, f2, f3, f4⟩ := fits
      have hge : g.eager = true := h.ge
      obtain ⟨o2, _⟩ := crash_dir g h.sinv (twinOp o) (by rw [hge]; exact opOK3_twin o oko) f1 f2 n ms opts
      rw [hge] at o2 f3
      refine ih _ _ ?_ (fun x hx => ok x (List.mem_cons_of_mem _ hx)) f4
      show Twin (openDB (recrash opts (crashDir a o n) ms) vol true opts a.eager)
        (openDB (recrash opts (crashDir g (twinOp o) n) ms) vol true opts g.eager)
      rw [h.crashDir o oko f1 f2 n, hge]
      exact openDB_twin _ vol true opts a.eager o2 f3

theorem Twin.observe {a g : DB} (h : Twin a g) :
    a.failed = none ∧ a.fs = g.fs ∧ a.effs = g.effs ∧
    (∀ k, (Qdb.get a k).1.failed = none ∧ (Qdb.get a k).2 = vals g k) ∧
    (∀ w, (∀ kf ∈ w, kf.2 < 2^32) → (browse a w).2 = (browse g w).2) ∧ count a = count g := by
  have hc : Cached g := h.sinv.cached
  have hnd : (Keys g.index).Nodup := h.sinv.nodup
  obtain ⟨P, hl, hld⟩ : ∃ P, Lz P a g ∧ Loads a g := by
    rcases h with ⟨hl, h3⟩ | ⟨_, P, h3, _, hl⟩
    · exact ⟨_, hl, hl.loads g rfl rfl hl.pending.symm h3.inv⟩
    · exact ⟨P, hl, hl.loads (ghost g P) rfl rfl rfl h3.inv⟩
  refine ⟨hl.failed.trans hc.1, hl.fs, hl.effs, fun k => ?_, fun w hw => ?_, hl.idx.length⟩
  · obtain ⟨l, e⟩ := get_lz hl hc hld k
    exact ⟨l.failed.trans (get_cached g k hc).1.1, e.trans (get_cached g k hc).2.2⟩
  · exact (browseGen_lz false hl hc hnd hld w (opOK3_twin (.browse w) hw)).2

/-! ### the real store starts with the ghost field off -/

theorem fresh_vals (load : Bool) (opts : Opts) : vals (openDB {} false load opts eg) = fun _ => none := by
  rw [openDB_empty]; rfl

theorem fresh_eager (load : Bool) (opts : Opts) : (openDB {} false load opts).eager = false :=
  openDB_eager (eg := false) {} false load opts

theorem ok2_fresh (load : Bool) (opts : Opts) (ops : List Op) (ok : ∀ op ∈ ops, OpOK2 false op) :
    ∀ op ∈ ops, OpOK2 (openDB {} false load opts).eager op := by
  rw [fresh_eager]; exact ok

theorem hok_fresh (load : Bool) (opts : Opts) (H : List HItem) (ok : ∀ i ∈ H, HOK false i) :
    ∀ i ∈ H, HOK (openDB {} false load opts).eager i := by
  rw [fresh_eager]; exact ok

theorem fresh_twin (load : Bool) (opts : Opts) : Twin (openDB {} false load opts) (openDB {} false load opts true) := by
  refine Or.inl ⟨?_, fresh_inv3 load opts⟩
  rw [openDB_empty, openDB_empty]
  exact Lz.of_reidx (i := []) trivial

theorem fresh_run (load : Bool) (opts : Opts) (ops : List Op) (ok : ∀ op ∈ ops, OpOK2 eg op)
    (fits : RunFits2 (openDB {} false load opts eg) ops) :
    Inv3 (run (openDB {} false load opts eg) ops) ∧ (run (openDB {} false load opts eg) ops).eager = eg ∧
    ∀ k, vals (run (openDB {} false load opts eg) ops) k = vrun (fun _ => none) ops k := by
  have ok' : ∀ op ∈ ops, OpOK2 (openDB {} false load opts eg).eager op := by rw [openDB_eager]; exact ok
  obtain ⟨h3, hv⟩ := run_inv3' ops _ (fresh_inv3 load opts) ok' fits
  rw [fresh_vals] at hv
  exact ⟨h3, (run_eager2 ops _ (fresh_inv3 load opts) ok' fits).trans (openDB_eager {} false load opts), hv⟩

theorem fresh_hrun (load : Bool) (opts : Opts) (H : List HItem) (ok : ∀ i ∈ H, HOK eg i)
    (fits : HFits (openDB {} false load opts eg) H) :
    SInv (hrun (openDB {} false load opts eg) H) ∧ (hrun (openDB {} false load opts eg) H).eager = eg ∧
    DurOK false (fun _ => none) (fun _ => none) H (vals (hrun (openDB {} false load opts eg) H))
      (diskValue (hrun (openDB {} false load opts eg) H).fs) := by
  have ok' : ∀ i ∈ H, HOK (openDB {} false load opts eg).eager i := by rw [openDB_eager]; exact ok
  obtain ⟨h3, hd⟩ := hrun_dur H _ (Or.inl (fresh_inv3 load opts)) ok' fits
  have hd0 : diskValue (openDB {} false load opts eg).fs = fun _ => none := by rw [openDB_empty]; rfl
  rw [fresh_vals, hd0, (fresh_inv load opts).nv] at hd
  exact ⟨h3, (hrun_eager H _ (Or.inl (fresh_inv3 load opts)) ok' fits).trans (openDB_eager {} false load opts), hd⟩

end GocoinV.Proofs.C19
