/-
  Proofs.C16Retain — retention (DataFilesKeep ≠ 0, DataFilesBackup): which data file `BlockGet` opens for a number
  (`fileOf`: main directory first, then oldat/), and the relation `Keeps fs fs'` — every data-file number that is not in the
  ghost `FS.lost` afterwards was not lost before and still resolves to the same bytes — established for `removeDatFile`
  (roll-over), `loadCleanup` and the O_CREATE of LoadBlockIndex.
-/
import GocoinV.Proofs.C16Inv
import GocoinV.Spec.BlockStoreMap
namespace GocoinV.BlockDB
def fileOf (fs : FS) (i : Nat) : Option Bytes := (AL.get fs.dats i).orElse (fun _ => AL.get fs.olds i)

theorem fileOf_dats (fs : FS) (i : Nat) (f : Bytes) (h : AL.get fs.dats i = some f) : fileOf fs i = some f := by
  unfold fileOf; rw [h]; rfl
/-- nothing that is still within retention changes: a data-file number that is not lost afterwards was not lost before, and the
    file `BlockGet` would open for it (main directory, then oldat/) has the same contents -/
def Keeps (fs fs' : FS) : Prop :=
  ∀ j, fs'.lost.contains j = false → fs.lost.contains j = false ∧ ∀ file, fileOf fs j = some file → fileOf fs' j = some file

theorem Keeps.refl (fs : FS) : Keeps fs fs := fun _ h => ⟨h, fun _ hf => hf⟩
theorem Keeps.trans {a b c : FS} (h1 : Keeps a b) (h2 : Keeps b c) : Keeps a c := by
  intro j hj
  obtain ⟨x1, x2⟩ := h2 j hj
  obtain ⟨y1, y2⟩ := h1 j x1
  exact ⟨y1, fun f hf => x2 f (y2 f hf)⟩

theorem removeDatFile_keeps (o : Opts) (fs : FS) (i : Nat) : Keeps fs (removeDatFile o fs i) := by
  unfold removeDatFile
  split
  · exact Keeps.refl fs
  · rename_i content hc
    split
    · intro j hj
      refine ⟨hj, ?_⟩
      intro file hf
      unfold fileOf at *
      simp only [AL.get_del, AL.get_set]
      by_cases e : i = j
      · subst e
        rw [hc] at hf
        simp only [↓reduceIte]
        exact hf
      · simp only [e, ↓reduceIte]; exact hf
    · intro j hj
      simp only [List.contains_cons, Bool.or_eq_false_iff, beq_eq_false_iff_ne, ne_eq] at hj
      refine ⟨hj.2, ?_⟩
      intro file hf
      unfold fileOf at *
      simp only [AL.get_del]
      have : ¬ i = j := fun e => hj.1 e.symm
      simp only [this, ↓reduceIte]; exact hf

theorem removeDatFile_dats_other (o : Opts) (fs : FS) (i j : Nat) (h : i ≠ j) :
    AL.get (removeDatFile o fs i).dats j = AL.get fs.dats j := by
  unfold removeDatFile
  split
  · rfl
  · split <;> simp only [AL.get_del, h, ↓reduceIte]

theorem loadCleanup_keeps (o : Opts) (m : Nat) (fs : FS) : Keeps fs (loadCleanup o m fs) ∧
    AL.get (loadCleanup o m fs).dats m = AL.get fs.dats m := by
  unfold loadCleanup
  split
  · rename_i h
    exact cleanupGo_ind o _ (P := fun t => Keeps fs t ∧ AL.get t.dats m = AL.get fs.dats m)
      (fun t i hi ht => ⟨ht.1.trans (removeDatFile_keeps o t i), (removeDatFile_dats_other o t i m (by omega)).trans ht.2⟩)
      3 _ fs (by omega) (Nat.le_refl _) ⟨Keeps.refl fs, rfl⟩
  · exact ⟨Keeps.refl fs, rfl⟩

theorem createCur_keeps (fs : FS) (m : Nat) : Keeps fs (createCur fs m) ∧ ∃ f, AL.get (createCur fs m).dats m = some f := by
  unfold createCur
  split
  · rename_i f hf; exact ⟨Keeps.refl fs, f, hf⟩
  · rename_i hn
    split
    · -- os.Rename(oldat/m, main/m): `fileOf` resolves m to the same bytes, nothing is lost
      rename_i content hc
      have ho : AL.get fs.olds m = some content := by
        split at hc
        · exact hc
        · cases hc
      refine ⟨?_, content, by simp only [AL.get_set, ↓reduceIte]⟩
      intro j hj
      refine ⟨hj, ?_⟩
      intro file hf
      unfold fileOf at *
      simp only [AL.get_set, AL.get_del]
      by_cases e : m = j
      · subst e
        rw [hn, ho] at hf
        simp only [↓reduceIte]; exact hf
      · simp only [e, ↓reduceIte]; exact hf
    · refine ⟨?_, [], by simp only [AL.get_set, ↓reduceIte]⟩
      intro j hj
      simp only at hj
      by_cases e : m = j
      · subst e
        cases ho : AL.get fs.olds m with
        | some x => simp [ho] at hj
        | none =>
          simp only [ho, Option.isSome_none, Bool.false_eq_true, ↓reduceIte] at hj
          refine ⟨hj, ?_⟩
          intro file hf
          unfold fileOf at hf
          rw [hn, ho] at hf; cases hf
      · have hl : fs.lost.contains j = false := by
          split at hj
          · simp only [List.contains_cons, Bool.or_eq_false_iff] at hj; exact hj.2
          · exact hj
        refine ⟨hl, ?_⟩
        intro file hf
        unfold fileOf at *
        simp only [AL.get_set, e, ↓reduceIte]; exact hf

/-- with an empty oldat/ the opening neither loses nor moves anything (whatever `restoresBackup` is) -/
theorem createCur_noolds (fs : FS) (m : Nat) (h2 : fs.olds = []) :
    (createCur fs m).lost = fs.lost ∧ (createCur fs m).olds = [] := by
  unfold createCur
  split
  · exact ⟨rfl, h2⟩
  · simp only [h2, AL.get, ite_self, Option.isSome_none, Bool.false_eq_true, ↓reduceIte, and_self]

theorem reopen_fs (env : Env) (fs : FS) (o : Opts) :
    (reopen env fs o).1.fs = loadCleanup (if o.maxCached = 0 then { o with maxCached := 100 } else o)
      (loadLoop env (fs.idx.length / RECSIZE + 1) fs.idx {}).maxdatfileidx
      (createCur fs (loadLoop env (fs.idx.length / RECSIZE + 1) fs.idx {}).maxdatfileidx) := by
  unfold reopen
  rfl
end GocoinV.BlockDB
