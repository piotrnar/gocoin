/-
  Proofs.C12RejInv — the invariant of Props/C12 `reject_index_inv`: the consistency of the reject ring /
  TransactionsRejected / WaitingForInputs / RejectedSpentOutputs indexes in its readable form `RejInv`, shown equivalent to
  `RJ` of Proofs/C12RejOps (`rejInv_iff`), at the initial state (`rejInv_genesis`) and through one operation
  (`step_rejInv`).  `reject_index_inv` itself is read off `run_carried` (Proofs/C12Chain), which uses `step_rejInv`;
  `run_rejInv` is the induction for histories that carry `UndoOK` as a hypothesis.  Core Lean only.
-/
import GocoinV.Proofs.C12RejRun
namespace GocoinV.Mempool

/-- Consistency of the rejected-transactions structures of the pool (rjected.go; mirrors checkRejectedTxs /
    checkRejectedSpentOutputs of check.go on the level of membership).

    Not covered: multiplicities in RejectedSpentOutputs (a record is listed once per input with that UIdx; the
    invariant speaks about membership only, Go's check compares the total counts); the equality
    `Waiting4 = OneWaitingList.TxID` (only their BIDX are shown equal — two missing parents with the same BIDX share
    one list in the code as well); the byte counters
    TransactionsRejectedSize / WaitingForInputsSize and limitRejectedSizeIfNeeded (not in the model). -/
structure RejInv (K : Keys) (s : State) : Prop where
  /-- len(TRIdxArray) ≥ 2: with a single slot `Add` evicts the record it is adding and then adds references to it
      (model and code alike) -/
  cap : 2 ≤ s.cfg.ringCap
  -- (1) ring ↔ TransactionsRejected
  rej_nodup : (s.rej.map Prod.fst).Nodup
  ring_nodup : (s.ring.filterMap id).Nodup
  ring_rej : ∀ b, some b ∈ s.ring → ∃ r, s.rej.get? b = some r ∧ K.bidx r.id = b
  rej_ring : ∀ b r, s.rej.get? b = some r → K.bidx r.id = b ∧ some b ∈ s.ring
  -- (2) record shape
  shape : ∀ b r, s.rej.get? b = some r →
    (r.tx = none → r.waiting4 = none) ∧ (∀ t, r.tx = some t → t.id = r.id) ∧ (r.tx.isSome = true ↔ r.reason ≥ 200) ∧
    (r.waiting4.isSome = true ↔ r.reason = R_NO_TXOU)
  -- (3) RejectedSpentOutputs is exactly the inverse of the inputs of the rejected records with data
  spent_sound : ∀ u l, s.rejSpent.get? u = some l → l ≠ [] ∧
    ∀ b ∈ l, ∃ r t, s.rej.get? b = some r ∧ r.tx = some t ∧ ∃ i ∈ t.ins, u = K.uidx i.prev i.vout
  spent_complete : ∀ b r t, s.rej.get? b = some r → r.tx = some t →
    ∀ i ∈ t.ins, ∃ l, s.rejSpent.get? (K.uidx i.prev i.vout) = some l ∧ b ∈ l
  -- (4) WaitingForInputs is exactly the inverse of Waiting4
  waiting_sound : ∀ k id ids, s.waiting.get? k = some (id, ids) → K.bidx id = k ∧ ids ≠ [] ∧ ids.Nodup ∧
    ∀ b ∈ ids, ∃ r w, s.rej.get? b = some r ∧ r.waiting4 = some w ∧ K.bidx w = k
  waiting_complete : ∀ b r w, s.rej.get? b = some r → r.waiting4 = some w →
    ∃ id ids, s.waiting.get? (K.bidx w) = some (id, ids) ∧ b ∈ ids
  -- nothing is both in TransactionsToSend and in TransactionsRejected
  disjoint : ∀ b x, s.pool.get? b = some x → s.rej.get? b = none

theorem mem_uidxs (K : Keys) (t : Tx) (u : Nat) : u ∈ uidxs K t ↔ ∃ i ∈ t.ins, u = K.uidx i.prev i.vout := by
  unfold uidxs
  rw [List.mem_map]
  exact exists_congr fun _ => and_congr_right fun _ => eq_comm

theorem RejInv.toRJ {K : Keys} {s : State} (h : RejInv K s) : RJ K s := by
  refine ⟨h.cap, ⟨h.rej_nodup, h.ring_nodup, ?_, ?_, ?_, ?_, ?_, ?_, ?_, ?_, ?_, ?_⟩, h.disjoint⟩
  · intro b hb
    obtain ⟨r, hr, _⟩ := h.ring_rej b ((mem_ringKeys _ _).mp hb)
    exact ⟨r, hr⟩
  · intro b r hr
    exact (mem_ringKeys _ _).mpr (h.rej_ring b r hr).2
  · intro b r hr
    exact (h.rej_ring b r hr).1
  · intro b r hr
    obtain ⟨a1, a2, a3, a4⟩ := h.shape b r hr
    exact ⟨a1, a2, a3, a4⟩
  · intro u l hl
    exact (h.spent_sound u l hl).1
  · intro u x hx
    refine ⟨by simp, ?_⟩
    cases hg : s.rejSpent.get? u with
    | none => simp [lst, hg] at hx
    | some l =>
      rw [lst_of_get hg] at hx
      obtain ⟨r, t, hr, ht, hi⟩ := (h.spent_sound u l hg).2 x hx
      exact ⟨r, t, hr, ht, (mem_uidxs K t u).mpr hi⟩
  · intro b r t hr _ ht u hu
    obtain ⟨i, hi, e⟩ := (mem_uidxs K t u).mp hu
    obtain ⟨l, hl, hb⟩ := h.spent_complete b r t hr ht i hi
    rw [e, lst_of_get hl]
    exact hb
  · intro k id ids hk
    obtain ⟨a1, a2, a3, _⟩ := h.waiting_sound k id ids hk
    exact ⟨a1, a2, a3⟩
  · intro k x hx
    refine ⟨by simp, ?_⟩
    cases hg : s.waiting.get? k with
    | none => rw [wl_of_none hg] at hx; cases hx
    | some p =>
      obtain ⟨id, ids⟩ := p
      rw [wl_of_get hg] at hx
      exact (h.waiting_sound k id ids hg).2.2.2 x hx
  · intro b r w hr _ hw
    obtain ⟨id, ids, hg, hb⟩ := h.waiting_complete b r w hr hw
    rw [wl_of_get hg]
    exact hb

theorem RJ.toRejInv {K : Keys} {s : State} (h : RJ K s) : RejInv K s := by
  have c := h.rc
  refine ⟨h.cap, c.nodupRej, c.nodupRing, ?_, ?_, ?_, ?_, ?_, ?_, ?_, h.disj⟩
  · intro b hb
    obtain ⟨r, hr⟩ := c.ringRej b ((mem_ringKeys _ _).mpr hb)
    exact ⟨r, hr, c.key b r hr⟩
  · intro b r hr
    exact ⟨c.key b r hr, (mem_ringKeys _ _).mp (c.rejRing b r hr)⟩
  · intro b r hr
    have := c.shape b r hr
    exact ⟨this.w, this.id, this.reason, this.w4⟩
  · intro u l hl
    refine ⟨c.spNe u l hl, ?_⟩
    intro b hb
    obtain ⟨_, r, t, hr, ht, hu⟩ := c.spSound u b (by rw [lst_of_get hl]; exact hb)
    exact ⟨r, t, hr, ht, (mem_uidxs K t u).mp hu⟩
  · intro b r t hr ht i hi
    have hb := c.spCompl b r t hr (by simp) ht _ ((mem_uidxs K t _).mpr ⟨i, hi, rfl⟩)
    cases hg : s.rejSpent.get? (K.uidx i.prev i.vout) with
    | none => simp [lst, hg] at hb
    | some l => rw [lst_of_get hg] at hb; exact ⟨l, rfl, hb⟩
  · intro k id ids hk
    obtain ⟨a1, a2, a3⟩ := c.wKey k id ids hk
    refine ⟨a1, a2, a3, ?_⟩
    intro b hb
    exact (c.wSound k b (by rw [wl_of_get hk]; exact hb)).2
  · intro b r w hr hw
    have hb := c.wCompl b r w hr (by simp) hw
    cases hg : s.waiting.get? (K.bidx w) with
    | none => rw [wl_of_none hg] at hb; cases hb
    | some p =>
      obtain ⟨id, ids⟩ := p
      rw [wl_of_get hg] at hb
      exact ⟨id, ids, rfl, hb⟩

theorem rejInv_iff (K : Keys) (s : State) : RejInv K s ↔ RJ K s := ⟨RejInv.toRJ, RJ.toRejInv⟩

theorem rejInv_init (K : Keys) : RejInv K {} := RJ.toRejInv ⟨by decide, RC_empty K, fun _ _ _ => rfl⟩

theorem rejInv_genesis (K : Keys) (cfg : Cfg) (u0 : UT) (h0 : Nat) (hcap : 2 ≤ cfg.ringCap) :
    RejInv K (genesis cfg u0 h0) := RJ.toRejInv ⟨hcap, RC_empty K, fun _ _ _ => rfl⟩

/-! ### every operation, every history

  Hypotheses, in the style of `run_InvR`: the universe `W` of the transactions of the history with `Univ K W rank`
  (BIDX / UIdx injective on it, acyclic), the already proved structural pool invariant `InvR` of the start state, and
  `UndoOK` for the `undo` operations: no transaction of the block being undone is pooled when BlockUndone reaches it
  (`UndoFresh`; `undoFresh_of_nodup` reduces it to: the block's transactions have pairwise different BIDX and none is
  pooled when the block is undone).  Without it the model (like the code, CheckForErrors() = false) re-adds the pooled
  transaction through its own replacement, leaving the same BIDX both pooled and rejected; a later replacement then
  calls `Add` for a key that is already in TransactionsRejected and the ring gets a duplicate. -/

theorem step_rejInv {K : Keys} {W : Tx → Prop} {rank : TxId → Nat} (U : Univ K W rank) (s : State) (op : Op)
    (hI : InvR K W s) (h : RejInv K s) (hW : ∀ t ∈ op.txs, W t) (hu : UndoOK K s op) : RejInv K (step K s op) :=
  (step_RJ U s op hI h.toRJ hW hu).toRejInv

theorem run_rejInv {K : Keys} {W : Tx → Prop} {rank : TxId → Nat} (U : Univ K W rank) (ops : List Op) (s : State)
    (hI : InvR K W s) (h : RejInv K s) (hW : ∀ op ∈ ops, ∀ t ∈ op.txs, W t) (hu : UndoOKRun K s ops) :
    RejInv K (run K s ops) :=
  (run_RJ U ops s hI h.toRJ hW hu).toRejInv

theorem run_rejInv_genesis {K : Keys} {W : Tx → Prop} {rank : TxId → Nat} (U : Univ K W rank) (cfg : Cfg) (u0 : UT)
    (h0 : Nat) (hcap : 2 ≤ cfg.ringCap) (ops : List Op) (hW : ∀ op ∈ ops, ∀ t ∈ op.txs, W t)
    (hu : UndoOKRun K (genesis cfg u0 h0) ops) : RejInv K (run K (genesis cfg u0 h0) ops) :=
  run_rejInv U ops _ (InvR_genesis K W cfg u0 h0) (rejInv_genesis K cfg u0 h0 hcap) hW hu

end GocoinV.Mempool
