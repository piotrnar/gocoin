/-
  Proofs.C07KOps — on well-formed block universes, as long as no undo file of another block is read, no operation of
  Model/Persist.lean panics: `K0` (no error; every index record is a tree node; every tree node has its block data in the cache
  or the data file; the undo files undo/1 … undo/<LastBlockHeight> exist) is kept by CommitBlockTxs, UndoLastBlock,
  ParseTillBlock, MoveToBlock (FindFirstFather and FindPathTo succeed: `road`, Proofs/C07JOps.lean) and CommitBlock
  (`commitBlock_K`); and where the tip ends up.  AcceptBlock (`submit_K`) is in Proofs/C07KHist.lean.
  Core Lean only.
-/
import GocoinV.Proofs.C07K
namespace GocoinV.Proofs.C07
open GocoinV.Persist

variable {bs : List Block} {s : St}

def HasData (s : St) (id : BlockId) : Prop := (∃ b ∈ s.n.mem, b.id = id) ∨ (∃ b ∈ s.d.dat, b.id = id)

theorem blockData_some {s : St} {id : BlockId} (h : HasData s id) : ∃ b, blockData s id = some b := by
  unfold blockData
  rcases h with ⟨b, hb, e⟩ | ⟨b, hb, e⟩
  · obtain ⟨x, hx⟩ : ∃ x, s.n.mem.find? (·.id == id) = some x :=
      Option.isSome_iff_exists.1 (List.find?_isSome.2 ⟨b, hb, beq_iff_eq.2 e⟩)
    exact ⟨x, by rw [hx]⟩
  · split
    · exact ⟨_, rfl⟩
    · exact Option.isSome_iff_exists.1 (List.find?_isSome.2 ⟨b, hb, beq_iff_eq.2 e⟩)

theorem HasData.mono {s s' : St} {id : BlockId} (h : HasData s id) (hf : Fr s s') : HasData s' id :=
  h.imp (fun ⟨b, hb, e⟩ => ⟨b, hf.memM b hb, e⟩) (fun ⟨b, hb, e⟩ => ⟨b, hf.ext.dat hb, e⟩)

/-- no panic so far and what the next operation needs in order not to panic: every index record is a tree node, every
    tree node has its block data (cache or data file), the undo files undo/1 … undo/<LastBlockHeight> exist -/
structure K0 (s : St) : Prop where
  err : s.err = none
  recT : ∀ r ∈ s.n.recs, InT s.n.tree r.id
  data : ∀ t ∈ s.n.tree, HasData s t.id
  undo : UndoUpTo s.d s.n.lastHeight

theorem K0.step' {s s' : St} (hk : K0 s) (hf : Fr s s') (he : s'.err = none) (ht : s'.n.tree = s.n.tree)
    (hu : UndoUpTo s'.d s'.n.lastHeight) : K0 s' :=
  ⟨he, hf.recT hk.recT, fun t ht' => (hk.data t (ht ▸ ht')).mono hf, hu⟩

theorem K0.step {s s' : St} (hk : K0 s) (hf : Fr s s') (he : s'.err = none) (ht : s'.n.tree = s.n.tree)
    (hl : s'.n.lastHeight ≤ s.n.lastHeight) : K0 s' :=
  hk.step' hf he ht (fun h h1 h2 => hf.ext.undo hk.undo h h1 (by omega))

theorem K0.dataOf {s : St} (hk : K0 s) {id : BlockId} (hin : InT s.n.tree id) : HasData s id := by
  obtain ⟨t, ht, e⟩ := hin
  exact e ▸ hk.data t ht

/-- a step that is `Neutral` (tip, set, heights, tree, error unchanged) and satisfies the frame relation -/
theorem K0.neutral {s s' : St} (hk : K0 s) (hn : Neutral bs s s') (hf : Fr s s') : K0 s' :=
  hk.step hf (hn.err.trans hk.err) hn.tree (Nat.le_of_eq hn.lastH)

/-! ### CommitBlockTxs -/

theorem commitBlockTxs_fr (s : St) (b : Block) : Fr s (commitBlockTxs s b) := by
  unfold commitBlockTxs
  exact (((((((abortSave_fr s).then_emit .nop .undoBeforeWrite trivial).then_emit (.writeUndoTmp { blk := b.id, coins := b.spends }) .undoTmpWritten
    trivial).then_emit (.renameUndoTmp b.height) .undoRenamed trivial).then_emit .nop .beforeCommit trivial).then_set _ rfl rfl rfl).then_emit
    .nop .afterCommit trivial).then_set _ rfl rfl rfl

theorem commitBlockTxs_undoSet (s : St) (b : Block) :
    (commitBlockTxs s b).d.undo = setUndo (abortSave s).d.undo b.height { blk := b.id, coins := b.spends } := rfl

theorem commitBlockTxs_lastH (s : St) (b : Block) : (commitBlockTxs s b).n.lastHeight = b.height := rfl

theorem commitBlockTxs_undo (s : St) (b : Block) (hu : UndoUpTo s.d s.n.lastHeight) (hb : b.height ≤ s.n.lastHeight + 1) :
    UndoUpTo (commitBlockTxs s b).d (commitBlockTxs s b).n.lastHeight := by
  intro h h1 h2
  rw [commitBlockTxs_lastH] at h2
  by_cases e : h = b.height
  · subst e; rw [commitBlockTxs_undoSet, getUndo_setUndo_same]; rfl
  · exact (commitBlockTxs_fr s b).ext.undo hu h h1 (by omega)

/-! ### UndoLastBlock -/

theorem undoLast_K {path : List Block} (hc : Chain bs s.n path) (hne : path ≠ []) (hk : K0 s) :
    (undoLastBlock s).err = none ∧ Fr s (undoLastBlock s) ∧ (undoLastBlock s).n.lastHeight ≤ s.n.lastHeight := by
  obtain ⟨b0, rest, rfl⟩ := List.exists_cons_of_ne_nil hne
  have htip : s.n.tip = b0.id := hc.tip
  obtain ⟨bd, hbd⟩ := blockData_some (hk.dataOf (htip ▸ hc.inT b0 (by simp)))
  have hN : Neutral bs s (abortSave (s.emit .nop .undoBeforeUtxo)) :=
    (Neutral.emit s .nop .undoBeforeUtxo trivial).trans (abortSave_neutral _)
  have hF := (Fr.emit s .nop .undoBeforeUtxo trivial).trans (abortSave_fr _)
  have hl1 : 1 ≤ s.n.lastHeight := by rw [hc.lastH]; simp
  have hus : (getUndo (abortSave (s.emit .nop .undoBeforeUtxo)).d.undo (abortSave (s.emit .nop .undoBeforeUtxo)).n.lastHeight).isSome = true := by
    rw [hN.lastH]; exact hF.ext.undo hk.undo _ hl1 (Nat.le_refl _)
  unfold undoLastBlock
  split
  · rename_i he; rw [hk.err] at he; cases he
  · split
    · rename_i hx; rw [hbd] at hx; cases hx
    · simp only []
      split
      · rename_i hx; rw [hx] at hus; cases hus
      · refine ⟨hN.err.trans hk.err, ?_, ?_⟩
        · exact (hF.then_emit .nop .undoAfterUtxo trivial).congr rfl rfl rfl rfl rfl
        · show (abortSave (s.emit .nop .undoBeforeUtxo)).n.lastHeight - 1 ≤ s.n.lastHeight
          rw [hN.lastH]; omega

theorem undoN_K (hwf : WF bs) : ∀ (k : Nat) (s : St) (path : List Block), JD bs s → Chain bs s.n path → K0 s → k ≤ path.length →
    (undoN s k).foreign = false →
    (undoN s k).err = none ∧ Fr s (undoN s k) ∧ (undoN s k).n.lastHeight ≤ s.n.lastHeight
  | 0, s, _, _, _, hk, _, _ => ⟨hk.err, Fr.refl s, Nat.le_refl _⟩
  | k + 1, s, path, hj, hc, hk, hkl, hf => by
    have hne : path ≠ [] := List.ne_nil_of_length_pos (by omega)
    have hf1 : (undoLastBlock s).foreign = false := undoN_mono k _ hf
    obtain ⟨j1, t1, path1, hc1, e1⟩ := undoLast_spec hwf hj hc hf1
    obtain ⟨a1, a2, a3⟩ := undoLast_K hc hne hk
    obtain ⟨_, hp1, _⟩ := e1 a1
    have hk1 : K0 (undoLastBlock s) := hk.step a2 a1 t1 a3
    obtain ⟨b1, b2, b3⟩ := undoN_K hwf k (undoLastBlock s) path1 j1 hc1 hk1 (by rw [hp1]; simp; omega) hf
    exact ⟨b1, a2.trans b2, Nat.le_trans b3 a3⟩

/-! ### ParseTillBlock -/

theorem parsePath_err : ∀ (p : List BlockId) (s : St), s.err.isSome = true → parsePath s p = s
  | [], _, _ => rfl
  | _ :: _, s, h => by unfold parsePath; rw [if_pos h]

/-- what ParseTillBlock finds for the next block of a path that continues the active chain -/
theorem parse_pre (hwf : WF bs) (hj : JD bs s) {path : List Block} (hc : Chain bs s.n path) (hk : K0 s) (id : BlockId)
    (hd : Down s.n.tree (headId path) [id]) :
    ∃ bd, blockData s id = some bd ∧ bd ∈ bs ∧ validOn s.n.utxo bd = true ∧ bd.height = path.length + 1 := by
  obtain ⟨hin, hpar, _⟩ := hd
  obtain ⟨bd, hbd⟩ := blockData_some (hk.dataOf hin)
  obtain ⟨hbs, hbid⟩ := blockData_in hj hbd
  have hbp : bd.parent = headId path := by
    rw [← hpar, ← hbid]
    exact (par_block hwf hj hbs (hbid ▸ hin)).1.symm
  refine ⟨bd, hbd, hbs, ?_, height_on hwf hc.ok hbs hbp⟩
  rw [validOn_congr hc.utxo bd]; exact valid_on hwf hc.ok hbs hbp

theorem parseOne_K (s : St) (id : BlockId) (b : Block) :
    (parseOne s id b).err = s.err ∧ Fr s (parseOne s id b) ∧
    (UndoUpTo s.d s.n.lastHeight → b.height ≤ s.n.lastHeight + 1 →
      UndoUpTo (parseOne s id b).d (parseOne s id b).n.lastHeight) := by
  have hN1 : Neutral [] s ((blockTrusted s id).emit .nop .parseBeforeUtxo) :=
    (blockTrusted_neutral s id).then_emit .nop .parseBeforeUtxo trivial
  have hF1 := (blockTrusted_fr s id).then_emit .nop .parseBeforeUtxo trivial
  unfold parseOne
  refine ⟨?_, ((hF1.trans (commitBlockTxs_fr _ b)).then_emit .nop .parseAfterUtxo trivial).then_set _ rfl rfl rfl, fun hu hb => ?_⟩
  · simp only [St.emit, commitBlockTxs_err]; exact hN1.err
  · simp only [St.emit]
    exact commitBlockTxs_undo _ b (hN1.lastH ▸ hF1.ext.undo hu) (hN1.lastH ▸ hb)

theorem parsePath_K (hwf : WF bs) : ∀ (p : List BlockId) (s : St) (path : List Block), JD bs s → Chain bs s.n path → K0 s →
    Down s.n.tree (headId path) p →
    (parsePath s p).err = none ∧ Fr s (parsePath s p) ∧ UndoUpTo (parsePath s p).d (parsePath s p).n.lastHeight
  | [], s, _, _, _, hk, _ => ⟨hk.err, Fr.refl s, hk.undo⟩
  | id :: rest, s, path, hj, hc, hk, hd => by
    have hd1 : Down s.n.tree (headId path) [id] := ⟨hd.1, hd.2.1, trivial⟩
    obtain ⟨bd, hbd, _, hval, hh⟩ := parse_pre hwf hj hc hk id hd1
    obtain ⟨a1, a2, a3⟩ := parseOne_K s id bd
    obtain ⟨j1, t1, path1, hc1, e1⟩ := parsePath_spec hwf [id] s path hj hc hd1 hk.err
    rw [parsePath_cons _ hk.err hbd hval] at j1 t1 hc1 e1 ⊢
    have hk1 : K0 (parseOne s id bd) :=
      hk.step' a2 (a1.trans hk.err) t1 (a3 hk.undo (by rw [hc.lastH, hh]; omega))
    obtain ⟨b1, b2, b3⟩ := parsePath_K hwf rest (parseOne s id bd) path1 j1 hc1 hk1
      (by rw [show (parseOne s id bd).n.tree = s.n.tree from t1, e1 (a1.trans hk.err)]; exact hd.2.2)
    exact ⟨b1, a2.trans b2, b3⟩

/-! ### MoveToBlock -/

theorem moveToBlock_K (hwf : WF bs) (hj : JD bs s) {path : List Block} (hc : Chain bs s.n path) (hk : K0 s)
    (dst : BlockId) (hdst : InT s.n.tree dst) (hf : (moveToBlock s dst).foreign = false) :
    (moveToBlock s dst).err = none ∧ Fr s (moveToBlock s dst) ∧
      UndoUpTo (moveToBlock s dst).d (moveToBlock s dst).n.lastHeight := by
  obtain ⟨i, p, hi, hff, hdown, hp, hD, _⟩ := road hwf hj hc hdst
  have hfu : (undoN s i).foreign = false := hdown ▸ hff ▸ moveToBlock_undone s dst hf
  unfold moveToBlock
  simp only []
  rw [hff, hdown]
  obtain ⟨j1, t1, path1, hc1, e1⟩ := undoN_spec hwf i s path hj hc hfu
  obtain ⟨a1, a2, a3⟩ := undoN_K hwf i s path hj hc hk hi hfu
  obtain ⟨_, hp1, _⟩ := e1 a1
  have hN : Neutral bs (undoN s i) ((undoN s i).emit .nop .moveUndone) := Neutral.emit _ .nop .moveUndone trivial
  have hF : Fr (undoN s i) ((undoN s i).emit .nop .moveUndone) := Fr.emit _ .nop .moveUndone trivial
  have ht2 : ((undoN s i).emit .nop .moveUndone).n.tree = s.n.tree := t1
  rw [if_neg (by simp [a1]), pathUp_tree ht2]
  simp only [hp]
  obtain ⟨b1, b2, b3⟩ := parsePath_K hwf p _ path1 (j1.neutral hN) (hc1.neutral hN) ((hk.step a2 a1 t1 a3).neutral hN hF)
    (by rw [ht2, hp1]; exact hD)
  rw [if_neg (by simp [b1])]
  exact ⟨b1, ((a2.trans hF).trans b2).then_emit .nop .moveDone trivial, b3⟩

/-! ### Chain.CommitBlock -/

theorem Chain.tipHeight_eq (hwf : WF bs) {n : Node} {path : List Block} (hc : Chain bs n path) {b : Block} (hb : b ∈ bs)
    (e : n.tip = b.id) : n.tipHeight = b.height := by
  cases path with
  | nil => exact absurd (e.symm.trans hc.tip) (hwf.idNZ b hb)
  | cons x rest =>
    obtain rfl : x = b := hwf.uniq x hc.ok.1 b hb (hc.tip.symm.trans e)
    rw [hc.tipH, hc.ok.2.2.1]; rfl

/-- CommitBlock of a tree node: no panic, and where the tip ends up -/
theorem commitBlock_K (hwf : WF bs) (hj : J bs s) (hk : K0 s) (b : Block) (hb : b ∈ bs) (hin : InT s.n.tree b.id)
    (hf : (commitBlock s b).foreign = false) :
    K0 (commitBlock s b) ∧ Fr s (commitBlock s b) ∧
    ((s.n.tip = b.parent ∨ b.height > s.n.tipHeight) → (commitBlock s b).n.tip = b.id) ∧
    (s.n.tip ≠ b.parent → ¬ b.height > s.n.tipHeight →
      (commitBlock s b).n.tip = s.n.tip ∧ (commitBlock s b).n.tipHeight = s.n.tipHeight) := by
  obtain ⟨_, htree⟩ := commitBlock_J hwf hj b hb hin hf
  obtain ⟨path, hc⟩ := hj.chain
  suffices h : (commitBlock s b).err = none ∧ Fr s (commitBlock s b) ∧ UndoUpTo (commitBlock s b).d (commitBlock s b).n.lastHeight ∧
      ((s.n.tip = b.parent ∨ b.height > s.n.tipHeight) → (commitBlock s b).n.tip = b.id) ∧
      (s.n.tip ≠ b.parent → ¬ b.height > s.n.tipHeight →
        (commitBlock s b).n.tip = s.n.tip ∧ (commitBlock s b).n.tipHeight = s.n.tipHeight) from
    ⟨hk.step' h.2.1 h.1 htree h.2.2.1, h.2.1, h.2.2.2⟩
  by_cases htp : s.n.tip = b.parent
  · have hval : validOn s.n.utxo b = true := by
      rw [validOn_congr hc.utxo b]; exact valid_on hwf hc.ok hb (htp.symm.trans hc.tip)
    have hh : b.height = path.length + 1 := height_on hwf hc.ok hb (htp.symm.trans hc.tip)
    have hN := commitHead_neutral s b hb
    have hF := commitHead_fr s b hin
    rw [commitBlock_active b hk.err htp hval]
    unfold commitTail
    refine ⟨?_, ?_, ?_, fun _ => rfl, fun hne => absurd htp hne⟩
    · simp only [St.emit, commitBlockTxs_err]; exact hN.err.trans hk.err
    · exact (((hF.then_emit .nop .cAfterBlockAdd trivial).trans (commitBlockTxs_fr _ b)).then_emit .nop .cAfterUtxo trivial).then_set
        _ rfl rfl rfl
    · simp only [St.emit]
      refine commitBlockTxs_undo _ b ?_ ?_
      · show UndoUpTo (commitHead s b).d (commitHead s b).n.lastHeight
        rw [hN.lastH]; exact hF.ext.undo hk.undo
      · show b.height ≤ (commitHead s b).n.lastHeight + 1
        rw [hN.lastH, hc.lastH, hh]; omega
  · have hN : Neutral bs s (sideStored s b) := (blockAdd_neutral s b false hb).then_emit .nop .cSideStored trivial
    have hF : Fr s (sideStored s b) := (blockAdd_fr s b false hin).then_emit .nop .cSideStored trivial
    have hk1 : K0 (sideStored s b) := hk.neutral hN hF
    rw [commitBlock_side b hk.err htp] at hf ⊢
    by_cases hhi : b.height > (sideStored s b).n.tipHeight
    · rw [if_pos hhi] at hf ⊢
      obtain ⟨r1, r2, path', r3, r4⟩ := moveToBlock_spec hwf (hj.jd.neutral hN) (hc.neutral hN) (by rw [hN.err]; exact hk.err) b.id
        (by rw [hN.tree]; exact hin) hf
      obtain ⟨m1, m2, m3⟩ := moveToBlock_K hwf (hj.jd.neutral hN) (hc.neutral hN) hk1 b.id (by rw [hN.tree]; exact hin) hf
      refine ⟨m1, hF.trans m2, m3, fun _ => ?_, fun _ hn => absurd (hN.tipH ▸ hhi) hn⟩
      rw [r3.tip]; exact r4 m1
    · rw [if_neg hhi]
      exact ⟨hN.err.trans hk.err, hF, hk1.undo, fun h => absurd (h.resolve_left htp) (hN.tipH ▸ hhi), fun _ _ => ⟨hN.tip, hN.tipH⟩⟩

end GocoinV.Proofs.C07
