/-
  Proofs.C13Keys — helper lemmas about the wallet's key table with imported keys (.others) of both forms (core only).
  make_wallet keeps TWO slices: `keys` (imported keys first, then the deterministic ones) and `segwit`, made with
  len(keys) and filled AT THE KEY'S INDEX, an uncompressed key's entry staying nil. Model.WalletTx keeps one record per
  index. Here: record i of the table carries entry i of a SECOND, slice-level transcription of that loop (`segTable`;
  `keyTable_zip`), `findIdx?` is a `find?` over the index range (`findIdx?_eq_find?_range`), a record whose SegWit hash
  has 20 bytes is that of a compressed key and holds the hash of its own redeem script (`seg_of_len20`).
  The statements these serve are stated and proved in Props/C13.lean: `keys_segwit_index_parallel`,
  `script_hash_lookup_is_slice_loop` (`scriptHashToKeyIdx` = the one-loop look-up over the two slices),
  `p2sh_input_attributed_to_owner`, `p2pkh_input_attributed_to_owner`. (`segTable` / `scriptHashToKeyIdxSlices` are
  model-level definitions too: nothing here is generated from wallet.go; the link to the Go code is the harness's .others
  corpus.) At the end, namespace `Demo`: an uncompressed imported key `unc0` and the parsed -send request of the toy run
  of Proofs/C13Demo (`request0`), for the non-vacuity examples of Props/C13.lean.
-/
import GocoinV.Proofs.C13Sig
import GocoinV.Proofs.C13Demo
namespace GocoinV.WalletTx
open GocoinV.WalletSpec

theorem keyTable_zip (H : Addr.Hashes) (b : Bool) (pubs : List Bytes) (i : Nat) :
    (keyTable H b pubs)[i]? =
      (pubs[i]?).map fun p => { pub := p, h160 := H.hash160 p, segH160 := ((segTable H b pubs).getD i none).getD [] } := by
  unfold keyTable segTable
  rw [List.getElem?_map]
  cases hp : pubs[i]? with
  | none => rfl
  | some p =>
    simp only [Option.map_some, Option.some.injEq, List.getD, List.getElem?_map, hp]
    rw [KeyRec.mk.injEq]
    exact ⟨rfl, rfl, by unfold mkKey; by_cases h : p.length = 33 <;> cases b <;> simp [h]⟩

theorem findIdx?_eq_find?_range {α} (p : α → Bool) (d : α) (l : List α) :
    l.findIdx? p = (List.range l.length).find? (fun i => p (l.getD i d)) := by
  induction l with
  | nil => simp
  | cons a l ih =>
    rw [List.findIdx?_cons, List.length_cons, List.range_succ_eq_map, List.find?_cons]
    by_cases ha : p a = true
    · simp [ha]
    · simp only [ha, List.getD_cons_zero, List.find?_map]
      rw [ih]
      have : ((fun i => p ((a :: l).getD i d)) ∘ Nat.succ) = fun i => p (l.getD i d) := by
        funext i; simp
      rw [this]
      cases (List.find? (fun i => p (l.getD i d)) (List.range l.length)) <;> simp

/-- a record whose SegWit hash has 20 bytes is the record of a COMPRESSED key, and the hash is the hash of that
    key's own redeem script 00 14 HASH160(pub) (not bech32 mode) -/
theorem seg_of_len20 (H : Addr.Hashes) (p : Bytes) (hl : (mkKey H false p).segH160.length = 20) :
    p.length = 33 ∧ (mkKey H false p).segH160 = H.hash160 ([0, 20] ++ H.hash160 p) := by
  by_cases h : p.length = 33
  · exact ⟨h, by simp [mkKey, h]⟩
  · simp [mkKey, h] at hl

/-! ### a concrete mixed table for the non-vacuity examples: an UNCOMPRESSED imported key at index 0 (65 bytes, no
    SegWit entry), the compressed key of Proofs/C13Demo at index 1 -/
namespace Demo
def unc0 : Bytes := 4 :: List.replicate 64 5

/-- the -send argument of the toy run of Proofs/C13Demo, parsed (decoding the address dominates the evaluation of the runs in
    the examples of Props/C13.lean: it is evaluated here, once) -/
theorem request0 : sendRequest H0 c0 (some send0) none = .ok ([⟨.segwit [98, 99] 0
    [117, 30, 118, 232, 25, 145, 150, 212, 84, 148, 28, 69, 209, 179, 163, 35, 241, 67, 59, 214], 50000000⟩], 50000000) := by
  suffices h : ∀ q, okReq (sendRequest H0 c0 (some send0) none) = some q → sendRequest H0 c0 (some send0) none = .ok q from
    h _ (by decide +kernel)
  intro q h
  cases hs : sendRequest H0 c0 (some send0) none with
  | ok r => rw [hs] at h; simpa [okReq] using h
  | error e => rw [hs] at h; simp [okReq] at h

end Demo

end GocoinV.WalletTx
