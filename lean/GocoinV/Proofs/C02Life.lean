/-
  Proofs.C02Life — simulation between a history over several transaction objects run WITH the scratch structs
  (`runLife`, any allocator discipline that only ever hands out blank structs) and the same history run without any
  struct (`runLifeSpec`). Core-only.
-/
import GocoinV.Model.SigHashLife
import GocoinV.Proofs.C02Cache
namespace GocoinV.SigHash
open GocoinV.Wire (Tx TxIn TxOut)

/-- an allocator that, from states satisfying `I`, only hands out blank structs and stays inside `I` -/
structure Allocator.Blank {σ : Type} (A : Allocator σ) (I : σ → Prop) : Prop where
  get_blank : ∀ s, I s → (A.get s).1 = {}
  get_inv : ∀ s, I s → I (A.get s).2
  put_inv : ∀ s v, I s → I (A.put s v)

/-- slot `i` of the heap against "object i is allocated": a struct in use belongs to ITS transaction -/
def SlotOK (H : Bytes → Bytes) (objs : List Obj) (i : Nat) : Option VerVars → Bool → Prop
  | none, b => b = false
  | some v, b => b = true ∧ ∃ o, objs[i]? = some o ∧ v.spent = o.spent ∧ Cache.OK H o.tx o.spent v.cache

structure Sim {σ : Type} (H : Bytes → Bytes) (objs : List Obj) (alive : List Bool) (w : World σ) : Prop where
  len : w.heap.length = alive.length
  slot : ∀ i x b, w.heap[i]? = some x → alive[i]? = some b → SlotOK H objs i x b

theorem Sim.get {σ : Type} {H : Bytes → Bytes} {objs : List Obj} {alive : List Bool} {w : World σ}
    (h : Sim H objs alive w) {i : Nat} {x : Option VerVars} (hx : w.heap[i]? = some x) :
    ∃ b, alive[i]? = some b ∧ SlotOK H objs i x b := by
  obtain ⟨hlt, _⟩ := List.getElem?_eq_some_iff.mp hx
  have hi : i < alive.length := h.len ▸ hlt
  exact ⟨alive[i], List.getElem?_eq_getElem hi, h.slot i x _ hx (List.getElem?_eq_getElem hi)⟩

theorem Sim.none {σ : Type} {H : Bytes → Bytes} {objs : List Obj} {alive : List Bool} {w : World σ}
    (h : Sim H objs alive w) {i : Nat} (hx : w.heap[i]? = none) : alive[i]? = none := by
  rw [List.getElem?_eq_none_iff] at hx ⊢
  rw [← h.len]; exact hx

theorem Sim.set {σ : Type} {H : Bytes → Bytes} {objs : List Obj} {alive : List Bool} {w : World σ}
    (h : Sim H objs alive w) (i : Nat) (x : Option VerVars) (b : Bool) (p : σ) (hs : SlotOK H objs i x b) :
    Sim H objs (alive.set i b) { heap := w.heap.set i x, pool := p } := by
  constructor
  · simp [h.len]
  · intro j y c hy hc
    simp only [List.getElem?_set] at hy hc
    by_cases hij : i = j
    · subst hij
      simp only [↓reduceIte] at hy hc
      split at hy
      · split at hc
        · cases hy; cases hc; exact hs
        · cases hc
      · cases hy
    · simp only [hij, ↓reduceIte] at hy hc
      exact h.slot j y c hy hc

theorem lifeStep_sim {σ : Type} (A : Allocator σ) (I : σ → Prop) (hA : A.Blank I) (H : Bytes → Bytes)
    (objs : List Obj) (hobjs : ∀ o ∈ objs, o.tx.ins.length ≤ o.spent.length)
    (alive : List Bool) (w : World σ) (hs : Sim H objs alive w) (hp : I w.pool) (e : Ev) :
    (lifeStep A H objs w e).2 = (specStep H objs alive e).2
    ∧ Sim H objs (specStep H objs alive e).1 (lifeStep A H objs w e).1
    ∧ I (lifeStep A H objs w e).1.pool := by
  cases e with
  | alloc i how =>
    cases ho : objs[i]? with
    | none => simp only [lifeStep, specStep, ho]; exact ⟨trivial, hs, hp⟩
    | some o =>
      cases hh : w.heap[i]? with
      | none =>
        have ha := hs.none hh
        simp only [lifeStep, specStep, ho, hh, ha]; exact ⟨trivial, hs, hp⟩
      | some x =>
        obtain ⟨b, ha, hok⟩ := hs.get hh
        cases x with
        | none =>
          obtain rfl : b = false := hok
          simp only [lifeStep, specStep, ho, hh, ha]
          refine ⟨trivial, ?_, hA.get_inv _ hp⟩
          apply hs.set
          refine ⟨rfl, o, ho, ?_, ?_⟩
          · rw [hA.get_blank _ hp]; cases how <;> rfl
          · rw [hA.get_blank _ hp]; exact Cache.OK_empty H o.tx o.spent
        | some v =>
          obtain rfl : b = true := hok.1
          simp only [lifeStep, specStep, ho, hh, ha]; exact ⟨trivial, hs, hp⟩
  | clean i =>
    cases hh : w.heap[i]? with
    | none =>
      have ha := hs.none hh
      simp only [lifeStep, specStep, hh, ha]; exact ⟨trivial, hs, hp⟩
    | some x =>
      obtain ⟨b, ha, hok⟩ := hs.get hh
      cases x with
      | none =>
        obtain rfl : b = false := hok
        simp only [lifeStep, specStep, hh, ha]; exact ⟨trivial, hs, hp⟩
      | some v =>
        obtain rfl : b = true := hok.1
        simp only [lifeStep, specStep, hh, ha]
        exact ⟨trivial, hs.set i none false _ rfl, hA.put_inv _ _ hp⟩
  | call i k =>
    cases ho : objs[i]? with
    | none => simp only [lifeStep, specStep, ho]; exact ⟨trivial, hs, hp⟩
    | some o =>
      cases hh : w.heap[i]? with
      | none =>
        have ha := hs.none hh
        simp only [lifeStep, specStep, ho, hh, ha]; exact ⟨trivial, hs, hp⟩
      | some x =>
        obtain ⟨b, ha, hok⟩ := hs.get hh
        cases x with
        | none =>
          obtain rfl : b = false := hok
          simp only [lifeStep, specStep, ho, hh, ha]; exact ⟨trivial, hs, hp⟩
        | some v =>
          obtain ⟨hb, o', ho', hsp, hc⟩ := hok
          subst hb
          rw [ho] at ho'
          cases ho'
          have hlen := hobjs o (List.mem_of_getElem? ho)
          have hst := step_cache true H o.tx o.spent v.cache hlen hc k
          simp only [lifeStep, specStep, ho, hh, ha, hsp]
          refine ⟨congrArg some hst.1, ?_, hp⟩
          have := hs.set i (some { cache := (step true H o.tx o.spent v.cache k).2, spent := o.spent }) true w.pool
            ⟨rfl, o, ho, rfl, hst.2⟩
          obtain ⟨hlt, hget⟩ := List.getElem?_eq_some_iff.mp ha
          rw [show alive.set i true = alive by rw [← hget]; exact List.set_getElem_self hlt] at this
          exact this

theorem runLife_sim {σ : Type} (A : Allocator σ) (I : σ → Prop) (hA : A.Blank I) (H : Bytes → Bytes)
    (objs : List Obj) (hobjs : ∀ o ∈ objs, o.tx.ins.length ≤ o.spent.length) (evs : List Ev) :
    ∀ (alive : List Bool) (w : World σ), Sim H objs alive w → I w.pool →
      runLife A H objs w evs = runLifeSpec H objs alive evs := by
  induction evs with
  | nil => intros; rfl
  | cons e es ih =>
    intro alive w hs hp
    obtain ⟨h1, h2, h3⟩ := lifeStep_sim A I hA H objs hobjs alive w hs hp e
    simp only [runLife, runLifeSpec, h1, ih _ _ h2 h3]

theorem Sim.init {σ : Type} (H : Bytes → Bytes) (objs : List Obj) (n : Nat) (s : σ) :
    Sim H objs (List.replicate n false) (World.init n s) := by
  constructor
  · simp [World.init]
  · intro i x b hx hb
    cases List.eq_of_mem_replicate (List.mem_of_getElem? hx)
    cases List.eq_of_mem_replicate (List.mem_of_getElem? hb)
    rfl

theorem freshAlloc_blank : freshAlloc.Blank (fun _ => True) :=
  ⟨fun _ _ => rfl, fun _ _ => trivial, fun _ _ _ => trivial⟩

theorem poolAlloc_blank (reset : VerVars → VerVars) (hr : ∀ v, reset v = {}) :
    (poolAlloc reset).Blank (fun s => ∀ v ∈ s, v = {}) := by
  refine ⟨?_, ?_, ?_⟩
  · intro s hs
    cases s with
    | nil => rfl
    | cons v r => exact hs v (List.mem_cons_self ..)
  · intro s hs
    cases s with
    | nil => exact hs
    | cons v r => intro x hx; exact hs x (List.mem_cons_of_mem _ hx)
  · intro s v hs x hx
    simp only [poolAlloc, List.mem_cons] at hx
    cases hx with
    | inl h => rw [h, hr]
    | inr h => exact hs x h

end GocoinV.SigHash
