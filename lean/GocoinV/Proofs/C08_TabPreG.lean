/-
  Proofs.C08_TabPreG — the two wNAF tables `pre_g` and `pre_g_128`: ONE kernel evaluation of `tableOK` per table
  establishes that it has 4096 entries, every limb within the affine contract, the first entry G resp. 2^128·G, and
  every entry the previous one plus 2·G resp. 2·(2^128·G) (`tableOK_sound` in C08_TabAll). 2^128·G is computed with
  the Jacobian doubling of Base/C01_SecpFast (`g128J`; C08_TabAll proves it equal to `g128`). Three small evaluations about single chunks stand at the end
  (`preG128_headJ`, `preG_15_ne`, `preG128_15_ne`).
-/
import GocoinV.Proofs.C08_TabDefs
import GocoinV.Base.C01_SecpFast
import GocoinV.Gen.Tables

namespace GocoinV.C08
open GocoinV.Gen

def iterDblJ : Nat → SecpFast.J → SecpFast.J
  | 0, a => a
  | n+1, a => iterDblJ n (SecpFast.dbl a)

/-- 2^128·G by 128 Jacobian doublings and one inversion -/
def g128J : Secp.Point := SecpFast.toAffine (iterDblJ 128 (SecpFast.ofAffine Secp.G))

/- The kernel pays for every list cell it opens, and the generated `preGAll = preG00 ++ preG01 ++ …` is nested to
   the left: an entry of the first chunk would pass through fifteen appends. The tables are therefore evaluated
   nested to the right. -/
theorem preG_flat : Tables.preGAll = [Tables.preG00, Tables.preG01, Tables.preG02, Tables.preG03, Tables.preG04,
    Tables.preG05, Tables.preG06, Tables.preG07, Tables.preG08, Tables.preG09, Tables.preG10, Tables.preG11,
    Tables.preG12, Tables.preG13, Tables.preG14, Tables.preG15].flatten := by
  simp only [Tables.preGAll, List.flatten_cons, List.flatten_nil, List.append_nil, List.append_assoc]

theorem preG128_flat : Tables.preG128All = [Tables.preG12800, Tables.preG12801, Tables.preG12802, Tables.preG12803,
    Tables.preG12804, Tables.preG12805, Tables.preG12806, Tables.preG12807, Tables.preG12808, Tables.preG12809,
    Tables.preG12810, Tables.preG12811, Tables.preG12812, Tables.preG12813, Tables.preG12814,
    Tables.preG12815].flatten := by
  simp only [Tables.preG128All, List.flatten_cons, List.flatten_nil, List.append_nil, List.append_assoc]

theorem preG_ok : tableOK (Secp.dbl Secp.G) Secp.G 4095 Tables.preGAll = true := by
  rw [preG_flat]; decide +kernel

theorem preG128_okJ : tableOK (Secp.dbl g128J) g128J 4095 Tables.preG128All = true := by
  rw [preG128_flat]; decide +kernel

theorem preG128_headJ : (pts Tables.preG12800).head? = some g128J := by decide +kernel

theorem preG_15_ne : pts Tables.preG15 ≠ [] := by decide +kernel

theorem preG128_15_ne : pts Tables.preG12815 ≠ [] := by decide +kernel

end GocoinV.C08
