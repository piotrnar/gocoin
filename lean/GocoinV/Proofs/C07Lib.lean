/-
  Proofs.C07Lib — the library-mode tail of NewChainExt after a clean shutdown, the lock file, the walking snapshot writer.
  Core Lean only.
-/
import GocoinV.Proofs.C07KMain
import GocoinV.Model.PersistLib
namespace GocoinV.Proofs.C07
open GocoinV.Persist
open GocoinV.Gen.C07Facts (ReapplyGuard LockOpenMode)

/-! ### library mode after a clean shutdown -/

/-- with the guard as written ("strictly higher") the tail is a no-op whenever no block of the tree is higher than the tip -
    in WHATEVER order the tree is listed -/
theorem libraryTail_higher_noop (s : St) (h : ∀ t ∈ s.n.tree, t.height ≤ s.n.tipHeight) :
    libraryTail .higher s = s := by
  have hf := farthest_le s h
  unfold libraryTail reapplyWanted
  simp only [Bool.not_eq_eq_eq_not, Bool.not_true, decide_eq_false_iff_not, Nat.not_lt]
  rw [if_pos hf]

theorem withTree_tipHeight (s : St) (tree : List TNode) : (withTree s tree).n.tipHeight = s.n.tipHeight := rfl
theorem withTree_tree (s : St) (tree : List TNode) : (withTree s tree).n.tree = tree := rfl

/-! ### the lock file -/

/-- with a mode that accepts an existing file no start is ever refused, and the file is there exactly while / after a run -/
theorem lockRun_never_refused (m : LockOpenMode) (hm : m ≠ .createExcl) (es : List LEvent) :
    (lockRun m es).refused = false := by
  unfold lockRun
  refine List.foldlRecOn (motive := fun (s : LockSt) => s.refused = false) es _ rfl fun s h e _ => ?_
  cases e with
  | start =>
    simp only [lockStep]
    split
    · exact h
    · have : lockStart m s.file = true := by
        cases m with
        | openOrCreate | removeThenExcl => rfl
        | createExcl => exact absurd rfl hm
      rw [if_pos this]; exact h
  | crash => exact h
  | stop => simp only [lockStep]; split <;> exact h

/-! ### the walking snapshot writer -/

theorem walkFrom_append (recs : List LRec) (m a b : Nat) :
    walkFrom recs m (a + b) = walkFrom recs m a ++ walkFrom recs (m + a) b := by
  induction a generalizing m with
  | zero => simp [walkFrom]
  | succ a ih =>
    rw [Nat.add_right_comm a 1 b]
    simp only [walkFrom, List.append_assoc]
    rw [ih (m + 1), Nat.add_assoc m 1 a, Nat.add_comm 1 a]

theorem walkFrom_succ (recs : List LRec) (m k : Nat) :
    walkFrom recs m (k + 1) = walkFrom recs m k ++ walkMap recs (m + k) := by
  rw [walkFrom_append recs m k 1]
  simp [walkFrom]

/-- the invariant of the writer when every mutator aborts it first -/
structure LInv (nmaps : Nat) (s : LSt) : Prop where
  cur : (s.tip, s.recs) ∈ s.held
  save : ∀ sv, s.save = some sv → sv.tip = s.tip ∧ sv.count = s.recs.length ∧ sv.next ≤ nmaps ∧ sv.written = walkFrom s.recs 0 sv.next
  file : fileHeld nmaps s = true

theorem fileHeld_mono {nmaps : Nat} {s : LSt} (h : fileHeld nmaps s = true) (x : Nat × List LRec) (s' : LSt)
    (hdb : s'.db = s.db) (hh : s'.held = x :: s.held) : fileHeld nmaps s' = true := by
  unfold fileHeld at *
  rw [hdb, hh]
  cases hd : s.db with
  | none => rfl
  | some f =>
    rw [hd] at h
    simp only [List.any_cons, Bool.or_eq_true]
    exact Or.inr h

theorem mutate_inv {nmaps : Nat} {s : LSt} (h : LInv nmaps s) (tip : Nat) (del add : List LRec) :
    LInv nmaps (mutate s true tip del add) := by
  refine ⟨by simp [mutate], ?_, fileHeld_mono h.file _ _ rfl rfl⟩
  intro sv hsv; simp [mutate] at hsv

theorem lstep_inv {nmaps : Nat} {s : LSt} (h : LInv nmaps s) (op : LOp) : LInv nmaps (lstep nmaps true true s op) := by
  cases op with
  | saveStart =>
    simp only [lstep]
    split
    · exact h
    · refine ⟨h.cur, ?_, h.file⟩
      rintro _ ⟨⟩
      exact ⟨rfl, rfl, Nat.zero_le _, rfl⟩
  | saveStep =>
    simp only [lstep]
    cases hs : s.save with
    | none => exact h
    | some sv =>
      simp only []
      obtain ⟨a, b, c, d⟩ := h.save sv hs
      split
      · rename_i hlt
        refine ⟨h.cur, ?_, h.file⟩
        rintro _ ⟨⟩
        refine ⟨a, b, hlt, ?_⟩
        rw [walkFrom_succ, d, Nat.zero_add]
      · exact h
  | saveFinish =>
    simp only [lstep]
    cases hs : s.save with
    | none => exact h
    | some sv =>
      obtain ⟨a, b, c, d⟩ := h.save sv hs
      refine ⟨h.cur, ?_, ?_⟩
      · intro sv' hsv'; simp at hsv'
      · unfold fileHeld
        simp only [List.any_eq_true, Bool.and_eq_true, beq_iff_eq]
        refine ⟨(s.tip, s.recs), h.cur, ⟨a.symm, ?_⟩, b⟩
        have hw : walkAll s.recs nmaps = walkFrom s.recs 0 (sv.next + (nmaps - sv.next)) := by
          unfold walkAll; congr 1; omega
        rw [hw, walkFrom_append, d, Nat.zero_add]
  | commit tip del add | undo tip del add => exact mutate_inv h tip del add

theorem lrun_inv (nmaps : Nat) (ops : List LOp) : LInv nmaps (lrun nmaps true true ops) := by
  unfold lrun
  exact List.foldlRecOn ops _ ⟨by simp, by intro sv h; simp at h, rfl⟩ fun _ h op _ => lstep_inv h op

end GocoinV.Proofs.C07
