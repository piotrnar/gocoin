/-
  Proofs.C20Lock — the class selected by a "good" selection term (Model/AllocLock.lean) is the class the
  model's Malloc / Free step edits.  Used by Props.C20.malloc_locks_own_class / free_locks_own_class with
  the terms regenerated from the source.
-/
import GocoinV.Model.AllocLock
import GocoinV.Proofs.C20Inv
namespace GocoinV.Alloc
open GocoinV.Gen.MemClasses
variable {V : Type}

/-- every class is the class of its own slot size (the table is strictly increasing) -/
theorem classOf_slotSize : ∀ c, c < nClasses → classOf (slotSize c) = c := by decide +kernel

/-- …and NOT of its slot size minus the slice header, for some class: `getSizeClass(Cap)` is a different
function from the page's class (the witness named in the docstring of `Props.C20.free_locks_own_class`; no proof uses it). -/
theorem classOf_cap_differs : ∃ c, c < nClasses ∧ classOf (slotSize c - sliceHdrLen) ≠ c := by decide +kernel

theorem selMalloc_good {e : ClassSel} (hg : goodMallocSel e = true) (size : Nat)
    (h : size + sliceHdrLen ≤ maxShared) : selMalloc e size = some (classOf (size + sliceHdrLen)) := by
  obtain rfl : e = .sizeClass .reqSize sliceHdrLen := by simpa [goodMallocSel] using hg
  simp only [selMalloc, getSizeClass]
  rw [if_neg (by omega)]

theorem malloc_shared_eq (s : State V) (size : Nat) (h : size + sliceHdrLen ≤ maxShared) :
    malloc s size = allocLive { s with allocs := s.allocs + 1 } (classOf (size + sliceHdrLen)) size
      (slotSize (classOf (size + sliceHdrLen)) - sliceHdrLen) none := by
  unfold malloc
  simp only []
  rw [if_neg (by omega)]

theorem selFree_good {e : ClassSel} (hg : goodFreeSel e = true) {s : State V} (inv : InvG s) {p i : Nat}
    {l : LiveRec V} (hq : s.live.get? (.sh p i) = some l) :
    ∃ h, s.pages.get? p = some h ∧ h.cls < nClasses ∧ selFree e s (.sh p i) = some h.cls := by
  obtain ⟨m, hm, _, _, _, _, h, g1, _, g3⟩ := inv.live _ l hq
  have okp := inv.pages p h g1
  refine ⟨h, g1, okp.cls_lt, ?_⟩
  obtain rfl | rfl : e = .pageHeader ∨ e = .sizeClass .slotCap sliceHdrLen := by
    simpa [goodFreeSel] using hg
  · simp [selFree, g1]
  · have t := (table_facts.2 _ okp.cls_lt).2.1
    simp only [selFree, hm, Option.bind_some, getSizeClass, g3]
    rw [if_neg (by omega), classOf_slotSize _ okp.cls_lt]

theorem free_shared_eq {s : State V} (inv : Inv s) {p i : Nat} {l : LiveRec V}
    (hq : s.live.get? (.sh p i) = some l) :
    ∃ h, s.pages.get? p = some h ∧
      free s (.sh p i) = .ok (freeSlot { s with allocs := s.allocs - 1, live := s.live.del (.sh p i) } p i h) := by
  obtain ⟨s', hs⟩ := free_total inv (a := .sh p i) (by simp [State.isLive, hq])
  obtain ⟨_, _, _, ⟨id, e, _⟩ | ⟨p', i', h, e, hp, _, rfl⟩⟩ := free_ok hs
  · cases e
  · cases e; exact ⟨h, hp, hs⟩

theorem freeSlot_other (s : State V) (p i : Nat) (h : Page) (c : Nat) (hc : c ≠ h.cls) :
    (freeSlot s p i h).K c = s.K c := by
  unfold freeSlot
  simp only []
  split <;> simp only [State.K, KMap.get?_set, if_neg (Ne.symm hc)]

end GocoinV.Alloc
