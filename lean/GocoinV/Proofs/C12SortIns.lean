/-
  Proofs.C12SortIns — the rank half of "AddToSort keeps the invariant of the non-dirty sorted list": the SortRank
  arithmetic of fixIndex / reindexDown / reindexEverything (and `rankFrom` of buildSortedList) keeps the ranks strictly
  increasing and below 2^64 as long as the ghost flag `rankWrap` stays clear (`fixIndex_asc`).  The position half
  (findWorstParent = largest SortRank therefore finds the LAST flagged parent on the list, insertDownFromHere puts the
  new record below it) is in Proofs/C12SortAdd.  Core Lean only.
-/
import GocoinV.Proofs.C12
namespace GocoinV.Mempool

/-- rank lookup in a rank table -/
def G (rk : AList Nat Nat) (x : Nat) : Nat := (rk.get? x).getD 0

theorem rankOf_eq (s : State) : rankOf s = G s.ranks := rfl

theorem U64_pos : 0 < U64 := Nat.two_pow_pos 64

theorem G_set_self (rk : AList Nat Nat) (b r : Nat) : G (rk.set b r) b = r := by
  unfold G; rw [AList.get?_set_self]; rfl

theorem G_set_other (rk : AList Nat Nat) (b r x : Nat) (h : x ≠ b) : G (rk.set b r) x = G rk x := by
  unfold G; rw [AList.get?_set_other _ _ _ _ h]

theorem G_del_self (rk : AList Nat Nat) (b : Nat) : G (rk.del b) b = 0 := by
  unfold G; rw [AList.get?_del_self]; rfl

theorem G_del_other (rk : AList Nat Nat) (b x : Nat) (h : x ≠ b) : G (rk.del b) x = G rk x := by
  unfold G; rw [AList.get?_del_other _ _ _ h]

theorem map_G_set (rk : AList Nat Nat) (b r : Nat) : ∀ (l : List Nat), b ∉ l → l.map (G (rk.set b r)) = l.map (G rk) :=
  fun _ h => List.map_congr_left fun _ hx => G_set_other _ _ _ _ fun e => h (e ▸ hx)

theorem map_G_del (rk : AList Nat Nat) (b : Nat) : ∀ (l : List Nat), b ∉ l → l.map (G (rk.del b)) = l.map (G rk) :=
  fun _ h => List.map_congr_left fun _ hx => G_del_other _ _ _ fun e => h (e ▸ hx)

/-! ### rankFrom (buildSortedList, reindexEverything) -/

theorem G_rankFrom_notin (step : Nat) : ∀ (l : List Nat) (r x : Nat), x ∉ l → G (rankFrom step r l) x = 0 := by
  intro l
  induction l with
  | nil => intro r x _; rfl
  | cons b t ih =>
    intro r x h
    simp only [List.mem_cons, not_or] at h
    unfold G rankFrom AList.get?
    rw [if_neg (fun e => h.1 e.symm)]
    exact ih (r + step) x h.2

theorem rankFrom_asc (step : Nat) (hs : 1 ≤ step) : ∀ (l : List Nat) (r : Nat), l.Nodup → r + l.length * step < U64 + step →
    (l.map (G (rankFrom step r l))).Pairwise (· < ·) ∧
    ∀ x ∈ l, r ≤ G (rankFrom step r l) x ∧ G (rankFrom step r l) x < U64 := by
  intro l
  induction l with
  | nil => intro r _ _; exact ⟨List.Pairwise.nil, by simp⟩
  | cons b t ih =>
    intro r hn hb
    obtain ⟨hbt, hnt⟩ := List.nodup_cons.mp hn
    simp only [List.length_cons] at hb
    have hmul : (t.length + 1) * step = t.length * step + step := Nat.succ_mul _ _
    have hb' : r + step + t.length * step < U64 + step := by omega
    have hr : r < U64 := by omega
    obtain ⟨i1, i2⟩ := ih (r + step) hnt hb'
    have hhead : G (rankFrom step r (b :: t)) b = r := by
      unfold G rankFrom AList.get?
      rw [if_pos rfl]
      exact Nat.mod_eq_of_lt hr
    have htail : ∀ x ∈ t, G (rankFrom step r (b :: t)) x = G (rankFrom step (r + step) t) x := by
      intro x hx
      have hne : b ≠ x := fun e => hbt (e ▸ hx)
      unfold G
      conv => lhs; unfold rankFrom AList.get?
      rw [if_neg hne]
    have hmap : t.map (G (rankFrom step r (b :: t))) = t.map (G (rankFrom step (r + step) t)) :=
      List.map_congr_left htail
    refine ⟨?_, ?_⟩
    · simp only [List.map_cons]
      rw [hhead, hmap]
      exact List.Pairwise.cons (List.forall_mem_map.mpr fun x hx => by have := (i2 x hx).1; omega) i1
    · intro x hx
      rcases List.mem_cons.mp hx with rfl | hx
      · rw [hhead]; exact ⟨Nat.le_refl _, hr⟩
      · rw [htail x hx]
        have := i2 x hx
        exact ⟨by omega, this.2⟩

theorem rankRoom_spec (step len : Nat) (h : rankRoom step len = true) : 1 ≤ step ∧ SORT_START + len * step < U64 := by
  unfold rankRoom at h
  simpa using h

/-! ### reindexDown -/

theorem asc_head_le (f : Nat → Nat) (w : Nat) (l : List Nat) (h : ((w :: l).map f).Pairwise (· < ·)) :
    ∀ y ∈ w :: l, f w ≤ f y :=
  List.forall_mem_cons.mpr ⟨Nat.le_refl _, fun _ hy => Nat.le_of_lt ((List.pairwise_cons.mp h).1 _ (List.mem_map_of_mem hy))⟩

theorem reindexWalk_spec (st : Nat) (hst : 1 ≤ st) : ∀ (l : List Nat) (index : Nat) (rk rk' : AList Nat Nat),
    l.Nodup → (l.map (G rk)).Pairwise (· < ·) → (∀ x ∈ l, G rk x < U64) →
    reindexWalk st index l rk = some rk' →
    (∀ y, y ∉ l → G rk' y = G rk y) ∧ (l.map (G rk')).Pairwise (· < ·) ∧ ∀ x ∈ l, index < G rk' x ∧ G rk' x < U64 := by
  intro l
  induction l with
  | nil =>
    intro index rk rk' _ _ _ h
    simp only [reindexWalk, Option.some.injEq] at h
    subst h
    exact ⟨fun _ _ => rfl, List.Pairwise.nil, by simp⟩
  | cons x r ih =>
    intro index rk rk' hn hp hb h
    obtain ⟨hxr, hnr⟩ := List.nodup_cons.mp hn
    unfold reindexWalk at h
    dsimp only at h
    split at h
    · cases h
    · split at h
      · simp only [Option.some.injEq] at h
        subst h
        refine ⟨fun _ _ => rfl, hp, fun y hy => ⟨?_, hb y hy⟩⟩
        have := asc_head_le (G rk) x r hp y hy
        unfold G at this ⊢
        omega
      · have hmap : r.map (G (rk.set x (index + st))) = r.map (G rk) := map_G_set rk x _ r hxr
        obtain ⟨j1, j2, j3⟩ := ih (index + st) (rk.set x (index + st)) rk' hnr (by rw [hmap]; exact (List.pairwise_cons.mp hp).2)
          (by intro y hy; rw [G_set_other _ _ _ _ (fun e => hxr (by subst e; exact hy))]; exact hb y (List.mem_cons_of_mem _ hy)) h
        have hx' : G rk' x = index + st := by rw [j1 x hxr, G_set_self]
        refine ⟨?_, ?_, ?_⟩
        · intro y hy
          simp only [List.mem_cons, not_or] at hy
          rw [j1 y hy.2, G_set_other _ _ _ _ hy.1]
        · simp only [List.map_cons, List.pairwise_cons]
          exact ⟨List.forall_mem_map.mpr fun y hy => by rw [hx']; exact (j3 y hy).1, j2⟩
        · intro y hy
          rcases List.mem_cons.mp hy with rfl | hy
          · rw [hx']; omega
          · have := j3 y hy; omega

/-! ### fixIndex: the ranks stay strictly increasing -/

theorem pairwise_mid {a : Nat} {l1 l2 : List Nat} (h : (l1 ++ l2).Pairwise (· < ·))
    (h1 : ∀ x ∈ l1, x < a) (h2 : ∀ y ∈ l2, a < y) : (l1 ++ a :: l2).Pairwise (· < ·) := by
  rw [List.pairwise_append] at h ⊢
  obtain ⟨p1, p2, p3⟩ := h
  refine ⟨p1, List.Pairwise.cons h2 p2, ?_⟩
  intro x hx y hy
  rcases List.mem_cons.mp hy with rfl | hy
  · exact h1 x hx
  · exact p3 x hx y hy

/-- what `fixIndex` has to deliver for the list `pre ++ b :: post` -/
def FixPost (s2 : State) (b : Nat) (pre post : List Nat) : Prop :=
  s2.sorted = pre ++ b :: post ∧ ((pre ++ b :: post).map (G s2.ranks)).Pairwise (· < ·) ∧
  ∀ x ∈ pre ++ b :: post, G s2.ranks x < U64

theorem set_between_asc (rk : AList Nat Nat) (b : Nat) (pre post : List Nat) (hbpre : b ∉ pre) (hbpost : b ∉ post)
    (hasc : ((pre ++ post).map (G rk)).Pairwise (· < ·)) (hbnd : ∀ x ∈ pre ++ post, G rk x < U64)
    (r : Nat) (h1 : ∀ x ∈ pre, G rk x < r) (h2 : ∀ y ∈ post, r < G rk y) (h3 : r < U64) :
    ((pre ++ b :: post).map (G (rk.set b r))).Pairwise (· < ·) ∧ ∀ x ∈ pre ++ b :: post, G (rk.set b r) x < U64 := by
  refine ⟨?_, ?_⟩
  · rw [List.map_append, List.map_cons, map_G_set _ _ _ _ hbpre, map_G_set _ _ _ _ hbpost, G_set_self]
    rw [List.map_append] at hasc
    exact pairwise_mid hasc (List.forall_mem_map.mpr h1) (List.forall_mem_map.mpr h2)
  · rw [List.forall_mem_append] at hbnd ⊢
    rw [List.forall_mem_cons, G_set_self]
    refine ⟨fun x hx => ?_, h3, fun x hx => ?_⟩
    · rw [G_set_other _ _ _ _ (fun e => by rw [e] at hx; exact hbpre hx)]; exact hbnd.1 x hx
    · rw [G_set_other _ _ _ _ (fun e => by rw [e] at hx; exact hbpost hx)]; exact hbnd.2 x hx

theorem reindexAll_asc (s0 : State) (l : List Nat) (hnd : l.Nodup) (h0 : s0.sorted = l) (hw0 : (reindexAll s0).rankWrap = false) :
    (reindexAll s0).sorted = l ∧ (l.map (G (reindexAll s0).ranks)).Pairwise (· < ·) ∧
    ∀ x ∈ l, G (reindexAll s0).ranks x < U64 := by
  unfold reindexAll at hw0 ⊢
  dsimp only at hw0 ⊢
  obtain ⟨r1, r2⟩ := rankRoom_spec _ _ (Bool.not_inj (y := true) (Bool.or_eq_false_iff.mp hw0).2)
  rw [h0] at r2 ⊢
  obtain ⟨a1, a2⟩ := rankFrom_asc _ r1 l SORT_START hnd (by omega)
  exact ⟨rfl, a1, fun x hx => (a2 x hx).2⟩

theorem mod_sub_U64 (a b : Nat) (h1 : b ≤ a) (h2 : a < U64) : (a + U64 - b) % U64 = a - b := by
  have : a + U64 - b = (a - b) + U64 := by omega
  rw [this, Nat.add_mod_right, Nat.mod_eq_of_lt (by omega)]

theorem asc_le_last (f : Nat → Nat) (l : List Nat) (p : Nat) (h : ((l ++ [p]).map f).Pairwise (· < ·)) :
    ∀ x ∈ l ++ [p], f x ≤ f p := by
  rw [List.map_append, List.pairwise_append] at h
  exact List.forall_mem_append.mpr ⟨fun x hx => Nat.le_of_lt (h.2.2 _ (List.mem_map_of_mem hx) _ List.mem_cons_self),
    List.forall_mem_singleton.mpr (Nat.le_refl _)⟩

theorem fixIndex_asc_head (s : State) (b w : Nat) (post' : List Nat) (hs : s.sorted = b :: w :: post')
    (hnd : (b :: w :: post').Nodup)
    (hasc : ((w :: post').map (G s.ranks)).Pairwise (· < ·)) (hbnd : ∀ x ∈ w :: post', G s.ranks x < U64)
    (hw : (fixIndex s b none (some w) (b :: w :: post')).rankWrap = false) :
    FixPost (fixIndex s b none (some w) (b :: w :: post')) b [] (w :: post') := by
  have hwlt := asc_head_le (G s.ranks) w post' hasc
  have hwb : G s.ranks w < U64 := hbnd w List.mem_cons_self
  have put := fun r (hr : r < G s.ranks w) => set_between_asc s.ranks b [] (w :: post') (by simp) (List.nodup_cons.mp hnd).1
    hasc hbnd r (by simp) (by intro y hy; have := hwlt y hy; omega) (by omega)
  unfold fixIndex at hw ⊢
  dsimp only at hw ⊢
  rw [rankOf_eq] at hw ⊢
  by_cases hgt : G s.ranks w > s.sortStep
  · rw [if_pos hgt] at hw ⊢
    have hst : s.sortStep ≠ 0 := by intro e; simp [e] at hw
    exact ⟨hs, put _ (by omega)⟩
  · rw [if_neg hgt] at hw ⊢
    by_cases hz : G s.ranks w / 2 = G s.ranks w
    · rw [if_pos hz] at hw ⊢
      exact reindexAll_asc _ _ hnd hs hw
    · rw [if_neg hz]
      exact ⟨hs, put _ (by omega)⟩

theorem fixIndex_asc_last (s : State) (b p : Nat) (pre' : List Nat) (hs : s.sorted = (pre' ++ [p]) ++ [b])
    (hnd : ((pre' ++ [p]) ++ [b]).Nodup)
    (hasc : ((pre' ++ [p]).map (G s.ranks)).Pairwise (· < ·)) (hbnd : ∀ x ∈ pre' ++ [p], G s.ranks x < U64)
    (hw : (fixIndex s b (some p) none [b]).rankWrap = false) :
    FixPost (fixIndex s b (some p) none [b]) b (pre' ++ [p]) [] := by
  have hbpre : b ∉ pre' ++ [p] := fun h => (List.nodup_append.mp hnd).2.2 b h b List.mem_cons_self rfl
  unfold fixIndex at hw ⊢
  dsimp only at hw ⊢
  rw [rankOf_eq] at hw ⊢
  have hnw : ¬ ((G s.ranks p + s.sortStep) % U64 ≤ G s.ranks p) := by
    intro e; simp [e] at hw
  have hple := asc_le_last (G s.ranks) pre' p hasc
  obtain ⟨c1, c2⟩ := set_between_asc s.ranks b (pre' ++ [p]) [] hbpre (by simp) (by simpa using hasc)
    (by simpa using hbnd) ((G s.ranks p + s.sortStep) % U64)
    (by intro x hx; have := hple x hx; omega) (by simp) (Nat.mod_lt _ U64_pos)
  exact ⟨by rw [hs], c1, c2⟩

theorem fixIndex_asc_between (s : State) (b p w : Nat) (pre' post' : List Nat) (hs : s.sorted = (pre' ++ [p]) ++ b :: w :: post')
    (hb0 : G s.ranks b = 0) (hnd : ((pre' ++ [p]) ++ b :: w :: post').Nodup)
    (hasc : (((pre' ++ [p]) ++ (w :: post')).map (G s.ranks)).Pairwise (· < ·))
    (hbnd : ∀ x ∈ (pre' ++ [p]) ++ (w :: post'), G s.ranks x < U64)
    (hw : (fixIndex s b (some p) (some w) (b :: w :: post')).rankWrap = false) :
    FixPost (fixIndex s b (some p) (some w) (b :: w :: post')) b (pre' ++ [p]) (w :: post') := by
  have hnd0 := hnd
  rw [List.nodup_append] at hnd
  have hbpre : b ∉ pre' ++ [p] := fun h => hnd.2.2 b h b List.mem_cons_self rfl
  have hbpost : b ∉ w :: post' := (List.nodup_cons.mp hnd.2.1).1
  have hasc' := hasc
  rw [List.map_append, List.pairwise_append] at hasc'
  obtain ⟨q1, q2, q3⟩ := hasc'
  have hpw : G s.ranks p < G s.ranks w :=
    q3 _ (List.mem_map.mpr ⟨p, by simp, rfl⟩) _ (List.mem_map.mpr ⟨w, by simp, rfl⟩)
  have hwb : G s.ranks w < U64 := hbnd w (by simp)
  have hple := asc_le_last (G s.ranks) pre' p q1
  have hwle := asc_head_le (G s.ranks) w post' q2
  unfold fixIndex at hw ⊢
  dsimp only at hw ⊢
  rw [rankOf_eq, mod_sub_U64 _ _ (Nat.le_of_lt hpw) hwb] at hw ⊢
  by_cases hge : G s.ranks w - G s.ranks p ≥ 2
  · rw [if_pos hge]
    have hlt : G s.ranks p + (G s.ranks w - G s.ranks p) / 2 < U64 := by omega
    rw [Nat.mod_eq_of_lt hlt]
    obtain ⟨c1, c2⟩ := set_between_asc s.ranks b (pre' ++ [p]) (w :: post') hbpre hbpost hasc hbnd
      (G s.ranks p + (G s.ranks w - G s.ranks p) / 2)
      (by intro x hx; have := hple x hx; omega) (by intro y hy; have := hwle y hy; omega) hlt
    exact ⟨hs, c1, c2⟩
  · rw [if_neg hge] at hw ⊢
    unfold reindexDown at hw ⊢
    dsimp only at hw ⊢
    cases hrk : reindexWalk (s.sortStep / 16) (G s.ranks p) (b :: w :: post') s.ranks with
    | none =>
      rw [hrk] at hw
      dsimp only at hw ⊢
      exact reindexAll_asc s _ hnd0 hs hw
    | some rk =>
      rw [hrk] at hw
      dsimp only at hw ⊢
      have hst : 1 ≤ s.sortStep / 16 := by
        have : ¬ (s.sortStep / 16 = 0) := by intro e; simp [e] at hw
        omega
      have hp2 : ((b :: w :: post').map (G s.ranks)).Pairwise (· < ·) :=
        List.pairwise_cons.mpr ⟨List.forall_mem_map.mpr fun y hy => by rw [hb0]; have := hwle y hy; omega, q2⟩
      have hb2 : ∀ x ∈ b :: w :: post', G s.ranks x < U64 :=
        List.forall_mem_cons.mpr ⟨by rw [hb0]; exact U64_pos, fun x hx => hbnd x (List.mem_append_right _ hx)⟩
      obtain ⟨j1, j2, j3⟩ := reindexWalk_spec _ hst (b :: w :: post') (G s.ranks p) s.ranks rk hnd.2.1 hp2 hb2 hrk
      have hpre1 : ∀ x ∈ pre' ++ [p], G rk x = G s.ranks x := by
        intro x hx
        apply j1
        intro hm
        exact hnd.2.2 x hx x hm rfl
      have hpre : (pre' ++ [p]).map (G rk) = (pre' ++ [p]).map (G s.ranks) := List.map_congr_left hpre1
      unfold FixPost
      dsimp only
      refine ⟨hs, ?_, ?_⟩
      · rw [List.map_append, List.pairwise_append]
        refine ⟨by rw [hpre]; exact q1, j2, ?_⟩
        rw [hpre]
        exact List.forall_mem_map.mpr fun x hx => List.forall_mem_map.mpr fun y hy => by
          have a1 := hple x hx
          have a2 := (j3 y hy).1
          omega
      · exact List.forall_mem_append.mpr ⟨fun x hx => by rw [hpre1 x hx]; exact hbnd x (List.mem_append_left _ hx),
          fun x hx => (j3 x hx).2⟩

/-- fixIndex gives the inserted key `b` a rank strictly between its neighbours (or re-indexes).  `hb0`: AddToSort erased
    `b`'s old rank before (`insState`), so it reads 0 — reindexDown starts at `b` and needs the ranks from there on
    ascending, which 0 in front of positive ranks is -/
theorem fixIndex_asc (s : State) (b : Nat) (pre post : List Nat)
    (hs : s.sorted = pre ++ b :: post) (hb0 : G s.ranks b = 0) (hnd : (pre ++ b :: post).Nodup)
    (hasc : ((pre ++ post).map (G s.ranks)).Pairwise (· < ·)) (hbnd : ∀ x ∈ pre ++ post, G s.ranks x < U64)
    (hne : pre ++ post ≠ [])
    (hw : (fixIndex s b pre.getLast? post.head? (b :: post)).rankWrap = false) :
    FixPost (fixIndex s b pre.getLast? post.head? (b :: post)) b pre post := by
  cases hbt : pre.getLast? with
  | none =>
    have h1 : pre = [] := by simpa using hbt
    subst h1
    cases hwr : post.head? with
    | none =>
      exfalso
      have h2 : post = [] := by simpa using hwr
      rw [h2] at hne; exact hne rfl
    | some w =>
      obtain ⟨post', h2⟩ := List.head?_eq_some_iff.mp hwr
      subst h2
      rw [hbt, hwr] at hw
      exact fixIndex_asc_head s b w post' hs hnd (by simpa using hasc) (by simpa using hbnd) hw
  | some p =>
    obtain ⟨pre', h1⟩ := List.getLast?_eq_some_iff.mp hbt
    subst h1
    cases hwr : post.head? with
    | none =>
      have h2 : post = [] := by simpa using hwr
      subst h2
      rw [hbt, hwr] at hw
      exact fixIndex_asc_last s b p pre' hs hnd (by simpa using hasc) (by simpa using hbnd) hw
    | some w =>
      obtain ⟨post', h2⟩ := List.head?_eq_some_iff.mp hwr
      subst h2
      rw [hbt, hwr] at hw
      exact fixIndex_asc_between s b p w pre' post' hs hb0 hnd hasc hbnd hw

end GocoinV.Mempool
