/-
  Proofs.C16Hist — the invariants of a history together, and store_refines_map in its general form.
  `Hist` bundles what the restart-level theorems carry: `Core` (index-file invariant, liveness, `Disk`, a closed store has
  every record written, the specification's open flag is the store's), the trusted flags, the ghost list of invalidated keys, and — each under the hypothesis it needs and no other — the refinement relation `Ref`
  (a codec that round-trips) and the file-number invariants `TopInv` / `FilesOK` (the two generated facts about
  LoadBlockIndex). One operation takes it along with ONE application of `stepX_ind` (the ghost list apart: it grows at
  an operation, `BlockInvalid`, not at a transition); the induction over a history with restarts and one-pass reads gives
  store_refines_map for every such history, and the statements about histories without one-pass reads are its instances.
-/
import GocoinV.Proofs.C16Files
import GocoinV.Proofs.C16Trust
import GocoinV.Proofs.C16Stale
namespace GocoinV.BlockDB

def OpX.wf (env : Env) : OpX → Prop
  | .op o => Op.wf env o
  | .getNC _ => True

def staleStepX (s : State) (st : List Key) : OpX → List Key
  | .op o => staleStep s st o
  | .getNC _ => st

/-- store, durable map and ghost list after a history -/
def finalX (env : Env) : State → Spec → List Key → List OpX → State × Spec × List Key
  | s, sp, st, [] => (s, sp, st)
  | s, sp, st, op :: ops => finalX env (stepX env s op).1 (specStepX s sp op) (staleStepX s st op) ops

theorem finalX_op (env : Env) : ∀ (ops : List Op) (s : State) (sp : Spec) (st : List Key),
    finalX env s sp st (ops.map .op) = ((run env s ops).1, specFinal env s sp ops, staleFinal env s st ops) := by
  intro ops
  induction ops with
  | nil => intro s sp st; rfl
  | cons op ops ih =>
    intro s sp st
    simp only [List.map_cons, finalX, stepX, specStepX, staleStepX, ih, run_cons_fst, specFinal, staleFinal]

structure Hist (env : Env) (s : State) (sp : Spec) (n : Nat) (st : List Key) : Prop where
  core : Core env s sp n
  trust : Trust s sp
  stale : Stale s st
  ref : EnvOK env → Ref env s sp
  files : Gen.BlockDBFacts.invalidCountsFile = true → Gen.BlockDBFacts.restoresBackup = true →
    TopInv s ∧ FilesOK s.fs s.maxdatfileidx

theorem init_hist (env : Env) : Hist env init {} 0 [] :=
  ⟨init_core env, init_trust, fun k hk => (by cases hk), fun _ => init_ref env, fun _ _ => ⟨init_top, init_files⟩⟩

/-- one operation — restart, one-pass read, or any other —: the bundle is kept, the current file number does not go down, the
    reply satisfies the retention-aware claim -/
theorem stepX_hist (env : Env) (hadv : env.advInvalid = true) (s : State) (sp : Spec) (n : Nat) (st : List Key)
    (h : Hist env s sp n st) (op : OpX) (hwf : op.wf env) (hn : n + 1 < 2^31) :
    Hist env (stepX env s op).1 (specStepX s sp op) (n + 1) (staleStepX s st op) ∧
    (Gen.BlockDBFacts.invalidCountsFile = true → Gen.BlockDBFacts.restoresBackup = true →
      s.maxdatfileidx ≤ (stepX env s op).1.maxdatfileidx) ∧
    (EnvOK env → (claimRX s sp op).holds (stepX env s op).2) := by
  have hC := h.core
  have hD := hC.disk
  have hI := hC.inv
  have key := stepX_ind (P := fun t tp => Core env t tp (n + 1) ∧ Trust t tp ∧ (EnvOK env → Ref env t tp) ∧
      (Gen.BlockDBFacts.invalidCountsFile = true → Gen.BlockDBFacts.restoresBackup = true →
        TopInv t ∧ FilesOK t.fs t.maxdatfileidx ∧ s.maxdatfileidx ≤ t.maxdatfileidx)) env s sp op hC.opn
    ⟨{ hC with disk := disk_mono env s sp n (n + 1) hD (by omega) }, h.trust, h.ref,
      fun hic hrb => ⟨(h.files hic hrb).1, (h.files hic hrb).2, Nat.le_refl _⟩⟩ ?_ ?_ ?_ ?_
  · obtain ⟨c, t, r, f⟩ := key
    refine ⟨⟨c, t, ?_, r, fun hic hrb => ⟨(f hic hrb).1, (f hic hrb).2.1⟩⟩, fun hic hrb => (f hic hrb).2.2,
      fun ok => stepX_claim env s sp (h.ref ok) op⟩
    cases op with
    | op o => exact step_stale env hadv s sp n st h.stale hC o (by omega)
    | getNC hash =>
      unfold stepX staleStepX
      cases s.isOpen
      · exact h.stale
      · exact blockGetNC_moves (P := fun t => Stale t st) env s hash h.stale (fun _ _ h _ => h)
          (fun r0 m hr _ => stale_update s _ st h.stale _ r0 _ hr (fun k' => AL.get_set _ _ k' _) rfl rfl)
  · -- a primitive transition of an open store
    intro t tp t' tp' ho ⟨c, tr, r, f⟩ m
    refine ⟨⟨m.inv c.inv, m.live c.live, m.disk c.disk c.inv hn, ?_, m.specOpen.trans (c.opn.trans m.isOpen.symm)⟩,
      m.trust_inv tr c.disk.idxspec, fun ok => m.ref ok (r ok), ?_⟩
    · intro hc; rw [m.isOpen, ho] at hc; cases hc
    · intro hic hrb
      obtain ⟨a, b, d⟩ := f hic hrb
      exact ⟨m.top a c.inv c.disk hn, m.files b a.below, Nat.le_trans d m.grows.2.1⟩
  · -- BlockAdd records, caches and queues a new block
    intro hash ht tx tr raw c sp' e ho hnone hl off hc hn' hs
    subst e
    obtain ⟨w1, w2, w3, w4⟩ := hwf
    refine ⟨⟨queued_inv s hI hash ht tx tr raw hl c, queued_live s hC.live hash ht tx tr raw c,
      queued_disk env s sp sp' n hD hash ht tx tr raw c hnone off hn' hs w1 ⟨w2, w3, w4⟩, ?_, off.1.trans hC.opn⟩,
      queued_trust s sp sp' h.trust hD.ent hash ht tx tr raw c hnone off hn' hs,
      fun ok => queued_ref env s sp sp' (h.ref ok) hash ht tx tr raw c hnone hl w2 off hc hn' hs, ?_⟩
    · intro hc'; cases ho.symm.trans hc'
    · intro hic hrb
      obtain ⟨a, b⟩ := h.files hic hrb
      exact ⟨{ a with }, b, Nat.le_refl _⟩
  · -- Close: everything is flushed
    intro _ ⟨c, tr, r, f⟩
    refine ⟨⟨{ c.inv with pos := by intro hh; cases hh }, c.live, { c.disk with },
      fun _ => (flush_all_written env s hC.live).2, rfl⟩, tr, ?_, ?_⟩
    · exact fun ok => { r ok with opn := rfl, cur := fun hc => by cases hc }
    · intro hic hrb
      obtain ⟨a, b, d⟩ := f hic hrb
      exact ⟨{ a with }, b, d⟩
  · -- NewBlockDBExt + LoadBlockIndex on the files of a closed store
    intro o _ hc
    have hop := (reopen_state env s.fs o).2.2.2.2.2.2.1
    refine ⟨⟨(reopen_inv env hadv s.fs o hI.len_mod).1, reopen_live env s.fs o,
      disk_mono env _ _ n (n + 1) (reopen_disk env hadv s sp { sp with isOpen := true } n hD hI (by omega) (hC.closed hc) rfl o) (by omega),
      ?_, hop.symm⟩, reopen_trust env hadv s sp { sp with isOpen := true } n h.trust hD hI (by omega) rfl o,
      fun ok => reopen_ref env hadv s sp { sp with isOpen := true } n (h.ref ok) hD hI (by omega) (hC.closed hc) rfl rfl o, ?_⟩
    · intro hc'; rw [hop] at hc'; cases hc'
    · intro hic hrb
      obtain ⟨a, b⟩ := h.files hic hrb
      obtain ⟨t1, t2⟩ := reopen_top env hic hrb s sp n a hD hI (by omega) o
      exact ⟨t1, reopen_files env s o b a.below t2, t2⟩

/-- the bundle holds after any history of well-formed operations — restarts and one-pass reads included — from a state that
    satisfies it (the empty directory does: `init_hist`); the current file number has not gone down; every reply satisfies
    its claim -/
theorem runX_hist (env : Env) (hadv : env.advInvalid = true) : ∀ (ops : List OpX) (s : State) (sp : Spec) (n : Nat) (st : List Key),
    Hist env s sp n st → (∀ op ∈ ops, op.wf env) → n + ops.length < 2^31 →
    Hist env (finalX env s sp st ops).1 (finalX env s sp st ops).2.1 (n + ops.length) (finalX env s sp st ops).2.2 ∧
    (Gen.BlockDBFacts.invalidCountsFile = true → Gen.BlockDBFacts.restoresBackup = true →
      s.maxdatfileidx ≤ (finalX env s sp st ops).1.maxdatfileidx) ∧
    (EnvOK env → AllHold (specRunRX env s sp ops) (runX env s ops).2) := by
  intro ops
  induction ops with
  | nil => intro s sp n st h _ _; exact ⟨h, fun _ _ => Nat.le_refl _, fun _ => trivial⟩
  | cons op ops ih =>
    intro s sp n st h hwf hn
    simp only [List.length_cons] at hn
    obtain ⟨w1, w2⟩ := List.forall_mem_cons.1 hwf
    obtain ⟨h1, m1, c1⟩ := stepX_hist env hadv s sp n st h op w1 (by omega)
    obtain ⟨h2, m2, c2⟩ := ih _ _ (n + 1) _ h1 w2 (by omega)
    rw [List.length_cons, show n + (ops.length + 1) = n + 1 + ops.length by omega]
    refine ⟨h2, fun hic hrb => Nat.le_trans (m1 hic hrb) (m2 hic hrb), fun ok => ?_⟩
    unfold runX specRunRX
    exact ⟨c1 ok, c2 ok⟩

/-- store_refines_map: EVERY history from the empty directory — restarts, one-pass reads, every option combination —, any codec
    that round-trips: each reply satisfies the retention-aware claim of the durable-map specification -/
theorem restart_refines_onepass (env : Env) (ok : EnvOK env) (hadv : env.advInvalid = true) (ops : List OpX)
    (hops : ∀ op ∈ ops, op.wf env) (hlen : ops.length < 2^31) :
    AllHold (specRunRX env init {} ops) (runX env init ops).2 :=
  (runX_hist env hadv ops init {} 0 [] (init_hist env) hops (by omega)).2.2 ok

/-! ### histories without one-pass reads -/

theorem run_hist (env : Env) (hadv : env.advInvalid = true) (ops : List Op) (s : State) (sp : Spec) (n : Nat) (st : List Key)
    (h : Hist env s sp n st) (hops : ∀ op ∈ ops, Op.wf env op) (hn : n + ops.length < 2^31) :
    Hist env (run env s ops).1 (specFinal env s sp ops) (n + ops.length) (staleFinal env s st ops) ∧
    (Gen.BlockDBFacts.invalidCountsFile = true → Gen.BlockDBFacts.restoresBackup = true →
      s.maxdatfileidx ≤ (run env s ops).1.maxdatfileidx) := by
  have x := runX_hist env hadv (ops.map .op) s sp n st h (List.forall_mem_map.mpr hops) (by rw [List.length_map]; exact hn)
  rw [finalX_op, List.length_map] at x
  exact ⟨x.1, x.2.1⟩

theorem hist_init (env : Env) (hadv : env.advInvalid = true) (ops : List Op)
    (hops : ∀ op ∈ ops, Op.wf env op) (hlen : ops.length < 2^31) :
    Hist env (run env init ops).1 (specFinal env init {} ops) ops.length (staleFinal env init [] ops) := by
  have x := (run_hist env hadv ops init {} 0 [] (init_hist env) hops (by omega)).1
  rwa [Nat.zero_add] at x

theorem files_init (env : Env) (hadv : env.advInvalid = true)
    (hic : Gen.BlockDBFacts.invalidCountsFile = true) (hrb : Gen.BlockDBFacts.restoresBackup = true) (ops : List Op)
    (hops : ∀ op ∈ ops, Op.wf env op) (hlen : ops.length < 2^31) :
    TopInv (run env init ops).1 ∧ FilesOK (run env init ops).1.fs (run env init ops).1.maxdatfileidx :=
  (hist_init env hadv ops hops hlen).files hic hrb

/-- every history from the empty directory, restarts included, every option combination: each reply satisfies the
    retention-aware claim -/
theorem restart_refines_retention (env : Env) (ok : EnvOK env) (hadv : env.advInvalid = true) (ops : List Op)
    (hops : ∀ op ∈ ops, Op.wf env op) (hlen : ops.length < 2^31) :
    AllHold (specRunR env init {} ops) (run env init ops).2 := by
  rw [← runX_op, ← specRunRX_op]
  exact restart_refines_onepass env ok hadv _ (List.forall_mem_map.mpr hops) (by rw [List.length_map]; exact hlen)

/-- the same with retention off in every session: the unconditional claim -/
theorem restart_refines (env : Env) (ok : EnvOK env) (hadv : env.advInvalid = true) (ops : List Op)
    (hops : ∀ op ∈ ops, Op.wf env op ∧ op.keep0) (hlen : ops.length < 2^31) :
    AllHold (specRun env init {} ops) (run env init ops).2 := by
  rw [← specRunR_eq_specRun env ops init {} init_noloss (fun op hop => (hops op hop).2)]
  exact restart_refines_retention env ok hadv ops (fun op hop => (hops op hop).1) hlen

end GocoinV.BlockDB
