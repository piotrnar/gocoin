/-
  Proofs.C03Field — the modular arithmetic of Base/Secp (powMod, invMod, subMod, sqrt?) read in the
  prime fields ZMod p and ZMod n (primality: Proofs/C08_Primes.lean, Pratt certificates), and what follows for the
  ECDSA verifier.
    * powMod b e m = b^e % m
    * invMod a q is the field inverse for a prime q (Fermat)
    * sqrtCand a squares to a whenever a is a square (p ≡ 3 mod 4)
    * −7 is not a cube modulo p  (so no point of secp256k1 has y = 0 and no key encoding is `Exceptional`)
    * with that, `btc.EcdsaVerify` is the specification's `verify` on all byte strings (`ecdsaVerify_eq_spec`)
-/
import GocoinV.Proofs.C03
import GocoinV.Proofs.C08_Primes
import Mathlib.FieldTheory.Finite.Basic
import Mathlib.Tactic.Ring
import Mathlib.Tactic.LinearCombination
namespace GocoinV.Proofs.C03
open GocoinV GocoinV.Secp GocoinV.Model GocoinV.Model.Sig

theorem p_prime : Nat.Prime p := GocoinV.C08.secp_p_prime
theorem n_prime : Nat.Prime n := GocoinV.C08.secp_n_prime
instance : Fact (Nat.Prime p) := ⟨p_prime⟩
instance : Fact (Nat.Prime n) := ⟨n_prime⟩

theorem powMod_spec (b e m : Nat) (he : e < 2 ^ 256) (hm : 1 < m) : powMod b e m = b ^ e % m := by
  have hlt : powMod b e m < m := powMod_lt b e m hm
  rw [← Nat.mod_eq_of_lt hlt]
  unfold powMod
  rw [GocoinV.C08.powModAux_spec m 600 (b % m) e (1 % m)
    (Nat.lt_of_lt_of_le he (Nat.pow_le_pow_right (by decide) (by decide : 256 ≤ 600))), Nat.mod_eq_of_lt hm, Nat.one_mul, ← Nat.pow_mod]

theorem powMod_cast (q : Nat) (hq : 1 < q) (b e : Nat) (he : e < 2 ^ 256) :
    ((powMod b e q : Nat) : ZMod q) = (b : ZMod q) ^ e := by
  rw [powMod_spec b e q he hq, ZMod.natCast_mod, Nat.cast_pow]

/-- Fermat inversion in a prime field -/
theorem invMod_cast (q : Nat) [hq : Fact (Nat.Prime q)] (hlt : q < 2 ^ 256) (h2q : 2 < q) (a : Nat) :
    ((invMod a q : Nat) : ZMod q) = ((a : ZMod q))⁻¹ := by
  unfold invMod
  rw [powMod_cast q hq.out.one_lt a (q - 2) (by omega)]
  by_cases ha : (a : ZMod q) = 0
  · rw [ha, inv_zero]
    exact zero_pow (by omega)
  · have h1 : (a : ZMod q) ^ (q - 1) = 1 := ZMod.pow_card_sub_one_eq_one ha
    have h2 : q - 1 = (q - 2) + 1 := by omega
    rw [h2, pow_succ] at h1
    exact eq_inv_of_mul_eq_one_left h1


theorem p_lt : p < 2 ^ 256 := by decide
theorem n_lt : n < 2 ^ 256 := by decide

theorem invP_cast (a : Nat) : ((invMod a p : Nat) : ZMod p) = ((a : ZMod p))⁻¹ :=
  invMod_cast p p_lt (by decide) a
theorem invN_cast (a : Nat) : ((modInvN a : Nat) : ZMod n) = ((a : ZMod n))⁻¹ :=
  invMod_cast n n_lt (by decide) a

theorem subMod_cast (q a b : Nat) (hq : 0 < q) :
    ((subMod a b q : Nat) : ZMod q) = (a : ZMod q) - (b : ZMod q) := by
  unfold subMod
  have hb : b % q ≤ a % q + q := by
    have := Nat.mod_lt b hq; omega
  rw [ZMod.natCast_mod, Nat.cast_sub hb, Nat.cast_add, ZMod.natCast_mod, ZMod.natCast_mod,
    ZMod.natCast_self, add_zero]

theorem mod_eq_iff_cast (q u v : Nat) : u % q = v % q ↔ (u : ZMod q) = (v : ZMod q) :=
  (ZMod.natCast_eq_natCast_iff' u v q).symm

theorem cast_inj_of_lt (q u v : Nat) (hu : u < q) (hv : v < q) (h : (u : ZMod q) = (v : ZMod q)) : u = v := by
  have := (mod_eq_iff_cast q u v).mpr h
  rwa [Nat.mod_eq_of_lt hu, Nat.mod_eq_of_lt hv] at this

theorem curveRhs_cast (x : Nat) : ((curveRhs x : Nat) : ZMod p) = (x : ZMod p) ^ 3 + 7 := by
  unfold curveRhs
  rw [ZMod.natCast_mod]
  push_cast
  rw [ZMod.natCast_mod]
  push_cast
  ring

theorem onCurve_iff (x y : Nat) :
    onCurve (some (x, y)) = true ↔ x < p ∧ y < p ∧ ((y : ZMod p)) ^ 2 = (x : ZMod p) ^ 3 + 7 := by
  unfold onCurve
  simp only [Bool.and_eq_true, decide_eq_true_eq, beq_iff_eq]
  have e : (y * y) % p = (x * x % p * x + 7) % p ↔ ((y : ZMod p)) ^ 2 = (x : ZMod p) ^ 3 + 7 := by
    have h1 : (x * x % p * x + 7) % p = curveRhs x % p := by unfold curveRhs; rw [Nat.mod_mod]
    rw [h1, mod_eq_iff_cast, curveRhs_cast]
    push_cast
    rw [pow_two]
  rw [e]; tauto

/-- p ≡ 3 (mod 4): the candidate a^((p+1)/4) squares to a whenever a is a square -/
theorem sqrtCand_sq (a : Nat) (y : ZMod p) (h : (a : ZMod p) = y ^ 2) :
    ((sqrtCand a : Nat) : ZMod p) ^ 2 = (a : ZMod p) := by
  unfold sqrtCand
  rw [powMod_cast p (by decide) a _ (by decide), h, ← pow_mul, ← pow_mul]
  by_cases hy : y = 0
  · subst hy; rw [zero_pow (by decide), zero_pow (by decide)]
  · have h1 : y ^ (p - 1) = 1 := ZMod.pow_card_sub_one_eq_one hy
    have e : 2 * ((p + 1) / 4 * 2) = (p - 1) + 2 := by decide
    rw [e, pow_add, h1, one_mul]

theorem sq_eq_sq_cases (u v : Nat) (hu : u < p) (hv : v < p)
    (h : ((u : ZMod p)) ^ 2 = (v : ZMod p) ^ 2) : u = v ∨ (v ≠ 0 ∧ u = p - v) := by
  rcases sq_eq_sq_iff_eq_or_eq_neg.mp h with e | e
  · exact Or.inl (cast_inj_of_lt p u v hu hv e)
  · by_cases hv0 : v = 0
    · subst hv0; left
      apply cast_inj_of_lt p u 0 hu hv
      rw [e]; simp
    · right
      refine ⟨hv0, cast_inj_of_lt p u (p - v) hu (by omega) ?_⟩
      rw [e, Nat.cast_sub (by omega), ZMod.natCast_self, zero_sub]

theorem setXO_onCurve (x y : Nat) (h : onCurve (some (x, y)) = true) (odd : Bool) :
    setXO x odd = if (y % 2 == 1) = odd then y else (p - y) % p := by
  obtain ⟨hx, hy, heq⟩ := (onCurve_iff x y).mp h
  have hsq := sqrtCand_sq (curveRhs x) (y : ZMod p) (by rw [curveRhs_cast, heq])
  rw [curveRhs_cast, ← heq] at hsq
  have hr := sqrtCand_lt (curveRhs x)
  rw [setXO_eq x hx odd]
  generalize sqrtCand (curveRhs x) = r at hr hsq ⊢
  have hpodd : p % 2 = 1 := by decide
  rcases sq_eq_sq_cases r y hr hy hsq with e | ⟨hy0, e⟩
  · subst e
    generalize (p - r) % p = z
    generalize (r % 2 == 1) = b
    cases odd <;> cases b <;> rfl
  · subst e
    have hpp : p - (p - y) = y := by omega
    have hlt : p - y < p := by omega
    have hb : ((p - y) % 2 == 1) = !(y % 2 == 1) := by
      rcases Nat.mod_two_eq_zero_or_one y with h2 | h2
      · have : (p - y) % 2 = 1 := by omega
        rw [this, h2]; rfl
      · have : (p - y) % 2 = 0 := by omega
        rw [this, h2]; rfl
    rw [hpp, Nat.mod_eq_of_lt hy, Nat.mod_eq_of_lt hlt, hb]
    generalize (y % 2 == 1) = b
    generalize p - y = z
    cases odd <;> cases b <;> rfl

/-! ### −7 is not a cube modulo p -/

theorem neg7_pow : powMod (p - 7) ((p - 1) / 3) p ≠ 1 := by decide +kernel

theorem rhs_ne_zero (X : ZMod p) : X ^ 3 + 7 ≠ 0 := by
  intro hc
  have hx3 : X ^ 3 = -7 := eq_neg_of_add_eq_zero_left hc
  have hx : X ≠ 0 := by
    intro hx; rw [hx, zero_pow (by decide)] at hx3
    have h7 : (7 : ZMod p) = 0 := by linear_combination hx3
    exact absurd ((ZMod.natCast_eq_zero_iff 7 p).mp (by exact_mod_cast h7)) (by decide)
  have h1 : X ^ (p - 1) = 1 := ZMod.pow_card_sub_one_eq_one hx
  have e : p - 1 = 3 * ((p - 1) / 3) := by decide
  rw [e, pow_mul, hx3] at h1
  apply neg7_pow
  have hcast : ((powMod (p - 7) ((p - 1) / 3) p : Nat) : ZMod p) = ((1 : Nat) : ZMod p) := by
    rw [powMod_cast p (by decide) _ _ (by decide), Nat.cast_sub (by decide), ZMod.natCast_self, zero_sub]
    rw [Nat.cast_one, ← h1]; norm_num
  exact cast_inj_of_lt p _ _ (powMod_lt _ _ _ (by decide)) (by decide) hcast

theorem curveRhs_ne_zero (x : Nat) : curveRhs x ≠ 0 := fun h0 =>
  rhs_ne_zero (x : ZMod p) (by rw [← curveRhs_cast, h0]; simp)

theorem not_exceptional (pk : Bytes) : ¬ Exceptional pk := by
  rintro ⟨t, _, _, h⟩
  exact curveRhs_ne_zero _ h

/-- `btc.EcdsaVerify` (model of the current code) is the executable specification, on all byte strings -/
theorem ecdsaVerify_eq_spec (pk sig msg : Bytes) :
    Sig.ecdsaVerify true pk sig msg = Spec.Ecdsa.verify pk sig msg := by
  unfold Sig.ecdsaVerify Sig.ecdsaVerifyCode Spec.Ecdsa.verify
  rw [parsePubkey_eq pk (not_exceptional pk), ← parseBytes_eq sig]
  cases pk with
  | nil => rfl
  | cons ph pt =>
    cases sig with
    | nil => cases Secp.parsePubkey (ph :: pt) <;> rfl
    | cons sh st =>
      rw [if_neg (by simp)]
      cases Secp.parsePubkey (ph :: pt) with
      | none => rfl
      | some Q =>
        cases Sig.parseBytes (sh :: st) with
        | none => rfl
        | some t =>
          simp only [Option.map_some, sigVerify_eq]
          cases (decide (1 ≤ t.1) && decide (t.1 < n) && decide (1 ≤ t.2.1) && decide (t.2.1 < n) &&
            Spec.Ecdsa.verifyEq (some Q) t.1 t.2.1 (beVal msg)) <;> rfl

/-- no point of secp256k1 has y = 0 (there is no point of order two) -/
theorem onCurve_y_ne_zero (x y : Nat) (h : onCurve (some (x, y)) = true) : y ≠ 0 := by
  intro hy; subst hy
  exact rhs_ne_zero (x : ZMod p) (by rw [← ((onCurve_iff x 0).mp h).2.2]; simp)

end GocoinV.Proofs.C03
