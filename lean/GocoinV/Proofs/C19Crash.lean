/-
  Proofs.C19Crash — directories a crash can leave. NewDBExt (LoadData) on any readable directory (`openDB_load`), and on
  the directory defrag left as an instance. Then the notion every crash argument uses: `Alike F0 G` (a reopen cannot
  tell `G` from `F0`), kept by every file operation that is `Harmless F0`. First instance: every prefix of the effects
  of sync() before its last one (the single Write to qdbidx.log) reopens to exactly the old disk content.
-/
import GocoinV.Proofs.C19StepInv
import GocoinV.Proofs.C19Effects
namespace GocoinV.Proofs.C19
open GocoinV GocoinV.Qdb GocoinV.QdbSpec

variable {eg : Bool}

/-- every record `NewDBidx` would rebuild from the directory can be loaded -/
def DirReadable (eg : Bool) (F : FS) : Prop :=
  ∀ kr ∈ diskIndex F, hasFlag kr.2.flags (ncOf eg) = false ∧
    ∃ f v, dlookup kr.2.seq F.dats = some f ∧ ReadsBack f kr.2 v

/-- the value a reopen finds for key `k` in directory `F` -/
def diskValue (F : FS) (k : Key) : Option Bytes :=
  (ilookup k (diskIndex F)).map fun r => (((dlookup r.seq F.dats).getD []).drop r.pos).take r.len

/-- the log of `F` exists but `loadlog` will discard (remove) it: its header cannot be read or carries another
    snapshot version -/
def LogDiscarded (F : FS) : Prop := ∃ f, F.log = some f ∧ logBody f (snapVer F) = none

/-- what `NewDBExt` needs from a directory to come up with the invariants: the log is absent, canonical for the
    snapshot's version, or will be discarded; the version fits; every record can be read back -/
structure OpenOK (eg : Bool) (F : FS) : Prop where
  log : (∃ E, (∀ e ∈ E, EntryFits e) ∧ LogState F (snapVer F) E) ∨ LogDiscarded F
  ver : snapVer F < 2^32
  readable : DirReadable eg F

/-- the log of `F` is the one of `F0`, or `F0` had none and `F` holds a freshly created one (empty, or header only) -/
def LogRel (F0 F : FS) : Prop :=
  F.log = F0.log ∨ (F0.log = none ∧ (F.log = some [] ∨ F.log = some (le32 (snapVer F0))))

theorem LogRel.refl (F : FS) : LogRel F F := Or.inl rfl

theorem openDB_load (F : FS) (h : DirReadable eg F) (vol : Bool) (opts : Opts) :
    (openDB F vol true opts eg).failed = none ∧
    (openDB F vol true opts eg).index = mapV (loadedRec F) (diskIndex F) := by
  obtain ⟨dbB, used, hoi, hidx, hdats, hfl, hused⟩ := openIndex_used (eg := eg) F vol opts
  have hfr := frame_cleanupold dbB used
  have hXf : (cleanupold dbB used).failed = none := hfr.failed.trans hfl
  have hXe : (cleanupold dbB used).eager = eg := by rw [← hoi]; exact openIndex_eager F vol opts
  have hXd : ∀ kr ∈ diskIndex F, dlookup kr.2.seq (cleanupold dbB used).fs.dats = dlookup kr.2.seq F.dats := by
    intro kr hkr
    have hck := cleanupold_keeps dbB used kr.2.seq (Or.inr (hused kr hkr))
    unfold cleanKeeps at hck
    simp only [Prod.mk.injEq] at hck
    rw [hck.2.2.2.1, hdats]
  have hfold := loadFold_general (diskIndex F) (cleanupold dbB used) hXf hXe (by
    intro kr hkr
    obtain ⟨h1, f, v, h3, h4⟩ := h kr hkr
    exact ⟨h1, f, v, by rw [hXd kr hkr]; exact h3, h4⟩) []
  have hmap : mapV (loadedRec (cleanupold dbB used).fs) (diskIndex F) = mapV (loadedRec F) (diskIndex F) :=
    List.map_congr_left (fun kr hkr => by unfold loadedRec; rw [hXd kr hkr])
  unfold openDB
  simp only [↓reduceIte]
  rw [hoi]
  unfold loadAll
  rw [hfr.index.trans hidx, hfold]
  simp only [hXf, List.nil_append]
  exact ⟨trivial, hmap⟩

theorem open_readable (F : FS) (h : DirReadable eg F) (vol : Bool) (opts : Opts) :
    (openDB F vol true opts eg).failed = none ∧
    ∀ k, (ilookup k (openDB F vol true opts eg).index).map valOf = diskValue F k := by
  obtain ⟨o1, o2⟩ := openDB_load F h vol opts
  refine ⟨o1, fun k => ?_⟩
  rw [o2, ilookup_mapV, Option.map_map]
  rfl

/-- Opening (with LoadData) a directory that holds one complete snapshot of a laid-out index, no log, and
    the data file with the values in layout order yields exactly that index, with every value in memory. -/
theorem open_snapshot (F : FS) (i v s : Nat) (l : List (Key × Rec)) (hwf : IndexWF eg l)
    (hv : v < 2^32) (hs : s < 2^32)
    (h1 : idxFile F i = some (snapBytes v (layout s 4 l))) (h2 : otherIdx F i = none) (h3 : F.log = none)
    (h4 : dlookup s F.dats = some (le32 s ++ (valsOf l).flatten)) (vol : Bool) (opts : Opts) :
    (openDB F vol true opts eg).index = layout s 4 l ∧ (openDB F vol true opts eg).failed = none := by
  have hfits := layout_fits s hs l hwf.wf 4 hwf.small
  obtain ⟨j, hpick⟩ := pickIdx_single F i v _ (checkIdxFile_snapBytes v (layout s 4 l) hv) h1 h2
  have hDI := diskIndex_layout F s v j l hpick (by unfold logEntries; rw [h3]) hfits hwf.nodup
  have hreads := layout_reads s l hwf.wf (le32 s) (by simpa using hwf.small)
  simp only [le32_length] at hreads
  have hR : DirReadable eg F := by
    intro kr hkr
    rw [hDI] at hkr
    obtain ⟨x, hx, rfl⟩ := List.mem_map.mp hkr
    obtain ⟨r1, r2⟩ := hreads x hx
    exact ⟨(layout_cached _ _ _ hwf.cached x hx).2, _, valOf x.2, by show dlookup x.2.seq _ = _; rw [r1]; exact h4, r2⟩
  obtain ⟨o1, o2⟩ := openDB_load F hR vol opts
  refine ⟨?_, o1⟩
  -- loading a record that `layout` has placed reads its own data back
  rw [o2, hDI]
  unfold mapV
  rw [List.map_map]
  refine (List.map_congr_left (fun x hx => ?_)).trans (List.map_id _)
  obtain ⟨r1, _, _, r4⟩ := hreads x hx
  obtain ⟨hd, _⟩ := layout_cached _ _ _ hwf.cached x hx
  obtain ⟨w, hw⟩ := Option.isSome_iff_exists.mp hd
  show (x.1, loadedRec F (strip x.2)) = x
  unfold loadedRec strip
  dsimp only
  rw [r1, h4, Option.getD_some, r4]
  unfold valOf
  rw [hw]
  cases x with
  | mk k r => cases r; simp_all

theorem open_after_defrag (db : DB) (h : Cached db) (hwf : IndexWF eg db.index) (vol : Bool) (opts : Opts) :
    (openDB (defrag db).fs vol true opts eg).index = (defrag db).index ∧
    (openDB (defrag db).fs vol true opts eg).failed = none ∧
    absv (openDB (defrag db).fs vol true opts eg) = absv db := by
  obtain ⟨_, d2, d3, d4, d5, d6, _⟩ := defrag_disk db h
  obtain ⟨o1, o2⟩ := open_snapshot (defrag db).fs (1 - db.datIdx) (u32 (db.verSeq + 1)) (u32 (db.dataSeq + 1))
    db.index hwf (u32_lt _) (u32_lt _) d3 d4 d5 d6 vol opts
  refine ⟨o1.trans d2.symm, o2, ?_⟩
  unfold absv
  rw [o1, layout_abs]

theorem diskValue_of_clean (L : DB) (inv : DiskInv L) (hp : L.pending = []) (k : Key) :
    diskValue L.fs k = (ilookup k L.index).map valOf := by
  unfold diskValue
  have hcl := inv.clean k (by rw [hp]; simp)
  cases hm : ilookup k L.index with
  | none =>
    rw [hm, Option.map_none, Option.map_eq_none_iff] at hcl
    rw [hcl]; rfl
  | some r =>
    rw [hm, Option.map_some, Option.map_eq_some_iff] at hcl
    obtain ⟨rd, hD, hc⟩ := hcl
    simp only [core, Prod.mk.injEq] at hc
    obtain ⟨f, h1, h2⟩ := inv.files k r (by rw [hp]; simp) hm
    rw [hD, Option.map_some, Option.map_some, hc.1, hc.2.1, hc.2.2, h1]
    exact congrArg some h2.2.2

theorem openOK_of_inv (db : DB) (inv : DiskInv db) : OpenOK db.eager db.fs :=
  ⟨Or.inl (by obtain ⟨E, hE, hs⟩ := inv.logst; exact ⟨E, hE, by rw [inv.ver]; exact hs⟩),
   by rw [inv.ver]; exact inv.verlt, fun kr hkr => ⟨inv.dflags kr hkr, inv.dreads kr hkr⟩⟩

/-- Opening (LoadData) a directory that satisfies the invariant with nothing pending does not fail and
    gives every key the value it has in memory. -/
theorem open_of_inv (L : DB) (inv : DiskInv L) (hp : L.pending = []) (vol : Bool) (opts : Opts) :
    (openDB L.fs vol true opts L.eager).failed = none ∧
    ∀ k, (ilookup k (openDB L.fs vol true opts L.eager).index).map valOf = (ilookup k L.index).map valOf := by
  obtain ⟨o1, o2⟩ := open_readable L.fs (openOK_of_inv L inv).readable vol opts
  exact ⟨o1, fun k => (o2 k).trans (diskValue_of_clean L inv hp k)⟩

/-! ### directories that a reopen cannot tell apart

  Every crash argument of this cluster has one shape: the file operations of an operation are HARMLESS for the
  directory `F0` it started on — they change nothing `NewDBidx` and `load` look at — up to ONE operation (the Write that
  completes the index log, or the index snapshot) after which the directory holds the new content, and the operations
  after that one are harmless for THAT directory (`Alike.cut`). `Harmless F0 e` is a condition on the single operation
  `e` that mentions `F0` only, so it holds for every member of a prefix of a list when it holds for every member of the
  list: no case analysis over "how many operations completed" is needed. For writes this works because the condition
  is not "appends to the file" (which depends on the file's length at that moment) but "starts at or beyond the file's
  OLD end": `writeAt (f ++ g) p b = f ++ g'` whenever `f.length ≤ p`. -/

theorem logEntries_discarded (F : FS) (hd : LogDiscarded F) : logEntries F = [] := by
  obtain ⟨f, h1, h2⟩ := hd
  unfold logEntries
  simp only [h1, h2]

theorem checkIdxFile_nil : checkIdxFile (some []) = none := by
  unfold checkIdxFile; simp

/-- the same snapshot is picked, the same log entries are read, and every data file a disk record lives in begins
    with its old content: as readable as the old directory, with the same disk values -/
theorem ext_disk_readable (F0 F : FS) (hp : pickIdx F = pickIdx F0) (hl : logEntries F = logEntries F0)
    (hd : ∀ kr ∈ diskIndex F0, ∀ f, dlookup kr.2.seq F0.dats = some f → ∃ g, dlookup kr.2.seq F.dats = some (f ++ g))
    (h0 : DirReadable eg F0) : DirReadable eg F ∧ ∀ k, diskValue F k = diskValue F0 k := by
  have hD : diskIndex F = diskIndex F0 := by unfold diskIndex snapBase; rw [hl, hp]
  constructor
  · intro kr hkr
    rw [hD] at hkr
    obtain ⟨h1, f, v, h3, h4⟩ := h0 kr hkr
    obtain ⟨g, hg⟩ := hd kr hkr f h3
    exact ⟨h1, f ++ g, v, hg, h4.append g⟩
  · intro k
    unfold diskValue
    rw [hD]
    cases hlk : ilookup k (diskIndex F0) with
    | none => rfl
    | some rd =>
      have hkmem := ilookup_key_pair k rd (diskIndex F0) hlk
      obtain ⟨_, f, v, h3, h4⟩ := h0 (k, rd) hkmem
      obtain ⟨g, hg⟩ := hd (k, rd) hkmem f h3
      simp only [Option.map_some, Option.some.injEq]
      rw [hg, h3]
      exact (h4.append g).2.2.trans h4.2.2.symm

/-- the files `NewDBidx` reads are the same and every data file that existed has only grown -/
structure Grown (F0 F : FS) (keep : Nat → Prop) : Prop where
  idx0 : F.idx0 = F0.idx0
  idx1 : F.idx1 = F0.idx1
  logs : logEntries F = logEntries F0
  dats : ∀ t f, keep t → dlookup t F0.dats = some f → ∃ g, dlookup t F.dats = some (f ++ g)

theorem Grown.readable {F0 F : FS} {keep : Nat → Prop} (h : Grown F0 F keep) (h0 : DirReadable eg F0)
    (hk : ∀ kr ∈ diskIndex F0, keep kr.2.seq) :
    DirReadable eg F ∧ ∀ k, diskValue F k = diskValue F0 k :=
  ext_disk_readable F0 F (by unfold pickIdx; rw [h.idx0, h.idx1]) h.logs
    (fun kr hkr f hf => h.dats _ f (hk kr hkr) hf) h0

/-- `G` shows a reopen what `F0` shows it: each index slot checks as in `F0` (or is gone, if `F0` does not pick it), the
    log is the one of `F0` or one that `loadlog` treats alike (gone when it would be discarded; freshly created, empty or
    header only, where there was none), and every data file a disk record of `F0` lives in begins with its old content -/
structure Alike (F0 G : FS) : Prop where
  s0 : checkIdxFile G.idx0 = checkIdxFile F0.idx0 ∨ (checkIdxFile G.idx0 = none ∧ ∀ s d, pickIdx F0 ≠ some (0, s, d))
  s1 : checkIdxFile G.idx1 = checkIdxFile F0.idx1 ∨ (checkIdxFile G.idx1 = none ∧ ∀ s d, pickIdx F0 ≠ some (1, s, d))
  log : G.log = F0.log ∨ (G.log = none ∧ LogDiscarded F0) ∨
    (F0.log = none ∧ (G.log = some [] ∨ G.log = some (le32 (snapVer F0))))
  dats : ∀ kr ∈ diskIndex F0, ∀ f, dlookup kr.2.seq F0.dats = some f → ∃ g, dlookup kr.2.seq G.dats = some (f ++ g)

theorem Alike.refl (F : FS) : Alike F F := ⟨.inl rfl, .inl rfl, .inl rfl, fun _ _ f h => ⟨[], by simpa using h⟩⟩

/-- which snapshot `loadneweridx` picks, from what the two slots check as -/
def pickOf (c0 c1 : Option (Nat × Bytes)) : Option (Nat × Nat × Bytes) :=
  match c0, c1 with
  | none, none => none
  | some (s0, d0), some (s1, d1) => if seqNewerEq s0 s1 then some (0, s0, d0) else some (1, s1, d1)
  | none, some (s1, d1) => some (1, s1, d1)
  | some (s0, d0), none => some (0, s0, d0)

/-- a slot that is not picked may disappear -/
theorem pickOf_drop (c0 c1 c0' c1' : Option (Nat × Bytes))
    (h0 : c0' = c0 ∨ (c0' = none ∧ ∀ s d, pickOf c0 c1 ≠ some (0, s, d)))
    (h1 : c1' = c1 ∨ (c1' = none ∧ ∀ s d, pickOf c0 c1 ≠ some (1, s, d))) : pickOf c0' c1' = pickOf c0 c1 := by
  rcases h0 with rfl | ⟨rfl, h0⟩ <;> rcases h1 with rfl | ⟨rfl, h1⟩
  · rfl
  · rcases c0' with _ | ⟨s0, d0⟩ <;> rcases c1 with _ | ⟨s1, d1⟩ <;> try rfl
    · exact absurd rfl (h1 s1 d1)
    · by_cases hn : seqNewerEq s0 s1 = true
      · simp [pickOf, hn]
      · exact absurd (by simp [pickOf, hn]) (h1 s1 d1)
  · rcases c0 with _ | ⟨s0, d0⟩ <;> rcases c1' with _ | ⟨s1, d1⟩ <;> try rfl
    · exact absurd rfl (h0 s0 d0)
    · by_cases hn : seqNewerEq s0 s1 = true
      · exact absurd (by simp [pickOf, hn]) (h0 s0 d0)
      · simp [pickOf, hn]
  · rcases c0 with _ | ⟨s0, d0⟩ <;> rcases c1 with _ | ⟨s1, d1⟩ <;> try rfl
    · exact absurd rfl (h1 s1 d1)
    · exact absurd rfl (h0 s0 d0)
    · by_cases hn : seqNewerEq s0 s1 = true
      · exact absurd (by simp [pickOf, hn]) (h0 s0 d0)
      · exact absurd (by simp [pickOf, hn]) (h1 s1 d1)

theorem Alike.pick {F0 G : FS} (h : Alike F0 G) : pickIdx G = pickIdx F0 :=
  pickOf_drop _ _ _ _ h.s0 h.s1

theorem Alike.ok {F0 G : FS} (h : Alike F0 G) (h0 : OpenOK eg F0) : OpenOK eg G ∧ ∀ k, diskValue G k = diskValue F0 k := by
  have hsv : snapVer G = snapVer F0 := by unfold snapVer; rw [h.pick]
  have hle : logEntries G = logEntries F0 := by
    rcases h.log with hl | ⟨hl, hd⟩ | ⟨hn, hl | hl⟩
    · unfold logEntries; rw [hl, hsv]
    · rw [logEntries_discarded F0 hd]; unfold logEntries; rw [hl]
    · unfold logEntries; rw [hl, hn]; simp [logBody]
    · unfold logEntries; rw [hl, hn, hsv]
      have := logBody_ok (snapVer F0) h0.ver []
      simp only [List.append_nil] at this
      simp only [this]; rfl
  obtain ⟨r1, r2⟩ := ext_disk_readable F0 G h.pick hle h.dats h0.readable
  refine ⟨⟨?_, by rw [hsv]; exact h0.ver, r1⟩, r2⟩
  rw [hsv]
  rcases h.log with hl | ⟨hl, _⟩ | ⟨hn, hl | hl⟩
  · rcases h0.log with ⟨E, hE, hs⟩ | ⟨f, hf1, hf2⟩
    · exact .inl ⟨E, hE, by unfold LogState at hs ⊢; rw [hl]; exact hs⟩
    · exact .inr ⟨f, hl.trans hf1, by rw [hsv]; exact hf2⟩
  · exact .inl ⟨[], (fun e he => by cases he), .inl ⟨hl, rfl⟩⟩
  · exact .inr ⟨[], hl, by unfold logBody; simp⟩
  · exact .inl ⟨[], (fun e he => by cases he), .inr (by rw [hl]; simp [encLog])⟩

/-- file operations that change nothing a reopen of `F0` looks at: a data file no disk record lives in is created,
    written or removed; a data file is written at or beyond its old end; the slot that is not picked is removed; an
    unusable slot is created (empty); a log that would be discarded (or is absent) is removed; a log is created where
    there was none -/
def Harmless (F0 : FS) : Effect → Prop
  | .createDat s => ∀ kr ∈ diskIndex F0, kr.2.seq ≠ s
  | .removeDat s => ∀ kr ∈ diskIndex F0, kr.2.seq ≠ s
  | .writeDat s p _ => ∀ kr ∈ diskIndex F0, kr.2.seq = s → ∀ f, dlookup s F0.dats = some f → f.length ≤ p
  | .removeIdx j => ∃ i s d, pickIdx F0 = some (i, s, d) ∧ j = 1 - i
  | .createIdx i => checkIdxFile (idxFile F0 i) = none
  | .removeLog => LogDiscarded F0 ∨ F0.log = none
  | .createLog => F0.log = none
  | .appendIdx _ _ => False
  | .appendLog _ => False

theorem writeAt_beyond (f g b : Bytes) (p : Nat) (h : f.length ≤ p) : ∃ g', writeAt (f ++ g) p b = f ++ g' := by
  unfold writeAt
  rw [List.take_append, List.take_of_length_le h]
  simp only [List.append_assoc]
  exact ⟨_, rfl⟩

theorem Alike.step {F0 G : FS} (h : Alike F0 G) (e : Effect) (he : Harmless F0 e) : Alike F0 (G.apply e) := by
  cases e with
  | createDat s =>
    exact ⟨h.s0, h.s1, h.log, fun kr hkr f hf => by
      show ∃ g, dlookup kr.2.seq (dset s [] G.dats) = _
      rw [dlookup_dset_other _ _ _ _ (he kr hkr)]; exact h.dats kr hkr f hf⟩
  | removeDat s =>
    exact ⟨h.s0, h.s1, h.log, fun kr hkr f hf => by
      show ∃ g, dlookup kr.2.seq (derase s G.dats) = _
      rw [dlookup_derase_other _ _ _ (he kr hkr)]; exact h.dats kr hkr f hf⟩
  | writeDat s p b =>
    cases hl : dlookup s G.dats with
    | none =>
      have : G.apply (.writeDat s p b) = G := by unfold FS.apply; simp [hl]
      rw [this]; exact h
    | some old =>
      have : G.apply (.writeDat s p b) = { G with dats := dset s (writeAt old p b) G.dats } := by
        unfold FS.apply; simp [hl]
      rw [this]
      refine ⟨h.s0, h.s1, h.log, fun kr hkr f hf => ?_⟩
      obtain ⟨g, hg⟩ := h.dats kr hkr f hf
      by_cases hs : kr.2.seq = s
      · rw [hs] at hg hf ⊢
        rw [hl] at hg; cases hg
        obtain ⟨g', e'⟩ := writeAt_beyond f g b p (he kr hkr hs f hf)
        exact ⟨g', by show dlookup s (dset s _ G.dats) = _; rw [dlookup_dset_same, e']⟩
      · exact ⟨g, by show dlookup kr.2.seq (dset s _ G.dats) = _; rw [dlookup_dset_other _ _ _ _ hs]; exact hg⟩
  | removeIdx j =>
    obtain ⟨i, sv, d, hp, rfl⟩ := he
    by_cases hi : i = 0
    · have : G.apply (.removeIdx (1 - i)) = { G with idx1 := none } := by unfold FS.apply; simp [hi]
      rw [this]
      exact ⟨h.s0, .inr ⟨rfl, fun s d e => by rw [hp, hi] at e; cases e⟩, h.log, h.dats⟩
    · have : G.apply (.removeIdx (1 - i)) = { G with idx0 := none } := by
        unfold FS.apply; simp [show 1 - i = 0 by omega]
      rw [this]
      exact ⟨.inr ⟨rfl, fun s d e => by rw [hp] at e; cases e; exact hi rfl⟩, h.s1, h.log, h.dats⟩
  | createIdx i =>
    have he' : checkIdxFile (idxFile F0 i) = none := he
    unfold idxFile at he'
    by_cases hi : i = 0
    · have : G.apply (.createIdx i) = { G with idx0 := some [] } := by unfold FS.apply; simp [hi]
      rw [this]
      exact ⟨.inl (by rw [if_pos hi] at he'; rw [he']; exact checkIdxFile_nil), h.s1, h.log, h.dats⟩
    · have : G.apply (.createIdx i) = { G with idx1 := some [] } := by unfold FS.apply; simp [hi]
      rw [this]
      exact ⟨h.s0, .inl (by rw [if_neg hi] at he'; rw [he']; exact checkIdxFile_nil), h.log, h.dats⟩
  | removeLog =>
    rcases he with hd | hn
    · exact ⟨h.s0, h.s1, .inr (.inl ⟨rfl, hd⟩), h.dats⟩
    · exact ⟨h.s0, h.s1, .inl hn.symm, h.dats⟩
  | createLog => exact ⟨h.s0, h.s1, .inr (.inr ⟨he, .inl rfl⟩), h.dats⟩
  | appendIdx i b | appendLog b => exact he.elim

theorem Alike.applyAll {F0 G : FS} (h : Alike F0 G) (l : List Effect) (hl : ∀ e ∈ l, Harmless F0 e) :
    Alike F0 (G.applyAll l) := by
  induction l generalizing G with
  | nil => exact h
  | cons e t ih => exact ih (h.step e (hl e List.mem_cons_self)) (List.forall_mem_cons.mp hl).2

theorem Alike.prefix (F0 : FS) (l : List Effect) (hl : ∀ e ∈ l, Harmless F0 e) (n : Nat) :
    Alike F0 (F0.applyAll (l.take n)) :=
  (Alike.refl F0).applyAll _ (fun e he => hl e (List.mem_of_mem_take he))

theorem applyAll_frame {β : Type} (g : FS → β) (l : List Effect) (hl : ∀ e ∈ l, ∀ F, g (F.apply e) = g F) (F : FS) :
    g (F.applyAll l) = g F := by
  induction l generalizing F with
  | nil => rfl
  | cons e t ih =>
    exact (ih (fun x hx => hl x (List.mem_cons_of_mem _ hx)) _).trans (hl e List.mem_cons_self F)

/-- The shape of a crash argument: harmless file operations, ONE operation `c` after which the directory is openable
    and holds the content `new`, then operations that are harmless for that directory. After any number of them the
    directory is openable and holds, for all keys at once, the old content or `new`. -/
theorem Alike.cut {F0 : FS} {new : Key → Option Bytes} (h0 : OpenOK eg F0) (H1 : List Effect)
    (hH1 : ∀ e ∈ H1, Harmless F0 e) (c : Effect) (H2 : List Effect)
    (hc : OpenOK eg ((F0.applyAll H1).apply c)) (hnew : ∀ k, diskValue ((F0.applyAll H1).apply c) k = new k)
    (hH2 : ∀ e ∈ H2, Harmless ((F0.applyAll H1).apply c) e) (n : Nat) :
    OpenOK eg (F0.applyAll ((H1 ++ c :: H2).take n)) ∧
    ((∀ k, diskValue (F0.applyAll ((H1 ++ c :: H2).take n)) k = diskValue F0 k) ∨
     (∀ k, diskValue (F0.applyAll ((H1 ++ c :: H2).take n)) k = new k)) := by
  by_cases hn : n ≤ H1.length
  · rw [List.take_append_of_le_length hn]
    obtain ⟨o, v⟩ := (Alike.prefix F0 H1 hH1 n).ok h0
    exact ⟨o, .inl v⟩
  · obtain ⟨m, hm⟩ : ∃ m, n - H1.length = m + 1 := ⟨n - H1.length - 1, by omega⟩
    rw [List.take_append, List.take_of_length_le (by omega), hm, List.take_succ_cons, applyAll_append]
    obtain ⟨o, v⟩ := (Alike.prefix _ H2 hH2 m).ok hc
    exact ⟨o, .inr (fun k => (v k).trans (hnew k))⟩

/-! ### sync(): every file operation before the Write to the index log is harmless -/

theorem planW_pos (seq : Nat) (ks : List Key) (idx : List (Key × Rec)) (pos : Nat) :
    ∀ e ∈ planW seq idx ks pos, ∃ p b, e = .writeDat seq p b ∧ pos ≤ p := by
  induction ks generalizing idx pos with
  | nil => intro e he; cases he
  | cons k t ih =>
    cases hl : ilookup k idx with
    | none => simp only [planW, hl]; exact ih idx pos
    | some rc =>
      simp only [planW, hl]
      intro e he
      rcases List.mem_cons.mp he with rfl | he
      · exact ⟨_, _, rfl, Nat.le_refl _⟩
      · obtain ⟨p, b, e1, e2⟩ := ih _ _ e he
        exact ⟨p, b, e1, by omega⟩

theorem sync_dat_harmless (db : DB) (inv : DiskInv db) :
    ∀ e ∈ cdEffs db ++ planW db.dataSeq db.index db.pending (checkDat db).lastPos, Harmless db.fs e := by
  -- a write to the current data file lands at or beyond its old end, or no disk record lives in that file
  have hw : ∀ p b, (db.datOpen = true → db.lastPos ≤ p) → Harmless db.fs (.writeDat db.dataSeq p b) := by
    intro p b hp kr hkr hs f hf
    cases ho : db.datOpen with
    | true =>
      obtain ⟨f', h1, h2, _⟩ := inv.dat1 ho
      rw [h1] at hf; cases hf
      rw [← h2]; exact hp ho
    | false => exact absurd hs (inv.dat2 ho kr hkr)
  intro e he
  rcases List.mem_append.mp he with he | he
  · unfold cdEffs at he
    cases ho : db.datOpen with
    | true => simp [ho] at he
    | false =>
      simp only [ho, Bool.false_eq_true, ↓reduceIte, List.mem_cons, List.not_mem_nil, or_false] at he
      rcases he with rfl | rfl
      · exact inv.dat2 ho
      · exact hw 0 _ (fun h => by rw [ho] at h; cases h)
  · obtain ⟨p, b, rfl, hp⟩ := planW_pos _ _ _ _ e he
    exact hw p b (fun ho => by rw [(checkDat_post db).2.1 ho] at hp; exact hp)

/-- Every directory that exists strictly inside sync() — after any number of its file operations except the last one
    (the Write of the collected entries to qdbidx.log) — shows a reopen what the directory sync() started on shows. The
    header write into a log created by this sync() is the one operation that is not harmless by itself (a second one
    would not be): the two operations of `checklogfile` are looked at in order. -/
theorem sync_prefix_alike (db : DB) (inv : DiskInv db) (n : Nat) (hn : n < (syncEffs db).length) :
    Alike db.fs (db.fs.applyAll ((syncEffs db).take n)) := by
  have hse : syncEffs db = (cdEffs db ++ planW db.dataSeq db.index db.pending (checkDat db).lastPos) ++ (clEffs db ++
      [.appendLog (encLog (syncPlan db.dataSeq db.index db.pending (checkDat db).lastPos).2.1)]) := by
    unfold syncEffs; rw [List.append_assoc]
  have hA := Alike.prefix db.fs _ (sync_dat_harmless db inv) n
  rw [hse] at hn ⊢
  generalize cdEffs db ++ planW db.dataSeq db.index db.pending (checkDat db).lastPos = A at hn hA ⊢
  simp only [List.length_append, List.length_singleton] at hn
  rw [List.take_append, applyAll_append, List.take_append_of_le_length (by omega)]
  generalize db.fs.applyAll (A.take n) = G at hA ⊢
  generalize n - A.length = m
  unfold clEffs
  cases ho : db.logOpen with
  | true => simp only [↓reduceIte, List.take_nil]; exact hA
  | false =>
    have hnone := inv.log1 ho
    simp only [Bool.false_eq_true, ↓reduceIte]
    match m with
    | 0 => exact hA
    | 1 => exact hA.step .createLog hnone
    | m + 2 =>
      simp only [List.take_succ_cons, List.take_nil, FS.applyAll]
      refine ⟨hA.s0, hA.s1, .inr (.inr ⟨hnone, .inr ?_⟩), hA.dats⟩
      rw [inv.ver]
      unfold FS.apply; simp

theorem sync_prefix_ok (db : DB) (inv : DiskInv db) (n : Nat) (hn : n < (syncEffs db).length) :
    OpenOK db.eager (db.fs.applyAll ((syncEffs db).take n)) :=
  ((sync_prefix_alike db inv n hn).ok (openOK_of_inv db inv)).1

/-- every directory strictly inside sync() reopens without failure, every key with exactly the value the directory held
    before sync() started -/
theorem sync_prefix (db : DB) (inv : DiskInv db) (n : Nat) (hn : n < (syncEffs db).length) :
    DirReadable db.eager (db.fs.applyAll ((syncEffs db).take n)) ∧
    ∀ k, diskValue (db.fs.applyAll ((syncEffs db).take n)) k = diskValue db.fs k :=
  ((sync_prefix_alike db inv n hn).ok (openOK_of_inv db inv)).imp_left (·.readable)

end GocoinV.Proofs.C19
