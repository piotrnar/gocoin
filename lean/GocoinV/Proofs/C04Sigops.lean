/-
  Proofs.C04Sigops — gocoin's sigop counters against the consensus definition.
  On a script in which the tokeniser meets no OP_RETURN, `GetSigOpCount` (which stops at OP_RETURN) equals the
  consensus count; hence the P2SH / witness / legacy counters agree under that exclusion (known finding F3d).
  (The bound "at most 20 per byte, so the uint32 accumulator cannot wrap" is in Proofs/C04Cost.lean.)
-/
import GocoinV.Proofs.C04Basic
namespace GocoinV.Proofs.C04
open GocoinV GocoinV.Connect

/-- the tokeniser meets no OP_RETURN (0x6a) opcode before the end of the script / the first parse error -/
def noRet : Nat → Bytes → Bool
  | 0, _ => true
  | fuel+1, scr =>
    if scr.isEmpty then true else
    match getOpcode scr with
    | none => true
    | some (opcode, _, le) => opcode != 0x6a && noRet fuel (scr.drop le)

def opReturnFree (scr : Bytes) : Bool := noRet scr.length scr

/-- the script that P2SH sigop counting looks into: data of the last push of a push-only scriptSig -/
def redeemOf (scriptSig : Bytes) : Bytes := (lastPush scriptSig.length scriptSig []).getD []

/-- gocoin's counter and the consensus counter agree on this script (both accuracy modes).  This is exactly what known
    finding F3d is NOT about; `Props.C04.opreturn_free_counts_agree` gives the syntactic sufficient condition. -/
def countsAgree (scr : Bytes) : Bool :=
  (getSigOpCount scr true == Spec.Connect.sigOpCount scr true) && (getSigOpCount scr false == Spec.Connect.sigOpCount scr false)

/-- on every script of the transaction that a sigop counter reads (scriptSigs, redeem scripts, last witness items,
    output scripts) gocoin's count is the consensus count -/
def txCountsAgree (tx : Tx) : Bool :=
  tx.ins.all (fun i => countsAgree i.scriptSig && countsAgree (redeemOf i.scriptSig) && countsAgree (i.witness.getLastD []))
  && tx.outs.all (fun o => countsAgree o.script)

theorem sigOpLoop_eq (acc : Bool) (fuel : Nat) (scr : Bytes) (last n : Nat) (h : noRet fuel scr = true) :
    sigOpLoop acc fuel scr last n = Spec.Connect.sigOpLoop acc fuel scr last n := by
  induction fuel generalizing scr last n with
  | zero => rfl
  | succ f ih =>
    unfold sigOpLoop Spec.Connect.sigOpLoop
    unfold noRet at h
    by_cases he : scr.isEmpty = true
    · simp [he]
    · simp only [he, Bool.false_eq_true, ↓reduceIte] at h ⊢
      cases hg : getOpcode scr with
      | none => rfl
      | some r =>
        obtain ⟨opcode, d, le⟩ := r
        simp only [hg, Bool.and_eq_true, bne_iff_ne, ne_eq] at h ⊢
        simp only [h.1, ↓reduceIte]
        rw [ih _ _ _ h.2]
        congr 1
        by_cases hl : 0x51 ≤ last
        · simp only [decodeOP_N, show last ≠ 0 by omega, ↓reduceIte, MAX_PUBKEYS_PER_MULTISIG]
        · simp only [hl, false_and, and_false, MAX_PUBKEYS_PER_MULTISIG, ↓reduceIte]

theorem getSigOpCount_eq (scr : Bytes) (acc : Bool) (h : countsAgree scr = true) :
    getSigOpCount scr acc = Spec.Connect.sigOpCount scr acc := by
  unfold countsAgree at h
  simp only [Bool.and_eq_true, beq_iff_eq] at h
  cases acc <;> first | exact h.1 | exact h.2

theorem lastPush_eq (fuel : Nat) (scr d : Bytes) : lastPush fuel scr d = Spec.Connect.lastPushOnly fuel scr d := by
  induction fuel generalizing scr d with
  | zero => rfl
  | succ f ih =>
    unfold lastPush Spec.Connect.lastPushOnly
    by_cases he : scr.isEmpty = true
    · simp [he]
    · simp only [he, Bool.false_eq_true, ↓reduceIte]
      cases hg : getOpcode scr with
      | none => rfl
      | some r =>
        obtain ⟨opcode, d', le⟩ := r
        simp only [ih]

theorem p2sh_eq (scriptSig : Bytes) (h : countsAgree (redeemOf scriptSig) = true) :
    getP2SHSigOpCount scriptSig = Spec.Connect.p2shSigOps scriptSig := by
  unfold getP2SHSigOpCount Spec.Connect.p2shSigOps
  rw [← lastPush_eq]
  unfold redeemOf at h
  cases hl : lastPush scriptSig.length scriptSig [] with
  | none => rfl
  | some d =>
    rw [hl] at h
    exact getSigOpCount_eq d true h

theorem witProg_eq (v : Nat) (p : Bytes) (w : List Bytes) (h : countsAgree (w.getLastD []) = true) :
    witnessSigOps v p w = Spec.Connect.witProgSigOps v p w := by
  unfold witnessSigOps Spec.Connect.witProgSigOps
  by_cases hv : v = 0
  · by_cases h20 : p.length = 20
    · simp [hv, h20]
    · by_cases h32 : p.length = 32
      · by_cases hw : w = []
        · simp [hv, h32, hw]
        · have : w.length > 0 := List.length_pos_iff.mpr hw
          simp only [hv, ↓reduceIte, h32, this, and_self, true_and, ne_eq, hw, not_false_eq_true]
          exact getSigOpCount_eq _ true h
      · simp [hv, h20, h32]
  · simp [hv]

theorem countWitness_eq (inp : TxIn) (pk : Bytes) (h : countsAgree (inp.witness.getLastD []) = true) :
    countWitnessSigOps inp pk = Spec.Connect.witnessSigOps inp pk := by
  unfold countWitnessSigOps Spec.Connect.witnessSigOps isPushOnly
  rw [← lastPush_eq]
  cases hw : isWitnessProgram pk with
  | some vp => exact witProg_eq _ _ _ h
  | none =>
    cases hl : lastPush inp.scriptSig.length inp.scriptSig [] with
    | none => simp
    | some d =>
      simp only [Option.isSome_some, and_true]
      by_cases hp : isP2SH pk = true
      · simp only [hp, ↓reduceIte]
        cases hd : isWitnessProgram d with
        | some vp => exact witProg_eq _ _ _ h
        | none => rfl
      · simp [hp]

theorem legacy_eq (tx : Tx) (h : txCountsAgree tx = true) : legacySigOps tx = Spec.Connect.legacySigOps tx := by
  unfold legacySigOps Spec.Connect.legacySigOps
  unfold txCountsAgree at h
  simp only [Bool.and_eq_true, List.all_eq_true] at h
  rw [List.map_congr_left fun i hi => getSigOpCount_eq _ _ (h.1 i hi).1.1,
    List.map_congr_left fun o ho => getSigOpCount_eq _ _ (h.2 o ho)]

end GocoinV.Proofs.C04
