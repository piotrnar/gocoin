/-
  Proofs.C12Rbf — GetSortedMempoolRBF's merge of the sorted list with the fee packages keeps the listing a
  duplicate-free, parents-first enumeration of the same transactions (helper lemmas for Props/C12).
-/
import GocoinV.Model.Mempool
namespace GocoinV.Mempool

/-- Prop form of `pfKeys` -/
def PfKeysFrom (K : Keys) (s : State) : List Nat → List Nat → Prop
  | _, [] => True
  | seen, b :: r => (∃ t, s.pool.get? b = some t ∧ ∀ p ∈ memParents K t, p ∈ seen) ∧ PfKeysFrom K s (b :: seen) r

theorem pfKeys_iff (K : Keys) (s : State) : ∀ (l seen : List Nat), pfKeys K s seen l = true ↔ PfKeysFrom K s seen l := by
  intro l
  induction l with
  | nil => intro seen; simp [pfKeys, PfKeysFrom]
  | cons b r ih =>
    intro seen
    simp only [pfKeys, PfKeysFrom, Bool.and_eq_true, ih]
    constructor
    · rintro ⟨h1, h2⟩
      refine ⟨?_, h2⟩
      cases hb : s.pool.get? b with
      | none => rw [hb] at h1; cases h1
      | some t =>
        rw [hb] at h1
        refine ⟨t, rfl, ?_⟩
        intro p hp
        have := List.all_eq_true.mp h1 p hp
        simpa using this
    · rintro ⟨⟨t, ht, hp⟩, h2⟩
      refine ⟨?_, h2⟩
      rw [ht]
      apply List.all_eq_true.mpr
      intro p hpm
      simpa using hp p hpm

theorem nodupKeys_iff : ∀ (l : List Nat), nodupKeys l = true ↔ l.Nodup := by
  intro l
  induction l with
  | nil => simp [nodupKeys]
  | cons b r ih => simp [nodupKeys, ih]

theorem PfKeysFrom_mono (K : Keys) (s : State) : ∀ (l s1 s2 : List Nat), (∀ x ∈ s1, x ∈ s2) →
    PfKeysFrom K s s1 l → PfKeysFrom K s s2 l := by
  intro l
  induction l with
  | nil => intro _ _ _ _; trivial
  | cons b r ih =>
    intro s1 s2 hsub h
    obtain ⟨⟨t, ht, hp⟩, h2⟩ := h
    exact ⟨⟨t, ht, fun p hpm => hsub p (hp p hpm)⟩, ih (b :: s1) (b :: s2) (List.cons_subset_cons b hsub) h2⟩

theorem PfKeysFrom_append (K : Keys) (s : State) (b2 s2 : List Nat) : ∀ (a seen : List Nat),
    PfKeysFrom K s seen a → PfKeysFrom K s s2 b2 → (∀ x ∈ s2, x ∈ seen ∨ x ∈ a) → PfKeysFrom K s seen (a ++ b2) := by
  intro a
  induction a with
  | nil =>
    intro seen _ h2 hsub
    exact PfKeysFrom_mono K s b2 s2 seen (fun x hx => by rcases hsub x hx with h | h; exact h; simp at h) h2
  | cons y a' ih =>
    intro seen h1 h2 hsub
    obtain ⟨hd, tl⟩ := h1
    refine ⟨hd, ih (y :: seen) tl h2 ?_⟩
    intro x hx
    rcases hsub x hx with h | h
    · exact Or.inl (List.mem_cons_of_mem _ h)
    · rcases List.mem_cons.mp h with e | e
      · rw [e]; exact Or.inl List.mem_cons_self
      · exact Or.inr e

theorem PfKeysFrom_at (K : Keys) (s : State) (b : Nat) (post : List Nat) : ∀ (pre seen : List Nat),
    PfKeysFrom K s seen (pre ++ b :: post) →
    ∃ t, s.pool.get? b = some t ∧ ∀ p ∈ memParents K t, p ∈ seen ∨ p ∈ pre := by
  intro pre
  induction pre with
  | nil =>
    intro seen h
    obtain ⟨⟨t, ht, hp⟩, _⟩ := h
    exact ⟨t, ht, fun p hpm => Or.inl (hp p hpm)⟩
  | cons y r ih =>
    intro seen h
    obtain ⟨_, tl⟩ := h
    obtain ⟨t, ht, hp⟩ := ih (y :: seen) tl
    refine ⟨t, ht, fun p hpm => ?_⟩
    rcases hp p hpm with h | h
    · rcases List.mem_cons.mp h with e | e
      · rw [e]; exact Or.inr List.mem_cons_self
      · exact Or.inl e
    · exact Or.inr (List.mem_cons_of_mem _ h)

/-- what is kept while walking: no duplicates, only transactions of the sorted list `l`, parents first -/
structure Listed (K : Keys) (s : State) (l res : List Nat) : Prop where
  nodup : res.Nodup
  sub : ∀ b ∈ res, b ∈ l
  pf : PfKeysFrom K s [] res

theorem takePkgs_listed (K : Keys) (s : State) (l : List Nat) (t : T2S) : ∀ (pks : List Pkg) (res : List Nat),
    (∀ pk ∈ pks, Listed K s l pk.txs) → Listed K s l res →
    Listed K s l (takePkgs t pks res).2 ∧ (∀ b ∈ res, b ∈ (takePkgs t pks res).2) ∧
    (∀ pk ∈ (takePkgs t pks res).1, Listed K s l pk.txs) := by
  intro pks
  induction pks with
  | nil => intro res _ h; exact ⟨h, fun b hb => hb, by simp [takePkgs]⟩
  | cons pk r ih =>
    intro res hp h
    unfold takePkgs
    obtain ⟨fit, hr⟩ := List.forall_mem_cons.mp hp
    split
    · split
      · exact ih res hr h
      · rename_i hany
        have disj : ∀ b ∈ pk.txs, b ∉ res := by
          intro b hb hres
          apply hany
          unfold Pkg.anyIn
          exact List.any_eq_true.mpr ⟨b, hb, by simpa using hres⟩
        have h' : Listed K s l (res ++ pk.txs) := by
          refine ⟨?_, ?_, ?_⟩
          · exact List.nodup_append.mpr ⟨h.nodup, fit.nodup, fun a ha b hb e => disj b hb (e ▸ ha)⟩
          · exact List.forall_mem_append.mpr ⟨h.sub, fit.sub⟩
          · exact PfKeysFrom_append K s pk.txs [] res [] h.pf fit.pf (by simp)
        obtain ⟨i1, i2, i3⟩ := ih (res ++ pk.txs) hr h'
        exact ⟨i1, fun b hb => i2 b (List.mem_append_left _ hb), i3⟩
    · exact ⟨h, fun b hb => hb, hp⟩

theorem mergeRBF_listed (K : Keys) (s : State) (l : List Nat) (hl : PfKeysFrom K s [] l) :
    ∀ (rest done : List Nat) (pks : List Pkg) (res : List Nat), l = done ++ rest →
    (∀ pk ∈ pks, Listed K s l pk.txs) → Listed K s l res → (∀ b ∈ done, b ∈ res) →
    Listed K s l (mergeRBF s rest pks res) ∧ (∀ b ∈ l, b ∈ mergeRBF s rest pks res) := by
  intro rest
  induction rest with
  | nil =>
    intro done pks res hsplit _ h hd
    simp only [mergeRBF]
    refine ⟨h, fun b hb => hd b ?_⟩
    rw [hsplit] at hb; simpa using hb
  | cons b rest ih =>
    intro done pks res hsplit hp h hd
    obtain ⟨t, ht, hpar⟩ := PfKeysFrom_at K s b rest done [] (hsplit ▸ hl)
    have hsplit' : l = (done ++ [b]) ++ rest := by rw [hsplit]; simp
    have hbl : b ∈ l := by rw [hsplit]; simp
    unfold mergeRBF
    rw [ht]
    dsimp only
    obtain ⟨j1, j2, j3⟩ := takePkgs_listed K s l t pks res hp h
    generalize takePkgs t pks res = r at j1 j2 j3
    have add : Listed K s l (if r.2.contains b then r.2 else r.2 ++ [b]) ∧
        (∀ x ∈ done ++ [b], x ∈ (if r.2.contains b then r.2 else r.2 ++ [b])) := by
      split
      · rename_i hc
        exact ⟨j1, List.forall_mem_append.mpr ⟨fun x e => j2 x (hd x e),
          List.forall_mem_singleton.mpr (by simpa using hc)⟩⟩
      · rename_i hc
        have hnb : b ∉ r.2 := by simpa using hc
        refine ⟨⟨?_, ?_, ?_⟩, ?_⟩
        · exact (List.perm_append_singleton b r.2).nodup_iff.mpr (List.nodup_cons.mpr ⟨hnb, j1.nodup⟩)
        · exact List.forall_mem_append.mpr ⟨j1.sub, List.forall_mem_singleton.mpr hbl⟩
        · apply PfKeysFrom_append K s [b] done r.2 [] j1.pf
          · exact ⟨⟨t, ht, fun p hpm => (hpar p hpm).resolve_left List.not_mem_nil⟩, trivial⟩
          · intro x hx; exact Or.inr (j2 x (hd x hx))
        · exact List.forall_mem_append.mpr ⟨fun x e => List.mem_append_left _ (j2 x (hd x e)),
            fun x e => List.mem_append_right _ e⟩
    exact ih (done ++ [b]) r.1 _ hsplit' j3 add.1 add.2

theorem PfKeysFrom_pooled (K : Keys) (s : State) : ∀ (l seen : List Nat), PfKeysFrom K s seen l →
    ∀ b ∈ l, ∃ t, s.pool.get? b = some t := by
  intro l seen h b hb
  obtain ⟨pre, post, rfl⟩ := List.append_of_mem hb
  obtain ⟨t, ht, _⟩ := PfKeysFrom_at K s b post pre seen h
  exact ⟨t, ht⟩

theorem pkgOK_fits (K : Keys) (s : State) (l : List Nat) (hall : ∀ b t, s.pool.get? b = some t → b ∈ l)
    (pk : Pkg) (h : pkgOK K s pk = true) : Listed K s l pk.txs := by
  unfold pkgOK at h
  simp only [Bool.and_eq_true] at h
  obtain ⟨⟨⟨⟨_, h2⟩, h3⟩, _⟩, _⟩ := h
  have pf := (pfKeys_iff K s pk.txs []).mp h3
  refine ⟨(nodupKeys_iff pk.txs).mp h2, ?_, pf⟩
  intro b hb
  obtain ⟨t, ht⟩ := PfKeysFrom_pooled K s pk.txs [] pf b hb
  exact hall b t ht

end GocoinV.Mempool
