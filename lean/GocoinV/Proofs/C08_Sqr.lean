/-
  Proofs.C08_Sqr — `Field.Sqr` of the GENERATED limb code (Gen.Field5x52.sqr): an instance of the program `core` of
  C08_Mul over the folded products `aᵢ·2·aⱼ` (`sqr_eq_core`), so value(r) + K·p = value(a)² and magnitude 1 come from `core_spec`.
-/
import GocoinV.Proofs.C08_Mul
namespace GocoinV.C08
open GocoinV.Gen.Field5x52

theorem dbl_eq {x : Nat} (h : x ≤ 72057594037927920) : x * 2 % 18446744073709551616 = x * 2 := by omega

theorem sqr_eq_core (a : Fe) : sqr a = core (a.n0 * 2 % 18446744073709551616 * a.n3) [a.n1 * 2 % 18446744073709551616 * a.n2]
    [a.n0 * (a.n4 * 2 % 18446744073709551616), a.n1 * 2 % 18446744073709551616 * a.n3, a.n2 * a.n2]
    [a.n1 * (a.n4 * 2 % 18446744073709551616), a.n2 * 2 % 18446744073709551616 * a.n3]
    (a.n0 * a.n0) [a.n0 * 2 % 18446744073709551616 * a.n1] [a.n2 * (a.n4 * 2 % 18446744073709551616), a.n3 * a.n3]
    [a.n0 * 2 % 18446744073709551616 * a.n2, a.n1 * a.n1] [a.n3 * (a.n4 * 2 % 18446744073709551616)] (a.n4 * a.n4) := by
  unfold sqr core
  simp only [List.foldl, mac, addw, shr52]


set_option exponentiation.threshold 600 in
theorem sqr_core (a : Fe) (ha : a.mag 8) :
    (∃ K, (sqr a).val + K * P = a.val * a.val) ∧ (sqr a).mag 1 := by
  obtain ⟨ha0, ha1, ha2, ha3, ha4⟩ := mag8_bounds a ha
  rw [sqr_eq_core, dbl_eq ha0, dbl_eq ha1, dbl_eq ha2, dbl_eq (Nat.le_trans ha4 (by decide))]
  refine (core_spec _ _ _ _ _ _ _ _ _ _
    (Nat.le_trans (Nat.mul_le_mul (Nat.mul_le_mul_right 2 ha0) ha3) (by decide))
    (Nat.le_trans (Nat.add_le_add (Nat.mul_le_mul (Nat.mul_le_mul_right 2 ha1) ha2) (Nat.le_refl 0)) (by decide))
    (Nat.le_trans (Nat.add_le_add (Nat.mul_le_mul ha0 (Nat.mul_le_mul_right 2 ha4)) (Nat.add_le_add (Nat.mul_le_mul (Nat.mul_le_mul_right 2 ha1) ha3) (Nat.add_le_add (Nat.mul_le_mul ha2 ha2) (Nat.le_refl 0)))) (by decide))
    (Nat.le_trans (Nat.add_le_add (Nat.mul_le_mul ha1 (Nat.mul_le_mul_right 2 ha4)) (Nat.add_le_add (Nat.mul_le_mul (Nat.mul_le_mul_right 2 ha2) ha3) (Nat.le_refl 0))) (by decide))
    (Nat.le_trans (Nat.mul_le_mul ha0 ha0) (by decide))
    (Nat.le_trans (Nat.add_le_add (Nat.mul_le_mul (Nat.mul_le_mul_right 2 ha0) ha1) (Nat.le_refl 0)) (by decide))
    (Nat.le_trans (Nat.add_le_add (Nat.mul_le_mul ha2 (Nat.mul_le_mul_right 2 ha4)) (Nat.add_le_add (Nat.mul_le_mul ha3 ha3) (Nat.le_refl 0))) (by decide))
    (Nat.le_trans (Nat.add_le_add (Nat.mul_le_mul (Nat.mul_le_mul_right 2 ha0) ha2) (Nat.add_le_add (Nat.mul_le_mul ha1 ha1) (Nat.le_refl 0))) (by decide))
    (Nat.le_trans (Nat.add_le_add (Nat.mul_le_mul ha3 (Nat.mul_le_mul_right 2 ha4)) (Nat.le_refl 0)) (by decide))
    (Nat.le_trans (Nat.mul_le_mul ha4 ha4) (by decide))).imp
    (Exists.imp fun K hK => hK.trans ?_) id
  simp only [Fe.val, List.sum_cons, List.sum_nil]; ring

theorem sqr_val (a : Fe) (ha : a.mag 8) :
    (sqr a).val % P = a.val * a.val % P ∧ (sqr a).mag 1 := by
  obtain ⟨⟨K, hK⟩, hm⟩ := sqr_core a ha
  exact ⟨by rw [← hK, Nat.add_mul_mod_self_right], hm⟩
end GocoinV.C08
