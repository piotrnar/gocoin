/-
  Proofs.C10Amount — the two halves of the amount round trip (lib/btc/funcs.go, Model/AmountCompress.lean):
  `decompress_compressExact`, DecompressAmount undoes the wrap-free encoding `compressExact` (`mul10` undoes the zero-stripping
  loop), and `compress_eq_exact`, CompressAmount computes `compressExact` as long as that stays below 2^64. They are put
  together as `decompress (compress v) = v` in `amount_rt` (Proofs/C10Rec.lean).
-/
import GocoinV.Model.AmountCompress
namespace GocoinV.AmountCompress

theorem U64_pos : 0 < U64 := by decide

theorem mul10_spec (k m : Nat) (h : m < U64) : mul10 k m = m * 10 ^ k % U64 := by
  induction k generalizing m with
  | zero => simp [mul10, Nat.mod_eq_of_lt h]
  | succ k ih =>
    rw [mul10, ih _ (Nat.mod_lt _ U64_pos), Nat.pow_succ, Nat.mod_mul_mod]
    congr 1
    rw [Nat.mul_assoc, Nat.mul_comm 10]

/-- what the round trip needs of the zero-stripping loop, by one induction; `hf`: with enough fuel the loop stops early only on a
    non-zero last digit -/
theorem stripZeros_spec (fuel n e : Nat) (he : e ≤ 9) (hf : 9 ≤ fuel + e) :
    (stripZeros fuel n e).1 ≤ n ∧ e ≤ (stripZeros fuel n e).2 ∧ (stripZeros fuel n e).2 ≤ 9 ∧
      ((stripZeros fuel n e).2 < 9 → (stripZeros fuel n e).1 % 10 ≠ 0) ∧
      (n < U64 → mul10 ((stripZeros fuel n e).2 - e) (stripZeros fuel n e).1 = n) := by
  induction fuel generalizing n e with
  | zero =>
    rw [stripZeros]; dsimp only
    exact ⟨Nat.le_refl n, Nat.le_refl e, he, fun h => by omega, fun _ => by rw [Nat.sub_self]; rfl⟩
  | succ f ih =>
    rw [stripZeros]; split
    · rename_i hc
      obtain ⟨h1, h2, h3, h4, h5⟩ := ih (n / 10) (e + 1) hc.2 (by omega)
      have hd := Nat.div_le_self n 10
      refine ⟨Nat.le_trans h1 hd, Nat.le_of_succ_le h2, h3, h4, fun hn => ?_⟩
      have h5 := h5 (Nat.lt_of_le_of_lt hd hn)
      rw [mul10_spec _ _ (Nat.lt_of_le_of_lt h1 (Nat.lt_of_le_of_lt hd hn))] at h5 ⊢
      rw [show (stripZeros f (n / 10) (e + 1)).2 - e = ((stripZeros f (n / 10) (e + 1)).2 - (e + 1)) + 1 by omega,
        Nat.pow_succ, ← Nat.mul_assoc, Nat.mul_mod, h5, Nat.mod_eq_of_lt (show 10 < U64 by decide),
        Nat.div_mul_cancel (Nat.dvd_of_mod_eq_zero hc.1), Nat.mod_eq_of_lt hn]
    · rename_i hc
      dsimp only
      exact ⟨Nat.le_refl n, Nat.le_refl e, he, fun h => by omega, fun _ => by rw [Nat.sub_self]; rfl⟩

/-- the non-zero branch of `compress` as a function of the stripped mantissa `m` and exponent `e`, `let`s spelled out
    (`exactOf`: the same for `compressExact`) -/
def compressOf (m e : Nat) : Nat :=
  if e < 9 then (1 + ((m / 10 * 9 + m % 10 - 1) % U64 * 10) % U64 + e) % U64
  else (1 + ((m - 1) * 10) % U64 + 9) % U64

def exactOf (m e : Nat) : Nat :=
  if e < 9 then 1 + (m / 10 * 9 + m % 10 - 1) * 10 + e else 1 + (m - 1) * 10 + 9

theorem compress_def (n : Nat) :
    compress n = if n = 0 then 0 else compressOf (stripZeros 9 n 0).1 (stripZeros 9 n 0).2 := rfl

theorem compressExact_def (n : Nat) :
    compressExact n = if n = 0 then 0 else exactOf (stripZeros 9 n 0).1 (stripZeros 9 n 0).2 := rfl

theorem compressOf_eq (m e : Nat) (h : exactOf m e < U64) : compressOf m e = exactOf m e := by
  unfold compressOf exactOf at *
  split
  · rename_i he
    simp only [he, ↓reduceIte] at h
    have h1 : (m / 10 * 9 + m % 10 - 1) % U64 = m / 10 * 9 + m % 10 - 1 := Nat.mod_eq_of_lt (by omega)
    have h2 : (m / 10 * 9 + m % 10 - 1) * 10 % U64 = (m / 10 * 9 + m % 10 - 1) * 10 := Nat.mod_eq_of_lt (by omega)
    rw [h1, h2, Nat.mod_eq_of_lt h]
  · rename_i he
    simp only [he, ↓reduceIte] at h
    have h2 : (m - 1) * 10 % U64 = (m - 1) * 10 := Nat.mod_eq_of_lt (by omega)
    rw [h2, Nat.mod_eq_of_lt h]

theorem compress_eq_exact (n : Nat) (h : compressExact n < U64) : compress n = compressExact n := by
  rw [compress_def, compressExact_def] at *
  split
  · rfl
  · rename_i hn0
    simp only [hn0, ↓reduceIte] at h
    exact compressOf_eq _ _ h

theorem decompress_digits (y e : Nat) (he : e ≤ 9) :
    decompress (1 + y * 10 + e) = mul10 e (if e < 9 then (y / 9 * 10 + (y % 9 + 1)) % U64 else (y + 1) % U64) := by
  have hx : 1 + y * 10 + e - 1 = e + y * 10 := by omega
  have e1 : (e + y * 10) % 10 = e := by rw [Nat.add_mul_mod_self_right, Nat.mod_eq_of_lt (by omega)]
  have e2 : (e + y * 10) / 10 = y := by rw [Nat.add_mul_div_right _ _ (by decide), Nat.div_eq_of_lt (by omega), Nat.zero_add]
  unfold decompress
  rw [if_neg (by omega)]
  simp only [hx, e1, e2]

theorem decompress_exactOf (m e n : Nat) (hmU : m < U64) (he9 : e ≤ 9) (hd : e < 9 → m % 10 ≠ 0)
    (hm0 : m ≠ 0) (hinv : mul10 e m = n) : decompress (exactOf m e) = n := by
  unfold exactOf
  split
  · rename_i he
    -- last digit `d + 1` (not 0), so `m / 10 * 9 + m % 10 - 1 = d + m / 10 * 9` with `d < 9`
    obtain ⟨d, hd⟩ : ∃ d, m % 10 = d + 1 := ⟨m % 10 - 1, by have := hd he; omega⟩
    have hd9 : d < 9 := by omega
    have hy : m / 10 * 9 + m % 10 - 1 = d + m / 10 * 9 := by omega
    rw [decompress_digits _ _ he9, if_pos he, hy, Nat.add_mul_mod_self_right, Nat.mod_eq_of_lt hd9,
      Nat.add_mul_div_right _ _ (by decide), Nat.div_eq_of_lt hd9, Nat.zero_add, ← hd, Nat.div_add_mod' m 10,
      Nat.mod_eq_of_lt hmU, hinv]
  · rename_i he
    have he9 : e = 9 := by omega
    subst he9
    rw [decompress_digits _ _ (Nat.le_refl 9), if_neg (Nat.lt_irrefl 9), Nat.sub_add_cancel (Nat.pos_of_ne_zero hm0),
      Nat.mod_eq_of_lt hmU, hinv]
theorem decompress_compressExact (n : Nat) (hn : n < U64) :
    decompress (compressExact n) = n := by
  rw [compressExact_def]
  split
  · rename_i h0; subst h0; rfl
  · rename_i hn0
    obtain ⟨hle, _, h9, hdig, hinv⟩ := stripZeros_spec 9 n 0 (by omega) (by omega)
    have hinv := hinv hn
    simp only [Nat.sub_zero] at hinv
    refine decompress_exactOf _ _ n (Nat.lt_of_le_of_lt hle hn) h9 hdig ?_ hinv
    intro h
    rw [h, mul10_spec _ _ U64_pos] at hinv
    simp at hinv; omega

theorem compressExact_le (n : Nat) : compressExact n ≤ 10 * n + 10 := by
  rw [compressExact_def]
  split
  · omega
  · obtain ⟨hm, _, hle, _⟩ := stripZeros_spec 9 n 0 (by omega) (by omega)
    unfold exactOf
    split <;> omega

end GocoinV.AmountCompress
