/-
  Proofs.C18State — the two mechanisms of Model/NetParseState.lean. A map-typed field of the connection that every
  assignment leaves a map never meets a store into a nil map, under any history of function runs (`runHist_total`). The
  front of PostCheckBlock with BuildTxListExt behind it never panics for a decoder that reports no more bytes than it was
  given (`buildTxList_noPanic`, `buildTxList_pos`: the lemmas behind Props.C18.postcheck_total).
-/
import GocoinV.Model.NetParseState
namespace GocoinV.NetParse.State
open GocoinV

theorem states_final_keep (kinds : List String) (hk : ∀ k ∈ kinds, keeps k = true) (exec : List Bool) :
    (∀ s ∈ states kinds exec true, s = true) ∧ final kinds exec true = true := by
  induction kinds generalizing exec with
  | nil => exact ⟨fun s hs => by simpa [states] using hs, rfl⟩
  | cons k ks ih =>
    have hks : ∀ k' ∈ ks, keeps k' = true := fun k' h => hk k' (List.mem_cons_of_mem _ h)
    cases exec with
    | nil =>
      obtain ⟨h1, h2⟩ := ih hks []
      exact ⟨fun s hs => (List.mem_cons.mp hs).elim id (h1 s), h2⟩
    | cons e es =>
      have : (if e then keeps k else true) = true := by
        cases e
        · rfl
        · exact hk k (List.mem_cons_self ..)
      obtain ⟨h1, h2⟩ := ih hks es
      rw [states, final, this]
      exact ⟨fun s hs => (List.mem_cons.mp hs).elim id (h1 s), h2⟩

theorem runFn_keep (kinds : List String) (hk : ∀ k ∈ kinds, keeps k = true) (w : Bool) (exec : List Bool) :
    runFn kinds w exec true = some true := by
  obtain ⟨hst, hfin⟩ := states_final_keep kinds hk exec
  have hall : (states kinds exec true).all id = true := List.all_eq_true.mpr hst
  simp [runFn, hall, hfin]

theorem assignsOf_keep (A : Assigns) (hA : ∀ a ∈ A, keeps a.2.2 = true) (fn field : String) :
    ∀ k ∈ assignsOf A fn field, keeps k = true := by
  intro k hk
  simp only [assignsOf, List.mem_map, List.mem_filter] at hk
  obtain ⟨a, ⟨ha, _⟩, rfl⟩ := hk
  exact hA a ha

/-- every assignment stores a map ⇒ no history of function runs meets a nil map, and the map is still there -/
theorem runHist_keep (A : Assigns) (W : Writes) (field : String) (hA : ∀ a ∈ A, keeps a.2.2 = true) (h : Hist) :
    runHist A W field h true = some true := by
  induction h with
  | nil => rfl
  | cons e h ih =>
    obtain ⟨fn, exec⟩ := e
    simp only [runHist, runFn_keep _ (assignsOf_keep A hA fn field)]
    exact ih

/-- a field that no function stores entries into cannot meet the nil-map panic, whatever state it is in -/
theorem runHist_unwritten (A : Assigns) (W : Writes) (field : String) (hw : written W field = false) (h : Hist) (cur : Bool) :
    (runHist A W field h cur).isSome = true := by
  induction h generalizing cur with
  | nil => rfl
  | cons e h ih =>
    obtain ⟨fn, exec⟩ := e
    have : writesTo W fn field = false := by
      simp only [written, List.any_eq_false, beq_iff_eq] at hw
      simpa [writesTo] using fun h => hw _ h rfl
    simp only [runHist, runFn, this, Bool.false_and, Bool.false_eq_true, ↓reduceIte]
    exact ih _

/-- every assignment stores a map and every written field starts as one: no history meets a nil map, and a field with a
    writer still holds its map afterwards -/
theorem runHist_total (A : Assigns) (W : Writes) (C : List (String × String × Bool)) (ctors : List String)
    (hA : ∀ a ∈ A, keeps a.2.2 = true) (hC : ∀ w ∈ W, ctorMakes C ctors w.2 = true) (field : String) (h : Hist) :
    (runHist A W field h (ctorMakes C ctors field)).isSome = true ∧
    (written W field = true → runHist A W field h (ctorMakes C ctors field) = some true) := by
  cases hw : written W field with
  | false => exact ⟨runHist_unwritten A W field hw h _, nofun⟩
  | true =>
    obtain ⟨w, hm, he⟩ := List.any_eq_true.mp hw
    cases eq_of_beq he
    have := runHist_keep A W w.2 hA h
    rw [hC w hm]
    exact ⟨by rw [this]; rfl, fun _ => this⟩

/-- a decoder that never reports more bytes than it was given -/
def Within (newTx : Bytes → Option Nat) : Prop := ∀ b n, newTx b = some n → n ≤ b.length

theorem txLoop_noPanic (newTx : Bytes → Option Nat) (hw : Within newTx) (k : Nat) (rest : Bytes) :
    ∀ s, txLoop newTx k rest ≠ .panic s := by
  induction k generalizing rest with
  | zero => intro s h; simp [txLoop] at h
  | succ k ih =>
    intro s h
    unfold txLoop at h
    cases hn : newTx rest with
    | none => simp [hn] at h
    | some n =>
      simp only [hn] at h
      by_cases h0 : (n == 0) = true
      · simp [h0] at h
      · have : ¬ n > rest.length := Nat.not_lt.mpr (hw rest n hn)
        simp only [h0, this, Bool.false_eq_true, ↓reduceIte] at h
        exact ih _ s h

theorem buildTxList_pos (newTx : Bytes → Option Nat) (raw : Bytes) (n : Nat)
    (h : buildTxList true newTx raw = .ok n) : 1 ≤ n := by
  unfold buildTxList txCountHead at h
  cases hv : Wire.vlenWire (raw.drop 80) with
  | none => simp [hv] at h
  | some p =>
    obtain ⟨cnt, rest⟩ := p
    simp only [hv] at h
    by_cases hc : cnt = 0 <;> simp [hc] at h
    cases hl : txLoop newTx cnt rest with
    | done => simp [hl] at h; omega
    | _ => simp [hl] at h

theorem buildTxList_noPanic (g : Bool) (newTx : Bytes → Option Nat) (hw : Within newTx) (raw : Bytes) :
    ∀ s, buildTxList g newTx raw ≠ .panic s := by
  intro s h
  unfold buildTxList at h
  cases ht : txCountHead g raw with
  | error e => simp [ht] at h
  | ok p =>
    obtain ⟨cnt, rest⟩ := p
    simp only [ht] at h
    cases hl : txLoop newTx cnt rest with
    | panic s' => exact txLoop_noPanic newTx hw cnt rest s' hl
    | _ => simp [hl] at h

end GocoinV.NetParse.State
