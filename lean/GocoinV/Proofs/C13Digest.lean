/-
  Proofs.C13Digest — `digests_read_skeleton_only`: C02's models of `Tx.SignatureHash`, `Tx.WitnessSigHash` and
  `Tx.TaprootSigHash` (Model/SigHash.lean) do not read the scriptSigs or the witness data of the transaction — only
  version, lock time, outpoints, sequence numbers, outputs, and the script code / amount / spent outputs passed in — and
  the per-transaction cache that is coherent for one transaction is coherent for every transaction with the same
  skeleton. So the digest computed while `sign_tx` signs input i (other inputs unsigned, partly signed or signed, cache
  filled by earlier calls) IS the digest the verifier computes on the final transaction. Core only.
-/
import GocoinV.Proofs.C02Cache
import GocoinV.Spec.WalletTxDigest
import GocoinV.Model.ScriptBase
namespace GocoinV.SigHash
open GocoinV.Wire (Tx TxIn TxOut)

/-- everything `sign_tx` writes into a transaction, blanked out: the scriptSigs and the witness data -/
def stripIn (i : TxIn) : TxIn := { i with scriptSig := [] }
def stripTx (tx : Tx) : Tx := { tx with ins := tx.ins.map stripIn, witness := none }

theorem stripTx_ins (tx : Tx) : (stripTx tx).ins = tx.ins.map stripIn := rfl
theorem stripTx_outs (tx : Tx) : (stripTx tx).outs = tx.outs := rfl
theorem stripTx_version (tx : Tx) : (stripTx tx).version = tx.version := rfl
theorem stripTx_lockTime (tx : Tx) : (stripTx tx).lockTime = tx.lockTime := rfl

theorem legacyIns_strip (sc : Bytes) (nIn ht : Nat) : ∀ (ins : List TxIn) (k : Nat),
    legacyIns sc nIn ht k (ins.map stripIn) = legacyIns sc nIn ht k ins := by
  intro ins
  induction ins with
  | nil => intro k; rfl
  | cons i t ih => intro k; simp only [List.map_cons, legacyIns, ih]; rfl

theorem prevoutsBytes_strip (tx : Tx) : prevoutsBytes (stripTx tx) = prevoutsBytes tx :=
  List.flatMap_map stripIn serOutpoint tx.ins
theorem sequencesBytes_strip (tx : Tx) : sequencesBytes (stripTx tx) = sequencesBytes tx :=
  List.flatMap_map stripIn (fun i => le32 i.sequence) tx.ins
theorem outputsBytes_strip (tx : Tx) : outputsBytes (stripTx tx) = outputsBytes tx := rfl

/-- legacy: `Tx.SignatureHash` reads version, lock time, outpoints, sequence numbers, outputs — no scriptSig, no witness -/
theorem signatureHash_strip (H : Bytes → Bytes) (tx : Tx) (sc : Bytes) (nIn ht : Nat) :
    signatureHash H (stripTx tx) sc nIn ht = signatureHash H tx sc nIn ht := by
  unfold signatureHash
  simp only [stripTx_ins, stripTx_outs, stripTx_version, stripTx_lockTime, List.getElem?_map, legacyIns_strip, List.length_map]
  cases tx.ins[nIn]? <;> rfl

/-- BIP143: the same for `Tx.WitnessSigHash`, result and cache update alike -/
theorem witnessSigHash_strip (H : Bytes → Bytes) (tx : Tx) (c : Cache) (sc : Bytes) (amount nIn ht : Nat) :
    witnessSigHash H (stripTx tx) c sc amount nIn ht = witnessSigHash H tx c sc amount nIn ht := by
  unfold witnessSigHash
  simp only [prevoutsBytes_strip, sequencesBytes_strip, outputsBytes_strip, stripTx_ins, stripTx_outs, stripTx_version, stripTx_lockTime, List.getElem?_map]
  cases tx.ins[nIn]? <;> rfl

theorem tapSingleFill_strip (H : Bytes → Bytes) (tx : Tx) (spent : List TxOut) :
    tapSingleFill H (stripTx tx) spent = tapSingleFill H tx spent := by
  unfold tapSingleFill
  simp only [prevoutsBytes_strip, sequencesBytes_strip, stripTx_ins, List.length_map]

theorem taprootTail_strip (undef : Res) (H : Bytes → Bytes) (tx : Tx) (spent : List TxOut) (ed : ExecData)
    (inPos ht : Nat) (script : Bool) (m : Bytes) :
    taprootTail undef H (stripTx tx) spent ed inPos ht script m = taprootTail undef H tx spent ed inPos ht script m := by
  unfold taprootTail
  simp only [stripTx_ins, stripTx_outs, List.getElem?_map]
  cases tx.ins[inPos]? <;> cases spent[inPos]? <;> rfl

/-- BIP341: the same for `Tx.TaprootSigHash` -/
theorem taprootSigHash_strip (fixed : Bool) (H : Bytes → Bytes) (tx : Tx) (spent : List TxOut) (c : Cache)
    (ed : ExecData) (inPos ht : Nat) (script : Bool) :
    taprootSigHash fixed H (stripTx tx) spent c ed inPos ht script = taprootSigHash fixed H tx spent c ed inPos ht script := by
  unfold taprootSigHash tapSingleGet
  simp only [tapSingleFill_strip, taprootTail_strip, outputsBytes_strip, stripTx_version, stripTx_lockTime]

/-- a cache that is coherent for a transaction is coherent for every transaction with the same skeleton -/
theorem cacheOK_strip (H : Bytes → Bytes) (tx : Tx) (spent : List TxOut) (c : Cache) :
    Cache.OK H (stripTx tx) spent c ↔ Cache.OK H tx spent c := by
  constructor <;> intro h <;>
    exact ⟨by simpa only [prevoutsBytes_strip] using h.prevouts, by simpa only [sequencesBytes_strip] using h.sequence,
      h.outputs, by simpa only [tapSingleFill_strip] using h.tapSingle, h.tapOut⟩

/-! ### where the three functions hand out a digest -/

theorem signatureHash_digest (H : Bytes → Bytes) (tx : Tx) (sc : Bytes) (nIn ht : Nat) (h : nIn < tx.ins.length) :
    ∃ d, (signatureHash H tx sc nIn ht).digest? = some d := by
  unfold signatureHash
  simp only [List.getElem?_eq_getElem h]
  split
  · rename_i hh; split at hh <;> cases hh
  · split
    · exact ⟨_, rfl⟩
    · exact ⟨_, rfl⟩

theorem witnessSigHash_digest (H : Bytes → Bytes) (tx : Tx) (c : Cache) (sc : Bytes) (amount nIn ht : Nat)
    (h : nIn < tx.ins.length) : ∃ d, (witnessSigHash H tx c sc amount nIn ht).1.digest? = some d := by
  unfold witnessSigHash
  simp only [List.getElem?_eq_getElem h]
  exact ⟨_, rfl⟩

theorem taprootKeyPath_digest (H : Bytes → Bytes) (tx : Tx) (spent : List TxOut) (nIn : Nat)
    (hs : tx.ins.length ≤ spent.length) :
    ∃ d, (taprootSigHash true H tx spent {} keyPathData nIn 0 false).1.digest? = some d := by
  have hf : (tapSingleFill H tx spent).1 = some (tapSingleFill H tx spent).2 := by
    unfold tapSingleFill
    rw [if_neg (by omega)]
  unfold taprootSigHash tapSingleGet
  simp [hf, taprootTail, lazyGet]
  exact ⟨_, rfl⟩

end GocoinV.SigHash

namespace GocoinV.WalletTx
open GocoinV.WalletSpec GocoinV.SigHash

theorem strip_toWire (t : Tx) : stripTx (toWire t) = skelWire (skeleton t) := by
  simp [stripTx, toWire, skelWire, skeleton, List.map_map, Function.comp_def, stripIn, wireIn]

theorem skeleton_ins_length {t t' : Tx} (h : skeleton t' = skeleton t) : t'.ins.length = t.ins.length := by
  simpa [skeleton] using congrArg (fun s => s.outpoints.length) h

theorem skelWire_ins_length (t : Tx) : (skelWire (skeleton t)).ins.length = t.ins.length := by
  simp [skelWire, skeleton]

/-- digests_read_skeleton_only, as `signatures_verify` needs it: for every transaction `t'` with the skeleton of `t`
    (the signed one, or any partly signed stage) and every coherent cache state, C02's functions on `t'` hand out
    exactly the digests `c02Crypto` computes from the skeleton of `t` -/
theorem digests_of_skeleton (sha h160 : Bytes → Bytes) (ev sv : Bytes → Bytes → Bytes → Bool) (t t' : Tx)
    (hsk : skeleton t' = skeleton t) (spent : List TxOut) (i : Nat) (hi : i < t.ins.length) (hlen : t.ins.length ≤ spent.length)
    (cch : Cache) (hc : Cache.OK sha (toWire t') (spent.map wireOut) cch) :
    (∀ sc ht, (signatureHash sha (toWire t') sc i ht).digest? = some ((c02Crypto sha h160 ev sv).legacyDigest (skeleton t) i sc ht)) ∧
    (∀ sc amount ht, (witnessSigHash sha (toWire t') cch sc amount i ht).1.digest?
        = some ((c02Crypto sha h160 ev sv).witnessDigest (skeleton t) i sc amount ht)) ∧
    (taprootSigHash true sha (toWire t') (spent.map wireOut) cch keyPathData i 0 false).1.digest?
        = some ((c02Crypto sha h160 ev sv).taprootDigest (skeleton t) spent i 0) := by
  have hi' : i < (skelWire (skeleton t)).ins.length := by rwa [skelWire_ins_length]
  have hl' : (skelWire (skeleton t)).ins.length ≤ (spent.map wireOut).length := by
    rwa [skelWire_ins_length, List.length_map]
  have hl2 : (toWire t').ins.length ≤ (spent.map wireOut).length := by
    have := skeleton_ins_length hsk
    simp [toWire]; omega
  refine ⟨?_, ?_, ?_⟩
  · intro sc ht
    rw [← signatureHash_strip, strip_toWire, hsk]
    obtain ⟨d, hd⟩ := signatureHash_digest sha (skelWire (skeleton t)) sc i ht hi'
    simp only [c02Crypto, hd, Option.getD_some]
  · intro sc amount ht
    rw [(witnessSigHash_cache sha _ _ cch hc sc amount i ht).1, ← witnessSigHash_strip, strip_toWire, hsk]
    obtain ⟨d, hd⟩ := witnessSigHash_digest sha (skelWire (skeleton t)) {} sc amount i ht hi'
    simp only [c02Crypto, hd, Option.getD_some]
  · rw [(taprootSigHash_cache true sha _ _ cch hl2 hc keyPathData i 0 false).1, ← taprootSigHash_strip, strip_toWire, hsk]
    obtain ⟨d, hd⟩ := taprootKeyPath_digest sha (skelWire (skeleton t)) (spent.map wireOut) i hl'
    simp only [c02Crypto, hd, Option.getD_some]

/-- "the verifier's three digest requests for input `i` of transaction `tv` are answered by C02's models of
    `Tx.SignatureHash` / `Tx.WitnessSigHash` / `Tx.TaprootSigHash` on `tv`" — in whatever coherent state the
    per-transaction cache is when the request is made -/
structure DigestsAreC02 (O : GocoinV.Script.Oracles) (sha : Bytes → Bytes) (tv : Tx) (spent : List TxOut) (i amount : Nat) : Prop where
  legacy : ∀ sc ht, O.sigHashLegacy sc ht = (signatureHash sha (toWire tv) sc i ht).digest?
  witv0 : ∀ sc ht, ∃ cch, Cache.OK sha (toWire tv) (spent.map wireOut) cch ∧
    O.sigHashWitV0 sc ht = (witnessSigHash sha (toWire tv) cch sc amount i ht).1.digest?
  taproot : ∃ cch, Cache.OK sha (toWire tv) (spent.map wireOut) cch ∧
    O.sigHashTap none [] 0 0 false = (taprootSigHash true sha (toWire tv) (spent.map wireOut) cch keyPathData i 0 false).1.digest?

end GocoinV.WalletTx
