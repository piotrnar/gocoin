/-
  Proofs.C12Fuel — the iteration budget of the model's txAccepted loop (`txAccFuel`; the Go loop has none).
  (1) `txAcceptedAux_fuel_succ` / `txAcceptedAux_fuel_le`: a run of the loop that ends alive never reached the budget,
      and every larger budget yields the very same state — so wherever the theorems of Props/C12 assume `alive`, the
      state they speak about is the state of the UNBOUNDED loop; the budget only decides whether the model answers at all.
  (2) the deep-orphan family (an orphan spending one output of every member of an unconfirmed chain, arriving before
      all of them): a budget of 2·(|rej|+|pool|)+4 stops early, short of the state gocoin reaches; with `txAccFuel`
      the family drains completely (kernel evaluation, chain of 8 and of 20).
  Core Lean only.
-/
import GocoinV.Model.Mempool
namespace GocoinV.Mempool

theorem txAcceptedAux_fuel_succ (K : Keys) (mf : Nat) : ∀ (n : Nat) (s : State) (recs : List Nat) (d : Nat),
    (txAcceptedAux K mf n s recs d).panicked = false →
    txAcceptedAux K mf (n + 1) s recs d = txAcceptedAux K mf n s recs d := by
  intro n
  induction n with
  | zero => intro s recs d h; cases h
  | succ n ih =>
    intro s recs d
    unfold txAcceptedAux
    cases recs[d]? with
    | none => exact fun _ => rfl
    | some cur =>
      dsimp only
      cases s.waiting.get? cur with
      | none => exact ih _ _ _
      | some p =>
        obtain ⟨id, ids⟩ := p
        cases ids with
        | nil => exact fun _ => rfl
        | cons first rest =>
          dsimp only
          cases s.rej.get? first with
          | none => exact fun _ => rfl
          | some txr =>
            dsimp only
            cases txr.tx with
            | none => exact fun _ => rfl
            | some t => exact ih _ _ _

/-- a run of the txAccepted loop that ends alive is independent of the budget from there on -/
theorem txAcceptedAux_fuel_le (K : Keys) (mf : Nat) (n m : Nat) (hle : n ≤ m) (s : State) (recs : List Nat) (d : Nat)
    (h : (txAcceptedAux K mf n s recs d).panicked = false) :
    txAcceptedAux K mf m s recs d = txAcceptedAux K mf n s recs d := by
  induction hle with
  | refl => rfl
  | step _ ih => rw [txAcceptedAux_fuel_succ K mf _ s recs d (ih ▸ h), ih]

namespace Deep

def K0 : Keys := { bidx := id, uidx := fun a b => a * 1000 + b }

/-- the root: spends the confirmed coin (1,0) -/
def X : Tx := { id := 100, ins := [⟨1, 0, 0⟩], outs := [9000], nws := 100, size := 100, scriptOk := true }
/-- chain member i ≥ 1: spends output 0 of its predecessor, second output of 10 for the orphan -/
def P (i : Nat) : Tx :=
  { id := 100 + i, ins := [⟨100 + i - 1, 0, 0⟩], outs := [9000 - 20 * i, 10], nws := 100, size := 100, scriptOk := true }
/-- the orphan: one input per chain member (its output 1) -/
def O (k : Nat) : Tx :=
  { id := 99, ins := (List.range k).map (fun i => ⟨101 + i, 1, 0⟩), outs := [1], nws := 100, size := 100, scriptOk := true }
def s0 : State := { utxo := [((1, 0), ⟨10000, 1, false⟩)], height := 5 }
/-- the orphan first, then the chain members in order (each an orphan of its predecessor), then the root -/
def ops (k : Nat) : List Op :=
  [.submitNet (O k) false 0] ++ (List.range k).map (fun i => .submitNet (P (i + 1)) false 0) ++ [.submitNet X false 0]

/-- the state before the root arrives, and the root accepted by processTx (txAccepted not yet run) -/
def sPre (k : Nat) : State := (processTx K0 0 (run K0 s0 ((ops k).take (k + 1))) X {}).2

/-- the family with a chain of 20 and an orphan with 20 inputs: everything is pooled, nothing is left rejected or
    waiting, the process is alive; the loop started by the root needs 54 iterations, the budget is 87 -/
theorem drains20 : (run K0 s0 (ops 20)).pool.length = 22 ∧ (run K0 s0 (ops 20)).rej = [] ∧
    (run K0 s0 (ops 20)).waiting = [] ∧ (run K0 s0 (ops 20)).panicked = false ∧
    txAccFuel (sPre 20) = 87 ∧
    (txAcceptedAux K0 0 53 (sPre 20) [100] 0).panicked = true ∧
    (txAcceptedAux K0 0 54 (sPre 20) [100] 0).panicked = false := by
  decide +kernel

/-- … while a budget of 2·(|rej|+|pool|)+4 = 48 runs out on the same state (running out raises the panic flag) -/
theorem old_budget_short : 2 * ((sPre 20).rej.length + (sPre 20).pool.length) + 4 = 48 ∧
    (txAcceptedAux K0 0 48 (sPre 20) [100] 0).panicked = true := by
  refine ⟨by decide +kernel, eq_true_of_ne_false fun h => ?_⟩
  have h53 := drains20.2.2.2.2.2.1
  rw [txAcceptedAux_fuel_le K0 0 48 53 (by decide) _ _ _ h, h] at h53
  cases h53

/-- the same family with a chain of 8, the orphan's parents arriving in REVERSE order (each one pooled only when the
    root arrives) -/
def opsRev (k : Nat) : List Op :=
  [.submitNet (O k) false 0] ++ ((List.range k).reverse.map fun i => .submitNet (P (i + 1)) false 0) ++
    [.submitNet X false 0]

theorem drains8_rev : (run K0 s0 (opsRev 8)).pool.length = 10 ∧ (run K0 s0 (opsRev 8)).rej = [] ∧
    (run K0 s0 (opsRev 8)).panicked = false := by
  decide +kernel

end Deep

end GocoinV.Mempool
