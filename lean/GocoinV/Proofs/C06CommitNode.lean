/-
  Proofs.C06CommitNode — the block of a KNOWN HEADER arrives (`commitNode`: the client's HandleNetBlock / LocalAcceptBlock =
  HasAllParents + CommitBlock(bl, node) on a node that AcceptHeader created earlier and that has no data yet, possibly with
  header-only descendants) keeps the whole invariant and never panics: connected on the tip; refused on the tip (the block
  is unlinked, its header-only descendants become unreachable: `sweep` moves them to `limbo`); stored aside; reorganised to,
  completely or with a failure and the fall-back. Last part: one delivery (`deliver`, header and data at once) as
  AcceptHeader followed by this; the invariant and completeness over histories of deliveries.
-/
import GocoinV.Proofs.C06Header
import GocoinV.Proofs.C06HasAll
namespace GocoinV.ChainTree
open GocoinV.UtxoOps

/-- the chain after `cur.TxCount = …` of CommitBlock on the existing node of `b` -/
def filled (c : Chain) (b : Block) : Chain := modNode c b.id (fun n => { n with txCount := b.txs.length })

theorem getNode_filled {c : Chain} {b : Block} {n : Node} (hn : getNode c b.id = some n) (x : Nat) :
    getNode (filled c b) x = if x = b.id then some { n with txCount := b.txs.length } else getNode c x := by
  unfold filled
  rw [getNode_modNode_eq c b.id x (fun n => { n with txCount := b.txs.length }) (fun _ => rfl)]
  by_cases hx : x = b.id
  · subst hx
    simp [hn, getNode_id hn]
  · rw [if_neg hx]
    cases hg : getNode c x with
    | none => rfl
    | some m => simp [getNode_id hg, hx]

section Filled
variable {U : List Block} {c c' : Chain} {b : Block} {n : Node}

/-- `c'` shows the tree of `c` with the node `n` of `b` given its data -/
def ShowsFilled (c c' : Chain) (b : Block) (n : Node) : Prop :=
  c'.root = c.root ∧ ∀ x, getNode c' x = if x = b.id then some { n with txCount := b.txs.length } else getNode c x

theorem fl_old (hn : getNode c b.id = some n) (sf : ShowsFilled c c' b n) (x : Nat) : NP c c' x := by
  intro m h
  rw [sf.2]
  by_cases hx : x = b.id
  · rw [if_pos hx]; rw [hx, hn] at h; cases h
    exact ⟨_, rfl, rfl, rfl⟩
  · rw [if_neg hx]; exact ⟨m, h, rfl, rfl⟩

theorem fl_back (hn : getNode c b.id = some n) (sf : ShowsFilled c c' b n) :
    ∀ x m', getNode c' x = some m' → ∃ m, getNode c x = some m ∧
      ((x = b.id ∧ m'.txCount = b.txs.length) ∨ (x ≠ b.id ∧ m'.txCount = m.txCount)) := by
  intro x m' h
  rw [sf.2] at h
  by_cases hx : x = b.id
  · rw [if_pos hx] at h; cases h
    exact ⟨n, by rw [hx]; exact hn, Or.inl ⟨hx, rfl⟩⟩
  · rw [if_neg hx] at h; exact ⟨m', h, Or.inr ⟨hx, rfl⟩⟩

theorem fl_new (sf : ShowsFilled c c' b n) : getNode c' b.id = some { n with txCount := b.txs.length } := by
  rw [sf.2, if_pos rfl]

theorem fl_nodesFrom (hn : getNode c b.id = some n) (sf : ShowsFilled c c' b n) : NodesFrom c b c' := by
  intro x m' h
  obtain ⟨m, g1, g2⟩ := fl_back hn sf x m' h
  exact g2.imp id fun g => ⟨m, g1, g.2⟩

theorem fl_lost (hn : getNode c b.id = some n) (sf : ShowsFilled c c' b n) : Lost U c.root c c' := by
  intro x hxs hnone
  obtain ⟨m, hg⟩ := Option.isSome_iff_exists.mp hxs
  obtain ⟨m', g1, _⟩ := fl_old hn sf x m hg; rw [g1] at hnone; cases hnone

theorem fl_data (hn : getNode c b.id = some n) (sf : ShowsFilled c c' b n) {x : Nat} {m' : Node}
    (hm' : getNode c' x = some m') (hd' : HasData c' x m') :
    (∃ m, getNode c x = some m ∧ HasData c x m) ∨ m' = { n with txCount := b.txs.length } := by
  obtain ⟨m, hmm, ⟨e, _⟩ | ⟨_, htx⟩⟩ := fl_back hn sf x m' hm'
  · rw [e, fl_new sf] at hm'; cases hm'; exact Or.inr rfl
  · exact Or.inl ⟨m, hmm, (HasData.congr sf.1 htx).mp hd'⟩

/-- the block that got its data did not take the lead: the old tip is still a maximum-work node -/
theorem maxW_keep (w : TreeWF U c) (w' : TreeWF U c') (hU : BlockTree c.root U) (hn : getNode c b.id = some n)
    (sf : ShowsFilled c c' b n) (hm : MaxW c) (htip : c'.tip = c.tip)
    (hle : ∀ t', getNode c' c.tip = some t' → W c' { n with txCount := b.txs.length } ≤ W c' t') : MaxW c' := by
  obtain ⟨t, ht, _⟩ := id hm
  obtain ⟨t', ht', _⟩ := fl_old hn sf _ _ ht
  exact MaxW.of_le w w' hU sf.1 hm (by rw [htip]; exact ht') (fun _ h => le_of_eq (w.W_eq w' hU sf.1 h ht').symm)
    fun x m' hm' hd' => (fl_data hn sf hm' hd').imp_right fun e => by rw [e]; exact hle t' ht'

/-- the block that got its data became the tip and has at least the work of the old tip -/
theorem maxW_new (w : TreeWF U c) (w' : TreeWF U c') (hU : BlockTree c.root U) (hn : getNode c b.id = some n)
    (sf : ShowsFilled c c' b n) (hm : MaxW c) (htip : c'.tip = b.id)
    (hge : ∀ t', getNode c' c.tip = some t' → W c' t' ≤ W c' { n with txCount := b.txs.length }) : MaxW c' := by
  refine MaxW.of_le w w' hU sf.1 hm (by rw [htip]; exact fl_new sf) (fun t ht => ?_)
    fun x m' hm' hd' => (fl_data hn sf hm' hd').imp_right fun e => by rw [e]
  obtain ⟨t', ht', _⟩ := fl_old hn sf _ _ ht
  rw [← w.W_eq w' hU sf.1 ht ht']; exact hge t' ht'

end Filled

-- ------------------------------------------------------------------------------------------ equations of CommitBlock on an existing node

/-- the chain after the block of an existing node was stored aside (not on the tip) -/
def storedAside (c : Chain) (b : Block) : Chain :=
  { filled c b with store := aset b.id { txs := b.txs, trusted := false } c.store }

theorem commitBlock_side (c : Chain) (b : Block) (h : Nat) (hside : c.tip ≠ b.parent)
    (hns : alookup b.id c.store = none) :
    commitBlock c b h =
      match getNode (storedAside c b) b.id, getNode (storedAside c b) c.tip with
      | some cur, some tipN =>
        if morePOW (storedAside c b) cur tipN then
          match moveTo (fuelOf (storedAside c b)) (storedAside c b) b.id with
          | .error s => (storedAside c b, .panic s)
          | .ok c2 => (c2, if c2.tip == b.id then .ok else .moveFailed)
        else (storedAside c b, .ok)
      | _, _ => (storedAside c b, .panic "panic:nil-node") := by
  have h1 : (c.tip == b.parent) = false := by simpa using hside
  unfold commitBlock
  have e1 : (modNode c b.id (fun n => { n with txCount := b.txs.length })).tip = c.tip := rfl
  have e2 : (modNode c b.id (fun n => { n with txCount := b.txs.length })).store = c.store := rfl
  simp only [e1, h1, Bool.false_eq_true, if_false, e2, hns, Option.isSome_none]
  rfl

/-- the block of a node without data, in a well-formed tree: the node's parent and bits are the block's, and the block is
    not stored -/
theorem hdrNode_facts {U : List Block} {c : Chain} (w : TreeWF U c) (hU : BlockTree c.root U) {b : Block} (hbU : b ∈ U)
    {n : Node} (hn : getNode c b.id = some n) (h0 : n.txCount = 0) (hbr : b.id ≠ c.root) :
    n.parent = b.parent ∧ n.bits = b.bits ∧ alookup b.id c.store = none := by
  obtain ⟨b', hb', h1, h2, h3, _⟩ := w.blk b.id n hn hbr
  have : b' = b := hU.ids b' hb' b hbU h1
  subst this
  exact ⟨h2.symm, h3.symm, w.hdr b'.id n hn h0⟩

/-- what `commitAt` leaves when CommitBlock refuses the block of an existing node on the tip: the block is unlinked and
    its own index entry deleted (`rejectedChain`), its header-only descendants are moved to `limbo` (`sweep`) -/
def rejectSwept (c : Chain) (b : Block) : Chain :=
  sweep (rejectedChain c b) ((subtree c (c.nodes.length + 1) b.id).filter (· != b.id))

/-- `r` is what CommitBlock on the header-only node of `b` (height `h`) leaves once whatever hung below a refused block is
    swept (the tail of `commitAt`): it has `StepOK`; every node is `b` with its data or a node of before; `b` is afterwards a
    node with its transaction count, or excused -/
def Committed (U : List Block) (c : Chain) (b : Block) (h : Nat) (r : Chain × Outcome) : Prop :=
  ((commitBlock c b h = r ∧ ∀ e, r.2 ≠ Outcome.rejected e) ∨
    ∃ e, commitBlock c b h = (rejectedChain c b, Outcome.rejected e) ∧ r = (rejectSwept c b, Outcome.rejected e)) ∧
  StepOK U c b true r ∧ NodesFrom c b r.1 ∧ (getNode r.1 b.id = none → Excused U c.root b.id) ∧
  ∀ n', getNode r.1 b.id = some n' → n'.txCount = b.txs.length

theorem Committed.intro {U : List Block} {c : Chain} {b : Block} {h : Nat} {r : Chain × Outcome} (hU : BlockTree c.root U)
    (hbU : b ∈ U)
    (hr : (commitBlock c b h = r ∧ ∀ e, r.2 ≠ Outcome.rejected e) ∨
      ∃ e, commitBlock c b h = (rejectedChain c b, Outcome.rejected e) ∧ r = (rejectSwept c b, Outcome.rejected e))
    (inv : Inv U r.1) (root : r.1.root = c.root) (noPanic : ∀ s, r.2 ≠ Outcome.panic s)
    (tip : r.1.tip = c.tip ∨ r.1.tip = b.id ∨ r.2 = Outcome.moveFailed) (lost : Lost U c.root c r.1)
    (hf : NodesFrom c b r.1) (gone : getNode r.1 b.id = none → Excused U c.root b.id)
    (count : ∀ n', getNode r.1 b.id = some n' → n'.txCount = b.txs.length) : Committed U c b h r :=
  have hlen : b.txs.length ≠ 0 := mt List.eq_nil_of_length_eq_zero (hU.txs b hbU)
  ⟨hr, ⟨inv, root, noPanic, tip, lost, fun x n n' hn hn' hd => (by
      rcases hf x n' hn' with ⟨_, e2⟩ | ⟨m, e1, e2⟩
      · rw [e2]; exact hlen
      · rw [hn] at e1; cases e1; rw [e2]; exact hd), fun _ _ => gone, fun _ _ n' hn' => (by
      rw [count n' hn']; exact hlen)⟩, hf, gone, count⟩

/-- **the block of a known header on a side branch**: stored aside, or — with more work than the tip — reorganised to -/
theorem commitAt_side {U : List Block} {c : Chain} (hi : Inv U c) (hU : BlockTree c.root U) (b : Block) (hbU : b ∈ U)
    (n : Node) (hn : getNode c b.id = some n) (h0 : n.txCount = 0) (hbr : b.id ≠ c.root)
    (hpd : ∃ p, getNode c n.parent = some p ∧ HasData c n.parent p) (hside : c.tip ≠ b.parent) (h : Nat) :
    Committed U c b h (commitBlock c b h) ∧
    (∀ t, getNode c c.tip = some t → W c n ≤ W c t → (commitBlock c b h).1.tip = c.tip) := by
  obtain ⟨w, ⟨path, hpo, hx⟩, hm⟩ := hi
  obtain ⟨hnp, _, hns⟩ := hdrNode_facts w hU hbU hn h0 hbr
  have hlen : b.txs.length ≠ 0 := fun h0 => hU.txs b hbU (List.eq_nil_of_length_eq_zero h0)
  have sf : ShowsFilled c (storedAside c b) b n :=
    ⟨rfl, fun x => (getNode_nodes rfl x).trans (getNode_filled hn x)⟩
  have w1 := TreeWF_filled w hU b hbU n hn hbr hpd sf.1 sf.2 false rfl
  obtain ⟨hpath, t, ht, hth⟩ := hpo
  obtain ⟨t', ht', _, hth'⟩ := fl_old hn sf _ _ ht
  have hnew : ∀ e ∈ path, e.id ≠ b.id := fun e he heq => by
    obtain ⟨s0, h0, _⟩ := hx.onPath e he
    rw [heq, hns] at h0; cases h0
  have hp1 : PathOKH (storedAside c b) 0 path :=
    ⟨PathOK_mono hpath rfl rfl rfl rfl rfl (fun e _ => fl_old hn sf e.id)
      fun e he b0 hb0 => ⟨b0, (alookup_aset_ne _ _ _ _ (hnew e he)).trans hb0, rfl⟩, t', ht', hth'.trans hth⟩
  have hx1 : Ext (storedAside c b) path := hx.store_aside b.id b.txs hnew rfl
  have hlost1 : Lost U c.root c (storedAside c b) := fl_lost hn sf
  have hfrom1 : NodesFrom c b (storedAside c b) := fl_nodesFrom hn sf
  have hmp := morePOW_spec w1 hU (fl_new sf) ht'
  have hcb := commitBlock_side c b h hside hns
  rw [fl_new sf, ht'] at hcb
  simp only at hcb
  cases hmo : morePOW (storedAside c b) { n with txCount := b.txs.length } t' with
  | false =>
    simp only [hmo, Bool.false_eq_true, if_false] at hcb
    rw [hcb]
    refine ⟨.intro hU hbU (Or.inl ⟨hcb, fun e he => by cases he⟩) ⟨w1, ⟨path, hp1, hx1⟩, ?_⟩ rfl (fun s hs => by cases hs)
      (Or.inl rfl) hlost1 hfrom1 (fun hnone => by rw [fl_new sf] at hnone; cases hnone)
      (fun n' hn' => by rw [fl_new sf] at hn'; cases hn'; rfl), fun _ _ _ => rfl⟩
    refine maxW_keep w w1 hU hn sf hm rfl ?_
    intro t2 ht2
    rw [ht'] at ht2; cases ht2
    exact not_lt.mp (mt hmp.mpr (Bool.eq_false_iff.mp hmo))
  | true =>
    have hgt : W (storedAside c b) { n with txCount := b.txs.length } > W (storedAside c b) t' := hmp.mp hmo
    obtain ⟨c2, path2, g1, g2, g3, g4, g5, g6, g7, g8⟩ := (reorg_specs U (fuelOf (storedAside c b))).2.2 (storedAside c b) b.id
      { n with txCount := b.txs.length } path w1 hp1 hx1 hU (fl_new sf) (Or.inr hlen) (fuelOf_enough _)
    simp only [hmo, if_true, g1] at hcb
    rw [hcb]
    have g7' : Lost U c.root (storedAside c b) c2 := g7
    have hfrom2 : NodesFrom c b c2 := by
      intro x n2 hn2
      obtain ⟨n1, k1, k2⟩ := g8 x n2 hn2
      exact (hfrom1 x n1 k1).imp (And.imp_right k2.trans) fun ⟨m, e1, e2⟩ => ⟨m, e1, k2.trans e2⟩
    refine ⟨.intro hU hbU (Or.inl ⟨hcb, fun e he => by split at he <;> cases he⟩) ⟨g2, ⟨path2, g3, g6⟩, ?_⟩ g4
      (fun s hs => by split at hs <;> cases hs) ?_ (hlost1.trans g7')
      hfrom2 (fun hnone => g7' b.id (by rw [fl_new sf]; rfl) hnone) (fun n' hn' => by
        obtain ⟨n1, k1, k2⟩ := g8 b.id n' hn'
        rw [fl_new sf] at k1; cases k1; exact k2), fun t0 ht0 hle => ?_⟩
    · rcases g5 with ⟨a1, a2⟩ | g5
      · have hg2 : ∀ x, getNode c2 x = getNode (storedAside c b) x := fun x => getNode_nodes a2 x
        have sf2 : ShowsFilled c c2 b n := ⟨g4, fun x => (hg2 x).trans (sf.2 x)⟩
        refine maxW_new w g2 hU hn sf2 hm a1 ?_
        intro t2 ht2
        rw [hg2, ht'] at ht2; cases ht2
        rw [w1.W_eq g2 hU g4 ht' (hg2 _ ▸ ht'), w1.W_eq g2 hU g4 (fl_new sf) (hg2 _ ▸ fl_new sf)]
        exact le_of_lt hgt
      · exact g5
    · by_cases hc2 : c2.tip = b.id
      · exact Or.inr (Or.inl hc2)
      · exact Or.inr (Or.inr (if_neg (by simpa using hc2)))
    · -- strictly more work than the tip: the hypothesis cannot hold
      rw [ht] at ht0; cases ht0
      rw [w.W_eq w1 hU sf.1 hn (fl_new sf), w.W_eq w1 hU sf.1 ht ht'] at hgt
      exact absurd hle (not_le.2 hgt)


/-- a state all of whose nodes are old nodes with the data they had, and whose tip is the old tip, keeps "the tip is a
    maximum-work node among those with data" -/
theorem MaxW_after_delete {U : List Block} {c c' : Chain} (w : TreeWF U c) (w' : TreeWF U c') (hU : BlockTree c.root U)
    (hm : MaxW c) (hr : c'.root = c.root) (htip : c'.tip = c.tip) {t' : Node} (ht' : getNode c' c.tip = some t')
    (hback : ∀ x n', getNode c' x = some n' → ∃ n, getNode c x = some n ∧ n'.txCount = n.txCount) : MaxW c' :=
  MaxW.of_le w w' hU hr hm (by rw [htip]; exact ht') (fun t ht => le_of_eq (w.W_eq w' hU hr ht ht').symm)
    fun x n' hn' hd' => by
      obtain ⟨n, hn, htx⟩ := hback x n' hn'
      exact Or.inl ⟨n, hn, (HasData.congr hr htx).mp hd'⟩

-- ------------------------------------------------------------------------------------------ refused on the tip: unlink + sweep

theorem sweep_nil (c : Chain) : sweep c [] = c := by
  cases c; simp [sweep]

theorem rejectSwept_leaf {c : Chain} {b : Block} {n : Node} (hn : getNode c b.id = some n) (hc : n.childs = []) :
    rejectSwept c b = rejectedChain c b := by
  unfold rejectSwept
  rw [subtree, hn]
  simp [hc, sweep_nil]

theorem rejectSwept_fields (c : Chain) (b : Block) :
    (rejectSwept c b).root = c.root ∧ (rejectSwept c b).tip = b.parent ∧ (rejectSwept c b).utxo = c.utxo ∧
    (rejectSwept c b).store = c.store ∧ (rejectSwept c b).undoFiles = c.undoFiles ∧
    (rejectSwept c b).lastHeight = c.lastHeight := ⟨rfl, rfl, rfl, rfl, rfl, rfl⟩

/-- as a tree, the result is DeleteBranch of the refused block -/
theorem getNode_rejectSwept {U : List Block} {c : Chain} (w : TreeWF U c) {b : Block} {n : Node}
    (hn : getNode c b.id = some n) (hnp : n.parent = b.parent) (x : Nat) :
    getNode (rejectSwept c b) x = getNode (deleteBranch c b.id) x := by
  have hmem : ∀ y, ((subtree c (c.nodes.length + 1) b.id).filter (· != b.id)).contains y = true ↔
      (Desc c b.id y ∧ y ≠ b.id) := by
    intro y
    rw [List.contains_iff_mem, List.mem_filter, mem_subtree_iff w hn y]
    simp
  -- the sweep filters the tree that the refusal left (`getNode_rejectedChain`)
  have e1 : getNode (rejectSwept c b) x = _ := (getNode_nodes (c' := rejectSwept c b) rfl x).trans
    (getNode_filter_eq (rejectedChain c b)
      (fun i => !((subtree c (c.nodes.length + 1) b.id).filter (· != b.id)).contains i) x)
  by_cases hd : Desc c b.id x
  · rw [getNode_deleteBranch_dead w hn x hd, e1]
    by_cases hxb : x = b.id
    · rw [getNode_rejectedChain, if_pos hxb]; simp
    · simp only [(hmem x).mpr ⟨hd, hxb⟩, Bool.not_true, Bool.false_eq_true, if_false]
  · have hxb : x ≠ b.id := fun e => hd (e ▸ Desc.refl)
    have h1 := Bool.eq_false_iff.mpr fun h => hd ((hmem x).mp h).1
    rw [getNode_deleteBranch_aux hn, if_pos ((dead_iff w hn x).mpr hd), e1]
    simp only [h1, Bool.not_false, if_true]
    rw [getNode_rejectedChain, if_neg hxb, hnp]
    rfl

/-- **the block of a known header on the tip**: connected (the branch grows; header-only descendants stay below it), or
    refused and unlinked — whatever hangs below it leaves the tree (to `limbo`) -/
theorem commitAt_tip {U : List Block} {c : Chain} (hi : Inv U c) (hU : BlockTree c.root U) (b : Block) (hbU : b ∈ U)
    (n : Node) (hn : getNode c b.id = some n) (h0 : n.txCount = 0) (hbr : b.id ≠ c.root) (htip : c.tip = b.parent) :
    ∃ r, Committed U c b n.height r := by
  obtain ⟨w, ⟨path, ⟨hpath, t, ht, hth⟩, hx⟩, hm⟩ := hi
  obtain ⟨hnp, _, hns⟩ := hdrNode_facts w hU hbU hn h0 hbr
  obtain ⟨p, hp, hph, _⟩ := w.par b.id n hn hbr
  have hnt : n.parent = c.tip := hnp.trans htip.symm
  rw [hnt, ht] at hp; cases hp
  have hnh : n.height = path.length + 1 := by omega
  rw [hnh]
  have hnew : ∀ e ∈ path, e.id ≠ b.id := by
    intro e he heq
    obtain ⟨s0, h1, _⟩ := hx.onPath e he
    rw [heq, hns] at h1; cases h1
  have huc : UChain U c.root (⟨b.id, b.txs⟩ :: path) :=
    ⟨⟨b, hbU, rfl, rfl, by rw [← headId_eq, ← hpath.tip, htip]⟩, Linked_UChain w hpath.linked⟩
  have hdep := hU.depth _ huc
  simp only [List.length_cons] at hdep
  obtain ⟨u, hru, heq⟩ := hpath.utxo
  have hfresh : ∀ x ∈ b.txs.map (·.txid), c.utxo.get x = none := fun x hx => by
    rw [heq x]; exact (hU.fresh _ huc).1 u hru x hx
  cases hct : commitTxs c.utxo (path.length + 1) (reward (path.length + 1)) false b.txs with
  | ok ch =>
    have hf := cbt_fields (preCommit c b) (path.length + 1) true (b.txs.map (·.txid)) ch
    have hrt := cbt_root (preCommit c b) (path.length + 1) true (b.txs.map (·.txid)) ch
    have hst := cbt_store (preCommit c b) (path.length + 1) true (b.txs.map (·.txid)) ch
    have sf : ShowsFilled c { commitBlockTxs (preCommit c b) (path.length + 1) true (b.txs.map (·.txid)) ch with tip := b.id } b n :=
      ⟨hrt, fun x => (getNode_nodes hf.2.2.2 x).trans (getNode_filled hn x)⟩
    have w1 :=
      TreeWF_filled w hU b hbU n hn hbr ⟨t, hnt ▸ ht, hnt ▸ tip_has_data w hpath ht⟩ sf.1 sf.2 true hst
    have hcp := commitBlock_path c 0 path hpath b ch htip ⟨n, hn, hnp⟩ hnew hct hfresh
    rw [commitBlock_ok_eq _ b _ ch htip hct] at hcp
    have hfl : max 0 (path.length + 1 - UnwindBufLen) = 0 := by omega
    rw [hfl] at hcp
    refine ⟨_, .intro hU hbU (Or.inl ⟨commitBlock_tip_ok c b _ ch htip hct, fun e he => by cases he⟩)
      ⟨w1, ⟨_, ⟨hcp, _, fl_new sf, hnh⟩, hx.extend b _ _ ch _ hct (hst.trans rfl)⟩, ?_⟩ hrt (fun s hs => by cases hs)
      (Or.inr (Or.inl rfl)) (fl_lost hn sf) (fl_nodesFrom hn sf) (fun hnone => by rw [fl_new sf] at hnone; cases hnone)
      (fun n' hn' => by rw [fl_new sf] at hn'; cases hn'; rfl)⟩
    refine maxW_new w w1 hU hn sf hm rfl ?_
    intro t2 ht2
    have hW := W_step w hU hn hbr (hnt ▸ ht)
    rw [w.W_eq w1 hU sf.1 ht ht2, w.W_eq w1 hU sf.1 hn (fl_new sf), hW.1]
    exact le_add_of_nonneg_right (le_of_lt hW.2)
  | error e =>
    have hg := getNode_rejectSwept w hn hnp
    obtain ⟨hr, htp, hut, hsto, hund, hlh⟩ := rejectSwept_fields c b
    -- nothing below the refused block has data, so nothing below it is stored
    have hdead : ∀ k, Desc c b.id k → alookup k c.store = none := by
      intro k hd
      cases hk : getNode c k with
      | none =>
        cases hs : alookup k c.store with
        | none => rfl
        | some s0 => have := (w.store k s0 hs).2; rw [hk] at this; cases this
      | some m =>
        apply w.hdr k m hk
        by_contra hne
        have := Desc.has_data w hd m hk (Or.inr hne) n hn
        exact (this.resolve_left hbr) h0
    have w2 : TreeWF U (rejectSwept c b) := by
      refine TreeWF_same (deleteBranch_wf w hn hbr) (hr.trans (deleteBranch_fields c b.id).2.2.2.2.symm) hg ?_
      intro k
      rw [hsto]
      by_cases hd : Desc c b.id k
      · rw [store_deleteBranch_dead w hn k hd, hdead k hd]
      · rw [store_deleteBranch_alive w hn k hd]
    have hold : ∀ x, ¬ Desc c b.id x → NP c (rejectSwept c b) x := by
      intro x ha m hm'
      obtain ⟨m', g1, g2, g3, _⟩ := deleteBranch_old w hn x m hm' ha
      exact ⟨m', by rw [hg]; exact g1, g2, g3⟩
    have hback : ∀ x m', getNode (rejectSwept c b) x = some m' → ∃ m, getNode c x = some m ∧ m'.txCount = m.txCount := by
      intro x m' hm'
      rw [hg] at hm'
      obtain ⟨_, m, g1, _, _, _, g5⟩ := deleteBranch_back w hn x m' hm'
      exact ⟨m, g1, g5⟩
    have hp1 : PathOK (rejectSwept c b) 0 path :=
      PathOK_mono hpath hr (htp.trans htip.symm) hut hund hlh
        (fun e he => hold e.id (path_not_below w hpath.linked hn hnh e he))
        fun e _ b0 hb0 => ⟨b0, by rw [hsto]; exact hb0, rfl⟩
    have hta : ¬ Desc c b.id c.tip := not_below_of_le w hn ht (by omega)
    obtain ⟨t', ht', _, hth'⟩ := hold _ hta _ ht
    have hexc : ∀ x, Desc c b.id x → Excused U c.root x := fun x hd => ⟨b, hbU, hd.toUAnc w, invalidOnReplay_on_path w hpath b htip.symm false e hct⟩
    refine ⟨(rejectSwept c b, Outcome.rejected e), .intro hU hbU (Or.inr ⟨e, commitBlock_tip_err c b _ e htip hct, rfl⟩)
      ⟨w2, ⟨path, ⟨hp1, t', by rw [htp, ← htip]; exact ht', hth'.trans hth⟩, hx.of_store_eq hsto⟩,
        MaxW_after_delete w w2 hU hm hr (htp.trans htip.symm) ht' hback⟩ hr (fun s hs => by cases hs)
      (Or.inl (htp.trans htip.symm)) ?_ (fun x m' hm' => Or.inr (hback x m' hm')) (fun _ => hexc b.id Desc.refl)
      (fun n' hn' => by rw [hg, getNode_deleteBranch_dead w hn b.id Desc.refl] at hn'; cases hn')⟩
    intro x hxs hnone
    by_cases hd : Desc c b.id x
    · exact hexc x hd
    · obtain ⟨m, hgx⟩ := Option.isSome_iff_exists.mp hxs
      obtain ⟨m', g1, _⟩ := hold x hd m hgx; rw [g1] at hnone; cases hnone

-- ------------------------------------------------------------------------------------------ commitNode

theorem commitAt_dup (c : Chain) (b : Block) (n : Node) (h : n.txCount ≠ 0) : commitAt c b n = (c, Outcome.dup) := by
  simp only [commitAt, bne_iff_ne.mpr h, if_true]

theorem commitAt_notLinking (c : Chain) (b : Block) (n : Node) (h0 : n.txCount = 0)
    (hv : hasAllParents c (n.height + 1) n = .ok false) : commitAt c b n = (c, Outcome.notLinking) := by
  simp only [commitAt, h0, bne_self_eq_false, Bool.false_eq_true, if_false, hv]

theorem commitAt_other (c : Chain) (b : Block) (n : Node) (h0 : n.txCount = 0)
    (hv : hasAllParents c (n.height + 1) n = .ok true) (h : ∀ e, (commitBlock c b n.height).2 ≠ Outcome.rejected e) :
    commitAt c b n = commitBlock c b n.height := by
  simp only [commitAt, h0, bne_self_eq_false, Bool.false_eq_true, if_false, hv]

theorem commitAt_rejected (c : Chain) (b : Block) (n : Node) (h0 : n.txCount = 0)
    (hv : hasAllParents c (n.height + 1) n = .ok true) (e : Err)
    (h : commitBlock c b n.height = (rejectedChain c b, Outcome.rejected e)) :
    commitAt c b n = (rejectSwept c b, Outcome.rejected e) := by
  simp only [commitAt, h0, bne_self_eq_false, Bool.false_eq_true, if_false, hv, h]
  rfl

/-- **CommitBlock on the header-only node `n` of `b` whose parent has its data**, followed by the sweep of what hung below a
    refused block (`r`): connected on the tip; refused on the tip (unlinked; its header-only descendants leave the tree);
    stored aside; reorganised to (completely, or with a failure and the fall-back to the best remaining node that has its
    data). The block is a node with its data afterwards, or excused. -/
theorem commitKnown_ok {U : List Block} {c : Chain} (hi : Inv U c) (hU : BlockTree c.root U) (b : Block) (hbU : b ∈ U)
    (n : Node) (hn : getNode c b.id = some n) (h0 : n.txCount = 0) (hbr : b.id ≠ c.root)
    (hpd : ∃ p, getNode c n.parent = some p ∧ HasData c n.parent p) : ∃ r, Committed U c b n.height r := by
  by_cases htip : c.tip = b.parent
  · exact commitAt_tip hi hU b hbU n hn h0 hbr htip
  · exact ⟨_, (commitAt_side hi hU b hbU n hn h0 hbr hpd htip n.height).1⟩

/-- **the block of a known header keeps the whole invariant and does not panic** — whatever the answer: no such header /
    the entry is unreachable from the root / data already there / a parent without data (nothing changes), or CommitBlock on
    the node (`commitKnown_ok`) -/
theorem commitNode_ok {U : List Block} {c : Chain} (hi : Inv U c) (hU : BlockTree c.root U) (b : Block) (hbU : b ∈ U)
    (hbr : b.id ≠ c.root) : StepOK U c b true (commitNode c b) := by
  unfold commitNode
  cases hn : getNode c b.id with
  | none =>
    simp only
    split <;> exact .noop hi _ (fun s hs => by cases hs) rfl
  | some n =>
    simp only
    by_cases h0 : n.txCount = 0
    · obtain ⟨_, hp0, _⟩ := hi.path
      obtain ⟨v, hv, hvt⟩ := hasAllParents_spec hi.wf hp0 (n.height + 1) b.id n hn hbr (by omega)
      cases v with
      | false => rw [commitAt_notLinking c b n h0 hv]; exact .noop hi _ (fun s hs => by cases hs) rfl
      | true =>
        obtain ⟨r, ⟨e1, e2⟩ | ⟨e, e1, rfl⟩, hok, _⟩ := commitKnown_ok hi hU b hbU n hn h0 hbr (hvt rfl)
        · rw [commitAt_other c b n h0 hv (fun e he => e2 e (by rw [← e1]; exact he)), e1]; exact hok
        · rw [commitAt_rejected c b n h0 hv e e1]; exact hok
    · rw [commitAt_dup c b n h0]; exact .noop hi _ (fun s hs => by cases hs) rfl

-- ------------------------------------------------------------------------------------------ a delivery: header and data at once

/-- nodes that come from the tree with the new header come from the tree before it, the delivered block aside -/
theorem nodesFrom_accepted {c r : Chain} {b : Block} {p : Node}
    (hback : ∀ x n', getNode (accepted c b p) x = some n' →
      (x = b.id ∧ n'.txCount = 0) ∨ ∃ n, getNode c x = some n ∧ n'.txCount = n.txCount)
    (g9 : ∀ n', getNode r b.id = some n' → n'.txCount = b.txs.length) (g6 : NodesFrom (accepted c b p) b r) :
    NodesFrom c b r := by
  intro x n2 hn2
  by_cases hxb : x = b.id
  · exact Or.inl ⟨hxb, g9 n2 (hxb ▸ hn2)⟩
  · rcases g6 x n2 hn2 with ⟨e, _⟩ | ⟨n1, k1, k2⟩
    · exact absurd e hxb
    · rcases hback x n1 k1 with ⟨e, _⟩ | ⟨n, k3, k4⟩
      · exact absurd e hxb
      · exact Or.inr ⟨n, k3, k2.trans k4⟩

/-- AcceptHeader first: what the block of the new header guarantees from the tree with the header, it guarantees from
    the tree before -/
theorem StepOK.after_header {U : List Block} {c : Chain} {b : Block} {p : Node} {r : Chain × Outcome}
    (hold : ∀ x n, getNode c x = some n → ∃ n', getNode (accepted c b p) x = some n' ∧ n'.txCount = n.txCount)
    (h : StepOK U (accepted c b p) b true r) : StepOK U c b true r :=
  { h with
    lost := (lost_accepted hold).trans h.lost
    keep := fun x n n' hn hn' hd => by
      obtain ⟨m, g1, g2⟩ := hold x n hn
      exact h.keep x m n' g1 hn' (by rw [g2]; exact hd) }

/-- **one delivery keeps the whole invariant and does not panic** — any block of the block tree, in any state reached:
    duplicate, orphan, too deep below the tip (nothing changes), or AcceptHeader followed by CommitBlock on the new node
    (`commitKnown_ok` at the chain `accepted c b p`; a new leaf has nothing below it to sweep) -/
theorem deliver_ok {U : List Block} {c : Chain} (hi : Inv U c) (hU : BlockTree c.root U) (b : Block) (hbU : b ∈ U)
    (hpd : ∀ p, getNode c b.parent = some p → HasData c b.parent p) :
    StepOK U c b true (deliver c b) ∧ NodesFrom c b (deliver c b).1 ∧
    (getNode (deliver c b).1 b.id = none →
      (deliver c b).2 = Outcome.later ∨ (deliver c b).2 = Outcome.tooDeep ∨ Excused U c.root b.id) := by
  have sameN : NodesFrom c b c := fun x n' hn' => Or.inr ⟨n', hn', rfl⟩
  obtain ⟨_, ⟨_, t, ht, _⟩, _⟩ := hi.path
  cases hb : getNode c b.id with
  | some n0 =>
    rw [show deliver c b = (c, Outcome.dup) by unfold deliver; simp [hb]]
    exact ⟨.noop hi _ (fun s hs => by cases hs) rfl, sameN, fun hnone => by rw [hb] at hnone; cases hnone⟩
  | none =>
    cases hp : getNode c b.parent with
    | none =>
      rw [show deliver c b = (c, Outcome.later) by unfold deliver; simp [hb, hp]]
      exact ⟨.noop hi _ (fun s hs => by cases hs) rfl, sameN, fun _ => Or.inl rfl⟩
    | some p =>
      cases hdeep : (p.id != t.id && decide (t.height ≥ p.height + 1 + MovingCheckpointDepth)) with
      | true =>
        rw [show deliver c b = (c, Outcome.tooDeep) by
          unfold deliver deliverAt; simp only [hb, Option.isSome_none, Bool.false_eq_true, if_false, hp, ht, hdeep, if_true]]
        exact ⟨.noop hi _ (fun s hs => by cases hs) rfl, sameN, fun _ => Or.inr (Or.inl rfl)⟩
      | false =>
        rw [deliver_eq c b p t hb hp ht hdeep]
        obtain ⟨hold, hback⟩ := accepted_nodes c b p hb hp
        obtain ⟨hnew, hbr, hpd'⟩ := accepted_hdrNode hi.wf b p hb hp (hpd p hp)
        obtain ⟨r, hr, hok, hfrom, gone, g9⟩ :=
          commitKnown_ok (accepted_inv hi hU b hbU p hb hp) hU b hbU (hdrNode b p) hnew rfl hbr hpd'
        have hr' : commitBlock (accepted c b p) b (p.height + 1) = r := by
          rcases hr with ⟨e1, _⟩ | ⟨e, e1, rfl⟩
          · exact e1
          · rw [rejectSwept_leaf hnew rfl]; exact e1
        rw [hr']
        exact ⟨hok.after_header hold, nodesFrom_accepted hback g9 hfrom, fun hnone => Or.inr (Or.inr (gone hnone))⟩

theorem init_only {r bits x : Nat} {n : Node} (h : getNode (ChainTree.init r bits) x = some n) : x = r := by
  simp only [getNode, ChainTree.init, List.find?_cons, List.find?_nil] at h
  split at h
  · next he => exact (by simpa using he : r = x).symm
  · cases h

theorem init_inv (U : List Block) (r bits : Nat) (hbits : bits % 0x1000000 ≠ 0) : Inv U (ChainTree.init r bits) := by
  have hroot : getNode (ChainTree.init r bits) r = some { id := r, parent := r, height := 0, bits := bits, childs := [], txCount := 0 } := by
    simp [getNode, ChainTree.init]
  have hno : ∀ {P : Prop} {x n}, getNode (ChainTree.init r bits) x = some n → x ≠ r → P :=
    fun h hx => absurd (init_only h) hx
  refine ⟨⟨⟨_, hroot, rfl, hbits⟩, fun _ _ => hno, ?_, fun _ _ => hno, fun _ _ _ _ => rfl, fun _ _ => hno, fun k s h => by cases h⟩,
    ⟨[], init_pathH r bits, Ext.mk (fun k s h _ => by cases h) (fun e he => by cases he)⟩, _, hroot, ?_⟩
  · intro y p h x hx
    cases init_only h
    rw [hroot] at h; cases h; cases hx
  · intro x n h _
    cases init_only h
    rw [hroot] at h; cases h; exact le_refl _

/-- every node has its data (no header-only node): the state of a chain that was only ever fed whole blocks -/
def AllData (c : Chain) : Prop := ∀ x n, getNode c x = some n → HasData c x n

theorem init_allData (r bits : Nat) : AllData (ChainTree.init r bits) :=
  fun _ _ h => Or.inl (init_only h)

theorem AllData.deliver {U : List Block} {c : Chain} (ha : AllData c) (hU : BlockTree c.root U) (b : Block) (hbU : b ∈ U)
    {c' : Chain} (hr : c'.root = c.root) (hf : NodesFrom c b c') : AllData c' := by
  intro x n' hn'
  rcases hf x n' hn' with ⟨_, e2⟩ | ⟨n, e1, e2⟩
  · right; rw [e2]; exact mt List.eq_nil_of_length_eq_zero (hU.txs b hbU)
  · exact (HasData.congr hr e2).mpr (ha x n e1)

theorem foldl_deliverG_fst (ds : List Block) (s : Chain × List Nat) :
    (ds.foldl deliverG s).1 = ds.foldl (fun c b => (deliver c b).1) s.1 :=
  (List.foldl_hom Prod.fst (fun _ _ => rfl)).symm

/-- **after every sequence of deliveries: the invariant, and completeness w.r.t. the blocks admitted on the way** -/
theorem deliverG_all {U : List Block} (ds : List Block) (s : Chain × List Nat) (k : InvC U s.2 s.1) (ha : AllData s.1)
    (hin : ∀ b ∈ ds, b ∈ U) :
    InvC U (ds.foldl deliverG s).2 (ds.foldl deliverG s).1 ∧ AllData (ds.foldl deliverG s).1 ∧
      (ds.foldl deliverG s).1.root = s.1.root :=
  List.foldlRecOn ds deliverG (motive := fun s' => InvC U s'.2 s'.1 ∧ AllData s'.1 ∧ s'.1.root = s.1.root) ⟨k, ha, rfl⟩
    fun s' ⟨k, ha, hr⟩ b hb => by
      obtain ⟨h, hn, _⟩ := deliver_ok k.inv k.tree b (hin b hb) (fun p hp => ha _ p hp)
      exact ⟨h.invC k, ha.deliver k.tree b (hin b hb) h.root hn, h.root.trans hr⟩

theorem deliver_history (r bits : Nat) (U ds : List Block) (hbits : bits % 0x1000000 ≠ 0) (hU : BlockTree r U)
    (hds : ∀ b ∈ ds, b ∈ U) :
    InvC U (ds.foldl deliverG (ChainTree.init r bits, [])).2 (ds.foldl (fun c b => (deliver c b).1) (ChainTree.init r bits)) ∧
    AllData (ds.foldl (fun c b => (deliver c b).1) (ChainTree.init r bits)) ∧
    (ds.foldl (fun c b => (deliver c b).1) (ChainTree.init r bits)).root = r := by
  have h := deliverG_all ds (ChainTree.init r bits, []) ⟨hU, init_inv U r bits hbits, fun x hx => by cases hx⟩
    (init_allData r bits) hds
  rw [foldl_deliverG_fst] at h
  exact h

/-- **a side block without strictly more work never moves the tip** (ties keep the block that was there first): AcceptHeader,
    then `commitAt_side` at the chain `accepted c b p` -/
theorem deliver_keeps_tip {U : List Block} {c : Chain} (hi : Inv U c) (hU : BlockTree c.root U) (b : Block) (hbU : b ∈ U)
    (p t : Node) (hb : getNode c b.id = none) (hp : getNode c b.parent = some p) (hpd : HasData c b.parent p)
    (ht : getNode c c.tip = some t)
    (hside : c.tip ≠ b.parent) (hle : ((workOf c p).add (difficulty b.bits)).gt (workOf c t) = false) :
    (deliver c b).1.tip = c.tip := by
  cases hdeep : (p.id != t.id && decide (t.height ≥ p.height + 1 + MovingCheckpointDepth)) with
  | true =>
    have : deliver c b = (c, Outcome.tooDeep) := by
      unfold deliver deliverAt; simp only [hb, Option.isSome_none, Bool.false_eq_true, if_false, hp, ht, hdeep, if_true]
    rw [this]
  | false =>
    rw [deliver_eq c b p t hb hp ht hdeep]
    have hi' := accepted_inv hi hU b hbU p hb hp
    have w' := hi'.wf
    obtain ⟨hnew, hbr, p', hp', hpd'⟩ := accepted_hdrNode hi.wf b p hb hp hpd
    obtain ⟨t', ht', _⟩ := (accepted_nodes c b p hb hp).1 _ t ht
    apply (commitAt_side hi' hU b hbU (hdrNode b p) hnew rfl hbr ⟨p', hp', hpd'⟩ hside (p.height + 1)).2 t' ht'
    rw [hi.wf.W_eq w' hU rfl ht ht', (W_step w' hU hnew hbr hp').1,
      hi.wf.W_eq w' hU rfl hp (by rw [← getNode_id hp]; exact hp')]
    have hd := difficulty_den_pos _ (hU.bits b hbU)
    have hpp := workOf_pos hi.wf hU hp
    rw [← Bool.not_eq_true, Q.gt_iff _ _ (Q.add_den_pos _ _ hpp hd) (workOf_pos hi.wf hU ht), Q.val_add _ _ hpp hd] at hle
    exact not_lt.mp hle

end GocoinV.ChainTree
