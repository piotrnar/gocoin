/-
  Proofs.C15Bech32Step — algebra of the GENERATED `bech32_polymod_step` (Gen/Bech32Consts.lean):
  30-bit range, GF(2)-linearity, behaviour on small values (`ps_small`, `shift_step`: feeding the 5-bit groups of a
  30-bit number spells it).
  The literal generator constants appear below (`Gsel`); `ps_eq` ties them to the generated
  definition, so an edit of a constant in lib/others/bech32/bech32.go breaks `ps_eq`.
-/
import GocoinV.Model.Bech32
namespace GocoinV.Bech32

def hi30 (x : UInt32) : Prop := x.toNat < 2 ^ 30

theorem and_xor_r (a b m : UInt32) : (a ^^^ b) &&& m = (a &&& m) ^^^ (b &&& m) := by
  apply UInt32.toBitVec_inj.1
  simp only [UInt32.toBitVec_and, UInt32.toBitVec_xor]
  ext i hi
  simp [Bool.and_xor_distrib_right]

theorem xor_cancel_left (a b : UInt32) : a ^^^ (a ^^^ b) = b := by
  rw [← UInt32.xor_assoc]; simp

def sel (t : UInt32) (k c : UInt32) : UInt32 := (0 - ((t >>> k) &&& (1 : UInt32))) &&& c

/-- selector part of the step as a function of the top bits `pre >> 25` -/
def Gsel (t : UInt32) : UInt32 :=
  sel t 0 996825010 ^^^ sel t 1 642813549 ^^^ sel t 2 513874426 ^^^ sel t 3 1027748829 ^^^ sel t 4 705979059

theorem ps_eq (x : UInt32) : polymodStep x = ((x &&& 0x1FFFFFF) <<< 5) ^^^ Gsel (x >>> 25) := by
  simp only [polymodStep, Gen.Bech32Consts.polymodStep, Gsel, sel, UInt32.xor_assoc]

theorem and_one_cases (x : UInt32) : x &&& 1 = 0 ∨ x &&& 1 = 1 := by
  have h : (x &&& 1).toNat = x.toNat % 2 := by rw [UInt32.toNat_and]; exact Nat.and_one_is_mod _
  rcases Nat.mod_two_eq_zero_or_one x.toNat with e | e
  · exact Or.inl (UInt32.toNat_inj.mp (h.trans e))
  · exact Or.inr (UInt32.toNat_inj.mp (h.trans e))

/-- `sel t k c` is `c` or 0 according to bit k of `t`, and the bit is additive -/
theorem sel_xor (t u k c : UInt32) : sel (t ^^^ u) k c = sel t k c ^^^ sel u k c := by
  unfold sel
  rw [UInt32.shiftRight_xor, and_xor_r]
  rcases and_one_cases (t >>> k) with h | h <;> rcases and_one_cases (u >>> k) with h' | h' <;> simp [h, h']

theorem Gsel_xor (t u : UInt32) : Gsel (t ^^^ u) = Gsel t ^^^ Gsel u := by
  simp only [Gsel, sel_xor]
  ac_rfl

theorem xor_hi {a b : UInt32} (ha : hi30 a) (hb : hi30 b) : hi30 (a ^^^ b) := by
  unfold hi30 at *
  rw [UInt32.toNat_xor]
  exact Nat.xor_lt_two_pow ha hb

theorem sel_hi (t k c : UInt32) (hc : c.toNat < 2 ^ 30) : hi30 (sel t k c) := by
  unfold hi30 sel
  rw [UInt32.toNat_and]
  exact Nat.and_lt_two_pow _ hc

theorem Gsel_hi (t : UInt32) : hi30 (Gsel t) := by
  unfold Gsel
  refine xor_hi (xor_hi (xor_hi (xor_hi ?_ ?_) ?_) ?_) ?_ <;> exact sel_hi _ _ _ (by decide)

theorem Gsel_hi32 : ∀ t : Fin 32, (Gsel (UInt32.ofNat t.val)).toNat < 2 ^ 30 :=
  fun _ => Gsel_hi _

theorem shl_toNat (P : UInt32) (k : Nat) (hk : k < 32) :
    (P <<< UInt32.ofNat k).toNat = (P.toNat * 2 ^ k) % 2 ^ 32 := by
  rw [UInt32.toNat_shiftLeft, UInt32.toNat_ofNat']
  have : k % 2 ^ 32 % 32 = k := by omega
  rw [this, Nat.shiftLeft_eq]

theorem shiftPart_hi (x : UInt32) : hi30 ((x &&& 0x1FFFFFF) <<< 5) := by
  have h : (x &&& 0x1FFFFFF).toNat < 2 ^ 25 := UInt32.toNat_and .. ▸ Nat.and_lt_two_pow _ (by decide)
  exact lt_of_eq_of_lt (shl_toNat _ 5 (by decide)) (by omega)

theorem ps_hi (x : UInt32) : hi30 (polymodStep x) := by
  rw [ps_eq]; exact xor_hi (shiftPart_hi x) (Gsel_hi _)

theorem shr_toNat (P : UInt32) (k : Nat) (hk : k < 32) : (P >>> UInt32.ofNat k).toNat = P.toNat / 2 ^ k := by
  rw [UInt32.toNat_shiftRight, UInt32.toNat_ofNat']
  have : k % 2 ^ 32 % 32 = k := by omega
  rw [this, Nat.shiftRight_eq_div_pow]

theorem top_lt32 {a : UInt32} (ha : hi30 a) : (a >>> 25).toNat < 32 := by
  unfold hi30 at ha
  exact lt_of_eq_of_lt (shr_toNat a 25 (by decide)) (by omega)

theorem ps_lin (a b : UInt32) : polymodStep (a ^^^ b) = polymodStep a ^^^ polymodStep b := by
  rw [ps_eq, ps_eq a, ps_eq b, and_xor_r, UInt32.shiftLeft_xor, UInt32.shiftRight_xor, Gsel_xor]
  ac_rfl

theorem Gsel_zero : Gsel 0 = 0 := by decide +kernel

theorem ps_small {x : UInt32} (hx : x.toNat < 2 ^ 25) : polymodStep x = x <<< 5 := by
  rw [ps_eq]
  have h1 : x &&& 0x1FFFFFF = x := by
    apply UInt32.toNat_inj.1
    rw [UInt32.toNat_and]
    have : (0x1FFFFFF : UInt32).toNat = 2 ^ 25 - 1 := by decide
    rw [this]
    exact Nat.and_two_pow_sub_one_of_lt_two_pow hx
  have h2 : x >>> 25 = 0 :=
    UInt32.toNat_inj.1 ((shr_toNat x 25 (by decide)).trans (Nat.div_eq_of_lt hx))
  rw [h1, h2, Gsel_zero]; simp

theorem bits31 : ∀ i : Fin 32, (31#32)[i.val] = decide (i.val < 5) := by decide

theorem shr_shl_xor_and (Q : UInt32) : ((Q >>> 5) <<< 5) ^^^ (Q &&& 31) = Q := by
  apply UInt32.toBitVec_inj.1
  ext i hi
  simp
  rw [bits31 ⟨i, hi⟩]
  by_cases h : i < 5
  · simp [h]
  · have : 5 + (i - 5) = i := by omega
    simp [h, this, BitVec.getLsbD_eq_getElem hi]

/-- one step of spelling a 30-bit number by its 5-bit groups: from `P >>> 5(j+1)` the step with the symbol
    `(P >>> 5j) &&& 31` leads to `P >>> 5j` (nothing is reduced: the value stays below 2^25 until the last step) -/
theorem shift_step (P : UInt32) (j : Nat) (hj : j ≤ 5) (hP : hi30 P) :
    polymodStep (P >>> UInt32.ofNat (5 * (j + 1))) ^^^ ((P >>> UInt32.ofNat (5 * j)) &&& 31) = P >>> UInt32.ofNat (5 * j) := by
  have hsmall : (P >>> UInt32.ofNat (5 * (j + 1))).toNat < 2 ^ 25 := by
    rw [shr_toNat _ _ (by omega)]
    unfold hi30 at hP
    have : 2 ^ 30 ≤ 2 ^ 25 * 2 ^ (5 * (j + 1)) := by
      rw [← Nat.pow_add]; exact Nat.pow_le_pow_right (by omega) (by omega)
    exact Nat.div_lt_of_lt_mul (by omega)
  have hQ : P >>> UInt32.ofNat (5 * (j + 1)) = (P >>> UInt32.ofNat (5 * j)) >>> 5 := by
    apply UInt32.toNat_inj.1
    rw [shr_toNat _ _ (by omega), show (_ >>> (5 : UInt32)).toNat = _ from shr_toNat _ 5 (by decide),
      shr_toNat _ _ (by omega), Nat.div_div_eq_div_mul, ← Nat.pow_add]
    congr 2
  rw [ps_small hsmall, hQ]
  exact shr_shl_xor_and _

end GocoinV.Bech32
