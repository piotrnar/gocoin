/-
  Proofs.C12Inv — the carried form `InvR` of the structural pool invariant (`InvS` of Proofs/C12 ∧ no duplicate pool key ∧
  every stored transaction belongs to the universe) through EVERY operation of Model/Mempool.lean
  (helper lemmas for Props/C12 `pool_inv_struct`): through the steps of the pool side (`Prim.invR`) and through blocks;
  the loop bodies of mined / unmined / txMined, named, with their case analysis.  Core Lean only.
-/
import GocoinV.Proofs.C12Reach
namespace GocoinV.Mempool

/-! ### association lists: keys -/

namespace AList
variable {κ ν : Type} [DecidableEq κ]

theorem keys_del (m : AList κ ν) (k : κ) : (del m k).map Prod.fst = (m.map Prod.fst).filter (fun x => !decide (x = k)) :=
  (List.filter_map (f := Prod.fst) (p := fun x => !decide (x = k)) (l := m)).symm

theorem nodup_del (m : AList κ ν) (k : κ) (h : (m.map Prod.fst).Nodup) : ((del m k).map Prod.fst).Nodup := by
  rw [keys_del]; exact h.filter _

theorem not_mem_keys_del (m : AList κ ν) (k : κ) : k ∉ (del m k).map Prod.fst := by
  rw [keys_del]; simp

theorem nodup_set (m : AList κ ν) (k : κ) (v : ν) (h : (m.map Prod.fst).Nodup) :
    ((set m k v).map Prod.fst).Nodup := by
  simp only [set, List.map_cons, List.nodup_cons]
  exact ⟨not_mem_keys_del m k, nodup_del m k h⟩

theorem mem_of_get? (m : AList κ ν) (k : κ) (v : ν) (h : m.get? k = some v) : (k, v) ∈ m :=
  Assoc.mem_of_lookup (get?_eq m k ▸ h)

theorem get?_of_mem (m : AList κ ν) (k : κ) (v : ν) (hn : (m.map Prod.fst).Nodup) (hm : (k, v) ∈ m) :
    m.get? k = some v := by
  rw [get?_eq]; exact Assoc.lookup_of_mem_nodup hn hm

theorem get?_map (f : κ → ν → ν) (m : AList κ ν) (k : κ) :
    get? (List.map (fun p => (p.1, f p.1 p.2)) m : AList κ ν) k = (get? m k).map (f k) := by
  rw [get?_eq, get?_eq]; exact Assoc.lookup_map f m k

end AList

/-! ### frames: operations that leave pool / SpentOutputs / chain alone and keep the stored reject txs in `W` -/

/-- every transaction stored in the rejected list belongs to the universe `W` -/
def RejOK (W : Tx → Prop) (s : State) : Prop := ∀ b r t, s.rej.get? b = some r → r.tx = some t → W t

/-- `s'` is `s` except for fields the structural invariant does not read: pool, SpentOutputs, weight total and the chain
    side are the same (`SameCore`, undo stack), and every rejected record's transaction is still in the universe -/
structure Frame (W : Tx → Prop) (s s' : State) : Prop where
  core : SameCore s s'
  undo : s'.undo = s.undo
  rej : RejOK W s → RejOK W s'

theorem Frame.refl (W : Tx → Prop) (s : State) : Frame W s s := ⟨SameCore.refl s, rfl, id⟩

theorem Frame.trans {W : Tx → Prop} {a b c : State} (h1 : Frame W a b) (h2 : Frame W b c) : Frame W a c :=
  ⟨h1.core.trans h2.core, h2.undo.trans h1.undo, fun h => h2.rej (h1.rej h)⟩

theorem RejOK_of_eq {W : Tx → Prop} {s s' : State} (h : RejOK W s) (e : s'.rej = s.rej) : RejOK W s' :=
  fun b r t hb ht => h b r t (e ▸ hb) ht

/-- a state that differs only in fields other than pool/spent/utxo/weight/undo/rej (the six equations hold by `rfl`
    wherever this is used on a record update) -/
theorem Frame.of_eq {W : Tx → Prop} {s s' : State} (h1 : s'.pool = s.pool := by rfl) (h2 : s'.spent = s.spent := by rfl)
    (h3 : s'.utxo = s.utxo := by rfl) (h4 : s'.weightTotal = s.weightTotal := by rfl)
    (h5 : s'.undo = s.undo := by rfl) (h6 : s'.rej = s.rej := by rfl) :
    Frame W s s' :=
  ⟨⟨h1, h2, h3, h4⟩, h5, fun h => RejOK_of_eq h h6⟩

theorem RejOK_del {W : Tx → Prop} {s s' : State} (b : Nat) (h : RejOK W s) (he : s'.rej = s.rej.del b) : RejOK W s' := by
  intro b' r t hb ht
  rw [he] at hb
  exact h b' r t (AList.get?_del_some hb).2 ht

theorem RejOK_set {W : Tx → Prop} {s s' : State} (b : Nat) (r0 : Rej) (h : RejOK W s) (he : s'.rej = s.rej.set b r0)
    (hr : ∀ t, r0.tx = some t → W t) : RejOK W s' := by
  intro b' r t hb ht
  rw [he] at hb
  rcases AList.get?_set_some hb with ⟨_, rfl⟩ | ⟨_, hb⟩
  · exact hr t ht
  · exact h b' r t hb ht

theorem rejDelete_frame (K : Keys) (W : Tx → Prop) (s : State) (r : Rej) : Frame W s (rejDelete K s r) := by
  refine ⟨rejDelete_core K s r, ?_, ?_⟩
  · unfold rejDelete; cases r.tx <;> rfl
  · intro h
    apply RejOK_del (K.bidx r.id) h
    unfold rejDelete; cases r.tx <;> rfl

theorem rejDeleteByIdx_frame (K : Keys) (W : Tx → Prop) (s : State) (b : Nat) : Frame W s (rejDeleteByIdx K s b) := by
  unfold rejDeleteByIdx
  split
  · exact rejDelete_frame K W s _
  · exact Frame.refl W s

theorem rejEvictOldest_frame (K : Keys) (W : Tx → Prop) (s : State) : Frame W s (rejEvictOldest K s) := by
  unfold rejEvictOldest
  split
  · split
    · split
      · exact rejDelete_frame K W s _
      · exact Frame.of_eq
    · exact Frame.of_eq
  · exact Frame.refl W s

theorem rejAddRefs_frame (K : Keys) (W : Tx → Prop) (s : State) (r : Rej) : Frame W s (rejAddRefs K s r) := by
  unfold rejAddRefs
  cases r.tx with
  | none => exact Frame.refl W s
  | some t => exact Frame.of_eq

theorem rejAdd_frame (K : Keys) (W : Tx → Prop) (s : State) (r : Rej) (hr : ∀ t, r.tx = some t → W t) :
    Frame W s (rejAdd K s r) := by
  unfold rejAdd
  have h0 : Frame W s { s with ring := s.ring ++ [some (K.bidx r.id)], rej := s.rej.set (K.bidx r.id) r } :=
    ⟨⟨rfl, rfl, rfl, rfl⟩, rfl, fun h => RejOK_set (K.bidx r.id) r h rfl hr⟩
  exact (h0.trans (rejEvictOldest_frame K W _)).trans (rejAddRefs_frame K W _ r)

theorem rejectTx_frame (K : Keys) (W : Tx → Prop) (s : State) (t : Tx) (why : Nat) (m : Option TxId) (ht : W t) :
    Frame W s (rejectTx K s t why m) := by
  unfold rejectTx
  apply rejAdd_frame
  intro t' h
  simp only at h
  split at h
  · cases h; exact ht
  · cases h

/-! ### the invariant carried through every operation -/

/-- hypotheses on the universe `W` of transactions that occur in a history: the code's two index functions do not
    collide on them (BIDX separates their txids; the UIdx of an input equals the UIdx of an output of a
    transaction only if the input names that transaction), a txid determines the transaction, every transaction
    has an input, and the spending relation is acyclic (`rank`: a txid is a hash over the txids it spends) -/
structure Univ (K : Keys) (W : Tx → Prop) (rank : TxId → Nat) : Prop where
  bidx_inj : ∀ a b, W a → W b → K.bidx a.id = K.bidx b.id → a.id = b.id
  uidx_inj : ∀ c t, W c → W t → ∀ i ∈ c.ins, ∀ v, K.uidx i.prev i.vout = K.uidx t.id v → i.prev = t.id
  id_fun : ∀ a b, W a → W b → a.id = b.id → a = b
  ins_ne : ∀ a, W a → a.ins ≠ []
  acyclic : ∀ a, W a → ∀ i ∈ a.ins, rank i.prev < rank a.id

/-- the form of the structural invariant that is carried through the operations: `InvS`, no duplicate pool key, and every
    transaction stored in the pool, in a rejected record or on the undo stack belongs to the universe `W` (on which the
    keys are collision-free) -/
structure InvR (K : Keys) (W : Tx → Prop) (s : State) : Prop where
  str : InvS K s
  nodup : (s.pool.map Prod.fst).Nodup
  poolW : ∀ b t, s.pool.get? b = some t → W t.tx
  rejW : RejOK W s
  undoW : ∀ e ∈ s.undo, ∀ t ∈ e.1, W t

theorem InvR_of_frame {K : Keys} {W : Tx → Prop} {s s' : State} (h : InvR K W s) (f : Frame W s s') : InvR K W s' :=
  ⟨⟨by rw [f.core.1]; exact h.str.key, by rw [f.core.1, f.core.2.1]; exact h.str.sound,
    by rw [f.core.1, f.core.2.1]; exact h.str.complete⟩, by rw [f.core.1]; exact h.nodup, by rw [f.core.1]; exact h.poolW, f.rej h.rejW,
   by rw [f.undo]; exact h.undoW⟩

theorem delOne_congr (K : Keys) (s : State) (t t' : T2S) (reason : Nat) (h : t.tx = t'.tx) :
    delOne K s t reason = delOne K s t' reason := by
  unfold delOne
  simp only [h]

theorem delOne_undo_rejOK (K : Keys) (W : Tx → Prop) (s : State) (t : T2S) (reason : Nat) (ht : W t.tx) :
    (delOne K s t reason).undo = s.undo ∧ (RejOK W s → RejOK W (delOne K s t reason)) := by
  have h := delPre_sortOnly K s t
  have c2 := rejectTx_frame K W (delPre K s t) t.tx reason none ht
  exact delOne_cases (P := fun s' => s'.undo = s.undo ∧ (RejOK W s → RejOK W s')) K s t reason
    ⟨c2.undo.trans h.undo, fun hr => c2.rej (RejOK_of_eq hr h.rej)⟩ ⟨h.undo, fun hr => RejOK_of_eq hr h.rej⟩

theorem delOne_spent_get (K : Keys) (s : State) (t : T2S) (reason : Nat) (u : Nat) :
    (delOne K s t reason).spent.get? u = if u ∈ uidxs K t.tx then none else s.spent.get? u := by
  rw [(delOne_pool_spent K s t reason).2]
  exact get?_foldl_del (fun i => K.uidx i.prev i.vout) t.tx.ins s.spent u

theorem delOne_sub (K : Keys) (s : State) (t : T2S) (reason : Nat) :
    (∀ b x, (delOne K s t reason).pool.get? b = some x → s.pool.get? b = some x) ∧
    (∀ u x, (delOne K s t reason).spent.get? u = some x → s.spent.get? u = some x) := by
  constructor
  · intro b x hx
    rw [(delOne_pool_spent K s t reason).1] at hx
    exact (AList.get?_del_some hx).2
  · intro u x hx
    rw [delOne_spent_get] at hx
    split at hx
    · cases hx
    · exact hx

theorem delOne_InvR (K : Keys) (W : Tx → Prop) (s : State) (t : T2S) (reason : Nat) (h : InvR K W s)
    (hin : s.pool.get? (K.bidx t.tx.id) = some t) : InvR K W (delOne K s t reason) := by
  obtain ⟨hu, hr⟩ := delOne_undo_rejOK K W s t reason (h.poolW _ _ hin)
  refine ⟨delOne_InvS K s t reason h.str hin, ?_, fun b t' hb => h.poolW b t' ((delOne_sub K s t reason).1 b t' hb),
    hr h.rejW, by rw [hu]; exact h.undoW⟩
  rw [(delOne_pool_spent K s t reason).1]; exact AList.nodup_del _ _ h.nodup

theorem addT2S_undo_rejOK (K : Keys) (W : Tx → Prop) (s : State) (t : T2S) :
    (addT2S K s t).undo = s.undo ∧ (RejOK W s → RejOK W (addT2S K s t)) :=
  have h := addT2S_sortOnly K s t
  ⟨h.undo, fun hr => RejOK_of_eq hr h.rej⟩

theorem addT2S_InvR (K : Keys) (W : Tx → Prop) (s : State) (t : T2S) (h : InvR K W s) (ht : W t.tx)
    (hfresh : s.pool.get? (K.bidx t.tx.id) = none)
    (hfree : ∀ u ∈ uidxs K t.tx, s.spent.get? u = none) : InvR K W (addT2S K s t) := by
  obtain ⟨hp, _⟩ := addT2S_pool_spent K s t
  obtain ⟨hu, hr⟩ := addT2S_undo_rejOK K W s t
  refine ⟨addT2S_InvS K s t h.str hfresh hfree, ?_, ?_, hr h.rejW, by rw [hu]; exact h.undoW⟩
  · rw [hp]; exact AList.nodup_set _ _ _ h.nodup
  · intro b t' hb
    rw [hp] at hb
    rcases AList.get?_set_some hb with ⟨_, rfl⟩ | ⟨_, hb⟩
    · exact ht
    · exact h.poolW b t' hb

/-! ### deleting a list of pooled keys (replacement) -/

/-- delete the pooled records under the keys of `l`, one by one -/
def delKeys (K : Keys) (reason : Nat) (s : State) (l : List Nat) : State :=
  l.foldl (fun s b => match s.pool.get? b with
    | some t => delOne K s t reason
    | none => s) s

theorem delKeys_cons (K : Keys) (reason : Nat) (s : State) (b : Nat) (r : List Nat) :
    delKeys K reason s (b :: r) = delKeys K reason (match s.pool.get? b with
      | some t => delOne K s t reason
      | none => s) r := rfl

theorem delList_spec (K : Keys) (W : Tx → Prop) (reason : Nat) : ∀ (l : List Nat) (s : State), InvR K W s →
    InvR K W (delKeys K reason s l) ∧
    (∀ b, b ∈ l → (delKeys K reason s l).pool.get? b = none) ∧
    (∀ b, b ∉ l → (delKeys K reason s l).pool.get? b = s.pool.get? b) ∧
    (∀ u x, (delKeys K reason s l).spent.get? u = some x → s.spent.get? u = some x) := by
  intro l
  induction l with
  | nil => intro s h; exact ⟨h, by simp, by simp [delKeys], by simp [delKeys]⟩
  | cons b r ih =>
    intro s h
    rw [delKeys_cons]
    cases hb : s.pool.get? b with
    | none =>
      simp only []
      obtain ⟨i1, i2, i3, i4⟩ := ih s h
      refine ⟨i1, ?_, ?_, i4⟩
      · intro b' hb'
        by_cases e : b' ∈ r
        · exact i2 b' e
        · rw [i3 b' e]
          rcases List.mem_cons.mp hb' with e2 | e2
          · rw [e2]; exact hb
          · exact absurd e2 e
      · intro b' hb'
        exact i3 b' (fun e => hb' (List.mem_cons_of_mem _ e))
    | some t =>
      simp only []
      have hk := h.str.key b t hb
      have h1 := delOne_InvR K W s t reason h (h.str.at_key hb)
      have hp := (delOne_pool_spent K s t reason).1
      obtain ⟨i1, i2, i3, i4⟩ := ih _ h1
      refine ⟨i1, ?_, ?_, fun u x hx => (delOne_sub K s t reason).2 u x (i4 u x hx)⟩
      · intro b' hb'
        by_cases e : b' ∈ r
        · exact i2 b' e
        · rw [i3 b' e]
          rcases List.mem_cons.mp hb' with e2 | e2
          · rw [e2, hp, hk]; exact AList.get?_del_self _ _
          · exact absurd e2 e
      · intro b' hb'
        rw [i3 b' (fun e => hb' (List.mem_cons_of_mem _ e)), hp, hk]
        exact AList.get?_del_other _ _ _ (fun e => hb' (by rw [e]; exact List.mem_cons_self))

theorem deleteRbf_spec (K : Keys) (W : Tx → Prop) (s : State) (rbf : List Nat) (h : InvR K W s) :
    InvR K W (deleteRbf K s rbf) ∧
    (∀ u x, (deleteRbf K s rbf).spent.get? u = some x → s.spent.get? u = some x ∧ x ∉ rbf) ∧
    (∀ b x, (deleteRbf K s rbf).pool.get? b = some x → s.pool.get? b = some x) := by
  have e : deleteRbf K s rbf = delKeys K R_REPLACED s rbf.reverse := rfl
  rw [e]
  obtain ⟨i1, i2, i3, i4⟩ := delList_spec K W R_REPLACED rbf.reverse s h
  refine ⟨i1, ?_, ?_⟩
  · intro u x hx
    refine ⟨i4 u x hx, ?_⟩
    intro hm
    obtain ⟨t, ht, _⟩ := i1.str.sound u x hx
    rw [i2 x (List.mem_reverse.mpr hm)] at ht
    cases ht
  · intro b x hx
    by_cases e : b ∈ rbf.reverse
    · rw [i2 b e] at hx; cases hx
    · rw [i3 b e] at hx; exact hx

/-! ### the rbf list of processTx covers every pooled spender of the new transaction's inputs -/

theorem mem_addRbf (l : List Nat) (b x : Nat) : x ∈ addRbf l b ↔ x ∈ l ∨ x = b := by
  unfold addRbf
  split
  · rename_i h
    constructor
    · exact Or.inl
    · rintro (h1 | h1)
      · exact h1
      · rw [h1]; simpa using h
  · simp

theorem rbfStep_mem (K : Keys) (s : State) (fl : Flags) (so : Nat) (rbf r : List Nat)
    (h : rbfStep K s fl so rbf = .ok r) :
    ∃ ctx, s.pool.get? so = some ctx ∧ ∀ x, x ∈ r ↔ x ∈ rbf ∨ x = so ∨ x ∈ allChildren K s ctx := by
  have add : ∀ r0 c r1, rbfAdd s (!fl.unmined && !fl.trusted) r0 c = .ok r1 → r1 = addRbf r0 c := fun r0 c r1 =>
    rbfAdd_cases (P := fun x => x = .ok r1 → _) s _ r0 c (fun _ h => by cases h) (fun _ _ h => by cases h)
      fun _ _ h => by cases h; rfl
  rw [rbfStep_eq] at h
  cases hp : s.pool.get? so with
  | none => rw [hp] at h; cases h
  | some ctx =>
    rw [hp] at h
    refine ⟨ctx, rfl, fun x => ?_⟩
    -- the list grows by one key at a time
    have grow : ∀ (L r0 r : List Nat), L.foldlM (rbfAdd s (!fl.unmined && !fl.trusted)) r0 = .ok r →
        ∀ x, x ∈ r ↔ x ∈ r0 ∨ x ∈ L := by
      intro L
      induction L with
      | nil => intro r0 r h x; cases h; simp
      | cons c L ih =>
        intro r0 r h x
        obtain ⟨r1, h1, h⟩ := foldlM_cons_ok h
        rw [ih r1 r h x, add r0 c r1 h1, mem_addRbf, List.mem_cons, or_assoc]
    rw [grow _ _ _ h x, List.mem_cons]

theorem inputStep_rbf (K : Keys) (s : State) (fl : Flags) (a a1 : Acc) (i : TxIn)
    (h : inputStep K s fl a i = .ok a1) :
    (∀ x ∈ a.rbf, x ∈ a1.rbf) ∧ (∀ so, s.spent.get? (K.uidx i.prev i.vout) = some so → so ∈ a1.rbf) := by
  rcases (inputStep_ok K s fl a a1 i h).1 with ⟨hsp, e⟩ | ⟨so, hsp, hr⟩
  · rw [e, hsp]
    exact ⟨fun x hx => hx, fun so hso => by cases hso⟩
  · rw [hsp]
    obtain ⟨_, _, hm⟩ := rbfStep_mem K s fl so a.rbf _ hr
    exact ⟨fun x hx => (hm x).mpr (Or.inl hx), fun so' hso => by cases hso; exact (hm so).mpr (Or.inr (Or.inl rfl))⟩

theorem inputs_rbf_cover (K : Keys) (s : State) (fl : Flags) : ∀ (ins : List TxIn) (a a' : Acc),
    ins.foldlM (inputStep K s fl) a = .ok a' →
    (∀ x ∈ a.rbf, x ∈ a'.rbf) ∧
    (∀ i ∈ ins, ∀ so, s.spent.get? (K.uidx i.prev i.vout) = some so → so ∈ a'.rbf) := by
  intro ins
  induction ins with
  | nil => intro a a' h; cases h; exact ⟨fun x hx => hx, by simp⟩
  | cons i r ih =>
    intro a a' h
    obtain ⟨a1, hf, h⟩ := foldlM_cons_ok h
    obtain ⟨m1, c1⟩ := inputStep_rbf K s fl a a1 i hf
    obtain ⟨m2, c2⟩ := ih a1 a' h
    refine ⟨fun x hx => m2 x (m1 x hx), ?_⟩
    intro j hj so hso
    rcases List.mem_cons.mp hj with e | e
    · rw [e] at hso; exact m2 so (c1 so hso)
    · exact c2 j e so hso

theorem fresh_of_unspent {K : Keys} {W : Tx → Prop} {rank : TxId → Nat} (U : Univ K W rank) (s : State) (X : Tx)
    (hX : W X) (hb : InvR K W s) (hns : ∀ i ∈ X.ins, s.spent.get? (K.uidx i.prev i.vout) = none) :
    s.pool.get? (K.bidx X.id) = none := by
  refine Option.eq_none_iff_forall_ne_some.mpr fun old hx => ?_
  have k := hb.str.key _ old hx
  have e : old.tx = X := U.id_fun _ _ (hb.poolW _ old hx) hX (U.bidx_inj _ _ (hb.poolW _ old hx) hX k)
  obtain ⟨i, hm⟩ := List.exists_mem_of_ne_nil _ (U.ins_ne X hX)
  have c := hb.str.complete _ old hx (K.uidx i.prev i.vout)
    (by rw [e]; exact List.mem_map.mpr ⟨i, hm, rfl⟩)
  rw [hns i hm] at c
  cases c

theorem accept_free {K : Keys} {W : Tx → Prop} {rank : TxId → Nat} (U : Univ K W rank) (s : State) (t : Tx)
    (fl : Flags) (a : Acc) (h : InvR K W s) (ht : W t) (ha : t.ins.foldlM (inputStep K s fl) ({} : Acc) = .ok a) :
    (deleteRbf K s a.rbf).pool.get? (K.bidx t.id) = none ∧
    ∀ u ∈ uidxs K t, (deleteRbf K s a.rbf).spent.get? u = none := by
  obtain ⟨d1, d2, _⟩ := deleteRbf_spec K W s a.rbf h
  obtain ⟨_, cov⟩ := inputs_rbf_cover K s fl t.ins _ a ha
  have hfree : ∀ i ∈ t.ins, (deleteRbf K s a.rbf).spent.get? (K.uidx i.prev i.vout) = none := by
    intro i hi
    refine Option.eq_none_iff_forall_ne_some.mpr fun x hx => ?_
    obtain ⟨e1, e2⟩ := d2 _ x hx
    exact e2 (cov i hi x e1)
  refine ⟨fresh_of_unspent U _ t ht d1 hfree, fun u hu => ?_⟩
  obtain ⟨i, hi, rfl⟩ := List.mem_map.mp hu
  exact hfree i hi

theorem processTx_InvR {K : Keys} {W : Tx → Prop} {rank : TxId → Nat} (U : Univ K W rank) (mf : Nat) (s : State)
    (t : Tx) (fl : Flags) (h : InvR K W s) (ht : W t) : InvR K W (processTx K mf s t fl).2 := by
  refine processTx_cases (P := fun r => InvR K W r.2) K mf s t fl
    (fun why m _ _ => InvR_of_frame h (rejectTx_frame K W s t why m ht)) (fun _ _ => h)
    (InvR_of_frame h Frame.of_eq) fun a _ ha _ _ => ?_
  obtain ⟨hfresh, hfree⟩ := accept_free U s t fl a h ht ha
  exact addT2S_InvR K W _ _ (deleteRbf_spec K W s a.rbf h).1 ht hfresh hfree

theorem child_rank {K : Keys} {W : Tx → Prop} {rank : TxId → Nat} (U : Univ K W rank) (s : State) (h : InvR K W s)
    (t : Tx) (ht : W t) (vout so : Nat) (c : T2S) (hs : s.spent.get? (K.uidx t.id vout) = some so)
    (hc : s.pool.get? so = some c) : rank t.id < rank c.tx.id ∧ K.bidx c.tx.id = so := by
  obtain ⟨c', hc', hu⟩ := h.str.sound _ _ hs
  rw [hc] at hc'; cases hc'
  obtain ⟨i, hi, e⟩ := List.mem_map.mp hu
  have hcW := h.poolW _ _ hc
  have := U.uidx_inj c.tx t hcW ht i hi vout e
  rw [← this]
  exact ⟨U.acyclic c.tx hcW i hi, h.str.key _ _ hc⟩

theorem delWC_spec {K : Keys} {W : Tx → Prop} {rank : TxId → Nat} (U : Univ K W rank) (reason : Nat) :
    ∀ (fuel : Nat) (s : State) (t : T2S), InvR K W s → s.pool.get? (K.bidx t.tx.id) = some t →
    InvR K W (delWithChildren K reason fuel s t) ∧
    (∀ b x, s.pool.get? b = some x → rank x.tx.id < rank t.tx.id →
      (delWithChildren K reason fuel s t).pool.get? b = some x) := by
  intro fuel
  induction fuel with
  | zero =>
    intro s t h _
    exact ⟨InvR_of_frame h Frame.of_eq, fun b x hx _ => hx⟩
  | succ n ih =>
    intro s t h hin
    rw [delWithChildren_succ]
    -- the fold over the outputs keeps the invariant and every record ranked ≤ t
    obtain ⟨f1, f2⟩ := foldl_inv (fun cur => InvR K W cur ∧
        ∀ b x, s.pool.get? b = some x → rank x.tx.id ≤ rank t.tx.id → cur.pool.get? b = some x) (delKid K reason n t)
      (fun cur v hc => by
        unfold delKid
        split
        · exact hc
        · split
          · exact hc
          · rename_i so hso _ c hcc
            obtain ⟨rk, _⟩ := child_rank U cur hc.1 t.tx (h.poolW _ _ hin) v so c hso hcc
            obtain ⟨p1, p2⟩ := ih cur c hc.1 (hc.1.str.at_key hcc)
            exact ⟨p1, fun b x hx hr => p2 b x (hc.2 b x hx hr) (Nat.lt_of_le_of_lt hr rk)⟩)
      (iota t.tx.outs.length) s ⟨h, fun b x hx _ => hx⟩
    have hin' := f2 _ t hin (Nat.le_refl _)
    refine ⟨delOne_InvR K W _ t reason f1 hin', ?_⟩
    intro b x hx hr
    rw [(delOne_pool_spent K _ t reason).1]
    have hb := f2 b x hx (Nat.le_of_lt hr)
    have : b ≠ K.bidx t.tx.id := by
      intro e
      rw [e, hin'] at hb
      cases hb
      exact Nat.lt_irrefl _ hr
    rw [AList.get?_del_other _ _ _ this]
    exact hb

/-- replacing a pooled record by one carrying the same transaction: every key keeps its transaction, both ways -/
theorem setRec_txs {s s' : State} (b : Nat) (r r' : T2S) (hb : s.pool.get? b = some r) (htx : r'.tx = r.tx)
    (e1 : s'.pool = s.pool.set b r') :
    (∀ b0 x, s.pool.get? b0 = some x → ∃ x', s'.pool.get? b0 = some x' ∧ x'.tx = x.tx) ∧
    ∀ b0 x', s'.pool.get? b0 = some x' → ∃ x, s.pool.get? b0 = some x ∧ x'.tx = x.tx := by
  constructor
  · intro b0 x hx
    rw [e1]
    by_cases e : b0 = b
    · rw [e, AList.get?_set_self]; rw [e, hb] at hx; cases hx; exact ⟨r', rfl, htx⟩
    · rw [AList.get?_set_other _ _ _ _ e]; exact ⟨x, hx, rfl⟩
  · intro b0 x' hx
    rw [e1] at hx
    rcases AList.get?_set_some hx with ⟨e, rfl⟩ | ⟨_, hx⟩
    · exact ⟨r, by rw [e]; exact hb, htx⟩
    · exact ⟨x', hx, rfl⟩

theorem setRec_InvS {K : Keys} {s s' : State} (h : InvS K s) (b : Nat) (r r' : T2S) (hb : s.pool.get? b = some r)
    (htx : r'.tx = r.tx) (e1 : s'.pool = s.pool.set b r') (e2 : s'.spent = s.spent) : InvS K s' := by
  obtain ⟨look, back⟩ := setRec_txs b r r' hb htx e1
  refine ⟨?_, ?_, ?_⟩
  · intro b0 x' hx
    obtain ⟨x, hx0, e⟩ := back b0 x' hx
    rw [e]; exact h.key b0 x hx0
  · intro u b0 hu
    rw [e2] at hu
    obtain ⟨x, hx, hm⟩ := h.sound u b0 hu
    obtain ⟨x', hx', e⟩ := look b0 x hx
    exact ⟨x', hx', by rw [e]; exact hm⟩
  · intro b0 x' hx u hu
    obtain ⟨x, hx0, e⟩ := back b0 x' hx
    rw [e2]
    exact h.complete b0 x hx0 u (by rw [← e]; exact hu)

theorem setRec_InvR {K : Keys} {W : Tx → Prop} {s s' : State} (h : InvR K W s) (b : Nat) {r : T2S} (r' : T2S)
    (e1 : s'.pool = s.pool.set b r') (hb : s.pool.get? b = some r) (htx : r'.tx = r.tx)
    (e2 : s'.spent = s.spent) (e3 : s'.rej = s.rej) (e4 : s'.undo = s.undo) :
    InvR K W s' ∧ ∀ b0 x, s.pool.get? b0 = some x → ∃ x', s'.pool.get? b0 = some x' ∧ x'.tx = x.tx := by
  obtain ⟨look, back⟩ := setRec_txs b r r' hb htx e1
  refine ⟨⟨setRec_InvS h.str b r r' hb htx e1 e2, ?_, ?_, RejOK_of_eq h.rejW e3, by rw [e4]; exact h.undoW⟩, look⟩
  · rw [e1]; exact AList.nodup_set _ _ _ h.nodup
  · intro b0 x' hx
    obtain ⟨x, hx0, e⟩ := back b0 x' hx
    rw [e]; exact h.poolW b0 x hx0

/-- LoadRawTx's "make as own": the record keeps its transaction, only `loc` changes -/
theorem markLocal_same {K : Keys} {W : Tx → Prop} (s : State) (id : TxId) (h : InvR K W s) :
    InvR K W (markLocal K s id) ∧
    ∀ b0 x, s.pool.get? b0 = some x → ∃ x', (markLocal K s id).pool.get? b0 = some x' ∧ x'.tx = x.tx := by
  unfold markLocal
  split
  · rename_i r hr
    exact setRec_InvR h (K.bidx id) { r with loc := true } rfl hr rfl rfl rfl rfl
  · exact ⟨h, fun b0 x hx => ⟨x, hx, rfl⟩⟩

/-- `s'` satisfies the invariant and holds the same transactions under the same keys as `s` (flags may differ) -/
def SameTxs (K : Keys) (W : Tx → Prop) (s s' : State) : Prop :=
  InvR K W s' ∧ ∀ b x, s.pool.get? b = some x → ∃ x', s'.pool.get? b = some x' ∧ x'.tx = x.tx

theorem SameTxs.refl {K : Keys} {W : Tx → Prop} {s : State} (h : InvR K W s) : SameTxs K W s s :=
  ⟨h, fun _ x hx => ⟨x, hx, rfl⟩⟩

theorem SameTxs.trans {K : Keys} {W : Tx → Prop} {a b c : State} (h1 : SameTxs K W a b) (h2 : SameTxs K W b c) :
    SameTxs K W a c :=
  ⟨h2.1, fun k x hx => by
    obtain ⟨x1, hx1, e1⟩ := h1.2 k x hx
    obtain ⟨x2, hx2, e2⟩ := h2.2 k x1 hx1
    exact ⟨x2, hx2, e2.trans e1⟩⟩

theorem foldl_SameTxs {K : Keys} {W : Tx → Prop} (f : State → Nat → State)
    (hf : ∀ s v, InvR K W s → SameTxs K W s (f s v)) :
    ∀ (l : List Nat) (s : State), InvR K W s → SameTxs K W s (l.foldl f s) :=
  fun l s h => foldl_inv (SameTxs K W s) f (fun x v hx => hx.trans (hf x v hx.1)) l s (SameTxs.refl h)

/-! ### the loop bodies of `mined` / `unmined`, named, with their case analysis -/

/-- the child's record after `mined` cleared flag `idx` -/
def clrRec (r : T2S) (idx : Nat) : T2S :=
  { r with mem := if r.memCnt - 1 = 0 then [] else r.mem.set idx false, memCnt := r.memCnt - 1 }

/-- one iteration of OneTxToSend.mined -/
def minedStep (K : Keys) (t : T2S) (s : State) (vout : Nat) : State :=
  let u := K.uidx t.tx.id vout
  match s.spent.get? u with
  | none => s
  | some val => match s.pool.get? val with
    | none => s
    | some r =>
      match iidx K r u with
      | none => { s with panicked := true }
      | some idx =>
        if r.mem.isEmpty then { s with panicked := true }
        else
          { s with pool := s.pool.set val (clrRec r idx), sortDirty := true }

theorem minedFlags_eq (K : Keys) (s : State) (t : T2S) :
    minedFlags K s t = (iota t.tx.outs.length).foldl (minedStep K t) s := rfl

theorem minedStep_cases {P : State → Prop} (K : Keys) (t : T2S) (s : State) (vout : Nat)
    (same : (∀ val, s.spent.get? (K.uidx t.tx.id vout) = some val → s.pool.get? val = none) → P s)
    (panic : P { s with panicked := true })
    (clr : ∀ val r idx, s.spent.get? (K.uidx t.tx.id vout) = some val → s.pool.get? val = some r →
      iidx K r (K.uidx t.tx.id vout) = some idx → ¬ r.mem.isEmpty = true →
      P { s with pool := s.pool.set val (clrRec r idx), sortDirty := true }) :
    P (minedStep K t s vout) := by
  unfold minedStep
  dsimp only
  cases hv : s.spent.get? (K.uidx t.tx.id vout) with
  | none => exact same fun _ h => by rw [hv] at h; cases h
  | some val =>
    dsimp only
    cases hr : s.pool.get? val with
    | none => exact same fun _ h => by rw [hv] at h; cases h; exact hr
    | some r =>
      dsimp only
      cases hi : iidx K r (K.uidx t.tx.id vout) with
      | none => exact panic
      | some idx => exact ite_cases (fun _ => panic) fun he => clr val r idx hv hr hi he

/-- MemInputs as `unmined` sees it: allocated on demand -/
def memOf (r : T2S) : List Bool := if r.mem.isEmpty then List.replicate r.tx.ins.length false else r.mem

def setRecF (r : T2S) (idx : Nat) : T2S := { r with mem := (memOf r).set idx true, memCnt := r.memCnt + 1 }

def memRec (r : T2S) : T2S := { r with mem := memOf r }

/-- one iteration of OneTxToSend.unmined -/
def unminedStep (K : Keys) (t : T2S) (s : State) (vout : Nat) : State :=
  let u := K.uidx t.tx.id vout
  match s.spent.get? u with
  | none => s
  | some val => match s.pool.get? val with
    | none => s
    | some r =>
      match iidx K r u with
      | none => { s with panicked := true }
      | some idx =>
        if (memOf r).getD idx false then { s with pool := s.pool.set val (memRec r) }
        else { s with pool := s.pool.set val (setRecF r idx), sortDirty := true }

theorem unminedFlags_eq (K : Keys) (s : State) (t : T2S) :
    unminedFlags K s t = (iota t.tx.outs.length).foldl (unminedStep K t) s := rfl

theorem unminedStep_cases {P : State → Prop} (K : Keys) (t : T2S) (s : State) (vout : Nat)
    (same : P s) (panic : P { s with panicked := true })
    (keep : ∀ val r idx, s.spent.get? (K.uidx t.tx.id vout) = some val → s.pool.get? val = some r →
      iidx K r (K.uidx t.tx.id vout) = some idx → (memOf r).getD idx false = true →
      P { s with pool := s.pool.set val (memRec r) })
    (set : ∀ val r idx, s.spent.get? (K.uidx t.tx.id vout) = some val → s.pool.get? val = some r →
      iidx K r (K.uidx t.tx.id vout) = some idx → ¬ (memOf r).getD idx false = true →
      P { s with pool := s.pool.set val (setRecF r idx), sortDirty := true }) :
    P (unminedStep K t s vout) := by
  unfold unminedStep
  dsimp only
  cases hv : s.spent.get? (K.uidx t.tx.id vout) with
  | none => exact same
  | some val =>
    dsimp only
    cases hr : s.pool.get? val with
    | none => exact same
    | some r =>
      dsimp only
      cases hi : iidx K r (K.uidx t.tx.id vout) with
      | none => exact panic
      | some idx => exact ite_cases (fun hf => keep val r idx hv hr hi hf) fun hf => set val r idx hv hr hi hf

theorem minedFlags_spec {K : Keys} {W : Tx → Prop} (s : State) (t : T2S) (h : InvR K W s) :
    SameTxs K W s (minedFlags K s t) := by
  rw [minedFlags_eq]
  refine foldl_SameTxs _ (fun s v h => ?_) _ s h
  have same := SameTxs.refl h
  exact minedStep_cases K t s v (fun _ => same) ⟨InvR_of_frame h Frame.of_eq, same.2⟩
    fun val r idx _ hr _ _ => setRec_InvR h _ _ rfl hr rfl rfl rfl rfl

theorem unminedFlags_spec {K : Keys} {W : Tx → Prop} (s : State) (t : T2S) (h : InvR K W s) :
    SameTxs K W s (unminedFlags K s t) := by
  rw [unminedFlags_eq]
  refine foldl_SameTxs _ (fun s v h => ?_) _ s h
  have same := SameTxs.refl h
  exact unminedStep_cases K t s v same ⟨InvR_of_frame h Frame.of_eq, same.2⟩
    (fun val r idx _ hr _ _ => setRec_InvR h _ _ rfl hr rfl rfl rfl rfl)
    fun val r idx _ hr _ _ => setRec_InvR h _ _ rfl hr rfl rfl rfl rfl

/-- the pool part of txMined for an input of a transaction that is not pooled: remove the conflicting record -/
def minedConf (K : Keys) (s : State) (i : TxIn) : State :=
  match s.spent.get? (K.uidx i.prev i.vout) with
  | none => s
  | some val => match s.pool.get? val with
    | some r => delWithChildren K 0 (s.pool.length + 1) s r
    | none => { s with spent := s.spent.del (K.uidx i.prev i.vout) }

/-- the loop body of txMined over the inputs, named -/
def txMinedStep (K : Keys) (b : Nat) (wasIn : Bool) (acc : Bool × State) (i : TxIn) : Bool × State :=
  let u := K.uidx i.prev i.vout
  let s1 := if wasIn then acc.2 else minedConf K acc.2 i
  match s1.rejSpent.get? u with
  | none => (acc.1, s1)
  | some lst =>
    let q := lst.foldl (fun (acc : Bool × State) rb =>
      match acc.2.rej.get? rb with
      | some txr => (acc.1 || rb = b, rejDelete K acc.2 txr)
      | none => (acc.1, acc.2)) (acc.1, s1)
    (q.1, { q.2 with rejSpent := q.2.rejSpent.del u })

def txMinedFold (K : Keys) (s : State) (t : Tx) : State :=
  let b := K.bidx t.id
  let p : Bool × State := match s.pool.get? b with
    | some r => (true, delOne K (minedFlags K s r) r 0)
    | none => (false, s)
  let q := t.ins.foldl (txMinedStep K b p.1) (false, p.2)
  if q.1 || p.1 then q.2 else rejDeleteByIdx K q.2 b

theorem txMined_eq (K : Keys) (s : State) (t : Tx) : txMined K s t = txMinedFold K s t := rfl

/-- an invariant of txMined: one kept by the Delete of the mined record, by each iteration over the inputs and by
    DeleteRejectedByIdx -/
theorem txMined_ind_iter {I : State → Prop} (K : Keys) (t : Tx)
    (pooled : ∀ s r, I s → s.pool.get? (K.bidx t.id) = some r → I (delOne K (minedFlags K s r) r 0))
    (step : ∀ wasIn (acc : Bool × State) i, I acc.2 → I (txMinedStep K (K.bidx t.id) wasIn acc i).2)
    (byIdx : ∀ s, I s → I (rejDeleteByIdx K s (K.bidx t.id))) :
    ∀ s, I s → I (txMined K s t) := by
  intro s h
  rw [txMined_eq]
  unfold txMinedFold
  dsimp only
  have hp : I (match s.pool.get? (K.bidx t.id) with
      | some r => (true, delOne K (minedFlags K s r) r 0)
      | none => (false, s) : Bool × State).2 := by
    cases hr : s.pool.get? (K.bidx t.id) with
    | some r => exact pooled s r h hr
    | none => exact h
  generalize (match s.pool.get? (K.bidx t.id) with
    | some r => (true, delOne K (minedFlags K s r) r 0)
    | none => (false, s) : Bool × State) = p at hp ⊢
  have hq := foldl_inv (fun a : Bool × State => I a.2) _ (fun a i ha => step p.1 a i ha) t.ins (false, p.2) hp
  exact ite_cases (fun _ => hq) fun _ => byIdx _ hq

/-- … or, finer, by each of the primitives an iteration is made of -/
theorem txMined_ind {I : State → Prop} (K : Keys) (t : Tx)
    (pooled : ∀ s r, I s → s.pool.get? (K.bidx t.id) = some r → I (delOne K (minedFlags K s r) r 0))
    (conf : ∀ s val r, I s → s.pool.get? val = some r → I (delWithChildren K 0 (s.pool.length + 1) s r))
    (stale : ∀ s u val, I s → s.spent.get? u = some val → s.pool.get? val = none →
      I { s with spent := s.spent.del u })
    (del : ∀ s rb txr, I s → s.rej.get? rb = some txr → I (rejDelete K s txr))
    (refs : ∀ s u, I s → I { s with rejSpent := s.rejSpent.del u })
    (byIdx : ∀ s, I s → I (rejDeleteByIdx K s (K.bidx t.id))) :
    ∀ s, I s → I (txMined K s t) := by
  refine txMined_ind_iter K t pooled (fun wasIn acc i ha => ?_) byIdx
  unfold txMinedStep
  dsimp only
  have h1 : I (if wasIn then acc.2 else minedConf K acc.2 i) := by
    refine ite_cases (fun _ => ha) fun _ => ?_
    unfold minedConf
    cases hv : acc.2.spent.get? (K.uidx i.prev i.vout) with
    | none => exact ha
    | some val =>
      dsimp only
      cases hr : acc.2.pool.get? val with
      | some r => exact conf _ val r ha hr
      | none => exact stale _ _ val ha hv hr
  generalize (if wasIn then acc.2 else minedConf K acc.2 i) = s1 at h1 ⊢
  cases s1.rejSpent.get? (K.uidx i.prev i.vout) with
  | none => exact h1
  | some lst =>
    refine refs _ _ (foldl_inv (fun a : Bool × State => I a.2) _ (fun a rb ha => ?_) lst _ h1)
    cases hx : a.2.rej.get? rb with
    | some txr => exact del _ rb txr ha hx
    | none => exact ha

theorem txMined_InvR {K : Keys} {W : Tx → Prop} {rank : TxId → Nat} (U : Univ K W rank) (s : State) (t : Tx)
    (h : InvR K W s) : InvR K W (txMined K s t) := by
  refine txMined_ind K t (fun s r h hr => ?_)
    (fun s _ r h hr => (delWC_spec U 0 _ s r h (h.str.at_key hr)).1) (fun s u val h hv hn => ?_)
    (fun s _ txr h _ => InvR_of_frame h (rejDelete_frame K W s txr))
    (fun s _ h => InvR_of_frame h Frame.of_eq)
    (fun s h => InvR_of_frame h (rejDeleteByIdx_frame K W s _)) s h
  · obtain ⟨m1, m2⟩ := minedFlags_spec (K := K) (W := W) s r h
    obtain ⟨r', hr', e⟩ := m2 _ r hr
    rw [delOne_congr K _ r r' 0 e.symm]
    exact delOne_InvR K W _ r' 0 m1 (m1.str.at_key hr')
  · obtain ⟨t', ht', _⟩ := h.str.sound _ _ hv
    rw [hn] at ht'; cases ht'

theorem connectUtxo_InvR {K : Keys} {W : Tx → Prop} (s : State) (hh : Nat) (txs : List Tx) (h : InvR K W s)
    (hW : ∀ t ∈ txs, W t) : InvR K W (connectUtxo s hh txs) := by
  unfold connectUtxo
  split
  refine ⟨⟨h.str.key, h.str.sound, h.str.complete⟩, h.nodup, h.poolW, h.rejW, ?_⟩
  intro e he t ht
  simp only [List.mem_cons] at he
  rcases he with rfl | he
  · exact hW t ht
  · exact h.undoW e he t ht

theorem disconnectUtxo_InvR {K : Keys} {W : Tx → Prop} (s s' : State) (txs : List Tx) (h : InvR K W s)
    (hd : disconnectUtxo s = some (s', txs)) : InvR K W s' ∧ ∀ t ∈ txs, W t := by
  unfold disconnectUtxo at hd
  split at hd
  · cases hd
  · rename_i txs0 sc rest hu
    simp only [Option.some.injEq, Prod.mk.injEq] at hd
    obtain ⟨rfl, rfl⟩ := hd
    refine ⟨⟨⟨h.str.key, h.str.sound, h.str.complete⟩, h.nodup, h.poolW, h.rejW, ?_⟩, ?_⟩
    · intro e he t ht
      exact h.undoW e (by rw [hu]; exact List.mem_cons_of_mem _ he) t ht
    · intro t ht
      exact h.undoW (txs0, sc) (by rw [hu]; exact List.mem_cons_self) t ht

/-- one iteration of BlockUndone, named -/
def undoneStep (K : Keys) (mf : Nat) (s : State) (t : Tx) : State :=
  let s := rejDeleteByIdx K s (K.bidx t.id)
  let (res, s) := processTx K mf s t { trusted := true, unmined := true }
  if res = 0 then
    match s.pool.get? (K.bidx t.id) with
    | some r => unminedFlags K s r
    | none => { s with panicked := true }
  else { s with panicked := true }

theorem blockUndone_eq (K : Keys) (mf : Nat) (s : State) (txs : List Tx) :
    blockUndone K mf s txs = txs.foldl (undoneStep K mf) s := by
  cases txs <;> rfl

theorem blockMined_eq (K : Keys) (mf : Nat) (s : State) (txs : List Tx) :
    blockMined K mf s txs = txs.foldl (fun s t => txAccepted K mf s (K.bidx t.id)) (txs.reverse.foldl (txMined K) s) := by
  cases txs <;> rfl

/-- one iteration of BlockUndone ends in the exit (state of processTx, panic flag raised) or in `unmined` of the record
    processTx has just added -/
theorem undoneStep_cases {P : State → Prop} (K : Keys) (mf : Nat) (s s2 : State) (t : Tx)
    (e2 : s2 = (processTx K mf (rejDeleteByIdx K s (K.bidx t.id)) t { trusted := true, unmined := true }).2)
    (exit : P { s2 with panicked := true })
    (ok : ∀ r, (processTx K mf (rejDeleteByIdx K s (K.bidx t.id)) t { trusted := true, unmined := true }).1 = 0 →
      s2.pool.get? (K.bidx t.id) = some r → P (unminedFlags K s2 r)) :
    P (undoneStep K mf s t) := by
  subst e2
  unfold undoneStep
  dsimp only
  refine ite_cases (fun hres => ?_) fun _ => exit
  cases hr : (processTx K mf (rejDeleteByIdx K s (K.bidx t.id)) t { trusted := true, unmined := true }).2.pool.get?
      (K.bidx t.id) with
  | some r => exact ok r hres hr
  | none => exact exit

theorem undoneStep_InvR {K : Keys} {W : Tx → Prop} {rank : TxId → Nat} (U : Univ K W rank) (mf : Nat) (s : State)
    (t : Tx) (hI : InvR K W s) (ht : W t) : InvR K W (undoneStep K mf s t) :=
  have h2 := processTx_InvR U mf _ t { trusted := true, unmined := true }
    (InvR_of_frame hI (rejDeleteByIdx_frame K W s (K.bidx t.id))) ht
  undoneStep_cases K mf s _ t rfl (InvR_of_frame h2 Frame.of_eq)
    fun r _ _ => (unminedFlags_spec _ r h2).1

theorem blockUndone_InvR {K : Keys} {W : Tx → Prop} {rank : TxId → Nat} (U : Univ K W rank) (mf : Nat) (s : State)
    (txs : List Tx) (h : InvR K W s) (hW : ∀ t ∈ txs, W t) : InvR K W (blockUndone K mf s txs) := by
  rw [blockUndone_eq]
  exact List.foldlRecOn txs _ h fun s hs t ht => undoneStep_InvR U mf s t hs (hW t ht)

/-- the SpentOutputs map rebuilt by MempoolLoad from a list of records -/
def rebuildSpent (K : Keys) (L : List (Nat × T2S)) (m0 : AList Nat Nat) : AList Nat Nat :=
  L.foldl (fun (m : AList Nat Nat) p => p.2.tx.ins.foldl (fun m i => m.set (K.uidx i.prev i.vout) p.1) m) m0

theorem rebuildSpent_cons (K : Keys) (p : Nat × T2S) (L : List (Nat × T2S)) (m0 : AList Nat Nat) :
    rebuildSpent K (p :: L) m0 =
      rebuildSpent K L (p.2.tx.ins.foldl (fun m i => m.set (K.uidx i.prev i.vout) p.1) m0) := rfl

theorem rebuildSpent_sound (K : Keys) : ∀ (L : List (Nat × T2S)) (m0 : AList Nat Nat) (u x : Nat),
    (rebuildSpent K L m0).get? u = some x →
    (∃ p ∈ L, p.1 = x ∧ u ∈ uidxs K p.2.tx) ∨ m0.get? u = some x := by
  intro L m0 u x
  refine List.foldlRecOn L _ (motive := fun m : AList Nat Nat => m.get? u = some x → _) Or.inr fun m hm p hp h => ?_
  rw [get?_foldl_set (fun i => K.uidx i.prev i.vout) p.1 p.2.tx.ins m u] at h
  split at h
  · rename_i hu
    cases h
    exact Or.inl ⟨p, hp, rfl, hu⟩
  · exact hm h

theorem rebuildSpent_complete (K : Keys) (u b : Nat) : ∀ (L : List (Nat × T2S)) (m0 : AList Nat Nat),
    (∀ p ∈ L, u ∈ uidxs K p.2.tx → p.1 = b) →
    ((∃ p ∈ L, u ∈ uidxs K p.2.tx) ∨ m0.get? u = some b) →
    (rebuildSpent K L m0).get? u = some b := by
  intro L
  induction L with
  | nil =>
    intro m0 _ h
    rcases h with ⟨p, hp, _⟩ | h
    · simp at hp
    · exact h
  | cons p r ih =>
    intro m0 hall h
    rw [rebuildSpent_cons]
    apply ih _ (fun q hq => hall q (List.mem_cons_of_mem _ hq))
    rw [get?_foldl_set (fun i => K.uidx i.prev i.vout) p.1 p.2.tx.ins m0 u]
    split
    · rename_i hm
      rw [hall p List.mem_cons_self hm]
      exact Or.inr rfl
    · rename_i hm
      rcases h with ⟨q, hq, hu⟩ | h
      · rcases List.mem_cons.mp hq with e | e
        · rw [e] at hu; exact absurd hu hm
        · exact Or.inl ⟨q, e, hu⟩
      · exact Or.inr h



/-- the record rewrite of MempoolLoad (MemInputs recomputed against the loaded pool) -/
def reloadRec (K : Keys) (s : State) (_b : Nat) (t : T2S) : T2S :=
  if t.mem.isEmpty then t
  else { t with mem := if ((t.tx.ins.map fun i => s.pool.has (K.bidx i.prev)).filter id).length = 0 then []
                       else t.tx.ins.map fun i => s.pool.has (K.bidx i.prev),
                memCnt := ((t.tx.ins.map fun i => s.pool.has (K.bidx i.prev)).filter id).length }

theorem reloadRec_tx (K : Keys) (s : State) (b : Nat) (t : T2S) : (reloadRec K s b t).tx = t.tx := by
  unfold reloadRec; split <;> rfl

def reloadPool (K : Keys) (s : State) : AList Nat T2S := s.pool.map fun p => (p.1, reloadRec K s p.1 p.2)

def reloadBase (K : Keys) (s : State) : State :=
  { cfg := s.cfg, pool := reloadPool K s, spent := rebuildSpent K (reloadPool K s) [],
    weightTotal := (reloadPool K s).foldl (fun n p => n + p.2.tx.weight) 0, sorted := [], sortDirty := true,
    sortDisabled := s.sortDisabled, utxo := s.utxo, height := s.height, undo := s.undo, panicked := s.panicked }

def reloadRej (K : Keys) (s : State) (st : State) (slot : Option Nat) : State :=
  match slot with
  | none => st
  | some b => match s.rej.get? b with
    | none => st
    | some r => rejAdd K st (if r.tx.isNone then { r with waiting4 := none } else r)

theorem reload_eq (K : Keys) (s : State) : reload K s = s.ring.foldl (reloadRej K s) (reloadBase K s) := by
  have e : (fun (x : Nat × T2S) => match x with
      | (b, t) => if t.mem.isEmpty then (b, t) else
        let mem := t.tx.ins.map fun i => s.pool.has (K.bidx i.prev)
        let cnt := (mem.filter id).length
        (b, { t with mem := if cnt = 0 then [] else mem, memCnt := cnt })) =
      (fun p => (p.1, reloadRec K s p.1 p.2)) := by
    funext x
    obtain ⟨b, t⟩ := x
    unfold reloadRec
    dsimp only
    split <;> rfl
  unfold reload reloadBase reloadPool rebuildSpent
  dsimp only
  rw [e]
  rfl

theorem reloadPool_get (K : Keys) (s : State) (b : Nat) :
    (reloadPool K s).get? b = (s.pool.get? b).map (reloadRec K s b) :=
  AList.get?_map (reloadRec K s) s.pool b

/-- a record of the reloaded pool is the reloaded form of the record of the old pool under the same key -/
theorem reloadPool_back (K : Keys) (s : State) (b : Nat) (t' : T2S) (h : (reloadPool K s).get? b = some t') :
    ∃ t, s.pool.get? b = some t ∧ t' = reloadRec K s b t := by
  rw [reloadPool_get] at h
  obtain ⟨t, ht, e⟩ := Option.map_eq_some_iff.mp h
  exact ⟨t, ht, e.symm⟩

theorem reloadPool_keys (K : Keys) (s : State) : (reloadPool K s).map Prod.fst = s.pool.map Prod.fst := by
  unfold reloadPool
  rw [List.map_map]
  rfl

theorem reloadBase_InvR {K : Keys} {W : Tx → Prop} (s : State) (h : InvR K W s) : InvR K W (reloadBase K s) := by
  have nd : ((reloadPool K s).map Prod.fst).Nodup := by rw [reloadPool_keys]; exact h.nodup
  have back : ∀ b t', (reloadPool K s).get? b = some t' → ∃ t, s.pool.get? b = some t ∧ t'.tx = t.tx := by
    intro b t' ht'
    obtain ⟨t, ht, rfl⟩ := reloadPool_back K s b t' ht'
    exact ⟨t, ht, reloadRec_tx K s b t⟩
  refine ⟨⟨?_, ?_, ?_⟩, nd, ?_, ?_, h.undoW⟩
  · intro b t' ht'
    obtain ⟨t, ht, e⟩ := back b t' ht'
    rw [e]; exact h.str.key b t ht
  · intro u x hu
    rcases rebuildSpent_sound K (reloadPool K s) [] u x hu with ⟨p, hp, e, hm⟩ | h0
    · refine ⟨p.2, ?_, hm⟩
      rw [← e]
      exact AList.get?_of_mem _ _ _ nd hp
    · simp [AList.get?] at h0
  · intro b t' ht' u hu
    apply rebuildSpent_complete K u b (reloadPool K s) []
    · intro p hp hpu
      have hp' : (reloadPool K s).get? p.1 = some p.2 := AList.get?_of_mem _ _ _ nd hp
      obtain ⟨t1, ht1, e1⟩ := back p.1 p.2 hp'
      obtain ⟨t2, ht2, e2⟩ := back b t' ht'
      have c1 := h.str.complete p.1 t1 ht1 u (by rw [← e1]; exact hpu)
      have c2 := h.str.complete b t2 ht2 u (by rw [← e2]; exact hu)
      rw [c1] at c2
      exact Option.some.inj c2
    · exact Or.inl ⟨(b, t'), AList.mem_of_get? _ _ _ ht', hu⟩
  · intro b t' ht'
    obtain ⟨t, ht, e⟩ := back b t' ht'
    rw [e]; exact h.poolW b t ht
  · intro b r t hb _
    simp [reloadBase, AList.get?] at hb

theorem reloadRej_frame (K : Keys) (W : Tx → Prop) (s st : State) (slot : Option Nat) (h : RejOK W s) :
    Frame W st (reloadRej K s st slot) := by
  unfold reloadRej
  split
  · exact Frame.refl W st
  · split
    · exact Frame.refl W st
    · rename_i b _ r hr
      refine rejAdd_frame K W st _ fun t ht => h b r t hr ?_
      split at ht <;> exact ht

theorem reload_InvR {K : Keys} {W : Tx → Prop} (s : State) (h : InvR K W s) : InvR K W (reload K s) := by
  rw [reload_eq]
  exact foldl_inv (InvR K W) _ (fun st slot hst => InvR_of_frame hst (reloadRej_frame K W s st slot h.rejW))
    s.ring _ (reloadBase_InvR s h)

/-! ### save + reload keeps every pooled record -/

/-- the pool of `reload K s` is the pool part of `reloadBase` (the rejected records are added behind it and do not
    touch TransactionsToSend) -/
theorem reload_pool (K : Keys) (s : State) : (reload K s).pool = reloadPool K s := by
  rw [reload_eq]
  exact foldl_inv (fun st => st.pool = reloadPool K s) _
    (fun st slot hst => (reloadRej_frame K (fun _ => True) s st slot fun _ _ _ _ _ => trivial).core.1.trans hst)
    s.ring (reloadBase K s) rfl

theorem reload_pool_keys (K : Keys) (s : State) : (reload K s).pool.map Prod.fst = s.pool.map Prod.fst := by
  rw [reload_pool]; exact reloadPool_keys K s

theorem reload_pool_txs (K : Keys) (s : State) :
    (reload K s).pool.map (fun p => p.2.tx) = s.pool.map (fun p => p.2.tx) := by
  rw [reload_pool]
  unfold reloadPool
  rw [List.map_map]
  apply List.map_congr_left
  intro p _
  exact reloadRec_tx K s p.1 p.2

theorem buildSorted_InvR {K : Keys} {W : Tx → Prop} (s : State) (h : InvR K W s) : InvR K W (buildSorted K s) := by
  unfold buildSorted
  split
  · exact InvR_of_frame h Frame.of_eq
  · exact h

/-! ### all operations, all histories -/

theorem Prim.invR {K : Keys} {W : Tx → Prop} {rank : TxId → Nat} (U : Univ K W rank) {s s' : State}
    (p : Prim K W s s') (h : InvR K W s) : InvR K W s' := by
  cases p with
  | panic => exact InvR_of_frame h Frame.of_eq
  | rejDel b r _ => exact InvR_of_frame h (rejDelete_frame K W s r)
  | resubmit mf cur first txr t htxr htx =>
    have ht : W t := h.rejW _ txr t htxr htx
    have h2 := processTx_InvR U mf _ t {} (InvR_of_frame h (rejDelete_frame K W s txr)) ht
    exact resubmit_cases K mf s cur txr t h2 fun _ =>
      InvR_of_frame h2 ((rejDeleteByIdx_frame K W _ (K.bidx t.id)).trans (rejectTx_frame K W _ t R_BAD_INPUT none ht))
  | submit mf t fl ht _ _ _ => exact processTx_InvR U mf s t fl h ht
  | markLocal id => exact (markLocal_same s id h).1
  | delTree b t ht => exact (delWC_spec U 0 _ s t h (h.str.at_key ht)).1
  | evictOne b t ht _ => exact delOne_InvR K W s t 0 h (h.str.at_key ht)
  | resort => exact buildSorted_InvR s h
  | reload => exact reload_InvR s h
  | tip hh | commitFlag y => exact InvR_of_frame h Frame.of_eq

theorem Reach.invR {K : Keys} {W : Tx → Prop} {rank : TxId → Nat} (U : Univ K W rank) {s s' : State}
    (r : Reach K W s s') (h : InvR K W s) : InvR K W s' := r.inv (fun _ _ p => p.invR U) h

theorem blockMined_InvR {K : Keys} {W : Tx → Prop} {rank : TxId → Nat} (U : Univ K W rank) (mf : Nat) (s : State)
    (txs : List Tx) (h : InvR K W s) : InvR K W (blockMined K mf s txs) := by
  rw [blockMined_eq]
  apply foldl_inv (InvR K W) _ (fun s t hs => (txAccepted_reach mf s _).invR U hs)
  exact foldl_inv (InvR K W) _ (fun s t hs => txMined_InvR U s t hs) _ s h

/-- the transactions an operation brings in -/
def Op.txs : Op → List Tx
  | .submitNet t _ _ => [t]
  | .submitLocal t _ => [t]
  | .block _ txs _ => txs
  | _ => []

/-- the operations that leave the chain side alone -/
def Op.pool : Op → Bool
  | .block .. => false
  | .undo .. => false
  | _ => true

theorem step_reach {K : Keys} {W : Tx → Prop} (s : State) (op : Op) (hW : ∀ t ∈ op.txs, W t) (hp : op.pool = true) :
    Reach K W s (step K s op) := by
  cases op with
  | submitNet t tr mf => exact submitNet_reach mf s t tr (hW t (.head _))
  | submitLocal t mf => exact submitLocal_reach mf s t (hW t (.head _))
  | block h txs mf | undo uh mf => cases hp
  | tip h => exact .one (.tip s h)
  | expire old => exact expire_reach old s s (.refl s)
  | evict v =>
    simp only [step]
    cases he : evict K s v with
    | none => exact .refl s
    | some s' => exact evict_reach v s s' he
  | resort => exact .one (.resort s)
  | commitFlag y => exact .one (.commitFlag s y)
  | reload => exact .one (.reload s)

theorem step_InvR {K : Keys} {W : Tx → Prop} {rank : TxId → Nat} (U : Univ K W rank) (s : State) (op : Op)
    (h : InvR K W s) (hW : ∀ t ∈ op.txs, W t) : InvR K W (step K s op) := by
  cases op with
  | block hh txs mf => exact blockMined_InvR U mf _ txs (connectUtxo_InvR s hh txs h hW)
  | undo uh mf =>
    simp only [step]
    cases hd : disconnectUtxo s with
    | none => exact h
    | some p =>
      obtain ⟨h1, h2⟩ := disconnectUtxo_InvR s p.1 p.2 h hd
      exact (expire_reach _ _ _ (.refl _)).invR U (blockUndone_InvR U mf p.1 p.2 h1 h2)
  | _ => exact (step_reach s _ hW rfl).invR U h

theorem run_InvR {K : Keys} {W : Tx → Prop} {rank : TxId → Nat} (U : Univ K W rank) :
    ∀ (ops : List Op) (s : State), InvR K W s → (∀ op ∈ ops, ∀ t ∈ op.txs, W t) → InvR K W (run K s ops) :=
  fun ops _ h hW => List.foldlRecOn ops _ h fun s hs op hop => step_InvR U s op hs (hW op hop)

end GocoinV.Mempool
