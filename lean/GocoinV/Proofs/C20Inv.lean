/-
  Proofs.C20Inv — the invariant `InvG` (defined here) of the allocator model Model/Alloc.lean (lib/others/memory):
  page headers, size classes, the slices handed out and the private mappings are consistent, also in the middle of a
  defragmentation pass; `Inv` =
  `InvG` + `Allocs` = number of live records + no page evacuating holds between trace steps.  Every primitive transition
  keeps it, Malloc and Free of a live pointer never fail from an invariant state, and a defragmentation pass has
  induction principles over its pages and classes (pass invariant `DInv`).  `Moved` / `Chain` state what a whole pass
  does to the live records as chains of moves (`defragAll_moved`, Proofs/C20Once.lean); the theorems of Props/C20.lean
  use the sharper `defragAll_exactly_once` there.
-/
import GocoinV.Model.Alloc
namespace GocoinV.Alloc
open GocoinV.Gen.MemClasses
variable {V : Type}

/-- What memory.go's `page_header` of a mapped shared page promises: `brk` ≤ cap slots handed out so far, the
    per-page free list holds exactly the non-live slots below `brk` (`used`/`free` count them); while `evacuating`
    (defrag.go) the list is empty and the live slots are exactly those at or beyond `scan` that were not on the
    saved free list. -/
structure PageOk (s : State V) (p : Nat) (h : Page) : Prop where
  cls_lt : h.cls < nClasses
  in_plist : p ∈ (s.K h.cls).plist
  lt_next : p < s.nextPage
  brk_le : h.brk ≤ capOf h.cls
  fl_nodup : h.freeList.Nodup
  fl_lt : ∀ i, i ∈ h.freeList → i < h.brk
  ne : h.evac = false → (∀ i, i < h.brk → (i ∈ h.freeList ↔ ¬ s.isLive (.sh p i))) ∧
        h.freeList.length + h.used = h.brk ∧ h.used + h.free = capOf h.cls
  ev : h.evac = true → h.freeList = [] ∧
        (∀ i, i < h.brk → (s.isLive (.sh p i) ↔ (h.scan ≤ i ∧ i ∉ h.saved)))

/-- What the allocator's per-class fields promise: the page chain firstPage … lastPage with `pageCount`, the global
    free list `a.lists[class]` = the per-page lists of the class's non-evacuating pages, and `a.pages[class]`
    (current page) still has room to bump `brk`. -/
structure ClassOk (s : State V) (c : Nat) : Prop where
  pl_nodup : (s.K c).plist.Nodup
  pl_pages : ∀ p, p ∈ (s.K c).plist → ∃ h, s.pages.get? p = some h ∧ h.cls = c
  count : (s.K c).pageCount = (s.K c).plist.length
  gl_nodup : (s.K c).glist.Nodup
  gl_iff : ∀ p i, (p, i) ∈ (s.K c).glist ↔
      ∃ h, s.pages.get? p = some h ∧ h.cls = c ∧ h.evac = false ∧ i ∈ h.freeList
  cur_ok : ∀ p, (s.K c).cur = some p →
      ∃ h, s.pages.get? p = some h ∧ h.cls = c ∧ h.evac = false ∧ h.brk < capOf c

def LiveOk (s : State V) (a : Addr) (l : LiveRec V) : Prop :=
  ∃ m, s.mem.get? a = some m ∧ m.data = some a ∧ m.len = l.size ∧ m.val = l.val ∧ l.size ≤ m.cap ∧
    match a with
    | .sh p i => ∃ h, s.pages.get? p = some h ∧ i < h.brk ∧ m.cap + sliceHdrLen = slotSize h.cls
    | .pv id => ∃ sz, s.privs.get? id = some sz ∧ m.cap + sliceHdrLen = sz ∧ maxShared < sz

/-- The invariant of an `Allocator` (memory.go) between primitive steps, also in the middle of a defrag pass: every
    page header, every size class, every slice handed out by Malloc (header words and mapping as malloc.go wrote
    them) and every private mapping are consistent. -/
structure InvG (s : State V) : Prop where
  pages : ∀ p h, s.pages.get? p = some h → PageOk s p h
  classes : ∀ c, ClassOk s c
  live : ∀ a l, s.live.get? a = some l → LiveOk s a l
  privs : ∀ id sz, s.privs.get? id = some sz → id < s.nextPage ∧ s.pages.get? id = none

/-- the invariant between trace steps: `InvG`, `Allocs` = number of live records, and no page is being evacuated -/
structure Inv (s : State V) : Prop where
  g : InvG s
  allocs : s.allocs = s.live.size
  noEvac : ∀ p h, s.pages.get? p = some h → h.evac = false

theorem K_set (s : State V) (cls' : KMap Nat ClassSt) (c c' : Nat) (k : ClassSt)
    (h : cls' = s.cls.set c k) :
    (cls'.get? c').getD {} = if c = c' then k else s.K c' := by
  subst h; simp only [State.K, KMap.get?_set]; split <;> rfl

/-- a field that the new record of class `c` shares with the old one reads the same in every class after the write -/
theorem K_set_keep {α : Type} (f : ClassSt → α) (s : State V) (c c' : Nat) (k : ClassSt) (hf : f k = f (s.K c)) :
    f (((s.cls.set c k).get? c').getD {}) = f (s.K c') := by
  rw [K_set s _ c c' k rfl]; split
  · next e => subst e; exact hf
  · rfl

theorem isLive_def (s : State V) (a : Addr) : s.isLive a ↔ (s.live.get? a).isSome = true := Iff.rfl

theorem clobber_get (m : KMap Addr (SlotMem V)) (wr : List Addr) (a : Addr) (h : a ∉ wr) :
    (clobber m wr).get? a = m.get? a := by
  induction wr generalizing m with
  | nil => rfl
  | cons b bs ih =>
    simp only [clobber]
    rw [ih]
    · rw [KMap.get?_set]; split
      · next e => subst e; simp at h
      · rfl
    · intro hh; exact h (List.mem_cons_of_mem _ hh)

theorem init_invG : InvG (init : State V) := by
  refine ⟨?_, ?_, ?_, ?_⟩
  · intro p h hp; simp [init] at hp
  · intro c
    refine ⟨?_, ?_, ?_, ?_, ?_, ?_⟩ <;> simp [init, State.K]
  · intro a l hl; simp [init] at hl
  · intro id sz h; simp [init] at h

theorem init_inv : Inv (init : State V) := ⟨init_invG, by simp [init], by intro p h hp; simp [init] at hp⟩


/-! ### transfer lemmas: what `PageOk/ClassOk/LiveOk` depend on -/

theorem PageOk.transfer {s s' : State V} {p : Nat} {h : Page} (ok : PageOk s p h)
    (hpl : p ∈ (s.K h.cls).plist → p ∈ (s'.K h.cls).plist)
    (hn : s.nextPage ≤ s'.nextPage)
    (hl : ∀ i, s'.isLive (.sh p i) ↔ s.isLive (.sh p i)) : PageOk s' p h := by
  refine ⟨ok.cls_lt, hpl ok.in_plist, Nat.lt_of_lt_of_le ok.lt_next hn, ok.brk_le, ok.fl_nodup, ok.fl_lt, ?_, ?_⟩
  · simp only [hl]; exact ok.ne
  · simp only [hl]; exact ok.ev

theorem ClassOk.transfer_headers {s s' : State V} {c : Nat} (ok : ClassOk s c)
    (k1 : (s'.K c).plist = (s.K c).plist) (k2 : (s'.K c).pageCount = (s.K c).pageCount)
    (k3 : (s'.K c).glist = (s.K c).glist) (k4 : (s'.K c).cur = (s.K c).cur)
    (hp1 : ∀ p h, s.pages.get? p = some h → h.cls = c → ∃ h', s'.pages.get? p = some h' ∧ h'.cls = c ∧
        h'.evac = h.evac ∧ h'.freeList = h.freeList ∧ h'.brk = h.brk)
    (hp2 : ∀ p h', s'.pages.get? p = some h' → h'.cls = c → ∃ h, s.pages.get? p = some h ∧ h.cls = c ∧
        h'.evac = h.evac ∧ h'.freeList = h.freeList ∧ h'.brk = h.brk) : ClassOk s' c := by
  refine ⟨by rw [k1]; exact ok.pl_nodup, ?_, by rw [k1, k2]; exact ok.count, by rw [k3]; exact ok.gl_nodup, ?_, ?_⟩
  · intro p hpp; rw [k1] at hpp
    obtain ⟨h, h1, h2⟩ := ok.pl_pages p hpp
    obtain ⟨h', a, b, _⟩ := hp1 p h h1 h2
    exact ⟨h', a, b⟩
  · intro p i; rw [k3, ok.gl_iff]
    constructor
    · rintro ⟨h, h1, h2, h3, h4⟩
      obtain ⟨h', a, b, c1, d, _⟩ := hp1 p h h1 h2
      exact ⟨h', a, b, c1.trans h3, d ▸ h4⟩
    · rintro ⟨h', h1, h2, h3, h4⟩
      obtain ⟨h, a, b, c1, d, _⟩ := hp2 p h' h1 h2
      exact ⟨h, a, b, c1.symm.trans h3, d ▸ h4⟩
  · intro p hc; rw [k4] at hc
    obtain ⟨h, h1, h2, h3, h4⟩ := ok.cur_ok p hc
    obtain ⟨h', a, b, c1, _, e⟩ := hp1 p h h1 h2
    exact ⟨h', a, b, c1.trans h3, e ▸ h4⟩

theorem ClassOk.transfer {s s' : State V} {c : Nat} (ok : ClassOk s c) (hk : s'.K c = s.K c)
    (hp : ∀ p h, h.cls = c → (s'.pages.get? p = some h ↔ s.pages.get? p = some h)) : ClassOk s' c :=
  ok.transfer_headers (by rw [hk]) (by rw [hk]) (by rw [hk]) (by rw [hk])
    (fun p h h1 h2 => ⟨h, (hp p h h2).2 h1, h2, rfl, rfl, rfl⟩)
    (fun p h' h1 h2 => ⟨h', (hp p h' h2).1 h1, h2, rfl, rfl, rfl⟩)

theorem LiveOk.transfer {s s' : State V} {a : Addr} {l : LiveRec V} (ok : LiveOk s a l)
    (hm : s'.mem.get? a = s.mem.get? a)
    (hp : ∀ p i, a = .sh p i → ∀ h, s.pages.get? p = some h →
        ∃ h', s'.pages.get? p = some h' ∧ h.brk ≤ h'.brk ∧ h'.cls = h.cls)
    (hv : ∀ id, a = .pv id → s'.privs.get? id = s.privs.get? id) : LiveOk s' a l := by
  obtain ⟨m, h1, h2, h3, h4, h5, h6⟩ := ok
  refine ⟨m, by rw [hm]; exact h1, h2, h3, h4, h5, ?_⟩
  cases a with
  | sh p i =>
    obtain ⟨h, g1, g2, g3⟩ := h6
    obtain ⟨h', k1, k2, k3⟩ := hp p i rfl h g1
    exact ⟨h', k1, Nat.lt_of_lt_of_le g2 k2, by rw [k3]; exact g3⟩
  | pv id =>
    obtain ⟨sz, g1, g2, g3⟩ := h6
    exact ⟨sz, by rw [hv id rfl]; exact g1, g2, g3⟩

/-- `InvG` does not look at `allocs`, `bytes`, the mmap counters, `relog` or `heap` -/
theorem InvG.frame {s s' : State V} (inv : InvG s) (hp : s'.pages = s.pages) (hc : s'.cls = s.cls)
    (hm : s'.mem = s.mem) (hl : s'.live = s.live) (hv : s'.privs = s.privs) (hn : s'.nextPage = s.nextPage) :
    InvG s' := by
  have hK : ∀ c, s'.K c = s.K c := fun c => by simp only [State.K, hc]
  refine ⟨fun p h hq => ?_, fun c => (inv.classes c).transfer (hK c) (fun _ _ _ => by rw [hp]), fun b l h => ?_,
    fun id sz h => by rw [hn, hp]; exact inv.privs id sz (hv ▸ h)⟩
  · exact (inv.pages p h (hp ▸ hq)).transfer (by rw [hK]; exact id) (Nat.le_of_eq hn.symm)
      (fun _ => by simp only [State.isLive, hl])
  · exact (inv.live b l (hl ▸ h)).transfer (by rw [hm]) (fun p i _ h hq => ⟨h, by rw [hp]; exact hq, Nat.le_refl _, rfl⟩)
      (fun _ _ => by rw [hv])

/-- The invariant after a step that replaces the header of one page p (class and `brk` kept or grown) and the
    record of its class c (page chain kept): what is left to show are the fields of `PageOk` of that page that speak
    about its slots, the fields of `ClassOk` of that class that speak about the free list and the current page, and
    `LiveOk` of the records that are new; the page chain, other pages, other classes, old records and the private
    mappings carry over. -/
theorem InvG.update {s s' : State V} (inv : InvG s) {p c : Nat} {h h' : Page}
    (hp : s.pages.get? p = some h) (hc : h.cls = c) (hc' : h'.cls = c) (hb : h.brk ≤ h'.brk)
    (hP : ∀ q, s'.pages.get? q = if p = q then some h' else s.pages.get? q)
    (hK : ∀ c', c ≠ c' → s'.K c' = s.K c') (hpl : (s'.K c).plist = (s.K c).plist)
    (hn : s'.nextPage = s.nextPage) (hv : s'.privs = s.privs)
    (hL : ∀ q j, q ≠ p → (s'.isLive (.sh q j) ↔ s.isLive (.sh q j)))
    (brk_le : h'.brk ≤ capOf c) (fl_nodup : h'.freeList.Nodup) (fl_lt : ∀ i, i ∈ h'.freeList → i < h'.brk)
    (ne : h'.evac = false → (∀ i, i < h'.brk → (i ∈ h'.freeList ↔ ¬ s'.isLive (.sh p i))) ∧
        h'.freeList.length + h'.used = h'.brk ∧ h'.used + h'.free = capOf c)
    (ev : h'.evac = true → h'.freeList = [] ∧
        (∀ i, i < h'.brk → (s'.isLive (.sh p i) ↔ (h'.scan ≤ i ∧ i ∉ h'.saved))))
    (kcount : (s'.K c).pageCount = (s.K c).pageCount) (gl_nodup : (s'.K c).glist.Nodup)
    (gl_iff : ∀ q i, (q, i) ∈ (s'.K c).glist ↔
      ∃ h, s'.pages.get? q = some h ∧ h.cls = c ∧ h.evac = false ∧ i ∈ h.freeList)
    (cur_ok : ∀ q, (s'.K c).cur = some q →
      ∃ h, s'.pages.get? q = some h ∧ h.cls = c ∧ h.evac = false ∧ h.brk < capOf c)
    (hlive : ∀ b l, s'.live.get? b = some l →
      LiveOk s' b l ∨ (s.live.get? b = some l ∧ s'.mem.get? b = s.mem.get? b)) : InvG s' := by
  have okp := inv.pages p h hp
  have okc := inv.classes c
  refine ⟨?_, ?_, ?_, ?_⟩
  · intro q hq hqq
    rw [hP] at hqq
    split at hqq
    · next e =>
      subst e; cases hqq; subst hc'
      exact ⟨hc ▸ okp.cls_lt, by rw [hpl, ← hc]; exact okp.in_plist, hn ▸ okp.lt_next, brk_le, fl_nodup, fl_lt, ne, ev⟩
    · next ne =>
      refine (inv.pages q hq hqq).transfer ?_ (Nat.le_of_eq hn.symm) (fun j => hL q j (fun e => ne e.symm))
      intro hx
      by_cases e : c = hq.cls
      · rw [← e, hpl]; rw [← e] at hx; exact hx
      · rw [hK _ e]; exact hx
  · intro c'
    by_cases e : c = c'
    · subst e
      refine ⟨by rw [hpl]; exact okc.pl_nodup, ?_, by rw [hpl, kcount]; exact okc.count, gl_nodup, gl_iff, cur_ok⟩
      intro q hq; rw [hpl] at hq
      rw [hP]; split
      · exact ⟨h', rfl, hc'⟩
      · exact okc.pl_pages q hq
    · refine (inv.classes c').transfer (hK c' e) ?_
      intro q h0 h0c; rw [hP]; split
      · next e2 =>
        subst e2
        exact ⟨fun x => by cases x; exact absurd (hc'.symm.trans h0c) e,
          fun x => by rw [hp] at x; cases x; exact absurd (hc.symm.trans h0c) e⟩
      · exact Iff.rfl
  · intro b l hl
    rcases hlive b l hl with ok | ⟨hl0, hm⟩
    · exact ok
    · refine (inv.live b l hl0).transfer hm ?_ (fun _ _ => by rw [hv])
      intro q j _ h0 hq; rw [hP]; split
      · next e => subst e; rw [hp] at hq; cases hq; exact ⟨h', rfl, hb, hc'.trans hc.symm⟩
      · exact ⟨h0, hq, Nat.le_refl _, rfl⟩
  · intro id sz hid
    rw [hv] at hid
    have := inv.privs id sz hid
    refine ⟨by rw [hn]; exact this.1, ?_⟩
    rw [hP]; split
    · next e => subst e; rw [hp] at this; cases this.2
    · exact this.2

theorem table_facts : 0 < nClasses ∧ ∀ c, c < nClasses →
    0 < capOf c ∧ slotSize c ≤ maxShared ∧ sliceHdrLen ≤ slotSize c := by decide +kernel

theorem newPage_K (s : State V) (c c' : Nat) :
    (newPage s c).K c' = if c = c' then
      { s.K c with plist := (s.K c).plist ++ [s.nextPage], pageCount := (s.K c).pageCount + 1,
                   freeSlots := (s.K c).freeSlots + capOf c, cur := some s.nextPage }
      else s.K c' := by
  simp only [newPage, State.K, KMap.get?_set]; split <;> rfl

theorem newPage_pages (s : State V) (c q : Nat) :
    (newPage s c).pages.get? q =
      if s.nextPage = q then some { cls := c, free := capOf c } else s.pages.get? q := by
  simp only [newPage, KMap.get?_set]

/-- the page number `s.nextPage` is not mapped yet -/
theorem InvG.next_fresh {s : State V} (inv : InvG s) : s.pages.get? s.nextPage = none :=
  Option.eq_none_iff_forall_ne_some.2 fun h hq => Nat.lt_irrefl _ (inv.pages _ h hq).lt_next

/-- no page of a page list is the next page id -/
theorem InvG.plist_ne_next {s : State V} (inv : InvG s) {c q : Nat} (hq : q ∈ (s.K c).plist) : q ≠ s.nextPage := by
  intro e; subst e
  obtain ⟨h0, a, _⟩ := (inv.classes c).pl_pages _ hq
  rw [inv.next_fresh] at a; cases a

theorem newPage_invG {s : State V} (inv : InvG s) {c : Nat} (hc : c < nClasses) :
    InvG (newPage s c) := by
  have fresh : ∀ q h, s.pages.get? q = some h → s.nextPage ≠ q :=
    fun q h hq e => by rw [← e, inv.next_fresh] at hq; cases hq
  refine ⟨?_, ?_, ?_, ?_⟩
  · intro q h hq
    rw [newPage_pages] at hq
    split at hq
    · next e =>
      cases hq; subst e
      refine ⟨hc, ?_, ?_, ?_, ?_, ?_, ?_, ?_⟩
      · simp [newPage_K]
      · simp [newPage]
      · simp
      · simp
      · simp
      · intro _; simp
      · intro he; simp at he
    · next ne =>
      refine (inv.pages q h hq).transfer ?_ (by simp [newPage]) (fun _ => Iff.rfl)
      intro hx; rw [newPage_K]; split
      · next e => subst e; simp [hx]
      · exact hx
  · intro c'
    by_cases e : c = c'
    · subst e
      have ok := inv.classes c
      have notin : s.nextPage ∉ (s.K c).plist := fun hin => inv.plist_ne_next hin rfl
      refine ⟨?_, ?_, ?_, ?_, ?_, ?_⟩
      · simp only [newPage_K, if_true]
        rw [List.nodup_append]
        refine ⟨ok.pl_nodup, by simp, ?_⟩
        intro a ha b hb; simp at hb; subst hb; intro e; subst e; exact notin ha
      · intro p hp; simp only [newPage_K, if_true, List.mem_append, List.mem_singleton] at hp
        rw [newPage_pages]
        rcases hp with hp | hp
        · obtain ⟨h, h1, h2⟩ := ok.pl_pages p hp
          rw [if_neg (fresh p h h1)]; exact ⟨h, h1, h2⟩
        · subst hp; simp
      · simp [newPage_K, ok.count]
      · simp only [newPage_K, if_true]; exact ok.gl_nodup
      · intro p i; simp only [newPage_K, if_true]; rw [ok.gl_iff, newPage_pages]
        split
        · next e =>
          subst e
          exact iff_of_false (fun ⟨h, h1, _⟩ => fresh _ h h1 rfl) fun ⟨h, h1, _, _, h4⟩ => by cases h1; simp at h4
        · exact Iff.rfl
      · intro p hp; simp only [newPage_K, if_true] at hp; cases hp
        rw [newPage_pages]; simp; exact (table_facts.2 _ hc).1
    · refine (inv.classes c').transfer (by rw [newPage_K, if_neg e]) ?_
      intro p h hcls; rw [newPage_pages]; split
      · next e2 =>
        subst e2
        exact iff_of_false (fun hh => by cases hh; exact e hcls) fun hh => fresh _ h hh rfl
      · exact Iff.rfl
  · intro a l hl
    refine (inv.live a l hl).transfer rfl ?_ (fun _ _ => rfl)
    intro p i _ h hp
    exact ⟨h, by rw [newPage_pages, if_neg (fresh p h hp)]; exact hp, Nat.le_refl _, rfl⟩
  · intro id sz hid
    have := inv.privs id sz hid
    refine ⟨by simp [newPage]; omega, ?_⟩
    rw [newPage_pages, if_neg (by omega)]; exact this.2


/-! ### taking a slot (bump or pop) and making it live -/

/-- ONE lemma for both ways Malloc gets slot `i` of page `p`: the bump (`h'.brk = h.brk + 1`, `i = h.brk`, free list
    unchanged) and the pop (`h'.brk = h.brk`, `i` leaves the free lists). `hbrk` / `hnew` cover both: the only slot
    index between the old and the new `brk` is `i`; `fl'mem` / `kgl` say that `i` is in neither free list afterwards.
    The rest: the page and class counters still add up, no other live slot's memory changes (`hmem`), and the new
    slot's memory `M` is a correct slice for the record `L` (`M1`–`M5`). -/
theorem take_invG {s : State V} (inv : InvG s) {c p i : Nat} {h h' : Page} {k' : ClassSt}
    {mem' : KMap Addr (SlotMem V)} {M : SlotMem V} {L : LiveRec V} {hh : Heap}
    (hp : s.pages.get? p = some h) (hcls : h.cls = c) (hev : h.evac = false)
    (h'cls : h'.cls = c) (h'ev : h'.evac = false)
    (hbrk : h.brk ≤ h'.brk) (hbrk' : h'.brk ≤ capOf c) (hi : i < h'.brk)
    (hnew : ∀ j, h.brk ≤ j → j < h'.brk → j = i)
    (fl' : h'.freeList.Nodup)
    (fl'mem : ∀ j, j ∈ h'.freeList ↔ (j ∈ h.freeList ∧ j ≠ i))
    (cnt : h'.freeList.length + h'.used = h'.brk) (cnt2 : h'.used + h'.free = capOf c)
    (kpl : k'.plist = (s.K c).plist) (kcount : k'.pageCount = (s.K c).pageCount)
    (kgl_nodup : k'.glist.Nodup)
    (kgl : ∀ q j, (q, j) ∈ k'.glist ↔ ((q, j) ∈ (s.K c).glist ∧ ¬ (q = p ∧ j = i)))
    (kcur : ∀ q, k'.cur = some q → (q = p ∧ h'.brk < capOf c) ∨ (q ≠ p ∧ (s.K c).cur = some q))
    (hmem : ∀ b, s.isLive b → mem'.get? b = s.mem.get? b)
    (M1 : M.data = some (.sh p i)) (M2 : M.len = L.size) (M3 : M.val = L.val) (M4 : L.size ≤ M.cap)
    (M5 : M.cap + sliceHdrLen = slotSize c) :
    InvG { s with pages := s.pages.set p h', cls := s.cls.set c k',
                  mem := mem'.set (.sh p i) M, live := s.live.set (.sh p i) L, heap := hh } := by
  generalize hs' : ({ s with pages := s.pages.set p h', cls := s.cls.set c k', mem := mem'.set (.sh p i) M, live := s.live.set (.sh p i) L, heap := hh } : State V) = s'
  have e1 : s'.pages = s.pages.set p h' := by subst hs'; rfl
  have e2 : s'.cls = s.cls.set c k' := by subst hs'; rfl
  have e3 : s'.mem = mem'.set (.sh p i) M := by subst hs'; rfl
  have e4 : s'.live = s.live.set (.sh p i) L := by subst hs'; rfl
  have e5 : s'.privs = s.privs := by subst hs'; rfl
  have e6 : s'.nextPage = s.nextPage := by subst hs'; rfl
  clear hs'
  have hK : ∀ c', s'.K c' = if c = c' then k' else s.K c' := fun c' => K_set s _ c c' k' e2
  have hP : ∀ q, s'.pages.get? q = if p = q then some h' else s.pages.get? q := by
    intro q; simp only [e1, KMap.get?_set]
  have hL : ∀ b, s'.isLive b ↔ (b = .sh p i ∨ s.isLive b) := by
    intro b; simp only [State.isLive, e4, KMap.get?_set]
    split
    · next e => subst e; simp
    · next ne => exact (or_iff_right fun y => ne y.symm).symm
  have okp := inv.pages p h hp
  have okc := inv.classes c
  refine inv.update hp hcls h'cls hbrk hP (fun c' e => by rw [hK, if_neg e]) (by rw [hK, if_pos rfl, kpl]) e6 e5
    ?_ hbrk' fl' ?_ ?_ (fun he => by rw [h'ev] at he; cases he) (by rw [hK, if_pos rfl, kcount])
    (by rw [hK, if_pos rfl]; exact kgl_nodup) ?_ ?_ ?_
  · intro q j ne; rw [hL]
    exact or_iff_right fun y => by cases y; exact ne rfl
  · intro j hj; have := (fl'mem j).1 hj; exact Nat.lt_of_lt_of_le (okp.fl_lt j this.1) hbrk
  · intro _
    refine ⟨?_, cnt, cnt2⟩
    intro j hj
    rw [fl'mem, hL]
    by_cases hjb : j < h.brk
    · have := (okp.ne hev).1 j hjb
      rw [this, not_or, Addr.sh.injEq, and_comm]
      exact and_congr_left' (by simp)
    · have e := hnew j (by omega) hj
      subst e
      exact iff_of_false (fun x => x.2 rfl) fun x => x (Or.inl rfl)
  · intro q j; rw [hK, if_pos rfl, kgl, okc.gl_iff, hP]
    split
    · next e =>
      subst e
      simp [hp, hcls, hev, h'cls, h'ev, fl'mem]
    · next ne => exact and_iff_left fun y => ne y.1.symm
  · intro q hq; rw [hK, if_pos rfl] at hq
    rw [hP]
    rcases kcur q hq with ⟨a, b⟩ | ⟨a, b⟩
    · subst a; rw [if_pos rfl]; exact ⟨h', rfl, h'cls, h'ev, b⟩
    · rw [if_neg (fun x => a x.symm)]; exact okc.cur_ok q b
  · intro b l hl
    simp only [e4, KMap.get?_set] at hl
    split at hl
    · next e =>
      cases hl; subst e
      exact Or.inl ⟨M, by simp only [e3, KMap.get?_set, if_true], M1, M2, M3, M4,
        h', by rw [hP, if_pos rfl], hi, by rw [h'cls]; exact M5⟩
    · next ne =>
      refine Or.inr ⟨hl, ?_⟩
      simp only [e3, KMap.get?_set, if_neg ne]; exact hmem b (by simp [State.isLive, hl])

theorem nbrs_subset (l : List Nat) (x y : Nat) (h : y ∈ nbrs l x) : y ∈ l := by
  induction l with
  | nil => simp [nbrs] at h
  | cons a t ih =>
    cases t with
    | nil => simp [nbrs] at h
    | cons b r =>
      simp only [nbrs] at h
      split at h
      · simp at h; subst h; simp
      · split at h
        · cases r with
          | nil => simp at h; subst h; simp
          | cons c r' =>
            simp at h
            rcases h with h | h <;> subst h <;> simp
        · exact List.mem_cons_of_mem _ (ih h)

theorem headAddrs_mem (l : List (Nat × Nat)) (a : Addr) (h : a ∈ headAddrs l) :
    ∃ q j, a = .sh q j ∧ (q, j) ∈ l := by
  cases l with
  | nil => simp [headAddrs] at h
  | cons x r => obtain ⟨q, j⟩ := x; simp [headAddrs] at h; exact ⟨q, j, h, by simp⟩

theorem headSlots_mem (p : Nat) (l : List Nat) (a : Addr) (h : a ∈ headSlots p l) :
    ∃ j, a = .sh p j ∧ j ∈ l := by
  cases l with
  | nil => simp [headSlots] at h
  | cons x r => simp [headSlots] at h; exact ⟨x, h, by simp⟩

theorem fl_not_live {s : State V} (inv : InvG s) {q j : Nat} {h : Page}
    (hq : s.pages.get? q = some h) (he : h.evac = false) (hj : j ∈ h.freeList) :
    ¬ s.isLive (.sh q j) := by
  have ok := inv.pages q h hq
  exact ((ok.ne he).1 j (ok.fl_lt j hj)).1 hj

theorem gl_not_live {s : State V} (inv : InvG s) {c q j : Nat} (h : (q, j) ∈ (s.K c).glist) :
    ¬ s.isLive (.sh q j) := by
  obtain ⟨h0, a, _, c1, d⟩ := ((inv.classes c).gl_iff q j).1 h
  exact fl_not_live inv a c1 d

theorem live_lt_brk {s : State V} (inv : InvG s) {p i : Nat} {h : Page}
    (hp : s.pages.get? p = some h) (hl : s.isLive (.sh p i)) : i < h.brk := by
  obtain ⟨l, hq⟩ := Option.isSome_iff_exists.mp hl
  obtain ⟨m, _, _, _, _, _, h', a, b, _⟩ := inv.live _ l hq
  rw [hp] at a; cases a; exact b

/-- `allocSlot` on a class that has a current page or a free slot finds its page mapped; the shape of what it returns (the
    page, the slot, the new page header, class state, memory and heap exist with the listed properties), and the invariant
    once the slot taken is made live with a slice header for `size ≤ cap`. -/
theorem allocSlot_invG {s1 : State V} {c size cap : Nat} {val : Option V} (inv1 : InvG s1)
    (hne : (s1.K c).cur ≠ none ∨ (s1.K c).glist ≠ []) (hsz : size ≤ cap) (hcs : cap + sliceHdrLen = slotSize c) :
    ∃ (p i : Nat) (h h' : Page) (k' : ClassSt) (mem' : KMap Addr (SlotMem V)) (hh : Heap),
      s1.pages.get? p = some h ∧ h.evac = false ∧ h.cls = c ∧ h'.evac = false ∧ h'.cls = c ∧
      ¬ s1.isLive (.sh p i) ∧ (∀ b, s1.isLive b → mem'.get? b = s1.mem.get? b) ∧
      allocSlot s1 c = .ok ({ s1 with pages := s1.pages.set p h', cls := s1.cls.set c k', mem := mem', heap := hh },
        p, i) ∧
      InvG { s1 with pages := s1.pages.set p h', cls := s1.cls.set c k',
                     mem := mem'.set (.sh p i) ⟨some (.sh p i), size, cap, val⟩,
                     live := s1.live.set (.sh p i) ⟨size, val⟩, heap := hh } := by
  have okc := inv1.classes c
  cases hcur : (s1.K c).cur with
  | some p =>
    obtain ⟨h, hp, hcl, hev, hb⟩ := okc.cur_ok p hcur
    have okp := inv1.pages p h hp
    have nl : ¬ s1.isLive (.sh p h.brk) := fun x => Nat.lt_irrefl _ (live_lt_brk inv1 hp x)
    have ne := okp.ne hev
    refine ⟨p, h.brk, h, { h with used := h.used + 1, brk := h.brk + 1, free := h.free - 1 },
      { s1.K c with freeSlots := (s1.K c).freeSlots - 1, cur := if h.brk + 1 = capOf c then none else some p },
      s1.mem, s1.heap, hp, hev, hcl, hev, hcl, nl, fun _ _ => rfl, by simp only [allocSlot, hcur, hp], ?_⟩
    exact take_invG inv1 hp hcl hev hcl hev (by simp) (by simp; omega) (by simp) (by intro j a b; simp at b; omega)
      okp.fl_nodup
      (by intro j; simp; intro x e; have := okp.fl_lt j x; omega)
      (by simp; omega) (by simp; rw [hcl] at ne; omega) rfl rfl okc.gl_nodup
      (by intro q j; simp; intro x e
          obtain ⟨h0, a, _, _, d⟩ := (okc.gl_iff q j).1 x
          rw [e, hp] at a; cases a; have := okp.fl_lt j d; omega)
      (by intro q hq; simp at hq; left; exact ⟨hq.2.symm, by simp; omega⟩)
      (fun b _ => rfl) rfl rfl rfl hsz hcs
  | none =>
    cases hgl : (s1.K c).glist with
    | nil => exact absurd hgl (hne.resolve_left (fun x => x hcur))
    | cons pi rest =>
      obtain ⟨p, i⟩ := pi
      obtain ⟨h, hp, hcl, hev, hi⟩ := (okc.gl_iff p i).1 (hgl ▸ List.mem_cons_self)
      have okp := inv1.pages p h hp
      have nl : ¬ s1.isLive (.sh p i) := fl_not_live inv1 hp hev hi
      have ne := okp.ne hev
      obtain ⟨nd1, nd2⟩ := List.nodup_cons.1 (hgl ▸ okc.gl_nodup)
      have hlen : 0 < h.freeList.length := List.length_pos_of_mem hi
      have hmemc : ∀ b, s1.isLive b → (clobber s1.mem
          (headAddrs rest ++ (nbrs h.freeList i).map (Addr.sh p))).get? b = s1.mem.get? b := by
        intro b hb
        apply clobber_get
        intro hin2
        rcases List.mem_append.1 hin2 with x | x
        · obtain ⟨q, j, e, hm⟩ := headAddrs_mem _ _ x
          subst e
          exact gl_not_live inv1 (c := c) (by rw [hgl]; exact List.mem_cons_of_mem _ hm) hb
        · obtain ⟨j, hj, rfl⟩ := List.mem_map.1 x
          exact fl_not_live inv1 hp hev (nbrs_subset _ _ _ hj) hb
      refine ⟨p, i, h, { h with freeList := h.freeList.erase i, used := h.used + 1, free := h.free - 1 },
        { s1.K c with glist := rest, freeSlots := (s1.K c).freeSlots - 1, cur := none }, _, hPop s1.heap c,
        hp, hev, hcl, hev, hcl, nl, hmemc, by simp only [allocSlot, hcur, hgl, hp], ?_⟩
      exact take_invG inv1 hp hcl hev hcl hev (by simp) (by simp; rw [← hcl]; exact okp.brk_le) (by simp; exact okp.fl_lt i hi)
        (by intro j a b; simp at b; omega)
        (okp.fl_nodup.erase i)
        (by intro j; simp only; rw [okp.fl_nodup.mem_erase_iff]; exact And.comm)
        (by simp only; rw [List.length_erase_of_mem hi]; omega)
        (by simp only; have := okp.brk_le; have := ne.2; rw [← hcl]; omega) rfl rfl
        nd2
        (by intro q j; simp only; rw [hgl, List.mem_cons, or_and_right, Prod.mk.injEq, and_not_self_iff, false_or]
            refine (and_iff_left_of_imp fun x e => ?_).symm
            rw [e.1, e.2] at x; exact nd1 x)
        (by intro q hq; cases hq)
        hmemc rfl rfl rfl hsz hcs

/-- What `allocLive s c size cap val = .ok (s', a)` gives from an invariant state: `a` is a slot that was not live, on a
    non-evacuating page of class c; old allocations keep their memory; evacuating pages keep their headers; at most the
    page `s.nextPage` is newly mapped. -/
structure Alloced (s s' : State V) (c size cap : Nat) (val : Option V) (a : Addr) : Prop where
  inv : InvG s'
  fresh : ¬ s.isLive a
  live : s'.live = s.live.set a ⟨size, val⟩
  allocs : s'.allocs = s.allocs
  relog : s'.relog = s.relog
  mem_old : ∀ b, s.isLive b → s'.mem.get? b = s.mem.get? b
  evac_old : ∀ q hq, s'.pages.get? q = some hq → hq.evac = true → s.pages.get? q = some hq
  evac_keep : ∀ q hq, s.pages.get? q = some hq → hq.evac = true → s'.pages.get? q = some hq
  slot : ∃ p i h', a = .sh p i ∧ s'.pages.get? p = some h' ∧ h'.evac = false ∧ h'.cls = c
  pages : ∀ q hq', s'.pages.get? q = some hq' →
    (∃ hq, s.pages.get? q = some hq ∧ hq.cls = hq'.cls ∧ hq.evac = hq'.evac) ∨
    (s.pages.get? q = none ∧ q = s.nextPage ∧ hq'.evac = false ∧ hq'.cls = c)
  next_le : s.nextPage ≤ s'.nextPage

/-- allocLive never runs into a nil / unmapped page -/
theorem allocLive_invG {s : State V} {c size cap : Nat} {val : Option V}
    (inv : InvG s) (hc : c < nClasses) (hsz : size ≤ cap)
    (hcs : cap + sliceHdrLen = slotSize c) :
    ∃ s' a, allocLive s c size cap val = .ok (s', a) ∧ Alloced s s' c size cap val a := by
  unfold allocLive
  simp only []
  generalize hs1 : (if (s.K c).glist.isEmpty && (s.K c).cur.isNone then newPage s c else s) = s1
  have inv1 : InvG s1 := by
    subst hs1; split
    · exact newPage_invG inv hc
    · exact inv
  have l1 : s1.live = s.live := by subst hs1; split <;> rfl
  have a1 : s1.allocs = s.allocs := by subst hs1; split <;> rfl
  have r1 : s1.relog = s.relog := by subst hs1; split <;> rfl
  have m1 : s1.mem = s.mem := by subst hs1; split <;> rfl
  have lv : ∀ b, s1.isLive b ↔ s.isLive b := by intro b; simp only [State.isLive, l1]
  have pg2 : ∀ q hq, s.pages.get? q = some hq → s1.pages.get? q = some hq := by
    subst hs1; intro q hq h1; split
    · rw [newPage_pages, if_neg]; exact h1
      intro e; have := (inv.pages q hq h1).lt_next; omega
    · exact h1
  have sA2 : ∀ q hq, s1.pages.get? q = some hq → s.pages.get? q = some hq ∨
      (s.pages.get? q = none ∧ q = s.nextPage ∧ hq.evac = false ∧ hq.cls = c) := by
    subst hs1; intro q hq h1; split at h1
    · rw [newPage_pages] at h1; split at h1
      · next e =>
        cases h1; right
        exact ⟨e ▸ inv.next_fresh, e.symm, rfl, rfl⟩
      · exact Or.inl h1
    · exact Or.inl h1
  have pg1 : ∀ q hq, s1.pages.get? q = some hq → hq.evac = true → s.pages.get? q = some hq :=
    fun q hq h1 h2 => (sA2 q hq h1).resolve_right fun x => by rw [x.2.2.1] at h2; cases h2
  have sA3 : s.nextPage ≤ s1.nextPage := by
    subst hs1; split
    · simp [newPage]
    · exact Nat.le_refl _
  have hne : (s1.K c).cur ≠ none ∨ (s1.K c).glist ≠ [] := by
    subst hs1; split
    · left; rw [newPage_K, if_pos rfl]; simp
    · next hcond =>
      simp only [Bool.and_eq_true, not_and, List.isEmpty_iff, Option.isNone_iff_eq_none] at hcond
      exact (Decidable.not_or_of_imp hcond).symm
  clear hs1
  obtain ⟨p, i, h, h', k', mem', hh, hp, hev, hcl, h'ev, h'cls, nl, hmemc, hslot, this⟩ :=
    allocSlot_invG (val := val) inv1 hne hsz hcs
  simp only [hslot]
  exact ⟨_, _, rfl, {
    inv := this
    fresh := fun x => nl ((lv _).2 x)
    live := l1 ▸ rfl
    allocs := a1
    relog := r1
    mem_old := by
      intro b hb; simp only [KMap.get?_set]; split
      · next e => subst e; exact absurd ((lv _).2 hb) nl
      · rw [hmemc b ((lv b).2 hb), m1]
    evac_old := by
      intro q hq h1 h2; simp only [KMap.get?_set] at h1; split at h1
      · cases h1; rw [h'ev] at h2; cases h2
      · exact pg1 q hq h1 h2
    evac_keep := by
      intro q hq h1 h2; simp only [KMap.get?_set]; split
      · next e => subst e; have := pg2 _ _ h1; rw [hp] at this; cases this; rw [hev] at h2; cases h2
      · exact pg2 _ _ h1
    slot := ⟨p, i, h', rfl, (KMap.get?_set ..).trans (if_pos rfl), h'ev, h'cls⟩
    pages := by
      intro q hq' h1; simp only [KMap.get?_set] at h1; split at h1
      · next e =>
        subst e; cases h1
        rcases sA2 _ _ hp with x | ⟨x1, x2, x3, x4⟩
        · exact Or.inl ⟨h, x, hcl.trans h'cls.symm, hev.trans h'ev.symm⟩
        · exact Or.inr ⟨x1, x2, h'ev, h'cls⟩
      · exact (sA2 _ _ h1).imp_left fun x => ⟨hq', x, rfl, rfl⟩
    next_le := sA3 }⟩

/-! ### facts about the generated table -/

theorem classOf_spec (n : Nat) (h : n ≤ maxShared) : classOf n < nClasses ∧ n ≤ slotSize (classOf n) := by
  have hex : ∃ x, x ∈ slotSizes ∧ decide (n ≤ x) = true := by
    cases hl : slotSizes.getLast? with
    | none => exact absurd (List.getLast?_eq_none_iff.1 hl) (List.ne_nil_of_length_pos table_facts.1)
    | some x =>
      refine ⟨x, List.mem_of_getLast? hl, ?_⟩
      simp only [maxShared, hl, Option.getD_some] at h
      simpa using h
  have hlt : classOf n < slotSizes.length := List.findIdx_lt_length_of_exists hex
  refine ⟨hlt, ?_⟩
  have := List.findIdx_getElem (w := hlt)
  simp only [decide_eq_true_eq] at this
  simp only [slotSize, List.getD_eq_getElem?_getD]
  rw [List.getElem?_eq_getElem hlt]
  exact this

theorem roundup_ge (n : Nat) : n ≤ roundup n osPageSize := by
  simp only [roundup, osPageSize]; omega

/-- Malloc never fails from an invariant state (mmap is assumed not to fail), and what its result satisfies -/
theorem malloc_invG {s : State V} (inv : InvG s) (size : Nat) :
    ∃ s' a, malloc s size = .ok (s', a) ∧
      InvG s' ∧ ¬ s.isLive a ∧ s'.live = s.live.set a ⟨size, none⟩ ∧ s'.allocs = s.allocs + 1 ∧
      (∀ q hq, s'.pages.get? q = some hq → hq.evac = true → s.pages.get? q = some hq) := by
  unfold malloc
  simp only []
  split
  · next hbig =>
    have nl : ¬ s.isLive (.pv s.nextPage) := by
      intro hl
      obtain ⟨l, hq⟩ := Option.isSome_iff_exists.mp hl
      obtain ⟨m, _, _, _, _, _, sz, g1, _⟩ := inv.live _ l hq
      have := (inv.privs _ sz g1).1; omega
    refine ⟨_, _, rfl, ?_, nl, rfl, rfl, fun q hq h1 _ => h1⟩
    have rg := roundup_ge (size + sliceHdrLen)
    refine ⟨?_, ?_, ?_, ?_⟩
    · intro q h hq
      refine (inv.pages q h hq).transfer (fun hx => hx) (by simp) ?_
      intro i; simp [State.isLive, KMap.get?_set]
    · intro c; exact (inv.classes c).transfer rfl (fun _ _ _ => Iff.rfl)
    · intro b l hl
      simp only [KMap.get?_set] at hl
      split at hl
      · next e =>
        subst e; cases hl
        refine ⟨⟨some (.pv s.nextPage), size, roundup (size + sliceHdrLen) osPageSize - sliceHdrLen, none⟩,
          by simp only [KMap.get?_set, if_true], rfl, rfl, rfl, ?_, ?_⟩
        · simp only [sliceHdrLen] at *; omega
        · refine ⟨roundup (size + sliceHdrLen) osPageSize, by simp only [KMap.get?_set, if_true], ?_, ?_⟩
          · simp only [sliceHdrLen] at *; omega
          · omega
      · next ne =>
        refine (inv.live b l hl).transfer (by simp only [KMap.get?_set, if_neg ne]) ?_ ?_
        · intro p i _ h hp; exact ⟨h, hp, Nat.le_refl _, rfl⟩
        · intro id e; subst e
          rw [KMap.get?_set, if_neg fun e2 => ne (congrArg Addr.pv e2)]
    · intro id sz hid
      simp only [KMap.get?_set] at hid
      split at hid
      · next e =>
        subst e
        exact ⟨by simp, inv.next_fresh⟩
      · have := inv.privs id sz hid
        exact ⟨by simp; omega, this.2⟩
  · next hsmall =>
    obtain ⟨c1, c2⟩ := classOf_spec (size + sliceHdrLen) (by omega)
    obtain ⟨_, t2, t3⟩ := table_facts.2 _ c1
    have inv0 : InvG ({ s with allocs := s.allocs + 1 } : State V) :=
      inv.frame rfl rfl rfl rfl rfl rfl
    obtain ⟨s', a, e, A⟩ := allocLive_invG (size := size)
      (cap := slotSize (classOf (size + sliceHdrLen)) - sliceHdrLen) (val := none) inv0 c1 (by omega) (by omega)
    exact ⟨s', a, e, A.inv, A.fresh, A.live, A.allocs, A.evac_old⟩

theorem malloc_total {s : State V} (inv : InvG s) (size : Nat) : ∃ s' a, malloc s size = .ok (s', a) :=
  let ⟨s', a, h, _⟩ := malloc_invG inv size
  ⟨s', a, h⟩

theorem nodup_bound : ∀ (n : Nat) (l : List Nat), l.Nodup → (∀ x, x ∈ l → x < n) → l.length ≤ n :=
  fun n _ nd h => List.length_range (n := n) ▸ nd.length_le_of_subset fun x hx => List.mem_range.2 (h x hx)

/-- removing a live shared allocation and running the `used ≥ 1` branch of uintptrFreeShared on a page
    that is not being evacuated -/
theorem freeShared_invG {s : State V} (inv : InvG s) {p i : Nat} {h : Page}
    (hp : s.pages.get? p = some h) (hev : h.evac = false) (hl : s.isLive (.sh p i)) (hu : 1 ≤ h.used) :
    InvG (freeSlot ({ s with allocs := s.allocs - 1, live := s.live.del (.sh p i) } : State V) p i h) := by
  generalize hs' : freeSlot ({ s with allocs := s.allocs - 1, live := s.live.del (.sh p i) } : State V) p i h = s'
  have e1 : s'.pages = s.pages.set p { h with used := h.used - 1, free := h.free + 1, freeList := i :: h.freeList } := by
    subst hs'; simp [freeSlot, hev]
  have e2 : s'.cls = s.cls.set h.cls { s.K h.cls with freeSlots := (s.K h.cls).freeSlots + 1, glist := (p, i) :: (s.K h.cls).glist } := by
    subst hs'; simp [freeSlot, hev, State.K]
  have e3 : s'.mem = clobber s.mem ([Addr.sh p i] ++ headAddrs (s.K h.cls).glist ++ headSlots p h.freeList) := by
    subst hs'; simp [freeSlot, hev, State.K]
  have e4 : s'.live = s.live.del (.sh p i) := by subst hs'; simp [freeSlot, hev]
  have e5 : s'.privs = s.privs := by subst hs'; simp [freeSlot, hev]
  have e6 : s'.nextPage = s.nextPage := by subst hs'; simp [freeSlot, hev]
  clear hs'
  have hK : ∀ c', s'.K c' = if h.cls = c' then
      { s.K h.cls with freeSlots := (s.K h.cls).freeSlots + 1, glist := (p, i) :: (s.K h.cls).glist } else s.K c' :=
    fun c' => K_set s _ _ c' _ e2
  have hP : ∀ q, s'.pages.get? q = if p = q then
      some { h with used := h.used - 1, free := h.free + 1, freeList := i :: h.freeList } else s.pages.get? q := by
    intro q; simp only [e1, KMap.get?_set]
  have hL : ∀ b, s'.isLive b ↔ (b ≠ .sh p i ∧ s.isLive b) := by
    intro b; simp only [State.isLive, e4, KMap.get?_del]
    split
    · next e => subst e; simp
    · next ne => exact (and_iff_right fun y => ne y.symm).symm
  have okp := inv.pages p h hp
  have okc := inv.classes h.cls
  have ne := okp.ne hev
  have ib : i < h.brk := live_lt_brk inv hp hl
  have inl : i ∉ h.freeList := fun x => ((ne.1 i ib).1 x) hl
  refine inv.update (h' := { h with used := h.used - 1, free := h.free + 1, freeList := i :: h.freeList }) hp rfl rfl
    (Nat.le_refl _) hP (fun c' e => by rw [hK, if_neg e]) (by rw [hK, if_pos rfl]) e6 e5
    ?_ okp.brk_le (List.nodup_cons.2 ⟨inl, okp.fl_nodup⟩) ?_ ?_ (fun he => by rw [hev] at he; cases he)
    (by rw [hK, if_pos rfl]) ?_ ?_ ?_ ?_
  · intro q j ne2; rw [hL]
    exact and_iff_right fun y => by cases y; exact ne2 rfl
  · exact List.forall_mem_cons.2 ⟨ib, okp.fl_lt⟩
  · intro _
    refine ⟨?_, by simp only [List.length_cons]; omega, by show h.used - 1 + (h.free + 1) = capOf h.cls; omega⟩
    intro j hj
    simp only [List.mem_cons]
    rw [hL, (ne.1 j hj)]
    simp only [ne_eq, Addr.sh.injEq, true_and, Decidable.not_and_iff_not_or_not, Decidable.not_not]
  · rw [hK, if_pos rfl]
    exact List.nodup_cons.2 ⟨fun x => gl_not_live inv x hl, okc.gl_nodup⟩
  · intro q j; rw [hK, if_pos rfl]
    simp only [List.mem_cons, Prod.mk.injEq]
    rw [okc.gl_iff, hP]
    split
    · next e =>
      subst e
      simp [hp, hev]
    · next ne2 => exact or_iff_right fun y => ne2 y.1.symm
  · intro q hq; rw [hK, if_pos rfl] at hq
    obtain ⟨h0, a, b, c1, d⟩ := okc.cur_ok q hq
    rw [hP]; split
    · next e => subst e; rw [hp] at a; cases a; exact ⟨_, rfl, rfl, hev, d⟩
    · exact ⟨h0, a, b, c1, d⟩
  · intro b l hlb
    simp only [e4, KMap.get?_del] at hlb
    split at hlb
    · cases hlb
    · next ne2 =>
      have lb : s.isLive b := by simp [State.isLive, hlb]
      refine Or.inr ⟨hlb, ?_⟩
      rw [e3]; apply clobber_get
      intro hin
      simp only [List.mem_append, List.mem_singleton] at hin
      rcases hin with (x | x) | x
      · exact ne2 x.symm
      · obtain ⟨q, j, e, hm⟩ := headAddrs_mem _ _ x
        subst e; exact gl_not_live inv hm lb
      · obtain ⟨j, e, hm⟩ := headSlots_mem _ _ _ x
        subst e; exact fl_not_live inv hp hev hm lb

theorem KMap.size_pos {κ α : Type} [BEq κ] [Hashable κ] [LawfulBEq κ] [LawfulHashable κ]
    (m : KMap κ α) (k : κ) (h : (m.get? k).isSome = true) : 0 < m.size := by
  have hm : k ∈ m.m := Std.HashMap.mem_iff_isSome_getElem?.2 h
  have : m.m.isEmpty = false := Std.HashMap.isEmpty_eq_false_iff_exists_mem.2 ⟨k, hm⟩
  rw [Std.HashMap.isEmpty_eq_size_eq_zero, beq_eq_false_iff_ne] at this
  exact Nat.pos_of_ne_zero this

/-- the two ways `allocSlot` succeeds: the bump of the class's current page, or the pop of the head of its global free
    list -/
theorem allocSlot_ok {s s' : State V} {c p i : Nat} (hr : allocSlot s c = .ok (s', p, i)) :
    ∃ h, s.pages.get? p = some h ∧
      (((s.K c).cur = some p ∧ i = h.brk ∧
          s' = { s with pages := s.pages.set p { h with used := h.used + 1, brk := h.brk + 1, free := h.free - 1 },
                        cls := s.cls.set c { s.K c with freeSlots := (s.K c).freeSlots - 1,
                                                        cur := if h.brk + 1 = capOf c then none else some p } }) ∨
       (∃ rest, (s.K c).cur = none ∧ (s.K c).glist = (p, i) :: rest ∧
          s' = { s with pages := s.pages.set p { h with freeList := h.freeList.erase i, used := h.used + 1,
                                                        free := h.free - 1 },
                        cls := s.cls.set c { s.K c with glist := rest, freeSlots := (s.K c).freeSlots - 1 },
                        mem := clobber s.mem (headAddrs rest ++ (nbrs h.freeList i).map (Addr.sh p)),
                        heap := hPop s.heap c })) := by
  unfold allocSlot at hr
  simp only [] at hr
  split at hr
  · next p0 hcur =>
    split at hr
    · cases hr
    · next h hp => cases hr; exact ⟨h, hp, Or.inl ⟨hcur, rfl, rfl⟩⟩
  · next hcur =>
    split at hr
    · cases hr
    · next p0 i0 rest hgl =>
      split at hr
      · cases hr
      · next h hp => cases hr; exact ⟨h, hp, Or.inr ⟨rest, hcur, hgl, rfl⟩⟩

/-- The two ways `free` succeeds: a private mapping is unmapped (uintptrFreePrivate), or a slot of a page with
    `used ≥ 1` goes back on the free lists (uintptrFreeShared). -/
theorem free_ok {s s' : State V} {a : Addr} (hr : free s a = .ok s') :
    s.isLive a ∧ ∃ m, s.mem.get? a = some m ∧
      ((∃ id, a = .pv id ∧ maxShared < m.cap + sliceHdrLen ∧
          s' = { s with allocs := s.allocs - 1, live := s.live.del a, bytes := s.bytes - (m.cap + sliceHdrLen),
                        privMmaps := s.privMmaps - 1, privs := s.privs.del id, mem := s.mem.del a }) ∨
       (∃ p i h, a = .sh p i ∧ s.pages.get? p = some h ∧ 1 ≤ h.used ∧
          s' = freeSlot { s with allocs := s.allocs - 1, live := s.live.del a } p i h)) := by
  unfold free at hr
  split at hr
  · cases hr
  · next hlive =>
    refine ⟨by simpa [State.isLive, Option.isSome_iff_ne_none] using hlive, ?_⟩
    cases hm : s.mem.get? a with
    | none => simp [hm] at hr
    | some m =>
    simp only [hm] at hr
    refine ⟨m, rfl, ?_⟩
    split at hr
    · next hbig =>
      cases a with
      | sh p i => cases hr
      | pv id => cases hr; exact Or.inl ⟨id, rfl, hbig, rfl⟩
    · cases a with
      | pv id => cases hr
      | sh p i =>
        cases hp : s.pages.get? p with
        | none => simp [hp] at hr
        | some h =>
        simp only [hp] at hr
        split at hr
        · next hu => cases hr; exact Or.inr ⟨p, i, h, rfl, hp, hu, rfl⟩
        · cases hr

theorem free_inv {s s' : State V} {a : Addr} (inv : Inv s) (hr : free s a = .ok s') :
    Inv s' ∧ s.isLive a ∧ s'.live = s.live.del a := by
  obtain ⟨hl, _, _, hcase⟩ := free_ok hr
  have hallocs : (s.allocs - 1 : Int) = ((s.live.del a).size : Int) := by
    have hsz := KMap.size_pos s.live a hl
    rw [KMap.size_del, inv.allocs]; simp only [State.isLive] at hl; rw [hl]; simp; omega
  rcases hcase with ⟨id, rfl, _, rfl⟩ | ⟨p, i, h, rfl, g1, hu, rfl⟩
  · refine ⟨⟨?_, hallocs, inv.noEvac⟩, hl, rfl⟩
    refine ⟨?_, ?_, ?_, ?_⟩
    · intro q h hq2
      refine (inv.g.pages q h hq2).transfer (fun hx => hx) (Nat.le_refl _) ?_
      intro i; simp only [State.isLive, KMap.get?_del]; simp
    · intro c; exact (inv.g.classes c).transfer rfl (fun _ _ _ => Iff.rfl)
    · intro b lb hlb
      simp only [KMap.get?_del] at hlb
      split at hlb
      · cases hlb
      · next ne =>
        refine (inv.g.live b lb hlb).transfer (by simp only [KMap.get?_del, if_neg ne]) ?_ ?_
        · intro p i _ h hp; exact ⟨h, hp, Nat.le_refl _, rfl⟩
        · intro id' e; subst e
          rw [KMap.get?_del, if_neg fun e2 => ne (congrArg Addr.pv e2)]
    · intro id' sz' hid
      simp only [KMap.get?_del] at hid
      split at hid
      · cases hid
      · exact inv.g.privs id' sz' hid
  · have hev := inv.noEvac p h g1
    refine ⟨⟨freeShared_invG inv.g g1 hev hl hu, ?_, ?_⟩, hl, ?_⟩
    · simp only [freeSlot, hev]; exact hallocs
    · intro q hq2 hqq
      simp only [freeSlot, hev, Bool.false_eq_true, if_false, KMap.get?_set] at hqq
      split at hqq
      · cases hqq; rfl
      · exact inv.noEvac q hq2 hqq
    · simp only [freeSlot, hev]; rfl

theorem free_total {s : State V} {a : Addr} (inv : Inv s) (hl : s.isLive a) : ∃ s', free s a = .ok s' := by
  unfold free
  obtain ⟨l, hq⟩ := Option.isSome_iff_exists.mp hl
  simp only [hq, Option.isNone_some, Bool.false_eq_true, if_false]
  obtain ⟨m, hm, _, _, _, _, h6⟩ := inv.g.live a l hq
  simp only [hm]
  cases a with
  | pv id =>
    obtain ⟨sz, g1, g2, g3⟩ := h6
    rw [if_pos (by omega)]; exact ⟨_, rfl⟩
  | sh p i =>
    obtain ⟨h, g1, g2, g3⟩ := h6
    have okp := inv.g.pages p h g1
    have t := (table_facts.2 _ okp.cls_lt).2.1
    rw [if_neg (by omega)]
    simp only [g1]
    have hev := inv.noEvac p h g1
    have ne := okp.ne hev
    -- pigeonhole: slot i is live, so the free list cannot hold all brk slots
    have inl : i ∉ h.freeList := fun x => ((ne.1 i g2).1 x) hl
    have := nodup_bound h.brk (i :: h.freeList) (List.nodup_cons.2 ⟨inl, okp.fl_nodup⟩)
      (List.forall_mem_cons.2 ⟨g2, okp.fl_lt⟩)
    simp only [List.length_cons] at this
    rw [if_pos (by omega)]; exact ⟨_, rfl⟩

theorem write_inv {s s' : State V} {a : Addr} {v : V} (inv : Inv s) (hr : write s a v = .ok s') :
    Inv s' ∧ ∃ l, s.live.get? a = some l ∧ s'.live = s.live.set a { l with val := some v } := by
  unfold write at hr
  cases hq : s.live.get? a with
  | none => simp [hq] at hr
  | some l =>
  cases hm : s.mem.get? a with
  | none => simp [hq, hm] at hr
  | some m =>
  simp only [hq, hm] at hr
  cases hr
  refine ⟨⟨?_, ?_, inv.noEvac⟩, l, rfl, rfl⟩
  · have hL : ∀ b, ({ s with mem := s.mem.set a { m with val := some v }, live := s.live.set a { l with val := some v } } : State V).isLive b ↔ s.isLive b := by
      intro b; simp only [State.isLive, KMap.get?_set]; split
      · next e => subst e; simp [hq]
      · rfl
    refine ⟨?_, ?_, ?_, inv.g.privs⟩
    · intro q h hq2
      exact (inv.g.pages q h hq2).transfer (fun hx => hx) (Nat.le_refl _) (fun i => hL _)
    · intro c; exact (inv.g.classes c).transfer rfl (fun _ _ _ => Iff.rfl)
    · intro b lb hlb
      simp only [KMap.get?_set] at hlb
      split at hlb
      · next e =>
        subst e; cases hlb
        obtain ⟨m0, h1, h2, h3, h4, h5, h6⟩ := inv.g.live _ l hq
        rw [hm] at h1; cases h1
        exact ⟨{ m with val := some v }, by simp only [KMap.get?_set, if_true], h2, h3, rfl, h5, h6⟩
      · next ne =>
        exact (inv.g.live b lb hlb).transfer (by simp only [KMap.get?_set, if_neg ne])
          (fun p i _ h hp => ⟨h, hp, Nat.le_refl _, rfl⟩) (fun _ _ => rfl)
  · show s.allocs = (s.live.set a { l with val := some v }).size
    rw [KMap.size_set, hq]; exact inv.allocs

theorem malloc_inv {s s' : State V} {size : Nat} {a : Addr} (inv : Inv s)
    (hr : malloc s size = .ok (s', a)) :
    Inv s' ∧ ¬ s.isLive a ∧ s'.live = s.live.set a ⟨size, none⟩ := by
  obtain ⟨_, _, e, i1, i2, i3, i4, i5⟩ := malloc_invG inv.g size
  rw [e] at hr; cases hr
  refine ⟨⟨i1, ?_, ?_⟩, i2, i3⟩
  · rw [i4, i3, KMap.size_set, inv.allocs, Bool.eq_false_iff.2 i2]; simp
  · exact fun q hq h1 => Bool.eq_false_iff.2 fun he => Bool.false_ne_true ((inv.noEvac q hq (i5 q hq h1 he)).symm.trans he)


theorem step_malloc_ok {s s' : State V} {size : Nat} (hr : step s (.malloc size) = .ok s') :
    ∃ a, malloc s size = .ok (s', a) := by
  simp only [step] at hr
  cases hm : malloc s size with
  | error e => simp [hm] at hr
  | ok r => obtain ⟨s2, a⟩ := r; simp only [hm] at hr; cases hr; exact ⟨a, rfl⟩

theorem beginEvac_ok {s s' : State V} {c pg : Nat} (hr : beginEvac s c pg = .ok s') :
    ∃ h, s.pages.get? pg = some h ∧ h.cls = c ∧ h.evac = false ∧
      s' = { s with
        pages := s.pages.set pg { h with evac := true, saved := h.freeList, freeList := [], scan := 0 },
        cls := s.cls.set c { s.K c with cur := if (s.K c).cur = some pg then none else (s.K c).cur,
                                        glist := (s.K c).glist.filter (fun (q, _) => q ≠ pg) },
        mem := clobber s.mem ((s.K c).glist.map (fun (q, j) => Addr.sh q j)),
        heap := hPurge s.heap c pg h.brk } := by
  unfold beginEvac at hr
  cases hp : s.pages.get? pg with
  | none => simp [hp] at hr
  | some h =>
  simp only [hp] at hr
  split at hr
  · cases hr
  · next hcond =>
    simp only [not_or, Decidable.not_not, Bool.not_eq_true] at hcond
    cases hr
    exact ⟨h, rfl, hcond.1, hcond.2, rfl⟩

theorem endEvac_ok {s s' : State V} {c pg : Nat} (hr : endEvac s c pg = .ok s') :
    ∃ h, s.pages.get? pg = some h ∧ h.scan = h.brk ∧ h.evac = true ∧ h.cls = c ∧
      s' = { s with
        pages := s.pages.del pg,
        cls := s.cls.set c { s.K c with plist := (s.K c).plist.erase pg, pageCount := (s.K c).pageCount - 1,
                                        freeSlots := (s.K c).freeSlots - h.free,
                                        cur := if (s.K c).cur = some pg then none else (s.K c).cur },
        bytes := s.bytes - pageSize, sharedMmaps := s.sharedMmaps - 1,
        heap := hUnlinkPage s.heap c pg } := by
  unfold endEvac at hr
  cases hp : s.pages.get? pg with
  | none => simp [hp] at hr
  | some h =>
  simp only [hp] at hr
  split at hr
  · cases hr
  · next hcond =>
    simp only [Bool.or_eq_true, Bool.not_eq_true', decide_eq_true_eq, not_or, Decidable.not_not,
      Bool.not_eq_false, ne_eq] at hcond
    cases hr
    exact ⟨h, rfl, hcond.1.1, hcond.1.2, hcond.2, rfl⟩

theorem beginEvac_invG {s : State V} {c pg : Nat} {h : Page} (inv : InvG s) (hp : s.pages.get? pg = some h)
    (hcl : h.cls = c) (hev : h.evac = false) :
    ∃ s', beginEvac s c pg = .ok s' ∧ InvG s' ∧ s'.live = s.live ∧ s'.allocs = s.allocs ∧ s'.relog = s.relog ∧
    (∀ q, s'.pages.get? q = if pg = q then
        some { h with evac := true, saved := h.freeList, freeList := [], scan := 0 } else s.pages.get? q) ∧
    (∀ b, s.isLive b → s'.mem.get? b = s.mem.get? b) := by
  unfold beginEvac
  simp only [hp]
  rw [if_neg (by simp [hcl, hev])]
  have okp := inv.pages pg h hp
  have okc := inv.classes c
  have ne := okp.ne hev
  have hmem : ∀ b, s.isLive b →
      (clobber s.mem ((s.K c).glist.map (fun (q, j) => Addr.sh q j))).get? b = s.mem.get? b := by
    intro b lb
    apply clobber_get
    intro hin
    obtain ⟨⟨q, j⟩, hm, rfl⟩ := List.mem_map.1 hin
    exact gl_not_live inv hm lb
  refine ⟨_, rfl, ?_, rfl, rfl, rfl, fun q => by simp only [KMap.get?_set], hmem⟩
  · have hK : ∀ c', State.K (V := V) { s with
        pages := s.pages.set pg { h with evac := true, saved := h.freeList, freeList := [], scan := 0 },
        cls := s.cls.set c { s.K c with cur := if (s.K c).cur = some pg then none else (s.K c).cur,
                                        glist := (s.K c).glist.filter (fun (q, _) => q ≠ pg) },
        mem := clobber s.mem ((s.K c).glist.map (fun (q, j) => Addr.sh q j)),
        heap := hPurge s.heap c pg h.brk } c' =
        if c = c' then { s.K c with cur := if (s.K c).cur = some pg then none else (s.K c).cur,
                                    glist := (s.K c).glist.filter (fun (q, _) => q ≠ pg) } else s.K c' :=
      fun c' => K_set s _ c c' _ rfl
    refine inv.update (h' := { h with evac := true, saved := h.freeList, freeList := [], scan := 0 }) hp hcl hcl
      (Nat.le_refl _) (fun q => by simp only [KMap.get?_set]) (fun c' e => by rw [hK, if_neg e])
      (by rw [hK, if_pos rfl]) rfl rfl (fun _ _ _ => Iff.rfl) (hcl ▸ okp.brk_le) (by simp) (by simp)
      (fun he => by cases he) ?_ (by rw [hK, if_pos rfl])
      (by rw [hK, if_pos rfl]; exact okc.gl_nodup.sublist List.filter_sublist) ?_ ?_
      (fun b l hlb => Or.inr ⟨hlb, hmem b (by simp [State.isLive, hlb])⟩)
    · intro _
      refine ⟨rfl, ?_⟩
      intro i hi
      show s.isLive (.sh pg i) ↔ (0 ≤ i ∧ i ∉ h.freeList)
      rw [ne.1 i hi]
      simp only [Nat.zero_le, true_and, Classical.not_not]
    · intro q j; rw [hK, if_pos rfl]
      simp only [List.mem_filter, decide_eq_true_eq, KMap.get?_set]
      rw [okc.gl_iff]
      split
      · next e =>
        subst e
        exact iff_of_false (fun x => x.2 rfl) fun ⟨h0, a, _, c1, _⟩ => by cases a; cases c1
      · next ne2 => exact and_iff_left fun y => ne2 y.symm
    · intro q hq; rw [hK, if_pos rfl] at hq
      split at hq
      · cases hq
      · next ncur =>
        simp only [KMap.get?_set]; split
        · next e => subst e; exact absurd hq ncur
        · exact okc.cur_ok q hq

/-- one step of the slot loop of an evacuating page, stated extensionally: slot `scan` stops being
    live (it was relocated, or it was free all along) and `scan` advances. -/
theorem evac_advance {s1 s3 : State V} (inv : InvG s1) {pg : Nat} {h h3 : Page}
    (hp : s1.pages.get? pg = some h) (hev : h.evac = true)
    (g1 : h3.cls = h.cls) (g2 : h3.evac = true) (g3 : h3.brk = h.brk) (g4 : h3.freeList = h.freeList)
    (g5 : h3.saved = h.saved) (g6 : h3.scan = h.scan + 1)
    (hpages : ∀ q, s3.pages.get? q = if pg = q then some h3 else s1.pages.get? q)
    (hK : ∀ c, h.cls ≠ c → s3.K c = s1.K c)
    (hKc : (s3.K h.cls).plist = (s1.K h.cls).plist ∧ (s3.K h.cls).pageCount = (s1.K h.cls).pageCount ∧
        (s3.K h.cls).glist = (s1.K h.cls).glist ∧ (s3.K h.cls).cur = (s1.K h.cls).cur)
    (hlive : ∀ b, s3.live.get? b = if b = .sh pg h.scan then none else s1.live.get? b)
    (hmem : s3.mem = s1.mem) (hprivs : s3.privs = s1.privs) (hnext : s3.nextPage = s1.nextPage) :
    InvG s3 := by
  have okp := inv.pages pg h hp
  have hL : ∀ b, s3.isLive b ↔ (b ≠ .sh pg h.scan ∧ s1.isLive b) := by
    intro b; simp only [State.isLive, hlive]; split <;> simp [*]
  obtain ⟨k1, k2, k3, k4⟩ := hKc
  have okc : ClassOk s3 h.cls := by
    refine (inv.classes h.cls).transfer_headers k1 k2 k3 k4 ?_ ?_
    · intro q h0 hq hc; rw [hpages]; split
      · next e => subst e; rw [hp] at hq; cases hq
                  exact ⟨h3, rfl, g1, by rw [g2, hev], g4, g3⟩
      · exact ⟨h0, hq, hc, rfl, rfl, rfl⟩
    · intro q h0 hq hc; rw [hpages] at hq; split at hq
      · next e => subst e; cases hq
                  exact ⟨h, hp, rfl, by rw [g2, hev], g4, g3⟩
      · exact ⟨h0, hq, hc, rfl, rfl, rfl⟩
  have ev := okp.ev hev
  refine inv.update hp rfl g1 (Nat.le_of_eq g3.symm) hpages hK k1 hnext hprivs ?_ (g3 ▸ okp.brk_le)
    (g4 ▸ okp.fl_nodup) (by rw [g4, g3]; exact okp.fl_lt) (fun he => by rw [g2] at he; cases he) ?_ k2
    okc.gl_nodup okc.gl_iff okc.cur_ok ?_
  · intro q j ne; rw [hL]
    exact and_iff_right fun y => by cases y; exact ne rfl
  · intro _
    refine ⟨by rw [g4]; exact ev.1, ?_⟩
    intro i hi; rw [g3] at hi
    rw [hL, ev.2 i hi, g6, g5, ← and_assoc]
    refine and_congr_left' ?_
    simp only [ne_eq, Addr.sh.injEq, true_and]
    omega
  · intro b l hlb
    rw [hlive] at hlb
    split at hlb
    · cases hlb
    · exact Or.inr ⟨hlb, by rw [hmem]⟩

theorem evac_finish {s s3 : State V} (inv : InvG s) {c pg : Nat} {h : Page}
    (hp : s.pages.get? pg = some h) (hev : h.evac = true) (hsc : h.scan = h.brk) (hcl : h.cls = c)
    (hpages : ∀ q, s3.pages.get? q = if pg = q then none else s.pages.get? q)
    (hKc : (s3.K c).plist = (s.K c).plist.erase pg ∧ (s3.K c).pageCount = (s.K c).pageCount - 1 ∧
        (s3.K c).glist = (s.K c).glist ∧ (s3.K c).cur = if (s.K c).cur = some pg then none else (s.K c).cur)
    (hK : ∀ c', c ≠ c' → s3.K c' = s.K c')
    (hlive : s3.live = s.live) (hmem : s3.mem = s.mem) (hprivs : s3.privs = s.privs)
    (hnext : s3.nextPage = s.nextPage) : InvG s3 := by
  have okp := inv.pages pg h hp
  have okc := inv.classes c
  have ev := okp.ev hev
  have hL : ∀ b, s3.isLive b ↔ s.isLive b := by intro b; simp only [State.isLive, hlive]
  have nolive : ∀ i, ¬ s.isLive (.sh pg i) := by
    intro i hl
    have ib := live_lt_brk inv hp hl
    have := (ev.2 i ib).1 hl
    omega
  obtain ⟨k1, k2, k3, k4⟩ := hKc
  refine ⟨?_, ?_, ?_, ?_⟩
  · intro q hq hqq
    rw [hpages] at hqq
    split at hqq
    · cases hqq
    · next ne2 =>
      refine (inv.pages q hq hqq).transfer ?_ (by rw [hnext]; exact Nat.le_refl _) (fun _ => hL _)
      intro hx
      by_cases e : c = hq.cls
      · rw [← e, k1]; rw [← e] at hx
        exact (okc.pl_nodup.mem_erase_iff).2 ⟨fun x => ne2 x.symm, hx⟩
      · rw [hK _ e]; exact hx
  · intro c'
    by_cases e : c = c'
    · subst e
      refine ⟨?_, ?_, ?_, ?_, ?_, ?_⟩
      · rw [k1]; exact okc.pl_nodup.erase pg
      · intro q hq; rw [k1, okc.pl_nodup.mem_erase_iff] at hq
        rw [hpages, if_neg (fun x => hq.1 x.symm)]; exact okc.pl_pages q hq.2
      · rw [k1, k2, okc.count, List.length_erase_of_mem (hcl ▸ okp.in_plist)]
      · rw [k3]; exact okc.gl_nodup
      · intro q j; rw [k3, okc.gl_iff, hpages]
        split
        · next e =>
          subst e
          refine iff_of_false (fun ⟨h0, a, _, c1, _⟩ => ?_) fun ⟨h0, a, _⟩ => by cases a
          rw [hp] at a; cases a; rw [hev] at c1; cases c1
        · exact Iff.rfl
      · intro q hq; rw [k4] at hq
        split at hq
        · cases hq
        · next ncur =>
          rw [hpages]; split
          · next e => subst e; exact absurd hq ncur
          · exact okc.cur_ok q hq
    · refine (inv.classes c').transfer (hK c' e) ?_
      intro q h0 h0c; rw [hpages]; split
      · next e2 =>
        subst e2
        refine iff_of_false (fun x => by cases x) fun x => ?_
        rw [hp] at x; cases x; exact absurd (hcl.symm.trans h0c) e
      · exact Iff.rfl
  · intro b l hlb
    rw [hlive] at hlb
    have lb : s.isLive b := by simp [State.isLive, hlb]
    refine (inv.live b l hlb).transfer (by rw [hmem]) ?_ (fun _ _ => by rw [hprivs])
    intro q j e h0 hq; subst e
    rw [hpages]; split
    · next e => subst e; exact absurd lb (nolive j)
    · exact ⟨h0, hq, Nat.le_refl _, rfl⟩
  · intro id sz hid
    rw [hprivs] at hid
    have := inv.privs id sz hid
    refine ⟨by rw [hnext]; exact this.1, ?_⟩
    rw [hpages]; split
    · rfl
    · exact this.2

theorem endEvac_invG {s : State V} {c pg : Nat} {h : Page} (inv : InvG s) (hp : s.pages.get? pg = some h)
    (hev : h.evac = true) (hcl : h.cls = c) (hsc : h.scan = h.brk) :
    ∃ s', endEvac s c pg = .ok s' ∧ InvG s' ∧ s'.live = s.live ∧ s'.allocs = s.allocs ∧ s'.relog = s.relog ∧
    s'.mem = s.mem ∧ (∀ q, s'.pages.get? q = if pg = q then none else s.pages.get? q) := by
  unfold endEvac
  simp only [hp]
  rw [if_neg (by simp [hev, hcl, hsc])]
  refine ⟨_, rfl, ?_, rfl, rfl, rfl, rfl, fun q => by simp only [KMap.get?_del]⟩
  refine evac_finish inv hp hev hsc hcl (by intro q; simp only [KMap.get?_del]) ?_ ?_ rfl rfl rfl rfl
  · simp [State.K, KMap.get?_set]
  · intro c' e; simp only [State.K, KMap.get?_set, if_neg e]


theorem moveNext_guard {s s' : State V} {c pg : Nat} (hr : moveNext s c pg = .ok s') :
    ∃ h, s.pages.get? pg = some h ∧ h.evac = true ∧ h.scan < h.brk := by
  unfold moveNext at hr
  cases hp : s.pages.get? pg with
  | none => simp [hp] at hr
  | some h =>
  simp only [hp] at hr
  split at hr
  · cases hr
  · next hcond =>
    simp only [Bool.or_eq_true, Bool.not_eq_true', decide_eq_true_eq, not_or, Bool.not_eq_false, Nat.not_le] at hcond
    exact ⟨h, rfl, hcond⟩

/-- One iteration of the slot loop on an evacuating page of the class with `scan < brk` never reaches a `.corrupt`
    exit, and succeeds in one of two ways: slot `scan` is on the saved free set and only `scan` advances, or it holds a
    live allocation (so its memory and live record exist), which is copied to a slot taken by `allocLive` (whose
    hypotheses hold) and then freed on the evacuating page, which `allocLive` has left as it was. -/
theorem moveNext_total {s : State V} {c pg : Nat} {h : Page} (inv : InvG s) (hc : c < nClasses)
    (hp : s.pages.get? pg = some h) (hev : h.evac = true) (hcl : h.cls = c) (hsc : h.scan < h.brk) :
    ∃ s', moveNext s c pg = .ok s' ∧
      ((h.scan ∈ h.saved ∧ s' = { s with pages := s.pages.set pg { h with scan := h.scan + 1 } }) ∨
       (h.scan ∉ h.saved ∧ ∃ m l s1 new, s.mem.get? (.sh pg h.scan) = some m ∧
          s.live.get? (.sh pg h.scan) = some l ∧ m.len = l.size ∧ m.val = l.val ∧ m.len ≤ m.cap ∧
          m.cap + sliceHdrLen = slotSize c ∧ allocLive s c m.len m.cap m.val = .ok (s1, new) ∧
          Alloced s s1 c m.len m.cap m.val new ∧ s1.pages.get? pg = some h ∧
          s' = freeSlot { s1 with live := (s1.live.del (.sh pg h.scan)).set new ⟨l.size, l.val⟩,
                                  relog := (.sh pg h.scan, new) :: s1.relog } pg h.scan
                { h with scan := h.scan + 1 })) := by
  unfold moveNext
  simp only [hp]
  rw [if_neg (by simp [hev]; omega)]
  split
  · next hsaved => exact ⟨_, rfl, .inl ⟨by simpa using hsaved, rfl⟩⟩
  · next hsaved =>
    have hnin : h.scan ∉ h.saved := by simpa using hsaved
    have hlive : s.isLive (.sh pg h.scan) := (((inv.pages pg h hp).ev hev).2 h.scan hsc).2 ⟨Nat.le_refl _, hnin⟩
    obtain ⟨l, hq⟩ := Option.isSome_iff_exists.mp hlive
    obtain ⟨m, hm, _, m2, m3, m4, h0, g1, _, g3⟩ := inv.live _ l hq
    rw [hp] at g1; cases g1
    simp only [hm, hq]
    have hsz : m.len ≤ m.cap := by rw [m2]; exact m4
    have hcs : m.cap + sliceHdrLen = slotSize c := by rw [← hcl]; exact g3
    obtain ⟨s1, new, hal, A⟩ := allocLive_invG (val := m.val) inv hc hsz hcs
    have hp1 : s1.pages.get? pg = some h := A.evac_keep pg h hp hev
    simp only [hal, hp1]
    exact ⟨_, rfl, .inr ⟨hnin, m, l, s1, new, rfl, rfl, m2, m3, hsz, hcs, hal, A, hp1, rfl⟩⟩

/-- What one iteration of the slot loop does (`moveNext s c pg = .ok s'`): the invariant is kept, the number of live
    allocations and `Allocs` are unchanged, `scan` of the page advances, no other page becomes evacuating, and either
    nothing was relocated (slot was on the saved free set) or exactly one live allocation `old` on the page moved
    to a slot `new` that was not live, with the same record (size and last-written value), and `relocate(old,new)` logged
    once. That `new`'s memory holds the value behind a correct slice header is part of `inv` (`LiveOk` of the live slot `new`). -/
structure Advanced (s s' : State V) (c pg : Nat) : Prop where
  inv : InvG s'
  allocs : s'.allocs = s.allocs
  size : s'.live.size = s.live.size
  page : ∃ h h', s.pages.get? pg = some h ∧ s'.pages.get? pg = some h' ∧ h'.scan = h.scan + 1 ∧
    h'.brk = h.brk ∧ h'.evac = true ∧ h.evac = true ∧ h'.cls = h.cls ∧ h.scan < h.brk
  evac_old : ∀ q hq, s'.pages.get? q = some hq → hq.evac = true → q = pg ∨ s.pages.get? q = some hq
  pages : ∀ q hq', s'.pages.get? q = some hq' →
    (∃ hq, s.pages.get? q = some hq ∧ hq.cls = hq'.cls ∧ hq.evac = hq'.evac) ∨
    (s.pages.get? q = none ∧ s.nextPage ≤ q ∧ hq'.evac = false ∧ hq'.cls = c)
  next_le : s.nextPage ≤ s'.nextPage
  logged : ∀ o n, s'.relog = (o, n) :: s.relog →
    ∃ np ni h', n = .sh np ni ∧ s'.pages.get? np = some h' ∧ h'.evac = false ∧ h'.cls = c
  evac_keep : ∀ q hq, q ≠ pg → s.pages.get? q = some hq → hq.evac = true → s'.pages.get? q = some hq
  moved : (s'.live = s.live ∧ s'.relog = s.relog ∧ s'.mem = s.mem) ∨
    (∃ i new l, s.live.get? (.sh pg i) = some l ∧ ¬ s.isLive new ∧
      s'.relog = (.sh pg i, new) :: s.relog ∧
      s'.live.get? new = some l ∧ s'.live.get? (.sh pg i) = none ∧
      (∀ b, b ≠ new → b ≠ .sh pg i → s'.live.get? b = s.live.get? b) ∧
      (∀ b, s.isLive b → s'.mem.get? b = s.mem.get? b))

theorem moveNext_invG {s s' : State V} {c pg : Nat} (inv : InvG s) (hc : c < nClasses)
    (hcls : ∀ h, s.pages.get? pg = some h → h.evac = true → h.cls = c)
    (hr : moveNext s c pg = .ok s') : Advanced s s' c pg := by
  obtain ⟨h, hp, hev, hsc⟩ := moveNext_guard hr
  obtain ⟨_, e, hcase⟩ := moveNext_total inv hc hp hev (hcls h hp hev) hsc
  rw [hr] at e; cases e
  have okp := inv.pages pg h hp
  have ev := okp.ev hev
  rcases hcase with ⟨hin, rfl⟩ | ⟨hnin, m, l, s1, new, _, hq, m2, m3, _, _, _, A, hp1, rfl⟩
  · -- slot is on the saved free set: only `scan` advances
    have nl : s.live.get? (.sh pg h.scan) = none :=
      Option.not_isSome_iff_eq_none.1 fun x => ((ev.2 h.scan hsc).1 x).2 hin
    refine ⟨?_, rfl, rfl, ⟨h, { h with scan := h.scan + 1 }, hp, by simp only [KMap.get?_set, if_true], rfl, rfl, hev, hev, rfl, hsc⟩,
      ?_, ?_, Nat.le_refl _, ?_, ?_, Or.inl ⟨rfl, rfl, rfl⟩⟩
    · refine evac_advance inv hp hev (h3 := { h with scan := h.scan + 1 }) rfl hev rfl rfl rfl rfl
        (by intro q; simp only [KMap.get?_set]) (fun _ _ => rfl) ⟨rfl, rfl, rfl, rfl⟩ ?_ rfl rfl rfl
      intro b; split
      · next e => subst e; exact nl
      · rfl
    · intro q hq h1 h2
      simp only [KMap.get?_set] at h1; split at h1
      · next e => exact Or.inl e.symm
      · exact Or.inr h1
    · intro q hq' h1; simp only [KMap.get?_set] at h1; split at h1
      · next e => subst e; cases h1; exact Or.inl ⟨h, hp, rfl, rfl⟩
      · exact Or.inl ⟨hq', h1, rfl, rfl⟩
    · intro o n e; exact absurd e.symm (List.cons_ne_self _ _)
    · intro q hq ne h1 _; simp only [KMap.get?_set, if_neg (Ne.symm ne)]; exact h1
  · have hlive : s.isLive (.sh pg h.scan) := (ev.2 h.scan hsc).2 ⟨Nat.le_refl _, hnin⟩
    have hne : new ≠ .sh pg h.scan := fun e => A.fresh (by rw [e]; exact hlive)
    have l1new : s1.live.get? new = some ⟨m.len, m.val⟩ := by rw [A.live, KMap.get?_set, if_pos rfl]
    have l1old : s1.live.get? (.sh pg h.scan) = some l := by
      rw [A.live, KMap.get?_set, if_neg hne]; exact hq
    have hfs : ∀ (s2 : State V) (h2 : Page), h2.evac = true → freeSlot s2 pg h.scan h2 =
        { s2 with pages := s2.pages.set pg { h2 with used := h2.used - 1, free := h2.free + 1 },
                  cls := s2.cls.set h2.cls { s2.K h2.cls with freeSlots := (s2.K h2.cls).freeSlots + 1 } } := by
      intro s2 h2 e; simp only [freeSlot, e, if_true]
    rw [hfs _ _ (by exact hev)]
    refine ⟨?_, by simp only [A.allocs], ?_, ⟨h, { h with scan := h.scan + 1, used := h.used - 1, free := h.free + 1 }, hp, by simp only [KMap.get?_set, if_true], rfl, rfl, hev, hev, rfl, hsc⟩, ?_,
      ?_, A.next_le, ?_, ?_, Or.inr ?_⟩
    · refine evac_advance A.inv hp1 hev
        (h3 := { h with scan := h.scan + 1, used := h.used - 1, free := h.free + 1 }) rfl hev rfl rfl rfl rfl
        (by intro q; simp only [KMap.get?_set]) (fun c' e => by simp only [State.K, KMap.get?_set, if_neg e])
        (by simp only [State.K, KMap.get?_set]; exact ⟨rfl, rfl, rfl, rfl⟩) ?_ rfl rfl rfl
      · intro b
        simp only [KMap.get?_set, KMap.get?_del]
        split
        · next e =>
          subst e; rw [if_neg hne, l1new, m2, m3]
        · next ne1 =>
          split
          · next e => subst e; rw [if_pos rfl]
          · next ne2 => rw [if_neg (fun x => ne2 x.symm)]
    · show ((s1.live.del (.sh pg h.scan)).set new ⟨l.size, l.val⟩).size = s.live.size
      have e1 : ((s1.live.del (.sh pg h.scan)).get? new).isSome = true := by
        rw [KMap.get?_del, if_neg (fun x => hne x.symm), l1new]; rfl
      have e2 : (s1.live.get? (.sh pg h.scan)).isSome = true := by rw [l1old]; rfl
      have e3 : (s.live.get? new).isSome = false := Bool.eq_false_iff.2 A.fresh
      rw [KMap.size_set, e1, if_pos rfl, KMap.size_del, e2, if_pos rfl, A.live, KMap.size_set, e3]; simp
    · intro q hq2 h1 h2
      simp only [KMap.get?_set] at h1; split at h1
      · next e => exact Or.inl e.symm
      · exact Or.inr (A.evac_old q hq2 h1 h2)
    · intro q hq' h1; simp only [KMap.get?_set] at h1; split at h1
      · next e => subst e; cases h1; exact Or.inl ⟨h, hp, rfl, rfl⟩
      · exact (A.pages q hq' h1).imp_right fun ⟨x1, x2, x3, x4⟩ => ⟨x1, by omega, x3, x4⟩
    · intro o n e
      cases (List.cons.inj e).1
      obtain ⟨np, ni, h', hn, A1, A2, A3⟩ := A.slot
      refine ⟨np, ni, h', hn, ?_, A2, A3⟩
      simp only [KMap.get?_set]; split
      · next e3 => subst e3; rw [hp1] at A1; cases A1; rw [hev] at A2; cases A2
      · exact A1
    · intro q hq ne h1 h2; simp only [KMap.get?_set, if_neg (Ne.symm ne)]; exact A.evac_keep q hq h1 h2
    · refine ⟨h.scan, new, l, hq, A.fresh, by simp only [A.relog], ?_, ?_, ?_, A.mem_old⟩
      · simp only [KMap.get?_set, if_true]
      · simp only [KMap.get?_set, KMap.get?_del, if_neg hne, if_true]
      · intro b b1 b2
        simp only [KMap.get?_set, KMap.get?_del, if_neg b1.symm, if_neg b2.symm]
        rw [A.live, KMap.get?_set, if_neg b1.symm]


theorem foldE_inv {σ α : Type} (P : σ → List α → Prop) (f : σ → α → Except Err σ)
    (hstep : ∀ s a rest s', P s (a :: rest) → f s a = .ok s' → P s' rest) :
    ∀ (l : List α) (s s' : σ), P s l → foldE f s l = .ok s' → P s' [] := by
  intro l
  induction l with
  | nil => intro s s' hp h; simp only [foldE] at h; cases h; exact hp
  | cons a rest ih =>
    intro s s' hp h
    simp only [foldE] at h
    cases hf : f s a with
    | error e => simp [hf] at h
    | ok s1 => simp only [hf] at h; exact ih s1 s' (hstep s a rest s1 hp hf) h

theorem iter_inv {σ : Type} (P : σ → Prop) (f : σ → Except Err σ)
    (hstep : ∀ s s', P s → f s = .ok s' → P s') :
    ∀ (n : Nat) (s s' : σ), P s → iter f n s = .ok s' → P s' := by
  intro n
  induction n with
  | zero => intro s s' hp h; simp only [iter] at h; cases h; exact hp
  | succ n ih =>
    intro s s' hp h
    simp only [iter] at h
    cases hf : f s with
    | error e => simp [hf] at h
    | ok s1 => simp only [hf] at h; exact ih s1 s' (hstep s s1 hp hf) h

/-- invariant while class c is being defragmented: evacuating pages all belong to class c and to E -/
structure DInv (s : State V) (c : Nat) (E : List Nat) : Prop where
  g : InvG s
  allocs : s.allocs = s.live.size
  evac : ∀ q hq, s.pages.get? q = some hq → hq.evac = true → q ∈ E ∧ hq.cls = c

theorem DInv.cls {s : State V} {c : Nat} {E : List Nat} (d : DInv s c E) (pg : Nat) :
    ∀ h, s.pages.get? pg = some h → h.evac = true → h.cls = c :=
  fun h a b => (d.evac pg h a b).2

theorem Inv.dinv {s : State V} (inv : Inv s) (c : Nat) (E : List Nat) : DInv s c E :=
  ⟨inv.g, inv.allocs, fun q hq a b => by rw [inv.noEvac q hq a] at b; cases b⟩

theorem beginEvac_dinv {t t' : State V} {c pg : Nat} {E : List Nat} (dt : DInv t c E) (hin : pg ∈ E)
    (ht : beginEvac t c pg = .ok t') : DInv t' c E := by
  obtain ⟨h, hp, hcl, hev, _⟩ := beginEvac_ok ht
  obtain ⟨_, e, j1, j2, j3, _, j5, _⟩ := beginEvac_invG dt.g hp hcl hev
  rw [ht] at e; cases e
  refine ⟨j1, by rw [j3, j2]; exact dt.allocs, ?_⟩
  intro q hq a b
  rw [j5] at a; split at a
  · next e1 => cases a; exact ⟨e1 ▸ hin, hcl⟩
  · exact dt.evac q hq a b

theorem moveNext_dinv {t t' : State V} {c pg : Nat} {E : List Nat} (hc : c < nClasses)
    (dt : DInv t c E) (ht : moveNext t c pg = .ok t') : DInv t' c E := by
  have A := moveNext_invG dt.g hc (dt.cls pg) ht
  refine ⟨A.inv, by rw [A.allocs, A.size]; exact dt.allocs, ?_⟩
  intro q hq a b
  rcases A.evac_old q hq a b with e | e
  · subst e
    obtain ⟨h0, h0', x1, x2, _, _, _, x6, x7, _⟩ := A.page
    rw [a] at x2; cases x2
    have := dt.evac q h0 x1 x6
    exact ⟨this.1, by rw [x7]; exact this.2⟩
  · exact dt.evac q hq e b

/-- One page of a pass: a property kept by every `moveNext` and by `endEvac` (under the pass invariant) is kept
    by `evacPage`, and the page leaves the list of pages still to be evacuated. -/
theorem evacPage_ind {c : Nat} (hc : c < nClasses) {Q : State V → Prop}
    (hm : ∀ {t t' : State V} {pg : Nat} {E : List Nat}, DInv t c E → Q t → moveNext t c pg = .ok t' → Q t')
    (he : ∀ {t t' : State V} {pg : Nat} {E : List Nat}, DInv t c E → Q t → endEvac t c pg = .ok t' → Q t')
    {s s' : State V} {pg : Nat} {rest : List Nat} (d : DInv s c (pg :: rest)) (q : Q s)
    (hr : evacPage s c pg = .ok s') : DInv s' c rest ∧ Q s' := by
  unfold evacPage at hr
  cases hp : s.pages.get? pg with
  | none => simp [hp] at hr
  | some h =>
  simp only [hp] at hr
  cases hi : iter (fun s => moveNext s c pg) h.brk s with
  | error e => simp [hi] at hr
  | ok s1 =>
  simp only [hi] at hr
  obtain ⟨d1, q1⟩ : DInv s1 c (pg :: rest) ∧ Q s1 :=
    iter_inv (fun s => DInv s c (pg :: rest) ∧ Q s) _
      (fun t t' ⟨dt, qt⟩ ht => ⟨moveNext_dinv hc dt ht, hm dt qt ht⟩) h.brk s s1 ⟨d, q⟩ hi
  obtain ⟨h1, hp1, hsc, hev, hcl, _⟩ := endEvac_ok hr
  obtain ⟨_, e, k1, k2, k3, _, _, k6⟩ := endEvac_invG d1.g hp1 hev hcl hsc
  rw [hr] at e; cases e
  refine ⟨⟨k1, by rw [k3, k2]; exact d1.allocs, ?_⟩, he d1 q1 hr⟩
  intro q hq a b
  rw [k6] at a; split at a
  · cases a
  · next ne =>
    have := d1.evac q hq a b
    exact ⟨(List.mem_cons.1 this.1).resolve_left (fun e => ne e.symm), this.2⟩

theorem evacPage_dinv {s s' : State V} {c pg : Nat} {rest : List Nat} (hc : c < nClasses)
    (d : DInv s c (pg :: rest)) (hr : evacPage s c pg = .ok s') : DInv s' c rest :=
  (evacPage_ind hc (Q := fun _ => True) (fun _ _ _ => trivial) (fun _ _ _ => trivial) d trivial hr).1

theorem relogClear_inv {s : State V} (inv : Inv s) : Inv ({ s with relog := [] } : State V) :=
  ⟨inv.g.frame rfl rfl rfl rfl rfl rfl, inv.allocs, inv.noEvac⟩

/-- A pass over one class: mark the chosen pages (`Q1` kept by `beginEvac`), then evacuate and unmap them (`Q2`
    kept by `moveNext` and `endEvac`); afterwards no page is evacuating any more. -/
theorem defragClass_ind {c : Nat} {ev : List Nat} (hc : c < nClasses) {Q1 Q2 : State V → Prop}
    (h12 : ∀ t, Q1 t → Q2 t)
    (hb : ∀ {t t' : State V} {pg : Nat}, DInv t c ev → Q1 t → beginEvac t c pg = .ok t' → Q1 t')
    (hm : ∀ {t t' : State V} {pg : Nat} {E : List Nat}, DInv t c E → Q2 t → moveNext t c pg = .ok t' → Q2 t')
    (he : ∀ {t t' : State V} {pg : Nat} {E : List Nat}, DInv t c E → Q2 t → endEvac t c pg = .ok t' → Q2 t')
    {s s' : State V} (inv : Inv s) (q : Q1 s) (hr : defragClass s c ev = .ok s') : Inv s' ∧ Q2 s' := by
  unfold defragClass at hr
  simp only [] at hr
  split at hr
  · split at hr
    · cases hr; exact ⟨inv, h12 _ q⟩
    · cases hr
  · split at hr
    · split at hr
      · cases hr; exact ⟨inv, h12 _ q⟩
      · cases hr
    · split at hr
      · cases hr
      · cases h1 : foldE (fun s pg => beginEvac s c pg) s ev with
        | error e => simp [h1] at hr
        | ok s1 =>
          simp only [h1] at hr
          obtain ⟨_, d1, q1⟩ := foldE_inv
            (fun (t : State V) (l : List Nat) => (∀ x, x ∈ l → x ∈ ev) ∧ DInv t c ev ∧ Q1 t)
            (fun s pg => beginEvac s c pg)
            (fun t pg rest t' ⟨hsub, dt, qt⟩ ht => ⟨fun x hx => hsub x (List.mem_cons_of_mem _ hx),
              beginEvac_dinv dt (hsub pg (by simp)) ht, hb dt qt ht⟩)
            ev s s1 ⟨fun _ hx => hx, inv.dinv c ev, q⟩ h1
          obtain ⟨d2, q2⟩ := foldE_inv (fun (t : State V) (l : List Nat) => DInv t c l ∧ Q2 t)
            (fun s pg => evacPage s c pg) (fun t pg rest t' ⟨dt, qt⟩ ht => evacPage_ind hc hm he dt qt ht)
            ev s1 s' ⟨d1, h12 _ q1⟩ hr
          refine ⟨⟨d2.g, d2.allocs, ?_⟩, q2⟩
          exact fun q hq a => Bool.eq_false_iff.2 fun he => List.not_mem_nil (d2.evac q hq a he).1

theorem defragClass_inv {s s' : State V} {c : Nat} {ev : List Nat} (hc : c < nClasses) (inv : Inv s)
    (hr : defragClass s c ev = .ok s') : Inv s' :=
  (defragClass_ind hc (Q1 := fun _ => True) (fun _ h => h) (fun _ _ _ => trivial) (fun _ _ _ => trivial)
    (fun _ _ _ => trivial) inv trivial hr).1

/-- A whole pass: a property kept by every class pass (and holding once the log is cleared) holds at the end. -/
theorem defragAll_ind {Q : State V → Prop}
    (hcl : ∀ {t t' : State V} {c : Nat} {ev : List Nat},
      c < nClasses → Inv t → Q t → defragClass t c ev = .ok t' → Q t')
    {s s' : State V} {ch : List (Nat × List Nat)} (inv : Inv s) (q : Q ({ s with relog := [] } : State V))
    (hr : defragAll s ch = .ok s') : Inv s' ∧ Q s' := by
  unfold defragAll at hr
  refine (foldE_inv (fun (t : State V) (l : List Nat) => (∀ x, x ∈ l → x < nClasses) ∧ Inv t ∧ Q t) _ ?_
    (List.range nClasses) _ s' ⟨fun x hx => List.mem_range.1 hx, relogClear_inv inv, q⟩ hr).2
  intro t c rest t' ⟨hsub, it, qt⟩ ht
  refine ⟨fun x hx => hsub x (List.mem_cons_of_mem _ hx), ?_⟩
  split at ht
  · exact ⟨defragClass_inv (hsub c (by simp)) it ht, hcl (hsub c (by simp)) it qt ht⟩
  · split at ht
    · cases ht; exact ⟨it, qt⟩
    · cases ht

theorem defragAll_inv {s s' : State V} {ch : List (Nat × List Nat)} (inv : Inv s)
    (hr : defragAll s ch = .ok s') : Inv s' :=
  (defragAll_ind (Q := fun _ => True) (fun _ _ _ _ => trivial) inv trivial hr).1


/-! ### what a whole pass does to the live allocations -/

/-- `Chain r a b`: b is reached from a by following logged relocations (old,new) ∈ r -/
inductive Chain (r : List (Addr × Addr)) : Addr → Addr → Prop where
  | refl (a : Addr) : Chain r a a
  | step {a b c : Addr} : (a, b) ∈ r → Chain r b c → Chain r a c

/-- every allocation live in s0 is live in t with the same record, at an address reached through the
    relocation log of t -/
def Moved (s0 t : State V) : Prop :=
  ∀ a l, s0.live.get? a = some l → ∃ a', t.live.get? a' = some l ∧ Chain t.relog a a'

end GocoinV.Alloc
