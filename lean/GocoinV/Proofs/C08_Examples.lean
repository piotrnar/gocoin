/-
  Proofs.C08_Examples — the concrete operands behind the non-vacuity examples of Props/C08: the generator as the Go
  code holds it (`gJ` = SetXY(pre_g[0]), limbs of the embedded table), 3·G, ∞; the first hypothesis of
  `ecmult_mul` (`Props.C08.ecmult_correct_partial`) at A = G, n·G = ∞ (C03's `order_G`; the second, mul_lambda(G) = λ·G, is `gJ_lambda` in
  C08_Api); what `mul_lambda` does to a finite point.
-/
import GocoinV.Proofs.C08_EcmultFull

namespace GocoinV.C08
open GocoinV.Gen GocoinV.Gen.Field5x52 GocoinV.Proofs.C03

/-- G as the Go code holds it: `XYZ.SetXY(&pre_g[0])` (limbs of the embedded table, Z = 1) -/
def gJ : XYZ := XYZ.ofXY (preGXY 0)
/-- 3·G: `XYZ.SetXY(&pre_g[1])` -/
def g3J : XYZ := XYZ.ofXY (preGXY 1)
/-- ∞ (Infinity flag set; the coordinates are whatever was there) -/
def infJ : XYZ := { gJ with inf := true }

theorem preGXY0_RpA : RpA (preGXY 0) Gc := by
  have h := preG_TabA 0 (by decide)
  rwa [show (2 * 0 + 1) • Gc = Gc from one_nsmul Gc] at h

theorem preGXY1_RpA : RpA (preGXY 1) (3 • Gc) := preG_TabA 1 (by decide)

theorem Rp.ofXY {b : XY} {B : CurvePt} (h : RpA b B) : Rp (XYZ.ofXY b) B := by
  obtain ⟨h1, h2⟩ := ofXY_ok b h.1
  exact ⟨h1, h2.trans h.2⟩

theorem Rp.at_G {r : XYZ} {R : CurvePt} (h : Rp r R) (k : Nat) (hk : R = k • Gc) :
    r.ok ∧ r.toPoint = Secp.mul k Secp.G := ⟨h.1, by rw [h.2, hk, ← mul_G]⟩

theorem gJ_Rp : Rp gJ Gc := Rp.ofXY preGXY0_RpA
theorem g3J_Rp : Rp g3J (3 • Gc) := Rp.ofXY preGXY1_RpA
theorem infJ_Rp : Rp infJ 0 := Rp.atInf gJ_Rp.1

theorem gJ_toPoint : gJ.toPoint = Secp.G := gJ_Rp.2
theorem gJ_onC : OnC gJ.toPoint := by rw [gJ_toPoint]; exact Gc.2
theorem gJ_mkPt : mkPt gJ.toPoint gJ_onC = Gc := Subtype.ext gJ_toPoint

/-- hypothesis 1 of `ecmult_mul` at A = G: n·G = ∞ (C03 `order_G`, i.e. `Props.C03.generator_order`.1) -/
theorem gJ_order : ((CurveConsts.order : Nat) : Int) • mkPt gJ.toPoint gJ_onC = 0 := by
  rw [gJ_mkPt, natCast_zsmul]
  exact order_G

/-- what `mul_lambda` makes of a finite point (x, y): (β·x mod p, y) -/
theorem mulLambda_toPoint {a : XYZ} (ha : a.ok) (hi : a.inf = false) {x y : Nat} (h : a.toPoint = some (x, y)) :
    (XYZ.mulLambda a).toPoint = some (CurveConsts.beta * x % Secp.p, y) := by
  have e := (mulLambda_ok ha).2 hi
  rw [XYZ.toPoint_fin hi] at h
  unfold ptF at h e
  simp only [Option.some.injEq, Prod.mk.injEq] at h
  rw [e, ZMod.val_mul, ZMod.val_natCast, h.1, h.2, secp_p_eq, Nat.mod_mul_mod]

/-! ### reference values used by the finite examples (each one kernel evaluation of the Nat reference law) -/

theorem ref_G_add_3G : Secp.add Secp.G (Secp.mul 3 Secp.G) = Secp.mul 4 Secp.G ∧ Secp.mul 4 Secp.G ≠ none ∧
    Secp.mul 3 Secp.G ≠ Secp.G := by decide +kernel
theorem ref_G_add_G : Secp.add Secp.G Secp.G = Secp.dbl Secp.G ∧ Secp.dbl Secp.G = Secp.mul 2 Secp.G ∧
    Secp.mul 2 Secp.G ≠ none := by decide +kernel
theorem ref_G_add_negG : Secp.add Secp.G (Secp.neg Secp.G) = none ∧ Secp.neg Secp.G ≠ Secp.G := by decide +kernel

theorem g3J_toPoint : g3J.toPoint = Secp.mul 3 Secp.G := by
  rw [g3J_Rp.2, ← mul_G]

end GocoinV.C08
