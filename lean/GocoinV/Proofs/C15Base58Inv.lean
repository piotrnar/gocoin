/-
  Proofs.C15Base58Inv — `Decodeb58` then `Encodeb58` (lib/btc/addr.go) returns every accepted string, hence `Decodeb58`
  is injective on what it accepts.
-/
import GocoinV.Proofs.C15Base58
namespace GocoinV.Base58
open Gen.Base58Consts

theorem chr2int_inv (c : UInt8) (d : Nat) (h : chr2int c = some d) : d < 58 ∧ digitChar d = c := by
  unfold chr2int at h
  simp only at h
  split at h
  · rename_i hlt
    obtain rfl := Option.some.inj h
    exact ⟨hlt, by simpa [digitChar, List.getElem?_eq_getElem hlt] using List.findIdx_getElem (w := hlt)⟩
  · cases h

theorem value?_digits (s : Bytes) : ∀ acc v, value? s acc = some v →
    ∃ ds : List Nat, (∀ d ∈ ds, d < 58) ∧ s = ds.map digitChar := by
  induction s with
  | nil => intro _ _ _; exact ⟨[], by simp, rfl⟩
  | cons c t ih =>
    intro acc v h
    unfold value? at h
    cases hc : chr2int c with
    | none => simp [hc] at h
    | some d =>
      simp only [hc] at h
      obtain ⟨ds, h1, h2⟩ := ih _ _ h
      obtain ⟨hd, he⟩ := chr2int_inv c d hc
      exact ⟨d :: ds, List.forall_mem_cons.mpr ⟨hd, h1⟩, by simp [he, h2]⟩

theorem digits_ofDigits (ds : List Nat) : ∀ acc, (∀ d ∈ ds, d < 58) →
    (acc ≠ 0 ∨ ∀ d t, ds = d :: t → d ≠ 0) → digits (ofDigits ds acc) = digits acc ++ ds := by
  induction ds with
  | nil => intro acc _ _; simp [ofDigits]
  | cons d t ih =>
    intro acc hlt hnz
    obtain ⟨hd, ht⟩ := List.forall_mem_cons.mp hlt
    have hne : acc * 58 + d ≠ 0 := by
      rcases hnz with h | h
      · omega
      · have := h d t rfl; omega
    simp only [ofDigits]
    rw [ih (acc * 58 + d) ht (Or.inl hne), digits_pos _ hne,
      show (acc * 58 + d) / 58 = acc by omega, show (acc * 58 + d) % 58 = d by omega]
    simp

theorem natBytes_head_ne_zero (n : Nat) : ∀ x t, natBytes n = x :: t → x ≠ 0 := by
  intro x t h
  have e := natBytes_beVal (natBytes n)
  rw [beVal_natBytes, h] at e
  simpa using dropWhile_head_false _ _ _ _ e.symm

theorem encode_decode (s pkb : Bytes) (h : decode s = some pkb) : encode pkb = s := by
  unfold decode at h
  cases hv : value? s 0 with
  | none => simp [hv] at h
  | some bn =>
    simp only [hv] at h
    split at h
    · simp at h
    simp only [Option.some.injEq] at h
    have hsplit := replicate_takeWhile_dropWhile (digitChar 0) s
    generalize (s.takeWhile (· == digitChar 0)).length = i at h hsplit
    generalize hrest : s.dropWhile (· == digitChar 0) = rest at hsplit
    rw [← hsplit, value?_replicate_zero] at hv
    obtain ⟨ds, hlt, hds⟩ := value?_digits rest 0 bn hv
    have hbn : bn = ofDigits ds 0 := by
      rw [hds, value?_map ds hlt] at hv
      exact (Option.some.inj hv).symm
    have hhead : ∀ d t, ds = d :: t → d ≠ 0 := by
      intro d t hdt hd0
      subst hdt; subst hd0
      have := dropWhile_head_false _ s _ _ (hrest.trans hds)
      simp at this
    have hdig : digits bn = ds := by
      rw [hbn, digits_ofDigits ds 0 hlt (Or.inr hhead), digits_zero]; rfl
    subst h
    unfold encode
    have hlz : leadingZeros (List.replicate i (0 : UInt8) ++ natBytes bn) = i :=
      takeWhile_replicate_append 0 i _ (natBytes_head_ne_zero bn)
    rw [hlz, beVal_zeros_append, beVal_natBytes, hdig, ← hds]
    exact hsplit

theorem decode_inj (s t pkb : Bytes) (hs : decode s = some pkb) (ht : decode t = some pkb) : s = t := by
  rw [← encode_decode s pkb hs, ← encode_decode t pkb ht]

end GocoinV.Base58
