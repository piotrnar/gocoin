/-
  Proofs.C17Disk — round trip of the balance index's disk cache (client/wallet/disk.go, Model.BalancesDisk).
-/
import GocoinV.Proofs.C17
import GocoinV.Model.BalancesDisk
import GocoinV.Proofs.C10Rec
import GocoinV.Proofs.C10Snap
namespace GocoinV.Proofs.C17Disk
open GocoinV GocoinV.CompactSize GocoinV.Model.Balances GocoinV.Model.BalancesDisk GocoinV.Proofs.C17

theorem mkByte_toNat (n : Nat) (first : Bool) : (mkByte n first).toNat = n % 128 + (if first then 0 else 128) := by
  unfold mkByte
  cases first <;> simp <;> omega

theorem wvi_acc : ∀ (f n : Nat) (first : Bool) (acc : Bytes), wvi f n first acc = wvi f n first [] ++ acc := by
  intro f
  induction f with
  | zero => intro n first acc; simp [wvi]
  | succ f ih =>
    intro n first acc
    simp only [wvi]
    split
    · simp
    · rw [ih _ _ (mkByte n first :: acc), ih _ _ [mkByte n first]]; simp

/-- reading one byte written for `n` with the higher digits `n / 128` already accumulated: the last byte ends the number,
    a continuation byte leaves the accumulator at `n + 1` -/
theorem rvi_byte (n : Nat) (first : Bool) (acc : Bytes) (h : n + (if first then 0 else 1) < U64) :
    rvi (n / 128) (mkByte n first :: acc) = if first then some (n, acc) else rvi (n + 1) acc := by
  have h0 : (n / 128 * 128) % U64 = n / 128 * 128 := Nat.mod_eq_of_lt (by omega)
  cases first <;> simp only [rvi, mkByte_toNat, h0, Bool.false_eq_true, ↓reduceIte] at h ⊢
  · rw [if_pos (by omega), Nat.mod_eq_of_lt (by omega)]; congr 1; omega
  · rw [if_neg (by omega)]; congr 2; omega

theorem rvi_wvi : ∀ (f n : Nat) (first : Bool) (acc : Bytes), n < 128 ^ (f + 1) → n + (if first then 0 else 1) < U64 →
    rvi 0 (wvi f n first acc) = if first then some (n, acc) else rvi (n + 1) acc := by
  intro f
  induction f with
  | zero =>
    intro n first acc hn hu
    have := rvi_byte n first acc hu
    rwa [Nat.div_eq_of_lt (by simpa using hn)] at this
  | succ f ih =>
    intro n first acc hn hu
    simp only [wvi]
    split
    · have := rvi_byte n first acc hu
      rwa [Nat.div_eq_of_lt (by omega)] at this
    · rw [ih (n / 128 - 1) false _ (by rw [Nat.pow_succ] at hn; omega) (by simp only [Bool.false_eq_true, ↓reduceIte]; omega)]
      simp only [Bool.false_eq_true, ↓reduceIte]
      rw [show n / 128 - 1 + 1 = n / 128 by omega]
      exact rvi_byte n first acc hu

theorem readVarInt_writeVarInt (n : Nat) (h : n < U64) (rest : Bytes) :
    readVarInt (writeVarInt n ++ rest) = some (n, rest) := by
  unfold readVarInt writeVarInt
  rw [← wvi_acc]
  exact rvi_wvi 10 n true rest (by unfold U64 at h; omega) (by simpa using h)

/-- an entry the Go types can hold: 8 key bytes, uint32 vout -/
def WFInp (i : Inp) : Prop := i.1.length = 8 ∧ i.2 < 2 ^ 32

theorem split12 (a c r : Bytes) (ha : a.length = 8) (hc : c.length = 4) :
    (a ++ (c ++ r)).take 8 = a ∧ ((a ++ (c ++ r)).drop 8).take 4 = c ∧ (a ++ (c ++ r)).drop 12 = r := by
  refine ⟨List.take_left' ha, by rw [List.drop_left' ha, List.take_left' hc], ?_⟩
  rw [show 12 = 8 + 4 from rfl, ← List.drop_drop, List.drop_left' ha, List.drop_left' hc]

theorem readInps_enc (l : List Inp) (h : ∀ i ∈ l, WFInp i) (rest : Bytes) :
    readInps l.length ((l.map encInp).flatten ++ rest) = some (l, rest) := by
  induction l with
  | nil => simp [readInps]
  | cons i t ih =>
    obtain ⟨h8, hv⟩ := h i (by simp)
    have ht := ih (fun j hj => h j (List.mem_cons_of_mem _ hj))
    have hl4 : (leBytes 4 i.2).length = 4 := by simp [leBytes_length]
    obtain ⟨e0, e1, e2⟩ := split12 i.1 (leBytes 4 i.2) ((t.map encInp).flatten ++ rest) h8 hl4
    have hs : shorter (i.1 ++ (leBytes 4 i.2 ++ ((t.map encInp).flatten ++ rest))) 12 = false :=
      (shorter_false_iff _ _).mpr (by simp only [List.length_append, h8, hl4]; omega)
    have hvv : leVal (leBytes 4 i.2) = i.2 := leVal_leBytes_of_lt 4 i.2 (by omega)
    have hi : encInp i = i.1 ++ leBytes 4 i.2 := rfl
    simp only [List.length_cons, List.map_cons, List.flatten_cons, readInps, hi, List.append_assoc,
      hs, Bool.false_eq_true, ↓reduceIte, e2, ht, e0, e1, hvv]

/-- a record of the index as the invariant keeps it and the Go types can hold it -/
structure WFBal (b : Bal) : Prop where
  ne : b.unsp ≠ []
  len : b.unsp.length < U64
  inps : ∀ i ∈ b.unsp, WFInp i
  val : b.value < 2 ^ 64
  amt : AmountCompress.compressExact b.value < 2 ^ 64
  nodup : b.unsp.Nodup

/-- the record after a reload: same Value, same entries; the layout is re-chosen by `count >= useMapCnt` -/
def norm (um : Nat) (b : Bal) : Bal := { value := b.value, unsp := b.unsp, isMap := decide (um ≤ b.unsp.length) }

theorem newAddrBal_save (um : Nat) (b : Bal) (h : WFBal b) (rest : Bytes) :
    newAddrBal um (writeVarInt (AmountCompress.compress b.value) ++
      (writeVarInt b.unsp.length ++ ((b.unsp.map encInp).flatten ++ rest))) = (some (norm um b), rest) := by
  obtain ⟨hcv, hrt⟩ := UtxoRec.amount_rt b.value h.val h.amt
  have hne : b.unsp.length ≠ 0 := fun e => h.ne (List.eq_nil_of_length_eq_zero e)
  unfold newAddrBal
  rw [readVarInt_writeVarInt _ hcv]
  simp only []
  rw [readVarInt_writeVarInt _ h.len]
  simp only [hne, ↓reduceIte, readInps_enc b.unsp h.inps rest, hrt]
  unfold norm
  by_cases hm : um ≤ b.unsp.length
  · simp [hm, mapOfList_nodup h.nodup]
  · simp [hm]

theorem saveRec_wf (key : Nat) (b : Bal) (h : WFBal b) :
    saveRec key b = leBytes 8 key ++ (writeVarInt (AmountCompress.compress b.value) ++
      (writeVarInt b.unsp.length ++ (b.unsp.map encInp).flatten)) := by
  unfold saveRec
  simp [h.ne]

theorem loadRecs_save (um : Nat) (m : List (Nat × Bal)) (hk : ∀ p ∈ m, p.1 < 2 ^ 64 ∧ WFBal p.2) (extra : Bytes) :
    loadRecs um m.length ((m.map (fun p => saveRec p.1 p.2)).flatten ++ extra)
      = some (m.map (fun p => (p.1, some (norm um p.2)))) := by
  induction m with
  | nil => simp [loadRecs]
  | cons p t ih =>
    obtain ⟨hkey, hb⟩ := hk p (by simp)
    have ht := ih (fun q hq => hk q (List.mem_cons_of_mem _ hq))
    have h8 : (leBytes 8 p.1).length = 8 := by simp [leBytes_length]
    simp only [List.length_cons, List.map_cons, List.flatten_cons, loadRecs, saveRec_wf p.1 p.2 hb, List.append_assoc]
    have hs : ∀ r : Bytes, shorter (leBytes 8 p.1 ++ r) 8 = false := fun r =>
      (shorter_false_iff _ _).mpr (by simp only [List.length_append, h8]; omega)
    have e0 : ∀ r : Bytes, (leBytes 8 p.1 ++ r).take 8 = leBytes 8 p.1 := fun _ => List.take_left' h8
    have e1 : ∀ r : Bytes, (leBytes 8 p.1 ++ r).drop 8 = r := fun _ => List.drop_left' h8
    have hv : leVal (leBytes 8 p.1) = p.1 := leVal_leBytes_of_lt 8 p.1 (by simpa using hkey)
    simp only [hs, Bool.false_eq_true, ↓reduceIte, e0, e1, hv, newAddrBal_save um p.2 hb, ht]

/-- save_map then load_map: the pairs come back in file order with the same key, Value and entries -/
theorem loadPairs_saveMap (um : Nat) (m : List (Nat × Bal)) (hl : m.length < 2 ^ 64)
    (hk : ∀ p ∈ m, p.1 < 2 ^ 64 ∧ WFBal p.2) (extra : Bytes) :
    loadPairs um (saveMap m ++ extra) = some (m.map (fun p => (p.1, some (norm um p.2)))) := by
  unfold loadPairs saveMap
  rw [List.append_assoc, UtxoRec.readVLen_putULe m.length hl]
  exact loadRecs_save um m hk extra

/-! ### the history event `.reload` (Model.Balances.relayout) is this round trip -/

/-- the record as `OneAllAddrBal.Save` writes it: a map record's entries in Go's iteration order -/
def asSaved (ord : List Inp) (b : Bal) : Bal := { b with unsp := savedOrder ord b }

theorem wfBal_asSaved (ord : List Inp) (b : Bal) (h : WFBal b) : WFBal (asSaved ord b) := by
  have hp := GocoinV.Proofs.C17.savedOrder_perm ord b
  refine ⟨?_, ?_, ?_, h.val, h.amt, (hp.nodup_iff).2 h.nodup⟩
  · intro (e : savedOrder ord b = [])
    exact h.ne (e ▸ hp).symm.eq_nil
  · show (savedOrder ord b).length < U64
    rw [hp.length_eq]; exact h.len
  · intro i hi
    exact h.inps i ((hp.mem_iff).1 hi)

theorem norm_asSaved (um : Nat) (ord : List Inp) (b : Bal) (h : b.unsp.Nodup) :
    norm um (asSaved ord b) = relayout um ord b := by
  have hp := GocoinV.Proofs.C17.savedOrder_perm ord b
  have hn : (savedOrder ord b).Nodup := (hp.nodup_iff).2 h
  unfold norm asSaved relayout
  by_cases hle : um ≤ (savedOrder ord b).length
  · simp only [hle, decide_true, if_true, GocoinV.Proofs.C17.mapOfList_nodup hn]
  · simp only [hle, decide_false, if_false]

/-- every record of a file that `load_map` accepts is a real record (no nil pointer is stored) -/
theorem loadRecs_all_some (um : Nat) : ∀ (n : Nat) (b : Bytes) (l : List (Nat × Option Bal)),
    loadRecs um n b = some l → l.length = n ∧ ∀ p ∈ l, p.2.isSome = true := by
  intro n
  induction n with
  | zero => intro b l h; simp [loadRecs] at h; subst h; simp
  | succ n ih =>
    intro b l h
    simp only [loadRecs] at h
    split at h
    · cases h
    · split at h
      · cases h
      · rename_i ob r x heq
        split at h
        · cases h
        · rename_i l' hl'
          simp only [Option.some.injEq] at h
          subst h
          obtain ⟨hlen, hall⟩ := ih _ _ hl'
          refine ⟨by simp [hlen], ?_⟩
          exact List.forall_mem_cons.2 ⟨by simp [heq], hall⟩

theorem loadAll_some (um : Nat) : ∀ (fs : List (Option Bytes)) (ls : List (List (Nat × Option Bal))),
    GocoinV.Model.BalancesDisk.loadAll um fs = some ls →
      ls.length = fs.length ∧ (∀ f ∈ fs, ∃ b, f = some b ∧ (loadPairs um b).isSome = true) ∧ ∀ l ∈ ls, ∀ p ∈ l, p.2.isSome = true := by
  intro fs
  induction fs with
  | nil => intro ls h; simp [GocoinV.Model.BalancesDisk.loadAll] at h; subst h; simp
  | cons f rest ih =>
    intro ls h
    cases f with
    | none => simp [GocoinV.Model.BalancesDisk.loadAll] at h
    | some b =>
      simp only [GocoinV.Model.BalancesDisk.loadAll] at h
      split at h
      · cases h
      · rename_i l hl
        split at h
        · cases h
        · rename_i ls' hls'
          simp only [Option.some.injEq] at h
          subst h
          obtain ⟨h1, h2, h3⟩ := ih _ hls'
          refine ⟨by simp [h1], ?_, ?_⟩
          · exact List.forall_mem_cons.2 ⟨⟨b, rfl, by simp [hl]⟩, h2⟩
          · refine List.forall_mem_cons.2 ⟨fun p hp => ?_, h3⟩
            have hl2 : loadPairs um b = some l := hl
            unfold loadPairs at hl2
            split at hl2
            · cases hl2
            · exact (loadRecs_all_some um _ _ _ hl2).2 p (List.mem_reverse.mp hp)

theorem loadAll_none_of (um : Nat) : ∀ (fs : List (Option Bytes)),
    (∃ f ∈ fs, f = none ∨ ∃ b, f = some b ∧ loadPairs um b = none) → GocoinV.Model.BalancesDisk.loadAll um fs = none := by
  intro fs
  induction fs with
  | nil => rintro ⟨f, hf, _⟩; cases hf
  | cons g rest ih =>
    rintro ⟨f, hf, hbad⟩
    cases g with
    | none => rfl
    | some b =>
      simp only [GocoinV.Model.BalancesDisk.loadAll]
      cases hb : loadPairs um b with
      | none => rfl
      | some l =>
        rcases List.mem_cons.mp hf with rfl | hf
        · rcases hbad with h | ⟨b', h1, h2⟩
          · cases h
          · cases h1; rw [hb] at h2; cases h2
        · rw [ih ⟨f, hf, hbad⟩]

end GocoinV.Proofs.C17Disk
