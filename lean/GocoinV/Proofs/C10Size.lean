/-
  Proofs.C10Size — the length `le` computed by the first loop of Serialize equals the number of bytes
  the second loop writes (no slack, no out-of-range write into the allocated buffer).
-/
import GocoinV.Proofs.C10Rec
namespace GocoinV.UtxoRec
open GocoinV.CompactSize GocoinV.ScriptCompress

theorem sizeOutsU_eq (outs : List (Option Out)) : ∀ i, sizeOutsU i outs = (encOutsU i outs).length := by
  induction outs with
  | nil => intro i; rfl
  | cons o t ih =>
    intro i
    cases o with
    | none => simp [sizeOutsU, encOutsU, ih]
    | some x => simp [sizeOutsU, encOutsU, ih, putULe_length]; omega

theorem sizeScrC_eq (K : KeyOps) (pk : Bytes) : sizeScrC K pk = (encScrC K pk).length := by
  unfold sizeScrC encScrC
  cases compress K pk <;> simp [putULe_length]

theorem sizeOutsC_eq (K : KeyOps) (outs : List (Option Out)) :
    ∀ i, sizeOutsC K i outs = (encOutsC K i outs).length := by
  induction outs with
  | nil => intro i; rfl
  | cons o t ih =>
    intro i
    cases o with
    | none => simp [sizeOutsC, encOutsC, ih]
    | some x => simp [sizeOutsC, encOutsC, ih, putULe_length, sizeScrC_eq]; omega

theorem sizeU_eq (r : Rec) (ht : r.txid.length = 32) (b : Bytes) (hs : serializeU r = some b) :
    b.length = sizeU r := by
  unfold serializeU at hs
  split at hs
  · injection hs with hs; subst hs
    simp [sizeU, sizeOutsU_eq, putULe_length, ht]; omega
  · simp at hs

theorem sizeC_eq (K : KeyOps) (r : Rec) (ht : r.txid.length = 32) (b : Bytes)
    (hs : serializeC K r = some b) : b.length = sizeC K r := by
  unfold serializeC at hs
  split at hs
  · injection hs with hs; subst hs
    simp [sizeC, sizeOutsC_eq, putULe_length, ht]; omega
  · simp at hs

end GocoinV.UtxoRec
