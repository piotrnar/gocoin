/-
  Proofs.C12ChainFold — the folds of the model's own chain simulation (`connectUtxo` / `disconnectUtxo` of
  Model/Mempool), characterised pointwise through `AList.get?` (helper lemmas for Proofs/C12Chain).
  Core Lean only.  Nothing here depends on the pool side of the state.
-/
import GocoinV.Proofs.C12Block
namespace GocoinV.Mempool

/-- the coins a block spent, as `connectUtxo` records them on the undo stack (outpoint, coin) -/
abbrev SC := List ((TxId × Nat) × Coin)

/-! ### the loops of `connectUtxo`, named -/

/-- one input of a block transaction: if the coin is there, delete it and record it -/
def spendStep (acc : UT × SC) (i : TxIn) : UT × SC :=
  match acc.1.get? (i.prev, i.vout) with
  | some c => (acc.1.del (i.prev, i.vout), ((i.prev, i.vout), c) :: acc.2)
  | none => acc

/-- the outputs of a block transaction -/
def createOuts (h : Nat) (t : Tx) (u : UT) : UT :=
  (iota t.outs.length).foldl (fun u v => u.set (t.id, v) ⟨t.outs.getD v 0, h, false⟩) u

/-- one block transaction: spend the inputs, create the outputs -/
def connTx (h : Nat) (acc : UT × SC) (t : Tx) : UT × SC :=
  ((createOuts h t (t.ins.foldl spendStep acc).1), (t.ins.foldl spendStep acc).2)

def connFold (h : Nat) (u : UT) (txs : List Tx) : UT × SC := txs.foldl (connTx h) (u, [])

theorem spendStep_eq : (fun (acc : UT × SC) (i : TxIn) =>
      let (u, sc) := acc
      match u.get? (i.prev, i.vout) with
      | some c => (u.del (i.prev, i.vout), ((i.prev, i.vout), c) :: sc)
      | none => (u, sc)) = spendStep := by
  funext acc i
  obtain ⟨u, sc⟩ := acc
  simp only [spendStep]

theorem connTx_eq (h : Nat) : (fun (acc : UT × SC) (t : Tx) =>
      let (u, sc) := acc
      let (u, sc) := t.ins.foldl (fun (acc : UT × SC) i =>
        let (u, sc) := acc
        match u.get? (i.prev, i.vout) with
        | some c => (u.del (i.prev, i.vout), ((i.prev, i.vout), c) :: sc)
        | none => (u, sc)) (u, sc)
      let u := (iota t.outs.length).foldl (fun u v => u.set (t.id, v) ⟨t.outs.getD v 0, h, false⟩) u
      (u, sc)) = connTx h := by
  funext acc t
  obtain ⟨u, sc⟩ := acc
  rfl

theorem connectUtxo_eq (s : State) (h : Nat) (txs : List Tx) :
    connectUtxo s h txs =
      { s with utxo := (connFold h s.utxo txs).1, undo := (txs, (connFold h s.utxo txs).2) :: s.undo } := by
  rfl

/-! ### the loops of `disconnectUtxo`, named -/

def restoreSC (sc : SC) (u : UT) : UT := sc.foldl (fun u p => u.set p.1 p.2) u

def delOuts (t : Tx) (u : UT) : UT := (iota t.outs.length).foldl (fun u v => u.del (t.id, v)) u

def delCreated (txs : List Tx) (u : UT) : UT := txs.foldl (fun u t => delOuts t u) u

theorem disconnectUtxo_eq (s : State) :
    disconnectUtxo s = match s.undo with
      | [] => none
      | (txs, sc) :: rest => some ({ s with utxo := delCreated txs (restoreSC sc s.utxo), undo := rest }, txs) := rfl

/-! ### membership forms -/

theorem mem_inOps (t : Tx) (o : OutPoint) : o ∈ t.inOps ↔ ∃ i ∈ t.ins, (i.prev, i.vout) = o := by
  simp [Tx.inOps, TxIn.op, List.mem_map]

theorem spentBy_cons (X : Tx) (D : List Tx) (o : OutPoint) : spentBy (X :: D) o ↔ o ∈ X.inOps ∨ spentBy D o := by
  rw [mem_inOps]
  unfold spentBy
  constructor
  · rintro ⟨t, ht, h⟩
    rcases List.mem_cons.mp ht with e | e
    · rw [e] at h; exact Or.inl h
    · exact Or.inr ⟨t, e, h⟩
  · rintro (h | ⟨t, ht, h⟩)
    · exact ⟨X, List.mem_cons_self, h⟩
    · exact ⟨t, List.mem_cons_of_mem _ ht, h⟩

theorem spentBy_nil (o : OutPoint) : ¬ spentBy [] o := by rintro ⟨t, ht, _⟩; cases ht
theorem createdBy_nil (o : OutPoint) : ¬ createdBy [] o := by rintro ⟨t, ht, _⟩; cases ht

/-! ### spending the inputs -/

theorem spendStep_get (acc : UT × SC) (i : TxIn) (o : OutPoint) :
    (spendStep acc i).1.get? o = if o = (i.prev, i.vout) then none else acc.1.get? o := by
  unfold spendStep
  split
  · exact AList.get?_del _ _ _
  · rename_i hn
    by_cases e : o = (i.prev, i.vout)
    · rw [if_pos e, e]; exact hn
    · rw [if_neg e]

theorem spendStep_mem (acc : UT × SC) (i : TxIn) (p : OutPoint × Coin) :
    p ∈ (spendStep acc i).2 ↔ p ∈ acc.2 ∨ (p.1 = (i.prev, i.vout) ∧ acc.1.get? p.1 = some p.2) := by
  unfold spendStep
  split
  · rename_i c hc
    simp only [List.mem_cons]
    constructor
    · rintro (e | e)
      · right; rw [e]; exact ⟨rfl, hc⟩
      · exact Or.inl e
    · rintro (e | ⟨e1, e2⟩)
      · exact Or.inr e
      · left
        rw [e1, hc] at e2
        obtain ⟨a, b⟩ := p
        simp only at e1 e2 ⊢
        rw [e1, Option.some.inj e2]
  · rename_i hn
    constructor
    · exact Or.inl
    · rintro (e | ⟨e1, e2⟩)
      · exact e
      · rw [e1, hn] at e2; cases e2

theorem spendFold_get : ∀ (ins : List TxIn) (acc : UT × SC) (o : OutPoint),
    (ins.foldl spendStep acc).1.get? o = if o ∈ ins.map TxIn.op then none else acc.1.get? o := by
  intro ins
  induction ins with
  | nil => intro acc o; simp
  | cons i r ih =>
    intro acc o
    simp only [List.foldl_cons, List.map_cons, List.mem_cons]
    rw [ih, spendStep_get]
    by_cases e1 : o ∈ r.map TxIn.op
    · simp [e1]
    · by_cases e2 : o = (i.prev, i.vout)
      · simp [e2, TxIn.op]
      · have : ¬ o = i.op := e2
        simp [e1, e2, this]

theorem spendFold_mem : ∀ (ins : List TxIn) (acc : UT × SC) (p : OutPoint × Coin),
    p ∈ (ins.foldl spendStep acc).2 ↔ p ∈ acc.2 ∨ (p.1 ∈ ins.map TxIn.op ∧ acc.1.get? p.1 = some p.2) := by
  intro ins
  induction ins with
  | nil => intro acc p; simp
  | cons i r ih =>
    intro acc p
    simp only [List.foldl_cons, List.map_cons, List.mem_cons]
    rw [ih, spendStep_mem, spendStep_get]
    have hop : i.op = (i.prev, i.vout) := rfl
    rw [hop]
    by_cases e : p.1 = (i.prev, i.vout)
    · simp only [e, if_true, true_and, true_or]
      exact or_iff_left fun h => by cases h.2
    · simp only [e, if_false, false_and, or_false, false_or]

/-! ### creating the outputs -/

theorem setOuts_get (t : Tx) (h : Nat) : ∀ (l : List Nat) (u : UT) (o : OutPoint),
    (l.foldl (fun u v => u.set (t.id, v) ⟨t.outs.getD v 0, h, false⟩) u).get? o =
      if o.1 = t.id ∧ o.2 ∈ l then some ⟨t.outs.getD o.2 0, h, false⟩ else u.get? o := by
  intro l
  induction l with
  | nil => intro u o; simp
  | cons v r ih =>
    intro u o
    simp only [List.foldl_cons, List.mem_cons]
    rw [ih]
    by_cases e1 : o.1 = t.id ∧ o.2 ∈ r
    · simp [e1]
    · rw [if_neg e1]
      by_cases e2 : o = (t.id, v)
      · rw [e2, AList.get?_set_self]; simp
      · rw [AList.get?_set_other _ _ _ _ e2]
        have : ¬ (o.1 = t.id ∧ (o.2 = v ∨ o.2 ∈ r)) := by
          rintro ⟨a, b | b⟩
          · exact e2 (by obtain ⟨x, y⟩ := o; simp only at a b; rw [a, b])
          · exact e1 ⟨a, b⟩
        rw [if_neg this]

theorem createOuts_get (h : Nat) (t : Tx) (u : UT) (o : OutPoint) :
    (createOuts h t u).get? o =
      if o.1 = t.id ∧ o.2 < t.outs.length then some ⟨t.outs.getD o.2 0, h, false⟩ else u.get? o := by
  unfold createOuts iota
  rw [setOuts_get]
  simp only [List.mem_range]

theorem connTx_get (h : Nat) (acc : UT × SC) (t : Tx) (o : OutPoint) :
    (connTx h acc t).1.get? o =
      if o.1 = t.id ∧ o.2 < t.outs.length then some ⟨t.outs.getD o.2 0, h, false⟩
      else if o ∈ t.inOps then none else acc.1.get? o := by
  unfold connTx
  simp only
  rw [createOuts_get, spendFold_get]
  rfl

theorem connTx_mem (h : Nat) (acc : UT × SC) (t : Tx) (p : OutPoint × Coin) :
    p ∈ (connTx h acc t).2 ↔ p ∈ acc.2 ∨ (p.1 ∈ t.inOps ∧ acc.1.get? p.1 = some p.2) := by
  unfold connTx
  simp only
  rw [spendFold_mem]
  rfl

/-! ### restoring and deleting -/

theorem restoreSC_get : ∀ (sc : SC) (u : UT) (o : OutPoint),
    (∃ c, (o, c) ∈ sc ∧ (restoreSC sc u).get? o = some c) ∨
    ((∀ c, (o, c) ∉ sc) ∧ (restoreSC sc u).get? o = u.get? o) := by
  intro sc
  induction sc with
  | nil => intro u o; right; exact ⟨fun c h => (by cases h), rfl⟩
  | cons p r ih =>
    intro u o
    rcases ih (u.set p.1 p.2) o with ⟨c, hc, hg⟩ | ⟨hn, hg⟩
    · exact Or.inl ⟨c, List.mem_cons_of_mem _ hc, hg⟩
    · by_cases e : o = p.1
      · left
        refine ⟨p.2, ?_, hg.trans ?_⟩
        · rw [e]; exact List.mem_cons_self
        · rw [e, AList.get?_set_self]
      · right
        refine ⟨?_, hg.trans (AList.get?_set_other _ _ _ _ e)⟩
        intro c hc
        rcases List.mem_cons.mp hc with h1 | h1
        · exact e (by rw [← h1])
        · exact hn c h1

theorem delList_get (id : TxId) : ∀ (l : List Nat) (u : UT) (o : OutPoint),
    (l.foldl (fun u v => u.del (id, v)) u).get? o = if o.1 = id ∧ o.2 ∈ l then none else u.get? o := by
  intro l
  induction l with
  | nil => intro u o; simp
  | cons v r ih =>
    intro u o
    simp only [List.foldl_cons, List.mem_cons]
    rw [ih]
    by_cases e1 : o.1 = id ∧ o.2 ∈ r
    · simp [e1]
    · rw [if_neg e1]
      by_cases e2 : o = (id, v)
      · rw [e2, AList.get?_del_self]; simp
      · rw [AList.get?_del_other _ _ _ e2]
        have : ¬ (o.1 = id ∧ (o.2 = v ∨ o.2 ∈ r)) := by
          rintro ⟨a, b | b⟩
          · exact e2 (by obtain ⟨x, y⟩ := o; simp only at a b; rw [a, b])
          · exact e1 ⟨a, b⟩
        rw [if_neg this]

theorem delOuts_get (t : Tx) (u : UT) (o : OutPoint) :
    (delOuts t u).get? o = if o.1 = t.id ∧ o.2 < t.outs.length then none else u.get? o := by
  unfold delOuts iota
  rw [delList_get]
  simp only [List.mem_range]

theorem delCreated_get : ∀ (txs : List Tx) (u : UT) (o : OutPoint),
    (createdBy txs o → (delCreated txs u).get? o = none) ∧
    (¬ createdBy txs o → (delCreated txs u).get? o = u.get? o) := by
  intro txs
  induction txs with
  | nil => intro u o; exact ⟨fun h => absurd h (createdBy_nil o), fun _ => rfl⟩
  | cons t r ih =>
    intro u o
    obtain ⟨i1, i2⟩ := ih (delOuts t u) o
    constructor
    · intro hc
      by_cases hr : createdBy r o
      · exact i1 hr
      · refine (i2 hr).trans ?_
        rw [delOuts_get, if_pos (((createdBy_cons t r o).mp hc).resolve_right hr)]
    · intro hc
      obtain ⟨ht, hr⟩ := not_or.mp (mt (createdBy_cons t r o).mpr hc)
      refine (i2 hr).trans ?_
      rw [delOuts_get, if_neg ht]

end GocoinV.Mempool
