/-
  Proofs.C03Der — `Signature.Bytes` writes canonical (BIP66 strict) DER for 0 < r, s < 2^256 and
  `Signature.ParseBytes` reads the two integers back. Core Lean only.
-/
import GocoinV.Proofs.C03
namespace GocoinV.Proofs.C03
open GocoinV GocoinV.Model GocoinV.Model.Sig GocoinV.Spec.Ecdsa

theorem natBytes_spec (v : Nat) (h0 : 0 < v) (hv : v < 2 ^ 256) :
    ∃ b bs, natBytes v = b :: bs ∧ b ≠ 0 ∧ bs.length < 32 ∧ beVal (b :: bs) = v := by
  have hval : beVal (natBytes v) = v := by
    unfold natBytes
    rw [beVal_dropWhile_zero, beVal_beBytes_of_lt]
    exact Nat.lt_of_lt_of_le hv (by decide)
  match hn : natBytes v with
  | [] => rw [hn] at hval; simp [beVal, leVal] at hval; omega
  | b :: bs =>
    rw [hn] at hval
    have hb : b ≠ 0 := by
      have hne : (beBytes 40 v).dropWhile (· == 0) ≠ [] := by
        unfold natBytes at hn; rw [hn]; simp
      have := List.head_dropWhile_not (· == 0) hne
      unfold natBytes at hn
      simp only [hn, List.head_cons, beq_eq_false_iff_ne, ne_eq] at this
      exact this
    refine ⟨b, bs, rfl, hb, ?_, hval⟩
    have h1 : 1 ≤ b.toNat := Nat.pos_of_ne_zero fun h => hb (UInt8.toNat_inj.mp (by simpa using h))
    rw [beVal_cons] at hval
    have h2 : 256 ^ bs.length ≤ v := by
      calc 256 ^ bs.length ≤ b.toNat * 256 ^ bs.length := Nat.le_mul_of_pos_left _ h1
        _ ≤ v := by omega
    have h3 : 256 ^ bs.length < 256 ^ 32 := Nat.lt_of_le_of_lt h2 (by simpa using hv)
    exact (Nat.pow_lt_pow_iff_right (by decide)).mp h3

theorem derInt_spec (v : Nat) (h0 : 0 < v) (hv : v < 2 ^ 256) :
    ∃ a ra, derInt v = some (a :: ra) ∧ a < 0x80 ∧ (a = 0 → ra.getD 0 0 ≥ 0x80) ∧
      ra.length ≤ 32 ∧ beVal (a :: ra) = v := by
  obtain ⟨b, bs, hn, hb, hlen, hval⟩ := natBytes_spec v h0 hv
  unfold derInt
  rw [hn]
  by_cases hge : b ≥ 0x80
  · refine ⟨0, b :: bs, by simp [hge], by decide, fun _ => by simpa using hge, by simp; omega, ?_⟩
    rw [beVal_cons]; simpa using hval
  · refine ⟨b, bs, by simp [hge], UInt8.not_le.mp hge, fun h => absurd h hb, by omega, hval⟩

/-- BIP66 strictness from the facts the encoder establishes -/
theorem strict_abs (sig : Bytes) (lr ls : Nat) (hlr : 1 ≤ lr ∧ lr ≤ 33) (hls : 1 ≤ ls ∧ ls ≤ 33)
    (hlen : sig.length = lr + ls + 6) (g0 : sig.getD 0 0 = 0x30)
    (g1 : (sig.getD 1 0).toNat = lr + ls + 4) (g2 : sig.getD 2 0 = 2) (g3 : (sig.getD 3 0).toNat = lr)
    (g4 : sig.getD 4 0 < 0x80) (g45 : lr > 1 → sig.getD 4 0 = 0 → sig.getD 5 0 ≥ 0x80)
    (gs2 : sig.getD (lr + 4) 0 = 2) (gsl : (sig.getD (5 + lr) 0).toNat = ls)
    (gs0 : sig.getD (lr + 6) 0 < 0x80)
    (gs01 : ls > 1 → sig.getD (lr + 6) 0 = 0 → sig.getD (lr + 7) 0 ≥ 0x80) :
    isStrictDER sig = true := by
  simp only [isStrictDER, hlen, g0, g1, g2, g3, gsl, gs2, Bool.ite_eq_true_distrib, Bool.false_eq_true, if_false_left,
    not_or, not_and, ne_eq, not_true_eq_false, not_false_eq_true, Decidable.not_not, UInt8.not_le, UInt8.not_lt, true_and,
    and_true]
  exact ⟨by omega, by omega, by omega, ⟨by omega, g4⟩, g45, ⟨by omega, gs0⟩, gs01⟩

/-- `Signature.Bytes` of (r, s), both in [1, 2^256): strict DER that decodes back to (r, s), whatever follows it
    (the wallet appends the hash-type byte). -/
theorem sigBytes_canonical (r s : Nat) (hr0 : 0 < r) (hr : r < 2 ^ 256) (hs0 : 0 < s) (hs : s < 2 ^ 256) :
    ∃ der, sigBytes r s = some der ∧ isStrictDER der = true ∧ ∀ tail, decodeSig (der ++ tail) = some (r, s) := by
  obtain ⟨a, ra, hdr, ha, ha0, hral, hrv⟩ := derInt_spec r hr0 hr
  obtain ⟨c, sc, hds, hc, hc0, hscl, hsv⟩ := derInt_spec s hs0 hs
  unfold sigBytes
  rw [hdr, hds]
  simp only [List.length_cons]
  have l1 : (UInt8.ofNat (ra.length + 1)).toNat = ra.length + 1 := ofNat_toNat_small _ (by omega)
  have l2 : (UInt8.ofNat (sc.length + 1)).toNat = sc.length + 1 := ofNat_toNat_small _ (by omega)
  have l3 : (UInt8.ofNat (4 + (ra.length + 1) + (sc.length + 1))).toNat = 4 + (ra.length + 1) + (sc.length + 1) :=
    ofNat_toNat_small _ (by omega)
  -- the three length bytes by name: only their values matter
  generalize UInt8.ofNat (ra.length + 1) = LR at l1 ⊢
  generalize UInt8.ofNat (sc.length + 1) = LS at l2 ⊢
  generalize UInt8.ofNat (4 + (ra.length + 1) + (sc.length + 1)) = LT at l3 ⊢
  have e : ∀ tail, [0x30, LT, 0x02, LR] ++ (a :: ra) ++ [0x02, LS] ++ (c :: sc) ++ tail
      = 0x30 :: LT :: 0x02 :: LR :: a :: (ra ++ (0x02 :: LS :: c :: (sc ++ tail))) := by simp
  refine ⟨_, rfl, ?_, fun tail => ?_⟩
  · -- strictness
    have e0 := e []
    rw [List.append_nil, List.append_nil] at e0
    rw [e0]
    have t : ∀ k, (0x30 :: LT :: 0x02 :: LR :: a :: (ra ++ (0x02 :: LS :: c :: sc))).getD (ra.length + k + 5) 0
          = (0x02 :: LS :: c :: sc).getD k 0 := by
      intro k
      simp only [List.getD_cons_succ]
      simp [List.getD_eq_getElem?_getD, List.getElem?_append_right]
    have e2 : ra.length + 1 + 6 = ra.length + 2 + 5 := by omega
    apply strict_abs _ (ra.length + 1) (sc.length + 1) (by omega) (by omega)
    · simp; omega
    · rfl
    · simp only [List.getD_cons_succ, List.getD_cons_zero]; rw [l3]; omega
    · rfl
    · simp only [List.getD_cons_succ, List.getD_cons_zero]; exact l1
    · simpa using ha
    · intro hl h4
      simp only [List.getD_cons_succ, List.getD_cons_zero] at h4 ⊢
      have := ha0 h4
      cases ra with
      | nil => simp at hl
      | cons x xs => simpa using this
    · simp
    · rw [Nat.add_comm 5, t 1]; simp only [List.getD_cons_succ, List.getD_cons_zero]
      exact l2
    · rw [e2, t 2]; simpa using hc
    · intro hl h6
      have e3 : ra.length + 1 + 7 = ra.length + 3 + 5 := by omega
      rw [e2, t 2] at h6
      rw [e3, t 3]
      simp only [List.getD_cons_succ, List.getD_cons_zero] at h6 ⊢
      exact hc0 h6
  · -- decoding
    rw [e]
    unfold decodeSig
    have d1 : (a :: (ra ++ (0x02 :: LS :: c :: (sc ++ tail)))).drop (ra.length + 1) = 0x02 :: LS :: c :: (sc ++ tail) :=
      List.drop_left' (l₁ := a :: ra) (by simp)
    have d2 : (a :: (ra ++ (0x02 :: LS :: c :: (sc ++ tail)))).take (ra.length + 1) = a :: ra :=
      List.take_left' (l₁ := a :: ra) (by simp)
    have d3 : (c :: (sc ++ tail)).take (sc.length + 1) = c :: sc := List.take_left' (l₁ := c :: sc) (by simp)
    simp only [l1, d1, d2, l2, l3, d3, hrv, hsv]
    rw [if_neg, if_neg, if_neg] <;> simp <;> omega

end GocoinV.Proofs.C03
