/-
  Proofs.C06Header — a header ALONE (`header` = the tree part of PreCheckBlock + AcceptHeader on the 80 header bytes, the
  client's ProcessNewHeader) keeps the whole invariant `Inv`, never panics, loses no node and takes no node's data
  (`header_ok`); AcceptHeader on an attached parent as a step of its own (`accepted_inv`).
-/
import GocoinV.Proofs.C06Deliver
namespace GocoinV.ChainTree
open GocoinV.UtxoOps

theorem lookupAll_none {c : Chain} {x : Nat} (h : lookupAll c x = none) : getNode c x = none := by
  unfold lookupAll at h
  split at h
  · cases h
  · assumption

theorem lookupAll_attached {c : Chain} {x : Nat} {p : Node} (h : lookupAll c x = some (p, true)) :
    getNode c x = some p := by
  unfold lookupAll at h
  split at h
  · cases h; assumption
  · simp at h

/-- the invariant does not look at `limbo` -/
theorem Inv_limbo {U : List Block} {c : Chain} (hi : Inv U c) (hU : BlockTree c.root U) (l : List Node) :
    Inv U { c with limbo := l } := by
  obtain ⟨w, ⟨path, ⟨hpath, t, ht, hth⟩, hx⟩, hm⟩ := hi
  have hr : ({ c with limbo := l } : Chain).root = c.root := rfl
  have w' := TreeWF_same w hr (fun _ => rfl) (fun _ => rfl)
  refine ⟨w', ⟨path, ⟨?_, t, ht, hth⟩, hx.of_store_eq rfl⟩, ?_⟩
  · exact PathOK_mono hpath hr rfl rfl rfl rfl (fun e _ n hn => ⟨n, hn, rfl, rfl⟩) (fun _ _ b0 hb0 => ⟨b0, hb0, rfl⟩)
  · exact MaxW.of_le w w' hU hr hm ht (fun t0 ht0 => le_of_eq (w.W_eq w' hU hr ht0 ht).symm)
      fun x n hn hd => Or.inl ⟨n, hn, hd⟩

/-- AcceptHeader gives no node data and takes none: every node keeps its transaction count, the header's node has none -/
theorem accepted_nodes (c : Chain) (b : Block) (p : Node) (hb : getNode c b.id = none) (hp : getNode c b.parent = some p) :
    (∀ x n, getNode c x = some n → ∃ n', getNode (accepted c b p) x = some n' ∧ n'.txCount = n.txCount) ∧
    (∀ x n', getNode (accepted c b p) x = some n' →
      (x = b.id ∧ n'.txCount = 0) ∨ ∃ n, getNode c x = some n ∧ n'.txCount = n.txCount) := by
  have hg := getNode_accepted c b p hb hp
  constructor
  · intro x n h
    have hxb : x ≠ b.id := by intro e; rw [e, hb] at h; cases h
    rw [hg, if_neg hxb]
    by_cases hxp : x = b.parent
    · rw [if_pos hxp]; rw [hxp, hp] at h; cases h; exact ⟨_, rfl, rfl⟩
    · rw [if_neg hxp]; exact ⟨n, h, rfl⟩
  · intro x n' h
    rw [hg] at h
    by_cases hxb : x = b.id
    · rw [if_pos hxb] at h; cases h; exact Or.inl ⟨hxb, rfl⟩
    rw [if_neg hxb] at h
    by_cases hxp : x = b.parent
    · rw [if_pos hxp] at h; cases h; exact Or.inr ⟨p, by rw [hxp]; exact hp, rfl⟩
    · rw [if_neg hxp] at h; exact Or.inr ⟨n', h, rfl⟩

/-- after AcceptHeader the header is a node that waits for its block (what `commitKnown_ok` and `commitAt_side` ask for) -/
theorem accepted_hdrNode {U : List Block} {c : Chain} (w : TreeWF U c) (b : Block) (p : Node) (hb : getNode c b.id = none)
    (hp : getNode c b.parent = some p) (hpd : HasData c b.parent p) :
    getNode (accepted c b p) b.id = some (hdrNode b p) ∧ b.id ≠ c.root ∧
    ∃ p', getNode (accepted c b p) (hdrNode b p).parent = some p' ∧ HasData (accepted c b p) (hdrNode b p).parent p' := by
  obtain ⟨p', hp', hptx⟩ := (accepted_nodes c b p hb hp).1 b.parent p hp
  rw [show (hdrNode b p).parent = b.parent from getNode_id hp]
  exact ⟨by rw [getNode_accepted c b p hb hp, if_pos rfl], w.ne_root hb, p', hp', (HasData.congr rfl hptx).mpr hpd⟩

theorem accepted_inv {U : List Block} {c : Chain} (hi : Inv U c) (hU : BlockTree c.root U) (b : Block) (hbU : b ∈ U)
    (p : Node) (hb : getNode c b.id = none) (hp : getNode c b.parent = some p) : Inv U (accepted c b p) := by
  obtain ⟨w, ⟨path, ⟨hpath, t, ht, hth⟩, hx⟩, hm⟩ := hi
  obtain ⟨old, back⟩ := accepted_nodes c b p hb hp
  have hr : (accepted c b p).root = c.root := rfl
  have w1 : TreeWF U (accepted c b p) :=
    TreeWF_header w b hbU p (hdrNode b p) hb hp ⟨getNode_id hp, rfl, rfl, rfl, rfl⟩ hr (getNode_accepted c b p hb hp) rfl
  obtain ⟨t', ht', _⟩ := old _ _ ht
  refine ⟨w1, ⟨path, ⟨PathOK_accepted hpath b p, t', ht',
    (w.agree w1 hU hr _ _ _ _ ht ht' rfl).1.trans hth⟩, hx.of_store_eq rfl⟩, ?_⟩
  -- the new node has no data: every node with data is an old one
  refine MaxW.of_le w w1 hU hr hm ht' (fun t0 ht0 => le_of_eq (w.W_eq w1 hU hr ht0 ht').symm) fun x n' hn' hd' => ?_
  rcases back x n' hn' with ⟨e, h0⟩ | ⟨n, hn, htx⟩
  · exact absurd (hd'.resolve_left (e ▸ w.ne_root hb)) (fun h => h h0)
  · exact Or.inl ⟨n, hn, (HasData.congr hr htx).mp hd'⟩

theorem headerAt_attached (c : Chain) (b : Block) (p t : Node)
    (hdeep : (p.id != t.id && decide (t.height ≥ p.height + 1 + MovingCheckpointDepth)) = false) :
    headerAt c b p t true = (accepted c b p, Outcome.ok) := by
  unfold headerAt accepted hdrNode
  simp only [hdeep, Bool.false_eq_true, if_false, if_true]

theorem headerAt_limbo (c : Chain) (b : Block) (p t : Node)
    (hdeep : (p.id != t.id && decide (t.height ≥ p.height + 1 + MovingCheckpointDepth)) = false) :
    headerAt c b p t false =
      ({ c with limbo := (c.limbo.map fun q => if q.id == p.id then { q with childs := q.childs ++ [b.id] } else q) ++
          [{ id := b.id, parent := p.id, height := p.height + 1, bits := b.bits, childs := [], txCount := 0 }] },
        Outcome.ok) := by
  unfold headerAt
  simp only [hdeep, Bool.false_eq_true, if_false]

theorem headerAt_deep (c : Chain) (b : Block) (p t : Node) (att : Bool)
    (hdeep : (p.id != t.id && decide (t.height ≥ p.height + 1 + MovingCheckpointDepth)) = true) :
    headerAt c b p t att = (c, Outcome.tooDeep) := by
  unfold headerAt
  simp only [hdeep, if_true]

theorem lost_accepted {U : List Block} {c : Chain} {b : Block} {p : Node}
    (hold : ∀ x n, getNode c x = some n → ∃ n', getNode (accepted c b p) x = some n' ∧ n'.txCount = n.txCount) :
    Lost U c.root c (accepted c b p) := by
  intro x hxs hnone
  obtain ⟨n, hg⟩ := Option.isSome_iff_exists.mp hxs
  obtain ⟨n', k1, _⟩ := hold x n hg; rw [k1] at hnone; cases hnone

/-- **a header alone keeps the whole invariant** and never panics; every node of before is still a node with the
    transaction count it had (that it touches nothing but the tree: `Props.C06.header_changes_only_the_tree`) -/
theorem header_ok {U : List Block} {c : Chain} (hi : Inv U c) (hU : BlockTree c.root U) (b : Block) (hbU : b ∈ U) :
    StepOK U c b false (header c b) := by
  obtain ⟨_, ⟨_, t, ht, _⟩, _⟩ := hi.path
  cases hl : lookupAll c b.id with
  | some r =>
    rw [show header c b = (c, Outcome.dup) by unfold header; simp only [hl, Option.isSome_some, if_true]]
    exact .noop hi _ (fun s hs => by cases hs) rfl
  | none =>
    have hb : getNode c b.id = none := lookupAll_none hl
    cases hpl : lookupAll c b.parent with
    | none =>
      rw [show header c b = (c, Outcome.later) by
        unfold header; simp only [hl, Option.isSome_none, Bool.false_eq_true, if_false, hpl]]
      exact .noop hi _ (fun s hs => by cases hs) rfl
    | some pa =>
      obtain ⟨p, att⟩ := pa
      rw [show header c b = headerAt c b p t att by
        unfold header; simp only [hl, Option.isSome_none, Bool.false_eq_true, if_false, hpl, ht]]
      cases hdeep : (p.id != t.id && decide (t.height ≥ p.height + 1 + MovingCheckpointDepth)) with
      | true => rw [headerAt_deep c b p t att hdeep]; exact .noop hi _ (fun s hs => by cases hs) rfl
      | false =>
        cases att with
        | false =>
          rw [headerAt_limbo c b p t hdeep]
          exact ⟨Inv_limbo hi hU _, rfl, (fun s hs => by cases hs), Or.inl rfl, Lost.of_getNode (fun _ => rfl),
            fun x n n' h h' => (by cases h.symm.trans h'; exact id), fun h => (by cases h), fun h => (by cases h)⟩
        | true =>
          rw [headerAt_attached c b p t hdeep]
          have h2 := (accepted_nodes c b p hb (lookupAll_attached hpl)).1
          refine ⟨accepted_inv hi hU b hbU p hb (lookupAll_attached hpl), rfl, (fun s hs => by cases hs), Or.inl rfl,
            lost_accepted h2, ?_, fun h => (by cases h), fun h => (by cases h)⟩
          intro x n n' hn hn' hd
          obtain ⟨m, g1, g2⟩ := h2 x n hn
          rw [g1] at hn'; cases hn'; rw [g2]; exact hd

end GocoinV.ChainTree
