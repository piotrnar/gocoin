/-
  Proofs.C12Univ — `Univ2` for a universe given as a LIST of transactions: the fields that do not mention the keys are
  finite facts about the list (`Univ2.of_list`); the four key hypotheses (`KeysOK`) are what `realKeys_collision_free`
  (Proofs/C12Real) proves for the keys the oracle executes and `linKeys_collision_free` for the keys `a + 16·v` of the
  toy universes.  Used by the non-vacuity instances `univ3`, `univX`, `univR`.  Core Lean only.
-/
import GocoinV.Proofs.C12Good
namespace GocoinV.Mempool

/-- the four hypotheses of `Univ` / `Univ2` that mention the keys: `bidx_inj`, `uidx_inj` (for ALL output indexes `v`),
    `bidx_play`, `uidx_play` -/
def KeysOK (K : Keys) (W : Tx → Prop) : Prop :=
  (∀ a b, W a → W b → K.bidx a.id = K.bidx b.id → a.id = b.id) ∧
  (∀ c t, W c → W t → ∀ i ∈ c.ins, ∀ v, K.uidx i.prev i.vout = K.uidx t.id v → i.prev = t.id) ∧
  (∀ a b, Play W a → Play W b → K.bidx a = K.bidx b → a = b) ∧
  (∀ a b v w, Play W a → Play W b → VPlay W v → VPlay W w → K.uidx a v = K.uidx b w → a = b ∧ v = w)

/-- the txids in play of a listed universe -/
def playIds (L : List Tx) : List TxId := L.map (·.id) ++ L.flatMap fun t => t.ins.map (·.prev)

theorem play_mem {W : Tx → Prop} {L : List Tx} (hW : ∀ t, W t → t ∈ L) {a : TxId} (h : Play W a) : a ∈ playIds L := by
  rcases h with ⟨t, ht, rfl⟩ | ⟨t, ht, i, hi, rfl⟩
  · exact List.mem_append_left _ (List.mem_map_of_mem (hW t ht))
  · exact List.mem_append_right _ (List.mem_flatMap.mpr ⟨t, hW t ht, List.mem_map_of_mem hi⟩)

theorem vplay_lt {W : Tx → Prop} {L : List Tx} (hW : ∀ t, W t → t ∈ L) {n : Nat}
    (h : ∀ t ∈ L, t.outs.length ≤ n ∧ ∀ i ∈ t.ins, i.vout < n) {v : Nat} (hv : VPlay W v) : v < n := by
  rcases hv with ⟨t, ht, i, hi, rfl⟩ | ⟨t, ht, hv⟩
  · exact (h t (hW t ht)).2 i hi
  · exact Nat.lt_of_lt_of_le hv (h t (hW t ht)).1

/-- a finite history stays inside a listed world: the Boolean check "every transaction of every operation is in `L`" (closed
    by `decide` for a concrete history) read as the ∀-statement the theorems take -/
theorem txs_listed {W : Tx → Prop} {L : List Tx} (hL : ∀ t ∈ L, W t) {ops : List Op}
    (h : (ops.all fun op => op.txs.all fun t => decide (t ∈ L)) = true) : ∀ op ∈ ops, ∀ t ∈ op.txs, W t :=
  fun op ho t ht => hL t (of_decide_eq_true (List.all_eq_true.1 (List.all_eq_true.1 h op ho) t ht))

theorem get?_none_of_id {u0 : UT} {a : TxId} (h : a ∉ u0.map (·.1.1)) (v : Nat) : u0.get? (a, v) = none := by
  rw [AList.get?_eq, Assoc.lookup_eq_none_iff]
  intro h'
  obtain ⟨p, hp, e⟩ := List.mem_map.mp h'
  exact h (List.mem_map.mpr ⟨p, hp, congrArg Prod.fst e⟩)

theorem Univ2.of_list {K : Keys} {W : Tx → Prop} {rank : TxId → Nat} {u0 : UT} {ν : OutPoint → Nat} (L : List Tx)
    (hW : ∀ t, W t → t ∈ L)
    (hid : ∀ a ∈ L, ∀ b ∈ L, a.id = b.id → a = b) (hins : ∀ a ∈ L, a.ins ≠ [])
    (hacy : ∀ a ∈ L, ∀ i ∈ a.ins, rank i.prev < rank a.id) (hgen : ∀ t ∈ L, t.id ∉ u0.map (·.1.1))
    (hν : ∀ t ∈ L, ∀ v, u0.get? (t.id, v) = none → ν (t.id, v) = t.outs.getD v 0)
    (hu : ∀ o c, u0.get? o = some c → ν o = c.value) (keys : KeysOK K W) : Univ2 K W rank u0 ν :=
  ⟨⟨keys.1, keys.2.1, fun a b ha hb => hid a (hW a ha) b (hW b hb), fun a ha => hins a (hW a ha),
    fun a ha => hacy a (hW a ha)⟩, keys.2.2.1, keys.2.2.2, fun t ht => get?_none_of_id (hgen t (hW t ht)),
    fun t ht v => hν t (hW t ht) v (get?_none_of_id (hgen t (hW t ht)) v), hu⟩

theorem linKeys_collision_free (W : Tx → Prop) (h : ∀ a, Play W a → a < 16) :
    KeysOK { bidx := id, uidx := fun a v => a + 16 * v } W := by
  have key : ∀ a b v w : Nat, a < 16 → b < 16 → a + 16 * v = b + 16 * w → a = b ∧ v = w := by omega
  exact ⟨fun _ _ _ _ h => h, fun c t hc ht i hi v e => (key _ _ _ _ (h _ (Play.prev hc hi)) (h _ (Play.self ht)) e).1,
    fun _ _ _ _ h => h, fun a b v w ha hb _ _ e => key a b v w (h a ha) (h b hb) e⟩

end GocoinV.Mempool
