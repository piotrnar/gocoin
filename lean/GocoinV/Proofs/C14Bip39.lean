/-
  Proofs.C14Bip39 — `NewMnemonic` then `EntropyFromMnemonic` (lib/others/bip39/bip39.go) returns the entropy: the sentence
  is the 11-bit digits of entropy ‖ checksum, a word is found back by its index, `strings.Fields` and `strings.Split` undo
  the single-space join, and the checksum loop shifts in the top bits of SHA-256(entropy).
-/
import GocoinV.Proofs.C14Words
namespace GocoinV.Proofs.C14
open GocoinV Bip39

theorem beVal_cons (b : UInt8) (xs : Bytes) : beVal (b :: xs) = b.toNat * 256 ^ xs.length + beVal xs :=
  GocoinV.beVal_cons b xs

theorem beVal_nil : beVal ([] : Bytes) = 0 := rfl

theorem digits11_length (k n : Nat) : (digits11 k n).length = k := by
  induction k generalizing n with
  | zero => rfl
  | succ k ih => simp [digits11, ih]

theorem digits11_lt (k n : Nat) : ∀ d ∈ digits11 k n, d < 2048 := by
  induction k generalizing n with
  | zero => simp [digits11]
  | succ k ih =>
    exact List.forall_mem_append.mpr ⟨ih _, List.forall_mem_singleton.mpr (Nat.mod_lt _ (by decide))⟩

/-- folding the digits back -/
def undigits (b : Nat) (ds : List Nat) : Nat := ds.foldl (· * 2048 + ·) b

theorem undigits_digits11 (k n b : Nat) : undigits b (digits11 k n) = b * 2048 ^ k + n % 2048 ^ k := by
  induction k generalizing n with
  | zero => simp [digits11, undigits, Nat.mod_one]
  | succ k ih =>
    simp only [digits11, undigits, List.foldl_append, List.foldl_cons, List.foldl_nil, Nat.pow_succ] at ih ⊢
    rw [ih]
    have : n % (2048 ^ k * 2048) = n % 2048 + 2048 * (n / 2048 % 2048 ^ k) := by
      rw [Nat.mul_comm, Nat.mod_mul]
    rw [this]; grind

theorem wordIndex_word (d : Nat) (h : d < 2048) : wordIndex (wordList.getD d []) = some d := by
  have hl := wordList_length
  have hd : d < wordList.length := by omega
  have e : wordList.getD d [] = wordList[d] := (List.getElem_eq_getD _).symm
  have f : wordList.findIdx (· == wordList[d]) = d := wordList_nodup.idxOf_getElem d hd
  rw [e, wordIndex, f, if_pos hd]

/-- the word of an 11-bit digit (`wordList[idx]`) -/
def wordOf (d : Nat) : Bytes := wordList.getD d []

theorem decodeWords_words : ∀ (ds : List Nat), (∀ d ∈ ds, d < 2048) → ∀ (b : Nat),
    decodeWords (ds.map wordOf) b = some (undigits b ds)
  | [], _, _ => rfl
  | d :: t, hds, b => by
    obtain ⟨hd, ht⟩ := List.forall_mem_cons.mp hds
    rw [List.map_cons, decodeWords, wordOf, wordIndex_word d hd]
    show decodeWords _ (b * 2048 + d % 65536) = _
    rw [Nat.mod_eq_of_lt (by omega), undigits]
    exact decodeWords_words t ht _

def noSpace (w : Bytes) : Prop := w ≠ [] ∧ ∀ c ∈ w, isSpace c = false

theorem fieldsAux_word (w rest cur : Bytes) (h : ∀ c ∈ w, isSpace c = false) :
    fieldsAux (w ++ rest) cur = fieldsAux rest (w.reverse ++ cur) := by
  induction w generalizing cur with
  | nil => rfl
  | cons c t ih =>
    have hc := h c List.mem_cons_self
    rw [List.cons_append, fieldsAux, hc]
    simp only [Bool.false_eq_true, ↓reduceIte]
    rw [ih _ (fun x hx => h x (List.mem_cons_of_mem _ hx))]
    simp

theorem fields_joinSp : ∀ (ws : List Bytes), (∀ w ∈ ws, noSpace w) → fields (joinSp ws) = ws
  | [], _ => rfl
  | [w], h => by
    have hw := h w List.mem_cons_self
    have := fieldsAux_word w [] [] hw.2
    simp only [List.append_nil] at this
    rw [fields, joinSp, this, fieldsAux]
    have : w.reverse.isEmpty = false := by simpa using hw.1
    simp [this]
  | w :: w' :: ws, h => by
    have hw := h w List.mem_cons_self
    have ih := fields_joinSp (w' :: ws) (fun x hx => h x (List.mem_cons_of_mem _ hx))
    have ej : joinSp (w :: w' :: ws) = w ++ 32 :: joinSp (w' :: ws) := rfl
    rw [fields] at ih
    rw [fields, ej, fieldsAux_word w _ [] hw.2, fieldsAux, ih]
    simp [show isSpace 32 = true by decide, hw.1]

theorem splitAux_word (w rest cur : Bytes) (h : ∀ c ∈ w, isSpace c = false) :
    splitAux (w ++ rest) cur = splitAux rest (w.reverse ++ cur) := by
  induction w generalizing cur with
  | nil => rfl
  | cons c t ih =>
    have hc := h c List.mem_cons_self
    have hne : c ≠ 32 := by
      intro e; subst e; exact absurd hc (by decide)
    rw [List.cons_append, splitAux]
    simp only [hne, ↓reduceIte]
    rw [ih _ (fun x hx => h x (List.mem_cons_of_mem _ hx))]
    simp

theorem splitSp_joinSp : ∀ (ws : List Bytes), ws ≠ [] → (∀ w ∈ ws, noSpace w) → splitSp (joinSp ws) = ws
  | [], h, _ => absurd rfl h
  | [w], _, h => by
    have hw := h w List.mem_cons_self
    have := splitAux_word w [] [] hw.2
    simp only [List.append_nil] at this
    rw [splitSp, joinSp, this, splitAux]
    simp
  | w :: w' :: ws, _, h => by
    have hw := h w List.mem_cons_self
    have ih := splitSp_joinSp (w' :: ws) (by simp) (fun x hx => h x (List.mem_cons_of_mem _ hx))
    have ej : joinSp (w :: w' :: ws) = w ++ 32 :: joinSp (w' :: ws) := rfl
    rw [splitSp, ej, splitAux_word w _ [] hw.2, splitAux]
    simp only [↓reduceIte]
    rw [splitSp] at ih
    rw [ih]; simp

theorem isSpace_of_ge97 (c : UInt8) (h : 97 ≤ c.toNat) : isSpace c = false := by
  simp only [isSpace, decide_eq_false_iff_not, not_or]
  refine ⟨?_, ?_, ?_, ?_, ?_, ?_⟩ <;> intro e <;> subst e <;> simp at h

theorem wordOf_noSpace (d : Nat) (h : d < 2048) : noSpace (wordOf d) := by
  have hd : d < wordList.length := by rw [wordList_length]; exact h
  have e : wordOf d = wordList[d] := (List.getElem_eq_getD _).symm
  have := words_shape _ (List.getElem_mem hd)
  rw [e]
  constructor
  · intro h0; rw [h0] at this; simp at this
  · exact fun c hc => isSpace_of_ge97 c (this.2.2 c hc).1

/-- the loop shifts in bits 7−i, 6−i, … of the byte: k bits of it starting i below the top -/
theorem addChecksumLoop_bits (first : UInt8) : ∀ k i n, i + k ≤ 8 →
    addChecksumLoop first k i n = n * 2 ^ k + first.toNat / 2 ^ (8 - i - k) % 2 ^ k
  | 0, _, _, _ => by simp [addChecksumLoop, Nat.mod_one]
  | k+1, i, n, h => by
    have hbit : (if i < 8 ∧ first.toNat.testBit (7 - i) = true then 1 else 0) = first.toNat / 2 ^ (8 - i - (k + 1)) / 2 ^ k % 2 := by
      rw [Nat.div_div_eq_div_mul, ← Nat.pow_add, show 8 - i - (k + 1) + k = 7 - i by omega, Nat.testBit_eq_decide_div_mod_eq]
      have := Nat.mod_two_eq_zero_or_one (first.toNat / 2 ^ (7 - i))
      split <;> simp_all <;> omega
    rw [addChecksumLoop, addChecksumLoop_bits first k (i + 1) _ (by omega), hbit, Nat.mod_pow_succ,
      show 8 - (i + 1) - k = 8 - i - (k + 1) by omega, Nat.pow_succ]
    generalize first.toNat / 2 ^ (8 - i - (k + 1)) = F
    rw [Nat.add_mul, Nat.mul_assoc, Nat.mul_comm 2, Nat.mul_comm (F / 2 ^ k % 2)]
    omega

theorem top_bits_lt (x cs : Nat) (hx : x < 2 ^ 8) (h8 : cs ≤ 8) : x / 2 ^ (8 - cs) < 2 ^ cs :=
  Nat.div_lt_of_lt_mul (by rwa [← Nat.pow_add, Nat.sub_add_cancel h8])

/-- `padByteSlice(big.Int.Bytes())` restores the leading zero bytes: `Bytes()` strips exactly those -/
theorem pad_natBytes_beVal (e : Bytes) : padByteSlice (Base58.natBytes (beVal e)) e.length = e := by
  rw [Base58.natBytes_beVal]
  have hs := Base58.replicate_takeWhile_dropWhile 0 e
  have hl := congrArg List.length hs
  simp only [List.length_append, List.length_replicate] at hl
  unfold padByteSlice
  split
  · rw [show (e.takeWhile (· == 0)).length = 0 by omega] at hs
    simpa using hs
  · rw [show e.length - (e.dropWhile (· == 0)).length = (e.takeWhile (· == 0)).length by omega]
    exact hs

/-- the two tables of `EntropyFromMnemonic`, indexed by the sentence length 3·cs, are 2^cs − 1 and 2^(8−cs) -/
theorem checksumMask_eq (cs : Nat) (hcs : cs = 4 ∨ cs = 5 ∨ cs = 6 ∨ cs = 7 ∨ cs = 8) :
    checksumMask (3 * cs) + 1 = 2 ^ cs := by
  rcases hcs with rfl | rfl | rfl | rfl | rfl <;> rfl

theorem checksumShift_eq (cs first : Nat) (hcs : cs = 4 ∨ cs = 5 ∨ cs = 6 ∨ cs = 7 ∨ cs = 8) :
    (if 3 * cs ≠ 24 then first / checksumShift (3 * cs) else first) = first / 2 ^ (8 - cs) := by
  rcases hcs with rfl | rfl | rfl | rfl | rfl <;> simp [checksumShift]

theorem pow_2048 (cs : Nat) : 2048 ^ (3 * cs) = 256 ^ (4 * cs) * 2 ^ cs := by
  rw [show 2048 = 2 ^ 11 from rfl, show 256 = 2 ^ 8 from rfl, ← Nat.pow_mul, ← Nat.pow_mul, ← Nat.pow_add]
  congr 1
  omega

/-- decoding the sentence made of the 3·cs digits of `beVal e · 2^cs + chk` gives back `e` exactly when
    `chk` is the checksum prefix -/
theorem entropy_of_digits (C : WalletCrypto) (e : Bytes) (cs chk : Nat) (hl : e.length = 4 * cs)
    (hcs : cs = 4 ∨ cs = 5 ∨ cs = 6 ∨ cs = 7 ∨ cs = 8) (hchk : chk < 2 ^ cs) :
    entropyFromMnemonic C (joinSp ((digits11 (3 * cs) (beVal e * 2 ^ cs + chk)).map wordOf)) =
      if chk ≠ ((C.sha256 e).headD 0).toNat / 2 ^ (8 - cs) then .error .checksum else .ok e := by
  have hdec := decodeWords_words (digits11 (3 * cs) (beVal e * 2 ^ cs + chk)) (digits11_lt _ _) 0
  have hlt : beVal e * 2 ^ cs + chk < 2048 ^ (3 * cs) := by
    rw [pow_2048, ← hl]
    calc beVal e * 2 ^ cs + chk < beVal e * 2 ^ cs + 2 ^ cs := by omega
      _ = (beVal e + 1) * 2 ^ cs := by rw [Nat.add_mul, Nat.one_mul]
      _ ≤ _ := Nat.mul_le_mul_right _ (beVal_lt e)
  rw [undigits_digits11, Nat.zero_mul, Nat.zero_add, Nat.mod_eq_of_lt hlt] at hdec
  have h2 : (beVal e * 2 ^ cs + chk) % 2 ^ cs = chk := by
    rw [Nat.mul_comm, Nat.mul_add_mod, Nat.mod_eq_of_lt hchk]
  have h3 : (beVal e * 2 ^ cs + chk) / 2 ^ cs = beVal e := by
    rw [Nat.mul_comm, Nat.mul_add_div (Nat.pow_pos (by decide)), Nat.div_eq_of_lt hchk, Nat.add_zero]
  have h4 : 3 * cs / 3 * 4 = e.length := by omega
  unfold entropyFromMnemonic splitMnemonicWords
  rw [fields_joinSp _ (List.forall_mem_map.mpr fun d hd => wordOf_noSpace d (digits11_lt _ _ d hd))]
  simp only [List.length_map, digits11_length]
  rw [if_neg (by omega)]
  simp only [hdec, List.length_map, digits11_length, checksumMask_eq cs hcs, checksumShift_eq cs _ hcs, h2, h3, h4,
    pad_natBytes_beVal]

theorem addChecksumNat_eq (C : WalletCrypto) (e : Bytes) (cs : Nat) (hl : e.length = 4 * cs) (h8 : cs ≤ 8) :
    addChecksumNat C e = beVal e * 2 ^ cs + ((C.sha256 e).headD 0).toNat / 2 ^ (8 - cs) := by
  unfold addChecksumNat
  have : e.length / 4 = cs := by omega
  rw [this, addChecksumLoop_bits _ cs 0 _ (by omega), Nat.mod_eq_of_lt (top_bits_lt _ cs (UInt8.toNat_lt _) h8)]

/-- the sentence whose 11-bit groups spell `entropy ‖ chk` (chk = the last `cs` bits) -/
def sentence (e : Bytes) (cs chk : Nat) : Bytes :=
  joinSp ((digits11 (3 * cs) (beVal e * 2 ^ cs + chk)).map wordOf)

/-- BIP39 checksum: the first `cs` bits of SHA-256(entropy) -/
def checksumBits (C : WalletCrypto) (e : Bytes) (cs : Nat) : Nat := ((C.sha256 e).headD 0).toNat / 2 ^ (8 - cs)

theorem newMnemonic_sentence (C : WalletCrypto) (e : Bytes) (cs : Nat) (hl : e.length = 4 * cs) (h4 : 4 ≤ cs) (h8 : cs ≤ 8) :
    newMnemonic C e = .ok (sentence e cs (checksumBits C e cs)) := by
  unfold newMnemonic
  have c1 : ¬ (e.length * 8 % 32 ≠ 0 ∨ e.length * 8 < 128 ∨ e.length * 8 > 256) := by omega
  have c2 : (e.length * 8 + e.length * 8 / 32) / 11 = 3 * cs := by omega
  simp only [c1, ↓reduceIte, c2, Base58.beVal_natBytes, addChecksumNat_eq C e cs hl h8]
  rfl

end GocoinV.Proofs.C14
