/-
  Proofs.C20Clobber — the node writes of the pointer layer are contained in the `clobber` sets.
  `State.mem` (the bytes "a live allocation keeps") is written by the allocator only through
  `clobber s.mem wr` with hand-listed `wr` (allocSlot / freeSlot / beginEvac in Model/Alloc.lean), while the link
  writes themselves happen in `State.heap` (`setN` inside hPush / hPop / hUnlinkG / hPurge).  Here: every slot
  whose node the heap operation of a step changes is in the `wr` list of that step, i.e. holds `junk` in
  `State.mem` afterwards — so the contents theorems really are about the node writes of the code.  ("Changes" is
  read off the values: the statements compare `heap.N y` before and after, a write that stores what was there does not count.)
-/
import GocoinV.Proofs.C20Ptr
namespace GocoinV.Alloc
open GocoinV.Gen.MemClasses
variable {V : Type}

theorem N_eq_of_fields {g g' : Heap} {y : Slot} (h1 : pvG g' y = pvG g y) (h2 : nxG g' y = nxG g y)
    (h3 : pvP g' y = pvP g y) (h4 : nxP g' y = nxP g y) : g'.N y = g.N y := by
  simp only [pvG, nxG, pvP, nxP] at h1 h2 h3 h4
  cases hA : g'.N y; cases hB : g.N y; simp_all

theorem clobber_mem (m : KMap Addr (SlotMem V)) (wr : List Addr) (a : Addr) (h : a ∈ wr) :
    (clobber m wr).get? a = some junk := by
  induction wr generalizing m with
  | nil => cases h
  | cons b bs ih =>
    simp only [clobber]
    by_cases hb : a ∈ bs
    · exact ih _ hb
    · have e := (List.mem_cons.1 h).resolve_right hb
      subst e; rw [clobber_get _ _ _ hb, KMap.get?_set, if_pos rfl]

theorem headAddrs_head {l : List (Nat × Nat)} {y : Slot} (h : l.head? = some y) :
    Addr.sh y.1 y.2 ∈ headAddrs l := by
  cases l with
  | nil => cases h
  | cons a r => cases h; simp [headAddrs]

theorem headSlots_eq (p : Nat) (l : List Nat) : headSlots p l = headAddrs (l.map (Prod.mk p)) := by
  cases l <;> rfl

theorem hPush_writes (g : Heap) (c : Nat) (x y : Slot)
    (hy : (hPush g c x).N y ≠ g.N y) : y = x ∨ (g.C c).lists = some y ∨ (g.H x.1).freeList = some y := by
  have sp := hPush_spec g c x
  refine Classical.byContradiction fun hn => hy ?_
  simp only [not_or] at hn
  obtain ⟨h1, h2, h3⟩ := hn
  refine N_eq_of_fields ?_ ?_ ?_ ?_
  · rw [sp.pvG, if_neg h2, if_neg h1]
  · rw [sp.nxG, if_neg h1]
  · rw [sp.pvP, if_neg h3, if_neg h1]
  · rw [sp.nxP, if_neg h1]

theorem freeSlot_writes_clobbered {s : State V} (r : Rep s) {p i : Nat} {h : Page}
    (hp : s.pages.get? p = some h) (y : Slot)
    (hy : (freeSlot s p i h).heap.N y ≠ s.heap.N y) :
    (freeSlot s p i h).mem.get? (.sh y.1 y.2) = some junk := by
  unfold freeSlot at hy ⊢
  simp only [] at hy ⊢
  split at hy
  · exact absurd rfl hy
  · next hev =>
    rw [if_neg hev]
    apply clobber_mem
    rcases hPush_writes _ _ _ _ hy with e | e | e
    · subst e; simp
    · rw [(r.glob h.cls).head] at e
      exact List.mem_append_left _ (List.mem_append_right _ (headAddrs_head e))
    · rw [(r.page p h hp).head] at e
      exact List.mem_append_right _ (headSlots_eq p _ ▸ headAddrs_head e)

/-- beginEvac: the purge writes only nodes of the class's global free list, all of which are clobbered -/
theorem beginEvac_writes_clobbered {s s' : State V} {c pg : Nat} (inv : InvG s) (r : Rep s)
    (hr : beginEvac s c pg = .ok s') (y : Slot) (hy : s'.heap.N y ≠ s.heap.N y) :
    s'.mem.get? (.sh y.1 y.2) = some junk := by
  obtain ⟨h, hp, hcl, hev, rfl⟩ := beginEvac_ok hr
  simp only [] at hy ⊢
  apply clobber_mem
  have okp := inv.pages pg h hp
  have rp := r.page pg h hp
  have hlen : (h.freeList.map (Prod.mk pg)).length ≤ h.brk := by
    rw [List.length_map]; exact nodup_bound h.brk h.freeList okp.fl_nodup okp.fl_lt
  have hsub : ∀ x, x ∈ h.freeList.map (Prod.mk pg) → x ∈ (s.K c).glist := by
    intro x hx
    obtain ⟨j, hj, rfl⟩ := List.mem_map.1 hx
    exact ((inv.classes c).gl_iff pg j).2 ⟨h, hp, hcl, hev, hj⟩
  obtain ⟨_, i2, _, _, _, i6⟩ := purgeWalk_spec c _ h.brk (s.heap.H pg).freeList none s.heap (s.K c).glist
    rp hlen (r.glob c) (inv.classes c).gl_nodup hsub (nodup_mk pg okp.fl_nodup)
  have hin : y ∈ (s.K c).glist := by
    refine Decidable.by_contra fun hin => hy ?_
    show (hPurge s.heap c pg h.brk).N y = s.heap.N y
    unfold hPurge
    rw [Heap.N_setH]
    exact N_eq_of_fields (i6 y hin).2 (i6 y hin).1 (i2 y).2 (i2 y).1
  exact List.mem_map.2 ⟨y, hin, rfl⟩

theorem hPop_writes (g : Heap) (c : Nat) (n y : Slot) (hl : (g.C c).lists = some n)
    (hy : (hPop g c).N y ≠ g.N y) :
    (g.N n).next = some y ∨ (g.N n).prevInPage = some y ∨ (g.N n).nextInPage = some y := by
  have sp := hPop_spec g c n hl
  refine Classical.byContradiction fun hn => hy ?_
  simp only [not_or] at hn
  obtain ⟨h1, h2, h3⟩ := hn
  refine N_eq_of_fields ?_ ?_ ?_ ?_
  · rw [sp.pvG, if_neg h1]
  · rw [sp.nxG]
  · rw [sp.pvP, if_neg h3]
  · rw [sp.nxP, if_neg h2]

/-- in a doubly linked per-page list the `nextInPage` / `prevInPage` fields of slot i point to the list
    neighbours `nbrs l i` of the model (or, for the first node, `prevInPage` is the list's back pointer) -/
theorem DL.nbrs_page {nx pv : Slot → Option Slot} (p i : Nat) :
    ∀ (l : List Nat) (hd pp : Option Slot), DL nx pv hd pp (l.map (Prod.mk p)) → i ∈ l →
      (∀ y, nx (p, i) = some y → y.1 = p ∧ y.2 ∈ nbrs l i) ∧
      (∀ y, pv (p, i) = some y → (l.head? = some i ∧ some y = pp) ∨ (y.1 = p ∧ y.2 ∈ nbrs l i)) := by
  intro l
  induction l with
  | nil => intro hd pp _ hi; cases hi
  | cons a t ih =>
    intro hd pp h hi
    obtain ⟨_, hpv, h3⟩ := h
    by_cases ea : a = i
    · -- the first node: its back pointer is the list's
      subst ea
      refine ⟨?_, fun y hy => Or.inl ⟨rfl, by rw [← hy]; exact hpv⟩⟩
      cases t with
      | nil => intro y hy; rw [show nx (p, a) = none from h3] at hy; cases hy
      | cons b t' => intro y hy; rw [h3.1] at hy; cases hy; simp [nbrs]
    · cases t with
      | nil => exact absurd (List.mem_singleton.1 hi).symm ea
      | cons b t' =>
      obtain ⟨hnx, hpvb, h4⟩ := h3
      by_cases eb : b = i
      · subst eb
        refine ⟨?_, ?_⟩
        · intro y hy
          have hh := h4.head
          rw [hy] at hh
          cases t' with
          | nil => cases hh
          | cons c t'' =>
            simp only [List.map_cons, List.head?_cons, Option.some.injEq] at hh
            subst hh; simp [nbrs, ea]
        · intro y hy
          right
          rw [hpvb] at hy; cases hy
          simp [nbrs, ea]
      · have hi' : i ∈ b :: t' := List.mem_of_ne_of_mem (Ne.symm ea) hi
        have key := ih (nx (p, a)) (some (p, a)) ⟨hnx, hpvb, h4⟩ hi'
        have hn : nbrs (a :: b :: t') i = nbrs (b :: t') i := by
          simp only [nbrs, if_neg ea, if_neg eb]
        refine ⟨?_, ?_⟩
        · intro y hy; rw [hn]; exact key.1 y hy
        · intro y hy
          rcases key.2 y hy with ⟨e1, _⟩ | e
          · simp only [List.head?_cons, Option.some.injEq] at e1; exact absurd e1 eb
          · right; rw [hn]; exact e

theorem allocSlot_writes_clobbered {s s' : State V} {c p i : Nat} (inv : InvG s) (r : Rep s)
    (hr : allocSlot s c = .ok (s', p, i)) (y : Slot) (hy : s'.heap.N y ≠ s.heap.N y) :
    s'.mem.get? (.sh y.1 y.2) = some junk := by
  obtain ⟨h, hq, ⟨_, _, rfl⟩ | ⟨rest, _, hgl, rfl⟩⟩ := allocSlot_ok hr
  · exact absurd rfl hy
  · simp only [] at hy ⊢
    apply clobber_mem
    have rc := r.glob c
    rw [hgl] at rc
    obtain ⟨hl, _, rc3⟩ := rc
    have hj : i ∈ h.freeList := by
      obtain ⟨h0, a, _, _, d⟩ := ((inv.classes c).gl_iff p i).1 (by rw [hgl]; simp)
      rw [hq] at a; cases a; exact d
    have nb := DL.nbrs_page p i h.freeList _ _ (r.page p h hq) hj
    rcases hPop_writes _ _ _ _ hl hy with e | e | e
    · have hh : rest.head? = some y := rc3.head.symm.trans e
      exact List.mem_append_left _ (headAddrs_head hh)
    · obtain ⟨e1, e2⟩ := (nb.2 y e).resolve_left fun x => nomatch x.2
      exact List.mem_append_right _ (List.mem_map.2 ⟨y.2, e2, by rw [← e1]⟩)
    · obtain ⟨e1, e2⟩ := nb.1 y e
      exact List.mem_append_right _ (List.mem_map.2 ⟨y.2, e2, by rw [← e1]⟩)


theorem newPage_writes_none (s : State V) (c : Nat) (y : Slot) : (newPage s c).heap.N y = s.heap.N y :=
  (hLinkPage_spec s.heap c s.nextPage).node y

theorem endEvac_writes_none {s s' : State V} {c pg : Nat} (hr : endEvac s c pg = .ok s') (y : Slot) :
    s'.heap.N y = s.heap.N y := by
  obtain ⟨_, _, _, _, _, rfl⟩ := endEvac_ok hr
  exact (hUnlinkPage_spec s.heap c pg).node y

end GocoinV.Alloc
