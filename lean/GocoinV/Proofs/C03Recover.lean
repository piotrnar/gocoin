/-
  Proofs.C03Recover — public-key recovery on ARBITRARY (r, s, m, recid) yields a key under which the
  signature verifies, for both choices of the nonce point's x-coordinate (x = r and x = r + n ≥ n).
  This is the direction of the ECDSA equation in which the reduction "x(R) mod n" matters: with
  recid bit 1 set the nonce point has n ≤ x(R) < p and the signature carries r = x(R) − n.

  The only hypothesis is that the reconstructed nonce point R has order dividing n (n·R = ∞). Every
  point of secp256k1 has (the group has prime order n — cofactor 1), but that is a point count, not
  proved here; for a concrete R it is a kernel evaluation (see the example in Props/C03.lean).
-/
import GocoinV.Proofs.C03Ecdsa
namespace GocoinV.Proofs.C03
open GocoinV GocoinV.Secp GocoinV.Model GocoinV.Model.Sig

/-- the nonce point `Signature.recover` reconstructs from (r, recid): x = r (+ n when bit 1 is set),
    y = the square root with the parity of bit 0 -/
def recoverNonce (r recid : Nat) : Point :=
  let rx := if recid &&& 2 ≠ 0 then r + n else r
  some (rx % p, setXO rx (decide (recid &&& 1 ≠ 0)))

theorem setXO_lt (x : Nat) (odd : Bool) : setXO x odd < p := by
  unfold setXO
  simp only
  split
  · exact Nat.mod_lt _ p_pos
  · exact sqrtCand_lt _

/-- the scalars of recovery followed by verification cancel: the verifier gets R back -/
theorem fld_rv {F : Type} [Field F] (r s m : F) (hr : r ≠ 0) (hs : s ≠ 0) :
    (r⁻¹ * s) * (s⁻¹ * r) = 1 ∧ (-(r⁻¹ * m)) * (s⁻¹ * r) + s⁻¹ * m = 0 := by
  constructor
  · field_simp
  · field_simp
    ring

/-- what `RecoverPublicKey` has established when it hands out a key: r and s in range, the nonce point it
    reconstructed is on the curve and has x ≡ r mod n, and the key is r⁻¹·(s·R − m·G) -/
theorem recoverPublicKey_some {r s recid : Nat} {hb : Bytes} {Q : Nat × Nat}
    (h : recoverPublicKey r s hb recid = some (some Q)) :
    0 < r ∧ r < n ∧ 0 < s ∧ s < n ∧ ∃ rx y, recoverNonce r recid = some (rx, y) ∧ OnC (some (rx, y)) ∧ rx % n = r ∧
      add (mul (modInvN r * s % n % n) (some (rx, y))) (mul ((n - modInvN r * beVal hb % n) % n) G) = some Q := by
  have hpn : n < p := by decide
  unfold recoverPublicKey at h
  by_cases hrange : r = 0 ∨ r ≥ n ∨ s = 0 ∨ s ≥ n
  · rw [if_pos hrange] at h; cases h
  rw [if_neg hrange] at h
  unfold recover at h
  unfold recoverNonce
  generalize hrx : (if recid &&& 2 ≠ 0 then r + n else r) = rx at h ⊢
  simp only at h ⊢
  by_cases hbig : recid &&& 2 ≠ 0 ∧ rx ≥ p
  · rw [if_pos hbig] at h; cases h
  rw [if_neg hbig] at h
  have hx : rx < p ∧ rx % n = r := by
    by_cases h2 : recid &&& 2 ≠ 0
    · rw [if_pos h2] at hrx
      exact ⟨by have := fun hge => hbig ⟨h2, hge⟩; omega, by rw [← hrx, Nat.add_mod_right, Nat.mod_eq_of_lt (by omega)]⟩
    · rw [if_neg h2] at hrx
      exact ⟨by omega, by rw [← hrx, Nat.mod_eq_of_lt (by omega)]⟩
  cases hv : isValid rx (setXO rx (decide (recid &&& 1 ≠ 0))) with
  | false => rw [hv] at h; cases h
  | true =>
    rw [hv] at h
    simp only [Bool.not_true, Bool.false_eq_true, ↓reduceIte, ecmult_nat, Nat.mod_eq_of_lt hx.1] at h
    refine ⟨by omega, by omega, by omega, by omega, rx, _, by rw [Nat.mod_eq_of_lt hx.1], ?_, hx.2, ?_⟩
    · unfold OnC; rw [← isValid_eq_onCurve rx _ hx.1 (setXO_lt _ _)]; exact hv
    · split at h
      · cases h
      · rename_i q hq
        cases h
        exact hq

section
variable [L : SecpGroupLaw]

/-- the group computation: the verifier's point for the recovered key is the nonce point -/
theorem recover_verify_pt (R : CurvePt) (hR : n • R = 0) (r s m : Nat)
    (hr0 : 0 < r) (hrn : r < n) (hs0 : 0 < s) (hsn : s < n) :
    add (mul (modInvN s * r % n % n)
          (add (mul (modInvN r * s % n % n) R.1) (mul ((n - modInvN r * m % n) % n) G)))
        (mul (modInvN s * m % n % n) G) = R.1 := by
  have hRr := cast_ne_zero_of_lt r hr0 hrn
  have hSs := cast_ne_zero_of_lt s hs0 hsn
  obtain ⟨k1, k2⟩ := fld_rv (r : ZMod n) (s : ZMod n) (m : ZMod n) hRr hSs
  have hle : modInvN r * m % n ≤ n := Nat.le_of_lt (Nat.mod_lt _ n_pos)
  -- lift to the group of curve points
  rw [mul_eq_nsmul (modInvN r * s % n % n) R, mul_G ((n - modInvN r * m % n) % n), ← val_add,
    mul_eq_nsmul (modInvN s * r % n % n), mul_G (modInvN s * m % n % n), ← val_add]
  refine congrArg Subtype.val ?_
  rw [smul_add, ← mul_nsmul, ← mul_nsmul, add_assoc, ← add_nsmul]
  have e1 : ((modInvN r * s % n % n * (modInvN s * r % n % n) : Nat) : ZMod n) = ((1 : Nat) : ZMod n) := by
    simp only [ZMod.natCast_mod, Nat.cast_mul, invN_cast, Nat.cast_one]
    exact k1
  have e2 : (((n - modInvN r * m % n) % n * (modInvN s * r % n % n) + modInvN s * m % n % n : Nat) : ZMod n)
      = ((0 : Nat) : ZMod n) := by
    simp only [ZMod.natCast_mod, Nat.cast_mul, Nat.cast_add, Nat.cast_sub hle, ZMod.natCast_self,
      invN_cast, zero_sub, Nat.cast_zero]
    exact k2
  rw [nsmul_congr_of_order R hR _ _ e1, nsmul_G_congr _ _ e2, one_nsmul, zero_nsmul, add_zero]

end
end GocoinV.Proofs.C03
