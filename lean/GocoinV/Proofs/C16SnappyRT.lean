/-
  Proofs.C16SnappyRT — the snappy round trip `decode (encode src) = .ok src` for the executable model
  `Model/Snappy.lean` (all lengths ≤ 0xffffffff), and from it a size bound for the encoder. Every tag the decoder accepts
  consumes at most 5 header bytes plus the bytes it produces, and produces at least one byte (`decodeStep_bound`,
  Proofs/C16Snappy.lean; summed over the loop here); the encoder's output decodes to the source; hence
  `(encode src).length ≤ 11 + 6 * src.length` (the 11 = longest varint header).
-/
import GocoinV.Proofs.C16Snappy
namespace GocoinV.Snappy

theorem maxblock_eq : MAXBLOCK = 65536 := by decide
theorem margin_eq : MARGIN = 15 := by decide
theorem minnonlit_eq : MINNONLIT = 17 := by decide

/-! ## Layer 0: the varint header -/

theorem uvarintAux_small (f x i acc : Nat) (rest : Bytes) (hx : x < 128) (hi : i < 9) :
    uvarintAux (putUvarintAux f x ++ rest) i acc = some (acc + x * 2 ^ (7 * i), i + (putUvarintAux f x).length) := by
  have hp : putUvarintAux f x = [UInt8.ofNat x] := by
    cases f with
    | zero => rfl
    | succ f => simp only [putUvarintAux]; rw [if_neg (by omega)]
  rw [hp]
  have e : (UInt8.ofNat x).toNat = x := ofNat_toNat_small _ (by omega)
  have hlt : UInt8.ofNat x < 0x80 := by
    rw [UInt8.lt_iff_toNat_lt, e]; exact hx
  simp only [List.cons_append, List.nil_append, uvarintAux]
  rw [if_neg (by omega), if_pos hlt, if_neg (by omega), e]
  simp

theorem uvarintAux_put (k : Nat) : ∀ (f x i acc : Nat) (rest : Bytes), x < 128 ^ (k + 1) → k ≤ f → i + k < 9 →
    uvarintAux (putUvarintAux f x ++ rest) i acc = some (acc + x * 2 ^ (7 * i), i + (putUvarintAux f x).length) := by
  induction k with
  | zero =>
    intro f x i acc rest hx _ hi
    exact uvarintAux_small f x i acc rest (by simpa using hx) (by omega)
  | succ k ih =>
    intro f x i acc rest hx hf hi
    by_cases hs : x < 128
    · exact uvarintAux_small f x i acc rest hs (by omega)
    · obtain ⟨f', rfl⟩ : ∃ f', f = f' + 1 := ⟨f - 1, by omega⟩
      have hp : putUvarintAux (f' + 1) x = UInt8.ofNat (x % 128 + 128) :: putUvarintAux f' (x / 128) := by
        simp only [putUvarintAux]; rw [if_pos (by omega)]
      rw [hp]
      have e : (UInt8.ofNat (x % 128 + 128)).toNat = x % 128 + 128 := ofNat_toNat_small _ (by omega)
      have hge : ¬ UInt8.ofNat (x % 128 + 128) < 0x80 := by
        rw [UInt8.lt_iff_toNat_lt, e]; simp
      simp only [List.cons_append, uvarintAux]
      rw [if_neg (by omega), if_neg hge, e]
      have hx' : x / 128 < 128 ^ (k + 1) := by
        rw [Nat.div_lt_iff_lt_mul (by decide)]
        rw [Nat.pow_succ] at hx; exact hx
      rw [ih f' (x / 128) (i + 1) _ rest hx' (by omega) (by omega)]
      have h1 : (x % 128 + 128) % 128 = x % 128 := by omega
      have h2 : 2 ^ (7 * (i + 1)) = 128 * 2 ^ (7 * i) := by
        rw [show 7 * (i + 1) = 7 * i + 7 by omega, Nat.pow_add]; omega
      rw [h1, h2, Nat.add_assoc acc, ← Nat.mul_assoc, ← Nat.add_mul, Nat.mod_add_div', List.length_cons, Nat.add_assoc i,
        Nat.add_comm 1]

theorem decodedLen_put (n : Nat) (rest : Bytes) (h : n ≤ 0xffffffff) :
    decodedLen (putUvarint n ++ rest) = some (n, (putUvarint n).length) := by
  unfold decodedLen uvarint putUvarint
  rw [uvarintAux_put 4 10 n 0 0 rest (by omega) (by omega) (by omega)]
  simp only [Nat.mul_zero, Nat.pow_zero, Nat.mul_one, Nat.zero_add]
  rw [if_neg (by omega)]

/-! ## Layer 1: the decoder over a list of emit calls -/

/-- well-formedness of a list of emit calls relative to the already decoded prefix -/
def WF (dst : Array UInt8) : List Elem → Prop
  | [] => True
  | .lit l :: es => 1 ≤ l.length ∧ l.length ≤ 65536 ∧ WF (dst ++ l.toArray) es
  | .copy o n :: es => 1 ≤ o ∧ o < 65536 ∧ o ≤ dst.size ∧ 4 ≤ n ∧ WF (copyFwd dst o n) es

theorem expand_size_ge (es : List Elem) : ∀ dst : Array UInt8, dst.size ≤ (expand dst es).size := by
  induction es with
  | nil => intro dst; exact Nat.le_refl _
  | cons e es ih =>
    intro dst
    cases e with
    | lit l => simp only [expand]; refine Nat.le_trans ?_ (ih _); simp
    | copy o n => simp only [expand]; refine Nat.le_trans ?_ (ih _); rw [copyFwd_size]; omega

theorem expand_append (a c : List Elem) : ∀ dst, expand dst (a ++ c) = expand (expand dst a) c := by
  induction a with
  | nil => intro dst; rfl
  | cons e es ih =>
    intro dst
    cases e with
    | lit l | copy o n => simp only [List.cons_append, expand]; exact ih _

theorem WF_append (a c : List Elem) : ∀ dst, WF dst (a ++ c) ↔ WF dst a ∧ WF (expand dst a) c := by
  induction a with
  | nil => intro dst; simp [WF, expand]
  | cons e es ih =>
    intro dst
    cases e with
    | lit l | copy o n => simp only [List.cons_append, WF, expand, ih]; simp only [and_assoc]

theorem emitAll_nil : emitAll [] = [] := rfl
theorem emitAll_cons (e : Elem) (es : List Elem) : emitAll (e :: es) = emitElem e ++ emitAll es := by
  simp [emitAll]

theorem decodeLoop_nil (dLen f : Nat) (dst : Array UInt8) :
    decodeLoop dLen f [] dst = if dst.size ≠ dLen then .error .corrupt else .ok dst := by
  cases f <;> rfl

/-- the decoder's loop does not depend on its fuel once the fuel covers the source -/
theorem decodeLoop_fuel (dLen : Nat) : ∀ (F G : Nat) (src : Bytes) (dst : Array UInt8), src.length ≤ F → src.length ≤ G →
    decodeLoop dLen F src dst = decodeLoop dLen G src dst := by
  intro F
  induction F with
  | zero =>
    intro G src dst hF _
    have : src = [] := List.eq_nil_of_length_eq_zero (by omega)
    subst this
    rw [decodeLoop_nil, decodeLoop_nil]
  | succ F ih =>
    intro G src dst hF hG
    cases src with
    | nil => rw [decodeLoop_nil, decodeLoop_nil]
    | cons x xs =>
      obtain ⟨G, rfl⟩ : ∃ G0, G = G0 + 1 := ⟨G - 1, by simp at hG; omega⟩
      simp only [decodeLoop]
      cases hs : decodeStep dLen (x :: xs) dst with
      | error e => rfl
      | ok r =>
        obtain ⟨src', dst'⟩ := r
        have := (decodeStep_bound dLen _ _ _ _ hs).1
        exact ih G src' dst' (by omega) (by omega)

/-- the decoder on `src` with output so far `dst` -/
def dec (dLen : Nat) (src : Bytes) (dst : Array UInt8) : Except DErr (Array UInt8) := decodeLoop dLen src.length src dst

theorem dec_step (dLen : Nat) (src src' : Bytes) (dst dst' : Array UInt8)
    (h : decodeStep dLen src dst = .ok (src', dst')) : dec dLen src dst = dec dLen src' dst' := by
  have hl := (decodeStep_bound dLen _ _ _ _ h).1
  unfold dec
  cases src with
  | nil => simp at hl
  | cons x xs =>
    simp only [List.length_cons, decodeLoop, h]
    exact decodeLoop_fuel dLen _ _ _ _ (by simp at hl; omega) (Nat.le_refl _)

/-- the bytes of one `emitCopy` call are decoded (in several steps) to the forward copy -/
theorem dec_emitCopyAux (dLen o : Nat) (ho1 : 1 ≤ o) (ho2 : o < 65536) (f : Nat) :
    ∀ (n : Nat) (rest : Bytes) (dst : Array UInt8), 4 ≤ n → n / 60 + 2 ≤ f + 1 → o ≤ dst.size → dst.size + n ≤ dLen →
      dec dLen (emitCopyAux f o n ++ rest) dst = dec dLen rest (copyFwd dst o n) := by
  induction f with
  | zero => intro n rest dst h4 hf; omega
  | succ f ih =>
    intro n rest dst h4 hf hback hroom
    -- a first tag of `m` bytes (64 or 60), then the rest of the match by induction
    have split : ∀ m, 1 ≤ m → m ≤ 64 → m + 4 ≤ n → (n - m) / 60 + 2 ≤ f + 1 →
        dec dLen (copy2 o m ++ emitCopyAux f o (n - m) ++ rest) dst = dec dLen rest (copyFwd dst o n) := by
      intro m hm1 hm2 hmn hfm
      rw [List.append_assoc, dec_step dLen _ _ _ _ (decodeStep_copy2 dLen o m _ dst hm1 hm2 ho1 ho2 hback (by omega)),
        ih (n - m) rest (copyFwd dst o m) (by omega) hfm (by rw [copyFwd_size]; omega) (by rw [copyFwd_size]; omega),
        ← copyFwd_add, show m + (n - m) = n by omega]
    simp only [emitCopyAux]
    by_cases c1 : n ≥ 68
    · rw [if_pos c1]; exact split 64 (by omega) (by omega) (by omega) (by omega)
    · rw [if_neg c1]
      by_cases c2 : n > 64
      · rw [if_pos c2]; exact split 60 (by omega) (by omega) (by omega) (by omega)
      · rw [if_neg c2]
        by_cases c3 : n ≥ 12 ∨ o ≥ 2048
        · rw [if_pos c3]
          exact dec_step dLen _ _ _ _ (decodeStep_copy2 dLen o n _ dst (by omega) (by omega) ho1 ho2 hback hroom)
        · rw [if_neg c3]
          exact dec_step dLen _ _ _ _ (decodeStep_copy1 dLen o n _ dst (by omega) (by omega) ho1 (by omega) hback (by omega))

/-- decoding the bytes of a well-formed list of emit calls reproduces `expand` -/
theorem dec_emitAll (dLen : Nat) (es : List Elem) : ∀ (rest : Bytes) (dst : Array UInt8), WF dst es → (expand dst es).size ≤ dLen →
    dec dLen (emitAll es ++ rest) dst = dec dLen rest (expand dst es) := by
  induction es with
  | nil => intro rest dst _ _; rfl
  | cons e es ih =>
    intro rest dst hwf hsz
    rw [emitAll_cons, List.append_assoc]
    cases e with
    | lit l =>
      have hge := expand_size_ge es (dst ++ l.toArray)
      have hs : (dst ++ l.toArray).size = dst.size + l.length := by simp
      rw [show emitElem (.lit l) = emitLiteral l from rfl,
        dec_step dLen _ _ _ _ (decodeStep_emitLiteral dLen l _ dst hwf.1 hwf.2.1 (by simp only [expand] at hsz; omega))]
      exact ih rest _ hwf.2.2 hsz
    | copy o n =>
      have hge := expand_size_ge es (copyFwd dst o n)
      rw [copyFwd_size] at hge
      rw [show emitElem (.copy o n) = emitCopyAux (n / 60 + 2) o n from rfl,
        dec_emitCopyAux dLen o hwf.1 hwf.2.1 (n / 60 + 2) n _ dst hwf.2.2.2.1 (by omega) hwf.2.2.1 (by simp only [expand] at hsz; omega)]
      exact ih rest _ hwf.2.2.2.2 hsz

/-! ## Layer 2: the encoder loop of one block -/

theorem getD_append_right (pre q : Array UInt8) (k : Nat) : (pre ++ q).getD (pre.size + k) 0 = q.getD k 0 := by
  simp only [Array.getD_eq_getD_getElem?, Array.getElem?_append]
  rw [if_neg (by omega)]
  congr 2; omega

theorem getD_extract0 (p : Array UInt8) (k c : Nat) (hk : k < c) (hc : c ≤ p.size) :
    (p.extract 0 c).getD k 0 = p.getD k 0 := by
  simp only [Array.getD_eq_getD_getElem?, Array.getElem?_extract]
  rw [if_pos (by omega)]
  simp

theorem prefix_push (pre p : Array UInt8) (c : Nat) (hc : c < p.size) :
    (pre ++ p.extract 0 c).push (p.getD c 0) = pre ++ p.extract 0 (c + 1) := by
  rw [← Array.getElem_eq_getD (h := hc) 0, ← Array.append_push, Array.push_extract_getElem hc]
  simp

/-- a forward copy whose source range agrees with the bytes of `p` that follow reproduces them -/
theorem copyFwd_match (pre p : Array UInt8) (off : Nat) (hoff : 0 < off) :
    ∀ (n c : Nat), off ≤ c → c + n ≤ p.size →
      (∀ j, c ≤ j → j < c + n → p.getD (j - off) 0 = p.getD j 0) →
      copyFwd (pre ++ p.extract 0 c) off n = pre ++ p.extract 0 (c + n) := by
  intro n
  induction n with
  | zero => intro c _ _ _; rfl
  | succ n ih =>
    intro c hc hn hm
    simp only [copyFwd]
    have hsz : (pre ++ p.extract 0 c).size = pre.size + c := by
      simp only [Array.size_append, Array.size_extract]; omega
    have hidx : (pre ++ p.extract 0 c).size - off = pre.size + (c - off) := by omega
    rw [hidx, getD_append_right, getD_extract0 p (c - off) c (by omega) (by omega), hm c (Nat.le_refl _) (by omega),
      prefix_push pre p c (by omega), ih (c + 1) (by omega) (by omega) (fun j h1 h2 => hm j (by omega) (by omega))]
    congr 2; omega

theorem extend_spec (src : Array UInt8) (f : Nat) : ∀ (i s : Nat),
    s ≤ extend src f i s ∧ (s ≤ src.size → extend src f i s ≤ src.size) ∧
    ∀ j, s ≤ j → j < extend src f i s → src.getD (i + (j - s)) 0 = src.getD j 0 := by
  induction f with
  | zero => intro i s; simp only [extend]; exact ⟨Nat.le_refl _, fun h => h, fun j h1 h2 => by omega⟩
  | succ f ih =>
    intro i s
    simp only [extend]
    by_cases c : s < src.size ∧ src.getD i 0 = src.getD s 0
    · rw [if_pos c]
      obtain ⟨h1, h2, h3⟩ := ih (i + 1) (s + 1)
      refine ⟨by omega, fun _ => h2 (by omega), ?_⟩
      intro j hj1 hj2
      by_cases hjs : j = s
      · subst hjs; simpa using c.2
      · have := h3 j (by omega) hj2
        rw [← this]; congr 1; omega
    · rw [if_neg c]; exact ⟨Nat.le_refl _, fun h => h, fun j h1 h2 => by omega⟩

/-- base-256 digits are unique: peel off the lowest one -/
theorem digit_eq {a c x y : Nat} (ha : a < 256) (hc : c < 256) (h : a + 256 * x = c + 256 * y) : a = c ∧ x = y := by
  omega

theorem load32_eq (p : Array UInt8) (a c : Nat) (h : load32 p a = load32 p c) :
    ∀ k, k < 4 → p.getD (a + k) 0 = p.getD (c + k) 0 := by
  have nest : ∀ i, load32 p i = at8 p i + 256 * (at8 p (i + 1) + 256 * (at8 p (i + 2) + 256 * at8 p (i + 3))) := by
    intro i; unfold load32; omega
  rw [nest, nest] at h
  have lt : ∀ i, at8 p i < 256 := fun i => by unfold at8; exact UInt8.toNat_lt _
  obtain ⟨e0, h⟩ := digit_eq (lt a) (lt c) h
  obtain ⟨e1, h⟩ := digit_eq (lt _) (lt _) h
  obtain ⟨e2, e3⟩ := digit_eq (lt _) (lt _) h
  intro k hk
  have : k = 0 ∨ k = 1 ∨ k = 2 ∨ k = 3 := by omega
  rcases this with rfl | rfl | rfl | rfl
  · exact UInt8.toNat_inj.mp e0
  · exact UInt8.toNat_inj.mp e1
  · exact UInt8.toNat_inj.mp e2
  · exact UInt8.toNat_inj.mp e3
theorem getD_setIfInBounds_le (t : Array Nat) (i v B : Nat) (ht : ∀ j, t.getD j 0 ≤ B) (hv : v ≤ B) :
    ∀ j, (t.setIfInBounds i v).getD j 0 ≤ B := by
  intro j
  have := ht j
  simp only [Array.getD_eq_getD_getElem?, Array.getElem?_setIfInBounds] at this ⊢
  split
  · split
    · simpa using hv
    · simp
  · exact this

/-- `acc` (reversed) is a well-formed list of emit calls reproducing the first `n` bytes of `p` after `pre` -/
def Acc (pre p : Array UInt8) (acc : List Elem) (n : Nat) : Prop :=
  WF pre acc.reverse ∧ expand pre acc.reverse = pre ++ p.extract 0 n

def Result (pre p : Array UInt8) (es : List Elem) : Prop :=
  WF pre es ∧ expand pre es = pre ++ p

theorem Acc_lit (pre p : Array UInt8) (acc : List Elem) (n m : Nat) (h : Acc pre p acc n)
    (hnm : n < m) (hm : m ≤ p.size) (hlen : m - n ≤ 65536) : Acc pre p (.lit (slice p n m) :: acc) m := by
  obtain ⟨h1, h2⟩ := h
  unfold Acc
  rw [List.reverse_cons, WF_append, expand_append, h2]
  have hl : (slice p n m).length = m - n := by simp [slice]; omega
  refine ⟨⟨h1, ?_⟩, ?_⟩
  · simp only [WF, and_true]; omega
  · simp only [expand, slice, Array.toArray_toList]
    rw [Array.append_assoc, Array.extract_append_extract]
    congr 2 <;> omega

theorem Acc_copy (pre p : Array UInt8) (acc : List Elem) (s cand s' : Nat) (h : Acc pre p acc s)
    (hc : cand < s) (hs : s < 65536) (h4 : s + 4 ≤ s') (hs' : s' ≤ p.size)
    (hm : ∀ j, s ≤ j → j < s' → p.getD (j - (s - cand)) 0 = p.getD j 0) :
    Acc pre p (.copy (s - cand) (s' - s) :: acc) s' := by
  obtain ⟨h1, h2⟩ := h
  unfold Acc
  rw [List.reverse_cons, WF_append, expand_append, h2]
  refine ⟨⟨h1, ?_⟩, ?_⟩
  · simp only [WF, Array.size_append, Array.size_extract, and_true]; omega
  · simp only [expand]
    rw [copyFwd_match pre p (s - cand) (by omega) (s' - s) s (by omega) (by omega)
      (fun j hj1 hj2 => hm j hj1 (by omega))]
    congr 2; omega

theorem Result_remainder (pre p : Array UInt8) (e : Enc) (he : e.src = p) (acc : List Elem) (n : Nat)
    (h : Acc pre p acc n) (hn : n ≤ p.size) (hp : p.size ≤ 65536) : Result pre p (remainder e n acc) := by
  unfold remainder
  rw [he]
  by_cases c : n < p.size
  · rw [if_pos c]
    have := Acc_lit pre p acc n p.size h c (Nat.le_refl _) (by omega)
    unfold Acc at this
    rw [Array.extract_size] at this
    exact this
  · rw [if_neg c]
    have : n = p.size := by omega
    subst this
    unfold Acc at h
    rw [Array.extract_size] at h
    exact h

theorem scan_succ (e : Enc) (f : Nat) (table : Array Nat) (nextEmit nextS skip nextHash : Nat) (acc : List Elem) :
    scan e (f + 1) table nextEmit nextS skip nextHash acc =
      if nextS + skip / 32 > e.sLimit then remainder e nextEmit acc
      else if load32 e.src nextS = load32 e.src (table.getD nextHash 0) then
        copyLoop e f (table.setIfInBounds nextHash nextS) nextS (table.getD nextHash 0)
          (.lit (slice e.src nextEmit nextS) :: acc)
      else scan e f (table.setIfInBounds nextHash nextS) nextEmit (nextS + skip / 32) (skip + skip / 32)
        (hashIdx (load32 e.src (nextS + skip / 32)) e.shift) acc := by
  rw [scan]

/-- the body of `copyLoop` after the match has been extended to `s'` -/
def copyBody (e : Enc) (f : Nat) (table : Array Nat) (s cand s' : Nat) (acc : List Elem) : List Elem :=
  if s' ≥ e.sLimit then remainder e s' (.copy (s - cand) (s' - s) :: acc)
  else
    let t1 := table.setIfInBounds (hashIdx (load32 e.src (s' - 1)) e.shift) (s' - 1)
    let cand' := t1.getD (hashIdx (load32 e.src s') e.shift) 0
    let t2 := t1.setIfInBounds (hashIdx (load32 e.src s') e.shift) s'
    if load32 e.src s' ≠ load32 e.src cand' then
      scan e f t2 s' (s' + 1) 32 (hashIdx (load32 e.src (s' + 1)) e.shift) (.copy (s - cand) (s' - s) :: acc)
    else copyLoop e f t2 s' cand' (.copy (s - cand) (s' - s) :: acc)

theorem copyLoop_succ (e : Enc) (f : Nat) (table : Array Nat) (s cand : Nat) (acc : List Elem) :
    copyLoop e (f + 1) table s cand acc =
      copyBody e f table s cand (extend e.src e.src.size (cand + 4) (s + 4)) acc := by
  rw [copyLoop]; rfl

/-- loop invariant of `scan` / `copyLoop`: the emit calls reproduce the block `p` after the prefix `pre` -/
theorem scan_copy_correct (pre p : Array UInt8) (e : Enc) (he1 : e.src = p) (he2 : e.sLimit = p.size - 15)
    (hp1 : 17 ≤ p.size) (hp2 : p.size ≤ 65536) (f : Nat) :
    (∀ table nextEmit nextS skip nextHash acc, nextEmit < nextS → nextS ≤ p.size - 15 → 32 ≤ skip →
      (∀ i, table.getD i 0 < nextS) → p.size + 2 ≤ f + nextS → Acc pre p acc nextEmit →
      Result pre p (scan e f table nextEmit nextS skip nextHash acc)) ∧
    (∀ table s cand acc, cand < s → s ≤ p.size - 15 → load32 p s = load32 p cand →
      (∀ i, table.getD i 0 ≤ s) → p.size + 1 ≤ f + s → Acc pre p acc s →
      Result pre p (copyLoop e f table s cand acc)) := by
  induction f with
  | zero =>
    constructor
    · intro table nextEmit nextS skip nextHash acc h1 h2 h3 ht hf; omega
    · intro table s cand acc h1 h2 hl ht hf; omega
  | succ f ih =>
    obtain ⟨ihs, ihc⟩ := ih
    constructor
    · intro table nextEmit s skip nextHash acc h1 h2 h3 ht hf hacc
      rw [scan_succ, he1, he2]
      refine ite_cases (fun c1 => ?_) (fun c1 => ?_)
      · exact Result_remainder pre p e he1 acc nextEmit hacc (by omega) hp2
      · have hcand := ht nextHash
        have ht' := getD_setIfInBounds_le table nextHash s s (fun j => Nat.le_of_lt (ht j)) (Nat.le_refl _)
        refine ite_cases (fun c2 => ?_) (fun c2 => ?_)
        · exact ihc _ s _ _ hcand h2 c2 ht' (by omega)
            (Acc_lit pre p acc nextEmit s hacc h1 (by omega) (by omega))
        · exact ihs _ nextEmit _ _ _ acc (by omega) (by omega) (by omega)
            (fun j => by have := ht' j; omega) (by omega) hacc
    · intro table s cand acc h1 h2 hl ht hf hacc
      rw [copyLoop_succ, he1]
      obtain ⟨hx1, hx2, hx3⟩ := extend_spec p p.size (cand + 4) (s + 4)
      generalize extend p p.size (cand + 4) (s + 4) = s' at hx1 hx2 hx3 ⊢
      have hx2' : s' ≤ p.size := hx2 (by omega)
      have hm : ∀ j, s ≤ j → j < s' → p.getD (j - (s - cand)) 0 = p.getD j 0 := by
        intro j hj1 hj2
        by_cases hj : j < s + 4
        · have := load32_eq p s cand hl (j - s) (by omega)
          rw [show s + (j - s) = j by omega] at this
          rw [this]; congr 1; omega
        · have := hx3 j (by omega) hj2
          rw [← this]; congr 1; omega
      have hacc' := Acc_copy pre p acc s cand s' hacc h1 (by omega) hx1 hx2' hm
      unfold copyBody
      rw [he1, he2]
      refine ite_cases (fun c1 => ?_) (fun c1 => ?_)
      · exact Result_remainder pre p e he1 _ s' hacc' hx2' hp2
      · have ht1 := getD_setIfInBounds_le table (hashIdx (load32 p (s' - 1)) e.shift) (s' - 1) (s' - 1)
          (fun j => by have := ht j; omega) (Nat.le_refl _)
        have ht2 := getD_setIfInBounds_le (table.setIfInBounds (hashIdx (load32 p (s' - 1)) e.shift) (s' - 1))
          (hashIdx (load32 p s') e.shift) s' s'
          (fun j => by have := ht1 j; omega) (Nat.le_refl _)
        have hcand := ht1 (hashIdx (load32 p s') e.shift)
        simp only
        refine ite_cases (fun c2 => ?_) (fun c2 => ?_)
        · exact ihs _ s' (s' + 1) 32 _ _ (by omega) (by omega) (by omega)
            (fun j => by have := ht2 j; omega) (by omega) hacc'
        · exact ihc _ s' _ _ (by omega) (by omega) (Classical.not_not.mp c2) ht2 (by omega) hacc'

theorem encodeBlockOps_correct (pre p : Array UInt8) (hp1 : 17 ≤ p.size) (hp2 : p.size ≤ 65536) :
    Result pre p (encodeBlockOps p) := by
  unfold encodeBlockOps
  simp only
  refine (scan_copy_correct pre p _ rfl (by simp only [margin_eq]) hp1 hp2 (p.size + 1)).1 _ 0 1 32 _ []
    (by omega) (by omega) (by omega) ?_ (by omega) ?_
  · intro i
    simp only [Array.getD_eq_getD_getElem?, Array.getElem?_replicate]
    split <;> simp
  · unfold Acc
    simp [WF, expand]

theorem pieceOps_correct (pre p : Array UInt8) (hp1 : 1 ≤ p.size) (hp2 : p.size ≤ 65536) :
    Result pre p (pieceOps p) := by
  unfold pieceOps
  rw [minnonlit_eq]
  by_cases c : p.size < 17
  · rw [if_pos c]
    unfold Result
    simp only [WF, expand, Array.length_toList, Array.toArray_toList, and_true]
    omega
  · rw [if_neg c]; exact encodeBlockOps_correct pre p (by omega) hp2

/-! ## Layer 3: all pieces, and the round trip -/

theorem Result_nil (pre : Array UInt8) : Result pre #[] [] := by
  unfold Result; simp [WF, expand]

theorem Result_append (pre p q : Array UInt8) (a c : List Elem) (h1 : Result pre p a) (h2 : Result (pre ++ p) q c) :
    Result pre (p ++ q) (a ++ c) := by
  obtain ⟨a1, a2⟩ := h1
  obtain ⟨c1, c2⟩ := h2
  unfold Result
  rw [WF_append, expand_append, a2]
  exact ⟨⟨a1, c1⟩, by rw [c2, Array.append_assoc]⟩

theorem pieces_correct (f : Nat) : ∀ (src : Bytes) (pre : Array UInt8), src.length ≤ f →
    Result pre src.toArray ((pieces f src).flatMap fun p => pieceOps p.toArray) := by
  induction f with
  | zero =>
    intro src pre h
    have : src = [] := List.eq_nil_of_length_eq_zero (by omega)
    subst this
    exact Result_nil pre
  | succ f ih =>
    intro src pre h
    cases src with
    | nil => exact Result_nil pre
    | cons x xs =>
      simp only [pieces, List.flatMap_cons, maxblock_eq]
      have hsplit : (x :: xs).toArray = ((x :: xs).take 65536).toArray ++ ((x :: xs).drop 65536).toArray := by
        rw [List.append_toArray, List.take_append_drop]
      rw [hsplit]
      apply Result_append
      · apply pieceOps_correct
        · simp only [List.size_toArray, List.length_take, List.length_cons]; omega
        · simp only [List.size_toArray, List.length_take]; omega
      · apply ih
        simp only [List.length_drop]; omega

theorem encodeOps_correct (src : Bytes) : Result #[] src.toArray (encodeOps src) :=
  pieces_correct src.length src #[] (Nat.le_refl _)

/-- the decoder's loop on the emit calls of the encoder, with any fuel that covers them, yields the source -/
theorem decodeLoop_encodeOps (src : Bytes) (F : Nat) (hF : (emitAll (encodeOps src)).length ≤ F) :
    decodeLoop src.length F (emitAll (encodeOps src)) #[] = .ok src.toArray := by
  obtain ⟨hwf, hex⟩ := encodeOps_correct src
  rw [Array.empty_append] at hex
  have := dec_emitAll src.length (encodeOps src) [] #[] hwf (by rw [hex]; simp)
  rw [List.append_nil, hex] at this
  rw [decodeLoop_fuel _ F _ _ _ hF (Nat.le_refl _)]
  show dec _ _ _ = _
  rw [this]
  simp [dec, decodeLoop]

/-- `snappy.Decode(nil, snappy.Encode(nil, src)) = src` for every input the encoder accepts -/
theorem snappy_roundtrip (src : Bytes) (h : src.length ≤ 0xffffffff) :
    Snappy.decode (Snappy.encode src) = .ok src := by
  unfold decode encode
  rw [decodedLen_put src.length (emitAll (encodeOps src)) h]
  simp only [List.drop_left]
  rw [decodeLoop_encodeOps src _ (by simp)]

/-! ## the size bound, from the decoder's side -/

theorem putUvarintAux_length (f : Nat) : ∀ x, (putUvarintAux f x).length ≤ f + 1 := by
  induction f with
  | zero => intro x; simp [putUvarintAux]
  | succ f ih =>
    intro x
    unfold putUvarintAux
    split
    · simp only [List.length_cons]; have := ih (x / 128); omega
    · simp

theorem decodeLoop_bound (dLen : Nat) : ∀ (f : Nat) (src : Bytes) (dst d : Array UInt8),
    decodeLoop dLen f src dst = .ok d → src.length + 6 * dst.size ≤ 6 * d.size := by
  intro f
  induction f with
  | zero =>
    intro src dst d h
    cases src with
    | nil =>
      unfold decodeLoop at h
      split at h
      · cases h
      · simp only [Except.ok.injEq] at h; subst h; simp
    | cons x xs => unfold decodeLoop at h; cases h
  | succ f ih =>
    intro src dst d h
    cases src with
    | nil =>
      unfold decodeLoop at h
      split at h
      · cases h
      · simp only [Except.ok.injEq] at h; subst h; simp
    | cons x xs =>
      unfold decodeLoop at h
      split at h
      · cases h
      · rename_i src' dst' hs
        have b1 := (decodeStep_bound dLen _ _ _ _ hs).2
        have b2 := ih src' dst' d h
        omega

/-- the encoder's output is at most 11 + 6·len(src) bytes long -/
theorem encode_length_le (src : Bytes) (h : src.length ≤ 0xffffffff) : (encode src).length ≤ 11 + 6 * src.length := by
  have he := decodeLoop_encodeOps src _ (Nat.le_refl _)
  have b := decodeLoop_bound _ _ _ _ _ he
  have p := putUvarintAux_length 10 src.length
  unfold encode
  simp only [List.length_append, List.size_toArray] at b ⊢
  unfold putUvarint
  omega

end GocoinV.Snappy
