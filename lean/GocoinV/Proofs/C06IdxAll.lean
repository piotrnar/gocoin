/-
  Proofs.C06IdxAll — the bridge between `deliverIdx` (what the oracle runs: 8-byte `BlockIndex` key, then the whole hash)
  and `deliver` (what the theorems are about) for WHOLE HISTORIES: when the 8-byte keys of all hashes that can occur — ids
  and previous-block fields of the blocks of `U`, and the root — are pairwise distinct, every state of a history of
  deliveries satisfies `KeyOK` for every delivered block (the nodes of the tree are blocks of `U` or the root: `TreeWF.blk`),
  so the two folds are the same state.
-/
import GocoinV.Proofs.C06CommitNode
import GocoinV.Proofs.C06Idx
namespace GocoinV.ChainTree
open GocoinV.UtxoOps

/-- a hash that can occur in a history over `U`: the root, the id of a block of `U`, or its previous-block field -/
def Occurs (root : Nat) (U : List Block) (x : Nat) : Prop := x = root ∨ ∃ b ∈ U, b.id = x ∨ b.parent = x

/-- no two DIFFERENT hashes that can occur share their first 8 bytes -/
def KeysDistinct (root : Nat) (U : List Block) : Prop :=
  ∀ x y, Occurs root U x → Occurs root U y → bidx x = bidx y → x = y

/-- `KeysDistinct` for a given root and list of blocks, checked over the hashes that can occur -/
def keysDistinctB (root : Nat) (U : List Block) : Bool :=
  (root :: U.flatMap fun b => [b.id, b.parent]).all fun x =>
    (root :: U.flatMap fun b => [b.id, b.parent]).all fun y => bidx x != bidx y || x == y

theorem keysDistinctB_sound {root : Nat} {U : List Block} (h : keysDistinctB root U = true) : KeysDistinct root U := by
  have occ : ∀ z, Occurs root U z → z ∈ root :: U.flatMap fun b => [b.id, b.parent] := by
    rintro z (hz | ⟨b, hb, hz⟩)
    · exact hz ▸ List.mem_cons_self
    · exact List.mem_cons_of_mem _ (List.mem_flatMap.mpr ⟨b, hb, by rcases hz with hz | hz <;> simp [hz]⟩)
  intro x y hx hy hb
  have := List.all_eq_true.mp (List.all_eq_true.mp h x (occ x hx)) y (occ y hy)
  simpa [hb] using this

theorem KeyOK_of_distinct {U : List Block} {c : Chain} (w : TreeWF U c) (hk : KeysDistinct c.root U) (id : Nat)
    (hid : Occurs c.root U id) : KeyOK c id := by
  intro n hn hb
  have hsome : (getNode c n.id).isSome = true := by
    unfold getNode
    rw [List.find?_isSome]
    exact ⟨n, hn, by simp⟩
  obtain ⟨n', hg⟩ := Option.isSome_iff_exists.mp hsome
  refine hk n.id id ?_ hid hb
  by_cases hr : n.id = c.root
  · exact Or.inl hr
  · obtain ⟨b, hbU, hbid, _⟩ := w.blk n.id n' hg hr
    exact Or.inr ⟨b, hbU, Or.inl hbid⟩

/-- **for every history of deliveries over a block tree with pairwise distinct 8-byte keys, what the oracle computes
    (`deliverIdx`) is what the theorems are about (`deliver`)** -/
theorem deliverIdx_all {U : List Block} (ds : List Block) : ∀ (c : Chain), Inv U c → AllData c → BlockTree c.root U →
    KeysDistinct c.root U → (∀ b ∈ ds, b ∈ U) →
    ds.foldl (fun c b => (deliverIdx c b).1) c = ds.foldl (fun c b => (deliver c b).1) c := by
  induction ds with
  | nil => intro c _ _ _ _ _; rfl
  | cons b bs ih =>
    intro c hi ha hU hk hin
    have hbU := hin b List.mem_cons_self
    have e : deliverIdx c b = deliver c b :=
      deliverIdx_eq_deliver c b (KeyOK_of_distinct hi.wf hk b.id (Or.inr ⟨b, hbU, Or.inl rfl⟩))
        (KeyOK_of_distinct hi.wf hk b.parent (Or.inr ⟨b, hbU, Or.inr rfl⟩))
    simp only [List.foldl_cons, e]
    obtain ⟨h, h6, _⟩ := deliver_ok hi hU b hbU (ha _)
    exact ih (deliver c b).1 h.inv (ha.deliver hU b hbU h.root h6) (by rw [h.root]; exact hU) (by rw [h.root]; exact hk)
      (fun x hx => hin x (List.mem_cons_of_mem _ hx))

end GocoinV.ChainTree
