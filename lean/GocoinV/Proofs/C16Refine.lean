/-
  Proofs.C16Refine — the block store model refines the durable-map specification `Spec.BlockStoreMap`:
  the data-file half of the invariant (every written record's [fpos, fpos+blen) lies in its data file, below the
  append position, and decodes to the block), the cache / queue half (an unwritten block is cached and is never
  evicted; a queue entry that will be written carries the block's bytes), kept by every primitive transition, hence
  by every operation of a session, the one-pass read included; and what the reads then reply.
-/
import GocoinV.Proofs.C16Retain
namespace GocoinV.BlockDB

/-! ### pwrite: what a positioned write leaves in the file -/

theorem pwrite_split (f : Bytes) (pos : Nat) (d : Bytes) :
    ∃ X Y, pwrite f pos d = X ++ d ++ Y ∧ X.length = pos ∧ X = (f ++ List.replicate (pos - f.length) 0).take pos :=
  ⟨_, _, rfl, by simp; omega, rfl⟩

theorem pwrite_read (f : Bytes) (pos : Nat) (d : Bytes) :
    ((pwrite f pos d).drop pos).take d.length = d := by
  obtain ⟨X, Y, e, hl, _⟩ := pwrite_split f pos d
  rw [e, List.append_assoc, List.drop_left' hl, List.take_left' rfl]

theorem pwrite_length_ge (f : Bytes) (pos : Nat) (d : Bytes) : pos + d.length ≤ (pwrite f pos d).length := by
  obtain ⟨X, Y, e, hl, _⟩ := pwrite_split f pos d
  rw [e]; simp; omega

theorem take_drop_append_left (P Q : Bytes) (a n : Nat) (h : a + n ≤ P.length) :
    ((P ++ Q).drop a).take n = (P.drop a).take n := by
  rw [List.drop_append_of_le_length (by omega), List.take_append_of_le_length (by simp; omega)]

theorem pwrite_keep (f : Bytes) (pos : Nat) (d : Bytes) (a n : Nat) (h1 : a + n ≤ pos) (h2 : a + n ≤ f.length) :
    ((pwrite f pos d).drop a).take n = (f.drop a).take n := by
  obtain ⟨X, Y, e, hl, hx⟩ := pwrite_split f pos d
  rw [e, List.append_assoc, take_drop_append_left _ _ _ _ (by omega), hx]
  rw [List.drop_take, List.take_take, Nat.min_eq_left (by omega)]
  exact take_drop_append_left _ _ _ _ h2

/-! ### the refinement relation -/

/-- what the theorems need of the codec: decode ∘ encode = id (on inputs whose length fits the 32-bit length header),
    and an encoding is never empty -/
structure EnvOK (env : Env) : Prop where
  rt : ∀ x : Bytes, x.length ≤ 0xffffffff → env.dec (env.enc x) = some x
  ne : ∀ x, env.enc x ≠ []

/-- the data-file half: the record's byte range lies inside its data file and decodes to the block -/
def DataOK (env : Env) (fs : FS) (r : Rec) (raw : Bytes) : Prop :=
  r.blen ≠ 0 ∧ ∃ file, fileOf fs r.datfileidx = some file ∧ r.fpos + r.blen ≤ file.length ∧
    decodeStored env r ((file.drop r.fpos).take r.blen) = (raw, none)

structure Ref (env : Env) (s : State) (sp : Spec) : Prop where
  opn : sp.isOpen = s.isOpen
  /-- the data file that is being appended to exists in the main directory -/
  cur : s.isOpen = true → ∃ f, AL.get s.fs.dats s.maxdatfileidx = some f
  idxspec : ∀ k r, AL.get s.index k = some r → ∃ e, AL.get sp.m k = some e
  pos : ∀ k r, AL.get s.index k = some r →
    r.datfileidx ≤ s.maxdatfileidx ∧ (r.datfileidx = s.maxdatfileidx → r.fpos + r.blen ≤ s.maxdatfilepos)
  cacheidx : ∀ k c, AL.get s.cache k = some c → ∃ r, AL.get s.index k = some r
  /-- a cached block is the stored one — unless a `BlockGet` read it from a data file whose number is on the ghost list
      `FS.lost` (`keyLost`; the record then stays lost for good: `keyLost` is monotone) -/
  cachedata : ∀ k c e, AL.get s.cache k = some c → AL.get sp.m k = some e → e.tainted = false → keyLost s k = false →
    c.data = e.raw
  qseq : ∀ b ∈ s.queue, b.seq < s.nextSeq
  qdata : ∀ b ∈ s.queue, ∀ r e, AL.get s.index b.idx = some r → r.seq = b.seq → r.ipos = none →
    AL.get sp.m b.idx = some e → e.tainted = false → b.data = e.raw
  ent : ∀ k e, AL.get sp.m k = some e → e.tainted = false →
    ∃ r, AL.get s.index k = some r ∧ r.trusted = e.trusted ∧ r.olen = e.raw.length ∧ (80 ≤ e.raw.length ∧ e.raw.length ≤ 0xffffffff) ∧
      (r.ipos = none → ∃ c, AL.get s.cache k = some c) ∧
      (r.ipos.isSome = true → s.fs.lost.contains r.datfileidx = false → DataOK env s.fs r e.raw)

theorem DataOK_congr (env : Env) (fs fs' : FS) (r r' : Rec) (raw : Bytes) (hd : fs'.dats = fs.dats) (ho : fs'.olds = fs.olds)
    (h1 : r'.fpos = r.fpos) (h2 : r'.blen = r.blen) (h3 : r'.datfileidx = r.datfileidx)
    (h4 : r'.compressed = r.compressed) (h5 : r'.snappied = r.snappied) (h : DataOK env fs r raw) :
    DataOK env fs' r' raw := by
  unfold DataOK fileOf at *
  unfold decodeStored at *
  rw [h1, h2, h3, h4, h5, hd, ho]
  exact h

theorem keyLost_of (s : State) (k : Key) (r : Rec) (hr : AL.get s.index k = some r) :
    keyLost s k = (r.ipos.isSome && s.fs.lost.contains r.datfileidx) := by
  unfold keyLost; rw [hr]

theorem keyLost_congr (s s' : State) (k : Key) (hi : AL.get s'.index k = AL.get s.index k) (hl : s'.fs.lost = s.fs.lost) :
    keyLost s' k = keyLost s k := by
  unfold keyLost; rw [hi, hl]

/-- the index record of key `k` is replaced by one with the same disk fields, and / or the specification changes at `k`
    in a compatible way; cache, queue, data files, positions unchanged -/
theorem ref_update (env : Env) (s s' : State) (sp sp' : Spec) (h : Ref env s sp) (k : Key) (r0 : Rec) (o : Nat) (t : Bool)
    (hr : AL.get s.index k = some r0)
    (hidx : ∀ k', AL.get s'.index k' = if k = k' then some { r0 with olen := o, trusted := t } else AL.get s.index k')
    (f1 : s'.cache = s.cache) (f2 : s'.queue = s.queue)
    (f3 : s'.fs.dats = s.fs.dats ∧ s'.fs.olds = s.fs.olds ∧ s'.fs.lost = s.fs.lost)
    (f5 : s'.isOpen = s.isOpen) (f6 : s'.nextSeq = s.nextSeq) (f7 : s'.maxdatfilepos = s.maxdatfilepos)
    (f8 : s'.maxdatfileidx = s.maxdatfileidx)
    (hopen : sp'.isOpen = sp.isOpen)
    (hm : ∀ k', k ≠ k' → AL.get sp'.m k' = AL.get sp.m k')
    (hk : ∀ e', AL.get sp'.m k = some e' → e'.tainted = false →
      ∃ e, AL.get sp.m k = some e ∧ e.tainted = false ∧ e.raw = e'.raw ∧ t = e'.trusted ∧ o = r0.olen)
    (hex : ∃ e', AL.get sp'.m k = some e') : Ref env s' sp' := by
  have hkl_eq : ∀ k', keyLost s' k' = keyLost s k' := by
    intro k'
    by_cases hkk : k = k'
    · subst hkk
      rw [keyLost_of s' k _ (by rw [hidx, if_pos rfl]), keyLost_of s k r0 hr, f3.2.2]
    · exact keyLost_congr s s' k' (by rw [hidx, if_neg hkk]) f3.2.2
  refine ⟨by rw [hopen, f5]; exact h.opn, by rw [f5, f3.1, f8]; exact h.cur, ?_, ?_, ?_, ?_, ?_, ?_, ?_⟩
  · intro k' r hh
    rw [hidx] at hh
    split at hh
    · rename_i e; subst e; exact hex
    · rename_i ne; rw [hm k' ne]; exact h.idxspec k' r hh
  · intro k' r hh
    rw [hidx] at hh
    rw [f7, f8]
    split at hh
    · simp only [Option.some.injEq] at hh; subst hh
      exact h.pos k r0 hr
    · exact h.pos k' r hh
  · intro k' c hh
    rw [f1] at hh
    rw [hidx]; exact some_ite (h.cacheidx k' c hh)
  · intro k' c e' hc he' ht hkl
    rw [f1] at hc
    rw [hkl_eq] at hkl
    by_cases hkk : k = k'
    · subst hkk
      obtain ⟨e, he, hte, hraw, _, _⟩ := hk e' he' ht
      rw [← hraw]; exact h.cachedata k c e hc he hte hkl
    · rw [hm k' hkk] at he'; exact h.cachedata k' c e' hc he' ht hkl
  · intro b hb; rw [f2] at hb; rw [f6]; exact h.qseq b hb
  · intro b hb r e' hri hseq hip he' ht
    rw [f2] at hb
    rw [hidx] at hri
    by_cases hkk : k = b.idx
    · subst hkk
      rw [if_pos rfl] at hri
      simp only [Option.some.injEq] at hri; subst hri
      obtain ⟨e, he, hte, hraw, _, _⟩ := hk e' he' ht
      rw [← hraw]
      exact h.qdata b hb r0 e hr hseq hip he hte
    · rw [if_neg hkk] at hri
      rw [hm _ hkk] at he'
      exact h.qdata b hb r e' hri hseq hip he' ht
  · intro k' e' he' ht
    by_cases hkk : k = k'
    · subst hkk
      obtain ⟨e, he, hte, hraw, htr, hol⟩ := hk e' he' ht
      obtain ⟨r, hr1, _, hr3, hr4, hr5, hr6⟩ := h.ent k e he hte
      rw [hr] at hr1; simp only [Option.some.injEq] at hr1; subst hr1
      rw [← hraw]
      refine ⟨_, (hidx k).trans (if_pos rfl), htr, by rw [hol, hr3], hr4, ?_, ?_⟩
      · intro hn; rw [f1]; exact hr5 hn
      · intro hn hl
        exact DataOK_congr env s.fs s'.fs r0 _ e.raw f3.1 f3.2.1 rfl rfl rfl rfl rfl
          (hr6 hn (by rw [← f3.2.2]; exact hl))
    · rw [hm k' hkk] at he'
      obtain ⟨r, hr1, hr2, hr3, hr4, hr5, hr6⟩ := h.ent k' e' he' ht
      refine ⟨r, by rw [hidx, if_neg hkk]; exact hr1, hr2, hr3, hr4, ?_, ?_⟩
      · intro hn; rw [f1]; exact hr5 hn
      · intro hn hl
        exact DataOK_congr env s.fs s'.fs r r e'.raw f3.1 f3.2.1 rfl rfl rfl rfl rfl (hr6 hn (by rw [← f3.2.2]; exact hl))

theorem ref_touch (env : Env) (s : State) (sp : Spec) (h : Ref env s sp) (c : List (Key × CacheEnt)) (hc : CacheStep env s c) :
    Ref env { s with cache := c, clock := s.clock + 1 } sp := by
  refine { h with cacheidx := ?_, cachedata := ?_, ent := ?_ }
  · intro k c' hc'
    rcases hc.1 k c' hc' with ⟨c0, hc0, _⟩ | ⟨r, _, hr, _⟩
    · exact h.cacheidx k c0 hc0
    · exact ⟨r, hr⟩
  · intro k c' e hc' he hte hkl
    have hkl' : keyLost s k = false := hkl
    rcases hc.1 k c' hc' with ⟨c0, hc0, hd⟩ | ⟨r, file, hr, hs, hf, hd⟩
    · rw [← hd]; exact h.cachedata k c0 e hc0 he hte hkl'
    · obtain ⟨r', hr', _, _, _, _, hr6⟩ := h.ent k e he hte
      rw [hr] at hr'; cases hr'
      rw [keyLost_of s k r hr, hs, Bool.true_and] at hkl'
      obtain ⟨_, file', d2, _, d4⟩ := hr6 hs hkl'
      unfold fileOf at d2
      rw [hf] at d2; cases d2
      rw [hd, d4]
  · intro k e he hte
    obtain ⟨r, hr1, hr2, hr3, hr4, hr5, hr6⟩ := h.ent k e he hte
    exact ⟨r, hr1, hr2, hr3, hr4, fun hn => (hr5 hn).elim fun c0 h0 => hc.2 k c0 r h0 hr1 hn, hr6⟩

/-! ### writing -/

theorem ref_pop (env : Env) (s : State) (sp : Spec) (h : Ref env s sp) (b : B2W) (q : List B2W) (hq : s.queue = b :: q) (n : Nat) :
    Ref env { s with queue := q, datToWrite := n } sp :=
  { h with
    qseq := fun b' hb' => h.qseq b' (by rw [hq]; simp [hb'])
    qdata := fun b' hb' => h.qdata b' (by rw [hq]; simp [hb']) }

theorem DataOK_keeps (env : Env) (fs fs' : FS) (r : Rec) (raw : Bytes) (hk : Keeps fs fs') (h : DataOK env fs r raw)
    (hl : fs'.lost.contains r.datfileidx = false) : DataOK env fs' r raw := by
  obtain ⟨d1, file, d2, d3, d4⟩ := h
  exact ⟨d1, file, (hk _ hl).2 file d2, d3, d4⟩

/-- the roll-over of `writeOne` — `os.Create` of the next data file, then `removeDatFile(maxdatfileidx - keep)` (delete, or
    rename into oldat/): every record that is still within retention keeps its bytes; the new current file exists -/
theorem maybeRoll_ref (env : Env) (s : State) (sp : Spec) (h : Ref env s sp) (n : Nat) :
    Ref env (maybeRoll s n) sp ∧ (maybeRoll s n).index = s.index
      ∧ (maybeRoll s n).opts = s.opts ∧ (maybeRoll s n).isOpen = s.isOpen := by
  unfold maybeRoll
  split
  · unfold rollOver
    simp only
    generalize hfs1 : ({ s.fs with dats := AL.set s.fs.dats (s.maxdatfileidx + 1) [] } : FS) = fs1
    generalize hfs2 : (if s.opts.keep ≠ 0 ∧ s.maxdatfileidx ≥ s.opts.keep
        then removeDatFile s.opts fs1 (s.maxdatfileidx - s.opts.keep) else fs1) = fs2
    have k12 : Keeps fs1 fs2 := by
      rw [← hfs2]; split
      · exact removeDatFile_keeps _ _ _
      · exact Keeps.refl _
    have hcur : AL.get fs2.dats (s.maxdatfileidx + 1) = some [] := by
      have : AL.get fs1.dats (s.maxdatfileidx + 1) = some [] := by rw [← hfs1]; simp only [AL.get_set, ↓reduceIte]
      rw [← hfs2]; split
      · rw [removeDatFile_dats_other _ _ _ _ (by omega)]; exact this
      · exact this
    subst hfs1
    refine ⟨{ h with cur := fun _ => ⟨[], hcur⟩, pos := ?_, cachedata := ?_, ent := ?_ }, by simp⟩
    · intro k r hr
      have := h.pos k r hr
      simp only
      omega
    · intro k c e hc he ht hkl
      refine h.cachedata k c e hc he ht ?_
      cases hr : AL.get s.index k with
      | none =>
        unfold keyLost
        rw [hr]
      | some r =>
        unfold keyLost at hkl
        simp only [hr] at hkl
        rw [keyLost_of s k r hr]
        cases hi : r.ipos.isSome with
        | false => rfl
        | true =>
          rw [hi, Bool.true_and] at hkl
          rw [Bool.true_and]; exact (k12 _ hkl).1
    · intro k e he ht
      obtain ⟨r, hr1, hr2, hr3, hr4, hr5, hr6⟩ := h.ent k e he ht
      refine ⟨r, hr1, hr2, hr3, hr4, hr5, ?_⟩
      intro hn hl
      obtain ⟨d1, file, d2, d3, d4⟩ := hr6 hn (k12 _ hl).1
      have := (h.pos k r hr1).1
      refine DataOK_keeps env _ fs2 r e.raw k12 ⟨d1, file, ?_, d3, d4⟩ hl
      unfold fileOf at d2 ⊢
      simp only [AL.get_set]
      rw [if_neg (by omega)]
      exact d2
  · exact ⟨h, rfl, rfl, rfl⟩

theorem decodeStored_written (env : Env) (ok : EnvOK env) (r : Rec) (raw : Bytes)
    (h2 : r.snappied = r.compressed) (hb : raw.length ≤ 0xffffffff) :
    decodeStored env r (if r.compressed = true then env.enc raw else raw) = (raw, none) := by
  unfold decodeStored
  cases h1 : r.compressed
  · simp
  · simp [h1 ▸ h2, ok.rt raw hb]

/-- `writeOne`'s record write keeps the relation: the new range is read back as written, older ranges are untouched -/
theorem writeRecord_ref (env : Env) (ok : EnvOK env) (s : State) (sp : Spec) (h : Ref env s sp) (b : B2W) (r0 : Rec) (cbts : Bytes)
    (hr0 : AL.get s.index b.idx = some r0) (hn0 : r0.ipos = none) (ho : s.isOpen = true)
    (hcb : cbts = if s.opts.compress then env.enc b.data else b.data)
    (hdat : ∀ e, AL.get sp.m b.idx = some e → e.tainted = false → b.data = e.raw) :
    Ref env (writeRecord s b r0 cbts) sp := by
  obtain ⟨fcur, hfcur⟩ := h.cur ho
  unfold writeRecord
  refine ⟨h.opn, fun _ => ⟨pwrite ((AL.get s.fs.dats s.maxdatfileidx).getD []) s.maxdatfilepos cbts, by simp only [AL.get_set, ↓reduceIte]⟩,
    ?_, ?_, ?_, ?_, h.qseq, ?_, ?_⟩
  · intro k r hr
    simp only [AL.get_set] at hr
    split at hr
    · rename_i e; subst e; exact h.idxspec _ r0 hr0
    · exact h.idxspec k r hr
  · intro k r hr
    simp only [AL.get_set] at hr
    simp only
    split at hr
    · simp only [Option.some.injEq] at hr; subst hr
      simp
    · have := h.pos k r hr; omega
  · intro k c hc
    simp only [AL.get_set]; exact some_ite (h.cacheidx k c hc)
  · intro k c e hc he ht hkl
    refine h.cachedata k c e hc he ht ?_
    by_cases hk : b.idx = k
    · subst hk; rw [keyLost_of s _ r0 hr0, hn0]; rfl
    · rw [← hkl]; symm
      exact keyLost_congr s _ k (by simp only [AL.get_set, if_neg hk]) rfl
  · intro b' hb' r e hri hseq hip he ht
    simp only [AL.get_set] at hri
    split at hri
    · simp only [Option.some.injEq] at hri; subst hri
      simp at hip
    · exact h.qdata b' hb' r e hri hseq hip he ht
  · intro k e he ht
    obtain ⟨r, hr1, hr2, hr3, hr4, hr5, hr6⟩ := h.ent k e he ht
    by_cases hk : b.idx = k
    · subst hk
      rw [hr0] at hr1; simp only [Option.some.injEq] at hr1; subst hr1
      have hraw := hdat e he ht
      refine ⟨{ r0 with compressed := s.opts.compress, snappied := s.opts.compress, blen := cbts.length,
                        datfileidx := s.maxdatfileidx, fpos := s.maxdatfilepos, ipos := some s.maxidxfilepos },
        by simp only [AL.get_set]; simp, hr2, hr3, hr4, by simp, ?_⟩
      intro _ _
      have hne : cbts ≠ [] := by
        rw [hcb]
        split
        · exact ok.ne _
        · intro hh; rw [hraw] at hh; rw [hh] at hr4; simp at hr4
      refine ⟨by simpa using hne, pwrite ((AL.get s.fs.dats s.maxdatfileidx).getD []) s.maxdatfilepos cbts, ?_, ?_, ?_⟩
      · apply fileOf_dats; simp only [AL.get_set]; simp
      · exact pwrite_length_ge _ _ _
      · simp only [pwrite_read]
        rw [hcb, hraw]
        exact decodeStored_written env ok _ e.raw rfl hr4.2
    · refine ⟨r, by simp only [AL.get_set]; rw [if_neg hk]; exact hr1, hr2, hr3, hr4, hr5, ?_⟩
      intro hn hl
      obtain ⟨d1, file, d2, d3, d4⟩ := hr6 hn hl
      by_cases hf : s.maxdatfileidx = r.datfileidx
      · have hp := (h.pos k r hr1).2 hf.symm
        have hfile : file = fcur := by
          rw [← hf, fileOf_dats _ _ _ hfcur] at d2; exact (Option.some.inj d2).symm
        subst hfile
        refine ⟨d1, pwrite file s.maxdatfilepos cbts, ?_, ?_, ?_⟩
        · apply fileOf_dats; simp only [AL.get_set]; rw [if_pos hf, hfcur]; simp
        · have : file.length ≤ (pwrite file s.maxdatfilepos cbts).length := by simp [pwrite]; omega
          omega
        · rw [pwrite_keep _ _ _ _ _ hp d3]; exact d4
      · refine ⟨d1, file, ?_, d3, d4⟩
        unfold fileOf at d2 ⊢
        simp only [AL.get_set]; rw [if_neg hf]; exact d2

/-- the specification changes at key `k` only, compatibly; the state does not change -/
theorem ref_spec (env : Env) (s : State) (sp sp' : Spec) (h : Ref env s sp) (k : Key)
    (hopen : sp'.isOpen = sp.isOpen)
    (hm : ∀ k', k ≠ k' → AL.get sp'.m k' = AL.get sp.m k')
    (hk : ∀ e', AL.get sp'.m k = some e' → e'.tainted = false →
      ∃ e, AL.get sp.m k = some e ∧ e.tainted = false ∧ e.raw = e'.raw ∧ e.trusted = e'.trusted)
    (hex : ∀ r, AL.get s.index k = some r → ∃ e', AL.get sp'.m k = some e') : Ref env s sp' := by
  refine ⟨by rw [hopen]; exact h.opn, h.cur, ?_, h.pos, h.cacheidx, ?_, h.qseq, ?_, ?_⟩
  · intro k' r hr
    by_cases hkk : k = k'
    · subst hkk; exact hex r hr
    · rw [hm k' hkk]; exact h.idxspec k' r hr
  · intro k' c e' hc he' ht hkl
    by_cases hkk : k = k'
    · subst hkk
      obtain ⟨e, he, hte, hraw, _⟩ := hk e' he' ht
      rw [← hraw]; exact h.cachedata k c e hc he hte hkl
    · rw [hm k' hkk] at he'; exact h.cachedata k' c e' hc he' ht hkl
  · intro b hb r e' hri hseq hip he' ht
    by_cases hkk : k = b.idx
    · subst hkk
      obtain ⟨e, he, hte, hraw, _⟩ := hk e' he' ht
      rw [← hraw]
      exact h.qdata b hb r e hri hseq hip he hte
    · rw [hm _ hkk] at he'
      exact h.qdata b hb r e' hri hseq hip he' ht
  · intro k' e' he' ht
    by_cases hkk : k = k'
    · subst hkk
      obtain ⟨e, he, hte, hraw, htr⟩ := hk e' he' ht
      rw [← hraw, ← htr]
      exact h.ent k e he hte
    · rw [hm k' hkk] at he'
      exact h.ent k' e' he' ht

theorem ref_delete (env : Env) (s : State) (sp : Spec) (h : Ref env s sp) (k : Key)
    (ht : ∀ e, AL.get sp.m k = some e → e.tainted = true) :
    Ref env { s with cache := AL.del s.cache k, index := AL.del s.index k } sp := by
  refine ⟨h.opn, h.cur, ?_, ?_, ?_, ?_, h.qseq, ?_, ?_⟩
  · exact fun k' r hr => h.idxspec k' r (AL.get_of_del hr)
  · exact fun k' r hr => h.pos k' r (AL.get_of_del hr)
  · intro k' c hc
    simp only [AL.get_del] at hc ⊢
    split at hc
    · cases hc
    · rename_i hne; rw [if_neg hne]; exact h.cacheidx k' c hc
  · intro k' c e hc he hte hkl
    simp only [AL.get_del] at hc
    split at hc
    · cases hc
    · rename_i hne
      refine h.cachedata k' c e hc he hte ?_
      rw [← hkl]; symm
      exact keyLost_congr s _ k' (by simp only [AL.get_del, if_neg hne]) rfl
  · exact fun b hb r e hri => h.qdata b hb r e (AL.get_of_del hri)
  · intro k' e he hte
    have hne : ¬ k = k' := by
      intro hh; subst hh; rw [ht e he] at hte; cases hte
    obtain ⟨r, hr1, hr2, hr3, hr4, hr5, hr6⟩ := h.ent k' e he hte
    refine ⟨r, by simp only [AL.get_del]; rw [if_neg hne]; exact hr1, hr2, hr3, hr4, ?_, hr6⟩
    intro hn
    simp only [AL.get_del]; rw [if_neg hne]; exact hr5 hn

/-! ### BlockGet / BlockLength -/

/-- recording the decoded length where `olen` was 0 keeps the refinement relation: a claimed record has `olen ≠ 0` -/
theorem ref_olen (env : Env) (s : State) (sp : Spec) (h : Ref env s sp) (k : Key) (r0 : Rec) (n : Nat)
    (hr0 : AL.get s.index k = some r0) (hn : r0.olen ≠ 0 → n = r0.olen) :
    Ref env { s with index := AL.set s.index k { r0 with olen := n } } sp := by
  refine ref_update env s _ sp sp h k r0 n _ hr0 (fun k' => AL.get_set _ _ k' _) rfl rfl ⟨rfl, rfl, rfl⟩ rfl rfl rfl rfl
    rfl (fun _ _ => rfl) ?_ (h.idxspec _ r0 hr0)
  intro e' he' hte
  obtain ⟨r, hr, hr2, hr3, hr4, _⟩ := h.ent _ e' he' hte
  rw [hr0] at hr
  simp only [Option.some.injEq] at hr
  subst hr
  exact ⟨e', he', hte, rfl, hr2, hn (by omega)⟩

/-- the reply of `BlockGet` for a claimed key within retention: the block of its first add, the latest trusted flag -/
theorem blockGet_reply (env : Env) (s : State) (sp : Spec) (h : Ref env s sp) (hash : Bytes) :
    ∀ e, AL.get sp.m (keyOf hash) = some e → e.tainted = false → keyLost s (keyOf hash) = false →
      (blockGet env s hash).2 = .data e.raw e.trusted := by
  intro e he hte hkl
  obtain ⟨r0, hr0, hr2, _, _, hr5, hr6⟩ := h.ent _ e he hte
  unfold blockGet
  simp only [hr0]
  cases hc : AL.get s.cache (keyOf hash) with
  | some c => simp only; rw [h.cachedata _ c e hc he hte hkl, hr2]
  | none =>
    cases hp : r0.ipos with
    | none => obtain ⟨c, hc'⟩ := hr5 hp; rw [hc] at hc'; cases hc'
    | some p =>
      rw [keyLost_of s _ r0 hr0, hp] at hkl
      obtain ⟨d1, file, d2, d3, d4⟩ := hr6 (by rw [hp]; rfl) (by simpa using hkl)
      unfold fileOf at d2
      have d3' : ¬ r0.fpos + r0.blen > file.length := by omega
      simp only [Option.isNone_some, Bool.false_eq_true, ↓reduceIte, d1, d2, d3', d4, hr2]

theorem blockLength_ref (env : Env) (s : State) (sp : Spec) (h : Ref env s sp) (hash : Bytes) (d : Bool) :
    ∀ e, AL.get sp.m (keyOf hash) = some e → e.tainted = false → keyLost s (keyOf hash) = false →
      (blockLength env s hash d).2 = .len e.raw.length := by
  intro e he hte _
  obtain ⟨r, hr, _, hr3, hr4, _⟩ := h.ent _ e he hte
  -- a claimed record has `olen` = the block's size ≠ 0: `BlockLength` answers from the record
  unfold blockLength
  simp only [hr]
  rw [if_pos (by omega), hr3]

/-! ### one operation, a whole session -/

theorem claimR_get_holds (s : State) (sp : Spec) (hash : Bytes) (out : Out)
    (h : sp.isOpen = true → ∀ e, AL.get sp.m (keyOf hash) = some e → e.tainted = false → keyLost s (keyOf hash) = false →
      out = .data e.raw e.trusted) : (claimR s sp (.get hash)).holds out := by
  unfold claimR claim
  simp only
  split
  · trivial
  · rename_i hkl
    split
    · trivial
    · rename_i ho
      split
      · rename_i e he
        split
        · trivial
        · rename_i hte
          exact h (by simpa using ho) e he (by simpa using hte) (by simpa using hkl)
      · trivial

theorem claimR_length_holds (s : State) (sp : Spec) (hash : Bytes) (d : Bool) (out : Out)
    (h : sp.isOpen = true → ∀ e, AL.get sp.m (keyOf hash) = some e → e.tainted = false → keyLost s (keyOf hash) = false →
      out = .len e.raw.length) : (claimR s sp (.length hash d)).holds out := by
  unfold claimR claim
  simp only
  split
  · trivial
  · rename_i hkl
    split
    · trivial
    · rename_i ho
      split
      · rename_i e he
        split
        · trivial
        · rename_i hte
          exact h (by simpa using ho) e he (by simpa using hte) (by simpa using hkl)
      · trivial

/-- `BlockAdd` of an unknown key: the new record is unwritten, its block is in the cache (and nothing unwritten was evicted
    for it) and at the end of the queue under a fresh identity -/
theorem queued_ref (env : Env) (s : State) (sp sp' : Spec) (h : Ref env s sp) (hash : Bytes) (ht tx : Nat) (tr : Bool) (raw : Bytes)
    (c : List (Key × CacheEnt)) (hnone : AL.get s.index (keyOf hash) = none) (hl : 80 ≤ raw.length) (hsz : raw.length ≤ 0xffffffff)
    (off : sp.OffKey sp' (keyOf hash))
    (hc : c = (addToCache { s with index := AL.set s.index (keyOf hash) { ipos := none, trusted := tr, olen := raw.length, seq := s.nextSeq } }
      (keyOf hash) raw).cache)
    (hn : AL.get sp.m (keyOf hash) = none → AL.get sp'.m (keyOf hash) = some ⟨raw, ht, tx % 2^32, tr, false⟩)
    (hs : ∀ e, AL.get sp.m (keyOf hash) = some e → AL.get sp'.m (keyOf hash) = some { e with trusted := e.trusted || tr }) :
    Ref env (s.queued hash ht tx tr raw c) sp' := by
  have hm := off.2
  obtain ⟨hex, hk⟩ := added_entry hn hs fun e he hte => by
    obtain ⟨r, hr, _⟩ := h.ent _ e he hte
    rw [hnone] at hr; cases hr
  obtain ⟨a1, a2, a3⟩ := addToCache_cache
    { s with index := AL.set s.index (keyOf hash) { ipos := none, trusted := tr, olen := raw.length, seq := s.nextSeq } } (keyOf hash) raw
  rw [← hc] at a1 a2 a3
  have hkl : ∀ k', keyOf hash ≠ k' → keyLost (s.queued hash ht tx tr raw c) k' = keyLost s k' := fun k' hne =>
    keyLost_congr s _ k' (by simp only [State.queued, AL.get_set, if_neg hne]) rfl
  unfold State.queued
  refine ⟨off.1.trans h.opn, h.cur, ?_, ?_, ?_, ?_, ?_, ?_, ?_⟩
  · intro k' r hr
    simp only [AL.get_set] at hr
    split at hr
    · rename_i e; subst e; exact hex
    · rename_i hne; rw [hm k' hne]; exact h.idxspec k' r hr
  · intro k' r hr
    simp only [AL.get_set] at hr
    split at hr
    · simp only [Option.some.injEq] at hr; subst hr; simp
    · exact h.pos k' r hr
  · intro k' c' hc'
    simp only [AL.get_set]
    rcases a1 k' c' hc' with ⟨c0, hc0, _⟩ | ⟨e1, _, _⟩
    · exact some_ite (h.cacheidx k' c0 hc0)
    · rw [if_pos e1.symm]; exact ⟨_, rfl⟩
  · intro k' c' e' hc' he' hte hkl'
    rcases a1 k' c' hc' with ⟨c0, hc0, hd⟩ | ⟨e1, e2, _⟩
    · have hne : ¬ keyOf hash = k' := by
        intro hh; subst hh
        obtain ⟨r, hr⟩ := h.cacheidx _ c0 hc0
        rw [hnone] at hr; cases hr
      rw [hm k' hne] at he'
      rw [← hd]; exact h.cachedata k' c0 e' hc0 he' hte (by rw [← hkl k' hne]; exact hkl')
    · subst e1; rw [e2, hk e' he' hte]
  · intro b hb
    simp only [List.mem_append, List.mem_singleton] at hb
    rcases hb with hb | hb
    · have := h.qseq b hb; simp only; omega
    · subst hb; simp only; omega
  · intro b hb r e' hri hseq hip he' hte
    simp only [List.mem_append, List.mem_singleton] at hb
    simp only [AL.get_set] at hri
    rcases hb with hb | hb
    · split at hri
      · simp only [Option.some.injEq] at hri; subst hri
        have := h.qseq b hb
        simp only at hseq; omega
      · rename_i hne
        rw [hm _ hne] at he'
        exact h.qdata b hb r e' hri hseq hip he' hte
    · subst hb
      rw [hk e' he' hte]
  · intro k' e' he' hte
    by_cases hkk : keyOf hash = k'
    · subst hkk
      rw [hk e' he' hte]
      exact ⟨{ ipos := none, trusted := tr, olen := raw.length, seq := s.nextSeq }, by simp only [AL.get_set, ↓reduceIte], rfl,
        rfl, ⟨hl, hsz⟩, fun _ => a3, by simp⟩
    · rw [hm k' hkk] at he'
      obtain ⟨r, hr1, hr2, hr3, hr4, hr5, hr6⟩ := h.ent k' e' he' hte
      refine ⟨r, by simp only [AL.get_set, if_neg hkk]; exact hr1, hr2, hr3, hr4, ?_, hr6⟩
      intro hn'
      obtain ⟨c0, hc0⟩ := hr5 hn'
      exact a2 k' c0 hc0 (evictable_none _ k' r (by rw [AL.get_set, if_neg hkk]; exact hr1) hn')

theorem Move.ref {env : Env} {s s' : State} {sp sp' : Spec} (ok : EnvOK env)
    (m : Move env s sp s' sp') (h : Ref env s sp) : Ref env s' sp' := by
  cases m with
  | touch c hc => exact ref_touch env s sp h c hc
  | olen k r0 n hr hn => exact ref_olen env s sp h k r0 n hr hn
  | trust k r0 _ hr _ off hs =>
    obtain ⟨i0, i1, i2, i3, _, i5, i6, i7, i8⟩ := setBlockFlag_fields s k r0 BLOCK_TRUSTED
    obtain ⟨e0, he0⟩ := h.idxspec _ r0 hr
    refine ref_update env s _ sp sp' h k r0 _ _ hr i0 i1 i2 i3 i5 i6 i7 i8 off.1 off.2 ?_ ⟨_, hs e0 he0⟩
    intro e' he' ht
    rw [hs e0 he0] at he'; cases he'
    exact ⟨e0, he0, ht, rfl, by simp, rfl⟩
  | spec k _ off hc hex =>
    refine ref_spec env s sp sp' h k off.1 off.2 ?_ (fun r hr => (h.idxspec k r hr).elim hex)
    intro e' he' ht
    obtain ⟨e, he, hte, hraw, _, _, htr⟩ := hc (h.idxspec k) e' he' ht
    obtain ⟨r, hr, hr2, _⟩ := h.ent k e he hte
    exact ⟨e, he, hte, hraw, by rw [← hr2]; exact htr r hr hr2⟩
  | drop k _ off hn hidx =>
    exact ref_spec env s sp sp' h k off.1 off.2 (fun e' he' => by rw [hn] at he'; cases he')
      (fun r hr => by rw [hidx] at hr; cases hr)
  | forget k r0 _ _ _ ht => exact ref_delete env s sp h k ht
  | flagI k r0 p hr _ _ ht =>
    obtain ⟨i0, i1, i2, i3, _, i5, i6, i7, i8⟩ := setBlockFlag_fields s k r0 BLOCK_INVALID
    refine ref_update env s _ sp sp h k r0 _ _ hr i0 i1 i2 i3 i5 i6 i7 i8 rfl
      (fun _ _ => rfl) ?_ (h.idxspec _ r0 hr)
    intro e' he' hte; rw [ht e' he'] at hte; cases hte
  | pop b q hq => exact ref_pop env s sp h b q hq _
  | write b q r0 cbts ho hq hr0 hseq hip hcb =>
    obtain ⟨m1, m2, m4, m5⟩ := maybeRoll_ref env _ sp (ref_pop env s sp h b q hq (s.datToWrite - b.data.length)) cbts.length
    exact writeRecord_ref env ok _ sp m1 b r0 cbts (by rw [m2]; exact hr0) hip (by rw [m5]; exact ho) (by rw [m4]; exact hcb)
      (fun e he ht => h.qdata b (by rw [hq]; simp) r0 e hr0 hseq hip he ht)

/-- every operation other than the restart — the one-pass read included — keeps the refinement relation -/
theorem stepX_ref (env : Env) (ok : EnvOK env) (s : State) (sp : Spec) (h : Ref env s sp) (op : OpX) (hop : op.ok) :
    Ref env (stepX env s op).1 (specStepX s sp op) := by
  refine stepX_ind (P := fun t tp => Ref env t tp) env s sp op h.opn h (fun _ _ _ _ _ h m => m.ref ok h) ?_ ?_ ?_
  · intro hash ht tx tr raw c sp' e _ hnone hl off hc hn hs
    subst e
    exact queued_ref env s sp sp' h hash ht tx tr raw c hnone hl hop.2 off hc hn hs
  · intro _ f
    exact { f with opn := rfl, cur := fun hc => by cases hc }
  · intro o e _; subst e; cases hop.1

/-- … and the reply of every operation satisfies the retention-aware claim: only the reads carry one — for an open store, a key
    within retention and an untainted entry -/
theorem stepX_claim (env : Env) (s : State) (sp : Spec) (h : Ref env s sp) (op : OpX) :
    (claimRX s sp op).holds (stepX env s op).2 := by
  have ho : sp.isOpen = true → s.isOpen = true := fun e => h.opn.symm.trans e
  cases op with
  | getNC hash =>
    refine claimR_get_holds s sp hash _ (fun e => ?_)
    unfold stepX
    simp only [ho e, Bool.not_true, Bool.false_eq_true, ↓reduceIte, (blockGetNC_cases env s hash).1]
    exact blockGet_reply env s sp h hash
  | op o =>
    cases o with
    | get hash =>
      refine claimR_get_holds s sp hash _ (fun e => ?_)
      unfold stepX step
      simp only [ho e, Bool.not_true, Bool.false_eq_true, ↓reduceIte]
      exact blockGet_reply env s sp h hash
    | length hash d =>
      refine claimR_length_holds s sp hash d _ (fun e => ?_)
      unfold stepX step
      simp only [ho e, Bool.not_true, Bool.false_eq_true, ↓reduceIte]
      exact blockLength_ref env s sp h hash d
    | _ => trivial

theorem runX_ref (env : Env) (ok : EnvOK env) : ∀ (ops : List OpX) (s : State) (sp : Spec), Ref env s sp →
    (∀ op ∈ ops, op.ok) → AllHold (specRunRX env s sp ops) (runX env s ops).2 := by
  intro ops
  induction ops with
  | nil => intro s sp _ _; exact trivial
  | cons op ops ih =>
    intro s sp h hno
    unfold runX specRunRX
    obtain ⟨h1, h2⟩ := List.forall_mem_cons.1 hno
    exact ⟨stepX_claim env s sp h op, ih _ _ (stepX_ref env ok s sp h op h1) h2⟩

theorem runX_op (env : Env) : ∀ (ops : List Op) (s : State), runX env s (ops.map .op) = run env s ops := by
  intro ops
  induction ops with
  | nil => intro s; rfl
  | cons op ops ih => intro s; simp only [List.map_cons, runX, run, stepX, ih]

theorem specRunRX_op (env : Env) : ∀ (ops : List Op) (s : State) (sp : Spec),
    specRunRX env s sp (ops.map .op) = specRunR env s sp ops := by
  intro ops
  induction ops with
  | nil => intro s sp; rfl
  | cons op ops ih => intro s sp; simp only [List.map_cons, specRunRX, specRunR, stepX, specStepX, claimRX, ih]

end GocoinV.BlockDB
