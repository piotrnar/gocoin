/-
  Proofs.C09Client — the decoder inside the node: the copies of a wanted block (A) and the disk cache (B).
  (A) the install / discard statement lists regenerated from client/network (Gen/C09Client.lean):
  an abstract interpretation of a statement list (what is known about Raw, about the pair TxCount/TxOffset and about
  Txs after it), proved sound for `applyStmts`, decides for the GENERATED lists that every discard branch leaves the
  object "idle" (bare header, count not parsed, no transactions) and every install place leaves exactly the copy with a
  count pair that is unparsed or belongs to it; hence any number of refused copies does not reach the decode of the next copy.
  (B) the disk cache: `diskCacheGet` with a complete side file, or one of any other length, is the plain decode.
  Core tactics only.
-/
import GocoinV.Model.WireClient
import GocoinV.Proofs.C09Obj
namespace GocoinV.Wire
open GocoinV GocoinV.CompactSize GocoinV.Gen.C09Client

/-! ### (A) statement lists -/

inductive RawAbs | hdr | copy | other
deriving DecidableEq, Repr
inductive CntAbs | zero | ofRaw | unknown
deriving DecidableEq, Repr

/-- what is known about the object after some statements -/
structure Abs where
  raw : RawAbs
  cnt : CntAbs
  txsNil : Bool
deriving DecidableEq, Repr

def absArg : Arg → RawAbs
  | .copy => .copy
  | .prevRaw => .hdr
  | .header => .hdr

def absStep : Stmt → Abs → Abs
  | .rawAssign x, A => { A with raw := absArg x, cnt := if A.cnt = .zero then .zero else .unknown }
  | .updateContent x, A => { A with raw := absArg x, cnt := if absArg x = .hdr then .zero else .ofRaw }
  | .zeroTxCount, A => { A with cnt := .zero }
  | .zeroTxOffset, A => { A with cnt := if A.cnt = .zero then .zero else .unknown }
  | .nilTxs, A => { A with txsNil := true }
  | .zeroBlockWeight, A => A
  | .zeroTotalInputs, A => A

def absRun : List Stmt → Abs → Abs
  | [], A => A
  | st :: l, A => absRun l (absStep st A)

def RawAbs.Holds (r : RawAbs) (a : Args) (s : BlockObj) : Prop :=
  match r with | .hdr => s.raw = a.prevRaw | .copy => s.raw = a.copy | .other => True

def CntAbs.Holds (c : CntAbs) (s : BlockObj) : Prop :=
  match c with | .zero => s.txCount = 0 | .ofRaw => s.Inv | .unknown => True

def Abs.Holds (A : Abs) (a : Args) (s : BlockObj) : Prop :=
  A.raw.Holds a s ∧ A.cnt.Holds s ∧ (A.txsNil = true → s.txs = none)

/-- a statement that leaves `TxCount` alone keeps a known zero count and forgets anything else -/
theorem CntAbs.Holds.weaken {c : CntAbs} {s s' : BlockObj} (h : c.Holds s) (e : s'.txCount = s.txCount) :
    (if c = .zero then CntAbs.zero else .unknown).Holds s' := by
  cases c with
  | zero => exact e.trans h
  | ofRaw => exact True.intro
  | unknown => exact True.intro

theorem txs_update (d : Bytes) (s : BlockObj) : (updateContent d s).1.txs = s.txs := by
  unfold updateContent
  by_cases h : d.length < 80
  · simp [h]
  · simp only [h, ↓reduceIte]
    split
    · split <;> rfl
    · rfl

theorem update_80 (d : Bytes) (s : BlockObj) (h : d.length = 80) :
    (updateContent d s).1.raw = d ∧ (updateContent d s).1.txCount = 0 := by
  unfold updateContent
  have h1 : ¬ d.length < 80 := by omega
  have h2 : ¬ d.length > 80 := by omega
  simp [h1, h2]

theorem argBytes_hdr (a : Args) (hp : a.prevRaw.length = 80) (x : Arg) (hx : absArg x = .hdr) :
    argBytes a x = a.prevRaw := by
  cases x with
  | copy => simp [absArg] at hx
  | prevRaw => rfl
  | header =>
    show a.prevRaw.take 80 = a.prevRaw
    exact List.take_of_length_le (by omega)

theorem argBytes_copy (a : Args) (x : Arg) (hx : absArg x = .copy) : argBytes a x = a.copy := by
  cases x <;> simp [absArg] at hx
  rfl

theorem abs_step_sound (a : Args) (hp : a.prevRaw.length = 80) (hc : 80 ≤ a.copy.length)
    (st : Stmt) (A : Abs) (s : BlockObj) (h : A.Holds a s) : (absStep st A).Holds a (applyStmt a st s) := by
  obtain ⟨hr, hn, ht⟩ := h
  cases st with
  | rawAssign x =>
    refine ⟨?_, hn.weaken rfl, ht⟩
    show (absArg x).Holds a { s with raw := argBytes a x }
    cases hx : absArg x with
    | hdr => exact argBytes_hdr a hp x hx
    | copy => exact argBytes_copy a x hx
    | other => trivial
  | updateContent x =>
    have h3 : A.txsNil = true → (updateContent (argBytes a x) s).1.txs = none := fun h' => (txs_update _ s).trans (ht h')
    show (absArg x).Holds a (updateContent (argBytes a x) s).1 ∧
      (if absArg x = .hdr then CntAbs.zero else .ofRaw).Holds (updateContent (argBytes a x) s).1 ∧ _
    cases hx : absArg x with
    | hdr =>
      have e := argBytes_hdr a hp x hx
      have u := update_80 (argBytes a x) s (by rw [e]; exact hp)
      exact ⟨u.1.trans e, u.2, h3⟩
    | copy =>
      have e := argBytes_copy a x hx
      refine ⟨?_, inv_update _ s (Or.inr (by rw [e]; exact hc)), h3⟩
      show (updateContent (argBytes a x) s).1.raw = a.copy
      rw [raw_update, e, if_neg (by omega)]
    | other => cases x <;> simp [absArg] at hx
  | zeroBlockWeight | zeroTotalInputs => exact ⟨hr, hn, ht⟩
  | zeroTxCount => exact ⟨hr, rfl, ht⟩
  | zeroTxOffset => exact ⟨hr, hn.weaken rfl, ht⟩
  | nilTxs => exact ⟨hr, hn, fun _ => rfl⟩

theorem abs_sound (a : Args) (hp : a.prevRaw.length = 80) (hc : 80 ≤ a.copy.length) :
    ∀ (l : List Stmt) (A : Abs) (s : BlockObj), A.Holds a s → (absRun l A).Holds a (applyStmts a l s)
  | [], _, _, h => h
  | st :: l, A, s, h => abs_sound a hp hc l _ _ (abs_step_sound a hp hc st A s h)

def absTop : Abs := ⟨.other, .unknown, false⟩
def absIdle : Abs := ⟨.hdr, .zero, true⟩

/-- a discard branch, run on an object in ANY state, leaves the bare header, "count not parsed" and no transactions -/
def discardOK (l : List Stmt) : Bool := absRun l absTop == absIdle

/-- an install place, run on an idle object, leaves the copy with a count pair that is unparsed or belongs to it,
    and still no transactions (so that PostCheckBlock parses) -/
def installOK (l : List Stmt) : Bool :=
  let A := absRun l absIdle
  A.raw == .copy && (A.cnt == .zero || A.cnt == .ofRaw) && A.txsNil

/-- THE FACT about the regenerated lists (kernel-evaluated on whatever gen_c09 wrote) -/
theorem client_lists_ok (v : Via) : discardOK (discardOf v) = true ∧ installOK (installOf v) = true := by
  cases v <;> decide

/-- between two copies: bare header `hdr`, count not parsed, no transactions -/
def Idle (hdr : Bytes) (s : BlockObj) : Prop :=
  s.raw = hdr ∧ hdr.length = 80 ∧ s.txCount = 0 ∧ s.txs = none

theorem idle_new (hdr : Bytes) (h : hdr.length = 80) : Idle hdr (updateContent hdr emptyObj).1 := by
  have u := update_80 hdr emptyObj h
  exact ⟨u.1, h, u.2, by rw [txs_update]; rfl⟩

theorem idle_refused (H : Bytes → Bytes) (hdr : Bytes) (c : Copy) (hc : 80 ≤ c.data.length) (s : BlockObj)
    (hs : Idle hdr s) : Idle hdr (refusedCopy H c s) := by
  obtain ⟨hr, hl, _, _⟩ := hs
  have top : absTop.Holds { copy := c.data, prevRaw := s.raw } (deliver H c s).1 := ⟨trivial, trivial, fun h => by cases h⟩
  have := abs_sound _ (by rw [hr]; exact hl) hc (discardOf c.via) absTop _ top
  rw [eq_of_beq (client_lists_ok c.via).1] at this
  obtain ⟨h1, h2, h3⟩ := this
  exact ⟨h1.trans hr, hl, h2, h3 rfl⟩

theorem idle_run (H : Bytes → Bytes) (hdr : Bytes) : ∀ (l : List Copy), (∀ c ∈ l, 80 ≤ c.data.length) →
    ∀ s, Idle hdr s → Idle hdr (clientRun H l s)
  | [], _, _, hs => hs
  | c :: l, hw, s, hs =>
    idle_run H hdr l (fun x hx => hw x (List.mem_cons_of_mem _ hx)) _
      (idle_refused H hdr c (hw c List.mem_cons_self) s hs)

/-- delivering a copy to an idle object = the pure decode of the copy -/
theorem deliver_idle (H : Bytes → Bytes) (hdr : Bytes) (c : Copy) (hc : 81 ≤ c.data.length) (s : BlockObj)
    (hs : Idle hdr s) :
    let r := decodeBlock H c.data
    let res := deliver H c s
    res.1.raw = c.data ∧ res.2 = outcomeOf r.err ∧ res.2 ≠ .panic ∧
    (res.2 ≠ .badCount → res.1.txCount = r.txCount ∧ res.1.txs = some r.txs ∧ res.1.weight = r.weight) := by
  intro r res
  obtain ⟨hr, hl, hz, hn⟩ := hs
  have idle : absIdle.Holds { copy := c.data, prevRaw := s.raw } s := ⟨rfl, hz, fun _ => hn⟩
  have h1 := abs_sound _ (by rw [hr]; exact hl) (by show 80 ≤ c.data.length; omega) (installOf c.via) absIdle s idle
  have ok := (client_lists_ok c.via).2
  unfold installOK at ok
  simp only [Bool.and_eq_true, Bool.or_eq_true, beq_iff_eq] at ok
  obtain ⟨⟨ok1, ok2⟩, ok3⟩ := ok
  generalize hs1 : applyStmts { copy := c.data, prevRaw := s.raw } (installOf c.via) s = s1 at h1
  obtain ⟨a1, a2, a3⟩ := h1
  rw [ok1] at a1
  have raw1 : s1.raw = c.data := a1
  have txs1 : s1.txs = none := a3 ok3
  have inv1 : s1.Inv := by
    rcases ok2 with e | e
    · rw [e] at a2
      exact ⟨by rw [raw1]; omega, fun hne => absurd a2 hne⟩
    · rw [e] at a2; exact a2
  have hres : res = buildTxListExt H true s1 := by
    show postCheckParse H (applyStmts { copy := c.data, prevRaw := s.raw } (installOf c.via) s) = _
    rw [hs1]
    unfold postCheckParse
    have : ¬ s1.raw.length < postCheckMinRawLen := by
      have : postCheckMinRawLen ≤ 81 := by decide
      rw [raw1]; omega
    simp [this, txs1]
  have bp := build_pure H true s1 inv1
  obtain ⟨e1, e2, e3, e4⟩ := decodeBlockExt_true H c.data
  simp only [raw1, e1, e2, e3, e4] at bp
  rw [hres]
  exact ⟨by rw [raw_build]; exact raw1, bp.1, bp.2.1, fun h => ⟨(bp.2.2.2.2 h).1, (bp.2.2.2.2 h).2.2⟩⟩

/-! ### (B) the disk cache -/

theorem outcomeOf_ok (e : Option BlockErr) : outcomeOf e = .ok ↔ e = none := by
  rcases e with _ | _ | _ | _ <;> simp [outcomeOf]

theorem blockTxIds_len (H : Bytes → Bytes) (hH : ∀ b, (H b).length = 32) (f : Bool) (d : Decoded) (raw : Bytes) :
    (blockTxIds H f d raw).hash.length = 32 ∧ (blockTxIds H f d raw).wtxid.length = 32 := by
  unfold blockTxIds
  split
  · refine ⟨hH _, ?_⟩
    cases f <;> simp [hH]
  · exact ⟨hH _, hH _⟩

/-- the side file of a block built with hashing has the expected length, which only depends on which
    transactions carry a witness -/
theorem hashesFile_length (H : Bytes → Bytes) (hH : ∀ b, (H b).length = 32) :
    ∀ (l : List (Decoded × Bytes)) (f : Bool),
      (hashesFile (mkBlockTxs H f l)).length = hashesLen (mkBlockTxsExt H false l)
  | [], _ => by simp [mkBlockTxs, mkBlockTxsExt, hashesFile, hashesLen]
  | (d, raw) :: l, f => by
    have ih := hashesFile_length H hH l false
    have hl := blockTxIds_len H hH f d raw
    simp only [mkBlockTxsExt, Bool.false_eq_true, ↓reduceIte, List.map_cons] at ih ⊢
    simp only [mkBlockTxs, hashesFile, hashesLen, List.length_append, ih]
    cases hw : d.tx.witness <;> simp [hl.1, hl.2]

/-- restoring from the complete side file gives exactly the ids of the build with hashing -/
theorem restore_complete (H : Bytes → Bytes) (hH : ∀ b, (H b).length = 32) :
    ∀ (l : List (Decoded × Bytes)) (f : Bool),
      restoreHashes (mkBlockTxsExt H false l) (hashesFile (mkBlockTxs H f l)) = mkBlockTxs H f l
  | [], _ => by simp [mkBlockTxs, mkBlockTxsExt, restoreHashes]
  | (d, raw) :: l, f => by
    have ih := restore_complete H hH l false
    have hl := blockTxIds_len H hH f d raw
    simp only [mkBlockTxsExt, Bool.false_eq_true, ↓reduceIte, List.map_cons] at ih ⊢
    simp only [mkBlockTxs, hashesFile, restoreHashes]
    cases hw : d.tx.witness with
    | none =>
      rw [List.take_left' hl.1, List.drop_left' hl.1, ih]
      simp only [blockTxIds, hw, blockTxIdsNoHash]
    | some w =>
      rw [List.append_assoc, List.take_left' hl.2, List.drop_left' hl.2, List.take_left' hl.1]
      have e64 : ((blockTxIds H f d raw).wtxid ++ ((blockTxIds H f d raw).hash ++ hashesFile (mkBlockTxs H false l))).drop 64 =
          hashesFile (mkBlockTxs H false l) := by
        rw [← List.append_assoc]
        exact List.drop_left' (by simp [hl.1, hl.2])
      rw [e64, ih]
      simp only [blockTxIds, hw, blockTxIdsNoHash]

/-- the two pure decodes of a content that decodes completely, in terms of the same transaction list -/
theorem decodeBlockExt_shape (H : Bytes → Bytes) (d : Bytes) (he : (decodeBlockExt H true d).err = none) :
    ∃ l, (decodeBlockExt H true d).txs = mkBlockTxs H true l ∧ (decodeBlockExt H false d).txs = mkBlockTxsExt H false l := by
  unfold decodeBlockExt at he ⊢
  by_cases h80 : d.length < 80
  · simp [h80] at he
  · simp only [h80, ↓reduceIte] at he ⊢
    cases hv : vlenWire (d.drop 80) with
    | none => simp [hv] at he
    | some p =>
      obtain ⟨v, r⟩ := p
      by_cases hz : v = 0
      · simp [hv, hz] at he
      · simp only [hz, ↓reduceIte]
        exact ⟨(decodeTxs v r).1, by simp [mkBlockTxsExt], rfl⟩

theorem update_not_ok (d : Bytes) (s : BlockObj) (h80 : 80 ≤ d.length) (h : (updateContent d s).2 ≠ .ok) :
    vlenWire (d.drop 80) = none := by
  unfold updateContent at h
  have h1 : ¬ d.length < 80 := by omega
  simp only [h1, ↓reduceIte] at h
  by_cases hg : d.length > 80
  · simp only [hg, ↓reduceIte] at h
    cases hv : vlenWire (d.drop 80) with
    | none => rfl
    | some p =>
      obtain ⟨v, r⟩ := p
      rw [vlenWireGo_some hv] at h
      have hne : ¬ ((d.drop 80).length - r.length = 0) := by have := (vlenWire_rest hv).2.2.1; omega
      simp only [hne, ↓reduceIte, ne_eq, not_true_eq_false] at h
  · simp [hg] at h

/-- `get_block_from_disk_cache` with the side file missing, complete, or of any OTHER LENGTH than the complete one:
    it panics exactly when the block file does not decode completely, and otherwise returns the block with the ids,
    sizes and weight of `decodeBlock` (NewBlock + BuildTxList of the file). -/
theorem disk_cache_get_spec (H : Bytes → Bytes) (hH : ∀ b, (H b).length = 32) (d : Bytes) (h : Option Bytes)
    (hh : ∀ x, h = some x → x = hashesFile (decodeBlock H d).txs ∨ x.length ≠ (hashesFile (decodeBlock H d).txs).length) :
    match diskCacheGet H (some d) h with
    | none => (decodeBlock H d).err ≠ none
    | some s => (decodeBlock H d).err = none ∧ s.raw = d ∧ s.txCount = (decodeBlock H d).txCount ∧
        s.txs = some (decodeBlock H d).txs ∧ s.weight = (decodeBlock H d).weight := by
  obtain ⟨eT1, eT2, eT3, eT4⟩ := decodeBlockExt_true H d
  rw [← eT1, ← eT2, ← eT3, ← eT4]
  rw [← eT3] at hh
  by_cases h80 : d.length < 80
  · simp [diskCacheGet, newBlock, h80, decodeBlockExt]
  · have hge : 80 ≤ d.length := by omega
    have inv0 : (updateContent d emptyObj).1.Inv := inv_update d emptyObj (Or.inr hge)
    have raw0 : (updateContent d emptyObj).1.raw = d := by rw [raw_update]; simp [h80]
    have bpT := build_pure H true _ inv0
    have bpF := build_pure H false _ inv0
    rw [raw0] at bpT bpF
    obtain ⟨eF1, eF2, eF3, _, _⟩ := decodeBlockExt_false H d
    generalize hs0 : updateContent d emptyObj = p0 at inv0 raw0 bpT bpF
    obtain ⟨s0, o0⟩ := p0
    -- the fall-back / no-side-file path
    have full_spec : match (if (buildTxListExt H true s0).2 = .ok then some (buildTxListExt H true s0).1 else none : Option BlockObj) with
        | none => (decodeBlockExt H true d).err ≠ none
        | some s => (decodeBlockExt H true d).err = none ∧ s.raw = d ∧ s.txCount = (decodeBlockExt H true d).txCount ∧
            s.txs = some (decodeBlockExt H true d).txs ∧ s.weight = (decodeBlockExt H true d).weight := by
      by_cases hok : (buildTxListExt H true s0).2 = .ok
      · simp only [hok, ↓reduceIte]
        have e : (decodeBlockExt H true d).err = none := (outcomeOf_ok _).1 (by rw [← bpT.1]; exact hok)
        have nb : (buildTxListExt H true s0).2 ≠ .badCount := by rw [hok]; simp
        obtain ⟨c1, _, c3, c4⟩ := bpT.2.2.2.2 nb
        exact ⟨e, by rw [raw_build]; exact raw0, c1, c3, c4⟩
      · simp only [hok, ↓reduceIte]
        intro e
        exact hok (by rw [bpT.1]; exact (outcomeOf_ok _).2 e)
    unfold diskCacheGet
    simp only [newBlock, h80, ↓reduceIte, hs0]
    by_cases ho : o0 = .ok
    · simp only [ho, ne_eq, not_true_eq_false, ↓reduceIte]
      cases h with
      | none => exact full_spec
      | some x =>
        by_cases hok : (buildTxListExt H false s0).2 = .ok
        · simp only [hok, not_true_eq_false, ↓reduceIte]
          have e : (decodeBlockExt H false d).err = none := (outcomeOf_ok _).1 (by rw [← bpF.1]; exact hok)
          have eT : (decodeBlockExt H true d).err = none := by rw [← eF1]; exact e
          have nb : (buildTxListExt H false s0).2 ≠ .badCount := by rw [hok]; simp
          obtain ⟨c1, _, c3, c4⟩ := bpF.2.2.2.2 nb
          obtain ⟨l, hlT, hlF⟩ := decodeBlockExt_shape H d eT
          simp only [c3]
          have hlen : (hashesFile (decodeBlockExt H true d).txs).length = hashesLen (decodeBlockExt H false d).txs := by
            rw [hlT, hlF]; exact hashesFile_length H hH l true
          by_cases hx : hashesLen (decodeBlockExt H false d).txs = x.length
          · simp only [hx, ↓reduceIte]
            have hx' : x = hashesFile (decodeBlockExt H true d).txs := by
              rcases hh x rfl with e' | e'
              · exact e'
              · exact absurd (by rw [hlen]; exact hx.symm) e'
            refine ⟨eT, by rw [raw_build]; exact raw0, by rw [c1]; exact eF2, ?_, by rw [c4]; exact eF3⟩
            show some (restoreHashes (decodeBlockExt H false d).txs x) = some (decodeBlockExt H true d).txs
            rw [hx', hlT, hlF, restore_complete H hH l true]
          · simp only [hx, ↓reduceIte]
            exact full_spec
        · simp only [hok, ne_eq, not_false_eq_true, ↓reduceIte]
          intro e
          apply hok
          rw [bpF.1, eF1]
          exact (outcomeOf_ok _).2 e
    · simp only [ho, ne_eq, not_false_eq_true, ↓reduceIte]
      have hv := update_not_ok d emptyObj hge (by rw [hs0]; exact ho)
      simp [decodeBlockExt, h80, hv]

/-! ### concrete instances for the non-vacuity examples of Props/C09.lean (kernel-evaluated there) -/
namespace Example

/-- a 32-byte "hash" the kernel can evaluate: the first 32 bytes, zero-padded -/
def H : Bytes → Bytes := fun b => (b ++ List.replicate 32 0).take 32
/-- a 60-byte transaction: one input, one output, version byte `v` -/
def tx (v : UInt8) : Bytes :=
  [v,0,0,0, 1] ++ List.replicate 32 7 ++ [0,0,0,0, 0, 0xff,0xff,0xff,0xff, 1, 9,0,0,0,0,0,0,0, 0, 0,0,0,0]
def hdr : Bytes := List.replicate 80 0
/-- a block of two transactions (201 bytes) -/
def blk : Bytes := hdr ++ [2] ++ tx 1 ++ tx 2
/-- two copies behind the same header: a complete one-transaction block, and a list that ends inside its count of 5 -/
def bad : List Copy := [⟨.cmpctB, hdr ++ [1] ++ tx 1⟩, ⟨.full, hdr ++ [5] ++ tx 2⟩]
/-- the side file netBlockReceived writes for `blk` -/
def side : Bytes := hashesFile (decodeBlock H blk).txs
def view (l : List BlockTx) : List (Bytes × Bytes × Nat × Nat × Bytes) :=
  l.map fun t => (t.ids.hash, t.ids.wtxid, t.ids.size, t.ids.noWitSize, t.raw)
/-- what `get_block_from_disk_cache` returns for `blk` and side file `h`: TxCount, the ids, and whether `Txs` (ids, sizes,
    raw bytes) equal those of `decodeBlock` -/
def got (h : Option Bytes) : Option (Nat × Option (List Bytes) × Bool) :=
  (diskCacheGet H (some blk) h).map fun s => (s.txCount, s.txs.map (fun l => l.map (·.ids.hash)),
    s.txs.map view == some (view (decodeBlock H blk).txs))

end Example

end GocoinV.Wire
