/-
  Proofs.C16Files — a data file whose number is in the ghost list `FS.lost` is GONE: it is in neither the main directory nor
  oldat/, and no later operation creates a file with that number again. So a `BlockGet`
  of a key whose record points into a lost file never reads bytes from a data file: it answers from the cache or with an
  error — never with the bytes of another block.
  `FilesOK fs M` (M = the current file number): every file of the main directory has a number ≤ M, every file of oldat/ a
  number < M, lost numbers are in neither directory, and no number is in both. New files are created with the numbers M + 1
  (roll-over) or M' ≥ M (LoadBlockIndex, by `reopen_top`), which are above every lost number (`TopInv.below`).
-/
import GocoinV.Proofs.C16Top
namespace GocoinV.BlockDB

structure FilesOK (fs : FS) (M : Nat) : Prop where
  dats_le : ∀ i f, AL.get fs.dats i = some f → i ≤ M
  olds_lt : ∀ i f, AL.get fs.olds i = some f → i < M
  lost_gone : ∀ i, i ∈ fs.lost → AL.get fs.dats i = none ∧ AL.get fs.olds i = none
  disj : ∀ i f, AL.get fs.dats i = some f → AL.get fs.olds i = none

theorem filesOK_mono (fs : FS) (M M' : Nat) (h : FilesOK fs M) (hm : M ≤ M') : FilesOK fs M' :=
  ⟨fun i f hf => by have := h.dats_le i f hf; omega, fun i f hf => by have := h.olds_lt i f hf; omega, h.lost_gone, h.disj⟩

/-- the current number names no file of oldat/ -/
theorem FilesOK.cur_not_old {fs : FS} {M : Nat} (h : FilesOK fs M) : AL.get fs.olds M = none := by
  cases ho : AL.get fs.olds M with
  | none => rfl
  | some f => exact absurd (h.olds_lt M f ho) (Nat.lt_irrefl M)

theorem removeDatFile_files (o : Opts) (fs : FS) (j M : Nat) (h : FilesOK fs M) (hj : j < M) :
    FilesOK (removeDatFile o fs j) M := by
  unfold removeDatFile
  split
  · exact h
  · rename_i content hc
    have hjl : j ∉ fs.lost := fun hl => by rw [(h.lost_gone j hl).1] at hc; cases hc
    split
    · refine ⟨?_, ?_, ?_, ?_⟩
      · exact fun i f hf => h.dats_le i f (AL.get_of_del hf)
      · intro i f hf
        simp only [AL.get_set] at hf
        split at hf
        · rename_i e; subst e; exact hj
        · exact h.olds_lt i f hf
      · intro i hi
        simp only at hi
        have hne : ¬ j = i := fun e => hjl (e ▸ hi)
        simp only [AL.get_del, AL.get_set, hne, ↓reduceIte]
        exact h.lost_gone i hi
      · intro i f hf
        simp only [AL.get_del] at hf
        split at hf
        · cases hf
        · rename_i hne
          simp only [AL.get_set, hne, ↓reduceIte]
          exact h.disj i f hf
    · refine ⟨?_, h.olds_lt, ?_, ?_⟩
      · exact fun i f hf => h.dats_le i f (AL.get_of_del hf)
      · intro i hi
        simp only [List.mem_cons] at hi
        simp only [AL.get_del]
        rcases hi with e | hi
        · subst e
          simp only [↓reduceIte, true_and]
          exact h.disj i content hc
        · split
          · exact ⟨rfl, (h.lost_gone i hi).2⟩
          · exact h.lost_gone i hi
      · exact fun i f hf => h.disj i f (AL.get_of_del hf)

/-- creating (or rewriting) the file with the current number `M` in the main directory -/
theorem setCur_files (fs : FS) (M : Nat) (c : Bytes) (h : FilesOK fs M) (hb : ∀ i, i ∈ fs.lost → i < M) (idx' : Bytes) :
    FilesOK { fs with dats := AL.set fs.dats M c, idx := idx' } M := by
  refine ⟨?_, h.olds_lt, ?_, ?_⟩
  · intro i f hf
    simp only [AL.get_set] at hf
    split at hf
    · rename_i e; subst e; exact Nat.le_refl _
    · exact h.dats_le i f hf
  · intro i hi
    have := hb i hi
    have hne : ¬ M = i := by omega
    simp only [AL.get_set, hne, ↓reduceIte]
    exact h.lost_gone i hi
  · intro i f hf
    simp only [AL.get_set] at hf
    split at hf
    · rename_i e; subst e; exact h.cur_not_old
    · exact h.disj i f hf

theorem rollOver_files (s : State) (h : FilesOK s.fs s.maxdatfileidx) (hb : ∀ i, i ∈ s.fs.lost → i < s.maxdatfileidx) :
    FilesOK (rollOver s).fs (rollOver s).maxdatfileidx := by
  have h1 : FilesOK { s.fs with dats := AL.set s.fs.dats (s.maxdatfileidx + 1) [], idx := s.fs.idx } (s.maxdatfileidx + 1) :=
    setCur_files s.fs _ [] (filesOK_mono _ _ _ h (by omega)) (fun i hi => by have := hb i hi; omega) _
  unfold rollOver
  simp only
  split
  · rename_i hk
    exact removeDatFile_files _ _ _ _ h1 (by omega)
  · exact h1

theorem maybeRoll_files (s : State) (n : Nat) (h : FilesOK s.fs s.maxdatfileidx) (hb : ∀ i, i ∈ s.fs.lost → i < s.maxdatfileidx) :
    FilesOK (maybeRoll s n).fs (maybeRoll s n).maxdatfileidx := by
  unfold maybeRoll
  split
  · exact rollOver_files s h hb
  · exact h

theorem Move.files {env : Env} {s s' : State} {sp sp' : Spec} (m : Move env s sp s' sp') (h : FilesOK s.fs s.maxdatfileidx)
    (hb : ∀ i, i ∈ s.fs.lost → i < s.maxdatfileidx) : FilesOK s'.fs s'.maxdatfileidx := by
  cases m with
  | trust k r0 | flagI k r0 => unfold setBlockFlag; split <;> exact ⟨h.dats_le, h.olds_lt, h.lost_gone, h.disj⟩
  | write b q r0 cbts =>
    unfold writeRecord
    exact setCur_files (maybeRoll { s with queue := q, datToWrite := _ } _).fs _ _ (maybeRoll_files _ _ h hb)
      (below_grows _ _ hb (maybeRoll_grows _ _)) _
  | _ => exact h

theorem createCur_files (fs : FS) (M m : Nat) (h : FilesOK fs M) (hm : M ≤ m) (hb : ∀ i, i ∈ fs.lost → i < M) :
    FilesOK (createCur fs m) m := by
  have h' := filesOK_mono fs M m h hm
  unfold createCur
  split
  · exact h'
  · simp only [h'.cur_not_old, ite_self, Option.isSome_none, Bool.false_eq_true, ↓reduceIte]
    exact setCur_files fs m [] h' (fun i hi => by have := hb i hi; omega) fs.idx

theorem loadCleanup_files (o : Opts) (M : Nat) (fs : FS) (h : FilesOK fs M) : FilesOK (loadCleanup o M fs) M := by
  unfold loadCleanup
  split
  · exact cleanupGo_ind o _ (P := fun t => FilesOK t M) (fun t i hi ht => removeDatFile_files o t i M ht (by omega)) 3 _ fs
      (by omega) (Nat.le_refl _) h
  · exact h

theorem reopen_files (env : Env) (s : State) (o : Opts) (h : FilesOK s.fs s.maxdatfileidx)
    (hb : ∀ i, i ∈ s.fs.lost → i < s.maxdatfileidx) (hmono : s.maxdatfileidx ≤ (reopen env s.fs o).1.maxdatfileidx) :
    FilesOK (reopen env s.fs o).1.fs (reopen env s.fs o).1.maxdatfileidx :=
  loadCleanup_files _ _ _ (createCur_files s.fs _ _ h hmono hb)

theorem init_files : FilesOK init.fs init.maxdatfileidx :=
  ⟨fun i f hf => by simp [init, AL.get] at hf, fun i f hf => by simp [init, AL.get] at hf,
   fun i hi => by simp [init] at hi, fun i f hf => by simp [init, AL.get] at hf⟩

/-- `BlockGet` of a key whose record points into a lost data file, in a state where lost files are gone: the answer comes
    from the cache or is an error — no bytes are read from any data file -/
theorem blockGet_lost (env : Env) (s : State) (hash : Bytes) (h : FilesOK s.fs s.maxdatfileidx)
    (hl : keyLost s (keyOf hash) = true) :
    (∃ c r, AL.get s.cache (keyOf hash) = some c ∧ AL.get s.index (keyOf hash) = some r ∧
        (blockGet env s hash).2 = .data c.data r.trusted) ∨
    (AL.get s.cache (keyOf hash) = none ∧ ∃ e t, (blockGet env s hash).2 = .getErr e t ∧ (e = .noFile ∨ e = .purged)) := by
  unfold keyLost at hl
  split at hl
  · rename_i r hr
    simp only [Bool.and_eq_true, List.contains_eq_mem, decide_eq_true_eq] at hl
    obtain ⟨g1, g2⟩ := h.lost_gone _ hl.2
    unfold blockGet
    simp only [hr]
    cases hc : AL.get s.cache (keyOf hash) with
    | some c => exact .inl ⟨c, r, rfl, rfl, rfl⟩
    | none =>
      right
      refine ⟨rfl, ?_⟩
      simp only
      have hn : r.ipos.isNone = false := by cases hh : r.ipos <;> simp [hh] at hl ⊢
      simp only [hn, Bool.false_eq_true, ↓reduceIte]
      by_cases hb : r.blen = 0
      · simp only [hb, ↓reduceIte]; exact ⟨_, _, rfl, .inr rfl⟩
      · simp only [hb, ↓reduceIte, g1, g2, Option.orElse]
        exact ⟨_, _, rfl, .inl rfl⟩
  · cases hl

end GocoinV.BlockDB
