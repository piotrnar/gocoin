/-
  Proofs.C16Stale — reopen_index excludes blocks that were marked invalid after they were written.
  The ghost list `staleFinal` collects, along a history, the keys for which `BlockInvalid` flagged a WRITTEN record
  (`flagsInvalid`: in the index, not trusted, `ipos` set — the case in which `setBlockFlag` ORs BLOCK_INVALID into the
  record's first byte) and that were not handed to `BlockAdd` again since. Invariant `Stale`: if such a key is still in the
  in-memory index, the record at its `ipos` is flagged invalid on disk. LoadBlockIndex skips flagged records, so the
  restart does not list them.
-/
import GocoinV.Proofs.C16Listing
namespace GocoinV.BlockDB

/-- `BlockInvalid(hash)` will OR BLOCK_INVALID into a written record: the key is in the index, not trusted, and written -/
def flagsInvalid (s : State) (k : Key) : Bool :=
  match AL.get s.index k with
  | some r => !r.trusted && r.ipos.isSome
  | none => false

/-- one operation on the ghost list; `s` is the store's state BEFORE the operation -/
def staleStep (s : State) (st : List Key) (op : Op) : List Key :=
  if !s.isOpen then st else
  match op with
  | .invalid hash => if flagsInvalid s (keyOf hash) then keyOf hash :: st else st
  | .add hash _ _ _ raw => if raw.length < 80 then st else st.filter (fun k => decide (k ≠ keyOf hash))
  | _ => st

/-- the keys marked invalid after they were written and not added again since, after a history -/
def staleFinal (env : Env) : State → List Key → List Op → List Key
  | _, st, [] => st
  | s, st, op :: ops => staleFinal env (step env s op).1 (staleStep s st op) ops

def Stale (s : State) (st : List Key) : Prop :=
  ∀ k, k ∈ st → ∀ r, AL.get s.index k = some r → ∃ p, r.ipos = some p ∧ isInvalidRec (recAt s.fs.idx p) = true

theorem stale_update (s s' : State) (st : List Key) (h : Stale s st) (k : Key) (r0 r1 : Rec) (hr : AL.get s.index k = some r0)
    (hidx : ∀ k', AL.get s'.index k' = if k = k' then some r1 else AL.get s.index k')
    (h2 : s'.fs.idx = s.fs.idx) (g1 : r1.ipos = r0.ipos) : Stale s' st := by
  intro k' hk r hh
  rw [hidx] at hh
  rw [h2]
  split at hh
  · rename_i e; subst e
    simp only [Option.some.injEq] at hh; subst hh
    rw [g1]; exact h k hk r0 hr
  · exact h k' hk r hh

theorem stale_delete (s : State) (st : List Key) (h : Stale s st) (k : Key) (c : List (Key × CacheEnt)) :
    Stale { s with cache := c, index := AL.del s.index k } st := by
  exact fun k' hk r hh => h k' hk r (AL.get_of_del hh)

/-- a flag update keeps every flagged record flagged; OR-ing BLOCK_INVALID into a written record flags it -/
theorem setBlockFlag_stale (s : State) (st : List Key) (h : Stale s st) (hi : IdxInv s) (k : Key) (r0 : Rec) (fl : Nat)
    (hr : AL.get s.index k = some r0) (hfl : fl = BLOCK_TRUSTED ∨ fl = BLOCK_INVALID) :
    Stale (setBlockFlag s k r0 fl) st ∧
    (fl = BLOCK_INVALID → r0.ipos.isSome = true → Stale (setBlockFlag s k r0 fl) (k :: st)) := by
  obtain ⟨i0, _⟩ := setBlockFlag_fields s k r0 fl
  cases hp : r0.ipos with
  | none =>
    refine ⟨stale_update s _ st h k r0 _ hr i0 (setBlockFlag_idx_none s k r0 fl hp) rfl, ?_⟩
    intro _ hs; simp at hs
  | some p =>
    obtain ⟨_, hsame, hat⟩ := setBlockFlag_idx s hi k r0 p fl hr hp
    obtain ⟨_, _, o2, _, o1, _⟩ := or_flag_bits _ (flagAt_lt (recAt s.fs.idx p))
    have hinv : isInvalidRec (recAt (setBlockFlag s k r0 fl).fs.idx p) =
        hasFlag (flagAt (recAt s.fs.idx p) ||| fl) BLOCK_INVALID := by
      rw [hat, isInvalidRec_eq, flagAt_or _ fl hfl]
    -- a record that was flagged stays flagged, at every position
    have hkeep : ∀ p', p' % 136 = 0 → isInvalidRec (recAt s.fs.idx p') = true →
        isInvalidRec (recAt (setBlockFlag s k r0 fl).fs.idx p') = true := by
      intro p' hp1 hv
      by_cases e : p' = p
      · subst e
        rw [hinv]
        rcases hfl with e | e
        · rw [e, o2, ← isInvalidRec_eq]; exact hv
        · rw [e]; exact o1
      · rw [hsame p' hp1 e]; exact hv
    have h' : Stale { s with fs := (setBlockFlag s k r0 fl).fs } st := by
      intro k' hk r hh
      obtain ⟨p', a1, a2⟩ := h k' hk r hh
      exact ⟨p', a1, hkeep p' (hi.ipos k' r p' hh a1).2 a2⟩
    have base := stale_update _ (setBlockFlag s k r0 fl) st h' k r0 _ hr i0 rfl rfl
    refine ⟨base, ?_⟩
    intro e _ k' hk r hh
    rcases List.mem_cons.mp hk with e1 | e1
    · subst e1
      rw [i0, if_pos rfl] at hh
      simp only [Option.some.injEq] at hh; subst hh
      exact ⟨p, hp, by rw [hinv, e]; exact o1⟩
    · exact base k' e1 r hh

/-- `writeOne` writes the head of the queue: its key had an unwritten record, so it is not in the list; the flagged records stay -/
theorem stale_write (s : State) (st : List Key) (h : Stale s st) (hi : IdxInv s) (ho : s.isOpen = true) (b : B2W) (q : List B2W)
    (r0 : Rec) (cbts : Bytes) (n : Nat) (hq : s.queue = b :: q) (hr0 : AL.get s.index b.idx = some r0) (hip : r0.ipos = none) :
    Stale (writeRecord (maybeRoll { s with queue := q, datToWrite := n } cbts.length) b r0 cbts) st := by
  generalize hs1 : maybeRoll { s with queue := q, datToWrite := n } cbts.length = s1
  obtain ⟨_, hidx', _, f2, _, hold, _⟩ := writeRecord_idx s s1 hi ho b q r0 cbts _ n hq hs1 rfl
  intro k' hk r hh
  unfold writeRecord at hh
  simp only [f2, AL.get_set] at hh
  split at hh
  · rename_i e
    obtain ⟨p', a1, _⟩ := h k' hk r0 (by rw [← e]; exact hr0)
    rw [hip] at a1; cases a1
  · obtain ⟨p', a1, a2⟩ := h k' hk r hh
    refine ⟨p', a1, ?_⟩
    rw [hidx', hold p' (hi.ipos k' r p' hh a1).1]; exact a2

theorem Move.stale {env : Env} {s s' : State} {sp sp' : Spec} (m : Move env s sp s' sp') (st : List Key) (h : Stale s st)
    (hi : IdxInv s) : Stale s' st := by
  cases m with
  | olen k r0 n hr => exact stale_update s _ st h k r0 _ hr (fun k' => AL.get_set _ _ k' _) rfl rfl
  | trust k r0 _ hr => exact (setBlockFlag_stale s st h hi k r0 _ hr (.inl rfl)).1
  | flagI k r0 _ hr => exact (setBlockFlag_stale s st h hi k r0 _ hr (.inr rfl)).1
  | forget k => exact stale_delete s st h k _
  | write b q r0 cbts ho hq hr0 _ hip => exact stale_write s st h hi ho b q r0 cbts _ hq hr0 hip
  | _ => exact h

theorem blockInvalid_stale (s : State) (st : List Key) (h : Stale s st) (hi : IdxInv s) (hash : Bytes) :
    Stale (blockInvalid s hash).1 (if flagsInvalid s (keyOf hash) then keyOf hash :: st else st) := by
  unfold blockInvalid flagsInvalid
  simp only
  cases hr0 : AL.get s.index (keyOf hash) with
  | none => simp only [Bool.false_eq_true, ↓reduceIte]; exact h
  | some r0 =>
    simp only
    by_cases ht : r0.trusted = true
    · simp only [ht, Bool.not_true, Bool.false_and, Bool.false_eq_true, ↓reduceIte]; exact h
    · have htf : r0.trusted = false := by simpa using ht
      simp only [htf, Bool.false_eq_true, ↓reduceIte, ← Option.not_isSome, Bool.not_false, Bool.true_and]
      cases hs : r0.ipos.isSome
      · exact stale_delete s st h _ _
      · exact (setBlockFlag_stale s st h hi _ r0 _ hr0 (.inr rfl)).2 rfl hs

/-- close + reopen: a key whose record is flagged invalid on disk is not in the rebuilt index at all -/
theorem reopen_stale (env : Env) (hadv : env.advInvalid = true) (s : State) (sp : Spec) (n : Nat) (st : List Key) (h : Stale s st)
    (hD : Disk env s sp n) (hI : IdxInv s) (hn : n < 2^31) (o : Opts) : Stale (reopen env s.fs o).1 st := by
  have L := load_linv env hadv s sp n hD hI hn
  intro k hk r hh
  obtain ⟨r0, p0, _, a2, a3, a4, _⟩ := L.l1 k r hh
  obtain ⟨p', b1, b2⟩ := h k hk r0 a2
  rw [a3] at b1; simp only [Option.some.injEq] at b1; subst b1
  rw [a4] at b2; cases b2

theorem step_stale (env : Env) (hadv : env.advInvalid = true) (s : State) (sp : Spec) (n : Nat) (st : List Key) (h : Stale s st)
    (hC : Core env s sp n) (op : Op) (hn : n < 2^31) : Stale (step env s op).1 (staleStep s st op) := by
  have hI := hC.inv
  by_cases hinv : ∃ hash, op = .invalid hash
  · -- the list grows exactly when `BlockInvalid` flags a written record
    obtain ⟨hash, rfl⟩ := hinv
    unfold step staleStep
    cases ho : s.isOpen
    · exact h
    · exact blockInvalid_stale s st h hI hash
  · have h0 : Stale s (staleStep s st op) := by
      unfold staleStep
      split
      · exact h
      · split
        · exact absurd ⟨_, rfl⟩ hinv
        · split
          · exact h
          · exact fun k' hk => h k' (List.mem_filter.mp hk).1
        · exact h
    refine (step_ind (P := fun t _ => Stale t (staleStep s st op) ∧ IdxInv t) env s sp op hC.opn ⟨h0, hI⟩
      (fun _ _ _ _ _ h m => ⟨m.stale _ h.1 h.2, m.inv h.2⟩) ?_ (fun _ h => ⟨h.1, { h.2 with pos := nofun }⟩) ?_).1
    · intro hash ht tx tr raw c _ e ho hnone hl _ _ _ _
      subst e
      refine ⟨?_, queued_inv s hI hash ht tx tr raw hl c⟩
      have hl' : ¬ raw.length < 80 := by omega
      simp only [staleStep, ho, Bool.not_true, Bool.false_eq_true, ↓reduceIte, hl'] at h0 ⊢
      intro k' hk r hh
      simp only [State.queued, AL.get_set] at hh
      split at hh
      · -- the key that is added has just been filtered out of the list
        rename_i e
        exact absurd e.symm (of_decide_eq_true (List.mem_filter.mp hk).2)
      · exact h0 k' hk r hh
    · intro o e hc
      subst e
      have e : staleStep s st (.reopen o) = st := by simp [staleStep, hc]
      rw [e]
      exact ⟨reopen_stale env hadv s sp n st h hC.disk hI hn o, (reopen_inv env hadv s.fs o hI.len_mod).1⟩

/-- the restart of a closed store lists no key of the ghost list -/
theorem reopen_lists_no_stale (env : Env) (s : State) (sp : Spec) (n : Nat) (st : List Key) (h : Stale s st)
    (hC : Core env s sp n) (o : Opts) :
    ∀ ws, (reopen env s.fs o).2 = .walk ws → ∀ w ∈ ws, keyOf w.hash ∉ st := by
  intro ws hws w hwm hk
  have hD := hC.disk
  rw [reopen_walk] at hws
  simp only [Out.walk.injEq] at hws
  subst hws
  rw [chunks_eq _ _ (by omega)] at hwm
  simp only [List.mem_map, List.mem_filter, List.mem_range, Bool.not_eq_eq_eq_not, Bool.not_true] at hwm
  obtain ⟨c, ⟨⟨i, hi, rfl⟩, hv⟩, rfl⟩ := hwm
  obtain ⟨r, b1, b2⟩ := hD.disk (136 * i) (by omega) (by omega) hv
  obtain ⟨p', c1, c2⟩ := h _ hk r b1
  rw [b2] at c1; simp only [Option.some.injEq] at c1; subst c1
  rw [hv] at c2; cases c2

end GocoinV.BlockDB
