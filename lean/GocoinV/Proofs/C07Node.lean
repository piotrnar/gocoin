/-
  Proofs.C07Node — the coupling between the running node's memory and the directory, and the lemmas that
  every primitive step (one emitted effect, one in-memory update) keeps it.

  `InvQ c s`:
    hist/pref : the disk is the effect list applied to `base`, and EVERY PREFIX of the effect list gives a
                directory satisfying `DiskInv P` (this is the "at every crash point" part);
    node      : BlockDB's in-memory index agrees with the directory: a record marked on-disk is in the index
                file, a record not yet on disk has its block in the write queue `Q`, every index record /
                queued block / tree node / the tip / the parent of every cached block has a record, and the
                queue is in parent-before-child order relative to the index file (`QOK`);
    snap      : a paused snapshot writer holds exactly the node's current (tip, height, set) and its tmp file
                exists; when the set is not dirty the snapshot the restart would load IS the current state.
  Core Lean only.
-/
import GocoinV.Proofs.C07Disk
namespace GocoinV.Proofs.C07
open GocoinV.Persist

/-- `rf[n, id]`: BlockDB's in-memory record of `id` (`blockIndex[id]`), if there is one -/
scoped macro "rf[" n:term ", " id:term "]" : term => `(List.find? (fun (x : BRec) => x.id == $id) (Node.recs $n))

def QOK (I : BlockId → Prop) : List Block → Prop
  | [] => True
  | b :: r => (b.parent = 0 ∨ I b.parent) ∧ QOK (fun x => x = b.id ∨ I x) r

theorem QOK.mono {I J : BlockId → Prop} (hIJ : ∀ x, I x → J x) : ∀ {q : List Block}, QOK I q → QOK J q := by
  intro q
  induction q generalizing I J with
  | nil => intro _; trivial
  | cons b r ih =>
    intro h
    exact ⟨h.1.imp id (hIJ _), ih (fun x hx => hx.imp id (hIJ x)) h.2⟩

theorem QOK.append {I : BlockId → Prop} {q : List Block} {b : Block} (h : QOK I q)
    (hb : b.parent = 0 ∨ I b.parent ∨ ∃ b' ∈ q, b'.id = b.parent) : QOK I (q ++ [b]) := by
  induction q generalizing I with
  | nil =>
    refine ⟨?_, trivial⟩
    rcases hb with hb | hb | ⟨_, hm, _⟩
    · exact Or.inl hb
    · exact Or.inr hb
    · cases hm
  | cons a r ih =>
    refine ⟨h.1, ih h.2 ?_⟩
    rcases hb with hb | hb | ⟨b', hm, e⟩
    · exact Or.inl hb
    · exact Or.inr (Or.inl (Or.inr hb))
    · rcases List.mem_cons.1 hm with rfl | hm
      · exact Or.inr (Or.inl (Or.inl e.symm))
      · exact Or.inr (Or.inr ⟨b', hm, e⟩)

structure NodeInv (n : Node) (I : List BlockId) (Q : List Block) (X : BlockId → Prop) (T : List BlockId) : Prop where
  recDisk : ∀ id r, rf[n, id] = some r → r.onDisk = true → id ∈ I
  recQueue : ∀ id r, rf[n, id] = some r → r.onDisk = false → ∃ b ∈ Q, b.id = id
  queueRec : ∀ b ∈ Q, (rf[n, b.id]).isSome
  idxRec : ∀ id ∈ I, (rf[n, id]).isSome
  tipRec : n.tip = 0 ∨ (rf[n, n.tip]).isSome
  treeRec : ∀ t ∈ n.tree, X t.id ∨ (rf[n, t.id]).isSome
  treePar : ∀ t ∈ n.tree, t.parent = 0 ∨ (rf[n, t.parent]).isSome
  memParent : ∀ b ∈ n.mem, b.parent = 0 ∨ (rf[n, b.parent]).isSome
  ghost : ∀ id ∈ T, id = 0 ∨ (rf[n, id]).isSome
  queueOK : QOK (· ∈ I) Q

structure SnapInv (n : Node) (d : Disk) : Prop where
  savingOK : ∀ sn k, n.saving = some (sn, k) → sn = ⟨n.tip, n.lastHeight, n.utxo⟩ ∧ hasTmp d sn
  cleanOK : n.dirty = false → loadSnap d = some ⟨n.tip, n.lastHeight, n.utxo⟩ ∨
    (loadSnap d = none ∧ n.tip = 0 ∧ n.lastHeight = 0 ∧ n.utxo = [])

/-- parameters of the invariant: `P` what a snapshot may contain, `base` the directory the process started
    from, `X` tree nodes that need no record yet (the block being submitted), `T` ghost ids that must keep
    a record, `Q` the blocks still to be written, `Qn` the node's queue field (= `Q` except inside writeAll) -/
structure Par where
  P : Snap → Prop
  base : Disk
  X : BlockId → Prop := (· = 0)
  T : List BlockId := []
  Q : List Block := []
  Qn : List Block := []

structure InvQ (c : Par) (s : St) : Prop where
  hist : s.d = applyAll c.base s.es
  pref : ∀ k, DiskInv c.P (applyAll c.base (s.es.take k))
  node : NodeInv s.n (ids s.d) c.Q c.X c.T
  snap : SnapInv s.n s.d
  qeq : s.n.queue = c.Qn

variable {c : Par} {s : St}

/-! ### one emitted effect -/

theorem emit_d (s : St) (e : Effect) (p : Pt) : (s.emit e p).d = apply s.d e := rfl
theorem emit_n (s : St) (e : Effect) (p : Pt) : (s.emit e p).n = s.n := rfl
theorem emit_err (s : St) (e : Effect) (p : Pt) : (s.emit e p).err = s.err := rfl
theorem emit_es (s : St) (e : Effect) (p : Pt) : (s.emit e p).es = s.es ++ [(e, p)] := rfl

/-- the history part alone: the disk is the effect list applied to the base, every prefix is a good directory -/
structure Hist (c : Par) (s : St) : Prop where
  hist : s.d = applyAll c.base s.es
  pref : ∀ k, DiskInv c.P (applyAll c.base (s.es.take k))

theorem InvQ.toHist (h : InvQ c s) : Hist c s := ⟨h.hist, h.pref⟩

theorem Hist.disk (h : Hist c s) : DiskInv c.P s.d := by
  have := h.pref s.es.length
  rwa [List.take_length, ← h.hist] at this

theorem InvQ.disk (h : InvQ c s) : DiskInv c.P s.d := h.toHist.disk

/-- history part of one emit: needs only the effect's side condition -/
theorem Hist.emit (h : Hist c s) (e : Effect) (p : Pt) (ok : EffOK c.P s.d e) : Hist c (s.emit e p) := by
  refine ⟨?_, ?_⟩
  · rw [emit_d, emit_es, applyAll_append, ← h.hist]; rfl
  · intro k
    rw [emit_es]
    by_cases hk : k ≤ s.es.length
    · rw [List.take_append_of_le_length hk]; exact h.pref k
    · rw [List.take_of_length_le (by simp; omega), applyAll_append, ← h.hist]
      exact apply_inv h.disk e ok

theorem InvQ.emit (h : InvQ c s) (e : Effect) (p : Pt) (ok : EffOK c.P s.d e)
    (hi : ids (apply s.d e) = ids s.d) (hl : loadSnap (apply s.d e) = loadSnap s.d)
    (ht : ∀ sn, hasTmp s.d sn → hasTmp (apply s.d e) sn) : InvQ c (s.emit e p) := by
  obtain ⟨h1, h2⟩ := h.toHist.emit e p ok
  refine ⟨h1, h2, ?_, ?_, h.qeq⟩
  · rw [emit_d, emit_n, hi]; exact h.node
  · rw [emit_d, emit_n]
    refine ⟨fun sn k hs => ⟨(h.snap.savingOK sn k hs).1, ht sn (h.snap.savingOK sn k hs).2⟩, ?_⟩
    intro hd; rw [hl]; exact h.snap.cleanOK hd

/-- effects that touch neither the snapshots, nor the tmp files' identity, nor the set of indexed ids -/
def frameEff : Effect → Bool
  | .nop | .renameDbOld | .chunkTmp _ | .flushTmp _ | .writeUndoTmp _ | .renameUndoTmp _ | .removeUndoTmp | .setTrusted _ => true
  | _ => false

theorem hasTmp_of_tmps {d d' : Disk} (h : d'.tmps = d.tmps) (sn : Snap) (ht : hasTmp d sn) : hasTmp d' sn := by
  obtain ⟨x, hx, hs⟩ := ht
  exact ⟨x, by rw [h]; exact hx, hs⟩

theorem InvQ.emit_frame (h : InvQ c s) (e : Effect) (p : Pt) (hf : frameEff e = true) :
    InvQ c (s.emit e p) := by
  have hne : ∀ r, e ≠ .appendIdx r := by intro r hr; subst hr; simp [frameEff] at hf
  apply h.emit e p
  · cases e <;> simp_all [frameEff, EffOK]
  · exact ids_apply s.d e hne
  -- left are the eight effects `frameEff` admits, in the order of `Effect`: nop, renameDbOld, chunkTmp, flushTmp,
  -- writeUndoTmp, renameUndoTmp, removeUndoTmp, setTrusted
  · cases e <;> simp [frameEff] at hf
    · rfl
    · exact loadSnap_rename s.d
    · exact loadSnap_of _ _ rfl rfl
    · exact loadSnap_of _ _ rfl rfl
    · exact loadSnap_of _ _ rfl rfl
    · simp only [apply]; split <;> exact loadSnap_of _ _ rfl rfl
    · exact loadSnap_of _ _ rfl rfl
    · exact loadSnap_of _ _ rfl rfl
  · intro sn ht
    -- the same eight effects in the same order
    cases e <;> simp [frameEff] at hf
    · exact ht
    · simp only [apply]; split
      · exact ht
      · exact hasTmp_of_tmps rfl sn ht
    · exact apply_keeper _ _ sn rfl ht
    · exact apply_keeper _ _ sn rfl ht
    · exact hasTmp_of_tmps rfl sn ht
    · simp only [apply]; split
      · exact ht
      · exact hasTmp_of_tmps rfl sn ht
    · exact hasTmp_of_tmps rfl sn ht
    · exact hasTmp_of_tmps rfl sn ht

theorem InvQ.emit_nop (h : InvQ c s) (p : Pt) : InvQ c (s.emit .nop p) :=
  h.emit_frame .nop p rfl

theorem InvQ.emit_appendDat (h : InvQ c s) (b : Block) (p : Pt) (ok : b.parent = 0 ∨ b.parent ∈ ids s.d) :
    InvQ c (s.emit (.appendDat b) p) :=
  h.emit _ p ok rfl (loadSnap_of _ _ rfl rfl) (hasTmp_of_tmps rfl)

/-! ### in-memory updates -/

/-- replacing the node by one with the same index, tree, cache, tip, set, height, dirty flag and writer state -/
theorem InvQ.setNode (h : InvQ c s) (n' : Node)
    (h1 : n'.recs = s.n.recs) (h2 : n'.tip = s.n.tip) (h3 : n'.tree = s.n.tree) (h4 : n'.mem = s.n.mem)
    (h5 : n'.utxo = s.n.utxo) (h6 : n'.lastHeight = s.n.lastHeight) (h7 : n'.dirty = s.n.dirty)
    (h8 : n'.saving = s.n.saving) (h9 : n'.queue = s.n.queue) : InvQ c { s with n := n' } := by
  refine ⟨h.hist, h.pref, ?_, ?_, h9.trans h.qeq⟩
  · have hn := h.node
    constructor
    · simp only [h1]; exact hn.recDisk
    · simp only [h1]; exact hn.recQueue
    · simp only [h1]; exact hn.queueRec
    · simp only [h1]; exact hn.idxRec
    · simp only [h1, h2]; exact hn.tipRec
    · simp only [h1, h3]; exact hn.treeRec
    · simp only [h1, h3]; exact hn.treePar
    · simp only [h1, h4]; exact hn.memParent
    · simp only [h1]; exact hn.ghost
    · exact hn.queueOK
  · have hs := h.snap
    constructor
    · simp only [h2, h5, h6, h8]; exact hs.savingOK
    · simp only [h2, h5, h6, h7]; exact hs.cleanOK

theorem find_map_brec (l : List BRec) (id : BlockId) (f : BRec → BRec) (hf : ∀ x, (f x).id = x.id) :
    (l.map f).find? (fun y => y.id == id) = (l.find? (fun y => y.id == id)).map f := by
  simp only [List.find?_map, Function.comp_def, hf]

/-- rewriting records in place without changing their id or on-disk flag (the trusted flag) -/
theorem NodeInv.mapRecs {n : Node} {I : List BlockId} {Q : List Block} {X : BlockId → Prop} {T : List BlockId}
    (hn : NodeInv n I Q X T) (f : BRec → BRec)
    (hid : ∀ x, (f x).id = x.id) (hod : ∀ x, (f x).onDisk = x.onDisk) :
    NodeInv { n with recs := n.recs.map f } I Q X T := by
  have key : ∀ id, List.find? (fun (x : BRec) => x.id == id) (n.recs.map f) = (rf[n, id]).map f :=
    fun id => find_map_brec _ id f hid
  constructor
  · intro id r hr ho
    simp only [key, Option.map_eq_some_iff] at hr
    obtain ⟨r0, h0, rfl⟩ := hr
    exact hn.recDisk id r0 h0 (by rw [← hod]; exact ho)
  · intro id r hr ho
    simp only [key, Option.map_eq_some_iff] at hr
    obtain ⟨r0, h0, rfl⟩ := hr
    exact hn.recQueue id r0 h0 (by rw [← hod]; exact ho)
  · intro b hb; simp only [key, Option.isSome_map]; exact hn.queueRec b hb
  · intro id hid'; simp only [key, Option.isSome_map]; exact hn.idxRec id hid'
  · simp only [key, Option.isSome_map]; exact hn.tipRec
  · intro t ht; simp only [key, Option.isSome_map]; exact hn.treeRec t ht
  · intro t ht; simp only [key, Option.isSome_map]; exact hn.treePar t ht
  · intro b hb; simp only [key, Option.isSome_map]; exact hn.memParent b hb
  · intro id hid'; simp only [key, Option.isSome_map]; exact hn.ghost id hid'
  · exact hn.queueOK

theorem InvQ.setTrustedRec (h : InvQ c s) (id : BlockId) : InvQ c { s with n := setRecTrusted s.n id } :=
  { h with node := h.node.mapRecs _ (by intro x; split <;> rfl) (by intro x; split <;> rfl), snap := { h.snap with } }

/-- a panic of the running process changes nothing the invariant talks about -/
theorem InvQ.fail (h : InvQ c s) (m : String) : InvQ c (s.fail m) := by
  unfold St.fail
  split
  · exact h
  · exact { h with }

/-- the ghost flag is not mentioned by the invariant -/
theorem InvQ.setForeign (h : InvQ c s) (f : Bool) : InvQ c { s with foreign := f } :=
  { h with }

theorem InvQ.ghostSet (h : InvQ c s) (T' : List BlockId)
    (hT : ∀ id ∈ T', id = 0 ∨ (rf[s.n, id]).isSome) : InvQ { c with T := T' } s :=
  { h with node := { h.node with ghost := hT } }

theorem InvQ.weakenX (h : InvQ c s) (X' : BlockId → Prop) (hX : ∀ i, c.X i → X' i) : InvQ { c with X := X' } s :=
  { h with node := { h.node with treeRec := fun t ht => (h.node.treeRec t ht).imp (hX _) id } }

/-! ### the snapshot writer's primitive steps -/

theorem hasTmp_create (d : Disk) (sn : Snap) : hasTmp (apply d (.createTmp sn)) sn :=
  ⟨{ tip := sn.tip, snap := sn, chunks := 0, flushed := false }, by simp [apply], rfl⟩

/-- os.Create(<hash>.db.tmp) for a good snapshot while no other writer is paused -/
theorem InvQ.emit_createTmp (h : InvQ c s) (sn : Snap) (p : Pt) (hs : s.n.saving = none) (ok : GoodSnap c.P s.d sn) :
    InvQ c (s.emit (.createTmp sn) p) := by
  obtain ⟨h1, h2⟩ := h.toHist.emit (.createTmp sn) p ok
  refine ⟨h1, h2, h.node, ⟨?_, h.snap.cleanOK⟩, h.qeq⟩
  intro sn' k hk; rw [emit_n, hs] at hk; cases hk

/-- the writer pauses after its first chunk holding exactly the node's current state -/
theorem InvQ.setSaving (h : InvQ c s) (sn : Snap) (k : Nat) (ht : hasTmp s.d sn)
    (hsn : sn = ⟨s.n.tip, s.n.lastHeight, s.n.utxo⟩) :
    InvQ c { s with n := { s.n with saving := some (sn, k) } } := by
  -- `NodeInv` mentions no field that changes: `{ h.node with }` is the same proofs read at the new node
  refine { h with node := { h.node with }, snap := ⟨?_, h.snap.cleanOK⟩ }
  intro sn' k' hk
  simp only [Option.some.injEq, Prod.mk.injEq] at hk
  obtain ⟨rfl, _⟩ := hk
  exact ⟨hsn, ht⟩

/-- abort: os.Remove(<hash>.db.tmp) and the writer is gone -/
theorem InvQ.emit_removeTmp_clear (h : InvQ c s) (t : BlockId) (p : Pt) :
    InvQ c { (s.emit (.removeTmp t) p) with n := { s.n with saving := none } } := by
  obtain ⟨h1, h2⟩ := h.toHist.emit (.removeTmp t) p trivial
  exact ⟨h1, h2, { h.node with }, ⟨fun _ _ hk => (nomatch hk), h.snap.cleanOK⟩, h.qeq⟩

/-- the final rename <hash>.db.tmp → UTXO.db of a snapshot holding the node's current state -/
theorem InvQ.emit_renameTmpDb_finish (h : InvQ c s) (sn : Snap) (p : Pt) (ht : hasTmp s.d sn)
    (hsn : sn = ⟨s.n.tip, s.n.lastHeight, s.n.utxo⟩) :
    InvQ c { (s.emit (.renameTmpDb sn.tip) p) with n := { s.n with dirty := false, heightOnDisk := sn.height, saving := none } } := by
  obtain ⟨h1, h2⟩ := h.toHist.emit (.renameTmpDb sn.tip) p trivial
  have hi : ids (apply s.d (.renameTmpDb sn.tip)) = ids s.d := ids_apply _ _ (by intro r hr; cases hr)
  refine ⟨h1, h2, ?_, ?_, h.qeq⟩
  · show NodeInv _ (ids (apply s.d (.renameTmpDb sn.tip))) _ _ _
    rw [hi]
    exact { h.node with }
  · refine ⟨fun _ _ hk => (nomatch hk), fun _ => Or.inl ?_⟩
    obtain ⟨x, hx, hxs⟩ := ht
    show loadSnap (apply s.d (.renameTmpDb sn.tip)) = some ⟨s.n.tip, s.n.lastHeight, s.n.utxo⟩
    simp only [apply, hx, loadSnap]
    rw [hxs, hsn]

/-- the unspent set changes (commit / undo): no writer is paused, the set becomes dirty -/
theorem InvQ.setUtxoDirty (h : InvQ c s) (hs : s.n.saving = none) (u : List Coin) (l : Nat) :
    InvQ c { s with n := { s.n with utxo := u, lastHeight := l, dirty := true } } := by
  refine { h with node := { h.node with }, snap := ⟨?_, ?_⟩ }
  · intro sn k hk; rw [show ({ s.n with utxo := u, lastHeight := l, dirty := true } : Node).saving = s.n.saving from rfl, hs] at hk; cases hk
  · intro hd; cases hd

/-- the tip moves to a block that has a record, while the set is dirty and no writer is paused -/
theorem InvQ.setTip (h : InvQ c s) (hs : s.n.saving = none) (hd : s.n.dirty = true) (t : BlockId) (th : Nat)
    (ht : t = 0 ∨ (rf[s.n, t]).isSome) :
    InvQ c { s with n := { s.n with tip := t, tipHeight := th } } := by
  refine { h with node := { h.node with tipRec := ht }, snap := ⟨?_, ?_⟩ }
  · intro sn k hk; rw [show ({ s.n with tip := t, tipHeight := th } : Node).saving = s.n.saving from rfl, hs] at hk; cases hk
  · intro hd'; rw [show ({ s.n with tip := t, tipHeight := th } : Node).dirty = s.n.dirty from rfl, hd] at hd'; cases hd'

end GocoinV.Proofs.C07
