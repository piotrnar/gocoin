/-
  Proofs.C17Block — the block layer (Model.BalancesBlock): block-level histories are record-level histories.
-/
import GocoinV.Proofs.C17
import GocoinV.Model.BalancesBlock
namespace GocoinV.Proofs.C17Block
open GocoinV GocoinV.Model.Balances GocoinV.Model.BalancesBlock GocoinV.Proofs.C17

theorem run_append (H : Bytes → Nat) (s : State) (a b : List Ev) : run H s (a ++ b) = run H (run H s a) b := by
  simp [run, List.foldl_append]

theorem stepB_eq_run (H : Bytes → Nat) (s : State) (e : BEv) : stepB H s e = run H s e.evs := by
  cases e <;> simp [stepB, BEv.evs, connectBlock, run]

theorem runB_eq_run (H : Bytes → Nat) (h : List BEv) : ∀ s : State, runB H s h = run H s (flat h) := by
  induction h with
  | nil => intro s; rfl
  | cons e rest ih =>
    intro s
    have : runB H s (e :: rest) = runB H (stepB H s e) rest := rfl
    rw [this, ih, stepB_eq_run, flat, run_append]

theorem inv_runB {H : Bytes → Nat} (h : List BEv) (s : State) (hi : Inv H s) (ha : AdmissibleRun H s (flat h)) :
    Inv H (runB H s h) := by
  rw [runB_eq_run]
  exact inv_run (flat h) s hi ha

end GocoinV.Proofs.C17Block
