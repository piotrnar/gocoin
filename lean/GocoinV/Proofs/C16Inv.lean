/-
  Proofs.C16Inv — the index-file append invariant of the block store model, kept by every primitive transition
  (`Move.inv`), by the queueing of a new block and by the restart, hence by every operation:
  the index file is a whole number of 136-byte records, the append position of an open store is its end,
  every in-memory `ipos` points at a whole record inside the file, queued blocks have a full header.
-/
import GocoinV.Proofs.C16Move
import GocoinV.Proofs.C16Walk
namespace GocoinV.BlockDB

structure IdxInv (s : State) : Prop where
  len_mod : s.fs.idx.length % 136 = 0
  pos : s.isOpen = true → s.maxidxfilepos = s.fs.idx.length
  ipos : ∀ k r p, AL.get s.index k = some r → r.ipos = some p → p + 136 ≤ s.fs.idx.length ∧ p % 136 = 0
  queue : ∀ b ∈ s.queue, b.data.length ≥ 80

theorem IdxInv.ipos_set {s : State} (h : IdxInv s) (k : Key) (r' : Rec)
    (hp : ∀ p, r'.ipos = some p → ∃ k0 r0, AL.get s.index k0 = some r0 ∧ r0.ipos = some p) :
    ∀ k' r p, AL.get (AL.set s.index k r') k' = some r → r.ipos = some p → p + 136 ≤ s.fs.idx.length ∧ p % 136 = 0 := by
  intro k' r p h1 h2
  rw [AL.get_set] at h1
  split at h1
  · cases h1
    obtain ⟨k0, r0, hr, hp0⟩ := hp p h2
    exact h.ipos k0 r0 p hr hp0
  · exact h.ipos k' r p h1 h2

theorem removeDatFile_idx (o : Opts) (fs : FS) (i : Nat) : (removeDatFile o fs i).idx = fs.idx := by
  unfold removeDatFile
  split
  · rfl
  · split <;> rfl

/-- the clean-up loop removes files below `idx` only (at most three): what holds before it and is kept by the removal
    of one file below `idx` holds after it -/
theorem cleanupGo_ind (o : Opts) (idx : Nat) {P : FS → Prop}
    (hstep : ∀ fs i, i < idx → P fs → P (removeDatFile o fs i)) :
    ∀ (f i : Nat) (fs : FS), 1 ≤ i → i ≤ idx → P fs → P (cleanupGo o f i fs) := by
  intro f
  induction f with
  | zero => intro i fs _ _ h; exact h
  | succ f ih =>
    intro i fs h1 h2 h
    unfold cleanupGo
    simp only
    have hr := hstep fs (i - 1) (by omega) h
    split
    · exact hr
    · exact ih (i - 1) _ (by omega) (by omega) hr

theorem loadCleanup_idx (o : Opts) (m : Nat) (fs : FS) : (loadCleanup o m fs).idx = fs.idx := by
  unfold loadCleanup
  split
  · exact cleanupGo_ind o _ (P := fun t => t.idx = fs.idx) (fun t i _ h => (removeDatFile_idx o t i).trans h) 3 _ fs
      (by omega) (Nat.le_refl _) rfl
  · rfl

theorem rollOver_facts (s : State) :
    (rollOver s).fs.idx = s.fs.idx ∧ (rollOver s).index = s.index ∧ (rollOver s).queue = s.queue
      ∧ (rollOver s).isOpen = s.isOpen ∧ (rollOver s).maxidxfilepos = s.maxidxfilepos := by
  unfold rollOver
  refine ⟨?_, by simp⟩
  simp only
  split
  · rw [removeDatFile_idx]
  · rfl

theorem maybeRoll_facts (s : State) (n : Nat) :
    (maybeRoll s n).fs.idx = s.fs.idx ∧ (maybeRoll s n).index = s.index ∧ (maybeRoll s n).queue = s.queue
      ∧ (maybeRoll s n).isOpen = s.isOpen ∧ (maybeRoll s n).maxidxfilepos = s.maxidxfilepos := by
  unfold maybeRoll
  split
  · exact rollOver_facts s
  · exact ⟨rfl, rfl, rfl, rfl, rfl⟩

theorem writeRecord_inv (s : State) (b2w : B2W) (r0 : Rec) (cbts : Bytes) (h : IdxInv s) (ho : s.isOpen = true)
    (hb : b2w.data.length ≥ 80) :
    IdxInv (writeRecord s b2w r0 cbts) := by
  have hpos := h.pos ho
  have hrl := mkRecord_length (flagsOf s.opts.compress r0.trusted) s.maxdatfileidx b2w.data.length b2w.height
    s.maxdatfilepos cbts.length b2w.txcount b2w.data hb
  unfold writeRecord
  refine ⟨?_, ?_, ?_, h.queue⟩
  · simp only [hpos, pwrite_at_end, List.length_append, hrl]
    have := h.len_mod; omega
  · intro _
    simp only [hpos, pwrite_at_end, List.length_append, hrl, recsize_eq]
  · intro k r p
    simp only [hpos, pwrite_at_end, List.length_append, hrl, AL.get_set]
    split
    · intro h1 h2
      simp only [Option.some.injEq] at h1
      subst h1
      simp only [Option.some.injEq] at h2
      have := h.len_mod; omega
    · intro h1 h2
      have := h.ipos k r p h1 h2
      omega

/-- a flag update rewrites one byte inside the file: its length and all positions are unchanged -/
theorem setBlockFlag_inv (s : State) (k : Key) (r0 : Rec) (fl : Nat) (h : IdxInv s)
    (hr : AL.get s.index k = some r0) :
    IdxInv (setBlockFlag s k r0 fl) := by
  unfold setBlockFlag
  have hix := h.ipos_set k { r0 with trusted := r0.trusted || fl == BLOCK_TRUSTED } (fun p hp => ⟨k, r0, hr, hp⟩)
  split
  · exact { h with ipos := hix }
  · rename_i p hp
    have hp' := (h.ipos k r0 p hr hp).1
    have hl : (pwrite s.fs.idx p [UInt8.ofNat ((s.fs.idx.getD p 0).toNat ||| fl)]).length = s.fs.idx.length :=
      pwrite_length_inside _ _ _ (by omega)
    refine ⟨?_, ?_, ?_, h.queue⟩
    · simp only [hl]; exact h.len_mod
    · intro ho; simp only [hl]; exact h.pos ho
    · intro k' r p'; simp only [hl]; exact hix k' r p'

theorem queued_inv (s : State) (h : IdxInv s) (hash : Bytes) (ht tx : Nat) (tr : Bool) (raw : Bytes) (hl : 80 ≤ raw.length)
    (c : List (Key × CacheEnt)) : IdxInv (s.queued hash ht tx tr raw c) := by
  refine { h with ipos := h.ipos_set _ _ (fun p hp => by cases hp), queue := ?_ }
  intro b hb
  simp only [State.queued, List.mem_append, List.mem_singleton] at hb
  rcases hb with hb | hb
  · exact h.queue b hb
  · subst hb; exact hl

theorem Move.inv {env : Env} {s s' : State} {sp sp' : Spec} (m : Move env s sp s' sp')
    (h : IdxInv s) : IdxInv s' := by
  have tail : ∀ b q, s.queue = b :: q → ∀ b' ∈ q, b'.data.length ≥ 80 := fun b q hq b' hb' => h.queue b' (by rw [hq]; simp [hb'])
  cases m with
  | touch c => exact { h with }
  | olen k r0 n hr => exact { h with ipos := h.ipos_set k _ (fun p hp => ⟨k, r0, hr, hp⟩) }
  | trust k r0 _ hr | flagI k r0 _ hr => exact setBlockFlag_inv s k r0 _ h hr
  | spec | drop => exact h
  | forget k => exact { h with ipos := fun k' r p hh => h.ipos k' r p (AL.get_of_del hh) }
  | pop b q hq => exact { h with queue := tail b q hq }
  | write b q r0 cbts ho hq =>
    obtain ⟨f1, f2, f3, f4, f5⟩ :=
      maybeRoll_facts { s with queue := q, datToWrite := s.datToWrite - b.data.length } cbts.length
    refine writeRecord_inv _ b r0 cbts ⟨?_, ?_, ?_, ?_⟩ (by rw [f4]; exact ho) (h.queue b (by rw [hq]; simp))
    · rw [f1]; exact h.len_mod
    · intro _; rw [f1, f5]; exact h.pos ho
    · intro k r p; rw [f1, f2]; exact h.ipos k r p
    · rw [f3]; exact tail b q hq

theorem reopen_fs_idx (env : Env) (fs : FS) (o : Opts) : (reopen env fs o).1.fs.idx = fs.idx := by
  unfold reopen
  simp only [loadCleanup_idx]
  unfold createCur
  split
  · rfl
  · split <;> rfl

/-- after NewBlockDBExt + LoadBlockIndex (under `env.advInvalid`) the append position is the end of the index file -/
theorem reopen_inv (env : Env) (hadv : env.advInvalid = true) (fs : FS) (o : Opts) (hm : fs.idx.length % 136 = 0) :
    IdxInv (reopen env fs o).1 ∧ (reopen env fs o).1.isOpen = true := by
  have L := loadLoop_ind env fs.idx (fun pos a => a.maxidxfilepos = pos ∧ pos % 136 = 0 ∧
      ∀ k r p, AL.get a.index k = some r → r.ipos = some p → p + 136 ≤ pos ∧ p % 136 = 0) ?_
    ⟨rfl, rfl, by intro k r p hh; simp [AL.get] at hh⟩
  · rw [show 136 * (fs.idx.length / 136) = fs.idx.length by omega] at L
    obtain ⟨e1', _, e2⟩ := L
    refine ⟨⟨?_, ?_, ?_, ?_⟩, rfl⟩
    · rw [reopen_fs_idx]; exact hm
    · intro _; rw [reopen_fs_idx]; exact e1'
    · intro k r p h1 h2
      rw [reopen_fs_idx]
      exact e2 k r p h1 h2
    · intro b hb; cases hb
  · -- every record, valid or flagged invalid, advances the position by 136 and files its entry below the new position
    intro pos a _ ⟨h1, h2, h3⟩
    have := loadRecord_ipos env hadv a ((fs.idx.drop pos).take 136) (by rw [h1]; exact h3) (by rw [h1]; exact h2)
    rw [loadRecord_maxidx env hadv, h1] at this
    exact ⟨by rw [loadRecord_maxidx env hadv, h1], by omega, this⟩

theorem init_inv : IdxInv init := by
  refine ⟨by decide, (by intro h; cases h), ?_, ?_⟩
  · intro k r p h; simp [init, AL.get] at h
  · intro b hb; simp [init] at hb

theorem step_inv (env : Env) (hadv : env.advInvalid = true) (s : State) (op : Op) (h : IdxInv s) :
    IdxInv (step env s op).1 :=
  step_ind (P := fun t _ => IdxInv t) env s ⟨s.isOpen, []⟩ op rfl h (fun _ _ _ _ _ h m => m.inv h)
    (fun hash ht tx tr raw c _ _ _ _ hl _ _ _ _ => queued_inv s h hash ht tx tr raw hl c)
    (fun _ h => { h with pos := nofun })
    (fun o _ _ => (reopen_inv env hadv s.fs o h.len_mod).1)

theorem run_inv (env : Env) (hadv : env.advInvalid = true) : ∀ (ops : List Op) (s : State), IdxInv s →
    IdxInv (run env s ops).1 := by
  intro ops
  induction ops with
  | nil => intro s h; exact h
  | cons op ops ih =>
    intro s h
    unfold run
    exact ih _ (step_inv env hadv s op h)

end GocoinV.BlockDB
