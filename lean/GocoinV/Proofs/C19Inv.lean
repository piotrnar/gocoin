/-
  Proofs.C19Inv — the disk invariant of a non-volatile cached store ("snapshot + log describe every key
  that is not pending, and its bytes are in the data files") and what sync() does to it.
-/
import GocoinV.Proofs.C19Sync
import GocoinV.Proofs.C19Effects
namespace GocoinV.Proofs.C19
open GocoinV GocoinV.Qdb GocoinV.QdbSpec

variable {eg : Bool}

/-- where a record lives on disk -/
def core (r : Rec) : Nat × Nat × Nat := (r.seq, r.pos, r.len)

/-! ### the disk index has distinct keys, whatever the files contain -/

theorem nodup_isetAll (recs l : List (Key × Rec)) (h : (Keys l).Nodup) : (Keys (isetAll l recs)).Nodup :=
  List.foldlRecOn (motive := fun l => (Keys l).Nodup) recs _ h fun l h kr _ => nodup_iset kr.1 kr.2 l h

theorem nodup_applyEntriesL (es : List LogEntry) (l : List (Key × Rec)) (h : (Keys l).Nodup) :
    (Keys (applyEntriesL l es)).Nodup :=
  List.foldlRecOn (motive := fun l => (Keys l).Nodup) es _ h fun l h e _ => nodup_applyEntryL l e h

theorem nodup_diskIndex (fs : FS) : (Keys (diskIndex fs)).Nodup := by
  unfold diskIndex
  apply nodup_applyEntriesL
  unfold snapBase
  split
  · simp [Keys]
  · exact nodup_isetAll _ _ (by simp [Keys])

/-! ### checkDat / the end of sync, on the directory -/

theorem checkDat_post (db : DB) :
    (checkDat db).datOpen = true ∧
    (db.datOpen = true → checkDat db = db) ∧
    (db.datOpen = false →
      dlookup db.dataSeq (checkDat db).fs.dats = some (le32 db.dataSeq) ∧ (checkDat db).lastPos = 4 ∧
      (∀ t, t ≠ db.dataSeq → dlookup t (checkDat db).fs.dats = dlookup t db.fs.dats)) ∧
    (checkDat db).fs.idx0 = db.fs.idx0 ∧ (checkDat db).fs.idx1 = db.fs.idx1 ∧ (checkDat db).fs.log = db.fs.log ∧
    (checkDat db).dataSeq = db.dataSeq ∧ (checkDat db).verSeq = db.verSeq ∧ (checkDat db).logOpen = db.logOpen ∧
    (checkDat db).pending = db.pending ∧ (checkDat db).index = db.index ∧ (checkDat db).datIdx = db.datIdx := by
  cases h : db.datOpen with
  | true =>
    have e : checkDat db = db := by unfold checkDat; simp [h]
    rw [e]
    exact ⟨h, fun _ => rfl, fun h' => by simp at h', rfl, rfl, rfl, rfl, rfl, rfl, rfl, rfl, rfl⟩
  | false =>
    have e : checkDat db = { emit (emit db "qdb.checklogfile:created" (.createDat db.dataSeq)) "qdb.checklogfile:header"
          (.writeDat db.dataSeq 0 (le32 db.dataSeq)) with datOpen := true, lastPos := 4 } := by
      unfold checkDat; rw [if_neg (by simp [h])]; rfl
    have hfs : (checkDat db).fs =
        { db.fs with dats := dset db.dataSeq (le32 db.dataSeq) (dset db.dataSeq [] db.fs.dats) } := by
      rw [e]
      show (db.fs.apply (.createDat db.dataSeq)).apply (.writeDat db.dataSeq 0 (le32 db.dataSeq)) = _
      unfold FS.apply
      simp [dlookup_dset_same, writeAt]
    refine ⟨by rw [e], fun h' => by simp at h', fun _ => ⟨?_, by rw [e], ?_⟩, by rw [hfs], by rw [hfs], by rw [hfs],
      by rw [e]; rfl, by rw [e]; rfl, by rw [e]; rfl, by rw [e]; rfl, by rw [e]; rfl, by rw [e]; rfl⟩
    · rw [hfs]; simp [dlookup_dset_same]
    · intro t ht
      rw [hfs]; simp [dlookup_dset_other _ _ _ _ ht]

/-- the state after `checklogfile` + the one Write of the collected entries -/
def logWritten (d : DB) (bidx : Bytes) : DB :=
  { emit (checkLog d) "qdb.sync:log-written" (.appendLog bidx) with pending := [] }

theorem logWritten_eager (d : DB) (bidx : Bytes) : (logWritten d bidx).eager = d.eager := by
  unfold logWritten checkLog
  split <;> rfl

theorem logWritten_post (d : DB) (bidx : Bytes) (E : List LogEntry) (hs : LogState d.fs d.verSeq E)
    (h1 : d.logOpen = false → d.fs.log = none) (h2 : d.logOpen = true → d.fs.log ≠ none) :
    (logWritten d bidx).fs.log = some (le32 d.verSeq ++ (encLog E ++ bidx)) ∧
    (logWritten d bidx).fs.idx0 = d.fs.idx0 ∧ (logWritten d bidx).fs.idx1 = d.fs.idx1 ∧
    (logWritten d bidx).fs.dats = d.fs.dats ∧ (logWritten d bidx).logOpen = true ∧
    (logWritten d bidx).pending = [] ∧ (logWritten d bidx).index = d.index ∧
    (logWritten d bidx).dataSeq = d.dataSeq ∧ (logWritten d bidx).verSeq = d.verSeq ∧
    (logWritten d bidx).lastPos = d.lastPos ∧ (logWritten d bidx).datOpen = d.datOpen ∧
    (logWritten d bidx).failed = d.failed ∧ (logWritten d bidx).volatile = d.volatile ∧
    (logWritten d bidx).opts = d.opts ∧ (logWritten d bidx).datIdx = d.datIdx := by
  cases ho : d.logOpen with
  | true =>
    have e : checkLog d = d := by unfold checkLog; simp [ho]
    have hl := hs.resolve_left fun a => h2 ho a.1
    unfold logWritten
    rw [e]
    refine ⟨?_, rfl, rfl, rfl, ho, rfl, rfl, rfl, rfl, rfl, rfl, rfl, rfl, rfl, rfl⟩
    show (d.fs.apply (.appendLog bidx)).log = _
    unfold FS.apply
    simp [hl, List.append_assoc]
  | false =>
    have hl := h1 ho
    have hE : E = [] := hs.elim (·.2) fun a => nomatch hl.symm.trans a
    have e : checkLog d = { emit (emit d "qdb.idx.checklogfile:created" .createLog) "qdb.idx.checklogfile:header"
        (.appendLog (le32 d.verSeq)) with logOpen := true } := by
      unfold checkLog; rw [if_neg (by simp [ho])]; rfl
    unfold logWritten
    rw [e]
    refine ⟨?_, rfl, rfl, rfl, rfl, rfl, rfl, rfl, rfl, rfl, rfl, rfl, rfl, rfl, rfl⟩
    show (((d.fs.apply .createLog).apply (.appendLog (le32 d.verSeq))).apply (.appendLog bidx)).log = _
    unfold FS.apply
    simp [hE, encLog]

/-! ### the effects of sync(), as a list -/

def cdEffs (db : DB) : List Effect :=
  if db.datOpen then [] else [.createDat db.dataSeq, .writeDat db.dataSeq 0 (le32 db.dataSeq)]

def clEffs (db : DB) : List Effect :=
  if db.logOpen then [] else [.createLog, .appendLog (le32 db.verSeq)]

/-- all effects of sync() up to and including the Write to the index log -/
def syncEffs (db : DB) : List Effect :=
  cdEffs db ++ (planW db.dataSeq db.index db.pending (checkDat db).lastPos ++
    (clEffs db ++ [.appendLog (encLog (syncPlan db.dataSeq db.index db.pending (checkDat db).lastPos).2.1)]))

theorem checkDat_effs (db : DB) : ∃ es, (checkDat db).effs = db.effs ++ es ∧ es.map (·.2) = cdEffs db := by
  unfold checkDat cdEffs
  cases h : db.datOpen with
  | true => exact ⟨[], by simp, by simp⟩
  | false =>
    simp only [Bool.false_eq_true, ↓reduceIte]
    exact ⟨[("qdb.checklogfile:created", .createDat db.dataSeq),
      ("qdb.checklogfile:header", .writeDat db.dataSeq 0 (le32 db.dataSeq))], by simp [emit], rfl⟩

theorem logWritten_effs (d : DB) (bidx : Bytes) :
    ∃ es, (logWritten d bidx).effs = d.effs ++ es ∧ es.map (·.2) = clEffs d ++ [.appendLog bidx] := by
  unfold logWritten checkLog clEffs
  cases h : d.logOpen with
  | true => exact ⟨[("qdb.sync:log-written", .appendLog bidx)], by simp [emit], by simp⟩
  | false =>
    simp only [Bool.false_eq_true, ↓reduceIte]
    exact ⟨[("qdb.idx.checklogfile:created", .createLog), ("qdb.idx.checklogfile:header", .appendLog (le32 d.verSeq)),
      ("qdb.sync:log-written", .appendLog bidx)], by simp [emit], rfl⟩

/-! ### the invariant -/

structure DiskInv (db : DB) : Prop where
  cached : Cached db
  nv : db.volatile = false
  wf : ∀ kr ∈ db.index, RecWF kr
  nodup : (Keys db.index).Nodup
  pnodup : db.pending.Nodup
  pkeys : ∀ k ∈ db.pending, k < 2^64
  ver : snapVer db.fs = db.verSeq
  verlt : db.verSeq < 2^32
  dseq : db.dataSeq < 2^32
  logst : ∃ E, (∀ e ∈ E, EntryFits e) ∧ LogState db.fs db.verSeq E
  log1 : db.logOpen = false → db.fs.log = none
  log2 : db.logOpen = true → db.fs.log ≠ none
  clean : ∀ k, k ∉ db.pending → (ilookup k (diskIndex db.fs)).map core = (ilookup k db.index).map core
  files : ∀ k r, k ∉ db.pending → ilookup k db.index = some r →
    ∃ f, dlookup r.seq db.fs.dats = some f ∧ ReadsBack f r (r.data.getD [])
  dflags : ∀ kr ∈ diskIndex db.fs, hasFlag kr.2.flags (ncOf db.eager) = false
  dat1 : db.datOpen = true → ∃ f, dlookup db.dataSeq db.fs.dats = some f ∧ db.lastPos = f.length ∧ 4 ≤ f.length
  /-- while no data file is open for writing, the next one (`DataSeq`) is referenced by nothing on disk -/
  dat2 : db.datOpen = false → ∀ kr ∈ diskIndex db.fs, kr.2.seq ≠ db.dataSeq
  /-- every record of the disk index (also of keys that are pending now) can be read back -/
  dreads : ∀ kr ∈ diskIndex db.fs, ∃ f v, dlookup kr.2.seq db.fs.dats = some f ∧ ReadsBack f kr.2 v

theorem DiskInv.upd {db : DB} (h : DiskInv db) (effs : List (String × Effect)) (noSync : Bool)
    (extra need maxSeq datIdx : Nat) (opts : Opts) :
    DiskInv { db with effs := effs, noSync := noSync, extra := extra, need := need, maxSeq := maxSeq,
                      datIdx := datIdx, opts := opts } :=
  { h with }

theorem plan_wf (seq : Nat) (ks : List Key) (hks : ∀ k ∈ ks, k < 2^64) (idx : List (Key × Rec))
    (hwf : ∀ kr ∈ idx, RecWF kr) (pos : Nat) : ∀ kr ∈ (syncPlan seq idx ks pos).1, RecWF kr := by
  induction ks generalizing idx pos with
  | nil => simpa [syncPlan] using hwf
  | cons j t ih =>
    have hkt : ∀ k ∈ t, k < 2^64 := fun k hk => hks k (List.mem_cons_of_mem _ hk)
    cases hl : ilookup j idx with
    | none => simp only [syncPlan, hl]; exact ih hkt idx hwf pos
    | some rc =>
      simp only [syncPlan, hl]
      apply ih hkt
      intro kr hkr
      rcases mem_iset j _ idx kr hkr with h | h
      · obtain ⟨j', hm⟩ := ilookup_mem j rc idx hl
        obtain ⟨_, hfl, hlen⟩ := hwf (j', rc) hm
        rw [h]; exact ⟨hks j List.mem_cons_self, hfl, hlen⟩
      · exact hwf kr h

theorem plan_puts_cached (seq : Nat) (ks : List Key) (idx : List (Key × Rec)) (hc : AllCached eg idx) (pos : Nat) :
    ∀ k r, LogEntry.put k r ∈ (syncPlan seq idx ks pos).2.1 → hasFlag r.flags (ncOf eg) = false := by
  induction ks generalizing idx pos with
  | nil => intro k r h; simp [syncPlan] at h
  | cons j t ih =>
    cases hl : ilookup j idx with
    | none =>
      simp only [syncPlan, hl]
      intro k r h
      simp only [List.mem_cons] at h
      rcases h with h | h
      · cases h
      · exact ih idx hc pos k r h
    | some rc =>
      simp only [syncPlan, hl]
      have hrc := allCached_lookup hc j rc hl
      intro k r h
      simp only [List.mem_cons, LogEntry.put.injEq] at h
      rcases h with ⟨_, h⟩ | h
      · rw [h]; exact hrc.2
      · exact ih _ (allCached_iset hc j { rc with pos := u32 pos, seq := seq } hrc) _ k r h

theorem core_strip (r : Rec) : core (strip r) = core r := rfl

theorem ilookup_of_mem_nodup {α : Type} (l : List (Key × α)) (h : (Keys l).Nodup) (k : Key) (x : α) (hm : (k, x) ∈ l) :
    ilookup k l = some x := by
  rw [ilookup_eq]; exact Assoc.lookup_of_mem_nodup h hm

theorem ilookup_key_pair {α : Type} (k : Key) (x : α) (l : List (Key × α)) (h : ilookup k l = some x) : (k, x) ∈ l :=
  Assoc.mem_of_lookup (ilookup_eq k l ▸ h)

theorem ilookup_key_mem {α : Type} (k : Key) (x : α) (l : List (Key × α)) (h : ilookup k l = some x) : k ∈ Keys l :=
  List.mem_map.mpr ⟨(k, x), ilookup_key_pair k x l h, rfl⟩

theorem keys_of_absv (db : DB) : Keys db.index = (absv db).map (·.1) := by
  simp [Keys, absv, absE, List.map_map]

/-- when the directory describes every key (nothing is pending), the disk records are readable because the records in
    memory are: they have the same place on disk, and `ReadsBack` looks at the place only -/
theorem dreads_of_files {F : FS} {idx : List (Key × Rec)}
    (hcl : ∀ k, (ilookup k (diskIndex F)).map core = (ilookup k idx).map core)
    (hfi : ∀ k r, ilookup k idx = some r → ∃ f, dlookup r.seq F.dats = some f ∧ ReadsBack f r (r.data.getD [])) :
    ∀ kr ∈ diskIndex F, ∃ f v, dlookup kr.2.seq F.dats = some f ∧ ReadsBack f kr.2 v := by
  intro kr hkr
  have h := hcl kr.1
  rw [ilookup_of_mem_nodup _ (nodup_diskIndex F) kr.1 kr.2 hkr] at h
  obtain ⟨r, hr, hc⟩ := Option.map_eq_some_iff.mp h.symm
  obtain ⟨f, h1, h2⟩ := hfi kr.1 r hr
  simp only [core, Prod.mk.injEq] at hc
  exact ⟨f, r.data.getD [], by rw [← hc.1]; exact h1, by unfold ReadsBack at h2 ⊢; rw [← hc.2.1, ← hc.2.2]; exact h2⟩

/-- sync() with pending records: the state after the log write (before the possible forced defrag)
    satisfies the invariant, holds the same content, and nothing is pending. -/
theorem sync_logWritten (db : DB) (inv : DiskInv db) (hp : db.pending.isEmpty = false)
    (hsmall : (checkDat db).lastPos +
      (syncPlan db.dataSeq db.index db.pending (checkDat db).lastPos).2.2.length < 2^32) :
    ∃ L, sync db = (if L.extra > mul64 L.opts.forcedPerc L.need / 100 then defrag L else L) ∧
      DiskInv L ∧ absv L = absv db ∧ L.pending = [] ∧ L.opts = db.opts ∧
      (∃ es, L.effs = db.effs ++ es ∧ es.map (·.2) = syncEffs db) ∧ L.index = 
        (syncPlan db.dataSeq db.index db.pending (checkDat db).lastPos).1 ∧
      L.fs = db.fs.applyAll (syncEffs db) ∧
      (L.datIdx = db.datIdx ∧ L.verSeq = db.verSeq ∧ L.dataSeq = db.dataSeq ∧ L.fs.idx0 = db.fs.idx0 ∧
        L.fs.idx1 = db.fs.idx1 ∧
        diskIndex L.fs = applyEntriesL (diskIndex db.fs)
          ((syncPlan db.dataSeq db.index db.pending (checkDat db).lastPos).2.1.map stripE) ∧
        L = logWritten (db.pending.foldl syncKey (checkDat db, [])).1 (db.pending.foldl syncKey (checkDat db, [])).2) := by
  obtain ⟨c_open, c_same, c_new, c_i0, c_i1, c_log, c_ds, c_vs, c_lo, c_pe, c_ix, c_di⟩ := checkDat_post db
  obtain ⟨f0, hf0, hlp0, hf0len, hf0old⟩ : ∃ f0, dlookup db.dataSeq (checkDat db).fs.dats = some f0 ∧
      (checkDat db).lastPos = f0.length ∧ 4 ≤ f0.length ∧ (db.datOpen = true → dlookup db.dataSeq db.fs.dats = some f0) := by
    cases ho : db.datOpen with
    | true =>
      obtain ⟨f, h1, h2, h3⟩ := inv.dat1 ho
      rw [c_same ho]
      exact ⟨f, h1, h2, h3, fun _ => h1⟩
    | false =>
      obtain ⟨h1, h2, _⟩ := c_new ho
      exact ⟨le32 db.dataSeq, h1, by rw [h2]; simp, by simp, fun h => by simp at h⟩
  have hc0 : Cached (checkDat db) := Cached.of_frame (frame_checkDat db) inv.cached
  obtain ⟨d', hfold, hidx', hfile', hlp', hrest, ws, hws1, hws2⟩ :=
    syncFold_plan db.pending (checkDat db) [] f0 hc0 (by rw [c_ds]; exact hf0) hlp0
  rw [c_ds, c_ix] at hfold hidx' hfile' hlp' hws2
  rw [c_ds] at hrest
  unfold syncRest at hrest
  simp only [Prod.mk.injEq] at hrest
  obtain ⟨r_i0, r_i1, r_log, r_dats, r_ds, r_f, r_di, r_vs, r_lo, r_do, r_vol, r_opts, r_pe, r_ex, r_nd, r_ns⟩ := hrest
  obtain ⟨es1, he1a, he1b⟩ := checkDat_effs db
  have hEffs : ∃ es, (logWritten d' (encLog (syncPlan db.dataSeq db.index db.pending (checkDat db).lastPos).2.1)).effs
      = db.effs ++ es ∧ es.map (·.2) = syncEffs db := by
    obtain ⟨es3, he3a, he3b⟩ := logWritten_effs d' (encLog (syncPlan db.dataSeq db.index db.pending (checkDat db).lastPos).2.1)
    refine ⟨es1 ++ (ws ++ es3), by rw [he3a, hws1, he1a]; simp [List.append_assoc], ?_⟩
    have hcl : clEffs d' = clEffs db := by
      unfold clEffs
      rw [r_lo, r_vs, c_lo, c_vs]
    unfold syncEffs
    rw [List.map_append, List.map_append, he1b, hws2, he3b, hcl]
  have hFsL : (logWritten d' (encLog (syncPlan db.dataSeq db.index db.pending (checkDat db).lastPos).2.1)).fs =
      db.fs.applyAll (syncEffs db) := by
    have r1 := replays_checkDat db
    have r2 := replays_syncFold db.pending (checkDat db, [])
    rw [hfold] at r2
    have r3 : Replays (logWritten d' (encLog (syncPlan db.dataSeq db.index db.pending (checkDat db).lastPos).2.1)) d' :=
      Replays.trans (Replays.of_eq rfl rfl) ((replays_emit _ _ _).trans (replays_checkLog d'))
    obtain ⟨es', h1, h2⟩ := (r3.trans r2).trans r1
    obtain ⟨es, h3, h4⟩ := hEffs
    have : es' = es := List.append_cancel_left (h1.symm.trans h3)
    rw [h2, this, h4]
  simp only [List.nil_append] at hfold
  generalize hplan : syncPlan db.dataSeq db.index db.pending (checkDat db).lastPos = plan at *
  have hkeep := syncFold_cached db.pending (checkDat db, []) hc0
  rw [hfold] at hkeep
  have hc' : Cached d' := hkeep.cached
  have habs' : absv d' = absv db := hkeep.abs.trans (by unfold absv; rw [c_ix])
  obtain ⟨E, hEfit, hEst⟩ := inv.logst
  have hlogd' : d'.fs.log = db.fs.log := r_log.trans c_log
  have hvs' : d'.verSeq = db.verSeq := r_vs.trans c_vs
  have hst' : LogState d'.fs d'.verSeq E := by
    unfold LogState at hEst ⊢
    rw [hlogd', hvs']; exact hEst
  have hlo' : d'.logOpen = db.logOpen := r_lo.trans c_lo
  obtain ⟨l_log, l_i0, l_i1, l_dats, l_lo, l_pe, l_ix, l_ds, l_vs, l_lp, l_do, l_f, l_vol, l_opts, l_di⟩ :=
    logWritten_post d' (encLog plan.2.1) E hst'
      (by rw [hlo', hlogd']; exact inv.log1) (by rw [hlo', hlogd']; exact inv.log2)
  have hfits2 : ∀ e ∈ plan.2.1, EntryFits e := by
    rw [← hplan]
    exact plan_fits db.dataSeq inv.dseq db.pending inv.pkeys db.index inv.wf _ (by rw [hlp0]; exact hf0len)
      (by rw [hplan]; exact hsmall)
  have hEag' := logWritten_eager d' (encLog plan.2.1)
  generalize hL : logWritten d' (encLog plan.2.1) = L at *
  have hidx0 : L.fs.idx0 = db.fs.idx0 := l_i0.trans (r_i0.trans c_i0)
  have hidx1 : L.fs.idx1 = db.fs.idx1 := l_i1.trans (r_i1.trans c_i1)
  have hlogL : L.fs.log = some (le32 db.verSeq ++ encLog (E ++ plan.2.1)) := by
    rw [l_log, hvs', encLog_append]
  obtain ⟨hDI, hSV⟩ := diskIndex_log_append db.fs L.fs db.verSeq E plan.2.1
    hEst inv.ver inv.verlt hEfit hfits2 hidx0 hidx1 hlogL
  have habsL : absv L = absv db := by unfold absv; rw [l_ix]; exact habs'
  refine ⟨L, ?_, ?_, habsL, l_pe,
    by rw [l_opts, r_opts]; exact (frame_checkDat db).opts, hEffs, l_ix.trans hidx', hFsL,
    l_di.trans (r_di.trans c_di), l_vs.trans hvs', l_ds.trans (r_ds.trans c_ds), hidx0, hidx1, hDI,
    by rw [hfold]; exact hL.symm⟩
  · -- sync db unfolds to this
    subst hL
    unfold sync
    rw [if_neg (by simp [inv.nv]), if_neg (by simp [hp])]
    simp only [hfold, hc'.1]
    rfl
  have hlook := fun k => plan_lookup db.dataSeq db.pending inv.pnodup db.index (checkDat db).lastPos
    (diskIndex db.fs) (nodup_diskIndex db.fs) k
  rw [hplan] at hlook
  have hdatL : dlookup db.dataSeq L.fs.dats = some (f0 ++ plan.2.2) := by
    rw [l_dats]; exact hfile'
  have hother : ∀ t, t ≠ db.dataSeq → dlookup t L.fs.dats = dlookup t db.fs.dats := by
    intro t ht
    rw [l_dats]
    have h1 := congrFun r_dats t
    simp only [ht, ↓reduceIte] at h1
    rw [h1]
    cases ho : db.datOpen with
    | true => rw [c_same ho]
    | false => exact (c_new ho).2.2 t ht
  have hEag : L.eager = db.eager := hEag'.trans (hkeep.eager.trans (frame_checkDat db).eager)
  have hcl : ∀ k, (ilookup k (diskIndex L.fs)).map core = (ilookup k L.index).map core := by
    intro k
    rw [hDI, (hlook k).1, l_ix, hidx']
    by_cases hk : k ∈ db.pending <;> simp only [hk, ↓reduceIte, Option.map_map]
    · congr 1
    · rw [(hlook k).2 hk]
      exact inv.clean k hk
  have hfi : ∀ k r, ilookup k L.index = some r →
      ∃ f, dlookup r.seq L.fs.dats = some f ∧ ReadsBack f r (r.data.getD []) := by
    intro k r hr
    rw [l_ix, hidx'] at hr
    by_cases hk : k ∈ db.pending
    · have := plan_reads db.dataSeq db.pending inv.pnodup db.index f0 (fun kr hkr => (inv.wf kr hkr).2.2)
        (by rw [← hlp0, hplan]; exact hsmall) k hk r (by rw [← hlp0, hplan]; exact hr)
      rw [← hlp0, hplan] at this
      exact ⟨f0 ++ plan.2.2, by rw [this.1]; exact hdatL, this.2⟩
    · rw [(hlook k).2 hk] at hr
      obtain ⟨f, h1, h2⟩ := inv.files k r hk hr
      by_cases hs : r.seq = db.dataSeq
      · cases ho : db.datOpen with
        | true =>
          obtain rfl : f = f0 := Option.some.inj ((hs ▸ h1).symm.trans (hf0old ho))
          exact ⟨f ++ plan.2.2, by rw [hs]; exact hdatL, h2.append _⟩
        | false =>
          -- a clean key has the same place on disk in the disk index, which does not use the next data file
          obtain ⟨rd, hD, hcore⟩ := Option.map_eq_some_iff.mp ((inv.clean k hk).trans (congrArg _ hr))
          exact absurd ((congrArg (·.1) hcore).trans hs) (inv.dat2 ho (k, rd) (ilookup_key_pair k rd _ hD))
      · exact ⟨f, by rw [hother _ hs]; exact h1, h2⟩
  constructor
  · exact ⟨l_f.trans hc'.1, by rw [hEag', AllCached, l_ix]; exact hc'.2⟩
  · rw [l_vol, r_vol]; exact (frame_checkDat db).volatile.trans inv.nv
  · rw [l_ix, hidx', ← hplan]; exact plan_wf db.dataSeq db.pending inv.pkeys db.index inv.wf _
  · rw [keys_of_absv, habsL, ← keys_of_absv]
    exact inv.nodup
  · rw [l_pe]; exact List.nodup_nil
  · rw [l_pe]; intro k hk; cases hk
  · rw [hSV, l_vs, hvs']
  · rw [l_vs, hvs']; exact inv.verlt
  · rw [l_ds, r_ds, c_ds]; exact inv.dseq
  · exact ⟨E ++ plan.2.1, List.forall_mem_append.mpr ⟨hEfit, hfits2⟩, Or.inr (by rw [l_vs, hvs']; exact hlogL)⟩
  · intro h; rw [l_lo] at h; cases h
  · intro _; rw [hlogL]; simp
  · exact fun k _ => hcl k
  · exact fun k r _ => hfi k r
  · intro kr hkr
    rw [hEag]
    rw [hDI] at hkr
    rcases mem_applyEntriesL _ _ kr hkr with h | h
    · exact inv.dflags kr h
    · obtain ⟨e, he, hee⟩ := List.mem_map.mp h
      cases e with
      | del k => simp [stripE] at hee
      | put k r =>
        simp only [stripE, LogEntry.put.injEq] at hee
        have := plan_puts_cached db.dataSeq db.pending db.index inv.cached.2 (checkDat db).lastPos k r
          (by rw [hplan]; exact he)
        rw [← hee.2]; exact this
  · intro _
    refine ⟨f0 ++ plan.2.2, by rw [l_ds, r_ds, c_ds]; exact hdatL, ?_, by simp only [List.length_append]; omega⟩
    rw [l_lp, hlp', hlp0]; simp
  · intro h
    rw [l_do, r_do, c_open] at h; cases h
  · exact dreads_of_files hcl hfi

end GocoinV.Proofs.C19
