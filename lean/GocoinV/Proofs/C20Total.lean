/-
  Proofs.C20Total — totality of Model/Alloc.lean from a state satisfying `Inv`. The defragmentation pass: none of the
  `.error .corrupt` exits of beginEvac / moveNext / allocSlot / evacPage / endEvac ("the Go code would dereference nil or
  an unmapped page here") is reachable; the only way `defragAll` can fail is the rejection of the offered evacuation
  order (`.illegalChoice`), and an order the selection rule accepts (`choiceOk`) always leads to `.ok`. Then every trace
  step and whole traces (`OpLegal`, `TraceLegal`, `step_total`, `run_total_aux`, `run_ok_or_caller_aux`), and
  `step_keeps_inv`: every step of a trace keeps `Inv` (the induction step of the theorems of Props/C20.lean).
-/
import GocoinV.Proofs.C20Inv
namespace GocoinV.Alloc
open GocoinV.Gen.MemClasses
variable {V : Type}


/-- a fold whose steps, from states satisfying `P`, either succeed (keeping `P`) or fail with an error of
    the set `E`, as a whole either succeeds or fails with an error of `E` -/
theorem foldE_errs {σ α : Type} (P : σ → List α → Prop) (E : Err → Prop) (f : σ → α → Except Err σ)
    (hstep : ∀ s a rest, P s (a :: rest) → (∃ s', f s a = .ok s' ∧ P s' rest) ∨ (∃ e, f s a = .error e ∧ E e)) :
    ∀ (l : List α) (s : σ), P s l → (∃ s', foldE f s l = .ok s' ∧ P s' []) ∨ (∃ e, foldE f s l = .error e ∧ E e) := by
  intro l
  induction l with
  | nil => intro s hp; exact Or.inl ⟨s, rfl, hp⟩
  | cons a rest ih =>
    intro s hp
    rcases hstep s a rest hp with ⟨s1, h1, p1⟩ | ⟨e, h1, he⟩
    · rcases ih s1 p1 with ⟨s2, h2, p2⟩ | ⟨e, h2, he⟩
      · exact Or.inl ⟨s2, by simp only [foldE, h1]; exact h2, p2⟩
      · exact Or.inr ⟨e, by simp only [foldE, h1]; exact h2, he⟩
    · exact Or.inr ⟨e, by simp only [foldE, h1], he⟩

theorem foldE_total {σ α : Type} (P : σ → List α → Prop) (f : σ → α → Except Err σ)
    (hstep : ∀ s a rest, P s (a :: rest) → ∃ s', f s a = .ok s' ∧ P s' rest) :
    ∀ (l : List α) (s : σ), P s l → ∃ s', foldE f s l = .ok s' ∧ P s' [] := fun l s hp =>
  (foldE_errs P (fun _ => False) f (fun s a rest h => .inl (hstep s a rest h)) l s hp).elim id fun ⟨_, _, h⟩ => h.elim

theorem iter_total {σ : Type} (P : σ → Nat → Prop) (f : σ → Except Err σ)
    (hstep : ∀ s n, P s (n + 1) → ∃ s', f s = .ok s' ∧ P s' n) :
    ∀ (n : Nat) (s : σ), P s n → ∃ s', iter f n s = .ok s' ∧ P s' 0 := by
  intro n
  induction n with
  | zero => intro s hp; exact ⟨s, rfl, hp⟩
  | succ n ih =>
    intro s hp
    obtain ⟨s1, h1, p1⟩ := hstep s n hp
    obtain ⟨s2, h2, p2⟩ := ih s1 p1
    exact ⟨s2, by simp only [iter, h1]; exact h2, p2⟩


/-- invariant of the slot loop of page pg started in state s: n iterations to go -/
def SlotLoopInv (s : State V) (c pg : Nat) (E : List Nat) (brk : Nat) (t : State V) (n : Nat) : Prop :=
  DInv t c E ∧ ∃ ht, t.pages.get? pg = some ht ∧ ht.evac = true ∧ ht.scan + n = brk ∧ ht.brk = brk ∧
    (∀ q hq, q ≠ pg → s.pages.get? q = some hq → hq.evac = true → t.pages.get? q = some hq)

theorem evacPage_total {s : State V} {c pg : Nat} {E : List Nat} {h : Page} (hc : c < nClasses)
    (d : DInv s c E) (hp : s.pages.get? pg = some h) (hev : h.evac = true) (hsc : h.scan = 0) :
    ∃ s', evacPage s c pg = .ok s' ∧
      (∀ q hq, q ≠ pg → s.pages.get? q = some hq → hq.evac = true → s'.pages.get? q = some hq) := by
  unfold evacPage
  simp only [hp]
  have hstep : ∀ (t : State V) (n : Nat), SlotLoopInv s c pg E h.brk t (n + 1) →
      ∃ t', moveNext t c pg = .ok t' ∧ SlotLoopInv s c pg E h.brk t' n := ?step
  obtain ⟨s1, hi, d1, h1, hp1, hev1, hsc1, hbrk1, fr1⟩ := iter_total (SlotLoopInv s c pg E h.brk)
    (fun s => moveNext s c pg) hstep h.brk s ⟨d, h, hp, hev, by omega, rfl, fun q hq _ a _ => a⟩
  · simp only [hi]
    obtain ⟨s', he, _, _, _, _, _, fr2⟩ := endEvac_invG d1.g hp1 hev1 (d1.evac pg h1 hp1 hev1).2 (by omega)
    refine ⟨s', he, ?_⟩
    intro q hq ne a b
    rw [fr2, if_neg (fun e => ne e.symm)]; exact fr1 q hq ne a b
  case step =>
    intro t n ⟨dt, ht, hpt, hevt, hsct, hbrkt, frt⟩
    have hclt := (dt.evac pg ht hpt hevt).2
    obtain ⟨t', hr, _⟩ := moveNext_total dt.g hc hpt hevt hclt (by omega)
    have A := moveNext_invG dt.g hc (dt.cls pg) hr
    obtain ⟨h0, h0', x1, x2, x3, x4, x5, _, _, _⟩ := A.page
    rw [hpt] at x1; cases x1
    refine ⟨t', hr, moveNext_dinv hc dt hr, h0', x2, x5, by omega, by omega, ?_⟩
    intro q hq ne a b
    exact A.evac_keep q hq ne (frt q hq ne a b) b

/-- invariant of the first loop (pages of `l` still to mark, the other pages of `ev` marked) -/
def MarkInv (c : Nat) (ev : List Nat) (t : State V) (l : List Nat) : Prop :=
  DInv t c ev ∧ l.Nodup ∧
    (∀ q, q ∈ l → ∃ h, t.pages.get? q = some h ∧ h.cls = c ∧ h.evac = false) ∧
    (∀ q, q ∈ ev → q ∉ l → ∃ h, t.pages.get? q = some h ∧ h.evac = true ∧ h.scan = 0) ∧
    (∀ x, x ∈ l → x ∈ ev)

/-- invariant of the second loop (pages of `l` marked and still to evacuate) -/
def EvacInv (c : Nat) (t : State V) (l : List Nat) : Prop :=
  DInv t c l ∧ l.Nodup ∧ (∀ q, q ∈ l → ∃ h, t.pages.get? q = some h ∧ h.evac = true ∧ h.scan = 0)

/-- Both loops of defragClass succeed when the pages to evacuate are distinct, mapped, of the class and
    not evacuating (which is what an accepted evacuation order guarantees). -/
theorem defragLoops_total {s : State V} {c : Nat} {ev : List Nat} (hc : c < nClasses) (inv : Inv s)
    (hnd : ev.Nodup) (hpg : ∀ q, q ∈ ev → ∃ h, s.pages.get? q = some h ∧ h.cls = c ∧ h.evac = false) :
    ∃ s1 s', foldE (fun s pg => beginEvac s c pg) s ev = .ok s1 ∧
      foldE (fun s pg => evacPage s c pg) s1 ev = .ok s' := by
  have step1 : ∀ (t : State V) (pg : Nat) (rest : List Nat), MarkInv c ev t (pg :: rest) →
      ∃ t', beginEvac t c pg = .ok t' ∧ MarkInv c ev t' rest := by
    intro t pg rest ⟨dt, nd, htodo, hdone, hsub⟩
    obtain ⟨h, hp, hcl, hev⟩ := htodo pg (by simp)
    obtain ⟨t', hr, _, _, _, _, fr, _⟩ := beginEvac_invG dt.g hp hcl hev
    have nd' := List.nodup_cons.1 nd
    refine ⟨t', hr, beginEvac_dinv dt (hsub pg (by simp)) hr, nd'.2, ?_, ?_, fun x hx => hsub x (List.mem_cons_of_mem _ hx)⟩
    · intro q hq
      have ne : ¬ pg = q := fun e => nd'.1 (e ▸ hq)
      rw [fr q, if_neg ne]
      exact htodo q (List.mem_cons_of_mem _ hq)
    · intro q hq hnr
      by_cases e : pg = q
      · subst e; rw [fr pg, if_pos rfl]; exact ⟨_, rfl, rfl, rfl⟩
      · rw [fr q, if_neg e]
        exact hdone q hq (List.not_mem_cons_of_ne_of_not_mem (fun x => e x.symm) hnr)
  have step2 : ∀ (t : State V) (pg : Nat) (rest : List Nat), EvacInv c t (pg :: rest) →
      ∃ t', evacPage t c pg = .ok t' ∧ EvacInv c t' rest := by
    intro t pg rest ⟨dt, nd, hall⟩
    obtain ⟨h, hp, hev, hsc⟩ := hall pg (by simp)
    obtain ⟨t', hr, fr⟩ := evacPage_total hc dt hp hev hsc
    have nd' := List.nodup_cons.1 nd
    refine ⟨t', hr, evacPage_dinv hc dt hr, nd'.2, ?_⟩
    intro q hq
    obtain ⟨hq', a, b, c1⟩ := hall q (List.mem_cons_of_mem _ hq)
    have ne : q ≠ pg := fun e => nd'.1 (e ▸ hq)
    exact ⟨hq', fr q hq' ne a b, b, c1⟩
  -- phase 1: mark the pages
  obtain ⟨s1, h1, d1, _, _, hdone, _⟩ := foldE_total (MarkInv c ev) (fun s pg => beginEvac s c pg) step1 ev s
    ⟨inv.dinv c ev, hnd, hpg, fun q a b => absurd a b, fun _ hx => hx⟩
  -- phase 2: evacuate and unmap them
  obtain ⟨s', h2, _⟩ := foldE_total (EvacInv c) (fun s pg => evacPage s c pg) step2 ev s1
    ⟨d1, hnd, fun q hq => hdone q hq (by simp)⟩
  exact ⟨s1, s', h1, h2⟩


theorem legalChoice_pages {s : State V} (inv : Inv s) {c cap target : Nat} {ev : List Nat}
    (hl : legalChoice s cap target ((s.K c).plist.filter (fun p => usedOf s p < cap)) ev = true) :
    ev.Nodup ∧ ∀ q, q ∈ ev → ∃ h, s.pages.get? q = some h ∧ h.cls = c ∧ h.evac = false := by
  simp only [legalChoice, Bool.and_eq_true, decide_eq_true_eq, List.all_eq_true, List.contains_iff_mem,
    List.mem_filter] at hl
  obtain ⟨⟨nd, hall⟩, _⟩ := hl
  refine ⟨nd, ?_⟩
  intro q hq
  obtain ⟨h, hp, hcl⟩ := (inv.g.classes c).pl_pages q (hall q hq).1
  exact ⟨h, hp, hcl, inv.noEvac q h hp⟩

/-- The selection rule of defragClass as one Boolean: is the evacuation order `ev` accepted for class c in
    state s?  (Nothing to evacuate ⇒ only the empty order; otherwise `legalChoice`.) -/
def choiceOk (s : State V) (c : Nat) (ev : List Nat) : Bool :=
  let nonFull := (s.K c).plist.filter (fun p => usedOf s p < capOf c)
  let target := capOf c * ((s.K c).freeSlots / capOf c - minFreePagesTo)
  if nonFull.isEmpty then ev.isEmpty
  else if (selUsed s (capOf c) target nonFull).sum = 0 then ev.isEmpty
  else legalChoice s (capOf c) target nonFull ev

/-- defragClass succeeds on every accepted evacuation order … -/
theorem defragClass_total {s : State V} {c : Nat} {ev : List Nat} (hc : c < nClasses) (inv : Inv s)
    (hok : choiceOk s c ev = true) : ∃ s', defragClass s c ev = .ok s' := by
  unfold choiceOk at hok
  unfold defragClass
  simp only [] at hok ⊢
  split
  · next h1 => rw [if_pos h1] at hok; rw [if_pos hok]; exact ⟨_, rfl⟩
  · next h1 =>
    rw [if_neg h1] at hok
    split
    · next h2 => rw [if_pos h2] at hok; rw [if_pos hok]; exact ⟨_, rfl⟩
    · next h2 =>
      rw [if_neg h2] at hok
      rw [if_neg (by simp [hok])]
      obtain ⟨nd, hpg⟩ := legalChoice_pages inv hok
      obtain ⟨s1, s', e1, e2⟩ := defragLoops_total hc inv nd hpg
      simp only [e1]
      exact ⟨s', e2⟩

/-- … and fails on every other order with `.illegalChoice`, before touching the state. -/
theorem defragClass_illegal {s : State V} {c : Nat} {ev : List Nat}
    (hok : choiceOk s c ev = false) : defragClass s c ev = .error .illegalChoice := by
  unfold choiceOk at hok
  unfold defragClass
  simp only [] at hok ⊢
  split
  · next h1 => rw [if_pos h1] at hok; rw [if_neg (by simp [hok])]
  · next h1 =>
    rw [if_neg h1] at hok
    split
    · next h2 => rw [if_pos h2] at hok; rw [if_neg (by simp [hok])]
    · next h2 =>
      rw [if_neg h2] at hok
      rw [if_pos (by simp [hok])]


/-- the body of DefragAllImproved's loop for class c with the offered choice `ch` (what `defragAll` folds) -/
def classStep (ch : List (Nat × List Nat)) (s : State V) (c : Nat) : Except Err (State V) :=
  if wantsDefrag s c then defragClass s c ((ch.lookup c).getD [])
  else if ((ch.lookup c).getD []).isEmpty then .ok s else .error .illegalChoice

theorem defragAll_eq (s : State V) (ch : List (Nat × List Nat)) :
    defragAll s ch = foldE (classStep ch) { s with relog := [] } (List.range nClasses) := rfl

theorem defragAll_idle {s : State V} (h : ∀ c, wantsDefrag s c = false) :
    defragAll s [] = .ok { s with relog := [] } := by
  have hf : ∀ (l : List Nat) (t : State V), (∀ c, wantsDefrag t c = false) → foldE (classStep []) t l = .ok t := by
    intro l; induction l with
    | nil => intro t _; rfl
    | cons c r ih => intro t h; simp only [foldE, classStep, h c]; exact ih t h
  rw [defragAll_eq]; exact hf _ _ h

theorem wantsDefrag_init (c : Nat) : wantsDefrag (init : State V) c = false := by
  simp [wantsDefrag, State.K, init]

/-- is the order offered for class c accepted in state t?  A class below the trigger threshold takes only
    the empty order, a class above it what the selection rule (`choiceOk`) accepts. -/
def classLegal (ch : List (Nat × List Nat)) (t : State V) (c : Nat) : Bool :=
  if wantsDefrag t c then choiceOk t c ((ch.lookup c).getD []) else ((ch.lookup c).getD []).isEmpty

theorem classStep_total {ch : List (Nat × List Nat)} {t : State V} {c : Nat} (hc : c < nClasses)
    (inv : Inv t) (h : classLegal ch t c = true) : ∃ t', classStep ch t c = .ok t' ∧ Inv t' := by
  unfold classLegal at h
  unfold classStep
  split
  · next hw =>
    rw [if_pos hw] at h
    obtain ⟨t', ht⟩ := defragClass_total hc inv h
    exact ⟨t', ht, defragClass_inv hc inv ht⟩
  · next hw =>
    rw [if_neg hw] at h
    rw [if_pos h]; exact ⟨t, rfl, inv⟩

theorem classStep_illegal {ch : List (Nat × List Nat)} {t : State V} {c : Nat}
    (h : classLegal ch t c = false) : classStep ch t c = .error .illegalChoice := by
  unfold classLegal at h
  unfold classStep
  split
  · next hw => rw [if_pos hw] at h; exact defragClass_illegal h
  · next hw => rw [if_neg hw] at h; rw [if_neg (by simp [h])]

/-- the offered choice is accepted class after class, each class being judged in the state in which the
    pass reaches it -/
def PassLegal (ch : List (Nat × List Nat)) : State V → List Nat → Prop
  | _, [] => True
  | t, c :: rest => classLegal ch t c = true ∧ ∀ t', classStep ch t c = .ok t' → PassLegal ch t' rest

theorem foldClass_total {ch : List (Nat × List Nat)} :
    ∀ (l : List Nat) (t : State V), (∀ x, x ∈ l → x < nClasses) → Inv t → PassLegal ch t l →
      ∃ t', foldE (classStep ch) t l = .ok t' ∧ Inv t' := by
  intro l
  induction l with
  | nil => intro t _ inv _; exact ⟨t, rfl, inv⟩
  | cons c rest ih =>
    intro t hsub inv ⟨h1, h2⟩
    obtain ⟨t1, e1, inv1⟩ := classStep_total (hsub c (by simp)) inv h1
    obtain ⟨t2, e2, inv2⟩ := ih t1 (fun x hx => hsub x (List.mem_cons_of_mem _ hx)) inv1 (h2 t1 e1)
    exact ⟨t2, by simp only [foldE, e1]; exact e2, inv2⟩

theorem foldClass_legal {ch : List (Nat × List Nat)} :
    ∀ (l : List Nat) (t t' : State V), foldE (classStep ch) t l = .ok t' → PassLegal ch t l := by
  intro l
  induction l with
  | nil => intro t t' _; trivial
  | cons c rest ih =>
    intro t t' h
    simp only [foldE] at h
    cases e1 : classStep ch t c with
    | error e => simp [e1] at h
    | ok t1 =>
      simp only [e1] at h
      refine ⟨?_, ?_⟩
      · cases hl : classLegal ch t c with
        | true => rfl
        | false => rw [classStep_illegal hl] at e1; cases e1
      · intro t1' e; rw [e1] at e; cases e; exact ih t1 t' h

theorem foldClass_ok_or_illegal {ch : List (Nat × List Nat)} :
    ∀ (l : List Nat) (t : State V), (∀ x, x ∈ l → x < nClasses) → Inv t →
      (∃ t', foldE (classStep ch) t l = .ok t') ∨ foldE (classStep ch) t l = .error .illegalChoice := by
  intro l
  induction l with
  | nil => intro t _ _; exact Or.inl ⟨t, rfl⟩
  | cons c rest ih =>
    intro t hsub inv
    cases hl : classLegal ch t c with
    | false => right; simp only [foldE, classStep_illegal hl]
    | true =>
      obtain ⟨t1, e1, inv1⟩ := classStep_total (hsub c (by simp)) inv hl
      simp only [foldE, e1]
      exact ih t1 (fun x hx => hsub x (List.mem_cons_of_mem _ hx)) inv1


/-- an operation that is not a caller error in state s -/
def OpLegal (s : State V) : Op V → Prop
  | .malloc _ => True
  | .free a => s.isLive a
  | .write a _ => s.isLive a
  | .defrag ch => PassLegal ch ({ s with relog := [] } : State V) (List.range nClasses)

/-- every operation of the trace is legal in the state in which it is issued -/
def TraceLegal : State V → List (Op V) → Prop
  | _, [] => True
  | s, op :: rest => OpLegal s op ∧ ∀ s', step s op = .ok s' → TraceLegal s' rest

theorem write_total {s : State V} {a : Addr} {v : V} (inv : InvG s) (hl : s.isLive a) :
    ∃ s', write s a v = .ok s' := by
  obtain ⟨l, hq⟩ := Option.isSome_iff_exists.mp hl
  obtain ⟨m, hm, _⟩ := inv.live a l hq
  simp only [write, hq, hm]
  exact ⟨_, rfl⟩

theorem write_notLive {s : State V} {a : Addr} {v : V} (hl : ¬ s.isLive a) :
    write s a v = .error .notLive := by
  simp only [write, Option.not_isSome_iff_eq_none.1 hl]

theorem free_notLive {s : State V} {a : Addr} (hl : ¬ s.isLive a) : free s a = .error .notLive := by
  unfold free
  rw [if_pos (Option.isNone_iff_eq_none.2 (Option.not_isSome_iff_eq_none.1 hl))]

theorem ex_malloc_live (size : Nat) : ∃ (s : State V) (a : Addr), malloc init size = .ok (s, a) ∧
    run init [.malloc size] = .ok s ∧ Inv s ∧ s.live.get? a = some ⟨size, none⟩ ∧ s.isLive a := by
  obtain ⟨s, a, h⟩ := malloc_total (init_inv (V := V)).g size
  have i := malloc_inv init_inv h
  have hl : s.live.get? a = some ⟨size, none⟩ := by rw [i.2.2, KMap.get?_set, if_pos rfl]
  exact ⟨s, a, h, by simp [run, foldE, step, h], i.1, hl, by simp [State.isLive, hl]⟩

theorem step_keeps_inv {s s' : State V} {op : Op V} (inv : Inv s) (hr : step s op = .ok s') : Inv s' := by
  cases op with
  | malloc size => obtain ⟨a, hm⟩ := step_malloc_ok hr; exact (malloc_inv inv hm).1
  | free a => exact (free_inv inv hr).1
  | write a v => exact (write_inv inv hr).1
  | defrag ch => exact defragAll_inv inv hr

/-- in a state satisfying `Inv` a step either succeeds, or it is a caller error: Free / write of a pointer
    that is not live (`.notLive`) or a rejected evacuation order (`.illegalChoice`).  The exits `.corrupt`,
    `.pageReleaseBranch`, `.dispatchMismatch` are unreachable. -/
theorem step_ok_or_caller {s : State V} (inv : Inv s) (op : Op V) :
    (∃ s', step s op = .ok s') ∨ step s op = .error .notLive ∨ step s op = .error .illegalChoice := by
  cases op with
  | malloc size =>
    obtain ⟨s', a, h⟩ := malloc_total inv.g size
    exact Or.inl ⟨s', by simp only [step, h]⟩
  | free a =>
    by_cases hl : s.isLive a
    · exact Or.inl (free_total inv hl)
    · exact Or.inr (Or.inl (free_notLive hl))
  | write a v =>
    by_cases hl : s.isLive a
    · exact Or.inl (write_total inv.g hl)
    · exact Or.inr (Or.inl (write_notLive hl))
  | defrag ch =>
    exact (foldClass_ok_or_illegal (ch := ch) (List.range nClasses) _ (fun x hx => List.mem_range.1 hx)
      (relogClear_inv inv)).imp_right .inr

theorem step_total {s : State V} (inv : Inv s) {op : Op V} (h : OpLegal s op) : ∃ s', step s op = .ok s' := by
  cases op with
  | malloc size =>
    obtain ⟨s', a, h⟩ := malloc_total inv.g size
    exact ⟨s', by simp only [step, h]⟩
  | free a => exact free_total inv h
  | write a v => exact write_total inv.g h
  | defrag ch =>
    obtain ⟨s', e, _⟩ := foldClass_total (ch := ch) (List.range nClasses) _ (fun x hx => List.mem_range.1 hx)
      (relogClear_inv inv) h
    exact ⟨s', e⟩

theorem run_total_aux : ∀ (ops : List (Op V)) (s : State V), Inv s → TraceLegal s ops →
    ∃ s', run s ops = .ok s' ∧ Inv s' := by
  intro ops
  induction ops with
  | nil => intro s inv _; exact ⟨s, rfl, inv⟩
  | cons op rest ih =>
    intro s inv ⟨h1, h2⟩
    obtain ⟨s1, e1⟩ := step_total inv h1
    obtain ⟨s2, e2, inv2⟩ := ih s1 (step_keeps_inv inv e1) (h2 s1 e1)
    exact ⟨s2, by simp only [run, foldE, e1]; exact e2, inv2⟩

theorem run_ok_or_caller_aux : ∀ (ops : List (Op V)) (s : State V), Inv s →
    (∃ s', run s ops = .ok s') ∨ run s ops = .error .notLive ∨ run s ops = .error .illegalChoice := by
  intro ops
  induction ops with
  | nil => intro s _; exact Or.inl ⟨s, rfl⟩
  | cons op rest ih =>
    intro s inv
    rcases step_ok_or_caller inv op with ⟨s1, e1⟩ | e1 | e1
    · simpa only [run, foldE, e1] using ih s1 (step_keeps_inv inv e1)
    · right; left; simp only [run, foldE, e1]
    · right; right; simp only [run, foldE, e1]

/-! ### an accepted evacuation order always exists (pages sorted by `used`, the prefix the loop takes) -/

def insertBy (f : Nat → Nat) (x : Nat) : List Nat → List Nat
  | [] => [x]
  | y :: r => if f x ≤ f y then x :: y :: r else y :: insertBy f x r
def sortBy (f : Nat → Nat) (l : List Nat) : List Nat := l.foldr (insertBy f) []

theorem map_insertBy (f : Nat → Nat) (x : Nat) (l : List Nat) :
    (insertBy f x l).map f = insertSorted (f x) (l.map f) := by
  induction l with
  | nil => rfl
  | cons y r ih =>
    simp only [insertBy, List.map_cons, insertSorted]
    split
    · rfl
    · simp only [List.map_cons, ih]

theorem map_sortBy (f : Nat → Nat) (l : List Nat) : (sortBy f l).map f = sortNat (l.map f) := by
  induction l with
  | nil => rfl
  | cons y r ih =>
    simp only [sortBy, sortNat, List.foldr_cons, List.map_cons] at ih ⊢
    rw [map_insertBy, ih]

theorem perm_insertBy (f : Nat → Nat) (x : Nat) (l : List Nat) : (insertBy f x l).Perm (x :: l) := by
  induction l with
  | nil => exact .refl _
  | cons y r ih =>
    simp only [insertBy]
    split
    · exact .refl _
    · exact (ih.cons y).trans (.swap x y r)

theorem perm_sortBy (f : Nat → Nat) (l : List Nat) : (sortBy f l).Perm l := by
  induction l with
  | nil => exact .refl _
  | cons z r ih => exact (perm_insertBy f z _).trans (ih.cons z)

theorem choiceOk_exists {s : State V} (inv : InvG s) (c : Nat) : ∃ ev, choiceOk s c ev = true := by
  unfold choiceOk
  simp only []
  split
  · exact ⟨[], rfl⟩
  · split
    · exact ⟨[], rfl⟩
    · generalize hnf : (s.K c).plist.filter (fun p => usedOf s p < capOf c) = nonFull
      generalize capOf c * ((s.K c).freeSlots / capOf c - minFreePagesTo) = target
      have nd : nonFull.Nodup := by rw [← hnf]; exact (inv.classes c).pl_nodup.filter _
      have pm := perm_sortBy (usedOf s) nonFull
      refine ⟨(sortBy (usedOf s) nonFull).take
        (selCount (capOf c) target (sortNat (nonFull.map (usedOf s))) 0), ?_⟩
      simp only [legalChoice, Bool.and_eq_true, decide_eq_true_eq, List.all_eq_true, List.contains_iff_mem,
        beq_iff_eq]
      refine ⟨⟨(List.take_sublist _ _).nodup (pm.nodup_iff.2 nd), ?_⟩, ?_⟩
      · intro y hy; exact pm.mem_iff.1 (List.mem_of_mem_take hy)
      · rw [List.map_take, map_sortBy]; rfl

/-! ### … hence an accepted choice for a whole pass exists -/

theorem foldE_congr {σ α : Type} {f g : σ → α → Except Err σ} :
    ∀ (l : List α) (s : σ), (∀ a, a ∈ l → ∀ s, f s a = g s a) → foldE f s l = foldE g s l := by
  intro l
  induction l with
  | nil => intro s _; rfl
  | cons a r ih =>
    intro s h
    simp only [foldE, h a (by simp)]
    cases g s a with
    | error e => rfl
    | ok s1 => exact ih s1 (fun b hb => h b (List.mem_cons_of_mem _ hb))

theorem classStep_lookup {ch ch2 : List (Nat × List Nat)} {c : Nat} (h : ch.lookup c = ch2.lookup c)
    (t : State V) : classStep ch t c = classStep ch2 t c := by
  unfold classStep; rw [h]

theorem classLegal_single {t : State V} (inv : InvG t) (c : Nat) :
    ∃ ev, classLegal [(c, ev)] t c = true := by
  unfold classLegal
  by_cases hw : wantsDefrag t c = true
  · obtain ⟨ev, h⟩ := choiceOk_exists inv c
    exact ⟨ev, by simp [hw, List.lookup, h]⟩
  · exact ⟨[], by simp [hw, List.lookup]⟩

theorem foldClass_exists : ∀ (l : List Nat) (t : State V), l.Nodup → (∀ x, x ∈ l → x < nClasses) → Inv t →
    ∃ ch t', foldE (classStep ch) t l = .ok t' := by
  intro l
  induction l with
  | nil => intro t _ _ _; exact ⟨[], t, rfl⟩
  | cons c rest ih =>
    intro t nd hsub inv
    have nd' := List.nodup_cons.1 nd
    obtain ⟨ev, hl⟩ := classLegal_single inv.g c
    obtain ⟨t1, e1, inv1⟩ := classStep_total (hsub c (by simp)) inv hl
    obtain ⟨ch', t', e2⟩ := ih t1 nd'.2 (fun x hx => hsub x (List.mem_cons_of_mem _ hx)) inv1
    refine ⟨(c, ev) :: ch', t', ?_⟩
    have h1 : classStep ((c, ev) :: ch') t c = classStep [(c, ev)] t c :=
      classStep_lookup (by simp [List.lookup]) t
    simp only [foldE, h1, e1]
    rw [← e2]
    apply foldE_congr
    intro a ha s
    have hne : a ≠ c := fun e => nd'.1 (e ▸ ha)
    exact classStep_lookup (by simp [List.lookup, beq_false_of_ne hne]) s

end GocoinV.Alloc
