/-
  Proofs.C19Codec — serialisation round trips of the qdb index files: one 24-byte record, the index log
  (`loadlog`'s parser on what `sync` appends) and the index snapshot (`loaddat`'s parser on what
  `writedatfile` writes, including the bufio.Writer in between).
-/
import GocoinV.Model.Qdb
namespace GocoinV.Proofs.C19
open GocoinV GocoinV.Qdb

variable {eg : Bool}

/-- the record as it comes back from disk: no data in memory -/
def strip (r : Rec) : Rec := { r with data := none }

def RecFits (k : Key) (r : Rec) : Prop :=
  k < 2^64 ∧ r.pos < 2^32 ∧ r.len < 2^32 ∧ r.seq < 2^32 ∧ r.flags < 2^32

theorem leVal_le32 (n : Nat) (h : n < 2^32) : leVal (le32 n) = n := by
  unfold le32; rw [leVal_leBytes]; exact Nat.mod_eq_of_lt (by simpa using h)

theorem leVal_le64 (n : Nat) (h : n < 2^64) : leVal (le64 n) = n := by
  unfold le64; rw [leVal_leBytes]; exact Nat.mod_eq_of_lt (by simpa using h)

@[simp] theorem le32_length (n : Nat) : (le32 n).length = 4 := by simp [le32]
@[simp] theorem le64_length (n : Nat) : (le64 n).length = 8 := by simp [le64]
@[simp] theorem encRec_length (k : Key) (r : Rec) : (encRec k r).length = 24 := by simp [encRec]
@[simp] theorem encDel_length (k : Key) : (encDel k).length = 12 := by simp [encDel]

theorem decRec_encRec (k : Key) (r : Rec) (rest : Bytes) (h : RecFits k r) :
    decRec (encRec k r ++ rest) = (k, strip r) := by
  obtain ⟨hk, hp, hl, hs, hf⟩ := h
  have e : encRec k r ++ rest = le64 k ++ (le32 r.pos ++ (le32 r.len ++ (le32 r.seq ++ (le32 r.flags ++ rest)))) := by
    simp [encRec, List.append_assoc]
  rw [e]
  unfold decRec strip
  have t8 : (le64 k ++ (le32 r.pos ++ (le32 r.len ++ (le32 r.seq ++ (le32 r.flags ++ rest))))).take 8 = le64 k :=
    List.take_left' (by simp)
  have d8 : (le64 k ++ (le32 r.pos ++ (le32 r.len ++ (le32 r.seq ++ (le32 r.flags ++ rest))))).drop 8 =
      le32 r.pos ++ (le32 r.len ++ (le32 r.seq ++ (le32 r.flags ++ rest))) := List.drop_left' (by simp)
  have d12 : (le64 k ++ (le32 r.pos ++ (le32 r.len ++ (le32 r.seq ++ (le32 r.flags ++ rest))))).drop 12 =
      le32 r.len ++ (le32 r.seq ++ (le32 r.flags ++ rest)) := by
    rw [← List.append_assoc]; exact List.drop_left' (by simp)
  have d16 : (le64 k ++ (le32 r.pos ++ (le32 r.len ++ (le32 r.seq ++ (le32 r.flags ++ rest))))).drop 16 =
      le32 r.seq ++ (le32 r.flags ++ rest) := by
    rw [← List.append_assoc, ← List.append_assoc]; exact List.drop_left' (by simp)
  have d20 : (le64 k ++ (le32 r.pos ++ (le32 r.len ++ (le32 r.seq ++ (le32 r.flags ++ rest))))).drop 20 =
      le32 r.flags ++ rest := by
    rw [← List.append_assoc, ← List.append_assoc, ← List.append_assoc]; exact List.drop_left' (by simp)
  rw [t8, d8, d12, d16, d20]
  have t4 : ∀ (a : Nat) (x : Bytes), (le32 a ++ x).take 4 = le32 a := fun a x => List.take_left' (by simp)
  simp only [t4, leVal_le32 _ hp, leVal_le32 _ hl, leVal_le32 _ hs, leVal_le32 _ hf, leVal_le64 _ hk]

/-! ### the index log -/

def encEntry : LogEntry → Bytes
  | .put k r => encRec k r
  | .del k => encDel k

/-- an entry `sync` can write: fields fit, and a put never has datpos 0 (0 is the delete marker) -/
def EntryFits : LogEntry → Prop
  | .put k r => RecFits k r ∧ r.pos ≠ 0
  | .del k => k < 2^64

def stripE : LogEntry → LogEntry
  | .put k r => .put k (strip r)
  | .del k => .del k

def encLog (es : List LogEntry) : Bytes := es.flatMap encEntry

theorem encEntry_length_ge (e : LogEntry) : 12 ≤ (encEntry e).length := by
  cases e <;> simp [encEntry]

theorem encLog_length_ge (es : List LogEntry) : es.length ≤ (encLog es).length := by
  induction es with
  | nil => simp [encLog]
  | cons e t ih =>
    have := encEntry_length_ge e
    simp only [encLog, List.flatMap_cons, List.length_append, List.length_cons] at ih ⊢
    omega

/-- one round of `loadlog`'s parser on an entry `sync` wrote -/
theorem parseLog_entry (e : LogEntry) (he : EntryFits e) (n : Nat) (rest : Bytes) :
    parseLog (n + 1) (encEntry e ++ rest) = stripE e :: parseLog n rest := by
  cases e with
  | put k r =>
    obtain ⟨hfit, hpos⟩ := he
    have hdec := decRec_encRec k r rest hfit
    have hlen2 : ¬ (encRec k r ++ rest).length < 24 := by simp
    have hd : (encRec k r ++ rest).drop 24 = rest := List.drop_left' (by simp)
    show parseLog (n + 1) (encRec k r ++ rest) = _
    generalize encRec k r ++ rest = d at hdec hlen2 hd
    have hk : leVal (d.take 8) = k := congrArg (·.1) hdec
    have hp : leVal ((d.drop 8).take 4) = r.pos := congrArg (·.2.pos) hdec
    have hlen : ¬ d.length < 12 := by omega
    rw [parseLog]
    simp only [hlen, ↓reduceIte, hk, hp, hpos, ne_eq, not_false_eq_true, hlen2, hd, hdec]
    rfl
  | del k =>
    have hk : k < 2^64 := he
    have e1 : encDel k ++ rest = le64 k ++ ([0, 0, 0, 0] ++ rest) := by
      simp [encDel, List.append_assoc]
    have t8 : (encDel k ++ rest).take 8 = le64 k := by rw [e1]; exact List.take_left' (by simp)
    have t12 : ((encDel k ++ rest).drop 8).take 4 = [0, 0, 0, 0] := by
      rw [e1, List.drop_left' (by simp)]; rfl
    have hlen : ¬ (encDel k ++ rest).length < 12 := by simp
    have hd : (encDel k ++ rest).drop 12 = rest := List.drop_left' (by simp)
    show parseLog (n + 1) (encDel k ++ rest) = _
    rw [parseLog]
    simp only [hlen, ↓reduceIte, t8, t12, leVal_le64 _ hk, hd]
    have z : leVal [0, 0, 0, 0] = 0 := by decide
    simp [z, stripE]

theorem parseLog_encLog (es : List LogEntry) (h : ∀ e ∈ es, EntryFits e) (fuel : Nat) (hf : es.length ≤ fuel) :
    parseLog fuel (encLog es) = es.map stripE := by
  induction es generalizing fuel with
  | nil =>
    cases fuel with
    | zero => rfl
    | succ n => simp [parseLog, encLog]
  | cons e t ih =>
    cases fuel with
    | zero => simp at hf
    | succ n =>
      rw [encLog, List.flatMap_cons, parseLog_entry e (h e List.mem_cons_self),
        ← encLog, ih (fun x hx => h x (List.mem_cons_of_mem _ hx)) n (by simpa using hf)]
      rfl

/-! ### the index snapshot -/

def fini : Bytes := [0x46, 0x49, 0x4e, 0x49]
def ffff : Bytes := [0xff, 0xff, 0xff, 0xff]

def snapBody (recs : List (Key × Rec)) : Bytes := recs.flatMap fun kr => encRec kr.1 kr.2

/-- the complete content of an index snapshot file -/
def snapBytes (ver : Nat) (recs : List (Key × Rec)) : Bytes :=
  le32 ver ++ (snapBody recs ++ (ffff ++ (le32 ver ++ fini)))

@[simp] theorem snapBody_length (recs : List (Key × Rec)) : (snapBody recs).length = 24 * recs.length := by
  simp [snapBody, List.length_flatMap, List.map_const', Nat.mul_comm]

theorem snapBytes_length (ver : Nat) (recs : List (Key × Rec)) :
    (snapBytes ver recs).length = 16 + 24 * recs.length := by
  simp [snapBytes, fini, ffff]; omega

theorem idxWrites_flatten (recs : List (Key × Rec)) (ver : Nat) :
    (idxWrites recs ver).flatten = snapBytes ver recs := by
  unfold idxWrites snapBytes snapBody
  simp only [List.flatMap_def, List.flatten_append, List.flatten_flatten, List.map_map]
  simp [Function.comp_def, encRec, fini, ffff, List.append_assoc]

theorem checkIdxFile_snapBytes (ver : Nat) (recs : List (Key × Rec)) (hv : ver < 2^32) :
    checkIdxFile (some (snapBytes ver recs)) = some (ver, snapBytes ver recs) := by
  have hlen := snapBytes_length ver recs
  have h4 : (snapBytes ver recs).take 4 = le32 ver := List.take_left' (by simp)
  have hF : (snapBytes ver recs).drop ((snapBytes ver recs).length - 4) = fini := by
    have : snapBytes ver recs = (le32 ver ++ snapBody recs ++ ffff ++ le32 ver) ++ fini := by
      simp [snapBytes, List.append_assoc]
    rw [this]
    exact List.drop_left' (by simp [fini, ffff]; omega)
  have hM : ((snapBytes ver recs).drop ((snapBytes ver recs).length - 12)).take 4 = ffff := by
    have : snapBytes ver recs = (le32 ver ++ snapBody recs) ++ (ffff ++ (le32 ver ++ fini)) := by
      simp [snapBytes, List.append_assoc]
    rw [this, List.drop_left' (by simp [fini, ffff]; omega)]
    rfl
  have hS : ((snapBytes ver recs).drop ((snapBytes ver recs).length - 8)).take 4 = le32 ver := by
    have : snapBytes ver recs = (le32 ver ++ snapBody recs ++ ffff) ++ (le32 ver ++ fini) := by
      simp [snapBytes, List.append_assoc]
    rw [this, List.drop_left' (by simp [fini, ffff]; omega)]
    exact List.take_left' (by simp)
  unfold checkIdxFile
  have hl : ¬ (snapBytes ver recs).length < 16 := by omega
  have hfz : leVal ffff = 0xFFFFFFFF := by decide
  simp only [hl, ↓reduceIte, hF, hM, hS, h4, hfz, fini, ne_eq, not_true_eq_false, leVal_le32 _ hv]

theorem snapRecs_snapBody (recs : List (Key × Rec)) (tail : Bytes) (h : ∀ kr ∈ recs, RecFits kr.1 kr.2) :
    snapRecs recs.length (snapBody recs ++ tail) = recs.map fun kr => (kr.1, strip kr.2) := by
  induction recs with
  | nil => rfl
  | cons kr t ih =>
    have e : snapBody (kr :: t) ++ tail = encRec kr.1 kr.2 ++ (snapBody t ++ tail) := by
      simp [snapBody, List.append_assoc]
    rw [e]
    simp only [List.length_cons, snapRecs, List.map_cons]
    rw [decRec_encRec _ _ _ (h kr List.mem_cons_self), List.drop_left' (by simp),
      ih (fun x hx => h x (List.mem_cons_of_mem _ hx))]

theorem snapshotRecs_snapBytes (ver : Nat) (recs : List (Key × Rec)) (h : ∀ kr ∈ recs, RecFits kr.1 kr.2) :
    snapshotRecs (snapBytes ver recs) = recs.map fun kr => (kr.1, strip kr.2) := by
  unfold snapshotRecs
  rw [snapBytes_length]
  have : (16 + 24 * recs.length - 16) / 24 = recs.length := by omega
  rw [this]
  have : (snapBytes ver recs).drop 4 = snapBody recs ++ (ffff ++ (le32 ver ++ fini)) := List.drop_left' (by simp)
  rw [this]
  exact snapRecs_snapBody recs _ h

end GocoinV.Proofs.C19
