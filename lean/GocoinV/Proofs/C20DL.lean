/-
  Proofs.C20DL — doubly linked lists as pointer structures: `DL nx pv hd p l` says that starting at the
  pointer `hd` and following the field `nx` one visits exactly the nodes `l` (then nil), and that the field
  `pv` of every node is its predecessor (`p` for the first node).  Generic lemmas: walking, push-front,
  removal of any node through its own `pv`/`nx` fields (what `n.prev.next = n.next; n.next.prev = n.prev`
  does), append at the tail, last element after a removal.  Core only.
-/
import GocoinV.Model.Alloc
namespace GocoinV.Alloc

set_option linter.unusedSectionVars false
section DL
variable {α : Type} [DecidableEq α] [BEq α] [LawfulBEq α]

def DL (nx pv : α → Option α) : Option α → Option α → List α → Prop
  | hd, _, [] => hd = none
  | hd, p, x :: xs => hd = some x ∧ pv x = p ∧ DL nx pv (nx x) (some x) xs

theorem DL.congr {nx pv nx' pv' : α → Option α} :
    ∀ {l : List α} {hd p : Option α}, (∀ a, a ∈ l → nx' a = nx a ∧ pv' a = pv a) →
      DL nx pv hd p l → DL nx' pv' hd p l := by
  intro l
  induction l with
  | nil => intro hd p _ h; exact h
  | cons x xs ih =>
    intro hd p hf h
    obtain ⟨h1, h2, h3⟩ := h
    have hx := hf x (by simp)
    refine ⟨h1, by rw [hx.2]; exact h2, ?_⟩
    rw [hx.1]
    exact ih (fun a ha => hf a (List.mem_cons_of_mem _ ha)) h3

theorem DL.head {nx pv : α → Option α} {l : List α} {hd p : Option α} (h : DL nx pv hd p l) :
    hd = l.head? := by
  cases l with
  | nil => exact h
  | cons x xs => exact h.1

theorem DL.walk {nx pv : α → Option α} :
    ∀ {l : List α} {hd p : Option α} (f : Nat), DL nx pv hd p l → l.length ≤ f → walk nx f hd = l := by
  intro l
  induction l with
  | nil => intro hd p f h _; cases h; cases f <;> rfl
  | cons x xs ih =>
    intro hd p f h hf
    obtain ⟨h1, _, h3⟩ := h
    subst h1
    cases f with
    | zero => simp at hf
    | succ f =>
      simp only [Alloc.walk]
      rw [ih f h3 (by simpa using hf)]

theorem DL.nx_in {nx pv : α → Option α} :
    ∀ {l : List α} {hd p : Option α}, DL nx pv hd p l → ∀ x, x ∈ l → ∀ z, nx x = some z → z ∈ l := by
  intro l
  induction l with
  | nil => intro hd p _ x hx; cases hx
  | cons y ys ih =>
    intro hd p h x hx z hz
    obtain ⟨_, _, h3⟩ := h
    rcases List.mem_cons.1 hx with e | e
    · subst e
      exact List.mem_cons_of_mem _ (List.mem_of_mem_head? (h3.head.symm.trans hz))
    · exact List.mem_cons_of_mem _ (ih h3 x e z hz)

theorem DL.pv_tail {nx pv : α → Option α} :
    ∀ {l : List α} {hd p : Option α}, DL nx pv hd p l → ∀ x, x ∈ l → l.head? ≠ some x →
      ∃ z, z ∈ l ∧ pv x = some z := by
  intro l
  induction l with
  | nil => intro hd p _ x hx; cases hx
  | cons y ys ih =>
    intro hd p h x hx hne
    obtain ⟨_, _, h3⟩ := h
    rcases List.mem_cons.1 hx with e | e
    · subst e; simp at hne
    · by_cases hh : ys.head? = some x
      · cases ys with
        | nil => cases e
        | cons w ws =>
          simp at hh; subst hh
          exact ⟨y, by simp, h3.2.1⟩
      · obtain ⟨z, hz, hp⟩ := ih h3 x e hh
        exact ⟨z, List.mem_cons_of_mem _ hz, hp⟩

/-- in a list anchored with `p = none`: a node is the first one iff its `pv` is nil (the code's
    `if prev == 0` test) -/
theorem DL.pv_none_iff {nx pv : α → Option α} {l : List α} {hd : Option α} (h : DL nx pv hd none l)
    (x : α) (hx : x ∈ l) : pv x = none ↔ hd = some x := by
  constructor
  · intro hn
    rw [h.head]
    refine Classical.not_not.1 fun hh => ?_
    obtain ⟨w, _, hp⟩ := h.pv_tail x hx hh
    rw [hp] at hn; cases hn
  · intro hh
    cases l with
    | nil => cases hx
    | cons y ys =>
      have := h.1; rw [hh] at this; cases this; exact h.2.1

theorem DL.pv_in {nx pv : α → Option α} {l : List α} {hd : Option α} (h : DL nx pv hd none l)
    (x : α) (hx : x ∈ l) (z : α) (hz : pv x = some z) : z ∈ l := by
  have hh : l.head? ≠ some x := fun e => by
    rw [(h.pv_none_iff x hx).2 (h.head.trans e)] at hz; cases hz
  obtain ⟨w, hw, hp⟩ := h.pv_tail x hx hh
  rw [hp] at hz; cases hz; exact hw

theorem DL.back {nx pv : α → Option α} :
    ∀ {l : List α} {hd p : Option α}, DL nx pv hd p l → ∀ x, x ∈ l → ∀ y, nx x = some y → pv y = some x := by
  intro l
  induction l with
  | nil => intro hd p _ x hx; cases hx
  | cons z zs ih =>
    intro hd p h x hx y hy
    obtain ⟨_, _, h3⟩ := h
    rcases List.mem_cons.1 hx with e | e
    · subst e
      cases zs with
      | nil => cases hy.symm.trans h3
      | cons w ws => cases hy.symm.trans h3.1; exact h3.2.1
    · exact ih h3 x e y hy

/-- push-front, from the closed form of the fields after the code's block: x is new, `nx x` is the old head, whose
    `pv` becomes x -/
theorem DL.push_front {nx pv nx' pv' : α → Option α} {hd : Option α} {l : List α} {x : α}
    (h : DL nx pv hd none l) (nd : l.Nodup) (hx : x ∉ l)
    (hnx : ∀ a, nx' a = if a = x then hd else nx a)
    (hpv : ∀ a, pv' a = if hd = some a then some x else if a = x then none else pv a) :
    DL nx' pv' (some x) none (x :: l) := by
  have fr : ∀ a, a ∈ l → nx' a = nx a ∧ (hd ≠ some a → pv' a = pv a) := by
    intro a ha
    have hne : a ≠ x := by intro e; subst e; exact hx ha
    exact ⟨by rw [hnx, if_neg hne], fun hn => by rw [hpv, if_neg hn, if_neg hne]⟩
  refine ⟨rfl, ?_, ?_⟩
  · rw [hpv, if_neg, if_pos rfl]
    intro hn; rw [h.head] at hn
    exact hx (List.mem_of_mem_head? hn)
  rw [hnx, if_pos rfl]
  cases l with
  | nil => exact h
  | cons y ys =>
    obtain ⟨h1, _, h3⟩ := h
    refine ⟨h1, by rw [hpv, if_pos h1], ?_⟩
    rw [(fr y (by simp)).1]
    refine DL.congr ?_ h3
    intro a ha
    have hay : a ≠ y := by
      intro e; subst e; exact (List.nodup_cons.1 nd).1 ha
    have := fr a (List.mem_cons_of_mem _ ha)
    exact ⟨this.1, this.2 (by rw [h1]; intro e; cases e; exact hay rfl)⟩

/-- removal of x through its own fields: `pv x`'s `nx` becomes `nx x` (or the head pointer does when
    x is first), `nx x`'s `pv` becomes `pv x` -/
theorem DL.remove {nx pv nx' pv' : α → Option α} {x : α} :
    ∀ {l : List α} {hd p : Option α}, DL nx pv hd p l → l.Nodup → x ∈ l → (∀ q, p = some q → q ∉ l) →
      (∀ a, a ∈ l → a ≠ x → nx' a = if pv x = some a then nx x else nx a) →
      (∀ a, a ∈ l → a ≠ x → pv' a = if nx x = some a then pv x else pv a) →
      DL nx' pv' (if hd = some x then nx x else hd) p (l.erase x) := by
  intro l
  induction l with
  | nil => intro hd p _ _ hx; cases hx
  | cons y ys ih =>
    intro hd p h nd hx hp hnx hpv
    obtain ⟨h1, h2, h3⟩ := h
    have ndc := List.nodup_cons.1 nd
    by_cases hyx : y = x
    · subst hyx
      rw [if_pos h1, List.erase_cons_head]
      cases ys with
      | nil => exact h3
      | cons z zs =>
        obtain ⟨g1, g2, g3⟩ := h3
        have hzy : z ≠ y := by intro e; subst e; exact ndc.1 (by simp)
        have ndz := List.nodup_cons.1 ndc.2
        refine ⟨g1, ?_, ?_⟩
        · rw [hpv z (by simp) hzy, if_pos g1]; exact h2
        · have e1 : nx' z = nx z := by
            rw [hnx z (by simp) hzy, if_neg]
            rw [h2]; intro e; exact hp z e (by simp)
          rw [e1]
          refine DL.congr ?_ g3
          intro a ha
          have hay : a ≠ y := by intro e; subst e; exact ndc.1 (List.mem_cons_of_mem _ ha)
          have haz : a ≠ z := by intro e; subst e; exact ndz.1 ha
          have hal : a ∈ y :: z :: zs := by simp [ha]
          constructor
          · rw [hnx a hal hay, if_neg]
            rw [h2]; intro e; exact hp a e hal
          · rw [hpv a hal hay, if_neg]
            rw [g1]; intro e; cases e; exact haz rfl
    · have hxs : x ∈ ys := List.mem_of_ne_of_mem (Ne.symm hyx) hx
      have hne : hd ≠ some x := by rw [h1]; intro e; cases e; exact hyx rfl
      rw [if_neg hne, List.erase_cons_tail (by simpa using hyx)]
      refine ⟨h1, ?_, ?_⟩
      · rw [hpv y (by simp) hyx, if_neg]
        · exact h2
        · intro e; exact ndc.1 (h3.nx_in x hxs y e)
      · have key : nx' y = if nx y = some x then nx x else nx y := by
          rw [hnx y (by simp) hyx]
          by_cases hh : nx y = some x
          · rw [if_pos hh, if_pos]
            exact DL.back (l := y :: ys) ⟨h1, h2, h3⟩ y (by simp) x hh
          · rw [if_neg hh, if_neg]
            intro e
            have hh' : ys.head? ≠ some x := by rw [← h3.head]; exact hh
            obtain ⟨z, hz, hpz⟩ := h3.pv_tail x hxs hh'
            rw [hpz] at e; cases e; exact ndc.1 hz
        rw [key]
        exact ih h3 ndc.2 hxs (by intro q e; cases e; exact ndc.1)
          (fun a ha hax => hnx a (List.mem_cons_of_mem _ ha) hax)
          (fun a ha hax => hpv a (List.mem_cons_of_mem _ ha) hax)

/-- `DL.remove` on a list anchored with `p = none`, the new head as the code finds it: x is first iff its `pv` is nil
    (`Q` is the part of the code's test that selects this list) -/
theorem DL.remove_first {nx pv nx' pv' : α → Option α} {x : α} {l : List α} {hd : Option α} {Q : Prop} [Decidable Q]
    (d : DL nx pv hd none l) (nd : l.Nodup) (hx : x ∈ l) (hQ : Q)
    (hnx : ∀ a, a ∈ l → a ≠ x → nx' a = if pv x = some a then nx x else nx a)
    (hpv : ∀ a, a ∈ l → a ≠ x → pv' a = if nx x = some a then pv x else pv a) :
    DL nx' pv' (if pv x = none ∧ Q then nx x else hd) none (l.erase x) := by
  have hiff : (pv x = none ∧ Q) ↔ hd = some x := (and_iff_left hQ).trans (d.pv_none_iff x hx)
  simp only [hiff]
  exact d.remove nd hx (by intro q e; cases e) hnx hpv

/-- append at the tail (`last.next = x; x.prev = last`) -/
theorem DL.append {nx pv nx' pv' : α → Option α} {x : α} :
    ∀ {l : List α} {hd p : Option α}, DL nx pv hd p l → x ∉ l → l.Nodup →
      nx' x = none → pv' x = (match l.getLast? with | some z => some z | none => p) →
      (∀ z, l.getLast? = some z → nx' z = some x) →
      (∀ a, a ∈ l → pv' a = pv a ∧ (l.getLast? ≠ some a → nx' a = nx a)) →
      DL nx' pv' (if l = [] then some x else hd) p (l ++ [x]) := by
  intro l
  induction l with
  | nil =>
    intro hd p _ _ _ hnx hpv _ _
    exact ⟨rfl, hpv, hnx⟩
  | cons y ys ih =>
    intro hd p h hx nd hnx hpv hlast fr
    obtain ⟨h1, h2, h3⟩ := h
    have ndc := List.nodup_cons.1 nd
    have hxy : x ∉ ys := fun hm => hx (List.mem_cons_of_mem _ hm)
    rw [if_neg (by simp)]
    refine ⟨h1, by rw [(fr y (by simp)).1]; exact h2, ?_⟩
    cases ys with
    | nil =>
      have e : nx' y = some x := hlast y rfl
      rw [e]
      exact ⟨rfl, hpv, hnx⟩
    | cons w ws =>
      have hgl : (y :: w :: ws).getLast? = (w :: ws).getLast? := List.getLast?_cons_cons
      have hny : nx' y = nx y := by
        refine (fr y (by simp)).2 ?_
        rw [hgl]; intro e; exact ndc.1 (List.mem_of_getLast? e)
      rw [hny]
      have := ih (hd := nx y) (p := some y) h3 hxy ndc.2 hnx
        (by rw [hpv, hgl, List.getLast?_cons])
        (fun z hz => hlast z (by rw [hgl]; exact hz))
        (fun a ha => ⟨(fr a (List.mem_cons_of_mem _ ha)).1,
          fun hne => (fr a (List.mem_cons_of_mem _ ha)).2 (by rw [hgl]; exact hne)⟩)
      rw [if_neg (by simp)] at this
      exact this

/-- a node is the last one iff its `nx` is nil -/
theorem DL.nx_none_iff {nx pv : α → Option α} :
    ∀ {l : List α} {hd p : Option α}, DL nx pv hd p l → l.Nodup → ∀ x, x ∈ l →
      (nx x = none ↔ l.getLast? = some x) := by
  intro l
  induction l with
  | nil => intro hd p _ _ x hx; cases hx
  | cons y ys ih =>
    intro hd p h nd x hx
    obtain ⟨_, _, h3⟩ := h
    have ndc := List.nodup_cons.1 nd
    cases ys with
    | nil =>
      cases List.mem_singleton.1 hx
      exact iff_of_true h3 rfl
    | cons w ws =>
      rw [List.getLast?_cons_cons]
      rcases List.mem_cons.1 hx with e | e
      · subst e
        have h31 : nx x = some w := h3.1
        exact iff_of_false (by rw [h31]; exact Option.some_ne_none w) fun hl => ndc.1 (List.mem_of_getLast? hl)
      · exact ih h3 ndc.2 x e

theorem DL.pv_last {nx pv : α → Option α} {x : α} :
    ∀ {l : List α} {hd p : Option α}, DL nx pv hd p (l ++ [x]) → pv x = l.getLast?.or p := by
  intro l
  induction l with
  | nil => intro hd p h; exact h.2.1
  | cons y ys ih =>
    intro hd p h
    rw [ih h.2.2]
    cases ys with
    | nil => rfl
    | cons w ws =>
      rw [List.getLast?_cons_cons, List.getLast?_cons]; rfl

theorem DL.getLast_erase {nx pv : α → Option α} {l : List α} {hd : Option α}
    (h : DL nx pv hd none l) (nd : l.Nodup) (x : α) (hx : x ∈ l) :
    (l.erase x).getLast? = if nx x = none then pv x else l.getLast? := by
  have hn := h.nx_none_iff nd x hx
  obtain ⟨l', z, rfl⟩ : ∃ l' z, l = l' ++ [z] :=
    ⟨_, _, (List.dropLast_concat_getLast (List.ne_nil_of_mem hx)).symm⟩
  rw [List.getLast?_concat] at hn ⊢
  have ndz : z ∉ l' := fun hz => (List.nodup_append.1 nd).2.2 z hz z (by simp) rfl
  by_cases e : z = x
  · subst e
    rw [if_pos (hn.2 rfl), List.erase_append_right _ ndz, h.pv_last]
    simp
  · have hx' : x ∈ l' := by simpa [Ne.symm e] using hx
    rw [if_neg (fun hh => e (Option.some.inj (hn.1 hh))), List.erase_append_left _ hx', List.getLast?_concat]

end DL
end GocoinV.Alloc
