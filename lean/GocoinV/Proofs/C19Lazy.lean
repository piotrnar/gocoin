/-
  Proofs.C19Lazy — NewDBExt with LoadData = false on any openable directory (in particular any crash directory):
  no record is in memory, and the first Get of every key reads exactly the key's disk value (`loadrec`).
-/
import GocoinV.Proofs.C19Vol
namespace GocoinV.Proofs.C19
open GocoinV GocoinV.Qdb GocoinV.QdbSpec

variable {eg : Bool}

def NoData (l : List (Key × Rec)) : Prop := ∀ kr ∈ l, kr.2.data = none

theorem diskIndex_noData (F : FS) : NoData (diskIndex F) :=
  diskIndex_all (fun _ r => r.data = none) (fun _ => rfl) F

theorem readRec_of_readsBack {f : Bytes} {r : Rec} {v : Bytes} (h : ReadsBack f r v) : readRec f r = v := by
  unfold readRec padTo
  rw [h.2.2]
  have : v.length = r.len := by
    rw [← h.2.2, List.length_take, List.length_drop]
    have := h.1
    omega
  simp [this]

/-- NewDBExt(any mode, LoadData = false) on an openable directory — e.g. any directory left by a crash — does not
    fail, and for EVERY key the first Get does not fail and returns exactly the key's disk value (absent keys: nil):
    `loadrec` finds the data file and reads the record's bytes. -/
theorem lazy_open_get (F : FS) (vol : Bool) (opts : Opts) (h : OpenOK eg F) (k : Key) :
    (openDB F vol false opts eg).failed = none ∧
    (Qdb.get (openDB F vol false opts eg) k).1.failed = none ∧
    (Qdb.get (openDB F vol false opts eg) k).2 = diskValue F k := by
  obtain ⟨F', _, S, _, _, _, _, hD, hdats⟩ := openOK_state F vol opts h
  generalize hX : openIndex { fs := F, volatile := vol, opts := opts, eager := eg } = X at S
  have hopen : openDB F vol false opts eg = { X with dataSeq := u32 (X.maxSeq + 1) } := by
    unfold openDB
    simp only [Bool.false_eq_true, ↓reduceIte]
    rw [hX]
  rw [hopen]
  have hf : ({ X with dataSeq := u32 (X.maxSeq + 1) } : DB).failed = none := S.failed
  refine ⟨hf, ?_⟩
  unfold Qdb.get
  rw [if_neg (by rw [hf]; simp)]
  simp only [show X.index = _ from S.index, hD]
  unfold diskValue
  cases hl : ilookup k (diskIndex F) with
  | none => exact ⟨hf, rfl⟩
  | some r =>
    have hmem := ilookup_key_pair k r (diskIndex F) hl
    have hnd : r.data = none := diskIndex_noData F (k, r) hmem
    obtain ⟨_, f, v, h3, h4⟩ := h.readable (k, r) hmem
    have hfX : dlookup r.seq X.fs.dats = some f := by
      have := S.dats (k, r) (by rw [hD]; exact hmem)
      rw [this, hdats]; exact h3
    have hlr : loadrec X.fs r = some { r with data := some (readRec f r) } := by
      unfold loadrec
      rw [hnd]
      simp only [hfX]
    simp only [hlr, Option.map_some, h3, Option.getD_some]
    exact ⟨hf, by rw [readRec_of_readsBack h4, h4.2.2]⟩

end GocoinV.Proofs.C19
