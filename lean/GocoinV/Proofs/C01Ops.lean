/-
  Proofs.C01Ops — per-opcode-group agreement of the model's `execOp` with the spec's `execOpcode` under the
  simulation relation `Rel`: stack shuffles, constants, VERIFY/RETURN/alt-stack/EQUAL/hashes, NOPs; OP_IF / OP_NOTIF /
  OP_ELSE / OP_ENDIF (with MINIMALIF for witness v0 and tapscript) in executed and non-executed branches; the opcodes
  that no branch of the interpreter knows (OP_VERIF, OP_VERNOTIF, OP_RESERVED…, everything above OP_CHECKSIGADD, and
  the disabled ones).
-/
import GocoinV.Proofs.C01Step
import GocoinV.Proofs.C01Num
namespace GocoinV.Proofs.C01
open GocoinV GocoinV.Script

variable {T : TotalOracles} {c : Ctx} {leaf : Bytes} {annex : Option Bytes} {st : St} {s : ScriptSpec.State}
  {i : ScriptSpec.Instr} {idx pos : Nat}

/-- the model's `switch` on a stack-shuffling opcode is the spec's table `shuffle` -/
theorem execOp_shuffle (c : Ctx) (st : St) (op idx pos : Nat) (b : Bool) (h : ScriptSpec.isShuffle op = true) :
    execOp c st op idx pos b = (match ScriptSpec.shuffle op st.stack with
      | some x => .ok { st with stack := x }
      | none => .fail) := by
  obtain ⟨stack, alt, exe, pbegin, opcnt, ed⟩ := st
  simp only [ScriptSpec.isShuffle, Bool.or_eq_true, beq_iff_eq] at h
  rcases h with ((((((((((((h|h)|h)|h)|h)|h)|h)|h)|h)|h)|h)|h)|h)|h <;> subst h
  · rcases stack with _ | ⟨a, _ | ⟨b, r⟩⟩ <;> rfl
  · rcases stack with _ | ⟨a, _ | ⟨b, r⟩⟩ <;> rfl
  · rcases stack with _ | ⟨a, _ | ⟨b, _ | ⟨d, r⟩⟩⟩ <;> rfl
  · rcases stack with _ | ⟨a, _ | ⟨b, _ | ⟨d, _ | ⟨e, r⟩⟩⟩⟩ <;> rfl
  · rcases stack with _ | ⟨a, _ | ⟨b, _ | ⟨d, _ | ⟨e, _ | ⟨f, _ | ⟨g, r⟩⟩⟩⟩⟩⟩ <;> rfl
  · rcases stack with _ | ⟨a, _ | ⟨b, _ | ⟨d, _ | ⟨e, r⟩⟩⟩⟩ <;> rfl
  · rcases stack with _ | ⟨a, r⟩
    · rfl
    · simp only [ScriptSpec.shuffle, ← bts2bool_eq]
      cases h : bts2bool a <;> simp [execOp, h]
  · rcases stack with _ | ⟨a, r⟩ <;> rfl
  · rcases stack with _ | ⟨a, r⟩ <;> rfl
  · rcases stack with _ | ⟨a, _ | ⟨b, r⟩⟩ <;> rfl
  · rcases stack with _ | ⟨a, _ | ⟨b, r⟩⟩ <;> rfl
  · rcases stack with _ | ⟨a, _ | ⟨b, _ | ⟨d, r⟩⟩⟩ <;> rfl
  · rcases stack with _ | ⟨a, _ | ⟨b, r⟩⟩ <;> rfl
  · rcases stack with _ | ⟨a, _ | ⟨b, r⟩⟩ <;> rfl

theorem execOpcode_shuffle (e : ScriptSpec.Env) (s : ScriptSpec.State) (op : Nat) (d a : Bytes) (b : Bool) (pos : Nat)
    (h : ScriptSpec.isShuffle op = true) :
    ScriptSpec.execOpcode e s ⟨op, d, a⟩ b pos = (match ScriptSpec.shuffle op s.stack with
      | some x => pure { s with stack := x }
      | none => throw ScriptSpec.ScriptError.INVALID_STACK_OPERATION) := by
  simp only [ScriptSpec.isShuffle, Bool.or_eq_true, beq_iff_eq] at h
  rcases h with ((((((((((((h|h)|h)|h)|h)|h)|h)|h)|h)|h)|h)|h)|h)|h <;> subst h <;> rfl

theorem shuffle_agree (hR : Rel c leaf annex st s) (hs : ScriptSpec.isShuffle i.op = true) :
    Agree c leaf annex (execOp c st i.op idx pos true) (ScriptSpec.execOpcode (envOf T c leaf annex) s i true pos) := by
  obtain ⟨iop, idata, iafter⟩ := i
  rw [execOp_shuffle c st iop idx pos true hs, execOpcode_shuffle _ s iop _ _ true pos hs, hR.stack]
  cases ScriptSpec.shuffle iop s.stack with
  | none => exact Agree.fail
  | some x => exact Agree.ok (hR.setStack x)

def isConstOp (op : Nat) : Bool := op == 0x4f || (0x51 ≤ op && op ≤ 0x60) || op == 0x61

theorem const_agree (hR : Rel c leaf annex st s) (hs : isConstOp i.op = true) :
    Agree c leaf annex (execOp c st i.op idx pos true) (ScriptSpec.execOpcode (envOf T c leaf annex) s i true pos) := by
  have push : ∀ v, Agree c leaf annex (.ok (st.push (intBytes v))) (pure (ScriptSpec.pushNum s v)) := fun v =>
    intBytes_eq_encode v ▸ Agree.ok (hR.push _)
  obtain ⟨iop, idata, iafter⟩ := i
  simp only [isConstOp, Bool.or_eq_true, beq_iff_eq, Bool.and_eq_true, decide_eq_true_eq] at hs
  rcases hs with (h | ⟨ha, hb'⟩) | h
  · subst h; exact push (-1)
  · have e1 : (iop == 0x4f) = false := by simp; omega
    have e2 : (decide (iop ≥ 0x51) && decide (iop ≤ 0x60)) = true := by simp; omega
    simp only [execOp, ScriptSpec.execOpcode, e1, e2, Bool.false_eq_true, ↓reduceIte]
    exact push _
  · subst h; exact Agree.ok hR

def isMiscOp (op : Nat) : Bool :=
  op == 0x69 || op == 0x6a || op == 0x6b || op == 0x6c || op == 0x87 || op == 0x88 ||
  op == 0xa6 || op == 0xa7 || op == 0xa8 || op == 0xa9 || op == 0xaa

theorem hashOp_agree (hR : Rel c leaf annex st s) (op : Nat) :
    Agree c leaf annex
      (hashOp st fun v => if op == 0xa6 then T.ripemd160 v else if op == 0xa7 then T.sha1 v
        else if op == 0xa8 then T.sha256 v else if op == 0xa9 then T.hash160 v else T.hash256 v)
      (ScriptSpec.opHash (envOf T c leaf annex) s op) := by
  unfold hashOp ScriptSpec.opHash ScriptSpec.pop1
  rw [hR.stack]
  cases s.stack with
  | nil => exact Agree.fail
  | cons v r => exact Agree.ok (hR.setStack _)

theorem misc_agree (hO : c.O = T.toOracles) (hR : Rel c leaf annex st s) (hs : isMiscOp i.op = true) :
    Agree c leaf annex (execOp c st i.op idx pos true) (ScriptSpec.execOpcode (envOf T c leaf annex) s i true pos) := by
  have ok := fun x => Agree.ok (hR.setStack x)
  have equal : ∀ verify, Agree c leaf annex
      (match st.stack with
        | a :: b :: r =>
          if verify then (if !(a == b) then .fail else .ok { st with stack := r })
          else .ok { st with stack := boolBytes (a == b) :: r }
        | _ => .fail) (ScriptSpec.opEqual s verify) := fun verify => by
    unfold ScriptSpec.opEqual
    rw [hR.stack]
    rcases s.stack with _ | ⟨a, _ | ⟨b, r⟩⟩
    · exact Agree.fail
    · exact Agree.fail
    · cases verify <;> cases hab : a == b <;> simp only [hab]
      · exact ok _
      · exact ok _
      · exact Agree.fail
      · exact ok _
  obtain ⟨iop, idata, iafter⟩ := i
  simp only [isMiscOp, Bool.or_eq_true, beq_iff_eq] at hs
  -- the five hash opcodes last: one block for them
  rcases hs with ((((hs|h)|h)|h)|h)|h
  · rcases hs with ((((h|h)|h)|h)|h)|h <;> subst h
    · show Agree c leaf annex (match st.stack with | [] => _ | _ :: _ => _) (ScriptSpec.opVerify s)
      unfold ScriptSpec.opVerify
      rw [hR.stack]
      cases s.stack with
      | nil => exact Agree.fail
      | cons x r =>
        simp only [bts2bool_eq]
        cases ScriptSpec.castToBool x
        · exact Agree.fail
        · exact ok r
    · exact Agree.fail
    · show Agree c leaf annex (match st.stack with | [] => _ | _ :: _ => _) (match s.stack with | _ :: _ => _ | [] => _)
      rw [hR.stack, hR.alt]
      cases s.stack with
      | nil => exact Agree.fail
      | cons x r => exact Agree.ok (hR.setStacks r (x :: s.alt))
    · show Agree c leaf annex (match st.alt with | [] => _ | _ :: _ => _) (match s.alt with | _ :: _ => _ | [] => _)
      rw [hR.stack, hR.alt]
      cases s.alt with
      | nil => exact Agree.fail
      | cons x r => exact Agree.ok (hR.setStacks (x :: s.stack) r)
    · exact equal false
    · exact equal true
  all_goals
    have := hashOp_agree (T := T) hR iop
    subst h
    show Agree c leaf annex (hashOp st _) _
    rw [hO]
    exact this

def isNopOp (op : Nat) : Bool :=
  op == 0xb0 || op == 0xb3 || op == 0xb4 || op == 0xb5 || op == 0xb6 || op == 0xb7 || op == 0xb8 || op == 0xb9

theorem nop_agree (hR : Rel c leaf annex st s) (hs : isNopOp i.op = true) :
    Agree c leaf annex (execOp c st i.op idx pos true) (ScriptSpec.execOpcode (envOf T c leaf annex) s i true pos) := by
  obtain ⟨iop, idata, iafter⟩ := i
  simp only [isNopOp, Bool.or_eq_true, beq_iff_eq] at hs
  have : execOp c st iop idx pos true = (if has c.flags VER_BLOCK_OPS then .fail else .ok st) ∧
      ScriptSpec.execOpcode (envOf T c leaf annex) s ⟨iop, idata, iafter⟩ true pos =
        if (ScriptSpec.Flags.ofMask c.flags).discourageNops then throw ScriptSpec.ScriptError.DISCOURAGE_UPGRADABLE_NOPS else pure s := by
    rcases hs with ((((((h|h)|h)|h)|h)|h)|h)|h <;> subst h <;> constructor <;> rfl
  rw [this.1, this.2, ← flag_nops]
  exact Agree.ite (fun _ => Agree.fail) fun _ => Agree.ok hR

/-! ### OP_IF / OP_NOTIF / OP_ELSE / OP_ENDIF, and the opcodes no branch of the interpreter knows -/

theorem nonMinimalIf_eq (v : Bytes) :
    (decide (v.length > 1) || (v.length == 1 && at' v 0 != 1)) = (decide (v.length > 1) || (v.length == 1 && v != [1])) := by
  match v with
  | [] => simp
  | [b] =>
    have e : (b != 1) = ([b] != [1]) := by
      simp only [bne, List.cons_beq_cons]
      have : (([] : List UInt8) == []) = true := rfl
      rw [this, Bool.and_true]
    simp [at', e]
  | a :: b :: r => simp

def isCondOp (op : Nat) : Bool := op == 0x63 || op == 0x64 || op == 0x67 || op == 0x68

/-- the condition stack is related through `condOf` only -/
theorem Rel.setCond {c : Ctx} {leaf : Bytes} {annex : Option Bytes} {st : St} {s : ScriptSpec.State}
    (hR : Rel c leaf annex st s) (x : Stack) (exe : List Bool) :
    Rel c leaf annex { st with stack := x, exe := exe } { s with stack := x, cond := condOf exe } :=
  { hR with stack := rfl, cond := rfl }

theorem cond_agree (hR : Rel c leaf annex st s) (hs : isCondOp i.op = true) :
    Agree c leaf annex (execOp c st i.op idx pos (st.exe.all id))
      (ScriptSpec.execOpcode (envOf T c leaf annex) s i (st.exe.all id) pos) := by
  have ok := fun x exe => Agree.ok (hR.setCond x exe)
  have opIf : ∀ notif, Agree c leaf annex
      (if st.exe.all id then
        match st.stack with
        | [] => .fail
        | vch :: r =>
          if c.sv == .tapscript && (vch.length > 1 || (vch.length == 1 && at' vch 0 != 1)) then .fail
          else if c.sv == .witnessV0 && has c.flags VER_MINIMALIF && (vch.length > 1 || (vch.length == 1 && at' vch 0 != 1)) then .fail
          else .ok { st with stack := r, exe := (if notif then !bts2bool vch else bts2bool vch) :: st.exe }
       else .ok { st with exe := false :: st.exe })
      (ScriptSpec.opIf (envOf T c leaf annex) s (st.exe.all id) notif) := by
    intro notif
    unfold ScriptSpec.opIf
    rw [hR.stack, hR.cond]
    cases st.exe.all id
    · exact ok _ _
    · cases s.stack with
      | nil => exact Agree.fail
      | cons v r =>
        simp only [nonMinimalIf_eq, bts2bool_eq, flag_minimalif, envOf_sv, envOf_f]
        exact Agree.guard fun _ => Agree.guard fun _ => ok _ _
  obtain ⟨iop, idata, iafter⟩ := i
  simp only [isCondOp, Bool.or_eq_true, beq_iff_eq] at hs
  rcases hs with ((h|h)|h)|h <;> subst h
  · exact opIf false
  · exact opIf true
  · show Agree c leaf annex (match st.exe with | [] => _ | _ :: _ => _) (ScriptSpec.opElse s)
    unfold ScriptSpec.opElse
    rw [hR.stack, hR.cond, condOf_empty]
    cases st.exe with
    | nil => exact Agree.panic
    | cons b r => rw [condOf_toggle]; exact ok _ _
  · show Agree c leaf annex (match st.exe with | [] => _ | _ :: _ => _) (ScriptSpec.opEndif s)
    unfold ScriptSpec.opEndif
    rw [hR.stack, hR.cond, condOf_empty]
    cases st.exe with
    | nil => exact Agree.panic
    | cons b r => rw [condOf_pop]; exact ok _ _

/-- opcodes that no branch of either interpreter knows (plus the disabled ones, which the frame rejects first) -/
def isBadOp (op : Nat) : Bool :=
  op == 0x50 || op == 0x62 || op == 0x65 || op == 0x66 || op == 0x89 || op == 0x8a || decide (op ≥ 0xbb) || isDisabled op

theorem bad_agree (inexec : Bool) (hs : isBadOp i.op = true) :
    Agree c leaf annex (execOp c st i.op idx pos inexec) (ScriptSpec.execOpcode (envOf T c leaf annex) s i inexec pos) := by
  obtain ⟨op, idata, iafter⟩ := i
  by_cases hbig : op ≥ 0xbb
  · have e : ∀ k, k < 0xbb → (op == k) = false := by intro k hk; simp; omega
    have l : ∀ k, k < 0xbb → decide (op ≤ k) = false := by intro k hk; simp; omega
    rw [show execOp c st op idx pos inexec = .fail by simp [execOp, isBinArith, e, l],
      show ScriptSpec.execOpcode (envOf T c leaf annex) s ⟨op, idata, iafter⟩ inexec pos = .error .BAD_OPCODE by
        simp [ScriptSpec.execOpcode, ScriptSpec.isShuffle, ScriptSpec.isUnaryNum, ScriptSpec.isBinaryNum, e, l, ethrow]]
    exact Agree.fail
  · simp only [isBadOp, isDisabled, Bool.or_eq_true, beq_iff_eq, decide_eq_true_eq, hbig, false_or, or_assoc] at hs
    rcases hs with h|h|h|h|h|h|h|h|h|h|h|h|h|h|h|h|h|h|h|h|h <;> subst h <;> exact Agree.fail

end GocoinV.Proofs.C01
