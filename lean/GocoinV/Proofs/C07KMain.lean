/-
  Proofs.C07KMain — whole histories and every crash point: one induction over the operation boundaries of a history (`run_good`)
  gives the consistency invariant `J`, no panic and the tip at the highest block (`K`) and the undo files at every crash prefix
  (`UP`) (well-formed blocks, no undo file of another block read); the restarted node converges to the uninterrupted run's final
  state; a clean restart is the identity.
  Core Lean only.
-/
import GocoinV.Proofs.C07KHist
import GocoinV.Model.PersistSpec
namespace GocoinV.Proofs.C07
open GocoinV.Persist

variable {bs : List Block} {s : St}

/-! ### an error is sticky -/

theorem step_err_some (s : St) (op : Op) (h : s.err.isSome = true) : (step s op).err.isSome = true := by
  cases op with
  | submit b => simp only [step]; unfold submit; rw [if_pos h]; exact h
  | idle => simp only [step]; unfold idle; rw [if_pos h]; exact h
  | close => simp only [step]; unfold close; rw [if_pos h]; exact h
  | reopen | hurry => simp only [step]; rw [if_pos h]; exact h
  | skip _ | pause _ => exact h

theorem foldl_step_err : ∀ (ops : List Op) (s : St), (ops.foldl step s).err = none → s.err = none
  | [], _, h => h
  | op :: rest, s, h => by
    have h1 := foldl_step_err rest _ h
    exact Option.not_isSome_iff_eq_none.1 (mt (step_err_some s op) (by simp [h1]))

/-! ### whole histories -/

theorem init_K (bigs : List Coin) : K { n := { bigs := bigs }, d := {} } := by
  refine ⟨⟨rfl, ?_, ?_, ?_⟩, ?_⟩
  · intro r hr; cases hr
  · intro t ht; cases ht
  · intro h h1 h2; exact absurd h2 (by show ¬ h ≤ 0; omega)
  · intro t ht; cases ht

theorem init_UP (bigs : List Coin) : UP {} { n := { bigs := bigs }, d := {} } :=
  ⟨rfl, fun k => by simp only [List.take_nil]; exact UInv.empty⟩

theorem submitted_append : ∀ (a b : List Op), submitted (a ++ b) = submitted a ++ submitted b
  | [], _ => rfl
  | op :: a, b => by cases op <;> simp [submitted, submitted_append a b]

/-- the blocks of a history around its `j`-th operation, a submit -/
theorem submitted_split {ops : List Op} {j : Nat} (h : j < ops.length) {b : Block} (e : ops[j] = .submit b) :
    submitted ops = submitted (ops.take j) ++ b :: submitted (ops.drop (j + 1)) := by
  conv => lhs; rw [← List.take_append_drop j ops, List.drop_eq_getElem_cons h, submitted_append, e]
  rfl

theorem mem_submitted_of_getElem {ops : List Op} {j : Nat} (h : j < ops.length) {b : Block} (e : ops[j] = .submit b) :
    b ∈ submitted ops := by
  rw [submitted_split h e]
  simp

/-- everything the invariants on top of `InvQ` say about a state of a history -/
structure Good (bs : List Block) (s : St) : Prop where
  j : J bs s
  k : K s
  u : UP {} s

/-- every history that reads no foreign undo file (in-history restarts included), at every operation boundary `j`: the
    consistency invariant holds, no panic, the tip is the highest block of the tree, and every crash prefix has the undo files
    of its snapshots -/
theorem run_good (hwf : WF bs) (bigs : List Coin) (ops : List Op) (hb : ∀ b ∈ submitted ops, b ∈ bs)
    (hf : (run bigs ops).foreign = false) : ∀ j, Good bs (run bigs (ops.take j))
  | 0 => ⟨init_J bigs, init_K bigs, init_UP bigs⟩
  | j + 1 => by
    have g := run_good hwf bigs ops hb hf j
    by_cases hj : j < ops.length
    · obtain ⟨g1, g2, g3⟩ := g
      obtain ⟨q, hq⟩ := run_invQ bigs ops j (by omega)
      have hbo : ∀ b, ops[j] = .submit b → b ∈ bs := fun b e => hb b (mem_submitted_of_getElem hj e)
      have hf1 : (run bigs (ops.take (j + 1))).foreign = false := run_prefix_foreign bigs ops _ hf
      rw [run_take_succ bigs ops j hj] at hf1 ⊢
      obtain ⟨k1, u1⟩ := step_K hwf hq g1 g2 g3 _ hbo hf1
      exact ⟨step_J hwf hq g1 _ hbo hf1, k1, u1⟩
    · rw [List.take_of_length_le (by omega)] at g ⊢
      exact g

theorem run_prefix_J (hwf : WF bs) (bigs : List Coin) (ops : List Op) (hb : ∀ b ∈ submitted ops, b ∈ bs)
    (hf : (run bigs ops).foreign = false) (j : Nat) : J bs (run bigs (ops.take j)) :=
  (run_good hwf bigs ops hb hf j).j

theorem run_J (hwf : WF bs) (bigs : List Coin) (ops : List Op) (hb : ∀ b ∈ submitted ops, b ∈ bs)
    (hf : (run bigs ops).foreign = false) : J bs (run bigs ops) := by
  have := run_prefix_J hwf bigs ops hb hf ops.length
  rwa [List.take_length] at this

theorem run_K (hwf : WF bs) (bigs : List Coin) (ops : List Op) (hb : ∀ b ∈ submitted ops, b ∈ bs)
    (hf : (run bigs ops).foreign = false) :
    K (run bigs ops) ∧ UP {} (run bigs ops) := by
  have := run_good hwf bigs ops hb hf ops.length
  rw [List.take_length] at this
  exact ⟨this.k, this.u⟩

/-! ### feeding blocks -/

/-- parents are handed to the node before their children -/
def PFrom : List BlockId → List Block → Prop
  | _, [] => True
  | seen, b :: r => (b.parent = 0 ∨ b.parent ∈ seen) ∧ PFrom (b.id :: seen) r

def ParentsFirst (l : List Block) : Prop := PFrom [] l

theorem foldl_submit_K (hwf : WF bs) : ∀ (l : List Block) (s : St) (seen : List BlockId), J bs s → K s → (∀ b ∈ l, b ∈ bs) →
    (l.foldl submit s).foreign = false →
    J bs (l.foldl submit s) ∧ K (l.foldl submit s) ∧ (∀ t ∈ s.n.tree, t ∈ (l.foldl submit s).n.tree) ∧
    ((∀ id ∈ seen, InT s.n.tree id) → PFrom seen l → ∀ b ∈ l, InT (l.foldl submit s).n.tree b.id)
  | [], _, _, hj, hk, _, _ => ⟨hj, hk, fun _ h => h, fun _ _ _ h => by cases h⟩
  | b :: rest, s, seen, hj, hk, hb, hf => by
    have hf1 : (submit s b).foreign = false := foldl_submit_mono rest _ hf
    have hbb := hb b (by simp)
    have j1 := submit_J hwf hj b hbb hf1
    obtain ⟨k1, _, m1, a1⟩ := submit_K hwf hj hk b hbb hf1
    obtain ⟨j2, k2, m2, a2⟩ := foldl_submit_K hwf rest (submit s b) (b.id :: seen) j1 k1 (fun x hx => hb x (by simp [hx])) hf
    refine ⟨j2, k2, fun t ht => m2 t (m1 t ht), ?_⟩
    intro hseen hpf
    have hbin : InT (submit s b).n.tree b.id := a1 (hpf.1.imp id (hseen _))
    exact List.forall_mem_cons.2 ⟨inT_mono m2 hbin,
      a2 (List.forall_mem_cons.2 ⟨hbin, fun id hid => inT_mono m1 (hseen id hid)⟩) hpf.2⟩

/-- an operation other than a restart only adds to the tree; AcceptBlock of a block whose parent is known adds it -/
theorem step_tree (hwf : WF bs) (hj : J bs s) (hk : K s) (op : Op) (hb : ∀ b, op = .submit b → b ∈ bs)
    (hf : (step s op).foreign = false) (hnr : op ≠ Op.reopen) :
    (∀ t ∈ s.n.tree, t ∈ (step s op).n.tree) ∧
    ∀ b, op = .submit b → (b.parent = 0 ∨ InT s.n.tree b.parent) → InT (step s op).n.tree b.id := by
  cases op with
  | submit b =>
    obtain ⟨_, _, m1, a1⟩ := submit_K hwf hj hk b (hb b rfl) hf
    exact ⟨m1, fun b' e hp => by cases e; exact a1 hp⟩
  | idle =>
    refine ⟨fun t ht => ?_, fun b e => by cases e⟩
    show t ∈ (idle s).n.tree
    rw [(idle_K hj hk).2.2.tree]; exact ht
  | close =>
    refine ⟨fun t ht => ?_, fun b e => by cases e⟩
    show t ∈ (close s).n.tree
    rw [(close_K hj hk).2.2.tree]; exact ht
  | skip _ | pause _ => exact ⟨fun _ h => h, fun b e => by cases e⟩
  | hurry =>
    refine ⟨fun t ht => ?_, fun b e => by cases e⟩
    simp only [step]
    split
    · exact ht
    · rw [(hurrySave_neutral (bs := bs) s).tree]; exact ht
  | reopen => exact absurd rfl hnr

/-- a block handed over after `l1` has its parent among the ids seen before or among `l1` -/
theorem PFrom.mid : ∀ {l1 : List Block} {seen : List BlockId} {b : Block} {l2 : List Block}, PFrom seen (l1 ++ b :: l2) →
    b.parent = 0 ∨ b.parent ∈ seen ∨ ∃ x ∈ l1, x.id = b.parent
  | [], _, _, _, h => h.1.imp id Or.inl
  | x :: l1, _, _, _, h => by
    rcases PFrom.mid (l1 := l1) h.2 with h0 | h1 | ⟨y, hy, e⟩
    · exact Or.inl h0
    · rcases List.mem_cons.1 h1 with h1 | h1
      · exact Or.inr (Or.inr ⟨x, by simp, h1.symm⟩)
      · exact Or.inr (Or.inl h1)
    · exact Or.inr (Or.inr ⟨y, by simp [hy], e⟩)

/-- at every operation boundary the tree holds every block submitted so far -/
theorem run_prefix_accepts (bigs : List Coin) (ops : List Op) (hwf : WF (submitted ops)) (hpf : ParentsFirst (submitted ops))
    (hf : (run bigs ops).foreign = false) (hnr : ∀ op ∈ ops, op ≠ Op.reopen) :
    ∀ j, j ≤ ops.length → ∀ b ∈ submitted (ops.take j), InT (run bigs (ops.take j)).n.tree b.id
  | 0, _, b, hb => by simp [submitted] at hb
  | j + 1, hj, b, hb => by
    have ih := run_prefix_accepts bigs ops hwf hpf hf hnr j (by omega)
    obtain ⟨g1, g2, _⟩ := run_good hwf bigs ops (fun _ h => h) hf j
    have hf1 : (run bigs (ops.take (j + 1))).foreign = false := run_prefix_foreign bigs ops _ hf
    rw [run_take_succ bigs ops j hj] at hf1 ⊢
    obtain ⟨m1, a1⟩ := step_tree hwf g1 g2 ops[j] (fun b e => mem_submitted_of_getElem hj e) hf1 (hnr _ (List.getElem_mem hj))
    rw [List.take_add_one, List.getElem?_eq_getElem hj, submitted_append] at hb
    rcases List.mem_append.1 hb with hb | hb
    · exact inT_mono m1 (ih b hb)
    · -- `b` is the block the j-th operation submits: its parent came earlier
      have e : ops[j] = .submit b := by
        cases e : ops[j] <;> simp [e, submitted] at hb
        rw [hb]
      refine a1 b e ?_
      rcases PFrom.mid (submitted_split hj e ▸ hpf : PFrom [] (submitted (ops.take j) ++ b :: submitted (ops.drop (j + 1)))) with h0 | h1 | ⟨x, hx, ex⟩
      · exact Or.inl h0
      · cases h1
      · exact Or.inr (ex ▸ ih x hx)

/-- a history without an in-history restart whose blocks arrive parents first: every block is in the tree at the end -/
theorem run_accepts_all (bigs : List Coin) (ops : List Op) (hwf : WF (submitted ops)) (hpf : ParentsFirst (submitted ops))
    (hf : (run bigs ops).foreign = false) (hnr : ∀ op ∈ ops, op ≠ Op.reopen) :
    ∀ b ∈ submitted ops, InT (run bigs ops).n.tree b.id := by
  have := run_prefix_accepts bigs ops hwf hpf hf hnr ops.length (Nat.le_refl _)
  rwa [List.take_length] at this

/-! ### the tip is THE best block -/

def IsBest (bs : List Block) (id : BlockId) : Prop :=
  (id = 0 ∧ bs = []) ∨ ∃ b ∈ bs, b.id = id ∧ ∀ x ∈ bs, x.height ≤ b.height

/-- the maximal height is attained by one block only -/
def UniqueBest (bs : List Block) : Prop :=
  ∀ b ∈ bs, ∀ b' ∈ bs, (∀ x ∈ bs, x.height ≤ b.height) → (∀ x ∈ bs, x.height ≤ b'.height) → b = b'

theorem tip_isBest (hwf : WF bs) (hj : J bs s) (hk : K s) (hall : ∀ b ∈ bs, InT s.n.tree b.id) : IsBest bs s.n.tip := by
  obtain ⟨path, hc⟩ := hj.chain
  have hle : ∀ x ∈ bs, x.height ≤ s.n.tipHeight := by
    intro x hx
    obtain ⟨t, ht, e⟩ := hall x hx
    rw [← (tree_of_block hwf hj.jd hx ht e).2]
    exact hk.maxH t ht
  cases path with
  | nil =>
    left
    refine ⟨hc.tip, ?_⟩
    apply List.eq_nil_iff_forall_not_mem.2
    intro x hx
    have h1 := hle x hx
    rw [hc.tipH] at h1
    rcases hwf.height x hx with ⟨_, h2⟩ | ⟨p, _, _, h2⟩ <;> (rw [h2] at h1; simp at h1)
  | cons b rest =>
    right
    refine ⟨b, hc.ok.1, hc.tip.symm, ?_⟩
    rw [← Chain.tipHeight_eq hwf hc hc.ok.1 hc.tip]
    exact hle

theorem isBest_unique (hu : UniqueBest bs) {a b : BlockId} (h1 : IsBest bs a) (h2 : IsBest bs b) : a = b := by
  rcases h1 with ⟨a0, an⟩ | ⟨x, hx, ex, mx⟩
  · rcases h2 with ⟨b0, _⟩ | ⟨y, hy, _, _⟩
    · rw [a0, b0]
    · rw [an] at hy; cases hy
  · rcases h2 with ⟨_, bn⟩ | ⟨y, hy, ey, my⟩
    · rw [bn] at hx; cases hx
    · rw [← ex, ← ey, hu x hx y hy mx my]

/-! ### every crash point -/

-- `crashS3` / `crashForeign` (the restart after crash point k computed WITHOUT stopping at a panic, and its ghost flag) live in
-- Model/PersistSpec.lean: the oracle reports the flag also where the model's restart panics.

theorem clientRecover_noop (s : St) (h : (farthest s.n).2.1 ≤ s.n.tipHeight) : clientRecover s = s := by
  simp only [clientRecover, if_pos h]

/-- the three stages of `crashAt` (NewChainExt on the crash prefix, the client's recovery loop, feeding every block) -/
theorem crash_J (hwf : WF bs) (bigs : List Coin) (ops : List Op) (k : Nat) (hb : ∀ b ∈ submitted ops, b ∈ bs)
    (hrun : (run bigs ops).foreign = false) {s1 s2 s3 : St} (hc : crashAt bigs ops k = .ok (s1, s2, s3)) :
    J bs s1 ∧ (s2.foreign = false → J bs s2) ∧ (s3.foreign = false → J bs s3) := by
  have hw := run_J hwf bigs ops hb hrun
  obtain ⟨q, hq⟩ := run_inv bigs ops
  have hd := hq.pref k
  have hp := hw.jd.prov_take k
  obtain ⟨t1, ho, _⟩ := openNode_inv hd bigs 0
  obtain ⟨h1, _, _⟩ := openNode_J hwf hp hd bigs 0 ho
  simp only [crashAt, ho] at hc
  split at hc
  · cases hc
  · split at hc
    · cases hc
    · simp only [Except.ok.injEq, Prod.mk.injEq] at hc
      obtain ⟨rfl, rfl, rfl⟩ := hc
      have k2 : (clientRecover t1).foreign = false → J bs (clientRecover t1) := clientRecover_J hwf h1
      refine ⟨h1, k2, ?_⟩
      intro hf3
      have hf3 : (idle ((submitted ops).foldl submit { clientRecover t1 with es := [] })).foreign = false := hf3
      rw [idle_foreign] at hf3
      have h2 := k2 (foldl_submit_mono _ { clientRecover t1 with es := [] } hf3)
      exact idle_J (foldl_submit_J hwf _ _ h2.clearEs hb hf3)

/-- the three stages after ANY crash point of ANY such history: no stage panics; the invariants hold at each -/
theorem crash_K (hwf : WF bs) (bigs : List Coin) (ops : List Op) (k : Nat) (hb : ∀ b ∈ submitted ops, b ∈ bs)
    (hrun : (run bigs ops).foreign = false) (hcr : crashForeign bigs ops k = false) :
    ∃ s1 s2 s3, crashAt bigs ops k = .ok (s1, s2, s3) ∧ J bs s2 ∧ K s2 ∧ J bs s3 ∧ K s3 ∧
      (PFrom [] (submitted ops) → ∀ b ∈ submitted ops, InT s3.n.tree b.id) := by
  have hw := run_J hwf bigs ops hb hrun
  obtain ⟨_, hup⟩ := run_K hwf bigs ops hb hrun
  obtain ⟨q, hq⟩ := run_inv bigs ops
  have hd := hq.pref k
  have hp := hw.jd.prov_take k
  have hu := hup.pref k
  obtain ⟨s1, ho, _, _, _, _, _⟩ := openNode_inv hd bigs 0
  obtain ⟨j1, _, _⟩ := openNode_J hwf hp hd bigs 0 ho
  obtain ⟨k1, _, _, d1⟩ := openNode_K hd hu bigs 0 ho
  have hcr : (idle ((submitted ops).foldl submit { clientRecover s1 with es := [] })).foreign = false := by
    simp only [crashForeign, crashS3, ho] at hcr
    exact hcr
  rw [idle_foreign] at hcr
  have hf2 : (clientRecover s1).foreign = false := foldl_submit_mono _ { clientRecover s1 with es := [] } hcr
  obtain ⟨k2, _, _, _⟩ := clientRecover_K hwf j1 k1 (fun t ht => (d1 t ht).2) hf2
  have j2 := clientRecover_J hwf j1 hf2
  have k2' : K { clientRecover s1 with es := [] } := k2.congr rfl rfl rfl rfl rfl rfl rfl
  obtain ⟨j3, k3, _, a3⟩ := foldl_submit_K hwf (submitted ops) _ [] j2.clearEs k2' hb hcr
  obtain ⟨k4, _, n4⟩ := idle_K j3 k3
  have j4 := idle_J j3
  refine ⟨s1, clientRecover s1, feedAll { clientRecover s1 with es := [] } (submitted ops), ?_, j2, k2, j4, k4, ?_⟩
  · have e3 : (feedAll { clientRecover s1 with es := [] } (submitted ops)).err = none := k4.k0.err
    have hst : ({ clientRecover s1 with es := [] } : St) =
        { n := (clientRecover s1).n, d := (clientRecover s1).d, foreign := (clientRecover s1).foreign } := by
      show St.mk _ _ _ _ _ = St.mk _ _ _ _ _
      rw [k2.k0.err]
    simp only [crashAt, ho, k2.k0.err]
    rw [← hst, e3]
  · intro hpf b hbm
    show InT (idle _).n.tree b.id
    rw [n4.tree]
    exact a3 (fun _ h => by cases h) hpf b hbm

/-- crash consistency: all four conjuncts of `consistentAt` at every crash point -/
theorem crash_consistent' (bigs : List Coin) (ops : List Op) (k : Nat) (hwf : WF (submitted ops))
    (hpf : ParentsFirst (submitted ops)) (huniq : UniqueBest (submitted ops))
    (hacc : ∀ b ∈ submitted ops, InT (run bigs ops).n.tree b.id)
    (hrun : (run bigs ops).foreign = false) (hcr : crashForeign bigs ops k = false) :
    consistentAt bigs ops k = true := by
  obtain ⟨s1, s2, s3, hc, j2, _, j3, k3, a3⟩ := crash_K hwf bigs ops k (fun _ h => h) hrun hcr
  have jw := run_J hwf bigs ops (fun _ h => h) hrun
  obtain ⟨kw, _⟩ := run_K hwf bigs ops (fun _ h => h) hrun
  have htip : s3.n.tip = (run bigs ops).n.tip :=
    isBest_unique huniq (tip_isBest hwf j3 k3 (a3 hpf)) (tip_isBest hwf jw kw hacc)
  obtain ⟨r2a, r2b⟩ := j2.result hwf
  obtain ⟨_, r3b⟩ := j3.result hwf
  obtain ⟨_, rwb⟩ := jw.result hwf
  unfold consistentAt
  rw [hc]
  simp only [Bool.and_eq_true, Bool.or_eq_true, beq_iff_eq, List.any_eq_true]
  refine ⟨⟨⟨r2a, r2b⟩, htip⟩, ?_⟩
  rw [sameSet_iff] at r3b rwb ⊢
  rw [htip] at r3b
  exact r3b.trans rwb.symm

/-! ### clean shutdown -/

/-- after Close no block in the re-opened tree is higher than the re-opened tip (so the client's recovery loop has nothing to do) -/
theorem clean_restart_maxH (bigs : List Coin) (ops : List Op) (hwf : WF (submitted (ops ++ [.close])))
    (hrun : (run bigs (ops ++ [.close])).foreign = false) :
    ∃ s1, openNode (run bigs (ops ++ [.close])).d bigs 0 = .ok s1 ∧
      s1.n.tip = (run bigs (ops ++ [.close])).n.tip ∧ s1.n.utxo = (run bigs (ops ++ [.close])).n.utxo ∧
      s1.err = none ∧ ∀ t ∈ s1.n.tree, t.height ≤ s1.n.tipHeight := by
  have jw := run_J hwf bigs (ops ++ [.close]) (fun _ h => h) hrun
  obtain ⟨kw, uw⟩ := run_K hwf bigs (ops ++ [.close]) (fun _ h => h) hrun
  obtain ⟨q, hq⟩ := run_inv bigs (ops ++ [.close])
  obtain ⟨s1, ho, e1, e2, e3⟩ := clean_restart_reopen' bigs ops kw.k0.err
  obtain ⟨j1, _, he1⟩ := openNode_J hwf jw.jd.prov hq.disk bigs 0 ho
  obtain ⟨_, _, th1, d1⟩ := openNode_K hq.disk uw.disk bigs 0 ho
  obtain ⟨pathw, hcw⟩ := jw.chain
  refine ⟨s1, ho, e1, e2, he1, ?_⟩
  intro t ht
  obtain ⟨⟨r, hr, rid, rh⟩, _⟩ := d1 t ht
  have hrid : r.id ∈ ids (run bigs (ops ++ [.close])).d := List.mem_map_of_mem hr
  obtain ⟨rec, hrm, hre⟩ := List.find?_isSome.1 (hq.node.idxRec r.id hrid)
  obtain ⟨tw, htw, etw⟩ := kw.k0.recT rec hrm
  obtain ⟨b, hb, b1, _, b3⟩ := jw.jd.prov.idxB r hr
  have := (tree_of_block hwf jw.jd hb htw (etw.trans ((beq_iff_eq.1 hre).trans b1.symm))).2
  rw [← rh, ← b3, ← this, th1, e3, hcw.lastH, ← hcw.tipH]
  exact kw.maxH tw htw

theorem clean_restart' (bigs : List Coin) (ops : List Op) (hwf : WF (submitted (ops ++ [.close])))
    (hrun : (run bigs (ops ++ [.close])).foreign = false) :
    cleanRestartOK bigs (ops ++ [.close]) = true := by
  obtain ⟨s1, ho, e1, e2, he1, hmax⟩ := clean_restart_maxH bigs ops hwf hrun
  have hne := (run_K hwf bigs (ops ++ [.close]) (fun _ h => h) hrun).1.k0.err
  have hrec : recover (run bigs (ops ++ [.close])).d bigs = .ok s1 := by
    simp only [recover, ho, clientRecover_noop s1 (farthest_le s1 hmax), he1]
  unfold cleanRestartOK
  simp only [hne, hrec, e1, e2, Bool.and_eq_true, beq_iff_eq, true_and, and_true]
  rw [sameSet_iff]; exact SameSet.refl _

end GocoinV.Proofs.C07
