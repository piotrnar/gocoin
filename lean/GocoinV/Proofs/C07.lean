/-
  Proofs.C07 — the write protocols of the persistence model at EVERY prefix of their effect lists (the undo file: write
  undo/tmp, rename; a block: data file, then index record; a snapshot: rename UTXO.db to UTXO.old, write the tmp file,
  rename): what a restart finds is the old state or, only after the last effect, the new one. Also what NewUnspentDb's
  removals leave untouched, and that a block's own undo data restores the coin set.  Core Lean only.
-/
import GocoinV.Model.PersistSpec
namespace GocoinV.Proofs.C07
open GocoinV.Persist

/-- which snapshot NewUnspentDb loads: UTXO.db, else UTXO.old -/
def loadSnap (d : Disk) : Option Snap :=
  match d.db with
  | some s => some s
  | none => d.old

theorem loadSnap_of (d d' : Disk) (h1 : d'.db = d.db) (h2 : d'.old = d.old) : loadSnap d' = loadSnap d := by
  simp [loadSnap, h1, h2]

theorem applyAll_cons (d : Disk) (e : LEffect) (es : List LEffect) :
    applyAll d (e :: es) = applyAll (apply d e.1) es := rfl

theorem applyAll_nil (d : Disk) : applyAll d [] = d := rfl

theorem applyAll_append (d : Disk) (a b : List LEffect) :
    applyAll d (a ++ b) = applyAll (applyAll d a) b := by
  simp [applyAll]

theorem removeTmps_fields (ts : List Tmp) : ∀ d : Disk,
    let d' := applyAll d (ts.map (fun t => (Effect.removeTmp t.tip, Pt.recovery)))
    d'.db = d.db ∧ d'.old = d.old ∧ d'.undo = d.undo ∧ d'.undoTmp = d.undoTmp ∧ d'.idx = d.idx ∧ d'.dat = d.dat := by
  induction ts with
  | nil => intro d; simp [applyAll]
  | cons t ts ih =>
    intro d
    have := ih (apply d (Effect.removeTmp t.tip))
    simpa [applyAll_cons, apply] using this

theorem recoverUnspent_fst (d : Disk) :
    (recoverUnspent d).1 = applyAll (apply d .removeUndoTmp) (d.tmps.map (fun t => (Effect.removeTmp t.tip, Pt.recovery))) := by
  simp [recoverUnspent, applyAll_cons]

theorem recover_fields (d : Disk) :
    (recoverUnspent d).1.db = d.db ∧ (recoverUnspent d).1.old = d.old ∧ (recoverUnspent d).1.undo = d.undo ∧
    (recoverUnspent d).1.undoTmp = none ∧ (recoverUnspent d).1.idx = d.idx ∧ (recoverUnspent d).1.dat = d.dat := by
  rw [recoverUnspent_fst]
  have := removeTmps_fields d.tmps (apply d .removeUndoTmp)
  simpa [apply] using this

theorem recover_snap (d : Disk) : (recoverUnspent d).2.2 = loadSnap d :=
  loadSnap_of d (recoverUnspent d).1 (recover_fields d).1 (recover_fields d).2.1

/-! ### undo file -/

theorem getUndo_setUndo_same (l : List (Nat × UndoFile)) (h : Nat) (u : UndoFile) :
    getUndo (setUndo l h u) h = some u := by
  simp [getUndo, setUndo]

theorem find_filter_ne (l : List (Nat × UndoFile)) (h h' : Nat) (hne : h' ≠ h) :
    List.find? (fun p => p.1 == h') (l.filter (fun p => p.1 != h)) = List.find? (fun p => p.1 == h') l := by
  rw [List.find?_filter]
  congr 1; funext p
  by_cases e : p.1 = h' <;> simp [e, hne]

theorem getUndo_setUndo_other (l : List (Nat × UndoFile)) (h h' : Nat) (u : UndoFile) (hne : h' ≠ h) :
    getUndo (setUndo l h u) h' = getUndo l h' := by
  unfold getUndo setUndo
  simp [hne.symm, find_filter_ne l h h' hne]

theorem undo_write_atomic' (d : Disk) (u : UndoFile) (h : Nat) (k : Nat) :
    let d' := (recoverUnspent (applyAll d ((undoWriteEffects u h).take k))).1
    (getUndo d'.undo h = getUndo ((recoverUnspent d).1).undo h ∨ getUndo d'.undo h = some u) ∧
    (∀ h', h' ≠ h → getUndo d'.undo h' = getUndo d.undo h') ∧ d'.undoTmp = none := by
  intro d'
  have hf := recover_fields (applyAll d ((undoWriteEffects u h).take k))
  have h0 := recover_fields d
  -- the undo directory at the prefix: untouched, or (both effects done) with `u` set at `h`
  have hu : (applyAll d ((undoWriteEffects u h).take k)).undo = d.undo ∨
      (applyAll d ((undoWriteEffects u h).take k)).undo = setUndo d.undo h u := by
    match k with
    | 0 => left; rfl
    | 1 => left; rfl
    | k + 2 => right; simp [undoWriteEffects, applyAll, apply]
  rw [show d'.undo = _ from hf.2.2.1, h0.2.2.1]
  rcases hu with e | e <;> rw [e]
  · exact ⟨Or.inl rfl, fun _ _ => rfl, hf.2.2.2.1⟩
  · exact ⟨Or.inr (getUndo_setUndo_same _ _ _), fun h' hne => getUndo_setUndo_other _ _ _ _ hne, hf.2.2.2.1⟩

/-! ### block append -/

theorem block_append_atomic' (d : Disk) (b : Block) (r : IdxRec) (hr : r.id = b.id) (k : Nat)
    (hinv : ∀ x ∈ d.idx, ∃ y ∈ d.dat, y.id = x.id) :
    let d' := applyAll d ((appendEffects b r).take k)
    (d'.idx = d.idx ∨ d'.idx = d.idx ++ [r]) ∧ (∀ x ∈ d'.idx, ∃ y ∈ d'.dat, y.id = x.id) := by
  have grow : ∀ x ∈ d.idx, ∃ y ∈ d.dat ++ [b], y.id = x.id := by
    intro x hx
    obtain ⟨y, hy, e⟩ := hinv x hx
    exact ⟨y, List.mem_append_left _ hy, e⟩
  have full : ∀ x ∈ d.idx ++ [r], ∃ y ∈ d.dat ++ [b], y.id = x.id :=
    List.forall_mem_append.2 ⟨grow, List.forall_mem_singleton.2 ⟨b, by simp, hr.symm⟩⟩
  rcases k with _ | _ | _ | _ | k
  · exact ⟨Or.inl rfl, hinv⟩
  · exact ⟨Or.inl rfl, hinv⟩
  · exact ⟨Or.inl rfl, grow⟩
  · exact ⟨Or.inr rfl, full⟩
  · have e : (appendEffects b r).take (k + 1 + 1 + 1 + 1) = appendEffects b r := by simp [appendEffects]
    simp only [e]
    exact ⟨Or.inr rfl, full⟩

/-! ### own undo data restores the set -/

theorem undo_own_commit' (u : List Coin) (b : Block)
    (hv : validOn u b = true) (hfresh : ∀ c ∈ b.creates, c ∉ u) :
    ∀ c, c ∈ undoU (commitU u b) b b.spends ↔ c ∈ u := by
  intro c
  have hs : ∀ x ∈ b.spends, x ∈ u := by
    simpa [validOn] using hv
  simp only [undoU, commitU, List.mem_append, List.mem_filter, List.contains_eq_mem, Bool.not_eq_true',
    decide_eq_false_iff_not]
  constructor
  · rintro (⟨h1 | h1, h2⟩ | ⟨h1, _⟩)
    · exact h1.1
    · exact absurd h1 h2
    · exact hs c h1
  · intro hc
    by_cases hsp : c ∈ b.spends
    · right
      refine ⟨hsp, ?_⟩
      rintro ⟨h1 | h1, h2⟩
      · exact h1.2 hsp
      · exact h2 h1
    · left
      exact ⟨Or.inl ⟨hc, hsp⟩, fun hcr => hfresh c hcr hc⟩

/-! ### snapshot save -/

theorem fullChunks_es (t : BlockId) : ∀ (k : Nat) (s : St),
    (fullChunks s t k).es = s.es ++ chunkEffects t k ∧ (fullChunks s t k).n = s.n := by
  intro k
  induction k with
  | zero => intro s; simp [fullChunks, chunkEffects]
  | succ k ih =>
    intro s
    have := ih ((s.emit .nop .saveChunk).emit (.chunkTmp t) .fileChunk)
    simp only [fullChunks, chunkEffects]
    constructor
    · rw [this.1]; simp [St.emit]
    · rw [this.2]; rfl

theorem finishSave_es (s : St) (sn : Snap) :
    (finishSave s sn).es = s.es ++ [(.nop, .saveFinito), (.chunkTmp sn.tip, .fileChunk), (.flushTmp sn.tip, .fileClosed), (.renameTmpDb sn.tip, .fileRenamed)] := by
  simp [finishSave, St.emit]

theorem startSave_effects' (s : St) (h1 : s.n.saving = none) (h2 : s.n.pause = false) :
    (startSave s false).es = s.es ++ saveEffects ⟨s.n.tip, s.n.lastHeight, s.n.utxo⟩ (nBig s.n) := by
  unfold startSave
  simp only [h1, Option.isSome_none, Bool.false_eq_true, if_false]
  have hp : (((s.emit .nop .saveBegin).emit .renameDbOld .saveRenamedOld).emit (.createTmp ⟨s.n.tip, s.n.lastHeight, s.n.utxo⟩) .fileCreated).n.pause = false := h2
  simp only [hp, Bool.false_and, Bool.false_eq_true, if_false]
  rw [finishSave_es, (fullChunks_es _ _ _).1]
  simp [St.emit, saveEffects]

def keeper : Effect → Bool
  | .nop | .chunkTmp _ | .flushTmp _ => true
  | _ => false

theorem apply_keeper_db (d : Disk) (e : Effect) (h : keeper e = true) :
    (apply d e).db = d.db ∧ (apply d e).old = d.old := by
  cases e <;> simp_all [keeper, apply]

theorem applyAll_keeper_db (es : List LEffect) : ∀ d : Disk, (∀ e ∈ es, keeper e.1 = true) →
    (applyAll d es).db = d.db ∧ (applyAll d es).old = d.old :=
  fun d h => List.foldlRecOn (motive := fun d' => d'.db = d.db ∧ d'.old = d.old) es _ ⟨rfl, rfl⟩ fun d' h2 e he =>
    ⟨(apply_keeper_db d' e.1 (h e he)).1.trans h2.1, (apply_keeper_db d' e.1 (h e he)).2.trans h2.2⟩

/-- the tmp file of the snapshot being written exists and will hold `sn` -/
def hasTmp (d : Disk) (sn : Snap) : Prop :=
  ∃ x, d.tmps.find? (fun y => y.tip == sn.tip) = some x ∧ x.snap = sn

theorem apply_keeper (d : Disk) (e : Effect) (sn : Snap) (h : keeper e = true) (ht : hasTmp d sn) :
    hasTmp (apply d e) sn := by
  obtain ⟨x, hx, hs⟩ := ht
  -- rewriting every tmp file by an `f` that keeps name and content keeps the tmp file of `sn`
  have key : ∀ f : Tmp → Tmp, (∀ y, (f y).tip = y.tip ∧ (f y).snap = y.snap) → hasTmp { d with tmps := d.tmps.map f } sn :=
    fun f hf => ⟨f x, by simp only [List.find?_map, Function.comp_def, (hf _).1, hx, Option.map_some], (hf x).2.trans hs⟩
  cases e <;> simp [keeper] at h
  · exact ⟨x, hx, hs⟩
  all_goals exact key _ fun y => by split <;> exact ⟨rfl, rfl⟩

theorem applyAll_keeper (es : List LEffect) (sn : Snap) : ∀ d : Disk, (∀ e ∈ es, keeper e.1 = true) →
    hasTmp d sn → hasTmp (applyAll d es) sn :=
  fun _ h ht => List.foldlRecOn (motive := (hasTmp · sn)) es _ ht fun d' hd e he => apply_keeper d' e.1 sn (h e he) hd

theorem chunkEffects_keeper (t : BlockId) (n : Nat) : ∀ e ∈ chunkEffects t n, keeper e.1 = true := by
  induction n with
  | zero => intro e he; simp [chunkEffects] at he
  | succ n ih => exact List.forall_mem_append.2 ⟨by simp [keeper], ih⟩

def saveMid (sn : Snap) (n : Nat) : List LEffect :=
  chunkEffects sn.tip n ++ [(.nop, .saveFinito), (.chunkTmp sn.tip, .fileChunk), (.flushTmp sn.tip, .fileClosed)]

theorem saveMid_keeper (sn : Snap) (n : Nat) : ∀ e ∈ saveMid sn n, keeper e.1 = true :=
  List.forall_mem_append.2 ⟨chunkEffects_keeper _ _, by simp [keeper]⟩

theorem saveEffects_split (sn : Snap) (n : Nat) :
    saveEffects sn n = (.nop, .saveBegin) :: (.renameDbOld, .saveRenamedOld) :: (.createTmp sn, .fileCreated) ::
      (saveMid sn n ++ [(.renameTmpDb sn.tip, .fileRenamed)]) := by
  simp [saveEffects, saveMid]

theorem loadSnap_some {d : Disk} {sn : Snap} (h : loadSnap d = some sn) : d.db = some sn ∨ d.old = some sn := by
  unfold loadSnap at h
  split at h
  · rename_i x hx; cases h; exact Or.inl hx
  · exact Or.inr h

theorem loadSnap_rename (d : Disk) : loadSnap (apply d .renameDbOld) = loadSnap d := by
  unfold loadSnap apply
  cases h : d.db <;> simp [h]

theorem save_crash_atomic' (d : Disk) (sn : Snap) (n k : Nat) :
    let d' := applyAll d ((saveEffects sn n).take k)
    (recoverUnspent d').2.2 = (recoverUnspent d).2.2 ∨
      ((saveEffects sn n).length ≤ k ∧ (recoverUnspent d').2.2 = some sn) := by
  intro d'
  rw [recover_snap, recover_snap]
  have hsplit := saveEffects_split sn n
  rcases k with _ | _ | _ | k
  · left; rfl
  · left; simp [d', hsplit, applyAll, apply]
  · left
    have : d' = apply d .renameDbOld := by simp [d', hsplit, applyAll, apply]
    rw [this]; exact loadSnap_rename d
  · -- three effects done: UTXO.db renamed away, tmp created
    let d3 := apply (apply d .renameDbOld) (.createTmp sn)
    have h3 : loadSnap d3 = loadSnap d := by
      rw [← loadSnap_rename d]
      exact loadSnap_of _ _ rfl rfl
    have ht3 : hasTmp d3 sn := ⟨{ tip := sn.tip, snap := sn, chunks := 0, flushed := false }, by simp [d3, apply], rfl⟩
    have hd' : d' = applyAll d3 ((saveMid sn n ++ [(Effect.renameTmpDb sn.tip, Pt.fileRenamed)]).take k) := by
      show applyAll d (List.take (k + 1 + 1 + 1) (saveEffects sn n)) = _
      rw [hsplit]; rfl
    rw [hd']
    by_cases hk : k ≤ (saveMid sn n).length
    · left
      rw [List.take_append_of_le_length hk]
      have hp := applyAll_keeper_db ((saveMid sn n).take k) d3 (fun e he => saveMid_keeper sn n e (List.mem_of_mem_take he))
      rw [loadSnap_of _ _ hp.1 hp.2, h3]
    · right
      constructor
      · rw [hsplit]; simp; omega
      · rw [List.take_of_length_le (by simp; omega), applyAll_append]
        obtain ⟨x, hx, hs⟩ := applyAll_keeper (saveMid sn n) sn d3 (saveMid_keeper sn n) ht3
        generalize applyAll d3 (saveMid sn n) = dm at hx
        show loadSnap (apply dm (.renameTmpDb sn.tip)) = some sn
        simp only [apply, hx, loadSnap, hs]

end GocoinV.Proofs.C07
