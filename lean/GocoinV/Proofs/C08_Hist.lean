/-
  Proofs.C08_Hist — operation sequences on point objects (Model.GroupHist) and several callers of InvVar at once
  (Model.GroupSched). What `XY.SetXYZ` leaves in its ARGUMENT is an admissible triple (magnitudes 1, Z = 1) for the
  SAME point — it is `SetXY` of the result — so the object can be converted again or computed with. Every call of a
  history (`HOp.law`: all but mul_lambda and ECmult) keeps every register within the contract and commutes with the
  reference machine on points (`HOp.ref`), by the per-operation theorems of C08_Group / C08_MultGenFull / C08_Api.
  With a private number every caller of InvVar is where it would be alone, under every schedule.
-/
import GocoinV.Model.GroupHist
import GocoinV.Base.Sched
import GocoinV.Model.GroupSched
import GocoinV.Proofs.C08_Api

namespace GocoinV.C08
open GocoinV.Gen.Field5x52

/-! ### the argument of SetXYZ -/

theorem afterSetXYZ_eq (a : XYZ) : XYZ.afterSetXYZ a = XYZ.ofXY (XY.ofXYZ a) := by
  cases a; rfl

/-- `XY.SetXYZ`: the affine result is within the contract and stands for the same point -/
theorem ofXYZ_ok (a : XYZ) (ha : a.ok) : (XY.ofXYZ a).ok ∧ (XY.ofXYZ a).toPoint = a.toPoint := by
  obtain ⟨sx, sy, si⟩ := ofXYZ_S a ha
  refine ⟨⟨mag_mono sx.1 (by decide), mag_mono sy.1 (by decide)⟩, ?_⟩
  unfold XY.toPoint XYZ.toPoint
  rw [si, sx.2, sy.2]

/-- `XY.SetXYZ` leaves in its argument an admissible triple for the same point -/
theorem afterSetXYZ_ok (a : XYZ) (ha : a.ok) :
    (XYZ.afterSetXYZ a).ok ∧ (XYZ.afterSetXYZ a).inf = a.inf ∧ (XYZ.afterSetXYZ a).toPoint = a.toPoint := by
  obtain ⟨hxy, hpt⟩ := ofXYZ_ok a ha
  obtain ⟨h1, h2⟩ := ofXY_ok (XY.ofXYZ a) hxy
  rw [afterSetXYZ_eq]
  exact ⟨h1, (ofXYZ_S a ha).2.2, h2.trans hpt⟩

/-! ### histories -/

def Regs.ok (r : Regs) : Prop := (∀ a ∈ r.J, a.ok) ∧ (∀ b ∈ r.A, b.ok)

/-- the points the registers stand for -/
def Regs.points (r : Regs) : PRegs := ⟨r.J.map XYZ.toPoint, r.A.map XY.toPoint⟩

/-- writing a value that is within the contract and stands for `p` keeps the file within the contract and writes `p` -/
theorem setJ_ok {r r' : Regs} {k : Nat} {v : XYZ} {p : Secp.Point} (hr : r.ok) (hv : v.ok ∧ v.toPoint = p)
    (h : setJ r k v = some r') : r'.ok ∧ setPJ r.points k p = some r'.points := by
  unfold setJ at h
  split at h
  · rename_i hk
    injection h with h
    subst h
    refine ⟨⟨fun a ha => ?_, hr.2⟩, ?_⟩
    · rcases List.mem_or_eq_of_mem_set ha with h | h
      · exact hr.1 a h
      · rw [h]; exact hv.1
    · unfold setPJ Regs.points
      simp only [List.length_map, hk, if_true, List.map_set, hv.2]
  · exact absurd h (by simp)

theorem setA_ok {r r' : Regs} {k : Nat} {v : XY} {p : Secp.Point} (hr : r.ok) (hv : v.ok ∧ v.toPoint = p)
    (h : setA r k v = some r') : r'.ok ∧ setPA r.points k p = some r'.points := by
  unfold setA at h
  split at h
  · rename_i hk
    injection h with h
    subst h
    refine ⟨⟨hr.1, fun a ha => ?_⟩, ?_⟩
    · rcases List.mem_or_eq_of_mem_set ha with h | h
      · exact hr.2 a h
      · rw [h]; exact hv.1
    · unfold setPA Regs.points
      simp only [List.length_map, hk, if_true, List.map_set, hv.2]
  · exact absurd h (by simp)

theorem getJ_points (r : Regs) (i : Nat) : r.points.J[i]? = (r.J[i]?).map XYZ.toPoint := by
  unfold Regs.points; simp

theorem getA_points (r : Regs) (i : Nat) : r.points.A[i]? = (r.A[i]?).map XY.toPoint := by
  unfold Regs.points; simp

theorem getJ_ok {r : Regs} (hr : r.ok) {i : Nat} {a : XYZ} (h : r.J[i]? = some a) : a.ok :=
  hr.1 a (List.mem_of_getElem? h)

theorem getA_ok {r : Regs} (hr : r.ok) {i : Nat} {a : XY} (h : r.A[i]? = some a) : a.ok :=
  hr.2 a (List.mem_of_getElem? h)

/-- one call: the contract is kept and the points follow the group law -/
theorem step_ok (o : HOp) (hl : o.law = true) (r r' : Regs) (hr : r.ok) (h : o.step r = some r') :
    r'.ok ∧ o.ref r.points = some r'.points := by
  cases o <;> simp only [HOp.step, HOp.ref, getJ_points, getA_points] at h ⊢
  case dbl i k =>
    cases hi : r.J[i]? with
    | none => simp [hi] at h
    | some a => rw [hi] at h; exact setJ_ok hr (double_ok a (getJ_ok hr hi)) h
  case add i j k =>
    cases hi : r.J[i]? with
    | none => simp [hi] at h
    | some a =>
      cases hj : r.J[j]? with
      | none => simp [hi, hj] at h
      | some b => rw [hi, hj] at h; exact setJ_ok hr (add_ok a b (getJ_ok hr hi) (getJ_ok hr hj)) h
  case addxy i j k =>
    cases hi : r.J[i]? with
    | none => simp [hi] at h
    | some a =>
      cases hj : r.A[j]? with
      | none => simp [hi, hj] at h
      | some b => rw [hi, hj] at h; exact setJ_ok hr (addXY_ok a b (getJ_ok hr hi) (getA_ok hr hj)) h
  case neg i k =>
    cases hi : r.J[i]? with
    | none => simp [hi] at h
    | some a => rw [hi] at h; exact setJ_ok hr (neg_ok a (getJ_ok hr hi)) h
  case negxy i k =>
    cases hi : r.A[i]? with
    | none => simp [hi] at h
    | some a => rw [hi] at h; exact setA_ok hr (negXY_ok a (getA_ok hr hi)) h
  case setxyz i k =>
    cases hi : r.J[i]? with
    | none => simp [hi] at h
    | some a =>
      rw [hi] at h
      simp only [] at h
      have ha := getJ_ok hr hi
      obtain ⟨f1, _, f3⟩ := afterSetXYZ_ok a ha
      cases hs : setA r k (XY.ofXYZ a) with
      | none => simp [hs] at h
      | some r1 =>
        rw [hs] at h
        obtain ⟨g1, g2⟩ := setA_ok hr (ofXYZ_ok a ha) hs
        obtain ⟨k1, k2⟩ := setJ_ok g1 ⟨f1, f3⟩ h
        exact ⟨k1, by simp only [Option.map_some, g2, k2]⟩
  case setxy i k =>
    cases hi : r.A[i]? with
    | none => simp [hi] at h
    | some a => rw [hi] at h; exact setJ_ok hr (ofXY_ok a (getA_ok hr hi)) h
  case gen s k => exact setJ_ok hr ⟨(ecmultGen_ref s).1, ecmultGen_mul s⟩ h
  case lam | mult => exact absurd hl (by simp [HOp.law])

/-! ### several callers of InvVar -/

namespace InvSched

/-- with a private number a step neither reads nor changes the shared cell -/
theorem stepTh_private (c1 c2 : Nat) (t : Th) :
    (stepTh false c1 t).1 = (stepTh false c2 t).1 ∧ (stepTh false c1 t).2 = c1 := by
  unfold stepTh
  simp only [Bool.false_eq_true, if_false]
  split
  · exact ⟨rfl, rfl⟩
  · split
    · exact ⟨rfl, rfl⟩
    · split <;> exact ⟨rfl, rfl⟩

theorem stepTh_private_cell (cell : Nat) (t : Th) : (stepTh false cell t).2 = cell := (stepTh_private cell cell t).2

theorem alone_succ' (t : Th) (n : Nat) : alone t (n + 1) = (stepTh false 0 (alone t n)).1 :=
  Sched.alone_succ alone _ (fun _ => rfl) (fun _ _ => rfl) t n

theorem step_private_ths (s : St) (j i : Nat) :
    (step false s j).ths[i]? = if i = j then (s.ths[i]?).map (fun t => (stepTh false 0 t).1) else s.ths[i]? := by
  unfold step
  cases h : s.ths[j]? with
  | none => by_cases hij : i = j <;> simp [hij, h]
  | some t =>
    simp only [(stepTh_private s.cell 0 t).1]
    exact Sched.getElem?_set_of_getElem? h (fun t => (stepTh false 0 t).1) i

/-- with a private number, after any schedule every caller is where it would be had it made its own steps alone -/
theorem thread_alone (ts : List Th) (cell : Nat) (sched : List Nat) (i : Nat) :
    (run false ⟨cell, ts⟩ sched).ths[i]? = (ts[i]?).map (alone · (sched.count i)) :=
  Sched.run_private alone _ (fun _ => rfl) (fun _ _ => rfl) St.ths (step false) step_private_ths _ sched i

/-- alone, three steps: load, invert, store — the result is the modular inverse of the caller's own value -/
theorem alone_three (v : Nat) : (alone (Th.init v) 3).out = Secp.invMod v P ∧ (alone (Th.init v) 3).pc = 3 := by
  simp [alone, stepTh, Th.init]

theorem alone_done (t : Th) (h : t.pc = 3) (n : Nat) : alone t n = t := by
  induction n with
  | zero => rfl
  | succ n ih =>
    show alone (stepTh false 0 t).1 n = t
    have : (stepTh false 0 t).1 = t := by
      unfold stepTh; simp [h]
    rw [this, ih]

theorem alone_add (t : Th) (m n : Nat) : alone t (m + n) = alone (alone t m) n :=
  Sched.alone_add alone _ (fun _ => rfl) (fun _ _ => rfl) t m n

theorem alone_ge_three (v n : Nat) (h : 3 ≤ n) : (alone (Th.init v) n).out = Secp.invMod v P := by
  obtain ⟨k, rfl⟩ := Nat.exists_eq_add_of_le h
  rw [alone_add, alone_done _ (alone_three v).2]
  exact (alone_three v).1

theorem count_finish (n i : Nat) (h : i < n) : 3 ≤ (finish n).count i := by
  induction n with
  | zero => exact absurd h (Nat.not_lt_zero _)
  | succ k ih =>
    unfold finish
    rw [List.count_append]
    by_cases e : i = k
    · subst e; simp
    · have := ih (by omega)
      omega

/-- with a private number, whatever the interleaving: once everybody has returned, every caller holds `invVar` of
    its own argument -/
theorem finished_results (as : List Fe) (sched : List Nat) :
    (run false (start (as.map argVal)) (sched ++ finish as.length)).ths.map (fun t => Fe.ofNat t.out) =
      as.map invVar := by
  apply List.ext_getElem?
  intro i
  unfold start
  rw [List.getElem?_map, thread_alone, List.getElem?_map, List.getElem?_map, List.getElem?_map]
  cases hi : as[i]? with
  | none => rfl
  | some a =>
    have := count_finish as.length i (List.getElem?_eq_some_iff.1 hi).1
    simp only [Option.map_some]
    rw [alone_ge_three _ _ (by rw [List.count_append]; omega)]; rfl

end InvSched
end GocoinV.C08
