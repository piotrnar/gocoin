/-
  Proofs.C13Inst —
  (1) the DER assembly inside `Tx.Sign` / `Tx.SignWitness` (Model/WalletDer.lean) equals C03's `Signature.Bytes()` on the
      same (r, s), followed by the hash-type byte; hence on `Signature.Sign`'s output it is the `ecdsaDer … ++ [1]` that
      `signatures_verify` is stated for, and the scriptSig / witness the wallet model assembles are the ones of `Tx.Sign` /
      `Tx.SignWitness`;
  (2) `walletOracles`: THE oracle instance built from C02's and C03's model functions (digest requests = C02's functions on
      the signed transaction with the empty cache, `ecdsaVerify` / `schnorrVerify` = C03's models, HASH160 = the wallet's):
      the four hypotheses of `signatures_verify` that "name which function the oracle is" hold for it by construction;
  (3) namespace `WalletTx.Inst`: a concrete instance of ALL hypotheses of `signatures_verify`, one input of each of the four
      owned types (real secp256k1 arithmetic and C02 / C03 model functions, toy hash functions), which the `example`s at the
      end of Props/C13.lean instantiate the theorem with.
-/
import GocoinV.Proofs.C13Final
import GocoinV.Proofs.C13Digest
import GocoinV.Model.WalletDer
import GocoinV.Proofs.C03Curve
namespace GocoinV.WalletTx
open GocoinV.WalletSpec GocoinV.ScriptSpec GocoinV.Proofs.C13S GocoinV.Proofs.C13L GocoinV.Model GocoinV.SigHash
open GocoinV.Script (Oracles TxCtx SigVersion)

/-! ### (1) Tx.Sign's own DER assembly = Signature.Bytes() -/

theorem txSignInt_eq_derInt (v : Nat) : txSignInt v = Sig.derInt v := by
  unfold txSignInt Sig.derInt
  cases Sig.natBytes v <;> simp

/-- the blob `busig` that `Tx.Sign` / `Tx.SignWitness` build from (r, s) is `Signature.Bytes()` of (r, s) followed by the
    hash-type byte — including the panic case (r = 0 or s = 0: `rb[0]` on an empty slice in all three functions) -/
theorem txSignBusig_eq_sigBytes (r s : Nat) (ht : UInt8) :
    txSignBusig r s ht = (Sig.sigBytes r s).map (· ++ [ht]) := by
  unfold txSignBusig Sig.sigBytes
  rw [txSignInt_eq_derInt, txSignInt_eq_derInt]
  cases Sig.derInt r <;> cases Sig.derInt s <;> simp

/-- on the output of a successful `Signature.Sign` (R ≠ 0) the wallet's own assembly yields exactly the signer of
    `signatures_verify`: `ecdsaDer d m k` (C03's Sign + Bytes) followed by SIGHASH_ALL -/
theorem txSign_is_ecdsaDer (d k : Nat) (m : Bytes) (hd0 : 0 < d) (hdn : d < Secp.n) (hok : SignOk d m k) :
    ∃ r s recid, Sig.sign d (beVal m) k = some (r, s, recid) ∧
      txSignBusig r s 1 = some (ecdsaDer d m k ++ [1]) := by
  obtain ⟨r, s, recid, hsign, hr⟩ := hok
  obtain ⟨der, hder, _, _⟩ := Proofs.C03.own_signature_accepted d k r s recid m hd0 hdn hsign hr
  refine ⟨r, s, recid, hsign, ?_⟩
  rw [txSignBusig_eq_sigBytes, hder]
  simp [ecdsaDer, hsign, hder]

/-- `Tx.Sign`'s scriptSig and `Tx.SignWitness`'s witness stack are what the wallet model's `signInput` assembles -/
theorem txSign_assembly (busig pub : Bytes) :
    txSignScriptSig busig pub = push1 busig ++ push1 pub ∧ txSignWitness busig pub = [busig, pub] := by
  simp [txSignScriptSig, txSignWitness, push1]

/-! ### (2) the oracle instance made of C02's and C03's model functions -/

/-- script-verification oracles for input `i` of the (signed) transaction `tv`: digests = C02's model functions on `tv`
    (empty cache), signature checks = C03's models, HASH160 = `h160`; the remaining fields (SHA-1, RIPEMD-160, …, the
    taproot tweak check — not used by the four templates) are taken from `base` -/
def walletOracles (base : Oracles) (sha h160 : Bytes → Bytes) (tagged : GocoinV.C03.Hash) (tv : Tx) (spent : List TxOut)
    (i amount : Nat) : Oracles :=
  { base with
    hash160 := h160
    sigHashLegacy := fun sc ht => (signatureHash sha (toWire tv) sc i ht).digest?
    sigHashWitV0 := fun sc ht => (witnessSigHash sha (toWire tv) {} sc amount i ht).1.digest?
    sigHashTap := fun ah tl cp ht scr =>
      (taprootSigHash true sha (toWire tv) (spent.map wireOut) {}
        { annexHash := ah, tapleafHash := tl, codesepPos := cp } i ht scr).1.digest?
    ecdsaVerify := fun pk sg dg => some (Sig.ecdsaVerify true pk sg dg)
    schnorrVerify := fun pk sg dg => some (Sig.schnorrVerify tagged pk sg dg) }

theorem walletOracles_digests (base : Oracles) (sha h160 : Bytes → Bytes) (tagged : GocoinV.C03.Hash) (tv : Tx)
    (spent : List TxOut) (i amount : Nat) :
    DigestsAreC02 (walletOracles base sha h160 tagged tv spent i amount) sha tv spent i amount :=
  ⟨fun _ _ => rfl, fun _ _ => ⟨{}, Cache.OK_empty _ _ _, rfl⟩, ⟨{}, Cache.OK_empty _ _ _, rfl⟩⟩

end GocoinV.WalletTx

/-! ### (3) a concrete instance of ALL hypotheses of `signatures_verify`, one input of each of the four owned types
    (used by the `example`s at the end of Props/C13.lean).
    REAL in it: the secp256k1 arithmetic, the key (secret 1, compressed public key 02‖Gx), C03's `Signature.Sign` /
    `Bytes()` / `SchnorrSign` / verify models, C02's three digest functions on the transaction, the script templates and the
    whole reference interpreter. TOY, and only where the theorem is parametric: `sha` (a polynomial hash instead of
    SHA-256 — Base/Sha256.lean is a `while` loop the kernel cannot unfold), HASH160 (its first 20 bytes), the BIP340 tagged
    hash (constant 2) and the nonce source (constant 2) — the theorem holds for every such function. -/
namespace GocoinV.WalletTx.Inst
open GocoinV GocoinV.WalletTx GocoinV.WalletSpec GocoinV.Model GocoinV.Proofs.C13L GocoinV.Proofs.C13S

def toySha : Bytes → Bytes := fun b =>
  beBytes 32 (b.foldl (fun a x => (a * 257 + x.toNat + 1) % 0xffffffffffffffffffffffffffffffffffffffffffffffffffffffffffffff43) 7)
def Ht : Addr.Hashes := { sha2sum := fun b => toySha (toySha b), hash160 := fun b => (toySha b).take 20 }
def K0 : C03Signer := { secs := [1], nonce := fun _ _ => 2, aux := fun _ _ => [], tagged := fun _ => beBytes 32 2 }
def cI : Cfg :=
  { testnet := false, bech32 := false, fee := 1000, subfee := false, useAll := false, seq := 4294967293,
    lockTime := 0, version := 2, change := none, msg := [] }
def pubI : Bytes := Secp.ser33 (Secp.mul 1 Secp.G)
def krI : KeyRec := mkKey Ht false pubI
def inpI : TxIn := ⟨List.replicate 32 9, 1, [], 4294967293⟩
def tI : Tx := { version := 2, ins := [inpI], outs := [⟨50000, p2pkhScript (List.replicate 20 5)⟩], wit := none, lockTime := 0 }
def uoPkh : TxOut := { value := 60000, script := p2pkhScript krI.h160 }
def uoWpkh : TxOut := { value := 60000, script := p2wpkhScript krI.h160 }
def uoSh : TxOut := { value := 60000, script := p2shScript krI.segH160 }
def uoTr : TxOut := { value := 60000, script := p2trScript ((krI.pub.drop 1).take 32) }
abbrev WC : Crypto := c02Crypto toySha Ht.hash160 (Sig.ecdsaVerify true) (Sig.schnorrVerify K0.tagged)
abbrev ksI : List KeyRec := keyTable Ht cI.bech32 K0.pubs

theorem keyI : ksI[0]? = some krI := rfl

theorem singleKey {P : Nat → KeyRec → Prop} (h : P 0 krI) : ∀ j kr, ksI[j]? = some kr → P j kr := by
  intro j kr hk
  cases j with
  | zero => rw [keyI] at hk; cases hk; exact h
  | succ j => simp [ksI, keyTable, K0, C03Signer.pubs] at hk

theorem signOk_of_eval (d : Nat) (m : Bytes) (k : Nat)
    (h : (Sig.sign d (beVal m) k).map (fun t => decide (t.1 ≠ 0)) = some true) : SignOk d m k := by
  obtain ⟨⟨r, s, c⟩, hs, ht⟩ := Option.map_eq_some_iff.mp h
  exact ⟨r, s, c, hs, by simpa using ht⟩

/-- `CallsOk` and the no-clash condition for one (input, key) pair as one test -/
def pairB (C : Crypto) (K : C03Signer) (sk : Skeleton) (spent : List TxOut) (i : Nat) (uo : TxOut) (j : Nat) (kr : KeyRec) : Bool :=
  let signOkB (m : Bytes) : Bool :=
    (Sig.sign (K.secs.getD j 0) (beVal m) (K.nonce j m)).map (fun t => decide (t.1 ≠ 0)) == some true
  (uo.script.length != 25 || signOkB (C.legacyDigest sk i uo.script 1)) &&
  (!(uo.script.length == 22 || uo.script.length == 23) || signOkB (C.witnessDigest sk i (p2pkhScript kr.h160) uo.value 1)) &&
  (uo.script.length != 34 ||
    (Sig.schnorrSign K.tagged (C.taprootDigest sk spent i 0) (beBytes 32 (K.secs.getD j 0))
      (K.aux j (C.taprootDigest sk spent i 0))).isSome) &&
  (K.signer.ecdsa j (C.legacyDigest sk i uo.script 1) ++ [1] != kr.h160)

/-- every (input, key) pair of the two tables passes the test -/
def tableB (C : Crypto) (K : C03Signer) (sk : Skeleton) (spent : List TxOut) (ks : List KeyRec) : Bool :=
  (List.range spent.length).all fun i => (List.range ks.length).all fun j =>
    match spent[i]?, ks[j]? with
    | some uo, some kr => pairB C K sk spent i uo j kr
    | _, _ => true

theorem table_of_B {C : Crypto} {K : C03Signer} {sk : Skeleton} {spent : List TxOut} {ks : List KeyRec}
    (h : tableB C K sk spent ks = true) (i : Nat) (uo : TxOut) (hi : spent[i]? = some uo) (j : Nat) (kr : KeyRec)
    (hj : ks[j]? = some kr) :
    CallsOk C K sk spent i uo j kr.h160 ∧ K.signer.ecdsa j (C.legacyDigest sk i uo.script 1) ++ [1] ≠ kr.h160 := by
  have := List.all_eq_true.mp (List.all_eq_true.mp h i (List.mem_range.mpr (List.getElem?_eq_some_iff.mp hi).1)) j
    (List.mem_range.mpr (List.getElem?_eq_some_iff.mp hj).1)
  simp only [hi, hj, pairB, Bool.and_eq_true, Bool.or_eq_true, bne_iff_ne, ne_eq, Bool.not_eq_true', beq_iff_eq,
    Bool.or_eq_false_iff, beq_eq_false_iff_ne] at this
  obtain ⟨⟨⟨h1, h2⟩, h3⟩, h4⟩ := this
  exact ⟨⟨fun e => signOk_of_eval _ _ _ (h1.resolve_left (fun n => n e)),
    fun e => signOk_of_eval _ _ _ (h2.resolve_left (fun n => e.elim n.1 n.2)),
    fun e => h3.resolve_left (fun n => n e)⟩, h4⟩

theorem hashLenI : ∀ b, (Ht.hash160 b).length = 20 := by intro b; simp [Ht, toySha, beBytes]
theorem keysI : ∀ d ∈ K0.secs, 0 < d ∧ d < Secp.n := by
  intro d hd; simp [K0] at hd; subst hd; exact ⟨by decide, by decide⟩
theorem nonzeroI : ∀ (k : Nat) (kr : KeyRec), ksI[k]? = some kr →
    ScriptSpec.castToBool kr.h160 = true ∧ ScriptSpec.castToBool ((kr.pub.drop 1).take 32) = true :=
  singleKey (by decide +kernel)

theorem callsPkh : ∀ j kr, ksI[j]? = some kr → CallsOk WC K0 (skeleton tI) [uoPkh] 0 uoPkh j kr.h160 :=
  singleKey
    ⟨fun _ => signOk_of_eval _ _ _ (by decide +kernel),
     fun h => absurd h (by decide +kernel), fun h => absurd h (by decide +kernel)⟩
theorem clashPkh : ∀ j kr, ksI[j]? = some kr →
    K0.signer.ecdsa j (WC.legacyDigest (skeleton tI) 0 uoPkh.script 1) ++ [1] ≠ kr.h160 :=
  singleKey (by decide +kernel)

theorem callsWpkh : ∀ j kr, ksI[j]? = some kr → CallsOk WC K0 (skeleton tI) [uoWpkh] 0 uoWpkh j kr.h160 :=
  singleKey
    ⟨fun h => absurd h (by decide +kernel), fun _ => signOk_of_eval _ _ _ (by decide +kernel),
     fun h => absurd h (by decide +kernel)⟩
theorem clashWpkh : ∀ j kr, ksI[j]? = some kr →
    K0.signer.ecdsa j (WC.legacyDigest (skeleton tI) 0 uoWpkh.script 1) ++ [1] ≠ kr.h160 :=
  singleKey (by decide +kernel)

theorem callsSh : ∀ j kr, ksI[j]? = some kr → CallsOk WC K0 (skeleton tI) [uoSh] 0 uoSh j kr.h160 :=
  singleKey
    ⟨fun h => absurd h (by decide +kernel), fun _ => signOk_of_eval _ _ _ (by decide +kernel),
     fun h => absurd h (by decide +kernel)⟩
theorem clashSh : ∀ j kr, ksI[j]? = some kr →
    K0.signer.ecdsa j (WC.legacyDigest (skeleton tI) 0 uoSh.script 1) ++ [1] ≠ kr.h160 :=
  singleKey (by decide +kernel)

theorem callsTr : ∀ j kr, ksI[j]? = some kr → CallsOk WC K0 (skeleton tI) [uoTr] 0 uoTr j kr.h160 :=
  singleKey
    ⟨fun h => absurd h (by decide +kernel), fun h => absurd h (by decide +kernel), fun _ => by
      -- `SchnorrSign` verifies its own signature: (n − e)·P + s·G, evaluated in Jacobian coordinates
      simp only [Sig.schnorrSign, Sig.schnorrVerify, Sig.schnorrVerify?, Sig.ecmult, Proofs.C03.mul_eq_mulJ]
      decide +kernel⟩
theorem clashTr : ∀ j kr, ksI[j]? = some kr →
    K0.signer.ecdsa j (WC.legacyDigest (skeleton tI) 0 uoTr.script 1) ++ [1] ≠ kr.h160 :=
  singleKey (by decide +kernel)

theorem addrPkh : (Addr.fromPkScript Ht uoPkh.script cI.testnet).isSome := by decide +kernel
theorem addrWpkh : (Addr.fromPkScript Ht uoWpkh.script cI.testnet).isSome := by decide +kernel
theorem addrSh : (Addr.fromPkScript Ht uoSh.script cI.testnet).isSome := by decide +kernel
theorem addrTr : (Addr.fromPkScript Ht uoTr.script cI.testnet).isSome := by decide +kernel

end GocoinV.WalletTx.Inst
