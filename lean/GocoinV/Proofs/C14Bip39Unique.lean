/-
  Proofs.C14Bip39Unique — uniqueness direction of the BIP39 codec: what EntropyFromMnemonic accepts is what
  NewMnemonic generates.
-/
import GocoinV.Proofs.C14Bip39
namespace GocoinV.Proofs.C14
open GocoinV Bip39

theorem wordIndex_some (w : Bytes) (i : Nat) (h : wordIndex w = some i) : i < 2048 ∧ wordOf i = w := by
  simp only [wordIndex] at h
  split at h
  · rename_i hlt
    simp only [Option.some.injEq] at h
    subst h
    have hl := wordList_length
    refine ⟨by omega, ?_⟩
    rw [wordOf, ← List.getElem_eq_getD (h := hlt)]
    exact eq_of_beq (List.findIdx_getElem (w := hlt))
  · simp at h

theorem decodeWords_some : ∀ (ws : List Bytes) (b0 b : Nat), decodeWords ws b0 = some b →
    ∃ ds : List Nat, ds.length = ws.length ∧ (∀ d ∈ ds, d < 2048) ∧ ws = ds.map wordOf ∧ b = undigits b0 ds
  | [], b0, b, h => by
    rw [decodeWords] at h
    exact ⟨[], rfl, by simp, rfl, by simpa [undigits] using h.symm⟩
  | w :: t, b0, b, h => by
    rw [decodeWords] at h
    cases hi : wordIndex w with
    | none => simp [hi] at h
    | some i =>
      simp only [hi] at h
      obtain ⟨hlt, hw⟩ := wordIndex_some w i hi
      rw [Nat.mod_eq_of_lt (by omega)] at h
      obtain ⟨ds, h1, h2, h3, h4⟩ := decodeWords_some t _ b h
      exact ⟨i :: ds, by simp [h1], List.forall_mem_cons.mpr ⟨hlt, h2⟩, by simp [hw, h3], by simpa [undigits] using h4⟩

theorem undigits_snoc (b : Nat) (ds : List Nat) (d : Nat) : undigits b (ds ++ [d]) = undigits b ds * 2048 + d :=
  List.foldl_append ..

theorem digits11_undigits : ∀ (k : Nat) (ds : List Nat), ds.length = k → (∀ d ∈ ds, d < 2048) → ∀ b,
    digits11 k (undigits b ds) = ds
  | 0, ds, hl, _, b => by
    have : ds = [] := List.eq_nil_of_length_eq_zero hl
    subst this; rfl
  | k+1, ds, hl, hd, b => by
    rcases List.eq_nil_or_concat ds with rfl | ⟨l, a, rfl⟩
    · cases hl
    rw [List.concat_eq_append] at hl hd ⊢
    have ⟨hdd, ha⟩ := List.forall_mem_append.mp hd
    have hlast := ha a (List.mem_singleton_self a)
    rw [undigits_snoc, digits11]
    have e1 : (undigits b l * 2048 + a) / 2048 = undigits b l := by omega
    have e2 : (undigits b l * 2048 + a) % 2048 = a := by omega
    rw [e1, e2, digits11_undigits k l (by simpa using hl) hdd b]

theorem undigits_lt (ds : List Nat) (hd : ∀ d ∈ ds, d < 2048) : undigits 0 ds < 2048 ^ ds.length := by
  have := undigits_digits11 ds.length (undigits 0 ds) 0
  rw [digits11_undigits ds.length ds rfl hd 0] at this
  have h2 : undigits 0 ds = undigits 0 ds % 2048 ^ ds.length := by omega
  rw [h2]; exact Nat.mod_lt _ (Nat.pow_pos (by decide))


theorem padByteSlice_natBytes (q n : Nat) (h : q < 256 ^ n) : padByteSlice (Base58.natBytes q) n = beBytes n q := by
  have := pad_natBytes_beVal (beBytes n q)
  rwa [beVal_beBytes_of_lt _ _ h, beBytes_length] at this
theorem entropy_unique (C : WalletCrypto) (m e : Bytes) (h : entropyFromMnemonic C m = .ok e) :
    ∃ cs, 4 ≤ cs ∧ cs ≤ 8 ∧ e.length = 4 * cs ∧
      fields m = (digits11 (3 * cs) (beVal e * 2 ^ cs + checksumBits C e cs)).map wordOf := by
  unfold entropyFromMnemonic splitMnemonicWords at h
  by_cases hlen : (fields m).length % 3 ≠ 0 ∨ (fields m).length < 12 ∨ (fields m).length > 24
  · rw [if_pos hlen] at h; cases h
  rw [if_neg hlen] at h
  dsimp only at h
  cases hdec : decodeWords (fields m) 0 with
  | none => rw [hdec] at h; cases h
  | some b =>
    rw [hdec] at h
    obtain ⟨ds, hdl, hdlt, hws, rfl⟩ := decodeWords_some _ 0 b hdec
    obtain ⟨cs, hL⟩ : ∃ cs, (fields m).length = 3 * cs := ⟨(fields m).length / 3, by omega⟩
    have hcs : cs = 4 ∨ cs = 5 ∨ cs = 6 ∨ cs = 7 ∨ cs = 8 := by omega
    have hblt := undigits_lt ds hdlt
    rw [hdl, hL, pow_2048] at hblt
    have hq : undigits 0 ds / 2 ^ cs < 256 ^ (4 * cs) := Nat.div_lt_of_lt_mul (by rwa [Nat.mul_comm])
    have h4 : 3 * cs / 3 * 4 = 4 * cs := by omega
    simp only [hL, checksumMask_eq cs hcs, checksumShift_eq cs _ hcs, h4] at h
    rw [padByteSlice_natBytes _ _ hq] at h
    split at h
    · cases h
    · rename_i hck
      obtain rfl := Except.ok.inj h
      refine ⟨cs, by omega, by omega, by simp [beBytes_length], ?_⟩
      rw [beVal_beBytes_of_lt _ _ hq, checksumBits, ← Classical.not_not.mp hck, Nat.div_add_mod', hws,
        digits11_undigits (3 * cs) ds (by omega) hdlt 0]

end GocoinV.Proofs.C14
