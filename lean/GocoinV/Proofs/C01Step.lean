/-
  Proofs.C01Step — simulation between one iteration of the model's interpreter loop (`Script.stepAt`) and one
  instruction of the spec (`ScriptSpec.execInstr`): the simulation relation `Rel` (with the condition-stack
  correspondence vector form ↔ counter form, `condOf`), how `Rel` survives the updates the opcodes make (`Rel.setStack`, …),
  the lockstep rules for stepping through both programs at once (`Agree.guard`, `Agree.ite`, `Agree.bind`, …), the
  outcome relation `Sim R` for everything outside the loop with the same rules, and the frame of one loop iteration
  (`stepAt_frame`).
-/
import GocoinV.Proofs.C01Cond
namespace GocoinV.Proofs.C01
open GocoinV GocoinV.Script

theorem has_testBit (f k : Nat) : has f (1 <<< k) = f.testBit k := by
  unfold has
  rw [Nat.one_shiftLeft]
  cases h : f.testBit k
  · have : f &&& 2 ^ k = 0 := by
      apply Nat.eq_of_testBit_eq
      intro i
      simp only [Nat.testBit_and, Nat.testBit_two_pow, Nat.zero_testBit]
      by_cases hi : k = i
      · subst hi; simp [h]
      · simp [hi]
    simp [this]
  · have : (f &&& 2 ^ k).testBit k = true := by simp [Nat.testBit_and, h]
    have hne : f &&& 2 ^ k ≠ 0 := by intro h0; rw [h0] at this; simp at this
    simp [hne]

theorem isDisabled_eq (op : Nat) : isDisabled op = ScriptSpec.isDisabledOpcode op := by
  by_cases h : op < 256
  · have all : ∀ n, n < 256 → isDisabled n = ScriptSpec.isDisabledOpcode n := by decide +kernel
    exact all op h
  · unfold isDisabled ScriptSpec.isDisabledOpcode
    have e : ∀ k, k < 256 → (op == k) = false := by intro k hk; simp; omega
    have l : ∀ k, k < 256 → decide (op ≤ k) = false := by intro k hk; simp; omega
    simp [e, l]

theorem checkMinimalPush_eq (d : Bytes) (op : Nat) : checkMinimalPush d op = ScriptSpec.checkMinimalPush d op := by
  unfold checkMinimalPush ScriptSpec.checkMinimalPush at'
  match d with
  | [] => simp
  | [b] =>
    simp only [List.length_cons, List.length_nil, List.getD_cons_zero]
    have c1 : decide (b ≥ 1) = decide (1 ≤ b.toNat) := decide_eq_decide.mpr UInt8.le_iff_toNat_le
    have c2 : decide (b ≤ 16) = decide (b.toNat ≤ 16) := decide_eq_decide.mpr UInt8.le_iff_toNat_le
    rw [c1, c2]
    by_cases h1 : (1 ≤ b.toNat ∧ b.toNat ≤ 16)
    · have : 0x51 + b.toNat - 1 = 0x50 + b.toNat := by omega
      simp [h1, this]
    · have h1' : (decide (1 ≤ b.toNat) && decide (b.toNat ≤ 16)) = false := by simpa using h1
      simp [h1']
  | a :: b :: r => simp

/-- the spec environment that corresponds to a model context (total oracles, no quirks) -/
def envOf (T : TotalOracles) (c : Ctx) (leaf : Bytes) (annex : Option Bytes) : ScriptSpec.Env :=
  ⟨T.toOracles, c.tx, ScriptSpec.Flags.ofMask c.flags, c.sv, {}, leaf, annex⟩

/-- simulation relation between the loop variables of the model and the spec's interpreter state -/
structure Rel (c : Ctx) (leaf : Bytes) (annex : Option Bytes) (st : St) (s : ScriptSpec.State) : Prop where
  stack : st.stack = s.stack
  alt : st.alt = s.alt
  cond : s.cond = condOf st.exe
  opcnt : st.opcnt = s.opCount
  code : c.p.drop st.pbegin = s.code
  csp : st.ed.codesepPos = s.codesepPos
  weight : st.ed.weightLeft = s.weightLeft
  leaf : st.ed.tapleafHash = leaf
  annex : st.ed.annexHash = annex
  /-- legacy scripts without a decode error: the script code decodes to its end (it is a suffix of the script at
      an instruction boundary) and is short -/
  wf : c.sv = .base → (ScriptSpec.parse c.p).2 = false → (ScriptSpec.parse s.code).2 = false ∧ s.code.length < 2 ^ 32

/-- outcomes agree: both succeed in related states, or both fail (a model panic inside the loop is a failure
    of evalScript; the spec names the error) -/
inductive Agree (c : Ctx) (leaf : Bytes) (annex : Option Bytes) : Res St → ScriptSpec.E ScriptSpec.State → Prop
  | ok {a b} : Rel c leaf annex a b → Agree c leaf annex (.ok a) (.ok b)
  | fail {e} : Agree c leaf annex .fail (.error e)
  | panic {e} : Agree c leaf annex .panic (.error e)

theorem agree_ok (c : Ctx) (leaf : Bytes) (annex : Option Bytes) (a : St) (b : ScriptSpec.State) : Agree c leaf annex (.ok a) (Except.ok b) ↔ Rel c leaf annex a b :=
  ⟨fun h => by cases h; assumption, Agree.ok⟩

theorem envOf_f (T : TotalOracles) (c : Ctx) (l : Bytes) (a : Option Bytes) : (envOf T c l a).f = ScriptSpec.Flags.ofMask c.flags := rfl
theorem envOf_sv (T : TotalOracles) (c : Ctx) (l : Bytes) (a : Option Bytes) : (envOf T c l a).sv = c.sv := rfl
theorem envOf_O (T : TotalOracles) (c : Ctx) (l : Bytes) (a : Option Bytes) : (envOf T c l a).O = T.toOracles := rfl
theorem envOf_tx (T : TotalOracles) (c : Ctx) (l : Bytes) (a : Option Bytes) : (envOf T c l a).tx = c.tx := rfl
theorem envOf_q (T : TotalOracles) (c : Ctx) (l : Bytes) (a : Option Bytes) : (envOf T c l a).q = {} := rfl

theorem flag_p2sh (f : Nat) : has f VER_P2SH = (ScriptSpec.Flags.ofMask f).p2sh := has_testBit f 0
theorem flag_strictenc (f : Nat) : has f VER_STRICTENC = (ScriptSpec.Flags.ofMask f).strictenc := has_testBit f 1
theorem flag_dersig (f : Nat) : has f VER_DERSIG = (ScriptSpec.Flags.ofMask f).dersig := has_testBit f 2
theorem flag_lows (f : Nat) : has f VER_LOW_S = (ScriptSpec.Flags.ofMask f).lowS := has_testBit f 3
theorem flag_nulldummy (f : Nat) : has f VER_NULLDUMMY = (ScriptSpec.Flags.ofMask f).nulldummy := has_testBit f 4
theorem flag_sigpushonly (f : Nat) : has f VER_SIGPUSHONLY = (ScriptSpec.Flags.ofMask f).sigpushonly := has_testBit f 5
theorem flag_mindata (f : Nat) : has f VER_MINDATA = (ScriptSpec.Flags.ofMask f).minimaldata := has_testBit f 6
theorem flag_nops (f : Nat) : has f VER_BLOCK_OPS = (ScriptSpec.Flags.ofMask f).discourageNops := has_testBit f 7
theorem flag_cleanstack (f : Nat) : has f VER_CLEANSTACK = (ScriptSpec.Flags.ofMask f).cleanstack := has_testBit f 8
theorem flag_cltv (f : Nat) : has f VER_CLTV = (ScriptSpec.Flags.ofMask f).cltv := has_testBit f 9
theorem flag_csv (f : Nat) : has f VER_CSV = (ScriptSpec.Flags.ofMask f).csv := has_testBit f 10
theorem flag_witness (f : Nat) : has f VER_WITNESS = (ScriptSpec.Flags.ofMask f).witness := has_testBit f 11
theorem flag_witprog (f : Nat) : has f VER_WITNESS_PROG = (ScriptSpec.Flags.ofMask f).discourageWitnessProgram := has_testBit f 12
theorem flag_minimalif (f : Nat) : has f VER_MINIMALIF = (ScriptSpec.Flags.ofMask f).minimalif := has_testBit f 13
theorem flag_nullfail (f : Nat) : has f VER_NULLFAIL = (ScriptSpec.Flags.ofMask f).nullfail := has_testBit f 14
theorem flag_witpubkey (f : Nat) : has f VER_WITNESS_PUBKEY = (ScriptSpec.Flags.ofMask f).witnessPubkeytype := has_testBit f 15
theorem flag_const (f : Nat) : has f VER_CONST_SCRIPTCODE = (ScriptSpec.Flags.ofMask f).constScriptcode := has_testBit f 16
theorem flag_taproot (f : Nat) : has f VER_TAPROOT = (ScriptSpec.Flags.ofMask f).taproot := has_testBit f 17
theorem flag_distapver (f : Nat) : has f VER_DIS_TAPVER = (ScriptSpec.Flags.ofMask f).discourageTaprootVersion := has_testBit f 18
theorem flag_dissuccess (f : Nat) : has f VER_DIS_SUCCESS = (ScriptSpec.Flags.ofMask f).discourageOpSuccess := has_testBit f 19
theorem flag_dispubkey (f : Nat) : has f VER_DIS_PUBKEYTYPE = (ScriptSpec.Flags.ofMask f).discouragePubkeytype := has_testBit f 20

/-- `Rel` ties the two stacks only by equality: both sides may replace them by the same lists -/
theorem Rel.setStacks {c : Ctx} {leaf : Bytes} {annex : Option Bytes} {st : St} {s : ScriptSpec.State}
    (hR : Rel c leaf annex st s) (x y : Stack) :
    Rel c leaf annex { st with stack := x, alt := y } { s with stack := x, alt := y } :=
  { hR with stack := rfl, alt := rfl }

theorem Rel.setStack {c : Ctx} {leaf : Bytes} {annex : Option Bytes} {st : St} {s : ScriptSpec.State}
    (hR : Rel c leaf annex st s) (x : Stack) :
    Rel c leaf annex { st with stack := x } { s with stack := x } :=
  { hR with stack := rfl }

theorem Rel.push {c : Ctx} {leaf : Bytes} {annex : Option Bytes} {st : St} {s : ScriptSpec.State}
    (hR : Rel c leaf annex st s) (d : Bytes) : Rel c leaf annex (st.push d) (ScriptSpec.push s d) :=
  { hR with stack := congrArg (d :: ·) hR.stack }

/-- `throw` and `pure` of the spec's error monad, as constructors -/
theorem ethrow {α : Type} (e : ScriptSpec.ScriptError) : (throw e : ScriptSpec.E α) = .error e := rfl
theorem epure {α : Type} (a : α) : (pure a : ScriptSpec.E α) = .ok a := rfl

section
variable {c : Ctx} {leaf : Bytes} {annex : Option Bytes}

/-- lockstep through a guard: `if p then fail` against `if q then throw e` in front of the rest.
    The statement is a `do` block itself, so it elaborates to the join-point form an unfolded spec function has
    (`have __do_jp := fun _ => y'; if q then throw e >>= __do_jp else __do_jp ()`) and applies to such a goal as it stands.
    Plain `simp only` zeta-reduces the join points and copies the rest of the function into both branches of every
    guard: behind an unfolded spec function use `simp -zeta only`. -/
theorem Agree.guardIff {p q : Prop} [Decidable p] [Decidable q] {e : ScriptSpec.ScriptError} {y : Res St}
    {y' : ScriptSpec.E ScriptSpec.State} (hpq : p ↔ q) (h : ¬ q → Agree c leaf annex y y') :
    Agree c leaf annex (if p then .fail else y) (do
      if q then throw e
      y') := by
  by_cases hq : q
  · rw [if_pos (hpq.mpr hq), if_pos hq]; exact Agree.fail
  · rw [if_neg (mt hpq.mp hq), if_neg hq]; exact h hq

theorem Agree.guard {p : Prop} [Decidable p] {e : ScriptSpec.ScriptError} {y : Res St} {y' : ScriptSpec.E ScriptSpec.State}
    (h : ¬ p → Agree c leaf annex y y') :
    Agree c leaf annex (if p then .fail else y) (do
      if p then throw e
      y') :=
  Agree.guardIff Iff.rfl h

/-- the same with a value coming out of the guard -/
theorem Agree.guardBind {p : Prop} [Decidable p] {e : ScriptSpec.ScriptError} {α : Type} {a : α} {y : Res St}
    {K : α → ScriptSpec.E ScriptSpec.State} (h : ¬ p → Agree c leaf annex y (K a)) :
    Agree c leaf annex (if p then .fail else y) ((if p then throw e else pure a) >>= K) := by
  by_cases hp : p
  · rw [if_pos hp, if_pos hp]; exact Agree.fail
  · rw [if_neg hp, if_neg hp]; exact h hp

theorem Agree.ite {p : Prop} [Decidable p] {x y : Res St} {x' y' : ScriptSpec.E ScriptSpec.State}
    (hx : p → Agree c leaf annex x x') (hy : ¬ p → Agree c leaf annex y y') :
    Agree c leaf annex (if p then x else y) (if p then x' else y') := by
  by_cases hp : p
  · rw [if_pos hp, if_pos hp]; exact hx hp
  · rw [if_neg hp, if_neg hp]; exact hy hp

/-- a guard whose model side hands on a value -/
theorem Agree.guardOk {p q : Prop} [Decidable p] [Decidable q] {e : ScriptSpec.ScriptError} {α : Type} {x : α}
    {K : α → Res St} {y' : ScriptSpec.E ScriptSpec.State} (hpq : p ↔ q) (h : ¬ q → Agree c leaf annex (K x) y') :
    Agree c leaf annex ((if p then .fail else .ok x) >>= K) (do
      if q then throw e
      y') := by
  by_cases hq : q
  · rw [if_pos (hpq.mpr hq), if_pos hq]; exact Agree.fail
  · rw [if_neg (mt hpq.mp hq), if_neg hq]; exact h hq

/-- the model fails at a guard that holds; what remains is that the spec fails too -/
theorem Agree.failedAt {p : Prop} [Decidable p] {y : Res St} {Y : ScriptSpec.E ScriptSpec.State} (hp : p)
    (h : Agree c leaf annex .fail Y) : Agree c leaf annex (if p then .fail else y) Y := by
  rw [if_pos hp]; exact h

/-- the model has failed already: the spec may fail at a guard … -/
theorem Agree.failGuard {q : Prop} [Decidable q] {e : ScriptSpec.ScriptError} {y' : ScriptSpec.E ScriptSpec.State}
    (h : Agree c leaf annex .fail y') :
    Agree c leaf annex .fail (do
      if q then throw e
      y') := by
  by_cases hq : q
  · rw [if_pos hq]; exact Agree.fail
  · rw [if_neg hq]; exact h

/-- … or behind a step, whatever that step yields -/
theorem Agree.failBind {α : Type} {X : ScriptSpec.E α} {K : α → ScriptSpec.E ScriptSpec.State}
    (h : ∀ a, Agree c leaf annex .fail (K a)) : Agree c leaf annex .fail (X >>= K) := by
  cases X with
  | error e => exact Agree.fail
  | ok a => exact h a
end

/-- both sides continue from related states: failures and panics of the first part carry over -/
theorem Agree.bind {c : Ctx} {leaf : Bytes} {annex : Option Bytes} {X : Res St} {Y : ScriptSpec.E ScriptSpec.State}
    {K : St → Res St} {K' : ScriptSpec.State → ScriptSpec.E ScriptSpec.State} (h : Agree c leaf annex X Y)
    (hK : ∀ a b, Rel c leaf annex a b → Agree c leaf annex (K a) (K' b)) : Agree c leaf annex (X >>= K) (Y >>= K') := by
  cases h with
  | fail => exact Agree.fail
  | panic => exact Agree.panic
  | ok h => exact hK _ _ h

/-- outcomes outside the interpreter loop, where no `recover` stands: both sides succeed with `R`-related results, or
    the rules raise an error and the Go function returns false -/
inductive Sim {α β : Type} (R : α → β → Prop) : Res α → ScriptSpec.E β → Prop
  | ok {a b} : R a b → Sim R (.ok a) (.ok b)
  | fail {e} : Sim R .fail (.error e)

theorem sim_ok {α β : Type} {R : α → β → Prop} {a : α} {b : β} : Sim R (.ok a) (Except.ok b) ↔ R a b :=
  ⟨fun h => by cases h; assumption, Sim.ok⟩
theorem sim_fail {α β : Type} {R : α → β → Prop} {e : ScriptSpec.ScriptError} :
    Sim R (.fail : Res α) (Except.error e : ScriptSpec.E β) ↔ True := ⟨fun _ => trivial, fun _ => Sim.fail⟩

namespace Sim
variable {α β : Type} {R : α → β → Prop}

theorem ite {p : Prop} [Decidable p] {x y : Res α} {x' y' : ScriptSpec.E β}
    (hx : p → Sim R x x') (hy : ¬ p → Sim R y y') : Sim R (if p then x else y) (if p then x' else y') := by
  by_cases hp : p
  · rw [if_pos hp, if_pos hp]; exact hx hp
  · rw [if_neg hp, if_neg hp]; exact hy hp

theorem guardIff {p q : Prop} [Decidable p] [Decidable q] {e : ScriptSpec.ScriptError} {y : Res α} {y' : ScriptSpec.E β}
    (hpq : p ↔ q) (h : ¬ q → Sim R y y') :
    Sim R (if p then .fail else y) (do
      if q then throw e
      y') := by
  by_cases hq : q
  · rw [if_pos (hpq.mpr hq), if_pos hq]; exact fail
  · rw [if_neg (mt hpq.mp hq), if_neg hq]; exact h hq

theorem guard {p : Prop} [Decidable p] {e : ScriptSpec.ScriptError} {y : Res α} {y' : ScriptSpec.E β}
    (h : ¬ p → Sim R y y') :
    Sim R (if p then .fail else y) (do
      if p then throw e
      y') :=
  guardIff Iff.rfl h

theorem bind {γ δ : Type} {Q : γ → δ → Prop} {X : Res α} {Y : ScriptSpec.E β} {K : α → Res γ} {K' : β → ScriptSpec.E δ}
    (h : Sim R X Y) (hK : ∀ a b, X = .ok a → R a b → Sim Q (K a) (K' b)) : Sim Q (X >>= K) (Y >>= K') := by
  cases h with
  | fail => exact fail
  | ok h => exact hK _ _ rfl h

/-- the spec goes on to compute `g` of its result, the model returns its result as it is -/
theorem mapR {δ : Type} {Q : α → δ → Prop} {X : Res α} {Y : ScriptSpec.E β} {g : β → δ}
    (h : Sim R X Y) (hK : ∀ a b, R a b → Q a (g b)) : Sim Q X (Y >>= fun b => pure (g b)) := by
  cases h with
  | fail => exact fail
  | ok h => exact ok (hK _ _ h)

/-- a sub-result in front of the rest of an opcode -/
theorem agreeBind {c : Ctx} {leaf : Bytes} {annex : Option Bytes} {X : Res α} {Y : ScriptSpec.E β}
    {K : α → Res St} {K' : β → ScriptSpec.E ScriptSpec.State}
    (h : Sim R X Y) (hK : ∀ a b, R a b → Agree c leaf annex (K a) (K' b)) : Agree c leaf annex (X >>= K) (Y >>= K') := by
  cases h with
  | fail => exact Agree.fail
  | ok h => exact hK _ _ h

/-- equal results, read as equations -/
theorem elim {m : Res α} {sp : ScriptSpec.E α} (h : Sim Eq m sp) :
    (∃ e, sp = .error e ∧ m = .fail) ∨ ∃ y, sp = .ok y ∧ m = .ok y := by
  cases h with
  | ok h => exact .inr ⟨_, rfl, congrArg _ h⟩
  | fail => exact .inl ⟨_, rfl, rfl⟩
end Sim

theorem tail_agree (c : Ctx) (leaf : Bytes) (annex : Option Bytes) (X : Res St) (Y : ScriptSpec.E ScriptSpec.State) (h : Agree c leaf annex X Y) :
    Agree c leaf annex (X >>= fun st' => if st'.stack.length + st'.alt.length > 1000 then Res.fail else pure st')
      (Y >>= fun st => if st.stack.length + st.alt.length > 1000 then (do throw ScriptSpec.ScriptError.STACK_SIZE; pure st) else pure st) :=
  h.bind fun a b hR => by
    rw [hR.stack, hR.alt]
    exact Agree.ite (fun _ => Agree.fail) fun _ => Agree.ok hR

/-- The frame of one loop iteration: size / count / disabled / CONST_SCRIPTCODE checks, pushes, the
    executed / not executed decision (vector form vs counter form of the condition stack) and the final
    1000-element check agree, provided the opcode-specific parts (`execOp` vs `execOpcode`) agree. -/
theorem stepAt_frame (T : TotalOracles) (c : Ctx) (leaf : Bytes) (annex : Option Bytes)
    (st : St) (s : ScriptSpec.State) (op : Op) (i : ScriptSpec.Instr) (idx pos : Nat)
    (hop : i.op = op.opcode) (hdata : i.data = op.push.getD [])
    (hR : Rel c leaf annex st s)
    (H : op.opcode > 0x4e → ∀ st1 s1, Rel c leaf annex st1 s1 →
        (st1.exe.all id = true ∨ (0x63 ≤ op.opcode ∧ op.opcode ≤ 0x68)) →
        Agree c leaf annex (execOp c st1 op.opcode idx pos (st1.exe.all id))
          (ScriptSpec.execOpcode (envOf T c leaf annex) s1 i (st1.exe.all id) pos)) :
    Agree c leaf annex (stepAt c st op idx pos) (ScriptSpec.execInstr (envOf T c leaf annex) s i pos) := by
  unfold stepAt ScriptSpec.execInstr
  simp only [hop, hdata, hR.cond, condOf_allTrue, envOf_f, envOf_sv,
    MAX_SCRIPT_ELEMENT_SIZE, ScriptSpec.MAX_SCRIPT_ELEMENT_SIZE, MAX_OPS, ScriptSpec.MAX_OPS_PER_SCRIPT,
    ScriptSpec.MAX_STACK_SIZE, ← isDisabled_eq, ← flag_const, ← flag_mindata, ← checkMinimalPush_eq, ← hR.opcnt]
  -- behind the guards: push / opcode-specific part / nothing, for the state with the counter updated
  have body : ∀ st1 s1, Rel c leaf annex st1 s1 → st1.exe = st.exe → Agree c leaf annex
      (if (st.exe.all id && decide (op.opcode ≤ 78)) = true then
        if (has c.flags VER_MINDATA && !checkMinimalPush (op.push.getD []) op.opcode) = true then Res.fail
        else Res.ok (st1.push (op.push.getD []))
      else if (st.exe.all id || decide (99 ≤ op.opcode) && decide (op.opcode ≤ 104)) = true then
        execOp c st1 op.opcode idx pos (st.exe.all id)
      else Res.ok st1)
      (if (st.exe.all id && decide (op.opcode ≤ 78)) = true then
        if (has c.flags VER_MINDATA && !checkMinimalPush (op.push.getD []) op.opcode) = true then
          throw ScriptSpec.ScriptError.MINIMALDATA
        else pure (ScriptSpec.push s1 (op.push.getD []))
      else if (st.exe.all id || decide (99 ≤ op.opcode) && decide (op.opcode ≤ 104)) = true then
        ScriptSpec.execOpcode (envOf T c leaf annex) s1 i (st.exe.all id) pos
      else pure s1) := by
    intro st1 s1 hR1 hexe
    refine Agree.ite (fun _ => Agree.ite (fun _ => Agree.fail) fun _ => Agree.ok (hR1.push _)) fun hpush =>
      Agree.ite (fun hex => ?_) fun _ => Agree.ok hR1
    simp only [Bool.and_eq_true, decide_eq_true_eq, not_and] at hpush
    simp only [Bool.or_eq_true, Bool.and_eq_true, decide_eq_true_eq] at hex
    have hgt : op.opcode > 78 := by
      rcases hex with h | h
      · have := hpush h; omega
      · omega
    rw [← hexe] at hex ⊢
    exact H hgt _ _ hR1 hex
  refine Agree.guard fun _ => ?_
  by_cases hcnt : ((c.sv == SigVersion.base || c.sv == SigVersion.witnessV0) && decide (op.opcode > 96)) = true
  · simp only [hcnt, ↓reduceIte, Bool.true_and, decide_eq_true_eq]
    refine Agree.guardBind fun _ => Agree.guard fun _ => Agree.guard fun _ => tail_agree _ _ _ _ _ ?_
    exact body _ _ { hR with cond := rfl, opcnt := rfl } rfl
  · simp only [hcnt, Bool.false_eq_true, ↓reduceIte, Bool.false_and, pure_bind]
    refine Agree.guard fun _ => Agree.guard fun _ => tail_agree _ _ _ _ _ ?_
    exact body _ _ hR rfl

/-- the guards of `stepAt` have the form `if … then .fail else …`: a successful run passed the guard -/
theorem ok_of_ite_fail {α} {p : Prop} [Decidable p] {y : Res α} {a : α} (h : (if p then Res.fail else y) = .ok a) :
    y = .ok a := by
  split at h
  · cases h
  · exact h

theorem ite_fail {α} {p : Prop} [Decidable p] {y : Res α} (h : y = .fail) : (if p then Res.fail else y) = .fail := by
  rw [h, ite_self]

end GocoinV.Proofs.C01
