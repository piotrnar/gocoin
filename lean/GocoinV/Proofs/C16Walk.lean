/-
  Proofs.C16Walk — LoadBlockIndex is a left fold of `loadRecord` over the full records of the index file (the loop
  invariants of the other files are inductions over that fold); what it lists: the non-invalid records in file order;
  and the round trip of the 136-byte record written by `writeOne`.
-/
import GocoinV.Proofs.C16Load
namespace GocoinV.BlockDB

/-- the full 136-byte records of an index file, in file order -/
def chunks : Nat → Bytes → List Bytes
  | 0, _ => []
  | f + 1, file => if file.length < 136 then [] else file.take 136 :: chunks f (file.drop 136)

def isInvalidRec (b : Bytes) : Bool := hasFlag (b.getD 0 0).toNat BLOCK_INVALID

/-- what LoadBlockIndex hands to the walk callback for one record -/
def walkOf (env : Env) (b : Bytes) : WalkRec :=
  let hdr := (b.drop 56).take 80
  ⟨env.hash hdr, hdr, field b 36 40,
    if hasFlag (b.getD 0 0).toNat BLOCK_LENGTH then field b 32 36 else field b 48 52, field b 52 56⟩

theorem loadRecord_walk (env : Env) (a : LoadAcc) (b : Bytes) :
    (loadRecord env a b).walk = if isInvalidRec b then a.walk else walkOf env b :: a.walk := by
  unfold loadRecord isInvalidRec walkOf
  simp only
  split
  · split <;> exact (bumpInvalid_fields a _ b).2.2.1
  · rfl

theorem loadLoop_foldl (env : Env) : ∀ (fuel : Nat) (file : Bytes) (a : LoadAcc),
    loadLoop env fuel file a = (chunks fuel file).foldl (loadRecord env) a := by
  intro fuel
  induction fuel with
  | zero => intro file a; rfl
  | succ f ih =>
    intro file a
    unfold loadLoop chunks
    simp only [recsize_eq]
    split
    · rfl
    · rw [ih]; rfl

theorem chunks_range : ∀ (fuel : Nat) (file : Bytes), fuel * 136 > file.length →
    chunks fuel file = (List.range (file.length / 136)).map (fun i => (file.drop (136 * i)).take 136) := by
  intro fuel
  induction fuel with
  | zero => intro file h; omega
  | succ f ih =>
    intro file h
    unfold chunks
    by_cases hl : file.length < 136
    · simp only [hl, ↓reduceIte]
      rw [Nat.div_eq_of_lt hl]; rfl
    · simp only [hl, ↓reduceIte]
      have hlen : (file.drop 136).length = file.length - 136 := by simp
      have e : file.length / 136 = (file.length - 136) / 136 + 1 := by omega
      rw [ih (file.drop 136) (by rw [hlen]; omega), hlen, e, List.range_succ_eq_map]
      simp only [List.map_cons, List.map_map]
      congr 1
      apply List.map_congr_left
      intro i _
      simp only [Function.comp, List.drop_drop]
      congr 2
      omega

theorem foldl_range_inv {α : Type} (f : α → Nat → α) (I : Nat → α → Prop) (a : α) : ∀ (n : Nat),
    (∀ i a, i < n → I i a → I (i + 1) (f a i)) → I 0 a → I n ((List.range n).foldl f a) := by
  intro n
  induction n with
  | zero => intro _ h0; exact h0
  | succ n ih =>
    intro h h0
    rw [List.range_succ, List.foldl_append]
    exact h n _ (Nat.lt_succ_self n) (ih (fun i a hi => h i a (Nat.lt_succ_of_lt hi)) h0)

/-- induction over the records LoadBlockIndex reads: a property of (position, accumulator) that every record carries on -/
theorem loadLoop_ind (env : Env) (full : Bytes) (P : Nat → LoadAcc → Prop)
    (hstep : ∀ pos a, pos + 136 ≤ full.length → P pos a → P (pos + 136) (loadRecord env a ((full.drop pos).take 136)))
    (h0 : P 0 {}) :
    P (136 * (full.length / 136)) (loadLoop env (full.length / RECSIZE + 1) full {}) := by
  rw [loadLoop_foldl, chunks_range _ full (by simp only [recsize_eq]; omega), List.foldl_map]
  refine foldl_range_inv _ (fun i a => P (136 * i) a) {} _ ?_ h0
  intro i a hi h
  exact hstep (136 * i) a (by omega) h

theorem loadLoop_walk (env : Env) (fuel : Nat) (file : Bytes) (a : LoadAcc) :
    (loadLoop env fuel file a).walk
      = (((chunks fuel file).filter (fun b => !isInvalidRec b)).map (walkOf env)).reverse ++ a.walk := by
  rw [loadLoop_foldl]
  induction chunks fuel file generalizing a with
  | nil => rfl
  | cons b t ih =>
    rw [List.foldl_cons, ih, loadRecord_walk]
    by_cases hi : isInvalidRec b = true <;> simp [hi]

theorem drop_leBytes (k n m : Nat) (h : k ≤ m) : List.drop m (leBytes k n) = [] :=
  List.drop_eq_nil_of_le (by simp; exact h)

theorem field_mk (fl di ol he fp bl tx : Nat) (hdr : Bytes) :
    field (mkRecord fl di ol he fp bl tx hdr) 36 40 = he % 2^32 ∧
    field (mkRecord fl di ol he fp bl tx hdr) 32 36 = ol % 2^32 ∧
    field (mkRecord fl di ol he fp bl tx hdr) 52 56 = tx % 2^32 ∧
    field (mkRecord fl di ol he fp bl tx hdr) 48 52 = bl % 2^32 ∧
    field (mkRecord fl di ol he fp bl tx hdr) 40 48 = fp % 2^64 ∧
    field (mkRecord fl di ol he fp bl tx hdr) 28 32 = di % 2^32 := by
  simp [field, mkRecord, List.drop_append, leVal_leBytes, drop_leBytes]
theorem mkRecord_hdr (fl di ol he fp bl tx : Nat) (data : Bytes) :
    ((mkRecord fl di ol he fp bl tx data).drop 56).take 80 = data.take 80 := by
  simp [mkRecord, List.drop_append, drop_leBytes]
  rw [List.take_take]; simp

theorem mkRecord_flag (fl di ol he fp bl tx : Nat) (data : Bytes) :
    ((mkRecord fl di ol he fp bl tx data).getD 0 0) = UInt8.ofNat fl := by
  simp [mkRecord]

/-- the record `writeOne` writes for a block is listed at the next restart with the block's own fields -/
theorem walkOf_mkRecord (env : Env) (c tr : Bool) (di ol he fp bl tx : Nat) (data : Bytes)
    (h1 : he < 2^32) (h2 : ol < 2^32) (h3 : tx < 2^32) :
    isInvalidRec (mkRecord (flagsOf c tr) di ol he fp bl tx data) = false ∧
    walkOf env (mkRecord (flagsOf c tr) di ol he fp bl tx data)
      = ⟨env.hash (data.take 80), data.take 80, he, ol, tx⟩ := by
  obtain ⟨f1, f2, f3, _, _, _⟩ := field_mk (flagsOf c tr) di ol he fp bl tx data
  unfold isInvalidRec walkOf
  simp only [mkRecord_hdr, mkRecord_flag, f1, f2, f3, Nat.mod_eq_of_lt h1, Nat.mod_eq_of_lt h2, Nat.mod_eq_of_lt h3]
  cases c <;> cases tr
  all_goals
    constructor
    · decide
    · rw [if_pos (by decide)]

/-- the reply of `reopen`: the walk callback sees exactly the non-invalid full records, in file order -/
theorem reopen_walk (env : Env) (fs : FS) (o : Opts) :
    (reopen env fs o).2 = .walk (((chunks (fs.idx.length / 136 + 1) fs.idx).filter (fun b => !isInvalidRec b)).map (walkOf env)) := by
  unfold reopen
  simp only [recsize_eq, loadLoop_walk]
  simp
end GocoinV.BlockDB
