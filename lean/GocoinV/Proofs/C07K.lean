/-
  Proofs.C07K — what is needed on top of `InvQ` (disk/node coupling) and `J` (provenance + in-memory chain) to show that
  the model never panics on well-formed histories and that the tip is the best stored leaf:
    * `UInv d`, the undo-file part of the ON-DISK invariant: every snapshot file on disk has the undo files
      undo/1 … undo/<its height>;
    * `UP base s`: `UInv` at EVERY crash prefix of the effect list of `s`, started on `base`;
    * `Fr s s'`, the frame relation every operation satisfies: the effect list of `s'` continues that of `s` by effects whose
      side conditions hold (`EffU`: only `createTmp` has one), the block cache only grows, index records stay tree nodes.
  Core Lean only.
-/
import GocoinV.Proofs.C07JHist
namespace GocoinV.Proofs.C07
open GocoinV.Persist

variable {bs : List Block} {s : St}

/-! ### undo files on disk -/

def UndoUpTo (d : Disk) (H : Nat) : Prop := ∀ h, 1 ≤ h → h ≤ H → (getUndo d.undo h).isSome = true

/-- every snapshot file on disk has the undo files of all heights up to its own -/
structure UInv (d : Disk) : Prop where
  db : ∀ sn, d.db = some sn → UndoUpTo d sn.height
  old : ∀ sn, d.old = some sn → UndoUpTo d sn.height
  tmps : ∀ t ∈ d.tmps, UndoUpTo d t.snap.height

theorem UInv.empty : UInv {} := by
  constructor <;> simp

def EffU (d : Disk) : Effect → Prop
  | .createTmp sn => UndoUpTo d sn.height
  | _ => True

theorem apply_undo_mono (d : Disk) (e : Effect) (h : Nat) (hs : (getUndo d.undo h).isSome = true) :
    (getUndo (apply d e).undo h).isSome = true := by
  cases e with
  | renameUndoTmp hh =>
    simp only [apply]
    split
    · exact hs
    · by_cases e : h = hh
      · subst e; simp [getUndo_setUndo_same]
      · simp only [getUndo_setUndo_other _ _ _ _ e]; exact hs
  | renameDbOld | renameTmpDb _ => simp only [apply]; split <;> exact hs
  | _ => exact hs

theorem UndoUpTo.apply {d : Disk} {H : Nat} (h : UndoUpTo d H) (e : Effect) : UndoUpTo (apply d e) H :=
  fun x h1 h2 => apply_undo_mono d e x (h x h1 h2)

theorem apply_dat_mono (d : Disk) (e : Effect) (b : Block) (hb : b ∈ d.dat) : b ∈ (apply d e).dat := by
  cases e with
  | appendDat x => simp [apply, hb]
  | renameDbOld | renameTmpDb _ | renameUndoTmp _ => simp only [apply]; split <;> exact hb
  | _ => exact hb

theorem apply_uinv {d : Disk} (h : UInv d) (e : Effect) (ok : EffU d e) : UInv (apply d e) := by
  have mono : ∀ H, UndoUpTo d H → UndoUpTo (apply d e) H := fun H hu => hu.apply e
  have tg : ∀ t ∈ (apply d e).tmps, UndoUpTo d t.snap.height := fun t ht =>
    (tmps_apply ht).elim (fun ⟨t0, h0, e0⟩ => e0 ▸ h.tmps t0 h0) (fun e' => by subst e'; exact ok)
  cases e with
  | nop => exact h
  | renameDbOld =>
    simp only [apply]
    split
    · exact h
    · rename_i x hx
      exact ⟨by intro sn hsn; simp at hsn, by intro sn hsn; simp at hsn; subst hsn; exact h.db _ hx, h.tmps⟩
  | createTmp _ | chunkTmp _ | flushTmp _ | removeTmp _ => exact { h with tmps := tg }
  | renameTmpDb t =>
    simp only [apply] at tg ⊢
    split
    · exact h
    · rename_i x hx
      simp only [hx] at tg
      exact ⟨by intro sn hsn; simp at hsn; subst hsn; exact h.tmps x (List.mem_of_find?_eq_some hx), h.old, tg⟩
  | renameUndoTmp hh =>
    simp only [apply] at mono ⊢
    split
    · exact h
    · rename_i u hu
      simp only [hu] at mono
      exact ⟨fun sn hsn => mono _ (h.db sn hsn), fun sn hsn => mono _ (h.old sn hsn), fun t ht => mono _ (h.tmps t ht)⟩
  | writeUndoTmp _ | removeUndoTmp | appendDat _ | appendIdx _ | setTrusted _ => exact { h with }

/-- the side conditions hold along an effect list started on `d` -/
def UGoodFrom : Disk → List LEffect → Prop
  | _, [] => True
  | d, e :: r => EffU d e.1 ∧ UGoodFrom (apply d e.1) r

theorem UGoodFrom.append : ∀ {a : List LEffect} {d : Disk} {b : List LEffect}, UGoodFrom d a → UGoodFrom (applyAll d a) b →
    UGoodFrom d (a ++ b)
  | [], _, _, _, hb => hb
  | e :: r, d, b, ha, hb => ⟨ha.1, UGoodFrom.append (a := r) ha.2 (by rwa [applyAll_cons] at hb)⟩

theorem UGoodFrom.uinv : ∀ {es : List LEffect} {d : Disk}, UInv d → UGoodFrom d es → ∀ k, UInv (applyAll d (es.take k))
  | [], _, h, _, k => by rw [List.take_nil]; exact h
  | e :: r, d, h, hg, k => by
    cases k with
    | zero => exact h
    | succ k =>
      rw [List.take_succ_cons, applyAll_cons]
      exact UGoodFrom.uinv (apply_uinv h e.1 hg.1) hg.2 k

theorem applyAll_undo_mono : ∀ (es : List LEffect) (d : Disk) (H : Nat), UndoUpTo d H → UndoUpTo (applyAll d es) H :=
  fun es _ H h => List.foldlRecOn (motive := (UndoUpTo · H)) es _ h fun _ hd e _ => hd.apply e.1

theorem applyAll_dat_mono : ∀ (es : List LEffect) (d : Disk) (b : Block), b ∈ d.dat → b ∈ (applyAll d es).dat :=
  fun es _ b h => List.foldlRecOn (motive := (b ∈ ·.dat)) es _ h fun d hd e _ => apply_dat_mono d e.1 b hd

/-- `s'` continues the effect list `es0` (which produced `d0`) by effects whose side conditions hold -/
def ExtFrom (d0 : Disk) (es0 : List LEffect) (s' : St) : Prop :=
  ∃ new, s'.es = es0 ++ new ∧ s'.d = applyAll d0 new ∧ UGoodFrom d0 new

abbrev Ext (s s' : St) : Prop := ExtFrom s.d s.es s'

theorem ExtFrom.trans {d0 : Disk} {es0 : List LEffect} {s s' : St} (h1 : ExtFrom d0 es0 s) (h2 : Ext s s') : ExtFrom d0 es0 s' := by
  obtain ⟨n1, a1, b1, c1⟩ := h1
  obtain ⟨n2, a2, b2, c2⟩ := h2
  refine ⟨n1 ++ n2, by rw [a2, a1, List.append_assoc], by rw [b2, b1, applyAll_append], ?_⟩
  exact UGoodFrom.append c1 (by rw [← b1]; exact c2)

theorem ExtFrom.undo {d0 : Disk} {es0 : List LEffect} {s' : St} (h : ExtFrom d0 es0 s') {H : Nat} (hu : UndoUpTo d0 H) : UndoUpTo s'.d H := by
  obtain ⟨n, _, b, _⟩ := h
  rw [b]; exact applyAll_undo_mono n _ H hu

theorem ExtFrom.dat {d0 : Disk} {es0 : List LEffect} {s' : St} (h : ExtFrom d0 es0 s') {b : Block} (hb : b ∈ d0.dat) : b ∈ s'.d.dat := by
  obtain ⟨n, _, e, _⟩ := h
  rw [e]; exact applyAll_dat_mono n _ b hb

/-- prefix-wise: every crash prefix of the effect list leaves a directory satisfying `UInv` -/
structure UP (base : Disk) (s : St) : Prop where
  hist : s.d = applyAll base s.es
  pref : ∀ k, UInv (applyAll base (s.es.take k))

theorem UP.disk {base : Disk} (h : UP base s) : UInv s.d := by
  have := h.pref s.es.length
  rwa [List.take_length, ← h.hist] at this

theorem UP.of_ext {base d0 : Disk} {es0 : List LEffect} {s' : St} (h0 : d0 = applyAll base es0)
    (hp : ∀ k, UInv (applyAll base (es0.take k))) (he : ExtFrom d0 es0 s') : UP base s' := by
  obtain ⟨n, a, b, c⟩ := he
  have hd0 : UInv d0 := UP.disk (s := { s' with d := d0, es := es0 }) ⟨h0, hp⟩
  refine ⟨by rw [b, a, applyAll_append, ← h0], ?_⟩
  intro k
  rw [a, List.take_append, applyAll_append]
  by_cases hk : k ≤ es0.length
  · rw [Nat.sub_eq_zero_of_le hk, List.take_zero, applyAll_nil]; exact hp k
  · rw [List.take_of_length_le (by omega), ← h0]
    exact UGoodFrom.uinv hd0 c _

theorem UP.ext {base : Disk} {s' : St} (h : UP base s) (he : Ext s s') : UP base s' :=
  UP.of_ext h.hist h.pref he

/-! ### the frame relation every operation satisfies -/

structure Fr (s s' : St) : Prop where
  ext : Ext s s'
  memM : ∀ b ∈ s.n.mem, b ∈ s'.n.mem
  recT : (∀ r ∈ s.n.recs, InT s.n.tree r.id) → ∀ r ∈ s'.n.recs, InT s'.n.tree r.id

theorem Ext.refl (s : St) : Ext s s := ⟨[], by simp, rfl, trivial⟩

theorem Fr.refl (s : St) : Fr s s := ⟨Ext.refl s, fun _ h => h, id⟩

theorem Fr.trans {s s' s'' : St} (h1 : Fr s s') (h2 : Fr s' s'') : Fr s s'' :=
  ⟨h1.ext.trans h2.ext, fun b hb => h2.memM b (h1.memM b hb), fun h => h2.recT (h1.recT h)⟩

theorem Fr.emit (s : St) (e : Effect) (p : Pt) (ok : EffU s.d e) : Fr s (s.emit e p) :=
  ⟨⟨[(e, p)], rfl, rfl, ok, trivial⟩, fun _ h => h, id⟩

theorem Fr.then_emit {s s' : St} (h : Fr s s') (e : Effect) (p : Pt) (ok : EffU s'.d e) : Fr s (s'.emit e p) :=
  h.trans (Fr.emit s' e p ok)

/-- a state that agrees with `s1` on disk, effect list, cache, index and tree -/
theorem Fr.congr {s s1 s' : St} (h : Fr s s1) (e1 : s'.d = s1.d) (e2 : s'.es = s1.es) (e3 : s'.n.mem = s1.n.mem)
    (e4 : s'.n.recs = s1.n.recs) (e5 : s'.n.tree = s1.n.tree) : Fr s s' := by
  obtain ⟨⟨n, a, b, c⟩, m, r⟩ := h
  exact ⟨⟨n, e2.trans a, e1.trans b, c⟩, fun x hx => e3 ▸ m x hx, fun hh x hx => by rw [e5]; rw [e4] at hx; exact r hh x hx⟩

/-- replacing the node by one with the same cache, index and tree -/
theorem Fr.setNode (s : St) (n' : Node) (h1 : n'.mem = s.n.mem) (h2 : n'.recs = s.n.recs) (h3 : n'.tree = s.n.tree) :
    Fr s { s with n := n' } :=
  (Fr.refl s).congr rfl rfl h1 h2 h3

theorem Fr.then_set {s s' : St} (h : Fr s s') (n' : Node) (h1 : n'.mem = s'.n.mem) (h2 : n'.recs = s'.n.recs)
    (h3 : n'.tree = s'.n.tree) : Fr s { s' with n := n' } :=
  h.trans (Fr.setNode s' n' h1 h2 h3)

theorem Fr.fail (s : St) (m : String) : Fr s (s.fail m) := by
  unfold St.fail; split <;> exact { Fr.refl s with }

theorem Fr.setForeign (s : St) (f : Bool) : Fr s { s with foreign := f } :=
  { Fr.refl s with }

/-- rewriting records in place (trusted / on-disk flag) -/
theorem Fr.mapRecs (s : St) (f : BRec → BRec) (hid : ∀ x, (f x).id = x.id) :
    Fr s { s with n := { s.n with recs := s.n.recs.map f } } :=
  ⟨Ext.refl s, fun _ h => h, fun h => List.forall_mem_map.2 fun r0 hr0 => by rw [hid]; exact h r0 hr0⟩

/-! ### the snapshot writer, BlockTrusted, BlockAdd, writeOne -/

theorem fullChunks_fr (t : BlockId) : ∀ (k : Nat) (s : St), Fr s (fullChunks s t k)
  | 0, s => Fr.refl s
  | k + 1, s => ((Fr.emit s .nop .saveChunk trivial).then_emit (.chunkTmp t) .fileChunk trivial).trans (fullChunks_fr t k _)

theorem finishSave_fr (s : St) (sn : Snap) : Fr s (finishSave s sn) := by
  unfold finishSave
  exact ((((Fr.emit s .nop .saveFinito trivial).then_emit (.chunkTmp sn.tip) .fileChunk trivial).then_emit
    (.flushTmp sn.tip) .fileClosed trivial).then_emit (.renameTmpDb sn.tip) .fileRenamed trivial).then_set _ rfl rfl rfl

theorem startSave_fr (s : St) (hurry : Bool) (hu : UndoUpTo s.d s.n.lastHeight) : Fr s (startSave s hurry) := by
  unfold startSave
  split
  · exact Fr.refl s
  · have h3 : Fr s (((s.emit .nop .saveBegin).emit .renameDbOld .saveRenamedOld).emit
        (.createTmp ⟨s.n.tip, s.n.lastHeight, s.n.utxo⟩) .fileCreated) :=
      ((Fr.emit s .nop .saveBegin trivial).then_emit .renameDbOld .saveRenamedOld trivial).then_emit _ .fileCreated
        (show UndoUpTo (apply (apply s.d .nop) .renameDbOld) s.n.lastHeight from (hu.apply _).apply _)
    simp only []
    split
    · exact ((h3.then_emit .nop .saveChunk trivial).then_emit (.chunkTmp s.n.tip) .fileChunk trivial).then_set _ rfl rfl rfl
    · exact (h3.trans (fullChunks_fr _ _ _)).trans (finishSave_fr _ _)

theorem abortSave_fr (s : St) : Fr s (abortSave s) := by
  unfold abortSave
  split
  · exact Fr.refl s
  · exact (((Fr.emit s .nop .saveFinito trivial).then_emit .nop .fileAbortClosed trivial).then_emit (.removeTmp _) .fileAbortRemoved trivial).then_set
      _ rfl rfl rfl

theorem hurrySave_fr (s : St) : Fr s (hurrySave s) := by
  unfold hurrySave
  split
  · exact Fr.refl s
  · exact (fullChunks_fr _ _ _).trans (finishSave_fr _ _)

theorem blockTrusted_fr (s : St) (id : BlockId) : Fr s (blockTrusted s id) := by
  unfold blockTrusted
  split
  · exact Fr.refl s
  · simp only []
    refine ((Fr.emit s .nop .flagBefore trivial).then_emit _ .flagAfter ?_).trans (Fr.mapRecs _ _ ?_)
    · split
      · split <;> trivial
      · trivial
    · intro x; split <;> rfl

theorem blockAdd_fr (s : St) (b : Block) (t : Bool) (hin : InT s.n.tree b.id) : Fr s { s with n := blockAdd s.n b t } := by
  unfold blockAdd
  split
  · exact ⟨Ext.refl s, fun _ => mem_ite_snoc_left, fun h => List.forall_mem_append.2 ⟨h, List.forall_mem_singleton.2 hin⟩⟩
  · split
    · exact Fr.mapRecs s _ (by intro x; split <;> rfl)
    · exact Fr.refl s

theorem commitHead_fr (s : St) (b : Block) (hin : InT s.n.tree b.id) : Fr s (commitHead s b) := by
  unfold commitHead
  split
  · exact (Fr.emit s .nop .cBeforeBlockAdd trivial).trans (blockTrusted_fr _ _)
  · exact (Fr.emit s .nop .cBeforeBlockAdd trivial).trans (blockAdd_fr _ b true hin)

theorem writeOne_fr (s : St) (b : Block) : Fr s (writeOne s b) := by
  unfold writeOne
  split
  · exact Fr.refl s
  · split
    · exact Fr.refl s
    · rename_i r _ _
      exact ((((Fr.emit s .nop .wrBeforeDat trivial).then_emit (.appendDat b) .wrDatWritten trivial).then_emit
        (.appendIdx { id := b.id, parent := b.parent, height := b.height, trusted := r.trusted, invalid := false }) .wrIdxWritten
        trivial).then_emit .nop .wrBeforePublish trivial).trans (Fr.mapRecs _ _ (by intro x; split <;> rfl))

theorem foldl_writeOne_fr : ∀ (q : List Block) (s : St), Fr s (q.foldl writeOne s)
  | [], s => Fr.refl s
  | b :: rest, s => (writeOne_fr s b).trans (foldl_writeOne_fr rest _)

theorem writeAll_fr (s : St) : Fr s (writeAll s) := by
  unfold writeAll
  exact (Fr.setNode s { s.n with queue := [] } rfl rfl rfl).trans (foldl_writeOne_fr _ _)

end GocoinV.Proofs.C07
