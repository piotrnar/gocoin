/-
  Proofs.C06TxOrder — the ORDER of a block's transactions is part of what `commitTxs` checks: the map of the block's
  own outputs (`blUnsp`) gets a transaction's outputs only after that transaction's inputs were processed, and
  processing an input never adds a key to it. So an input whose source is neither an unspent output of the database
  nor an output of a transaction listed EARLIER in the block stops the block — whatever comes later in the list.
  Hence no block of a branch that replays is misordered.
-/
import GocoinV.Model.UtxoOps
import GocoinV.Proofs.C06CommitTxs
import GocoinV.Spec.ChainReplay
namespace GocoinV.UtxoOps

theorem procInput_blUnsp_keys (u : DB) (h : Nat) (st st' : CState) (i : TxIn) (v : Nat)
    (hr : procInput u h st i = .ok (st', v)) : ∀ k, k ∈ st'.blUnsp.map (·.1) → k ∈ st.blUnsp.map (·.1) := by
  rcases procInput_ok hr with ⟨y, x, hb, rfl⟩ | ⟨r, o, _, _, rfl⟩
  · intro k hk
    rwa [aset_keys, if_pos (List.mem_map.mpr ⟨_, alookup_some_mem hb, rfl⟩)] at hk
  · exact fun k hk => hk

theorem procInput_unknown (u : DB) (h : Nat) (st : CState) (i : TxIn)
    (hg : unspentGet u i.txid i.vout = none) (hb : i.txid ∉ st.blUnsp.map (·.1)) :
    ∃ e, procInput u h st i = .error e := by
  have hb' : alookup i.txid st.blUnsp = none := alookup_eq _ _ ▸ (Assoc.lookup_eq_none_iff _ _).mpr hb
  unfold procInput
  simp only [bind, Except.bind, throw, throwThe, MonadExceptOf.throw, hg, hb']
  repeat' split
  all_goals exact ⟨_, rfl⟩

theorem procInputs_unknown (u : DB) (h : Nat) (is : List TxIn) (st : CState) (i : TxIn) (hi : i ∈ is)
    (hg : unspentGet u i.txid i.vout = none) (hb : i.txid ∉ st.blUnsp.map (·.1)) (x : CState × Nat) :
    procInputs u h st is ≠ .ok x := by
  intro hr
  induction is generalizing st x with
  | nil => cases hi
  | cons j js ih =>
    obtain ⟨⟨st1, v1⟩, hj, hr⟩ := bind_ok hr
    obtain ⟨y, hy, -⟩ := bind_ok hr
    rcases List.mem_cons.mp hi with rfl | hin
    · obtain ⟨e, he⟩ := procInput_unknown u h st i hg hb
      rw [he] at hj; cases hj
    · exact ih st1 hin (fun hk => hb (procInput_blUnsp_keys u h st st1 j v1 hj _ hk)) y hy

theorem procInputs_blUnsp_keys (u : DB) (h : Nat) (is : List TxIn) (st st' : CState) (v : Nat)
    (hr : procInputs u h st is = .ok (st', v)) : ∀ k, k ∈ st'.blUnsp.map (·.1) → k ∈ st.blUnsp.map (·.1) := by
  induction is generalizing st st' v with
  | nil => cases hr; exact fun k hk => hk
  | cons i is ih =>
    obtain ⟨⟨st1, v1⟩, hx, hr⟩ := bind_ok hr
    obtain ⟨⟨st2, s⟩, hy, hr⟩ := bind_ok hr
    cases hr
    exact fun k hk => procInput_blUnsp_keys u h st st1 i v1 hx k (ih st1 _ s hy k hk)

theorem procTxs_forward_spend (u : DB) (h : Nat) (pre : List Tx) (tx : Tx) (post : List Tx) (first : Bool)
    (st : CState) (i : TxIn) (hi : i ∈ tx.ins)
    (hfirst : first = true → pre ≠ [])
    (hg : unspentGet u i.txid i.vout = none) (hb : i.txid ∉ st.blUnsp.map (·.1))
    (hpre : ∀ p ∈ pre, p.txid ≠ i.txid) (x : CState × Nat × Nat × Bool) :
    procTxs u h first st (pre ++ tx :: post) ≠ .ok x := by
  intro hr
  induction pre generalizing first st x with
  | nil =>
    cases first with
    | true => exact absurd rfl (hfirst rfl)
    | false =>
      obtain ⟨y, hy, -⟩ := bind_ok hr
      exact procInputs_unknown u h tx.ins st i hi hg hb y hy
  | cons p ps ih =>
    have hps : ∀ q ∈ ps, q.txid ≠ i.txid := fun q hq => hpre q (List.mem_cons_of_mem _ hq)
    have hadd : ∀ (bl : List (Nat × (List (Option Out) × Bool))) (x : List (Option Out) × Bool),
        i.txid ∉ bl.map (·.1) → i.txid ∉ (aset p.txid x bl).map (·.1) := by
      intro bl x hn hk
      obtain ⟨q, hq, e⟩ := List.mem_map.mp hk
      rcases mem_aset hq with hq | rfl
      · exact hn (e ▸ List.mem_map_of_mem hq)
      · exact hpre p List.mem_cons_self e
    cases first with
    | true =>
      obtain ⟨_, hx, hr⟩ := bind_ok hr
      cases hx
      obtain ⟨y, hy, -⟩ := bind_ok hr
      exact ih false _ nofun (hadd _ _ hb) hps y hy
    | false =>
      obtain ⟨⟨st1, tin⟩, hx, hr⟩ := bind_ok hr
      simp only at hr
      split at hr
      · cases hr
      · obtain ⟨y, hy, -⟩ := bind_ok hr
        exact ih false _ nofun
          (hadd _ _ fun hk => hb (procInputs_blUnsp_keys u h p.ins st st1 tin hx _ hk)) hps y hy

/-- `commitTxs` refuses a block in which a non-coinbase transaction has an input that is neither unspent in the
    database nor an output of a transaction listed earlier in the block — with the scripts checked or skipped -/
theorem commitTxs_forward_spend (u : DB) (h rwd : Nat) (tr : Bool) (pre : List Tx) (tx : Tx) (post : List Tx)
    (i : TxIn) (hi : i ∈ tx.ins) (hne : pre ≠ [])
    (hg : unspentGet u i.txid i.vout = none) (hpre : ∀ p ∈ pre, p.txid ≠ i.txid) :
    ∃ e, commitTxs u h rwd tr (pre ++ tx :: post) = .error e := by
  cases hr : commitTxs u h rwd tr (pre ++ tx :: post) with
  | error e => exact ⟨e, rfl⟩
  | ok ch =>
    unfold commitTxs at hr
    split at hr
    · cases hr
    · obtain ⟨x, hx, -⟩ := bind_ok hr
      exact absurd hx (procTxs_forward_spend u h pre tx post true {} i hi (fun _ => hne) hg (by simp) hpre x)

end GocoinV.UtxoOps

namespace GocoinV.ChainTree
open GocoinV.UtxoOps

/-- the replay of a branch has no value as soon as its top block lists a transaction before the transaction of the same
    block that it spends from (or spends itself): with BIP30 freshness the block's own txids are not in the map below it -/
theorem replay_misordered (e : PE) (rest : List PE) (pre post : List Tx) (tx : Tx) (i : TxIn)
    (htx : e.txs = pre ++ tx :: post) (hne : pre ≠ []) (hi : i ∈ tx.ins)
    (hlater : i.txid ∈ (tx :: post).map (·.txid)) (hpre : ∀ p ∈ pre, p.txid ≠ i.txid)
    (hf : Fresh (e :: rest)) : replay (e :: rest) = none := by
  unfold replay
  cases hu : replay rest with
  | none => rfl
  | some u =>
    have hget : u.get i.txid = none := by
      apply hf.1 u hu
      rw [htx, List.map_append]
      exact List.mem_append_right _ hlater
    have hg : unspentGet u i.txid i.vout = none := by simp [unspentGet, hget]
    obtain ⟨er, he⟩ := commitTxs_forward_spend u (rest.length + 1) (reward (rest.length + 1)) true pre tx post i hi hne hg hpre
    simp only [htx, he]

theorem replay_ordered : ∀ (path : List PE) (u : DB), replay path = some u → Fresh path →
    ∀ e ∈ path, ∀ (pre post : List Tx) (tx : Tx) (i : TxIn), e.txs = pre ++ tx :: post → pre ≠ [] → i ∈ tx.ins →
      (∀ p ∈ pre, p.txid ≠ i.txid) → i.txid ∉ (tx :: post).map (·.txid) := by
  intro path
  induction path with
  | nil => intro u _ _ e he; cases he
  | cons a rest ih =>
    intro u hu hfr e he pre post tx i htx hne hi hpre hlater
    rcases List.mem_cons.mp he with rfl | hin
    · rw [replay_misordered e rest pre post tx i htx hne hi hlater hpre hfr] at hu
      cases hu
    · cases hr : replay rest with
      | none => simp only [replay, hr] at hu; cases hu
      | some u' => exact ih u' hr hfr.2 e hin pre post tx i htx hne hi hpre hlater

end GocoinV.ChainTree
