/-
  Proofs.C19Sync — what sync() does to the directory and to the index, as a pure plan.
-/
import GocoinV.Proofs.C19Log
namespace GocoinV.Proofs.C19
open GocoinV GocoinV.Qdb GocoinV.QdbSpec

variable {eg : Bool}

/-- the result of sync's loop over the pending keys: new index, log entries, bytes appended to the data file -/
def syncPlan (seq : Nat) : List (Key × Rec) → List Key → Nat → List (Key × Rec) × List LogEntry × Bytes
  | idx, [], _ => (idx, [], [])
  | idx, k :: t, pos =>
    match ilookup k idx with
    | some rc =>
      let r := syncPlan seq (iset k { rc with pos := u32 pos, seq := seq } idx) t (pos + (rc.data.getD []).length)
      (r.1, .put k { rc with pos := u32 pos, seq := seq } :: r.2.1, rc.data.getD [] ++ r.2.2)
    | none =>
      let r := syncPlan seq idx t pos
      (r.1, .del k :: r.2.1, r.2.2)

theorem syncPlan_none {seq : Nat} {idx : List (Key × Rec)} {j : Key} (t : List Key) (pos : Nat) (hl : ilookup j idx = none) :
    syncPlan seq idx (j :: t) pos =
      ((syncPlan seq idx t pos).1, .del j :: (syncPlan seq idx t pos).2.1, (syncPlan seq idx t pos).2.2) := by
  simp [syncPlan, hl]

/-- `rc'`, `v`: the record as it is re-positioned and its bytes -/
theorem syncPlan_some {seq : Nat} {idx : List (Key × Rec)} {j : Key} {rc : Rec} (t : List Key) (pos : Nat)
    (hl : ilookup j idx = some rc) {rc' : Rec} {v : Bytes} (hr : rc' = { rc with pos := u32 pos, seq := seq })
    (hv : v = rc.data.getD []) :
    syncPlan seq idx (j :: t) pos =
      ((syncPlan seq (iset j rc' idx) t (pos + v.length)).1, .put j rc' :: (syncPlan seq (iset j rc' idx) t (pos + v.length)).2.1,
       v ++ (syncPlan seq (iset j rc' idx) t (pos + v.length)).2.2) := by
  subst hr hv
  simp [syncPlan, hl]

/-- the data-file writes of sync's loop, in order -/
def planW (seq : Nat) : List (Key × Rec) → List Key → Nat → List Effect
  | _, [], _ => []
  | idx, k :: t, pos =>
    match ilookup k idx with
    | some rc =>
      .writeDat seq pos (rc.data.getD []) ::
        planW seq (iset k { rc with pos := u32 pos, seq := seq } idx) t (pos + (rc.data.getD []).length)
    | none => planW seq idx t pos

/-- the parts of the state the sync loop leaves alone -/
def syncRest (seq : Nat) (db : DB) :=
  (db.fs.idx0, db.fs.idx1, db.fs.log, (fun t => if t = seq then none else dlookup t db.fs.dats),
   db.dataSeq, db.failed, db.datIdx, db.verSeq, db.logOpen, db.datOpen, db.volatile, db.opts, db.pending,
   db.extra, db.need, db.noSync)

theorem syncKey_exact_some (d : DB) (bidx : Bytes) (k : Key) (rc : Rec) (v f : Bytes)
    (hf : d.failed = none) (hl : ilookup k d.index = some rc) (hd : rc.data = some v)
    (hnc : hasFlag rc.flags (ncOf d.eager) = false)
    (hfile : dlookup d.dataSeq d.fs.dats = some f) (hpos : d.lastPos = f.length) :
    ∃ d', syncKey (d, bidx) k = (d', bidx ++ encRec k { rc with pos := u32 d.lastPos, seq := d.dataSeq }) ∧
      d'.index = iset k { rc with pos := u32 d.lastPos, seq := d.dataSeq } d.index ∧
      dlookup d.dataSeq d'.fs.dats = some (f ++ v) ∧ d'.lastPos = d.lastPos + v.length ∧
      syncRest d.dataSeq d' = syncRest d.dataSeq d ∧
      d'.effs = d.effs ++ [("qdb.sync:data-written", .writeDat d.dataSeq d.lastPos v)] := by
  obtain ⟨rd, rs, rp, rl, rfl'⟩ := rc
  simp only at hd hnc
  subst hd
  have hfs : d.fs.apply (.writeDat d.dataSeq d.lastPos v) = { d.fs with dats := dset d.dataSeq (f ++ v) d.fs.dats } := by
    unfold FS.apply; simp only [hfile, hpos, writeAt_end]
  refine ⟨{ emit d "qdb.sync:data-written" (.writeDat d.dataSeq d.lastPos v) with
      lastPos := d.lastPos + v.length,
      index := iset k ⟨some v, d.dataSeq, u32 d.lastPos, rl, rfl'⟩ d.index }, ?_, rfl, ?_, rfl, ?_, rfl⟩
  · unfold syncKey
    simp only [hf, hl]
    unfold syncRec
    have hee : (emit d "qdb.sync:data-written" (.writeDat d.dataSeq d.lastPos v)).eager = d.eager := rfl
    simp only [hee, hnc, Bool.false_eq_true, ↓reduceIte]
    rfl
  · show dlookup d.dataSeq (d.fs.apply (.writeDat d.dataSeq d.lastPos v)).dats = _
    rw [hfs]; exact dlookup_dset_same _ _ _
  · unfold syncRest
    simp only [Prod.mk.injEq]
    refine ⟨(congrArg FS.idx0 hfs :), (congrArg FS.idx1 hfs :), (congrArg FS.log hfs :), funext fun t => ?_,
      rfl, rfl, rfl, rfl, rfl, rfl, rfl, rfl, rfl, rfl, rfl, rfl⟩
    show (if t = d.dataSeq then none else dlookup t (d.fs.apply (.writeDat d.dataSeq d.lastPos v)).dats) = _
    rw [hfs]
    split
    · rfl
    · rename_i ht; exact dlookup_dset_other _ _ _ _ ht

theorem syncFold_plan (ks : List Key) (d : DB) (bidx f : Bytes) (hc : Cached d)
    (hfile : dlookup d.dataSeq d.fs.dats = some f) (hpos : d.lastPos = f.length) :
    ∃ d', ks.foldl syncKey (d, bidx) = (d', bidx ++ encLog (syncPlan d.dataSeq d.index ks d.lastPos).2.1) ∧
      d'.index = (syncPlan d.dataSeq d.index ks d.lastPos).1 ∧
      dlookup d.dataSeq d'.fs.dats = some (f ++ (syncPlan d.dataSeq d.index ks d.lastPos).2.2) ∧
      d'.lastPos = d.lastPos + (syncPlan d.dataSeq d.index ks d.lastPos).2.2.length ∧
      syncRest d.dataSeq d' = syncRest d.dataSeq d ∧
      (∃ ws, d'.effs = d.effs ++ ws ∧ ws.map (·.2) = planW d.dataSeq d.index ks d.lastPos) := by
  induction ks generalizing d bidx f with
  | nil => exact ⟨d, by simp [syncPlan, encLog], rfl, by simp [syncPlan, hfile], by simp [syncPlan], rfl,
      [], by simp, rfl⟩
  | cons k t ih =>
    cases hl : ilookup k d.index with
    | none =>
      have hstep : syncKey (d, bidx) k = (d, bidx ++ encDel k) := by
        unfold syncKey; simp only [hc.1, hl]
      obtain ⟨d', h1, h2, h3, h4, h5, h6⟩ := ih d (bidx ++ encDel k) f hc hfile hpos
      rw [syncPlan_none t _ hl]
      refine ⟨d', ?_, h2, h3, h4, h5, ?_⟩
      · simp only [List.foldl_cons, hstep, h1]
        simp [encLog, encEntry, List.append_assoc]
      · simp only [planW, hl]; exact h6
    | some rc =>
      have hrc := allCached_lookup hc.2 k rc hl
      cases hd : rc.data with
      | none => have := hrc.1; simp [hd] at this
      | some v =>
        obtain ⟨d1, s1, s2, s3, s4, s5, s6⟩ := syncKey_exact_some d bidx k rc v f hc.1 hl hd hrc.2 hfile hpos
        have hc1 : Cached d1 := (congrArg (Cached ·.1) s1).mp (syncKey_cached (d, bidx) k hc).cached
        have hds : d1.dataSeq = d.dataSeq := congrArg (fun x => x.2.2.2.2.1) s5
        obtain ⟨d', h1, h2, h3, h4, h5, ws, h6, h7⟩ := ih d1 (bidx ++ encRec k { rc with pos := u32 d.lastPos, seq := d.dataSeq })
          (f ++ v) hc1 (by rw [hds]; exact s3) (by rw [s4, hpos]; simp)
        have hv : rc.data.getD [] = v := by simp [hd]
        rw [hds, s2, s4] at h1 h2 h3 h4 h7
        rw [hds] at h5
        rw [syncPlan_some t _ hl rfl hv.symm]
        refine ⟨d', ?_, h2, ?_, ?_, h5.trans s5,
          ("qdb.sync:data-written", .writeDat d.dataSeq d.lastPos v) :: ws, by rw [h6, s6]; simp, ?_⟩
        rotate_right
        · simp only [planW, hl, hv, List.map_cons]; rw [h7]
        · simp only [List.foldl_cons, s1, h1]
          simp [encLog, encEntry, List.append_assoc]
        · rw [h3]; simp [List.append_assoc]
        · rw [h4]; simp [List.length_append]; omega

/-! ### properties of the plan -/

theorem nodup_applyEntryL (D : List (Key × Rec)) (e : LogEntry) (h : (Keys D).Nodup) : (Keys (applyEntryL D e)).Nodup := by
  cases e with
  | put k r => exact nodup_iset k r D h
  | del k => exact nodup_ierase k D h

theorem plan_lookup (seq : Nat) (ks : List Key) (hnd : ks.Nodup) (idx : List (Key × Rec)) (pos : Nat)
    (D : List (Key × Rec)) (hD : (Keys D).Nodup) (k : Key) :
    ilookup k (applyEntriesL D ((syncPlan seq idx ks pos).2.1.map stripE)) =
      (if k ∈ ks then (ilookup k (syncPlan seq idx ks pos).1).map strip else ilookup k D) ∧
    (k ∉ ks → ilookup k (syncPlan seq idx ks pos).1 = ilookup k idx) := by
  induction ks generalizing idx pos D with
  | nil => simp [syncPlan, applyEntriesL]
  | cons j t ih =>
    obtain ⟨hj, ht⟩ := List.nodup_cons.mp hnd
    cases hl : ilookup j idx with
    | none =>
      rw [syncPlan_none t pos hl]
      obtain ⟨a, b⟩ := ih ht idx pos (ierase j D) (nodup_ierase j D hD)
      simp only [List.map_cons, stripE, applyEntriesL, List.foldl_cons, applyEntryL] at a ⊢
      constructor
      · rw [a]
        by_cases hk : k = j
        · subst hk
          simp [hj, ilookup_ierase _ _ _ hD, b hj, hl]
        · by_cases hkt : k ∈ t
          · simp [hkt]
          · simp [hkt, hk, ilookup_ierase _ _ _ hD, Ne.symm hk]
      · intro hk
        simp only [List.mem_cons, not_or] at hk
        exact b hk.2
    | some rc =>
      let rc' : Rec := { rc with pos := u32 pos, seq := seq }
      rw [syncPlan_some t pos hl (rc' := rc') rfl rfl]
      obtain ⟨a, b⟩ := ih ht (iset j rc' idx) (pos + (rc.data.getD []).length) (iset j (strip rc') D)
        (nodup_iset j (strip rc') D hD)
      simp only [List.map_cons, stripE, applyEntriesL, List.foldl_cons, applyEntryL] at a ⊢
      constructor
      · rw [a]
        by_cases hk : k = j
        · subst hk
          simp [hj, ilookup_iset, b hj]
        · by_cases hkt : k ∈ t
          · simp [hkt]
          · simp [hkt, hk, ilookup_iset, Ne.symm hk]
      · intro hk
        simp only [List.mem_cons, not_or] at hk
        rw [b hk.2, ilookup_iset, if_neg (Ne.symm hk.1)]

/-- the record's bytes are in the file at [pos, pos+len), without uint32 wrap-around -/
def ReadsBack (file : Bytes) (r : Rec) (v : Bytes) : Prop :=
  r.pos + r.len ≤ file.length ∧ r.pos + r.len < 2^32 ∧ (file.drop r.pos).take r.len = v

theorem ReadsBack.append {file : Bytes} {r : Rec} {v : Bytes} (h : ReadsBack file r v) (g : Bytes) :
    ReadsBack (file ++ g) r v := by
  obtain ⟨h1, h2, h3⟩ := h
  refine ⟨by simp only [List.length_append]; omega, h2, ?_⟩
  rw [List.drop_append_of_le_length (by omega), List.take_append_of_le_length (by simp only [List.length_drop]; omega)]
  exact h3

theorem ReadsBack.placed (f v g : Bytes) (r : Rec) (hp : r.pos = u32 f.length) (hl : r.len = v.length)
    (h : f.length + v.length < 2^32) : ReadsBack (f ++ (v ++ g)) r v := by
  rw [ReadsBack, hp, hl, show u32 f.length = f.length from Nat.mod_eq_of_lt (by omega), List.drop_left' rfl]
  exact ⟨by simp only [List.length_append]; omega, h, List.take_left' rfl⟩

theorem plan_reads (seq : Nat) (ks : List Key) (hnd : ks.Nodup) (idx : List (Key × Rec)) (f : Bytes)
    (hwf : ∀ kr ∈ idx, kr.2.len = (kr.2.data.getD []).length)
    (hsmall : f.length + (syncPlan seq idx ks f.length).2.2.length < 2^32)
    (k : Key) (hk : k ∈ ks) (r : Rec) (hr : ilookup k (syncPlan seq idx ks f.length).1 = some r) :
    r.seq = seq ∧ ReadsBack (f ++ (syncPlan seq idx ks f.length).2.2) r (r.data.getD []) := by
  induction ks generalizing idx f with
  | nil => cases hk
  | cons j t ih =>
    have hj : j ∉ t := (List.nodup_cons.mp hnd).1
    have ht : t.Nodup := (List.nodup_cons.mp hnd).2
    have hkt : k ≠ j → k ∈ t := (List.mem_cons.mp hk).resolve_left
    cases hl : ilookup j idx with
    | none =>
      simp only [syncPlan, hl] at hr hsmall ⊢
      by_cases hkj : k = j
      · subst hkj
        have := (plan_lookup seq t ht idx f.length [] (by simp [Keys]) k).2 hj
        rw [this, hl] at hr
        cases hr
      · exact ih ht idx f hwf hsmall (hkt hkj) hr
    | some rc =>
      let rc' : Rec := { rc with pos := u32 f.length, seq := seq }
      let v := rc.data.getD []
      rw [syncPlan_some t f.length hl (rc' := rc') (v := v) rfl rfl] at hr hsmall ⊢
      simp only [List.length_append] at hr hsmall ⊢
      have hlen : (f ++ v).length = f.length + v.length := by simp
      have hrl : rc.len = v.length := by
        obtain ⟨j', hm⟩ := ilookup_mem j rc idx hl
        exact hwf (j', rc) hm
      have hwf' : ∀ kr ∈ iset j rc' idx, kr.2.len = (kr.2.data.getD []).length := by
        intro kr hkr
        rcases mem_iset j rc' idx kr hkr with h | h
        · rw [h]; exact hrl
        · exact hwf kr h
      by_cases hkj : k = j
      · subst hkj
        have hb := (plan_lookup seq t ht (iset k rc' idx) (f.length + v.length) [] (by simp [Keys]) k).2 hj
        rw [hb, ilookup_iset] at hr
        simp only [↓reduceIte, Option.some.injEq] at hr
        subst hr
        exact ⟨rfl, ReadsBack.placed f v _ rc' rfl hrl (by omega)⟩
      · have := ih ht (iset j rc' idx) (f ++ v) hwf' (by rw [hlen]; omega) (hkt hkj) (by rw [hlen]; exact hr)
        rw [hlen] at this
        simpa [List.append_assoc] using this

theorem plan_fits (seq : Nat) (hseq : seq < 2^32) (ks : List Key) (hks : ∀ k ∈ ks, k < 2^64)
    (idx : List (Key × Rec)) (hwf : ∀ kr ∈ idx, RecWF kr) (pos : Nat) (hpos : 4 ≤ pos)
    (hsmall : pos + (syncPlan seq idx ks pos).2.2.length < 2^32) :
    ∀ e ∈ (syncPlan seq idx ks pos).2.1, EntryFits e := by
  induction ks generalizing idx pos with
  | nil => intro e he; simp [syncPlan] at he
  | cons j t ih =>
    have hjk := hks j List.mem_cons_self
    have hkt : ∀ k ∈ t, k < 2^64 := fun k hk => hks k (List.mem_cons_of_mem _ hk)
    cases hl : ilookup j idx with
    | none =>
      rw [syncPlan_none t pos hl] at hsmall ⊢
      intro e he
      simp only [List.mem_cons] at he
      rcases he with rfl | he
      · exact hjk
      · exact ih hkt idx hwf pos hpos hsmall e he
    | some rc =>
      let rc' : Rec := { rc with pos := u32 pos, seq := seq }
      let v := rc.data.getD []
      rw [syncPlan_some t pos hl (rc' := rc') (v := v) rfl rfl] at hsmall ⊢
      simp only [List.length_append] at hsmall
      obtain ⟨j', hm⟩ := ilookup_mem j rc idx hl
      obtain ⟨_, hfl, hlen⟩ := hwf (j', rc) hm
      have hwf' : ∀ kr ∈ iset j rc' idx, RecWF kr := by
        intro kr hkr
        rcases mem_iset j rc' idx kr hkr with h | h
        · rw [h]; exact ⟨hjk, hfl, hlen⟩
        · exact hwf kr h
      intro e he
      simp only [List.mem_cons] at he
      rcases he with rfl | he
      · have hu : u32 pos = pos := Nat.mod_eq_of_lt (by omega)
        refine ⟨⟨hjk, ?_, ?_, hseq, hfl⟩, ?_⟩
        · show u32 pos < 2^32; exact u32_lt _
        · show rc.len < 2^32
          have : rc.len = v.length := hlen
          omega
        · show u32 pos ≠ 0; rw [hu]; omega
      · exact ih hkt (iset j rc' idx) hwf' (pos + v.length) (by omega) (by omega) e he

end GocoinV.Proofs.C19
