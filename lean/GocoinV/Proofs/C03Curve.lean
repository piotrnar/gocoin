/-
  Proofs.C03Curve — `SecpGroupLaw` holds: the reference addition `Secp.add` (Nat arithmetic with
  explicit `% p`, Fermat inversion) IS the addition of Mathlib's group of nonsingular points
  `WeierstrassCurve.Affine.Point` of the curve y² = x³ + 7 over `C08.F` (= `ZMod p`), so closure, commutativity
  and associativity are inherited from Mathlib's `AddCommGroup` instance. The reference law is read in the field through
  `C08.secp_dbl_F` / `secp_add_F` (Proofs/C08_GroupAlg.lean). `ZMod Secp.p` and `C08.F` are the same type by
  definitional unfolding: facts of Proofs/C03Field.lean are used at `C08.F` by `exact`, not by `rw`.
-/
import GocoinV.Proofs.C03Group
import Mathlib.AlgebraicGeometry.EllipticCurve.Affine.Point
namespace GocoinV.Proofs.C03
open GocoinV GocoinV.Secp

/-- secp256k1 over the prime field: y² = x³ + 7 -/
def W : WeierstrassCurve.Affine C08.F := ⟨0, 0, 0, 0, 7⟩

open WeierstrassCurve.Affine

theorem W_equation (X Y : C08.F) : W.Equation X Y ↔ Y ^ 2 = X ^ 3 + 7 := by
  rw [equation_iff]; simp [W]

theorem W_negY (X Y : C08.F) : W.negY X Y = -Y := by simp [negY, W]

/-- a reference point and a Mathlib point denote the same point -/
def Rep (P : Point) : W.Point → Prop
  | .zero => P = none
  | .some X Y _ => P = C08.ptF X Y

theorem W_addX (X1 X2 ℓ : C08.F) : W.addX X1 X2 ℓ = ℓ ^ 2 - X1 - X2 := by
  simp [addX, W]

theorem W_addY (X1 X2 Y1 ℓ : C08.F) :
    W.addY X1 X2 Y1 ℓ = -(ℓ * ((ℓ ^ 2 - X1 - X2) - X1) + Y1) := by
  simp [addY, negAddY, negY, addX, W]

/-- no point of the curve has y = 0, so none is its own negative -/
theorem Y_ne_neg (X Y : C08.F) (h : Y ^ 2 = X ^ 3 + 7) : Y ≠ W.negY X Y := by
  rw [W_negY]
  intro e
  have hY : Y = 0 := (mul_eq_zero.mp (by linear_combination e : 2 * Y = 0)).resolve_left C08.two_ne_zero_F
  have hr : X ^ 3 + 7 ≠ 0 := rhs_ne_zero X
  exact hr (by rw [← h, hY]; ring)

theorem rep_add (P Q : Point) (M N : W.Point) (hP : Rep P M) (hQ : Rep Q N) :
    Rep (add P Q) (M + N) := by
  cases M with
  | zero => cases hP; rw [← Point.zero_def, zero_add]; exact hQ
  | some X1 Y1 h1 =>
    cases N with
    | zero => cases hQ; rw [← Point.zero_def, add_zero, add_none_right]; exact hP
    | some X2 Y2 h2 =>
      cases hP; cases hQ
      rw [C08.secp_add_F]
      by_cases hx : X1 = X2
      · subst hx
        by_cases hy : Y1 = Y2
        · subst hy
          -- doubling
          have hne := Y_ne_neg X1 Y1 ((W_equation _ _).mp h1.1)
          have hY0 : Y1 ≠ 0 := by
            intro e; apply hne; rw [W_negY, e, neg_zero]
          rw [if_pos rfl, if_pos rfl, C08.secp_dbl_F, if_neg hY0, Point.add_self_of_Y_ne hne]
          have hs : W.slope X1 X1 Y1 Y1 = 3 * X1 * X1 * (2 * Y1)⁻¹ := by
            rw [slope_of_Y_ne rfl hne, W_negY]; simp [W]; ring
          show C08.ptF _ _ = C08.ptF _ _
          rw [W_addX, W_addY, hs]
          exact congrArg₂ C08.ptF (by simp only [C08.dblF]; ring) (by simp only [C08.dblF]; ring)
        · -- opposite points
          have hneg : Y1 = W.negY X1 Y2 := (Y_eq_of_X_eq h1.1 h2.1 rfl).resolve_left hy
          rw [if_pos rfl, if_neg hy, Point.add_of_Y_eq rfl hneg]
          rfl
      · rw [if_neg hx, Point.add_of_X_ne hx]
        have hs : W.slope X1 X2 Y1 Y2 = (Y2 - Y1) * (X2 - X1)⁻¹ := by
          rw [slope_of_X_ne hx, div_eq_mul_inv, ← neg_sub Y2, ← neg_sub X2, inv_neg]; ring
        show C08.ptF _ _ = C08.ptF _ _
        rw [W_addX, W_addY, hs]
        exact congrArg₂ C08.ptF (by simp only [C08.addF]; ring) (by simp only [C08.addF]; ring)

theorem rep_exists (P : Point) (h : OnC P) : ∃ M, Rep P M := by
  cases P with
  | none => exact ⟨.zero, rfl⟩
  | some q =>
    obtain ⟨x, y⟩ := q
    obtain ⟨hx, hy, heq⟩ := (onCurve_iff x y).mp h
    have heq' : (y : C08.F) ^ 2 = (x : C08.F) ^ 3 + 7 := heq
    have hns : W.Nonsingular (x : C08.F) (y : C08.F) := by
      rw [nonsingular_iff]
      exact ⟨(W_equation _ _).mpr heq', Or.inr (by simpa [W] using Y_ne_neg _ _ heq')⟩
    refine ⟨.some _ _ hns, ?_⟩
    rw [C08.secp_p_eq] at hx hy
    show some (x, y) = some (_, _)
    rw [ZMod.val_natCast, ZMod.val_natCast, Nat.mod_eq_of_lt hx, Nat.mod_eq_of_lt hy]

theorem rep_onC (P : Point) (M : W.Point) (h : Rep P M) : OnC P := by
  cases M with
  | zero => cases h; rfl
  | some X Y hns =>
    cases h
    have e := (W_equation _ _).mp hns.1
    rw [← ZMod.natCast_zmod_val X, ← ZMod.natCast_zmod_val Y] at e
    exact (onCurve_iff X.val Y.val).mpr ⟨ZMod.val_lt X, ZMod.val_lt Y, e⟩

theorem rep_inj (P P' : Point) (M : W.Point) (h : Rep P M) (h' : Rep P' M) : P = P' := by
  cases M <;> exact h.trans h'.symm

instance secpGroupLaw : SecpGroupLaw where
  add_closed P Q hP hQ := by
    obtain ⟨M, hM⟩ := rep_exists P hP
    obtain ⟨N, hN⟩ := rep_exists Q hQ
    exact rep_onC _ _ (rep_add P Q M N hM hN)
  add_comm P Q hP hQ := by
    obtain ⟨M, hM⟩ := rep_exists P hP
    obtain ⟨N, hN⟩ := rep_exists Q hQ
    refine rep_inj _ _ (M + N) (rep_add P Q M N hM hN) ?_
    rw [add_comm]; exact rep_add Q P N M hN hM
  add_assoc P Q R hP hQ hR := by
    obtain ⟨M, hM⟩ := rep_exists P hP
    obtain ⟨N, hN⟩ := rep_exists Q hQ
    obtain ⟨O, hO⟩ := rep_exists R hR
    refine rep_inj _ _ (M + N + O) (rep_add _ _ _ _ (rep_add P Q M N hM hN) hO) ?_
    rw [add_assoc]; exact rep_add _ _ _ _ hM (rep_add Q R N O hN hO)

end GocoinV.Proofs.C03
