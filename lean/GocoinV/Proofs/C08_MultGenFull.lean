/-
  Proofs.C08_MultGenFull — `ECmultGen(a) = (a mod 2^256)·G`.
  From `ecmultGen_ref` (the result stands for the left-nested reference sum of the selected table points),
  `prec_pointwise'` / `fin_pt` (what the table points are) and the abelian-group structure of the reference
  law on curve points (`GocoinV.Proofs.C03.secpGroupLaw`, discharged in Proofs/C03Curve from Mathlib's
  Weierstrass group law): Σ_j (d_j+1)·16^j·G − Σ_j 16^j·G = (Σ_j d_j·16^j)·G.
-/
import GocoinV.Proofs.C08_MultGen
import GocoinV.Proofs.C03Curve

namespace GocoinV.C08
open GocoinV.Gen GocoinV.Proofs.C03

/-- `start + i·d` by repeated reference addition, in the group of curve points -/
theorem addSteps_nsmul (d s : CurvePt) (i : Nat) : addSteps d.1 s.1 i = (s + i • d).1 := by
  induction i with
  | zero => rw [zero_nsmul, add_zero]; rfl
  | succ k ih =>
    show Secp.add (addSteps d.1 s.1 k) d.1 = _
    rw [ih, ← val_add, succ_nsmul, add_assoc]

theorem precBase_nsmul (j : Nat) : precBase j = ((16 ^ j) • Gc).1 := by
  induction j with
  | zero => rw [pow_zero, one_nsmul]; rfl
  | succ k ih =>
    unfold precBase at *
    rw [rbFrom_succ, ih, addSteps_nsmul, ← succ_nsmul', ← mul_nsmul, pow_succ]

/-- the table point T_j(d) = prec[j][d] is (d+1)·16^j·G -/
theorem prec_entry_nsmul (j d : Nat) (hj : j < 64) (hd : d < 16) :
    ptOfLimbs (Tables.precAt (j * 16 + d)) = (((d + 1) * 16 ^ j) • Gc).1 := by
  rw [prec_pointwise' j d hj hd, precBase_nsmul, addSteps_nsmul, ← succ_nsmul', ← mul_nsmul, Nat.mul_comm]

/-- Σ_{i<n} 16^(off+i) -/
def eR : Nat → Nat → Nat
  | _, 0 => 0
  | off, n+1 => 16 ^ off + eR (off + 1) n

theorem headsSum_nsmul : ∀ (n off k : Nat), off + n ≤ 64 →
    headsSum n ((pts Tables.precAll).drop (16 * off)) (k • Gc).1 = ((k + eR off n) • Gc).1 := by
  intro n
  induction n with
  | zero => intro off k _; rfl
  | succ m ih =>
    intro off k h
    unfold headsSum
    have hhead : ((pts Tables.precAll).drop (16 * off)).headD none = ((16 ^ off) • Gc).1 := by
      have h1 := rows_pointwise 64 Secp.G (pts Tables.precAll) prec_rows off 0 (by omega) (by omega)
      rw [show rbFrom Secp.G off = precBase off from rfl, precBase_nsmul] at h1
      have h2 : addSteps ((16 ^ off) • Gc).1 ((16 ^ off) • Gc).1 0 = ((16 ^ off) • Gc).1 := rfl
      rw [h2] at h1
      rw [← h1]
      simp only [List.headD_eq_head?_getD, List.head?_drop, List.getD_eq_getElem?_getD]
      congr 2
      omega
    rw [hhead, ← val_add, ← add_nsmul, List.drop_drop]
    have := ih (off + 1) (k + 16 ^ off) (by omega)
    rw [show 16 * (off + 1) = 16 * off + 16 by ring] at this
    rw [this]
    congr 2
    show k + 16 ^ off + eR (off + 1) m = k + (16 ^ off + eR (off + 1) m)
    omega

/-- Σ_{j≤m} (digit_j(a)+1)·16^j -/
def cS (a : Nat) : Nat → Nat
  | 0 => a % 16 + 1
  | m+1 => cS a m + ((a / 16 ^ (m + 1)) % 16 + 1) * 16 ^ (m + 1)

theorem cS_eq (a : Nat) : ∀ m, cS a m = a % 16 ^ (m + 1) + eR 0 (m + 1) := by
  have eR_succ : ∀ n off, eR off (n + 1) = eR off n + 16 ^ (off + n) := by
    intro n
    induction n with
    | zero => intro off; simp [eR]
    | succ k ih =>
      intro off
      show 16 ^ off + eR (off + 1) (k + 1) = 16 ^ off + eR (off + 1) k + 16 ^ (off + (k + 1))
      rw [ih (off + 1)]
      have : off + 1 + k = off + (k + 1) := by omega
      rw [this]; omega
  intro m
  induction m with
  | zero => simp [cS, eR]
  | succ k ih =>
    show cS a k + ((a / 16 ^ (k + 1)) % 16 + 1) * 16 ^ (k + 1) = _
    rw [ih, Nat.mod_pow_succ (k := k + 1), eR_succ (k + 1) 0, Nat.zero_add]
    ring

theorem fold_nsmul (a : Nat) : ∀ m, m ≤ 63 →
    (List.range m).foldl (fun r k => Secp.add r (ptOfLimbs (Tables.precAt ((k + 1) * 16 + (a / 16 ^ (k + 1)) % 16))))
      (ptOfLimbs (Tables.precAt (0 * 16 + a % 16))) = ((cS a m) • Gc).1 := by
  intro m
  induction m with
  | zero =>
    intro _
    rw [List.range_zero, List.foldl_nil, prec_entry_nsmul 0 (a % 16) (by omega) (Nat.mod_lt _ (by omega)),
      pow_zero, Nat.mul_one]
    rfl
  | succ k ih =>
    intro hk
    rw [List.range_succ, List.foldl_append, ih (by omega), List.foldl_cons, List.foldl_nil,
      prec_entry_nsmul (k + 1) _ (by omega) (Nat.mod_lt _ (by omega)), ← val_add, ← add_nsmul]
    rfl

/-- `fin` is −(Σ_j 16^j)·G: one kernel evaluation of the Jacobian double-and-add (`mul_eq_mulJ`) -/
theorem fin_pt : ptOfLimbs Tables.fin = Secp.neg (Secp.mul (eR 0 64) Secp.G) := by
  rw [mul_eq_mulJ]; decide +kernel

/-- `ECmultGen(a)` is (a mod 2^256)·G in the reference group law, for EVERY natural number a -/
theorem ecmultGen_mul (a : Nat) : (ecmultGen a).toPoint = Secp.mul (a % 2 ^ 256) Secp.G := by
  rw [(ecmultGen_ref a).2]
  unfold ecmultGenRef
  rw [fold_nsmul a 63 (by omega), fin_pt, mul_G (eR 0 64), ← val_neg, ← val_add, cS_eq a 63]
  have hle : eR 0 64 ≤ a % 16 ^ 64 + eR 0 64 := Nat.le_add_left _ _
  rw [← sub_nsmul Gc hle, Nat.add_sub_cancel, mul_G]
  have : (16 : Nat) ^ 64 = 2 ^ 256 := by decide
  rw [this]

end GocoinV.C08
