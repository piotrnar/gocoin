/-
  Proofs.C10Snap — round trip of the snapshot file's framing (`snapEncode` / `snapDecode`: what UnspentDB.save writes and
  NewUnspentDb reads around the records).
-/
import GocoinV.Proofs.C10Rec
namespace GocoinV.UtxoRec
open GocoinV.CompactSize

/-- `ReadVLen` is `VULe` with "too short" reported as `none` and the rest handed on -/
theorem readVLen_eq (b : Bytes) :
    readVLen b = if (vule b).2 = 0 then none else some ((vule b).1, b.drop (vule b).2) := by
  cases b with
  | nil => rfl
  | cons m t =>
    rw [vule_cons, readVLen]
    by_cases h1 : m.toNat < 0xfd
    · simp [h1]
    · simp only [h1, ↓reduceIte]
      by_cases hs : shorter t (2 <<< (2 - (0xff - m.toNat))) = true
      · simp [hs, Nat.not_le.mpr ((shorter_iff _ _).mp hs)]
      · simp [hs, Nat.not_lt.mp (mt (shorter_iff _ _).mpr hs)]

theorem readVLen_putULe (n : Nat) (h : n < 2 ^ 64) (rest : Bytes) :
    readVLen (putULe n ++ rest) = some (n, rest) := by
  rw [readVLen_eq, vule_putULe n h, if_neg (Nat.ne_of_gt (vlenSize_pos n)), drop_putULe]

theorem decRecs_enc (recs : List Bytes) (hr : ∀ r ∈ recs, r.length < 2 ^ 64) (extra : Bytes) :
    decRecs recs.length (encRecs recs ++ extra) = some recs := by
  induction recs with
  | nil => simp [decRecs]
  | cons r t ih =>
    have ht : ∀ r ∈ t, r.length < 2 ^ 64 := fun x hx => hr x (List.mem_cons_of_mem _ hx)
    simp only [List.length_cons, decRecs, encRecs, List.append_assoc,
      readVLen_putULe r.length (hr r (by simp))]
    have hs : shorter (r ++ (encRecs t ++ extra)) r.length = false := shorter_eq_false _ _ (by simp)
    simp [hs, ih ht]


structure WFSnap (s : Snap) : Prop where
  height : s.height < 2 ^ 32
  hash : s.hash.length = 32
  count : s.recs.length < 2 ^ 64
  recs : ∀ r ∈ s.recs, r.length < 2 ^ 64

/-- the header of a snapshot file, whatever the two words hold and whatever follows -/
theorem snapDecode_frame (u cnt : Nat) (hash body : Bytes) (hu : u < 2 ^ 64) (hc : cnt < 2 ^ 64)
    (hh : hash.length = 32) :
    snapDecode (leBytes 8 u ++ (hash ++ (leBytes 8 cnt ++ body))) =
      (decRecs cnt body).map fun recs => ⟨u / 2 ^ 63 % 2 == 1, u % 2 ^ 32, hash, recs⟩ := by
  unfold snapDecode
  have hlen : ¬ ((leBytes 8 u ++ (hash ++ (leBytes 8 cnt ++ body))).length < 48) := by simp [hh]; omega
  have t8 : (leBytes 8 u ++ (hash ++ (leBytes 8 cnt ++ body))).take 8 = leBytes 8 u :=
    List.take_left' (leBytes_length 8 u)
  have d8 : (leBytes 8 u ++ (hash ++ (leBytes 8 cnt ++ body))).drop 8 = hash ++ (leBytes 8 cnt ++ body) := by
    simp
  have d40 : (leBytes 8 u ++ (hash ++ (leBytes 8 cnt ++ body))).drop 40 = leBytes 8 cnt ++ body := by
    rw [← List.append_assoc]
    exact List.drop_left' (by simp [hh])
  have d48 : (leBytes 8 u ++ (hash ++ (leBytes 8 cnt ++ body))).drop 48 = body := by
    rw [← List.append_assoc, ← List.append_assoc]
    exact List.drop_left' (by simp [hh])
  have th : (hash ++ (leBytes 8 cnt ++ body)).take 32 = hash := List.take_left' hh
  have tc : (leBytes 8 cnt ++ body).take 8 = leBytes 8 cnt := List.take_left' (leBytes_length 8 cnt)
  have p8 : (256 : Nat) ^ 8 = 2 ^ 64 := by decide
  simp only [hlen, ↓reduceIte, t8, d8, d40, d48, th, tc, leVal_leBytes, p8, Nat.mod_eq_of_lt hu, Nat.mod_eq_of_lt hc]
  cases decRecs cnt body <;> rfl

theorem snapDecode_snapEncode (s : Snap) (h : WFSnap s) (extra : Bytes) :
    snapDecode (snapEncode s ++ extra) = some s := by
  obtain ⟨hh, hhash, hcnt, hrecs⟩ := h
  unfold snapEncode
  generalize hu : s.height + (if s.compressed then 2 ^ 63 else 0) = u
  have hu64 : u < 2 ^ 64 := by subst hu; split <;> omega
  have hc : (u / 2 ^ 63 % 2 == 1) = s.compressed := by
    subst hu; cases s.compressed <;> simp <;> omega
  have hht : u % 2 ^ 32 = s.height := by
    subst hu; split <;> omega
  rw [List.append_assoc, List.append_assoc, List.append_assoc, snapDecode_frame u _ _ _ hu64 hcnt hhash,
    decRecs_enc s.recs hrecs extra, Option.map_some, hc, hht]

/-- whole pipeline, either format: records serialised, written to a snapshot with mode bit `c`, reloaded and decoded are
    the records that went in -/
theorem snapshot_records_roundtrip (F : OutFmt) (c : Bool) (height : Nat) (hash : Bytes) (rs : List Rec) (bs : List Bytes)
    (hh : height < 2 ^ 32) (hhash : hash.length = 32) (hn : rs.length < 2 ^ 64)
    (hwf : ∀ r ∈ rs, F.WFRec r) (hser : rs.map F.ser = bs.map some) (hlen : ∀ b ∈ bs, b.length < 2 ^ 64) :
    ∃ s, snapDecode (snapEncode ⟨c, height, hash, bs⟩) = some s ∧ s.compressed = c ∧
      s.height = height ∧ s.hash = hash ∧ s.recs.map (Model.BalancesLoad.genRec F.P) = rs.map Res.ok := by
  have hbl : bs.length = rs.length := by simpa using (congrArg List.length hser).symm
  have := snapDecode_snapEncode ⟨c, height, hash, bs⟩ ⟨hh, hhash, by simpa [hbl] using hn, hlen⟩ []
  rw [List.append_nil] at this
  exact ⟨_, this, rfl, rfl, rfl, map_dec_of_map_ser _ _ _ rs (fun r hr => genRec_ser F r (hwf r hr)) bs hser⟩

end GocoinV.UtxoRec
