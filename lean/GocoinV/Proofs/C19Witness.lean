/-
  Proofs.C19Witness — Boolean deciders for the side conditions the theorems of Props/C19 put on a history (`OpOK…`,
  `HOK…`, `RunFits2`, `HFits`, …), each proved sound once, so that a non-vacuity example can show its history admissible
  by one evaluation of the decider instead of unfolding the predicate.
-/
import GocoinV.Proofs.C19Lz
namespace GocoinV.Proofs.C19
open GocoinV GocoinV.Qdb GocoinV.QdbSpec

theorem all_sound {α : Type} {p : α → Prop} {b : α → Bool} (h : ∀ a, b a = true → p a) (l : List α)
    (hl : l.all b = true) : ∀ a ∈ l, p a :=
  fun a ha => h a (List.all_eq_true.mp hl a ha)

/-! ### which operations -/

def opOKb (e : Bool) : Op → Bool
  | .putExt _ _ f => !hasFlag f (ncOf e)
  | .applyFlags _ fl => !hasFlag fl (ncOf e)
  | .browse w => w.all fun kf => !hasFlag kf.2 (ncOf e)
  | .reopen _ _ _ => false
  | _ => true

def opOK2b (e : Bool) : Op → Bool
  | .reopen vol load _ => !vol && load
  | op => opOKb e op

def opOK3b (e : Bool) : Op → Bool
  | .reopen _ load _ => load
  | op => opOKb e op

def opOK5b : Op → Bool
  | .putExt _ _ f => decide (f < 2^32)
  | .applyFlags _ fl => decide (fl < 2^32)
  | .browse w => w.all fun kf => decide (kf.2 < 2^32)
  | _ => true

theorem opOKb_sound (e : Bool) (op : Op) (h : opOKb e op = true) : OpOK e op := by
  cases op <;> first | trivial | simpa [opOKb, OpOK] using h | skip
  exact all_sound (fun kf hkf => by simpa using hkf) _ h

theorem opOK2b_sound (e : Bool) (op : Op) (h : opOK2b e op = true) : OpOK2 e op := by
  cases op <;> simp only [opOK2b, OpOK2] at h ⊢ <;> first | exact opOKb_sound e _ h | simpa using h

theorem opOK3b_sound (e : Bool) (op : Op) (h : opOK3b e op = true) : OpOK3 e op := by
  cases op <;> simp only [opOK3b, OpOK3] at h ⊢ <;> first | exact opOKb_sound e _ h | exact h

theorem opOK5b_sound (op : Op) (h : opOK5b op = true) : OpOK5 op := by
  cases op <;> first | trivial | simpa [opOK5b, OpOK5] using h | skip
  exact all_sound (fun kf hkf => by simpa using hkf) _ h

theorem hist_ok (e : Bool) (H : List HItem) (h : H.all (fun i => opOK3b e (itemOp i)) = true) : ∀ i ∈ H, HOK e i :=
  all_sound (fun i => opOK3b_sound e (itemOp i)) H h

theorem hist_ok5 (H : List HItem) (h : H.all (fun i => opOK5b (itemOp i)) = true) : ∀ i ∈ H, HOK5 i :=
  all_sound (fun i => opOK5b_sound (itemOp i)) H h

/-! ### the bounds -/

def sizeOKb (db : DB) : Bool :=
  decide ((checkDat db).lastPos + (syncPlan db.dataSeq db.index db.pending (checkDat db).lastPos).2.2.length < 2^32) &&
  decide (4 + (valsOf db.index).flatten.length < 2^32)

def dFitsb (db : DB) : Bool := decide (db.dataSeq + 1 < 2^32) && decide (16 + 24 * db.index.length ≤ bufSize)

def opFitsb (db : DB) : Op → Bool
  | .put k v => decide (k < 2^64) && decide (v.length < 2^32) && sizeOKb (preSync db (.put k v))
  | .putExt k v f =>
      decide (k < 2^64) && decide (v.length < 2^32) && decide (f < 2^32) && sizeOKb (preSync db (.putExt k v f))
  | .del k => decide (k < 2^64) && sizeOKb (preSync db (.del k))
  | .sync => sizeOKb (preSync db .sync)
  | .defrag _ => sizeOKb db
  | _ => true

def opFits2b (db : DB) : Op → Bool
  | .reopen _ _ opts => sizeOKb db &&
      decide ((openIndex { fs := (sync db).fs, volatile := false, opts := opts, eager := db.eager }).maxSeq + 1 < 2^32)
  | op => opFitsb db op

def opFits3b (db : DB) : Op → Bool
  | .reopen vol _ opts => sizeOKb db &&
      decide ((openIndex { fs := (close db).fs, volatile := vol, opts := opts, eager := db.eager }).maxSeq + 1 < 2^32)
  | op => opFitsb db op

def runFits2b : DB → List Op → Bool
  | _, [] => true
  | db, op :: t => opFits2b db op && runFits2b (step db op) t

def hFitsb : DB → List HItem → Bool
  | _, [] => true
  | db, .op o :: t => opFits3b db o && dFitsb (preSync db o) && hFitsb (step db o) t
  | db, .crash o n ms vol opts :: t => opFits3b db o && dFitsb (preSync db o) &&
      decide ((openIndex { fs := recrash opts (crashDir db o n) ms, volatile := vol, opts := opts,
                           eager := db.eager }).maxSeq + 1 < 2^32) &&
      hFitsb (hstep db (.crash o n ms vol opts)) t

theorem sizeOKb_sound (db : DB) (h : sizeOKb db = true) : SizeOK db := by
  simpa [sizeOKb, SizeOK] using h

theorem dFitsb_sound (db : DB) (h : dFitsb db = true) : DFits db := by
  simp only [dFitsb, Bool.and_eq_true, decide_eq_true_eq] at h
  exact ⟨h.1, h.2⟩

theorem opFitsb_sound (db : DB) (op : Op) (h : opFitsb db op = true) : OpFits db op := by
  cases op <;> simp only [opFitsb, Bool.and_eq_true, decide_eq_true_eq] at h
  case put k v => exact ⟨h.1.1, h.1.2, sizeOKb_sound _ h.2⟩
  case putExt k v f => exact ⟨h.1.1.1, h.1.1.2, h.1.2, sizeOKb_sound _ h.2⟩
  case del k => exact ⟨h.1, sizeOKb_sound _ h.2⟩
  case sync => exact sizeOKb_sound _ h
  case defrag f => exact sizeOKb_sound _ h
  all_goals trivial

theorem opFits2b_sound (db : DB) (op : Op) (h : opFits2b db op = true) : OpFits2 db op := by
  cases op <;> simp only [opFits2b, OpFits2, Bool.and_eq_true, decide_eq_true_eq] at h ⊢ <;>
    first | exact opFitsb_sound db _ h | exact ⟨sizeOKb_sound _ h.1, h.2⟩

theorem opFits3b_sound (db : DB) (op : Op) (h : opFits3b db op = true) : OpFits3 db op := by
  cases op <;> simp only [opFits3b, OpFits3, Bool.and_eq_true, decide_eq_true_eq] at h ⊢ <;>
    first | exact opFitsb_sound db _ h | exact ⟨sizeOKb_sound _ h.1, h.2⟩

theorem runFits2b_sound (ops : List Op) (db : DB) (h : runFits2b db ops = true) : RunFits2 db ops := by
  induction ops generalizing db with
  | nil => trivial
  | cons op t ih =>
    simp only [runFits2b, Bool.and_eq_true] at h
    exact ⟨opFits2b_sound db op h.1, ih _ h.2⟩

theorem hFitsb_sound (H : List HItem) (db : DB) (h : hFitsb db H = true) : HFits db H := by
  induction H generalizing db with
  | nil => trivial
  | cons i t ih =>
    cases i with
    | op o =>
      simp only [hFitsb, Bool.and_eq_true] at h
      exact ⟨opFits3b_sound db o h.1.1, dFitsb_sound _ h.1.2, ih _ h.2⟩
    | crash o n ms vol opts =>
      simp only [hFitsb, Bool.and_eq_true, decide_eq_true_eq] at h
      exact ⟨opFits3b_sound db o h.1.1.1, dFitsb_sound _ h.1.1.2, h.1.2, ih _ h.2⟩

end GocoinV.Proofs.C19
