/-
  Proofs.C18Expire — the penalty-expiry walk of core.go expire_misbehave (Model/NetParseExpire.lean): its loop ends
  without an index out of range and within the fuel (`loop_ok`), and what the function returns, by cases
  (`expire_cases`). Core Lean only.
-/
import GocoinV.Model.NetParseExpire
namespace GocoinV.NetParse.Expire

theorem idx?_lt {hist : Hist} {i : Nat} (h : i < hist.length) : idx? hist i = some hist[i] :=
  dif_pos h

/-- the loop of the source, started at an index inside the history with at least as much fuel as records
    left: it ends by `zero` or by `brk idx' _` with idx ≤ idx' < len - never by a panic, never out of fuel. -/
theorem loop_ok (now : Int) (hist : Hist) :
    ∀ (fuel idx : Nat) (sub : Int), idx < hist.length → hist.length ≤ fuel + idx →
      loopG false now hist fuel idx sub = .zero ∨
      ∃ i s, loopG false now hist fuel idx sub = .brk i s ∧ idx ≤ i ∧ i < hist.length := by
  intro fuel
  induction fuel with
  | zero => intro idx sub h1 h2; omega
  | succ fuel ih =>
    intro idx sub h1 h2
    unfold loopG
    rw [idx?_lt h1]
    simp only [Bool.false_eq_true, if_false]
    split
    · exact Or.inr ⟨idx, sub, rfl, Nat.le_refl _, h1⟩
    · split
      · exact Or.inl rfl
      · next hne =>
        have h3 : idx + 1 < hist.length := by omega
        rw [idx?_lt h3]
        rcases ih (idx + 1) (sub + ((hist[idx + 1].2 % 65536 : Nat) : Int)) h3 (by omega) with h | ⟨i, s, h, hi, hl⟩
        · exact Or.inl h
        · exact Or.inr ⟨i, s, h, by omega, hl⟩

theorem loop_not_stuck (now : Int) (hist : Hist) (h : 0 < hist.length) :
    loopG false now hist (hist.length + 1) 0 0 ≠ .stuck ∧ loopG false now hist (hist.length + 1) 0 0 ≠ .panic := by
  rcases loop_ok now hist (hist.length + 1) 0 0 h (by omega) with h | ⟨i, s, h, _, _⟩ <;> rw [h] <;> simp

/-- what expire returns, by cases: the two fields unchanged, or everything forgotten, or the first `k` records
    dropped (0 < k < len) with some amount taken off the counter. -/
theorem expire_cases (now mis : Int) (hist : Hist) :
    expire now mis hist = some (mis, hist) ∨ expire now mis hist = some (0, []) ∨
    ∃ k s, 0 < k ∧ k < hist.length ∧ expire now mis hist = some (mis - s, hist.drop k) := by
  unfold expire expireG
  split
  · next hpos =>
    rcases loop_ok now hist (hist.length + 1) 0 0 hpos (by omega) with h | ⟨i, s, h, _, hl⟩ <;> rw [h]
    · exact Or.inr (Or.inl rfl)
    · simp only []
      split
      · next hi =>
        rw [sliceFrom?, if_pos (Nat.le_of_lt hl)]
        exact Or.inr (Or.inr ⟨i, s, hi, hl, rfl⟩)
      · exact Or.inl rfl
  · exact Or.inl rfl

theorem expire_suffix {now mis mis' : Int} {hist hist' : Hist} (h : expire now mis hist = some (mis', hist')) :
    ∃ k, hist' = hist.drop k := by
  rcases expire_cases now mis hist with e | e | ⟨k, s, _, _, e⟩ <;> cases e.symm.trans h
  · exact ⟨0, rfl⟩
  · exact ⟨hist.length, List.drop_length.symm⟩
  · exact ⟨k, rfl⟩

end GocoinV.NetParse.Expire
