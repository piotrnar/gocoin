/-
  Proofs.C02Caller — the caller's history (Model.SigHashCaller): requests that are safe at the moment they run
  return what a fresh object with all spent outputs returns.
-/
import GocoinV.Model.SigHashCaller
import GocoinV.Proofs.C02Cache
namespace GocoinV.SigHash
open GocoinV.Wire (Tx TxIn TxOut)

theorem step_take (H : Bytes → Bytes) (tx : Tx) (spent : List TxOut) (c : Cache) (j : Nat) (k : Call)
    (hk : safeAt spent.length j k = true) :
    step true H tx (spent.take j) c k = step true H tx spent c k := by
  cases k with
  | leg sc nIn ht => rfl
  | wit sc am nIn ht => rfl
  | tap ed p ht s =>
    simp only [safeAt, Bool.or_eq_true, Bool.and_eq_true, decide_eq_true_eq] at hk
    rcases hk with h | ⟨h1, h2⟩
    · rw [List.take_of_length_le h]
    · -- a taproot digest with SIGHASH_ANYONECANPAY for an input that is already stored does not see the missing entries
      show taprootSigHash true H tx (spent.take j) c ed p ht s = taprootSigHash true H tx spent c ed p ht s
      unfold taprootSigHash
      simp only [h1, ne_eq, not_true_eq_false, if_false]
      unfold taprootTail
      simp only [h1, if_true, List.getElem?_take, h2]

theorem runCaller_disciplined (H : Bytes → Bytes) (tx : Tx) (spent : List TxOut) (hs : tx.ins.length ≤ spent.length)
    (evs : List CEv) :
    ∀ s : CallerSt, Cache.OK H tx spent s.cache → disciplined spent.length s.stored evs = true →
      runCaller H tx spent s evs = callerSpec H tx spent evs := by
  induction evs with
  | nil => intro s _ _; rfl
  | cons e es ih =>
    intro s hc hd
    cases e with
    | store =>
      simp only [disciplined] at hd
      simp only [runCaller, callerStep, callerSpec]
      rw [ih { s with stored := s.stored + 1 } hc hd]
    | req k =>
      simp only [disciplined, Bool.and_eq_true] at hd
      have h1 := step_take H tx spent s.cache s.stored k hd.1
      have h2 := step_cache true H tx spent s.cache hs hc k
      simp only [runCaller, callerStep, callerSpec, h1]
      rw [ih { s with cache := (step true H tx spent s.cache k).2 } h2.2 hd.2, h2.1]

theorem disciplined_stores (n : Nat) (ks : List Call) : ∀ m j, n ≤ j + m →
    disciplined n j (List.replicate m .store ++ ks.map .req) = true := by
  intro m
  induction m with
  | zero =>
    intro j h
    induction ks with
    | nil => rfl
    | cons k ks ih =>
      simp only [List.replicate_zero, List.nil_append, List.map, disciplined, Bool.and_eq_true]
      exact ⟨by cases k <;> simp [safeAt]; omega, by simpa using ih⟩
  | succ m ih =>
    intro j h
    simp only [List.replicate_succ, List.cons_append, disciplined]
    exact ih (j + 1) (by omega)

end GocoinV.SigHash
