/-
  Proofs.C20Ptr — the representation invariant `Rep`: the pointer structure kept in `State.heap`
  (node.prev/next/prevInPage/nextInPage, header.freeList, header.prev/next, lists/firstPage/lastPage[class])
  spells exactly the abstract lists of Model/Alloc.lean (`glist` and `plist` per class, `freeList` per page),
  and its preservation by every transition. The suffixes G / P / H of the link fields (C20Heap) stand for the global
  free list of a class, the free list of one page, and the chain of page headers of a class. Each `rep_*` lemma has the
  same three steps: the list that is written, by the generic `DL` lemma (C20DL) on the closed formula of the write
  (`*_spec`, C20Heap); the other lists of that kind, by `DL.congr` because they share no node with it; the lists of the
  other kinds, untouched.
  At the end `run_invs`: `Inv ∧ Rep ∧ Cnt` along every run (hence the imports of C20Count and C20Total).
-/
import GocoinV.Proofs.C20Heap
import GocoinV.Proofs.C20Count
import GocoinV.Proofs.C20Total
namespace GocoinV.Alloc
open GocoinV.Gen.MemClasses
variable {V : Type}

structure Rep (s : State V) : Prop where
  glob : ∀ c, DL (nxG s.heap) (pvG s.heap) (s.heap.C c).lists none (s.K c).glist
  page : ∀ p h, s.pages.get? p = some h →
    DL (nxP s.heap) (pvP s.heap) (s.heap.H p).freeList none (h.freeList.map (Prod.mk p))
  plist : ∀ c, DL (nxH s.heap) (pvH s.heap) (s.heap.C c).first none (s.K c).plist
  last : ∀ c, (s.heap.C c).last = (s.K c).plist.getLast?

theorem init_rep : Rep (init : State V) := by
  refine ⟨?_, ?_, ?_, ?_⟩
  · intro c; simp [init, State.K, DL, Heap.C]
  · intro p h hp; simp [init] at hp
  · intro c; simp [init, State.K, DL, Heap.C]
  · intro c; simp [init, State.K, Heap.C]

/-- transitions that leave the heap, the global lists and the per-page lists alone (pages may disappear) -/
theorem Rep.transfer {s s' : State V} (r : Rep s) (hh : s'.heap = s.heap)
    (hg : ∀ c, (s'.K c).glist = (s.K c).glist)
    (hp : ∀ p h', s'.pages.get? p = some h' → ∃ h, s.pages.get? p = some h ∧ h'.freeList = h.freeList)
    (hpl : ∀ c, (s'.K c).plist = (s.K c).plist := by intro _; rfl) :
    Rep s' := by
  refine ⟨?_, ?_, ?_, ?_⟩
  · intro c; rw [hh, hg]; exact r.glob c
  · intro p h' hp'
    obtain ⟨h, h1, h2⟩ := hp p h' hp'
    rw [hh, h2]; exact r.page p h h1
  · intro c; rw [hh, hpl]; exact r.plist c
  · intro c; rw [hh, hpl]; exact r.last c

/-- `Rep` reads only `heap`, the classes and the page headers -/
theorem Rep.frame {s s' : State V} (r : Rep s) (hh : s'.heap = s.heap) (hc : s'.cls = s.cls)
    (hp : s'.pages = s.pages) : Rep s' :=
  r.transfer hh (fun c => by simp only [State.K, hc]) (fun q h' hq => ⟨h', hp ▸ hq, rfl⟩)
    (fun c => by simp only [State.K, hc])

theorem mk_erase (p : Nat) (l : List Nat) (i : Nat) :
    (l.map (Prod.mk p)).erase (p, i) = (l.erase i).map (Prod.mk p) := by
  induction l with
  | nil => rfl
  | cons x xs ih =>
    by_cases e : x = i
    · subst e; simp
    · have : ((p, x) == (p, i)) = false := by simp [e]
      simp [this, e, ih]

theorem mem_mk {p : Nat} {l : List Nat} {a : Slot} (h : a ∈ l.map (Prod.mk p)) : a.1 = p ∧ a.2 ∈ l := by
  obtain ⟨j, hj, rfl⟩ := List.mem_map.1 h
  exact ⟨rfl, hj⟩

theorem nodup_mk (p : Nat) {l : List Nat} (h : l.Nodup) : (l.map (Prod.mk p)).Nodup :=
  List.Pairwise.map _ (fun _ _ hab e => hab (Prod.mk.inj e).2) h

theorem foldl_erase_eq_filter : ∀ (l Gl : List Slot), Gl.Nodup →
    l.foldl List.erase Gl = Gl.filter (fun a => decide (a ∉ l)) := by
  intro l
  induction l with
  | nil =>
    intro Gl _
    simp only [List.foldl_nil, List.not_mem_nil, not_false_eq_true, decide_true]
    exact (List.filter_eq_self.2 (fun _ _ => rfl)).symm
  | cons x xs ih =>
    intro Gl nd
    simp only [List.foldl_cons]
    rw [ih _ (nd.erase x), nd.erase_eq_filter, List.filter_filter]
    apply List.filter_congr
    intro a _
    by_cases e : a = x <;> by_cases e2 : a ∈ xs <;> simp [e, e2]

theorem gl_page {s : State V} (inv : InvG s) {c : Nat} {a : Slot} (h : a ∈ (s.K c).glist) :
    ∃ hp, s.pages.get? a.1 = some hp ∧ hp.cls = c ∧ hp.evac = false ∧ a.2 ∈ hp.freeList :=
  ((inv.classes c).gl_iff a.1 a.2).1 h

theorem gl_disjoint {s : State V} (inv : InvG s) {c c' : Nat} {a : Slot} (h : a ∈ (s.K c).glist)
    (h' : a ∈ (s.K c').glist) : c = c' := by
  obtain ⟨hp, e1, e2, _⟩ := gl_page inv h
  obtain ⟨hp', e1', e2', _⟩ := gl_page inv h'
  rw [e1] at e1'; cases e1'; rw [← e2, ← e2']

theorem pl_disjoint {s : State V} (inv : InvG s) {c c' a : Nat} (h : a ∈ (s.K c).plist)
    (h' : a ∈ (s.K c').plist) : c = c' := by
  obtain ⟨h0, e1, e2⟩ := (inv.classes c).pl_pages a h
  obtain ⟨h0', e1', e2'⟩ := (inv.classes c').pl_pages a h'
  rw [e1] at e1'; cases e1'; rw [← e2, ← e2']

/-! ### pop (Malloc from the free list) -/

/-- Malloc pops the head `(p, i)` of class `c`'s global free list and erases `i` from page `p`'s list: `hPop` unlinks
    that one node in both (`PopSpec`); the five equations say what the abstract state does, the callers give them by `rfl` -/
theorem rep_pop {s s' : State V} (inv : InvG s) (r : Rep s) {c p i : Nat} {rest : List Slot} {h h' : Page}
    (hgl : (s.K c).glist = (p, i) :: rest) (hp : s.pages.get? p = some h)
    (hheap : s'.heap = hPop s.heap c)
    (hK : ∀ c', (s'.K c').glist = if c = c' then rest else (s.K c').glist)
    (hpages : ∀ q, s'.pages.get? q = if p = q then some h' else s.pages.get? q)
    (hfl : h'.freeList = h.freeList.erase i)
    (hpl : ∀ c', (s'.K c').plist = (s.K c').plist) : Rep s' := by
  have rc := r.glob c
  rw [hgl] at rc
  have hl : (s.heap.C c).lists = some (p, i) := rc.1
  have hpv0 : pvG s.heap (p, i) = none := rc.2.1
  have sp := hPop_spec s.heap c (p, i) hl
  have hmem : (p, i) ∈ (s.K c).glist := by rw [hgl]; simp
  have ndc := (inv.classes c).gl_nodup
  obtain ⟨h0, e0, _, _, hi⟩ := gl_page inv hmem
  rw [hp] at e0; cases e0
  have rp := r.page p h hp
  have hmp : (p, i) ∈ h.freeList.map (Prod.mk p) := by simp [hi]
  have ndp := nodup_mk p (inv.pages p h hp).fl_nodup
  refine ⟨?_, ?_, ?_, ?_⟩
  · intro c'
    rw [hheap, hK]
    by_cases e : c = c'
    · subst e
      rw [if_pos rfl, sp.lists, if_pos rfl]
      have R := DL.remove (nx' := nxG (hPop s.heap c)) (pv' := pvG (hPop s.heap c)) (x := (p, i))
        (r.glob c) ndc hmem (by intro q e; cases e)
        (by intro a _ _; rw [sp.nxG, hpv0]; simp)
        (by intro a _ _; rw [sp.pvG, hpv0]; rfl)
      rw [if_pos hl, hgl, List.erase_cons_head] at R
      exact R
    · rw [if_neg e, sp.lists, if_neg e]
      refine DL.congr ?_ (r.glob c')
      intro a ha
      refine ⟨sp.nxG a, ?_⟩
      rw [sp.pvG, if_neg]
      intro hn
      exact e (gl_disjoint inv ((r.glob c).nx_in _ hmem a hn) ha)
  · intro q hq' hq
    rw [hpages] at hq
    rw [hheap]
    by_cases e : p = q
    · subst e
      rw [if_pos rfl] at hq; cases hq
      rw [hfl, ← mk_erase, sp.fl]
      exact rp.remove_first ndp hmp rfl (by intro a _ _; rw [sp.nxP]; rfl) (by intro a _ _; rw [sp.pvP]; rfl)
    · rw [if_neg e] at hq
      have rq := r.page q hq' hq
      rw [sp.fl, if_neg (by intro x; exact e x.2)]
      refine DL.congr ?_ rq
      intro a ha
      have hna : a ∉ h.freeList.map (Prod.mk p) := fun hm => e (by rw [← (mem_mk hm).1, (mem_mk ha).1])
      constructor
      · rw [sp.nxP, if_neg]; exact fun hn => hna (rp.pv_in _ hmp a hn)
      · rw [sp.pvP, if_neg]; exact fun hn => hna (rp.nx_in _ hmp a hn)
  · intro c'
    rw [hheap, hpl, sp.first]
    exact DL.congr (fun a _ => ⟨sp.hnx a, sp.hpv a⟩) (r.plist c')
  · intro c'
    rw [hheap, hpl, sp.last]; exact r.last c'

/-! ### push (Free) -/

/-- Free pushes `(p, i)` in front of its class's global free list and of page `p`'s list (`hPush`, `PushSpec`); the
    node is in no list before (`hni` and the invariant), which is what `DL.push_front` needs -/
theorem rep_push {s s' : State V} (inv : InvG s) (r : Rep s) {p i : Nat} {h h' : Page}
    (hp : s.pages.get? p = some h) (hni : i ∉ h.freeList)
    (hheap : s'.heap = hPush s.heap h.cls (p, i))
    (hK : ∀ c', (s'.K c').glist = if h.cls = c' then (p, i) :: (s.K h.cls).glist else (s.K c').glist)
    (hpages : ∀ q, s'.pages.get? q = if p = q then some h' else s.pages.get? q)
    (hfl : h'.freeList = i :: h.freeList)
    (hpl : ∀ c', (s'.K c').plist = (s.K c').plist) : Rep s' := by
  have sp := hPush_spec s.heap h.cls (p, i)
  have hnot : ∀ c', (p, i) ∉ (s.K c').glist := by
    intro c' hm
    obtain ⟨h0, e0, _, _, hi⟩ := gl_page inv hm
    rw [hp] at e0; cases e0; exact hni hi
  have rp := r.page p h hp
  refine ⟨?_, ?_, ?_, ?_⟩
  · intro c'
    rw [hheap, hK]
    by_cases e : h.cls = c'
    · subst e
      rw [if_pos rfl, sp.lists, if_pos rfl]
      exact (r.glob h.cls).push_front (inv.classes h.cls).gl_nodup (hnot h.cls) sp.nxG sp.pvG
    · rw [if_neg e, sp.lists, if_neg e]
      refine DL.congr ?_ (r.glob c')
      intro a ha
      have hne : a ≠ (p, i) := by intro e; subst e; exact hnot _ ha
      refine ⟨by rw [sp.nxG, if_neg hne], ?_⟩
      rw [sp.pvG, if_neg, if_neg hne]
      intro hn
      have := (r.glob h.cls).head; rw [hn] at this
      exact e (gl_disjoint inv (List.mem_of_mem_head? this.symm) ha)
  · intro q hq' hq
    rw [hpages] at hq
    rw [hheap]
    by_cases e : p = q
    · subst e
      rw [if_pos rfl] at hq; cases hq
      rw [hfl, sp.fl, if_pos rfl, List.map_cons]
      exact rp.push_front (nodup_mk p (inv.pages p h hp).fl_nodup)
        (fun hm => hni (by simpa using (mem_mk hm).2)) sp.nxP sp.pvP
    · rw [if_neg e] at hq
      have rq := r.page q hq' hq
      rw [sp.fl, if_neg e]
      refine DL.congr ?_ rq
      intro a ha
      have ha1 := (mem_mk ha).1
      have hne : a ≠ (p, i) := by intro x; subst x; exact e ha1
      refine ⟨by rw [sp.nxP, if_neg hne], ?_⟩
      rw [sp.pvP, if_neg, if_neg hne]
      intro hn
      have := rp.head; rw [hn] at this
      have := (mem_mk (List.mem_of_mem_head? this.symm)).1
      exact e (by rw [← this, ha1])
  · intro c'
    rw [hheap, hpl, sp.first]
    exact DL.congr (fun a _ => ⟨sp.hnx a, sp.hpv a⟩) (r.plist c')
  · intro c'
    rw [hheap, hpl, sp.last]; exact r.last c'

/-! ### purge (defragClass removes an evacuated page's free slots from the global list) -/

theorem hPurgeWalk_none (c f : Nat) (g : Heap) : hPurgeWalk c f none g = g := by
  cases f <;> rfl

theorem purgeWalk_spec (c : Nat) : ∀ (l : List Slot) (f : Nat) (st pp : Option Slot) (g : Heap) (Gl : List Slot),
    DL (nxP g) (pvP g) st pp l → l.length ≤ f → DL (nxG g) (pvG g) (g.C c).lists none Gl → Gl.Nodup →
    (∀ x, x ∈ l → x ∈ Gl) → l.Nodup →
    DL (nxG (hPurgeWalk c f st g)) (pvG (hPurgeWalk c f st g)) ((hPurgeWalk c f st g).C c).lists none
      (l.foldl List.erase Gl) ∧
    (∀ a, nxP (hPurgeWalk c f st g) a = nxP g a ∧ pvP (hPurgeWalk c f st g) a = pvP g a) ∧
    (∀ q, (hPurgeWalk c f st g).H q = g.H q) ∧
    (∀ d, d ≠ c → ((hPurgeWalk c f st g).C d).lists = (g.C d).lists) ∧
    (∀ d, ((hPurgeWalk c f st g).C d).first = (g.C d).first ∧ ((hPurgeWalk c f st g).C d).last = (g.C d).last) ∧
    (∀ a, a ∉ Gl → nxG (hPurgeWalk c f st g) a = nxG g a ∧ pvG (hPurgeWalk c f st g) a = pvG g a) := by
  intro l
  induction l with
  | nil =>
    intro f st pp g Gl hd _ hG _ _ _
    cases hd
    rw [hPurgeWalk_none]
    exact ⟨hG, fun _ => ⟨rfl, rfl⟩, fun _ => rfl, fun _ _ => rfl, fun _ => ⟨rfl, rfl⟩, fun _ _ => ⟨rfl, rfl⟩⟩
  | cons x xs ih =>
    intro f st pp g Gl hd hlen hG nd hsub ndl
    obtain ⟨h1, _, h3⟩ := hd
    subst h1
    cases f with
    | zero => simp at hlen
    | succ f =>
    have sp := hUnlinkG_spec g c x
    have e : hPurgeWalk c (f + 1) (some x) g = hPurgeWalk c f (nxP g x) (hUnlinkG g c x) := rfl
    rw [e]
    have hxG : x ∈ Gl := hsub x (by simp)
    have ndc := List.nodup_cons.1 ndl
    have dlp : DL (nxP (hUnlinkG g c x)) (pvP (hUnlinkG g c x)) (nxP g x) (some x) xs :=
      DL.congr (fun a _ => ⟨sp.nxP a, sp.pvP a⟩) h3
    have R' : DL (nxG (hUnlinkG g c x)) (pvG (hUnlinkG g c x)) ((hUnlinkG g c x).C c).lists none (Gl.erase x) := by
      rw [sp.lists]
      exact hG.remove_first nd hxG rfl (fun a _ _ => sp.nxG a) (fun a _ _ => sp.pvG a)
    have hsub' : ∀ y, y ∈ xs → y ∈ Gl.erase x := by
      intro y hy
      have hyx : y ≠ x := by intro e; subst e; exact ndc.1 hy
      exact (List.mem_erase_of_ne hyx).2 (hsub y (List.mem_cons_of_mem _ hy))
    obtain ⟨i1, i2, i3, i4, i5, i6⟩ := ih f (nxP g x) (some x) (hUnlinkG g c x) (Gl.erase x) dlp
      (by simpa using hlen) R' (nd.erase x) hsub' ndc.2
    refine ⟨by simpa [List.foldl_cons] using i1, ?_, ?_, ?_, ?_, ?_⟩
    · intro a; rw [(i2 a).1, (i2 a).2, sp.nxP, sp.pvP]; exact ⟨rfl, rfl⟩
    · intro q; rw [i3, sp.hdr]
    · intro d hdc; rw [i4 d hdc, sp.lists, if_neg (by intro y; exact hdc y.2.symm)]
    · intro d; rw [(i5 d).1, (i5 d).2, sp.first, sp.last]; exact ⟨rfl, rfl⟩
    · intro a ha
      have ha' : a ∉ Gl.erase x := fun hm => ha (List.mem_of_mem_erase hm)
      rw [(i6 a ha').1, (i6 a ha').2, sp.nxG, sp.pvG]
      constructor
      · rw [if_neg]; intro hn; exact ha (hG.pv_in x hxG a hn)
      · rw [if_neg]; intro hn; exact ha (hG.nx_in x hxG a hn)

/-- beginEvac takes every free slot of page `pg` out of the class's global free list and empties the page's own list
    (`hPurge` walks the page's list and unlinks each node from the global one): `purgeWalk_spec` carries the `DL` of the
    global list with the slots walked so far erased; erasing them all is the filter; no other list holds a node of `pg` -/
theorem rep_purge {s s' : State V} (inv : InvG s) (r : Rep s) {c pg : Nat} {h h' : Page}
    (hp : s.pages.get? pg = some h) (hcl : h.cls = c) (hev : h.evac = false)
    (hheap : s'.heap = hPurge s.heap c pg h.brk)
    (hK : ∀ c', (s'.K c').glist =
      if c = c' then (s.K c).glist.filter (fun (q, _) => q ≠ pg) else (s.K c').glist)
    (hpages : ∀ q, s'.pages.get? q = if pg = q then some h' else s.pages.get? q)
    (hfl : h'.freeList = [])
    (hpl : ∀ c', (s'.K c').plist = (s.K c').plist) : Rep s' := by
  have okp := inv.pages pg h hp
  have rp := r.page pg h hp
  have hlen : (h.freeList.map (Prod.mk pg)).length ≤ h.brk := by
    rw [List.length_map]; exact nodup_bound h.brk h.freeList okp.fl_nodup okp.fl_lt
  have hsub : ∀ x, x ∈ h.freeList.map (Prod.mk pg) → x ∈ (s.K c).glist := by
    intro x hx
    obtain ⟨j, hj, rfl⟩ := List.mem_map.1 hx
    exact ((inv.classes c).gl_iff pg j).2 ⟨h, hp, hcl, hev, hj⟩
  obtain ⟨i1, i2, i3, i4, i5, i6⟩ := purgeWalk_spec c _ h.brk (s.heap.H pg).freeList none s.heap (s.K c).glist
    rp hlen (r.glob c) (inv.classes c).gl_nodup hsub (nodup_mk pg okp.fl_nodup)
  have hfilter : (h.freeList.map (Prod.mk pg)).foldl List.erase (s.K c).glist =
      (s.K c).glist.filter (fun (q, _) => q ≠ pg) := by
    rw [foldl_erase_eq_filter _ _ (inv.classes c).gl_nodup]
    apply List.filter_congr
    intro a ha
    obtain ⟨h0, e0, _, _, hi⟩ := gl_page inv ha
    by_cases e : a.1 = pg
    · have : a ∈ h.freeList.map (Prod.mk pg) := by
        rw [e, hp] at e0; cases e0
        exact List.mem_map.2 ⟨a.2, hi, by rw [← e]⟩
      simp [this, e]
    · have : a ∉ h.freeList.map (Prod.mk pg) := fun hm => e (mem_mk hm).1
      simp [this, e]
  refine ⟨?_, ?_, ?_, ?_⟩
  · intro c'
    rw [hheap, hK]
    by_cases e : c = c'
    · subst e
      rw [if_pos rfl, ← hfilter]
      exact i1
    · rw [if_neg e]
      have : ((hPurge s.heap c pg h.brk).C c').lists = (s.heap.C c').lists := i4 c' (fun x => e x.symm)
      rw [this]
      refine DL.congr ?_ (r.glob c')
      intro a ha
      exact i6 a (fun hm => e (gl_disjoint inv hm ha))
  · intro q hq' hq
    rw [hpages] at hq
    rw [hheap]
    by_cases e : pg = q
    · subst e
      rw [if_pos rfl] at hq; cases hq
      rw [hfl]
      show ((hPurge s.heap c pg h.brk).H pg).freeList = none
      simp only [hPurge, Heap.H_setH, if_true]
    · rw [if_neg e] at hq
      have : ((hPurge s.heap c pg h.brk).H q).freeList = (s.heap.H q).freeList := by
        simp only [hPurge, Heap.H_setH, if_neg e, i3]
      rw [this]
      exact DL.congr (fun a _ => i2 a) (r.page q hq' hq)
  · intro c'
    have e1 : ((hPurge s.heap c pg h.brk).C c').first = (s.heap.C c').first := (i5 c').1
    rw [hheap, hpl, e1]
    refine DL.congr ?_ (r.plist c')
    intro a _
    simp only [nxH, pvH, hPurge, Heap.H_setH_at PHdr.next, Heap.H_setH_at PHdr.prev, i3, ite_self, and_self]
  · intro c'
    have e1 : ((hPurge s.heap c pg h.brk).C c').last = (s.heap.C c').last := (i5 c').2
    rw [hheap, hpl, e1]; exact r.last c'

theorem newPage_rep {s : State V} (inv : InvG s) (r : Rep s) (c : Nat) : Rep (newPage s c) := by
  have sp := hLinkPage_spec s.heap c s.nextPage
  have hN : ∀ a, nxG (hLinkPage s.heap c s.nextPage) a = nxG s.heap a ∧
      pvG (hLinkPage s.heap c s.nextPage) a = pvG s.heap a ∧
      nxP (hLinkPage s.heap c s.nextPage) a = nxP s.heap a ∧ pvP (hLinkPage s.heap c s.nextPage) a = pvP s.heap a := by
    intro a; simp only [nxG, pvG, nxP, pvP, sp.node, and_self]
  have hh : (newPage s c).heap = hLinkPage s.heap c s.nextPage := rfl
  refine ⟨?_, ?_, ?_, ?_⟩
  · intro c'
    have hg : ((newPage s c).K c').glist = (s.K c').glist := K_set_keep ClassSt.glist s c c' _ rfl
    rw [hg, hh, sp.lists]
    exact DL.congr (fun a _ => ⟨(hN a).1, (hN a).2.1⟩) (r.glob c')
  · intro q hq' hq
    rw [newPage_pages] at hq
    rw [hh, sp.fl]
    split at hq
    · next e =>
      cases hq; subst e
      rw [if_pos rfl]; rfl
    · next e =>
      rw [if_neg (fun x => e x.symm)]
      exact DL.congr (fun a _ => ⟨(hN a).2.2.1, (hN a).2.2.2⟩) (r.page q hq' hq)
  · have hlastmem : ∀ z, (s.heap.C c).last = some z → z ∈ (s.K c).plist := by
      intro z hz; rw [r.last c] at hz; exact List.mem_of_getLast? hz
    intro c'
    rw [hh, newPage_K, sp.first]
    split
    · next e =>
      subst e
      have hd := (r.plist c).head
      have A := DL.append (nx' := nxH (hLinkPage s.heap c s.nextPage)) (pv' := pvH (hLinkPage s.heap c s.nextPage))
        (x := s.nextPage) (r.plist c) (fun hm => inv.plist_ne_next hm rfl) (inv.classes c).pl_nodup
        (by rw [sp.hnx, if_neg (fun hz => inv.plist_ne_next (hlastmem _ hz) rfl), if_pos rfl])
        (by rw [sp.hpv, if_pos rfl, r.last c]; cases (s.K c).plist.getLast? <;> rfl)
        (by intro z hz; rw [sp.hnx, if_pos (by rw [r.last c]; exact hz)])
        (by
          intro a ha
          have hne := inv.plist_ne_next ha
          refine ⟨by rw [sp.hpv, if_neg hne], ?_⟩
          intro hl
          rw [sp.hnx, if_neg (by rw [r.last c]; exact hl), if_neg hne])
      have : (if (s.heap.C c).first.isNone = true then some s.nextPage else (s.heap.C c).first) =
          (if (s.K c).plist = [] then some s.nextPage else (s.heap.C c).first) := by
        rw [hd]; cases (s.K c).plist <;> simp
      rw [this]; exact A
    · next e =>
      refine DL.congr ?_ (r.plist c')
      intro a ha
      have hne := inv.plist_ne_next ha
      constructor
      · rw [sp.hnx, if_neg, if_neg hne]
        intro hz; exact e (pl_disjoint inv (hlastmem _ hz) ha)
      · rw [sp.hpv, if_neg hne]
  · intro c'
    rw [hh, newPage_K, sp.last]
    split
    · next e => subst e; simp
    · exact r.last c'

theorem allocSlot_rep {s s' : State V} (inv : InvG s) (r : Rep s) {c p i : Nat}
    (hr : allocSlot s c = .ok (s', p, i)) : Rep s' := by
  obtain ⟨h, hp, ⟨_, rfl, rfl⟩ | ⟨rest, _, hgl, rfl⟩⟩ := allocSlot_ok hr
  · refine r.transfer rfl ?_ ?_ ?_
    · exact fun c' => K_set_keep ClassSt.glist s c c' _ rfl
    · intro q h' hq
      simp only [KMap.get?_set] at hq
      split at hq
      · next e => subst e; cases hq; exact ⟨h, hp, rfl⟩
      · exact ⟨h', hq, rfl⟩
    · exact fun c' => K_set_keep ClassSt.plist s c c' _ rfl
  · refine rep_pop inv r (c := c) (p := p) (i := i) (rest := rest) (h := h)
      (h' := { h with freeList := h.freeList.erase i, used := h.used + 1, free := h.free - 1 })
      hgl hp rfl ?_ ?_ rfl ?_
    · intro c'
      simp only [State.K, KMap.get?_set]; split <;> rfl
    · intro q
      simp only [KMap.get?_set]
    · exact fun c' => K_set_keep ClassSt.plist s c c' _ rfl

theorem allocLive_rep {s s' : State V} {c size cap : Nat} {val : Option V} {a : Addr}
    (inv : InvG s) (r : Rep s) (hc : c < nClasses)
    (hr : allocLive s c size cap val = .ok (s', a)) : Rep s' := by
  unfold allocLive at hr
  simp only [] at hr
  generalize hs1 : (if (s.K c).glist.isEmpty && (s.K c).cur.isNone then newPage s c else s) = s1 at hr
  have inv1 : InvG s1 ∧ Rep s1 := by
    subst hs1; split
    · exact ⟨newPage_invG inv hc, newPage_rep inv r c⟩
    · exact ⟨inv, r⟩
  cases ha : allocSlot s1 c with
  | error e => simp [ha] at hr
  | ok t =>
    obtain ⟨s2, p, i⟩ := t
    simp only [ha] at hr
    cases hr
    exact (allocSlot_rep inv1.1 inv1.2 ha).frame rfl rfl rfl

theorem malloc_rep {s s' : State V} {size : Nat} {a : Addr} (inv : InvG s) (r : Rep s)
    (hr : malloc s size = .ok (s', a)) : Rep s' := by
  unfold malloc at hr
  simp only [] at hr
  split at hr
  · cases hr
    exact r.frame rfl rfl rfl
  · next hsm =>
    obtain ⟨hc, _⟩ := classOf_spec (size + sliceHdrLen) (by omega)
    have inv0 : InvG ({ s with allocs := s.allocs + 1 } : State V) :=
      inv.frame rfl rfl rfl rfl rfl rfl
    exact allocLive_rep inv0 (r.frame rfl rfl rfl) hc hr

theorem free_rep {s s' : State V} {a : Addr} (inv : Inv s) (r : Rep s) (hr : free s a = .ok s') : Rep s' := by
  obtain ⟨hl, m, hm, ⟨id, rfl, _, rfl⟩ | ⟨p, i, h, rfl, hp, _, rfl⟩⟩ := free_ok hr
  · exact r.frame rfl rfl rfl
  · have hev := inv.noEvac p h hp
    have hni : i ∉ h.freeList := fun hm => fl_not_live inv.g hp hev hm hl
    refine rep_push inv.g r (p := p) (i := i) (h := h)
      (h' := { h with used := h.used - 1, free := h.free + 1, freeList := i :: h.freeList }) hp hni ?_ ?_ ?_ rfl ?_
    · simp only [freeSlot, hev]; rfl
    · intro c'
      simp only [freeSlot, hev, Bool.false_eq_true, if_false, State.K, KMap.get?_set]; split <;> rfl
    · intro q
      simp only [freeSlot, hev, Bool.false_eq_true, if_false, KMap.get?_set]
    · intro c'
      simp only [freeSlot, hev, Bool.false_eq_true, if_false]
      exact K_set_keep ClassSt.plist s h.cls c' _ rfl

theorem write_rep {s s' : State V} {a : Addr} {v : V} (r : Rep s) (hr : write s a v = .ok s') : Rep s' := by
  unfold write at hr
  split at hr
  · cases hr
    exact r.frame rfl rfl rfl
  · cases hr

theorem beginEvac_rep {s s' : State V} {c pg : Nat} (inv : InvG s) (r : Rep s)
    (hr : beginEvac s c pg = .ok s') : Rep s' := by
  obtain ⟨h, hp, hcl, hev, rfl⟩ := beginEvac_ok hr
  refine rep_purge inv r (c := c) (pg := pg) (h := h)
    (h' := { h with evac := true, saved := h.freeList, freeList := [], scan := 0 }) hp hcl hev rfl ?_ ?_ rfl ?_
  · intro c'
    simp only [State.K, KMap.get?_set]; split <;> rfl
  · intro q
    simp only [KMap.get?_set]
  · exact fun c' => K_set_keep ClassSt.plist s c c' _ rfl

theorem endEvac_rep {s s' : State V} {c pg : Nat} (inv : InvG s) (r : Rep s) (hr : endEvac s c pg = .ok s') : Rep s' := by
  obtain ⟨h, hp, _, _, hcl, hs⟩ := endEvac_ok hr
  have e1 : s'.heap = hUnlinkPage s.heap c pg := by rw [hs]
  have e2 : ∀ c', (s'.K c').glist = (s.K c').glist := by
    intro c'; rw [hs]
    exact K_set_keep ClassSt.glist s c c' _ rfl
  have e3 : ∀ q, s'.pages.get? q = (s.pages.del pg).get? q := by intro q; rw [hs]
  have e4 : ∀ c', (s'.K c').plist = if c = c' then (s.K c).plist.erase pg else (s.K c').plist := by
    intro c'; rw [hs]
    simp only [State.K, KMap.get?_set]; split <;> rfl
  clear hs hr
  have sp := hUnlinkPage_spec s.heap c pg
  refine ⟨?_, ?_, ?_, ?_⟩
  · intro c'
    rw [e2, e1, sp.lists]
    refine DL.congr ?_ (r.glob c')
    intro a _; simp only [nxG, pvG, sp.node, and_self]
  · intro q hq' hq
    rw [e3] at hq
    simp only [KMap.get?_del] at hq
    split at hq
    · cases hq
    · rw [e1, sp.fl]
      refine DL.congr ?_ (r.page q hq' hq)
      intro a _; simp only [nxP, pvP, sp.node, and_self]
  all_goals
    have hin : pg ∈ (s.K c).plist := by rw [← hcl]; exact (inv.pages pg h hp).in_plist
    have ndp := (inv.classes c).pl_nodup
  · intro c'
    rw [e4, e1, sp.first]
    by_cases e : c = c'
    · subst e
      rw [if_pos rfl]
      exact (r.plist c).remove_first ndp hin rfl (fun a _ _ => sp.hnx a) (fun a _ _ => sp.hpv a)
    · rw [if_neg e, if_neg (by intro x; exact e x.2)]
      refine DL.congr ?_ (r.plist c')
      intro a ha
      constructor
      · rw [sp.hnx, if_neg]
        intro hn; exact e (pl_disjoint inv ((r.plist c).pv_in pg hin a hn) ha)
      · rw [sp.hpv, if_neg]
        intro hn; exact e (pl_disjoint inv ((r.plist c).nx_in pg hin a hn) ha)
  · intro c'
    rw [e4, e1, sp.last]
    by_cases e : c = c'
    · subst e
      rw [if_pos rfl, (r.plist c).getLast_erase ndp pg hin, r.last c]
      by_cases hh : nxH s.heap pg = none
      · rw [if_pos hh, if_pos ⟨hh, rfl⟩]; rfl
      · rw [if_neg hh, if_neg (by intro x; exact hh x.1)]
    · rw [if_neg e, if_neg (by intro x; exact e x.2)]; exact r.last c'

theorem moveNext_rep {s s' : State V} {c pg : Nat} (inv : InvG s) (r : Rep s) (hc : c < nClasses)
    (hcls : ∀ h, s.pages.get? pg = some h → h.evac = true → h.cls = c)
    (hr : moveNext s c pg = .ok s') : Rep s' := by
  obtain ⟨h, hp, hev, hsc⟩ := moveNext_guard hr
  obtain ⟨_, e, hcase⟩ := moveNext_total inv hc hp hev (hcls h hp hev) hsc
  rw [hr] at e; cases e
  rcases hcase with ⟨_, rfl⟩ | ⟨_, m, l, s1, new, _, _, _, _, _, _, ha, _, hp1, rfl⟩
  · refine r.transfer rfl (fun _ => rfl) ?_
    intro q h' hq
    simp only [KMap.get?_set] at hq
    split at hq
    · next e => subst e; cases hq; exact ⟨h, hp, rfl⟩
    · exact ⟨h', hq, rfl⟩
  · have r1 := allocLive_rep inv r hc ha
    simp only [freeSlot, hev, if_true]
    refine r1.transfer rfl ?_ ?_ ?_
    · exact fun c' => K_set_keep ClassSt.glist s1 h.cls c' _ rfl
    · intro q h' hq
      simp only [KMap.get?_set] at hq
      split at hq
      · next e => subst e; cases hq; exact ⟨h, hp1, rfl⟩
      · exact ⟨h', hq, rfl⟩
    · exact fun c' => K_set_keep ClassSt.plist s1 h.cls c' _ rfl

theorem defragAll_rep {s s' : State V} {ch : List (Nat × List Nat)} (inv : Inv s) (r : Rep s)
    (hr : defragAll s ch = .ok s') : Rep s' :=
  (defragAll_ind (fun hc it rt ht => (defragClass_ind hc (fun _ h => h) (fun d rt ht => beginEvac_rep d.g rt ht)
    (fun {_ _ pg _} d rt ht => moveNext_rep d.g rt hc (d.cls pg) ht)
    (fun d rt ht => endEvac_rep d.g rt ht) it rt ht).2) inv
    (r.frame rfl rfl rfl) hr).2

theorem step_rep {s s' : State V} {op : Op V} (inv : Inv s) (r : Rep s) (hr : step s op = .ok s') : Rep s' := by
  cases op with
  | malloc size => obtain ⟨a, hm⟩ := step_malloc_ok hr; exact malloc_rep inv.g r hm
  | free a => exact free_rep inv r hr
  | write a v => exact write_rep r hr
  | defrag ch => exact defragAll_rep inv r hr

theorem run_invs {ops : List (Op V)} {s : State V} (hr : run init ops = .ok s) : Inv s ∧ Rep s ∧ Cnt s :=
  foldE_inv (fun s _ => Inv s ∧ Rep s ∧ Cnt s) step
    (fun _ _ _ _ ⟨i, r, c⟩ h => ⟨step_keeps_inv i h, step_rep i r h, step_cnt i c h⟩) ops init s
    ⟨init_inv, init_rep, init_cnt⟩ hr

end GocoinV.Alloc
