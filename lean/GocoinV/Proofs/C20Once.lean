/-
  Proofs.C20Once — over a whole DefragAllImproved pass the relocate callback is invoked exactly once per
  moved allocation: invariant `Once` on the relocation log and its preservation by every step of the pass.
-/
import GocoinV.Proofs.C20Inv
namespace GocoinV.Alloc
open GocoinV.Gen.MemClasses
variable {V : Type}

/-- s0 = state in which the pass started (before it clears the log), t = current state (its log holds the moves of
    this pass), B = bound on the classes whose pages hold relocated allocations so far. Why a bound on classes gives
    "at most once": the pass walks the classes in increasing order; a relocated record lands on a page that is not
    evacuating, of a class below `B` (`news_page`); a page that starts evacuating later has class ≥ `B`; so a record
    that was moved is never on a page that is evacuated afterwards. -/
structure Once (s0 t : State V) (B : Nat) : Prop where
  olds_nodup : (t.relog.map Prod.fst).Nodup
  entry : ∀ o n, (o, n) ∈ t.relog →
    ∃ l, s0.live.get? o = some l ∧ t.live.get? o = none ∧ t.live.get? n = some l
  olds_page : ∀ o n, (o, n) ∈ t.relog →
    ∃ p j, o = .sh p j ∧ p < t.nextPage ∧ ∀ h, t.pages.get? p = some h → h.evac = true
  news_page : ∀ o n, (o, n) ∈ t.relog →
    ∃ p j, n = .sh p j ∧ ∀ h, t.pages.get? p = some h → h.evac = false ∧ h.cls < B
  rest : ∀ a l, t.live.get? a = some l →
    (∃ o, (o, a) ∈ t.relog) ∨ (s0.live.get? a = some l ∧ ∀ n, (a, n) ∉ t.relog)
  orig : ∀ a l, s0.live.get? a = some l → (∃ n, (a, n) ∈ t.relog) ∨ t.live.get? a = some l

theorem Once.mono {s0 t : State V} {B B' : Nat} (o : Once s0 t B) (h : B ≤ B') : Once s0 t B' :=
  { o with
    news_page := fun a n m => by
      obtain ⟨p, j, e, f⟩ := o.news_page a n m
      exact ⟨p, j, e, fun hh x => ⟨(f hh x).1, Nat.lt_of_lt_of_le (f hh x).2 h⟩⟩ }

theorem Once.start (s : State V) (B : Nat) : Once s ({ s with relog := [] } : State V) B :=
  ⟨by simp, by intro o n m; simp at m, by intro o n m; simp at m, by intro o n m; simp at m,
   fun a l h => Or.inr ⟨h, by intro n m; simp at m⟩, fun a l h => Or.inr h⟩

/-- steps that do not move an allocation: beginEvac, a skipped slot, endEvac -/
theorem Once.pagesOnly {s0 t t' : State V} {B : Nat} (o : Once s0 t B)
    (h1 : t'.live = t.live) (h2 : t'.relog = t.relog) (h3 : t.nextPage ≤ t'.nextPage)
    (h4 : ∀ q h', t'.pages.get? q = some h' →
        (∃ h, t.pages.get? q = some h ∧ h'.cls = h.cls ∧ (h'.evac = h.evac ∨ (h'.evac = true ∧ B ≤ h.cls))) ∨
        (t.pages.get? q = none ∧ t.nextPage ≤ q ∧ h'.evac = false ∧ h'.cls < B)) : Once s0 t' B := by
  refine ⟨by rw [h2]; exact o.olds_nodup, by rw [h1, h2]; exact o.entry, ?_, ?_,
    by rw [h1, h2]; exact o.rest, by rw [h1, h2]; exact o.orig⟩
  · intro a n m; rw [h2] at m
    obtain ⟨p, j, e, f1, f2⟩ := o.olds_page a n m
    refine ⟨p, j, e, Nat.lt_of_lt_of_le f1 h3, ?_⟩
    intro h' x
    rcases h4 p h' x with ⟨h, y1, _, y | y⟩ | ⟨_, y2, _⟩
    · rw [y]; exact f2 h y1
    · exact y.1
    · omega
  · intro a n m; rw [h2] at m
    obtain ⟨p, j, e, f⟩ := o.news_page a n m
    refine ⟨p, j, e, ?_⟩
    intro h' x
    rcases h4 p h' x with ⟨h, y1, y2, y | y⟩ | ⟨_, _, y3, y4⟩
    · exact ⟨by rw [y]; exact (f h y1).1, by rw [y2]; exact (f h y1).2⟩
    · have := (f h y1).2
      omega
    · exact ⟨y3, y4⟩

theorem moveNext_once {s0 t t' : State V} {c pg B : Nat} (inv : InvG t) (hc : c < nClasses) (hB : c < B)
    (hcls : ∀ h, t.pages.get? pg = some h → h.evac = true → h.cls = c)
    (hr : moveNext t c pg = .ok t') (o : Once s0 t B) : Once s0 t' B := by
  have A := moveNext_invG inv hc hcls hr
  obtain ⟨h, h', x1, x2, _, _, x5, x6, _, _⟩ := A.page
  have hpages : ∀ q hq', t'.pages.get? q = some hq' →
      (∃ hq, t.pages.get? q = some hq ∧ hq'.cls = hq.cls ∧ (hq'.evac = hq.evac ∨ (hq'.evac = true ∧ B ≤ hq.cls))) ∨
      (t.pages.get? q = none ∧ t.nextPage ≤ q ∧ hq'.evac = false ∧ hq'.cls < B) := by
    intro q hq' y
    rcases A.pages q hq' y with ⟨hq, y1, y2, y3⟩ | ⟨y1, y2, y3, y4⟩
    · exact Or.inl ⟨hq, y1, y2.symm, Or.inl y3.symm⟩
    · exact Or.inr ⟨y1, y2, y3, by omega⟩
  rcases A.moved with ⟨f1, f2, _⟩ | ⟨i, new, lo, f1, f2, f3, f4, f5, f6, _⟩
  · -- nothing moved
    exact o.pagesOnly f1 f2 A.next_le hpages
  · -- allocation old = (pg, i) moved to new: first the page table changes (`op`), then the log and the live records
    have op : Once s0 ({ t' with live := t.live, relog := t.relog } : State V) B := o.pagesOnly rfl rfl A.next_le hpages
    have old_not_new_page : ∀ p j, Addr.sh pg i = .sh p j →
        (∀ hh, t.pages.get? p = some hh → hh.evac = false ∧ hh.cls < B) → False := by
      intro p j e ff; cases e
      have := (ff h x1).1; rw [x6] at this; cases this
    have old_no_entry : ∀ n, (Addr.sh pg i, n) ∉ t.relog := by
      intro n m
      obtain ⟨l, _, e2, _⟩ := o.entry _ _ m
      rw [f1] at e2; cases e2
    obtain ⟨np, ni, hn, e1, e2, e3, e4⟩ := A.logged _ _ f3
    have mem' : ∀ x, x ∈ t'.relog ↔ (x = (Addr.sh pg i, new) ∨ x ∈ t.relog) := by
      intro x; rw [f3]; simp
    -- an old address of the log is never the new slot
    have old_ne_new : ∀ a n, (a, n) ∈ t.relog → a ≠ new := by
      intro a n m e
      obtain ⟨p, j, ea, _, ff⟩ := op.olds_page a n m
      rw [e, e1] at ea; cases ea
      have := ff hn e2; rw [e3] at this; cases this
    -- nor is an address that holds a record in `t`
    have live_ne_new : ∀ a l, t.live.get? a = some l → a ≠ new :=
      fun a l g e => f2 (by rw [← e]; simp [State.isLive, g])
    refine ⟨?_, ?_, ?_, ?_, ?_, ?_⟩
    · rw [f3]; simp only [List.map_cons]
      exact List.nodup_cons.2 ⟨fun m => by
        obtain ⟨⟨_, n⟩, m1, rfl⟩ := List.mem_map.1 m
        exact old_no_entry n m1, o.olds_nodup⟩
    · intro a n m
      rcases (mem' _).1 m with e | m
      · cases e
        refine ⟨lo, ?_, f5, f4⟩
        rcases o.rest _ _ f1 with ⟨a', m'⟩ | ⟨x, _⟩
        · obtain ⟨p, j, ee, ff⟩ := o.news_page _ _ m'
          exact (old_not_new_page p j ee ff).elim
        · exact x
      · obtain ⟨l, g1, g2, g3⟩ := o.entry a n m
        have a_ne_old : a ≠ .sh pg i := fun e => old_no_entry n (by rw [← e]; exact m)
        have n_ne_old : n ≠ .sh pg i := by
          intro e
          obtain ⟨p, j, ee, ff⟩ := o.news_page a n m
          rw [e] at ee; exact old_not_new_page p j ee ff
        exact ⟨l, g1, by rw [f6 a (old_ne_new a n m) a_ne_old]; exact g2,
          by rw [f6 n (live_ne_new n l g3) n_ne_old]; exact g3⟩
    · intro a n m
      rcases (mem' _).1 m with e | m
      · cases e
        refine ⟨pg, i, rfl, Nat.lt_of_lt_of_le (inv.pages pg h x1).lt_next A.next_le, ?_⟩
        intro hh y; rw [x2] at y; cases y; exact x5
      · exact op.olds_page a n m
    · intro a n m
      rcases (mem' _).1 m with e | m
      · cases e
        refine ⟨np, ni, e1, ?_⟩
        intro hh y; rw [e2] at y; cases y; exact ⟨e3, by omega⟩
      · exact op.news_page a n m
    · intro a l x
      by_cases ea : a = new
      · exact Or.inl ⟨.sh pg i, by rw [ea]; exact (mem' _).2 (Or.inl rfl)⟩
      · have a_ne_old : a ≠ .sh pg i := fun e => by rw [e, f5] at x; cases x
        rw [f6 a ea a_ne_old] at x
        rcases o.rest a l x with ⟨a', m⟩ | ⟨y, z⟩
        · exact Or.inl ⟨a', (mem' _).2 (Or.inr m)⟩
        · refine Or.inr ⟨y, ?_⟩
          intro n m
          rcases (mem' _).1 m with e | m
          · cases e; exact a_ne_old rfl
          · exact z n m
    · intro a l x
      rcases o.orig a l x with ⟨n, m⟩ | y
      · exact Or.inl ⟨n, (mem' _).2 (Or.inr m)⟩
      · by_cases ea : a = .sh pg i
        · exact Or.inl ⟨new, by rw [ea]; exact (mem' _).2 (Or.inl rfl)⟩
        · exact Or.inr (by rw [f6 a (live_ne_new a l y) ea]; exact y)


theorem defragClass_once {s0 s s' : State V} {c : Nat} {ev : List Nat} (hc : c < nClasses) (inv : Inv s)
    (o : Once s0 s c) (hr : defragClass s c ev = .ok s') : Once s0 s' (c + 1) := by
  refine (defragClass_ind hc (Q1 := fun t => Once s0 t c) (fun _ ot => ot.mono (Nat.le_succ _)) ?_
    (fun {_ _ pg _} d ot ht => moveNext_once d.g hc (Nat.lt_succ_self c) (d.cls pg) ht ot) ?_ inv o hr).2
  · intro t t' pg dt ot ht
    obtain ⟨h, hp, hcl, _, rfl⟩ := beginEvac_ok ht
    refine ot.pagesOnly rfl rfl (Nat.le_refl _) ?_
    intro q h' y
    simp only [KMap.get?_set] at y
    split at y
    · next e => subst e; cases y; exact Or.inl ⟨h, hp, rfl, Or.inr ⟨rfl, by omega⟩⟩
    · exact Or.inl ⟨h', y, rfl, Or.inl rfl⟩
  · intro t t' pg E dt ot ht
    obtain ⟨_, _, _, _, _, rfl⟩ := endEvac_ok ht
    refine ot.pagesOnly rfl rfl (Nat.le_refl _) ?_
    intro q h' y
    simp only [KMap.get?_del] at y; split at y
    · cases y
    · exact Or.inl ⟨h', y, rfl, Or.inl rfl⟩

theorem defragAll_once {s s' : State V} {ch : List (Nat × List Nat)} (inv : Inv s)
    (hr : defragAll s ch = .ok s') : ∃ B, Once s s' B := by
  unfold defragAll at hr
  have := foldE_inv (fun (t : State V) (l : List Nat) =>
      l.Pairwise (· < ·) ∧ (∀ x, x ∈ l → x < nClasses) ∧ Inv t ∧ ∃ B, Once s t B ∧ ∀ x, x ∈ l → B ≤ x) _ ?_
    (List.range nClasses) _ s'
    ⟨List.pairwise_lt_range, fun x hx => List.mem_range.1 hx, relogClear_inv inv, 0, Once.start s 0,
      fun _ _ => Nat.zero_le _⟩ hr
  · obtain ⟨_, _, _, B, o, _⟩ := this; exact ⟨B, o⟩
  · intro t c rest t' ⟨hpw, hsub, it, B, ot, hB⟩ ht
    have hpw' := List.pairwise_cons.1 hpw
    refine ⟨hpw'.2, fun x hx => hsub x (List.mem_cons_of_mem _ hx), ?_⟩
    have oc : Once s t c := ot.mono (hB c (by simp))
    split at ht
    · exact ⟨defragClass_inv (hsub c (by simp)) it ht, c + 1,
        defragClass_once (hsub c (by simp)) it oc ht, hpw'.1⟩
    · split at ht
      · cases ht
        exact ⟨it, c, oc, fun x hx => Nat.le_of_lt (hpw'.1 x hx)⟩
      · cases ht

/-- the pass-level statement: every allocation live before the pass is afterwards live with the same
    record either at the same address with no relocate call naming it as old, or at `n` where
    relocate(a, n) was logged and no other logged call has `a` as old. -/
theorem defragAll_exactly_once {s s' : State V} {ch : List (Nat × List Nat)} (inv : Inv s)
    (hr : defragAll s ch = .ok s') (a : Addr) (l : LiveRec V) (hl : s.live.get? a = some l) :
    (s'.live.get? a = some l ∧ ∀ n, (a, n) ∉ s'.relog) ∨
    (∃ n, (a, n) ∈ s'.relog ∧ s'.live.get? n = some l ∧ s'.live.get? a = none ∧
      (∀ n', (a, n') ∈ s'.relog → n' = n) ∧
      (s'.relog.map Prod.fst).count a = 1) := by
  obtain ⟨B, o⟩ := defragAll_once inv hr
  by_cases hex : ∃ n, (a, n) ∈ s'.relog
  · right
    obtain ⟨n, m⟩ := hex
    obtain ⟨l', g1, g2, g3⟩ := o.entry a n m
    rw [hl] at g1; cases g1
    refine ⟨n, m, g3, g2, ?_, ?_⟩
    · intro n' m'
      -- two entries with the same first component in a list whose first components are duplicate-free
      have pw := List.pairwise_map.1 o.olds_nodup
      exact (Prod.mk.inj (List.Pairwise.forall_of_forall_of_flip (R := fun x y : Addr × Addr => x.1 = y.1 → x = y)
        (fun _ _ _ => rfl) (pw.imp fun h e => absurd e h) (pw.imp fun h e => absurd e.symm h) m' m rfl)).2
    · rw [List.Nodup.count o.olds_nodup, if_pos (List.mem_map_of_mem (f := Prod.fst) m)]
  · left
    rcases o.orig a l hl with x | x
    · exact absurd x hex
    · exact ⟨x, fun n m => hex ⟨n, m⟩⟩

/-- `Moved` is what `defragAll_exactly_once` says about the records of the start state: a record stays where it is,
    or the one logged call that names it as old leads to where it lives now. -/
theorem defragAll_moved {s s' : State V} {ch : List (Nat × List Nat)} (inv : Inv s)
    (hr : defragAll s ch = .ok s') : Moved s s' := by
  intro a l h
  rcases defragAll_exactly_once inv hr a l h with ⟨h', _⟩ | ⟨n, m, hn, _⟩
  · exact ⟨a, h', .refl a⟩
  · exact ⟨n, hn, .step m (.refl n)⟩

end GocoinV.Alloc
