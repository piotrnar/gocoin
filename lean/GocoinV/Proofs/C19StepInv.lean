/-
  Proofs.C19StepInv — the disk invariant holds for the fresh store and is preserved by every operation of the cached
  sub-language on a non-volatile store (the reopen identity it gives is `open_of_inv` in Proofs/C19Crash). What such
  an operation does is said once (`step_nf`: its part in memory, then possibly sync() or defrag()); the later files'
  facts about one operation go through it.
-/
import GocoinV.Proofs.C19DefragInv
namespace GocoinV.Proofs.C19
open GocoinV GocoinV.Qdb GocoinV.QdbSpec

variable {eg : Bool}

/-- "the data file stays below 4 GiB if a sync or a defrag happened now" -/
def SizeOK (db : DB) : Prop :=
  (checkDat db).lastPos + (syncPlan db.dataSeq db.index db.pending (checkDat db).lastPos).2.2.length < 2^32 ∧
  4 + (valsOf db.index).flatten.length < 2^32

theorem valsOf_of_absv (a b : DB) (h : absv a = absv b) : valsOf a.index = valsOf b.index := by
  have : ∀ d : DB, valsOf d.index = (absv d).map (fun x => x.2.1) := by
    intro d; simp [valsOf, absv, absE, absRec, List.map_map]
  rw [this, this, h]

theorem sync_inv (db : DB) (inv : DiskInv db) (hs : SizeOK db) :
    DiskInv (sync db) ∧ absv (sync db) = absv db ∧ (sync db).pending = [] ∧ (sync db).opts = db.opts := by
  cases hp : db.pending.isEmpty with
  | true =>
    have : sync db = db := by unfold sync; simp [inv.nv, hp]
    rw [this]
    exact ⟨inv, rfl, by simpa using hp, rfl⟩
  | false =>
    obtain ⟨L, hL, invL, absL, pL, oL, _, _, _, _⟩ := sync_logWritten db inv hp hs.1
    rw [hL]
    split
    · have hwf : IndexWF L.eager L.index :=
        ⟨invL.cached.2, invL.wf, invL.nodup, by rw [valsOf_of_absv L db absL]; exact hs.2⟩
      obtain ⟨a, b, c⟩ := defrag_inv L invL.cached invL.nv hwf
      exact ⟨a, b.trans absL, c, (defrag_cached L invL.cached).opts.trans oL⟩
    · exact ⟨invL, absL, pL, oL⟩

/-! ### put / del -/

theorem memput_same (db : DB) (k : Key) (r : Rec) :
    ∃ e n m, memput db k r = { db with index := iset k r db.index, extra := e, need := n, maxSeq := m } :=
  ⟨_, _, _, memput_eq db k r⟩

theorem memdel_same (db : DB) (k : Key) :
    ∃ e n, memdel db k = { db with index := ierase k db.index, extra := e, need := n } :=
  ⟨_, _, memdel_eq db k⟩

def pendingAdd (p : List Key) (k : Key) : List Key := if p.contains k then p else p ++ [k]

theorem addPending_same (db : DB) (k : Key) : addPending db k = { db with pending := pendingAdd db.pending k } := by
  unfold addPending pendingAdd
  split <;> rfl

theorem mem_pendingAdd (p : List Key) (k j : Key) : j ∈ pendingAdd p k ↔ j = k ∨ j ∈ p := by
  unfold pendingAdd
  split
  · rename_i h
    have hk : k ∈ p := by simpa using h
    constructor
    · exact Or.inr
    · rintro (rfl | h') <;> assumption
  · simp [or_comm]

theorem nodup_pendingAdd (p : List Key) (k : Key) (h : p.Nodup) : (pendingAdd p k).Nodup := by
  unfold pendingAdd
  split
  · exact h
  · rename_i hk
    have hk' : k ∉ p := by simpa using hk
    exact List.nodup_append.mpr ⟨h, by simp, by intro a ha b hb; simp at hb; subst hb; exact fun e => hk' (e ▸ ha)⟩

theorem inv_change (db : DB) (inv : DiskInv db) (k : Key) (hk : k < 2^64) (idx' : List (Key × Rec))
    (e n m : Nat)
    (hother : ∀ j, j ≠ k → ilookup j idx' = ilookup j db.index)
    (hc : AllCached db.eager idx') (hwf : ∀ kr ∈ idx', RecWF kr) (hnd : (Keys idx').Nodup)
    (hkeys : ∀ j ∈ Keys idx', j = k ∨ j ∈ Keys db.index) :
    DiskInv { db with index := idx', extra := e, need := n, maxSeq := m, pending := pendingAdd db.pending k } := by
  have hnp : ∀ j, j ∉ pendingAdd db.pending k → j ≠ k ∧ j ∉ db.pending := fun j hj =>
    ⟨fun e' => hj ((mem_pendingAdd _ _ _).mpr (Or.inl e')), fun e' => hj ((mem_pendingAdd _ _ _).mpr (Or.inr e'))⟩
  exact { inv with
    cached := ⟨inv.cached.1, hc⟩
    wf := hwf
    nodup := hnd
    pnodup := nodup_pendingAdd _ _ inv.pnodup
    pkeys := fun j hj => by
      rcases (mem_pendingAdd _ _ _).mp hj with rfl | h
      · exact hk
      · exact inv.pkeys j h
    clean := fun j hj => by
      show (ilookup j (diskIndex db.fs)).map core = (ilookup j idx').map core
      rw [hother j (hnp j hj).1]
      exact inv.clean j (hnp j hj).2
    files := fun j r hj hr => by
      have hr' : ilookup j db.index = some r := by rw [← hother j (hnp j hj).1]; exact hr
      exact inv.files j r (hnp j hj).2 hr' }

/-! ### operations that only change flags -/

def noFlags (r : Rec) : Option Bytes × Nat × Nat × Nat := (r.data, r.seq, r.pos, r.len)

theorem inv_flags (db : DB) (inv : DiskInv db) (idx' : List (Key × Rec))
    (hsame : ∀ j, (ilookup j idx').map noFlags = (ilookup j db.index).map noFlags)
    (hc : AllCached db.eager idx') (hwf : ∀ kr ∈ idx', RecWF kr) (hkeys : Keys idx' = Keys db.index) :
    DiskInv { db with index := idx' } := by
  have hcore : ∀ j, (ilookup j idx').map core = (ilookup j db.index).map core := by
    intro j
    have := congrArg (Option.map (fun (x : Option Bytes × Nat × Nat × Nat) => (x.2.1, x.2.2.1, x.2.2.2))) (hsame j)
    rw [Option.map_map, Option.map_map] at this
    exact this
  exact { inv with
    cached := ⟨inv.cached.1, hc⟩
    wf := hwf
    nodup := by show (Keys idx').Nodup; rw [hkeys]; exact inv.nodup
    clean := fun j hj => by
      show (ilookup j (diskIndex db.fs)).map core = (ilookup j idx').map core
      rw [hcore j]; exact inv.clean j hj
    files := fun j r hj hr => by
      have h1 := hsame j
      rw [show ilookup j idx' = some r from hr] at h1
      cases hm : ilookup j db.index with
      | none => rw [hm] at h1; simp at h1
      | some r0 =>
        rw [hm] at h1
        simp only [Option.map_some, Option.some.injEq, noFlags, Prod.mk.injEq] at h1
        obtain ⟨f, h2, h3⟩ := inv.files j r0 hj hm
        refine ⟨f, by rw [h1.2.1]; exact h2, ?_⟩
        unfold ReadsBack at h3 ⊢
        rw [h1.1, h1.2.2.1, h1.2.2.2]
        exact h3 }

theorem applyBF_lt (fl res : Nat) (h : fl < 2^32) : applyBrowsingFlags fl res < 2^32 := by
  have := applyBF_high fl res
  omega

/-! ### every operation of the cached sub-language keeps the invariant -/

theorem inv_noSync (db : DB) (inv : DiskInv db) (b : Bool) : DiskInv { db with noSync := b } :=
  { inv with }

/-- size and width side conditions of one operation (the data file stays below 4 GiB, keys are 64-bit,
    flags 32-bit) -/
def OpFits (db : DB) : Op → Prop
  | .put k v => k < 2^64 ∧ v.length < 2^32 ∧ SizeOK (addPending (memput db k (newRec v 0)) k)
  | .putExt k v f => k < 2^64 ∧ v.length < 2^32 ∧ f < 2^32 ∧ SizeOK (addPending (memput db k (newRec v f)) k)
  | .del k => k < 2^64 ∧ SizeOK (addPending (memdel db k) k)
  | .sync => SizeOK { db with noSync := false }
  | .defrag _ => SizeOK db
  | _ => True

theorem ilookup_mapKV {α β : Type} (g : Key → α → β) (k : Key) (l : List (Key × α)) :
    ilookup k (l.map fun kr => (kr.1, g kr.1 kr.2)) = (ilookup k l).map (g k) := by
  rw [ilookup_eq, ilookup_eq]; exact Assoc.lookup_map g l k

theorem putExt_addPending_inv (db : DB) (inv : DiskInv db) (k : Key) (v : Bytes) (f : Nat) (hk : k < 2^64)
    (hv : v.length < 2^32) (hf : f < 2^32) (hnc : hasFlag f (ncOf db.eager) = false) :
    DiskInv (addPending (memput db k (newRec v f)) k) := by
  have hrec : RecCached db.eager (newRec v f) ∧ RecWF (k, newRec v f) :=
    ⟨⟨rfl, hnc⟩, hk, hf, Nat.mod_eq_of_lt hv⟩
  rw [addPending_same, memput_eq]
  apply inv_change db inv k hk
  · intro j hj
    rw [ilookup_iset, if_neg hj.symm]
  · exact allCached_iset inv.cached.2 k _ hrec.1
  · intro kr hkr
    rcases mem_iset k _ db.index kr hkr with h | h
    · rw [h]; exact hrec.2
    · exact inv.wf kr h
  · exact nodup_iset k _ db.index inv.nodup
  · intro j hj
    rw [keys_iset] at hj
    split at hj
    · exact Or.inr hj
    · rcases List.mem_append.mp hj with h | h
      · exact Or.inr h
      · simp at h; exact Or.inl h

theorem del_addPending_inv (db : DB) (inv : DiskInv db) (k : Key) (hk : k < 2^64) :
    DiskInv (addPending (memdel db k) k) := by
  rw [addPending_same, memdel_eq]
  exact inv_change db inv k hk (ierase k db.index) _ _ db.maxSeq
    (fun j hj => by rw [ilookup_ierase _ _ _ inv.nodup, if_neg hj.symm])
    (allCached_ierase inv.cached.2 k)
    (fun kr hkr => inv.wf kr (mem_ierase k db.index kr hkr))
    (nodup_ierase k db.index inv.nodup)
    (fun j hj => Or.inr (keys_ierase_sub k db.index j hj))

def browseG (w : List (Key × Nat)) (vs : Option (List Key)) (k : Key) (r : Rec) : Rec :=
  if skipB false vs r.flags k then r else { r with flags := applyBrowsingFlags r.flags (walkRes w k) }

theorem browseRec_eq (w : List (Key × Nat)) (vs : Option (List Key)) (kr : Key × Rec) :
    browseRec false w vs kr = (kr.1, browseG w vs kr.1 kr.2) := by
  unfold browseRec browseG
  split <;> rfl

/-- the state on which the operation calls sync() / defrag() -/
def preSync (db : DB) : Op → DB
  | .put k v => addPending (memput db k (newRec v 0)) k
  | .putExt k v f => addPending (memput db k (newRec v f)) k
  | .del k => addPending (memdel db k) k
  | .sync => { db with noSync := false }
  | _ => db

/-- `i` is `db.index` with some flag words replaced (the hypotheses of `inv_flags`) -/
structure FlagsOnly (db : DB) (i : List (Key × Rec)) : Prop where
  same : ∀ j, (ilookup j i).map noFlags = (ilookup j db.index).map noFlags
  cached : AllCached db.eager i
  wf : (∀ kr ∈ db.index, RecWF kr) → ∀ kr ∈ i, RecWF kr
  keys : Keys i = Keys db.index

/-- what one operation other than a reopen does to a non-volatile store whose records are all in memory:
    its part in memory (`preSync`; new flag words; the NoSync switch), then possibly sync() or defrag() -/
inductive NF (db : DB) (op : Op) : DB → Prop
  | mem : NF db op (preSync db op)
  | sync (hs : OpFits db op → SizeOK (preSync db op)) : NF db op (sync (preSync db op))
  | defrag (hs : OpFits db op → SizeOK (preSync db op)) : NF db op (defrag (preSync db op))
  | flags (i : List (Key × Rec)) (h : FlagsOnly db i) : NF db op { db with index := i }
  | noSync : NF db op { db with noSync := true }

theorem afterChange_nf (db : DB) (op : Op) (M : DB) (k : Key) (hv : M.volatile = false)
    (hp : preSync db op = addPending M k) (hs : OpFits db op → SizeOK (preSync db op)) :
    NF db op (afterChange M k) := by
  unfold afterChange
  rw [if_neg (by simp [hv]), ← hp]
  split
  · exact .sync hs
  · exact .mem

theorem applyFlags_nf (db : DB) (hc : Cached db) (op : Op) (k : Key) (fl : Nat)
    (hf : hasFlag fl (ncOf db.eager) = false) : NF db op (applyFlags db k fl) := by
  unfold applyFlags
  rw [if_neg (notFailed hc)]
  cases hl : ilookup k db.index with
  | none => exact .flags db.index ⟨fun _ => rfl, hc.2, fun h => h, rfl⟩
  | some r =>
    have hr := allCached_lookup hc.2 k r hl
    refine .flags _ ⟨?_, allCached_iset hc.2 k _ ⟨hr.1, applyBF_keeps _ _ _ hr.2 hf⟩, ?_, ?_⟩
    · intro j
      rw [ilookup_iset]
      by_cases hj : k = j
      · subst hj; simp [hl, noFlags]
      · simp [hj]
    · intro wf kr hkr
      rcases mem_iset k _ db.index kr hkr with h | h
      · have hk := wf (k, r) (ilookup_key_pair k r db.index hl)
        rw [h]; exact ⟨hk.1, applyBF_lt r.flags fl hk.2.1, hk.2.2⟩
      · exact wf kr h
    · rw [keys_iset]
      simp [ilookup_key_mem k r db.index hl]

theorem browse_nf (db : DB) (hc : Cached db) (op : Op) (w : List (Key × Nat)) (hw : WalkOK db.eager w) :
    NF db op (browse db w).1 := by
  obtain ⟨h1, _⟩ := browseGen_cached false db w hc hw
  have hc' := (browse_cached db w hc hw).1
  unfold browse at hc' ⊢
  rw [h1] at hc' ⊢
  generalize vsOf false db w = vs at hc' ⊢
  have hmap : db.index.map (browseRec false w vs) = db.index.map (fun kr => (kr.1, browseG w vs kr.1 kr.2)) :=
    List.map_congr_left fun kr _ => browseRec_eq w vs kr
  rw [hmap] at hc' ⊢
  refine .flags _ ⟨?_, hc'.2, ?_, ?_⟩
  · intro j
    rw [ilookup_mapKV]
    cases ilookup j db.index with
    | none => rfl
    | some r =>
      simp only [Option.map_some, Option.some.injEq]
      unfold browseG noFlags
      split <;> rfl
  · intro wf kr hkr
    obtain ⟨x, hx, rfl⟩ := List.mem_map.mp hkr
    obtain ⟨a, b, c⟩ := wf x hx
    unfold browseG
    split
    · exact ⟨a, b, c⟩
    · exact ⟨a, applyBF_lt x.2.flags (walkRes w x.1) b, c⟩
  · unfold Keys
    rw [List.map_map]
    rfl

theorem step_nf (db : DB) (hc : Cached db) (hv : db.volatile = false) (op : Op) (ok : OpOK db.eager op) :
    NF db op (step db op) := by
  cases op with
  | put k v =>
    show NF db _ (putExt db k v 0)
    rw [putExt_ok db k v 0 hc.1]
    exact afterChange_nf db _ _ k ((memput_spec db k _).2.2.1.trans hv) rfl (fun f => f.2.2)
  | putExt k v f =>
    show NF db _ (putExt db k v f)
    rw [putExt_ok db k v f hc.1]
    exact afterChange_nf db _ _ k ((memput_spec db k _).2.2.1.trans hv) rfl (fun f => f.2.2.2)
  | del k =>
    show NF db _ (del db k)
    rw [del_ok db k hc.1]
    exact afterChange_nf db _ _ k ((memdel_spec db k).2.2.1.trans hv) rfl (fun f => f.2)
  | get k =>
    rw [show step db (.get k) = _ from get_eq_applyFlags db k hc]
    exact applyFlags_nf db hc _ k YES_CACHE (yesCache_ok _)
  | browse w => exact browse_nf db hc _ w ok
  | applyFlags k fl => exact applyFlags_nf db hc _ k fl ok
  | defrag f =>
    rw [show step db (.defrag f) = _ from defragOp_nv db f hc.1 hv]
    split
    · exact .defrag (fun f => f)
    · exact .mem
  | sync =>
    rw [show step db .sync = _ from syncOp_nv db hc.1 hv]
    exact .sync (fun f => f)
  | noSync =>
    rw [show step db .noSync = _ from noSyncOp_nv db hc.1 hv]
    exact .noSync
  | reopen a b c => exact absurd ok (by simp [OpOK])

theorem preSync_same (db : DB) (op : Op) : ∃ i e n m p b,
    preSync db op = { db with index := i, extra := e, need := n, maxSeq := m, pending := p, noSync := b } := by
  cases op with
  | put k v | putExt k v f => exact ⟨_, _, _, _, _, _, by show addPending _ _ = _; rw [addPending_same, memput_eq]⟩
  | del k => exact ⟨_, _, _, _, _, _, by show addPending _ _ = _; rw [addPending_same, memdel_eq]⟩
  | _ => exact ⟨_, _, _, _, _, _, rfl⟩

theorem preSync_inv (db : DB) (inv : DiskInv db) (op : Op) (ok : OpOK db.eager op) (fits : OpFits db op) :
    DiskInv (preSync db op) := by
  cases op with
  | put k v => exact putExt_addPending_inv db inv k v 0 fits.1 fits.2.1 (by decide) (zeroFlags_ok _)
  | putExt k v f => exact putExt_addPending_inv db inv k v f fits.1 fits.2.1 fits.2.2.1 ok
  | del k => exact del_addPending_inv db inv k fits.1
  | sync => exact inv_noSync db inv false
  | _ => exact inv

theorem step_inv (db : DB) (inv : DiskInv db) (op : Op) (ok : OpOK db.eager op) (fits : OpFits db op) :
    DiskInv (step db op) := by
  have hM := preSync_inv db inv op ok fits
  exact match step db op, step_nf db inv.cached inv.nv op ok with
  | _, .mem => hM
  | _, .sync hs => (sync_inv _ hM (hs fits)).1
  | _, .defrag hs => (defrag_inv _ hM.cached hM.nv ⟨hM.cached.2, hM.wf, hM.nodup, (hs fits).2⟩).1
  | _, .flags i h => inv_flags db inv i h.same h.cached (h.wf inv.wf) h.keys
  | _, .noSync => inv_noSync db inv true

def RunFits : DB → List Op → Prop
  | _, [] => True
  | db, op :: t => OpFits db op ∧ RunFits (step db op) t

theorem run_inv (ops : List Op) (db : DB) (inv : DiskInv db) (ok : ∀ op ∈ ops, OpOK db.eager op) (fits : RunFits db ops) :
    DiskInv (run db ops) := by
  induction ops generalizing db with
  | nil => exact inv
  | cons op t ih =>
    exact ih (step db op) (step_inv db inv op (ok op List.mem_cons_self) fits.1)
      (fun o ho => by rw [step_eager_all]; exact ok o (List.mem_cons_of_mem _ ho))
      fits.2

theorem openDB_empty (load : Bool) (opts : Opts) :
    openDB {} false load opts eg = { fs := {}, volatile := false, opts := opts, dataSeq := 1, eager := eg } := by
  cases load <;> rfl

theorem fresh_inv (load : Bool) (opts : Opts) : DiskInv (openDB {} false load opts eg) := by
  rw [openDB_empty]
  constructor
  · exact ⟨rfl, by intro kr h; cases h⟩
  · rfl
  · intro kr h; cases h
  · exact List.nodup_nil
  · exact List.nodup_nil
  · intro k h; cases h
  · rfl
  · show (0 : Nat) < 2^32; decide
  · show (1 : Nat) < 2^32; decide
  · exact ⟨([] : List LogEntry), fun e he => (by cases he), Or.inl ⟨rfl, rfl⟩⟩
  · intro _; rfl
  · intro h; cases h
  · intro k _; rfl
  · intro k r _ h; cases h
  · intro kr h; cases h
  · intro h; cases h
  · intro _ kr h; cases h
  · intro kr h; cases h

end GocoinV.Proofs.C19
