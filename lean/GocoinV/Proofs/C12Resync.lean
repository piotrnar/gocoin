/-
  Proofs.C12Resync — the two "resync" edits of the correspondence oracle (Model/MempoolResync: `ringorder`, `setorder`)
  change the model state outside `Mempool.step`.  Both preserve every invariant the C12 theorems carry: `Full`
  (InvR + ChainOK + PGoodP, Proofs/C12Run), `RejInv` (Proofs/C12RejInv), `SortInvP` (Proofs/C12SortDef); so the step
  theorems of these extend to trajectories in which `step`s, accepted resync edits and refused loads of mempool.dmp /
  InitMempool() (Model/MempoolLoad `loadRefused`) alternate (`rrun_inv` at the end).  Core Lean only.
-/
import GocoinV.Model.MempoolResync
import GocoinV.Proofs.C12RejInv
import GocoinV.Proofs.C12SortRun
import GocoinV.Proofs.C12Load
namespace GocoinV.Mempool

theorem ringorder_spec {s s' : State} {ks : List Nat} (h : ringorder s ks = some s') :
    (s.ring.filterMap id).Perm ks ∧ s' = { s with ring := refill s.ring ks } := by
  unfold ringorder at h
  split at h
  · next hp => exact ⟨List.isPerm_iff.mp hp, (Option.some.inj h).symm⟩
  · cases h

theorem setorder_spec {K : Keys} {s s' : State} {ks : List Nat} (h : setorder K s ks = some s') :
    s.sortDirty = false ∧ (s.pool.map Prod.fst).Perm ks ∧ parentsFirstKeys K s ks = true ∧
    s' = { s with sorted := ks, ranks := rankFrom s.sortStep SORT_START ks,
                  rankWrap := s.rankWrap || !rankRoom s.sortStep ks.length } := by
  unfold setorder at h
  split at h
  · next hp =>
    simp only [Bool.and_eq_true, Bool.not_eq_true'] at hp
    exact ⟨hp.1.1, List.isPerm_iff.mp hp.1.2, hp.2, (Option.some.inj h).symm⟩
  · cases h

/-- with as many keys as occupied slots, the occupied slots of the refilled ring read exactly the given keys -/
theorem refill_keys : ∀ (r : List (Option Nat)) (ks : List Nat), ks.length = (r.filterMap id).length →
    (refill r ks).filterMap id = ks
  | [], [], _ => rfl
  | [], _ :: _, h => by simp at h
  | none :: r, ks, h => refill_keys r ks h
  | some _ :: _, [], h => by simp at h
  | some _ :: r, k :: ks, h => congrArg (k :: ·) (refill_keys r ks (Nat.succ.inj h))

/-- the zeroed slots stay where they are (same length, same none/some pattern) -/
theorem refill_shape : ∀ (r : List (Option Nat)) (ks : List Nat),
    (refill r ks).map Option.isSome = r.map Option.isSome
  | [], _ => rfl
  | none :: r, ks => congrArg (false :: ·) (refill_shape r ks)
  | some _ :: r, _ :: ks => congrArg (true :: ·) (refill_shape r ks)
  | some _ :: r, [] => congrArg (true :: ·) (refill_shape r [])

/-! ### ringorder -/

theorem ringorder_full {K : Keys} {W : Tx → Prop} {u0 : UT} {ν : OutPoint → Nat} {s s' : State} {ks : List Nat}
    (h : ringorder s ks = some s') (f : Full K W u0 ν s) : Full K W u0 ν s' := by
  obtain ⟨_, rfl⟩ := ringorder_spec h
  exact ⟨InvR_of_frame f.inv Frame.of_eq, f.chain.of_env (Env.of_eq id),
    PGoodP.lift (s := s) (Env.of_eq id) (fun g => g.frame Frame.of_eq) f.good⟩

theorem ringorder_sort {K : Keys} {s s' : State} {ks : List Nat}
    (h : ringorder s ks = some s') (q : SortInvP K s) : SortInvP K s' := by
  obtain ⟨_, rfl⟩ := ringorder_spec h
  exact SortInvP.lift (s := s) (Env.of_eq id) (fun x => x.same SortSame.of_eq) q

theorem ringorder_rejInv {K : Keys} {s s' : State} {ks : List Nat}
    (h : ringorder s ks = some s') (q : RejInv K s) : RejInv K s' := by
  obtain ⟨hperm, rfl⟩ := ringorder_spec h
  have hk : (refill s.ring ks).filterMap id = ks := refill_keys _ _ hperm.length_eq.symm
  have hmem : ∀ b, some b ∈ refill s.ring ks ↔ some b ∈ s.ring := by
    intro b
    rw [← mem_ringKeys, ← mem_ringKeys]
    unfold ringKeys
    rw [hk]
    exact hperm.mem_iff.symm
  exact { q with
    ring_nodup := (hk.symm ▸ hperm.nodup_iff.mp q.ring_nodup : ((refill s.ring ks).filterMap id).Nodup)
    ring_rej := fun b hb => q.ring_rej b ((hmem b).mp hb)
    rej_ring := fun b r hr => (q.rej_ring b r hr).imp_right (hmem b).mpr }

/-! ### setorder -/

theorem setorder_full {K : Keys} {W : Tx → Prop} {u0 : UT} {ν : OutPoint → Nat} {s s' : State} {ks : List Nat}
    (h : setorder K s ks = some s') (f : Full K W u0 ν s) : Full K W u0 ν s' := by
  obtain ⟨_, _, _, rfl⟩ := setorder_spec h
  exact ⟨InvR_of_frame f.inv Frame.of_eq, f.chain.of_env (Env.of_eq id),
    PGoodP.lift (s := s) (Env.of_eq id) (fun g => g.frame Frame.of_eq) f.good⟩

theorem setorder_rejInv {K : Keys} {s s' : State} {ks : List Nat}
    (h : setorder K s ks = some s') (q : RejInv K s) : RejInv K s' := by
  obtain ⟨_, _, _, rfl⟩ := setorder_spec h
  exact { q with }

/-- the oracle's test gives the Prop form `PfKeysFrom` once every flagged parent of a listed record is in the list -/
theorem PfKeysFrom_of_parentsFirstGo (K : Keys) (s : State) (l : List Nat) : ∀ (r seen : List Nat),
    parentsFirstGo K s l seen r = true →
    (∀ b ∈ r, ∀ t, s.pool.get? b = some t → ∀ p ∈ memParents K t, p ∈ l) → PfKeysFrom K s seen r := by
  intro r
  induction r with
  | nil => intro _ _ _; trivial
  | cons b r ih =>
    intro seen h hin
    simp only [parentsFirstGo, Bool.and_eq_true] at h
    obtain ⟨h1, h2⟩ := h
    refine ⟨?_, ih (b :: seen) h2 (fun x hx => hin x (List.mem_cons_of_mem _ hx))⟩
    cases hx : s.pool.get? b with
    | none => rw [hx] at h1; cases h1
    | some t =>
      rw [hx] at h1
      refine ⟨t, rfl, fun p hp => ?_⟩
      have h3 := List.all_eq_true.mp h1 p hp
      rw [List.contains_iff_mem.mpr (hin b List.mem_cons_self t hx p hp)] at h3
      exact List.contains_iff_mem.mp (by simpa using h3)

/-- an adopted list with ranks that fit is a good sorted list (the statement of `buildSorted_sort` for the observed
    listing instead of GetSortedMempoolSlow's) -/
theorem setorder_sortOK {K : Keys} {W : Tx → Prop} {rank : TxId → Nat} {u0 : UT} {ν : OutPoint → Nat}
    (U : Univ2 K W rank u0 ν) {s s' : State} {ks : List Nat} (h : setorder K s ks = some s')
    (g : PGood K W u0 ν s) (hroom : rankRoom s.sortStep ks.length = true) : SortOK K s' := by
  obtain ⟨_, hperm, hpf, rfl⟩ := setorder_spec h
  have hnd : ks.Nodup := hperm.nodup_iff.mp g.w.base.nodup
  have hsync : ∀ b, b ∈ ks ↔ (s.pool.get? b).isSome = true := by
    intro b
    rw [← hperm.mem_iff, Option.isSome_iff_ne_none, Ne, AList.get?_eq, Assoc.lookup_eq_none_iff, Decidable.not_not]
  obtain ⟨r1, r2⟩ := rankRoom_spec _ _ hroom
  obtain ⟨a1, a2⟩ := rankFrom_asc _ r1 ks SORT_START hnd (by omega)
  refine ⟨a1, fun x hx => (a2 x hx).2, hsync, ?_, ?_⟩
  · refine pairwise_of_PfKeysFrom K s ks [] ?_ hnd (by simp)
    apply PfKeysFrom_of_parentsFirstGo K s ks ks [] hpf
    intro b _ t hb p hp
    exact (hsync p).mpr (good_parents U s g b t hb p hp).2
  · intro b t hb hm
    exact (good_parents U s g b t hb b hm).1 rfl

theorem setorder_sort {K : Keys} {W : Tx → Prop} {rank : TxId → Nat} {u0 : UT} {ν : OutPoint → Nat}
    (U : Univ2 K W rank u0 ν) {s s' : State} {ks : List Nat} (h : setorder K s ks = some s')
    (g : PGoodP K W u0 ν s) : SortInvP K s' := by
  obtain ⟨_, _, _, e⟩ := setorder_spec h
  intro hp _ hw
  rw [e] at hp hw
  exact setorder_sortOK U h (g hp) (by simpa using (Bool.or_eq_false_iff.mp hw).2)

/-! ### trajectories with resync edits

  One move of the oracle: an operation of the model, a `ringorder` / `setorder` edit (a refused edit leaves the
  state as it is, as in the oracle), or a refused MempoolLoad / InitMempool (`loadfail`: the pool is re-initialised;
  `k`, `j` say where the file written from the current state was cut — the result depends on them only through the
  sticky panic flag, `loadRefused_eq`; `j = none` is also InitMempool() alone, the text-UI `mempool purge`). -/

inductive Move where
  | op (o : Op)
  | ring (ks : List Nat)
  | sort (ks : List Nat)
  /-- a refused MempoolLoad (file cut after `k` pool records / after the pool section and `j` rejected records,
      damaged, written for another tip, or missing) or a bare InitMempool() -/
  | init (k : Nat) (j : Option Nat)

def rstep (K : Keys) (s : State) : Move → State
  | .op o => step K s o
  | .ring ks => (ringorder s ks).getD s
  | .sort ks => (setorder K s ks).getD s
  | .init k j => loadRefused K s k j

/-- a history of operations with resync edits in between -/
def rrun (K : Keys) (s : State) (ms : List Move) : State := ms.foldl (rstep K) s

/-- the hypotheses of `step_full` / `step_rejInv` / `step_sort` for the operations of the history, each in the state
    it is applied to; the resync edits and the refused loads need none -/
def RAdm (K : Keys) (W : Tx → Prop) (u0 : UT) (ν : OutPoint → Nat) : State → List Move → Prop
  | _, [] => True
  | s, m :: r =>
    (match m with
     | .op o => (∀ t ∈ o.txs, W t) ∧ AdmOp u0 ν s o ∧ UndoOK K s o
     | _ => True) ∧ RAdm K W u0 ν (rstep K s m) r

/-- the three invariants survive every move … -/
theorem rstep_inv {K : Keys} {W : Tx → Prop} {rank : TxId → Nat} {u0 : UT} {ν : OutPoint → Nat}
    (U : Univ2 K W rank u0 ν) (s : State) (m : Move)
    (ha : match m with
      | .op o => (∀ t ∈ o.txs, W t) ∧ AdmOp u0 ν s o ∧ UndoOK K s o
      | _ => True)
    (f : Full K W u0 ν s) (r : RejInv K s) (q : SortInvP K s) :
    Full K W u0 ν (rstep K s m) ∧ RejInv K (rstep K s m) ∧ SortInvP K (rstep K s m) := by
  cases m with
  | op o =>
    obtain ⟨hW, hadm, hu⟩ := ha
    exact ⟨step_full U s o f hW hadm, step_rejInv U.base s o f.inv r hW hu, step_sort U s o f hW hadm q⟩
  | ring ks =>
    simp only [rstep]
    cases h : ringorder s ks with
    | none => exact ⟨f, r, q⟩
    | some s' => exact ⟨ringorder_full h f, ringorder_rejInv h r, ringorder_sort h q⟩
  | sort ks =>
    simp only [rstep]
    cases h : setorder K s ks with
    | none => exact ⟨f, r, q⟩
    | some s' => exact ⟨setorder_full h f, setorder_rejInv h r, setorder_sort U h f.good⟩
  | init k j => exact loadRefused_inv s k j f r

/-- … hence every history with resync edits (what `run_carried` is for plain histories) -/
theorem rrun_inv {K : Keys} {W : Tx → Prop} {rank : TxId → Nat} {u0 : UT} {ν : OutPoint → Nat}
    (U : Univ2 K W rank u0 ν) : ∀ (ms : List Move) (s : State), RAdm K W u0 ν s ms →
    Full K W u0 ν s → RejInv K s → SortInvP K s →
    Full K W u0 ν (rrun K s ms) ∧ RejInv K (rrun K s ms) ∧ SortInvP K (rrun K s ms) := by
  intro ms
  induction ms with
  | nil => intro s _ f r q; exact ⟨f, r, q⟩
  | cons m t ih =>
    intro s ha f r q
    obtain ⟨f', r', q'⟩ := rstep_inv U s m ha.1 f r q
    exact ih _ ha.2 f' r' q'

theorem rrun_ops (K : Keys) : ∀ (ops : List Op) (s : State), rrun K s (ops.map Move.op) = run K s ops :=
  fun _ _ => List.foldl_map

end GocoinV.Mempool
