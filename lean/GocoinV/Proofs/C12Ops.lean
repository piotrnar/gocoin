/-
  Proofs.C12Ops — the full pool invariant through processTx, deletion with children and save+reload
  (helper lemmas for Props/C12 `pool_inv`; the steps of the pool side are put together in Proofs/C12Flags `Prim.good`).
  Core Lean only.
-/
import GocoinV.Proofs.C12Proc
namespace GocoinV.Mempool

/-! ### the chain side -/

/-- what the pool needs from the confirmed chain (the environment of the pool): inputs of connected transactions are
    spent (`c1`) and name confirmed ids (`c2`), unspent outputs belong to confirmed ids (`c3`), coin values are the
    outputs' values (`val`), connected transactions have no duplicate input (`nd`). What C04's `connect_sound` / C06's
    `undo_commitTxs` give for the real chain is here a hypothesis (`AdmOp`), or derived for the model's own chain
    simulation from the validity of the blocks (Proofs/C12Chain `connect_sound_model`, `undo_sound_model`); no C12
    module imports C04 or C06. -/
structure ChainOK (u0 : UT) (ν : OutPoint → Nat) (s : State) : Prop where
  c1 : ∀ e ∈ s.undo, ∀ X ∈ e.1, ∀ i ∈ X.ins, s.utxo.get? (i.prev, i.vout) = none
  c2 : ∀ e ∈ s.undo, ∀ X ∈ e.1, ∀ i ∈ X.ins, Conf u0 s.undo i.prev
  c3 : ∀ o c, s.utxo.get? o = some c → Conf u0 s.undo o.1
  val : ∀ o c, s.utxo.get? o = some c → c.value = ν o
  nd : ∀ e ∈ s.undo, ∀ X ∈ e.1, X.inOps.Nodup

theorem ChainOK.of_env {u0 : UT} {ν : OutPoint → Nat} {s s' : State} (h : ChainOK u0 ν s) (e : Env s s') :
    ChainOK u0 ν s' := by
  refine ⟨?_, ?_, ?_, ?_, ?_⟩
  · rw [e.utxo, e.undo]; exact h.c1
  · rw [e.undo]; exact h.c2
  · rw [e.utxo, e.undo]; exact h.c3
  · rw [e.utxo]; exact h.val
  · rw [e.undo]; exact h.nd

/-- unspent in the confirmed set -/
def inU (s : State) (o : OutPoint) : Prop := (s.utxo.get? o).isSome = true

theorem ChainOK.conf_of_inU {u0 : UT} {ν : OutPoint → Nat} {s : State} (h : ChainOK u0 ν s) (o : OutPoint)
    (ho : inU s o) : Conf u0 s.undo o.1 := by
  obtain ⟨c, hx⟩ := Option.isSome_iff_exists.mp ho
  exact h.c3 o c hx

/-- the pool invariant of a state against its own chain side -/
def PGood (K : Keys) (W : Tx → Prop) (u0 : UT) (ν : OutPoint → Nat) (s : State) : Prop :=
  PoolOK K W ν (inU s) (Conf u0 s.undo) s

theorem PGood.of_env {K : Keys} {W : Tx → Prop} {u0 : UT} {ν : OutPoint → Nat} {s s' : State}
    (h : PoolOK K W ν (inU s) (Conf u0 s.undo) s') (e : Env s s') : PGood K W u0 ν s' := by
  unfold PGood inU
  rw [e.utxo, e.undo]
  exact h

/-- the invariant, claimed for states in which the process is alive -/
def PGoodP (K : Keys) (W : Tx → Prop) (u0 : UT) (ν : OutPoint → Nat) (s : State) : Prop :=
  s.panicked = false → PGood K W u0 ν s

theorem PGoodP.lift {K : Keys} {W : Tx → Prop} {u0 : UT} {ν : OutPoint → Nat} {s s' : State} (e : Env s s')
    (f : PGood K W u0 ν s → PGood K W u0 ν s') (h : PGoodP K W u0 ν s) : PGoodP K W u0 ν s' :=
  fun hp => f (h (alive_of_env e hp))

variable {K : Keys} {W : Tx → Prop} {rank : TxId → Nat} {u0 : UT} {ν : OutPoint → Nat}
  {A : OutPoint → Prop} {Cf : TxId → Prop}

theorem conf_spent_input (U : Univ2 K W rank u0 ν) (s : State) (hc : ChainOK u0 ν s) (hu : ∀ e ∈ s.undo, ∀ t ∈ e.1, W t)
    (t : Tx) (ht : W t) :
    Conf u0 s.undo t.id → ∃ i ∈ t.ins, s.utxo.get? (i.prev, i.vout) = none ∧ Conf u0 s.undo i.prev := by
  rintro (⟨v, c, h0⟩ | ⟨e, he, X, hX, hid⟩)
  · rw [U.genesis t ht v] at h0; cases h0
  · obtain rfl : X = t := U.base.id_fun X t (hu e he X hX) ht hid
    obtain ⟨i, hm⟩ := List.exists_mem_of_ne_nil _ (U.base.ins_ne X ht)
    exact ⟨i, hm, hc.c1 e he X hX i hm, hc.c2 e he X hX i hm⟩

theorem processTx_good (U : Univ2 K W rank u0 ν) (mf : Nat) (s : State) (t : Tx) (fl : Flags) (hc : ChainOK u0 ν s)
    (h : PGood K W u0 ν s) (ht : W t) (hnd : fl.unmined = true → t.inOps.Nodup) :
    PGood K W u0 ν (processTx K mf s t fl).2 :=
  PGood.of_env (processTx_ok U mf s t fl h ht (fun _ ho => ho) hc.val hnd
    (conf_spent_input U s hc h.w.base.undoW t ht)) (processTx_env K mf s t fl)

theorem PGood.frame {K : Keys} {W : Tx → Prop} {u0 : UT} {ν : OutPoint → Nat} {s s' : State}
    (h : PGood K W u0 ν s) (f : Frame W s s') : PGood K W u0 ν s' := by
  have := PoolOK.frame h f
  unfold PGood inU
  rw [f.core.2.2.1, f.undo]
  exact this

/-! ### Delete(with_children) -/

/-- what one call of Delete(true) does, provided the process stays alive -/
structure DelPost (K : Keys) (W : Tx → Prop) (ν : OutPoint → Nat) (A : OutPoint → Prop) (Cf : TxId → Prop)
    (s s' : State) : Prop where
  ok : PoolOK K W ν A Cf s'
  subP : ∀ b x, s'.pool.get? b = some x → s.pool.get? b = some x
  subS : ∀ u x, s'.spent.get? u = some x → s.spent.get? u = some x

theorem DelPost.refl {K : Keys} {W : Tx → Prop} {ν : OutPoint → Nat} {A : OutPoint → Prop} {Cf : TxId → Prop}
    {s : State} (h : PoolOK K W ν A Cf s) : DelPost K W ν A Cf s s := ⟨h, fun _ _ h => h, fun _ _ h => h⟩

theorem DelPost.trans {K : Keys} {W : Tx → Prop} {ν : OutPoint → Nat} {A : OutPoint → Prop} {Cf : TxId → Prop}
    {a b c : State} (h1 : DelPost K W ν A Cf a b) (h2 : DelPost K W ν A Cf b c) : DelPost K W ν A Cf a c :=
  ⟨h2.ok, fun k x h => h1.subP k x (h2.subP k x h), fun u x h => h1.subS u x (h2.subS u x h)⟩

/-- Delete(with_children) keeps the pool invariant and removes `t`.  Induction on the fuel; inside, the loop over the
    outputs of `t` carries that the outputs below the current one have no entry in SpentOutputs any more: each child is
    deleted by the induction hypothesis (it has another key: `child_rank`), `t` itself stays until the loop is over, and
    then has no child left, which is what `delOne_ok` needs -/
theorem delWC_ok (U : Univ K W rank) (reason : Nat)
    :
    ∀ (fuel : Nat) (s : State) (t : T2S), PoolOK K W ν A Cf s → s.pool.get? (K.bidx t.tx.id) = some t →
    (delWithChildren K reason fuel s t).panicked = false →
    DelPost K W ν A Cf s (delWithChildren K reason fuel s t) ∧
    (delWithChildren K reason fuel s t).pool.get? (K.bidx t.tx.id) = none := by
  intro fuel
  induction fuel with
  | zero => intro s t _ _ hp; simp [delWithChildren] at hp
  | succ n ih =>
    intro s t h hin
    rw [delWithChildren_succ]
    unfold iota
    -- the fold over the outputs
    obtain ⟨fe, fp⟩ := range_foldl_ind (fun m cur => Env s cur ∧ (cur.panicked = false →
        DelPost K W ν A Cf s cur ∧ cur.pool.get? (K.bidx t.tx.id) = some t ∧
        ∀ v < m, cur.spent.get? (K.uidx t.tx.id v) = none)) (delKid K reason n t) t.tx.outs.length s
      ⟨Env.refl s, fun _ => ⟨DelPost.refl h, hin, fun _ hv => absurd hv (Nat.not_lt_zero _)⟩⟩ (by
        intro v cur _ ⟨e, hc⟩
        unfold delKid
        split
        · rename_i hnone
          refine ⟨e, fun hp => ?_⟩
          obtain ⟨c1, c2, c3⟩ := hc hp
          refine ⟨c1, c2, fun w hw => ?_⟩
          rcases Nat.lt_succ_iff_lt_or_eq.mp hw with h1 | h1
          · exact c3 w h1
          · rw [h1]; exact hnone
        · rename_i so hso
          split
          · rename_i hnone
            refine ⟨e, fun hp => ?_⟩
            obtain ⟨c1, _, _⟩ := hc hp
            obtain ⟨x, hx, _⟩ := c1.ok.w.base.str.sound _ _ hso
            rw [hnone] at hx; cases hx
          · rename_i child hchild
            refine ⟨e.trans (delWithChildren_env K reason n _ _), fun hp => ?_⟩
            have hpc := alive_of_env (delWithChildren_env K reason n cur child) hp
            obtain ⟨c1, c2, c3⟩ := hc hpc
            have hb := c1.ok.w.base
            obtain ⟨rk, kk⟩ := child_rank U cur hb t.tx (hb.poolW _ _ c2) v so child hso hchild
            have hcin : cur.pool.get? (K.bidx child.tx.id) = some child := by rw [kk]; exact hchild
            obtain ⟨p1, p2⟩ := ih cur child c1.ok hcin hp
            obtain ⟨_, q2⟩ := delWC_spec U reason n cur child hb hcin
            refine ⟨c1.trans p1, q2 _ t c2 rk, fun w hw => ?_⟩
            cases hx : (delWithChildren K reason n cur child).spent.get? (K.uidx t.tx.id w) with
            | none => rfl
            | some x =>
              exfalso
              have hx0 := p1.subS _ x hx
              rcases Nat.lt_succ_iff_lt_or_eq.mp hw with h1 | h1
              · rw [c3 w h1] at hx0; cases hx0
              · rw [h1, hso] at hx0
                cases hx0
                obtain ⟨y, hy, _⟩ := p1.ok.w.base.str.sound _ _ hx
                rw [← kk, p2] at hy
                cases hy)
    intro hp
    have hpc := alive_of_env (delOne_env K _ t reason) hp
    obtain ⟨c1, c2, c3⟩ := fp hpc
    have hno := noflag_of_childless _ t c1.ok c2 c3
    obtain ⟨s1, s2⟩ := delOne_sub K (List.foldl (delKid K reason n t) s (List.range t.tx.outs.length)) t reason
    refine ⟨⟨delOne_ok _ t reason c1.ok c2 hno, fun b x hx => c1.subP b x (s1 b x hx),
      fun u x hx => c1.subS u x (s2 u x hx)⟩, ?_⟩
    rw [(delOne_pool_spent K _ t reason).1]
    exact AList.get?_del_self _ _

/-! ### save + reload -/

theorem reloadRec_flag (K : Keys) (s : State) (b : Nat) (t : T2S) {k : Nat} {i : TxIn} (hk : t.tx.ins[k]? = some i) :
    flag (reloadRec K s b t) k = if t.mem.isEmpty then false else s.pool.has (K.bidx i.prev) := by
  unfold reloadRec flag
  split
  · rename_i he
    simp [List.isEmpty_iff.mp he]
  · dsimp only
    split
    · rename_i hz
      have := count_zero_getD _ k hz
      rw [List.getD_eq_getElem?_getD, List.getElem?_map, hk] at this
      simpa using this.symm
    · rw [List.getD_eq_getElem?_getD, List.getElem?_map, hk]; rfl

theorem reloadRec_loc (K : Keys) (s : State) (b : Nat) (ν : OutPoint → Nat) (t : T2S) (h : RecL ν t) :
    RecL ν (reloadRec K s b t) := by
  unfold reloadRec
  split
  · exact h
  · refine ⟨?_, ?_, h.nodupIn, h.vol, h.fee⟩
    · dsimp only
      split
      · exact Or.inl rfl
      · right; simp
    · dsimp only
      split
      · rename_i hz; rw [hz]; rfl
      · rfl

theorem reloadBase_ok (U : Univ2 K W rank u0 ν) (s : State)
    (h : PoolOK K W ν A Cf s)
    (hAC : ∀ o, A o → Cf o.1) : PoolOK K W ν A Cf (reloadBase K s) := by
  have hb := h.w.base
  refine ⟨⟨reloadBase_InvR s hb, ?_, ?_, ?_, ?_⟩, ?_⟩
  · intro b t' ht'
    obtain ⟨t, ht, rfl⟩ := reloadPool_back K s b t' ht'
    exact reloadRec_loc K s b ν t (h.w.loc b t ht)
  · intro b t' ht' k i hk hf
    obtain ⟨t, ht, rfl⟩ := reloadPool_back K s b t' ht'
    rw [reloadRec_tx] at hk
    cases hof : flag t k with
    | false => exact h.w.unf b t ht k i hk hof
    | true =>
      exfalso
      obtain ⟨p, hp, _⟩ := h.par b t ht k i hk hof
      rw [reloadRec_flag K s b t hk] at hf
      split at hf
      · rename_i he
        rw [flag_nil t (List.isEmpty_iff.mp he)] at hof; cases hof
      · simp [AList.has, hp] at hf
  · intro b t' ht'
    obtain ⟨t, ht, rfl⟩ := reloadPool_back K s b t' ht'
    rw [reloadRec_tx]
    exact h.w.ncf b t ht
  · show (reloadPool K s).foldl (fun n p => n + p.2.tx.weight) 0 = poolWeight (reloadPool K s)
    rw [poolWeight, List.sum_eq_foldl, List.foldl_map]
  · intro b t' ht' k i hk hf
    obtain ⟨t, ht, rfl⟩ := reloadPool_back K s b t' ht'
    rw [reloadRec_tx] at hk
    rw [reloadRec_flag K s b t hk] at hf
    split at hf
    · cases hf
    obtain ⟨p, hp⟩ := Option.isSome_iff_exists.mp hf
    have hi : i ∈ t.tx.ins := List.mem_of_getElem? hk
    have hid := parent_id U hb (hb.poolW _ _ ht) hi hp
    refine ⟨reloadRec K s _ p, (reloadPool_get K s _).trans (by rw [hp]; rfl), by rw [reloadRec_tx]; exact hid, ?_⟩
    rw [reloadRec_tx]
    cases hof : flag t k with
    | true =>
      obtain ⟨p', hp', _, hlt⟩ := h.par b t ht k i hk hof
      rw [hp] at hp'; cases hp'; exact hlt
    | false =>
      exfalso
      have := hAC _ (h.w.unf b t ht k i hk hof)
      rw [← hid] at this
      exact h.w.ncf _ p hp this

theorem reload_ok (U : Univ2 K W rank u0 ν) (s : State)
    (h : PoolOK K W ν A Cf s)
    (hAC : ∀ o, A o → Cf o.1) : PoolOK K W ν A Cf (reload K s) := by
  rw [reload_eq]
  exact foldl_inv (PoolOK K W ν A Cf) _ (fun st slot hst => hst.frame (reloadRej_frame K W s st slot h.w.base.rejW))
    s.ring _ (reloadBase_ok U s h hAC)

end GocoinV.Mempool
