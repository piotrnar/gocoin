/-
  Proofs.C15Bech32Fold — the polymod fold `pf` that the five loops of the model of `Encode` and `Decode` run over 5-bit
  symbols (Model/Bech32.lean: `hrpHigh?`, `hrpLow`, `dataFold?`, `decHrp?`, `decData?`; lib/others/bech32/bech32.go runs the
  step in seven `for` statements: `Decode`'s second hrp loop is `hrpLow` again, the six checksum rounds are the unrolled
  `six`), and the part of the error-detection argument that needs no table: the fold is XOR-linear and affine in the
  state, the GENERATED step (Gen/Bech32Consts.lean) has trivial kernel on 30-bit states (so trailing correct symbols never
  cancel an error; two `decide +kernel` steps on the generated constants: `ps_zero` and the 32 rows of `Gsel_low_tab`),
  and an error word is zeros, a non-zero symbol and a word of smaller weight.
  The closed forms of the loops are in Proofs/C15Bech32Loops.lean, the orbit computation and the syndrome lemma in
  Proofs/C15BchOrbit.lean.
-/
import GocoinV.Proofs.C15Bech32Step
namespace GocoinV.Bech32

/-- the polymod fold over 5-bit symbols -/
def pf (c : UInt32) (l : Bytes) : UInt32 := l.foldl (fun c d => polymodStep c ^^^ d.toUInt32) c

theorem pf_cons (c : UInt32) (x : UInt8) (t : Bytes) : pf c (x :: t) = pf (polymodStep c ^^^ x.toUInt32) t := rfl
theorem pf_append (c : UInt32) (a b : Bytes) : pf c (a ++ b) = pf (pf c a) b := List.foldl_append

theorem sym_hi (d : UInt8) : hi30 d.toUInt32 := by
  unfold hi30; simp only [UInt8.toNat_toUInt32]; have := d.toNat_lt; omega

theorem pf_hi (l : Bytes) : ∀ c, hi30 c → hi30 (pf c l) :=
  fun _ h => List.foldlRecOn l _ h fun _ _ _ _ => xor_hi (ps_hi _) (sym_hi _)

theorem pf_zipWith_xor (x : Bytes) : ∀ (y : Bytes) (c c' : UInt32), x.length = y.length →
    pf c x ^^^ pf c' y = pf (c ^^^ c') (List.zipWith (· ^^^ ·) x y) := by
  induction x with
  | nil => intro y c c' hl; rw [List.eq_nil_of_length_eq_zero hl.symm]; rfl
  | cons a t ih =>
    intro y c c' hl
    cases y with
    | nil => simp at hl
    | cons b t' =>
      simp only [List.zipWith_cons_cons, pf_cons]
      rw [ih t' _ _ (by simpa using hl)]
      congr 1
      rw [ps_lin, UInt8.toUInt32_xor]
      ac_rfl

theorem pf_xor (x : Bytes) : ∀ (y : Bytes) (c c' : UInt32), hi30 c → hi30 c' → x.length = y.length →
    pf c x ^^^ pf c' y = pf (c ^^^ c') (List.zipWith (· ^^^ ·) x y) :=
  fun y c c' _ _ hl => pf_zipWith_xor x y c c' hl

def iter : Nat → UInt32 → UInt32
  | 0, x => x
  | k+1, x => iter k (polymodStep x)

theorem iter_add (a b : Nat) : ∀ x, iter (a + b) x = iter a (iter b x) := by
  induction b with
  | zero => intro x; rfl
  | succ b ih => intro x; exact ih (polymodStep x)

theorem iter_succ' (k : Nat) : ∀ x, iter (k + 1) x = polymodStep (iter k x) := by
  rw [Nat.add_comm]; exact iter_add 1 k

theorem ps_zero : polymodStep 0 = 0 := by decide +kernel

theorem iter_zero (k : Nat) : iter k 0 = 0 := by
  induction k with
  | zero => rfl
  | succ k ih => simp only [iter, ps_zero, ih]

theorem hi30_zero : hi30 0 := by unfold hi30; decide
theorem hi30_one : hi30 1 := by unfold hi30; decide

theorem iter_hi (k : Nat) : ∀ x, hi30 x → hi30 (iter k x) := by
  induction k with
  | zero => intro x h; exact h
  | succ k ih => intro x _; exact ih _ (ps_hi x)

theorem iter_xor (k : Nat) : ∀ a b, iter k (a ^^^ b) = iter k a ^^^ iter k b := by
  induction k with
  | zero => intro a b; rfl
  | succ k ih => intro a b; simp only [iter, ps_lin]; exact ih _ _

theorem shl5_and31 (y : UInt32) : (y <<< 5) &&& 31 = 0 := by
  apply UInt32.toNat_inj.1
  have h31 : (31 : UInt32).toNat = 2 ^ 5 - 1 := by decide
  rw [UInt32.toNat_and, h31, Nat.and_two_pow_sub_one_eq_mod, show (y <<< 5).toNat = _ from shl_toNat y 5 (by decide)]
  simp only [UInt32.toNat_zero]
  omega

theorem Gsel_low_tab : ∀ t : Fin 32, Gsel (UInt32.ofNat t.val) &&& 31 = 0 → t.val = 0 := by decide +kernel

theorem ps_inj0 {x : UInt32} (hx : hi30 x) (h : polymodStep x = 0) : x = 0 := by
  have h31 : polymodStep x &&& 31 = 0 := by rw [h]; decide
  rw [ps_eq, and_xor_r, shl5_and31, UInt32.zero_xor] at h31
  have := Gsel_low_tab ⟨(x >>> 25).toNat, top_lt32 hx⟩ (by rwa [UInt32.ofNat_toNat])
  simp only at this
  have hsm : x.toNat < 2 ^ 25 := by
    have := (shr_toNat x 25 (by decide)).symm.trans this
    omega
  rw [ps_small hsm] at h
  apply UInt32.toNat_inj.1
  have h2 := (shl_toNat x 5 (by decide)).symm.trans (congrArg UInt32.toNat h)
  simp only [UInt32.toNat_zero] at h2 ⊢
  omega

theorem iter_inj0 (k : Nat) : ∀ x, hi30 x → iter k x = 0 → x = 0 := by
  induction k with
  | zero => intro x _ h; exact h
  | succ k ih => intro x hx h; exact ps_inj0 hx (ih _ (ps_hi x) h)

theorem pf_zeros (b : Nat) : ∀ (c : UInt32) (t : Bytes), pf c (List.replicate b 0 ++ t) = pf (iter b c) t := by
  induction b with
  | zero => intro c t; rfl
  | succ b ih =>
    intro c t
    simp only [List.replicate_succ, List.cons_append, pf_cons]
    rw [show (0 : UInt8).toUInt32 = 0 from rfl, UInt32.xor_zero, ih]; rfl

theorem zipWith_zeros (y : Bytes) : List.zipWith (· ^^^ ·) (List.replicate y.length (0 : UInt8)) y = y := by
  induction y with
  | nil => rfl
  | cons a t ih => simp [List.replicate_succ, ih]

/-- the fold is affine in the state: the start state contributes `iter |w| c`, the symbols what they give from 0 -/
theorem pf_affine (c : UInt32) (w : Bytes) : pf c w = iter w.length c ^^^ pf 0 w := by
  have := pf_zipWith_xor (List.replicate w.length 0) w c 0 (by simp)
  rw [zipWith_zeros, UInt32.xor_zero, ← List.append_nil (List.replicate _ _), pf_zeros] at this
  exact this.symm

def weight (e : Bytes) : Nat := (e.filter (· != 0)).length

theorem split_nz (e : Bytes) : e = List.replicate e.length 0 ∨
    ∃ a v t, e = List.replicate a 0 ++ v :: t ∧ v ≠ 0 ∧ weight e = weight t + 1 ∧ e.length = a + 1 + t.length := by
  induction e with
  | nil => left; rfl
  | cons x r ih =>
    by_cases hx : x = 0
    · subst hx
      rcases ih with h | ⟨a, v, t, h1, h2, h3, h4⟩
      · left; simp only [List.length_cons, List.replicate_succ]; rw [← h]
      · right
        refine ⟨a + 1, v, t, by rw [List.replicate_succ, List.cons_append, ← h1], h2, ?_, by simp [h4]; omega⟩
        simpa [weight] using h3
    · right
      refine ⟨0, x, r, rfl, hx, ?_, by simp; omega⟩
      simp [weight, hx]

theorem mem_of_split {e : Bytes} {a : Nat} {v : UInt8} {t : Bytes} (h : e = List.replicate a 0 ++ v :: t) :
    v ∈ e ∧ ∀ x ∈ t, x ∈ e := by
  subst h; constructor
  · simp
  · intro x hx; simp [hx]

theorem u8_ne_zero_toUInt32 (u : UInt8) (hu : u ≠ 0) : u.toUInt32 ≠ 0 :=
  fun h => hu (UInt8.toUInt32_inj.mp h)

end GocoinV.Bech32
