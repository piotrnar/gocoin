/-
  Proofs.C02Decode — C02's own spec-level script decoder (`Spec.SigHash.nextOp` / `parseOps` / `parse`, the one
  `Spec.legacy` and `Spec.findAndDelete` use) against C01's independently written reference decoder
  (`ScriptSpec.parseOne` / `parseAux` / `parse`, Spec/Script.lean): they fail on the same scripts, leave the same
  rest behind each operation and count the same number of operations. Core only.
-/
import GocoinV.Spec.SigHash
import GocoinV.Spec.Script
import GocoinV.Proofs.C01Decode
import GocoinV.Base.Lemmas
namespace GocoinV.Proofs.C02D
open GocoinV GocoinV.Spec.SigHash

/-- `opLen` in the terms of C01's `parseOne`: `k` bytes of length field (little-endian), then the data -/
theorem opLen_cons (c : UInt8) (t : Bytes) :
    opLen (c :: t) =
      if c.toNat ≤ 0x4e then
        (let k := if c.toNat < 0x4c then 0 else if c.toNat = 0x4c then 1 else if c.toNat = 0x4d then 2 else 4
         if t.length < k then none else some (k + 1 + (if k = 0 then c.toNat else leVal (t.take k))))
      else some 1 := by
  by_cases h1 : c.toNat < 0x4c
  · have : c.toNat ≤ 0x4e := by omega
    simp [opLen, h1, this]
  by_cases h2 : c.toNat = 0x4c
  · have hc : c = 0x4c := UInt8.toNat_inj.1 h2
    subst hc
    cases t <;> simp [opLen, leVal]
  by_cases h4 : c.toNat = 0x4d
  · have hc : c = 0x4d := UInt8.toNat_inj.1 h4
    subst hc
    match t with
    | [] | [_] => simp [opLen]
    | a :: b :: t => simp [opLen, leVal]
  by_cases h5 : c.toNat = 0x4e
  · have hc : c = 0x4e := UInt8.toNat_inj.1 h5
    subst hc
    match t with
    | [] | [_] | [_, _] | [_, _, _] => simp [opLen]
    | a :: b :: c :: d :: t => simp [opLen, leVal]
  · have h6 : ¬ c.toNat ≤ 0x4e := by omega
    have e1 : ¬ c = 0x4c := fun h => h2 (by subst h; rfl)
    have e2 : ¬ c = 0x4d := fun h => h4 (by subst h; rfl)
    have e3 : ¬ c = 0x4e := fun h => h5 (by subst h; rfl)
    simp [opLen, h1, h6, e1, e2, e3]

/-- the one-instruction decoders of C02's spec and of C01's spec agree: same failures, same rest -/
theorem nextOp_parseOne (s : Bytes) :
    match nextOp s, ScriptSpec.parseOne s with
    | none, none => True
    | some (_, rest), some i => i.after = rest
    | _, _ => False := by
  cases s with
  | nil => simp [nextOp, opLen, ScriptSpec.parseOne]
  | cons c t =>
    simp only [nextOp, opLen_cons, ScriptSpec.parseOne]
    by_cases h1 : c.toNat ≤ 0x4e
    · simp only [h1, ↓reduceIte]
      generalize (if c.toNat < 0x4c then 0 else if c.toNat = 0x4c then 1 else if c.toNat = 0x4d then 2 else 4) = k
      generalize (if k = 0 then c.toNat else leVal (t.take k)) = size
      simp only [List.length_drop, List.length_cons]
      by_cases h3 : t.length < k
      · simp [h3]
      · by_cases h6 : t.length - k < size
        · have : ¬ k + 1 + size ≤ t.length + 1 := by omega
          simp [h3, h6, this]
        · have : k + 1 + size ≤ t.length + 1 := by omega
          simp [h3, h6, this, drop_add_cons c t (k + 1 + size) (k + size) (by omega)]
    · simp [h1]

theorem nextOp_none_iff (s : Bytes) : nextOp s = none ↔ ScriptSpec.parseOne s = none := by
  have h := nextOp_parseOne s
  revert h
  cases nextOp s <;> cases ScriptSpec.parseOne s <;> simp

theorem parseOne_of_nextOp {s op rest : Bytes} (h : nextOp s = some (op, rest)) :
    ∃ i, ScriptSpec.parseOne s = some i ∧ i.after = rest := by
  have hh := nextOp_parseOne s
  rw [h] at hh
  revert hh
  cases ScriptSpec.parseOne s <;> simp

theorem opLen_pos {s : Bytes} {n : Nat} (h : opLen s = some n) : 1 ≤ n := by
  cases s with
  | nil => simp [opLen] at h
  | cons c t =>
    rw [opLen_cons] at h
    by_cases h1 : c.toNat ≤ 0x4e
    · simp only [h1, ↓reduceIte] at h
      generalize (if c.toNat < 0x4c then 0 else if c.toNat = 0x4c then 1 else if c.toNat = 0x4d then 2 else 4) = k at h
      by_cases h3 : t.length < k
      · simp [h3] at h
      · simp only [h3, ↓reduceIte, Option.some.injEq] at h; omega
    · simp only [h1, ↓reduceIte, Option.some.injEq] at h; omega

theorem nextOp_split {s op rest : Bytes} (h : nextOp s = some (op, rest)) :
    op ++ rest = s ∧ 1 ≤ op.length ∧ rest.length < s.length := by
  unfold nextOp at h
  cases hl : opLen s with
  | none => simp [hl] at h
  | some n =>
    have hp := opLen_pos hl
    simp only [hl] at h
    split at h
    · rename_i hle
      simp only [Option.some.injEq, Prod.mk.injEq] at h
      obtain ⟨rfl, rfl⟩ := h
      refine ⟨List.take_append_drop _ _, ?_, ?_⟩
      · simp; omega
      · simp; omega
    · simp at h

theorem parseOps_cons {f : Nat} {b : UInt8} {t : Bytes} {ops : List Bytes} (h : parseOps (f + 1) (b :: t) = some ops) :
    ∃ op rest ops', nextOp (b :: t) = some (op, rest) ∧ parseOps f rest = some ops' ∧ ops = op :: ops' := by
  simp only [parseOps] at h
  split at h
  · cases h
  · split at h
    · cases h
    · cases h; exact ⟨_, _, _, ‹_›, ‹_›, rfl⟩

/-- with the same fuel, C02's parser fails exactly where C01's parser reports a decode error, and where both
    succeed they yield the same number of operations -/
theorem parseOps_parseAux : ∀ (f : Nat) (s : Bytes),
    match parseOps f s with
    | none => (ScriptSpec.parseAux f s).2 = true
    | some ops => (ScriptSpec.parseAux f s).2 = false ∧ (ScriptSpec.parseAux f s).1.length = ops.length := by
  intro f
  induction f with
  | zero =>
    intro s
    cases s <;> simp [parseOps, ScriptSpec.parseAux]
  | succ f ih =>
    intro s
    cases s with
    | nil => simp [parseOps, ScriptSpec.parseAux]
    | cons c t =>
      simp only [parseOps, ScriptSpec.parseAux, List.isEmpty_cons, Bool.false_eq_true, ↓reduceIte]
      cases hn : nextOp (c :: t) with
      | none => simp [(nextOp_none_iff _).mp hn]
      | some p =>
        obtain ⟨op, rest⟩ := p
        obtain ⟨i, hp, ha⟩ := parseOne_of_nextOp hn
        have := ih rest
        simp only [hp, ha]
        cases hr : parseOps f rest with
        | none => rw [hr] at this; simpa using this
        | some ops => rw [hr] at this; simpa using this

theorem parseOps_none_iff (f : Nat) (s : Bytes) : parseOps f s = none ↔ (ScriptSpec.parseAux f s).2 = true := by
  have h := parseOps_parseAux f s
  split at h <;> simp_all

/-- C02's own parser (`Spec.SigHash.parse`, the one `Spec.legacy` / `Spec.findAndDelete` are defined with) fails
    exactly on the scripts for which C01's reference parser reports a decode error -/
theorem parse_none_iff (s : Bytes) : Spec.SigHash.parse s = none ↔ (ScriptSpec.parse s).2 = true :=
  parseOps_none_iff s.length s

/-- … and on every other script both succeed with the same number of operations -/
theorem parse_lengths (s : Bytes) (ops : List Bytes) (h : Spec.SigHash.parse s = some ops) :
    (ScriptSpec.parse s).2 = false ∧ (ScriptSpec.parse s).1.length = ops.length := by
  have := parseOps_parseAux s.length s
  rwa [show parseOps _ s = _ from h] at this

/-! ### a decode error in a suffix at an instruction boundary is a decode error of the whole script -/

theorem parseOps_fuel : ∀ (f : Nat) (s : Bytes) (f' : Nat), s.length ≤ f → f ≤ f' → parseOps f' s = parseOps f s := by
  intro f
  induction f with
  | zero =>
    intro s f' hs _
    cases f' <;> simp [List.eq_nil_of_length_eq_zero (Nat.le_zero.mp hs), parseOps]
  | succ f ih =>
    intro s f' hs hf
    cases s with
    | nil => cases f' <;> simp [parseOps]
    | cons c t =>
      obtain ⟨f'', rfl⟩ : ∃ k, f' = k + 1 := ⟨f' - 1, by omega⟩
      simp only [parseOps]
      cases hn : nextOp (c :: t) with
      | none => rfl
      | some p =>
        obtain ⟨op, rest⟩ := p
        have hl := (nextOp_split hn).2.2
        simp only [List.length_cons] at hl hs
        simp only []
        rw [ih rest f'' (by omega) (by omega)]

theorem nextOp_append {s op rest : Bytes} (x : Bytes) (h : nextOp s = some (op, rest)) :
    nextOp (s ++ x) = some (op, rest ++ x) := by
  obtain ⟨i, hp, rfl⟩ := parseOne_of_nextOp h
  obtain ⟨chunk, -, hs, hf⟩ := Proofs.C01.parseOne_frame hp
  have hop : op = chunk := List.append_cancel_right ((nextOp_split h).1.trans hs)
  have hh := nextOp_parseOne (s ++ x)
  rw [show ScriptSpec.parseOne (s ++ x) = some ⟨i.op, i.data, i.after ++ x⟩ by rw [hs, List.append_assoc]; exact hf _] at hh
  cases hn : nextOp (s ++ x) with
  | none => rw [hn] at hh; exact hh.elim
  | some p =>
    obtain ⟨op', rest'⟩ := p
    rw [hn] at hh
    simp only at hh
    subst hh
    have := (nextOp_split hn).1
    rw [hs, List.append_assoc] at this
    rw [List.append_cancel_right this, hop]

theorem parseOps_append_bad : ∀ (f : Nat) (pre : Bytes) (ops : List Bytes) (g : Nat) (sc : Bytes),
    parseOps f pre = some ops → sc.length ≤ g → parseOps g sc = none → parseOps (f + g) (pre ++ sc) = none := by
  intro f
  induction f with
  | zero =>
    intro pre ops g sc hp hg hs
    cases pre with
    | nil => simpa using hs
    | cons c t => simp [parseOps] at hp
  | succ f ih =>
    intro pre ops g sc hp hg hs
    cases pre with
    | nil =>
      simp only [List.nil_append]
      rw [parseOps_fuel g sc (f + 1 + g) hg (by omega)]; exact hs
    | cons c t =>
      obtain ⟨op, rest, ops', hn, hr, -⟩ := parseOps_cons hp
      have h2 := nextOp_append sc hn
      rw [show f + 1 + g = (f + g) + 1 by omega]
      simp only [List.cons_append] at h2 ⊢
      simp only [parseOps, h2, ih rest ops' g sc hr hg hs]

/-- a script that consists of well-formed operations followed by a rest that does not decode does not decode -/
theorem parse_append_bad (pre sc : Bytes) (ops : List Bytes) (hp : Spec.SigHash.parse pre = some ops)
    (hs : Spec.SigHash.parse sc = none) : Spec.SigHash.parse (pre ++ sc) = none := by
  unfold Spec.SigHash.parse at *
  rw [List.length_append]
  exact parseOps_append_bad pre.length pre ops sc.length sc hp (Nat.le_refl _) hs

end GocoinV.Proofs.C02D
