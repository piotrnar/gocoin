/-
  Proofs.C15Sched — the step-level model of `Encodeb58`'s digit loop for several callers (Model/Base58Sched.lean):
  with a private remainder, a caller's state after any schedule depends only on how many steps IT was given,
  and a caller that left the loop holds exactly the digits of `Base58.encode`.
-/
import GocoinV.Model.Base58Sched
import GocoinV.Base.Sched
import GocoinV.Proofs.C15Base58
namespace GocoinV.Base58Sched
open Base58

/-- private remainder: the step neither reads nor writes the package-level cell -/
theorem stepTh_false (c : Nat) (t : Th) : stepTh false c t = ((stepTh false 0 t).1, c) := by
  unfold stepTh
  by_cases hp : t.pending = true
  · simp [hp]
  · by_cases hb : t.bn = 0 <;> simp [hp, hb]

theorem step_false_ths (s : St) (j i : Nat) :
    (step false s j).ths[i]? = if i = j then (s.ths[i]?).map (fun t => (stepTh false 0 t).1) else s.ths[i]? := by
  unfold step
  cases h : s.ths[j]? with
  | none => by_cases hij : i = j <;> simp [hij, h]
  | some t => simp only [stepTh_false s.cell t]; exact Sched.getElem?_set_of_getElem? h (fun t => (stepTh false 0 t).1) i

theorem alone_add (t : Th) (m n : Nat) : alone t (m + n) = alone (alone t m) n :=
  Sched.alone_add alone _ (fun _ => rfl) (fun _ _ => rfl) t m n

theorem run_false_ths (s : St) (sched : List Nat) (i : Nat) :
    (run false s sched).ths[i]? = (s.ths[i]?).map (fun t => alone t (sched.count i)) :=
  Sched.run_private alone _ (fun _ => rfl) (fun _ _ => rfl) St.ths (step false) step_false_ths s sched i

/-- what a caller has produced so far, read most-significant first: digits still in `bn`, the outstanding
    remainder, the digits already stored -/
def Inv (n0 : Nat) (t : Th) : Prop :=
  (digits t.bn ++ (if t.pending then [t.rem] else [])).map digitChar ++ t.out = (digits n0).map digitChar

theorem inv_init (n : Nat) : Inv n (Th.ofNat n) := by simp [Inv, Th.ofNat]

theorem inv_step (n0 : Nat) (t : Th) (h : Inv n0 t) : Inv n0 (stepTh false 0 t).1 := by
  unfold Inv at *
  unfold stepTh
  cases hp : t.pending
  · by_cases hb : t.bn = 0
    · simpa [hp, hb] using h
    · rw [hp, digits_pos _ hb] at h
      simpa [hp, hb] using h
  · simpa [hp] using h

theorem inv_alone (n0 : Nat) (t : Th) (k : Nat) (h : Inv n0 t) : Inv n0 (alone t k) := by
  induction k generalizing t with
  | zero => exact h
  | succ k ih => exact ih _ (inv_step n0 t h)

theorem alone_done_result (a : Bytes) (k : Nat) (hd : (alone (Th.init a) k).done) :
    (alone (Th.init a) k).result a = encode a := by
  have h : Inv (beVal a) (alone (Th.init a) k) := inv_alone _ _ k (inv_init _)
  obtain ⟨hb, hp⟩ := hd
  unfold Th.result encode
  unfold Inv at h
  rw [← h]
  simp [hb, hp, digits_zero]

/-- and it does leave the loop: two steps per digit -/
theorem alone_finishes (n : Nat) : ∀ (t : Th), t.bn = n → t.pending = false →
    (alone t (2 * (digits n).length)).done := by
  induction n using Nat.strongRecOn with
  | _ n ih =>
    intro t hb hp
    subst hb
    by_cases hz : t.bn = 0
    · simp [hz, digits_zero, alone, Th.done, hp]
    · rw [digits_pos _ hz]
      rw [List.length_append, List.length_singleton, Nat.mul_succ, Nat.add_comm, alone_add]
      have h2 : alone t 2 = ⟨t.bn / 58, t.bn % 58, false, digitChar (t.bn % 58) :: t.out⟩ := by
        simp [alone, stepTh, hp, hz]
      rw [h2]
      exact ih _ (Nat.div_lt_self (Nat.pos_of_ne_zero hz) (by omega)) _ rfl rfl

theorem alone_done_stays (t : Th) (hd : t.done) (k : Nat) : alone t k = t := by
  induction k with
  | zero => rfl
  | succ k ih =>
    obtain ⟨hb, hp⟩ := hd
    have : (stepTh false 0 t).1 = t := by simp [stepTh, hb, hp]
    simp only [alone, this]; exact ih

end GocoinV.Base58Sched
