/-
  Proofs.C10Load — the loader with its retry (Model/UtxoLoad.lean) loads exactly the first readable file.
-/
import GocoinV.Model.UtxoLoad
import GocoinV.Proofs.C10Snap
namespace GocoinV.UtxoRec
open GocoinV.CompactSize

theorem slots_zero (b : List Bytes) : slots b 0 = [] := by simp [slots]

theorem slots_setSlot (b : List Bytes) (i : Nat) (x : Bytes) :
    slots (setSlot b i x) (i + 1) = slots b i ++ [x] := by
  have hl : (slots b i).length = i := by simp [slots]; omega
  unfold setSlot
  generalize slots b i = L at hl
  have h1 : (L ++ x :: List.drop (i + 1) b).take (i + 1) = L ++ [x] := by
    rw [List.take_append]
    have : i + 1 - L.length = 1 := by omega
    rw [List.take_of_length_le (by omega), this]; simp
  have h2 : i + 1 - (L ++ x :: List.drop (i + 1) b).length = 0 := by simp; omega
  unfold slots
  rw [h1, h2]; simp

theorem dataSizeOf_cons (x : Bytes) (l : List Bytes) : dataSizeOf (x :: l) = x.length + dataSizeOf l := by
  simp [dataSizeOf]

theorem decRecs_succ_some (n : Nat) (b : Bytes) (recs : List Bytes) (h : decRecs (n + 1) b = some recs) :
    ∃ le r l, readVLen b = some (le, r) ∧ ¬ shorter r le = true ∧ decRecs n (r.drop le) = some l ∧ recs = r.take le :: l := by
  simp only [decRecs] at h
  split at h
  · cases h
  · rename_i le r hv
    split at h
    · cases h
    · rename_i hs
      split at h
      · cases h
      · rename_i l hl
        injection h with h
        exact ⟨le, r, l, hv, hs, hl, h.symm⟩

theorem decRecs_length : ∀ (n : Nat) (b : Bytes) (recs : List Bytes), decRecs n b = some recs → recs.length = n
  | 0, _, recs, h => by simp [decRecs] at h; subst h; rfl
  | n + 1, b, recs, h => by
    obtain ⟨le, r, l, _, _, hl, rfl⟩ := decRecs_succ_some n b recs h
    simp [decRecs_length n _ l hl]

theorem readVLen_length_lt (b : Bytes) (le : Nat) (r : Bytes) (h : readVLen b = some (le, r)) : r.length < b.length := by
  rw [readVLen_eq] at h
  split at h
  · cases h
  · injection h with h; injection h with _ h
    have := vule_size_le b
    rw [← h, List.length_drop]; omega

theorem decRecs_count_le : ∀ (n : Nat) (b : Bytes) (recs : List Bytes), decRecs n b = some recs → n ≤ b.length
  | 0, _, _, _ => Nat.zero_le _
  | n + 1, b, recs, h => by
    obtain ⟨le, r, l, hv, _, hl, _⟩ := decRecs_succ_some n b recs h
    have := decRecs_count_le n _ l hl
    have := readVLen_length_lt b le r hv
    simp only [List.length_drop] at *
    omega

/-- a readable record area: the loop ends normally, the packs sent plus the unsent rest are what was there before
    followed by the records of the file, in order -/
theorem readLoop_ok (sh : RetryShape) (fsize : Nat) :
    ∀ (n : Nat) (b : Bytes) (st : LoopSt) (recs : List Bytes), decRecs n b = some recs → st.recIdx < sh.pack →
      b.length ≤ fsize →
      ∃ st', readLoop sh fsize n b st = (true, st') ∧ st'.recIdx < sh.pack ∧
        st'.ins ++ slots st'.cur st'.recIdx = st.ins ++ slots st.cur st.recIdx ++ recs ∧
        st'.dataSize = st.dataSize + dataSizeOf recs
  | 0, _, st, recs, h, hi, _ => by
    simp [decRecs] at h; subst h
    exact ⟨st, rfl, hi, by simp, by simp [dataSizeOf]⟩
  | n + 1, b, st, recs, h, hi, hb => by
    obtain ⟨le, r, l, hv, hs, hl, rfl⟩ := decRecs_succ_some n b recs h
    have hle : le ≤ r.length := (shorter_false_iff r le).mp (by simpa using hs)
    have hlen : (r.take le).length = le := by simp; omega
    have hrl := readVLen_length_lt b le r hv
    have hg : ¬ fsize < le := by omega
    have hb' : (r.drop le).length ≤ fsize := by simp; omega
    simp only [readLoop, hv, hs, hg, decide_false, Bool.and_false]
    by_cases hr : st.recIdx + 1 = sh.pack
    · simp only [hr, ↓reduceIte]
      have hp : 0 < sh.pack := by omega
      obtain ⟨st', e, hi', hins, hds⟩ := readLoop_ok sh fsize n (r.drop le)
        ⟨0, (st.poolIdx + 1) % sh.buffers, updPool st.pool st.poolIdx (setSlot st.cur st.recIdx (r.take le)),
          updPool st.pool st.poolIdx (setSlot st.cur st.recIdx (r.take le)) ((st.poolIdx + 1) % sh.buffers),
          st.ins ++ slots (setSlot st.cur st.recIdx (r.take le)) sh.pack, st.dataSize + le⟩ l hl hp hb'
      refine ⟨st', by simpa using e, hi', ?_, ?_⟩
      · rw [hins]; simp only [slots_zero, List.append_nil]
        rw [← hr, slots_setSlot]; simp
      · rw [hds, dataSizeOf_cons, hlen]; simp only; omega
    · simp only [hr, ↓reduceIte]
      obtain ⟨st', e, hi', hins, hds⟩ := readLoop_ok sh fsize n (r.drop le)
        ⟨st.recIdx + 1, st.poolIdx, st.pool, setSlot st.cur st.recIdx (r.take le), st.ins, st.dataSize + le⟩ l hl
        (by simp only; omega) hb'
      refine ⟨st', by simpa using e, hi', ?_, ?_⟩
      · rw [hins]; simp only; rw [slots_setSlot]; simp
      · rw [hds, dataSizeOf_cons, hlen]; simp only; omega

/-- an unreadable record area: `goto fatal_error` -/
theorem readLoop_fail (sh : RetryShape) (fsize : Nat) :
    ∀ (n : Nat) (b : Bytes) (st : LoopSt), decRecs n b = none → (readLoop sh fsize n b st).1 = false
  | 0, _, _, h => by simp [decRecs] at h
  | n + 1, b, st, h => by
    simp only [decRecs] at h
    split at h
    · rename_i hv; simp [readLoop, hv]
    · rename_i le r hv
      split at h
      · rename_i hs
        simp only [readLoop, hv, hs]
        split <;> simp
      · rename_i hs
        split at h
        · rename_i hn
          simp only [readLoop, hv, hs]
          split
          · rfl
          · by_cases hr : st.recIdx + 1 = sh.pack <;> simp only [hr, ↓reduceIte, Bool.false_eq_true] <;>
              exact readLoop_fail sh fsize n _ _ hn
        · cases h

/-- nothing of an earlier attempt is left in the variables -/
def LoadVars.Clean (v : LoadVars) : Prop := v.recIdx = 0 ∧ v.dataSize = 0 ∧ v.totalTxs = 0

/-- the clean-up that makes a retry start like a first attempt -/
def RetryShape.Cleans (sh : RetryShape) : Prop :=
  0 < sh.pack ∧ sh.rewindRecIdx = true ∧ sh.resetDataSize = true ∧ sh.resetTotalTxs = true ∧ sh.freshMaps = true

theorem attempt_ok (sh : RetryShape) (hc : sh.Cleans) (v : LoadVars) (hv : v.Clean) (f : Bytes) (s : Snap)
    (h : snapDecode f = some s) : attempt sh v (some f) = .ok (loadedOf s) := by
  obtain ⟨hp, _, _, _, hf⟩ := hc
  obtain ⟨h0, hd, _⟩ := hv
  unfold snapDecode at h
  unfold attempt
  split at h
  · cases h
  · rename_i hl
    simp only [hl, ↓reduceIte]
    simp only at h
    split at h
    · cases h
    · rename_i recs hr
      injection h with h; subst h
      have hcnt := decRecs_count_le _ _ recs hr
      have hg : ¬ f.length < leVal ((f.drop 40).take 8) := by simp only [List.length_drop] at hcnt; omega
      simp only [hg, decide_false, Bool.and_false, Bool.false_eq_true, ↓reduceIte]
      obtain ⟨st', e, _, hins, hds⟩ := readLoop_ok sh f.length _ _
        ⟨v.recIdx, v.poolIdx, v.pool, v.pool v.poolIdx, if sh.freshMaps = true then [] else v.ins, v.dataSize⟩ recs hr
        (by simp only; omega) (by simp)
      simp only [h0, hd, hf, ↓reduceIte, slots_zero, List.nil_append, Nat.zero_add, List.append_nil] at e hins hds
      simp only [h0, hd, hf, ↓reduceIte, e, loadedOf, hins, hds, decRecs_length _ _ _ hr]

theorem attempt_fail (sh : RetryShape) (hc : sh.Cleans) (v : LoadVars) (hv : v.Clean) (file : Option Bytes)
    (h : file.bind snapDecode = none) : ∃ v', attempt sh v file = .fail v' ∧ v'.Clean := by
  obtain ⟨_, hr, hd, htt, _⟩ := hc
  cases file with
  | none => exact ⟨v, rfl, hv⟩
  | some f =>
    simp only [Option.bind_some] at h
    unfold snapDecode at h
    unfold attempt
    split at h
    · rename_i hl; exact ⟨v, by simp [hl], hv⟩
    · rename_i hl
      simp only [hl, ↓reduceIte]
      simp only at h
      split at h
      · rename_i hn
        split
        · exact ⟨v, rfl, hv⟩
        generalize hres : readLoop sh _ _ _ _ = res
        have h1 : res.1 = false := by rw [← hres]; exact readLoop_fail sh _ _ _ _ hn
        obtain ⟨ok, st⟩ := res
        simp only at h1; subst h1
        exact ⟨_, rfl, by simp [LoadVars.Clean]⟩
      · cases h

theorem loadDir_exact (sh : RetryShape) (hc : sh.Cleans) (db old : Option Bytes) (c : Bool) :
    loadDir sh db old c = loadedOf (loadDirSpec db old c) := by
  have hi : LoadVars.init.Clean := ⟨rfl, rfl, rfl⟩
  unfold loadDir loadDirSpec
  cases h1 : db.bind snapDecode with
  | some s =>
    obtain ⟨f, rfl, hf⟩ := Option.bind_eq_some_iff.mp h1
    simp [attempt_ok sh hc _ hi f s hf]
  | none =>
    obtain ⟨v1, e1, hv1⟩ := attempt_fail sh hc _ hi db h1
    simp only [e1]
    cases h2 : old.bind snapDecode with
    | some s =>
      obtain ⟨f, rfl, hf⟩ := Option.bind_eq_some_iff.mp h2
      simp [attempt_ok sh hc _ hv1 f s hf]
    | none =>
      obtain ⟨v2, e2, hv2⟩ := attempt_fail sh hc _ hv1 old h2
      simp only [e2]
      obtain ⟨_, hd, ht⟩ := hv2
      simp [loadedOf, hd, ht, dataSizeOf]

/-! ### what the loader asks the allocator for -/

theorem mallocs_bounds (sh : RetryShape) (hb : sh.boundsLen = true) (fsize : Nat) :
    ∀ (n : Nat) (b : Bytes), (∀ le ∈ mallocs sh fsize n b, le ≤ fsize) ∧ (mallocs sh fsize n b).sum ≤ b.length + fsize
  | 0, _ => by simp [mallocs]
  | n + 1, b => by
    simp only [mallocs]
    split
    · simp
    · rename_i le r hv
      have hrl := readVLen_length_lt b le r hv
      by_cases hg : fsize < le
      · simp [hb, hg]
      · simp only [hb, hg, decide_false, Bool.and_false, Bool.false_eq_true, ↓reduceIte]
        split
        · simp; omega
        · rename_i hs
          have hle : le ≤ r.length := (shorter_false_iff r le).mp (by simpa using hs)
          obtain ⟨h1, h2⟩ := mallocs_bounds sh hb fsize n (r.drop le)
          simp only [List.mem_cons, forall_eq_or_imp, List.sum_cons, List.length_drop] at *
          exact ⟨⟨by omega, h1⟩, by omega⟩

theorem mallocs_of_ok (sh : RetryShape) (fsize : Nat) :
    ∀ (n : Nat) (b : Bytes) (recs : List Bytes), decRecs n b = some recs → b.length ≤ fsize →
      mallocs sh fsize n b = recs.map List.length
  | 0, _, recs, h, _ => by simp [decRecs] at h; subst h; rfl
  | n + 1, b, recs, h, hb => by
    obtain ⟨le, r, l, hv, hs, hl, rfl⟩ := decRecs_succ_some n b recs h
    have hle : le ≤ r.length := (shorter_false_iff r le).mp (by simpa using hs)
    have hrl := readVLen_length_lt b le r hv
    have hg : ¬ fsize < le := by omega
    have ih := mallocs_of_ok sh fsize n (r.drop le) l hl (by simp; omega)
    simp only [mallocs, hv, hg, decide_false, Bool.and_false, Bool.false_eq_true, ↓reduceIte, hs, ih,
      List.map_cons, List.length_take]
    congr 1; omega

theorem memAsk_bounded (sh : RetryShape) (hc : sh.boundsCount = true) (hl : sh.boundsLen = true) (f : Bytes) :
    (∀ c, (memAsk sh (some f)).mapsFor = some c → c ≤ f.length) ∧
    (∀ le ∈ (memAsk sh (some f)).mallocs, le ≤ f.length) ∧
    (memAsk sh (some f)).mallocs.sum ≤ 2 * f.length := by
  unfold memAsk
  by_cases h48 : f.length < 48
  · simp [h48]
  · by_cases hg : f.length < leVal ((f.drop 40).take 8)
    · simp [h48, hc, hg]
    · simp only [h48, ↓reduceIte, hc, hg, decide_false, Bool.and_false, Bool.false_eq_true]
      obtain ⟨h1, this⟩ := mallocs_bounds sh hl f.length (leVal ((f.drop 40).take 8)) (f.drop 48)
      refine ⟨fun c h => by injection h with h; omega, h1, ?_⟩
      simp only [List.length_drop] at this
      omega

/-- on a file that can be read to its end the requests are the header's count and the lengths of the records, in order -/
theorem memAsk_of_decode (sh : RetryShape) (f : Bytes) (s : Snap) (h : snapDecode f = some s) :
    memAsk sh (some f) = ⟨some s.recs.length, s.recs.map List.length⟩ := by
  unfold snapDecode at h
  unfold memAsk
  split at h
  · cases h
  · rename_i hl
    simp only at h
    split at h
    · cases h
    · rename_i recs hr
      injection h with h; subst h
      have hcnt := decRecs_count_le _ _ recs hr
      have hg : ¬ f.length < leVal ((f.drop 40).take 8) := by simp only [List.length_drop] at hcnt; omega
      simp only [hl, ↓reduceIte, hg, decide_false, Bool.and_false, Bool.false_eq_true,
        mallocs_of_ok _ f.length _ _ recs hr (by simp), decRecs_length _ _ _ hr]

/-! ### a snapshot file that was cut short is never taken for a complete one -/

theorem readVLen_take_putULe (n k : Nat) (h : n < 2 ^ 64) (hk : k < (putULe n).length) :
    readVLen ((putULe n).take k) = none := by
  cases k with
  | zero => simp [readVLen]
  | succ j =>
    by_cases h1 : n < 0xfd
    · simp [putULe, h1] at hk
    · obtain ⟨m, w, e, hm, hw, _⟩ := putULe_wide n h1 h
      rw [e] at hk ⊢
      have hs : shorter ((leBytes w n).take j) w = true := (shorter_iff _ _).mpr (by simp at hk ⊢; omega)
      simp only [List.take_succ_cons, readVLen, hm, ↓reduceIte, hw, hs]

theorem decRecs_take_none (recs : List Bytes) (hr : ∀ r ∈ recs, r.length < 2 ^ 64) :
    ∀ k, k < (encRecs recs).length → decRecs recs.length ((encRecs recs).take k) = none := by
  induction recs with
  | nil => intro k hk; simp [encRecs] at hk
  | cons r t ih =>
    intro k hk
    have ht : ∀ r ∈ t, r.length < 2 ^ 64 := fun x hx => hr x (List.mem_cons_of_mem _ hx)
    simp only [encRecs, List.length_append] at hk
    simp only [encRecs, List.length_cons, decRecs]
    by_cases h1 : k < (putULe r.length).length
    · rw [List.take_append_of_le_length (by omega), readVLen_take_putULe _ _ (hr r (by simp)) h1]
    · rw [List.take_append, List.take_of_length_le (by omega),
        readVLen_putULe r.length (hr r (by simp))]
      generalize hk' : k - (putULe r.length).length = k'
      by_cases h2 : k' < r.length
      · have hs : shorter ((r ++ encRecs t).take k') r.length = true :=
          (shorter_iff _ _).mpr (by simp; omega)
        simp [hs]
      · have e : (r ++ encRecs t).take k' = r ++ (encRecs t).take (k' - r.length) := by
          rw [List.take_append, List.take_of_length_le (by omega)]
        have hs : shorter (r ++ (encRecs t).take (k' - r.length)) r.length = false :=
          shorter_eq_false _ _ (by simp)
        rw [e]
        simp only [hs, Bool.false_eq_true, ↓reduceIte, List.drop_left', ih ht (k' - r.length) (by omega)]

end GocoinV.UtxoRec
