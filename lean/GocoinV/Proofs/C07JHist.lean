/-
  Proofs.C07JHist — CommitBlock / AcceptBlock, Idle, Close, NewChainExt, the client's recovery loop and every single
  operation of a history keep the consistency invariant `J`.  `J bs s` = `JD bs s` (provenance, Proofs/C07J.lean) and
  `∃ path, Chain bs s.n path`; what it says (`J.result`): the unspent set held in memory is the replay of the tip's chain, and
  the tip is a block that was submitted (or genesis) — as long as no undo file of another block is read.  Whole histories and crash points: Proofs/C07KMain.lean (`run_good`, `crash_J`).
  Core Lean only.
-/
import GocoinV.Proofs.C07JOps
import GocoinV.Proofs.C07Hist
namespace GocoinV.Proofs.C07
open GocoinV.Persist

variable {bs : List Block} {s : St}

/-- the consistency invariant -/
structure J (bs : List Block) (s : St) : Prop where
  jd : JD bs s
  chain : ∃ path, Chain bs s.n path

theorem J.neutral {s' : St} (h : J bs s) (hn : Neutral bs s s') : J bs s' :=
  ⟨h.jd.neutral hn, h.chain.imp (fun _ hc => hc.neutral hn)⟩

/-- a panic changes only `err` -/
theorem J.fail (h : J bs s) (m : String) : J bs (s.fail m) :=
  ⟨h.jd.fail m, by rw [(fail_frame s m).1]; exact h.chain⟩

/-- the restarted node's effect list starts afresh -/
theorem J.clearEs (h : J bs s) : J bs { s with es := [] } :=
  ⟨{ h.jd with effs := by intro e he; cases he }, h.chain⟩

/-! ### Chain.CommitBlock, AcceptBlock -/

theorem commitBlock_J (hwf : WF bs) (h : J bs s) (b : Block) (hb : b ∈ bs) (hin : InT s.n.tree b.id)
    (hf : (commitBlock s b).foreign = false) : J bs (commitBlock s b) ∧ (commitBlock s b).n.tree = s.n.tree := by
  obtain ⟨path, hc⟩ := h.chain
  by_cases he : s.err.isSome = true
  · rw [commitBlock_of_err b he]; exact ⟨h, rfl⟩
  have he := Option.not_isSome_iff_eq_none.1 he
  by_cases htp : s.n.tip = b.parent
  · have hv : validOn s.n.utxo b = true := by
      rw [validOn_congr hc.utxo b]; exact valid_on hwf hc.ok hb (htp.symm.trans hc.tip)
    rw [commitBlock_active b he htp hv]
    unfold commitTail
    obtain ⟨s1, hN1, eq⟩ := commitBlockTxs_spec ((commitHead s b).emit .nop .cAfterBlockAdd) b hb
    have hN : Neutral bs s s1 := ((commitHead_neutral s b hb).then_emit .nop .cAfterBlockAdd trivial).trans hN1
    rw [eq]
    refine ⟨⟨((h.jd.neutral hN).neutral (Neutral.emit _ .nop .cAfterUtxo trivial)).of_eq _ rfl rfl rfl rfl rfl, b :: path, ?_⟩, hN.tree⟩
    exact (hc.neutral hN).push hwf hb (by rw [hN.tip]; exact htp.symm) (by rw [hN.tree]; exact hin) _ rfl rfl rfl rfl rfl
  · have hN : Neutral bs s (sideStored s b) := (blockAdd_neutral s b false hb).then_emit .nop .cSideStored trivial
    rw [commitBlock_side b he htp] at hf ⊢
    by_cases hh : b.height > (sideStored s b).n.tipHeight
    · rw [if_pos hh] at hf ⊢
      obtain ⟨r1, r2, path', r3, _⟩ := moveToBlock_spec hwf (h.jd.neutral hN) (hc.neutral hN) (by rw [hN.err]; exact he) b.id
        (by rw [hN.tree]; exact hin) hf
      exact ⟨⟨r1, path', r3⟩, r2.trans hN.tree⟩
    · rw [if_neg hh]; exact ⟨h.neutral hN, hN.tree⟩

/-- AcceptBlock adds a node to the block tree (and the block to the cache) -/
theorem J.addTree (h : J bs s) (n' : Node) (t : TNode) (hm : ∀ x ∈ n'.mem, x ∈ s.n.mem ∨ x ∈ bs)
    (e1 : n'.tree = s.n.tree ++ [t]) (e2 : n'.tip = s.n.tip) (e3 : n'.utxo = s.n.utxo) (e4 : n'.lastHeight = s.n.lastHeight)
    (e5 : n'.tipHeight = s.n.tipHeight) (e6 : n'.queue = s.n.queue)
    (htB : ∃ b ∈ bs, b.id = t.id ∧ b.parent = t.parent ∧ b.height = t.height) (htC : t.parent = 0 ∨ InT s.n.tree t.parent) :
    J bs { s with n := n' } := by
  obtain ⟨path, hc⟩ := h.chain
  have up : ∀ {id}, InT s.n.tree id → InT (s.n.tree ++ [t]) id := inT_mono fun _ => List.mem_append_left _
  refine ⟨⟨h.jd.prov, h.jd.effs, ?_, e6 ▸ h.jd.queueB, ?_, ?_⟩, path,
    hc.ok, e2 ▸ hc.tip, e3 ▸ hc.utxo, e4 ▸ hc.lastH, e5 ▸ hc.tipH, fun x hx => e1 ▸ up (hc.inT x hx)⟩
  · intro x hx; exact (hm x hx).elim (h.jd.memB x) id
  · rw [e1]; exact List.forall_mem_append.2 ⟨h.jd.treeB, List.forall_mem_singleton.2 htB⟩
  · rw [e1]
    exact List.forall_mem_append.2 ⟨fun t' ht => (h.jd.treeC t' ht).imp id up, List.forall_mem_singleton.2 (htC.imp id up)⟩

theorem inTree_iff (n : Node) (id : BlockId) : inTree n id = true ↔ id = 0 ∨ InT n.tree id := by
  simp [inTree, InT]

theorem J.withNode (h : J bs s) {b : Block} (hb : b ∈ bs) (hpar : b.parent = 0 ∨ InT s.n.tree b.parent) :
    J bs (withNode s b) :=
  h.addTree _ ⟨b.id, b.parent, b.height⟩ (fun x hx => (mem_ite_snoc hx).imp id (fun (e : x = b) => e ▸ hb)) rfl rfl rfl rfl rfl rfl
    ⟨b, hb, rfl, rfl, rfl⟩ hpar

theorem withNode_inT (s : St) (b : Block) : InT (withNode s b).n.tree b.id :=
  ⟨⟨b.id, b.parent, b.height⟩, List.mem_append_right _ (List.mem_singleton.2 rfl), rfl⟩

theorem submit_J (hwf : WF bs) (h : J bs s) (b : Block) (hb : b ∈ bs) (hf : (submit s b).foreign = false) :
    J bs (submit s b) := by
  by_cases hfr : Fresh s b
  · rw [submit_of_fresh hfr] at hf ⊢
    exact (commitBlock_J hwf (h.withNode hb ((inTree_iff _ _).1 hfr.2.2)) b hb (withNode_inT s b) hf).1
  · rw [submit_of_not_fresh hfr]; exact h

/-! ### Chain.Idle, Chain.Close, HurryUp -/

theorem idle_J (h : J bs s) : J bs (idle s) := by
  unfold idle
  split
  · exact h
  · have hN := writeAll_neutral s h.jd.queueB
    simp only []
    split
    · obtain ⟨path, hc⟩ := h.chain
      exact h.neutral (hN.trans (startSave_neutral _ false ((hc.neutral hN).cons bs)))
    · exact h.neutral hN

theorem close_J (h : J bs s) : J bs (close s) := by
  unfold close
  split
  · exact h
  · have hN := writeAll_neutral s h.jd.queueB
    simp only []
    split
    · split
      · exact h.neutral (hN.trans (hurrySave_neutral _))
      · obtain ⟨path, hc⟩ := h.chain
        exact h.neutral (hN.trans (startSave_neutral _ true ((hc.neutral hN).cons bs)))
    · exact h.neutral hN

theorem startSave_foreign (s : St) (hurry : Bool) : (startSave s hurry).foreign = s.foreign := by
  unfold startSave
  split
  · rfl
  · simp only []
    split
    · rfl
    · rw [(finishSave_neutral (bs := []) _ _).foreign, (fullChunks_neutral (bs := []) _ _ _).foreign]; rfl

theorem writeAll_foreign (s : St) : (writeAll s).foreign = s.foreign :=
  (writeAll_neutral (bs := s.n.queue) s (fun _ h => h)).foreign

theorem idle_foreign (s : St) : (idle s).foreign = s.foreign := by
  unfold idle
  split
  · rfl
  · simp only []
    split
    · rw [startSave_foreign, writeAll_foreign]
    · exact writeAll_foreign s

theorem close_foreign (s : St) : (close s).foreign = s.foreign := by
  unfold close
  split
  · rfl
  · simp only []
    split
    · split
      · rw [(hurrySave_neutral (bs := []) _).foreign, writeAll_foreign]
      · rw [startSave_foreign, writeAll_foreign]
    · exact writeAll_foreign s

/-! ### NewChainExt on a directory satisfying `Prov` and `DiskInv` -/

theorem path_indexed (hwf : WF bs) {P : Snap → Prop} {d : Disk} (hp : Prov bs d) (hd : DiskInv P d) :
    ∀ (path : List Block), ChainOK bs path → (headId path = 0 ∨ headId path ∈ ids d) → ∀ b ∈ path, ∃ r ∈ d.idx, r.id = b.id
  | [], _, _ => nofun
  | x :: rest, hc, ht => by
    have hx : x.id ∈ ids d := ht.resolve_left (hwf.idNZ x hc.1)
    obtain ⟨r, hr, hrid⟩ := List.mem_map.1 hx
    refine List.forall_mem_cons.2 ⟨⟨r, hr, hrid⟩, ?_⟩
    obtain ⟨b', hb', e1, e2, _⟩ := hp.idxB r hr
    have : b' = x := hwf.uniq b' hb' x hc.1 (e1.trans hrid)
    subst this
    refine path_indexed hwf hp hd rest hc.2.2.2.2 ?_
    rw [← hc.2.1, e2]
    exact hd.idxClosed r hr

theorem openNode_J (hwf : WF bs) {P : Snap → Prop} {d : Disk} (hp : Prov bs d) (hd : DiskInv P d) (bigs : List Coin) (skip : Nat)
    {s1 : St} (ho : openNode d bigs skip = .ok s1) : J bs s1 ∧ s1.foreign = false ∧ s1.err = none := by
  obtain rfl : opened d bigs skip = s1 := Except.ok.inj ((openNode_eq hd bigs skip).symm.trans ho)
  obtain ⟨htree, _, hmem, hq, hth, _⟩ := opened_n d bigs skip
  have hes : ∀ e ∈ (recoverUnspent d).2.1, EffB bs e.1 := by
    intro e he
    have := recover_safe d e he
    match e.1, this with
    | .removeUndoTmp, _ | .removeTmp _, _ => trivial
  refine ⟨⟨⟨applyAll_prov _ _ hp hes, hes, by rw [hmem]; nofun, by rw [hq]; nofun, ?_, ?_⟩, ?_⟩, rfl, rfl⟩
  · rw [htree]
    exact List.forall_mem_map.2 hp.idxB
  · rw [htree]
    refine List.forall_mem_map.2 fun r hr => (hd.idxClosed r hr).imp id fun hm => ?_
    obtain ⟨r', hr', e⟩ := List.mem_map.1 hm
    exact ⟨_, List.mem_map_of_mem hr', e⟩
  · rcases opened_snap d bigs skip with ⟨_, h1, h2, h3⟩ | ⟨sn, hl, h1, h2, h3⟩
    · exact ⟨[], trivial, h1, h2 ▸ SameSet.refl _, h3, hth.trans h3, nofun⟩
    · obtain ⟨path, c1, c2, c3, c4⟩ : Cons bs sn := (loadSnap_some hl).elim (hp.dbB _) (hp.oldB _)
      refine ⟨path, c1, h1.trans c2, h2 ▸ c3, h3.trans c4, hth.trans (h3.trans c4), fun b hb => ?_⟩
      obtain ⟨r, hr, e⟩ := path_indexed hwf hp hd path c1 (c2 ▸ (loadSnap_good hd hl).2) b hb
      rw [htree]
      exact ⟨_, List.mem_map_of_mem hr, e⟩

/-! ### the client's recovery loop -/

theorem feedPath_mono : ∀ (p : List BlockId) (s : St), (feedPath s p).foreign = false → s.foreign = false
  | [], _, h => h
  | id :: rest, s, h => by
    unfold feedPath at h
    split at h
    · exact h
    · split at h
      · rwa [(fail_frame _ _).2.2.2] at h
      · have := commitBlock_mono _ _ (feedPath_mono rest _ h)
        rwa [(abortSave_neutral (bs := []) s).foreign] at this

theorem feedPath_J (hwf : WF bs) : ∀ (p : List BlockId) (s : St), J bs s → (∀ id ∈ p, InT s.n.tree id) →
    (feedPath s p).foreign = false → J bs (feedPath s p)
  | [], _, h, _, _ => h
  | id :: rest, s, h, hin, hf => by
    revert hf
    unfold feedPath
    split
    · intro _; exact h
    · split
      · exact fun _ => h.fail _
      · rename_i b hb
        intro hf
        have hbs : b ∈ bs := h.jd.prov.datB b (List.mem_of_find?_eq_some hb)
        have hbid : b.id = id := by simpa using List.find?_some hb
        have hN := abortSave_neutral (bs := bs) s
        have hf1 : (commitBlock (abortSave s) b).foreign = false := feedPath_mono rest _ hf
        obtain ⟨h1, t1⟩ := commitBlock_J hwf (h.neutral hN) b hbs (by rw [hN.tree, hbid]; exact hin id (by simp)) hf1
        exact feedPath_J hwf rest _ h1 (by rw [t1, hN.tree]; exact (List.forall_mem_cons.1 hin).2) hf

theorem down_inT {tree : List TNode} : ∀ (p : List BlockId) (cur : BlockId), Down tree cur p → ∀ id ∈ p, InT tree id
  | [], _, _ => nofun
  | x :: r, _, hd => List.forall_mem_cons.2 ⟨hd.1, down_inT r x hd.2.2⟩

/-- one step of FindFarthestNode's scan over the tree -/
def farStep (acc : BlockId × Nat × Bool) (t : TNode) : BlockId × Nat × Bool :=
  if t.height > acc.2.1 then (t.id, t.height, false)
  else if t.height == acc.2.1 && acc.2.1 != 0 then (acc.1, acc.2.1, true)
  else acc

/-- FindFarthestNode returns the maximal height, attained by the node it returns -/
theorem farthest_spec (n : Node) :
    (∀ t ∈ n.tree, t.height ≤ (farthest n).2.1) ∧
    (((farthest n).1 = 0 ∧ (farthest n).2.1 = 0) ∨ ∃ t ∈ n.tree, t.id = (farthest n).1 ∧ t.height = (farthest n).2.1) := by
  have key : ∀ (l : List TNode) (acc : BlockId × Nat × Bool), (∀ t ∈ l, t ∈ n.tree) →
      ((acc.1 = 0 ∧ acc.2.1 = 0) ∨ ∃ t ∈ n.tree, t.id = acc.1 ∧ t.height = acc.2.1) →
      (acc.2.1 ≤ (l.foldl farStep acc).2.1 ∧ ∀ t ∈ l, t.height ≤ (l.foldl farStep acc).2.1) ∧
      (((l.foldl farStep acc).1 = 0 ∧ (l.foldl farStep acc).2.1 = 0) ∨
        ∃ t ∈ n.tree, t.id = (l.foldl farStep acc).1 ∧ t.height = (l.foldl farStep acc).2.1) := by
    intro l
    induction l with
    | nil => intro acc _ h; exact ⟨⟨Nat.le_refl _, fun _ h => by cases h⟩, h⟩
    | cons t l ih =>
      intro acc hl hacc
      simp only [List.foldl_cons]
      have hstep : acc.2.1 ≤ (farStep acc t).2.1 ∧ t.height ≤ (farStep acc t).2.1 ∧
          (((farStep acc t).1 = 0 ∧ (farStep acc t).2.1 = 0) ∨
            ∃ t' ∈ n.tree, t'.id = (farStep acc t).1 ∧ t'.height = (farStep acc t).2.1) := by
        unfold farStep
        split
        · rename_i hgt
          exact ⟨Nat.le_of_lt hgt, Nat.le_refl _, Or.inr ⟨t, hl t (by simp), rfl, rfl⟩⟩
        · rename_i hgt
          split <;> exact ⟨Nat.le_refl _, Nat.not_lt.1 hgt, hacc⟩
      obtain ⟨⟨i1, i2⟩, i3⟩ := ih _ (fun x hx => hl x (by simp [hx])) hstep.2.2
      exact ⟨⟨Nat.le_trans hstep.1 i1, List.forall_mem_cons.2 ⟨Nat.le_trans hstep.2.1 i1, i2⟩⟩, i3⟩
  obtain ⟨⟨_, h2⟩, h3⟩ := key n.tree (0, 0, false) (fun _ h => h) (Or.inl ⟨rfl, rfl⟩)
  exact ⟨h2, h3⟩

theorem farthest_le (s : St) (h : ∀ t ∈ s.n.tree, t.height ≤ s.n.tipHeight) : (farthest s.n).2.1 ≤ s.n.tipHeight := by
  rcases (farthest_spec s.n).2 with ⟨_, h0⟩ | ⟨t, ht, _, hth⟩
  · omega
  · rw [← hth]; exact h t ht

theorem clientRecover_mono (s : St) : (clientRecover s).foreign = false → s.foreign = false := by
  unfold clientRecover
  simp only []
  split
  · exact id
  · split
    · rw [(fail_frame _ _).2.2.2]; exact id
    · exact feedPath_mono _ _

theorem clientRecover_J (hwf : WF bs) (h : J bs s) (hf : (clientRecover s).foreign = false) : J bs (clientRecover s) := by
  revert hf
  unfold clientRecover
  simp only []
  split
  · intro _; exact h
  · split
    · exact fun _ => h.fail _
    · rename_i p hp
      intro hf
      have hdn := pathUp_down h.jd _ _ _ [] p
        ((farthest_spec s.n).2.imp And.left fun ⟨t, ht, e, _⟩ => ⟨t, ht, e⟩) trivial hp
      exact feedPath_J hwf p s h (down_inT p _ hdn.1) hf

/-! ### one operation, whole histories -/

/-- the ghost flag after an in-history restart, successful or not -/
theorem reopen_foreign (s : St) (he : s.err = none) :
    (step s .reopen).foreign = (s.foreign || recoverForeign s.d s.n.bigs) := by
  simp only [step]
  rw [if_neg (by simp [he])]
  unfold recover recoverForeign
  cases openNode s.d s.n.bigs 0 with
  | error e => rfl
  | ok s1 =>
    simp only []
    cases (clientRecover s1).err <;> rfl

theorem step_mono (s : St) (op : Op) : (step s op).foreign = false → s.foreign = false := by
  cases op with
  | submit b => exact submit_mono s b
  | idle => rw [show step s .idle = idle s from rfl, idle_foreign]; exact id
  | close => rw [show step s .close = close s from rfl, close_foreign]; exact id
  | skip _ | pause _ => exact id
  | hurry =>
    simp only [step]
    split
    · exact id
    · rw [(hurrySave_neutral (bs := []) _).foreign]; exact id
  | reopen =>
    cases he : s.err with
    | some e => simp only [step, he, Option.isSome_some]; exact id
    | none => rw [reopen_foreign s he]; exact fun hf => (Bool.or_eq_false_iff.1 hf).1

variable {P : Snap → Prop} {base : Disk} {Q : List Block}

theorem step_J (hwf : WF bs) (hq : InvQ ⟨P, base, (· = 0), [], Q, Q⟩ s) (h : J bs s) (op : Op)
    (hb : ∀ b, op = .submit b → b ∈ bs) (hf : (step s op).foreign = false) : J bs (step s op) := by
  cases op with
  | submit b => exact submit_J hwf h b (hb b rfl) hf
  | idle => exact idle_J h
  | close => exact close_J h
  | skip _ | pause _ => exact h.neutral (Neutral.setNode s _ rfl rfl rfl rfl rfl (fun _ h => Or.inl h) (fun _ h => Or.inl h))
  | hurry =>
    simp only [step]
    split
    · exact h
    · exact h.neutral (hurrySave_neutral _)
  | reopen =>
    revert hf
    simp only [step]
    split
    · intro _; exact h
    · unfold recover
      have ho := openNode_eq hq.disk s.n.bigs 0
      generalize opened s.d s.n.bigs 0 = s1 at ho
      obtain ⟨h1, _, _⟩ := openNode_J hwf h.jd.prov hq.disk s.n.bigs 0 ho
      rw [ho]
      simp only []
      split
      · intro _
        rename_i e0 _ _
        exact ⟨(h.jd.fail e0).setForeign _, (h.fail e0).chain⟩
      · rename_i s' heq
        split at heq
        · cases heq
        · cases heq
          intro hf
          have hf : (s.foreign || (clientRecover s1).foreign) = false := hf
          have h2 := clientRecover_J hwf h1 (Bool.or_eq_false_iff.1 hf).2
          exact ⟨{ h2.jd with effs := List.forall_mem_append.2 ⟨h.jd.effs, h2.jd.effs⟩ },
            h2.chain.imp (fun _ hc => hc.congr rfl rfl rfl rfl rfl)⟩

theorem foldl_step_mono : ∀ (ops : List Op) (s : St), (ops.foldl step s).foreign = false → s.foreign = false
  | [], _, h => h
  | op :: rest, s, h => step_mono s op (foldl_step_mono rest _ h)

theorem init_J (bigs : List Coin) : J bs { n := { bigs := bigs }, d := {} } := by
  refine ⟨⟨Prov.empty bs, ?_, ?_, ?_, ?_, ?_⟩, [], ⟨trivial, rfl, SameSet.refl _, rfl, rfl, ?_⟩⟩ <;> intro x hx <;> cases hx

/-- what the invariant says about tip and set -/
theorem J.result (hwf : WF bs) (h : J bs s) :
    (s.n.tip = 0 ∨ ∃ b ∈ bs, b.id = s.n.tip) ∧ sameSet s.n.utxo (replay bs s.n.tip) = true := by
  obtain ⟨path, hc⟩ := h.chain
  constructor
  · cases path with
    | nil => exact Or.inl hc.tip
    | cons b rest => exact Or.inr ⟨b, hc.ok.1, hc.tip.symm⟩
  · rw [sameSet_iff, hc.tip, replay_eq_rp hwf hc.ok]; exact hc.utxo

theorem run_prefix_foreign (bigs : List Coin) (ops : List Op) (j : Nat) (h : (run bigs ops).foreign = false) :
    (run bigs (ops.take j)).foreign = false := by
  refine foldl_step_mono (ops.drop j) _ ?_
  rwa [run, ← List.foldl_append, List.take_append_drop]

theorem foldl_submit_mono : ∀ (l : List Block) (s : St), (l.foldl submit s).foreign = false → s.foreign = false
  | [], _, h => h
  | b :: rest, s, h => submit_mono s b (foldl_submit_mono rest _ h)

theorem foldl_submit_J (hwf : WF bs) : ∀ (l : List Block) (s : St), J bs s → (∀ b ∈ l, b ∈ bs) →
    (l.foldl submit s).foreign = false → J bs (l.foldl submit s)
  | [], _, h, _, _ => h
  | b :: rest, s, h, hb, hf =>
    foldl_submit_J hwf rest _ (submit_J hwf h b (hb b (by simp)) (foldl_submit_mono rest _ hf)) (fun x hx => hb x (by simp [hx])) hf

end GocoinV.Proofs.C07
