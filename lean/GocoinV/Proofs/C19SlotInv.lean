/-
  Proofs.C19SlotInv — the second invariant (which index slot is free, data-file sequence numbers on disk) along
  every history, so that the crash analysis of defrag() applies to every reachable state. `Inv2` is that invariant,
  `Inv3` is `DiskInv` (Proofs/C19Inv) and `Inv2` together.
-/
import GocoinV.Proofs.C19CrashDefrag
namespace GocoinV.Proofs.C19
open GocoinV GocoinV.Qdb GocoinV.QdbSpec

variable {eg : Bool}

structure Inv2 (db : DB) : Prop where
  free : checkIdxFile (idxFile db.fs (1 - db.datIdx)) = none
  other : checkIdxFile (otherIdx db.fs (1 - db.datIdx)) = none ∨
    ∃ Xo, checkIdxFile (otherIdx db.fs (1 - db.datIdx)) = some (db.verSeq, Xo)
  seqs : ∀ kr ∈ diskIndex db.fs, kr.2.seq ≤ db.dataSeq

theorem inv2_same {a b : DB} (h : Inv2 b) (h1 : a.fs = b.fs) (h2 : a.datIdx = b.datIdx) (h3 : a.verSeq = b.verSeq)
    (h4 : a.dataSeq = b.dataSeq) : Inv2 a :=
  ⟨by rw [h1, h2]; exact h.free, by rw [h1, h2, h3]; exact h.other, by rw [h1, h4]; exact h.seqs⟩

theorem plan_puts_seq (seq : Nat) (ks : List Key) (idx : List (Key × Rec)) (pos : Nat) :
    ∀ k r, LogEntry.put k r ∈ (syncPlan seq idx ks pos).2.1 → r.seq = seq := by
  induction ks generalizing idx pos with
  | nil => intro k r h; simp [syncPlan] at h
  | cons j t ih =>
    cases hl : ilookup j idx with
    | none =>
      simp only [syncPlan, hl]
      intro k r h
      simp only [List.mem_cons] at h
      rcases h with h | h
      · cases h
      · exact ih idx pos k r h
    | some rc =>
      simp only [syncPlan, hl]
      intro k r h
      simp only [List.mem_cons, LogEntry.put.injEq] at h
      rcases h with ⟨_, h⟩ | h
      · rw [h]
      · exact ih _ _ k r h

theorem defrag_datIdx (db : DB) (h : Cached db) : (defrag db).datIdx = 1 - db.datIdx := by
  obtain ⟨d', w', hdef, _, _, _, _, _, hd'i, _⟩ := defrag_eq db h
  rw [hdef]
  unfold defragFinish
  dsimp only
  rw [(Pre.of_eq (·.datIdx)).cleanupold _ _ (fun _ _ _ => rfl), (writedatfile_disk _).2.2.2.2.1,
    (Pre.of_eq (·.datIdx)).bufFlush (defragSink _) (fun _ _ => rfl)]
  show 1 - d'.datIdx = _
  rw [hd'i]

theorem inv2_defrag (db : DB) (h : Cached db) (hwf : IndexWF db.eager db.index) : Inv2 (defrag db) := by
  obtain ⟨_, d2, d3, d4, d5, d6, d7⟩ := defrag_disk db h
  obtain ⟨_, _, _, _, m5⟩ := defrag_more db h
  have hdi := defrag_datIdx db h
  -- the two slots swap roles
  have hswap : idxFile (defrag db).fs (1 - (1 - db.datIdx)) = otherIdx (defrag db).fs (1 - db.datIdx) ∧
      otherIdx (defrag db).fs (1 - (1 - db.datIdx)) = idxFile (defrag db).fs (1 - db.datIdx) := by
    unfold idxFile otherIdx
    by_cases hd : db.datIdx = 0
    · simp [hd]
    · have h1 : 1 - db.datIdx = 0 := by omega
      simp [h1]
  constructor
  · rw [hdi, hswap.1, d4]; rfl
  · rw [hdi, hswap.2, m5, d3]
    exact Or.inr ⟨_, checkIdxFile_snapBytes _ _ (u32_lt _)⟩
  · intro kr hkr
    rw [defrag_diskIndex db h hwf] at hkr
    obtain ⟨x, hx, rfl⟩ := List.mem_map.mp hkr
    have := layout_seq _ _ _ x hx
    rw [d7]
    show x.2.seq ≤ _
    omega

/-- the invariants of a state, together -/
structure Inv3 (db : DB) : Prop where
  inv : DiskInv db
  i2 : Inv2 db

theorem sync_logWritten3 (db : DB) (h : Inv3 db) (hp : db.pending.isEmpty = false) (hs : SizeOK db) :
    ∃ L, sync db = (if L.extra > mul64 L.opts.forcedPerc L.need / 100 then defrag L else L) ∧
      Inv3 L ∧ absv L = absv db ∧ L.pending = [] ∧
      (∃ es, L.effs = db.effs ++ es ∧ es.map (·.2) = syncEffs db) ∧
      L.fs = db.fs.applyAll (syncEffs db) ∧ L.dataSeq = db.dataSeq ∧
      L = logWritten (db.pending.foldl syncKey (checkDat db, [])).1 (db.pending.foldl syncKey (checkDat db, [])).2 ∧
      L.eager = db.eager := by
  have inv := h.inv
  have i2 := h.i2
  obtain ⟨L, hL, invL, absL, pL, _, hes, _, hfs, b1, b2, b3, b4, b5, b6, b7⟩ := sync_logWritten db inv hp hs.1
  have hLe : L.eager = db.eager := by
    rw [b7, logWritten_eager]
    exact (syncFold_cached db.pending (checkDat db, [])
      (Cached.of_frame (frame_checkDat db) inv.cached)).eager.trans (frame_checkDat db).eager
  refine ⟨L, hL, ⟨invL, ?_⟩, absL, pL, hes, hfs, b3, b7, hLe⟩
  constructor
  · unfold idxFile; rw [b1, b4, b5]; exact i2.free
  · unfold otherIdx; rw [b1, b2, b4, b5]; exact i2.other
  · intro kr hkr
    rw [b6] at hkr
    rw [b3]
    rcases mem_applyEntriesL _ _ kr hkr with h | h
    · exact i2.seqs kr h
    · obtain ⟨e, he, hee⟩ := List.mem_map.mp h
      cases e with
      | del k => simp [stripE] at hee
      | put k r =>
        simp only [stripE, LogEntry.put.injEq] at hee
        have := plan_puts_seq db.dataSeq db.pending db.index (checkDat db).lastPos k r he
        rw [← hee.2]
        show r.seq ≤ _
        omega

theorem sync_inv2 (db : DB) (inv : DiskInv db) (i2 : Inv2 db) (hs : SizeOK db) : Inv2 (sync db) := by
  cases hp : db.pending.isEmpty with
  | true =>
    have : sync db = db := by unfold sync; simp [inv.nv, hp]
    rw [this]; exact i2
  | false =>
    obtain ⟨L, hL, h3L, absL, _⟩ := sync_logWritten3 db ⟨inv, i2⟩ hp hs
    rw [hL]
    split
    · exact inv2_defrag L h3L.inv.cached
        ⟨h3L.inv.cached.2, h3L.inv.wf, h3L.inv.nodup, by rw [valsOf_of_absv L db absL]; exact hs.2⟩
    · exact h3L.i2

theorem preSync_inv3 (db : DB) (h : Inv3 db) (op : Op) (ok : OpOK db.eager op) (fits : OpFits db op) :
    Inv3 (preSync db op) := by
  obtain ⟨i, e, n, m, p, b, hp⟩ := preSync_same db op
  exact ⟨preSync_inv db h.inv op ok fits, by rw [hp]; exact inv2_same h.i2 rfl rfl rfl rfl⟩

theorem step_inv3 (db : DB) (h : Inv3 db) (op : Op) (ok : OpOK db.eager op) (fits : OpFits db op) : Inv3 (step db op) := by
  refine ⟨step_inv db h.inv op ok fits, ?_⟩
  have hM := preSync_inv3 db h op ok fits
  exact match step db op, step_nf db h.inv.cached h.inv.nv op ok with
  | _, .mem => hM.i2
  | _, .sync hs => sync_inv2 _ hM.inv hM.i2 (hs fits)
  | _, .defrag hs => inv2_defrag _ hM.inv.cached ⟨hM.inv.cached.2, hM.inv.wf, hM.inv.nodup, (hs fits).2⟩
  | _, .flags i _ | _, .noSync => inv2_same h.i2 rfl rfl rfl rfl

theorem run_inv3 (ops : List Op) (db : DB) (h : Inv3 db) (ok : ∀ op ∈ ops, OpOK db.eager op) (fits : RunFits db ops) :
    Inv3 (run db ops) := by
  induction ops generalizing db with
  | nil => exact h
  | cons op t ih =>
    exact ih (step db op) (step_inv3 db h op (ok op List.mem_cons_self) fits.1)
      (fun o ho => by
        rw [step_eager_all]; exact ok o (List.mem_cons_of_mem _ ho))
      fits.2

theorem fresh_inv3 (load : Bool) (opts : Opts) : Inv3 (openDB {} false load opts eg) := by
  refine ⟨fresh_inv load opts, ?_⟩
  rw [openDB_empty]
  exact ⟨rfl, Or.inl rfl, by intro kr h; cases h⟩

theorem defragReady_of_inv3 (db : DB) (h : Inv3 db) (hs : SizeOK db) (hseq : db.dataSeq + 1 < 2^32)
    (hsmall : (snapBytes (u32 (db.verSeq + 1)) (layout (u32 (db.dataSeq + 1)) 4 db.index)).length ≤ bufSize) :
    DefragReady db := by
  obtain ⟨E, hEf, hE⟩ := h.inv.logst
  refine ⟨h.inv.cached, ⟨h.inv.cached.2, h.inv.wf, h.inv.nodup, hs.2⟩, h.i2.free, ⟨h.i2.other, E, hE⟩, h.inv.verlt,
    fun kr hkr => ⟨h.inv.dflags kr hkr, h.inv.dreads kr hkr⟩, ?_, ⟨E, hEf, hE⟩, h.inv.ver, hsmall⟩
  intro kr hkr
  have := h.i2.seqs kr hkr
  have hu : u32 (db.dataSeq + 1) = db.dataSeq + 1 := Nat.mod_eq_of_lt hseq
  rw [hu]; omega

end GocoinV.Proofs.C19
