/-
  Proofs.C07Idx — lemmas about Model/PersistIdx.lean (index-file positions and flag bytes; what Close leaves in UTXO.db).
-/
import GocoinV.Model.PersistIdx
namespace GocoinV.Persist.Idx
open GocoinV.Gen.C07Facts

/-! ## load -/

theorem loadFrom_true (idx : List IRec) : ∀ pos,
    (loadFrom true idx pos).1 = pos + 136 * idx.length ∧
    (loadFrom true idx pos).2.map (·.ipos) = validPos idx pos := by
  induction idx with
  | nil => intro pos; simp [loadFrom, validPos]
  | cons r rs ih =>
    intro pos
    have h := ih (pos + 136)
    by_cases hi : isInvalid r = true
    · simp only [loadFrom, validPos, hi, if_true, List.length_cons]
      refine ⟨?_, h.2⟩
      rw [h.1]; omega
    · simp only [loadFrom, validPos, hi, List.length_cons, memOf]
      refine ⟨?_, ?_⟩
      · rw [h.1]; simp; omega
      · simp [h.2]

theorem iopen_true (d : List IRec) :
    (iopen true d).pos = 136 * d.length ∧ (iopen true d).mems.map (·.ipos) = validPos d 0 ∧ (iopen true d).disk = d := by
  have h := loadFrom_true d 0
  refine ⟨?_, h.2, rfl⟩
  simp [iopen, h.1]

/-! ## modAt -/

theorem modAt_length (f : IRec → IRec) : ∀ (l : List IRec) n, (modAt f l n).length = l.length := by
  intro l n
  fun_induction modAt f l n <;> simp [*]

theorem modAt_map_core (f : IRec → IRec) (hf : ∀ r, core (f r) = core r) :
    ∀ (l : List IRec) n, (modAt f l n).map core = l.map core := by
  intro l n
  fun_induction modAt f l n <;> simp [*]

theorem or_flag_core (a fl : Nat) (hfl : fl = 1 ∨ fl = 2) : (a ||| fl) &&& (fComprsd ||| fSnapped ||| fLength ||| fIndex) = a &&& (fComprsd ||| fSnapped ||| fLength ||| fIndex) := by
  rw [Nat.and_or_distrib_right]
  rcases hfl with h | h <;> subst h <;> simp [fComprsd, fSnapped, fLength, fIndex]

theorem rewriteAt_disk_core (idx : List IRec) (m : IMem) (fl : Nat) (hfl : fl = 1 ∨ fl = 2) :
    (rewriteAt .disk idx m fl).map core = idx.map core := by
  unfold rewriteAt
  apply modAt_map_core
  intro r
  simp only [core]
  rw [or_flag_core _ _ hfl]

theorem rewriteAt_length (src : FlagSource) (idx : List IRec) (m : IMem) (fl : Nat) :
    (rewriteAt src idx m fl).length = idx.length := by
  unfold rewriteAt; exact modAt_length _ _ _

theorem writeAt_end (idx : List IRec) (r : IRec) : writeAt idx (136 * idx.length) r = idx ++ [r] := by
  simp [writeAt]

/-! ## histories -/

/-- the flag argument of every rewrite is BLOCK_TRUSTED or BLOCK_INVALID (the only calls of setBlockFlag) -/
def FlagsOK (ops : List IOp) : Prop := ∀ i fl, IOp.flag i fl ∈ ops → fl = 1 ∨ fl = 2

def appended : List IOp → List IRec
  | [] => []
  | .append r :: ops => r :: appended ops
  | _ :: ops => appended ops

theorem appended_append (a b : List IOp) : appended (a ++ b) = appended a ++ appended b := by
  induction a with
  | nil => simp [appended]
  | cons op a ih =>
    cases op <;> simp [appended, ih]

/-- one step keeps the position invariant and the cores -/
theorem istep_inv (s : ISt) (op : IOp) (hp : s.pos = 136 * s.disk.length)
    (hfl : ∀ i fl, op = .flag i fl → fl = 1 ∨ fl = 2) :
    (istep .disk true s op).pos = 136 * (istep .disk true s op).disk.length ∧
    (istep .disk true s op).disk.map core = s.disk.map core ++ (appended [op]).map core := by
  cases op with
  | append r =>
    simp only [istep, appended, hp, writeAt_end]
    refine ⟨?_, by simp⟩
    simp; omega
  | flag i fl =>
    simp only [istep, appended]
    cases hm : s.mems[i]? with
    | none => simp [hp]
    | some m =>
      simp [rewriteAt_length, hp, rewriteAt_disk_core _ _ _ (hfl i fl rfl)]
  | restart =>
    have h := iopen_true s.disk
    simp [istep, appended, h.1, h.2.2]

theorem foldl_inv (ops : List IOp) : ∀ (s : ISt), s.pos = 136 * s.disk.length → FlagsOK ops →
    (ops.foldl (istep .disk true) s).pos = 136 * (ops.foldl (istep .disk true) s).disk.length ∧
    (ops.foldl (istep .disk true) s).disk.map core = s.disk.map core ++ (appended ops).map core := by
  induction ops with
  | nil => intro s hp _; simp [appended, hp]
  | cons op ops ih =>
    intro s hp hf
    have h1 := istep_inv s op hp (fun i fl he => hf i fl (by simp [he]))
    have h2 := ih (istep .disk true s op) h1.1 (fun i fl hm => hf i fl (by simp [hm]))
    simp only [List.foldl_cons]
    refine ⟨h2.1, ?_⟩
    rw [h2.2, h1.2, show appended (op :: ops) = _ from appended_append [op] ops]
    simp

theorem irun_inv (d : List IRec) (ops : List IOp) (hf : FlagsOK ops) :
    (irun .disk true d ops).pos = 136 * (irun .disk true d ops).disk.length ∧
    (irun .disk true d ops).disk.map core = (d ++ appended ops).map core := by
  have h0 := iopen_true d
  have h := foldl_inv ops (iopen true d) (by rw [h0.1, h0.2.2]) hf
  unfold irun
  refine ⟨h.1, ?_⟩
  rw [h.2, h0.2.2]; simp

/-- the data file of a record is a function of its core -/
theorem dataFileOf_core (r : IRec) : dataFileOf r = if (core r).1 &&& fIndex != 0 then (core r).2 else 0 := by
  have : r.flags &&& (fComprsd ||| fSnapped ||| fLength ||| fIndex) &&& fIndex = r.flags &&& fIndex := by
    rw [Nat.and_assoc]
    simp [fComprsd, fSnapped, fLength, fIndex]
  simp only [dataFileOf, core, this]

theorem map_dataFileOf_of_core (a b : List IRec) (h : a.map core = b.map core) : a.map dataFileOf = b.map dataFileOf := by
  have : dataFileOf = (fun c => if c.1 &&& fIndex != 0 then c.2 else 0) ∘ core := funext dataFileOf_core
  rw [this, ← List.map_map, ← List.map_map, h]

/-! ## Close -/

/-- a clean set in memory is the one of UTXO.db -/
def Clean (s : CSt) : Prop := s.dirty = false → s.tip = s.dTip ∧ s.height = s.dHeight

theorem cstep_clean (s : CSt) (op : COp) (h : Clean s) : Clean (cstep .dirty true true s op) := by
  cases op with
  | commit _ | undo _ => intro hd; simp [cstep] at hd
  | idle skip =>
    simp only [cstep]
    split
    · intro _; simp [saveNow]
    · exact h
  | restart =>
    intro _
    simp [cstep]

theorem restart_identity (s : CSt) (h : Clean s) :
    ((cstep .dirty true true s .restart).tip, (cstep .dirty true true s .restart).height) = (s.tip, s.height) := by
  simp only [cstep, closeWrites]
  by_cases hd : s.dirty = true
  · simp [hd, saveNow]
  · have := h (by simpa using hd)
    simp [hd, this.1, this.2]

theorem restartPairs_dirty (ops : List COp) : ∀ s, Clean s → ∀ p ∈ restartPairs .dirty true true s ops, p.1 = p.2 := by
  induction ops with
  | nil => intro s _ p hp; simp [restartPairs] at hp
  | cons op ops ih =>
    intro s hs
    cases op with
    | restart => exact List.forall_mem_cons.2 ⟨(restart_identity s hs).symm, ih _ (cstep_clean s .restart hs)⟩
    | commit _ | undo _ | idle _ => exact ih _ (cstep_clean s _ hs)

end GocoinV.Persist.Idx
