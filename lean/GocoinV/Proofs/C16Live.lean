/-
  Proofs.C16Live — nothing stays queued for ever: every index record that is not yet on disk has its own entry in
  the write queue (same key, same record identity), and `writeAll` (Idle / Close / the BlockAdd thresholds) empties
  the queue — so after a flush every record of the index is written. Holds for ALL histories, restarts included.
-/
import GocoinV.Proofs.C16Refine
namespace GocoinV.BlockDB

def Live (s : State) : Prop :=
  ∀ k r, AL.get s.index k = some r → r.ipos = none → ∃ b ∈ s.queue, b.idx = k ∧ b.seq = r.seq

theorem live_update (s s' : State) (h : Live s) (k : Key) (r0 r' : Rec) (hr : AL.get s.index k = some r0)
    (hidx : ∀ k', AL.get s'.index k' = if k = k' then some r' else AL.get s.index k')
    (hq : s'.queue = s.queue) (g1 : r'.ipos = r0.ipos) (g2 : r'.seq = r0.seq) : Live s' := by
  intro k' r hri hn
  rw [hidx] at hri
  rw [hq]
  split at hri
  · rename_i e; subst e
    simp only [Option.some.injEq] at hri; subst hri
    rw [g2]; exact h k r0 hr (by rw [← g1]; exact hn)
  · exact h k' r hri hn

theorem live_pop (s : State) (h : Live s) (b : B2W) (q : List B2W) (n : Nat) (hq : s.queue = b :: q)
    (hskip : ∀ r0, AL.get s.index b.idx = some r0 → r0.seq ≠ b.seq ∨ r0.ipos.isSome = true) :
    Live { s with queue := q, datToWrite := n } := by
  intro k r hri hn
  obtain ⟨b', hb', e1, e2⟩ := h k r hri hn
  rw [hq] at hb'
  simp only [List.mem_cons] at hb'
  rcases hb' with hb' | hb'
  · rw [hb'] at e1 e2
    rcases hskip r (by rw [e1]; exact hri) with hc | hc
    · exact absurd e2.symm hc
    · rw [hn] at hc; cases hc
  · exact ⟨b', hb', e1, e2⟩

/-- `writeOne` writes the head of the queue: its key's record is on disk now, the other keys keep their entries -/
theorem live_write (s : State) (h : Live s) (b : B2W) (q : List B2W) (n m : Nat) (r0 : Rec) (cbts : Bytes) (hq : s.queue = b :: q) :
    Live (writeRecord (maybeRoll { s with queue := q, datToWrite := n } m) b r0 cbts) ∧
    (writeRecord (maybeRoll { s with queue := q, datToWrite := n } m) b r0 cbts).queue = q := by
  obtain ⟨_, m2, m3, _, _⟩ := maybeRoll_facts { s with queue := q, datToWrite := n } m
  unfold writeRecord
  simp only [m2, m3]
  refine ⟨?_, trivial⟩
  intro k r hri hn
  simp only [AL.get_set] at hri
  split at hri
  · simp only [Option.some.injEq] at hri; subst hri; simp at hn
  · rename_i hne
    obtain ⟨b', hb', e1, e2⟩ := h k r hri hn
    rw [hq] at hb'
    simp only [List.mem_cons] at hb'
    rcases hb' with hb' | hb'
    · rw [hb'] at e1; exact absurd e1 hne
    · exact ⟨b', hb', e1, e2⟩

theorem queued_live (s : State) (h : Live s) (hash : Bytes) (ht tx : Nat) (tr : Bool) (raw : Bytes) (c : List (Key × CacheEnt)) :
    Live (s.queued hash ht tx tr raw c) := by
  intro k r hri hn
  simp only [State.queued, AL.get_set] at hri
  simp only [State.queued, List.mem_append, List.mem_singleton]
  split at hri
  · rename_i e; subst e
    simp only [Option.some.injEq] at hri; subst hri
    exact ⟨_, .inr rfl, rfl, rfl⟩
  · obtain ⟨b', hb', e1, e2⟩ := h k r hri hn
    exact ⟨b', .inl hb', e1, e2⟩

theorem Move.live {env : Env} {s s' : State} {sp sp' : Spec} (m : Move env s sp s' sp')
    (h : Live s) : Live s' := by
  cases m with
  | olen k r0 n hr => exact live_update s _ h k r0 _ hr (fun k' => AL.get_set _ _ k' _) rfl rfl rfl
  | trust k r0 _ hr | flagI k r0 _ hr => exact live_update s _ h k r0 _ hr (setBlockFlag_fields s k r0 _).1 (setBlockFlag_fields s k r0 _).2.2.1 rfl rfl
  | forget k =>
    exact fun k' r hri hn => h k' r (AL.get_of_del hri) hn
  | pop b q hq hskip => exact live_pop s h b q _ hq hskip
  | write b q r0 cbts _ hq => exact (live_write s h b q _ _ r0 cbts hq).1
  | _ => exact h

theorem writeOne_live (env : Env) (s s' : State) (h : Live s) (hw : writeOne env s = some s') :
    Live s' ∧ s'.queue.length + 1 = s.queue.length := by
  refine writeOne_state (P := fun s' => Live s' ∧ s'.queue.length + 1 = s.queue.length) env s s' hw ?_ ?_
  · intro b q hq hskip
    exact ⟨live_pop s h b q _ hq hskip, by simp [hq]⟩
  · intro b q r0 cbts hq _ _ _ _
    obtain ⟨a, e⟩ := live_write s h b q (s.datToWrite - b.data.length) cbts.length r0 cbts hq
    exact ⟨a, by rw [e, hq]; rfl⟩

theorem writeOne_none (env : Env) (s : State) (hw : writeOne env s = none) : s.queue = [] := by
  unfold writeOne at hw
  split at hw
  · assumption
  · simp only at hw
    split at hw
    · cases hw
    · split at hw <;> cases hw

theorem writeAll_live (env : Env) : ∀ (f : Nat) (s : State), Live s → s.queue.length ≤ f →
    Live (writeAll env f s) ∧ (writeAll env f s).queue = [] := by
  intro f
  induction f with
  | zero =>
    intro s h hl
    unfold writeAll
    exact ⟨h, List.eq_nil_of_length_eq_zero (by omega)⟩
  | succ f ih =>
    intro s h hl
    unfold writeAll
    split
    · rename_i hw; exact ⟨h, writeOne_none env s hw⟩
    · rename_i s' hw
      obtain ⟨a, b⟩ := writeOne_live env s s' h hw
      exact ih s' a (by omega)

/-- after `writeAll` every record of the index is on disk -/
theorem flush_all_written (env : Env) (s : State) (h : Live s) :
    (flush env s).queue = [] ∧ ∀ k r, AL.get (flush env s).index k = some r → r.ipos.isSome = true := by
  obtain ⟨a, b⟩ := writeAll_live env s.queue.length s h (Nat.le_refl _)
  refine ⟨b, ?_⟩
  intro k r hri
  cases hn : r.ipos with
  | some p => rfl
  | none =>
    obtain ⟨b', hb', _⟩ := a k r hri hn
    rw [b] at hb'; cases hb'

/-- LoadBlockIndex only makes records that are on disk -/
theorem reopen_live (env : Env) (fs : FS) (o : Opts) : Live (reopen env fs o).1 := by
  intro k r hri hn
  have L := loadLoop_ind env fs.idx (fun _ a => ∀ k r, AL.get a.index k = some r → r.ipos.isSome = true) ?_
    (by intro k r h; simp [AL.get] at h)
  · have := L k r hri
    rw [hn] at this; cases this
  · intro _ a _ ha k r hri
    unfold loadRecord at hri
    simp only at hri
    split at hri
    · split at hri <;> simp only [(bumpInvalid_fields a _ _).1] at hri <;> exact ha k r hri
    · simp only [AL.get_set] at hri
      split at hri
      · simp only [Option.some.injEq] at hri; subst hri; rfl
      · exact ha k r hri

theorem step_live (env : Env) (s : State) (op : Op) (h : Live s) : Live (step env s op).1 :=
  step_ind (P := fun t _ => Live t) env s ⟨s.isOpen, []⟩ op rfl h (fun _ _ _ _ _ h m => m.live h)
    (fun hash ht tx tr raw c _ _ _ _ _ _ _ _ _ => queued_live s h hash ht tx tr raw c) (fun _ h => h) (fun o _ _ => reopen_live env s.fs o)

theorem run_live (env : Env) : ∀ (ops : List Op) (s : State), Live s → Live (run env s ops).1 := by
  intro ops
  induction ops with
  | nil => intro s h; exact h
  | cons op ops ih => intro s h; unfold run; exact ih _ (step_live env s op h)

theorem init_live : Live init := by
  intro k r h; simp [init, AL.get] at h

end GocoinV.BlockDB
