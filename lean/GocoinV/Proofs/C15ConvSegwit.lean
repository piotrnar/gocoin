/-
  Proofs.C15ConvSegwit — the two directions of `convert_bits` used by SegwitEncode / SegwitDecode and their
  round trip, from the invariant of Proofs/C15Conv.lean.
-/
import GocoinV.Proofs.C15Conv
namespace GocoinV.Bech32

theorem Inv_init (o : Nat) : Inv o ⟨0, 0, []⟩ 0 := ⟨by simp, by simp, by simp [Vr]⟩

theorem maxv_toNat (o : Nat) (ho : o ≤ 8) : (((1 : UInt32) <<< UInt32.ofNat o) - 1).toNat = 2 ^ o - 1 :=
  (by decide : ∀ o : Fin 9, (((1 : UInt32) <<< UInt32.ofNat o.val) - 1).toNat = 2 ^ o.val - 1) ⟨o, by omega⟩

/-- the left-over bits, shifted up to a full symbol -/
theorem last_toNat (val maxv : UInt32) (vN b o : Nat) (hv : val.toNat = vN % 2 ^ 32) (hm : maxv.toNat = 2 ^ o - 1)
    (hb : b ≤ o) (ho : o ≤ 8) : ((val <<< UInt32.ofNat (o - b)) &&& maxv).toNat = (vN * 2 ^ (o - b)) % 2 ^ o := by
  rw [UInt32.toNat_and, shl_toNat _ _ (by omega), hv, hm, Nat.and_two_pow_sub_one_eq_mod,
    Nat.mul_mod, Nat.mod_mod, ← Nat.mul_mod]
  exact Nat.mod_mod_of_dvd _ (Nat.pow_dvd_pow 2 (by omega))

/-- `convert_bits` for any widths: the end state of the loop satisfies the invariant for the input read as a
    base-2^i number, and the result is read off it -/
theorem convertBits_spec (o i : Nat) (ho2 : 2 ≤ o) (ho : o ≤ 8) (hi : i ≤ 8) (inp : Bytes)
    (hx : ∀ x ∈ inp, x.toNat < 2 ^ i) (pad : Bool) :
    ∃ s : CB, Inv o s (Vr i inp.reverse) ∧ s.bits < o ∧ s.bits + o * s.out.length = i * inp.length ∧
      convertBits o inp i pad =
        if pad then
          if s.bits ≠ 0 then some (s.out ++ [((s.val <<< UInt32.ofNat (o - s.bits)) &&& ((1 <<< UInt32.ofNat o) - 1)).toUInt8])
          else some s.out
        else if ((s.val <<< UInt32.ofNat (o - s.bits)) &&& ((1 <<< UInt32.ofNat o) - 1)) ≠ 0 ∨ s.bits ≥ i then none
        else some s.out := by
  have := fold_spec o i _ (maxv_toNat o ho) ho ho2 hi inp ⟨0, 0, []⟩ 0 hx (Inv_init o) (by show 0 < o; omega)
  rw [VN_zero_eq_Vr] at this
  exact ⟨_, this.1, this.2.1, by simpa using this.2.2, rfl⟩


/-- 8 → 5 with padding: every symbol is a 5-bit value, the number of padding bits `p` is < 5, and the
    output read as a base-32 number is the input read as a base-256 number times 2^p (i.e. the padding
    bits are zero). -/
theorem convertBits_85_spec (prog d : Bytes) (h : convertBits 5 prog 8 true = some d) :
    (∀ x ∈ d, x.toNat < 2 ^ 5) ∧ ∃ p, p < 5 ∧ 5 * d.length = 8 * prog.length + p ∧
      Vr 5 d.reverse = Vr 8 prog.reverse * 2 ^ p := by
  obtain ⟨s, hI, hb, hl, e⟩ := convertBits_spec 5 8 (by omega) (by omega) (by omega) prog (fun x _ => x.toNat_lt) true
  rw [e, if_pos rfl] at h
  generalize Vr 8 prog.reverse = N at *
  split at h <;> cases h <;> rename_i h0
  · have hs : (((s.val <<< UInt32.ofNat (5 - s.bits)) &&& ((1 <<< UInt32.ofNat 5) - 1)).toUInt8).toNat =
        (N * 2 ^ (5 - s.bits)) % 2 ^ 5 := by
      rw [UInt32.toNat_toUInt8, last_toNat _ _ N _ 5 hI.val (maxv_toNat 5 (by omega)) (by omega) (by omega)]
      exact Nat.mod_eq_of_lt (Nat.lt_trans (Nat.mod_lt _ (by omega)) (by omega))
    refine ⟨?_, 5 - s.bits, by omega, ?_, ?_⟩
    · refine List.forall_mem_append.mpr ⟨hI.lt, List.forall_mem_singleton.mpr ?_⟩
      rw [hs]; exact Nat.mod_lt _ (by omega)
    · simp only [List.length_append, List.length_cons, List.length_nil]; omega
    · rw [Vr_reverse_snoc, hs, hI.dig]
      have h32 : N * 2 ^ (5 - s.bits) / 2 ^ 5 = N / 2 ^ s.bits := by
        rw [two_pow_split s.bits 5 (by omega), Nat.mul_div_mul_right _ _ (Nat.two_pow_pos _)]
      rw [← h32]
      exact Nat.mod_add_div _ _
  · refine ⟨hI.lt, 0, by omega, by omega, ?_⟩
    rw [hI.dig, show s.bits = 0 by omega]; simp

/-- 5 → 8 without padding on a string that is `N·2^p` in base 32 (p < 5 padding bits, all zero):
    the result is the n-digit base-256 string of N. -/
theorem convertBits_58_spec (d prog : Bytes) (p : Nat) (hd : ∀ x ∈ d, x.toNat < 2 ^ 5) (hp : p < 5)
    (hl : 5 * d.length = 8 * prog.length + p) (hv : Vr 5 d.reverse = Vr 8 prog.reverse * 2 ^ p) :
    convertBits 8 d 5 false = some prog := by
  obtain ⟨s, hI, hb, hl', e⟩ := convertBits_spec 8 5 (by omega) (by omega) (by omega) d hd false
  rw [e, hv] at *
  have hbp : s.bits = p := by omega
  have hlen : s.out.length = prog.length := by omega
  have hdig := hI.dig
  rw [hbp, Nat.mul_div_cancel _ (Nat.two_pow_pos _)] at hdig
  have hout : s.out = prog := by
    simpa using Vr_inj 8 s.out.reverse prog.reverse (by simpa using hlen)
      (fun x _ => x.toNat_lt) (fun x _ => x.toNat_lt) hdig
  have hz : ((s.val <<< UInt32.ofNat (8 - s.bits)) &&& ((1 <<< UInt32.ofNat 8) - 1)) = 0 := by
    apply UInt32.toNat_inj.1
    rw [last_toNat _ _ _ _ 8 hI.val (maxv_toNat 8 (by omega)) (by omega) (by omega), hbp, Nat.mul_assoc, ← Nat.pow_add,
      Nat.add_sub_cancel' (by omega)]
    simp
  rw [if_neg (by simp), if_neg (by rw [hz]; simp; omega), hout]

theorem convertBits_roundtrip (prog d : Bytes) (h : convertBits 5 prog 8 true = some d) :
    convertBits 8 d 5 false = some prog := by
  obtain ⟨hd, p, hp, hl, hv⟩ := convertBits_85_spec prog d h
  exact convertBits_58_spec d prog p hd hp hl hv

theorem convertBits_85_total (prog : Bytes) : ∃ d, convertBits 5 prog 8 true = some d := by
  obtain ⟨s, _, _, _, e⟩ := convertBits_spec 5 8 (by omega) (by omega) (by omega) prog (fun x _ => x.toNat_lt) true
  rw [e, if_pos rfl]
  split <;> exact ⟨_, rfl⟩

end GocoinV.Bech32
