/-
  Proofs.C16Snappy — emit-level lemmas of the snappy model: what the decoder does with the bytes of one
  `emitLiteral` / one copy tag written by `emitCopy`; and for ANY tag it accepts: it consumes at least one source byte
  (so the loop's fuel does not matter) and at most 5 more than it produces (the size bound).
-/
import GocoinV.Model.Snappy
import GocoinV.Base.Lemmas
namespace GocoinV.Snappy

theorem copyFwd_add (dst : Array UInt8) (off a c : Nat) :
    copyFwd dst off (a + c) = copyFwd (copyFwd dst off a) off c := by
  induction a generalizing dst with
  | zero => simp [copyFwd]
  | succ a ih =>
    rw [Nat.add_right_comm]
    simp only [copyFwd]
    exact ih _

theorem copyFwd_size (dst : Array UInt8) (off n : Nat) : (copyFwd dst off n).size = dst.size + n := by
  induction n generalizing dst with
  | zero => simp [copyFwd]
  | succ n ih => simp only [copyFwd]; rw [ih]; simp; omega

theorem decodeStep_of_lit (dLen : Nat) (src lit rest : Bytes) (dst : Array UInt8) (hdr : Nat)
    (hp : parseTag src = .lit hdr lit.length) (hs : src.drop hdr = lit ++ rest) (hroom : dst.size + lit.length ≤ dLen) :
    decodeStep dLen src dst = .ok (rest, dst ++ lit.toArray) := by
  have hd : src.drop (hdr + lit.length) = rest := by rw [← List.drop_drop, hs, List.drop_left]
  have : ¬ (lit.length > dLen - dst.size ∨ lit.length < lit.length) := by omega
  simp only [decodeStep, hp, hs, List.take_left, this, ↓reduceIte, hd]

theorem decodeStep_of_copy (dLen : Nat) (src : Bytes) (dst : Array UInt8) (hdr offset length : Nat)
    (hp : parseTag src = .copy hdr offset length) (ho : 1 ≤ offset) (hback : offset ≤ dst.size)
    (hroom : dst.size + length ≤ dLen) :
    decodeStep dLen src dst = .ok (src.drop hdr, copyFwd dst offset length) := by
  have : ¬ (offset = 0 ∨ dst.size < offset ∨ length > dLen - dst.size) := by omega
  simp only [decodeStep, hp, this, ↓reduceIte]

theorem parseTag_copy2 (t a c : UInt8) (rest : Bytes) (m : t.toNat % 4 = 2) :
    parseTag (t :: a :: c :: rest) = .copy 3 (a.toNat + 256 * c.toNat) (1 + t.toNat / 4) := by
  simp [parseTag, b, m, shorter]

theorem parseTag_copy1 (t a : UInt8) (rest : Bytes) (m : t.toNat % 4 = 1) :
    parseTag (t :: a :: rest) = .copy 2 (t.toNat / 32 * 256 + a.toNat) (4 + t.toNat / 4 % 8) := by
  simp [parseTag, b, m, shorter]

theorem parseTag_lit1 (t : UInt8) (rest : Bytes) (m : t.toNat % 4 = 0) (h : t.toNat / 4 < 60) :
    parseTag (t :: rest) = .lit 1 (t.toNat / 4 + 1) := by
  simp [parseTag, b, m, h]

theorem parseTag_lit2 (t a : UInt8) (rest : Bytes) (m : t.toNat % 4 = 0) (h : t.toNat / 4 = 60) :
    parseTag (t :: a :: rest) = .lit 2 (a.toNat + 1) := by
  simp [parseTag, b, m, h, shorter]

theorem parseTag_lit3 (t a c : UInt8) (rest : Bytes) (m : t.toNat % 4 = 0) (h : t.toNat / 4 = 61) :
    parseTag (t :: a :: c :: rest) = .lit 3 (a.toNat + 256 * c.toNat + 1) := by
  simp [parseTag, b, m, h, shorter]

/-- the decoder, given the bytes of `emitLiteral lit` followed by anything, appends exactly `lit` -/
theorem decodeStep_emitLiteral (dLen : Nat) (lit rest : Bytes) (dst : Array UInt8)
    (h1 : 1 ≤ lit.length) (h2 : lit.length ≤ 65536) (hroom : dst.size + lit.length ≤ dLen) :
    decodeStep dLen (emitLiteral lit ++ rest) dst = .ok (rest, dst ++ lit.toArray) := by
  unfold emitLiteral
  simp only
  by_cases c1 : lit.length - 1 < 60
  · have e : (UInt8.ofNat ((lit.length - 1) * 4)).toNat = (lit.length - 1) * 4 := ofNat_toNat_small _ (by omega)
    have hp := parseTag_lit1 (UInt8.ofNat ((lit.length - 1) * 4)) (lit ++ rest) (by omega) (by omega)
    rw [e, show (lit.length - 1) * 4 / 4 + 1 = lit.length by omega] at hp
    rw [if_pos c1]
    exact decodeStep_of_lit dLen _ lit rest dst 1 hp rfl hroom
  · rw [if_neg c1]
    by_cases c2 : lit.length - 1 < 256
    · have e : (UInt8.ofNat (lit.length - 1)).toNat = lit.length - 1 := ofNat_toNat_small _ c2
      have hp := parseTag_lit2 (UInt8.ofNat (60 * 4)) (UInt8.ofNat (lit.length - 1)) (lit ++ rest) (by decide) (by decide)
      rw [e, show lit.length - 1 + 1 = lit.length by omega] at hp
      rw [if_pos c2]
      exact decodeStep_of_lit dLen _ lit rest dst 2 hp rfl hroom
    · have ea : (UInt8.ofNat ((lit.length - 1) % 256)).toNat = (lit.length - 1) % 256 := ofNat_toNat_small _ (by omega)
      have eb : (UInt8.ofNat ((lit.length - 1) / 256)).toNat = (lit.length - 1) / 256 := ofNat_toNat_small _ (by omega)
      have hp := parseTag_lit3 (UInt8.ofNat (61 * 4)) (UInt8.ofNat ((lit.length - 1) % 256))
        (UInt8.ofNat ((lit.length - 1) / 256)) (lit ++ rest) (by decide) (by decide)
      rw [ea, eb, show (lit.length - 1) % 256 + 256 * ((lit.length - 1) / 256) + 1 = lit.length by omega] at hp
      rw [if_neg c2]
      exact decodeStep_of_lit dLen _ lit rest dst 3 hp rfl hroom

/-- the decoder, given a 3-byte copy tag written by `emitCopy` followed by anything, performs that copy -/
theorem decodeStep_copy2 (dLen : Nat) (offset length : Nat) (rest : Bytes) (dst : Array UInt8)
    (hl1 : 1 ≤ length) (hl2 : length ≤ 64) (ho1 : 1 ≤ offset) (ho2 : offset < 65536)
    (hback : offset ≤ dst.size) (hroom : dst.size + length ≤ dLen) :
    decodeStep dLen (copy2 offset length ++ rest) dst = .ok (rest, copyFwd dst offset length) := by
  have e0 : (UInt8.ofNat ((length - 1) * 4 + 2)).toNat = (length - 1) * 4 + 2 := ofNat_toNat_small _ (by omega)
  have e1 : (UInt8.ofNat (offset % 256)).toNat = offset % 256 := ofNat_toNat_small _ (by omega)
  have e2 : (UInt8.ofNat (offset / 256)).toNat = offset / 256 := ofNat_toNat_small _ (by omega)
  have hp := parseTag_copy2 (UInt8.ofNat ((length - 1) * 4 + 2)) (UInt8.ofNat (offset % 256)) (UInt8.ofNat (offset / 256))
    rest (by omega)
  rw [e0, e1, e2, show offset % 256 + 256 * (offset / 256) = offset by omega,
    show 1 + ((length - 1) * 4 + 2) / 4 = length by omega] at hp
  exact decodeStep_of_copy dLen _ dst 3 offset length hp ho1 hback hroom

/-- the decoder, given the 2-byte copy tag written by `emitCopy` followed by anything, performs that copy -/
theorem decodeStep_copy1 (dLen : Nat) (offset length : Nat) (rest : Bytes) (dst : Array UInt8)
    (hl1 : 4 ≤ length) (hl2 : length < 12) (ho1 : 1 ≤ offset) (ho2 : offset < 2048)
    (hback : offset ≤ dst.size) (hroom : dst.size + length ≤ dLen) :
    decodeStep dLen ([UInt8.ofNat ((offset / 256) * 32 + (length - 4) * 4 + 1), UInt8.ofNat (offset % 256)] ++ rest) dst
      = .ok (rest, copyFwd dst offset length) := by
  have e0 : (UInt8.ofNat ((offset / 256) * 32 + (length - 4) * 4 + 1)).toNat = (offset / 256) * 32 + (length - 4) * 4 + 1 :=
    ofNat_toNat_small _ (by omega)
  have e1 : (UInt8.ofNat (offset % 256)).toNat = offset % 256 := ofNat_toNat_small _ (by omega)
  have hp := parseTag_copy1 (UInt8.ofNat ((offset / 256) * 32 + (length - 4) * 4 + 1)) (UInt8.ofNat (offset % 256)) rest
    (by omega)
  rw [e0, e1, show ((offset / 256) * 32 + (length - 4) * 4 + 1) / 32 * 256 + offset % 256 = offset by omega,
    show 4 + ((offset / 256) * 32 + (length - 4) * 4 + 1) / 4 % 8 = length by omega] at hp
  exact decodeStep_of_copy dLen _ dst 2 offset length hp ho1 hback hroom

/-! ### what every accepted tag consumes and produces -/

theorem shorter_false (src : Bytes) (k : Nat) (h : ¬ shorter src k = true) : k ≤ src.length := by
  unfold shorter at h
  simp only [List.length_take, decide_eq_true_eq] at h
  omega

/-- a tag with at most 5 header bytes that asks for at least one byte; a copy tag's header is not empty and lies inside `n` source bytes -/
def Tag.Bounded (n : Nat) : Tag → Prop
  | .bad => True
  | .lit h l => h ≤ 5 ∧ 1 ≤ l
  | .copy h _ l => 1 ≤ h ∧ h ≤ 5 ∧ 1 ≤ l ∧ h ≤ n

/-- every leaf of `parseTag`'s decision tree is bounded -/
theorem parseTag_bounded (src : Bytes) : (parseTag src).Bounded src.length := by
  have m4 : b src 0 % 4 = 0 ∨ b src 0 % 4 = 1 ∨ b src 0 % 4 = 2 ∨ b src 0 % 4 = 3 := by omega
  unfold parseTag
  rcases m4 with m | m | m | m <;> simp only [m]
  · repeat' refine ite_cases (fun _ => ?_) (fun _ => ?_)
    all_goals first | trivial | exact And.intro (by decide) (Nat.le_add_left 1 _)
  all_goals
    exact ite_cases (fun _ => trivial)
      (fun h => And.intro (by decide) (And.intro (by decide) (And.intro (by omega) (shorter_false _ _ h))))

/-- every accepted tag consumes at least one source byte, and at most 5 more than it produces -/
theorem decodeStep_bound (dLen : Nat) (src src' : Bytes) (dst dst' : Array UInt8)
    (h : decodeStep dLen src dst = .ok (src', dst')) :
    src'.length < src.length ∧ src.length + 6 * dst.size ≤ src'.length + 6 * dst'.size := by
  unfold decodeStep at h
  split at h
  · cases h
  · rename_i hdr length hpt
    have pf := parseTag_bounded src
    rw [hpt] at pf
    obtain ⟨p1, p2⟩ : hdr ≤ 5 ∧ 1 ≤ length := pf
    simp only at h
    split at h
    · cases h
    · rename_i hc
      simp only [Except.ok.injEq, Prod.mk.injEq] at h
      obtain ⟨h1, h2⟩ := h
      subst h1; subst h2
      have hl : ((src.drop hdr).take length).length = length := by
        have : ((src.drop hdr).take length).length ≤ length := by simp only [List.length_take]; omega
        omega
      have hsrc : hdr + length ≤ src.length := by
        simp only [List.length_take, List.length_drop] at hl; omega
      simp only [List.length_drop, Array.size_append, List.size_toArray, hl]
      omega
  · rename_i hdr offset length hpt
    have pf := parseTag_bounded src
    rw [hpt] at pf
    obtain ⟨p0, p1, p2, p3⟩ : 1 ≤ hdr ∧ hdr ≤ 5 ∧ 1 ≤ length ∧ hdr ≤ src.length := pf
    split at h
    · cases h
    · simp only [Except.ok.injEq, Prod.mk.injEq] at h
      obtain ⟨h1, h2⟩ := h
      subst h1; subst h2
      simp only [List.length_drop, copyFwd_size]
      omega

end GocoinV.Snappy
