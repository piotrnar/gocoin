/-
  Proofs.C13Script — the four output templates the wallet owns, run through the REAL script rules
  (`ScriptSpec.verifyScript`, Spec/Script.lean — the reference semantics C01's `script_equiv` ties gocoin's
  `VerifyTxScript` to). For every oracle instance `O` and every flag set satisfying Core's flag dependencies:
    verifyScript_p2pkh, verifyScript_p2wpkh, verifyScript_p2sh_p2wpkh, verifyScript_p2tr
  state exactly which scriptSig / witness is accepted and which cryptographic facts that needs. Core only.
  A template is RUN instruction by instruction off its bytes (`Run`, `evalScript_of_run`). The compositional level is
  `execInstrs` over `parse`, not `evalScript`: `evalScript` puts the WHOLE script into `State.code` (the script code
  OP_CHECKSIG hashes) and counts operations and positions from zero, so "evalScript of pushes ++ ops from the empty
  stack = evalScript of ops from the pushed stack" is false.
-/
import GocoinV.Spec.Script
import GocoinV.Proofs.C01Decode
namespace GocoinV.Proofs.C13S
open GocoinV GocoinV.ScriptSpec
open GocoinV.Script (Oracles TxCtx SigVersion)

theorem parseOne_direct (b rest : Bytes) (h1 : b.length ≤ 75) :
    parseOne (UInt8.ofNat b.length :: (b ++ rest)) = some ⟨b.length, b, rest⟩ := by
  have e : (UInt8.ofNat b.length).toNat = b.length := ofNat_toNat_small _ (by omega)
  simp only [parseOne, e]
  have c1 : b.length ≤ 0x4e := by omega
  have c2 : b.length < 0x4c := by omega
  simp [c1, c2]

theorem parseAux_step (f : Nat) (s : Bytes) (i : Instr) (hs : s ≠ []) (hp : parseOne s = some i) :
    parseAux (f + 1) s = (i :: (parseAux f i.after).1, (parseAux f i.after).2) := by
  simp [parseAux, List.isEmpty_eq_false_iff.mpr hs, hp]

theorem parse_cons {s : Bytes} {i : Instr} (hs : s ≠ []) (hp : parseOne s = some i) :
    parse s = (i :: (parse i.after).1, (parse i.after).2) := by
  have hlt := Proofs.C01.parseOne_after_lt s i hp
  unfold parse
  obtain ⟨f, hf⟩ : ∃ f, s.length = f + 1 := ⟨s.length - 1, by omega⟩
  rw [hf, parseAux_step f s i hs hp, Proofs.C01.parseAux_fuel f i.after.length i.after (by omega) (Nat.le_refl _)]

theorem parse_op {c : UInt8} {rest : Bytes} (hc : parseOne (c :: rest) = some ⟨c.toNat, [], rest⟩) :
    parse (c :: rest) = (⟨c.toNat, [], rest⟩ :: (parse rest).1, (parse rest).2) :=
  parse_cons (by simp) hc

/-- `buscr.WriteByte(byte(len)); buscr.Write(data)` — a direct push -/
def dpush (b : Bytes) : Bytes := UInt8.ofNat b.length :: b

theorem parse_dpush (a rest : Bytes) (ha : a.length ≤ 75) :
    parse (dpush a ++ rest) = (⟨a.length, a, rest⟩ :: (parse rest).1, (parse rest).2) :=
  parse_cons (by simp [dpush]) (parseOne_direct a rest ha)

/-- a successful run of a script, read off its bytes: one-byte instructions (opcodes above the push range, OP_0) and
    direct pushes -/
inductive Run (e : Env) : Bytes → Nat → State → State → Prop
  | nil {pos st} : Run e [] pos st st
  | op {c : UInt8} {rest pos st st' st''} (hc : parseOne (c :: rest) = some ⟨c.toNat, [], rest⟩)
      (h : execInstr e st ⟨c.toNat, [], rest⟩ pos = .ok st') (r : Run e rest (pos + 1) st' st'') : Run e (c :: rest) pos st st''
  | push {a rest : Bytes} {pos st st' st''} (ha : a.length ≤ 75)
      (h : execInstr e st ⟨a.length, a, rest⟩ pos = .ok st') (r : Run e rest (pos + 1) st' st'') :
      Run e (dpush a ++ rest) pos st st''

theorem Run.exec {e : Env} {s : Bytes} {pos : Nat} {st st' : State} (r : Run e s pos st st') :
    (parse s).2 = false ∧ execInstrs e (parse s).1 pos st = .ok st' := by
  induction r with
  | nil => exact ⟨rfl, rfl⟩
  | op hc h _ ih => rw [parse_op hc]; exact ⟨ih.1, by simp only [execInstrs, h, bind, Except.bind]; exact ih.2⟩
  | push ha h _ ih => rw [parse_dpush _ _ ha]; exact ⟨ih.1, by simp only [execInstrs, h, bind, Except.bind]; exact ih.2⟩

/-- `s'` is the script `s` in the shape the run reads (`c :: …`, `dpush a ++ …`); `State.code` keeps `s` as it is given -/
theorem evalScript_of_run {e : Env} {s s' : Bytes} {stack : List Bytes} {w : Int} {st' : State}
    {out : List Bytes} (hsz : s.length ≤ MAX_SCRIPT_SIZE) (hs : s = s')
    (r : Run e s' 0 { stack := stack, code := s, weightLeft := w } st') (hc : st'.cond.empty = true) (ho : st'.stack = out) :
    evalScript e s stack w = .ok out := by
  subst hs ho
  obtain ⟨h1, h2⟩ := r.exec
  have : ¬ s.length > MAX_SCRIPT_SIZE := by omega
  generalize hp : parse s = p at h1 h2
  obtain ⟨is, bad⟩ := p
  simp only at h1 h2
  subst h1
  simp [evalScript, this, hp, h2, hc, bind, Except.bind, pure, Except.pure]

theorem minimalPush_direct (b : Bytes) (h2 : 2 ≤ b.length) (h75 : b.length ≤ 75) :
    checkMinimalPush b b.length = true := by
  match b, h2 with
  | x :: y :: r, _ =>
    simp only [checkMinimalPush]
    simp at h75 ⊢
    omega

theorem execInstr_push (e : Env) (st : State) (b after : Bytes) (pos : Nat)
    (h2 : 2 ≤ b.length) (h75 : b.length ≤ 75) (hexec : st.cond.allTrue = true)
    (hsz : st.stack.length + 1 + st.alt.length ≤ 1000) :
    execInstr e st ⟨b.length, b, after⟩ pos = .ok (push st b) := by
  have hm := minimalPush_direct b h2 h75
  have c1 : ¬ (b.length > MAX_SCRIPT_ELEMENT_SIZE) := by unfold MAX_SCRIPT_ELEMENT_SIZE; omega
  have c2 : ¬ (b.length > 0x60) := by omega
  have c3 : isDisabledOpcode b.length = false := by
    unfold isDisabledOpcode
    simp
    omega
  have c4 : (b.length == 0xab) = false := by simp; omega
  have c5 : b.length ≤ 0x4e := by omega
  have c6 : ¬ ((push st b).stack.length + (push st b).alt.length > MAX_STACK_SIZE) := by
    simp [push, MAX_STACK_SIZE]; omega
  simp only [execInstr, c1, c2, c3, c4, c5, hexec, hm, bind, Except.bind, pure, Except.pure,
    ↓reduceIte, decide_false, decide_true, Bool.and_false, Bool.false_and, Bool.not_true, Bool.and_true,
    Bool.false_eq_true, c6]


theorem execInstr_op (e : Env) (st : State) (op : Nat) (after : Bytes) (pos : Nat)
    (hsv : e.sv = .base ∨ e.sv = .witnessV0) (hop : op > 0x60) (hdis : isDisabledOpcode op = false)
    (hab : op ≠ 0xab) (hexec : st.cond.allTrue = true) (hcnt : st.opCount + 1 ≤ MAX_OPS_PER_SCRIPT)
    {st' : State}
    (hrun : execOpcode e { st with opCount := st.opCount + 1 } ⟨op, [], after⟩ true pos = .ok st')
    (hsz : st'.stack.length + st'.alt.length ≤ MAX_STACK_SIZE) :
    execInstr e st ⟨op, [], after⟩ pos = .ok st' := by
  have c1 : ¬ (([] : Bytes).length > MAX_SCRIPT_ELEMENT_SIZE) := by simp
  have c2 : ((e.sv == SigVersion.base || e.sv == SigVersion.witnessV0) && decide (op > 0x60)) = true := by
    rcases hsv with h | h <;> simp [h, hop]
  have c3 : ¬ (st.opCount + 1 > MAX_OPS_PER_SCRIPT) := by omega
  have c4 : (op == 0xab) = false := by simp [hab]
  have c5 : ¬ (op ≤ 0x4e) := by omega
  have c6 : ¬ (st'.stack.length + st'.alt.length > MAX_STACK_SIZE) := by omega
  simp only [execInstr, c1, c2, c3, c4, c5, hdis, hexec, bind, Except.bind, pure, Except.pure,
    ↓reduceIte, decide_false, Bool.and_false, Bool.false_and, Bool.false_eq_true, Bool.true_or, hrun, c6]

theorem execOpcode_dup (e : Env) (st : State) (x : Bytes) (r : List Bytes) (after : Bytes) (pos : Nat)
    (hs : st.stack = x :: r) :
    execOpcode e st ⟨0x76, [], after⟩ true pos = .ok { st with stack := x :: x :: r } := by
  simp [execOpcode, isShuffle, shuffle, hs, pure, Except.pure]

theorem execOpcode_hash160 (e : Env) (st : State) (x : Bytes) (r : List Bytes) (after : Bytes) (pos : Nat)
    (hs : st.stack = x :: r) :
    execOpcode e st ⟨0xa9, [], after⟩ true pos = .ok { st with stack := e.O.hash160 x :: r } := by
  simp [execOpcode, isShuffle, isUnaryNum, isBinaryNum, opHash, pop1, hs, push, bind, Except.bind, pure, Except.pure]

theorem execOpcode_equalverify (e : Env) (st : State) (x : Bytes) (r : List Bytes) (after : Bytes) (pos : Nat)
    (hs : st.stack = x :: x :: r) :
    execOpcode e st ⟨0x88, [], after⟩ true pos = .ok { st with stack := r } := by
  simp [execOpcode, isShuffle, opEqual, hs, pure, Except.pure]

theorem execOpcode_equal (e : Env) (st : State) (x : Bytes) (r : List Bytes) (after : Bytes) (pos : Nat)
    (hs : st.stack = x :: x :: r) :
    execOpcode e st ⟨0x87, [], after⟩ true pos = .ok { st with stack := vchTrue :: r } := by
  simp [execOpcode, isShuffle, opEqual, hs, pure, Except.pure, ofBool]


theorem checkSignatureEncoding_ok (f : Flags) (sig : Bytes) (hv : isValidSignatureEncoding sig = true)
    (hlow : derS sig ≤ secpHalfOrder) (hht : isDefinedHashtypeSignature sig = true) :
    checkSignatureEncoding f sig = .ok () := by
  have hne : sig.isEmpty = false := by
    cases sig with
    | nil => simp [isDefinedHashtypeSignature] at hht
    | cons _ _ => rfl
  unfold checkSignatureEncoding isLowDERSignature
  cases f.dersig <;> cases f.lowS <;> cases f.strictenc <;>
    simp [hne, hv, hlow, hht, bind, Except.bind, pure, Except.pure]

theorem compressed_is_key (pk : Bytes) (h : isCompressedPubKey pk = true) :
    isCompressedOrUncompressedPubKey pk = true := by
  cases pk with
  | nil => simp [isCompressedPubKey] at h
  | cons a t =>
    simp only [isCompressedPubKey, Bool.and_eq_true, beq_iff_eq, Bool.or_eq_true] at h
    obtain ⟨hl, ha⟩ := h
    simp only [isCompressedOrUncompressedPubKey, hl]
    rcases ha with rfl | rfl <;> simp

theorem checkPubKeyEncoding_ok (f : Flags) (sv : SigVersion) (pk : Bytes) (h : isCompressedPubKey pk = true) :
    checkPubKeyEncoding f sv pk = .ok () := by
  have h2 := compressed_is_key pk h
  unfold checkPubKeyEncoding
  cases f.strictenc <;> cases f.witnessPubkeytype <;> simp [h, h2, pure, Except.pure]

theorem checkECDSA_ok (e : Env) (sig pk sc d : Bytes) (ht : UInt8) (hl : sig.getLast? = some ht) (hpk : pk ≠ [])
    (hd : (if e.sv == .witnessV0 then e.O.sigHashWitV0 sc ht.toNat else e.O.sigHashLegacy sc ht.toNat) = some d)
    (hv : e.O.ecdsaVerify pk sig d = some true) :
    checkECDSASignature e sig pk sc = .ok true := by
  unfold checkECDSASignature
  simp only [hl, List.isEmpty_eq_false_iff.mpr hpk, Bool.false_eq_true, ↓reduceIte]
  by_cases hw : (e.sv == SigVersion.witnessV0) = true
  · simp only [hw, ↓reduceIte] at hd ⊢
    simp [hd, hv, ask, bind, Except.bind, pure, Except.pure]
  · simp only [hw, Bool.false_eq_true, ↓reduceIte] at hd ⊢
    simp [hd, hv, ask, bind, Except.bind, pure, Except.pure]

theorem execOpcode_checksig (e : Env) (st : State) (sig pk d : Bytes) (ht : UInt8) (r : List Bytes) (after : Bytes) (pos : Nat)
    (hsv : e.sv = .base ∨ e.sv = .witnessV0)
    (hs : st.stack = pk :: sig :: r)
    (hfd : e.sv = .base → findAndDelete st.code (pushEncoding sig) = (st.code, 0))
    (hv : isValidSignatureEncoding sig = true) (hlow : derS sig ≤ secpHalfOrder)
    (hht : isDefinedHashtypeSignature sig = true) (hpk : isCompressedPubKey pk = true)
    (hl : sig.getLast? = some ht)
    (hd : (if e.sv == .witnessV0 then e.O.sigHashWitV0 st.code ht.toNat else e.O.sigHashLegacy st.code ht.toNat) = some d)
    (hver : e.O.ecdsaVerify pk sig d = some true) :
    execOpcode e st ⟨0xac, [], after⟩ true pos = .ok { st with stack := vchTrue :: r } := by
  have hpkne : pk ≠ [] := by intro h; subst h; simp [isCompressedPubKey] at hpk
  have h1 := checkSignatureEncoding_ok e.f sig hv hlow hht
  have h2 := checkPubKeyEncoding_ok e.f e.sv pk hpk
  have h3 := checkECDSA_ok e sig pk st.code d ht hl hpkne hd hver
  have hpre : evalChecksigPreTapscript e st sig pk = .ok true := by
    unfold evalChecksigPreTapscript
    rcases hsv with h | h
    · have hb : (e.sv == SigVersion.base) = true := by simp [h]
      simp [hb, hfd h, h1, h2, h3, bind, Except.bind, pure, Except.pure]
    · have hb : (e.sv == SigVersion.base) = false := by simp [h]
      simp [hb, h1, h2, h3, bind, Except.bind, pure, Except.pure]
  have hev : evalChecksig e st sig pk = .ok (true, st) := by
    unfold evalChecksig
    rcases hsv with h | h <;> simp [h, hpre, bind, Except.bind, pure, Except.pure]
  simp [execOpcode, isShuffle, isUnaryNum, isBinaryNum, opChecksig, hs, hev, bind, Except.bind, pure, Except.pure, ofBool]


/-! ### the P2PKH-shaped script `DUP HASH160 <h> EQUALVERIFY CHECKSIG` -/

def pkhScript (h : Bytes) : Bytes := 0x76 :: 0xa9 :: 20 :: (h ++ [0x88, 0xac])

theorem pkhScript_length (h : Bytes) (hl : h.length = 20) : (pkhScript h).length = 25 := by
  simp [pkhScript, hl]


theorem valid_len (s : Bytes) (h : isValidSignatureEncoding s = true) : 9 ≤ s.length ∧ s.length ≤ 73 := by
  unfold isValidSignatureEncoding at h
  simp only [Bool.and_eq_true, decide_eq_true_eq] at h
  exact ⟨h.1.1.1.1, h.1.1.1.2⟩

/-- the facts about a (signature ‖ hash type, public key) pair that make OP_CHECKSIG push true -/
structure GoodSig (O : Oracles) (sv : SigVersion) (code sigh pub : Bytes) : Prop where
  valid : isValidSignatureEncoding sigh = true
  low : derS sigh ≤ secpHalfOrder
  hashtype : isDefinedHashtypeSignature sigh = true
  compressed : isCompressedPubKey pub = true
  crypto : ∃ (ht : UInt8) (d : Bytes), sigh.getLast? = some ht ∧
    (if sv == .witnessV0 then O.sigHashWitV0 code ht.toNat else O.sigHashLegacy code ht.toNat) = some d ∧
    O.ecdsaVerify pub sigh d = some true

theorem evalScript_pkh (e : Env) (h pub sigh : Bytes) (w : Int)
    (hsv : e.sv = .base ∨ e.sv = .witnessV0) (hl : h.length = 20)
    (hh : e.O.hash160 pub = h)
    (hfd : e.sv = .base → findAndDelete (pkhScript h) (pushEncoding sigh) = (pkhScript h, 0))
    (hg : GoodSig e.O e.sv (pkhScript h) sigh pub) :
    evalScript e (pkhScript h) [pub, sigh] w = .ok [vchTrue] := by
  obtain ⟨hv, hlow, hht, hpk, ht, d, hlast, hd, hver⟩ := hg
  subst hh
  have hp := execInstr_push e { stack := [e.O.hash160 pub, pub, sigh], opCount := 2, code := pkhScript (e.O.hash160 pub), weightLeft := w }
    (e.O.hash160 pub) [0x88, 0xac] 2 (by omega) (by omega) rfl (by simp)
  -- the states are written out: left to unification, `hfd` makes the elaborator unfold `findAndDelete`
  have h5 := execOpcode_checksig e { stack := [pub, sigh], opCount := 3 + 1, code := pkhScript (e.O.hash160 pub), weightLeft := w }
    sigh pub d ht [] [] 4 hsv rfl hfd hv hlow hht hpk hlast hd hver
  exact evalScript_of_run (by rw [pkhScript_length _ hl]; decide)
    (show pkhScript (e.O.hash160 pub) = 0x76 :: 0xa9 :: (dpush (e.O.hash160 pub) ++ [0x88, 0xac]) by simp [pkhScript, dpush, hl])
    (.op rfl (execInstr_op e _ 0x76 _ 0 hsv (by decide) (by decide) (by decide) rfl (by simp [MAX_OPS_PER_SCRIPT])
        (execOpcode_dup e _ pub [sigh] _ 0 rfl) (by simp [MAX_STACK_SIZE]))  -- DUP
    (.op rfl (execInstr_op e _ 0xa9 _ 1 hsv (by decide) (by decide) (by decide) rfl (by simp [MAX_OPS_PER_SCRIPT])
        (execOpcode_hash160 e _ pub [pub, sigh] _ 1 rfl) (by simp [MAX_STACK_SIZE]))  -- HASH160
    (.push (by omega) hp
    (.op rfl (execInstr_op e _ 0x88 _ 3 hsv (by decide) (by decide) (by decide) rfl (by simp [MAX_OPS_PER_SCRIPT, push])
        (execOpcode_equalverify e _ (e.O.hash160 pub) [pub, sigh] _ 3 rfl) (by simp [MAX_STACK_SIZE, push]))  -- EQUALVERIFY
    (.op rfl (execInstr_op e { stack := [pub, sigh], opCount := 3, code := pkhScript (e.O.hash160 pub), weightLeft := w } 0xac [] 4 hsv
        (by decide) (by decide) (by decide) rfl (by simp [MAX_OPS_PER_SCRIPT]) h5 (by simp [MAX_STACK_SIZE, vchTrue]))  -- CHECKSIG
      .nil))))) rfl rfl


/-! ### FindAndDelete finds nothing in the P2PKH script (unless the signature IS the 20-byte hash) -/

theorem pushEncoding_head (x : Bytes) : ∃ c t, pushEncoding x = c :: t ∧ c.toNat ≤ 0x4e ∧
    (c = 20 → x.length = 20 ∧ t = x) := by
  unfold pushEncoding
  by_cases h1 : x.length < 0x4c
  · refine ⟨UInt8.ofNat x.length, x, by simp [h1], ?_, ?_⟩
    · rw [ofNat_toNat_small _ (by omega)]; omega
    · intro hc
      have := congrArg UInt8.toNat hc
      rw [ofNat_toNat_small _ (by omega)] at this
      exact ⟨this, rfl⟩
  · by_cases h2 : x.length ≤ 0xff
    · exact ⟨0x4c, UInt8.ofNat x.length :: x, by simp [h1, h2], by decide, by intro h; exact absurd h (by decide)⟩
    · by_cases h3 : x.length ≤ 0xffff
      · exact ⟨0x4d, leBytes 2 x.length ++ x, by simp [h1, h2, h3], by decide, by intro h; exact absurd h (by decide)⟩
      · exact ⟨0x4e, leBytes 4 x.length ++ x, by simp [h1, h2, h3], by decide, by intro h; exact absurd h (by decide)⟩

theorem startsWith_head_ne {c c' : UInt8} {t t' : Bytes} (h : c ≠ c') : startsWith (c :: t) (c' :: t') = false := by
  simp [startsWith, h]

theorem skipMatches_none (b pc : Bytes) (f found : Nat) (h : startsWith pc b = false) :
    skipMatches b f pc found = (pc, found) := by
  cases f <;> simp [skipMatches, h]

theorem fad_step {b pc result : Bytes} {found f : Nat} {i : Instr} (hs : startsWith pc b = false)
    (hp : parseOne pc = some i) :
    findAndDeleteAux b (f + 1) pc result found =
      findAndDeleteAux b f i.after (result ++ pc.take (pc.length - i.after.length)) found := by
  simp only [findAndDeleteAux, skipMatches_none b pc _ found hs, hp]

theorem fad_end {b result : Bytes} {found f : Nat} (hs : startsWith [] b = false) :
    findAndDeleteAux b f [] result found = (result, found) := by
  cases f with
  | zero => simp [findAndDeleteAux]
  | succ f => simp [findAndDeleteAux, skipMatches_none b [] _ found hs, parseOne]

theorem findAndDelete_pkh (h x : Bytes) (hl : h.length = 20) (hx : x ≠ h) :
    findAndDelete (pkhScript h) (pushEncoding x) = (pkhScript h, 0) := by
  obtain ⟨c, t, hb, hc, h20⟩ := pushEncoding_head x
  have big : ∀ (d : UInt8) (r : Bytes), d.toNat > 0x4e → startsWith (d :: r) (pushEncoding x) = false := by
    intro d r hd
    rw [hb]
    apply startsWith_head_ne
    intro e; subst e; omega
  have mid : startsWith (20 :: (h ++ [0x88, 0xac])) (pushEncoding x) = false := by
    rw [hb]
    by_cases e : c = 20
    · obtain ⟨hxl, rfl⟩ := h20 e
      subst e
      simp only [startsWith, List.length_cons, hxl, List.take_succ_cons]
      rw [List.take_left' hl]
      simp
      exact fun e => hx e.symm
    · exact startsWith_head_ne (fun e' => e e'.symm)
  have hne : (pushEncoding x).isEmpty = false := by rw [hb]; rfl
  have p3 : parseOne (20 :: (h ++ [0x88, 0xac])) = some ⟨20, h, [0x88, 0xac]⟩ := by
    have := parseOne_direct h [0x88, 0xac] (by omega)
    rwa [hl] at this
  have fin : startsWith [] (pushEncoding x) = false := by rw [hb]; simp [startsWith]
  unfold findAndDelete
  simp only [hne, Bool.false_eq_true, ↓reduceIte, pkhScript_length h hl]
  unfold pkhScript
  rw [fad_step (big 0x76 _ (by decide)) rfl]
  rw [fad_step (big 0xa9 _ (by decide)) rfl]
  rw [fad_step mid p3]
  rw [fad_step (big 0x88 _ (by decide)) rfl]
  rw [fad_step (big 0xac _ (by decide)) rfl]
  rw [fad_end fin]
  simp


/-! ### scriptSigs: one or two direct pushes -/

theorem evalScript_push2 (e : Env) (a b : Bytes) (w : Int) (ha2 : 2 ≤ a.length) (ha : a.length ≤ 75)
    (hb2 : 2 ≤ b.length) (hb : b.length ≤ 75) :
    evalScript e (dpush a ++ dpush b) [] w = .ok [b, a] := by
  exact evalScript_of_run (by simp [dpush, MAX_SCRIPT_SIZE]; omega)
    (show _ = dpush a ++ (dpush b ++ []) by simp)
    (.push ha (execInstr_push e _ a _ 0 ha2 ha rfl (by simp))
    (.push hb (execInstr_push e _ b _ 1 hb2 hb rfl (by simp [push])) .nil)) rfl rfl

theorem evalScript_push1 (e : Env) (a : Bytes) (w : Int) (ha2 : 2 ≤ a.length) (ha : a.length ≤ 75) :
    evalScript e (dpush a) [] w = .ok [a] := by
  exact evalScript_of_run (by simp [dpush, MAX_SCRIPT_SIZE]; omega)
    (show _ = dpush a ++ [] by simp) (.push ha (execInstr_push e _ a _ 0 ha2 ha rfl (by simp)) .nil) rfl rfl

theorem evalScript_nil (e : Env) (w : Int) : evalScript e [] [] w = .ok [] := by
  simp [evalScript, parse, parseAux, execInstrs, MAX_SCRIPT_SIZE, Cond.empty, bind, Except.bind, pure, Except.pure]

theorem isPushOnly_push2 (a b : Bytes) (ha : a.length ≤ 75) (hb : b.length ≤ 75) :
    isPushOnly (dpush a ++ dpush b) = true := by
  unfold isPushOnly
  rw [parse_dpush a _ ha, ← List.append_nil (dpush b), parse_dpush b _ hb]
  simp [parse, parseAux]; omega

theorem isPushOnly_push1 (a : Bytes) (ha : a.length ≤ 75) : isPushOnly (dpush a) = true := by
  unfold isPushOnly
  rw [← List.append_nil (dpush a), parse_dpush a _ ha]
  simp [parse, parseAux]; omega

theorem isPushOnly_nil : isPushOnly [] = true := by decide


/-! ### witness-program scriptPubKeys and the P2SH scriptPubKey -/

theorem execInstr_op0 (e : Env) (st : State) (after : Bytes) (pos : Nat) (hexec : st.cond.allTrue = true)
    (hsz : st.stack.length + 1 + st.alt.length ≤ 1000) :
    execInstr e st ⟨0, [], after⟩ pos = .ok (push st []) := by
  simp [execInstr, hexec, checkMinimalPush, isDisabledOpcode, MAX_SCRIPT_ELEMENT_SIZE, push, MAX_STACK_SIZE, bind, Except.bind, pure, Except.pure]
  omega

theorem execInstr_op1 (e : Env) (st : State) (after : Bytes) (pos : Nat) (hexec : st.cond.allTrue = true)
    (hsz : st.stack.length + 1 + st.alt.length ≤ 1000) :
    execInstr e st ⟨0x51, [], after⟩ pos = .ok (push st [1]) := by
  have enc : ScriptNum.encode 1 = [1] := by decide
  simp [execInstr, execOpcode, hexec, isDisabledOpcode, MAX_SCRIPT_ELEMENT_SIZE, pushNum, enc, push, MAX_STACK_SIZE, bind, Except.bind, pure, Except.pure]
  omega

def wpkhScript (h : Bytes) : Bytes := 0 :: 20 :: h
def trScript (q : Bytes) : Bytes := 0x51 :: 32 :: q
def shScript (sh : Bytes) : Bytes := 0xa9 :: 20 :: (sh ++ [0x87])

/-- a witness-program scriptPubKey, `<version opcode> <push of 2..75 bytes>`, leaves [program, version] -/
theorem evalScript_wprog (e : Env) (v : UInt8) (top q : Bytes) (w : Int) (h2 : 2 ≤ q.length) (h75 : q.length ≤ 75)
    (hv : ∀ rest, parseOne (v :: rest) = some ⟨v.toNat, [], rest⟩)
    (hex : ∀ (st : State) (after : Bytes) (pos : Nat), st.cond.allTrue = true →
      st.stack.length + 1 + st.alt.length ≤ 1000 → execInstr e st ⟨v.toNat, [], after⟩ pos = .ok (push st top)) :
    evalScript e (v :: UInt8.ofNat q.length :: q) [] w = .ok [q, top] := by
  exact evalScript_of_run (by simp [MAX_SCRIPT_SIZE]; omega)
    (show _ = v :: (dpush q ++ []) by simp [dpush])
    (.op (hv _) (hex _ _ 0 rfl (by simp)) (.push h75 (execInstr_push e _ q [] 1 h2 h75 rfl (by simp [push])) .nil)) rfl rfl

theorem evalScript_wpkh (e : Env) (h : Bytes) (w : Int) (hl : h.length = 20) :
    evalScript e (wpkhScript h) [] w = .ok [h, []] := by
  have := evalScript_wprog e 0 [] h w (by omega) (by omega) (fun _ => rfl) (execInstr_op0 e)
  rwa [hl] at this

theorem evalScript_tr (e : Env) (q : Bytes) (w : Int) (hl : q.length = 32) :
    evalScript e (trScript q) [] w = .ok [q, [1]] := by
  have := evalScript_wprog e 0x51 [1] q w (by omega) (by omega) (fun _ => rfl) (execInstr_op1 e)
  rwa [hl] at this

theorem evalScript_sh (e : Env) (sh redeem : Bytes) (rest : List Bytes) (w : Int) (hsv : e.sv = .base) (hl : sh.length = 20)
    (hh : e.O.hash160 redeem = sh) (hr : rest.length ≤ 100) :
    evalScript e (shScript sh) (redeem :: rest) w = .ok (vchTrue :: rest) := by
  subst hh
  have hpush := execInstr_push e { stack := e.O.hash160 redeem :: rest, opCount := 1, code := shScript (e.O.hash160 redeem), weightLeft := w }
    (e.O.hash160 redeem) [0x87] 1 (by omega) (by omega) rfl (by simp; omega)
  exact evalScript_of_run (by simp [shScript, hl, MAX_SCRIPT_SIZE])
    (show shScript (e.O.hash160 redeem) = 0xa9 :: (dpush (e.O.hash160 redeem) ++ [0x87]) by simp [shScript, dpush, hl])
    (.op rfl (execInstr_op e _ 0xa9 _ 0 (Or.inl hsv) (by decide) (by decide) (by decide) rfl (by simp [MAX_OPS_PER_SCRIPT])
        (execOpcode_hash160 e _ redeem rest _ 0 rfl) (by simp [MAX_STACK_SIZE]; omega))
    (.push (by omega) hpush
    (.op rfl (execInstr_op e _ 0x87 _ 2 (Or.inl hsv) (by decide) (by decide) (by decide) rfl (by simp [MAX_OPS_PER_SCRIPT, push])
        (execOpcode_equal e _ (e.O.hash160 redeem) rest _ 2 rfl) (by simp [MAX_STACK_SIZE, vchTrue, push]; omega)) .nil))) rfl rfl


theorem witnessProgram_pkh (h : Bytes) : witnessProgram? (pkhScript h) = none := by
  simp [witnessProgram?, pkhScript]

theorem witnessProgram_sh (sh : Bytes) : witnessProgram? (shScript sh) = none := by
  simp [witnessProgram?, shScript]

theorem witnessProgram_wpkh (h : Bytes) (hl : h.length = 20) : witnessProgram? (wpkhScript h) = some (0, h) := by
  simp [witnessProgram?, wpkhScript, hl]

theorem witnessProgram_tr (q : Bytes) (hl : q.length = 32) : witnessProgram? (trScript q) = some (1, q) := by
  simp [witnessProgram?, trScript, hl]

theorem isP2SH_pkh (h : Bytes) (hl : h.length = 20) : isPayToScriptHash (pkhScript h) = false := by
  simp [isPayToScriptHash, pkhScript, hl]

theorem isP2SH_wpkh (h : Bytes) (hl : h.length = 20) : isPayToScriptHash (wpkhScript h) = false := by
  simp [isPayToScriptHash, wpkhScript, hl]

theorem isP2SH_tr (q : Bytes) (hl : q.length = 32) : isPayToScriptHash (trScript q) = false := by
  simp [isPayToScriptHash, trScript, hl]

theorem isP2SH_sh (sh : Bytes) (hl : sh.length = 20) : isPayToScriptHash (shScript sh) = true := by
  simp [isPayToScriptHash, shScript, hl, List.drop_left' hl]

theorem castToBool_true : castToBool vchTrue = true := by decide

/-- A P2PKH output `DUP HASH160 <h> EQUALVERIFY CHECKSIG` is spent, under EVERY flag set (consensus and
    all standardness flags; no dependency between flags is needed), by scriptSig = <sig‖ht> <pub> and an empty witness, when HASH160(pub) = h, the
    signature is strict DER / low S / defined hash type, the key compressed, the signature differs from the hash
    itself (FindAndDelete) and the ECDSA check on the LEGACY digest of the scriptPubKey succeeds. -/
theorem verifyScript_p2pkh (O : Oracles) (tx : TxCtx) (f : Flags) (q : Quirks) (h sigh pub : Bytes)
    (hl : h.length = 20)
    (hss : tx.sigScript = dpush sigh ++ dpush pub) (hw : tx.witness = [])
    (hp2 : 2 ≤ pub.length) (hp75 : pub.length ≤ 75)
    (hh : O.hash160 pub = h) (hne : sigh ≠ h)
    (hg : GoodSig O .base (pkhScript h) sigh pub) :
    verifyScript O tx (pkhScript h) f q = .ok () := by
  obtain ⟨hs9, hs73⟩ := valid_len sigh hg.valid
  have hs2 : 2 ≤ sigh.length := by omega
  have hs75 : sigh.length ≤ 75 := by omega
  have e1 := evalScript_push2 ⟨O, tx, f, .base, q, [], none⟩ sigh pub 0 hs2 hs75 hp2 hp75
  have e2 := evalScript_pkh ⟨O, tx, f, .base, q, [], none⟩ h pub sigh 0 (Or.inl rfl) hl hh
    (fun _ => findAndDelete_pkh h sigh hl hne) hg
  have hpo := isPushOnly_push2 sigh pub hs75 hp75
  unfold verifyScript
  simp only [hss, hpo, e1, e2, hw, witnessStep, witnessProgram_pkh, isP2SH_pkh h hl, castToBool_true,
    bind, Except.bind, pure, Except.pure]
  simp [vchTrue]


/-! ### witness v0 key hash, taproot key path -/

theorem pkh_of_pushEncoding (h : Bytes) (hl : h.length = 20) :
    [0x76, 0xa9] ++ pushEncoding h ++ [0x88, 0xac] = pkhScript h := by
  simp [pushEncoding, hl, pkhScript]

theorem verifyWP_v0_keyhash (O : Oracles) (tx : TxCtx) (f : Flags) (q : Quirks) (h sigh pub : Bytes) (isP2sh : Bool)
    (hl : h.length = 20) (hp : pub.length ≤ 520) (hh : O.hash160 pub = h)
    (hg : GoodSig O .witnessV0 (pkhScript h) sigh pub) :
    verifyWitnessProgram O tx f q [sigh, pub] 0 h isP2sh = .ok () := by
  have hs : sigh.length ≤ 520 := by have := (valid_len sigh hg.valid).2; omega
  have e2 := evalScript_pkh ⟨O, tx, f, .witnessV0, q, [], none⟩ h pub sigh 0 (Or.inr rfl) hl hh
    (fun h => by cases h) hg
  have c1 : ¬ (sigh.length > MAX_SCRIPT_ELEMENT_SIZE) := by unfold MAX_SCRIPT_ELEMENT_SIZE; omega
  have c2 : ¬ (pub.length > MAX_SCRIPT_ELEMENT_SIZE) := by unfold MAX_SCRIPT_ELEMENT_SIZE; omega
  unfold verifyWitnessProgram
  simp only [hl, pkh_of_pushEncoding h hl, executeWitnessScript,
    bind, Except.bind, pure, Except.pure]
  simp [c1, c2, e2, vchTrue]
  decide

theorem verifyWP_taproot_key (O : Oracles) (tx : TxCtx) (f : Flags) (qk : Quirks) (sig prog d : Bytes)
    (hl : prog.length = 32) (hs : sig.length = 64)
    (hd : O.sigHashTap none [] 0 0 false = some d) (hv : O.schnorrVerify prog sig d = some true) :
    verifyWitnessProgram O tx f qk [sig] 1 prog false = .ok () := by
  have hdef : tapHashTypeDefined tx 0 = true := by simp [tapHashTypeDefined]
  have ht : sig.take 64 = sig := by rw [← hs]; simp
  unfold verifyWitnessProgram
  cases hf : f.taproot
  · simp [hl, pure, Except.pure]
  · have hb : (SigVersion.taproot == SigVersion.tapscript) = false := by decide
    simp [hl, hs, hdef, ht, checkSchnorrSignature, ask, bind, Except.bind, pure, Except.pure]
    rw [hb, hd]
    simp [hv]


/-- A P2WPKH output `0 <h>` is spent, under every consistent flag set, by an empty scriptSig and the witness
    [sig‖ht, pub], when HASH160(pub) = h, h is not "false" as a stack element (Core evaluates the scriptPubKey
    first and requires a true top), and the ECDSA check on the BIP143 digest with script code
    `DUP HASH160 <h> EQUALVERIFY CHECKSIG` succeeds. -/
theorem verifyScript_p2wpkh (O : Oracles) (tx : TxCtx) (f : Flags) (q : Quirks) (h sigh pub : Bytes)
    (hf : FlagsOk f) (hl : h.length = 20) (hss : tx.sigScript = []) (hw : tx.witness = [sigh, pub])
    (hp : pub.length ≤ 520) (hh : O.hash160 pub = h) (htrue : castToBool h = true)
    (hg : GoodSig O .witnessV0 (pkhScript h) sigh pub) :
    verifyScript O tx (wpkhScript h) f q = .ok () := by
  have e3 := verifyWP_v0_keyhash O tx f q h sigh pub false hl hp hh hg
  obtain ⟨f1, f2, f3⟩ := hf
  unfold verifyScript
  simp only [hss, isPushOnly_nil, evalScript_nil, evalScript_wpkh _ h _ hl, hw, htrue, witnessStep, witnessProgram_wpkh h hl, isP2SH_wpkh h hl, e3,
    bind, Except.bind, pure, Except.pure]
  cases hwf : f.witness <;> simp_all

/-- A P2TR output `1 <q>` is spent by the key path, under every consistent flag set, by an empty scriptSig and
    the witness [sig] with a 64-byte signature (SIGHASH_DEFAULT) that BIP340-verifies under q for the BIP341
    key-path digest (no annex). -/
theorem verifyScript_p2tr (O : Oracles) (tx : TxCtx) (f : Flags) (qk : Quirks) (prog sig d : Bytes)
    (hf : FlagsOk f) (hl : prog.length = 32) (hss : tx.sigScript = []) (hw : tx.witness = [sig])
    (hs : sig.length = 64) (htrue : castToBool prog = true)
    (hd : O.sigHashTap none [] 0 0 false = some d) (hv : O.schnorrVerify prog sig d = some true) :
    verifyScript O tx (trScript prog) f qk = .ok () := by
  have e3 := verifyWP_taproot_key O tx f qk sig prog d hl hs hd hv
  obtain ⟨f1, f2, f3⟩ := hf
  unfold verifyScript
  simp only [hss, isPushOnly_nil, evalScript_nil, evalScript_tr _ prog _ hl, hw, htrue, witnessStep, witnessProgram_tr prog hl, isP2SH_tr prog hl, e3,
    bind, Except.bind, pure, Except.pure]
  cases hwf : f.witness <;> simp_all

/-- A P2SH output `HASH160 <sh> EQUAL` whose redeem script is the P2WPKH program `0 <h>` is spent, under every
    consistent flag set, by scriptSig = <redeem> (exactly one push) and the witness [sig‖ht, pub]. -/
theorem verifyScript_p2sh_p2wpkh (O : Oracles) (tx : TxCtx) (f : Flags) (q : Quirks) (sh h sigh pub : Bytes)
    (hf : FlagsOk f) (hl : h.length = 20) (hshl : sh.length = 20)
    (hss : tx.sigScript = dpush (wpkhScript h)) (hw : tx.witness = [sigh, pub])
    (hp : pub.length ≤ 520) (hh : O.hash160 pub = h) (hsh : O.hash160 (wpkhScript h) = sh)
    (htrue : castToBool h = true)
    (hg : GoodSig O .witnessV0 (pkhScript h) sigh pub) :
    verifyScript O tx (shScript sh) f q = .ok () := by
  have hrl : (wpkhScript h).length = 22 := by simp [wpkhScript, hl]
  have e1 := evalScript_push1 ⟨O, tx, f, .base, q, [], none⟩ (wpkhScript h) 0 (by omega) (by omega)
  have e2 := evalScript_sh ⟨O, tx, f, .base, q, [], none⟩ sh (wpkhScript h) [] 0 rfl hshl hsh (by simp)
  have e3 := evalScript_wpkh ⟨O, tx, f, .base, q, [], none⟩ h 0 hl
  have e4 := verifyWP_v0_keyhash O tx f q h sigh pub true hl hp hh hg
  have hpo := isPushOnly_push1 (wpkhScript h) (by omega)
  have hpe : pushEncoding (wpkhScript h) = dpush (wpkhScript h) := by simp [pushEncoding, dpush, hrl]
  obtain ⟨f1, f2, f3⟩ := hf
  unfold verifyScript
  simp only [hss, hpo, e1, e2, e3, hw, htrue, witnessStep, witnessProgram_sh, witnessProgram_wpkh h hl, isP2SH_sh sh hshl,
    e4, hpe, castToBool_true, bind, Except.bind, pure, Except.pure]
  cases hwf : f.witness <;> cases hps : f.p2sh <;> simp_all

end GocoinV.Proofs.C13S
