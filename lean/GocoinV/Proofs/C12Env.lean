/-
  Proofs.C12Env — the pool-side functions of Model/Mempool.lean never touch the chain side (confirmed set, undo
  stack) and never clear the sticky `panicked` flag (helper lemmas for Props/C12); an operation is a chain edit
  (`Op.chain`) followed by such a reaction (`step_env`).  Core Lean only.
-/
import GocoinV.Proofs.C12Inv
namespace GocoinV.Mempool

/-- `s'` has the chain side of `s`, and is panicked if `s` was -/
structure Env (s s' : State) : Prop where
  utxo : s'.utxo = s.utxo
  undo : s'.undo = s.undo
  sticky : s.panicked = true → s'.panicked = true

/-- the chain side is untouched (by `rfl` on a record update) and the panic flag is not cleared -/
theorem Env.of_eq {s s' : State} (sticky : s.panicked = true → s'.panicked = true) (utxo : s'.utxo = s.utxo := by rfl)
    (undo : s'.undo = s.undo := by rfl) : Env s s' := ⟨utxo, undo, sticky⟩

theorem Env.refl (s : State) : Env s s := .of_eq id

theorem Env.trans {a b c : State} (h1 : Env a b) (h2 : Env b c) : Env a c :=
  ⟨h2.utxo.trans h1.utxo, h2.undo.trans h1.undo, fun h => h2.sticky (h1.sticky h)⟩

theorem alive_of_env {s s' : State} (e : Env s s') (h : s'.panicked = false) : s.panicked = false := by
  cases hp : s.panicked with
  | false => rfl
  | true => rw [e.sticky hp] at h; cases h

theorem foldl_env {α : Type} (f : State → α → State) (hf : ∀ s a, Env s (f s a)) :
    ∀ (l : List α) (s : State), Env s (l.foldl f s) :=
  fun l s => foldl_inv (Env s) f (fun _ a h => h.trans (hf _ a)) l s (.refl s)

theorem rejDelete_env (K : Keys) (s : State) (r : Rej) : Env s (rejDelete K s r) := by
  unfold rejDelete
  cases r.tx <;> exact Env.of_eq id

theorem rejDeleteByIdx_env (K : Keys) (s : State) (b : Nat) : Env s (rejDeleteByIdx K s b) := by
  unfold rejDeleteByIdx
  split
  · exact rejDelete_env K s _
  · exact Env.refl s

theorem rejEvictOldest_env (K : Keys) (s : State) : Env s (rejEvictOldest K s) := by
  unfold rejEvictOldest
  split
  · split
    · split
      · exact rejDelete_env K s _
      · exact Env.of_eq fun _ => rfl
    · exact Env.of_eq id
  · exact Env.refl s

theorem rejAddRefs_env (K : Keys) (s : State) (r : Rej) : Env s (rejAddRefs K s r) := by
  unfold rejAddRefs
  cases r.tx with
  | none => exact Env.refl s
  | some t => exact Env.of_eq id

theorem rejAdd_env (K : Keys) (s : State) (r : Rej) : Env s (rejAdd K s r) := by
  unfold rejAdd
  have h0 : Env s { s with ring := s.ring ++ [some (K.bidx r.id)], rej := s.rej.set (K.bidx r.id) r } :=
    (Env.of_eq id)
  exact (h0.trans (rejEvictOldest_env K _)).trans (rejAddRefs_env K _ r)

theorem rejectTx_env (K : Keys) (s : State) (t : Tx) (why : Nat) (m : Option TxId) :
    Env s (rejectTx K s t why m) := rejAdd_env K s _

theorem addT2S_env (K : Keys) (s : State) (t : T2S) : Env s (addT2S K s t) :=
  have h := addT2S_sortOnly K s t
  ⟨h.utxo, h.undo, h.sticky⟩

theorem delOne_env (K : Keys) (s : State) (t : T2S) (reason : Nat) : Env s (delOne K s t reason) :=
  have h := delPre_sortOnly K s t
  have e : Env s (delPre K s t) := ⟨h.utxo, h.undo, h.sticky⟩
  delOne_cases K s t reason (e.trans (rejectTx_env K _ _ _ _)) e

theorem delWithChildren_env (K : Keys) (reason : Nat) : ∀ (fuel : Nat) (s : State) (t : T2S),
    Env s (delWithChildren K reason fuel s t) := by
  intro fuel
  induction fuel with
  | zero => intro s t; exact Env.of_eq fun _ => rfl
  | succ n ih =>
    intro s t
    unfold delWithChildren
    dsimp only
    refine Env.trans (foldl_env _ ?_ _ s) (delOne_env K _ t reason)
    intro s v
    split
    · exact Env.refl s
    · split
      · exact Env.refl s
      · exact ih _ _

theorem delKeys_env (K : Keys) (reason : Nat) (s : State) (l : List Nat) : Env s (delKeys K reason s l) := by
  unfold delKeys
  apply foldl_env
  intro s b
  split
  · exact delOne_env K s _ reason
  · exact Env.refl s

theorem processTx_env (K : Keys) (mf : Nat) (s : State) (t : Tx) (fl : Flags) : Env s (processTx K mf s t fl).2 :=
  processTx_cases (P := fun r => Env s r.2) K mf s t fl (fun why m _ _ => rejectTx_env K s t why m)
    (fun _ _ => Env.refl s) (Env.of_eq fun _ => rfl)
    fun a _ _ _ _ => (delKeys_env K R_REPLACED s a.rbf.reverse).trans (addT2S_env K _ _)

theorem markLocal_env (K : Keys) (s : State) (id : TxId) : Env s (markLocal K s id) := by
  unfold markLocal
  split
  · exact Env.of_eq fun h => h
  · exact Env.refl s

theorem minedStep_env (K : Keys) (t : T2S) (s : State) (v : Nat) : Env s (minedStep K t s v) :=
  minedStep_cases K t s v (fun _ => Env.refl s) (Env.of_eq fun _ => rfl) fun _ _ _ _ _ _ _ => (Env.of_eq id)

theorem minedFlags_env (K : Keys) (s : State) (t : T2S) : Env s (minedFlags K s t) :=
  foldl_env _ (minedStep_env K t) _ s

theorem unminedStep_env (K : Keys) (t : T2S) (s : State) (v : Nat) : Env s (unminedStep K t s v) :=
  unminedStep_cases K t s v (Env.refl s) (Env.of_eq fun _ => rfl) (fun _ _ _ _ _ _ _ => (Env.of_eq id))
    fun _ _ _ _ _ _ _ => (Env.of_eq id)

theorem txMined_env (K : Keys) (s : State) (t : Tx) : Env s (txMined K s t) :=
  txMined_ind (I := Env s) K t (fun s1 r h _ => h.trans ((minedFlags_env K s1 r).trans (delOne_env K _ r 0)))
    (fun s1 _ r h _ => h.trans (delWithChildren_env K 0 _ s1 r)) (fun _ _ _ h _ _ => h.trans (Env.of_eq id))
    (fun s1 _ txr h _ => h.trans (rejDelete_env K s1 txr)) (fun _ _ h => h.trans (Env.of_eq id))
    (fun s1 h => h.trans (rejDeleteByIdx_env K s1 _)) s (Env.refl s)

theorem reload_env (K : Keys) (s : State) : Env s (reload K s) := by
  rw [reload_eq]
  refine Env.trans (b := reloadBase K s) (Env.of_eq id) (foldl_env _ ?_ _ _)
  intro st slot
  unfold reloadRej
  split
  · exact Env.refl st
  · split
    · exact Env.refl st
    · exact rejAdd_env K st _

theorem buildSorted_env (K : Keys) (s : State) : Env s (buildSorted K s) := by
  unfold buildSorted
  split
  · exact Env.of_eq id
  · exact Env.refl s

theorem Prim.env {K : Keys} {W : Tx → Prop} {s s' : State} (p : Prim K W s s') : Env s s' := by
  cases p with
  | panic => exact Env.of_eq fun _ => rfl
  | rejDel b r _ => exact rejDelete_env K s r
  | resubmit mf cur first txr t _ _ =>
    have h2 := (rejDelete_env K s txr).trans (processTx_env K mf _ t {})
    exact resubmit_cases (P := Env s) K mf s cur txr t h2 fun _ =>
      h2.trans ((rejDeleteByIdx_env K _ (K.bidx t.id)).trans (rejectTx_env K _ t R_BAD_INPUT none))
  | submit mf t fl _ _ _ _ => exact processTx_env K mf s t fl
  | markLocal id => exact markLocal_env K s id
  | delTree b t _ => exact delWithChildren_env K 0 _ s t
  | evictOne b t _ _ => exact delOne_env K s t 0
  | resort => exact buildSorted_env K s
  | reload => exact reload_env K s
  | tip h | commitFlag y => exact Env.of_eq id

theorem Reach.env {K : Keys} {W : Tx → Prop} {s s' : State} (r : Reach K W s s') : Env s s' :=
  r.inv (I := Env s) (fun _ _ p h => h.trans p.env) (Env.refl s)

theorem expire_env (K : Keys) (s : State) (old : List Nat) : Env s (expire K s old) :=
  (expire_reach (W := fun _ => True) old s s (.refl s)).env

theorem blockMined_env (K : Keys) (mf : Nat) (s : State) (txs : List Tx) : Env s (blockMined K mf s txs) := by
  rw [blockMined_eq]
  exact (foldl_env _ (fun s t => txMined_env K s t) _ s).trans
    (foldl_env _ (fun s t => (txAccepted_reach (W := fun _ => True) mf s _).env) _ _)

theorem undoneStep_env (K : Keys) (mf : Nat) (s : State) (t : Tx) : Env s (undoneStep K mf s t) :=
  have h2 := (rejDeleteByIdx_env K s (K.bidx t.id)).trans
    (processTx_env K mf _ t { trusted := true, unmined := true })
  undoneStep_cases K mf s _ t rfl (h2.trans (Env.of_eq fun _ => rfl)) fun r _ _ => h2.trans (foldl_env _ (unminedStep_env K r) _ _)

theorem blockUndone_env (K : Keys) (mf : Nat) (s : State) (txs : List Tx) : Env s (blockUndone K mf s txs) := by
  rw [blockUndone_eq]
  exact foldl_env _ (undoneStep_env K mf) _ s

theorem blockUndoneAt_env (K : Keys) (mf : Nat) (s : State) (uh : Nat) (txs : List Tx) :
    Env s (blockUndoneAt K mf s uh txs) :=
  (blockUndone_env K mf s txs).trans (expire_env K _ _)

/-- what an operation does to the chain side (confirmed set, undo stack) before the pool reacts -/
def Op.chain (s : State) : Op → State
  | .block h txs _ => connectUtxo s h txs
  | .undo _ _ => match disconnectUtxo s with
    | some (s', _) => s'
    | none => s
  | _ => s

theorem step_env (K : Keys) (s : State) (op : Op) : Env (op.chain s) (step K s op) := by
  cases op with
  | block h txs mf => exact blockMined_env K mf _ txs
  | undo uh mf =>
    simp only [step, Op.chain]
    cases disconnectUtxo s with
    | none => exact Env.refl s
    | some p => exact blockUndoneAt_env K mf p.1 uh p.2
  | _ => exact (step_reach (W := fun _ => True) s _ (fun _ _ => trivial) rfl).env

theorem Op.chain_cases {P : Op → State → Prop} (s : State)
    (block : ∀ h txs mf, P (.block h txs mf) (connectUtxo s h txs))
    (undo : ∀ uh mf s' txs, disconnectUtxo s = some (s', txs) → P (.undo uh mf) s')
    (pool : ∀ op, P op s) : ∀ op, P op (op.chain s) := by
  intro op
  cases op with
  | block h txs mf => exact block h txs mf
  | undo uh mf =>
    simp only [Op.chain]
    cases hd : disconnectUtxo s with
    | none => exact pool _
    | some p => exact undo uh mf p.1 p.2 hd
  | _ => exact pool _

end GocoinV.Mempool
