/-
  Proofs.C06Idx — the code looks blocks up through the 8-byte `BlockIndex` key and then compares the whole hash
  (`deliverIdx`, what the oracle runs); the theorems are about `deliver`, which looks blocks up by their whole id.
  The two agree whenever no node of the tree shares the 8-byte key of the delivered block's id or of its
  previous-block field without being that block (`KeyOK`: excluded are two DIFFERENT blocks with the same first 8 hash
  bytes — about 2^64 hash evaluations on top of the proof of work; the previous-block FIELD of a header, by contrast,
  is free data, and for it nothing is assumed: `Props.C06.prefix_only_parent_is_unknown`). The same for the header-first
  operations (`headerIdx = header`, `commitNodeIdx = commitNode`; `stepIdx = step` is `Props.C06.stepIdx_is_step`), where
  `KeyOKAll` also ranges over the unreachable (`limbo`) entries of `BlockIndex`.
-/
import GocoinV.Proofs.C06Chain
import GocoinV.Base.Lemmas
namespace GocoinV.ChainTree
open GocoinV.UtxoOps

/-- no node of the tree has the 8-byte key of `id` without having the id `id` -/
def KeyOK (c : Chain) (id : Nat) : Prop := ∀ n ∈ c.nodes, bidx n.id = bidx id → n.id = id

/-- among entries none of which shares the 8-byte key of `id` without having the id `id`, the key search is the search by
    whole id -/
theorem find_bidx (l : List Node) (id : Nat) (h : ∀ n ∈ l, bidx n.id = bidx id → n.id = id) :
    l.find? (fun n => bidx n.id == bidx id) = l.find? (fun n => n.id == id) :=
  find?_congr fun n hn => Bool.eq_iff_iff.mpr (by simp only [beq_iff_eq]; exact ⟨h n hn, congrArg bidx⟩)

theorem lookupIdx_eq_getNode {c : Chain} {id : Nat} (h : KeyOK c id) : lookupIdx c id = getNode c id :=
  find_bidx c.nodes id h

theorem parentIdx_eq_getNode {c : Chain} {id : Nat} (h : KeyOK c id) : parentIdx c id = getNode c id := by
  unfold parentIdx
  rw [lookupIdx_eq_getNode h]
  cases hg : getNode c id with
  | none => rfl
  | some n => simp [Option.filter, getNode_id hg]

/-- **the code's look-ups (8-byte key + whole-hash comparison) are look-ups by whole hash** as long as no other block
    of the tree shares the 8-byte key of the delivered block or of the block it names as parent -/
theorem deliverIdx_eq_deliver (c : Chain) (b : Block) (h1 : KeyOK c b.id) (h2 : KeyOK c b.parent) :
    deliverIdx c b = deliver c b := by
  unfold deliverIdx deliver
  rw [lookupIdx_eq_getNode h1, parentIdx_eq_getNode h2]
  cases hg : getNode c b.id with
  | some n => simp [getNode_id hg]
  | none => simp

-- ------------------------------------------------------------------------------------------ the header-first operations

/-- no entry of BlockIndex — attached node or unreachable (`limbo`) entry — has the 8-byte key of `id` without having
    the id `id` -/
def KeyOKAll (c : Chain) (id : Nat) : Prop :=
  KeyOK c id ∧ ∀ n ∈ c.limbo, bidx n.id = bidx id → n.id = id

theorem limboIdx_eq_inLimbo {c : Chain} {id : Nat} (h : ∀ n ∈ c.limbo, bidx n.id = bidx id → n.id = id) :
    c.limbo.find? (fun n => bidx n.id == bidx id) = inLimbo c id :=
  find_bidx c.limbo id h

theorem inLimbo_id {c : Chain} {x : Nat} {n : Node} (h : inLimbo c x = some n) : n.id = x := by
  simpa using List.find?_some h

theorem lookupAllIdx_eq_lookupAll {c : Chain} {id : Nat} (h : KeyOKAll c id) :
    lookupAllIdx c id = lookupAll c id := by
  unfold lookupAllIdx lookupAll
  rw [lookupIdx_eq_getNode h.1, limboIdx_eq_inLimbo h.2]

theorem lookupAll_id {c : Chain} {id : Nat} {n : Node} {att : Bool} (h : lookupAll c id = some (n, att)) :
    n.id = id := by
  unfold lookupAll at h
  split at h
  · cases h; exact getNode_id ‹_›
  · obtain ⟨m, hl, e⟩ := Option.map_eq_some_iff.mp h
    cases e; exact inLimbo_id hl

/-- the parent entry as `headerIdx` obtains it (key, then whole hash) is the entry by whole hash -/
theorem lookupAllIdx_filter_eq_lookupAll {c : Chain} {id : Nat} (h : KeyOKAll c id) :
    (lookupAllIdx c id).filter (fun x => x.1.id == id) = lookupAll c id := by
  rw [lookupAllIdx_eq_lookupAll h]
  cases hl : lookupAll c id with
  | none => rfl
  | some x => simp [Option.filter, lookupAll_id hl]

theorem headerIdx_eq_header (c : Chain) (b : Block) (h1 : KeyOKAll c b.id) (h2 : KeyOKAll c b.parent) :
    headerIdx c b = header c b := by
  unfold headerIdx header
  rw [lookupAllIdx_filter_eq_lookupAll h2, lookupAllIdx_eq_lookupAll h1]
  cases hl : lookupAll c b.id with
  | none => simp
  | some x => simp [lookupAll_id hl]

theorem commitNodeIdx_eq_commitNode (c : Chain) (b : Block) (h1 : KeyOKAll c b.id) :
    commitNodeIdx c b = commitNode c b := by
  unfold commitNodeIdx commitNode
  rw [lookupAllIdx_eq_lookupAll h1]
  unfold lookupAll
  cases hg : getNode c b.id with
  | some n => simp [getNode_id hg]
  | none =>
    cases hl : inLimbo c b.id with
    | none => simp
    | some m => simp [inLimbo_id hl]

end GocoinV.ChainTree
