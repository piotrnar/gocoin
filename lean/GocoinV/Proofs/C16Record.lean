/-
  Proofs.C16Record — the 136-byte records of the index file blockchain.new, byte by byte: what a record says about an
  in-memory record (`Desc`: data file number, offset, stored length, compression / trusted flag bits) and about a block
  (`Meta`: its own size / height / transaction count / header), and what the two writes into the file do — a flag update
  (`setBlockFlag`) rewrites the first byte of ONE record, `writeOne` appends ONE record; every other record stays.
  The index-file invariant `Disk` stated with these is in Proofs/C16DiskInv.lean.
-/
import GocoinV.Proofs.C16Live
import GocoinV.Proofs.C16Walk
namespace GocoinV.BlockDB

/-- the 136 bytes at offset `p` of the index file -/
def recAt (idx : Bytes) (p : Nat) : Bytes := (idx.drop p).take 136

def flagAt (c : Bytes) : Nat := (c.getD 0 0).toNat

theorem flagAt_lt (c : Bytes) : flagAt c < 256 := (c.getD 0 0).toNat_lt

/-- the key LoadBlockIndex files a record under: first 8 bytes of the hash of the stored header -/
def keyOfRec (env : Env) (c : Bytes) : Key := keyOf (env.hash ((c.drop 56).take 80))

/-- the `oneBl` LoadBlockIndex builds from a (non-invalid) record read at position `p` -/
def recOf (b : Bytes) (p : Nat) : Rec :=
  { trusted := hasFlag (flagAt b) BLOCK_TRUSTED, compressed := hasFlag (flagAt b) BLOCK_COMPRSD,
    snappied := hasFlag (flagAt b) BLOCK_SNAPPED, fpos := field b 40 48, blen := field b 48 52,
    olen := if hasFlag (flagAt b) BLOCK_LENGTH then field b 32 36 else 0,
    datfileidx := if hasFlag (flagAt b) BLOCK_INDEX then field b 28 32 else 0, ipos := some p }

/-- the on-disk record `c` describes the in-memory record `r` (everything LoadBlockIndex recovers, except olen) -/
structure Desc (c : Bytes) (r : Rec) : Prop where
  fpos : field c 40 48 = r.fpos
  blen : field c 48 52 = r.blen
  dfi : field c 28 32 = r.datfileidx
  fl_len : hasFlag (flagAt c) BLOCK_LENGTH = true
  fl_idx : hasFlag (flagAt c) BLOCK_INDEX = true
  fl_c : hasFlag (flagAt c) BLOCK_COMPRSD = r.compressed
  fl_s : hasFlag (flagAt c) BLOCK_SNAPPED = r.snappied
  fl_t : hasFlag (flagAt c) BLOCK_TRUSTED = r.trusted
  olen : 0 < field c 32 36

/-- the record carries the block's own size / height / transaction count / header, and is not flagged invalid -/
structure Meta (c : Bytes) (e : SEnt) : Prop where
  olen : field c 32 36 = e.raw.length
  height : field c 36 40 = e.height
  txs : field c 52 56 = e.txcount
  hdr : (c.drop 56).take 80 = e.raw.take 80
  valid : isInvalidRec c = false

theorem isInvalidRec_eq (c : Bytes) : isInvalidRec c = hasFlag (flagAt c) BLOCK_INVALID := rfl

theorem desc_recOf (c : Bytes) (r : Rec) (p : Nat) (h : Desc c r) : Desc c (recOf c p) := by
  refine ⟨rfl, rfl, ?_, h.fl_len, h.fl_idx, rfl, rfl, rfl, h.olen⟩
  simp [recOf, h.fl_idx]

theorem recOf_fields (c : Bytes) (r : Rec) (p : Nat) (h : Desc c r) :
    (recOf c p).fpos = r.fpos ∧ (recOf c p).blen = r.blen ∧ (recOf c p).datfileidx = r.datfileidx ∧
    (recOf c p).compressed = r.compressed ∧ (recOf c p).snappied = r.snappied ∧ (recOf c p).trusted = r.trusted ∧
    (recOf c p).olen = field c 32 36 ∧ (recOf c p).ipos = some p := by
  refine ⟨h.fpos, h.blen, ?_, h.fl_c, h.fl_s, h.fl_t, ?_, rfl⟩
  · simp [recOf, h.fl_idx, h.dfi]
  · simp [recOf, h.fl_len]

/-! ### chunks of the index file -/

theorem recAt_length (f : Bytes) (p : Nat) (h : p + 136 ≤ f.length) : (recAt f p).length = 136 := by
  simp [recAt]; omega

theorem recAt_append_left (f d : Bytes) (p : Nat) (h : p + 136 ≤ f.length) : recAt (f ++ d) p = recAt f p :=
  take_drop_append_left f d p 136 h

theorem recAt_append_new (f d : Bytes) (hd : d.length = 136) : recAt (f ++ d) f.length = d := by
  simp [recAt, ← hd]

/-- a record position of an index file of length `len` plus one record: the new record's, or one that was there -/
theorem rec_pos_cases {p len : Nat} (hl : len % 136 = 0) (hp1 : p % 136 = 0) (hp2 : p + 136 ≤ len + 136) :
    p = len ∨ p + 136 ≤ len := by omega

theorem pwrite_byte (f : Bytes) (p : Nat) (x : UInt8) (h : p < f.length) :
    pwrite f p [x] = f.take p ++ x :: f.drop (p + 1) := by
  unfold pwrite
  rw [List.take_append_of_le_length (by omega)]
  simp

/-- rewriting the first byte of the record at `p` changes no other whole record of the file, before or behind it -/
theorem recAt_pwrite_other (f : Bytes) (p p' : Nat) (x : UInt8) (h : p < f.length) (pm : p % 136 = 0) (hp' : p' % 136 = 0)
    (hne : p' ≠ p) : recAt (pwrite f p [x]) p' = recAt f p' := by
  have : p' + 136 ≤ p ∨ p + 1 ≤ p' := by omega
  rcases this with h1 | h1
  · exact pwrite_keep f p [x] p' 136 h1 (by omega)
  · rw [pwrite_byte f p x h]
    unfold recAt
    congr 1
    have hl : (f.take p).length = p := by simp; omega
    obtain ⟨d, rfl⟩ : ∃ d, p' = p + (d + 1) := ⟨p' - p - 1, by omega⟩
    rw [← List.drop_drop, List.drop_left' hl, List.drop_succ_cons, List.drop_drop, Nat.add_assoc, Nat.add_comm 1]

theorem recAt_pwrite_at (f : Bytes) (p : Nat) (x : UInt8) (h : p < f.length) :
    recAt (pwrite f p [x]) p = x :: (recAt f p).drop 1 := by
  rw [pwrite_byte f p x h]
  unfold recAt
  have hl : (f.take p).length = p := by simp; omega
  rw [List.drop_left' hl]
  simp only [List.take_succ_cons]
  rw [List.drop_take, List.drop_drop]

theorem recAt_getD (f : Bytes) (p : Nat) : (recAt f p).getD 0 0 = f.getD p 0 := by
  unfold recAt
  simp

/-! ### the two writes into the index file -/

/-- `setBlockFlag` on a written record rewrites the first byte of the record at its `ipos`: the file keeps its length, every
    other record stays, and that record gets the flag OR-ed into its flags byte -/
theorem setBlockFlag_idx (s : State) (hi : IdxInv s) (k : Key) (r0 : Rec) (p fl : Nat) (hr : AL.get s.index k = some r0)
    (hp : r0.ipos = some p) :
    (setBlockFlag s k r0 fl).fs.idx.length = s.fs.idx.length ∧
    (∀ p', p' % 136 = 0 → p' ≠ p → recAt (setBlockFlag s k r0 fl).fs.idx p' = recAt s.fs.idx p') ∧
    recAt (setBlockFlag s k r0 fl).fs.idx p = UInt8.ofNat (flagAt (recAt s.fs.idx p) ||| fl) :: (recAt s.fs.idx p).drop 1 := by
  obtain ⟨pl, pm⟩ := hi.ipos k r0 p hr hp
  have plt : p < s.fs.idx.length := by omega
  have hfs : (setBlockFlag s k r0 fl).fs.idx = pwrite s.fs.idx p [UInt8.ofNat ((s.fs.idx.getD p 0).toNat ||| fl)] := by
    unfold setBlockFlag; simp only [hp]
  rw [hfs]
  refine ⟨pwrite_length_inside _ _ _ plt, fun p' hp' hne => recAt_pwrite_other _ _ _ _ plt pm hp' hne, ?_⟩
  rw [recAt_pwrite_at _ _ _ plt]
  unfold flagAt; rw [recAt_getD]

/-- `writeOne`'s record write (after the roll-over decision, state `s1`) on an open store: one whole record `fl` is appended
    to the index file; the older records stay -/
theorem writeRecord_idx (s s1 : State) (hi : IdxInv s) (ho : s.isOpen = true) (b : B2W) (q : List B2W) (r0 : Rec) (cbts fl : Bytes)
    (n : Nat) (hq : s.queue = b :: q) (hs1 : maybeRoll { s with queue := q, datToWrite := n } cbts.length = s1)
    (hfl : mkRecord (flagsOf s1.opts.compress r0.trusted) s1.maxdatfileidx b.data.length b.height s1.maxdatfilepos
      cbts.length b.txcount b.data = fl) :
    fl.length = 136 ∧ (writeRecord s1 b r0 cbts).fs.idx = s.fs.idx ++ fl ∧ s1.maxidxfilepos = s.fs.idx.length ∧
    s1.index = s.index ∧ s1.queue = q ∧
    (∀ p, p + 136 ≤ s.fs.idx.length → recAt (s.fs.idx ++ fl) p = recAt s.fs.idx p) ∧
    recAt (s.fs.idx ++ fl) s.fs.idx.length = fl := by
  obtain ⟨f1, f2, f3, _, f5⟩ := maybeRoll_facts { s with queue := q, datToWrite := n } cbts.length
  rw [hs1] at f1 f2 f3 f5
  have hL : s1.maxidxfilepos = s.fs.idx.length := by rw [f5]; exact hi.pos ho
  have hfll : fl.length = 136 := by
    rw [← hfl]; exact mkRecord_length _ _ _ _ _ _ _ _ (hi.queue b (by rw [hq]; simp))
  refine ⟨hfll, ?_, hL, f2, f3, fun p hp => recAt_append_left _ _ _ hp, recAt_append_new _ _ hfll⟩
  unfold writeRecord; simp only [hfl, hL, f1, pwrite_at_end]

/-! ### the fields of a chunk whose first byte was replaced -/

theorem field_cons_drop (x : UInt8) (c : Bytes) (a b : Nat) (ha : 1 ≤ a) : field (x :: c.drop 1) a b = field c a b := by
  unfold field
  obtain ⟨a', rfl⟩ : ∃ a', a = a' + 1 := ⟨a - 1, by omega⟩
  simp

theorem hdr_cons_drop (x : UInt8) (c : Bytes) : ((x :: c.drop 1).drop 56).take 80 = (c.drop 56).take 80 := by
  simp

theorem flagAt_cons (x : UInt8) (t : Bytes) : flagAt (x :: t) = x.toNat := rfl

/-- every flag constant is a single bit, and `hasFlag` tests it -/
theorem hasFlag_or_bit (c i j : Nat) : hasFlag (c ||| 2 ^ j) (2 ^ i) = (hasFlag c (2 ^ i) || decide (j = i)) := by
  simp only [hasFlag, ← Nat.testBit_eq_decide_div_mod_eq, Nat.testBit_or, Nat.testBit_two_pow]

theorem flag_pows : BLOCK_TRUSTED = 2 ^ 0 ∧ BLOCK_INVALID = 2 ^ 1 ∧ BLOCK_COMPRSD = 2 ^ 2 ∧ BLOCK_SNAPPED = 2 ^ 3 ∧
    BLOCK_LENGTH = 2 ^ 4 ∧ BLOCK_INDEX = 2 ^ 5 := by decide

/-- OR-ing BLOCK_TRUSTED / BLOCK_INVALID into a flags byte: what happens to each flag bit -/
theorem or_flag_bits (c : Nat) (hc : c < 256) :
    (∀ fl, fl = BLOCK_TRUSTED ∨ fl = BLOCK_INVALID → ∀ X ∈ [BLOCK_COMPRSD, BLOCK_SNAPPED, BLOCK_LENGTH, BLOCK_INDEX],
      hasFlag (c ||| fl) X = hasFlag c X) ∧
    hasFlag (c ||| BLOCK_TRUSTED) BLOCK_TRUSTED = true ∧
    hasFlag (c ||| BLOCK_TRUSTED) BLOCK_INVALID = hasFlag c BLOCK_INVALID ∧
    hasFlag (c ||| BLOCK_INVALID) BLOCK_TRUSTED = hasFlag c BLOCK_TRUSTED ∧
    hasFlag (c ||| BLOCK_INVALID) BLOCK_INVALID = true ∧
    c ||| BLOCK_TRUSTED < 256 ∧ c ||| BLOCK_INVALID < 256 := by
  obtain ⟨e0, e1, e2, e3, e4, e5⟩ := flag_pows
  rw [e0, e1, e2, e3, e4, e5]
  simp only [forall_eq_or_imp, forall_eq, List.forall_mem_cons, hasFlag_or_bit]
  exact ⟨by simp, by simp, by simp, by simp, by simp, Nat.or_lt_two_pow (n := 8) hc (by decide),
    Nat.or_lt_two_pow (n := 8) hc (by decide)⟩

/-- the flags byte after OR-ing BLOCK_TRUSTED / BLOCK_INVALID into it -/
theorem flagAt_or (c : Bytes) (fl : Nat) (hfl : fl = BLOCK_TRUSTED ∨ fl = BLOCK_INVALID) (t : Bytes) :
    flagAt (UInt8.ofNat (flagAt c ||| fl) :: t) = flagAt c ||| fl := by
  obtain ⟨_, _, _, _, _, o5, o6⟩ := or_flag_bits _ (flagAt_lt c)
  exact ofNat_toNat_small _ (by rcases hfl with e | e <;> rw [e] <;> assumption)

theorem flagsOf_bits (c t : Bool) :
    flagsOf c t < 256 ∧
    hasFlag (flagsOf c t) BLOCK_LENGTH = true ∧ hasFlag (flagsOf c t) BLOCK_INDEX = true ∧
    hasFlag (flagsOf c t) BLOCK_COMPRSD = c ∧ hasFlag (flagsOf c t) BLOCK_SNAPPED = c ∧
    hasFlag (flagsOf c t) BLOCK_TRUSTED = t ∧ hasFlag (flagsOf c t) BLOCK_INVALID = false := by
  cases c <;> cases t <;> decide

/-- the record `writeOne` writes describes the record it publishes -/
theorem desc_mkRecord (c t : Bool) (di ol he fp bl tx : Nat) (data : Bytes) (r : Rec)
    (h1 : di < 2^32) (h2 : fp < 2^64) (h3 : bl < 2^32) (h4 : 0 < ol) (h5 : ol < 2^32)
    (e1 : r.fpos = fp) (e2 : r.blen = bl) (e3 : r.datfileidx = di) (e4 : r.compressed = c) (e5 : r.snappied = c)
    (e6 : r.trusted = t) :
    Desc (mkRecord (flagsOf c t) di ol he fp bl tx data) r := by
  obtain ⟨_, f2, _, f4, f5, f6⟩ := field_mk (flagsOf c t) di ol he fp bl tx data
  obtain ⟨b0, b1, b2, b3, b4, b5, _⟩ := flagsOf_bits c t
  have hf : flagAt (mkRecord (flagsOf c t) di ol he fp bl tx data) = flagsOf c t := by
    unfold flagAt
    rw [mkRecord_flag]
    exact ofNat_toNat_small _ b0
  refine ⟨?_, ?_, ?_, ?_, ?_, ?_, ?_, ?_, ?_⟩
  · rw [f5, e1]; exact Nat.mod_eq_of_lt h2  -- fpos
  · rw [f4, e2]; exact Nat.mod_eq_of_lt h3  -- blen
  · rw [f6, e3]; exact Nat.mod_eq_of_lt h1  -- dfi
  · rw [hf]; exact b1  -- fl_len
  · rw [hf]; exact b2  -- fl_idx
  · rw [hf, e4]; exact b3  -- fl_c
  · rw [hf, e5]; exact b4  -- fl_s
  · rw [hf, e6]; exact b5  -- fl_t
  · rw [f2, Nat.mod_eq_of_lt h5]; exact h4  -- olen

theorem meta_mkRecord (c t : Bool) (di ol he fp bl tx : Nat) (data : Bytes) (e : SEnt)
    (h1 : he < 2^32) (h2 : ol < 2^32) (h3 : tx < 2^32)
    (e1 : ol = e.raw.length) (e2 : he = e.height) (e3 : tx = e.txcount) (e4 : data = e.raw) :
    Meta (mkRecord (flagsOf c t) di ol he fp bl tx data) e := by
  obtain ⟨f1, f2, f3, _, _, _⟩ := field_mk (flagsOf c t) di ol he fp bl tx data
  obtain ⟨w1, _⟩ := walkOf_mkRecord ⟨id, some, id, true⟩ c t di ol he fp bl tx data h1 h2 h3
  refine ⟨?_, ?_, ?_, ?_, w1⟩
  · rw [f2, Nat.mod_eq_of_lt h2, e1]
  · rw [f1, Nat.mod_eq_of_lt h1, e2]
  · rw [f3, Nat.mod_eq_of_lt h3, e3]
  · rw [mkRecord_hdr, e4]

/-- a flag update (OR of BLOCK_TRUSTED or BLOCK_INVALID into the first byte) keeps the description, with the trusted bit
    raised for BLOCK_TRUSTED -/
theorem desc_flag (c : Bytes) (r : Rec) (fl : Nat) (hfl : fl = BLOCK_TRUSTED ∨ fl = BLOCK_INVALID) (h : Desc c r) :
    Desc (UInt8.ofNat (flagAt c ||| fl) :: c.drop 1) { r with trusted := r.trusted || fl == BLOCK_TRUSTED } := by
  obtain ⟨o1, o2, o3, o4, _⟩ := or_flag_bits _ (flagAt_lt c)
  have hf := flagAt_or c fl hfl (c.drop 1)
  refine ⟨?_, ?_, ?_, ?_, ?_, ?_, ?_, ?_, ?_⟩
  · rw [field_cons_drop _ _ _ _ (by decide)]; exact h.fpos  -- fpos
  · rw [field_cons_drop _ _ _ _ (by decide)]; exact h.blen  -- blen
  · rw [field_cons_drop _ _ _ _ (by decide)]; exact h.dfi  -- dfi
  · rw [hf, o1 fl hfl BLOCK_LENGTH (by simp)]; exact h.fl_len  -- fl_len
  · rw [hf, o1 fl hfl BLOCK_INDEX (by simp)]; exact h.fl_idx  -- fl_idx
  · rw [hf, o1 fl hfl BLOCK_COMPRSD (by simp)]; exact h.fl_c  -- fl_c
  · rw [hf, o1 fl hfl BLOCK_SNAPPED (by simp)]; exact h.fl_s  -- fl_s
  · rw [hf]  -- fl_t
    rcases hfl with e | e
    · subst e; rw [o2]; simp
    · subst e; rw [o4, h.fl_t]
      have : (BLOCK_INVALID == BLOCK_TRUSTED) = false := by decide
      simp [this]
  · rw [field_cons_drop _ _ _ _ (by decide)]; exact h.olen  -- olen

theorem meta_flag_trusted (c : Bytes) (e : SEnt) (h : Meta c e) :
    Meta (UInt8.ofNat (flagAt c ||| BLOCK_TRUSTED) :: c.drop 1) e := by
  obtain ⟨_, _, o3, _⟩ := or_flag_bits _ (flagAt_lt c)
  refine ⟨?_, ?_, ?_, ?_, ?_⟩
  · rw [field_cons_drop _ _ _ _ (by decide)]; exact h.olen
  · rw [field_cons_drop _ _ _ _ (by decide)]; exact h.height
  · rw [field_cons_drop _ _ _ _ (by decide)]; exact h.txs
  · rw [hdr_cons_drop]; exact h.hdr
  · rw [isInvalidRec_eq, flagAt_or c _ (.inl rfl), o3, ← isInvalidRec_eq]; exact h.valid

theorem keyOfRec_cons_drop (env : Env) (x : UInt8) (c : Bytes) : keyOfRec env (x :: c.drop 1) = keyOfRec env c := by
  unfold keyOfRec; rw [hdr_cons_drop]

theorem keyOfRec_mkRecord (env : Env) (fl di ol he fp bl tx : Nat) (data : Bytes) :
    keyOfRec env (mkRecord fl di ol he fp bl tx data) = keyOf (env.hash (data.take 80)) := by
  unfold keyOfRec; rw [mkRecord_hdr]

end GocoinV.BlockDB
