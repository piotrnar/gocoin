/-
  Proofs.C19Disk — what the disk-level functions leave in the directory:
  bufio.Writer delivers exactly the concatenation of its writes; writedatfile leaves a complete snapshot of
  the index in qdbidx.<new>, no log and no other snapshot; defrag of a store all of whose records are in memory
  leaves the new data file (sequence header, then the values in index order), the re-positioned index (`layout`)
  and that snapshot (`defrag_disk`). Reading a snapshot back (`checkIdxFile_snapBytes`, `snapshotRecs_snapBytes`) is in
  Proofs/C19Codec; opening the directory defrag left is in Proofs/C19Crash.
-/
import GocoinV.Proofs.C19Codec
import GocoinV.Proofs.C19
namespace GocoinV.Proofs.C19
open GocoinV GocoinV.Qdb GocoinV.QdbSpec

variable {eg : Bool}

/-- the content of qdbidx.<i> (`i = 0` → qdbidx.0, otherwise qdbidx.1, as in `FS.apply`) -/
def idxFile (fs : FS) (i : Nat) : Option Bytes := if i = 0 then fs.idx0 else fs.idx1

/-- everything of the directory except qdbidx.<i> -/
def restOf (fs : FS) (i : Nat) : List (Nat × Bytes) × Option Bytes × Option Bytes :=
  (fs.dats, (if i = 0 then fs.idx1 else fs.idx0), fs.log)

/-- the logical stream of a bufio.Writer on qdbidx.<i>: what is in the file plus what is in the buffer -/
def stream (i : Nat) (db : DB) (w : BufW) : Option Bytes := (idxFile db.fs i).map (· ++ w.buf)

theorem idxSink_file (i : Nat) (db : DB) (b : Bytes) :
    idxFile (idxSink i db b).fs i = (idxFile db.fs i).map (· ++ b) := by
  unfold idxFile idxSink emit FS.apply
  by_cases h : i = 0 <;> simp [h]

theorem idxSink_rest (i : Nat) (db : DB) (b : Bytes) : restOf (idxSink i db b).fs i = restOf db.fs i := by
  unfold restOf idxSink emit FS.apply
  by_cases h : i = 0 <;> simp [h]

/-! ### generic bufio lemma (any sink that appends to one file) -/

theorem bufWrite_gen {β : Type} (sink : DB → Bytes → DB) (file : DB → Option Bytes) (g : DB → β)
    (hs : ∀ d b, file (sink d b) = (file d).map (· ++ b)) (hg : ∀ d b, g (sink d b) = g d)
    (db : DB) (w : BufW) (p : Bytes) :
    (file (bufWrite sink db w p).1).map (· ++ (bufWrite sink db w p).2.buf) = ((file db).map (· ++ w.buf)).map (· ++ p) ∧
    g (bufWrite sink db w p).1 = g db := by
  refine ⟨?_, (Pre.of_eq g).bufWrite sink hg db w p⟩
  unfold bufWrite
  split
  · cases file db <;> simp [List.append_assoc]
  · split
    · rename_i he
      have hb : w.buf = [] := by simpa using he
      rw [hs]
      cases file db <;> simp [hb]
    · dsimp only
      split
      · rw [hs, hs]
        cases file db with
        | none => rfl
        | some f =>
          simp only [Option.map_some, List.append_nil, Option.some.injEq, List.append_assoc]
          rw [List.take_append_drop]
      · rw [hs]
        cases file db with
        | none => rfl
        | some f =>
          simp only [Option.map_some, Option.some.injEq, List.append_assoc]
          rw [List.take_append_drop]

theorem bufFlush_gen {β : Type} (sink : DB → Bytes → DB) (file : DB → Option Bytes) (g : DB → β)
    (hs : ∀ d b, file (sink d b) = (file d).map (· ++ b)) (hg : ∀ d b, g (sink d b) = g d)
    (db : DB) (w : BufW) :
    file (bufFlush sink db w) = (file db).map (· ++ w.buf) ∧ g (bufFlush sink db w) = g db := by
  unfold bufFlush
  split
  · rename_i he
    have hb : w.buf = [] := by simpa using he
    constructor
    · cases file db <;> simp [hb]
    · rfl
  · exact ⟨hs db _, hg db _⟩

theorem bufWrite_stream (i : Nat) (db : DB) (w : BufW) (p : Bytes) :
    stream i (bufWrite (idxSink i) db w p).1 (bufWrite (idxSink i) db w p).2 = (stream i db w).map (· ++ p) ∧
    restOf (bufWrite (idxSink i) db w p).1.fs i = restOf db.fs i :=
  bufWrite_gen (idxSink i) (fun d => idxFile d.fs i) (fun d => restOf d.fs i) (idxSink_file i) (idxSink_rest i) db w p

theorem bufWriteAll_stream (i : Nat) (ps : List Bytes) (db : DB) (w : BufW) :
    stream i (bufWriteAll (idxSink i) db w ps).1 (bufWriteAll (idxSink i) db w ps).2 =
      (stream i db w).map (· ++ ps.flatten) ∧
    restOf (bufWriteAll (idxSink i) db w ps).1.fs i = restOf db.fs i := by
  unfold bufWriteAll
  induction ps generalizing db w with
  | nil =>
    constructor
    · simp only [List.foldl_nil, List.flatten_nil, List.append_nil]
      cases stream i db w <;> rfl
    · rfl
  | cons p t ih =>
    simp only [List.foldl_cons]
    obtain ⟨h1, h2⟩ := bufWrite_stream i db w p
    obtain ⟨h3, h4⟩ := ih (bufWrite (idxSink i) db w p).1 (bufWrite (idxSink i) db w p).2
    constructor
    · rw [h3, h1]
      cases stream i db w <;> simp [List.append_assoc]
    · rw [h4, h2]

def otherIdx (fs : FS) (i : Nat) : Option Bytes := if i = 0 then fs.idx1 else fs.idx0

/-- both slots are read from `idx0` and `idx1` only -/
theorem idxFile_congr (a b : FS) (h0 : a.idx0 = b.idx0) (h1 : a.idx1 = b.idx1) (i : Nat) :
    idxFile a i = idxFile b i ∧ otherIdx a i = otherIdx b i := by
  unfold idxFile otherIdx
  rw [h0, h1]
  exact ⟨rfl, rfl⟩

/-- creating qdbidx.<i> leaves it empty and touches nothing else -/
theorem createIdx_file (fs : FS) (i : Nat) :
    idxFile (fs.apply (.createIdx i)) i = some [] ∧ restOf (fs.apply (.createIdx i)) i = restOf fs i := by
  unfold idxFile restOf FS.apply
  by_cases h : i = 0 <;> simp [h]

/-- removing the other snapshot slot: qdbidx.<i> stays, the other slot is empty, log and data files stay -/
theorem removeIdx_other (fs : FS) (i : Nat) (hi : i ≤ 1) :
    idxFile (fs.apply (.removeIdx (1 - i))) i = idxFile fs i ∧ otherIdx (fs.apply (.removeIdx (1 - i))) i = none ∧
    (fs.apply (.removeIdx (1 - i))).log = fs.log ∧ (fs.apply (.removeIdx (1 - i))).dats = fs.dats := by
  unfold idxFile otherIdx FS.apply
  by_cases h : i = 0
  · simp [h]
  · have : 1 - i = 0 := by omega
    simp [h, this]

/-- what `writedatfile` leaves on disk: a complete snapshot of the index under the new sequence number in
    the other slot, no log, no older snapshot; data files untouched -/
theorem writedatfile_disk (db : DB) :
    idxFile (writedatfile db).fs (1 - db.datIdx) = some (snapBytes (u32 (db.verSeq + 1)) db.index) ∧
    otherIdx (writedatfile db).fs (1 - db.datIdx) = none ∧
    (writedatfile db).fs.log = none ∧
    (writedatfile db).fs.dats = db.fs.dats ∧
    (writedatfile db).datIdx = 1 - db.datIdx ∧
    (writedatfile db).verSeq = u32 (db.verSeq + 1) ∧
    (writedatfile db).index = db.index := by
  let i := 1 - db.datIdx
  let v := u32 (db.verSeq + 1)
  let db2 := emit { db with datIdx := i, verSeq := v } "qdb.writedatfile:created" (.createIdx i)
  let st := bufWriteAll (idxSink i) db2 {} (idxWrites db2.index db2.verSeq)
  let db3 := bufFlush (idxSink i) st.1 st.2
  have hw : writedatfile db = emit (emit { db3 with logOpen := false } "qdb.writedatfile:log-removed" .removeLog)
      "qdb.writedatfile:old-removed" (.removeIdx (1 - i)) := rfl
  obtain ⟨h2f, h2r⟩ : idxFile db2.fs i = some [] ∧ restOf db2.fs i = restOf db.fs i := createIdx_file db.fs i
  obtain ⟨hs1, hs2⟩ := bufWriteAll_stream i (idxWrites db2.index db2.verSeq) db2 {}
  obtain ⟨hf1, hf2⟩ := bufFlush_gen (idxSink i) (fun d => idxFile d.fs i) (fun d => restOf d.fs i) (idxSink_file i) (idxSink_rest i) st.1 st.2
  have h3f : idxFile db3.fs i = some (snapBytes v db.index) := by
    refine hf1.trans (hs1.trans ?_)
    simp only [stream, h2f, Option.map_some, List.append_nil, List.nil_append, idxWrites_flatten]
    rfl
  have h3r : restOf db3.fs i = restOf db.fs i := by rw [hf2, hs2, h2r]
  have hk : (db3.index, db3.datIdx, db3.verSeq) = (db.index, i, v) :=
    ((Pre.of_eq fun d : DB => (d.index, d.datIdx, d.verSeq)).bufFlush (idxSink i) (fun _ _ => rfl) st.1 st.2).trans
      ((Pre.of_eq fun d : DB => (d.index, d.datIdx, d.verSeq)).bufWriteAll (idxSink i) (fun _ _ => rfl) _ db2 {})
  simp only [Prod.mk.injEq] at hk
  obtain ⟨h3i, h3d⟩ := hk
  rw [hw]
  dsimp only [emit]
  obtain ⟨r1, r2, r3, r4⟩ := removeIdx_other (db3.fs.apply .removeLog) i (Nat.sub_le 1 _)
  exact ⟨r1.trans h3f, r2, r3, r4.trans (congrArg (·.1) h3r), h3d.1, h3d.2, h3i⟩

/-! ### data files -/

theorem dlookup_eq (s : Nat) (l : List (Nat × Bytes)) : dlookup s l = Assoc.lookup l s :=
  Assoc.lookup_unique (fun l s => dlookup s l) (fun _ => rfl) (fun _ _ _ _ => rfl) l s

theorem dset_eq (s : Nat) (b : Bytes) (l : List (Nat × Bytes)) : dset s b l = Assoc.insert l s b :=
  Assoc.insert_unique (fun l s b => dset s b l) (fun _ _ => rfl) (fun _ _ _ _ _ => rfl) l s b

theorem dlookup_dset_same (s : Nat) (b : Bytes) (l : List (Nat × Bytes)) : dlookup s (dset s b l) = some b := by
  rw [dlookup_eq, dset_eq, Assoc.lookup_insert, if_pos rfl]

theorem dlookup_dset_other (s t : Nat) (b : Bytes) (l : List (Nat × Bytes)) (h : t ≠ s) :
    dlookup t (dset s b l) = dlookup t l := by
  rw [dlookup_eq, dset_eq, Assoc.lookup_insert, if_neg (Ne.symm h), dlookup_eq]

theorem dlookup_derase_other (s t : Nat) (l : List (Nat × Bytes)) (h : t ≠ s) :
    dlookup t (derase s l) = dlookup t l := by
  rw [dlookup_eq, dlookup_eq,
    Assoc.filter_unique (fun l s => derase s l) (fun _ => rfl) (fun _ _ _ _ => rfl) l s, Assoc.lookup_erase, if_neg (Ne.symm h)]

theorem writeAt_end (old b : Bytes) : writeAt old old.length b = old ++ b := by
  unfold writeAt
  simp

def datFile (seq : Nat) (db : DB) : Option Bytes := dlookup seq db.fs.dats

theorem defragSink_file (seq : Nat) (db : DB) (b : Bytes) :
    datFile seq (defragSink seq db b) = (datFile seq db).map (· ++ b) := by
  unfold datFile defragSink emit FS.apply
  cases h : dlookup seq db.fs.dats with
  | none => simp [h]
  | some old => simp [h, dlookup_dset_same, writeAt_end]

/-- everything the data sink does not touch: the index files, the other data files, and the in-memory state -/
def datRest (seq : Nat) (db : DB) :=
  (db.fs.idx0, db.fs.idx1, db.fs.log, (fun t => if t = seq then none else dlookup t db.fs.dats),
   db.index, db.lastPos, db.dataSeq, db.failed, db.datIdx, db.verSeq)

theorem defragSink_rest (seq : Nat) (db : DB) (b : Bytes) : datRest seq (defragSink seq db b) = datRest seq db := by
  unfold datRest defragSink emit FS.apply
  cases h : dlookup seq db.fs.dats with
  | none => simp [h]
  | some old =>
    simp only [h, Prod.mk.injEq, true_and, and_true]
    funext t
    by_cases ht : t = seq
    · simp [ht]
    · simp [ht, dlookup_dset_other _ _ _ _ ht]

/-! ### the data file written by defrag -/

/-- the records as defrag lays them out in the new data file, starting at offset `base` -/
def layout (seq : Nat) : Nat → List (Key × Rec) → List (Key × Rec)
  | _, [] => []
  | base, (k, r) :: t => (k, { r with pos := u32 base, seq := seq }) :: layout seq (base + (r.data.getD []).length) t

def valsOf (l : List (Key × Rec)) : List Bytes := l.map fun kr => kr.2.data.getD []

/-- the state outside the new data file and the write position -/
def datRestNoPos (seq : Nat) (db : DB) :=
  (db.fs.idx0, db.fs.idx1, db.fs.log, (fun t => if t = seq then none else dlookup t db.fs.dats),
   db.index, db.dataSeq, db.failed, db.datIdx, db.verSeq)

theorem datRestNoPos_of (seq : Nat) (a b : DB) (h : datRest seq a = datRest seq b) : datRestNoPos seq a = datRestNoPos seq b := by
  unfold datRest at h
  unfold datRestNoPos
  simp only [Prod.mk.injEq] at h ⊢
  obtain ⟨h1, h2, h3, h4, h5, _, h7, h8, h9, h10⟩ := h
  exact ⟨h1, h2, h3, h4, h5, h7, h8, h9, h10⟩

theorem defragRec_exact (s : Nat) (d : DB) (w : BufW) (acc : List (Key × Rec)) (kr : Key × Rec)
    (hf : d.failed = none) (he : d.eager = eg) (hc : RecCached eg kr.2) :
    defragRec (defragSink s) (d, w, acc) kr =
      ({ (bufWrite (defragSink s) d w (kr.2.data.getD [])).1 with lastPos := d.lastPos + (kr.2.data.getD []).length },
       (bufWrite (defragSink s) d w (kr.2.data.getD [])).2,
       acc ++ [(kr.1, { kr.2 with pos := u32 d.lastPos, seq := d.dataSeq })]) := by
  obtain ⟨_, hg⟩ := bufWrite_gen (defragSink s) (datFile s) (datRest s) (defragSink_file s) (defragSink_rest s) d w
    (kr.2.data.getD [])
  have hlp : (bufWrite (defragSink s) d w (kr.2.data.getD [])).1.lastPos = d.lastPos :=
    congrArg (fun x => x.2.2.2.2.2.1) hg
  have hds : (bufWrite (defragSink s) d w (kr.2.data.getD [])).1.dataSeq = d.dataSeq :=
    congrArg (fun x => x.2.2.2.2.2.2.1) hg
  have hee : (bufWrite (defragSink s) d w (kr.2.data.getD [])).1.eager = eg :=
    (frame_bufWrite (defragSink s) (defragSink_framed s) d w (kr.2.data.getD [])).eager.trans he
  unfold defragRec
  simp only [hf, loadrec_cached d.fs kr.2 hc, hlp, hds, hee]
  rw [freerec_cached _ _ (by exact hc.2)]

theorem defragFold_layout (s : Nat) (l : List (Key × Rec)) (hl : AllCached eg l) (d : DB) (w : BufW)
    (acc : List (Key × Rec)) (hf : d.failed = none) (he : d.eager = eg) :
    ∃ d' w', l.foldl (defragRec (defragSink s)) (d, w, acc) = (d', w', acc ++ layout d.dataSeq d.lastPos l) ∧
      (datFile s d').map (· ++ w'.buf) = ((datFile s d).map (· ++ w.buf)).map (· ++ (valsOf l).flatten) ∧
      d'.lastPos = d.lastPos + (valsOf l).flatten.length ∧
      datRestNoPos s d' = datRestNoPos s d := by
  induction l generalizing d w acc with
  | nil =>
    refine ⟨d, w, by simp [layout], ?_, by simp [valsOf], rfl⟩
    cases datFile s d <;> simp [valsOf]
  | cons kr t ih =>
    have hc := hl kr List.mem_cons_self
    obtain ⟨hfile, hg⟩ := bufWrite_gen (defragSink s) (datFile s) (datRest s) (defragSink_file s) (defragSink_rest s)
      d w (kr.2.data.getD [])
    let d1 : DB := { (bufWrite (defragSink s) d w (kr.2.data.getD [])).1 with
      lastPos := d.lastPos + (kr.2.data.getD []).length }
    have hd1r : datRestNoPos s d1 = datRestNoPos s d := (datRestNoPos_of s _ _ hg :)
    have hd1f : d1.failed = none := (congrArg (fun x => x.2.2.2.2.2.2.1) hd1r).trans hf
    have hd1s : d1.dataSeq = d.dataSeq :=
    congrArg (fun x => x.2.2.2.2.2.1) hd1r
    obtain ⟨d', w', h1, h2, h3, h4⟩ := ih (fun x hx => hl x (List.mem_cons_of_mem _ hx)) d1
      (bufWrite (defragSink s) d w (kr.2.data.getD [])).2 (acc ++ [(kr.1, { kr.2 with pos := u32 d.lastPos, seq := d.dataSeq })]) hd1f
      ((frame_bufWrite (defragSink s) (defragSink_framed s) d w (kr.2.data.getD [])).eager.trans he)
    refine ⟨d', w', ?_, ?_, ?_, h4.trans hd1r⟩
    · simp only [List.foldl_cons, defragRec_exact s d w acc kr hf he hc]
      rw [h1, hd1s]
      obtain ⟨k, r⟩ := kr
      simp [layout, List.append_assoc]
      rfl
    · rw [h2]
      show Option.map _ (Option.map _ (datFile s (bufWrite (defragSink s) d w (kr.2.data.getD [])).1)) = _
      rw [hfile]
      cases datFile s d <;> simp [valsOf, List.append_assoc]
    · rw [h3]
      show d.lastPos + (kr.2.data.getD []).length + _ = _
      simp [valsOf, List.length_append]
      omega

/-! ### cleanupold never touches the index files, the current data file or a used data file -/

/-- what cleanupold preserves, for a data file `keep` that is current or used -/
def cleanKeeps (keep : Nat) (db : DB) :=
  (db.fs.idx0, db.fs.idx1, db.fs.log, dlookup keep db.fs.dats, db.dataSeq, db.index, db.failed,
   db.datIdx, db.verSeq, db.maxSeq, db.volatile, db.opts)

theorem cleanupold_keeps (db : DB) (used : List Nat) (keep : Nat) (hk : keep = db.dataSeq ∨ used.contains keep = true) :
    cleanKeeps keep (cleanupold db used) = cleanKeeps keep db := by
  unfold cleanupold
  refine List.foldlRecOn (motive := fun d => cleanKeeps keep d = cleanKeeps keep db) _ _ rfl fun d hd x _ => ?_
  split
  · rename_i hx
    have hne : keep ≠ x := by
      rcases hk with h | h
      · exact fun e => hx.1 (e.symm.trans (h.trans (congrArg (·.2.2.2.2.1) hd).symm))
      · intro e; rw [e] at h; exact hx.2 h
    rw [← hd]
    unfold cleanKeeps emit FS.apply
    simp only [Prod.mk.injEq, and_true, true_and]
    exact dlookup_derase_other x keep d.fs.dats hne
  · exact hd

theorem writedatfile_dataSeq (db : DB) : (writedatfile db).dataSeq = db.dataSeq :=
  (Pre.of_eq (·.dataSeq)).writedatfile (fun _ _ _ => rfl) (fun _ _ _ => rfl) (fun _ => rfl) db

/-! ### what defrag leaves on disk -/

theorem defragStart_disk (db : DB) :
    datFile (u32 (db.dataSeq + 1)) (defragStart db) = some (le32 (u32 (db.dataSeq + 1))) ∧ (defragStart db).lastPos = 4 ∧ (defragStart db).dataSeq = (u32 (db.dataSeq + 1)) ∧
    (defragStart db).index = db.index ∧ (defragStart db).failed = db.failed ∧
    (defragStart db).datIdx = db.datIdx ∧ (defragStart db).verSeq = db.verSeq := by
  unfold defragStart checkDat
  simp only [Bool.false_eq_true, ↓reduceIte]
  refine ⟨?_, ?_, ?_, ?_, ?_, ?_, ?_⟩ <;> try trivial
  unfold datFile emit FS.apply
  simp only [dlookup_dset_same]
  simp [writeAt]

/-- defrag of a cached store is its last stage applied to the state `d'` the browse leaves: the records laid out in
    order, the new data file (header and all values, the tail possibly still in the buffer `w'`), nothing else changed -/
theorem defrag_eq (db : DB) (h : Cached db) : ∃ d' w',
    defrag db = defragFinish (u32 (db.dataSeq + 1)) d' w' (layout (u32 (db.dataSeq + 1)) 4 db.index) ∧
    db.index.foldl (defragRec (defragSink (u32 (db.dataSeq + 1)))) (defragStart db, {}, []) =
      (d', w', layout (u32 (db.dataSeq + 1)) 4 db.index) ∧
    (datFile (u32 (db.dataSeq + 1)) d').map (· ++ w'.buf) =
      some (le32 (u32 (db.dataSeq + 1)) ++ (valsOf db.index).flatten) ∧
    d'.lastPos = 4 + (valsOf db.index).flatten.length ∧
    d'.failed = none ∧ d'.dataSeq = u32 (db.dataSeq + 1) ∧ d'.datIdx = db.datIdx ∧ d'.verSeq = db.verSeq := by
  obtain ⟨hs1, hs2, hs3, hs4, hs5, hs8, hs9⟩ := defragStart_disk db
  have hf0 : (defragStart db).failed = none := hs5.trans h.1
  obtain ⟨d', w', hfold, hstream, hlp, hrest⟩ :=
    defragFold_layout (u32 (db.dataSeq + 1)) db.index h.2 (defragStart db) {} [] hf0 (defragStart_frame db).eager
  rw [hs3, hs2, List.nil_append] at hfold
  unfold datRestNoPos at hrest
  simp only [Prod.mk.injEq] at hrest
  obtain ⟨_, _, _, _, _, r6, r7, r8, r9⟩ := hrest
  have hd'f : d'.failed = none := r7.trans hf0
  refine ⟨d', w', ?_, hfold, ?_, by rw [hlp, hs2], hd'f, r6.trans hs3, r8.trans hs8, r9.trans hs9⟩
  · unfold defrag
    simp only [hs4, hs3, hfold, hd'f]
  · rw [hstream, hs1]
    simp

/-- After defrag of a cached store: the index is the laid-out one, the new data file holds the header and
    all values in order, the new snapshot describes exactly that index, and there is neither a log nor
    another snapshot. -/
theorem defrag_disk (db : DB) (h : Cached db) :
    (defrag db).failed = none ∧
    (defrag db).index = layout (u32 (db.dataSeq + 1)) 4 db.index ∧
    idxFile (defrag db).fs (1 - db.datIdx) = some (snapBytes (u32 (db.verSeq + 1)) (layout (u32 (db.dataSeq + 1)) 4 db.index)) ∧
    otherIdx (defrag db).fs (1 - db.datIdx) = none ∧
    (defrag db).fs.log = none ∧
    dlookup (u32 (db.dataSeq + 1)) (defrag db).fs.dats = some (le32 (u32 (db.dataSeq + 1)) ++ (valsOf db.index).flatten) ∧
    (defrag db).dataSeq = (u32 (db.dataSeq + 1)) := by
  obtain ⟨d', w', hdef, _, hfile, _, hd'f, hd's, hd'i, hd'v⟩ := defrag_eq db h
  rw [hdef]
  let recs := layout (u32 (db.dataSeq + 1)) 4 db.index
  let e1 : DB := { d' with index := recs }
  let e2 := bufFlush (defragSink (u32 (db.dataSeq + 1))) e1 w'
  let e3 := writedatfile e2
  have hfin : defragFinish (u32 (db.dataSeq + 1)) d' w' recs =
      { cleanupold e3 (if recs.isEmpty then [] else [(u32 (db.dataSeq + 1))]) with extra := 0, pending := [] } := rfl
  obtain ⟨hfl1, hfl2⟩ := bufFlush_gen (defragSink (u32 (db.dataSeq + 1))) (datFile (u32 (db.dataSeq + 1))) (datRest (u32 (db.dataSeq + 1))) (defragSink_file (u32 (db.dataSeq + 1))) (defragSink_rest (u32 (db.dataSeq + 1))) e1 w'
  unfold datRest at hfl2
  simp only [Prod.mk.injEq] at hfl2
  obtain ⟨_, _, _, _, he2idx, _, f7, f8, f9, f10⟩ := hfl2
  have he2s := f7.trans hd's
  have he2f := f8.trans hd'f
  have he2i := f9.trans hd'i
  have he2v := f10.trans hd'v
  obtain ⟨w1, w2, w3, w4, _, _, w7⟩ := writedatfile_disk e2
  have he3fr := frame_writedatfile e2
  have he3s : e3.dataSeq = (u32 (db.dataSeq + 1)) := (writedatfile_dataSeq e2).trans he2s
  have hck := cleanupold_keeps e3 (if recs.isEmpty then [] else [(u32 (db.dataSeq + 1))]) (u32 (db.dataSeq + 1)) (Or.inl he3s.symm)
  unfold cleanKeeps at hck
  simp only [Prod.mk.injEq] at hck
  obtain ⟨c0, c1, c2, c3, c4, c5, c6, _⟩ := hck
  obtain ⟨k1, k2⟩ := idxFile_congr _ _ c0 c1 (1 - db.datIdx)
  rw [hfin]
  dsimp only
  refine ⟨?_, ?_, ?_, ?_, ?_, ?_, ?_⟩
  · exact c6.trans (he3fr.failed.trans he2f)
  · exact c5.trans (w7.trans he2idx)
  · rw [k1, ← he2i, w1, he2v, he2idx]
  · rw [k2, ← he2i, w2]
  · exact c2.trans w3
  · rw [c3]
    show dlookup (u32 (db.dataSeq + 1)) (writedatfile e2).fs.dats = _
    rw [w4]
    exact hfl1.trans hfile
  · exact c4.trans he3s

end GocoinV.Proofs.C19
