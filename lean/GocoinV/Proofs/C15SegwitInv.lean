/-
  Proofs.C15SegwitInv — SegwitDecode then SegwitEncode: an accepted address is the (lower-cased) encoding of
  the decoded version and program.
-/
import GocoinV.Proofs.C15Segwit
import GocoinV.Proofs.C15Bech32Inv
namespace GocoinV.Bech32
open GocoinV.Addr (asciiLower)

/-- 5 → 8 without padding, then 8 → 5 with padding, gives back the 5-bit string (the padding rules of
    SegwitDecode — fewer than 5 left-over bits, all zero — are exactly what makes this direction lossless) -/
theorem convertBits_58_inv (d w : Bytes) (hd : ∀ x ∈ d, x.toNat < 2 ^ 5)
    (h : convertBits 8 d 5 false = some w) : convertBits 5 w 8 true = some d := by
  obtain ⟨s, hI, hb, hl, e⟩ := convertBits_spec 8 5 (by omega) (by omega) (by omega) d hd false
  rw [e, if_neg (by simp)] at h
  split at h <;> cases h
  rename_i hc
  have hz' : (Vr 5 d.reverse * 2 ^ (8 - s.bits)) % 2 ^ 8 = 0 := by
    rw [← last_toNat _ _ _ _ 8 hI.val (maxv_toNat 8 (by omega)) (by omega) (by omega)]
    exact congrArg UInt32.toNat (Classical.byContradiction fun hne => hc (Or.inl hne))
  have hval : Vr 5 d.reverse = Vr 8 s.out.reverse * 2 ^ s.bits := by
    rw [hI.dig, Nat.div_mul_cancel]
    rw [two_pow_split s.bits 8 (by omega), Nat.mul_mod_mul_right] at hz'
    exact Nat.dvd_of_mod_eq_zero ((Nat.mul_eq_zero.mp hz').resolve_right (Nat.ne_of_gt (Nat.two_pow_pos _)))
  obtain ⟨d', hd'⟩ := convertBits_85_total s.out
  obtain ⟨hlt', p', hp', hl', hv'⟩ := convertBits_85_spec s.out d' hd'
  have hp : p' = s.bits := by omega
  have hlen : d'.length = d.length := by omega
  rw [hp, ← hval] at hv'
  have e : d' = d := by
    simpa using Vr_inj 5 d'.reverse d.reverse (by simpa using hlen)
      (fun x hx => hlt' x (List.mem_reverse.mp hx)) (fun x hx => hd x (List.mem_reverse.mp hx)) hv'
  rw [hd', e]

theorem decode_data_lt (s hrp data : Bytes) (m : Bool) (h : decode s = some (hrp, data, m)) :
    ∀ x ∈ data, x.toNat ≤ 31 :=
  ((encode_isSome_iff hrp data m).mp (by rw [encode_decode s hrp data m h]; rfl)).2.2.1

theorem segwit_encode_decode (hrp s prog : Bytes) (v : Nat)
    (h : segwitDecode hrp s = .ok (v, prog)) : segwitEncode hrp v prog = some (s.map asciiLower) := by
  obtain ⟨d0, rest, m, hdec, rfl, hv, hm, hw, hl2, hl40, hl0⟩ := segwitDecode_ok h
  have hrest : ∀ x ∈ rest, x.toNat < 2 ^ 5 := fun x hx =>
    Nat.lt_succ_of_le (decode_data_lt s hrp _ m hdec x (List.mem_cons_of_mem _ hx))
  have hmv : decide (d0.toNat > 0) = m := by
    cases m <;> simp_all <;> omega
  unfold segwitEncode
  rw [if_neg (by omega), if_neg (by omega), if_neg (by omega), convertBits_58_inv rest prog hrest hw]
  simp only [UInt8.ofNat_toNat, hmv]
  exact encode_decode s hrp _ m hdec

end GocoinV.Bech32
