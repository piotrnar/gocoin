/-
  Proofs.C13 — make_signed_tx up to signing (Model/WalletTx.lean): coin selection, the amounts of the parsed request, the
  built transaction, and that signing touches nothing but scriptSig and witness. Core only.
-/
import GocoinV.Model.WalletTx
namespace GocoinV.WalletTx

def owned (ks : List KeyRec) (u : Coin) : Bool := (pkscrToKey ks u.script).isSome
def valSum (cs : List Coin) : Nat := (cs.map (·.value)).sum
def ownedSum (ks : List KeyRec) (cs : List Coin) : Nat := valSum (cs.filter (owned ks))
def amtSum (ds : List Dest) : Nat := (ds.map (·.amount)).sum
def outSum (os : List TxOut) : Nat := (os.map (·.value)).sum
def outpoint (u : Coin) : Bytes × Nat := (u.txid, u.vout)

theorem u64_of_lt {n : Nat} (h : n < 2^64) : u64 n = n := Nat.mod_eq_of_lt h

theorem select_spec (ks : List KeyRec) (useAll : Bool) (need : Nat) :
    ∀ (cs : List Coin) (sofar : Nat), sofar + ownedSum ks cs < 2^64 →
      (select ks useAll need cs sofar).total = sofar + valSum (select ks useAll need cs sofar).picked ∧
      (select ks useAll need cs sofar).picked.Sublist cs ∧
      (∀ u ∈ (select ks useAll need cs sofar).picked, owned ks u = true) ∧
      valSum (select ks useAll need cs sofar).picked ≤ ownedSum ks cs := by
  intro cs
  induction cs with
  | nil => intro sofar _; simp [select, valSum, ownedSum]
  | cons c cs ih =>
    intro sofar hlt
    unfold select
    cases hk : pkscrToKey ks c.script with
    | none =>
      have hown : owned ks c = false := by simp [owned, hk]
      have hs : ownedSum ks (c :: cs) = ownedSum ks cs := by simp [ownedSum, List.filter, hown]
      rw [hs] at hlt
      obtain ⟨h1, h2, h3, h4⟩ := ih sofar hlt
      refine ⟨h1, h2.cons _, h3, ?_⟩
      rw [hs]; exact h4
    | some k =>
      have hown : owned ks c = true := by simp [owned, hk]
      have hs : ownedSum ks (c :: cs) = c.value + ownedSum ks cs := by
        simp [ownedSum, List.filter, hown, valSum]
      rw [hs] at hlt
      have hu : u64 (sofar + c.value) = sofar + c.value := u64_of_lt (by omega)
      simp only [hu]
      split
      · refine ⟨by simp [valSum], ?_, ?_, ?_⟩
        · exact (List.Sublist.cons_cons c (List.nil_sublist cs))
        · exact List.forall_mem_singleton.mpr hown
        · rw [hs]; simp [valSum]
      · obtain ⟨h1, h2, h3, h4⟩ := ih (sofar + c.value) (by omega)
        refine ⟨?_, h2.cons_cons _, ?_, ?_⟩
        · simp only [h1, valSum, List.map_cons, List.sum_cons]; omega
        · exact List.forall_mem_cons.mpr ⟨hown, h3⟩
        · rw [hs]; simp only [valSum, List.map_cons, List.sum_cons] at h4 ⊢; omega

/-- the lines that stay in unspent.txt and the picked ones partition the list (as multisets of positions):
    lengths add up. -/
theorem select_lengths (ks : List KeyRec) (useAll : Bool) (need : Nat) :
    ∀ (cs : List Coin) (sofar : Nat),
      (select ks useAll need cs sofar).picked.length + (select ks useAll need cs sofar).rest.length = cs.length := by
  intro cs
  induction cs with
  | nil => intro _; simp [select]
  | cons c cs ih =>
    intro sofar
    unfold select
    cases hk : pkscrToKey ks c.script with
    | none => simp only [List.length_cons]; have := ih sofar; omega
    | some k =>
      simp only []
      split
      · simp; omega
      · simp only [List.length_cons]; have := ih (u64 (sofar + c.value)); omega

abbrev PaysTo (d : Dest) (o : TxOut) : Prop := o.value = d.amount ∧ Addr.outScript d.addr = some o.script

/-- the outputs pay the destinations one by one, in order: same length, same amounts, the address's script -/
inductive PaysAll : List Dest → List TxOut → Prop
  | nil : PaysAll [] []
  | cons {d o ds os} : PaysTo d o → PaysAll ds os → PaysAll (d :: ds) (o :: os)

theorem destOuts_spec : ∀ (ds : List Dest) (os : List TxOut), destOuts ds = .ok os → PaysAll ds os := by
  intro ds
  induction ds with
  | nil => intro os h; simp [destOuts] at h; subst h; exact .nil
  | cons d ds ih =>
    intro os h
    unfold destOuts at h
    unfold outOf at h
    cases hs : Addr.outScript d.addr with
    | none => simp [hs] at h
    | some s =>
      simp only [hs] at h
      cases hr : destOuts ds with
      | error e => simp [hr] at h
      | ok os' =>
        simp only [hr, Except.ok.injEq] at h
        subst h
        exact .cons ⟨rfl, hs⟩ (ih os' hr)

theorem forall2_outSum : ∀ (ds : List Dest) (os : List TxOut), PaysAll ds os → outSum os = amtSum ds := by
  intro ds os h
  induction h with
  | nil => rfl
  | cons hd _ ih =>
    simp only [outSum, amtSum, List.map_cons, List.sum_cons] at ih ⊢
    rw [hd.1, ih]

/-! ### request parsing keeps spendBtc = Σ amounts (mod 2^64) -/

def ReqInv (st : Req) : Prop := st.2 = u64 (amtSum st.1)

theorem reqInv_step (st : Req) (d : Dest) (h : ReqInv st) :
    ReqInv (st.1 ++ [d], u64 (st.2 + d.amount)) := by
  unfold ReqInv at *
  simp only [amtSum, List.map_append, List.sum_append, List.map_cons, List.map_nil, List.sum_cons, List.sum_nil,
    Nat.add_zero]
  rw [h]
  unfold u64 amtSum
  omega

theorem parseSendItems_inv (H : Addr.Hashes) (c : Cfg) :
    ∀ (its : List Bytes) (i : Nat) (st st' : Req), ReqInv st → parseSendItems H c i its st = .ok st' → ReqInv st' := by
  intro its
  induction its with
  | nil => intro i st st' hi h; simp [parseSendItems] at h; subst h; exact hi
  | cons it its ih =>
    intro i st st' hi h
    unfold parseSendItems at h
    cases hp : parseSendItem H c i it st with
    | error e => simp [hp] at h
    | ok st1 =>
      simp only [hp] at h
      refine ih (i + 1) st1 st' ?_ h
      unfold parseSendItem at hp
      split at hp
      · split at hp
        · simp at hp
        · split at hp
          · split at hp
            · simp at hp
            · simp only [Except.ok.injEq] at hp
              subst hp
              exact reqInv_step st _ hi
          · simp at hp
      · simp at hp

theorem parseBatch_inv (H : Addr.Hashes) (c : Cfg) :
    ∀ (ls : List Bytes) (st st' : Req), ReqInv st → parseBatch H c ls st = .ok st' → ReqInv st' := by
  intro ls
  induction ls with
  | nil => intro st st' hi h; simp [parseBatch] at h; subst h; exact hi
  | cons l ls ih =>
    intro st st' hi h
    unfold parseBatch at h
    cases hp : parseBatchLine H c l st with
    | error e => simp [hp] at h
    | ok st1 =>
      simp only [hp] at h
      refine ih st1 st' ?_ h
      unfold parseBatchLine at hp
      split at hp
      · split at hp
        · simp at hp
        · split at hp
          · simp only [Except.ok.injEq] at hp; subst hp; exact hi
          · split at hp
            · simp at hp
            · split at hp
              · simp only [Except.ok.injEq] at hp
                subst hp
                exact reqInv_step st _ hi
              · simp at hp
      · simp at hp

theorem sendRequest_inv (H : Addr.Hashes) (c : Cfg) (send : Option Bytes) (batch : Option (List Bytes)) (req : Req)
    (h : sendRequest H c send batch = .ok req) : ReqInv req := by
  unfold sendRequest at h
  have h0 : ReqInv (([], 0) : Req) := by simp [ReqInv, amtSum, u64]
  cases send with
  | none =>
    cases batch with
    | none => simp only [Except.ok.injEq] at h; subst h; exact h0
    | some ls => exact parseBatch_inv H c ls _ _ h0 h
  | some s =>
    cases hp : parseSpend H c s ([], 0) with
    | error e => simp [hp] at h
    | ok st =>
      simp only [hp] at h
      have h1 : ReqInv st := parseSendItems_inv H c _ 0 _ _ h0 hp
      cases batch with
      | none => simp only [Except.ok.injEq] at h; subst h; exact h1
      | some ls => exact parseBatch_inv H c ls _ _ h1 h

/-! ### make_signed_tx up to signing -/

theorem build_spec (H : Addr.Hashes) (c : Cfg) (ks : List KeyRec) (coins : List Coin) (req : Req) (b : Built)
    (hb : build H c ks coins req = .ok b) (hbal : ownedSum ks coins < 2^64) :
    ∃ outs chg,
      PaysAll req.1 outs ∧
      b.tx.outs = outs ++ chg ++ (if c.msg.isEmpty then [] else [{ value := 0, script := msgScript c.msg }]) ∧
      (b.change = 0 → chg = []) ∧
      (0 < b.change → ∃ a s, changeAddr H c ks coins = .ok a ∧ Addr.outScript a = some s ∧
          chg = [{ value := b.change, script := s }]) ∧
      b.tx.ins = b.spent.map (fun u => { txid := u.txid, vout := u.vout, scriptSig := [], sequence := c.seq }) ∧
      b.tx.version = c.version ∧ b.tx.lockTime = c.lockTime ∧ b.tx.wit = none ∧
      b.spent.Sublist coins ∧ (∀ u ∈ b.spent, owned ks u = true) ∧
      valSum b.spent = u64 (req.2 + c.fee) + b.change := by
  unfold build at hb
  simp only [] at hb
  obtain ⟨hs1, hs2, hs3, _⟩ := select_spec ks c.useAll (u64 (req.2 + c.fee)) coins 0 (by omega)
  split at hb
  · simp at hb
  · rename_i hge
    cases hd : destOuts req.1 with
    | error e => simp [hd] at hb
    | ok outs =>
      simp only [hd] at hb
      split at hb
      · simp at hb
      · rename_i chg hchg
        simp only [Except.ok.injEq] at hb
        subst hb
        refine ⟨outs, chg, destOuts_spec _ _ hd, rfl, ?_, ?_, rfl, rfl, rfl, rfl, hs2, hs3, ?_⟩
        · intro h0
          simp only at h0
          rw [if_neg (by omega)] at hchg
          exact (Except.ok.inj hchg).symm
        · intro hpos
          rw [if_pos hpos] at hchg
          cases ha : changeAddr H c ks coins with
          | error e => simp [ha] at hchg
          | ok a =>
            simp only [ha] at hchg
            unfold outOf at hchg
            cases hsc : Addr.outScript a with
            | none => simp [hsc] at hchg
            | some sc =>
              simp only [hsc, Except.ok.injEq] at hchg
              exact ⟨a, sc, rfl, hsc, hchg.symm⟩
        · simp only
          rw [Nat.zero_add] at hs1
          omega

/-- funds insufficient ⇒ make_signed_tx exits before anything is built -/
theorem build_insufficient (H : Addr.Hashes) (c : Cfg) (ks : List KeyRec) (coins : List Coin) (req : Req)
    (hnw : req.2 + c.fee < 2^64) (hlow : ownedSum ks coins < req.2 + c.fee) :
    build H c ks coins req = .error .exit1 := by
  unfold build
  obtain ⟨hs1, _, _, hs4⟩ := select_spec ks c.useAll (u64 (req.2 + c.fee)) coins 0 (by omega)
  rw [u64_of_lt hnw] at hs1 hs4 ⊢
  rw [Nat.zero_add] at hs1
  have : (select ks c.useAll (req.2 + c.fee) coins 0).total < req.2 + c.fee := by omega
  simp [this]

/-! ### signing touches nothing but scriptSig and witness -/

theorem applyIns_outpoints : ∀ (ins : List TxIn) (rs : List InSign),
    (applyIns ins rs).map (fun i => (i.txid, i.vout, i.sequence)) = ins.map (fun i => (i.txid, i.vout, i.sequence)) := by
  intro ins
  induction ins with
  | nil => intro rs; simp [applyIns]
  | cons i is ih =>
    intro rs
    cases rs with
    | nil => simp [applyIns]
    | cons r rs => simp [applyIns, ih]

theorem signTx_skeleton (H : Addr.Hashes) (c : Cfg) (ks : List KeyRec) (sig : Skeleton → SigFn) (ms : MsFn)
    (t : Tx) (spent : List (Option TxOut)) : skeleton (signTx H c ks sig ms t spent).1 = skeleton t := by
  simp [signTx, skeleton, applyIns_outpoints]

end GocoinV.WalletTx
