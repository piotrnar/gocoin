/-
  Proofs.C14Words — the regenerated BIP39 word list (lib/others/bip39/wordlist.go). The kernel evaluates three things
  on it: its length, the shape of the words, and a linear "strictly increasing" check on the keys
  of the four-letter prefixes; uniqueness and the order of the whole words follow by arithmetic.
-/
import GocoinV.Model.Bip39
import GocoinV.Proofs.C15Base58
namespace GocoinV.Proofs.C14
open GocoinV

/-- big-endian value of the word right-padded with zero bytes to 8 bytes: for words of at most 8
    non-zero bytes the order of keys is the lexicographic order of the words -/
def wordKey (w : Bytes) : Nat := beVal (w ++ List.replicate (8 - w.length) 0)

def strictInc : List Nat → Bool
  | [] => true
  | [_] => true
  | a :: b :: t => decide (a < b) && strictInc (b :: t)

theorem strictInc_pairwise : ∀ (l : List Nat), strictInc l = true → l.Pairwise (· < ·)
  | [], _ => .nil
  | [_], _ => List.pairwise_singleton ..
  | a :: b :: t, h => by
    simp only [strictInc, Bool.and_eq_true, decide_eq_true_eq] at h
    have ih := strictInc_pairwise (b :: t) h.2
    refine .cons (List.forall_mem_cons.mpr ⟨h.1, fun x hx => ?_⟩) ih
    exact Nat.lt_trans h.1 (List.rel_of_pairwise_cons ih hx)

/-- big-endian value of the first `k` bytes of `w`, zero bytes standing in for missing ones -/
def prefixKey : Nat → Bytes → Nat
  | 0, _ => 0
  | _, [] => 0
  | k+1, c :: w => c.toNat * 256 ^ k + prefixKey k w

theorem prefixKey_lt : ∀ (k : Nat) (w : Bytes), prefixKey k w < 256 ^ k
  | 0, _ => by simp [prefixKey]
  | k+1, [] => by simp [prefixKey, Nat.pow_pos]
  | k+1, c :: w => by
    have hw := prefixKey_lt k w
    have hc : (c.toNat + 1) * 256 ^ k ≤ 256 * 256 ^ k := Nat.mul_le_mul_right _ c.toNat_lt
    rw [Nat.succ_mul] at hc
    rw [prefixKey, Nat.pow_succ, Nat.mul_comm (256 ^ k)]
    omega

theorem prefixKey_take : ∀ (k : Nat) (w : Bytes), prefixKey k (w.take k) = prefixKey k w
  | 0, _ => rfl
  | k+1, [] => rfl
  | k+1, c :: w => by simp [prefixKey, prefixKey_take k w]

theorem prefixKey_add : ∀ (j k : Nat) (w : Bytes),
    prefixKey (j + k) w = prefixKey j w * 256 ^ k + prefixKey k (w.drop j)
  | 0, k, w => by simp [prefixKey]
  | j+1, k, [] => by cases k <;> simp [prefixKey]
  | j+1, k, c :: w => by
    simp only [Nat.add_right_comm j 1 k, prefixKey, prefixKey_add j k w, List.drop_succ_cons, Nat.pow_add]
    grind

theorem beVal_pad : ∀ (k : Nat) (w : Bytes), w.length ≤ k →
    beVal (w ++ List.replicate (k - w.length) 0) = prefixKey k w
  | k, [], _ => by
    cases k <;> simp [beVal, prefixKey, leVal, Base58.leVal_replicate_zero]
  | 0, c :: w, h => by simp at h
  | k+1, c :: w, h => by
    have ih := beVal_pad k w (by simpa using h)
    simp only [beVal] at ih
    simp only [beVal, List.cons_append, List.reverse_cons, leVal_append, leVal, List.length_cons,
      Nat.add_sub_add_right, ih, prefixKey, List.length_reverse, List.length_append, List.length_replicate]
    rw [Nat.add_sub_cancel' (by simpa using h)]
    grind

open Gen.Bip39Words in
/-- The generated list is a left-nested `++` of 16 chunks, which the kernel evaluates in time
    proportional to the nesting depth per word; the sweeps below run on the right-nested form. -/
theorem wordList_eq : Bip39.wordList = words00 ++ (words01 ++ (words02 ++ (words03 ++ (words04 ++ (words05 ++
    (words06 ++ (words07 ++ (words08 ++ (words09 ++ (words10 ++ (words11 ++ (words12 ++ (words13 ++ (words14 ++
    words15)))))))))))))) := by
  unfold Bip39.wordList words
  simp only [List.append_assoc]

theorem wordList_length : Bip39.wordList.length = 2048 := by rw [wordList_eq]; decide +kernel

theorem words_shape : ∀ w ∈ Bip39.wordList, 3 ≤ w.length ∧ w.length ≤ 8 ∧ ∀ c ∈ w, 97 ≤ c.toNat ∧ c.toNat ≤ 122 := by
  have : Bip39.wordList.all (fun w => 3 ≤ w.length && w.length ≤ 8 && w.all (fun c => 97 ≤ c.toNat && c.toNat ≤ 122)) = true := by
    rw [wordList_eq]; decide +kernel
  simpa [and_assoc] using this

theorem prefix_keys_inc : (Bip39.wordList.map (prefixKey 4)).Pairwise (· < ·) :=
  strictInc_pairwise _ (by rw [wordList_eq]; decide +kernel)

theorem wordList_prefix4_nodup : (Bip39.wordList.map (·.take 4)).Nodup :=
  List.pairwise_map.mpr ((List.pairwise_map.mp prefix_keys_inc).imp fun hab e => by
    rw [← prefixKey_take 4, e, prefixKey_take] at hab
    exact Nat.lt_irrefl _ hab)

theorem wordList_nodup : Bip39.wordList.Nodup := 
  List.Pairwise.of_map _ (fun _ _ h e => h (e ▸ rfl)) wordList_prefix4_nodup

/-- The words are in lexicographic order: already their first four letters are. -/
theorem keys_inc : (Bip39.wordList.map wordKey).Pairwise (· < ·) := by
  refine List.pairwise_map.mpr ((List.pairwise_map.mp prefix_keys_inc).imp_of_mem fun {a b} ha hb hab => ?_)
  have hb' := prefixKey_lt 4 (a.drop 4)
  rw [wordKey, wordKey, beVal_pad 8 a (words_shape a ha).2.1, beVal_pad 8 b (words_shape b hb).2.1,
    prefixKey_add 4 4 a, prefixKey_add 4 4 b]
  omega

end GocoinV.Proofs.C14
