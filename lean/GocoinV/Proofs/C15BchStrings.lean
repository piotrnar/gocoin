/-
  Proofs.C15BchStrings — from a syndrome lemma (`pf_detect3`, Proofs/C15BchOrbit.lean) to strings (`detect_gen`): two
  strings accepted by `bech32.Decode` with the same human-readable part and the same checksum variant, of equal
  length, that differ (case-insensitively) in at most n characters, are equal up to case.
-/
import GocoinV.Proofs.C15Bech32Inv
namespace GocoinV.Bech32
open Addr

/-- number of positions at which two strings differ (positions beyond the shorter one are ignored;
    all uses below are on strings of equal length) -/
def hamming (a b : Bytes) : Nat := ((List.zip a b).filter (fun p => p.1 != p.2)).length

theorem hamming_cons (x y : UInt8) (a b : Bytes) :
    hamming (x :: a) (y :: b) = (if x = y then 0 else 1) + hamming a b := by
  unfold hamming
  by_cases hxy : x = y
  · simp [hxy]
  · simp [hxy]; omega

theorem hamming_prefix (p a b : Bytes) : hamming (p ++ a) (p ++ b) = hamming a b := by
  induction p with
  | nil => rfl
  | cons x t ih => simp only [List.cons_append, hamming_cons, ↓reduceIte, ih, Nat.zero_add]

theorem hamming_map_ge (f : UInt8 → UInt8) (a : Bytes) : ∀ b : Bytes,
    (∀ x ∈ a, ∀ y ∈ b, f x = f y → x = y) → hamming a b ≤ hamming (a.map f) (b.map f) := by
  induction a with
  | nil => intro b _; simp [hamming]
  | cons x t ih =>
    intro b hinj
    cases b with
    | nil => simp [hamming]
    | cons y t' =>
      simp only [List.map_cons, hamming_cons]
      refine Nat.add_le_add ?_ (ih t' fun p hp q hq => hinj p (List.mem_cons_of_mem _ hp) q (List.mem_cons_of_mem _ hq))
      by_cases hxy : x = y
      · simp [hxy]
      · rw [if_neg hxy, if_neg fun h => hxy (hinj x List.mem_cons_self y List.mem_cons_self h)]
        exact Nat.le_refl _

theorem weight_cons (x : UInt8) (t : Bytes) : weight (x :: t) = (if x = 0 then 0 else 1) + weight t := by
  unfold weight
  by_cases hx : x = 0
  · simp [hx]
  · simp [hx]; omega

theorem weight_xor (a : Bytes) : ∀ b : Bytes, weight (List.zipWith (· ^^^ ·) a b) = hamming a b := by
  induction a with
  | nil => intro b; simp [weight, hamming]
  | cons x t ih =>
    intro b
    cases b with
    | nil => simp [weight, hamming]
    | cons y t' =>
      simp only [List.zipWith_cons_cons, weight_cons, hamming_cons, ih t', UInt8.xor_eq_zero_iff]

theorem eq_of_xor_zero (a : Bytes) : ∀ b : Bytes, a.length = b.length →
    (∀ z ∈ List.zipWith (· ^^^ ·) a b, z = 0) → a = b := by
  induction a with
  | nil => intro b hl _; exact (List.eq_nil_of_length_eq_zero hl.symm).symm
  | cons x t ih =>
    intro b hl hz
    cases b with
    | nil => simp at hl
    | cons y t' =>
      simp only [List.zipWith_cons_cons, List.mem_cons, forall_eq_or_imp, UInt8.xor_eq_zero_iff] at hz
      rw [hz.1, ih t' (by simpa using hl) hz.2]

theorem xor_le31 (a b : UInt8) (ha : a.toNat ≤ 31) (hb : b.toNat ≤ 31) : (a ^^^ b).toNat ≤ 31 := by
  rw [UInt8.toNat_xor]
  exact Nat.le_of_lt_succ (Nat.xor_lt_two_pow (n := 5) (Nat.lt_succ_of_le ha) (Nat.lt_succ_of_le hb))

theorem zip_sym (a : Bytes) : ∀ b : Bytes, (∀ x ∈ a, x.toNat ≤ 31) → (∀ y ∈ b, y.toNat ≤ 31) →
    ∀ z ∈ List.zipWith (· ^^^ ·) a b, z.toNat ≤ 31 := by
  intro b ha hb z hz
  rw [← List.map_uncurry_zip_eq_zipWith, List.mem_map] at hz
  obtain ⟨⟨x, y⟩, hm, rfl⟩ := hz
  exact xor_le31 x y (ha x (List.of_mem_zip hm).1) (hb y (List.of_mem_zip hm).2)

theorem charsetAt_inj (x y : UInt8) (hx : x.toNat ≤ 31) (hy : y.toNat ≤ 31) (h : charsetAt x = charsetAt y) : x = y := by
  rw [← charsetRev_charsetAt x hx, ← charsetRev_charsetAt y hy, h]

theorem detect_gen (n : Nat)
    (H : ∀ e : Bytes, (∀ x ∈ e, x.toNat ≤ 31) → e.length ≤ 89 → weight e ≤ n → pf 0 e = 0 →
      e = List.replicate e.length 0)
    (s s' hrp d d' : Bytes) (m : Bool)
    (h : decode s = some (hrp, d, m)) (h' : decode s' = some (hrp, d', m))
    (hlen : s.length = s'.length) (hd : hamming (s.map asciiLower) (s'.map asciiLower) ≤ n) :
    s.map asciiLower = s'.map asciiLower := by
  obtain ⟨w, hs, _, hwl, hcap, hsym, hpf⟩ := encode_word (encode_decode s hrp d m h)
  obtain ⟨w', hs', _, hwl', hcap', hsym', hpf'⟩ := encode_word (encode_decode s' hrp d' m h')
  have hww : w.length = w'.length := by
    have a := congrArg List.length hs
    have b := congrArg List.length hs'
    simp only [List.length_map, List.length_append, List.length_cons, List.length_nil] at a b
    omega
  rw [hs, hs', hamming_prefix] at hd
  have hdw : hamming w w' ≤ n :=
    Nat.le_trans (hamming_map_ge charsetAt w w' (fun x hx y hy => charsetAt_inj x y (hsym x hx) (hsym' y hy))) hd
  have hsyn : pf 0 (List.zipWith (· ^^^ ·) w w') = 0 := by
    have := pf_zipWith_xor w w' (hrpState hrp) (hrpState hrp) hww
    rw [hpf, hpf', UInt32.xor_self, UInt32.xor_self] at this
    exact this.symm
  have hz := H _ (zip_sym w w' hsym hsym') (by simp; omega) (by rw [weight_xor]; exact hdw) hsyn
  rw [hs, hs', eq_of_xor_zero w w' hww (List.eq_replicate_iff.mp hz).2]

end GocoinV.Bech32
