/-
  Proofs.C06CommitTxs — `commitTxs` produces `ValidChanges` (the hypothesis of `undo_commit`): invariant of the
  input loop (delete list and undo list stay aligned, keys distinct and present, spent-flag lists as long as
  the record) carried through procInput / procInputs / procTxs.
-/
import GocoinV.Model.UtxoOps
import GocoinV.Proofs.C06Utxo
import GocoinV.Base.Lemmas
namespace GocoinV.UtxoOps


theorem alookup_some_mem {β} {k : Nat} {l : List (Nat × β)} {v : β} (h : alookup k l = some v) : (k, v) ∈ l :=
  Assoc.mem_of_lookup (alookup_eq k l ▸ h)

theorem alookup_none_not_mem {β} {k : Nat} {l : List (Nat × β)} (h : alookup k l = none) : k ∉ l.map (·.1) :=
  (Assoc.lookup_eq_none_iff l k).mp (alookup_eq k l ▸ h)

theorem mem_aset {β} {k : Nat} {v : β} {l : List (Nat × β)} {p : Nat × β} (h : p ∈ aset k v l) :
    p ∈ l ∨ p = (k, v) := Assoc.mem_insert (aset_eq k v l ▸ h)

theorem aset_keys {β} (k : Nat) (v : β) (l : List (Nat × β)) :
    (aset k v l).map (·.1) = if k ∈ l.map (·.1) then l.map (·.1) else l.map (·.1) ++ [k] := by
  rw [aset_eq]; exact Assoc.keys_insert l k v

theorem aset_nodup {β} (k : Nat) (v : β) (l : List (Nat × β)) (h : (l.map (·.1)).Nodup) :
    ((aset k v l).map (·.1)).Nodup := by
  rw [aset_eq]; exact Assoc.nodup_insert k v h

/-- the aligned update: `recSet` on the mapped list does what `aset` does on the delete list -/
theorem recSet_map_aset (g : Nat × List Bool → Rec) (hg : ∀ p, (g p).txid = p.1)
    (t : Nat) (m : List Bool) (f : Rec → Rec) (mk : Unit → Rec) (l : List (Nat × List Bool))
    (hsome : ∀ m0, alookup t l = some m0 → f (g (t, m0)) = g (t, m))
    (hnone : alookup t l = none → f (mk ()) = g (t, m)) :
    recSet t f mk (l.map g) = (aset t m l).map g := by
  induction l with
  | nil =>
    simp only [List.map_nil, recSet, aset, List.map_cons]
    rw [hnone rfl]
  | cons q qs ih =>
    obtain ⟨a, b⟩ := q
    by_cases hab : a = t
    · subst hab
      have := hsome b (by simp [alookup])
      simp only [List.map_cons, recSet, hg, beq_self_eq_true, if_true, aset, this]
    · have h1 : (a == t) = false := by simpa using hab
      simp only [List.map_cons, recSet, hg, h1, aset, Bool.false_eq_true, if_false]
      rw [ih]
      · intro m0 h; exact hsome m0 (by simpa [alookup, h1] using h)
      · intro h; exact hnone (by simpa [alookup, h1] using h)


theorem maskOuts_set (outs : List (Option Out)) (m : List Bool) (v : Nat) (hv : v < m.length) :
    maskOuts outs (m.set v true) = (maskOuts outs m).set v (outs.getD v none) := by
  induction outs generalizing m v with
  | nil => simp [maskOuts]
  | cons o os ih =>
    cases m with
    | nil => simp at hv
    | cons b bs =>
      cases v with
      | zero => simp [maskOuts]
      | succ v =>
        simp only [List.set_cons_succ, maskOuts, List.getD_cons_succ]
        rw [ih bs v (by simpa using hv)]

theorem maskOuts_replicate_false (outs : List (Option Out)) (n : Nat) :
    maskOuts outs (List.replicate n false) = List.replicate outs.length none := by
  induction outs generalizing n with
  | nil => simp [maskOuts]
  | cons o os ih =>
    cases n with
    | zero => simpa [maskOuts, List.replicate_succ] using ih 0
    | succ n => simp [maskOuts, List.replicate_succ, ih n]

-- ------------------------------------------------------------------------------------------ the loop invariant


structure CInv (u : DB) (K : List Nat) (st : CState) : Prop where
  nodup : (st.deled.map (·.1)).Nodup
  present : ∀ p ∈ st.deled, ∃ r, u.get p.1 = some r ∧ p.2.length = r.outs.length
  aligned : st.undo = st.deled.map (undoRecOf u)
  keys : ∀ p ∈ st.blUnsp, p.1 ∈ K

theorem unspentGet_some {u : DB} {t v : Nat} {r : Rec} {o : Out} (h : unspentGet u t v = some (r, o)) :
    u.get t = some r ∧ r.outs[v]? = some (some o) := by
  unfold unspentGet at h
  split at h
  · cases h
  · rename_i r' hr'
    split at h
    · rename_i o' ho'
      simp only [Option.some.injEq, Prod.mk.injEq] at h
      obtain ⟨rfl, rfl⟩ := h
      exact ⟨hr', ho'⟩
    · cases h

theorem cinv_addtx (u : DB) (K : List Nat) (st : CState) (k : Nat) (x : List (Option Out) × Bool)
    (hi : CInv u K st) (hk : k ∈ K) :
    CInv u K { deled := st.deled, undo := st.undo, blUnsp := aset k x st.blUnsp } := by
  refine ⟨hi.nodup, hi.present, hi.aligned, ?_⟩
  intro p hp
  rcases mem_aset hp with h | h
  · exact hi.keys p h
  · subst h; exact hk

theorem cinv_spend (u : DB) (K : List Nat) (st : CState) (i : TxIn) (r : Rec) (o : Out)
    (hi : CInv u K st) (hg : unspentGet u i.txid i.vout = some (r, o))
    (hlen : ∀ m0, alookup i.txid st.deled = some m0 → i.vout < m0.length) :
    CInv u K
      { deled := aset i.txid (((alookup i.txid st.deled).getD (List.replicate r.outs.length false)).set i.vout true) st.deled,
        undo := recSet i.txid (fun u => { txid := u.txid, height := u.height, coinbase := u.coinbase, outs := u.outs.set i.vout (some o) })
                  (fun _ => { txid := i.txid, height := r.height, coinbase := r.coinbase, outs := List.replicate r.outs.length none })
                  st.undo,
        blUnsp := st.blUnsp } := by
  obtain ⟨hget, hout⟩ := unspentGet_some hg
  have hvlt : i.vout < r.outs.length := (List.getElem?_eq_some_iff.mp hout).1
  have hgetD : r.outs.getD i.vout none = some o := by
    simp [List.getD, hout]
  have htx : r.txid = i.txid := get_txid hget
  refine ⟨aset_nodup _ _ _ hi.nodup, ?_, ?_, hi.keys⟩
  · intro p hp
    rcases mem_aset hp with h | h
    · exact hi.present p h
    · subst h
      refine ⟨r, hget, ?_⟩
      simp only [List.length_set]
      cases hm : alookup i.txid st.deled with
      | none => simp
      | some m0 =>
        obtain ⟨r', hr', hl'⟩ := hi.present _ (alookup_some_mem hm)
        simp only at hr' hl'
        rw [hget] at hr'
        cases hr'
        simpa using hl'
  · simp only
    rw [hi.aligned]
    apply recSet_map_aset (undoRecOf u) (undoRecOf_txid u)
    · intro m0 hm0
      simp only [hm0, Option.getD_some, undoRecOf, hget]
      rw [maskOuts_set _ _ _ (hlen m0 hm0), hgetD]
    · intro hn
      simp only [hn, Option.getD_none, undoRecOf, hget]
      rw [maskOuts_set _ _ _ (by simpa using hvlt), hgetD, maskOuts_replicate_false]
      cases r
      simp_all

/-- the two ways an input is accepted: it spends an output created earlier in the same block (only `blUnsp` changes, at a key
    that is there already), or an unspent output of the map (within the mask kept for that record, if there is one) -/
theorem procInput_ok {u : DB} {h : Nat} {st st' : CState} {i : TxIn} {v : Nat} (hr : procInput u h st i = .ok (st', v)) :
    (∃ y x, alookup i.txid st.blUnsp = some y ∧ st' = { st with blUnsp := aset i.txid x st.blUnsp }) ∨
    (∃ r o, unspentGet u i.txid i.vout = some (r, o) ∧ (∀ m0, alookup i.txid st.deled = some m0 → i.vout < m0.length) ∧
      st' = { st with
        deled := aset i.txid (((alookup i.txid st.deled).getD (List.replicate r.outs.length false)).set i.vout true) st.deled,
        undo := recSet i.txid (fun u => { u with outs := u.outs.set i.vout (some o) })
          (fun _ => { txid := i.txid, height := r.height, coinbase := r.coinbase, outs := List.replicate r.outs.length none })
          st.undo }) := by
  unfold procInput at hr
  simp only [bind, Except.bind, pure, Except.pure, throw, throwThe, MonadExceptOf.throw] at hr
  -- the test against the outputs this block has spent passes and `vout` lies inside that map; what remains is one term
  obtain ⟨hlen, hr⟩ : (∀ m0, alookup i.txid st.deled = some m0 → i.vout < m0.length) ∧ _ = Except.ok (st', v) := by
    split at hr
    · rename_i m hm
      split at hr
      · cases hr
      · split at hr
        · cases hr
        · exact ⟨fun m0 hm0 => (by rw [hm] at hm0; cases hm0; omega), hr⟩
    · rename_i hm
      exact ⟨fun m0 hm0 => (by rw [hm] at hm0; cases hm0), hr⟩
  split at hr
  · split at hr
    · cases hr
    · rename_i t wasCb hb
      split at hr
      · cases hr
      · split at hr
        · cases hr
        · split at hr
          · cases hr
          · simp only [Except.ok.injEq, Prod.mk.injEq] at hr
            exact Or.inl ⟨_, _, hb, hr.1.symm⟩
  · rename_i r o hg
    split at hr
    · cases hr
    · simp only [Except.ok.injEq, Prod.mk.injEq] at hr
      exact Or.inr ⟨r, o, hg, hlen, hr.1.symm⟩

theorem procInputs_inv (u : DB) (K : List Nat) (h : Nat) (is : List TxIn) (st st' : CState) (v : Nat)
    (hi : CInv u K st) (hr : procInputs u h st is = .ok (st', v)) : CInv u K st' := by
  induction is generalizing st st' v with
  | nil => cases hr; exact hi
  | cons i is ih =>
    obtain ⟨⟨st1, v1⟩, hx, hr⟩ := bind_ok hr
    obtain ⟨⟨st2, s⟩, hy, hr⟩ := bind_ok hr
    cases hr
    refine ih st1 _ s ?_ hy
    rcases procInput_ok hx with ⟨y, x, hb, rfl⟩ | ⟨r, o, hg, hlen, rfl⟩
    · exact cinv_addtx u K st _ _ hi (hi.keys _ (alookup_some_mem hb))
    · exact cinv_spend u K st i r o hi hg hlen

theorem procTxs_inv (u : DB) (K : List Nat) (h : Nat) (txs : List Tx) (first : Bool) (st st' : CState)
    (res : Nat × Nat × Bool)
    (hi : CInv u K st) (hk : ∀ tx ∈ txs, tx.txid ∈ K)
    (hr : procTxs u h first st txs = .ok (st', res)) : CInv u K st' := by
  induction txs generalizing st st' first res with
  | nil => cases hr; exact hi
  | cons tx txs ih =>
    have hk1 : tx.txid ∈ K := hk tx List.mem_cons_self
    have hk2 : ∀ t ∈ txs, t.txid ∈ K := fun t ht => hk t (List.mem_cons_of_mem _ ht)
    cases first with
    | true =>
      obtain ⟨_, hx, hr⟩ := bind_ok hr
      cases hx
      obtain ⟨y, hy, hr⟩ := bind_ok hr
      cases hr
      exact ih false _ _ _ (cinv_addtx u K st tx.txid _ hi hk1) hk2 hy
    | false =>
      obtain ⟨x, hx, hr⟩ := bind_ok hr
      have h1 := procInputs_inv u K h tx.ins st x.1 x.2 hi hx
      simp only at hr
      split at hr
      · cases hr
      · obtain ⟨y, hy, hr⟩ := bind_ok hr
        cases hr
        exact ih false _ _ _ (cinv_addtx u K x.1 tx.txid _ h1 hk1) hk2 hy

theorem cinv_empty (u : DB) (K : List Nat) : CInv u K {} :=
  ⟨List.nodup_nil, (fun p hp => by simp at hp), rfl,
   (fun p hp => by simp at hp)⟩

theorem addListOf_txid (h : Nat) (bl : List (Nat × (List (Option Out) × Bool))) (r : Rec)
    (hr : r ∈ addListOf h bl) : ∃ p ∈ bl, r.txid = p.1 := by
  obtain ⟨⟨t, outs, cb⟩, hp, hpr⟩ := List.mem_filterMap.mp hr
  refine ⟨_, hp, ?_⟩
  simp only at hpr
  split at hpr
  · cases hpr; rfl
  · cases hpr

theorem commitTxs_validChanges (u : DB) (h rwd : Nat) (tr : Bool) (txs : List Tx) (ch : Changes)
    (hok : commitTxs u h rwd tr txs = .ok ch) (hfresh : ∀ t ∈ txs.map (·.txid), u.get t = none) :
    ValidChanges u (txs.map (·.txid)) ch := by
  unfold commitTxs at hok
  split at hok
  · cases hok
  · obtain ⟨⟨st, sin, sout, ok⟩, hx, hok⟩ := bind_ok hok
    have hinv := procTxs_inv u (txs.map (·.txid)) h txs true {} st (sin, sout, ok) (cinv_empty u _)
      (fun tx htx => List.mem_map_of_mem htx) hx
    simp only at hok
    split at hok
    · cases hok
    · split at hok
      · cases hok
      · cases hok
        refine ⟨hinv.nodup, ?_, hinv.aligned, hfresh, ?_⟩
        · intro p hp
          obtain ⟨r, hr, _⟩ := hinv.present p hp
          simp [hr]
        · intro r hr
          obtain ⟨p, hp, hpr⟩ := addListOf_txid h st.blUnsp r hr
          rw [hpr]
          exact hinv.keys p hp

end GocoinV.UtxoOps
