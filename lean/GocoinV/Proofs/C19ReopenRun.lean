/-
  Proofs.C19ReopenRun — histories with reopens: the invariants and the value-level refinement along every history of
  cached-sub-language operations and non-volatile LoadData reopens. `OpOK2` is `OpOK` (Spec/QdbMap) plus that reopen;
  `OpFits2` and `RunFits2` extend `OpFits` and `RunFits` (Proofs/C19StepInv) in the same way.
-/
import GocoinV.Proofs.C19OpenInv
namespace GocoinV.Proofs.C19
open GocoinV GocoinV.Qdb GocoinV.QdbSpec

variable {eg : Bool}

/-- the abstract map as a function key ↦ value -/
def vals (db : DB) (k : Key) : Option Bytes := mget (absv db) k

theorem vals_eq (db : DB) (k : Key) : vals db k = (ilookup k db.index).map valOf := by
  unfold vals mget
  rw [ilookup_absv, Option.map_map]
  rfl

theorem vals_effs (db : DB) (e : List (String × Effect)) (k : Key) : vals { db with effs := e } k = vals db k := rfl

/-- the in-memory map at the level of values: only Put / PutExt / Del change it -/
def vstep (m : Key → Option Bytes) : Op → Key → Option Bytes
  | .put k v => fun j => if k = j then some v else m j
  | .putExt k v _ => fun j => if k = j then some v else m j
  | .del k => fun j => if k = j then none else m j
  | _ => m

def vrun (m : Key → Option Bytes) (ops : List Op) : Key → Option Bytes := ops.foldl vstep m

/-- operations of the extended sub-language: the cached ones, and Close + NewDBExt(non-volatile, LoadData) -/
def OpOK2 (eg : Bool) : Op → Prop
  | .reopen vol load _ => vol = false ∧ load = true
  | op => OpOK eg op

/-- side conditions, extended to reopen: sizes as for sync, and data-file sequence numbers do not wrap -/
def OpFits2 (db : DB) : Op → Prop
  | .reopen _ _ opts => SizeOK db ∧
      (openIndex { fs := (sync db).fs, volatile := false, opts := opts, eager := db.eager }).maxSeq + 1 < 2^32
  | op => OpFits db op

def RunFits2 : DB → List Op → Prop
  | _, [] => True
  | db, op :: t => OpFits2 db op ∧ RunFits2 (step db op) t

theorem inv3_effs (o : DB) (h : Inv3 o) (e : List (String × Effect)) : Inv3 { o with effs := e } :=
  ⟨{ h.inv with }, { h.i2 with }⟩

theorem reopen_inv3 (db : DB) (h : Inv3 db) (opts : Opts) (hs : SizeOK db)
    (hmax : (openIndex { fs := (sync db).fs, volatile := false, opts := opts, eager := db.eager }).maxSeq + 1 < 2^32) :
    Inv3 (step db (.reopen false true opts)) ∧ ∀ k, vals (step db (.reopen false true opts)) k = vals db k := by
  obtain ⟨sinv, sabs, spe, _⟩ := sync_inv db h.inv hs
  have hclose := close_sync db h.inv.cached.1 h.inv.nv sinv.cached.1
  obtain ⟨E, hE, hlog⟩ := sinv.logst
  have hse : (sync db).eager = db.eager := (sync_cached db h.inv.cached).eager
  have hce : (close db).eager = db.eager := close_eager db h.inv.cached
  have hR : DirReadable db.eager (sync db).fs := fun kr hkr => ⟨by rw [← hse]; exact sinv.dflags kr hkr, sinv.dreads kr hkr⟩
  have h3 := open_inv3 (sync db).fs opts E hE (by rw [sinv.ver]; exact hlog) (by rw [sinv.ver]; exact sinv.verlt) hR hmax
  obtain ⟨_, o2⟩ := open_of_inv (sync db) sinv spe false opts
  rw [hse] at o2
  rw [step_reopen db _ _ _ hclose.1, hclose.2.1, hce]
  refine ⟨inv3_effs _ h3 _, fun k => ?_⟩
  rw [vals_effs, vals_eq, o2 k, ← vals_eq]
  unfold vals
  rw [sabs]

def browseGM (w : List (Key × Nat)) (vs : Option (List Key)) (k : Key) (vf : Bytes × Nat) : Bytes × Nat :=
  if skipB false vs vf.2 k = true then vf else (vf.1, applyBrowsingFlags vf.2 (walkRes w k))

theorem mbrowseState_eq (m : M) (w : List (Key × Nat)) :
    mbrowseState m w = m.map fun kr => (kr.1, browseGM w (mvisitSet false m w) kr.1 kr.2) := by
  unfold mbrowseState
  apply List.map_congr_left
  intro x _
  obtain ⟨k, v, f⟩ := x
  simp only [browseGM]
  split <;> rfl

theorem ilookup_mbrowseState (m : M) (w : List (Key × Nat)) (k : Key) :
    ilookup k (mbrowseState m w) = (ilookup k m).map (browseGM w (mvisitSet false m w) k) := by
  rw [mbrowseState_eq]; exact ilookup_mapKV _ k m

theorem mget_mbrowseState (m : M) (w : List (Key × Nat)) (k : Key) : mget (mbrowseState m w) k = mget m k := by
  unfold mget
  rw [ilookup_mbrowseState]
  cases ilookup k m with
  | none => rfl
  | some vf =>
    simp only [Option.map_some, browseGM]
    split <;> rfl

theorem mget_mstep (m : M) (hnd : (Keys m).Nodup) (op : Op) (j : Key) :
    mget (mstep m op) j = vstep (mget m) op j := by
  unfold mget
  cases op with
  | put k v | putExt k v f | del k =>
    simp only [mstep, vstep, ilookup_iset, ilookup_ierase _ _ _ hnd]
    by_cases hk : k = j <;> simp [hk]
  | get k | applyFlags k fl =>
    simp only [mstep, vstep]
    cases hl : ilookup k m with
    | none => rfl
    | some vf =>
      obtain ⟨v, f⟩ := vf
      simp only [ilookup_iset]
      by_cases hk : k = j
      · subst hk; simp [hl]
      · simp [hk]
  | browse w => exact mget_mbrowseState m w j
  | defrag f | sync | noSync | reopen a b c => rfl

theorem keys_absv (db : DB) : Keys (absv db) = Keys db.index := by
  simp [Keys, absv, absE, List.map_map]

theorem vals_step (db : DB) (hc : Cached db) (hnd : (Keys db.index).Nodup) (op : Op) (ok : OpOK db.eager op) (k : Key) :
    vals (step db op) k = vstep (vals db) op k := by
  unfold vals
  rw [(step_cached db op hc ok).2]
  exact mget_mstep _ (by rw [keys_absv]; exact hnd) op k

theorem step_inv3' (db : DB) (h : Inv3 db) (op : Op) (ok : OpOK2 db.eager op) (fits : OpFits2 db op) :
    Inv3 (step db op) ∧ ∀ k, vals (step db op) k = vstep (vals db) op k := by
  cases op with
  | reopen vol load opts =>
    obtain ⟨rfl, rfl⟩ := ok
    exact reopen_inv3 db h opts fits.1 fits.2
  | _ => exact ⟨step_inv3 db h _ ok fits, vals_step db h.inv.cached h.inv.nodup _ ok⟩

theorem step_eager2 (db : DB) (h : Inv3 db) (op : Op) (ok : OpOK2 db.eager op) (fits : OpFits2 db op) :
    (step db op).eager = db.eager := step_eager_all db op

theorem run_inv3' (ops : List Op) (db : DB) (h : Inv3 db) (ok : ∀ op ∈ ops, OpOK2 db.eager op) (fits : RunFits2 db ops) :
    Inv3 (run db ops) ∧ ∀ k, vals (run db ops) k = vrun (vals db) ops k := by
  induction ops generalizing db with
  | nil => exact ⟨h, fun _ => rfl⟩
  | cons op t ih =>
    obtain ⟨h1, h2⟩ := step_inv3' db h op (ok op List.mem_cons_self) fits.1
    obtain ⟨h3, h4⟩ := ih (step db op) h1 (fun o ho => by
      rw [step_eager_all]; exact ok o (List.mem_cons_of_mem _ ho)) fits.2
    refine ⟨h3, fun k => ?_⟩
    show vals (run (step db op) t) k = vrun (vstep (vals db) op) t k
    rw [h4 k, funext h2]

/-! ### Count: association lists with distinct keys and the same key set have the same length -/

theorem ilookup_isSome_iff {α : Type} (k : Key) (l : List (Key × α)) :
    (ilookup k l).isSome = true ↔ k ∈ Keys l := by
  rw [← Option.ne_none_iff_isSome, ne_eq, ilookup_eq, Assoc.lookup_eq_none_iff, Classical.not_not]; rfl

theorem length_eq_of_same_keys {α β : Type} (l1 : List (Key × α)) (l2 : List (Key × β))
    (h1 : (Keys l1).Nodup) (h2 : (Keys l2).Nodup)
    (h : ∀ k, (ilookup k l1).isSome = (ilookup k l2).isSome) : l1.length = l2.length := by
  have := ((List.perm_ext_iff_of_nodup h1 h2).mpr fun k => by
    rw [← ilookup_isSome_iff, ← ilookup_isSome_iff, h k]).length_eq
  simpa [Keys] using this

theorem count_eq_mcount (db : DB) (m : M) (h1 : (Keys db.index).Nodup) (h2 : (Keys m).Nodup)
    (hv : ∀ k, vals db k = mget m k) : count db = mcount m := by
  unfold count mcount
  apply length_eq_of_same_keys _ _ h1 h2
  intro k
  have e := congrArg Option.isSome (hv k)
  rw [vals_eq] at e
  unfold mget at e
  simpa using e

theorem mrun_vals (ops : List Op) (m : M) (hnd : (Keys m).Nodup) :
    (Keys (mrun m ops)).Nodup ∧ ∀ k, mget (mrun m ops) k = vrun (mget m) ops k := by
  induction ops generalizing m with
  | nil => exact ⟨hnd, fun _ => rfl⟩
  | cons op t ih =>
    have hnd' : (Keys (mstep m op)).Nodup := by
      cases op with
      | put k v | putExt k v f => exact nodup_iset k _ m hnd
      | del k => exact nodup_ierase k m hnd
      | get k | applyFlags k fl =>
        simp only [mstep]
        cases ilookup k m with
        | none => exact hnd
        | some vf => exact nodup_iset k _ m hnd
      | browse w =>
        show (Keys (mbrowseState m w)).Nodup
        rw [mbrowseState_eq]
        unfold Keys
        rw [List.map_map]
        exact hnd
      | defrag f | sync | noSync | reopen a b c => exact hnd
    obtain ⟨a, b⟩ := ih (mstep m op) hnd'
    refine ⟨a, fun k => ?_⟩
    show mget (mrun (mstep m op) t) k = vrun (vstep (mget m) op) t k
    rw [b k, funext (mget_mstep m hnd op)]

theorem run_eager2 (ops : List Op) (db : DB) (h : Inv3 db) (ok : ∀ op ∈ ops, OpOK2 db.eager op) (fits : RunFits2 db ops) :
    (run db ops).eager = db.eager := run_eager_all ops db

end GocoinV.Proofs.C19
