/-
  Proofs.C12RejOps — the reject-list invariant through the pool primitives: rejectTx, Delete (delOne), the
  replacement loop, processTx (the steps of the pool side and the blocks follow in Proofs/C12RejRun).  Core Lean only.
  (helper lemmas for Props/C12 `reject_index_inv`)
-/
import GocoinV.Proofs.C12RejCore
import GocoinV.Proofs.C12Run
namespace GocoinV.Mempool

/-- nothing is both in TransactionsToSend and in TransactionsRejected -/
def Disj (s : State) : Prop := ∀ b x, s.pool.get? b = some x → s.rej.get? b = none

/-- the carried invariant: ring of ≥ 2 slots, consistent indexes, pool and rejected list disjoint -/
structure RJ (K : Keys) (s : State) : Prop where
  cap : 2 ≤ s.cfg.ringCap
  rc : RCs K none s
  disj : Disj s

/-! ### frames -/

/-- the reject side is untouched -/
structure RejSame (s s' : State) : Prop where
  cfg : s'.cfg = s.cfg
  rej : s'.rej = s.rej
  ring : s'.ring = s.ring
  waiting : s'.waiting = s.waiting
  rejSpent : s'.rejSpent = s.rejSpent

/-- no new pool key -/
def PoolSub (s s' : State) : Prop := ∀ b x, s'.pool.get? b = some x → ∃ x0, s.pool.get? b = some x0

structure Shrink (s s' : State) : Prop where
  same : RejSame s s'
  sub : PoolSub s s'

theorem RejSame.refl (s : State) : RejSame s s := ⟨rfl, rfl, rfl, rfl, rfl⟩

theorem RejSame.trans {a b c : State} (h1 : RejSame a b) (h2 : RejSame b c) : RejSame a c :=
  ⟨h2.cfg.trans h1.cfg, h2.rej.trans h1.rej, h2.ring.trans h1.ring, h2.waiting.trans h1.waiting,
   h2.rejSpent.trans h1.rejSpent⟩

theorem PoolSub.refl (s : State) : PoolSub s s := fun _ x h => ⟨x, h⟩

theorem PoolSub.trans {a b c : State} (h1 : PoolSub a b) (h2 : PoolSub b c) : PoolSub a c := by
  intro k x hx
  obtain ⟨x1, hx1⟩ := h2 k x hx
  exact h1 k x1 hx1

theorem PoolSub.of_eq {s s' : State} (h : s'.pool = s.pool) : PoolSub s s' := by
  intro k x hx; rw [h] at hx; exact ⟨x, hx⟩

theorem PoolSub.of_del {s s' : State} {b : Nat} (h : s'.pool = s.pool.del b) : PoolSub s s' :=
  fun _ x hx => ⟨x, (AList.get?_del_some (h ▸ hx)).2⟩

theorem PoolSub.of_back {s s' : State} (h : TxBack s s') : PoolSub s s' := by
  intro k x hx
  obtain ⟨x0, h0, _⟩ := h k x hx
  exact ⟨x0, h0⟩

theorem Shrink.refl (s : State) : Shrink s s := ⟨RejSame.refl s, PoolSub.refl s⟩

theorem Shrink.trans {a b c : State} (h1 : Shrink a b) (h2 : Shrink b c) : Shrink a c :=
  ⟨h1.same.trans h2.same, h1.sub.trans h2.sub⟩

theorem RCs.of_same {K : Keys} {e : Option Nat} {s s' : State} (h : RCs K e s) (e1 : RejSame s s') : RCs K e s' := by
  unfold RCs at h ⊢
  exact h.congr e1.rej (by rw [e1.ring]) e1.waiting e1.rejSpent

theorem RJ.of_shrink {K : Keys} {s s' : State} (h : RJ K s) (e : Shrink s s') : RJ K s' := by
  refine ⟨by rw [e.same.cfg]; exact h.cap, h.rc.of_same e.same, ?_⟩
  intro b x hx
  rw [e.same.rej]
  obtain ⟨x0, h0⟩ := e.sub b x hx
  exact h.disj b x0 h0

theorem addT2S_same (K : Keys) (s : State) (t : T2S) : RejSame s (addT2S K s t) :=
  { addT2S_sortOnly K s t with }

theorem addT2S_RJ {K : Keys} {s : State} (h : RJ K s) (t : T2S) (hf : s.rej.get? (K.bidx t.tx.id) = none) :
    RJ K (addT2S K s t) := by
  have sm := addT2S_same K s t
  refine ⟨by rw [sm.cfg]; exact h.cap, h.rc.of_same sm, ?_⟩
  intro b x hx
  rw [sm.rej]
  rw [(addT2S_pool_spent K s t).1] at hx
  rcases AList.get?_set_some hx with ⟨hb, _⟩ | ⟨_, h2⟩
  · rw [hb]; exact hf
  · exact h.disj b x h2

/-! ### rejectTx / Delete of a rejected record -/

theorem rejAdd_RJ {K : Keys} {s : State} (h : RJ K s) (r : Rej) (hf : s.rej.get? (K.bidx r.id) = none)
    (hp : s.pool.get? (K.bidx r.id) = none) (hs : RejShape r) :
    RJ K (rejAdd K s r) ∧
    (∀ x r', (rejAdd K s r).rej.get? x = some r' → x = K.bidx r.id ∨ s.rej.get? x = some r') := by
  obtain ⟨a1, _, a3, a4⟩ := rejAdd_RCs h.rc h.cap r hf hs
  have hpool := (rejAdd_core K s r).1
  refine ⟨⟨by rw [a3]; exact h.cap, a1, ?_⟩, fun x r' hx => (a4 x r' hx).imp_left And.left⟩
  intro b x hx
  rw [hpool] at hx
  refine Option.eq_none_iff_forall_ne_some.mpr fun r' hg => ?_
  rcases a4 b r' hg with ⟨e, _⟩ | h2
  · rw [e, hp] at hx; cases hx
  · rw [h.disj b x hx] at h2; cases h2

theorem rejectTx_shape (t : Tx) (why : Nat) (m : Option TxId) (hm : m.isSome = true ↔ why = R_NO_TXOU) :
    RejShape { id := t.id, reason := why, tx := if why ≥ 200 then some t else none,
               waiting4 := if why ≥ 200 then m else none } := by
  by_cases hw : why ≥ 200
  · refine ⟨?_, ?_, ?_, ?_⟩
    · intro h; simp [hw] at h
    · intro t' h; simp only [hw, if_true, Option.some.injEq] at h; rw [← h]
    · simp [hw]
    · simp only [hw, if_true]; exact hm
  · refine ⟨?_, ?_, ?_, ?_⟩
    · intro _; simp [hw]
    · intro t' h; simp [hw] at h
    · simp [hw]
    · simp only [hw, if_false]
      constructor
      · intro h; cases h
      · intro h; exfalso; apply hw; rw [h]; decide

theorem rejectTx_RJ {K : Keys} {s : State} (h : RJ K s) (t : Tx) (why : Nat) (m : Option TxId)
    (hf : s.rej.get? (K.bidx t.id) = none) (hp : s.pool.get? (K.bidx t.id) = none)
    (hm : m.isSome = true ↔ why = R_NO_TXOU) :
    RJ K (rejectTx K s t why m) ∧
    (∀ x r', (rejectTx K s t why m).rej.get? x = some r' → x = K.bidx t.id ∨ s.rej.get? x = some r') :=
  rejAdd_RJ h _ hf hp (rejectTx_shape t why m hm)

theorem rejDelete_RJ {K : Keys} {s : State} (h : RJ K s) (r : Rej) (hr : s.rej.get? (K.bidx r.id) = some r) :
    RJ K (rejDelete K s r) := by
  refine ⟨by rw [rejDelete_cfg]; exact h.cap, rejDelete_RCs h.rc r hr, ?_⟩
  intro b x hx
  rw [(rejDelete_core K s r).1] at hx
  rw [rejDelete_rej, AList.get?_del]
  split
  · rfl
  · exact h.disj b x hx

theorem rejDeleteByIdx_RJ {K : Keys} {s : State} (h : RJ K s) (b : Nat) :
    RJ K (rejDeleteByIdx K s b) ∧ (rejDeleteByIdx K s b).rej.get? b = none ∧
    (∀ x r, (rejDeleteByIdx K s b).rej.get? x = some r → s.rej.get? x = some r) := by
  unfold rejDeleteByIdx
  split
  · rename_i r hr
    have hk := h.rc.key b r hr
    refine ⟨rejDelete_RJ h r (by rw [hk]; exact hr), ?_, ?_⟩
    · rw [rejDelete_rej, hk, AList.get?_del_self]
    · intro x r' hx
      rw [rejDelete_rej] at hx
      exact (AList.get?_del_some hx).2
  · rename_i hr
    exact ⟨h, hr, fun _ _ h => h⟩

/-! ### OneTxToSend.Delete -/

theorem delPre_shrink (K : Keys) (s : State) (t : T2S) : Shrink s (delPre K s t) :=
  have h := delPre_sortOnly K s t
  ⟨{ h with }, .of_del h.pool⟩

theorem delOne0_shrink (K : Keys) (s : State) (t : T2S) : Shrink s (delOne K s t 0) := by
  rw [delOne_eq]
  simp only [ne_eq, not_true_eq_false, if_false]
  exact delPre_shrink K s t

theorem delOne_RJ {K : Keys} {s : State} (h : RJ K s) (t : T2S) (reason : Nat) (hne : reason ≠ R_NO_TXOU)
    (hin : s.pool.get? (K.bidx t.tx.id) = some t) :
    RJ K (delOne K s t reason) ∧
    (∀ x r', (delOne K s t reason).rej.get? x = some r' → x = K.bidx t.tx.id ∨ s.rej.get? x = some r') := by
  rw [delOne_eq]
  have c := delPre_shrink K s t
  have h1 := h.of_shrink c
  split
  · have hf : (delPre K s t).rej.get? (K.bidx t.tx.id) = none := by rw [c.same.rej]; exact h.disj _ t hin
    have hp : (delPre K s t).pool.get? (K.bidx t.tx.id) = none := by
      rw [(delPre_sortOnly K s t).pool]; exact AList.get?_del_self ..
    obtain ⟨a1, a2⟩ := rejectTx_RJ h1 t.tx reason none hf hp
      ⟨fun h => (by cases h), fun h => absurd h hne⟩
    exact ⟨a1, fun x r' hx => (a2 x r' hx).imp_right fun e => c.same.rej ▸ e⟩
  · exact ⟨h1, fun x r' hx => Or.inr (c.same.rej ▸ hx)⟩

/-- the replacement loop: every removed record goes to the rejected list under its own (pooled) key -/
theorem delKeys_RJ {K : Keys} {W : Tx → Prop} (reason : Nat) (hne : reason ≠ R_NO_TXOU) :
    ∀ (l : List Nat) (s : State), InvR K W s → RJ K s →
    RJ K (delKeys K reason s l) ∧
    (∀ x r', (delKeys K reason s l).rej.get? x = some r' → s.rej.get? x = some r' ∨ ∃ y, s.pool.get? x = some y) := by
  intro l
  induction l with
  | nil => intro s _ h; exact ⟨h, fun _ _ h => Or.inl h⟩
  | cons b r ih =>
    intro s hI h
    rw [delKeys_cons]
    cases hb : s.pool.get? b with
    | none => exact ih s hI h
    | some t =>
      have hk := hI.str.key b t hb
      have hin : s.pool.get? (K.bidx t.tx.id) = some t := by rw [hk]; exact hb
      have hI1 := delOne_InvR K W s t reason hI hin
      obtain ⟨a1, a2⟩ := delOne_RJ h t reason hne hin
      obtain ⟨i1, i3⟩ := ih _ hI1 a1
      have ps : PoolSub s (delOne K s t reason) := .of_del (delOne_pool_spent K s t reason).1
      refine ⟨i1, ?_⟩
      intro x r' hx
      rcases i3 x r' hx with e | ⟨y, hy⟩
      · rcases a2 x r' e with e2 | e2
        · exact Or.inr ⟨t, by rw [e2]; exact hin⟩
        · exact Or.inl e2
      · exact Or.inr (ps x y hy)

/-! ### processTx -/

theorem delKeys_poolSub (K : Keys) (reason : Nat) : ∀ (l : List Nat) (s : State), PoolSub s (delKeys K reason s l) := by
  intro l s
  refine foldl_inv (PoolSub s) _ (fun s1 b h => h.trans ?_) l s (PoolSub.refl s)
  cases s1.pool.get? b with
  | none => exact PoolSub.refl _
  | some t => exact .of_del (delOne_pool_spent K s1 _ _).1

theorem processTx_pool (K : Keys) (mf : Nat) (s : State) (t : Tx) (fl : Flags) :
    ((processTx K mf s t fl).1 ≠ 0 → (processTx K mf s t fl).2.pool = s.pool) ∧
    (∀ x y, (processTx K mf s t fl).2.pool.get? x = some y → x = K.bidx t.id ∨ ∃ y0, s.pool.get? x = some y0) := by
  have same : ∀ (c : Nat) (s' : State), s'.pool = s.pool → ((c, s').1 ≠ 0 → (c, s').2.pool = s.pool) ∧
      (∀ x y, (c, s').2.pool.get? x = some y → x = K.bidx t.id ∨ ∃ y0, s.pool.get? x = some y0) :=
    fun c s' this => ⟨fun _ => this, fun x y hx => Or.inr ⟨y, by rw [← this]; exact hx⟩⟩
  refine processTx_cases (P := fun r => (r.1 ≠ 0 → r.2.pool = s.pool) ∧
      ∀ x y, r.2.pool.get? x = some y → x = K.bidx t.id ∨ ∃ y0, s.pool.get? x = some y0) K mf s t fl
    (fun why m _ _ => same _ _ (rejectTx_core K s t why m).1) (fun _ _ => same _ _ rfl) (same _ _ rfl)
    fun a _ _ _ _ => ⟨fun h => absurd rfl h, fun x y hx => ?_⟩
  rw [(addT2S_pool_spent K _ _).1] at hx
  exact (AList.get?_set_some hx).imp And.left fun h2 => delKeys_poolSub K R_REPLACED a.rbf.reverse s x y h2.2

theorem processTx_RJ {K : Keys} {W : Tx → Prop} (mf : Nat) (s : State)
    (t : Tx) (fl : Flags) (hI : InvR K W s) (h : RJ K s)
    (hf : s.rej.get? (K.bidx t.id) = none) (hp : s.pool.get? (K.bidx t.id) = none) :
    RJ K (processTx K mf s t fl).2 := by
  refine processTx_cases (P := fun r => RJ K r.2) K mf s t fl
    (fun why m _ hm => (rejectTx_RJ h t why m hf hp hm).1) (fun _ _ => h)
    (h.of_shrink ⟨⟨rfl, rfl, rfl, rfl, rfl⟩, PoolSub.refl _⟩) fun a _ _ _ _ => ?_
  obtain ⟨d1, d3⟩ := delKeys_RJ (W := W) R_REPLACED (by decide) a.rbf.reverse s hI h
  apply addT2S_RJ d1
  show (delKeys K R_REPLACED s a.rbf.reverse).rej.get? (K.bidx t.id) = none
  cases hg : (delKeys K R_REPLACED s a.rbf.reverse).rej.get? (K.bidx t.id) with
  | none => rfl
  | some r' =>
    rcases d3 _ r' hg with e1 | ⟨y, hy⟩
    · rw [hf] at e1; cases e1
    · rw [hp] at hy; cases hy

end GocoinV.Mempool
