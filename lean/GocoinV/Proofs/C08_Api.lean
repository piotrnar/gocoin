/-
  Proofs.C08_Api — the byte-string API (Model.GroupApi: BaseMultiply / BaseMultiplyAdd / Multiply with SetXYZ,
  GetPublicKey, ParsePubkey below them) against the reference curve:
    * invVar (big.Int.ModInverse modelled by Secp.invMod) is the field inverse; XY.SetXYZ yields (X/Z², Y/Z³)
    * apiFinish r = apiRef r.toPoint for every r within the contract: refused exactly at ∞, SEC1 bytes otherwise
    * baseMultiplyAdd / multiply specs
-/
import GocoinV.Model.GroupApi
import GocoinV.Proofs.C08_EcmultFull
import GocoinV.Proofs.C08_Lift
import GocoinV.Proofs.C08_Examples
import GocoinV.Proofs.C08_Bytes
import GocoinV.Proofs.C03Ecdsa

namespace GocoinV.C08
open GocoinV.Gen GocoinV.Gen.Field5x52 GocoinV.Proofs.C03

theorem getB32_length (a : Fe) : (getB32 a).length = 32 := rfl

/-- `Field.InvVar` (normalise, bytes, big.Int.ModInverse, SetBytes) is the field inverse (0 ↦ 0), result of magnitude 1 -/
theorem invVar_S (a : Fe) (m : Nat) (ha : a.mag m) (hm : m ≤ 32) : FeS (invVar a) 1 (a.z)⁻¹ := by
  obtain ⟨hn, hd⟩ := (FeS.self ha).norm hm
  unfold invVar
  simp only []
  rw [beVal_getB32 _ hd.1]
  obtain ⟨hv, hc⟩ := ofNat_val (Secp.invMod (normalize a).val P)
  refine ⟨canon_mag1 hc, ?_⟩
  unfold Fe.z
  rw [hv, Nat.mod_eq_of_lt (a := Secp.invMod _ P) (Nat.lt_trans (Proofs.C03.powMod_lt _ _ _ (by decide)) (by decide)), invMod_cast]
  exact congrArg _ hn.2

/-- `XY.SetXYZ`: the affine coordinates (X/Z², Y/Z³), both of magnitude 1; the Infinity flag is copied -/
theorem ofXYZ_S (a : XYZ) (ha : a.ok) :
    FeS (XY.ofXYZ a).x 1 (a.x.z / a.z.z ^ 2) ∧ FeS (XY.ofXYZ a).y 1 (a.y.z / a.z.z ^ 3) ∧ (XY.ofXYZ a).inf = a.inf := by
  obtain ⟨hx, hy, hz, _⟩ := ha
  have zi := invVar_S a.z 8 hz (by decide)
  have z2 := zi.sqr (by decide)
  have z3 := zi.mul z2 (by decide) (by decide)
  have x := (FeS.self hx).mul z2 (by decide) (by decide)
  have y := (FeS.self hy).mul z3 (by decide) (by decide)
  unfold XY.ofXYZ
  simp only []
  refine ⟨?_, ?_, trivial⟩
  · have e : a.x.z / a.z.z ^ 2 = a.x.z * ((a.z.z)⁻¹ * (a.z.z)⁻¹) := by rw [div_eq_mul_inv, ← _root_.inv_pow]; ring
    rw [e]; exact x
  · have e : a.y.z / a.z.z ^ 3 = a.y.z * ((a.z.z)⁻¹ * ((a.z.z)⁻¹ * (a.z.z)⁻¹)) := by rw [div_eq_mul_inv, ← _root_.inv_pow]; ring
    rw [e]; exact y

/-- `XY.GetPublicKey` writes the SEC1 bytes of the residues the coordinates stand for (any magnitude ≤ 32) -/
theorem getPublicKey_S (pk : XY) (mx my : Nat) (X Y : F) (hx : FeS pk.x mx X) (hy : FeS pk.y my Y)
    (hmx : mx ≤ 32) (hmy : my ≤ 32) (unc : Bool) :
    XY.getPublicKey pk unc =
      (if unc then 4 :: (toB32 X.val ++ toB32 Y.val) else (if Y.val % 2 = 0 then 2 else 3) :: toB32 X.val) := by
  obtain ⟨nx, dx⟩ := hx.norm hmx
  obtain ⟨ny, dy⟩ := hy.norm hmy
  have vx : (normalize pk.x).val = X.val := by rw [← val_of_normd dx, nx.2]
  have vy : (normalize pk.y).val = Y.val := by rw [← val_of_normd dy, ny.2]
  unfold XY.getPublicKey
  simp only []
  rw [getB32_eq_toB32 _ dx.1, getB32_eq_toB32 _ dy.1, vx, vy]
  cases unc with
  | true => simp
  | false =>
    simp only [Bool.false_eq_true, if_false]
    by_cases ho : isOdd (normalize pk.y) = true
    · have := (isOdd_iff' _).1 ho
      rw [vy] at this
      simp [ho, this]
    · have h1 : ¬ (Y.val % 2 = 1) := by
        intro h; apply ho; rw [isOdd_iff', vy]; exact h
      have h0 : Y.val % 2 = 0 := by omega
      simp [ho, h0]

theorem apiRef_none (unc : Bool) : apiRef none unc = .refused := rfl

theorem apiRef_refused_iff (Q : Secp.Point) (unc : Bool) : apiRef Q unc = .refused ↔ Q = none := by
  cases Q with
  | none => simp [apiRef]
  | some q => cases q; simp [apiRef]

/-- the tail of the three API functions on ANY Jacobian point within the contract: refused exactly when it stands
    for ∞, otherwise the SEC1 bytes of the affine point it stands for -/
theorem apiFinish_spec (r : XYZ) (hr : r.ok) (unc : Bool) : apiFinish r unc = apiRef r.toPoint unc := by
  unfold apiFinish
  cases hi : r.inf with
  | true => rw [XYZ.toPoint_inf hi]; rfl
  | false =>
    obtain ⟨sx, sy, _⟩ := ofXYZ_S r hr
    rw [XYZ.toPoint_fin hi]
    simp only [Bool.false_eq_true, if_false, ptF, apiRef]
    rw [getPublicKey_S _ 1 1 _ _ sx sy (by decide) (by decide)]

theorem apiRef_mul_G_refused_iff (m : Nat) (unc : Bool) :
    apiRef (Secp.mul m Secp.G) unc = .refused ↔ m % CurveConsts.order = 0 := by
  rw [apiRef_refused_iff]; exact mul_G_none_iff m

theorem slice_bytes {xy : List Nat} (hb : ∀ b ∈ xy, b < 256) (i : Nat) : ∀ x ∈ (xy.drop i).take 32, x < 256 :=
  fun x hx => hb x (List.mem_of_mem_drop (List.mem_of_mem_take hx))

theorem canon_mag8 {a : Fe} (h : a.canon) : a.mag 8 := mag_mono (canon_mag1 h) (by decide)

/-- whatever `XY.ParsePubkey` accepts is an affine point within the contract (both coordinates canonical), finite,
    on the curve, with x = the big-endian value of bytes 1..32, which is below p -/
theorem parsePubkey_ok (xy : List Nat) (hb : ∀ b ∈ xy, b < 256) (pk : XY) (h : XY.parsePubkey xy = some pk) :
    pk.ok ∧ pk.inf = false ∧ OnC pk.toPoint ∧ pk.x.canon ∧ pk.x.val = beVal ((xy.drop 1).take 32) ∧
      beVal ((xy.drop 1).take 32) < P := by
  unfold XY.parsePubkey at h
  simp only [setB32Limit] at h
  by_cases c : xy.length = 33 ∧ (xy.headD 0 = 2 ∨ xy.headD 0 = 3)
  · rw [if_pos c] at h
    have hl : ((xy.drop 1).take 32).length = 32 := by simp [c.1]
    obtain ⟨hv, hc⟩ := setB32L_val _ hl (slice_bytes hb 1)
    obtain ⟨ex, ei, eok, _, _⟩ := setXO_ok (setB32L ((xy.drop 1).take 32)) (xy.headD 0 == 3) (canon_mag8 hc)
    obtain ⟨hlt, h⟩ := Option.ite_none_left_eq_some.1 h
    obtain ⟨hval, ⟨⟩⟩ := Option.ite_none_right_eq_some.1 h
    have hcur := ((isValid_iff _ eok).1 hval).2
    refine ⟨eok, ei, ?_, by rw [ex]; exact hc, by rw [ex]; exact hv, by simpa using hlt⟩
    rw [XY.toPoint_fin ei]; exact (onC_ptF _ _).2 hcur
  · rw [if_neg c] at h
    by_cases c2 : xy.length = 65 ∧ (xy.headD 0 = 4 ∨ xy.headD 0 = 6 ∨ xy.headD 0 = 7)
    · rw [if_pos c2] at h
      have hl : ((xy.drop 1).take 32).length = 32 := by simp [c2.1]
      have hl2 : ((xy.drop 33).take 32).length = 32 := by simp [c2.1]
      obtain ⟨hv, hc⟩ := setB32L_val _ hl (slice_bytes hb 1)
      obtain ⟨hv2, hc2⟩ := setB32L_val _ hl2 (slice_bytes hb 33)
      have eok : XY.ok { x := setB32L ((xy.drop 1).take 32), y := setB32L ((xy.drop 33).take 32), inf := false } :=
        ⟨canon_mag8 hc, canon_mag8 hc2⟩
      obtain ⟨hlt, h⟩ := Option.ite_none_left_eq_some.1 h
      obtain ⟨_, h⟩ := Option.ite_none_left_eq_some.1 h
      obtain ⟨hval, ⟨⟩⟩ := Option.ite_none_right_eq_some.1 h
      have hcur := ((isValid_iff _ eok).1 hval).2
      refine ⟨eok, rfl, ?_, hc, hv, by simp at hlt ⊢; exact hlt.1⟩
      rw [XY.toPoint_fin rfl]; exact (onC_ptF _ _).2 hcur
    · rw [if_neg c2] at h
      cases h

theorem withParsed_none (xy : List Nat) (f : XY → ApiRes) (hp : XY.parsePubkey xy = none) : withParsed xy f = .refused := by
  unfold withParsed; rw [hp]

theorem withParsed_some (xy : List Nat) (f : XY → ApiRes) (pk : XY) (hp : XY.parsePubkey xy = some pk) :
    withParsed xy f = f pk := by
  unfold withParsed; rw [hp]

theorem baseMultiplyAdd_spec (xy : List Nat) (hb : ∀ b ∈ xy, b < 256) (k : Nat) (unc : Bool) (pk : XY)
    (hp : XY.parsePubkey xy = some pk) :
    baseMultiplyAdd xy k unc = apiRef (Secp.add (Secp.mul (k % 2 ^ 256) Secp.G) pk.toPoint) unc := by
  obtain ⟨pok, _, _⟩ := parsePubkey_ok xy hb pk hp
  obtain ⟨h1, h2⟩ := addXY_ok (ecmultGen k) pk (ecmultGen_ref k).1 pok
  rw [show baseMultiplyAdd xy k unc = _ from withParsed_some xy _ pk hp, apiFinish_spec _ h1, h2, ecmultGen_mul]

theorem multiply_some (xy : List Nat) (k : Nat) (unc : Bool) (pk : XY) (r : XYZ) (hp : XY.parsePubkey xy = some pk)
    (hr : ecmult (XYZ.ofXY pk) (k : Int) 0 = some r) :
    multiply xy k unc = apiFinish r unc :=
  (withParsed_some xy _ pk hp).trans (by rw [hr]; rfl)

theorem multiply_spec (xy : List Nat) (hb : ∀ b ∈ xy, b < 256) (k : Nat) (unc : Bool) (pk : XY)
    (hp : XY.parsePubkey xy = some pk) (hA : OnC (XYZ.ofXY pk).toPoint)
    (hn : ((CurveConsts.order : Nat) : Int) • mkPt (XYZ.ofXY pk).toPoint hA = 0)
    (hl : ∀ A' : CurvePt, Rp (XYZ.mulLambda (XYZ.ofXY pk)) A' →
      A' = ((CurveConsts.lambda : Nat) : Int) • mkPt (XYZ.ofXY pk).toPoint hA) :
    multiply xy k unc = apiRef (Secp.mul k pk.toPoint) unc := by
  obtain ⟨pok, _, _⟩ := parsePubkey_ok xy hb pk hp
  obtain ⟨jok, jpt⟩ := ofXY_ok pk pok
  obtain ⟨r, hr, hR⟩ := ecmult_mul (XYZ.ofXY pk) jok hA (k : Int) 0 (by norm_num) hn hl
  rw [multiply_some xy k unc pk r hp hr, apiFinish_spec r hR.1, hR.2, zero_nsmul, add_zero, natCast_zsmul, ← mul_eq_nsmul]
  simp only [mkPt, jpt]

/-! ### the operand G: every hypothesis discharged -/

/-- SEC1 compressed encoding of the generator: 02 ‖ Gx -/
def gBytes : List Nat := 2 :: toB32 CurveConsts.gx

/-- `ParsePubkey(02‖Gx)` is, limb for limb, the table entry pre_g[0] (one kernel evaluation of the model: SetB32,
    the square-root chain of SetXO, IsValid) -/
theorem parse_G : XY.parsePubkey gBytes = some (preGXY 0) := by decide +kernel

/-- the reference multiple λ·G is (β·Gx mod p, Gy): one kernel evaluation of the Jacobian double-and-add -/
theorem mul_lambda_G :
    Secp.mul CurveConsts.lambda Secp.G = some (CurveConsts.beta * Secp.Gx % Secp.p, Secp.Gy) := by
  rw [mul_eq_mulJ]; decide +kernel

/-- hypothesis 2 of `ecmult_mul` (`Props.C08.ecmult_correct_partial`) at A = G: the point `mul_lambda` makes of G is λ·G -/
theorem gJ_lambda (A' : CurvePt) (h : Rp (XYZ.mulLambda gJ) A') :
    A' = ((CurveConsts.lambda : Nat) : Int) • mkPt gJ.toPoint gJ_onC := by
  rw [gJ_mkPt, natCast_zsmul]
  apply Subtype.ext
  rw [← h.2, ← mul_eq_nsmul, mulLambda_toPoint gJ_Rp.1 rfl gJ_toPoint]
  exact mul_lambda_G.symm

theorem multiply_G (k : Nat) (unc : Bool) : multiply gBytes k unc = apiRef (Secp.mul k Secp.G) unc := by
  rw [multiply_spec gBytes (by decide +kernel) k unc (preGXY 0) parse_G gJ_onC gJ_order gJ_lambda, preGXY0_RpA.2]; rfl

theorem baseMultiplyAdd_G (k : Nat) (unc : Bool) :
    baseMultiplyAdd gBytes k unc = apiRef (Secp.mul (k % 2 ^ 256 + 1) Secp.G) unc := by
  rw [baseMultiplyAdd_spec gBytes (by decide +kernel) k unc (preGXY 0) parse_G, preGXY0_RpA.2, mul_G, mul_G, ← val_add,
    add_nsmul, one_nsmul]

end GocoinV.C08
