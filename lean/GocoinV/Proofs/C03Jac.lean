/-
  Proofs.C03Jac — the Jacobian double-and-add of Base/C01_SecpFast (one field inversion, at the end)
  computes the reference scalar multiplication `Secp.mul`. A concrete multiple k·P is then a kernel
  evaluation of `SecpFast.mul` instead of one Fermat inversion per step of `Secp.mul`.
  The algebra (X, Y, Z) ↦ (X/Z², Y/Z³) is that of Proofs/C08_GroupAlg.
-/
import GocoinV.Base.C01_SecpFast
import GocoinV.Proofs.C03Field
import GocoinV.Proofs.C08_GroupAlg
namespace GocoinV.Proofs.C03
open GocoinV GocoinV.Secp

/-- the affine point that the Jacobian triple (x, y, z) stands for -/
def jacPt (x y z : Nat) : Point :=
  if (z : C08.F) = 0 then none else C08.ptF ((x : C08.F) / (z : C08.F) ^ 2) ((y : C08.F) / (z : C08.F) ^ 3)

/-- Y and Z are reduced (the formulas test them against 0) and the triple stands for A -/
def JRep (J : SecpFast.J) (A : Point) : Prop :=
  J.2.1 < C08.P ∧ J.2.2 < C08.P ∧ A = jacPt J.1 J.2.1 J.2.2

theorem cast_inj {a b : Nat} (ha : a < C08.P) (hb : b < C08.P) : (a : C08.F) = b ↔ a = b :=
  ⟨cast_inj_of_lt C08.P a b ha hb, congrArg _⟩

theorem cast_eq_zero_iff {a : Nat} (h : a < C08.P) : (a : C08.F) = 0 ↔ a = 0 := by
  simpa using cast_inj h C08.P_pos

theorem jrep_inf : JRep SecpFast.inf none := ⟨by decide, by decide, by simp [jacPt, SecpFast.inf]⟩

theorem jacPt_eq {x y z : Nat} {a b : C08.F}
    (h : (z : C08.F) ≠ 0 ∧ (x : C08.F) / (z : C08.F) ^ 2 = a ∧ (y : C08.F) / (z : C08.F) ^ 3 = b) :
    jacPt x y z = C08.ptF a b := by
  rw [jacPt, if_neg h.1, h.2.1, h.2.2]

theorem jrep_dbl {J : SecpFast.J} {A : Point} (h : JRep J A) : JRep (SecpFast.dbl J) (dbl A) := by
  obtain ⟨x, y, z⟩ := J
  obtain ⟨hy, hz, rfl⟩ := h
  have hY := cast_eq_zero_iff hy
  have hZ := cast_eq_zero_iff hz
  simp only [SecpFast.dbl, C08.secp_p_eq, Bool.or_eq_true, beq_iff_eq]
  by_cases hz0 : z = 0
  · rw [if_pos (Or.inl hz0), jacPt, if_pos (hZ.mpr hz0)]; exact jrep_inf
  by_cases hy0 : y = 0
  · rw [if_pos (Or.inr hy0), jacPt, if_neg (mt hZ.mp hz0), C08.secp_dbl_F, hy0, Nat.cast_zero, zero_div,
      if_pos rfl]
    exact jrep_inf
  rw [if_neg (by rintro (h | h) <;> contradiction)]
  have hZ0 := mt hZ.mp hz0
  have hY0 := mt hY.mp hy0
  refine ⟨Nat.mod_lt _ C08.P_pos, Nat.mod_lt _ C08.P_pos, ?_⟩
  rw [jacPt, if_neg hZ0, C08.secp_dbl_F, if_neg (div_ne_zero hY0 (pow_ne_zero _ hZ0))]
  refine (jacPt_eq (C08.dbl_alg _ _ _ _ _ _ hZ0 hY0 ?_ ?_ ?_)).symm
  all_goals simp only [C08.subMod_cast, Nat.cast_mul, ZMod.natCast_mod, Nat.cast_ofNat]
  all_goals ring

theorem jrep_add {J K : SecpFast.J} {A B : Point} (hJ : JRep J A) (hK : JRep K B) :
    JRep (SecpFast.add J K) (add A B) := by
  obtain ⟨x1, y1, z1⟩ := J
  obtain ⟨x2, y2, z2⟩ := K
  obtain ⟨hy1, hz1, rfl⟩ := hJ
  obtain ⟨hy2, hz2, rfl⟩ := hK
  have hZ1 := cast_eq_zero_iff hz1
  have hZ2 := cast_eq_zero_iff hz2
  simp only [SecpFast.add, C08.secp_p_eq, beq_iff_eq]
  by_cases hz10 : z1 = 0
  · rw [if_pos hz10, jacPt, if_pos (hZ1.mpr hz10)]
    exact ⟨hy2, hz2, rfl⟩
  rw [if_neg hz10]
  have hZ10 := mt hZ1.mp hz10
  have hA := jacPt_eq (x := x1) (y := y1) ⟨hZ10, rfl, rfl⟩
  by_cases hz20 : z2 = 0
  · rw [if_pos hz20, jacPt.eq_1 x2, if_pos (hZ2.mpr hz20)]
    exact ⟨hy1, hz1, by rw [hA]; rfl⟩
  rw [if_neg hz20]
  have hZ20 := mt hZ2.mp hz20
  have hm : ∀ a : Nat, a % C08.P < C08.P := fun a => Nat.mod_lt _ C08.P_pos
  have hadd := C08.secp_add_F ((x1 : C08.F) / (z1 : C08.F) ^ 2) ((y1 : C08.F) / (z1 : C08.F) ^ 3)
    ((x2 : C08.F) / (z2 : C08.F) ^ 2) ((y2 : C08.F) / (z2 : C08.F) ^ 3)
  have hB := jacPt_eq (x := x2) (y := y2) ⟨hZ20, rfl, rfl⟩
  have hu : x1 * (z2 * z2 % C08.P) % C08.P = x2 * (z1 * z1 % C08.P) % C08.P ↔
      (x1 : C08.F) / (z1 : C08.F) ^ 2 = (x2 : C08.F) / (z2 : C08.F) ^ 2 := by
    rw [← cast_inj (hm _) (hm _), div_eq_div_iff (pow_ne_zero _ hZ10) (pow_ne_zero _ hZ20)]
    simp only [Nat.cast_mul, ZMod.natCast_mod, pow_two]
  have hs : y1 * z2 % C08.P * (z2 * z2 % C08.P) % C08.P = y2 * z1 % C08.P * (z1 * z1 % C08.P) % C08.P ↔
      (y1 : C08.F) / (z1 : C08.F) ^ 3 = (y2 : C08.F) / (z2 : C08.F) ^ 3 := by
    rw [← cast_inj (hm _) (hm _), div_eq_div_iff (pow_ne_zero _ hZ10) (pow_ne_zero _ hZ20)]
    simp only [Nat.cast_mul, ZMod.natCast_mod, pow_succ, pow_zero, one_mul, mul_assoc]
  by_cases hx : x1 * (z2 * z2 % C08.P) % C08.P = x2 * (z1 * z1 % C08.P) % C08.P
  · rw [if_pos hx, hA, hB, hadd, if_pos (hu.mp hx), ← hA]
    by_cases hy : y1 * z2 % C08.P * (z2 * z2 % C08.P) % C08.P = y2 * z1 % C08.P * (z1 * z1 % C08.P) % C08.P
    · rw [if_pos hy, if_pos (hs.mp hy)]; exact jrep_dbl ⟨hy1, hz1, rfl⟩
    · rw [if_neg hy, if_neg (mt hs.mpr hy)]; exact jrep_inf
  rw [if_neg hx, hA, hB, hadd, if_neg (mt hu.mpr hx)]
  refine ⟨Nat.mod_lt _ C08.P_pos, hm _, ?_⟩
  -- u1 = X1·Z2², s1 = Y1·Z2³ … in the form add_alg asks for (x·w², y·w³ with w = Z1·Z2)
  have e : ∀ (k : Nat) (X Z W : C08.F), Z ≠ 0 → X * W ^ k = X / Z ^ k * (Z * W) ^ k := by
    intro k X Z W hZ; rw [mul_pow, ← mul_assoc, div_mul_cancel₀ _ (pow_ne_zero _ hZ)]
  refine (jacPt_eq (C08.add_alg _ _ _ _ ((z1 : C08.F) * z2) _ _ _ _ _ _ _ (mul_ne_zero hZ10 hZ20)
    (mt hu.mpr hx) (e 2 x1 z1 z2 hZ10) (mul_comm (z1 : C08.F) z2 ▸ e 2 x2 z2 z1 hZ20) (e 3 y1 z1 z2 hZ10)
    (mul_comm (z1 : C08.F) z2 ▸ e 3 y2 z2 z1 hZ20) ?_ ?_ ?_)).symm
  all_goals simp only [C08.subMod_cast, Nat.cast_mul, ZMod.natCast_mod, Nat.cast_ofNat]
  all_goals ring

theorem jrep_ofAffine (P : Point) (hP : Lt P) : JRep (SecpFast.ofAffine P) P := by
  cases P with
  | none => exact jrep_inf
  | some q =>
    obtain ⟨x, y⟩ := q
    obtain ⟨hx, hy⟩ := hP x y rfl
    rw [C08.secp_p_eq] at hx hy
    refine ⟨hy, (by decide : 1 < C08.P), ?_⟩
    simp [SecpFast.ofAffine, jacPt, C08.ptF, ZMod.val_natCast, Nat.mod_eq_of_lt hx, Nat.mod_eq_of_lt hy]

theorem jrep_toAffine {J : SecpFast.J} {A : Point} (h : JRep J A) : SecpFast.toAffine J = A := by
  obtain ⟨x, y, z⟩ := J
  obtain ⟨_, hz, rfl⟩ := h
  have hZ := cast_eq_zero_iff hz
  simp only [SecpFast.toAffine, C08.secp_p_eq, beq_iff_eq, jacPt]
  by_cases hz0 : z = 0
  · rw [if_pos hz0, if_pos (hZ.mpr hz0)]
  rw [if_neg hz0, if_neg (mt hZ.mp hz0), C08.ptF]
  rw [Option.some.injEq, Prod.mk.injEq]
  constructor
  all_goals refine C08.eq_val_of_cast (Nat.mod_lt _ C08.P_pos) ?_
  all_goals simp only [Nat.cast_mul, ZMod.natCast_mod, C08.invMod_cast]
  all_goals rw [div_eq_mul_inv, ← inv_pow]
  all_goals ring

theorem jrep_mulAux {Q : SecpFast.J} {P : Point} (hP : JRep Q P) :
    ∀ (i k : Nat) {J : SecpFast.J} {A : Point}, JRep J A → JRep (SecpFast.mulAux Q i k J) (mulAux P i k A)
  | 0, _, _, _, h => h
  | i + 1, k, _, _, h => by
    simp only [SecpFast.mulAux, mulAux]
    split
    · exact jrep_mulAux hP i k (jrep_add (jrep_dbl h) hP)
    · exact jrep_mulAux hP i k (jrep_dbl h)

theorem mul_eq_jac (k : Nat) (P : Point) (hP : Lt P) : mul k P = SecpFast.toAffine (SecpFast.mul k P) :=
  (jrep_toAffine (jrep_mulAux (jrep_ofAffine P hP) _ k jrep_inf)).symm

/-- `Secp.mul` through the Jacobian loop whenever the point is reduced: an equation without
    hypotheses, so every scalar multiplication inside a closed term can be rewritten before the
    kernel evaluates the term. -/
def mulJ (k : Nat) (P : Point) : Point :=
  if P.all (fun q => q.1 < p ∧ q.2 < p) then SecpFast.toAffine (SecpFast.mul k P) else mul k P

theorem mul_eq_mulJ (k : Nat) (P : Point) : mul k P = mulJ k P := by
  unfold mulJ
  split
  · rename_i h
    refine mul_eq_jac k P fun x y hP => ?_
    subst hP
    simpa using h
  · rfl

end GocoinV.Proofs.C03
