/-
  Proofs.C06Replay — the unspent map as a partial function: `commitTxs`, `commit`, `undoBlock` depend on the map only
  through `DB.get` (congruence w.r.t. `DBEq`), `commitTxs` with the trusted flag, and the DB-level undo step.
-/
import GocoinV.Spec.ChainReplay
import GocoinV.Proofs.C06CommitTxs
namespace GocoinV.UtxoOps


theorem DBEq.refl (u : DB) : DBEq u u := fun _ => rfl
theorem DBEq.symm {u u' : DB} (h : DBEq u u') : DBEq u' u := fun k => (h k).symm
theorem DBEq.trans {a b c : DB} (h1 : DBEq a b) (h2 : DBEq b c) : DBEq a c := fun k => (h1 k).trans (h2 k)

theorem procInput_congr {u u' : DB} (h : DBEq u u') (ht : Nat) (st : CState) (i : TxIn) :
    procInput u ht st i = procInput u' ht st i := by
  unfold procInput unspentGet
  rw [h i.txid]

theorem procInputs_congr {u u' : DB} (h : DBEq u u') (ht : Nat) (st : CState) (is : List TxIn) :
    procInputs u ht st is = procInputs u' ht st is := by
  induction is generalizing st with
  | nil => rfl
  | cons i is ih =>
    simp only [procInputs, procInput_congr h, ih]

theorem procTxs_congr {u u' : DB} (h : DBEq u u') (ht : Nat) (first : Bool) (st : CState) (txs : List Tx) :
    procTxs u ht first st txs = procTxs u' ht first st txs := by
  induction txs generalizing st first with
  | nil => rfl
  | cons t ts ih =>
    simp only [procTxs, procInputs_congr h, ih]

theorem commitTxs_congr {u u' : DB} (h : DBEq u u') (ht rwd : Nat) (tr : Bool) (txs : List Tx) :
    commitTxs u ht rwd tr txs = commitTxs u' ht rwd tr txs := by
  unfold commitTxs
  simp only [procTxs_congr h]

theorem commit_congr {u u' : DB} (h : DBEq u u') (ch : Changes) : DBEq (commit u ch) (commit u' ch) :=
  List.foldl_rel (r := DBEq) (List.foldl_rel (r := DBEq) h fun p _ d d' h k => by rw [get_del, get_del, h p.1, h k])
    fun r _ d d' h k => by rw [get_put, get_put, h k]

theorem undoBlock_congr {u u' : DB} (h : DBEq u u') (txids : List Nat) (undo : List Rec) :
    DBEq (undoBlock u txids undo) (undoBlock u' txids undo) :=
  List.foldl_rel (r := DBEq) (List.foldl_rel (r := DBEq) h fun t _ d d' h k => by rw [get_erase, get_erase, h k])
    fun r _ d d' h k => by rw [get_undoOne, get_undoOne, h k, h r.txid]

theorem commitTxs_trusted {u : DB} {ht rwd : Nat} {tr : Bool} {txs : List Tx} {ch : Changes}
    (h : commitTxs u ht rwd tr txs = .ok ch) : commitTxs u ht rwd true txs = .ok ch := by
  unfold commitTxs at h ⊢
  split at h
  · cases h
  · rename_i hne
    obtain ⟨x, hx, h⟩ := bind_ok h
    simp only at h
    split at h
    · cases h
    · simpa [hne, hx, bind, Except.bind] using h


theorem undo_step {cu u : DB} {h rwd : Nat} {tr : Bool} {txs : List Tx} {ch : Changes}
    (heq : DBEq cu (commit u ch)) (hct : commitTxs u h rwd tr txs = .ok ch)
    (hfresh : ∀ t ∈ txs.map (·.txid), u.get t = none) :
    DBEq (undoBlock cu (txs.map (·.txid)) ch.undo) u := by
  intro k
  rw [undoBlock_congr heq (txs.map (·.txid)) ch.undo k]
  exact undo_commit_get u _ ch (commitTxs_validChanges u h rwd tr txs ch hct hfresh) k

end GocoinV.UtxoOps
