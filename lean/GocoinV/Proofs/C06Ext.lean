/-
  Proofs.C06Ext — the two VALIDITY parts of the chain invariant (header of Props/C06, (a) and (b)): (b) script validity of
  the active branch (`TrustedOK`, `PathTrusted`: every block of the active branch is stored with the trusted mark, and the
  mark implies that every non-coinbase transaction passed its script oracle) and (a) completeness (`Lost`: a node disappears
  from the tree only if it, or an ancestor, fails `commitTxs` — scripts checked — on the replay of its parent's branch).
  Lemmas about `commitTxs` and the trusted flag, and the bookkeeping for the steps of the reorganisation machinery.
-/
import GocoinV.Proofs.C06Delete
import GocoinV.Proofs.C06Climb
namespace GocoinV.UtxoOps

open GocoinV.ChainTree in
/-- the flag computed by the loop over the transactions is "all scripts ok from the second transaction on" -/
theorem procTxs_flag (u : DB) (h : Nat) (txs : List Tx) (first : Bool) (st st' : CState) (sin sout : Nat) (ok : Bool)
    (hr : procTxs u h first st txs = .ok (st', sin, sout, ok)) : ok = allOkFrom first txs := by
  induction txs generalizing st st' first sin sout ok with
  | nil => cases hr; rfl
  | cons tx txs ih =>
    cases first with
    | true =>
      obtain ⟨_, hx, hr⟩ := bind_ok hr
      cases hx
      obtain ⟨y, hy, hr⟩ := bind_ok hr
      cases hr
      rw [allOkFrom, ← ih false _ _ _ _ _ hy]
    | false =>
      obtain ⟨x, -, hr⟩ := bind_ok hr
      simp only at hr
      split at hr
      · cases hr
      · obtain ⟨y, hy, hr⟩ := bind_ok hr
        cases hr
        rw [allOkFrom, ← ih false _ _ _ _ _ hy]

/-- the tests of `commitTxs` after the loop over the transactions, as a function of the loop's result -/
def commitFinish (h rwd : Nat) (tr : Bool) (r : CState × Nat × Nat × Bool) : Except Err Changes :=
  if !tr && !r.2.2.2 then .error .scripts
  else if rwd + r.2.1 < r.2.2.1 then .error .outGtIn
  else .ok { deled := r.1.deled, undo := r.1.undo, addList := addListOf h r.1.blUnsp }

theorem commitTxs_eq (u : DB) (h rwd : Nat) (tr : Bool) (txs : List Tx) :
    commitTxs u h rwd tr txs =
      if txs.isEmpty then .error .noCoinbase
      else match procTxs u h true {} txs with
        | .error e => .error e
        | .ok r => commitFinish h rwd tr r := by
  unfold commitTxs commitFinish
  simp only [bind, Except.bind, pure, Except.pure, throw, throwThe, MonadExceptOf.throw]
  by_cases he : txs.isEmpty = true
  · simp only [he, if_true]
  · simp only [he, Bool.false_eq_true, if_false]
    cases hp : procTxs u h true {} txs with
    | error e => rfl
    | ok r =>
      obtain ⟨st, sin, sout, ok⟩ := r
      simp only

theorem commitTxs_of_loop (u : DB) (h rwd : Nat) (tr : Bool) (txs : List Tx) (r : CState × Nat × Nat × Bool)
    (he : ¬ txs.isEmpty = true) (hp : procTxs u h true {} txs = .ok r) :
    commitTxs u h rwd tr txs = commitFinish h rwd tr r := by
  rw [commitTxs_eq, if_neg he, hp]

/-- when the list is empty or the loop failed, the trusted flag plays no role -/
theorem commitTxs_early (u : DB) (h rwd : Nat) (tr tr' : Bool) (txs : List Tx)
    (hp : txs.isEmpty = true ∨ ∃ e, procTxs u h true {} txs = .error e) :
    commitTxs u h rwd tr txs = commitTxs u h rwd tr' txs ∧ ∃ e, commitTxs u h rwd tr txs = .error e := by
  rw [commitTxs_eq, commitTxs_eq]
  by_cases he : txs.isEmpty = true
  · simp only [he, if_true]; exact ⟨trivial, _, rfl⟩
  · obtain ⟨e, hp⟩ := hp.resolve_left he
    simp only [he, Bool.false_eq_true, if_false, hp]; exact ⟨trivial, _, rfl⟩

theorem commitTxs_cases (u : DB) (h : Nat) (txs : List Tx) :
    (txs.isEmpty = true ∨ ∃ e, procTxs u h true {} txs = .error e) ∨
    (¬ txs.isEmpty = true ∧ ∃ r, procTxs u h true {} txs = .ok r) := by
  by_cases he : txs.isEmpty = true
  · exact Or.inl (Or.inl he)
  · cases hp : procTxs u h true {} txs with
    | error e => exact Or.inl (Or.inr ⟨e, rfl⟩)
    | ok r => exact Or.inr ⟨he, r, rfl⟩

open GocoinV.ChainTree in
theorem commitTxs_false_scripts (u : DB) (h rwd : Nat) (txs : List Tx) (ch : Changes)
    (hok : commitTxs u h rwd false txs = .ok ch) : scriptsPass txs = true := by
  rcases commitTxs_cases u h txs with hp | ⟨he, r, hp⟩
  · obtain ⟨_, e, h2⟩ := commitTxs_early u h rwd false false txs hp
    rw [h2] at hok; cases hok
  · rw [commitTxs_of_loop u h rwd false txs r he hp] at hok
    obtain ⟨st, sin, sout, ok⟩ := r
    have hf := procTxs_flag u h txs true _ st sin sout ok hp
    unfold commitFinish at hok
    cases ok with
    | true => unfold scriptsPass; rw [← hf]
    | false => simp at hok

/-- a block refused with the scripts skipped is refused with the scripts checked as well (possibly for another reason) -/
theorem commitTxs_error_false (u : DB) (h rwd : Nat) (tr : Bool) (txs : List Tx) (e : Err)
    (herr : commitTxs u h rwd tr txs = .error e) : ∃ e', commitTxs u h rwd false txs = .error e' := by
  cases tr with
  | false => exact ⟨e, herr⟩
  | true =>
    rcases commitTxs_cases u h txs with hp | ⟨he, r, hp⟩
    · exact (commitTxs_early u h rwd false true txs hp).2
    · rw [commitTxs_of_loop u h rwd true txs r he hp] at herr
      rw [commitTxs_of_loop u h rwd false txs r he hp]
      unfold commitFinish at herr ⊢
      by_cases h1 : (!false && !r.2.2.2) = true
      · exact ⟨_, if_pos h1⟩
      · rw [if_neg h1]; exact ⟨e, herr⟩

end GocoinV.UtxoOps

namespace GocoinV.ChainTree
open GocoinV.UtxoOps

/-- the part of the invariant that concerns script validity: (1) every stored block marked trusted has
    `scriptsPass`; (2) every block of the active branch is stored with that mark -/
structure Ext (c : Chain) (path : List PE) : Prop where
  trusted : TrustedOK c
  onPath : PathTrusted c path

/-- **every block of the active branch passed its script oracle** -/
theorem Ext.scripts {c : Chain} {path : List PE} (x : Ext c path) (hl : Linked c path) :
    ∀ e ∈ path, scriptsPass e.txs = true := by
  intro e he
  obtain ⟨blk, hb, hbt⟩ := (Linked_mem hl e he).2
  obtain ⟨s, hs, hst⟩ := x.onPath e he
  rw [hb] at hs; cases hs
  rw [← hbt]; exact x.trusted _ _ hb hst

theorem Ext.of_store_eq {c c' : Chain} {path : List PE} (x : Ext c path) (hs : c'.store = c.store) : Ext c' path :=
  ⟨fun k s h ht => x.trusted k s (by rw [← hs]; exact h) ht, fun e he => by rw [hs]; exact x.onPath e he⟩

theorem Ext.suffix {c : Chain} {pre post : List PE} (x : Ext c (pre ++ post)) : Ext c post :=
  ⟨x.trusted, fun e he => x.onPath e (List.mem_append_right _ he)⟩

/-- a trusted entry whose transactions pass their scripts, put on top of the path -/
theorem Ext.push {c c' : Chain} {path : List PE} (x : Ext c path) (k : Nat) (txs : List Tx)
    (hpass : scriptsPass txs = true) (hst : c'.store = aset k { txs := txs, trusted := true } c.store) :
    Ext c' (⟨k, txs⟩ :: path) := by
  refine ⟨?_, ?_⟩
  · intro j s' h ht
    rw [hst, alookup_aset_eq] at h
    split at h
    · cases h; exact hpass
    · exact x.trusted j s' h ht
  · intro e he
    rw [hst, alookup_aset_eq]
    by_cases hk : k = e.id
    · exact ⟨_, if_pos hk, rfl⟩
    · rw [if_neg hk]; exact x.onPath e ((List.mem_cons.mp he).resolve_left fun h => hk (by rw [h]))

/-- marking the stored block `nx` trusted after `commitTxs` accepted it (scripts checked unless it carried the mark) and
    putting it on top of the path -/
theorem Ext.connect {c c' : Chain} {path : List PE} (x : Ext c path) (nx : Nat) (s : Stored) (h rwd : Nat) (ch : Changes)
    (hs : alookup nx c.store = some s) (hok : commitTxs c.utxo h rwd s.trusted s.txs = .ok ch)
    (hst : c'.store = aset nx { s with trusted := true } c.store) : Ext c' (⟨nx, s.txs⟩ :: path) :=
  x.push nx s.txs (by
    cases htr : s.trusted with
    | true => exact x.trusted nx s hs htr
    | false => rw [htr] at hok; exact commitTxs_false_scripts _ _ _ _ _ hok) hst

/-- a new untrusted entry under a key that is not on the path -/
theorem Ext.store_aside {c c' : Chain} {path : List PE} (x : Ext c path) (k0 : Nat) (txs : List Tx)
    (hnew : ∀ e ∈ path, e.id ≠ k0) (hst : c'.store = aset k0 { txs := txs, trusted := false } c.store) : Ext c' path := by
  refine ⟨?_, ?_⟩
  · intro k s' h ht
    rw [hst, alookup_aset_eq] at h
    split at h
    · cases h; cases ht
    · exact x.trusted k s' h ht
  · intro e he
    rw [hst, alookup_aset_eq, if_neg fun e1 => hnew e he e1.symm]; exact x.onPath e he

/-- a new trusted entry for a block that `commitTxs` accepted with the scripts checked, put on top of the path -/
theorem Ext.extend {c c' : Chain} {path : List PE} (x : Ext c path) (b : Block) (h rwd : Nat) (ch : Changes) (u : DB)
    (hok : commitTxs u h rwd false b.txs = .ok ch)
    (hst : c'.store = aset b.id { txs := b.txs, trusted := true } c.store) : Ext c' (⟨b.id, b.txs⟩ :: path) :=
  x.push b.id b.txs (commitTxs_false_scripts _ _ _ _ _ hok) hst

/-- DeleteBranch of a block that is not an ancestor-or-self of any block of the path -/
theorem Ext.deleteBranch {U : List Block} {c : Chain} {path : List PE} (x : Ext c path) (w : TreeWF U c) {nx : Nat}
    {nxt : Node} (hn : getNode c nx = some nxt) (halive : ∀ e ∈ path, ¬ Desc c nx e.id) :
    Ext (deleteBranch c nx) path := by
  refine ⟨?_, ?_⟩
  · intro k s h ht
    by_cases hd : Desc c nx k
    · rw [store_deleteBranch_dead w hn k hd] at h; cases h
    · rw [store_deleteBranch_alive w hn k hd] at h; exact x.trusted k s h ht
  · intro e he
    rw [store_deleteBranch_alive w hn e.id (halive e he)]; exact x.onPath e he

-- ------------------------------------------------------------------------------------------ completeness

theorem Lost.of_getNode {U : List Block} {root : Nat} {c c' : Chain} (hg : ∀ x, getNode c' x = getNode c x) :
    Lost U root c c' := by
  intro x hx hn
  rw [← hg, hn] at hx; cases hx

theorem Lost.trans {U : List Block} {root : Nat} {a b c : Chain} (h1 : Lost U root a b) (h2 : Lost U root b c) :
    Lost U root a c := by
  intro x hx hn
  cases hb : getNode b x with
  | none => exact h1 x hx hb
  | some n => exact h2 x (by rw [hb]; rfl) hn

theorem Desc.toUAnc {U : List Block} {c : Chain} (w : TreeWF U c) {a x : Nat} (h : Desc c a x) : UAnc U a x := by
  induction h with
  | refl => exact UAnc.refl
  | @step x n hn hx _ ih =>
    obtain ⟨b, hbU, hid, hpar, _⟩ := w.blk x n hn hx
    exact hid ▸ UAnc.step hbU (hpar ▸ ih)

/-- a block that `commitTxs` refuses on top of the active branch (map = replay of that branch) is `InvalidOnReplay` -/
theorem invalidOnReplay_on_path {U : List Block} {c : Chain} (w : TreeWF U c) {path : List PE} (hpo : PathOK c 0 path)
    (b : Block) (hpar : b.parent = c.tip) (tr : Bool) (e : Err)
    (herr : commitTxs c.utxo (path.length + 1) (reward (path.length + 1)) tr b.txs = .error e) :
    InvalidOnReplay U c.root b := by
  obtain ⟨u, hru, heq⟩ := hpo.utxo
  rw [commitTxs_congr heq] at herr
  obtain ⟨e', he'⟩ := commitTxs_error_false _ _ _ _ _ _ herr
  exact ⟨path, u, e', Linked_UChain w hpo.linked, by rw [← headId_eq, ← hpo.tip, hpar], hru, he'⟩

/-- DeleteBranch of a block that failed to connect on top of the active branch loses only excused nodes -/
theorem Lost.deleteBranch {U : List Block} {c : Chain} (w : TreeWF U c) {path : List PE} (hpo : PathOK c 0 path)
    {nx : Nat} {nxt : Node} (hn : getNode c nx = some nxt) (hx : nx ≠ c.root) (hpar : nxt.parent = c.tip)
    (s : Stored) (hs : alookup nx c.store = some s) (e : Err)
    (herr : commitTxs c.utxo (path.length + 1) (reward (path.length + 1)) s.trusted s.txs = .error e) :
    Lost U c.root c (deleteBranch c nx) := by
  obtain ⟨b, hbU, hid, hbp, _, _, s', hs', hst⟩ := w.blkData hn hx (w.stored_has_data hn hs)
  rw [hs] at hs'; cases hs'
  have hinv : InvalidOnReplay U c.root b :=
    invalidOnReplay_on_path w hpo b (by rw [hbp, hpar]) s.trusted e (by rw [← hst]; exact herr)
  intro x hxs hnone
  by_cases hd : Desc c nx x
  · exact ⟨b, hbU, by rw [hid]; exact hd.toUAnc w, hinv⟩
  · obtain ⟨n, hg⟩ := Option.isSome_iff_exists.mp hxs
    obtain ⟨n', g1, _⟩ := deleteBranch_old w hn x n hg hd
    rw [g1] at hnone; cases hnone

end GocoinV.ChainTree
