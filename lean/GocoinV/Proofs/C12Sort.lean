/-
  Proofs.C12Sort — completeness of GetSortedMempoolSlow (every pooled record is listed exactly once).
  Helper lemmas for Props/C12 `sorted_complete`.  Core Lean only.
-/
import GocoinV.Model.Mempool
namespace GocoinV.Mempool

abbrev Ent := Nat × T2S
def keysOf (l : List Ent) : List Nat := l.map (·.1)

theorem keysOf_append (a b : List Ent) : keysOf (a ++ b) = keysOf a ++ keysOf b := by simp [keysOf]

theorem keysOf_left (a b : List Ent) : ∀ k ∈ keysOf a, k ∈ keysOf (a ++ b) :=
  fun k hk => by rw [keysOf_append]; exact List.mem_append_left _ hk

theorem keysOf_last (a : List Ent) (d : Ent) : d.1 ∈ keysOf (a ++ [d]) := by simp [keysOf]

/-- listed, or still lacking a flagged parent -/
def Good (K : Keys) (res : List Ent) (d : Ent) : Prop := d.1 ∈ keysOf res ∨ missingParents K res d.2 = true

/-- number of deferred entries not yet listed: the measure of the recursion of append_txs — every recursive call lists one
    more deferred entry (`pend_lt`), and there are at most |pool| of them, so the fuel |pool| + 1 is never used up -/
def pend (res D : List Ent) : Nat := D.countP fun d => decide (d.1 ∉ keysOf res)

theorem pend_mono (res res' : List Ent) (h : ∀ k ∈ keysOf res, k ∈ keysOf res') (D : List Ent) : pend res' D ≤ pend res D :=
  List.countP_mono_left fun d _ hd => by simp only [decide_eq_true_eq] at hd ⊢; exact fun hk => hd (h _ hk)

theorem pend_le_length (res D : List Ent) : pend res D ≤ D.length := List.countP_le_length

theorem pend_lt (res : List Ent) (d : Ent) (hd : d.1 ∉ keysOf res) (D : List Ent) (hm : d ∈ D) : pend (res ++ [d]) D < pend res D := by
  obtain ⟨l1, l2, rfl⟩ := List.append_of_mem hm
  have h1 := pend_mono res (res ++ [d]) (keysOf_left res [d]) l1
  have h2 := pend_mono res (res ++ [d]) (keysOf_left res [d]) l2
  simp only [pend, List.countP_append, List.countP_cons, keysOf_last res d, hd, not_true_eq_false, not_false_eq_true, decide_true, decide_false, if_true, Bool.false_eq_true, if_false] at h1 h2 ⊢
  omega

theorem missing_iff (K : Keys) (res : List Ent) (t : T2S) :
    missingParents K res t = true ↔ ∃ p ∈ memParents K t, p ∉ keysOf res := by
  unfold missingParents keysOf
  rw [List.any_eq_true]
  exact exists_congr fun p => and_congr_right fun _ => by simp

theorem missing_mono (K : Keys) (res res' : List Ent) (t : T2S) (h : ∀ k ∈ keysOf res, k ∈ keysOf res')
    (hm : missingParents K res' t = true) : missingParents K res t = true := by
  rw [missing_iff] at hm ⊢
  obtain ⟨p, hp, hn⟩ := hm
  exact ⟨p, hp, fun hk => hn (h p hk)⟩

theorem missing_new (K : Keys) (res : List Ent) (x : Ent) (t : T2S) (h1 : missingParents K res t = true)
    (h2 : ¬ missingParents K (res ++ [x]) t = true) : x.1 ∈ memParents K t := by
  rw [missing_iff] at h1 h2
  obtain ⟨p, hp, hn⟩ := h1
  have : p ∈ keysOf (res ++ [x]) := Classical.byContradiction fun hc => h2 ⟨p, hp, hc⟩
  rw [keysOf_append] at this
  rcases List.mem_append.mp this with e | e
  · exact absurd e hn
  · simp [keysOf] at e; rw [← e]; exact hp

/-- the retry step inside append_txs, named -/
def retryStep (K : Keys) (fuel : Nat) (x : Ent) (st : List Ent × List Ent) (d : Ent) : List Ent × List Ent :=
  if (st.1.map (·.1)).contains d.1 then st
  else if (memParents K d.2).contains x.1 && !missingParents K st.1 d.2 then appendTxs K fuel st d
  else st

theorem appendTxs_succ (K : Keys) (fuel : Nat) (res D : List Ent) (x : Ent) :
    appendTxs K (fuel + 1) (res, D) x = D.foldl (retryStep K fuel x) (res ++ [x], D) := rfl

/-- what one call of append_txs guarantees -/
structure Post (K : Keys) (D res : List Ent) (x : Ent) (st' : List Ent × List Ent) : Prop where
  snd : st'.2 = D
  grow : ∀ k ∈ keysOf (res ++ [x]), k ∈ keysOf st'.1
  good : ∀ d ∈ D, Good K res d → Good K st'.1 d
  nodup : (keysOf st'.1).Nodup
  sub : ∀ k ∈ keysOf st'.1, k ∈ keysOf res ∨ k = x.1 ∨ k ∈ keysOf D

/-- loop invariant of the retry fold (over the remaining deferred entries `l`).  `good`: a deferred entry that was listed
    or lacked a parent before `x` was appended still is or does — or it waits in `l` with `x` among its flagged parents,
    i.e. the fold has yet to look at it again -/
structure RInv (K : Keys) (n : Nat) (D res : List Ent) (x : Ent) (st : List Ent × List Ent) (l : List Ent) : Prop where
  snd : st.2 = D
  grow : ∀ k ∈ keysOf (res ++ [x]), k ∈ keysOf st.1
  fuel : pend st.1 D ≤ n
  nodup : (keysOf st.1).Nodup
  sub : ∀ k ∈ keysOf st.1, k ∈ keysOf res ∨ k = x.1 ∨ k ∈ keysOf D
  good : ∀ d ∈ D, Good K res d → Good K st.1 d ∨ (d ∈ l ∧ x.1 ∈ memParents K d.2)

theorem retry_fold (K : Keys) (n : Nat) (D res : List Ent) (x : Ent)
    (ih : ∀ (res0 : List Ent) (d : Ent), pend (res0 ++ [d]) D < n → d.1 ∉ keysOf res0 → (keysOf res0).Nodup →
      Post K D res0 d (appendTxs K n (res0, D) d)) :
    ∀ (l : List Ent) (st : List Ent × List Ent), (∀ d ∈ l, d ∈ D) → RInv K n D res x st l →
    RInv K n D res x (l.foldl (retryStep K n x) st) [] := by
  intro l
  induction l with
  | nil => intro st _ h; exact h
  | cons d r ihl =>
    intro st hl h
    simp only [List.foldl_cons]
    apply ihl _ (fun e he => hl e (List.mem_cons_of_mem _ he))
    have hdD : d ∈ D := hl d List.mem_cons_self
    have step : ∀ res', (∀ e ∈ D, Good K st.1 e → Good K res' e) → (x.1 ∈ memParents K d.2 → Good K res' d) →
        ∀ e ∈ D, Good K res e → Good K res' e ∨ (e ∈ r ∧ x.1 ∈ memParents K e.2) := by
      intro res' f1 f2 e he hg
      rcases h.good e he hg with g | ⟨g1, g2⟩
      · exact Or.inl (f1 e he g)
      · rcases List.mem_cons.mp g1 with e1 | e1
        · subst e1; exact Or.inl (f2 g2)
        · exact Or.inr ⟨e1, g2⟩
    unfold retryStep
    split
    · rename_i hc
      exact { h with good := step _ (fun _ _ g => g) fun _ => Or.inl (by simpa [keysOf] using hc) }
    · rename_i hc
      have hc' : d.1 ∉ keysOf st.1 := by simpa [keysOf] using hc
      split
      · have hst : st = (st.1, D) := by rw [← h.snd]
        have lt : pend (st.1 ++ [d]) D < n := Nat.lt_of_lt_of_le (pend_lt st.1 d hc' D hdD) h.fuel
        have p := ih st.1 d lt hc' h.nodup
        rw [← hst] at p
        have up : ∀ k ∈ keysOf st.1, k ∈ keysOf (appendTxs K n st d).1 :=
          fun k hk => p.grow k (keysOf_left _ _ k hk)
        refine ⟨p.snd, fun k hk => up k (h.grow k hk), ?_, p.nodup, ?_,
          step _ p.good fun _ => Or.inl (p.grow _ (keysOf_last _ _))⟩
        · exact Nat.le_trans (pend_mono _ _ up D) h.fuel
        · intro k hk
          rcases p.sub k hk with e | e | e
          · exact h.sub k e
          · right; right; rw [e]; exact List.mem_map.mpr ⟨d, hdD, rfl⟩
          · exact Or.inr (Or.inr e)
      · rename_i hcond
        refine { h with good := step _ (fun _ _ g => g) fun g2 => Or.inr ?_ }
        cases hm : missingParents K st.1 d.2 with
        | true => rfl
        | false => simp [hm] at hcond; exact absurd g2 hcond

theorem appendTxs_post (K : Keys) : ∀ (fuel : Nat) (D res : List Ent) (x : Ent),
    pend (res ++ [x]) D < fuel → x.1 ∉ keysOf res → (keysOf res).Nodup →
    Post K D res x (appendTxs K fuel (res, D) x) := by
  intro fuel
  induction fuel with
  | zero => intro D res x h; omega
  | succ n ih =>
    intro D res x hf hx hn
    rw [appendTxs_succ]
    have init : RInv K n D res x (res ++ [x], D) D := by
      refine ⟨rfl, fun k hk => hk, by show pend (res ++ [x]) D ≤ n; omega, ?_, ?_, ?_⟩
      · rw [keysOf_append]
        exact (List.perm_append_singleton _ _).nodup_iff.mpr (List.nodup_cons.mpr ⟨hx, hn⟩)
      · rw [keysOf_append]
        exact List.forall_mem_append.mpr ⟨fun _ => Or.inl, List.forall_mem_singleton.mpr (Or.inr (Or.inl rfl))⟩
      · intro d hd hg
        rcases hg with g | g
        · exact Or.inl (Or.inl (keysOf_left _ _ _ g))
        · by_cases hm : missingParents K (res ++ [x]) d.2 = true
          · exact Or.inl (Or.inr hm)
          · exact Or.inr ⟨hd, missing_new K res x d.2 g hm⟩
    have fin := retry_fold K n D res x (fun res0 d => ih D res0 d) D _ (fun d hd => hd) init
    refine ⟨fin.snd, fin.grow, ?_, fin.nodup, fin.sub⟩
    intro d hd hg
    rcases fin.good d hd hg with g | ⟨g1, _⟩
    · exact g
    · simp at g1

/-! ### the fee-ordered input is a permutation of the pool -/

theorem insSorted_perm (p : Ent) : ∀ (l : List Ent), (insSorted p l).Perm (p :: l) := by
  intro l
  induction l with
  | nil => exact List.Perm.refl _
  | cons x r ih =>
    simp only [insSorted]
    split
    · exact List.Perm.refl _
    · exact ((List.Perm.cons x ih).trans (List.Perm.swap p x r))

theorem foldl_ins_perm : ∀ (pool acc : List Ent), (pool.foldl (fun acc p => insSorted p acc) acc).Perm (pool ++ acc) := by
  intro pool
  induction pool with
  | nil => intro acc; exact List.Perm.refl _
  | cons p r ih =>
    intro acc
    simp only [List.foldl_cons, List.cons_append]
    exact (ih (insSorted p acc)).trans
      (((insSorted_perm p acc).append_left r).trans List.perm_middle)

theorem feeOrder_perm (s : State) : (feeOrder s).Perm s.pool := by
  unfold feeOrder
  have := foldl_ins_perm s.pool []
  simpa using this

/-! ### the main loop -/

structure MInv (K : Keys) (st : List Ent × List Ent) (done : List Ent) : Prop where
  good : ∀ d ∈ st.2, Good K st.1 d
  dsub : ∀ d ∈ st.2, d ∈ done
  dlen : st.2.length ≤ done.length
  cover : ∀ p ∈ done, p.1 ∈ keysOf st.1 ∨ p ∈ st.2
  nodup : (keysOf st.1).Nodup
  ksub : ∀ k ∈ keysOf st.1, k ∈ keysOf done

theorem main_fold (K : Keys) (fuel : Nat) (F : List Ent) (hF : (keysOf F).Nodup) (hfuel : F.length < fuel) :
    ∀ (rest done : List Ent) (st : List Ent × List Ent), F = done ++ rest → MInv K st done →
    MInv K (rest.foldl (slowStep K fuel) st) F := by
  intro rest
  induction rest with
  | nil => intro done st h m; simp at h; rw [h]; exact m
  | cons p r ih =>
    intro done st hsplit m
    simp only [List.foldl_cons]
    have hsplit' : F = (done ++ [p]) ++ r := by rw [hsplit]; simp
    apply ih (done ++ [p]) _ hsplit'
    have hpd : p.1 ∉ keysOf done := by
      rw [hsplit, keysOf_append] at hF
      exact fun hin => (List.nodup_append.mp hF).2.2 p.1 hin p.1 (by simp [keysOf]) rfl
    have hps : p.1 ∉ keysOf st.1 := fun h => hpd (m.ksub _ h)
    have hlen : done.length < F.length := by rw [hsplit]; simp
    have kd := keysOf_left done [p]
    unfold slowStep
    split
    · rename_i hm
      refine ⟨List.forall_mem_append.mpr ⟨m.good, List.forall_mem_singleton.mpr (Or.inr hm)⟩,
        List.forall_mem_append.mpr ⟨fun d e => List.mem_append_left _ (m.dsub d e), fun d e => List.mem_append_right _ e⟩,
        ?_,
        List.forall_mem_append.mpr ⟨fun q e => (m.cover q e).imp_right (List.mem_append_left _),
          fun q e => Or.inr (List.mem_append_right _ e)⟩,
        m.nodup, fun k hk => kd k (m.ksub k hk)⟩
      simp only [List.length_append, List.length_singleton]; have := m.dlen; omega
    · have lt : pend (st.1 ++ [p]) st.2 < fuel := by
        have := pend_le_length (st.1 ++ [p]) st.2
        have := m.dlen
        omega
      have post := appendTxs_post K fuel st.2 st.1 p lt hps m.nodup
      have up : ∀ k ∈ keysOf st.1, k ∈ keysOf (appendTxs K fuel st p).1 :=
        fun k hk => post.grow k (keysOf_left _ _ k hk)
      refine ⟨?_, ?_, ?_, ?_, post.nodup, ?_⟩
      · rw [post.snd]; exact fun d hd => post.good d hd (m.good d hd)
      · rw [post.snd]; exact fun d hd => List.mem_append_left _ (m.dsub d hd)
      · rw [post.snd]; simp only [List.length_append, List.length_singleton]; have := m.dlen; omega
      · rw [post.snd]
        exact List.forall_mem_append.mpr ⟨fun q e => (m.cover q e).imp_left (up _),
          List.forall_mem_singleton.mpr (Or.inl (post.grow _ (keysOf_last _ _)))⟩
      · intro k hk
        rcases post.sub k hk with e | e | e
        · exact kd k (m.ksub k e)
        · rw [e]; exact keysOf_last _ _
        · obtain ⟨d, hd, rfl⟩ := List.mem_map.mp e
          exact kd _ (List.mem_map.mpr ⟨d, m.dsub d hd, rfl⟩)

theorem all_listed (K : Keys) (F res deferred : List Ent) (rank : Ent → Nat)
    (hcov : ∀ p ∈ F, p.1 ∈ keysOf res ∨ p ∈ deferred) (hgood : ∀ d ∈ deferred, Good K res d)
    (hpar : ∀ p ∈ F, ∀ k ∈ memParents K p.2, ∃ q ∈ F, q.1 = k ∧ rank q < rank p) :
    ∀ p ∈ F, p.1 ∈ keysOf res := by
  intro p hp
  induction hr : rank p using Nat.strongRecOn generalizing p with
  | _ n ih =>
    rcases hcov p hp with c | c
    · exact c
    · rcases hgood p c with g | g
      · exact g
      · rw [missing_iff] at g
        obtain ⟨k, hk, hn⟩ := g
        obtain ⟨q, hq, e, hrk⟩ := hpar p hp k hk
        exact absurd (e ▸ ih _ (hr ▸ hrk) q hq rfl) hn

theorem sortedSlow_complete (K : Keys) (s : State) (rank : Nat → Nat) (hn : (s.pool.map Prod.fst).Nodup)
    (hpar : ∀ b t, (b, t) ∈ s.pool → ∀ k ∈ memParents K t, (∃ t', (k, t') ∈ s.pool) ∧ rank k < rank b) :
    (sortedSlow K s).Nodup ∧ ∀ b, b ∈ sortedSlow K s ↔ b ∈ s.pool.map Prod.fst := by
  have perm := feeOrder_perm s
  have hF : (keysOf (feeOrder s)).Nodup := (perm.map Prod.fst).nodup_iff.mpr hn
  have hlen : (feeOrder s).length < s.pool.length + 1 := by rw [perm.length_eq]; omega
  have m := main_fold K (s.pool.length + 1) (feeOrder s) hF hlen (feeOrder s) [] ([], []) (by simp)
    ⟨by simp, by simp, by simp, by simp, by simp [keysOf], by simp [keysOf]⟩
  have e : sortedSlow K s = keysOf ((feeOrder s).foldl (slowStep K (s.pool.length + 1)) ([], [])).1 := rfl
  rw [e]
  refine ⟨m.nodup, fun b => ⟨fun hb => ?_, fun hb => ?_⟩⟩
  · exact (perm.map Prod.fst).mem_iff.mp (m.ksub b hb)
  · obtain ⟨p, hp, rfl⟩ := List.mem_map.mp hb
    have hpF : p ∈ feeOrder s := perm.mem_iff.mpr hp
    apply all_listed K (feeOrder s) _ _ (fun q => rank q.1) m.cover m.good _ p hpF
    intro q hq k hk
    obtain ⟨⟨t', ht'⟩, hr⟩ := hpar q.1 q.2 (perm.mem_iff.mp hq) k hk
    exact ⟨(k, t'), perm.mem_iff.mpr ht', rfl, hr⟩

end GocoinV.Mempool
