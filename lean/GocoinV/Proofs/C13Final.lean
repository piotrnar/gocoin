/-
  Proofs.C13Final — the vocabulary of `signatures_verify` and its variants (Props/C13.lean): what script verification
  reads from the spending transaction (`txCtxOf`) and what a signer has to deliver for one input (`SignerOk`); the signers
  as C03 models them, IMPORTED from C03 and not assumed (`ecdsaDer`, `SignOk`, `schnorrSig`, `C03Signer`); the signing calls
  sign_tx makes for one input (`CallsOk`). The theorems of Props/C13.lean assemble the wallet model's sign_tx
  (Model/WalletTx.lean), the real script rules (Proofs/C13Script.lean) and C03's signing theorems from these.
  That an output of `Signature.Sign` + `Signature.Bytes` (+ the hash-type byte 01), with the compressed key of the secret,
  is a `GoodSig` for every oracle whose `ecdsaVerify` is C03's model of `btc.EcdsaVerify` is
  `Props.C13.own_signature_is_good` (strict DER: `strict_append`; low S: `sign_low` + `derS_of_parseBytes`; the ECDSA
  equation: `own_signature_parsed`, which speaks of the DER bytes with anything appended); an output of `SchnorrSign` is a
  64-byte signature that C03's model of `btc.SchnorrVerify` accepts under the x-only key (`schnorr_good`).
  Namespaces: the vocabulary (`txCtxOf`, `SignerOk`, `C03Signer`, `CallsOk`) is in the model's `GocoinV.WalletTx`, where
  the statements of Props/C13.lean read it; the part in between, which LINKS C03's signers to the script rules
  (`ecdsaDer`, `SignOk`, `schnorrSig`, `schnorr_good`, `ser33_compressed`), is in `GocoinV.Proofs.C13L` ("L" for link),
  beside `Proofs.C13S` (script rules, Proofs/C13Script.lean) and `Proofs.C13D` (DER bridges, Proofs/C13Der.lean).
-/
import GocoinV.Proofs.C03Curve
import GocoinV.Proofs.C03Ecdsa
import GocoinV.Proofs.C03Schnorr
import GocoinV.Proofs.C13Der
import GocoinV.Proofs.C13Sig
import GocoinV.Proofs.C13Script
namespace GocoinV.WalletTx
open GocoinV.WalletSpec GocoinV.ScriptSpec GocoinV.Proofs.C13S
open GocoinV.Script (Oracles TxCtx SigVersion)

/-- what script verification reads from the spending transaction for input `i` -/
def txCtxOf (t : Tx) (i : Nat) : TxCtx :=
  { version := t.version, lockTime := t.lockTime, sequence := ((t.ins[i]?).map (·.sequence)).getD 0, idx := i,
    nOuts := t.outs.length, sigScript := ((t.ins[i]?).map (·.scriptSig)).getD [],
    witness := (t.wit.getD []).getD i [] }

theorem p2pkh_eq (h : Bytes) : p2pkhScript h = pkhScript h := by simp [p2pkhScript, pkhScript]
theorem p2wpkh_eq (h : Bytes) : p2wpkhScript h = wpkhScript h := rfl
theorem p2tr_eq (q : Bytes) : p2trScript q = trScript q := rfl
theorem p2sh_eq (sh : Bytes) : p2shScript sh = shScript sh := by simp [p2shScript, shScript]
theorem push1_eq (b : Bytes) : push1 b = dpush b := rfl


/-- what the signer has to deliver for input `i` of `t` (whichever key index `j` the wallet looks up) — ONLY the one
    request the type of the spent script needs (told apart by its length: 25 = P2PKH, 22 = P2WPKH, 23 = P2SH, 34 = P2TR):
    a good ECDSA signature for the legacy request (P2PKH) resp. the BIP143 request (P2WPKH, P2SH-P2WPKH), a good 64-byte
    Schnorr signature for the taproot one (P2TR) -/
structure SignerOk (O : Oracles) (ks : List KeyRec) (sg : SigFn) (i : Nat) (uo : TxOut) : Prop where
  legacy : ∀ j krj, ks[j]? = some krj → uo.script.length = 25 →
    GoodSig O .base uo.script (sg i (.legacy j uo.script) ++ [1]) krj.pub ∧
    sg i (.legacy j uo.script) ++ [1] ≠ krj.h160
  witv0 : ∀ j krj, ks[j]? = some krj → uo.script.length = 22 ∨ uo.script.length = 23 →
    GoodSig O .witnessV0 (p2pkhScript krj.h160) (sg i (.witv0 j (p2pkhScript krj.h160) uo.value) ++ [1]) krj.pub
  taproot : ∀ j krj, ks[j]? = some krj → uo.script.length = 34 → (sg i (.taproot j)).length = 64 ∧
    ∃ d, O.sigHashTap none [] 0 0 false = some d ∧ O.schnorrVerify ((krj.pub.drop 1).take 32) (sg i (.taproot j)) d = some true

end GocoinV.WalletTx

namespace GocoinV.Proofs.C13L
open GocoinV GocoinV.Secp GocoinV.Model GocoinV.Proofs.C03 GocoinV.Proofs.C13S GocoinV.Proofs.C13D
open GocoinV.Script (Oracles SigVersion)

theorem ser33_compressed (x y : Nat) : ScriptSpec.isCompressedPubKey (ser33 (some (x, y))) = true := by
  simp only [ser33]
  by_cases h : y % 2 = 0 <;> simp [h, ScriptSpec.isCompressedPubKey, beBytes]

/-- what the C03 signer hands out for secret `d`, digest `m`, nonce `k` (empty when `Sign` fails) -/
def ecdsaDer (d : Nat) (m : Bytes) (k : Nat) : Bytes :=
  match Sig.sign d (beVal m) k with
  | some (r, s, _) => (Sig.sigBytes r s).getD []
  | none => []

/-- the signing call succeeded with R ≠ 0 (R = 0 is the one case `Sign` does not refuse — C03's observation) -/
def SignOk (d : Nat) (m : Bytes) (k : Nat) : Prop :=
  ∃ r s recid, Sig.sign d (beVal m) k = some (r, s, recid) ∧ r ≠ 0

/-- what the C03 Schnorr signer hands out (empty when `SchnorrSign` returns nil) -/
def schnorrSig (Hs : C03.Hash) (d : Nat) (m a : Bytes) : Bytes := (Sig.schnorrSign Hs m (beBytes 32 d) a).getD []

theorem schnorr_good (Hs : C03.Hash) (d : Nat) (m a : Bytes) (hdn : d < n)
    (hok : (Sig.schnorrSign Hs m (beBytes 32 d) a).isSome = true) :
    (schnorrSig Hs d m a).length = 64 ∧
    Sig.schnorrVerify Hs (((ser33 (Secp.mul d G)).drop 1).take 32) (schnorrSig Hs d m a) m = true := by
  obtain ⟨sig, hs⟩ := Option.isSome_iff_exists.mp hok
  obtain ⟨px, py, hP, hv⟩ := schnorrSign_verifies Hs m (beBytes 32 d) a sig hs
  have hbv : beVal (beBytes 32 d) = d := beVal_beBytes_of_lt 32 d (by
    have : n < 256 ^ 32 := by decide
    omega)
  rw [hbv] at hP
  have hE : schnorrSig Hs d m a = sig := by simp [schnorrSig, hs]
  have hx : ((ser33 (Secp.mul d G)).drop 1).take 32 = beBytes 32 px := by
    rw [hP]; unfold ser33; simp [beBytes]
  rw [hE, hx]
  refine ⟨?_, hv⟩
  unfold Sig.schnorrVerify Sig.schnorrVerify? at hv
  by_cases h64 : sig.length = 64
  · exact h64
  · simp [h64] at hv

end GocoinV.Proofs.C13L

namespace GocoinV.WalletTx
open GocoinV.WalletSpec GocoinV.ScriptSpec GocoinV.Proofs.C13S GocoinV.Proofs.C13L GocoinV.Model
open GocoinV.Script (Oracles TxCtx SigVersion)

/-- the wallet's secrets and the signing primitives as C03 models them: `Signature.Sign` + `Bytes()` with the
    nonce source left open (RFC6979 or random — any function), `secp256k1.SchnorrSign` with its aux randomness -/
structure C03Signer where
  secs : List Nat
  nonce : Nat → Bytes → Nat
  aux : Nat → Bytes → Bytes
  tagged : GocoinV.C03.Hash

def C03Signer.signer (K : C03Signer) : Signer where
  ecdsa k d := ecdsaDer (K.secs.getD k 0) d (K.nonce k d)
  schnorr k d := schnorrSig K.tagged (K.secs.getD k 0) d (K.aux k d)

/-- the compressed public keys of the secrets (what make_wallet lists; C14) -/
def C03Signer.pubs (K : C03Signer) : List Bytes := K.secs.map fun d => Secp.ser33 (Secp.mul d Secp.G)

/-- the ONE signing call sign_tx makes for this input with key `j` succeeds (R ≠ 0) — which call depends on the type of
    the spent script, told apart by its length: 25 bytes = P2PKH ⇒ `Tx.Sign` over the legacy digest; 22 = P2WPKH or
    23 = P2SH-P2WPKH ⇒ `Tx.SignWitness` over the BIP143 digest; 34 = P2TR ⇒ `SchnorrSign` over the BIP341 key-path digest.
    Nothing is asked about the two calls the input type does not make. -/
def CallsOk (C : Crypto) (K : C03Signer) (sk : Skeleton) (spent : List TxOut) (i : Nat) (uo : TxOut) (j : Nat) (h160 : Bytes) : Prop :=
  (uo.script.length = 25 →
    SignOk (K.secs.getD j 0) (C.legacyDigest sk i uo.script 1) (K.nonce j (C.legacyDigest sk i uo.script 1))) ∧
  (uo.script.length = 22 ∨ uo.script.length = 23 →
    SignOk (K.secs.getD j 0) (C.witnessDigest sk i (p2pkhScript h160) uo.value 1)
      (K.nonce j (C.witnessDigest sk i (p2pkhScript h160) uo.value 1))) ∧
  (uo.script.length = 34 →
    (Sig.schnorrSign K.tagged (C.taprootDigest sk spent i 0) (beBytes 32 (K.secs.getD j 0))
      (K.aux j (C.taprootDigest sk spent i 0))).isSome = true)

end GocoinV.WalletTx
