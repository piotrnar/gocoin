/-
  Proofs.C19Open — the pieces of NewDBExt on an arbitrary directory: just before `cleanupold`, `NewDBidx` holds
  `diskIndex` and has marked every data file it references as used (`openIndex_used`); `load` on records whose
  bytes can be read back (`loadFold_general`). That opening then gives every key its disk value is `open_readable`
  in Proofs/C19Crash; that NewDBExt keeps its arguments is `cfgKept` in Proofs/C19Effects.
-/
import GocoinV.Proofs.C19Inv
namespace GocoinV.Proofs.C19
open GocoinV GocoinV.Qdb GocoinV.QdbSpec

variable {eg : Bool}

theorem mem_isetAll (recs l : List (Key × Rec)) (kr : Key × Rec) (h : kr ∈ isetAll l recs) : kr ∈ l ∨ kr ∈ recs :=
  List.foldlRecOn (motive := fun m => kr ∈ m → kr ∈ l ∨ kr ∈ recs) recs _ Or.inl
    (fun m ih x hx h => (mem_iset x.1 x.2 m kr h).elim (fun e => Or.inr (e ▸ hx)) ih) h

/-- `load` on arbitrary records whose bytes can be read back -/
def loadedRec (fs : FS) (r : Rec) : Rec :=
  { r with data := some ((((dlookup r.seq fs.dats).getD []).drop r.pos).take r.len) }

theorem loadFold_general (l : List (Key × Rec)) (d : DB) (hf : d.failed = none) (he : d.eager = eg)
    (hl : ∀ kr ∈ l, hasFlag kr.2.flags (ncOf eg) = false ∧
      ∃ f v, dlookup kr.2.seq d.fs.dats = some f ∧ ReadsBack f kr.2 v) (acc : List (Key × Rec)) :
    l.foldl loadOne (d, acc) = (d, acc ++ mapV (loadedRec d.fs) l) := by
  induction l generalizing acc with
  | nil => simp [mapV]
  | cons kr t ih =>
    obtain ⟨hnc, f, v, hfile, h1, h2, _⟩ := hl kr List.mem_cons_self
    have hstep : loadOne (d, acc) kr = (d, acc ++ [(kr.1, loadedRec d.fs kr.2)]) := by
      unfold loadOne loadedRec
      have hu : u32 (kr.2.pos + kr.2.len) = kr.2.pos + kr.2.len := Nat.mod_eq_of_lt h2
      have hb : ¬ (kr.2.pos + kr.2.len < kr.2.pos ∨ kr.2.pos + kr.2.len > f.length) := by omega
      simp only [hf, he, hnc, Bool.false_eq_true, ↓reduceIte, hfile, hu, hb, Option.getD_some]
    simp only [List.foldl_cons, hstep]
    rw [ih (fun x hx => hl x (List.mem_cons_of_mem _ hx))]
    simp [mapV, List.append_assoc]

/-- the state `NewDBidx` is in just before `cleanupold`, and the data files it marks as used -/
theorem openIndex_used (F : FS) (vol : Bool) (opts : Opts) :
    ∃ dbB used, openIndex { fs := F, volatile := vol, opts := opts, eager := eg } = cleanupold dbB used ∧
      dbB.index = diskIndex F ∧ dbB.fs.dats = F.dats ∧ dbB.failed = none ∧
      (∀ kr ∈ diskIndex F, used.contains kr.2.seq = true) := by
  obtain ⟨e, n, m, h, _⟩ := openIndex_eq F vol opts
  exact ⟨_, _, h eg, rfl, logTrimmed_dats F, rfl, fun kr hkr => List.contains_iff_mem.mpr (diskIndex_used F kr hkr)⟩

/-- the value a record stands for in the abstract map -/
def valOf (r : Rec) : Bytes := r.data.getD []

end GocoinV.Proofs.C19
