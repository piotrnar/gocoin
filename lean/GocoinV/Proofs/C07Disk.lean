/-
  Proofs.C07Disk — the ON-DISK invariant of the persistence model and its preservation by single effects.

  `DiskInv P d` says about a directory `d` (at ANY instant, in particular at every crash point):
    * every index record has its block in the data file (`datCovers`), no record is flagged invalid,
      every record's parent is 0 (genesis) or has a record itself (`idxClosed`: whole ancestry indexed),
      every data block's parent is indexed (`datParent`);
    * UTXO.db, UTXO.old and EVERY <hash>.db.tmp hold (the content of) a snapshot that is good:
      its (tip, coins) pair satisfies `P` and its tip is 0 or has an index record.
  `P` is a parameter: the top-level theorems instantiate it with "a (tip, unspent set) pair the running
  node held at an operation boundary".
  Core Lean only.
-/
import GocoinV.Proofs.C07
namespace GocoinV.Proofs.C07
open GocoinV.Persist

def ids (d : Disk) : List BlockId := d.idx.map (·.id)

def GoodSnap (P : Snap → Prop) (d : Disk) (sn : Snap) : Prop :=
  P sn ∧ (sn.tip = 0 ∨ sn.tip ∈ ids d)

structure DiskInv (P : Snap → Prop) (d : Disk) : Prop where
  datCovers : ∀ id ∈ ids d, ∃ b ∈ d.dat, b.id = id
  datParent : ∀ b ∈ d.dat, b.parent = 0 ∨ b.parent ∈ ids d
  idxValid : ∀ r ∈ d.idx, r.invalid = false
  idxClosed : ∀ r ∈ d.idx, r.parent = 0 ∨ r.parent ∈ ids d
  dbGood : ∀ sn, d.db = some sn → GoodSnap P d sn
  oldGood : ∀ sn, d.old = some sn → GoodSnap P d sn
  tmpGood : ∀ t ∈ d.tmps, GoodSnap P d t.snap

theorem DiskInv.empty (P : Snap → Prop) : DiskInv P {} := by
  constructor <;> simp [ids]

/-- what an effect must satisfy to keep the invariant: only three effects have a side condition -/
def EffOK (P : Snap → Prop) (d : Disk) : Effect → Prop
  | .createTmp sn => GoodSnap P d sn
  | .appendDat b => b.parent = 0 ∨ b.parent ∈ ids d
  | .appendIdx r => r.invalid = false ∧ (r.parent = 0 ∨ r.parent ∈ ids d) ∧ ∃ b ∈ d.dat, b.id = r.id
  | _ => True

theorem ids_setTrusted (d : Disk) (id : BlockId) : ids (apply d (.setTrusted id)) = ids d := by
  simp only [ids, apply, List.map_map]
  refine List.map_congr_left fun r _ => ?_
  simp only [Function.comp]
  split <;> rfl

theorem ids_apply (d : Disk) (e : Effect) (h : ∀ r, e ≠ .appendIdx r) : ids (apply d e) = ids d := by
  cases e with
  | appendIdx r => exact absurd rfl (h r)
  | setTrusted id => exact ids_setTrusted d id
  | renameDbOld | renameTmpDb _ | renameUndoTmp _ => simp only [apply]; split <;> rfl
  | _ => rfl

theorem ids_appendIdx (d : Disk) (r : IdxRec) : ids (apply d (.appendIdx r)) = ids d ++ [r.id] := by
  simp [ids, apply]

theorem GoodSnap.mono {P : Snap → Prop} {d d' : Disk} {sn : Snap}
    (h : GoodSnap P d sn) (hi : ∀ x ∈ ids d, x ∈ ids d') : GoodSnap P d' sn :=
  ⟨h.1, h.2.imp id (hi _)⟩

/-- a tmp file after an effect holds the snapshot of one before, or the one `createTmp` names -/
theorem tmps_apply {d : Disk} {e : Effect} {t : Tmp} (ht : t ∈ (apply d e).tmps) :
    (∃ t0 ∈ d.tmps, t0.snap = t.snap) ∨ e = .createTmp t.snap := by
  cases e with
  | createTmp s =>
    rcases List.mem_cons.1 ht with rfl | ht
    · exact Or.inr rfl
    · exact Or.inl ⟨t, (List.mem_filter.1 ht).1, rfl⟩
  | chunkTmp x | flushTmp x =>
    obtain ⟨y, hy, rfl⟩ := List.mem_map.1 ht
    exact Or.inl ⟨y, hy, by split <;> rfl⟩
  | removeTmp x => exact Or.inl ⟨t, (List.mem_filter.1 ht).1, rfl⟩
  | renameTmpDb x =>
    simp only [apply] at ht
    split at ht
    · exact Or.inl ⟨t, ht, rfl⟩
    · exact Or.inl ⟨t, (List.mem_filter.1 ht).1, rfl⟩
  | renameDbOld | renameUndoTmp _ =>
    simp only [apply] at ht
    split at ht <;> exact Or.inl ⟨t, ht, rfl⟩
  | _ => exact Or.inl ⟨t, ht, rfl⟩

theorem apply_inv {P : Snap → Prop} {d : Disk} (h : DiskInv P d) (e : Effect) (ok : EffOK P d e) :
    DiskInv P (apply d e) := by
  have tg : ∀ t ∈ (apply d e).tmps, GoodSnap P d t.snap := fun t ht =>
    (tmps_apply ht).elim (fun ⟨t0, h0, e0⟩ => e0 ▸ h.tmpGood t0 h0) (fun e' => by subst e'; exact ok)
  cases e with
  | nop => exact h
  | renameDbOld =>
    simp only [apply]
    split
    · exact h
    · rename_i s hs
      exact { h with dbGood := by intro sn hsn; simp at hsn, oldGood := by intro sn hsn; simp at hsn; subst hsn; exact h.dbGood _ hs }
  | createTmp _ | chunkTmp _ | flushTmp _ | removeTmp _ => exact { h with tmpGood := tg }
  | renameTmpDb t =>
    simp only [apply] at tg ⊢
    split
    · exact h
    · rename_i x hx
      simp only [hx] at tg
      exact { h with dbGood := by intro sn hsn; simp at hsn; subst hsn; exact h.tmpGood x (List.mem_of_find?_eq_some hx), tmpGood := tg }
  | renameUndoTmp hh =>
    simp only [apply]
    split <;> exact { h with }
  | writeUndoTmp _ | removeUndoTmp => exact { h with }
  | appendDat b =>
    refine { h with datCovers := ?_, datParent := ?_ }
    · intro id hid
      obtain ⟨y, hy, e⟩ := h.datCovers id hid
      exact ⟨y, by simp [apply, hy], e⟩
    · exact List.forall_mem_append.2 ⟨h.datParent, List.forall_mem_singleton.2 ok⟩
  | appendIdx r =>
    obtain ⟨ok1, ok2, ok3⟩ := ok
    have hi : ∀ x ∈ ids d, x ∈ ids (apply d (.appendIdx r)) := by
      intro x hx; rw [ids_appendIdx]; exact List.mem_append_left _ hx
    constructor
    · rw [ids_appendIdx]
      exact List.forall_mem_append.2 ⟨h.datCovers, List.forall_mem_singleton.2 ok3⟩
    · intro b hb
      exact (h.datParent b hb).imp id (hi _)
    · exact List.forall_mem_append.2 ⟨h.idxValid, List.forall_mem_singleton.2 ok1⟩
    · exact List.forall_mem_append.2 ⟨fun x hx => (h.idxClosed x hx).imp id (hi _), List.forall_mem_singleton.2 (ok2.imp id (hi _))⟩
    · intro sn hsn; exact (h.dbGood sn hsn).mono hi
    · intro sn hsn; exact (h.oldGood sn hsn).mono hi
    · intro t ht; exact (h.tmpGood t ht).mono hi
  | setTrusted id =>
    have hi : ids (apply d (.setTrusted id)) = ids d := ids_setTrusted d id
    constructor
    · rw [hi]; exact h.datCovers
    · rw [hi]; exact h.datParent
    · refine List.forall_mem_map.2 fun y hy => ?_
      have := h.idxValid y hy
      split <;> exact this
    · rw [hi]
      refine List.forall_mem_map.2 fun y hy => ?_
      have := h.idxClosed y hy
      split <;> exact this
    · intro sn hsn; exact (h.dbGood sn hsn).mono (by rw [hi]; exact fun _ h => h)
    · intro sn hsn; exact (h.oldGood sn hsn).mono (by rw [hi]; exact fun _ h => h)
    · intro t ht; exact (h.tmpGood t ht).mono (by rw [hi]; exact fun _ h => h)

/-! ### what NewChainExt makes of a directory that satisfies the invariant -/

theorem loadTree_all {P : Snap → Prop} {d : Disk} (h : DiskInv P d) :
    loadTree d = d.idx.map (fun r => { id := r.id, parent := r.parent, height := r.height }) := by
  unfold loadTree
  have h1 : d.idx.filter (fun r => !r.invalid) = d.idx := by
    rw [List.filter_eq_self]; intro r hr; simp [h.idxValid r hr]
  simp only [h1]
  congr 1
  rw [List.filter_eq_self]
  intro r hr
  simpa [ids] using h.idxClosed r hr

def safeEff : Effect → Prop
  | .removeUndoTmp | .removeTmp _ => True
  | _ => False

theorem safe_ok {P : Snap → Prop} (d : Disk) (e : Effect) (h : safeEff e) : EffOK P d e := by
  cases e <;> simp [safeEff] at h <;> trivial

theorem applyAll_safe {P : Snap → Prop} : ∀ (es : List LEffect) (d : Disk), DiskInv P d → (∀ e ∈ es, safeEff e.1) → DiskInv P (applyAll d es) :=
  fun es _ h hs => List.foldlRecOn (motive := DiskInv P) es _ h fun d hd e he => apply_inv hd e.1 (safe_ok d e.1 (hs e he))

/-- NewUnspentDb only removes files -/
theorem recover_safe (d : Disk) : ∀ e ∈ (recoverUnspent d).2.1, safeEff e.1 :=
  List.forall_mem_append.2 ⟨List.forall_mem_singleton.2 trivial, List.forall_mem_map.2 fun _ _ => trivial⟩

theorem recover_inv {P : Snap → Prop} {d : Disk} (h : DiskInv P d) :
    DiskInv P (recoverUnspent d).1 :=
  applyAll_safe _ _ h (recover_safe d)

end GocoinV.Proofs.C07
