/-
  Proofs.C08_Field — refinement lemmas for the GENERATED limb functions of Gen.Field5x52
  (the linear ones: SetAdd, MulInt, Negate, Normalize; Equals / IsZero / IsOdd). Core tactics only (omega).
-/
import GocoinV.Model.FieldIO

namespace GocoinV.C08
open GocoinV.Gen.Field5x52

theorem and_M52 (x : Nat) : x &&& 4503599627370495 = x % 4503599627370496 :=
  Nat.and_two_pow_sub_one_eq_mod x 52

theorem and_M48 (x : Nat) : x &&& 281474976710655 = x % 281474976710656 :=
  Nat.and_two_pow_sub_one_eq_mod x 48

theorem or_shl (acc x k : Nat) (h : acc < 2 ^ k) : acc ||| (x * 2 ^ k) = acc + x * 2 ^ k := by
  rw [Nat.or_comm, ← Nat.shiftLeft_eq, ← Nat.shiftLeft_add_eq_or_of_lt h, Nat.add_comm]

theorem P_eq : P = 115792089237316195423570985008687907853269984665640564039457584007908834671663 := by
  decide

theorem setAdd_val (r a : Fe) (m1 m2 : Nat) (hr : r.mag m1) (ha : a.mag m2) (hm : m1 + m2 ≤ 32) :
    (setAdd r a).val = r.val + a.val ∧ (setAdd r a).mag (m1 + m2) := by
  unfold Fe.mag at *
  unfold setAdd Fe.val
  simp only []
  omega

/-- a limb within magnitude m, times k, is within magnitude m·k and below 2^64 while m·k ≤ 32 -/
theorem mul_limb (n m k B : Nat) (h : n ≤ 2 * m * B) (hm : m * k ≤ 32) (hB : B < 2^52) :
    n * k % 18446744073709551616 = n * k ∧ n * k ≤ 2 * (m * k) * B := by
  have b : n * k ≤ 2 * (m * k) * B :=
    calc n * k ≤ 2 * m * B * k := Nat.mul_le_mul_right k h
      _ = 2 * (m * k) * B := by rw [Nat.mul_right_comm, Nat.mul_assoc 2]
  have : 2 * (m * k) * B ≤ 2 * 32 * B := Nat.mul_le_mul_right B (Nat.mul_le_mul_left 2 hm)
  exact ⟨Nat.mod_eq_of_lt (by omega), b⟩

theorem mulInt_val (r : Fe) (m k : Nat) (hr : r.mag m) (hm : m * k ≤ 32) :
    (mulInt r k).val = r.val * k ∧ (mulInt r k).mag (m * k) := by
  obtain ⟨h0, h1, h2, h3, h4⟩ := hr
  obtain ⟨e0, b0⟩ := mul_limb _ _ k _ h0 hm (by decide)
  obtain ⟨e1, b1⟩ := mul_limb _ _ k _ h1 hm (by decide)
  obtain ⟨e2, b2⟩ := mul_limb _ _ k _ h2 hm (by decide)
  obtain ⟨e3, b3⟩ := mul_limb _ _ k _ h3 hm (by decide)
  obtain ⟨e4, b4⟩ := mul_limb _ _ k _ h4 hm (by decide)
  unfold mulInt Fe.val Fe.mag
  simp only [e0, e1, e2, e3, e4, Nat.add_mul, Nat.mul_right_comm _ _ k]
  exact ⟨trivial, b0, b1, b2, b3, b4⟩

theorem neg_limb (c a m : Nat) (hc : c ≤ 9007199254740990) (ha : a ≤ c * (m + 1)) (hm : m ≤ 31) :
    (c * ((m + 1) % 18446744073709551616) % 18446744073709551616 + 18446744073709551616 - a) % 18446744073709551616
      = c * (m + 1) - a := by
  have h1 : (m + 1) % 18446744073709551616 = m + 1 := by omega
  have h2 : c * (m + 1) ≤ 9007199254740990 * 32 := Nat.mul_le_mul hc (by omega)
  rw [h1]
  generalize c * (m + 1) = q at *
  omega

theorem negate_val (a : Fe) (m : Nat) (ha : a.mag m) (hm : m ≤ 31) :
    (negate a m).val + a.val = 2 * (m + 1) * P ∧ (negate a m).mag (m + 1) := by
  rw [P_eq]
  unfold Fe.mag at *
  obtain ⟨h0, h1, h2, h3, h4⟩ := ha
  have g0 : a.n0 ≤ 9007190664804446 * (m + 1) := by omega
  have g1 : a.n1 ≤ 9007199254740990 * (m + 1) := by omega
  have g2 : a.n2 ≤ 9007199254740990 * (m + 1) := by omega
  have g3 : a.n3 ≤ 9007199254740990 * (m + 1) := by omega
  have g4 : a.n4 ≤ 562949953421310 * (m + 1) := by omega
  have l0 := neg_limb 9007190664804446 a.n0 m (by omega) g0 hm
  have l1 := neg_limb 9007199254740990 a.n1 m (by omega) g1 hm
  have l2 := neg_limb 9007199254740990 a.n2 m (by omega) g2 hm
  have l3 := neg_limb 9007199254740990 a.n3 m (by omega) g3 hm
  have l4 := neg_limb 562949953421310 a.n4 m (by omega) g4 hm
  unfold negate Fe.val
  simp only []
  rw [l0, l1, l2, l3, l4]
  omega

theorem and_eq_M (a b : Nat) (ha : a < 4503599627370496) (hb : b < 4503599627370496) :
    (a &&& b = 4503599627370495) ↔ (a = 4503599627370495 ∧ b = 4503599627370495) := by
  constructor
  · intro h
    have h1 : a &&& b ≤ a := Nat.and_le_left
    have h2 : a &&& b ≤ b := Nat.and_le_right
    omega
  · rintro ⟨rfl, rfl⟩
    exact Nat.and_self _

theorem or_one_le (x : Nat) (h : x ≤ 1) : x ||| 1 = 1 := by
  have : x = 0 ∨ x = 1 := by omega
  rcases this with h | h <;> subst h <;> decide

theorem ge_P_limbs (a0 a1 a2 a3 a4 : Nat) (b0 : a0 < 2^52) (b1 : a1 < 2^52) (b2 : a2 < 2^52) (b3 : a3 < 2^52)
    (b4 : a4 < 2^48)
    (hV : a0 + a1 * 2^52 + a2 * 2^104 + a3 * 2^156 + a4 * 2^208 ≥
      115792089237316195423570985008687907853269984665640564039457584007908834671663) :
    a4 = 281474976710655 ∧ a3 = 4503599627370495 ∧ a2 = 4503599627370495 ∧ a1 = 4503599627370495
      ∧ a0 ≥ 4503595332402223 := by
  have h4 : a4 = 281474976710655 := by omega
  subst h4
  have h3 : a3 = 4503599627370495 := by omega
  subst h3
  have h2 : a2 = 4503599627370495 := by omega
  subst h2
  have h1 : a1 = 4503599627370495 := by omega
  subst h1
  refine ⟨rfl, rfl, rfl, rfl, ?_⟩
  omega

/-- one link of a carry chain: the next word takes the bits of `d` above 52; nothing wraps at 64 bits -/
theorem carry_step (c d e : Nat) (hc : c < 2^59) (hd : d < 2^60) (q : e = (c + d / 2^52) % 18446744073709551616) :
    e = c + d / 2^52 ∧ e < 2^60 := by
  omega

/-- A reduction pass of Normalize: `x·(2^256 − p)` is added to the lowest word and the carries are pushed up,
    leaving 52 bits in each of the four low words. The value is kept. -/
theorem carry_pass (c0 c1 c2 c3 c4 x d0 d1 d2 d3 d4 : Nat)
    (b0 : c0 < 2^59) (b1 : c1 < 2^59) (b2 : c2 < 2^59) (b3 : c3 < 2^59) (b4 : c4 < 2^59) (bx : x ≤ 63)
    (q0 : d0 = (c0 + x * 4294968273 % 18446744073709551616) % 18446744073709551616)
    (q1 : d1 = (c1 + d0 / 2^52) % 18446744073709551616)
    (q2 : d2 = (c2 + d1 / 2^52) % 18446744073709551616)
    (q3 : d3 = (c3 + d2 / 2^52) % 18446744073709551616)
    (q4 : d4 = (c4 + d3 / 2^52) % 18446744073709551616) :
    d0 % 4503599627370496 + d1 % 4503599627370496 * 2^52 + d2 % 4503599627370496 * 2^104
        + d3 % 4503599627370496 * 2^156 + d4 * 2^208
      = c0 + c1 * 2^52 + c2 * 2^104 + c3 * 2^156 + c4 * 2^208 + x * 4294968273 := by
  have l0 : c0 + x * 4294968273 < 2^60 := by omega
  rw [Nat.mod_eq_of_lt (a := x * 4294968273) (by omega), Nat.mod_eq_of_lt (by omega)] at q0
  obtain ⟨p1, l1⟩ := carry_step c1 d0 d1 b1 (q0 ▸ l0) q1
  obtain ⟨p2, l2⟩ := carry_step c2 d1 d2 b2 l1 q2
  obtain ⟨p3, l3⟩ := carry_step c3 d2 d3 b3 l2 q3
  obtain ⟨p4, _⟩ := carry_step c4 d3 d4 b4 l3 q4
  clear q1 q2 q3 q4 b0 b1 b2 b3 b4 l0 l1 l2 l3
  omega

theorem words_lt (c0 c1 c2 c3 c4 B : Nat) (b0 : c0 < 2^52) (b1 : c1 < 2^52) (b2 : c2 < 2^52) (b3 : c3 < 2^52)
    (b4 : c4 < B) : c0 + c1 * 2^52 + c2 * 2^104 + c3 * 2^156 + c4 * 2^208 < B * 2^208 := by
  omega

/-- after the second pass the overflow out of bit 256 is exactly `x`, so dropping it subtracts `x·p` in all:
    `V` is the value before the pass (below 2p), `E + d·2^208` the words after it -/
theorem final_reduce (V E d e x : Nat) (hE : E < 2^208) (hV : V < (2^48 + 128) * 2^208)
    (hx : (x = 1 ∧ V ≥ 115792089237316195423570985008687907853269984665640564039457584007908834671663)
        ∨ (x = 0 ∧ V < 115792089237316195423570985008687907853269984665640564039457584007908834671663))
    (h : E + d * 2^208 = V + x * 4294968273) (he : e = d % 281474976710656) :
    E + e * 2^208 + x * 115792089237316195423570985008687907853269984665640564039457584007908834671663 = V
    ∧ E + e * 2^208 < 115792089237316195423570985008687907853269984665640564039457584007908834671663 := by
  rcases hx with ⟨rfl, hV'⟩ | ⟨rfl, hV'⟩ <;> omega

theorem normalize_val (r : Fe) (h : r.mag 32) :
    (normalize r).val = r.val % P ∧ (normalize r).canon := by
  unfold Fe.mag at h
  obtain ⟨h0, h1, h2, h3, h4⟩ := h
  unfold normalize Fe.canon Fe.val
  simp -zeta only [and_M52, and_M48, Nat.shiftRight_eq_div_pow]
  extract_lets t0 t1 t2 t3 t4 x1 t4b t0b t1b t0c t2b t1c m2 t3b t2c m3 t4c t3c m4 x2 cond x3 x4 t0d t1d t0e t2d t1e t3d t2e t4d t3e t4e r0 r1 r2 r3 r4
  dsimp only
  -- first pass: the bits of t4 above 48 are folded into the low word
  have hx1 : x1 ≤ 63 := by omega
  have pass1 := carry_pass t0 t1 t2 t3 t4b x1 t0b t1b t2b t3b t4c (by omega) (by omega) (by omega) (by omega)
    (by omega) hx1 rfl rfl rfl rfl rfl
  have b0 : t0c < 2^52 := Nat.mod_lt _ (by decide)
  have b1 : t1c < 2^52 := Nat.mod_lt _ (by decide)
  have b2 : t2c < 2^52 := Nat.mod_lt _ (by decide)
  have b3 : t3c < 2^52 := Nat.mod_lt _ (by decide)
  have ht4 : t4 = t4b + x1 * 2^48 := by omega
  change t0c + t1c * 2^52 + t2c * 2^104 + t3c * 2^156 + t4c * 2^208 = _ at pass1
  have b4 : t4c < 2^48 + 128 := by
    have : t4b < 2^48 := Nat.mod_lt _ (by decide)
    clear_value t0c t1c t2c t3c t4c t4b x1
    omega
  have hV1 : t0 + t1 * 2^52 + t2 * 2^104 + t3 * 2^156 + t4 * 2^208
      = (t0c + t1c * 2^52 + t2c * 2^104 + t3c * 2^156 + t4c * 2^208) + x1 * P := by
    rw [P_eq, pass1, ht4]
    clear_value t4b x1
    omega
  have hx2 : x2 ≤ 1 := by omega
  -- the condition says exactly: the low 256 bits are ≥ p
  have hm3 : m3 < 4503599627370496 := by
    have : m3 ≤ m2 := Nat.and_le_left
    omega
  have hcond : cond = true ↔ (t4c = 281474976710655 ∧ t1c = 4503599627370495 ∧ t2c = 4503599627370495
      ∧ t3c = 4503599627370495 ∧ t0c ≥ 4503595332402223) := by
    simp only [cond, m4, m3, m2, Bool.and_eq_true, decide_eq_true_eq]
    rw [and_eq_M _ _ (by simpa [m3, m2] using hm3) (by omega), and_eq_M _ _ (by omega) (by omega)]
    simp only [and_assoc]
  have hx3 : x3 = 1 := or_one_le x2 hx2
  have hx4 : (x4 = 1 ∧ t0c + t1c * 2^52 + t2c * 2^104 + t3c * 2^156 + t4c * 2^208 ≥
        115792089237316195423570985008687907853269984665640564039457584007908834671663)
      ∨ (x4 = 0 ∧ t0c + t1c * 2^52 + t2c * 2^104 + t3c * 2^156 + t4c * 2^208 <
        115792089237316195423570985008687907853269984665640564039457584007908834671663) := by
    by_cases hc : cond = true
    · have e4 : x4 = 1 := by simp only [x4, hc, if_true, hx3]
      obtain ⟨q4, q1, q2, q3, q0⟩ := hcond.mp hc
      left; refine ⟨e4, ?_⟩
      rw [q4, q1, q2, q3]
      clear_value t0c
      omega
    · have e4 : x4 = x2 := by simp only [x4, hc]; simp
      rw [e4]
      by_cases h48 : t4c < 2^48
      · right
        refine ⟨by omega, Nat.lt_of_not_le fun hge => ?_⟩
        obtain ⟨g4, g3, g2, g1, g0⟩ := ge_P_limbs t0c t1c t2c t3c t4c b0 b1 b2 b3 h48 hge
        exact hc (hcond.mpr ⟨g4, g1, g2, g3, g0⟩)
      · left
        refine ⟨by omega, ?_⟩
        clear_value t0c t1c t2c t3c t4c
        omega
  -- second pass: x4·(2^256 − p) is added and bit 256 dropped, which subtracts x4·p
  have hx4' : x4 ≤ 63 := by rcases hx4 with ⟨h, _⟩ | ⟨h, _⟩ <;> rw [h] <;> decide
  have pass2 := carry_pass t0c t1c t2c t3c t4c x4 t0d t1d t2d t3d t4d (Nat.lt_trans b0 (by decide))
    (Nat.lt_trans b1 (by decide)) (Nat.lt_trans b2 (by decide)) (Nat.lt_trans b3 (by decide))
    (Nat.lt_trans b4 (by decide)) hx4' rfl rfl rfl rfl rfl
  change t0e + t1e * 2^52 + t2e * 2^104 + t3e * 2^156 + t4d * 2^208 = _ at pass2
  have c0 : t0e < 2^52 := Nat.mod_lt _ (by decide)
  have c1 : t1e < 2^52 := Nat.mod_lt _ (by decide)
  have c2 : t2e < 2^52 := Nat.mod_lt _ (by decide)
  have c3 : t3e < 2^52 := Nat.mod_lt _ (by decide)
  have c4 : t4e < 2^48 := Nat.mod_lt _ (by decide)
  obtain ⟨fv, flt⟩ := final_reduce _ (t0e + t1e * 2^52 + t2e * 2^104 + t3e * 2^156) t4d t4e x4
    (by have := words_lt _ _ _ _ 0 1 c0 c1 c2 c3 Nat.one_pos; rwa [Nat.zero_mul, Nat.add_zero, Nat.one_mul] at this) (words_lt _ _ _ _ _ _ b0 b1 b2 b3 b4) hx4 pass2 rfl
  refine ⟨?_, c0, c1, c2, c3, c4⟩
  show t0e + t1e * 2^52 + t2e * 2^104 + t3e * 2^156 + t4e * 2^208 = (t0 + t1 * 2^52 + t2 * 2^104 + t3 * 2^156 + t4 * 2^208) % P
  rw [hV1, ← fv, P_eq]
  generalize t0e + t1e * 2^52 + t2e * 2^104 + t3e * 2^156 + t4e * 2^208 = V2 at flt ⊢
  rw [Nat.add_assoc, ← Nat.add_mul, Nat.add_mul_mod_self_right, Nat.mod_eq_of_lt flt]

theorem equals_iff' (a b : Fe) : equals a b = true ↔ a = b := by
  cases a; cases b
  simp [equals, and_assoc]

theorem isZero_iff' (a : Fe) : isZero a = true ↔ a.val = 0 := by
  cases a
  simp only [isZero, Fe.val, Bool.and_eq_true, decide_eq_true_eq]
  omega

theorem isOdd_iff' (a : Fe) : isOdd a = true ↔ a.val % 2 = 1 := by
  cases a
  simp only [isOdd, Fe.val, Nat.and_one_is_mod, decide_eq_true_eq]
  omega

theorem canon_val_inj (a b : Fe) (ha : a.canon) (hb : b.canon) (h : a.val = b.val) : a = b := by
  cases a; cases b
  simp only [Fe.canon, Fe.val] at *
  simp only [Fe.mk.injEq]
  omega

end GocoinV.C08
