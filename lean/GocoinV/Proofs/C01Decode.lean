/-
  Proofs.C01Decode — the model's interleaved decoder (`Script.getOpcode`, consumed inside the loops of
  evalScript / IsPushOnly / the OP_SUCCESS scan / delSig) against the spec's pre-parser (`ScriptSpec.parseOne`,
  `ScriptSpec.parse`). For IsPushOnly the loop is here (`isPushOnlyAux_eq`); the function itself, `isPushOnly_eq`, is
  in Proofs/C01Wrap.lean.
-/
import GocoinV.Model.ScriptVerify
import GocoinV.Spec.Script
import GocoinV.Base.Lemmas
namespace GocoinV.Proofs.C01
open GocoinV GocoinV.Script

theorem getOpcode_parseOne (b : Bytes) :
    match getOpcode b, ScriptSpec.parseOne b with
    | none, none => True
    | some op, some i =>
        i.op = op.opcode ∧ i.data = op.push.getD [] ∧ i.after = b.drop op.n ∧
        (op.push.isSome = decide (op.opcode ≤ 0x4e)) ∧ 1 ≤ op.n ∧ op.n ≤ b.length
    | _, _ => False := by
  cases b with
  | nil => simp [getOpcode, ScriptSpec.parseOne]
  | cons c t =>
    simp only [getOpcode, ScriptSpec.parseOne]
    by_cases h1 : c.toNat ≤ 0x4e
    · have hdr : (if c.toNat < 0x4c then some (c.toNat, 1)
          else if c.toNat = 0x4c then (if 1 ≤ t.length then some (leVal (t.take 1), 2) else none)
          else if c.toNat = 0x4d then (if 2 ≤ t.length then some (leVal (t.take 2), 3) else none)
          else (if 4 ≤ t.length then some (leVal (t.take 4), 5) else none)) =
          (let k := if c.toNat < 0x4c then 0 else if c.toNat = 0x4c then 1 else if c.toNat = 0x4d then 2 else 4
           if t.length < k then none else some (if k = 0 then c.toNat else leVal (t.take k), k + 1)) := by
        by_cases h2 : c.toNat < 0x4c
        · simp [h2]
        · by_cases h4 : c.toNat = 0x4c
          · simp [h4, ← Nat.not_le]
          · by_cases h7 : c.toNat = 0x4d
            · simp [h7, ← Nat.not_le]
            · simp [h2, h4, h7, ← Nat.not_le]
      simp only [h1, ↓reduceIte, hdr]
      generalize (if c.toNat < 0x4c then 0 else if c.toNat = 0x4c then 1 else if c.toNat = 0x4d then 2 else 4) = k
      generalize (if k = 0 then c.toNat else leVal (t.take k)) = size
      simp only [List.length_drop]
      by_cases h3 : t.length < k
      · simp [h3]
      · by_cases h6 : t.length - k < size
        · have : k + 1 + size > t.length + 1 := by omega
          simp [h3, h6, this]
        · have : ¬ k + 1 + size > t.length + 1 := by omega
          simp [h3, h6, this, h1, drop_add_cons c t (k + 1 + size) (k + size) (by omega)]
          omega
    · simp [h1]

/-- the same fact in rewriting form -/
theorem parseOne_of_getOpcode {b : Bytes} {op : Op} (h : getOpcode b = some op) :
    ∃ i, ScriptSpec.parseOne b = some i ∧ i.op = op.opcode ∧ i.data = op.push.getD [] ∧ i.after = b.drop op.n ∧
      (op.push.isSome = decide (op.opcode ≤ 0x4e)) ∧ 1 ≤ op.n ∧ op.n ≤ b.length := by
  have := getOpcode_parseOne b
  rw [h] at this
  cases hp : ScriptSpec.parseOne b with
  | none => rw [hp] at this; exact this.elim
  | some i => rw [hp] at this; exact ⟨i, rfl, this⟩

theorem parseOne_none_of_getOpcode {b : Bytes} (h : getOpcode b = none) : ScriptSpec.parseOne b = none := by
  have := getOpcode_parseOne b
  rw [h] at this
  cases hp : ScriptSpec.parseOne b with
  | none => rfl
  | some i => rw [hp] at this; exact this.elim

/-- decoding one instruction only looks at the instruction's own bytes `chunk`: the input is `chunk ++ after`, and
    `chunk` in front of ANY tail decodes to the same opcode and data, leaving that tail -/
theorem parseOne_frame {pc : Bytes} {i : ScriptSpec.Instr} (h : ScriptSpec.parseOne pc = some i) :
    ∃ chunk, chunk ≠ [] ∧ pc = chunk ++ i.after ∧ ∀ r, ScriptSpec.parseOne (chunk ++ r) = some ⟨i.op, i.data, r⟩ := by
  cases pc with
  | nil => simp [ScriptSpec.parseOne] at h
  | cons c t =>
    simp only [ScriptSpec.parseOne] at h
    by_cases hc : c.toNat ≤ 0x4e
    · simp only [hc, ↓reduceIte] at h
      generalize hk : (if c.toNat < 0x4c then 0 else if c.toNat = 0x4c then 1 else if c.toNat = 0x4d then 2 else 4) = k at h
      by_cases h1 : t.length < k
      · simp [h1] at h
      simp only [h1, ↓reduceIte] at h
      generalize hsz : (if k = 0 then c.toNat else leVal (t.take k)) = size at h
      by_cases h2 : (t.drop k).length < size
      · simp only [h2, ↓reduceIte] at h; cases h
      simp only [h2, ↓reduceIte, Option.some.injEq] at h
      subst h
      simp only [List.length_drop] at h2
      refine ⟨c :: t.take (k + size), by simp, ?_, fun r => ?_⟩
      · simp only [List.cons_append, List.drop_drop, List.cons.injEq, true_and]
        exact (List.take_append_drop _ _).symm
      · have e1 : ¬ (t.take (k + size) ++ r).length < k := by simp; omega
        have e2 : (t.take (k + size) ++ r).take k = t.take k := by
          rw [List.take_append_of_le_length (by simp; omega), List.take_take]; congr 1; omega
        have e3 : (t.take (k + size) ++ r).drop k = (t.drop k).take size ++ r := by
          rw [List.drop_append_of_le_length (by simp; omega), List.drop_take]; congr 2; omega
        have e4 : ((t.drop k).take size).length = size := by simp; omega
        simp only [List.cons_append, ScriptSpec.parseOne, hc, ↓reduceIte, hk]
        rw [if_neg e1]
        simp only [e2, hsz, e3]
        rw [if_neg (by rw [List.length_append, e4]; omega), List.take_left' e4, List.drop_left' e4]
    · simp only [hc, ↓reduceIte, Option.some.injEq] at h
      subst h
      exact ⟨[c], by simp, rfl, fun r => by simp [ScriptSpec.parseOne, hc]⟩

theorem parseOne_append (b rest : Bytes) (i : ScriptSpec.Instr) (h : ScriptSpec.parseOne b = some i) :
    ScriptSpec.parseOne (b ++ rest) = some ⟨i.op, i.data, i.after ++ rest⟩ := by
  obtain ⟨chunk, -, rfl, hf⟩ := parseOne_frame h
  rw [List.append_assoc]; exact hf _

theorem parseOne_after_lt (s : Bytes) (i : ScriptSpec.Instr) (h : ScriptSpec.parseOne s = some i) : i.after.length < s.length := by
  obtain ⟨chunk, hne, rfl, -⟩ := parseOne_frame h
  have := List.length_pos_iff.2 hne
  simp; omega
theorem parseAux_fuel : ∀ f g s, s.length ≤ f → s.length ≤ g → ScriptSpec.parseAux f s = ScriptSpec.parseAux g s := by
  intro f
  induction f with
  | zero =>
    intro g s h1 _
    cases g <;> simp [ScriptSpec.parseAux, List.eq_nil_of_length_eq_zero (Nat.le_zero.1 h1)]
  | succ f ih =>
    intro g s h1 h2
    cases g with
    | zero => simp [ScriptSpec.parseAux, List.eq_nil_of_length_eq_zero (Nat.le_zero.1 h2)]
    | succ g =>
      simp only [ScriptSpec.parseAux]
      by_cases he : s.isEmpty
      · simp [he]
      · simp only [he, Bool.false_eq_true, ↓reduceIte]
        cases hp : ScriptSpec.parseOne s with
        | none => rfl
        | some i =>
          have := parseOne_after_lt s i hp
          simp only
          rw [ih g i.after (by omega) (by omega)]

/-- `btc.IsPushOnly` (decode-as-you-go) is `CScript::IsPushOnly` on the parsed script, for every fuel -/
theorem isPushOnlyAux_eq (f : Nat) (s : Bytes) :
    isPushOnlyAux f s = (!(ScriptSpec.parseAux f s).2 && (ScriptSpec.parseAux f s).1.all (fun i => i.op ≤ 0x60)) := by
  induction f generalizing s with
  | zero => simp [isPushOnlyAux, ScriptSpec.parseAux]
  | succ f ih =>
    simp only [isPushOnlyAux, ScriptSpec.parseAux]
    by_cases he : s.isEmpty
    · simp [he]
    · simp only [he, Bool.false_eq_true, ↓reduceIte]
      cases hg : getOpcode s with
      | none => simp [parseOne_none_of_getOpcode hg]
      | some op =>
        obtain ⟨i, hp, h1, _, h3, _⟩ := parseOne_of_getOpcode hg
        simp only [hp]
        rw [ih, h3]
        by_cases h60 : op.opcode ≤ 0x60 <;> simp [h60, h1, ← Nat.not_le]

/-- gocoin's `IsOpSuccess` (decimal ranges) is BIP342's list (hex ranges of the spec) -/
theorem _root_.GocoinV.Script.isOpSuccess_eq (op : Nat) : Script.isOpSuccess op = ScriptSpec.isOpSuccess op := by
  by_cases h : op < 256
  · have all : ∀ n, n < 256 → Script.isOpSuccess n = ScriptSpec.isOpSuccess n := by decide +kernel
    exact all op h
  · unfold Script.isOpSuccess ScriptSpec.isOpSuccess
    have e : ∀ k, k < 256 → (op == k) = false := by intro k hk; simp; omega
    have l : ∀ k, k < 256 → decide (op ≤ k) = false := by intro k hk; simp; omega
    simp [e, l]

theorem opSuccessScan_eq (f : Nat) (s : Bytes) :
    opSuccessScan f s =
      (match ScriptSpec.scanOpSuccess (ScriptSpec.parseAux f s).1 (ScriptSpec.parseAux f s).2 with
       | some true => ScanRes.opSuccess
       | some false => ScanRes.decodeError
       | none => ScanRes.clean) := by
  induction f generalizing s with
  | zero =>
    simp only [opSuccessScan, ScriptSpec.parseAux, ScriptSpec.scanOpSuccess]
    by_cases he : s.isEmpty <;> simp [he]
  | succ f ih =>
    simp only [opSuccessScan, ScriptSpec.parseAux]
    by_cases he : s.isEmpty
    · simp [he, ScriptSpec.scanOpSuccess]
    · simp only [he, Bool.false_eq_true, ↓reduceIte]
      cases hg : getOpcode s with
      | none => simp [parseOne_none_of_getOpcode hg, ScriptSpec.scanOpSuccess]
      | some op =>
        obtain ⟨i, hp, h1, _, h3, _⟩ := parseOne_of_getOpcode hg
        simp only [hp, ScriptSpec.scanOpSuccess]
        rw [ih, h3, h1, Script.isOpSuccess_eq]
        by_cases hs : ScriptSpec.isOpSuccess op.opcode <;> simp [hs]

end GocoinV.Proofs.C01
