/-
  Proofs.C13Sig — evaluation of the address / witness-program recognisers on the four owned templates, key
  look-up lemmas and list-index lemmas used by `signatures_verify` (core only); `Unlock` says what sign_tx writes for
  each of the four templates, `signed_own` that the signed transaction carries it.
-/
import GocoinV.Proofs.C13
import GocoinV.Spec.WalletTx
namespace GocoinV.WalletTx
open GocoinV.WalletSpec

def p2wpkhScript (h : Bytes) : Bytes := [0, 20] ++ h
def p2shScript (sh : Bytes) : Bytes := [0xa9, 20] ++ sh ++ [0x87]
def p2trScript (q : Bytes) : Bytes := [0x51, 32] ++ q

/-! ### the recognisers on the templates (the hash is a variable: only its length matters) -/

theorem fromPkScript_p2pkh (H : Addr.Hashes) (h : Bytes) (hl : h.length = 20) (tn : Bool) :
    Addr.fromPkScript H (p2pkhScript h) tn = some (.b58 (verPubkey tn) h none) := by
  simp [Addr.fromPkScript, p2pkhScript, Addr.isWitnessProgram, verPubkey, hl, List.getD_eq_getElem?_getD,
    List.take_left']

theorem isWitnessProgram_p2pkh (h : Bytes) (hl : h.length = 20) : Addr.isWitnessProgram (p2pkhScript h) = none := by
  simp [p2pkhScript, Addr.isWitnessProgram, hl]

theorem p2pkh_shape (h : Bytes) (hl : h.length = 20) :
    (p2pkhScript h).length = 25 ∧ ((p2pkhScript h).drop 3).take 20 = h := by
  simp [p2pkhScript, hl, List.take_left']

theorem fromPkScript_p2sh (H : Addr.Hashes) (h : Bytes) (hl : h.length = 20) (tn : Bool) :
    Addr.fromPkScript H (p2shScript h) tn = some (.b58 (verScript tn) h none) := by
  simp [Addr.fromPkScript, p2shScript, Addr.isWitnessProgram, verScript, hl, List.getD_eq_getElem?_getD,
    List.take_left']

theorem isWitnessProgram_p2sh (h : Bytes) (hl : h.length = 20) : Addr.isWitnessProgram (p2shScript h) = none := by
  simp [p2shScript, Addr.isWitnessProgram, hl]

theorem p2sh_shape (h : Bytes) (hl : h.length = 20) :
    (p2shScript h).length = 23 ∧ ((p2shScript h).drop 2).take 20 = h := by
  simp [p2shScript, hl, List.take_left']

theorem isWitnessProgram_p2wpkh (h : Bytes) (hl : h.length = 20) :
    Addr.isWitnessProgram (p2wpkhScript h) = some (0, h) := by
  simp [p2wpkhScript, Addr.isWitnessProgram, hl]

theorem isWitnessProgram_p2tr (q : Bytes) (hl : q.length = 32) :
    Addr.isWitnessProgram (p2trScript q) = some (1, q) := by
  simp [p2trScript, Addr.isWitnessProgram, hl]

/-- pkscr_to_key_idx on each template is the look-up of that template -/
theorem pkscrToKey_p2pkh (ks : List KeyRec) (h : Bytes) (hl : h.length = 20) :
    pkscrToKey ks (p2pkhScript h) = pubHashToKeyIdx ks h := by
  simp [pkscrToKey, p2pkhScript, hl, List.getD_eq_getElem?_getD, List.take_left']

theorem pkscrToKey_p2sh (ks : List KeyRec) (h : Bytes) (hl : h.length = 20) :
    pkscrToKey ks (p2shScript h) = scriptHashToKeyIdx ks h := by
  simp [pkscrToKey, p2shScript, hl, List.getD_eq_getElem?_getD, List.take_left']

theorem pkscrToKey_p2wpkh (ks : List KeyRec) (h : Bytes) (hl : h.length = 20) :
    pkscrToKey ks (p2wpkhScript h) = pubHashToKeyIdx ks h := by
  simp [pkscrToKey, p2wpkhScript, hl]

theorem pkscrToKey_p2tr (ks : List KeyRec) (q : Bytes) (hl : q.length = 32) :
    pkscrToKey ks (p2trScript q) = xoToKeyIdx ks q := by
  simp [pkscrToKey, p2trScript, hl]

theorem findIdx?_some_getElem? {α} {p : α → Bool} {l : List α} {j : Nat} (h : l.findIdx? p = some j) :
    ∃ y, l[j]? = some y ∧ p y = true := by
  obtain ⟨hj, hp, _⟩ := List.findIdx?_eq_some_iff_getElem.mp h
  exact ⟨l[j], List.getElem?_eq_getElem hj, hp⟩

theorem findIdx?_of_getElem? {α} (p : α → Bool) (l : List α) (k : Nat) (x : α) (h : l[k]? = some x) (hp : p x = true) :
    ∃ j y, l.findIdx? p = some j ∧ l[j]? = some y ∧ p y = true := by
  cases hf : l.findIdx? p with
  | none => rw [List.findIdx?_eq_none_iff.mp hf x (List.mem_of_getElem? h)] at hp; cases hp
  | some j =>
    obtain ⟨y, h1, h2⟩ := findIdx?_some_getElem? hf
    exact ⟨j, y, rfl, h1, h2⟩

/-- for a compressed key the SegWit entry of the table is what make_wallet computes (a key that is not compressed has none) -/
theorem mkKey_seg_of_33 (H : Addr.Hashes) (b : Bool) (p : Bytes) (h : p.length = 33) (hb : b = false) :
    (mkKey H b p).segH160 = H.hash160 ([0, 20] ++ H.hash160 p) := by
  simp [mkKey, h, hb]

theorem keyTable_getElem? (H : Addr.Hashes) (b : Bool) (pubs : List Bytes) (k : Nat) (kr : KeyRec)
    (h : (keyTable H b pubs)[k]? = some kr) : ∃ p, pubs[k]? = some p ∧ kr = mkKey H b p := by
  unfold keyTable at h
  rw [List.getElem?_map, Option.map_eq_some_iff] at h
  exact h.imp fun p hp => ⟨hp.1, hp.2.symm⟩

/-- the records of a table made from 33-byte keys with a 20-byte HASH160 -/
theorem keyTable_facts (H : Addr.Hashes) (b : Bool) (pubs : List Bytes) (hash_len : ∀ x, (H.hash160 x).length = 20)
    (pub_len : ∀ p ∈ pubs, p.length = 33) (k : Nat) (kr : KeyRec) (hk : (keyTable H b pubs)[k]? = some kr) :
    kr.pub.length = 33 ∧ kr.h160 = H.hash160 kr.pub ∧ kr.h160.length = 20 ∧ (b = false → kr.segH160.length = 20) ∧
      (b = false → kr.segH160 = H.hash160 ([0, 20] ++ kr.h160)) := by
  obtain ⟨p, hp, rfl⟩ := keyTable_getElem? H b pubs k kr hk
  have hp33 : p.length = 33 := pub_len p (List.mem_of_getElem? hp)
  refine ⟨hp33, rfl, hash_len _, ?_, ?_⟩
  · intro hb; rw [mkKey_seg_of_33 H _ p hp33 hb]; exact hash_len _
  · exact mkKey_seg_of_33 H _ p hp33

/-! ### positions in the lists built by sign_tx -/

theorem signIns_getElem? (H : Addr.Hashes) (c : Cfg) (ks : List KeyRec) (sig : SigFn) (ms : MsFn) :
    ∀ (ins : List TxIn) (sp : List (Option TxOut)) (n j : Nat) (inp : TxIn), ins[j]? = some inp →
      (signIns H c ks sig ms n ins sp)[j]? = some (signOne H c ks sig ms (n + j) ((sp[j]?).getD none)) := by
  intro ins
  induction ins with
  | nil => intro sp n j inp h; simp at h
  | cons a ins ih =>
    intro sp n j inp h
    cases j with
    | zero =>
      simp only [signIns, List.getElem?_cons_zero, Nat.add_zero]
      cases sp <;> simp [List.headD]
    | succ j =>
      simp only [List.getElem?_cons_succ] at h
      simp only [signIns, List.getElem?_cons_succ]
      rw [ih sp.tail (n + 1) j inp h, List.getElem?_tail]
      congr 2
      omega

theorem applyIns_getElem? : ∀ (ins : List TxIn) (rs : List InSign) (j : Nat) (inp : TxIn) (r : InSign),
    ins[j]? = some inp → rs[j]? = some r →
    (applyIns ins rs)[j]? = some { inp with scriptSig := r.scriptSig.getD inp.scriptSig } := by
  intro ins
  induction ins with
  | nil => intro rs j inp r h; simp at h
  | cons a ins ih =>
    intro rs j inp r h hr
    cases rs with
    | nil => simp at hr
    | cons r0 rs =>
      cases j with
      | zero => simp at h hr; subst h; subst hr; simp [applyIns]
      | succ j =>
        simp only [List.getElem?_cons_succ] at h hr
        simp only [applyIns, List.getElem?_cons_succ]
        exact ih rs j inp r h hr

theorem applyWit_getElem? : ∀ (rs : List InSign) (j : Nat) (r : InSign), rs[j]? = some r →
    (applyWit rs [])[j]? = some (r.witness.getD []) := by
  intro rs
  induction rs with
  | nil => intro j r h; simp at h
  | cons r0 rs ih =>
    intro j r h
    cases j with
    | zero => simp at h; subst h; simp [applyWit]
    | succ j =>
      simp only [List.getElem?_cons_succ] at h
      simp only [applyWit, List.tail_nil, List.getElem?_cons_succ]
      exact ih j r h

/-- the witness stack of input `j` in the signed transaction, when the transaction came without witness data -/
theorem signed_wit_at (rs : List InSign) (j : Nat) (r : InSign) (h : rs[j]? = some r) :
    ((if (none : Option (List (List Bytes))).isSome || rs.any (·.witness.isSome) then some (applyWit rs ((none : Option (List (List Bytes))).getD []))
      else none).getD []).getD j [] = r.witness.getD [] := by
  simp only [Option.isSome_none, Bool.false_or, Option.getD_none]
  split
  · simp [List.getD, applyWit_getElem? rs j r h]
  · rename_i hany
    have : r.witness = none := Option.not_isSome_iff_eq_none.mp fun hw =>
      hany (List.any_eq_true.mpr ⟨r, List.mem_of_getElem? h, hw⟩)
    simp [this]

theorem parsePush_push1 (b rest : Bytes) (h1 : 1 ≤ b.length) (h2 : b.length ≤ 75) :
    parsePush (push1 b ++ rest) = some (b, rest) := by
  have e := ofNat_toNat_small b.length (by omega)
  simp only [push1, List.cons_append, parsePush, e]
  have : 1 ≤ b.length ∧ b.length ≤ 75 ∧ b.length ≤ (b ++ rest).length := by simp; omega
  simp [this]

/-! ### the owned output types and what sign_tx produces for each -/

/-- the four output types the wallet owns, for a key of the table -/
inductive OwnScript (c : Cfg) (ks : List KeyRec) : Bytes → Prop
  | p2pkh (k : Nat) (kr : KeyRec) : ks[k]? = some kr → OwnScript c ks (p2pkhScript kr.h160)
  | p2wpkh (k : Nat) (kr : KeyRec) : ks[k]? = some kr → OwnScript c ks (p2wpkhScript kr.h160)
  | p2sh (k : Nat) (kr : KeyRec) : ks[k]? = some kr → c.bech32 = false → OwnScript c ks (p2shScript kr.segH160)
  | p2tr (k : Nat) (kr : KeyRec) : ks[k]? = some kr → OwnScript c ks (p2trScript ((kr.pub.drop 1).take 32))

/-- what sign_tx writes for an input that spends `v` satoshi locked by one of the wallet's four scripts, in terms of the
    key `kr` (index `j`) that the template's own look-up returns -/
inductive Unlock (c : Cfg) (ks : List KeyRec) (sig : SigFn) (i v : Nat) : Bytes → InSign → Prop
  | p2pkh (j : Nat) (kr : KeyRec) : ks[j]? = some kr → Unlock c ks sig i v (p2pkhScript kr.h160)
      { scriptSig := some (push1 (sig i (.legacy j (p2pkhScript kr.h160)) ++ [1]) ++ push1 kr.pub),
        witness := none, signed := true }
  | p2wpkh (j : Nat) (kr : KeyRec) : ks[j]? = some kr → Unlock c ks sig i v (p2wpkhScript kr.h160)
      { scriptSig := none, witness := some [sig i (.witv0 j (p2pkhScript kr.h160) v) ++ [1], kr.pub], signed := true }
  | p2sh (j : Nat) (kr : KeyRec) : ks[j]? = some kr → c.bech32 = false → Unlock c ks sig i v (p2shScript kr.segH160)
      { scriptSig := some ([22, 0, 20] ++ kr.h160),
        witness := some [sig i (.witv0 j (p2pkhScript kr.h160) v) ++ [1], kr.pub], signed := true }
  | p2tr (j : Nat) (kr : KeyRec) : ks[j]? = some kr → Unlock c ks sig i v (p2trScript ((kr.pub.drop 1).take 32))
      { scriptSig := none, witness := some [sig i (.taproot j)], signed := true }

theorem ver_ne (tn : Bool) : verPubkey tn ≠ verScript tn := by cases tn <;> decide

/-- pubhash_to_key_idx finds a key with THAT public-key hash (no hypothesis about other hashes of the table: the look-up
    compares the public-key hashes only) -/
theorem lookup_h160 (ks : List KeyRec) (k : Nat) (kr : KeyRec) (hk : ks[k]? = some kr) :
    ∃ j krj, pubHashToKeyIdx ks kr.h160 = some j ∧ ks[j]? = some krj ∧ krj.h160 = kr.h160 := by
  obtain ⟨j, krj, h1, h2, h3⟩ := findIdx?_of_getElem? (fun x : KeyRec => x.h160 == kr.h160) ks k kr hk (by simp)
  exact ⟨j, krj, h1, h2, by simpa using h3⟩

theorem lookup_seg (ks : List KeyRec) (k : Nat) (kr : KeyRec) (hk : ks[k]? = some kr) (hne : kr.segH160 ≠ []) :
    ∃ j krj, scriptHashToKeyIdx ks kr.segH160 = some j ∧ ks[j]? = some krj ∧ krj.segH160 = kr.segH160 := by
  obtain ⟨j, krj, h1, h2, h3⟩ := findIdx?_of_getElem? (fun x : KeyRec => x.segH160 != [] && x.segH160 == kr.segH160) ks k kr hk
    (by simp [hne])
  refine ⟨j, krj, h1, h2, ?_⟩
  simp only [Bool.and_eq_true, beq_iff_eq] at h3
  exact h3.2

theorem lookup_xo (ks : List KeyRec) (k : Nat) (kr : KeyRec) (hk : ks[k]? = some kr) :
    ∃ j krj, xoToKeyIdx ks ((kr.pub.drop 1).take 32) = some j ∧ ks[j]? = some krj ∧
      (krj.pub.drop 1).take 32 = (kr.pub.drop 1).take 32 := by
  obtain ⟨j, krj, h1, h2, h3⟩ := findIdx?_of_getElem? (fun x : KeyRec => (x.pub.drop 1).take 32 == (kr.pub.drop 1).take 32) ks k kr hk (by simp)
  exact ⟨j, krj, h1, h2, by simpa using h3⟩

theorem signInput_p2pkh (H : Addr.Hashes) (c : Cfg) (ks : List KeyRec) (sig : SigFn) (i k : Nat) (kr : KeyRec) (v : Nat)
    (hk : ks[k]? = some kr) (hl : kr.h160.length = 20) :
    ∃ j krj, ks[j]? = some krj ∧ krj.h160 = kr.h160 ∧
      signInput H c ks sig i (some { value := v, script := p2pkhScript kr.h160 }) =
        { scriptSig := some (push1 (sig i (.legacy j (p2pkhScript kr.h160)) ++ [1]) ++ push1 krj.pub),
          witness := none, signed := true } := by
  obtain ⟨j, krj, h1, h2, h3⟩ := lookup_h160 ks k kr hk
  refine ⟨j, krj, h2, h3, ?_⟩
  unfold signInput
  simp only [fromPkScript_p2pkh H _ hl, isWitnessProgram_p2pkh _ hl, ver_ne c.testnet, ↓reduceIte, h1, List.getD_eq_getElem?_getD, h2, Option.getD_some]
  simp

theorem signInput_p2sh (H : Addr.Hashes) (c : Cfg) (ks : List KeyRec) (sig : SigFn) (i k : Nat) (kr : KeyRec) (v : Nat)
    (hk : ks[k]? = some kr) (hl : kr.segH160.length = 20) (hb : c.bech32 = false) :
    ∃ j krj, ks[j]? = some krj ∧ krj.segH160 = kr.segH160 ∧
      signInput H c ks sig i (some { value := v, script := p2shScript kr.segH160 }) =
        { scriptSig := some ([22, 0, 20] ++ krj.h160),
          witness := some [sig i (.witv0 j (p2pkhScript krj.h160) v) ++ [1], krj.pub], signed := true } := by
  obtain ⟨j, krj, h1, h2, h3⟩ := lookup_seg ks k kr hk (List.ne_nil_of_length_eq_add_one hl)
  refine ⟨j, krj, h2, h3, ?_⟩
  unfold signInput
  simp only [fromPkScript_p2sh H _ hl, isWitnessProgram_p2sh _ hl, ↓reduceIte, h1, List.getD_eq_getElem?_getD, h2, Option.getD_some]
  simp [hb, h3]

/-- Input `i` of the signed transaction, when it spends one of the wallet's own scripts: scriptSig and witness are an
    `Unlock` of that script, made with the signature function at the skeleton of the unsigned transaction. -/
theorem signed_own (H : Addr.Hashes) (c : Cfg) (pubs : List Bytes) (sig : Skeleton → SigFn) (ms : MsFn)
    (t : Tx) (spent : List TxOut) (i : Nat) (inp : TxIn) (uo : TxOut)
    (hash_len : ∀ b, (H.hash160 b).length = 20) (pub_len : ∀ p ∈ pubs, p.length = 33)
    (hwit : t.wit = none) (hin : t.ins[i]? = some inp) (hsp : spent[i]? = some uo) (hms : ms i = none)
    (hown : OwnScript c (keyTable H c.bech32 pubs) uo.script)
    (haddr : (Addr.fromPkScript H uo.script c.testnet).isSome)
    (h64 : ∀ j kr, (keyTable H c.bech32 pubs)[j]? = some kr → uo.script.length = 34 →
      (sig (skeleton t) i (.taproot j)).length = 64) :
    let t' := (signTx H c (keyTable H c.bech32 pubs) sig ms t (spent.map some)).1
    ∃ r, Unlock c (keyTable H c.bech32 pubs) (sig (skeleton t)) i uo.value uo.script r ∧
      t'.ins[i]? = some { inp with scriptSig := r.scriptSig.getD inp.scriptSig } ∧
      (t'.wit.getD []).getD i [] = r.witness.getD [] ∧ skeleton t' = skeleton t := by
  have keyfacts := keyTable_facts H c.bech32 pubs hash_len pub_len
  generalize keyTable H c.bech32 pubs = ks at *
  intro t'
  have hr : (signIns H c ks (sig (skeleton t)) ms 0 t.ins (spent.map some))[i]? =
      some (signInput H c ks (sig (skeleton t)) i (some uo)) := by
    rw [signIns_getElem? H c ks _ ms t.ins _ 0 i inp hin]
    simp [signOne, hms, hsp]
  refine ⟨_, ?_, by simpa [t', signTx] using applyIns_getElem? t.ins _ i inp _ hin hr,
    by simpa only [t', signTx, hwit] using signed_wit_at _ i _ hr, signTx_skeleton H c ks sig ms t _⟩
  -- the look-up of the script's template finds a key (j, krj) with the same hash: the script is read as krj's
  obtain ⟨val, scr⟩ := uo
  obtain ⟨adr, ha⟩ := Option.isSome_iff_exists.mp haddr
  generalize sig (skeleton t) = sg at *
  simp only at hown ha h64 ⊢
  cases hown with
  | p2pkh k kr hk =>
    obtain ⟨_, _, hl, _, _⟩ := keyfacts k kr hk
    obtain ⟨j, krj, hj, hje, hsi⟩ := signInput_p2pkh H c ks sg i k kr val hk hl
    rw [hsi, ← hje]; exact .p2pkh j krj hj
  | p2wpkh k kr hk =>
    obtain ⟨j, krj, h1, hj, hje⟩ := lookup_h160 ks k kr hk
    obtain ⟨_, _, hl, _, _⟩ := keyfacts j krj hj
    rw [← hje] at ha h1 ⊢
    unfold signInput
    simp only [ha, isWitnessProgram_p2wpkh _ hl, hl, h1, List.getD_eq_getElem?_getD, hj, Option.getD_some, and_self, ↓reduceIte]
    exact .p2wpkh j krj hj
  | p2sh k kr hk hb =>
    obtain ⟨_, _, _, hl, _⟩ := keyfacts k kr hk
    obtain ⟨j, krj, hj, hje, hsi⟩ := signInput_p2sh H c ks sg i k kr val hk (hl hb) hb
    rw [hsi, ← hje]; exact .p2sh j krj hj hb
  | p2tr k kr hk =>
    obtain ⟨j, krj, h1, hj, hje⟩ := lookup_xo ks k kr hk
    obtain ⟨hpl, _, _, _, _⟩ := keyfacts j krj hj
    have hl : ((krj.pub.drop 1).take 32).length = 32 := by simp; omega
    rw [← hje] at ha h64 h1 ⊢
    unfold signInput
    simp only [ha, isWitnessProgram_p2tr _ hl, hl, h1, h64 j krj hj (by simp [p2trScript]; omega), and_self, ↓reduceIte,
      (by decide : ¬ (32 = 20)), false_and]
    exact .p2tr j krj hj

theorem ecdsaOk_intro (C : Crypto) {pub sg : Bytes} {digest : Nat → Bytes} (h1 : 1 ≤ sg.length)
    (hv : C.ecdsaVerify pub sg (digest 1) = true) : ecdsaOk C pub (sg ++ [1]) digest = true := by
  unfold ecdsaOk
  simp [hv]
  omega

end GocoinV.WalletTx
