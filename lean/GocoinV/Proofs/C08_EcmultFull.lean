/-
  Proofs.C08_EcmultFull — `XYZ.ECmult` (GLV split + four interleaved wNAF expansions over the tables
  pre_a, pre_a_lam, pre_g, pre_g_128) followed through the proved Double/Add/AddXY/Neg in the abelian group of
  curve points (reference law; group axioms from Proofs/C03Curve):
    result = na1·A + na_lam·A' + ng·G   with (na1, na_lam) = split_exp(na), A' = mul_lambda(A).
  With the two consequences of #E(F_p) = n stated as explicit hypotheses (n·A = 0 and A' = λ·A) this is na·A + ng·G.
-/
import GocoinV.Proofs.C08_MultGenFull
import GocoinV.Proofs.C08_Ecmult
import Mathlib.Tactic.Module
import Mathlib.Tactic.Abel

namespace GocoinV.C08
open GocoinV.Gen GocoinV.Gen.Field5x52 GocoinV.Proofs.C03

/-! ### representation of curve points by Jacobian / affine limb triples -/

/-- r is within the contract and stands for the curve point R -/
def Rp (r : XYZ) (R : CurvePt) : Prop := r.ok ∧ r.toPoint = R.1

def RpA (b : XY) (B : CurvePt) : Prop := b.ok ∧ b.toPoint = B.1

theorem dbl_val (P : CurvePt) : Secp.dbl P.1 = (2 • P).1 := by
  rw [dbl_eq_add, ← val_add, two_nsmul]

theorem Rp.double {r : XYZ} {R : CurvePt} (h : Rp r R) : Rp (XYZ.double r) (2 • R) := by
  obtain ⟨h1, h2⟩ := double_ok r h.1
  exact ⟨h1, by rw [h2, h.2, dbl_val]⟩

theorem Rp.add {r s : XYZ} {R S : CurvePt} (hr : Rp r R) (hs : Rp s S) : Rp (XYZ.add r s) (R + S) := by
  obtain ⟨h1, h2⟩ := add_ok r s hr.1 hs.1
  exact ⟨h1, by rw [h2, hr.2, hs.2, val_add]⟩

theorem Rp.addXY {r : XYZ} {b : XY} {R B : CurvePt} (hr : Rp r R) (hb : RpA b B) : Rp (XYZ.addXY r b) (R + B) := by
  obtain ⟨h1, h2⟩ := addXY_ok r b hr.1 hb.1
  exact ⟨h1, by rw [h2, hr.2, hb.2, val_add]⟩

theorem Rp.neg {r : XYZ} {R : CurvePt} (h : Rp r R) : Rp (XYZ.neg r) (-R) := by
  obtain ⟨h1, h2⟩ := neg_ok r h.1
  exact ⟨h1, by rw [h2, h.2, val_neg]⟩

theorem RpA.neg {b : XY} {B : CurvePt} (h : RpA b B) : RpA (XY.neg b) (-B) := by
  obtain ⟨h1, h2⟩ := negXY_ok b h.1
  exact ⟨h1, by rw [h2, h.2, val_neg]⟩

/-- a Jacobian table of odd multiples: entry i stands for (2i+1)·B -/
def TabJ (pre : List XYZ) (B : CurvePt) (m : Nat) : Prop := ∀ i, i < m → Rp (pre.getD i default) ((2 * i + 1) • B)

/-- an affine table of odd multiples -/
def TabA (tab : Nat → XY) (B : CurvePt) (m : Nat) : Prop := ∀ i, i < m → RpA (tab i) ((2 * i + 1) • B)

/-! ### one wNAF digit -/

theorem dig_index (w : Nat) (hw : 2 ≤ w) (d : Int) (hodd : d % 2 = 1) (h0 : 0 < d) (h2 : d < 2 ^ (w - 1)) :
    (d.toNat - 1) / 2 < 2 ^ (w - 2) ∧ ((2 * ((d.toNat - 1) / 2) + 1 : Nat) : Int) = d := by
  have hp : (2 : Int) ^ (w - 1) = ((2 * 2 ^ (w - 2) : Nat) : Int) := by
    obtain ⟨m, rfl⟩ : ∃ m, w = m + 2 := ⟨w - 2, by omega⟩
    simp only [Nat.add_sub_cancel, show m + 2 - 1 = m + 1 by omega, pow_succ]
    push_cast; ring
  rw [hp] at h2
  generalize 2 ^ (w - 2) = M at h2 ⊢
  omega

/-- one wNAF digit d, whatever the kind of table (Jacobian list with Add / Neg, affine function with AddXY / XY.Neg):
    entry (|d|−1)/2 stands for |d|·B, so the step adds d·B -/
theorem applyDigit_Rp {α : Type} {w : Nat} (hw : 2 ≤ w) {B : CurvePt} (add : XYZ → α → XYZ) (neg : α → α)
    (get : Nat → α) (Ra : α → CurvePt → Prop)
    (hadd : ∀ {r R b C}, Rp r R → Ra b C → Rp (add r b) (R + C)) (hneg : ∀ {b C}, Ra b C → Ra (neg b) (-C))
    (ht : ∀ i, i < 2 ^ (w - 2) → Ra (get i) ((2 * i + 1) • B))
    {r : XYZ} {R : CurvePt} (hr : Rp r R) {d : Int} (hd : Dig w d) :
    Rp (if d > 0 then add r (get ((d.toNat - 1) / 2))
        else if d ≠ 0 then add r (neg (get (((-d).toNat - 1) / 2))) else r) (R + d • B) := by
  rcases hd with rfl | ⟨hodd, h1, h2⟩
  · simp only [lt_self_iff_false, if_false, ne_eq, not_true_eq_false, zero_smul, add_zero]; exact hr
  · by_cases hpos : d > 0
    · rw [if_pos hpos]
      obtain ⟨hi, he⟩ := dig_index w hw d hodd hpos h2
      have := hadd hr (ht _ hi)
      rwa [← natCast_zsmul, he] at this
    · have hne : d ≠ 0 := by omega
      rw [if_neg hpos, if_pos hne]
      obtain ⟨hi, he⟩ := dig_index w hw (-d) (by omega) (by omega) (by omega)
      have := hadd hr (hneg (ht _ hi))
      rwa [← natCast_zsmul, he, neg_smul, neg_neg] at this

theorem applyDigitJ_Rp {w : Nat} (hw : 2 ≤ w) {pre : List XYZ} {B : CurvePt} (ht : TabJ pre B (2 ^ (w - 2)))
    {r : XYZ} {R : CurvePt} (hr : Rp r R) {d : Int} (hd : Dig w d) : Rp (applyDigitJ r pre d) (R + d • B) :=
  applyDigit_Rp hw XYZ.add XYZ.neg (pre.getD · default) Rp Rp.add Rp.neg ht hr hd

theorem applyDigitA_Rp {w : Nat} (hw : 2 ≤ w) {tab : Nat → XY} {B : CurvePt} (ht : TabA tab B (2 ^ (w - 2)))
    {r : XYZ} {R : CurvePt} (hr : Rp r R) {d : Int} (hd : Dig w d) : Rp (applyDigitA r tab d) (R + d • B) :=
  applyDigit_Rp hw XYZ.addXY XY.neg tab RpA Rp.addXY RpA.neg ht hr hd

theorem getD_of_ge {l : List Int} {i : Nat} (h : ¬ i < l.length) : l.getD i 0 = 0 := by
  rw [List.getD_eq_getElem?_getD, List.getElem?_eq_none (by omega), Option.getD_none]

/-- Horner form of the digit value -/
theorem valD_drop (l : List Int) (i : Nat) : valD (l.drop i) = l.getD i 0 + 2 * valD (l.drop (i + 1)) := by
  by_cases hi : i < l.length
  · rw [List.drop_eq_getElem_cons hi, List.getD_eq_getElem?_getD, List.getElem?_eq_getElem hi, Option.getD_some]
    rfl
  · rw [getD_of_ge hi, List.drop_eq_nil_of_le (by omega), List.drop_eq_nil_of_le (by omega)]
    rfl

/-! ### tables -/

/-- `XYZ.precomp`: the odd multiples a, 3a, 5a, … -/
theorem iterList_Rp {d : XYZ} {D : CurvePt} (hd : Rp d D) : ∀ (n : Nat) (p : XYZ) (Pp : CurvePt), Rp p Pp →
    ∀ i, i < n → Rp ((iterList (fun prev => XYZ.add d prev) n p).getD i default) (Pp + (i + 1) • D) := by
  intro n
  induction n with
  | zero => intro p Pp _ i hi; omega
  | succ m ih =>
    intro p Pp hp i hi
    rw [iterList_succ]
    cases i with
    | zero =>
      rw [List.getD_cons_zero]
      have := hd.add hp
      rw [show D + Pp = Pp + (0 + 1) • D by module] at this
      exact this
    | succ j =>
      rw [List.getD_cons_succ]
      have := ih _ _ (hd.add hp) j (by omega)
      rw [show D + Pp + (j + 1) • D = Pp + (j + 1 + 1) • D by module] at this
      exact this

theorem precomp_TabJ {a : XYZ} {A : CurvePt} (ha : Rp a A) (w : Nat) : TabJ (XYZ.precomp a w) A (2 ^ (w - 2)) := by
  intro i hi
  unfold XYZ.precomp
  cases i with
  | zero =>
    rw [List.getD_cons_zero]
    rw [show (2 * 0 + 1) • A = A by module]; exact ha
  | succ j =>
    rw [List.getD_cons_succ]
    have := iterList_Rp ha.double (2 ^ (w - 2) - 1) a A ha j (by omega)
    rw [show A + (j + 1) • (2 • A) = (2 * (j + 1) + 1) • A by module] at this
    exact this

theorem iterDbl_nsmul : ∀ (n : Nat) (Q : CurvePt), iterDbl n Q.1 = ((2 ^ n) • Q).1 := by
  intro n
  induction n with
  | zero => intro Q; rw [pow_zero, one_nsmul]; rfl
  | succ m ih =>
    intro Q
    show iterDbl m (Secp.dbl Q.1) = _
    rw [dbl_val, ih, ← mul_nsmul, pow_succ']

def G128c : CurvePt := (2 ^ 128) • Gc

/-- a checked table B, B + 2B, B + 2·2B, … is an affine table of the odd multiples of B -/
theorem tabA_of {tab : List (List Nat)} {B : CurvePt} {n : Nat} (h : tableOK (Secp.dbl B.1) B.1 n tab = true) :
    TabA (fun i => XY.ofLimbs (tab.getD i [])) B (n + 1) := fun i hi =>
  ⟨(tableOK_sound h).2.1 _ (getD_mem (by rw [(tableOK_sound h).1]; exact hi) _), by
    rw [ofLimbs_toPoint, table_point h i (by omega), dbl_val, addSteps_nsmul,
      show B + i • (2 • B) = (2 * i + 1) • B by module]⟩

theorem preG_TabA : TabA preGXY Gc 4096 := tabA_of preG_ok

theorem preG128_TabA : TabA preG128XY G128c 4096 :=
  tabA_of (by rw [← show g128 = G128c.1 from iterDbl_nsmul 128 Gc]; exact preG128_ok)

/-! ### the main loop -/

/-- a digit position past the end of an expansion is skipped, and its digit is 0 -/
theorem ifDigit {w : Nat} {B : CurvePt} {l : List Int} (hl : ∀ d ∈ l, Dig w d) {r : XYZ} {R : CurvePt} (hr : Rp r R)
    (f : Int → XYZ) (hf : ∀ {d}, Dig w d → Rp (f d) (R + d • B)) (i : Nat) :
    Rp (if i < l.length then f (l.getD i 0) else r) (R + l.getD i 0 • B) := by
  split
  · rename_i h; exact hf (hl _ (getD_mem h _))
  · rename_i h; rw [getD_of_ge h, zero_smul, add_zero]; exact hr

theorem ecmultStep_Rp {pre1 prel : List XYZ} {A A' : CurvePt} {w1 wl wg1 wg128 : List Int}
    (t1 : TabJ pre1 A (2 ^ (CurveConsts.windowa - 2))) (tl : TabJ prel A' (2 ^ (CurveConsts.windowa - 2)))
    (d1 : ∀ d ∈ w1, Dig CurveConsts.windowa d) (dl : ∀ d ∈ wl, Dig CurveConsts.windowa d)
    (dg1 : ∀ d ∈ wg1, Dig CurveConsts.windowg d) (dg128 : ∀ d ∈ wg128, Dig CurveConsts.windowg d)
    {r : XYZ} {R : CurvePt} (hr : Rp r R) (i : Nat) :
    Rp (ecmultStep pre1 prel w1 wl wg1 wg128 r i)
      (2 • R + w1.getD i 0 • A + wl.getD i 0 • A' + wg1.getD i 0 • Gc + wg128.getD i 0 • G128c) := by
  have s1 := ifDigit d1 hr.double _ (applyDigitJ_Rp (by decide) t1 hr.double) i
  have s2 := ifDigit dl s1 _ (applyDigitJ_Rp (by decide) tl s1) i
  have s3 := ifDigit dg1 s2 _ (applyDigitA_Rp (by decide) preG_TabA s2) i
  exact ifDigit dg128 s3 _ (applyDigitA_Rp (by decide) preG128_TabA s3) i

/-- a downward loop `for i := n-1; i >= 0; i--` preserves an invariant indexed by the next position -/
theorem down_fold {α : Type} (step : α → Nat → α) (Inv : Nat → α → Prop)
    (hstep : ∀ r i, Inv (i + 1) r → Inv i (step r i)) :
    ∀ (n : Nat) (r : α), Inv n r → Inv 0 ((List.range n).reverse.foldl step r) := by
  intro n
  induction n with
  | zero => intro r h; exact h
  | succ m ih =>
    intro r h
    rw [List.range_succ, List.reverse_concat, List.foldl_cons]
    exact ih _ (hstep r m h)

theorem ecmult_loop {pre1 prel : List XYZ} {A A' : CurvePt} {w1 wl wg1 wg128 : List Int}
    (t1 : TabJ pre1 A (2 ^ (CurveConsts.windowa - 2))) (tl : TabJ prel A' (2 ^ (CurveConsts.windowa - 2)))
    (d1 : ∀ d ∈ w1, Dig CurveConsts.windowa d) (dl : ∀ d ∈ wl, Dig CurveConsts.windowa d)
    (dg1 : ∀ d ∈ wg1, Dig CurveConsts.windowg d) (dg128 : ∀ d ∈ wg128, Dig CurveConsts.windowg d)
    (start : XYZ) (hs : Rp start 0) (bits : Nat) (hb1 : w1.length ≤ bits) (hbl : wl.length ≤ bits)
    (hbg1 : wg1.length ≤ bits) (hbg128 : wg128.length ≤ bits) :
    Rp ((List.range bits).reverse.foldl (ecmultStep pre1 prel w1 wl wg1 wg128) start)
      (valD w1 • A + valD wl • A' + valD wg1 • Gc + valD wg128 • G128c) := by
  have h := down_fold (ecmultStep pre1 prel w1 wl wg1 wg128)
    (fun i r => Rp r (valD (w1.drop i) • A + valD (wl.drop i) • A' + valD (wg1.drop i) • Gc
      + valD (wg128.drop i) • G128c))
    (fun r i hr => by
      have := ecmultStep_Rp t1 tl d1 dl dg1 dg128 hr i
      show Rp _ _
      rw [valD_drop w1 i, valD_drop wl i, valD_drop wg1 i, valD_drop wg128 i]
      convert this using 1
      module)
    bits start (by
      show Rp _ _
      rw [List.drop_eq_nil_of_le hb1, List.drop_eq_nil_of_le hbl, List.drop_eq_nil_of_le hbg1,
        List.drop_eq_nil_of_le hbg128]
      convert hs using 1
      simp [valD])
  simpa using h


/-! ### assembly -/

/-- a reference point known to be on the curve, as an element of the group of curve points -/
def mkPt (Q : Secp.Point) (h : OnC Q) : CurvePt := ⟨Q, h⟩

theorem onC_ptF (x y : F) : OnC (ptF x y) ↔ y * y = x ^ 3 + 7 := by
  unfold OnC ptF Secp.onCurve
  simp only [secp_p_eq, Bool.and_eq_true, decide_eq_true_eq, beq_iff_eq, ZMod.val_lt x, ZMod.val_lt y, true_and]
  rw [← ZMod.natCast_eq_natCast_iff']
  simp only [Nat.cast_add, Nat.cast_mul, ZMod.natCast_mod, ZMod.natCast_val, ZMod.cast_id', id_eq, Nat.cast_ofNat]
  constructor <;> intro h <;> rw [h] <;> ring

theorem feBeta_S : FeS feBeta 1 ((CurveConsts.beta : Nat) : F) := by
  have h : feBeta.mag 1 ∧ feBeta.val = CurveConsts.beta := by decide +kernel
  exact ⟨h.1, by unfold Fe.z; rw [h.2]⟩

theorem beta_cube : ((CurveConsts.beta : Nat) : F) ^ 3 = 1 := by
  have h : CurveConsts.beta ^ 3 % P = 1 % P := by decide +kernel
  have := (ZMod.natCast_eq_natCast_iff' (CurveConsts.beta ^ 3) 1 P).2 h
  push_cast at this
  exact this

theorem mulLambda_x (a : XYZ) : (XYZ.mulLambda a).x = mul a.x feBeta := by cases a; rfl
theorem mulLambda_y (a : XYZ) : (XYZ.mulLambda a).y = a.y := by cases a; rfl
theorem mulLambda_z (a : XYZ) : (XYZ.mulLambda a).z = a.z := by cases a; rfl
theorem mulLambda_inf (a : XYZ) : (XYZ.mulLambda a).inf = a.inf := by cases a; rfl

/-- `XYZ.mul_lambda` keeps the contract and multiplies the affine x by β -/
theorem mulLambda_ok {a : XYZ} (ha : a.ok) : (XYZ.mulLambda a).ok ∧ (a.inf = false → (XYZ.mulLambda a).toPoint
    = ptF (((CurveConsts.beta : Nat) : F) * (a.x.z / a.z.z ^ 2)) (a.y.z / a.z.z ^ 3)) := by
  have x' := (FeS.self ha.1).mul feBeta_S (by decide) (by decide)
  constructor
  · unfold XYZ.ok
    rw [mulLambda_x, mulLambda_y, mulLambda_z, mulLambda_inf]
    exact ⟨mag_mono x'.1 (by decide), ha.2⟩
  · intro hi
    rw [XYZ.toPoint_fin (by rw [mulLambda_inf]; exact hi), mulLambda_x, mulLambda_y, mulLambda_z, x'.2]
    congr 1; ring

/-- `XYZ.mul_lambda` maps a curve point to a curve point (x ↦ β·x with β³ = 1) and keeps the contract -/
theorem mulLambda_Rp {a : XYZ} (ha : a.ok) (hA : OnC a.toPoint) :
    ∃ A' : CurvePt, Rp (XYZ.mulLambda a) A' := by
  obtain ⟨hok, e⟩ := mulLambda_ok ha
  cases hi : a.inf with
  | true => exact ⟨0, hok, XYZ.toPoint_inf (by rw [mulLambda_inf]; exact hi)⟩
  | false =>
    rw [XYZ.toPoint_fin hi, onC_ptF] at hA
    exact ⟨⟨_, (onC_ptF _ _).2 (by rw [hA, mul_pow, beta_cube, one_mul])⟩, hok, e hi⟩

/-- a triple within the contract with the Infinity flag set stands for ∞ -/
theorem Rp.atInf {a : XYZ} (ha : a.ok) : Rp { a with inf := true } 0 :=
  ⟨⟨ha.1, ha.2.1, ha.2.2.1, fun h => by simp at h⟩, XYZ.toPoint_inf rfl⟩

theorem split_nsmul (ng : Nat) :
    ((ng % 2 ^ 128 : Nat) : Int) • Gc + ((ng / 2 ^ 128 : Nat) : Int) • G128c = ng • Gc := by
  unfold G128c
  rw [natCast_zsmul, natCast_zsmul, ← mul_nsmul, ← add_nsmul, Nat.mod_add_div]

/-- `XYZ.ECmult(a, na, ng)` for EVERY point a within the contract that is on the curve, EVERY integer na and
    every ng < 2^256: no panic, the result is within the contract and stands for
    na1·A + na_lam·A' + ng·G with (na1, na_lam) = split_exp(na) and A' the point `mul_lambda` makes of A. -/
theorem ecmult_sum (a : XYZ) (ha : a.ok) (hA : OnC a.toPoint) (na : Int) (ng : Nat) (hng : ng < 2 ^ 256) :
    ∃ (r : XYZ) (A A' : CurvePt), A.1 = a.toPoint ∧ Rp (XYZ.mulLambda a) A' ∧ ecmult a na ng = some r ∧
      Rp r ((splitExp na).1 • A + (splitExp na).2 • A' + ng • Gc) := by
  obtain ⟨A', hA'⟩ := mulLambda_Rp ha hA
  have hRa : Rp a (mkPt a.toPoint hA) := ⟨ha, rfl⟩
  obtain ⟨⟨w1, h1, v1, d1⟩, ⟨wl, h2, v2, d2⟩, ⟨wg1, h3, v3, d3⟩, ⟨wg128, h4, v4, d4⟩⟩ :=
    ecmult_wnafs na ng hng CurveConsts.windowa CurveConsts.windowg (by decide) (by decide)
  have hloop := ecmult_loop (precomp_TabJ hRa CurveConsts.windowa) (precomp_TabJ hA' CurveConsts.windowa)
    d1 d2 d3 d4 _ (Rp.atInf ha) (max (max w1.length wl.length) (max wg1.length wg128.length))
    (le_trans (le_max_left _ _) (le_max_left _ _)) (le_trans (le_max_right _ _) (le_max_left _ _))
    (le_trans (le_max_left _ _) (le_max_right _ _)) (le_trans (le_max_right _ _) (le_max_right _ _))
  rw [v1, v2, v3, v4, add_assoc, split_nsmul] at hloop
  refine ⟨_, mkPt a.toPoint hA, A', rfl, hA', ?_, hloop⟩
  unfold ecmult split
  simp only [h1, h2, h3, h4, Option.bind_eq_bind, Option.bind_some, Option.pure_def]

/-- … hence na·A + ng·G, given the two facts about A that follow from #E(F_p) = n (not proved here, explicit
    hypotheses): n·A = 0 (Lagrange) and mul_lambda(A) = λ·A (the endomorphism acts on the cyclic group as λ). -/
theorem ecmult_mul (a : XYZ) (ha : a.ok) (hA : OnC a.toPoint) (na : Int) (ng : Nat) (hng : ng < 2 ^ 256)
    (hn : ((CurveConsts.order : Nat) : Int) • mkPt a.toPoint hA = 0)
    (hl : ∀ A' : CurvePt, Rp (XYZ.mulLambda a) A' → A' = ((CurveConsts.lambda : Nat) : Int) • mkPt a.toPoint hA) :
    ∃ r, ecmult a na ng = some r ∧ Rp r (na • mkPt a.toPoint hA + ng • Gc) := by
  obtain ⟨r, A, A', hAe, hA', hr, hR⟩ := ecmult_sum a ha hA na ng hng
  have hAeq : A = mkPt a.toPoint hA := Subtype.ext hAe
  subst hAeq
  refine ⟨r, hr, ?_⟩
  rw [hl A' hA'] at hR
  have hs := splitExp_sound na
  obtain ⟨k, hk⟩ := Int.dvd_of_emod_eq_zero hs
  have e : (splitExp na).1 • mkPt a.toPoint hA
      + (splitExp na).2 • (((CurveConsts.lambda : Nat) : Int) • mkPt a.toPoint hA)
      = na • mkPt a.toPoint hA := by
    rw [← mul_smul, ← add_smul]
    have : (splitExp na).1 + (splitExp na).2 * ((CurveConsts.lambda : Nat) : Int)
        = na + k * ((CurveConsts.order : Nat) : Int) := by linarith
    rw [this, add_smul, mul_smul, hn, smul_zero, add_zero]
  rw [e] at hR
  exact hR
end GocoinV.C08
