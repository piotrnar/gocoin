/-
  Proofs.C14Wallet — make_wallet's path walk and Type-4 key list (wallet/wallet.go) against repeated `Child`, the
  `Serialize` / `StringWallet` round trip of extended keys (lib/btc/wallethd.go), and the first-match look-up
  `hash_to_key_idx`.
-/
import GocoinV.Model.WalletKeys
import GocoinV.Proofs.C14HD
import GocoinV.Proofs.C15Base58
namespace GocoinV.Proofs.C14
open GocoinV HD WalletKeys

/-- derivation along a list of indexes by repeated `Child` (the spec of the path walk) -/
def derive (C : WalletCrypto) : HDWallet → List Nat → Except Fail HDWallet
  | w, [] => .ok w
  | w, x :: t => match child C w x with
    | .error e => .error e
    | .ok w' => derive C w' t

theorem derive_append (C : WalletCrypto) (w : HDWallet) (xs ys : List Nat) :
    derive C w (xs ++ ys) = match derive C w xs with
      | .error e => .error e
      | .ok w' => derive C w' ys := by
  induction xs generalizing w with
  | nil => rfl
  | cons x t ih =>
    simp only [List.cons_append, derive]
    cases child C w x with
    | error e => rfl
    | ok w' => exact ih w'

/-- walkPath = derive, and the remembered parent is the wallet one step before the end -/
theorem walkPath_spec (C : WalletCrypto) (xs : List Nat) (w w' : HDWallet) (prv prv' : Option (HDWallet × Nat))
    (h : walkPath C xs w prv = .ok (w', prv')) :
    derive C w xs = .ok w' ∧
    (xs = [] → prv' = prv) ∧
    (xs ≠ [] → ∃ pw, prv' = some (pw, xs.getLast?.getD 0) ∧ derive C w xs.dropLast = .ok pw ∧
                 child C pw (xs.getLast?.getD 0) = .ok w') := by
  induction xs generalizing w prv with
  | nil =>
    simp only [walkPath, Except.ok.injEq, Prod.mk.injEq] at h
    obtain ⟨rfl, rfl⟩ := h
    simp [derive]
  | cons x t ih =>
    simp only [walkPath] at h
    cases hc : child C w x with
    | error e => simp [hc] at h
    | ok w1 =>
      simp only [hc] at h
      obtain ⟨h1, h2, h3⟩ := ih w1 (some (w, x)) h
      refine ⟨by simp [derive, hc, h1], by simp, fun _ => ?_⟩
      by_cases ht : t = []
      · subst ht
        have := h2 rfl
        subst this
        simp only [derive, Except.ok.injEq] at h1
        subst h1
        exact ⟨w, by simp, by simp [derive], by simpa using hc⟩
      · obtain ⟨pw, e1, e2, e3⟩ := h3 ht
        obtain ⟨a, b, rfl⟩ := List.exists_cons_of_ne_nil ht
        refine ⟨pw, by rw [e1]; simp, ?_, by simpa using e3⟩
        simpa [derive, hc] using e2

/-- the Type-4 pass lists exactly keycnt children of `hdwal`, at indexes last+i, last+i+1, … (mod 2³²); the label of
    the j-th key is the prefix, "/", the decimal number (last mod 2³¹) + i + j (mod 2³²), and "'" exactly when the
    LAST PATH ELEMENT is hardened (not the index actually derived) -/
theorem type4Pass_spec (C : WalletCrypto) (hdwal : HDWallet) (last : Nat) (pre : Bytes) (k i : Nat)
    (ks : List (Bytes × Bytes)) (h : type4Pass C hdwal last pre k i = .ok ks) :
    ks.length = k ∧ ∀ j (hj : j < ks.length), ∃ hd, child C hdwal ((i + j + last) % 2 ^ 32) = .ok hd ∧
      ks[j] = (hd.key.drop 1, pre ++ [47] ++ decStr ((i + j + last % Gen.HDConsts.hardenedFrom) % 2 ^ 32) ++
        (if last ≥ Gen.HDConsts.hardenedFrom then [39] else [])) := by
  induction k generalizing i ks with
  | zero =>
    simp only [type4Pass, Except.ok.injEq] at h
    subst h; simp
  | succ k ih =>
    simp only [type4Pass] at h
    cases hc : child C hdwal ((i + last) % 2 ^ 32) with
    | error e => simp [hc] at h
    | ok hd =>
      simp only [hc] at h
      cases hr : type4Pass C hdwal last pre k (i + 1) with
      | error e => simp [hr] at h
      | ok rest =>
        simp only [hr, Except.ok.injEq] at h
        subst h
        obtain ⟨hl, hall⟩ := ih (i + 1) rest hr
        refine ⟨by simp [hl], fun j hj => ?_⟩
        cases j with
        | zero => exact ⟨hd, by simpa using hc, rfl⟩
        | succ j =>
          obtain ⟨hd', e1, e2⟩ := hall j (by simpa using hj)
          rw [show i + 1 + j = i + (j + 1) by omega] at e1 e2
          exact ⟨hd', e1, by simpa using e2⟩

/-- well-formed extended key: what `Serialize` can represent -/
def SerWF (w : HDWallet) : Prop :=
  (isPrivatePfx w.pfx = true ∨ isPublicPfx w.pfx = true) ∧ w.depth < 256 ∧ w.checksum.length = 4 ∧
  w.idx < 2 ^ 32 ∧ w.chCode.length = 32 ∧ w.key.length = 33 ∧
  (isPublicPfx w.pfx = true → Secp.parsePubkey w.key ≠ none)

theorem parseBytes_serialize (C : WalletCrypto) (w : HDWallet) (hw : SerWF w)
    (hlen : ∀ b, (C.shaHash b).length = 32) : parseBytes C (serialize C w) = .ok w := by
  obtain ⟨hp, hd, hc, hi, hcc, hk, hpub⟩ := hw
  have hplt : w.pfx < 2 ^ 32 := hp.elim (fun h => (private_pfx _ h).1) (fun h => (public_pfx _ h).1)
  have hbody : (serializeBody w).length = 78 := by
    simp [serializeBody, beBytes_length, hc, hcc, hk]
  have hcs : ((C.shaHash (serializeBody w)).take 4).length = 4 := by simp [hlen]
  have e_take78 : (serialize C w).take 78 = serializeBody w := List.take_left' hbody
  have e_drop78 : (serialize C w).drop 78 = (C.shaHash (serializeBody w)).take 4 := List.drop_left' hbody
  have e_len : (serialize C w).length = 82 := by simp [serialize, hbody, hcs]
  have v_pfx := beVal_beBytes_of_lt 4 w.pfx (by simpa using hplt)
  have v_idx := beVal_beBytes_of_lt 4 w.idx (by simpa using hi)
  -- the fields sit at fixed offsets of the 82 bytes
  obtain ⟨e_key, e_cc, e_idx, e_cs, e_pfx, e_hd⟩ :
      ((serialize C w).drop 45).take 33 = w.key ∧ ((serialize C w).drop 13).take 32 = w.chCode ∧
      ((serialize C w).drop 9).take 4 = beBytes 4 w.idx ∧ ((serialize C w).drop 5).take 4 = w.checksum ∧
      (serialize C w).take 4 = beBytes 4 w.pfx ∧ ((serialize C w).drop 4).headD 0 = UInt8.ofNat w.depth := by
    simp [serialize, serializeBody, List.drop_append, List.drop_eq_nil_of_le, beBytes_length, hc, hcc, hk]
  have e_dep : (((serialize C w).drop 4).headD 0).toNat = w.depth := by
    rw [e_hd, UInt8.toNat_ofNat']; omega
  have hbc : byteCheck (serialize C w) = none := by
    unfold byteCheck
    simp only [e_len, ne_eq, not_true_eq_false, ↓reduceIte, e_pfx, v_pfx, e_key]
    rcases hp with hp | hp
    · simp [hp, (private_pfx w.pfx hp).2.1]
    · simp [hp, hpub hp]
  unfold parseBytes
  simp only [hbc, e_take78, e_drop78, ne_eq, not_true_eq_false, ↓reduceIte, e_pfx, v_pfx, e_dep, e_cs, e_idx, v_idx, e_cc, e_key]

/-- `StringWallet(w.String()) = w`; the Base58 layer is C15's `Base58.decode_encode` -/
theorem stringWallet_toString (C : WalletCrypto) (w : HDWallet) (hw : SerWF w)
    (hlen : ∀ b, (C.shaHash b).length = 32) : stringWallet C (HD.toString C w) = .ok w := by
  unfold stringWallet HD.toString
  rw [Base58.decode_encode _ (by simp [serialize, serializeBody])]
  exact parseBytes_serialize C w hw hlen

/-- for a record i that passes the test, a first-match lookup returns an index j ≤ i that passes it -/
theorem firstIdx_spec (p : KeyRec → Bool) (keys : List KeyRec) (i : Nat) (hi : i < keys.length) (hp : p keys[i] = true) :
    ∃ j, ∃ hj : j < keys.length, j ≤ i ∧
      (if keys.findIdx p < keys.length then some (keys.findIdx p) else none) = some j ∧ p keys[j] = true := by
  have hle : keys.findIdx p ≤ i := Nat.le_of_not_lt fun h => by simpa [hp] using List.not_of_lt_findIdx h
  have hlt : keys.findIdx p < keys.length := by omega
  exact ⟨keys.findIdx p, hlt, hle, by rw [if_pos hlt], List.findIdx_getElem (w := hlt)⟩

/-- `hash_to_key_idx` on an arbitrary hash `h` that key i answers to (as P2KH hash or as segwit-slot hash) -/
theorem hashToKeyIdx_of_match (C : WalletCrypto) (c : Config) (keys : List KeyRec) (h : Bytes) (i : Nat)
    (hi : i < keys.length) (hm : keys[i].h160 = h ∨ segwitH160 C c keys[i] = h) :
    ∃ j, ∃ hj : j < keys.length, j ≤ i ∧ hashToKeyIdx C c keys h = some j ∧
      (keys[j].h160 = h ∨ segwitH160 C c keys[j] = h) := by
  obtain ⟨j, hj, hle, e, hp⟩ := firstIdx_spec (fun k => k.h160 == h || segwitH160 C c k == h) keys i hi
    (by rcases hm with e | e <;> simp [e])
  exact ⟨j, hj, hle, e, by simpa using hp⟩

end GocoinV.Proofs.C14
