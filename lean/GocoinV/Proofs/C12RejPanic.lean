/-
  Proofs.C12RejPanic — corollaries of Props/C12 `reject_index_inv`: under `RejInv` the reject-related panic branches of the model
  (`rejEvictOldest`: ring slot without record; `txAcceptedAux`: empty waiting list, listed id without record, record
  without data) are unreachable.  Core Lean only.
-/
import GocoinV.Proofs.C12RejInv
namespace GocoinV.Mempool

/-! ### rejEvictOldest -/

/-- the guard of the panic branch of `rejEvictOldest` is false: the oldest ring slot has its record -/
theorem rejEvictOldest_guard' {K : Keys} {s : State} (h : RejInv K s) (old : Nat) (rest : List (Option Nat))
    (hring : s.ring = some old :: rest) : s.rej.get? old ≠ none := by
  obtain ⟨r, hr, _⟩ := h.ring_rej old (by rw [hring]; exact List.mem_cons_self)
  rw [hr]; simp

theorem rejEvictOldest_panicked {K : Keys} {s : State} (h : RejInv K s) :
    (rejEvictOldest K s).panicked = s.panicked :=
  (rejEvictOldest_RCs h.toRJ.rc (by intro _ _ _ _; simp)).2.1

/-- … and the same inside `Add`, where the eviction runs on the state that already holds the new record in the map
    and in the ring (for ANY record `r`, fresh key or not): `Add` never raises the panic flag -/
theorem rejAdd_panicked {K : Keys} {s : State} (h : RejInv K s) (r : Rej) :
    (rejAdd K s r).panicked = s.panicked := by
  unfold rejAdd
  dsimp only
  generalize hs1 : ({ s with ring := s.ring ++ [some (K.bidx r.id)], rej := s.rej.set (K.bidx r.id) r } : State) = s1
  have r1 : s1.rej = s.rej.set (K.bidx r.id) r := by rw [← hs1]
  have g1 : s1.ring = s.ring ++ [some (K.bidx r.id)] := by rw [← hs1]
  have p1 : s1.panicked = s.panicked := by rw [← hs1]
  rw [(rejAddRefs_fix K _ r).2.1, ← p1]
  rcases rejEvictOldest_cases K s1 with e0 | ⟨_, _, o, _, _, _, e0⟩ | ⟨old, rest, hring, ho, _⟩ | ⟨_, e0⟩
  · rw [e0]
  · rw [e0, rejDelete_panicked]
  · exfalso
    rw [r1, AList.get?_set] at ho
    split at ho
    · cases ho
    · rename_i hne
      rw [g1] at hring
      have hm : some old ∈ s.ring ++ [some (K.bidx r.id)] := by rw [hring]; exact List.mem_cons_self
      rcases List.mem_append.mp hm with hm | hm
      · obtain ⟨r', hr', _⟩ := h.ring_rej old hm
        rw [hr'] at ho; cases ho
      · simp only [List.mem_singleton, Option.some.injEq] at hm
        exact hne hm
  · rw [e0]

/-! ### txAccepted -/

/-- the guards of the three panic branches of `txAcceptedAux` are false in every state that satisfies `RejInv`: a
    WaitingForInputs list is not empty, its first id has a record, and that record has its transaction.
    (`Prim.rj` along `txAccepted_reach` shows that every iteration of the loop starts in such a state.) -/
theorem txAccepted_guards {K : Keys} {s : State} (h : RejInv K s) (cur : Nat) (id : TxId) (ids : List Nat)
    (hw : s.waiting.get? cur = some (id, ids)) :
    ∃ first rest txr t, ids = first :: rest ∧ s.rej.get? first = some txr ∧ txr.tx = some t := by
  obtain ⟨_, hne, _, hall⟩ := h.waiting_sound cur id ids hw
  cases ids with
  | nil => exact absurd rfl hne
  | cons first rest =>
    obtain ⟨r, w, hr, hw4, _⟩ := hall first List.mem_cons_self
    cases ht : r.tx with
    | none =>
      have := (h.shape first r hr).1 ht
      rw [hw4] at this; cases this
    | some t => exact ⟨first, rest, r, t, rfl, hr, ht⟩

/-- `txAcceptedAux` with the three reject-related panic branches replaced by an arbitrary `bad` (the exhausted iteration
    budget — fuel 0 — is NOT one of them: it stays the flag and is not shown unreachable) -/
def txAcceptedAuxP (K : Keys) (minFee : Nat) (bad : State → State) : Nat → State → List Nat → Nat → State
  | 0, s, _, _ => { s with panicked := true }
  | fuel + 1, s, recs, delidx =>
    match recs[delidx]? with
    | none => s
    | some cur =>
      match s.waiting.get? cur with
      | none => txAcceptedAuxP K minFee bad fuel s recs (delidx + 1)
      | some (_, ids) =>
        match ids with
        | [] => bad s
        | first :: _ =>
          match s.rej.get? first with
          | none => bad s
          | some txr =>
            let s := rejDelete K s txr
            match txr.tx with
            | none => bad s
            | some t =>
              let (res, s) := processTx K minFee s t {}
              let recs := if res = 0 then recs ++ [K.bidx t.id] else recs
              let s := if res = R_NO_TXOU then
                  match s.waiting.get? cur with
                  | some (_, ids') =>
                    if ids'.contains (K.bidx t.id) then
                      rejectTx K (rejDeleteByIdx K s (K.bidx t.id)) t R_BAD_INPUT none
                    else s
                  | none => s
                else s
              txAcceptedAuxP K minFee bad fuel s recs delidx

theorem txAcceptedAux_eq_P (K : Keys) (mf : Nat) : ∀ (fuel : Nat) (s : State) (recs : List Nat) (d : Nat),
    txAcceptedAux K mf fuel s recs d = txAcceptedAuxP K mf (fun s => { s with panicked := true }) fuel s recs d := by
  intro fuel
  induction fuel with
  | zero => intro s recs d; rfl
  | succ n ih =>
    intro s recs d
    unfold txAcceptedAux txAcceptedAuxP
    simp only [ih]
    rfl

/-- over every state that satisfies the invariants, the result of the txAccepted loop with its three reject-related
    panic branches replaced by `bad` (`txAcceptedAuxP`) does not depend on `bad` — the branches are never taken -/
theorem txAcceptedAuxP_indep {K : Keys} {W : Tx → Prop} {rank : TxId → Nat} (U : Univ K W rank) (mf : Nat)
    (bad bad' : State → State) : ∀ (fuel : Nat) (s : State) (recs : List Nat) (d : Nat), InvR K W s → RejInv K s →
    txAcceptedAuxP K mf bad fuel s recs d = txAcceptedAuxP K mf bad' fuel s recs d := by
  intro fuel
  induction fuel with
  | zero => intro s recs d _ _; rfl
  | succ n ih =>
    intro s recs d hI h
    unfold txAcceptedAuxP
    cases hc : recs[d]? with
    | none => rfl
    | some cur =>
      simp only []
      cases hw : s.waiting.get? cur with
      | none => exact ih _ _ _ hI h
      | some p =>
        obtain ⟨id, ids⟩ := p
        obtain ⟨first, rest, txr, t, e1, e2, e3⟩ := txAccepted_guards h cur id ids hw
        subst e1
        simp only [e2, e3]
        obtain ⟨n1, n2⟩ := resubmit_RJ U mf s cur first txr t hI h.toRJ e2 e3
        exact ih _ _ _ n1 n2.toRejInv

/-- … hence `txAccepted` itself is that loop with any `bad` whatever -/
theorem txAccepted_no_rej_panic {K : Keys} {W : Tx → Prop} {rank : TxId → Nat} (U : Univ K W rank) (mf : Nat)
    (bad : State → State) (s : State) (b : Nat) (hI : InvR K W s) (h : RejInv K s) :
    txAccepted K mf s b = txAcceptedAuxP K mf bad (txAccFuel s) s [b] 0 := by
  unfold txAccepted
  rw [txAcceptedAux_eq_P]
  exact txAcceptedAuxP_indep U mf _ bad _ s _ _ hI h

end GocoinV.Mempool
