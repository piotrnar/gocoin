/-
  Proofs.C06Deliver — one delivery (`deliver` = the tree part of CheckBlock + AcceptBlock: AcceptHeader, CommitBlock,
  MorePOW, MoveToBlock …): the whole
  invariant `Inv` (tree well-formedness, "unspent map = replay of the active branch", "the tip has maximum work among the
  nodes that have their data"),
  and `StepOK`: what every operation (`header`, `commitNode`, `deliver`) guarantees of its result, with the step of the
  ghost list of admitted blocks proved from it once. That the operations satisfy it is proved in Proofs/C06Header and
  Proofs/C06CommitNode: a delivery is AcceptHeader followed by the block of the now known header.
-/
import GocoinV.Proofs.C06Reorg
namespace GocoinV.ChainTree
open GocoinV.UtxoOps

/-- the whole invariant: tree well-formed; the unspent map is the replay of the active branch (with every undo file in
    place: floor 0); the tip is a maximum-work node among the nodes that have their data -/
structure Inv (U : List Block) (c : Chain) : Prop where
  wf : TreeWF U c
  path : ∃ path, PathOKH c 0 path ∧ Ext c path
  maxw : MaxW c

/-- every node after the delivery is the delivered block with its transaction count, or a node from before with the
    transaction count it had: a delivery creates no other node and gives no other node data -/
def NodesFrom (c : Chain) (b : Block) (c' : Chain) : Prop :=
  ∀ x n', getNode c' x = some n' → (x = b.id ∧ n'.txCount = b.txs.length) ∨ (∃ n, getNode c x = some n ∧ n'.txCount = n.txCount)

theorem fuelOf_enough (c : Chain) : fuelOf c ≥ c.nodes.length * (c.nodes.length + 4) + c.nodes.length + 1 := by
  unfold fuelOf
  have : (c.nodes.length + 3) * (c.nodes.length + 3) = c.nodes.length * (c.nodes.length + 4) + 2 * c.nodes.length + 9 := by ring
  omega


/-- what an operation on the block `b` guarantees of its result `r` from a state `c` that satisfies the invariant
    (`d`: the operation hands over block data; a header alone does not): the invariant again, the same root, no panic; the
    tip moves only to the block or in the fall-back of a failed reorganisation; nothing but excused nodes is lost; no node
    loses its data; and when data was handed over and judged (`admitted`), the block is afterwards a node with data, or
    excused -/
structure StepOK (U : List Block) (c : Chain) (b : Block) (d : Bool) (r : Chain × Outcome) : Prop where
  inv : Inv U r.1
  root : r.1.root = c.root
  noPanic : ∀ s, r.2 ≠ Outcome.panic s
  tip : r.1.tip = c.tip ∨ r.1.tip = b.id ∨ r.2 = Outcome.moveFailed
  lost : Lost U c.root c r.1
  keep : ∀ x n n', getNode c x = some n → getNode r.1 x = some n' → n.txCount ≠ 0 → n'.txCount ≠ 0
  judged : d = true → r.2.admitted = true → getNode r.1 b.id = none → Excused U c.root b.id
  filled : d = true → r.2.admitted = true → ∀ n', getNode r.1 b.id = some n' → n'.txCount ≠ 0

/-- every block whose data was admitted and that is not excused is a node of the tree AND HAS ITS DATA (a block that was
    removed as invalid and whose header was announced again is a node without data — it is excused) -/
def AdmittedHaveData (U : List Block) (root : Nat) (E : List Nat) (c : Chain) : Prop :=
  ∀ x ∈ E, (∃ n, getNode c x = some n ∧ n.txCount ≠ 0) ∨ Excused U root x

/-- the invariant as the histories carry it: over the block tree below the state's own root, with the ghost list `E` of the
    ids whose data was admitted -/
structure InvC (U : List Block) (E : List Nat) (c : Chain) : Prop where
  tree : BlockTree c.root U
  inv : Inv U c
  complete : Complete U c.root E c

section
variable {U : List Block} {c : Chain} {b : Block} {d : Bool} {r : Chain × Outcome}

/-- an answer that changes nothing -/
theorem StepOK.noop (hi : Inv U c) (o : Outcome) (hp : ∀ s, o ≠ Outcome.panic s) (ha : o.admitted = false) :
    StepOK U c b d (c, o) :=
  ⟨hi, rfl, hp, Or.inl rfl, Lost.of_getNode (fun _ => rfl), fun _ _ _ h h' => (by rw [h] at h'; cases h'; exact id),
    fun _ h => (by rw [ha] at h; cases h), fun _ h => (by rw [ha] at h; cases h)⟩

/-- the GHOST list of the ids whose data was admitted, across the step, for a property `G` of (state, id) that says at
    least "is a node", that the step keeps for the nodes it keeps, and that the block has once its data was admitted: every
    id of the new list has `G` in the new state, or is excused -/
theorem StepOK.ghost (h : StepOK U c b d r) (G : Chain → Nat → Prop) (hs : ∀ x, G c x → (getNode c x).isSome = true)
    (hk : ∀ x n', G c x → getNode r.1 x = some n' → G r.1 x)
    (hf : d = true → r.2.admitted = true → ∀ n', getNode r.1 b.id = some n' → G r.1 b.id) (E : List Nat)
    (hE : ∀ x ∈ E, G c x ∨ Excused U c.root x) :
    ∀ x ∈ (if d && r.2.admitted then b.id :: E else E), G r.1 x ∨ Excused U c.root x := by
  have step : ∀ x, (G c x ∨ Excused U c.root x) ∨ (x = b.id ∧ d = true ∧ r.2.admitted = true) →
      G r.1 x ∨ Excused U c.root x := by
    rintro x ((g | e) | ⟨rfl, h1, h2⟩)
    · cases hg : getNode r.1 x with
      | none => exact Or.inr (h.lost x (hs x g) hg)
      | some n' => exact Or.inl (hk x n' g hg)
    · exact Or.inr e
    · cases hg : getNode r.1 b.id with
      | none => exact Or.inr (h.judged h1 h2 hg)
      | some n' => exact Or.inl (hf h1 h2 n' hg)
  intro x hx
  split at hx
  next ha =>
    rcases List.mem_cons.mp hx with e | h2
    · exact step x (Or.inr ⟨e, by simpa using ha⟩)
    · exact step x (Or.inl (hE x h2))
  · exact step x (Or.inl (hE x hx))

theorem StepOK.complete (h : StepOK U c b d r) (E : List Nat) (hc : Complete U c.root E c) :
    Complete U c.root (if d && r.2.admitted then b.id :: E else E) r.1 :=
  h.ghost (fun c x => (getNode c x).isSome = true) (fun _ => id) (fun _ _ _ hg => by rw [hg]; rfl)
    (fun _ _ _ hg => by rw [hg]; rfl) E hc

theorem StepOK.data (h : StepOK U c b d r) (E : List Nat) (hc : AdmittedHaveData U c.root E c) :
    AdmittedHaveData U c.root (if d && r.2.admitted then b.id :: E else E) r.1 :=
  h.ghost (fun c x => ∃ n, getNode c x = some n ∧ n.txCount ≠ 0) (fun _ ⟨_, hn, _⟩ => by rw [hn]; rfl)
    (fun x n' ⟨n, hn, hd⟩ hg => ⟨n', hg, h.keep x n n' hn hg hd⟩) (fun h1 h2 n' hg => ⟨n', hg, h.filled h1 h2 n' hg⟩) E hc

theorem StepOK.invC (h : StepOK U c b d r) {E : List Nat} (k : InvC U E c) :
    InvC U (if d && r.2.admitted then b.id :: E else E) r.1 :=
  ⟨by rw [h.root]; exact k.tree, h.inv, by rw [h.root]; exact h.complete E k.complete⟩

end

end GocoinV.ChainTree
