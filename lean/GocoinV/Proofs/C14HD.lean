/-
  Proofs.C14HD — `HDWallet.Child` and `Pub` (lib/btc/wallethd.go) on well-formed extended keys, as `match`es on the curve
  values that decide them, and what Spec.Bip32's CKDpriv / CKDpub return where they are defined.
-/
import GocoinV.Model.HD
import GocoinV.Spec.Bip32
namespace GocoinV.Proofs.C14
open GocoinV HD Gen.HDConsts

theorem hardenedFrom_eq : hardenedFrom = 2 ^ 31 := by decide

def PrivWF (w : HDWallet) (k : Nat) : Prop :=
  isPrivatePfx w.pfx = true ∧ w.key = 0 :: Spec.Bip32.ser256 k ∧ k < 2 ^ 256

theorem PrivWF.key_facts {w : HDWallet} {k : Nat} (hw : PrivWF w k) :
    w.key.length = 33 ∧ w.key.drop 1 = beBytes 32 k ∧ beVal (beBytes 32 k) = k := by
  obtain ⟨_, hk, hlt⟩ := hw
  refine ⟨by simp [hk, Spec.Bip32.ser256, beBytes], by simp [hk, Spec.Bip32.ser256], ?_⟩
  exact beVal_beBytes_of_lt 32 k (by simpa using hlt)

/-- what the private branch of `Child` returns, exactly -/
theorem child_priv_cases (C : WalletCrypto) (w : HDWallet) (k i : Nat) (hw : PrivWF w k) (hi : i < 2 ^ 32) :
    child C w i =
      match Secp.mul k Secp.G with
      | none => .error .outside
      | some P =>
        .ok { pfx := w.pfx, depth := (w.depth + 1) % 256, checksum := (C.hash160 (Secp.ser33 (some P))).take 4, idx := i,
              chCode := (C.hmac512 w.chCode ((if i ≥ 2 ^ 31 then w.key else Secp.ser33 (some P)) ++ beBytes 4 i)).drop 32,
              key := 0 :: beBytes 32 ((beVal ((C.hmac512 w.chCode ((if i ≥ 2 ^ 31 then w.key else Secp.ser33 (some P)) ++ beBytes 4 i)).take 32) + k) % Secp.n) } := by
  obtain ⟨hlen, hdrop, hval⟩ := hw.key_facts
  unfold child
  have c1 : ¬ (w.key.length ≠ 33 ∨ i ≥ 2 ^ 32) := by omega
  simp only [c1, ↓reduceIte, hw.1, hdrop, publicFromPrivate, hval]
  cases Secp.mul k Secp.G <;> simp only [serPoint, hardenedFrom_eq, deriveNextPrivate, ↓reduceIte, hval]

theorem ser33_length (P : Nat × Nat) : (Secp.ser33 (some P)).length = 33 := by
  simp [Secp.ser33, beBytes]

/-- the two version sets, fact by fact: range, disjointness, and what `publishPfx` does -/
theorem private_pfx (p : Nat) (h : isPrivatePfx p = true) :
    p < 2 ^ 32 ∧ isPublicPfx p = false ∧ isPublicPfx (publishPfx p) = true ∧ isPrivatePfx (publishPfx p) = false := by
  have h' : p ∈ setIsPrivateHDPrefix := by simpa [isPrivatePfx] using h
  clear h
  revert p
  decide

theorem public_pfx (p : Nat) (h : isPublicPfx p = true) : p < 2 ^ 32 ∧ isPrivatePfx p = false := by
  have h' : p ∈ setIsPublicHDPrefix := by simpa [isPublicPfx] using h
  clear h
  revert p
  decide


/-- a well-formed public extended key holding the point P -/
def PubWF (w : HDWallet) (P : Nat × Nat) : Prop :=
  isPublicPfx w.pfx = true ∧ isPrivatePfx w.pfx = false ∧ w.key = Secp.ser33 (some P)

/-- what the public branch of `Child` returns, exactly -/
theorem child_pub_cases (C : WalletCrypto) (w : HDWallet) (i : Nat)
    (hpub : isPublicPfx w.pfx = true)
    (hlen : w.key.length = 33) (hi : i < 2 ^ 31) :
    child C w i =
      match Secp.parsePubkey w.key with
      | none => .error .panic
      | some P =>
        match Secp.add (Secp.mul (beVal ((C.hmac512 w.chCode (w.key ++ beBytes 4 i)).take 32)) Secp.G) (some P) with
        | none => .error .panic
        | some Q => .ok { pfx := w.pfx, depth := (w.depth + 1) % 256, checksum := (C.hash160 w.key).take 4, idx := i,
                          chCode := (C.hmac512 w.chCode (w.key ++ beBytes 4 i)).drop 32, key := Secp.ser33 (some Q) } := by
  have hnpriv := (public_pfx _ hpub).2
  unfold child
  have c2 : ¬ (i ≥ 2 ^ 31) := by omega
  have c3 : ¬ (i ≥ 2 ^ 32) := by omega
  simp only [↓reduceIte, hnpriv, hpub, hardenedFrom_eq, c2, c3, baseMultiplyAdd, hlen, ne_eq, not_true_eq_false,
    Bool.false_eq_true, or_self]
  cases Secp.parsePubkey w.key with
  | none => rfl
  | some P =>
    simp only []
    cases Secp.add (Secp.mul (beVal ((C.hmac512 w.chCode (w.key ++ beBytes 4 i)).take 32)) Secp.G) (some P) <;>
      simp [serPoint]

/-- the same for a well-formed public key holding P: only the sum I_L·G + P decides -/
theorem child_pub_wf (C : WalletCrypto) (w : HDWallet) (i : Nat) (P : Nat × Nat)
    (hw : PubWF w P) (hi : i < 2 ^ 31) (hparse : Secp.parsePubkey (Secp.ser33 (some P)) = some P) :
    child C w i =
      match Secp.add (Secp.mul (beVal ((C.hmac512 w.chCode (w.key ++ beBytes 4 i)).take 32)) Secp.G) (some P) with
      | none => .error .panic
      | some Q => .ok { pfx := w.pfx, depth := (w.depth + 1) % 256, checksum := (C.hash160 w.key).take 4, idx := i,
                        chCode := (C.hmac512 w.chCode (w.key ++ beBytes 4 i)).drop 32, key := Secp.ser33 (some Q) } := by
  obtain ⟨hpub, _, hk⟩ := hw
  rw [child_pub_cases C w i hpub (by rw [hk]; exact ser33_length P) hi]
  rw [hk]
  simp only [hparse]

/-- `Pub` of a well-formed private key: only k·G decides -/
theorem pub_priv_cases (w : HDWallet) (k : Nat) (hw : PrivWF w k) :
    pub w = match Secp.mul k Secp.G with
      | none => .error .outside
      | some P => .ok { w with pfx := publishPfx w.pfx, key := Secp.ser33 (some P) } := by
  obtain ⟨hlen, hdrop, hval⟩ := hw.key_facts
  have hnpub := (private_pfx w.pfx hw.1).2.1
  unfold pub
  simp only [hnpub, Bool.false_eq_true, ↓reduceIte, hlen, ne_eq, not_true_eq_false, hdrop, publicFromPrivate, hval]
  cases Secp.mul k Secp.G <;> rfl

/-- what BIP32's CKDpriv returns where it is defined -/
theorem ckdPriv_eq {hmac : Bytes → Bytes → Bytes} {k : Nat} {c : Bytes} {i k' : Nat} {c' : Bytes}
    (h : Spec.Bip32.ckdPriv hmac k c i = some (k', c')) :
    ∃ I, I = hmac c ((if i ≥ 2 ^ 31 then 0 :: beBytes 32 k else Secp.ser33 (Secp.mul k Secp.G)) ++ beBytes 4 i) ∧
      k' = (beVal (I.take 32) + k) % Secp.n ∧ c' = I.drop 32 ∧ k' ≠ 0 := by
  unfold Spec.Bip32.ckdPriv at h
  refine ⟨_, rfl, ?_⟩
  by_cases h31 : i ≥ 2 ^ 31
  all_goals
    simp only [h31, ↓reduceIte, Spec.Bip32.point, Spec.Bip32.serP, Spec.Bip32.ser32, Spec.Bip32.ser256,
      Spec.Bip32.parse256, List.cons_append, List.nil_append, Option.ite_none_left_eq_some, Option.some.injEq,
      Prod.mk.injEq] at h ⊢
    exact ⟨h.2.1.symm, h.2.2.symm, fun e => h.1 (Or.inr (h.2.1.trans e))⟩

theorem ckdPriv_range {hmac : Bytes → Bytes → Bytes} {k : Nat} {c : Bytes} {i k' : Nat} {c' : Bytes}
    (h : Spec.Bip32.ckdPriv hmac k c i = some (k', c')) : 0 < k' ∧ k' < Secp.n := by
  obtain ⟨I, _, rfl, _, h0⟩ := ckdPriv_eq h
  exact ⟨Nat.pos_of_ne_zero h0, Nat.mod_lt _ (by decide)⟩

/-- what BIP32's CKDpub returns where it is defined -/
theorem ckdPub_eq {hmac : Bytes → Bytes → Bytes} {P : Nat × Nat} {c : Bytes} {i : Nat} {Q : Nat × Nat} {c' : Bytes}
    (h : Spec.Bip32.ckdPub hmac (some P) c i = some (some Q, c')) :
    i < 2 ^ 31 ∧ Secp.add (Secp.mul (beVal ((hmac c (Secp.ser33 (some P) ++ beBytes 4 i)).take 32)) Secp.G) (some P) = some Q ∧
      c' = (hmac c (Secp.ser33 (some P) ++ beBytes 4 i)).drop 32 := by
  unfold Spec.Bip32.ckdPub at h
  split at h
  · cases h
  · simp only [Option.ite_none_left_eq_some, Option.some.injEq, Prod.mk.injEq] at h
    exact ⟨by omega, h.2.1, h.2.2.symm⟩

end GocoinV.Proofs.C14
