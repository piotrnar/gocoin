/-
  Proofs.C19OpenInv — the state NewDBExt produces on a directory whose log is well-formed, and that this state
  satisfies the invariants again (so histories may contain any number of reopens).
-/
import GocoinV.Proofs.C19SlotInv
namespace GocoinV.Proofs.C19
open GocoinV GocoinV.Qdb GocoinV.QdbSpec

variable {eg : Bool}

/-- everything memput / memdel leave alone -/
def other (d : DB) :=
  (d.fs, d.pending, d.datOpen, d.logOpen, d.volatile, d.opts, d.datIdx, d.verSeq, d.dataSeq, d.failed, d.noSync)

theorem applyLog_other (es : List LogEntry) (db : DB) :
    other (applyLog db es) = other db ∧ db.maxSeq ≤ (applyLog db es).maxSeq ∧
    ∀ k r, LogEntry.put k r ∈ es → r.seq ≤ (applyLog db es).maxSeq := by
  obtain ⟨e, n, m, h, hm, hs⟩ := applyLog_eq es db
  rw [show applyLog db es = _ from h db.eager]
  exact ⟨rfl, hm, hs⟩

theorem memputAll_other (recs : List (Key × Rec)) (db : DB) :
    other (memputAll db recs) = other db ∧ db.maxSeq ≤ (memputAll db recs).maxSeq ∧
    ∀ kr ∈ recs, kr.2.seq ≤ (memputAll db recs).maxSeq := by
  rw [memputAll_puts]
  obtain ⟨a, b, c⟩ := applyLog_other (puts recs) db
  exact ⟨a, b, fun kr hkr => c kr.1 kr.2 (List.mem_map.mpr ⟨kr, hkr, rfl⟩)⟩

/-- what `NewDBidx` leaves, for a directory whose log (if any) carries the snapshot's sequence number -/
structure OpenState (F : FS) (vol : Bool) (X : DB) : Prop where
  index : X.index = diskIndex F
  failed : X.failed = none
  pending : X.pending = []
  datOpen : X.datOpen = false
  volatile : X.volatile = vol
  verSeq : X.verSeq = snapVer F
  log : X.fs.log = F.log
  logOpen : X.logOpen = true ↔ F.log ≠ none
  pick : pickIdx X.fs = pickIdx F
  free : checkIdxFile (idxFile X.fs (1 - X.datIdx)) = none
  otherSlot : checkIdxFile (otherIdx X.fs (1 - X.datIdx)) = none ∨
    ∃ Xo, checkIdxFile (otherIdx X.fs (1 - X.datIdx)) = some (X.verSeq, Xo)
  maxSeq : ∀ kr ∈ diskIndex F, kr.2.seq ≤ X.maxSeq
  dats : ∀ kr ∈ diskIndex F, dlookup kr.2.seq X.fs.dats = dlookup kr.2.seq F.dats

theorem pickIdx_cases (F : FS) (i sv : Nat) (d : Bytes) (h : pickIdx F = some (i, sv, d)) :
    (i = 0 ∧ checkIdxFile F.idx0 = some (sv, d)) ∨ (i = 1 ∧ checkIdxFile F.idx1 = some (sv, d)) := by
  unfold pickIdx at h
  cases h0 : checkIdxFile F.idx0 with
  | none =>
    cases h1 : checkIdxFile F.idx1 with
    | none => rw [h0, h1] at h; cases h
    | some c1 => rw [h0, h1] at h; cases h; exact Or.inr ⟨rfl, rfl⟩
  | some c0 =>
    cases h1 : checkIdxFile F.idx1 with
    | none => rw [h0, h1] at h; cases h; exact Or.inl ⟨rfl, rfl⟩
    | some c1 =>
      rw [h0, h1] at h
      simp only at h
      split at h
      · cases h; exact Or.inl ⟨rfl, rfl⟩
      · cases h; exact Or.inr ⟨rfl, rfl⟩

theorem pickIdx_none (F : FS) (h : pickIdx F = none) : checkIdxFile F.idx0 = none ∧ checkIdxFile F.idx1 = none := by
  unfold pickIdx at h
  cases h0 : checkIdxFile F.idx0 with
  | none =>
    cases h1 : checkIdxFile F.idx1 with
    | none => exact ⟨rfl, rfl⟩
    | some c1 => rw [h0, h1] at h; cases h
  | some c0 =>
    cases h1 : checkIdxFile F.idx1 with
    | none => rw [h0, h1] at h; cases h
    | some c1 => rw [h0, h1] at h; simp only at h; split at h <;> cases h

theorem checkIdxFile_data (f : Option Bytes) (sv : Nat) (d : Bytes) (h : checkIdxFile f = some (sv, d)) : f = some d := by
  unfold checkIdxFile at h
  cases f with
  | none => cases h
  | some x =>
    simp only at h
    repeat' split at h
    all_goals (try (cases h))
    all_goals rfl

/-- what loaddat leaves -/
structure DatState (F : FS) (vol : Bool) (a : DB) (used : List Nat) : Prop where
  index : a.index = snapBase F
  failed : a.failed = none
  pending : a.pending = []
  datOpen : a.datOpen = false
  logOpen : a.logOpen = false
  volatile : a.volatile = vol
  verSeq : a.verSeq = snapVer F
  log : a.fs.log = F.log
  dats : a.fs.dats = F.dats
  pick : pickIdx a.fs = pickIdx F
  free : checkIdxFile (idxFile a.fs (1 - a.datIdx)) = none
  otherSlot : checkIdxFile (otherIdx a.fs (1 - a.datIdx)) = none ∨
    ∃ Xo, checkIdxFile (otherIdx a.fs (1 - a.datIdx)) = some (a.verSeq, Xo)
  maxSeq : ∀ kr ∈ snapBase F, kr.2.seq ≤ a.maxSeq
  used : ∀ kr ∈ snapBase F, kr.2.seq ∈ used

/-- the snapshot slots after `loadneweridx`: the picked one stays picked, the other one is gone -/
theorem slotTrim_slots (F G : FS) (h0 : G.idx0 = (slotTrimmed F).idx0) (h1 : G.idx1 = (slotTrimmed F).idx1) :
    pickIdx G = pickIdx F ∧ checkIdxFile (idxFile G (1 - snapSlot F)) = none ∧
    (checkIdxFile (otherIdx G (1 - snapSlot F)) = none ∨
      ∃ Xo, checkIdxFile (otherIdx G (1 - snapSlot F)) = some (snapVer F, Xo)) := by
  unfold slotTrimmed slotTrim at h0 h1
  unfold snapSlot snapVer
  cases hp : pickIdx F with
  | none =>
    obtain ⟨p0, p1⟩ := pickIdx_none F hp
    rw [hp] at h0 h1
    have e0 : G.idx0 = F.idx0 := h0
    have e1 : G.idx1 = F.idx1 := h1
    exact ⟨by unfold pickIdx; rw [e0, e1]; exact hp, (congrArg checkIdxFile e1).trans p1,
      Or.inl ((congrArg checkIdxFile e0).trans p0)⟩
  | some t =>
    obtain ⟨i, sv, d⟩ := t
    rw [hp] at h0 h1
    rcases pickIdx_cases F i sv d hp with ⟨rfl, hc⟩ | ⟨rfl, hc⟩
    · have e0 : G.idx0 = F.idx0 := h0
      have e1 : G.idx1 = none := h1
      exact ⟨by unfold pickIdx; rw [e0, e1, hc]; rfl, congrArg checkIdxFile e1,
        Or.inr ⟨d, (congrArg checkIdxFile e0).trans hc⟩⟩
    · have e0 : G.idx0 = none := h0
      have e1 : G.idx1 = F.idx1 := h1
      exact ⟨by unfold pickIdx; rw [e0, e1, hc]; rfl, congrArg checkIdxFile e0,
        Or.inr ⟨d, (congrArg checkIdxFile e1).trans hc⟩⟩

theorem loaddat_state (F : FS) (vol : Bool) (opts : Opts) :
    DatState F vol (loaddat { fs := F, volatile := vol, opts := opts, eager := eg }).1
      (loaddat { fs := F, volatile := vol, opts := opts, eager := eg }).2 := by
  obtain ⟨e, n, m, h, hm⟩ := loaddat_eq F vol opts
  obtain ⟨s1, s2, s3⟩ := slotTrim_slots F (slotTrimmed F) rfl rfl
  rw [h eg]
  exact ⟨rfl, rfl, rfl, rfl, rfl, rfl, rfl, (slotTrimmed_rest F).1, (slotTrimmed_rest F).2, s1, s2, s3, hm,
    fun kr hkr => snapBase_used F kr hkr⟩

/-- `cleanupold` keeps what `NewDBidx` has established when the data files of the disk index count as used -/
theorem OpenState.cleanupold {F : FS} {vol : Bool} {b : DB} (h : OpenState F vol b) (used : List Nat)
    (hu : ∀ kr ∈ diskIndex F, used.contains kr.2.seq = true) : OpenState F vol (cleanupold b used) := by
  have hck := cleanupold_keeps b used b.dataSeq (Or.inl rfl)
  unfold cleanKeeps at hck
  simp only [Prod.mk.injEq] at hck
  obtain ⟨c0, c1, c2, _, _, cix, cfa, cdi, cvs, cmx, cvo, _⟩ := hck
  refine ⟨cix.trans h.index, cfa.trans h.failed, (frame_cleanupold b used).pending.trans h.pending,
    (congrArg (·.1) (book_cleanupold b used)).trans h.datOpen, cvo.trans h.volatile, cvs.trans h.verSeq,
    c2.trans h.log, by rw [logOpen_cleanupold]; exact h.logOpen, by unfold pickIdx; rw [c0, c1]; exact h.pick,
    by unfold idxFile; rw [c0, c1, cdi]; exact h.free, by unfold otherIdx; rw [c0, c1, cdi, cvs]; exact h.otherSlot,
    fun kr hkr => cmx ▸ h.maxSeq kr hkr, fun kr hkr => ?_⟩
  have hk := cleanupold_keeps b used kr.2.seq (Or.inr (hu kr hkr))
  unfold cleanKeeps at hk
  simp only [Prod.mk.injEq] at hk
  exact hk.2.2.2.1.trans (h.dats kr hkr)

theorem open_state (F : FS) (vol : Bool) (opts : Opts) (E : List LogEntry) (hE : ∀ e ∈ E, EntryFits e)
    (hlog : LogState F (snapVer F) E) (hsv : snapVer F < 2^32) :
    OpenState F vol (openIndex { fs := F, volatile := vol, opts := opts, eager := eg }) := by
  obtain ⟨e, n, m, h, hm⟩ := openIndex_eq F vol opts
  rw [h eg]
  have hT : logTrim F = [] ∧ (logRead F = true ↔ F.log ≠ none) := by
    unfold logTrim logRead
    rcases hlog with ⟨h1, _⟩ | h1 <;> rw [h1]
    · simp
    · simp only [logBody_ok _ hsv]; simp
  obtain ⟨s1, s2, s3⟩ := slotTrim_slots F ((slotTrimmed F).applyAll ((logTrim F).map (·.2)))
    (by rw [hT.1]; rfl) (by rw [hT.1]; rfl)
  apply OpenState.cleanupold
  · exact ⟨rfl, rfl, rfl, rfl, rfl, rfl,
      by show (FS.applyAll _ _).log = _; rw [hT.1]; exact (slotTrimmed_rest F).1, hT.2, s1, s2, s3, hm,
      fun kr _ => by show dlookup _ (FS.applyAll _ _).dats = _; rw [logTrimmed_dats]⟩
  · exact fun kr hkr => List.contains_iff_mem.mpr (diskIndex_used F kr hkr)

/-! ### whatever the files contain, parsed records have 64-bit keys and 32-bit flags -/

theorem decRec_fits (b : Bytes) : (decRec b).1 < 2^64 ∧ (decRec b).2.flags < 2^32 := by
  unfold decRec
  exact ⟨by have := leVal_take_lt b 8; simpa using this, by have := leVal_take_lt (b.drop 20) 4; simpa using this⟩

/-- every record `NewDBidx` puts into the index was decoded by `decRec`: what holds of all decoded records holds of the
    whole disk index, whatever the files contain -/
theorem diskIndex_all (P : Key → Rec → Prop) (h : ∀ b, P (decRec b).1 (decRec b).2) (F : FS) :
    ∀ kr ∈ diskIndex F, P kr.1 kr.2 := by
  have hs : ∀ n b, ∀ kr ∈ snapRecs n b, P kr.1 kr.2 := by
    intro n
    induction n with
    | zero => intro b kr hk; cases hk
    | succ m ih =>
      intro b kr hk
      simp only [snapRecs, List.mem_cons] at hk
      rcases hk with hk | hk
      · rw [hk]; exact h b
      · exact ih _ kr hk
  have hp : ∀ fuel d k r, LogEntry.put k r ∈ parseLog fuel d → P k r := by
    intro fuel
    induction fuel with
    | zero => intro d k r hk; cases hk
    | succ n ih =>
      intro d k r hk
      unfold parseLog at hk
      split at hk
      · cases hk
      · dsimp only at hk
        split at hk
        · split at hk
          · cases hk
          · rcases List.mem_cons.mp hk with hk | hk
            · cases hk; exact h d
            · exact ih _ k r hk
        · rcases List.mem_cons.mp hk with hk | hk
          · cases hk
          · exact ih _ k r hk
  intro kr hkr
  unfold diskIndex at hkr
  rcases mem_applyEntriesL _ _ kr hkr with h' | h'
  · unfold snapBase at h'
    split at h'
    · cases h'
    · rcases mem_isetAll _ _ kr h' with h'' | h''
      · cases h''
      · exact hs _ _ kr h''
  · unfold logEntries at h'
    split at h'
    · cases h'
    · split at h'
      · cases h'
      · exact hp _ _ kr.1 kr.2 h'

theorem diskIndex_fits (F : FS) : ∀ kr ∈ diskIndex F, kr.1 < 2^64 ∧ kr.2.flags < 2^32 :=
  diskIndex_all (fun k r => k < 2^64 ∧ r.flags < 2^32) decRec_fits F

theorem diskIndex_congr2 (F1 F2 : FS) (hp : pickIdx F1 = pickIdx F2) (hl : F1.log = F2.log) :
    diskIndex F1 = diskIndex F2 ∧ snapVer F1 = snapVer F2 := by
  have hv : snapVer F1 = snapVer F2 := by unfold snapVer; rw [hp]
  refine ⟨?_, hv⟩
  unfold diskIndex snapBase logEntries
  rw [hp, hl, hv]

theorem loadAll_of_openState (F : FS) (vol : Bool) (X : DB) (S : OpenState F vol X) (hR : DirReadable eg F)
    (he : X.eager = eg) :
    loadAll X = { X with index := mapV (loadedRec X.fs) (diskIndex F) } := by
  have hfold := loadFold_general (diskIndex F) X S.failed he (by
    intro kr hkr
    obtain ⟨h1, f, v, h3, h4⟩ := hR kr hkr
    exact ⟨h1, f, v, by rw [S.dats kr hkr]; exact h3, h4⟩) []
  unfold loadAll
  rw [S.index, hfold]
  simp only [S.failed, List.nil_append]

/-- `NewDB` with `load`, once it is known what `LoadAll` leaves -/
theorem openDB_of_loadAll {F : FS} {vol : Bool} {opts : Opts} {X : DB} {l : List (Key × Rec)}
    (hX : openIndex { fs := F, volatile := vol, opts := opts, eager := eg } = X) (hload : loadAll X = { X with index := l }) :
    openDB F vol true opts eg = { X with index := l, dataSeq := u32 (X.maxSeq + 1) } := by
  unfold openDB
  simp only [↓reduceIte]
  rw [hX, hload]

/-- the invariants follow from what `NewDBidx` leaves (`OpenState`) once the records are loaded; stated for any
    state `X` so that it also applies when `NewDBidx` discarded the log (then `F` is the directory without it) -/
theorem inv3_of_openState (F : FS) (X : DB) (S : OpenState F false X) (E : List LogEntry) (hE : ∀ e ∈ E, EntryFits e)
    (hlog : LogState F (snapVer F) E) (hsv : snapVer F < 2^32) (hR : DirReadable eg F)
    (hmax : X.maxSeq + 1 < 2^32) (he : X.eager = eg) :
    loadAll X = { X with index := mapV (loadedRec X.fs) (diskIndex F) } ∧
    Inv3 { X with index := mapV (loadedRec X.fs) (diskIndex F), dataSeq := u32 (X.maxSeq + 1) } := by
  refine ⟨loadAll_of_openState F false X S hR he, ?_⟩
  have hds : u32 (X.maxSeq + 1) = X.maxSeq + 1 := Nat.mod_eq_of_lt hmax
  obtain ⟨hDX, hSV⟩ := diskIndex_congr2 X.fs F S.pick S.log
  have hmemX : ∀ kr, kr ∈ diskIndex X.fs → kr ∈ diskIndex F := fun kr h => hDX ▸ h
  have hloaded : ∀ kr ∈ diskIndex F, ∃ f, dlookup kr.2.seq X.fs.dats = some f ∧
      ReadsBack f kr.2 ((loadedRec X.fs kr.2).data.getD []) := by
    intro kr hkr
    obtain ⟨_, f, v, h3, h4⟩ := hR kr hkr
    have hfX := (S.dats kr hkr).trans h3
    refine ⟨f, hfX, ?_⟩
    unfold loadedRec
    simp only [Option.getD_some, hfX]
    exact ⟨h4.1, h4.2.1, rfl⟩
  have hkeysEq : Keys (mapV (loadedRec X.fs) (diskIndex F)) = Keys (diskIndex F) := by
    unfold Keys mapV; rw [List.map_map]; rfl
  refine ⟨?_, ?_⟩
  · constructor
    · refine ⟨S.failed, ?_⟩
      intro kr hkr
      obtain ⟨x, hx, rfl⟩ := List.mem_map.mp hkr
      refine ⟨rfl, ?_⟩
      show hasFlag x.2.flags (ncOf X.eager) = false
      rw [he]
      exact (hR x hx).1
    · exact S.volatile
    · intro kr hkr
      obtain ⟨x, hx, rfl⟩ := List.mem_map.mp hkr
      obtain ⟨f, hf, hrb⟩ := hloaded x hx
      obtain ⟨a, b⟩ := diskIndex_fits F x hx
      refine ⟨a, b, ?_⟩
      show x.2.len = ((loadedRec X.fs x.2).data.getD []).length
      rw [← hrb.2.2]
      simp only [List.length_take, List.length_drop]
      have := hrb.1
      omega
    · show (Keys (mapV (loadedRec X.fs) (diskIndex F))).Nodup
      rw [hkeysEq]; exact nodup_diskIndex F
    · show X.pending.Nodup; rw [S.pending]; exact List.nodup_nil
    · intro k (hk : k ∈ X.pending)
      rw [S.pending] at hk; cases hk
    · show snapVer X.fs = X.verSeq; rw [hSV, S.verSeq]
    · show X.verSeq < 2^32; rw [S.verSeq]; exact hsv
    · show u32 (X.maxSeq + 1) < 2^32; exact u32_lt _
    · refine ⟨E, hE, ?_⟩
      show LogState X.fs X.verSeq E
      unfold LogState at hlog ⊢
      rw [S.log, S.verSeq]; exact hlog
    · exact fun h => S.log.trans (Classical.byContradiction fun hn => by cases (S.logOpen.mpr hn).symm.trans h)
    · exact fun h => S.log ▸ S.logOpen.mp h
    · intro k _
      show (ilookup k (diskIndex X.fs)).map core = (ilookup k (mapV (loadedRec X.fs) (diskIndex F))).map core
      rw [hDX, ilookup_mapV, Option.map_map]
      rfl
    · intro k r _ hr
      have hr' : ilookup k (mapV (loadedRec X.fs) (diskIndex F)) = some r := hr
      rw [ilookup_mapV] at hr'
      cases hd : ilookup k (diskIndex F) with
      | none => rw [hd] at hr'; cases hr'
      | some rd =>
        rw [hd] at hr'
        simp only [Option.map_some, Option.some.injEq] at hr'
        obtain ⟨f, hf, hrb⟩ := hloaded (k, rd) (ilookup_key_pair k rd _ hd)
        refine ⟨f, by rw [← hr']; exact hf, ?_⟩
        rw [← hr']
        exact hrb
    · intro kr hkr
      show hasFlag kr.2.flags (ncOf X.eager) = false
      rw [he]
      exact (hR kr (hmemX kr hkr)).1
    · exact fun h => by cases S.datOpen.symm.trans h
    · intro _ kr hkr
      show kr.2.seq ≠ u32 (X.maxSeq + 1)
      have := S.maxSeq kr (hmemX kr hkr)
      rw [hds]; omega
    · intro kr hkr
      obtain ⟨f, hf, hrb⟩ := hloaded kr (hmemX kr hkr)
      exact ⟨f, _, hf, hrb⟩
  · constructor
    · exact S.free
    · exact S.otherSlot
    · intro kr hkr
      show kr.2.seq ≤ u32 (X.maxSeq + 1)
      have := S.maxSeq kr (hmemX kr hkr)
      rw [hds]; omega

/-- NewDBExt (non-volatile, LoadData) on a readable directory with a well-formed log satisfies the invariants -/
theorem open_inv3 (F : FS) (opts : Opts) (E : List LogEntry) (hE : ∀ e ∈ E, EntryFits e)
    (hlog : LogState F (snapVer F) E) (hsv : snapVer F < 2^32) (hR : DirReadable eg F)
    (hmax : (openIndex { fs := F, volatile := false, opts := opts, eager := eg }).maxSeq + 1 < 2^32) :
    Inv3 (openDB F false true opts eg) := by
  have S := open_state (eg := eg) F false opts E hE hlog hsv
  obtain ⟨hload, h3⟩ := inv3_of_openState F _ S E hE hlog hsv hR hmax (openIndex_eager F false opts)
  rw [openDB_of_loadAll rfl hload]
  exact h3

end GocoinV.Proofs.C19
