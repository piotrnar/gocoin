/-
  Proofs.C19Order — the order in which writedatfile iterates the index map (Go's map order; list order in the model)
  does not matter to what `loaddat`'s loop (the snapshot reader inside NewDBExt) rebuilds from the snapshot: every key
  gets the same record. The data writes of sync() / defrag() are not treated here.
-/
import GocoinV.Proofs.C19Open
import GocoinV.Proofs.C19Layout
import GocoinV.Proofs.C19ReopenRun
namespace GocoinV.Proofs.C19
open GocoinV GocoinV.Qdb

theorem ilookup_perm {α : Type} (l l' : List (Key × α)) (hp : l.Perm l') (hnd : (Keys l).Nodup) (k : Key) :
    ilookup k l' = ilookup k l := by
  have hnd' : (Keys l').Nodup := (hp.map _).nodup_iff.mp hnd
  cases h : ilookup k l with
  | some x =>
    exact ilookup_of_mem_nodup l' hnd' k x (hp.mem_iff.mp (ilookup_key_pair k x l h))
  | none =>
    apply ilookup_none_of_not_mem
    intro hk
    have : k ∈ Keys l := (hp.map _).mem_iff.mpr hk
    have := (ilookup_isSome_iff k l).mpr this
    rw [h] at this
    cases this

theorem loaddat_order (ver : Nat) (recs recs' : List (Key × Rec)) (hp : recs.Perm recs') (hnd : (Keys recs).Nodup)
    (hfit : ∀ kr ∈ recs, RecFits kr.1 kr.2) (db : DB) (hdb : db.index = []) (k : Key) :
    ilookup k (memputAll db (snapshotRecs (snapBytes ver recs'))).index =
    ilookup k (memputAll db (snapshotRecs (snapBytes ver recs))).index := by
  have hfit' : ∀ kr ∈ recs', RecFits kr.1 kr.2 := fun kr h => hfit kr (hp.mem_iff.mpr h)
  rw [snapshotRecs_snapBytes ver recs hfit, snapshotRecs_snapBytes ver recs' hfit']
  have hk : ∀ l : List (Key × Rec), Keys (l.map fun kr => (kr.1, strip kr.2)) = Keys l := by
    intro l; simp [Keys, List.map_map, Function.comp_def]
  have e : ∀ l : List (Key × Rec), (Keys l).Nodup →
      (memputAll db (l.map fun kr => (kr.1, strip kr.2))).index = l.map fun kr => (kr.1, strip kr.2) := by
    intro l hl
    rw [memputAll_index _ db (by rw [hdb, List.map_nil, List.nil_append]; exact ((hk l).symm ▸ hl : (Keys _).Nodup)), hdb, List.nil_append]
  rw [e _ hnd, e _ ((hp.map _).nodup_iff.mp hnd)]
  exact ilookup_perm _ _ (hp.map _) (by rw [hk]; exact hnd) k
end GocoinV.Proofs.C19
