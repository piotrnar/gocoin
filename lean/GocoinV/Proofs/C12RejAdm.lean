/-
  Proofs.C12RejAdm — Props/C12 `reject_index_inv`: in a live state with the pool invariant (as the histories of `pool_inv` reach them)
  the side condition `UndoOK` of `step_rejInv` follows from the already proved pool invariant (nothing pooled
  is confirmed), given that the transactions of one block have pairwise different BIDX.  Core Lean only.
-/
import GocoinV.Proofs.C12RejPanic
namespace GocoinV.Mempool

/-- every connected block has transactions with pairwise different BIDX -/
def UndoDist (K : Keys) (s : State) : Prop := ∀ e ∈ s.undo, (e.1.map fun t => K.bidx t.id).Nodup

/-- every block operation of the history brings transactions with pairwise different BIDX (for txids of `W` this is
    "pairwise different txids", `Univ.bidx_inj`) -/
def BlocksDistinct (K : Keys) (ops : List Op) : Prop :=
  ∀ op ∈ ops, ∀ h txs mf, op = Op.block h txs mf → (txs.map fun t => K.bidx t.id).Nodup

theorem step_sticky (K : Keys) (s : State) (op : Op) (hp : s.panicked = true) : (step K s op).panicked = true :=
  (step_env K s op).sticky <| Op.chain_cases (P := fun _ s' => s'.panicked = true) s
    (fun h txs _ => by rw [(connectUtxo_fields s h txs).2.2.2.1]; exact hp)
    (fun _ _ s' txs hd => by rw [(disconnectUtxo_fields s s' txs hd).2.2.1]; exact hp) (fun _ => hp) op

theorem step_undoDist (K : Keys) (s : State) (op : Op) (h : UndoDist K s)
    (hb : ∀ hh txs mf, op = Op.block hh txs mf → (txs.map fun t => K.bidx t.id).Nodup) : UndoDist K (step K s op) := by
  have hc : UndoDist K (op.chain s) := by
    revert hb
    refine Op.chain_cases (P := fun op s' => (∀ hh txs mf, op = Op.block hh txs mf →
        (txs.map fun t => K.bidx t.id).Nodup) → UndoDist K s') s
      (fun hh txs mf hb e he => ?_) (fun _ _ s' txs hd _ e he => ?_) (fun _ _ => h) op
    · obtain ⟨sc, hsc⟩ := (connectUtxo_fields s hh txs).2.2.2.2
      rw [hsc] at he
      rcases List.mem_cons.mp he with e1 | e1
      · rw [e1]; exact hb hh txs mf rfl
      · exact h e e1
    · obtain ⟨sc, hsc⟩ := (disconnectUtxo_fields s s' txs hd).2.2.2
      exact h e (by rw [hsc]; exact List.mem_cons_of_mem _ he)
  intro e he
  exact hc e (by rw [← (step_env K s op).undo]; exact he)

variable {K : Keys} {W : Tx → Prop} {rank : TxId → Nat} {u0 : UT} {ν : OutPoint → Nat}

/-- in a live state that satisfies the pool invariant no transaction of the last connected block is pooled, so
    BlockUndone meets each of them un-pooled -/
theorem undoOK_of_full (U : Univ2 K W rank u0 ν) (s : State) (op : Op) (h : Full K W u0 ν s)
    (alive : s.panicked = false)
    (hd : UndoDist K s) : UndoOK K s op := by
  cases op with
  | undo uh mf =>
    intro s' txs hdis
    obtain ⟨e1, _, _, sc, e5⟩ := disconnectUtxo_fields s s' txs hdis
    have hmem : (txs, sc) ∈ s.undo := by rw [e5]; exact List.mem_cons_self
    apply undoFresh_of_nodup K mf txs s' (hd (txs, sc) hmem)
    intro t ht
    rw [e1]
    refine Option.eq_none_iff_forall_ne_some.mpr fun x hx => ?_
    have g := h.good alive
    have hxW := h.inv.poolW _ x hx
    have htW := h.inv.undoW (txs, sc) hmem t ht
    have hid : x.tx.id = t.id := U.base.bidx_inj x.tx t hxW htW (h.inv.str.key _ x hx)
    apply g.w.ncf _ x hx
    rw [hid]
    exact Or.inr ⟨(txs, sc), hmem, t, ht, rfl⟩
  | _ => trivial

end GocoinV.Mempool
