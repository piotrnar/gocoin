/-
  Proofs.C04Abs — the abstraction DB → (OutPoint ⇀ Coin): association-list facts, the well-formedness `WF` of a record
  map, and `aGet (absList db) = absGet db` for a well-formed map. What `UnspentDB.del` / `do_add` (dbDel / dbAdd,
  applyChanges) do to `absGet` is in C04Apply.
-/
import GocoinV.Proofs.C04Basic
namespace GocoinV.Proofs.C04
open GocoinV GocoinV.Connect
open GocoinV.Spec.Connect (Coin Utxo absGet absList recCoins)

def keys {κ β : Type} (l : List (κ × β)) : List κ := l.map Prod.fst

section
variable {κ β : Type} [DecidableEq κ] (l : List (κ × β)) (k : κ) (v : β)

theorem aGet_none_iff : aGet l k = none ↔ k ∉ keys l := by
  rw [aGet_eq]; exact Assoc.lookup_eq_none_iff l k

theorem aGet_mem (h : aGet l k = some v) : (k, v) ∈ l := Assoc.mem_of_lookup (aGet_eq l k ▸ h)

theorem aSet_keys : keys (aSet l k v) = if k ∈ keys l then keys l else keys l ++ [k] := by
  rw [aSet_eq]; exact Assoc.keys_insert l k v

theorem aSet_keys_nodup (h : (keys l).Nodup) : (keys (aSet l k v)).Nodup := by
  rw [aSet_eq]; exact Assoc.nodup_insert k v h

end

theorem aGet_of_mem_nodup {κ β : Type} [DecidableEq κ] (l : List (κ × β)) (k : κ) (v : β)
    (hn : (keys l).Nodup) (hm : (k, v) ∈ l) : aGet l k = some v := by
  rw [aGet_eq]; exact Assoc.lookup_of_mem_nodup hn hm

/-- the coin that output `o` of record `r` stands for -/
def recCoin (mtpOf : Nat → Nat) (r : Rec) (o : TxOut) : Coin := ⟨o.value, o.script, r.height, r.coinbase, mtpOf r.height⟩

/-- the coins of a record, by vout -/
def recGet (mtpOf : Nat → Nat) (r : Rec) (v : Nat) : Option Coin := (r.outs.getD v none).map (recCoin mtpOf r)

theorem absGet_eq (mtpOf : Nat → Nat) (db : DB) (op : OutPoint) :
    absGet mtpOf db op =
      match aGet db (key8 op.hash) with
      | none => none
      | some r => if r.txid = op.hash then recGet mtpOf r op.vout else none := by
  rfl

/-- well-formedness of the record map: every record is filed under the key of its txid, and (being a Go map) keys
    are unique -/
structure WF (db : DB) : Prop where
  filed : ∀ kr ∈ db, kr.1 = key8 kr.2.txid
  nodup : (keys db).Nodup

theorem aGet_append {κ β : Type} [DecidableEq κ] (l1 l2 : List (κ × β)) (k : κ) :
    aGet (l1 ++ l2) k = match aGet l1 k with | some v => some v | none => aGet l2 k := by
  simp only [aGet_eq]; exact Assoc.lookup_append l1 l2 k

theorem aGet_recCoins (mtpOf : Nat → Nat) (r : Rec) (outs : List (Option TxOut)) (i : Nat) (op : OutPoint) :
    aGet (recCoins mtpOf r outs i) op =
      if r.txid = op.hash ∧ i ≤ op.vout then (outs.getD (op.vout - i) none).map (recCoin mtpOf r) else none := by
  induction outs generalizing i with
  | nil => simp [recCoins, aGet]
  | cons o t ih =>
    cases o with
    | none =>
      simp only [recCoins, ih]
      by_cases h1 : r.txid = op.hash
      · by_cases h2 : i + 1 ≤ op.vout
        · have h3 : i ≤ op.vout := by omega
          have h4 : op.vout - i = (op.vout - (i + 1)) + 1 := by omega
          simp only [h1, h2, h3, and_self, ↓reduceIte]
          rw [h4, List.getD_cons_succ]
        · by_cases h3 : i ≤ op.vout
          · have h4 : op.vout - i = 0 := by omega
            simp [h1, h2, h3, h4]
          · simp [h1, h2, h3]
      · simp [h1]
    | some o =>
      simp only [recCoins, aGet, ih]
      by_cases h0 : (⟨r.txid, i⟩ : OutPoint) = op
      · subst h0
        simp [recCoin]
      · simp only [h0, ↓reduceIte]
        by_cases h1 : r.txid = op.hash
        · have hne : i ≠ op.vout := by
            intro hi; apply h0; cases op; simp_all
          by_cases h2 : i + 1 ≤ op.vout
          · have h3 : i ≤ op.vout := by omega
            have h4 : op.vout - i = (op.vout - (i + 1)) + 1 := by omega
            simp only [h1, h2, h3, and_self, ↓reduceIte]
            rw [h4, List.getD_cons_succ]
          · have h3 : ¬ i ≤ op.vout := by omega
            simp [h1, h2, h3]
        · simp [h1]

theorem aGet_absList_none (mtpOf : Nat → Nat) (db : DB) (op : OutPoint) (h : ∀ kr ∈ db, kr.2.txid ≠ op.hash) :
    aGet (absList mtpOf db) op = none := by
  induction db with
  | nil => simp [absList, aGet]
  | cons kr rest ih =>
    have h1 : kr.2.txid ≠ op.hash := h kr (by simp)
    have h2 := ih (fun x hx => h x (List.mem_cons_of_mem _ hx))
    unfold absList at h2 ⊢
    simp only [List.flatMap_cons, aGet_append, aGet_recCoins, h1, false_and, ↓reduceIte, h2]

theorem aGet_absList (mtpOf : Nat → Nat) (db : DB) (hw : WF db) (op : OutPoint) :
    aGet (absList mtpOf db) op = absGet mtpOf db op := by
  induction db with
  | nil => simp [absList, aGet, absGet]
  | cons kr rest ih =>
    obtain ⟨k, r⟩ := kr
    have hk : k = key8 r.txid := hw.filed (k, r) (by simp)
    have hn := hw.nodup
    simp only [keys, List.map_cons, List.nodup_cons] at hn
    have hw' : WF rest := ⟨fun x hx => hw.filed x (List.mem_cons_of_mem _ hx), hn.2⟩
    have ih' := ih hw'
    -- a record of the rest with this txid would be filed under the same key
    have hnone : k = key8 op.hash → aGet (absList mtpOf rest) op = none := fun hkk =>
      aGet_absList_none mtpOf rest op fun x hx hxe => hn.1 (List.mem_map.mpr ⟨x, hx, by
        rw [hw.filed x (List.mem_cons_of_mem _ hx), hxe, hkk]⟩)
    rw [absGet_eq] at ih' ⊢
    unfold absList at ih' hnone ⊢
    simp only [List.flatMap_cons, aGet_append, aGet_recCoins, Nat.zero_le, and_true, Nat.sub_zero, aGet]
    by_cases h1 : r.txid = op.hash
    · have hkk : k = key8 op.hash := by rw [hk, h1]
      simp only [h1, ↓reduceIte, hkk, recGet]
      cases hg : (r.outs.getD op.vout none).map (recCoin mtpOf r) with
      | some c => rfl
      | none => simp [hnone hkk]
    · simp only [h1, ↓reduceIte]
      by_cases hkk : k = key8 op.hash
      · simp only [hkk, ↓reduceIte, h1]; exact hnone hkk
      · simp only [hkk, ↓reduceIte]; exact ih'

theorem WF.free {db : DB} (hw : WF db) {txid : Bytes} (h : ∀ kr ∈ db, key8 kr.2.txid ≠ key8 txid) :
    aGet db (key8 txid) = none := by
  refine (aGet_none_iff db _).mpr fun hk => ?_
  obtain ⟨kr, hkr, e⟩ := List.mem_map.mp hk
  exact h kr hkr (by rw [← hw.filed kr hkr, e])

end GocoinV.Proofs.C04
