/-
  Proofs.C15Segwit — `SegwitEncode` then `SegwitDecode` (lib/others/bech32/segwit.go), assembled from the Bech32 round
  trip and the convert_bits round trip; and what `SegwitDecode` accepts, read off its guards.
-/
import GocoinV.Proofs.C15ConvSegwit
import GocoinV.Proofs.C15Bech32Loops
namespace GocoinV.Bech32

theorem segwitEncode_some {hrp prog s : Bytes} {v : Nat} (h : segwitEncode hrp v prog = some s) :
    v ≤ 16 ∧ (v = 0 → prog.length = 20 ∨ prog.length = 32) ∧ 2 ≤ prog.length ∧ prog.length ≤ 40 ∧
    ∃ d, convertBits 5 prog 8 true = some d ∧ encode hrp (UInt8.ofNat v :: d) (decide (v > 0)) = some s := by
  unfold segwitEncode at h
  split at h; · simp at h
  split at h; · simp at h
  split at h; · simp at h
  split at h
  · simp at h
  · rename_i d hd
    exact ⟨by omega, by omega, by omega, by omega, d, hd, h⟩

theorem segwit_decode_encode (hrp prog s : Bytes) (v : Nat)
    (h : segwitEncode hrp v prog = some s) : segwitDecode hrp s = .ok (v, prog) := by
  obtain ⟨hv, hv0, hl2, hl40, d, hd, he⟩ := segwitEncode_some h
  have hne : hrp ≠ [] := ((encode_isSome_iff _ _ _).mp (by rw [he]; rfl)).1
  obtain ⟨_, p, hp, hlen, _⟩ := convertBits_85_spec prog d hd
  have hrt := convertBits_roundtrip prog d hd
  have hvn : (UInt8.ofNat v).toNat = v := ofNat_toNat_small v (by omega)
  have hz : UInt8.ofNat v = 0 ↔ v = 0 := by rw [← UInt8.toNat_inj, hvn]; rfl
  have hemp : hrp.isEmpty = false := List.isEmpty_eq_false_iff.mpr hne
  have hpe : prog.isEmpty = false := List.isEmpty_eq_false_iff.mpr (List.ne_nil_of_length_pos (by omega))
  unfold segwitDecode
  rw [decode_encode hrp _ s _ he]
  simp only [hemp, List.length_cons, hvn, hrt, hpe]
  have c1 : ¬ (false = true ∨ d.length + 1 > 65) := fun hc => hc.elim Bool.noConfusion (by omega)
  have c3 : ¬ (v > 16) := by omega
  have c4 : ¬ (UInt8.ofNat v = 0 ∧ decide (v > 0) = true) := fun hc =>
    Nat.ne_of_gt (of_decide_eq_true hc.2) (hz.mp hc.1)
  have c5 : ¬ (UInt8.ofNat v ≠ 0 ∧ (!decide (v > 0)) = true) := fun hc =>
    hc.1 (hz.mpr (Nat.eq_zero_of_not_pos (of_decide_eq_false ((Bool.not_eq_true' _).mp hc.2))))
  have c7 : ¬ (prog.length < 2 ∨ prog.length > 40) := by omega
  have c8 : ¬ (UInt8.ofNat v = 0 ∧ prog.length ≠ 20 ∧ prog.length ≠ 32) := fun hc =>
    (hv0 (hz.mp hc.1)).elim hc.2.1 hc.2.2
  rw [if_neg c1, if_neg (not_not_intro rfl), if_neg c3, if_neg c4, if_neg c5, if_neg Bool.false_ne_true, if_neg c7, if_neg c8]

/-- what `SegwitDecode` accepts, read off its guards one by one -/
theorem segwitDecode_ok {hrp s p : Bytes} {v : Nat} (h : segwitDecode hrp s = .ok (v, p)) :
    ∃ d0 rest m, decode s = some (hrp, d0 :: rest, m) ∧ d0.toNat = v ∧ v ≤ 16 ∧ (m = true ↔ v ≠ 0) ∧
      convertBits 8 rest 5 false = some p ∧ 2 ≤ p.length ∧ p.length ≤ 40 ∧
      (v = 0 → p.length = 20 ∨ p.length = 32) := by
  unfold segwitDecode at h
  cases hdec : decode s with
  | none => rw [hdec] at h; cases h
  | some r =>
    obtain ⟨hrpA, data, m⟩ := r
    rw [hdec] at h
    cases data with
    | nil => cases h
    | cons d0 rest =>
      dsimp only at h
      by_cases c1 : hrpA.isEmpty ∨ (d0 :: rest).length > 65
      · rw [if_pos c1] at h; cases h
      rw [if_neg c1] at h
      by_cases c2 : hrp ≠ hrpA
      · rw [if_pos c2] at h; cases h
      rw [if_neg c2] at h
      by_cases c3 : d0.toNat > 16
      · rw [if_pos c3] at h; cases h
      rw [if_neg c3] at h
      by_cases c4 : d0 = 0 ∧ m
      · rw [if_pos c4] at h; cases h
      rw [if_neg c4] at h
      by_cases c5 : d0 ≠ 0 ∧ !m
      · rw [if_pos c5] at h; cases h
      rw [if_neg c5] at h
      cases hw : convertBits 8 rest 5 false with
      | none => rw [hw] at h; cases h
      | some w =>
        rw [hw] at h
        dsimp only at h
        by_cases c6 : w.isEmpty
        · rw [if_pos c6] at h; cases h
        rw [if_neg c6] at h
        by_cases c7 : w.length < 2 ∨ w.length > 40
        · rw [if_pos c7] at h; cases h
        rw [if_neg c7] at h
        by_cases c8 : d0 = 0 ∧ w.length ≠ 20 ∧ w.length ≠ 32
        · rw [if_pos c8] at h; cases h
        rw [if_neg c8] at h
        obtain ⟨rfl, rfl⟩ : d0.toNat = v ∧ w = p := by simpa using h
        obtain rfl : hrp = hrpA := Classical.not_not.mp c2
        have d0z : d0.toNat = 0 ↔ d0 = 0 := by rw [← UInt8.toNat_inj]; rfl
        refine ⟨d0, rest, m, rfl, rfl, by omega, ?_, hw, by omega, by omega, fun e => ?_⟩
        · rw [ne_eq, d0z]
          cases m <;> simp_all
        · have : ¬ (w.length ≠ 20 ∧ w.length ≠ 32) := fun h2 => c8 ⟨d0z.mp e, h2⟩
          omega

theorem segwitDecode_same_variant {hrp s s' p p' : Bytes} {v v' : Nat} (hvv : v = 0 ↔ v' = 0)
    (h : segwitDecode hrp s = .ok (v, p)) (h' : segwitDecode hrp s' = .ok (v', p')) :
    ∃ d d' m, decode s = some (hrp, d, m) ∧ decode s' = some (hrp, d', m) := by
  obtain ⟨_, _, m, hdec, _, _, hm, _⟩ := segwitDecode_ok h
  obtain ⟨_, _, m', hdec', _, _, hm', _⟩ := segwitDecode_ok h'
  have : m = m' := by rw [Bool.eq_iff_iff, hm, hm']; exact not_congr hvv
  exact ⟨_, _, m, hdec, this ▸ hdec'⟩

end GocoinV.Bech32
