/-
  Proofs.C10Undo — spend / undo on records (Model/UtxoUndo.lean) and the loader's ring of pack buffers.
  Core tactics only.
-/
import GocoinV.Model.UtxoUndo
import GocoinV.Proofs.C10Rec
namespace GocoinV.UtxoRec

theorem spendOuts_length : ∀ (m : List Bool) (o : List (Option Out)), (spendOuts m o).length = o.length
  | [], _ => by cases ‹List (Option Out)› <;> rfl
  | _ :: _, [] => rfl
  | _ :: ms, _ :: os => by simp [spendOuts, spendOuts_length ms os]

theorem mergeOuts_nil_left (o : List (Option Out)) : mergeOuts [] o = some [] := by
  cases o <;> rfl

theorem mergeOuts_none_self : ∀ (o : List (Option Out)), mergeOuts (o.map fun _ => none) o = some o
  | [] => rfl
  | x :: os => by simp [mergeOuts, mergeOuts_none_self os]

theorem mergeOuts_undo_spend : ∀ (m : List Bool) (o : List (Option Out)),
    mergeOuts (undoOuts m o) (spendOuts m o) = some o
  | [], o => by
    cases o with
    | nil => rfl
    | cons x os => simpa [undoOuts, spendOuts] using mergeOuts_none_self (x :: os)
  | _ :: _, [] => rfl
  | b :: ms, x :: os => by
    cases b <;> cases x <;> simp [undoOuts, spendOuts, mergeOuts, mergeOuts_undo_spend ms os]

theorem undo_restores_rec (mask : List Bool) (r : Rec) :
    mergeUndo (undoOf mask r) (some (spend mask r)) = some r := by
  simp [mergeUndo, undoOf, spend, mergeOuts_undo_spend]

/-- nothing live is left (the record is deleted from the map): the undo record alone is the original -/
theorem undoOuts_of_all_spent : ∀ (m : List Bool) (o : List (Option Out)),
    anyOut (spendOuts m o) = false → undoOuts m o = o
  | [], o => by
    intro h
    have : ∀ l : List (Option Out), anyOut l = false → (l.map fun _ => (none : Option Out)) = l := fun l hl => by
      simp only [anyOut, List.any_eq_false, Option.not_isSome_iff_eq_none] at hl
      exact (List.map_congr_left fun x hx => (hl x hx).symm).trans (List.map_id l)
    cases o with
    | nil => rfl
    | cons x os => simpa [undoOuts] using this (x :: os) (by simpa [spendOuts] using h)
  | _ :: _, [] => fun _ => rfl
  | b :: ms, x :: os => by
    intro h
    cases b <;> cases x <;> simp [spendOuts, anyOut] at h <;>
      simp [undoOuts, undoOuts_of_all_spent ms os (by simpa [anyOut] using h)]

theorem mem_spendOuts (m : List Bool) : ∀ (o : List (Option Out)) (x : Out), some x ∈ spendOuts m o → some x ∈ o := by
  induction m with
  | nil => intro o x h; cases o <;> exact h
  | cons b ms ih =>
    intro o x h
    cases o with
    | nil => exact h
    | cons y os =>
      simp only [spendOuts, List.mem_cons] at h ⊢
      rcases h with h | h
      · cases b
        · exact .inl (by simpa using h)
        · simp at h
      · exact .inr (ih os x h)

theorem OutFmt.WFRec.of_spend {F : OutFmt} {r : Rec} (h : F.WFRec r) (mask : List Bool) : F.WFRec (spend mask r) :=
  ⟨h.txid, h.height, by simpa [spend, spendOuts_length] using h.count,
    fun x hx => h.outs x (mem_spendOuts mask r.outs x hx)⟩

/-- byte level, either format: the partly spent record as stored decodes, and the merge of the undo record with it
    serialises to the bytes of the original record -/
theorem undo_restores_bytes (F : OutFmt) (mask : List Bool) (r : Rec) (h : F.WFRec r) (b : Bytes)
    (hs : F.ser (spend mask r) = some b) :
    ∃ old, Model.BalancesLoad.genRec F.P b = .ok old ∧ (mergeUndo (undoOf mask r) (some old)).bind F.ser = F.ser r :=
  ⟨spend mask r, genRec_ser F _ (h.of_spend mask) b hs, by rw [undo_restores_rec]; rfl⟩

/-! ### ring of pack buffers -/

/-- the reader runs ahead of a consumer that is walking its first pack until the channel is full -/
theorem ringReach_fill (c : Nat) (hc : 1 ≤ c) : ∀ n, n ≤ c → RingReach c ⟨n + 1, 1, 0⟩
  | 0, _ => .step (.step .init (.send ⟨0, 0, 0⟩ hc)) (.recv ⟨1, 0, 0⟩ (Nat.lt_succ_self 0) rfl)
  | n + 1, h => .step (ringReach_fill c hc n (by omega)) (.send ⟨n + 1, 1, 0⟩ (by simp only; omega))

theorem ring_inv (C : Nat) {s : Ring} (h : RingReach C s) :
    s.done ≤ s.recv ∧ s.recv ≤ s.done + 1 ∧ s.recv ≤ s.sent ∧ s.sent - s.recv ≤ C := by
  induction h with
  | init => exact ⟨Nat.le_refl _, Nat.le_succ _, Nat.le_refl _, Nat.zero_le _⟩
  | step _ st ih =>
    obtain ⟨i1, i2, i3, i4⟩ := ih
    cases st <;> dsimp only <;> omega

theorem ring_safe_of (B C : Nat) (hBC : C + 2 ≤ B) {s : Ring} (h : RingReach C s) : s.Safe B := by
  obtain ⟨h1, h2, h3, h4⟩ := ring_inv C h
  intro j hj1 hj2
  exact mod_ne j s.sent B (by omega) (by omega)

end GocoinV.UtxoRec
