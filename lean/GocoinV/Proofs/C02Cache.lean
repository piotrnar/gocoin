/-
  Proofs.C02Cache — the cache invariant of Model.SigHash: a filled field of TxVerVars holds the value
  a fresh computation would give; every digest request preserves that and its result does not depend
  on which fields are filled.
-/
import GocoinV.Model.SigHash
namespace GocoinV.SigHash
open GocoinV.Wire (Tx TxIn TxOut)

theorem lazyGet_eq {α : Type} (cur : Option α) (v : α) (h : ∀ x, cur = some x → x = v) :
    lazyGet cur v = (v, some v) := by
  cases cur with
  | none => rfl
  | some x => simp [lazyGet, h x rfl]

/-- "a filled field equals the value computed from this transaction" -/
structure Cache.OK (H : Bytes → Bytes) (tx : Tx) (spent : List TxOut) (c : Cache) : Prop where
  prevouts : ∀ h, c.hashPrevouts = some h → h = H (H (prevoutsBytes tx))
  sequence : ∀ h, c.hashSequence = some h → h = H (H (sequencesBytes tx))
  outputs : ∀ h, c.hashOutputs = some h → h = H (H (outputsBytes tx))
  tapSingle : ∀ t, c.tapSingle = some t → t = (tapSingleFill H tx spent).2
  tapOut : ∀ h, c.tapOutSingle = some h → h = H (outputsBytes tx)

theorem Cache.OK_empty (H : Bytes → Bytes) (tx : Tx) (spent : List TxOut) : Cache.OK H tx spent {} := by
  constructor <;> intro _ h <;> cases h

/-- a field read through `lazyGet` under a condition (and left alone otherwise): what it holds afterwards is still
    the computed value, and the value read does not depend on what it held -/
theorem lazyGet_ok {α : Type} {p : Prop} [Decidable p] {cur : Option α} {v : α} {e : α × Option α}
    (h : ∀ x, cur = some x → x = v) (he : e.2 = cur) : ∀ x, (if p then lazyGet cur v else e).2 = some x → x = v := by
  intro x
  split
  · rw [lazyGet_eq _ _ h]; intro e; cases e; rfl
  · rw [he]; exact h x

theorem lazyGet_fst {α : Type} {p : Prop} [Decidable p] {cur : Option α} {v : α} {e : α × Option α}
    (h : ∀ x, cur = some x → x = v) : (if p then lazyGet cur v else e).1 = if p then v else e.1 := by
  split
  · rw [lazyGet_eq _ _ h]
  · rfl

theorem witnessSigHash_cache (H : Bytes → Bytes) (tx : Tx) (spent : List TxOut) (c : Cache)
    (hc : Cache.OK H tx spent c) (sc : Bytes) (amount nIn ht : Nat) :
    (witnessSigHash H tx c sc amount nIn ht).1 = (witnessSigHash H tx {} sc amount nIn ht).1
    ∧ Cache.OK H tx spent (witnessSigHash H tx c sc amount nIn ht).2 := by
  have h0 := Cache.OK_empty H tx spent
  unfold witnessSigHash
  constructor
  · cases tx.ins[nIn]? with
    | none => rfl
    | some i =>
      simp only [lazyGet_fst hc.prevouts, lazyGet_fst hc.sequence, lazyGet_fst hc.outputs,
        lazyGet_fst h0.prevouts, lazyGet_fst h0.sequence, lazyGet_fst h0.outputs]
      -- what is left is the SIGHASH_SINGLE branch, which reads no cached field
      by_cases h3 : ht &&& 31 = 3
      · simp only [h3, ↓reduceIte]; cases tx.outs[nIn]? <;> rfl
      · simp only [h3, ↓reduceIte]
  · cases tx.ins[nIn]? <;>
      exact ⟨lazyGet_ok hc.prevouts rfl, lazyGet_ok hc.sequence rfl,
        lazyGet_ok hc.outputs (by split; split <;> rfl; rfl), hc.tapSingle, hc.tapOut⟩

theorem tapSingleFill_fst (H : Bytes → Bytes) (tx : Tx) (spent : List TxOut) (hs : tx.ins.length ≤ spent.length) :
    (tapSingleFill H tx spent).1 = some (tapSingleFill H tx spent).2 := by
  unfold tapSingleFill
  have : ¬ spent.length < tx.ins.length := by omega
  simp [this]

theorem tapSingleGet_eq (H : Bytes → Bytes) (tx : Tx) (spent : List TxOut) (c : Cache)
    (hs : tx.ins.length ≤ spent.length) (hc : Cache.OK H tx spent c) :
    tapSingleGet H tx spent c =
      (some (tapSingleFill H tx spent).2, { c with tapSingle := some (tapSingleFill H tx spent).2 }) := by
  unfold tapSingleGet
  cases h : c.tapSingle with
  | none => simp [tapSingleFill_fst H tx spent hs]
  | some t =>
    cases hc.tapSingle t h
    cases c; simp_all

/-- `hs`: at least one spent output per input (every caller provides exactly one) -/
theorem taprootSigHash_cache (fixed : Bool) (H : Bytes → Bytes) (tx : Tx) (spent : List TxOut) (c : Cache)
    (hs : tx.ins.length ≤ spent.length)
    (hc : Cache.OK H tx spent c) (ed : ExecData) (inPos ht : Nat) (script : Bool) :
    (taprootSigHash fixed H tx spent c ed inPos ht script).1 = (taprootSigHash fixed H tx spent {} ed inPos ht script).1
    ∧ Cache.OK H tx spent (taprootSigHash fixed H tx spent c ed inPos ht script).2 := by
  unfold taprootSigHash
  simp only [tapSingleGet_eq H tx spent c hs hc, tapSingleGet_eq H tx spent {} hs (Cache.OK_empty H tx spent)]
  by_cases hv : (ht ≤ 0x03 ∨ (0x81 ≤ ht ∧ ht ≤ 0x83))
  · simp only [hv, not_true_eq_false, ↓reduceIte]
    by_cases hi : ht &&& 0x80 = 0x80
    · simp only [hi, ne_eq, not_true_eq_false, ↓reduceIte, lazyGet_eq _ _ hc.tapOut,
        lazyGet_eq _ _ (Cache.OK_empty H tx spent).tapOut]
      by_cases ho : (if ht = 0 then 1 else ht &&& 3) = 1
      · simp only [ho, ↓reduceIte]
        exact ⟨trivial, { hc with tapOut := by intro t h; cases h; rfl }⟩
      · simp only [ho, ↓reduceIte]
        exact ⟨trivial, hc⟩
    · simp only [hi, ne_eq, not_false_eq_true, ↓reduceIte, Option.map_some, lazyGet_eq _ _ hc.tapOut,
        lazyGet_eq _ _ (Cache.OK_empty H tx spent).tapOut]
      by_cases ho : (if ht = 0 then 1 else ht &&& 3) = 1
      · simp only [ho, ↓reduceIte]
        exact ⟨trivial, { hc with tapSingle := by intro t h; cases h; rfl, tapOut := by intro t h; cases h; rfl }⟩
      · simp only [ho, ↓reduceIte]
        exact ⟨trivial, { hc with tapSingle := by intro t h; cases h; rfl }⟩
  · simp only [hv, not_false_eq_true, ↓reduceIte]
    exact ⟨trivial, hc⟩

theorem step_cache (fixed : Bool) (H : Bytes → Bytes) (tx : Tx) (spent : List TxOut) (c : Cache)
    (hs : tx.ins.length ≤ spent.length) (hc : Cache.OK H tx spent c) (k : Call) :
    (step fixed H tx spent c k).1 = (step fixed H tx spent {} k).1
    ∧ Cache.OK H tx spent (step fixed H tx spent c k).2 := by
  cases k with
  | leg sc nIn ht => exact ⟨rfl, hc⟩
  | wit sc am nIn ht => exact witnessSigHash_cache H tx spent c hc sc am nIn ht
  | tap ed p ht s => exact taprootSigHash_cache fixed H tx spent c hs hc ed p ht s

theorem runCalls_cache (fixed : Bool) (H : Bytes → Bytes) (tx : Tx) (spent : List TxOut)
    (hs : tx.ins.length ≤ spent.length) (calls : List Call) :
    ∀ c, Cache.OK H tx spent c →
      (runCalls fixed H tx spent c calls).1 = calls.map fun k => (step fixed H tx spent {} k).1 := by
  induction calls with
  | nil => intro c _; rfl
  | cons k ks ih =>
    intro c hc
    have h := step_cache fixed H tx spent c hs hc k
    simp only [runCalls, List.map_cons, h.1, ih _ h.2]
end GocoinV.SigHash
