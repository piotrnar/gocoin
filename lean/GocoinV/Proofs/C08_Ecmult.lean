/-
  Proofs.C08_Ecmult — the scalars of `XYZ.ECmult` (lib/secp256k1/num.go, xyz.go): `Number.split_exp` (GLV) is sound
  modulo n with both halves below 2^128 in absolute value, and each of the four wNAF expansions `ECmult` makes fits its
  129 slots (`ecmult_wnafs`, from `wnaf_ok` and `splitExp_bound`).
-/
import GocoinV.Proofs.C08_Wnaf
import GocoinV.Model.GroupNum
namespace GocoinV.C08
open GocoinV.Gen

theorem splitExp_sound (a : Int) :
    ((splitExp a).1 + (splitExp a).2 * (CurveConsts.lambda : Int) - a) % (CurveConsts.order : Int) = 0 := by
  unfold splitExp
  simp only [CurveConsts.order, CurveConsts.a1b2, CurveConsts.b1, CurveConsts.a2, CurveConsts.lambda, Int.shiftRight_eq_div_pow]
  omega

theorem split_core (a c1 c2 : Int)
    (h1 : c1 = (a * 64502973549206556628585045361533709077 + 57896044618658097711785492504343953926418782139537452191302581570759080747168) / 115792089237316195423570985008687907852837564279074904382605163141518161494337)
    (h2 : c2 = (a * 303414439467246543595250775667605759171 + 57896044618658097711785492504343953926418782139537452191302581570759080747168) / 115792089237316195423570985008687907852837564279074904382605163141518161494337) :
    -340282366920938463463374607431768211456 < a - (c1 * 64502973549206556628585045361533709077 + c2 * 367917413016453100223835821029139468248) ∧
    a - (c1 * 64502973549206556628585045361533709077 + c2 * 367917413016453100223835821029139468248) < 340282366920938463463374607431768211456 ∧
    -340282366920938463463374607431768211456 < c1 * 303414439467246543595250775667605759171 - c2 * 64502973549206556628585045361533709077 ∧
    c1 * 303414439467246543595250775667605759171 - c2 * 64502973549206556628585045361533709077 < 340282366920938463463374607431768211456 := by
  omega

theorem splitExp_bound (a : Int) :
    -340282366920938463463374607431768211456 < (splitExp a).1 ∧ (splitExp a).1 < 340282366920938463463374607431768211456 ∧
    -340282366920938463463374607431768211456 < (splitExp a).2 ∧ (splitExp a).2 < 340282366920938463463374607431768211456 :=
  split_core a _ _ rfl rfl

/-- the four wNAF expansions `XYZ.ECmult` makes — the λ-split halves of na, the 128-bit halves of ng — all fit -/
theorem ecmult_wnafs (na : Int) (ng : Nat) (hng : ng < 2 ^ 256) (wa wg : Nat) (ha : 2 ≤ wa) (hg : 2 ≤ wg) :
    (∃ ds, wnaf (splitExp na).1 wa = some ds ∧ valD ds = (splitExp na).1 ∧ ∀ d ∈ ds, Dig wa d) ∧
    (∃ ds, wnaf (splitExp na).2 wa = some ds ∧ valD ds = (splitExp na).2 ∧ ∀ d ∈ ds, Dig wa d) ∧
    (∃ ds, wnaf ((ng % 2 ^ 128 : Nat) : Int) wg = some ds ∧ valD ds = ((ng % 2 ^ 128 : Nat) : Int) ∧ ∀ d ∈ ds, Dig wg d) ∧
    (∃ ds, wnaf ((ng / 2 ^ 128 : Nat) : Int) wg = some ds ∧ valD ds = ((ng / 2 ^ 128 : Nat) : Int) ∧ ∀ d ∈ ds, Dig wg d) := by
  obtain ⟨b1, b2, b3, b4⟩ := splitExp_bound na
  have e128 : (2 : Int) ^ 128 = 340282366920938463463374607431768211456 := by norm_num
  have hg1 : ng % 2 ^ 128 < 2 ^ 128 := Nat.mod_lt _ (by positivity)
  have hg2 : ng / 2 ^ 128 < 2 ^ 128 := by
    rw [Nat.div_lt_iff_lt_mul (by positivity)]
    calc ng < 2 ^ 256 := hng
      _ = 2 ^ 128 * 2 ^ 128 := by norm_num
  have cut : ∀ {x : Int} {w : Nat}, (∃ ds, wnaf x w = some ds ∧ valD ds = x ∧ (∀ d ∈ ds, Dig w d) ∧ ds.length ≤ 129) →
      ∃ ds, wnaf x w = some ds ∧ valD ds = x ∧ ∀ d ∈ ds, Dig w d := fun ⟨ds, h1, h2, h3, _⟩ => ⟨ds, h1, h2, h3⟩
  exact ⟨cut (wnaf_ok _ wa ha (by rw [e128]; omega) (by rw [e128]; omega)),
    cut (wnaf_ok _ wa ha (by rw [e128]; omega) (by rw [e128]; omega)),
    cut (wnaf_ok _ wg hg (by have := pow_pos_int 128; omega) (by exact_mod_cast hg1.le)),
    cut (wnaf_ok _ wg hg (by have := pow_pos_int 128; omega) (by exact_mod_cast hg2.le))⟩
end GocoinV.C08
