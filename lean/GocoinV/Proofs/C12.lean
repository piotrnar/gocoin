/-
  Proofs.C12 — helper lemmas for Props/C12 (core Lean only): the block template, association lists, the functions that
  leave pool and chain alone, the structural invariant `InvS` through Add / Delete, and the case analysis of `inputStep`
  and `processTx`, from which the later files prove their invariants branch by branch.
-/
import GocoinV.Model.Mempool
import GocoinV.Spec.MempoolTemplate
import GocoinV.Base.Assoc
import GocoinV.Base.Lemmas
namespace GocoinV.Mempool

theorem blockOK_of (ls : List T2S) : ∀ (avail : OutPoint → Prop),
    (∀ t ∈ ls, t.tx.inOps.Nodup) →
    ls.Pairwise (fun a b => ∀ o ∈ a.tx.inOps, o ∉ b.tx.inOps) →
    (∀ pre t post, ls = pre ++ t :: post → ∀ o ∈ t.tx.inOps, avail o ∨ ∃ p ∈ pre, p.tx.creates o) →
    BlockOK avail (ls.map (·.tx)) := by
  induction ls with
  | nil => intro _ _ _ _; simp [BlockOK]
  | cons t r ih =>
    intro avail h1 h2 h3
    simp only [List.map_cons, BlockOK]
    refine ⟨h1 t (by simp), ?_, ?_⟩
    · intro o ho
      rcases h3 [] t r rfl o ho with h | ⟨p, hp, _⟩
      · exact h
      · simp at hp
    · rw [List.pairwise_cons] at h2
      apply ih
      · intro t' ht'; exact h1 t' (by simp [ht'])
      · exact h2.2
      · intro pre t' post heq o ho
        have hmem : t' ∈ r := by rw [heq]; simp
        have hnot : o ∉ t.tx.inOps := fun hin => h2.1 t' hmem o hin ho
        rcases h3 (t :: pre) t' post (by rw [heq]; rfl) o ho with h | ⟨p, hp, hc⟩
        · exact Or.inl (Or.inl ⟨h, hnot⟩)
        · rcases List.mem_cons.mp hp with rfl | hp'
          · exact Or.inl (Or.inr hc)
          · exact Or.inr ⟨p, hp', hc⟩

/-! ### parents first -/

theorem PFfrom_snoc (K : Keys) (x : Nat × T2S) : ∀ (res : List (Nat × T2S)) (seen : List Nat),
    PFfrom K seen res →
    (∀ p ∈ memParents K x.2, p ∈ seen ∨ p ∈ res.map (·.1)) →
    PFfrom K seen (res ++ [x]) := by
  intro res
  induction res with
  | nil =>
    intro seen _ h
    simp only [List.nil_append, PFfrom, and_true]
    intro p hp
    rcases h p hp with h | h
    · exact h
    · simp at h
  | cons y r ih =>
    intro seen hpf h
    simp only [List.cons_append, PFfrom] at hpf ⊢
    refine ⟨hpf.1, ih (y.1 :: seen) hpf.2 ?_⟩
    intro p hp
    rcases h p hp with h | h
    · exact Or.inl (List.mem_cons_of_mem _ h)
    · simp only [List.map_cons, List.mem_cons] at h
      rcases h with h | h
      · exact Or.inl (by rw [h]; exact List.mem_cons_self)
      · exact Or.inr h

theorem not_missing (K : Keys) (res : List (Nat × T2S)) (t : T2S)
    (h : missingParents K res t = false) : ∀ p ∈ memParents K t, p ∈ res.map (·.1) := by
  intro p hp
  unfold missingParents at h
  rw [List.any_eq_false] at h
  simpa using h p hp

/-- the fold inside append_txs keeps the invariant, given that the recursive call does -/
theorem retry_fold_PF (K : Keys) (x : Nat × T2S)
    (f : List (Nat × T2S) × List (Nat × T2S) → Nat × T2S → List (Nat × T2S) × List (Nat × T2S))
    (hf : ∀ st d, ParentsFirst K st.1 → missingParents K st.1 d.2 = false → ParentsFirst K (f st d).1) :
    ∀ (l : List (Nat × T2S)) (st : List (Nat × T2S) × List (Nat × T2S)), ParentsFirst K st.1 →
    ParentsFirst K (l.foldl (fun st d =>
      if (st.1.map (·.1)).contains d.1 then st
      else if (memParents K d.2).contains x.1 && !missingParents K st.1 d.2 then f st d
      else st) st).1 := by
  refine foldl_inv (fun st : List (Nat × T2S) × List (Nat × T2S) => ParentsFirst K st.1) _ fun st d h => ?_
  split
  · exact h
  · split
    · rename_i hc
      simp only [Bool.and_eq_true, Bool.not_eq_true'] at hc
      exact hf st d h hc.2
    · exact h

theorem appendTxs_PF (K : Keys) : ∀ (fuel : Nat) (st : List (Nat × T2S) × List (Nat × T2S)) (x : Nat × T2S),
    ParentsFirst K st.1 → missingParents K st.1 x.2 = false →
    ParentsFirst K (appendTxs K fuel st x).1 := by
  intro fuel
  induction fuel with
  | zero => intro st x h _; simpa [appendTxs] using h
  | succ n ih =>
    intro st x h hm
    obtain ⟨res, deferred⟩ := st
    simp only [appendTxs]
    apply retry_fold_PF K x (fun st d => appendTxs K n st d) (fun st d h1 h2 => ih st d h1 h2)
    exact PFfrom_snoc K x res [] h (fun p hp => Or.inr (not_missing K res x.2 hm p hp))

theorem slowStep_PF (K : Keys) (fuel : Nat) (st : List (Nat × T2S) × List (Nat × T2S)) (p : Nat × T2S)
    (h : ParentsFirst K st.1) : ParentsFirst K (slowStep K fuel st p).1 := by
  unfold slowStep
  split
  · exact h
  · rename_i hm
    exact appendTxs_PF K fuel st p h (by simpa using hm)

theorem foldl_slowStep_PF (K : Keys) (fuel : Nat) : ∀ (l : List (Nat × T2S))
    (st : List (Nat × T2S) × List (Nat × T2S)), ParentsFirst K st.1 →
    ParentsFirst K (l.foldl (slowStep K fuel) st).1 :=
  foldl_inv (fun st : List (Nat × T2S) × List (Nat × T2S) => ParentsFirst K st.1) _ (slowStep_PF K fuel)

/-! ### association lists -/

namespace AList
variable {κ ν : Type} [DecidableEq κ]

theorem del_cons (p : κ × ν) (r : AList κ ν) (k : κ) :
    del (p :: r) k = if p.1 = k then del r k else p :: del r k := by
  unfold del
  rw [List.filter_cons]
  by_cases h : p.1 = k <;> simp [h]

theorem get?_eq (m : AList κ ν) (k : κ) : m.get? k = Assoc.lookup m k :=
  Assoc.lookup_unique get? (fun _ => rfl) (fun _ _ _ _ => rfl) m k

theorem get?_del (m : AList κ ν) (k k' : κ) : (del m k).get? k' = if k' = k then none else m.get? k' := by
  rw [get?_eq, get?_eq]
  refine (Assoc.lookup_filter (fun x => !decide (x = k)) m k').trans ?_
  by_cases h : k' = k <;> simp [h]

theorem get?_set (m : AList κ ν) (k k' : κ) (v : ν) : (set m k v).get? k' = if k' = k then some v else m.get? k' := by
  show (if k = k' then some v else (del m k).get? k') = _
  rw [get?_del]
  by_cases h : k' = k <;> simp [h, Ne.symm]

theorem get?_del_self (m : AList κ ν) (k : κ) : (del m k).get? k = none := by
  rw [get?_del, if_pos rfl]

theorem get?_del_other (m : AList κ ν) (k k' : κ) (hne : k' ≠ k) : (del m k).get? k' = m.get? k' := by
  rw [get?_del, if_neg hne]

theorem get?_set_self (m : AList κ ν) (k : κ) (v : ν) : (set m k v).get? k = some v := by
  rw [get?_set, if_pos rfl]

theorem get?_set_other (m : AList κ ν) (k k' : κ) (v : ν) (hne : k' ≠ k) :
    (set m k v).get? k' = m.get? k' := by
  rw [get?_set, if_neg hne]

end AList

theorem AList.get?_set_some {κ ν : Type} [DecidableEq κ] {m : AList κ ν} {k k' : κ} {v v' : ν}
    (h : (AList.set m k v).get? k' = some v') : (k' = k ∧ v' = v) ∨ (k' ≠ k ∧ m.get? k' = some v') := by
  rw [AList.get?_set] at h
  split at h
  · cases h; exact Or.inl ⟨‹_›, rfl⟩
  · exact Or.inr ⟨‹_›, h⟩

theorem AList.get?_del_some {κ ν : Type} [DecidableEq κ] {m : AList κ ν} {k k' : κ} {v : ν}
    (h : (AList.del m k).get? k' = some v) : k' ≠ k ∧ m.get? k' = some v := by
  rw [AList.get?_del] at h
  split at h
  · cases h
  · exact ⟨‹_›, h⟩

/-- the UIdx keys of a transaction's inputs -/
def uidxs (K : Keys) (t : Tx) : List Nat := t.ins.map fun i => K.uidx i.prev i.vout

theorem get?_foldl_set (f : TxIn → Nat) (b : Nat) : ∀ (ins : List TxIn) (m : AList Nat Nat) (u : Nat),
    (ins.foldl (fun m i => m.set (f i) b) m).get? u = if u ∈ ins.map f then some b else m.get? u := by
  intro ins
  induction ins with
  | nil => intro m u; simp
  | cons i r ih =>
    intro m u
    simp only [List.foldl_cons, List.map_cons, List.mem_cons]
    rw [ih]
    by_cases h1 : u ∈ r.map f
    · simp [h1]
    · by_cases h2 : u = f i
      · simp [h2, AList.get?_set_self]
      · simp [h1, h2, AList.get?_set_other _ _ _ _ h2]

theorem get?_foldl_del (f : TxIn → Nat) : ∀ (ins : List TxIn) (m : AList Nat Nat) (u : Nat),
    (ins.foldl (fun m i => m.del (f i)) m).get? u = if u ∈ ins.map f then none else m.get? u := by
  intro ins
  induction ins with
  | nil => intro m u; simp
  | cons i r ih =>
    intro m u
    simp only [List.foldl_cons, List.map_cons, List.mem_cons]
    rw [ih]
    by_cases h1 : u ∈ r.map f
    · simp [h1]
    · by_cases h2 : u = f i
      · simp [h2, AList.get?_del_self]
      · simp [h1, h2, AList.get?_del_other _ _ _ h2]

theorem posOf_split (b : Nat) : ∀ (l : List Nat) (k i : Nat), posOf b l k = some i →
    ∃ l1 l2, l = l1 ++ b :: l2 ∧ i = k + l1.length := by
  intro l
  induction l with
  | nil => intro k i h; simp [posOf] at h
  | cons x r ih =>
    intro k i h
    unfold posOf at h
    split at h
    · rename_i e
      simp only [Option.some.injEq] at h
      exact ⟨[], r, by rw [e]; rfl, by simp [h]⟩
    · obtain ⟨l1, l2, h1, h2⟩ := ih (k + 1) i h
      exact ⟨x :: l1, l2, by rw [h1]; rfl, by simp only [List.length_cons]; omega⟩

theorem posOf_of_mem (b : Nat) : ∀ (l : List Nat) (k : Nat), b ∈ l → ∃ i, posOf b l k = some i := by
  intro l
  induction l with
  | nil => intro k h; simp at h
  | cons x r ih =>
    intro k h
    unfold posOf
    split
    · exact ⟨k, rfl⟩
    · rename_i hne
      rcases List.mem_cons.mp h with e | h
      · exact absurd e.symm hne
      · exact ih (k + 1) h

/-! ### case analysis without `split` (which is slow on goals that carry a `State` record) -/

theorem bind_cases {ε α β : Type} {P : Except ε β → Prop} {x : Except ε α} {f : α → Except ε β}
    (err : ∀ e, x = .error e → P (.error e)) (ok : ∀ v, x = .ok v → P (f v)) : P (x >>= f) := by
  cases x with
  | error e => exact err e rfl
  | ok v => exact ok v rfl

/-! ### the reject-list and sort-list functions do not touch the pool, SpentOutputs or the chain -/

/-- `s'` has the same pool, SpentOutputs, weight total and confirmed set as `s` -/
def SameCore (s s' : State) : Prop :=
  s'.pool = s.pool ∧ s'.spent = s.spent ∧ s'.utxo = s.utxo ∧ s'.weightTotal = s.weightTotal

theorem SameCore.refl (s : State) : SameCore s s := ⟨rfl, rfl, rfl, rfl⟩

theorem SameCore.trans {a b c : State} (h1 : SameCore a b) (h2 : SameCore b c) : SameCore a c :=
  ⟨h2.1.trans h1.1, h2.2.1.trans h1.2.1, h2.2.2.1.trans h1.2.2.1, h2.2.2.2.trans h1.2.2.2⟩

theorem rejCleanup_core (K : Keys) (s : State) (r : Rej) (t : Tx) : SameCore s (rejCleanup K s r t) :=
  ⟨rfl, rfl, rfl, rfl⟩

theorem rejDelete_core (K : Keys) (s : State) (r : Rej) : SameCore s (rejDelete K s r) := by
  unfold rejDelete
  cases r.tx <;> exact ⟨rfl, rfl, rfl, rfl⟩

theorem rejDeleteByIdx_core (K : Keys) (s : State) (b : Nat) : SameCore s (rejDeleteByIdx K s b) := by
  unfold rejDeleteByIdx
  split
  · exact rejDelete_core K s _
  · exact SameCore.refl s

theorem rejEvictOldest_core (K : Keys) (s : State) : SameCore s (rejEvictOldest K s) := by
  unfold rejEvictOldest
  split
  · split
    · split
      · exact rejDelete_core K s _
      · exact ⟨rfl, rfl, rfl, rfl⟩
    · exact ⟨rfl, rfl, rfl, rfl⟩
  · exact SameCore.refl s

theorem rejAddRefs_core (K : Keys) (s : State) (r : Rej) : SameCore s (rejAddRefs K s r) := by
  unfold rejAddRefs
  cases r.tx with
  | none => exact SameCore.refl s
  | some t => exact ⟨rfl, rfl, rfl, rfl⟩

theorem rejAdd_core (K : Keys) (s : State) (r : Rej) : SameCore s (rejAdd K s r) := by
  unfold rejAdd
  have h0 : SameCore s { s with ring := s.ring ++ [some (K.bidx r.id)], rej := s.rej.set (K.bidx r.id) r } :=
    ⟨rfl, rfl, rfl, rfl⟩
  exact (h0.trans (rejEvictOldest_core K _)).trans (rejAddRefs_core K _ r)

theorem rejectTx_core (K : Keys) (s : State) (t : Tx) (why : Nat) (m : Option TxId) :
    SameCore s (rejectTx K s t why m) := rejAdd_core K s _

/-- `s'` differs from `s` only in the sorted-list fields (sorted, ranks, sortStep, rankWrap, sortDirty) and possibly a
    raised `panicked` flag -/
structure SortOnly (s s' : State) : Prop where
  pool : s'.pool = s.pool
  spent : s'.spent = s.spent
  utxo : s'.utxo = s.utxo
  wt : s'.weightTotal = s.weightTotal
  undo : s'.undo = s.undo
  rej : s'.rej = s.rej
  ring : s'.ring = s.ring
  waiting : s'.waiting = s.waiting
  rejSpent : s'.rejSpent = s.rejSpent
  cfg : s'.cfg = s.cfg
  height : s'.height = s.height
  disabled : s'.sortDisabled = s.sortDisabled
  sticky : s.panicked = true → s'.panicked = true

/-- a state that differs only in the sort fields and, by `sticky`, in the panic flag (the equations hold by `rfl` on a
    record update) -/
theorem SortOnly.of_eq {s s' : State} (sticky : s.panicked = true → s'.panicked = true)
    (pool : s'.pool = s.pool := by rfl) (spent : s'.spent = s.spent := by rfl) (utxo : s'.utxo = s.utxo := by rfl)
    (wt : s'.weightTotal = s.weightTotal := by rfl) (undo : s'.undo = s.undo := by rfl) (rej : s'.rej = s.rej := by rfl)
    (ring : s'.ring = s.ring := by rfl) (waiting : s'.waiting = s.waiting := by rfl)
    (rejSpent : s'.rejSpent = s.rejSpent := by rfl) (cfg : s'.cfg = s.cfg := by rfl)
    (height : s'.height = s.height := by rfl) (disabled : s'.sortDisabled = s.sortDisabled := by rfl) : SortOnly s s' :=
  ⟨pool, spent, utxo, wt, undo, rej, ring, waiting, rejSpent, cfg, height, disabled, sticky⟩

theorem SortOnly.refl (s : State) : SortOnly s s := .of_eq id

theorem SortOnly.trans {a b c : State} (h1 : SortOnly a b) (h2 : SortOnly b c) : SortOnly a c :=
  ⟨h2.pool.trans h1.pool, h2.spent.trans h1.spent, h2.utxo.trans h1.utxo, h2.wt.trans h1.wt, h2.undo.trans h1.undo,
   h2.rej.trans h1.rej, h2.ring.trans h1.ring, h2.waiting.trans h1.waiting, h2.rejSpent.trans h1.rejSpent,
   h2.cfg.trans h1.cfg, h2.height.trans h1.height, h2.disabled.trans h1.disabled, fun h => h2.sticky (h1.sticky h)⟩

theorem reindexAll_sortOnly (s : State) : SortOnly s (reindexAll s) :=
  (.of_eq id)

theorem reindexDown_sortOnly (s : State) (rb : Nat) (below : List Nat) : SortOnly s (reindexDown s rb below) := by
  unfold reindexDown
  dsimp only
  cases reindexWalk (s.sortStep / 16) rb below s.ranks with
  | some rk => exact .of_eq id
  | none => exact reindexAll_sortOnly s

theorem fixIndex_sortOnly (s : State) (b : Nat) (bt wr : Option Nat) (below : List Nat) :
    SortOnly s (fixIndex s b bt wr below) := by
  unfold fixIndex
  cases bt with
  | none =>
    cases wr with
    | none => exact .of_eq id
    | some w =>
      refine ite_cases (fun _ => .of_eq id) fun _ => ?_
      refine ite_cases (fun _ => ?_) fun _ => .of_eq fun _ => rfl
      exact SortOnly.trans (b := { s with ranks := s.ranks.set b (rankOf s w / 2) })
        (.of_eq id) (reindexAll_sortOnly _)
  | some p =>
    cases wr with
    | none => exact .of_eq id
    | some w =>
      exact ite_cases (fun _ => .of_eq id)
        fun _ => reindexDown_sortOnly s _ _

theorem addToSort_sortOnly (K : Keys) (s : State) (b : Nat) (t : T2S) : SortOnly s (addToSort K s b t) := by
  unfold addToSort
  refine ite_cases (fun _ => SortOnly.refl s) fun _ => ?_
  refine ite_cases (fun _ => .of_eq id) fun _ => ?_
  refine ite_cases (fun _ => .of_eq id) fun _ => ?_
  refine ite_cases (fun _ => .of_eq fun _ => rfl) fun _ => ?_
  exact SortOnly.trans (b := { s with sorted := _, ranks := s.ranks.del b })
    (.of_eq id) (fixIndex_sortOnly _ _ _ _ _)

theorem addToSort_core (K : Keys) (s : State) (b : Nat) (t : T2S) : SameCore s (addToSort K s b t) :=
  have h := addToSort_sortOnly K s b t
  ⟨h.pool, h.spent, h.utxo, h.wt⟩

theorem delFromSort_sortOnly (s : State) (b : Nat) : SortOnly s (delFromSort s b) := by
  unfold delFromSort
  refine ite_cases (fun _ => SortOnly.refl s) fun _ => ?_
  exact ite_cases (fun _ => .of_eq id) fun _ => .of_eq id

/-- the part of Delete before the optional rejectTx -/
def delPre (K : Keys) (s : State) (t : T2S) : State :=
  let b := K.bidx t.tx.id
  let sp := t.tx.ins.foldl (fun (m : AList Nat Nat) i => m.del (K.uidx i.prev i.vout)) s.spent
  let s := { s with spent := sp, pool := s.pool.del b }
  let s := delFromSort s b
  { s with weightTotal := s.weightTotal - t.tx.weight }

theorem delOne_eq (K : Keys) (s : State) (t : T2S) (reason : Nat) :
    delOne K s t reason = if reason ≠ 0 then rejectTx K (delPre K s t) t.tx reason none else delPre K s t := rfl

theorem delPre_sortOnly (K : Keys) (s : State) (t : T2S) :
    SortOnly { s with spent := t.tx.ins.foldl (fun (m : AList Nat Nat) i => m.del (K.uidx i.prev i.vout)) s.spent,
                      pool := s.pool.del (K.bidx t.tx.id), weightTotal := s.weightTotal - t.tx.weight }
      (delPre K s t) :=
  have h := delFromSort_sortOnly
    { s with spent := t.tx.ins.foldl (fun (m : AList Nat Nat) i => m.del (K.uidx i.prev i.vout)) s.spent,
             pool := s.pool.del (K.bidx t.tx.id) } (K.bidx t.tx.id)
  { h with wt := congrArg (· - t.tx.weight) h.wt }

/-- the body of the loop over the outputs in Delete(with_children): delete the registered spender of output `vout`
    (with its own children) -/
def delKid (K : Keys) (reason n : Nat) (t : T2S) (s : State) (vout : Nat) : State :=
  match s.spent.get? (K.uidx t.tx.id vout) with
  | none => s
  | some so => match s.pool.get? so with
    | none => s
    | some child => delWithChildren K reason n s child

theorem delWithChildren_succ (K : Keys) (reason n : Nat) (s : State) (t : T2S) :
    delWithChildren K reason (n + 1) s t = delOne K ((iota t.tx.outs.length).foldl (delKid K reason n t) s) t reason := rfl

/-! ### the structural invariant and the two primitives through which the pool changes -/

/-- TransactionsToSend is keyed by BIDX, SpentOutputs is exactly the inverse of the pooled inputs -/
structure InvS (K : Keys) (s : State) : Prop where
  key : ∀ b t, s.pool.get? b = some t → K.bidx t.tx.id = b
  sound : ∀ u b, s.spent.get? u = some b → ∃ t, s.pool.get? b = some t ∧ u ∈ uidxs K t.tx
  complete : ∀ b t, s.pool.get? b = some t → ∀ u ∈ uidxs K t.tx, s.spent.get? u = some b

theorem InvS.same_key {K : Keys} {s : State} (h : InvS K s) {b1 b2 : Nat} {t1 t2 : T2S}
    (h1 : s.pool.get? b1 = some t1) (h2 : s.pool.get? b2 = some t2) {i1 i2 : TxIn} (m1 : i1 ∈ t1.tx.ins)
    (m2 : i2 ∈ t2.tx.ins) (heq : K.uidx i1.prev i1.vout = K.uidx i2.prev i2.vout) : b1 = b2 := by
  have e1 := h.complete b1 t1 h1 _ (List.mem_map.mpr ⟨i1, m1, rfl⟩)
  have e2 := h.complete b2 t2 h2 _ (List.mem_map.mpr ⟨i2, m2, heq.symm⟩)
  rw [e1] at e2
  exact Option.some.inj e2

theorem InvS.at_key {K : Keys} {s : State} (h : InvS K s) {b : Nat} {t : T2S} (hb : s.pool.get? b = some t) :
    s.pool.get? (K.bidx t.tx.id) = some t := by rw [h.key b t hb]; exact hb

theorem delOne_cases {P : State → Prop} (K : Keys) (s : State) (t : T2S) (reason : Nat)
    (rej : P (rejectTx K (delPre K s t) t.tx reason none)) (plain : P (delPre K s t)) : P (delOne K s t reason) := by
  rw [delOne_eq]
  exact ite_cases (fun _ => rej) fun _ => plain

theorem delOne_pool_spent (K : Keys) (s : State) (t : T2S) (reason : Nat) :
    (delOne K s t reason).pool = s.pool.del (K.bidx t.tx.id) ∧
    (delOne K s t reason).spent = t.tx.ins.foldl (fun (m : AList Nat Nat) i => m.del (K.uidx i.prev i.vout)) s.spent :=
  have h := delPre_sortOnly K s t
  have c := rejectTx_core K (delPre K s t) t.tx reason none
  delOne_cases (P := fun s' => s'.pool = _ ∧ s'.spent = _) K s t reason ⟨c.1.trans h.pool, c.2.1.trans h.spent⟩
    ⟨h.pool, h.spent⟩

theorem delOne_InvS (K : Keys) (s : State) (t : T2S) (reason : Nat) (h : InvS K s)
    (hin : s.pool.get? (K.bidx t.tx.id) = some t) : InvS K (delOne K s t reason) := by
  obtain ⟨hp, hsp⟩ := delOne_pool_spent K s t reason
  have spent_eq : ∀ u, (delOne K s t reason).spent.get? u = if u ∈ uidxs K t.tx then none else s.spent.get? u := by
    intro u; rw [hsp]; exact get?_foldl_del (fun i => K.uidx i.prev i.vout) t.tx.ins s.spent u
  refine ⟨?_, ?_, ?_⟩
  · intro b t' ht'
    rw [hp] at ht'
    exact h.key b t' (AList.get?_del_some ht').2
  · intro u b hu
    rw [spent_eq] at hu
    by_cases hmem : u ∈ uidxs K t.tx
    · simp [hmem] at hu
    · simp only [hmem, if_false] at hu
      obtain ⟨t', ht', hu'⟩ := h.sound u b hu
      have hb : b ≠ K.bidx t.tx.id := by
        intro e; rw [e, hin] at ht'; cases ht'; exact hmem hu'
      exact ⟨t', by rw [hp, AList.get?_del_other _ _ _ hb]; exact ht', hu'⟩
  · intro b t' ht' u hu
    rw [hp] at ht'
    obtain ⟨hb, ht'⟩ := AList.get?_del_some ht'
    have := h.complete b t' ht' u hu
    rw [spent_eq]
    by_cases hmem : u ∈ uidxs K t.tx
    · have h2 := h.complete _ t hin u hmem
      rw [this] at h2; exact absurd (Option.some.inj h2) hb
    · simp only [hmem, if_false]; exact this

/-- OneTxToSend.Add = the record put into the maps, then AddToSort, which touches the sort fields only -/
theorem addT2S_sortOnly (K : Keys) (s : State) (t : T2S) :
    SortOnly { s with spent := t.tx.ins.foldl (fun (m : AList Nat Nat) i => m.set (K.uidx i.prev i.vout) (K.bidx t.tx.id)) s.spent,
                      pool := s.pool.set (K.bidx t.tx.id) t, weightTotal := s.weightTotal + t.tx.weight }
      (addT2S K s t) :=
  addToSort_sortOnly K _ _ t

theorem addT2S_pool_spent (K : Keys) (s : State) (t : T2S) :
    (addT2S K s t).pool = s.pool.set (K.bidx t.tx.id) t ∧
    (addT2S K s t).spent = t.tx.ins.foldl (fun (m : AList Nat Nat) i => m.set (K.uidx i.prev i.vout) (K.bidx t.tx.id)) s.spent :=
  ⟨(addT2S_sortOnly K s t).pool, (addT2S_sortOnly K s t).spent⟩

theorem addT2S_InvS (K : Keys) (s : State) (t : T2S) (h : InvS K s)
    (hfresh : s.pool.get? (K.bidx t.tx.id) = none)
    (hfree : ∀ u ∈ uidxs K t.tx, s.spent.get? u = none) : InvS K (addT2S K s t) := by
  obtain ⟨hp, hsp⟩ := addT2S_pool_spent K s t
  have spent_eq : ∀ u, (addT2S K s t).spent.get? u =
      if u ∈ uidxs K t.tx then some (K.bidx t.tx.id) else s.spent.get? u := by
    intro u; rw [hsp]; exact get?_foldl_set (fun i => K.uidx i.prev i.vout) (K.bidx t.tx.id) t.tx.ins s.spent u
  refine ⟨?_, ?_, ?_⟩
  · intro b t' ht'
    rw [hp] at ht'
    rcases AList.get?_set_some ht' with ⟨hb, rfl⟩ | ⟨_, ht'⟩
    · exact hb.symm
    · exact h.key b t' ht'
  · intro u b hu
    rw [spent_eq] at hu
    by_cases hmem : u ∈ uidxs K t.tx
    · simp only [hmem, if_true] at hu
      cases hu
      exact ⟨t, by rw [hp]; exact AList.get?_set_self _ _ _, hmem⟩
    · simp only [hmem, if_false] at hu
      obtain ⟨t', ht', hu'⟩ := h.sound u b hu
      have hb : b ≠ K.bidx t.tx.id := by intro e; rw [e, hfresh] at ht'; cases ht'
      exact ⟨t', by rw [hp, AList.get?_set_other _ _ _ _ hb]; exact ht', hu'⟩
  · intro b t' ht' u hu
    rw [spent_eq]
    rw [hp] at ht'
    rcases AList.get?_set_some ht' with ⟨hb, rfl⟩ | ⟨_, ht'⟩
    · simp only [hu, if_true, hb]
    · have := h.complete b t' ht' u hu
      by_cases hmem : u ∈ uidxs K t.tx
      · rw [hfree u hmem] at this; cases this
      · simp only [hmem, if_false]; exact this

/-- deleting a list of keys one by one with reason REPLACED (the fold inside `deleteRbf`; keys that are not pooled are
    skipped) keeps `InvS` -/
theorem deleteRbf_InvS (K : Keys) : ∀ (l : List Nat) (s : State), InvS K s →
    InvS K (l.foldl (fun s b => match s.pool.get? b with
      | some t => delOne K s t R_REPLACED
      | none => s) s) := by
  intro l s h
  refine foldl_inv (InvS K) _ (fun s b h => ?_) l s h
  cases hb : s.pool.get? b with
  | none => exact h
  | some t => exact delOne_InvS K s t _ h (InvS.at_key h hb)

theorem evict_ind {I : State → Prop} (K : Keys)
    (del : ∀ s b t, I s → s.pool.get? b = some t → hasNoChildren K s t = true → I (delOne K s t 0)) :
    ∀ (l : List Nat) (s s' : State), I s → evict K s l = some s' → I s' := by
  intro l
  induction l with
  | nil => intro s s' h he; cases he; exact h
  | cons b r ih =>
    intro s s' h he
    simp only [evict, List.foldlM_cons] at he
    cases hb : s.pool.get? b with
    | none => simp [hb] at he
    | some t =>
      simp only [hb] at he
      by_cases hc : hasNoChildren K s t = true
      · simp only [hc, if_true, Option.bind_eq_bind, Option.bind_some] at he
        exact ih _ s' (del s b t h hb hc) he
      · simp [hc] at he

theorem evict_InvS (K : Keys) : ∀ (l : List Nat) (s s' : State), InvS K s → evict K s l = some s' → InvS K s' :=
  evict_ind K fun s _ t h hb _ => delOne_InvS K s t 0 h (InvS.at_key h hb)

/-! ### case analysis of `inputStep` and `processTx`

`processTx_cases` says once what `processTx` returns; the invariants of the later files are each proved from it,
branch by branch. -/

theorem foldlM_except_err {α β ε : Type} (Q : ε → Prop) (f : β → α → Except ε β) :
    ∀ (l : List α), (∀ b a e, a ∈ l → f b a = .error e → Q e) →
    ∀ (b : β) (e : ε), l.foldlM f b = .error e → Q e := by
  intro l
  induction l with
  | nil => intro _ b e h; cases h
  | cons a l ih =>
    intro hq b e h
    simp only [List.foldlM_cons, bind, Except.bind] at h
    cases hf : f b a with
    | error e' => rw [hf] at h; cases h; exact hq b a _ List.mem_cons_self hf
    | ok b' => rw [hf] at h; exact ih (fun b a e ha => hq b a e (List.mem_cons_of_mem _ ha)) b' e h

theorem foldlM_cons_ok {α β ε : Type} {f : β → α → Except ε β} {a : α} {l : List α} {b b' : β}
    (h : (a :: l).foldlM f b = .ok b') : ∃ b1, f b a = .ok b1 ∧ l.foldlM f b1 = .ok b' := by
  rw [List.foldlM_cons] at h
  cases hf : f b a with
  | error e => rw [hf] at h; cases h
  | ok b1 => rw [hf] at h; exact ⟨b1, rfl, h⟩

theorem range_foldl_ind {σ : Type} (I : Nat → σ → Prop) (f : σ → Nat → σ) (N : Nat) (s : σ) (h0 : I 0 s)
    (step : ∀ n s1, n < N → I n s1 → I (n + 1) (f s1 n)) : I N ((List.range N).foldl f s) := by
  have gen : ∀ n, n ≤ N → I n ((List.range n).foldl f s) := by
    intro n
    induction n with
    | zero => exact fun _ => h0
    | succ n ih =>
      intro hle
      rw [List.range_succ, List.foldl_append]
      exact step n _ hle (ih (Nat.le_of_succ_le hle))
  exact gen N (Nat.le_refl N)

/-- an early exit of processTx has a non-zero code and, when it leaves a reject record (`e.reject`), names a missing
    parent exactly with NO_TXOU -/
def ExitOK (e : Exit) : Prop :=
  e.code ≠ 0 ∧ (e.reject = true → (e.missing.isSome = true ↔ e.code = R_NO_TXOU))

/-- one key joins the rbf list: what `rbfStep` does for the spender and then for each of its descendants -/
def rbfAdd (s : State) (strict : Bool) (rbf : List Nat) (c : Nat) : Except Exit (List Nat) :=
  match s.pool.get? c with
  | none => .error ⟨R_PANIC, false, none⟩
  | some ch =>
    if strict && ch.final then .error ⟨R_RBF_FINAL, true, none⟩
    else if strict && (addRbf rbf c).length > 100 then .error ⟨R_RBF_100, true, none⟩
    else .ok (addRbf rbf c)

theorem rbfStep_eq (K : Keys) (s : State) (fl : Flags) (so : Nat) (rbf : List Nat) :
    rbfStep K s fl so rbf =
      match s.pool.get? so with
      | none => .error ⟨R_PANIC, false, none⟩
      | some ctx => (so :: allChildren K s ctx).foldlM (rbfAdd s (!fl.unmined && !fl.trusted)) rbf := by
  simp only [List.foldlM_cons]
  unfold rbfStep rbfAdd
  cases s.pool.get? so with
  | none => rfl
  | some ctx =>
    dsimp only
    by_cases h1 : (!fl.unmined && !fl.trusted && ctx.final) = true
    · rw [if_pos h1, if_pos h1]; rfl
    · rw [if_neg h1, if_neg h1]
      by_cases h2 : (!fl.unmined && !fl.trusted && decide ((addRbf rbf so).length > 100)) = true
      · rw [if_pos h2, if_pos h2]; rfl
      · rw [if_neg h2, if_neg h2]; rfl

theorem rbfAdd_cases {P : Except Exit (List Nat) → Prop} (s : State) (strict : Bool) (rbf : List Nat) (c : Nat)
    (nil : s.pool.get? c = none → P (.error ⟨R_PANIC, false, none⟩))
    (stop : ∀ e, e = ⟨R_RBF_FINAL, true, none⟩ ∨ e = ⟨R_RBF_100, true, none⟩ → P (.error e))
    (ok : ∀ ch, s.pool.get? c = some ch → P (.ok (addRbf rbf c))) : P (rbfAdd s strict rbf c) := by
  unfold rbfAdd
  cases h : s.pool.get? c with
  | none => exact nil h
  | some ch =>
    refine ite_cases (fun _ => stop _ (Or.inl rfl)) fun _ => ?_
    exact ite_cases (fun _ => stop _ (Or.inr rfl)) fun _ => ok ch h

/-- the ways `rbfStep` fails: the spender or one of its descendants is not pooled (the nil dereference), or one of the
    two replacement limits -/
theorem rbfStep_err (K : Keys) (s : State) (fl : Flags) (so : Nat) (rbf : List Nat) :
    ∀ e, rbfStep K s fl so rbf = .error e →
    (e = ⟨R_PANIC, false, none⟩ ∧ ∃ c, s.pool.get? c = none ∧
      (c = so ∨ ∃ ctx, s.pool.get? so = some ctx ∧ c ∈ allChildren K s ctx)) ∨
    e = ⟨R_RBF_FINAL, true, none⟩ ∨ e = ⟨R_RBF_100, true, none⟩ := by
  rw [rbfStep_eq]
  cases hp : s.pool.get? so with
  | none => intro e h; cases h; exact Or.inl ⟨rfl, so, hp, Or.inl rfl⟩
  | some ctx =>
    refine foldlM_except_err _ _ _ (fun r c e' hc => ?_) rbf
    refine rbfAdd_cases (P := fun x => x = .error e' → _) s _ r c (fun hn h => ?_) (fun e hc h => ?_)
      fun _ _ h => by cases h
    · cases h
      exact Or.inl ⟨rfl, c, hn, (List.mem_cons.mp hc).imp_right fun hc => ⟨ctx, rfl, hc⟩⟩
    · cases h; exact Or.inr hc

theorem ExitOK.of_rbfStep {K : Keys} {s : State} {fl : Flags} {so : Nat} {rbf : List Nat} {e : Exit}
    (h : rbfStep K s fl so rbf = .error e) : ExitOK e := by
  rcases rbfStep_err K s fl so rbf e h with ⟨rfl, _⟩ | rfl | rfl <;> exact ⟨by decide, by decide⟩

/-- how `inputStep` resolved the input: in the pool (flag set) or in the confirmed set (flag clear) -/
def Res (K : Keys) (s : State) (i : TxIn) (m : Bool) (v : Nat) : Prop :=
  (m = true ∧ ∃ par, s.pool.get? (K.bidx i.prev) = some par ∧ i.vout < par.tx.outs.length ∧
      v = par.tx.outs.getD i.vout 0) ∨
  (m = false ∧ ∃ c, s.utxo.get? (i.prev, i.vout) = some c ∧ v = c.value)

/-- one iteration of the input loop: it fails in `rbfStep`, or with an exit of its own (never the nil dereference),
    or extends the accumulator by the resolved input, the rbf list being the old one or the one `rbfStep` returned -/
theorem inputStep_cases {P : Except Exit Acc → Prop} (K : Keys) (s : State) (fl : Flags) (a : Acc) (i : TxIn)
    (rbfErr : ∀ so e, s.spent.get? (K.uidx i.prev i.vout) = some so → rbfStep K s fl so a.rbf = .error e →
      P (.error e))
    (refuse : ∀ e, ExitOK e → e.code ≠ R_PANIC → P (.error e))
    (ok : ∀ a1 m v,
      (s.spent.get? (K.uidx i.prev i.vout) = none ∧ a1.rbf = a.rbf ∨
        ∃ so, s.spent.get? (K.uidx i.prev i.vout) = some so ∧ rbfStep K s fl so a.rbf = .ok a1.rbf) →
      a1.vals = a.vals ++ [v] → a1.frommem = a.frommem ++ [m] → a1.totinp = (a.totinp + v) % U64 → Res K s i m v →
      P (.ok a1)) :
    P (inputStep K s fl a i) := by
  have noTxou : ∀ x, P (.error ⟨R_NO_TXOU, true, some x⟩) := fun _ =>
    refuse _ ⟨(by decide : R_NO_TXOU ≠ 0), fun _ => ⟨fun _ => rfl, fun _ => rfl⟩⟩ (by decide : R_NO_TXOU ≠ R_PANIC)
  unfold inputStep
  extract_lets _ final u jp
  -- the second half of the iteration, with the rbf list the first half has produced
  have tail : ∀ rbf, (s.spent.get? (K.uidx i.prev i.vout) = none ∧ rbf = a.rbf ∨
      ∃ so, s.spent.get? (K.uidx i.prev i.vout) = some so ∧ rbfStep K s fl so a.rbf = .ok rbf) → P (jp rbf) := by
    intro rbf hrbf
    dsimp only [jp]
    cases hp : s.pool.get? (K.bidx i.prev) with
    | some par =>
      refine ite_cases (fun _ => refuse _ ⟨by decide, by decide⟩ (by decide)) fun hv => ?_
      refine ite_cases (fun _ => refuse _ ⟨by decide, by decide⟩ (by decide)) fun _ => ?_
      exact ok _ true _ hrbf rfl rfl rfl (Or.inl ⟨rfl, par, hp, Nat.lt_of_not_le hv, rfl⟩)
    | none =>
      cases hc : s.utxo.get? (i.prev, i.vout) with
      | none =>
        refine ite_cases (fun _ => refuse _ ⟨by decide, by decide⟩ (by decide)) fun _ => ?_
        refine ite_cases (fun _ => refuse _ ⟨by decide, by decide⟩ (by decide)) fun _ => ?_
        cases s.rej.get? (K.bidx i.prev) with
        | some r => exact ite_cases (fun _ => refuse _ ⟨by decide, by decide⟩ (by decide)) fun _ => noTxou _
        | none => exact noTxou _
      | some c =>
        refine ite_cases (fun _ => refuse _ ⟨by decide, by decide⟩ (by decide)) fun _ => ?_
        exact ok _ false _ hrbf rfl rfl rfl (Or.inr ⟨rfl, c, hc, rfl⟩)
  cases hsp : s.spent.get? u with
  | none => exact tail _ (Or.inl ⟨hsp, rfl⟩)
  | some so => exact bind_cases (fun e he => rbfErr so e hsp he) fun rbf hrbf => tail _ (Or.inr ⟨so, hsp, hrbf⟩)

theorem inputStep_ok (K : Keys) (s : State) (fl : Flags) (a a1 : Acc) (i : TxIn)
    (h : inputStep K s fl a i = .ok a1) :
    (s.spent.get? (K.uidx i.prev i.vout) = none ∧ a1.rbf = a.rbf ∨
      ∃ so, s.spent.get? (K.uidx i.prev i.vout) = some so ∧ rbfStep K s fl so a.rbf = .ok a1.rbf) ∧
    ∃ m v, a1.frommem = a.frommem ++ [m] ∧ a1.totinp = (a.totinp + v) % U64 ∧ Res K s i m v := by
  revert h
  refine inputStep_cases (P := fun r => r = .ok a1 → _) K s fl a i (fun _ _ _ _ h => ?_) (fun _ _ _ h => ?_)
    fun a2 m v hrbf _ hm hv hr h => ?_
  · cases h
  · cases h
  · cases h; exact ⟨hrbf, m, v, hm, hv, hr⟩

theorem inputs_err (K : Keys) (s : State) (fl : Flags) (ins : List TxIn) (a : Acc) (e : Exit)
    (h : ins.foldlM (inputStep K s fl) a = .error e) : ExitOK e := by
  refine foldlM_except_err ExitOK _ ins (fun b i e' _ => ?_) a e h
  refine inputStep_cases (P := fun r => r = .error e' → ExitOK e') K s fl b i (fun so e1 _ h1 h => ?_)
    (fun e1 h1 _ h => ?_) fun _ _ _ _ _ _ _ _ h => ?_
  · cases h; exact ExitOK.of_rbfStep h1
  · cases h; exact h1
  · cases h

/-- the record processTx adds -/
def newRec (t : Tx) (a : Acc) (loc : Bool) : T2S :=
  { tx := t, fee := a.totinp - sumU64 t.outs, volume := a.totinp,
    mem := if (a.frommem.filter id).length = 0 then [] else a.frommem,
    memCnt := (a.frommem.filter id).length, loc := loc, final := a.final }

/-- What processTx returns. It refuses with a record on the rejected list (a missing parent named exactly with
    NO_TXOU), or refuses and leaves the state alone, or meets the nil dereference of `rbfStep`, or — no duplicate input
    (unless `unmined`), the input loop through, no replaced parent spent, no overspend — removes the rbf list and adds
    the new record. -/
theorem processTx_cases {P : Nat × State → Prop} (K : Keys) (mf : Nat) (s : State) (t : Tx) (fl : Flags)
    (refuse : ∀ why m, why ≠ 0 → (m.isSome = true ↔ why = R_NO_TXOU) → P (why, rejectTx K s t why m))
    (drop : ∀ why, why ≠ 0 → P (why, s))
    (panic : P (R_PANIC, { s with panicked := true }))
    (accept : ∀ a, (fl.unmined = false → hasDupInput t.ins = false) →
      t.ins.foldlM (inputStep K s fl) ({} : Acc) = .ok a →
      spendsReplaced K t.ins a.frommem a.rbf = false → ¬ sumU64 t.outs > a.totinp →
      P (0, addT2S K (deleteRbf K s a.rbf) (newRec t a fl.loc))) :
    P (processTx K mf s t fl) := by
  unfold processTx
  refine ite_cases (fun _ => refuse _ none (by decide) (by decide)) fun _ => ?_
  refine ite_cases (fun _ => refuse _ none (by decide) (by decide)) fun hdup => ?_
  cases ha : t.ins.foldlM (inputStep K s fl) ({} : Acc) with
  | error e =>
    obtain ⟨h0, hm⟩ := inputs_err K s fl t.ins _ e ha
    dsimp only
    refine ite_cases (P := fun x => P (e.code, x)) (fun hr => refuse _ _ h0 (hm hr)) fun _ => ?_
    refine ite_cases (P := fun x => P (e.code, x)) (fun hp => ?_) fun _ => drop _ h0
    rw [hp]
    exact panic
  | ok a =>
    dsimp only
    refine ite_cases (fun _ => refuse _ none (by decide) (by decide)) fun hsr => ?_
    refine ite_cases (fun _ => refuse _ none (by decide) (by decide)) fun hov => ?_
    refine ite_cases (fun _ => drop _ (by decide)) fun _ => ?_
    refine ite_cases (fun _ => refuse _ none (by decide) (by decide)) fun _ => ?_
    refine ite_cases (fun _ => drop _ (by decide)) fun _ => ?_
    exact accept a (fun hu => by simpa [hu] using hdup) ha (by simpa using hsr) hov

end GocoinV.Mempool
