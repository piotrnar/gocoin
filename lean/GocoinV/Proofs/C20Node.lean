/-
  Proofs.C20Node — the wiring invariant `Wired` of Model/AllocNode.lean (client/common/config.go: `common.Memory`,
  `utxo.Memory_Malloc`, `utxo.Memory_Free`): Malloc and Free are bound to the allocator the node reports on.  Under the
  source facts `Facts.Stable` every step after start-up keeps it, and the wiring itself never changes.
-/
import GocoinV.Model.AllocNode
namespace GocoinV.AllocNode

/-- The wiring is sound: Malloc and Free are bound to the same place, that place is the allocator the node
reports on (or the Go heap when there is none), every live record was allocated there, and the reported
`Allocs` is the number of live records. -/
structure Wired (s : Node) : Prop where
  same : s.mallocTo = s.freeTo
  nodup : (s.live.map (·.1)).Nodup
  fresh : ∀ r ∈ s.live, r.1 < s.nextRec
  rep : match s.reporting with
    | some id => s.mallocTo = .arena id ∧ id < s.arenas.length ∧ s.arenas.getD id 0 = s.live.length ∧
                 ∀ r ∈ s.live, r.2 = .arena id
    | none => s.mallocTo = .goHeap ∧ ∀ r ∈ s.live, r.2 = .goHeap

/-- the facts under which the wiring never changes after start-up -/
def Facts.Stable (f : Facts) : Prop :=
  f.resetRewires = false ∧ f.runtimeRewires = false ∧ f.initOnce = true ∧ f.paired = true

theorem getD_bump_same (l : List Int) (id : Nat) (d : Int) (h : id < l.length) :
    (bump l id d).getD id 0 = l.getD id 0 + d := by
  simp [bump, h]

theorem length_bump (l : List Int) (id : Nat) (d : Int) : (bump l id d).length = l.length := by
  simp [bump]

theorem filter_ne_length (l : List (Nat × Target)) (r : Nat) (nd : (l.map (·.1)).Nodup)
    (h : l.any (·.1 == r) = true) : ((l.filter (·.1 != r)).length : Int) = (l.length : Int) - 1 := by
  induction l with
  | nil => simp at h
  | cons a t ih =>
    simp only [List.map_cons, List.nodup_cons] at nd
    by_cases ha : a.1 = r
    · subst ha
      have hfil : t.filter (·.1 != a.1) = t :=
        List.filter_eq_self.2 fun x hx => bne_iff_ne.2 fun e => nd.1 (e ▸ List.mem_map_of_mem hx)
      simp [hfil]
    · have h' : t.any (·.1 == r) = true := by
        simpa [List.any_cons, ha] using h
      have := ih nd.2 h'
      simp [ha]
      omega

theorem wired_init (f : Facts) (hf : f.Stable) (g : Bool) : Wired (step f Node.empty (.initConfig g)) := by
  obtain ⟨_, _, _, hp⟩ := hf
  cases g
  · simp only [step, Node.empty, rewire, hp]
    constructor <;> simp
  · simp only [step, Node.empty, rewire]
    constructor <;> simp

theorem started_init (f : Facts) (g : Bool) : (step f Node.empty (.initConfig g)).started = true := by
  simp [step, Node.empty]

theorem rewire_started (f : Facts) (g : Bool) (s : Node) : (rewire f g s).started = s.started := by
  unfold rewire; split <;> rfl

theorem started_step (f : Facts) (s : Node) (op : Op) (h : s.started = true) : (step f s op).started = true := by
  cases op with
  | initConfig g =>
    simp only [step]; split
    · exact h
    · rfl
  | reset g | other g =>
    simp only [step]; split
    · exact (rewire_started ..).trans h
    · exact h
  | malloc => simp only [step]; split <;> exact h
  | free r =>
    simp only [step]; split
    · split <;> exact h
    · exact h
  | defrag => exact h

theorem wired_step (f : Facts) (hf : f.Stable) (s : Node) (op : Op) (hs : s.started = true) (w : Wired s) :
    Wired (step f s op) := by
  obtain ⟨hr, ho, hi, _⟩ := hf
  cases op with
  | initConfig g => simp [step, hs, hi]; exact w
  | reset g => simp [step, hr]; exact w
  | other g => simp [step, ho]; exact w
  | defrag => exact w
  | malloc =>
    obtain ⟨same, nodup, fresh, rep⟩ := w
    have nd' : ((s.nextRec, s.mallocTo) :: s.live |>.map (·.1)).Nodup := by
      simp only [List.map_cons, List.nodup_cons]
      refine ⟨?_, nodup⟩
      intro hm
      obtain ⟨x, hx, e⟩ := List.mem_map.1 hm
      have := fresh x hx
      omega
    have fr' : ∀ r ∈ (s.nextRec, s.mallocTo) :: s.live, r.1 < s.nextRec + 1 :=
      List.forall_mem_cons.2 ⟨Nat.lt_succ_self _, fun r hr => Nat.lt_succ_of_lt (fresh r hr)⟩
    cases hrep : s.reporting with
    | none =>
      rw [hrep] at rep
      obtain ⟨hm, hall⟩ := rep
      rw [hm] at nd' fr' same
      simp only [step, hm]
      refine ⟨same, nd', fr', ?_⟩
      simp only [hrep]
      exact ⟨trivial, List.forall_mem_cons.2 ⟨rfl, hall⟩⟩
    | some id =>
      rw [hrep] at rep
      obtain ⟨hm, hlt, hcnt, hall⟩ := rep
      rw [hm] at nd' fr' same
      simp only [step, hm]
      refine ⟨same, nd', fr', ?_⟩
      simp only [hrep]
      refine ⟨trivial, by simpa [length_bump] using hlt, ?_, List.forall_mem_cons.2 ⟨rfl, hall⟩⟩
      rw [getD_bump_same _ _ _ hlt, hcnt]; simp
  | free r =>
    by_cases hany : s.live.any (·.1 == r) = true
    · obtain ⟨same, nodup, fresh, rep⟩ := w
      have hlen := filter_ne_length s.live r nodup hany
      have nd' : ((s.live.filter (·.1 != r)).map (·.1)).Nodup :=
        (List.filter_sublist.map _).nodup nodup
      have fr' : ∀ x ∈ s.live.filter (·.1 != r), x.1 < s.nextRec :=
        fun x hx => fresh x (List.mem_filter.1 hx).1
      cases hrep : s.reporting with
      | none =>
        rw [hrep] at rep
        obtain ⟨hm, hall⟩ := rep
        have hf' : s.freeTo = .goHeap := by rw [← same, hm]
        simp only [step, hany, if_true, hf']
        refine ⟨hm, nd', fr', ?_⟩
        simp only [hrep]
        exact ⟨hm, fun x hx => hall x (List.mem_filter.1 hx).1⟩
      | some id =>
        rw [hrep] at rep
        obtain ⟨hm, hlt, hcnt, hall⟩ := rep
        have hf' : s.freeTo = .arena id := by rw [← same, hm]
        simp only [step, hany, if_true, hf']
        refine ⟨hm, nd', fr', ?_⟩
        simp only [hrep]
        refine ⟨hm, by simpa [length_bump] using hlt, ?_, fun x hx => hall x (List.mem_filter.1 hx).1⟩
        rw [getD_bump_same _ _ _ hlt, hcnt, hlen]
        omega
    · simp only [step, hany]
      exact w

theorem wired_run (f : Facts) (hf : f.Stable) (ops : List Op) (s : Node) (hs : s.started = true) (w : Wired s) :
    Wired (run f s ops) ∧ (run f s ops).started = true := by
  induction ops generalizing s with
  | nil => exact ⟨w, hs⟩
  | cons op t ih =>
    simp only [run]
    exact ih (step f s op) (started_step f s op hs) (wired_step f hf s op hs w)

theorem reporting_step (f : Facts) (hf : f.Stable) (s : Node) (op : Op) (hs : s.started = true) :
    (step f s op).reporting = s.reporting ∧ (step f s op).mallocTo = s.mallocTo ∧ (step f s op).freeTo = s.freeTo := by
  obtain ⟨hr, ho, hi, _⟩ := hf
  cases op with
  | initConfig g => simp [step, hs, hi]
  | reset g => simp [step, hr]
  | other g => simp [step, ho]
  | malloc => simp only [step]; split <;> exact ⟨rfl, rfl, rfl⟩
  | free r =>
    simp only [step]; split
    · split <;> exact ⟨rfl, rfl, rfl⟩
    · exact ⟨rfl, rfl, rfl⟩
  | defrag => exact ⟨rfl, rfl, rfl⟩

theorem reporting_run (f : Facts) (hf : f.Stable) (ops : List Op) (s : Node) (hs : s.started = true) :
    (run f s ops).reporting = s.reporting ∧ (run f s ops).mallocTo = s.mallocTo ∧ (run f s ops).freeTo = s.freeTo := by
  induction ops generalizing s with
  | nil => exact ⟨rfl, rfl, rfl⟩
  | cons op t ih =>
    simp only [run]
    obtain ⟨h1, h2, h3⟩ := reporting_step f hf s op hs
    rw [← h1, ← h2, ← h3]
    exact ih (step f s op) (started_step f s op hs)

end GocoinV.AllocNode
