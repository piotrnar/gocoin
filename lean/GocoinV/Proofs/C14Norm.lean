/-
  Proofs.C14Norm — `MnemonicToByteArray` splits on single spaces while `EntropyFromMnemonic` uses
  `strings.Fields`; on every sentence make_wallet passes in
  (generated by NewMnemonic, or normalised by the bip39 = -1 branch) the two splittings coincide.
-/
import GocoinV.Model.WalletKeys
import GocoinV.Proofs.C14Bip39
namespace GocoinV.Proofs.C14
open GocoinV Bip39 WalletKeys

theorem splitAux_all (P : UInt8 → Prop) : ∀ (s cur : Bytes), (∀ c ∈ cur, P c) → (∀ c ∈ s, c ≠ 32 → P c) →
    ∀ w ∈ splitAux s cur, ∀ c ∈ w, P c
  | [], cur, hc, _ => by
    intro w hw c hcw
    simp only [splitAux, List.mem_singleton] at hw
    subst hw
    exact hc c (by simpa using hcw)
  | a :: t, cur, hc, hs => by
    intro w hw c hcw
    rw [splitAux] at hw
    by_cases ha : a = 32
    · simp only [ha, ↓reduceIte, List.mem_cons] at hw
      rcases hw with rfl | hw
      · exact hc c (by simpa using hcw)
      · exact splitAux_all P t [] (by simp) (List.forall_mem_cons.mp hs).2 w hw c hcw
    · simp only [ha, ↓reduceIte] at hw
      exact splitAux_all P t (a :: cur) (List.forall_mem_cons.mpr ⟨hs _ List.mem_cons_self ha, hc⟩)
        (List.forall_mem_cons.mp hs).2 w hw c hcw

theorem normalize_words_noSpace (pass : Bytes) :
    ∀ w ∈ (splitSp ((pass.map asciiLower).map fun c => if isLowerAZ c then c else 32)).filter (· ≠ []), noSpace w := by
  intro w hw
  simp only [List.mem_filter, decide_eq_true_eq] at hw
  refine ⟨hw.2, ?_⟩
  refine splitAux_all (fun c => isSpace c = false) _ [] (by simp) ?_ w hw.1
  intro c hc hne
  simp only [List.mem_map] at hc
  obtain ⟨d, _, rfl⟩ := hc
  by_cases hd : isLowerAZ d = true
  · simp only [hd, ↓reduceIte] at hne ⊢
    simp only [isLowerAZ, decide_eq_true_eq] at hd
    exact isSpace_of_ge97 d (by omega)
  · simp only [hd] at hne
    exact absurd rfl hne

theorem normalize_split_eq_fields (pass : Bytes) :
    normalizeMnemonic pass = [] ∨ splitSp (normalizeMnemonic pass) = fields (normalizeMnemonic pass) := by
  have hn := normalize_words_noSpace pass
  simp only [normalizeMnemonic]
  generalize (splitSp ((pass.map asciiLower).map fun c => if isLowerAZ c then c else 32)).filter (· ≠ []) = ws at hn ⊢
  by_cases he : ws = []
  · left; subst he; rfl
  · right
    rw [splitSp_joinSp ws he hn, fields_joinSp ws hn]

end GocoinV.Proofs.C14
