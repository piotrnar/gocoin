/-
  Proofs.C06Tree — consequences of the well-formedness invariant `TreeWF` (Spec/ChainReplay) for the block tree of the
  chain model, seen as a partial function `getNode c : id ⇀ node`: heights, ancestors (`Desc`), branches (`Linked`);
  every height below a node is inhabited, so heights are below the number of nodes.
-/
import GocoinV.Spec.ChainReplay
import GocoinV.Proofs.C06Path
namespace GocoinV.ChainTree
open GocoinV.UtxoOps


theorem headId_eq (c : Chain) (p : List PE) : headId c p = headR c.root p := by cases p <;> rfl

theorem TreeWF.height_pos {U : List Block} {c : Chain} (w : TreeWF U c) {x : Nat} {n : Node}
    (h : getNode c x = some n) (hx : x ≠ c.root) : n.height ≥ 1 := by
  obtain ⟨p, _, hh, _⟩ := w.par x n h hx; omega

theorem TreeWF.root_of_height0 {U : List Block} {c : Chain} (w : TreeWF U c) {x : Nat} {n : Node}
    (h : getNode c x = some n) (h0 : n.height = 0) : x = c.root := by
  apply Classical.byContradiction
  intro hx
  have := w.height_pos h hx
  omega

theorem not_root_of_height_pos {U : List Block} {c : Chain} (w : TreeWF U c) {x : Nat} {n : Node}
    (hn : getNode c x = some n) (hh : n.height > 0) : x ≠ c.root := by
  intro e
  obtain ⟨r, hr, h0, _⟩ := w.root
  rw [e, hr] at hn; cases hn; omega

theorem Desc.trans {c : Chain} {a b x : Nat} (h1 : Desc c a b) (h2 : Desc c b x) : Desc c a x := by
  induction h2 with
  | refl => exact h1
  | step hn hx _ ih => exact Desc.step hn hx ih

theorem Desc.parent {c : Chain} {x : Nat} {n : Node} (hn : getNode c x = some n) (hx : x ≠ c.root) :
    Desc c n.parent x := Desc.step hn hx Desc.refl

theorem Desc.root_only {c : Chain} {a : Nat} (h : Desc c a c.root) : a = c.root := by
  cases h with
  | refl => rfl
  | step _ hx _ => exact absurd rfl hx

/-- an ancestor is in the tree, not higher, and at the same height only if it is the node itself -/
theorem Desc.height {U : List Block} {c : Chain} (w : TreeWF U c) {a x : Nat} (h : Desc c a x) :
    ∀ nx, getNode c x = some nx → ∃ na, getNode c a = some na ∧ na.height ≤ nx.height ∧ (na.height = nx.height → a = x) := by
  induction h with
  | refl => intro nx hx; exact ⟨nx, hx, Nat.le_refl _, fun _ => rfl⟩
  | @step x n hn hx _ ih =>
    intro nx hnx
    rw [hn] at hnx; cases hnx
    obtain ⟨p, hp, hh, _⟩ := w.par x n hn hx
    obtain ⟨na, hna, hle, _⟩ := ih p hp
    exact ⟨na, hna, by omega, fun he => by omega⟩

/-- nothing at or below the height of the active branch lies below a node that sits one above it: neither a block of the
    branch nor the tip is removed with the subtree of such a node -/
theorem not_below_of_le {U : List Block} {c : Chain} (w : TreeWF U c) {nx : Nat} {nxt : Node} (hnxt : getNode c nx = some nxt)
    {x : Nat} {n : Node} (hn : getNode c x = some n) (hle : n.height < nxt.height) : ¬ Desc c nx x := by
  intro hdd
  obtain ⟨na, hna, hle2, _⟩ := Desc.height w hdd n hn
  rw [hnxt] at hna; cases hna; omega

/-- a proper descendant passes through a child of the ancestor -/
theorem Desc.child_split {c : Chain} {a x : Nat} (h : Desc c a x) (hne : a ≠ x) :
    ∃ ch n, getNode c ch = some n ∧ n.parent = a ∧ ch ≠ c.root ∧ Desc c ch x := by
  induction h with
  | refl => exact absurd rfl hne
  | @step x n hn hx hd ih =>
    by_cases hp : a = n.parent
    · exact ⟨x, n, hn, hp.symm, hx, Desc.refl⟩
    · obtain ⟨ch, m, hm, hmp, hcr, hdd⟩ := ih hp
      exact ⟨ch, m, hm, hmp, hcr, Desc.step hn hx hdd⟩

theorem TreeWF.stored_has_data {U : List Block} {c : Chain} (w : TreeWF U c) {x : Nat} {n : Node} {s : Stored}
    (hn : getNode c x = some n) (hs : alookup x c.store = some s) : n.txCount ≠ 0 := by
  intro h0
  rw [w.hdr x n hn h0] at hs; cases hs

/-- the block of a node with data: in `U`, same parent / bits / transaction count, stored with its transactions -/
theorem TreeWF.blkData {U : List Block} {c : Chain} (w : TreeWF U c) {x : Nat} {n : Node}
    (hn : getNode c x = some n) (hx : x ≠ c.root) (hd : n.txCount ≠ 0) :
    ∃ b ∈ U, b.id = x ∧ b.parent = n.parent ∧ b.bits = n.bits ∧ n.txCount = b.txs.length ∧
      ∃ s, alookup x c.store = some s ∧ s.txs = b.txs := by
  obtain ⟨b, hb, h1, h2, h3, h4⟩ := w.blk x n hn hx
  obtain ⟨h5, s, h6, h7⟩ := h4 hd
  exact ⟨b, hb, h1, h2, h3, h5, s, h6, h7⟩

theorem TreeWF.parent_has_data {U : List Block} {c : Chain} (w : TreeWF U c) {x : Nat} {n : Node}
    (hn : getNode c x = some n) (hx : x ≠ c.root) (hd : HasData c x n) :
    ∃ p, getNode c n.parent = some p ∧ n.height = p.height + 1 ∧ HasData c n.parent p := by
  obtain ⟨p, hp, hph, _⟩ := w.par x n hn hx
  obtain ⟨p', hp', hpd⟩ := w.anc x n hn hx (hd.resolve_left hx)
  rw [hp] at hp'; cases hp'
  exact ⟨p, hp, hph, hpd⟩

theorem Desc.has_data {U : List Block} {c : Chain} (w : TreeWF U c) {a x : Nat} (h : Desc c a x) :
    ∀ nx, getNode c x = some nx → HasData c x nx → ∀ na, getNode c a = some na → HasData c a na := by
  induction h with
  | refl => intro nx hx hd na ha; rw [hx] at ha; cases ha; exact hd
  | @step x n hn hx _ ih =>
    intro nx hnx hd na ha
    rw [hn] at hnx; cases hnx
    obtain ⟨p, hp, _, hpd⟩ := w.parent_has_data hn hx hd
    exact ih p hp hpd na ha

theorem Linked_no_root {U : List Block} {c : Chain} (w : TreeWF U c) {p : List PE} (h : Linked c p) :
    ∀ e ∈ p, e.id ≠ c.root :=
  fun e he => let ⟨_, hb, _⟩ := (Linked_mem h e he).2; (w.store _ _ hb).1

theorem Linked_head_height {U : List Block} {c : Chain} (w : TreeWF U c) {p : List PE} (h : Linked c p) :
    ∃ t, getNode c (headId c p) = some t ∧ t.height = p.length := by
  induction p with
  | nil => obtain ⟨r, hr, h0, _⟩ := w.root; exact ⟨r, hr, h0⟩
  | cons e rest ih =>
    obtain ⟨⟨n, hn, hnp⟩, ⟨blk, hb, _⟩, hl⟩ := h
    obtain ⟨t, ht, hth⟩ := ih hl
    obtain ⟨p, hp, hh, _⟩ := w.par e.id n hn (w.store _ _ hb).1
    rw [hnp, ht] at hp; cases hp
    exact ⟨n, hn, by simp only [List.length_cons]; omega⟩

theorem Linked_UChain {U : List Block} {c : Chain} (w : TreeWF U c) {p : List PE} (h : Linked c p) :
    UChain U c.root p := by
  induction p with
  | nil => trivial
  | cons e rest ih =>
    obtain ⟨⟨n, hn, hnp⟩, ⟨blk, hb, hbt⟩, hl⟩ := h
    obtain ⟨b, hbU, hid, hpar, _, _, s, hs, hst⟩ := w.blkData hn (w.store _ _ hb).1 (w.stored_has_data hn hb)
    rw [hb] at hs; cases hs
    exact ⟨⟨b, hbU, hid, by rw [← hst, hbt], by rw [hpar, hnp, headId_eq]⟩, ih hl⟩

/-- every node of the tree THAT HAS ITS DATA is the head of a branch (of stored blocks) whose length is its height -/
theorem branch_exists {U : List Block} {c : Chain} (w : TreeWF U c) :
    ∀ (h x : Nat) (n : Node), getNode c x = some n → HasData c x n → n.height = h →
      ∃ p, Linked c p ∧ headId c p = x ∧ p.length = h := by
  intro h
  induction h with
  | zero => intro x n hn _ h0; exact ⟨[], trivial, (w.root_of_height0 hn h0).symm, rfl⟩
  | succ h ih =>
    intro x n hn hdat hh
    have hx : x ≠ c.root := not_root_of_height_pos w hn (by omega)
    obtain ⟨p, hp, hph, hpd⟩ := w.parent_has_data hn hx hdat
    obtain ⟨q, hq, hqh, hql⟩ := ih n.parent p hp hpd (by omega)
    have htc : n.txCount ≠ 0 := hdat.resolve_left hx
    obtain ⟨b, _, _, _, _, _, s, hs, _⟩ := w.blkData hn hx htc
    exact ⟨⟨x, s.txs⟩ :: q, ⟨⟨n, hn, hqh.symm⟩, ⟨s, hs, rfl⟩, hq⟩, rfl, by simp only [List.length_cons, hql]⟩

/-- an ancestor-or-self of the head of a branch splits the branch -/
theorem path_split {c : Chain} {a : Nat} : ∀ (path : List PE), Linked c path → Desc c a (headId c path) →
    ∃ pre post, path = pre ++ post ∧ headId c post = a ∧ (∀ e ∈ pre, e.id ≠ a) := by
  intro path
  induction path with
  | nil =>
    intro _ hd
    exact ⟨[], [], rfl, (Desc.root_only hd).symm, fun _ he => by cases he⟩
  | cons e rest ih =>
    intro hl hd
    by_cases hea : e.id = a
    · exact ⟨[], e :: rest, rfl, hea, fun _ he => by cases he⟩
    · obtain ⟨⟨n, hn, hnp⟩, _, hl2⟩ := hl
      have hd' : Desc c a (headId c rest) := by
        cases hd with
        | refl => exact absurd rfl hea
        | step hn' _ hd2 =>
          have hn'' : getNode c e.id = some _ := hn'
          rw [hn] at hn''; cases hn''
          rw [← hnp]; exact hd2
      obtain ⟨pre, post, hpp, hh, hne⟩ := ih hl2 hd'
      exact ⟨e :: pre, post, by rw [hpp]; rfl, hh, List.forall_mem_cons.mpr ⟨hea, hne⟩⟩

theorem range_sub_length : ∀ (h : Nat) (l : List Nat), (∀ k, k ≤ h → k ∈ l) → h < l.length := fun h l hl => by
  have := List.nodup_range.length_le_of_subset fun k hk => hl k (Nat.le_of_lt_succ (List.mem_range.mp hk))
  rwa [List.length_range] at this

theorem heights_inhabited {U : List Block} {c : Chain} (w : TreeWF U c) :
    ∀ (h x : Nat) (n : Node), getNode c x = some n → n.height = h → ∀ k, k ≤ h → k ∈ c.nodes.map (·.height) := by
  intro h
  induction h with
  | zero =>
    intro x n hn h0 k hk
    have : k = 0 := by omega
    subst this
    exact List.mem_map.mpr ⟨n, getNode_mem hn, h0⟩
  | succ h ih =>
    intro x n hn hh k hk
    by_cases hk2 : k = h + 1
    · subst hk2; exact List.mem_map.mpr ⟨n, getNode_mem hn, hh⟩
    · have hx : x ≠ c.root := not_root_of_height_pos w hn (by omega)
      obtain ⟨p, hp, hph, _⟩ := w.par x n hn hx
      exact ih n.parent p hp (by omega) k (by omega)

/-- **heights are below the number of nodes** (every level below a node is inhabited) -/
theorem height_lt_length {U : List Block} {c : Chain} (w : TreeWF U c) {x : Nat} {n : Node}
    (hn : getNode c x = some n) : n.height < c.nodes.length := by
  have := range_sub_length n.height (c.nodes.map (·.height)) (heights_inhabited w n.height x n hn rfl)
  simpa using this

end GocoinV.ChainTree
