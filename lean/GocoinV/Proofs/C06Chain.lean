/-
  Proofs.C06Chain — what CommitBlockTxs (`commitBlockTxs`), the tip-extension branch of CommitBlock and UndoLastBlock
  (`undoLast`) of Model/ChainTree leave in the fields of the chain state: unspent map, undo files, store, tip.
-/
import GocoinV.Model.ChainTree
import GocoinV.Proofs.C06Utxo
namespace GocoinV.ChainTree
open GocoinV.UtxoOps

theorem cbt_fields (c : Chain) (h : Nat) (w : Bool) (t : List Nat) (ch : Changes) :
    (commitBlockTxs c h w t ch).utxo = commit c.utxo ch ∧ (commitBlockTxs c h w t ch).lastHeight = h ∧
    (commitBlockTxs c h w t ch).tip = c.tip ∧ (commitBlockTxs c h w t ch).nodes = c.nodes := by
  unfold commitBlockTxs
  by_cases hv : validChangesB c.utxo t ch = true <;> simp [hv]


theorem alookup_aset {β} (k : Nat) (v : β) (l : List (Nat × β)) : alookup k (aset k v l) = some v := by
  rw [alookup_eq, aset_eq, Assoc.lookup_insert, if_pos rfl]

theorem alookup_filter_ne {β} (k j : Nat) (l : List (Nat × β)) (h : k ≠ j) :
    alookup k (l.filter (fun p => p.1 != j)) = alookup k l := by
  rw [alookup_eq, alookup_eq, Assoc.lookup_filter (· != j), if_pos (by simpa using h)]

/-- the undo files after `commitBlockTxs`: the block's own is written, the one `UnwindBufLen` below is pruned -/
theorem cbt_undoFiles (c : Chain) (h : Nat) (t : List Nat) (ch : Changes) :
    (commitBlockTxs c h true t ch).undoFiles =
      if h > UnwindBufLen then (aset h ch.undo c.undoFiles).filter (fun p => p.1 != h - UnwindBufLen)
      else aset h ch.undo c.undoFiles := by
  unfold commitBlockTxs
  cases validChangesB c.utxo t ch <;> rfl

theorem cbt_undo_file (c : Chain) (h : Nat) (t : List Nat) (ch : Changes) :
    alookup h (commitBlockTxs c h true t ch).undoFiles = some ch.undo := by
  rw [cbt_undoFiles]
  split
  · rw [alookup_filter_ne]
    · exact alookup_aset _ _ _
    · unfold UnwindBufLen at *; omega
  · exact alookup_aset _ _ _

theorem cbt_store (c : Chain) (h : Nat) (w : Bool) (t : List Nat) (ch : Changes) :
    (commitBlockTxs c h w t ch).store = c.store := by
  unfold commitBlockTxs
  by_cases hv : validChangesB c.utxo t ch = true <;> simp [hv]

theorem getNode_id {c : Chain} {i : Nat} {n : Node} (h : getNode c i = some n) : n.id = i := by
  simpa using List.find?_some h

/-- the chain right before `commitBlockTxs` in the tip-extension branch of `commitBlock` -/
def preCommit (c : Chain) (b : Block) : Chain :=
  { modNode c b.id (fun n => { n with txCount := b.txs.length }) with
    store := aset b.id { txs := b.txs, trusted := true } c.store }

theorem commitBlock_tip_ok (a : Chain) (b : Block) (h : Nat) (ch : Changes) (htip : a.tip = b.parent)
    (hok : commitTxs a.utxo h (reward h) false b.txs = .ok ch) :
    commitBlock a b h = ({ commitBlockTxs (preCommit a b) h true (b.txs.map (·.txid)) ch with tip := b.id }, Outcome.ok) := by
  unfold commitBlock preCommit
  simp only [modNode, htip, beq_self_eq_true, if_true, hok]

theorem commitBlock_ok_eq (c : Chain) (b : Block) (h : Nat) (ch : Changes)
    (htip : c.tip = b.parent) (hok : commitTxs c.utxo h (reward h) false b.txs = .ok ch) :
    (commitBlock c b h).1 = { commitBlockTxs (preCommit c b) h true (b.txs.map (·.txid)) ch with tip := b.id } :=
  congrArg Prod.fst (commitBlock_tip_ok c b h ch htip hok)

theorem undoLast_ok (x : Chain) (n : Node) (blk : Stored) (undo : List Rec)
    (hn : getNode x x.tip = some n) (hs : alookup n.id x.store = some blk)
    (hu : alookup x.lastHeight x.undoFiles = some undo) :
    undoLast x = .ok { x with utxo := undoBlock x.utxo (blk.txs.map (·.txid)) undo, tip := n.parent,
                              lastHeight := x.lastHeight - 1 } := by
  unfold undoLast node!
  simp only [hn, hu, bind, Except.bind, pure, Except.pure, hs]


end GocoinV.ChainTree
