/-
  Proofs.C08_Lift — `XY.SetXO` (decompression / x-only lifting) and `XY.IsValid` over the generated limb
  functions, in F_p: root of x³+7 when it is a square, requested parity, curve equation decided exactly.
-/
import GocoinV.Proofs.C08_Group
namespace GocoinV.C08
open GocoinV.Gen.Field5x52

/-- parity of the canonical representative of −r (r ≠ 0): the opposite of that of r, since p is odd -/
theorem neg_val_parity (r : F) (hr : r ≠ 0) : (-r).val % 2 = 1 ↔ ¬ (r.val % 2 = 1) := by
  have h : (-r).val = P - r.val := ZMod.neg_val' r |>.trans (by
    rw [Nat.mod_eq_of_lt]
    have : 0 < r.val := Nat.pos_of_ne_zero (fun h => hr ((ZMod.val_eq_zero r).1 h))
    have := P_pos
    omega)
  have hlt : r.val < P := ZMod.val_lt r
  have : P % 2 = 1 := by decide
  rw [h]; omega

/-- `XY.SetXO` (decompression / x-only lifting): for EVERY x of magnitude ≤ 8 (what Sqr/Mul accept) the result keeps x and has a fully
    normalised y (in the proof: ±c^((p+1)/4) for c = x³ + 7); if c is a square in F_p then y² = x³ + 7 (the point is on the
    curve), and if moreover y ≠ 0 the parity of y is the requested one. -/
theorem setXO_ok (x : Fe) (odd : Bool) (hx : x.mag 8) :
    (XY.setXO x odd).x = x ∧ (XY.setXO x odd).inf = false ∧ (XY.setXO x odd).ok ∧ (XY.setXO x odd).y.normd ∧
    (∀ r : F, r * r = x.z ^ 3 + 7 →
      (XY.setXO x odd).y.z * (XY.setXO x odd).y.z = x.z ^ 3 + 7 ∧
      ((XY.setXO x odd).y.z ≠ 0 → (((XY.setXO x odd).y.val % 2 = 1) ↔ odd = true))) := by
  have x2 := (FeS.self hx).sqr (by decide)
  have x3 := (FeS.self hx).mul x2 (by decide) (by decide)
  have c := (FeS.ofInt 7 (by decide)).add x3 (by decide)
  have s := sqrt_pow _ _ c.1 (by decide)
  rw [c.2] at s
  obtain ⟨yn, ynd⟩ := s.norm (by decide)
  have hc : ((7 : Nat) : F) + x.z * (x.z * x.z) = x.z ^ 3 + 7 := by push_cast; ring
  rw [hc] at s yn
  unfold XY.setXO
  simp only []
  generalize hR : (x.z ^ 3 + 7) ^ ((P + 1) / 4) = R at s yn
  generalize normalize (sqrt (setAdd (setInt 7) (mul x (sqr x)))) = y at yn ynd ⊢
  have hodd := isOdd_iff' y
  rw [← val_of_normd ynd, yn.2] at hodd
  -- the sign is chosen so that the parity is the requested one; either way the square is R²
  have key : ∃ σ : F, FeS (if (isOdd y != odd) = true then negate y 1 else y) 2 σ ∧ σ * σ = R * R ∧
      (σ ≠ 0 → (σ.val % 2 = 1 ↔ odd = true)) := by
    by_cases hne : (isOdd y != odd) = true
    · rw [if_pos hne]
      refine ⟨-R, yn.neg 1 (by decide) (by decide), neg_mul_neg R R, fun h0 => ?_⟩
      rw [neg_val_parity R (neg_ne_zero.1 h0), ← hodd]
      cases ho : odd <;> cases hi : isOdd y <;> simp_all
    · rw [if_neg hne]
      refine ⟨R, yn.mono (by decide), rfl, fun _ => ?_⟩
      rw [← hodd]
      cases ho : odd <;> cases hi : isOdd y <;> simp_all
  obtain ⟨σ, y', hsq, hpar⟩ := key
  obtain ⟨yf, yfd⟩ := y'.norm (by decide)
  refine ⟨trivial, trivial, ⟨hx, mag_mono yf.1 (by decide)⟩, yfd, fun r hr => ?_⟩
  have hR2 := sqrt_sq _ r hr
  rw [hR] at hR2
  refine ⟨by rw [yf.2, hsq, hR2], fun hy0 => ?_⟩
  rw [← val_of_normd yfd, yf.2]
  exact hpar (by rwa [yf.2] at hy0)

/-- `XY.IsValid` decides the curve equation y² = x³ + 7 in F_p (and rejects ∞), for every affine point within the contract -/
theorem isValid_iff (a : XY) (ha : a.ok) :
    XY.isValid a = true ↔ (a.inf = false ∧ a.y.z * a.y.z = a.x.z ^ 3 + 7) := by
  obtain ⟨hx, hy⟩ := ha
  unfold XY.isValid
  cases hi : a.inf with
  | true => simp
  | false =>
    simp only [Bool.false_eq_true, if_false, true_and]
    have y2 := (FeS.self hy).sqr (by decide)
    have x3 := (((FeS.self hx).sqr (by decide)).mul (FeS.self hx) (by decide) (by decide)).add
      (FeS.ofInt 7 (by decide)) (by decide)
    obtain ⟨l, ld⟩ := y2.norm (by decide)
    obtain ⟨r, rd⟩ := x3.norm (by decide)
    rw [equals_normd ld rd, l.2, r.2]
    have : a.x.z * a.x.z * a.x.z + ((7 : Nat) : F) = a.x.z ^ 3 + 7 := by push_cast; ring
    rw [this]
end GocoinV.C08
