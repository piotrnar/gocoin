/-
  Proofs.C15Wif — WIF private-key strings (lib/btc/wallet.go DecodePrivateAddr / PrivateAddr.String):
  C14's model (Model/HD.lean) factors through the string-level codec of Model/AddrWif.lean, and that
  codec is a bijection between accepted strings with a canonical flag byte and (version, 32-byte key,
  compressed) triples. The flag byte of a 38-byte payload IS checked (anything but 01 is refused — the test of /repo's
  `fix:` commit for finding `wif-flag-byte-unchecked`); hence every accepted string is canonical.
-/
import GocoinV.Model.AddrWif
import GocoinV.Proofs.C15Base58Inv
namespace GocoinV.AddrWif
open HD

/-- C14's `decodePrivateAddr` = string-level `decode`, then `NewPrivateAddr` on the triple -/
theorem decodePrivateAddr_factors (C : WalletCrypto) (s : Bytes) :
    HD.decodePrivateAddr C s =
      match decode C s with
      | .error e => .error e
      | .ok (v, k, c) => .ok (newPrivateAddr C k v c) := by
  unfold HD.decodePrivateAddr decode
  cases Base58.decode s with
  | none => rfl
  | some pkb =>
    simp only
    split; · rfl
    split; · rfl
    split; · rfl
    split; · rfl
    rfl

theorem pub_length (key : Bytes) (compr : Bool) (pb : Bytes) (h : publicFromPrivate key compr = some pb) :
    pb.length = if compr then 33 else 65 := by
  unfold publicFromPrivate serPoint at h
  cases hm : Secp.mul (beVal key) Secp.G with
  | none => simp [hm] at h
  | some P =>
    simp only [hm, Option.some.injEq] at h
    subst h
    cases compr <;> simp [Secp.ser33, Secp.ser65, beBytes]

/-- C14's `privAddrString` of what `NewPrivateAddr` builds = string-level `encode` of the triple -/
theorem privAddrString_factors (C : WalletCrypto) (key : Bytes) (ver : UInt8) (compr : Bool) (pa : PrivAddr)
    (h : newPrivateAddr C key ver compr = .ok pa) : privAddrString C pa = .ok (encode C ver key compr) := by
  unfold newPrivateAddr at h
  cases hpub : publicFromPrivate key compr with
  | none => simp [hpub] at h
  | some pb =>
    simp only [hpub, Except.ok.injEq] at h
    subst h
    unfold privAddrString encode payload
    cases compr <;> simp [pub_length _ _ pb hpub]

theorem decode_of_body (C : WalletCrypto) (hlen : ∀ b, (C.shaHash b).length = 32) (buf : Bytes)
    (hb : buf.length = 33 ∨ buf.length = 34) :
    decode C (Base58.encode (buf ++ (C.shaHash buf).take 4)) =
      if buf.length = 34 ∧ buf.getD 33 0 ≠ 1 then .error .flag
      else .ok (buf.headD 0, (buf.drop 1).take 32, decide (buf.length = 34 ∧ buf.getD 33 0 = 1)) := by
  have hcs := take4_length (hlen buf)
  generalize hcsd : (C.shaHash buf).take 4 = cs at hcs
  have hl : (buf ++ cs).length = buf.length + 4 := by simp [hcs]
  unfold decode
  rw [Base58.decode_encode _ (List.ne_nil_of_length_eq_add_one hl)]
  have ht : (buf ++ cs).take ((buf ++ cs).length - 4) = buf := by
    rw [hl]; exact List.take_left' (by omega)
  have hd : (buf ++ cs).drop ((buf ++ cs).length - 4) = cs := by
    rw [hl]; exact List.drop_left' (by omega)
  have hh : (buf ++ cs).headD 0 = buf.headD 0 := by
    cases buf with
    | nil => simp at hb
    | cons x t => rfl
  have hk : ((buf ++ cs).drop 1).take 32 = (buf.drop 1).take 32 := by
    rw [List.drop_append_of_le_length (by omega), List.take_append_of_le_length (by simp; omega)]
  have hg : buf.length = 34 → (buf ++ cs).getD 33 0 = buf.getD 33 0 := by
    intro h34
    rw [List.getD_eq_getElem?_getD, List.getD_eq_getElem?_getD, List.getElem?_append_left (by omega)]
  generalize hp : buf ++ cs = pkb at hl ht hd hh hk hg
  simp only [ht, hd, hcsd, hh, hk, ne_eq, not_true_eq_false, ↓reduceIte]
  rw [if_neg (by omega), if_neg (by omega)]
  by_cases h34 : buf.length = 34
  · simp only [h34, show pkb.length = 38 by omega, hg h34, true_and]
  · simp only [h34, show ¬ pkb.length = 38 by omega, false_and]

theorem decode_encode (C : WalletCrypto) (hlen : ∀ b, (C.shaHash b).length = 32) (ver : UInt8) (key : Bytes)
    (compr : Bool) (hk : key.length = 32) : decode C (encode C ver key compr) = .ok (ver, key, compr) := by
  unfold encode
  rw [decode_of_body C hlen (payload ver key compr) (by cases compr <;> simp [payload, hk])]
  cases compr <;> simp [payload, hk, List.take_of_length_le, List.take_left' hk]

theorem accept_iff (C : WalletCrypto) (s : Bytes) (v : UInt8) (k : Bytes) (c : Bool) :
    decode C s = .ok (v, k, c) ↔
      ∃ pkb, Base58.decode s = some pkb ∧
        ((pkb.length = 37 ∧ c = false) ∨ (pkb.length = 38 ∧ pkb.getD 33 0 = 1 ∧ c = true)) ∧
        (C.shaHash (pkb.take (pkb.length - 4))).take 4 = pkb.drop (pkb.length - 4) ∧
        v = pkb.headD 0 ∧ k = (pkb.drop 1).take 32 := by
  unfold decode
  cases hd : Base58.decode s with
  | none => simp
  | some pkb =>
    simp only [Option.some.injEq, exists_eq_left']
    constructor
    · intro h
      split at h; · simp at h
      split at h; · simp at h
      split at h; · simp at h
      rename_i h3
      split at h; · simp at h
      rename_i h4
      simp only [Except.ok.injEq, Prod.mk.injEq] at h
      refine ⟨?_, by simpa using h3, h.1.symm, h.2.1.symm⟩
      by_cases h38 : pkb.length = 38
      · have hf : pkb.getD 33 0 = 1 := Classical.byContradiction fun hn => h4 ⟨h38, hn⟩
        exact Or.inr ⟨h38, hf, h.2.2.symm.trans (decide_eq_true ⟨h38, hf⟩)⟩
      · exact Or.inl ⟨by omega, h.2.2.symm.trans (decide_eq_false (fun hh => h38 hh.1))⟩
    · rintro ⟨hl, hc, rfl, rfl⟩
      rw [if_neg (by omega), if_neg (by omega), if_neg (not_not_intro hc)]
      rcases hl with ⟨hl, rfl⟩ | ⟨hl, hf, rfl⟩
      · have hn : ¬ (pkb.length = 38 ∧ pkb.getD 33 0 = 1) := fun hh => by omega
        rw [if_neg (by omega), decide_eq_false hn]
      · rw [if_neg (fun h => h.2 hf), decide_eq_true (⟨hl, hf⟩ : pkb.length = 38 ∧ pkb.getD 33 0 = 1)]

/-- the payload of an accepted string satisfies the flag rule of Bitcoin Core's `DecodeSecret` -/
theorem accepted_canonical (C : WalletCrypto) (s pkb : Bytes) (v : UInt8) (k : Bytes) (c : Bool)
    (hd : Base58.decode s = some pkb) (h : decode C s = .ok (v, k, c)) : canonicalFlag pkb = true := by
  obtain ⟨pkb', hd', hl, _⟩ := (accept_iff C s v k c).mp h
  cases hd.symm.trans hd'
  unfold canonicalFlag
  rcases hl with ⟨hl, _⟩ | ⟨_, hf, _⟩
  · simp [hl]
  · rw [List.getD_eq_getElem?_getD] at hf
    simp [hf]

theorem encode_decode (C : WalletCrypto) (s : Bytes) (v : UInt8) (k : Bytes) (c : Bool)
    (h : decode C s = .ok (v, k, c)) : encode C v k c = s ∧ k.length = 32 := by
  obtain ⟨pkb, hd, hl, hc, rfl, rfl⟩ := (accept_iff C s v k c).mp h
  have hkl : ((pkb.drop 1).take 32).length = 32 := by
    simp; omega
  refine ⟨?_, hkl⟩
  have hbody : payload (pkb.headD 0) ((pkb.drop 1).take 32) c = pkb.take (pkb.length - 4) := by
    unfold payload
    rcases hl with ⟨hl, rfl⟩ | ⟨hl, hflag, rfl⟩
    · rw [hl]; exact Addr.headD_cons_take pkb 32 hl
    · rw [hl, if_pos rfl, ← List.cons_append, Addr.headD_cons_take pkb 32 hl]
      -- pkb.take 34 = pkb.take 33 ++ [1]
      have hlt : 33 < pkb.length := by omega
      have hg : pkb[33] = 1 := by simpa [hlt] using hflag
      rw [List.take_succ_eq_append_getElem hlt, hg]
  unfold encode
  simp only
  rw [hbody, hc, List.take_append_drop]
  exact Base58.encode_decode s pkb hd

end GocoinV.AddrWif
