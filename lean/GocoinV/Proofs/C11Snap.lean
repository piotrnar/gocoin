/-
  Proofs.C11Snap — the bookkeeping invariant of the snapshot protocol (Model/Conc.lean, namespace Snap) that chains
  saver → data_channel → file goroutine → rename (`FileInv`): what the main and the auxiliary goroutine cannot touch
  (`Frame`), the lemmas by which the saver's transitions keep it, and the file goroutine's steps (`stepF_all`). The walk
  over the other goroutines' steps is in Proofs/C11Live.lean, with the control invariants needed for deadlock freedom.
-/
import GocoinV.Proofs.C11
namespace GocoinV.Proofs.C11.SnapC
open GocoinV.Conc GocoinV.Conc.Snap GocoinV.Proofs.C11.SnapP

/-- the saver is in the part of `save` in which its file goroutine is alive and waits for it -/
def paired : SPc → Bool | .loop | .fin _ => true | _ => false

/-- exit token already sent: either "abort", or "done" with every chunk accounted for -/
def unpairedOK (st : St) (fl : Filer) : Prop :=
  st.exitCh = some true ∨ (st.exitCh = some false ∧ fl.content.length + st.dataCh.length = fl.tot)

structure FileInv (st : St) : Prop where
  vis : ∀ v, v ∈ st.visible → v.good = true
  fcl : st.fclosed = if st.f.isSome then 1 else 0
  pair : ∀ sv, st.s = some sv → paired sv.pc = true → ∃ fl, st.f = some fl ∧ fl.pc = .run
  fl_hst : ∀ fl, st.f = some fl → fl.hst = true
  fl_cont : ∀ fl, st.f = some fl → ∀ c, c ∈ fl.content → c = fl.hv
  fl_ren : ∀ fl, st.f = some fl → fl.pc = .rename → fl.content.length = fl.tot
  fl_data : ∀ fl, st.f = some fl → fl.pc = .run → ∀ c, c ∈ st.dataCh → c = fl.hv
  ch_loop : ∀ fl sv, st.f = some fl → fl.pc = .run → st.s = some sv → sv.pc = .loop →
      st.exitCh = none ∧ st.ver = fl.hv ∧ fl.content.length + st.dataCh.length + sv.k = fl.tot
  ch_finF : ∀ fl sv, st.f = some fl → fl.pc = .run → st.s = some sv → sv.pc = .fin false →
      st.exitCh = none ∧ fl.content.length + st.dataCh.length = fl.tot
  ch_finT : ∀ fl sv, st.f = some fl → fl.pc = .run → st.s = some sv → sv.pc = .fin true → st.exitCh = none
  ch_unp : ∀ fl, st.f = some fl → fl.pc = .run → (∀ sv, st.s = some sv → paired sv.pc = false) → unpairedOK st fl

theorem fileInv_init (mp xp cap) : FileInv (init mp xp cap) := by
  constructor <;> simp [init]

/-! what the main / auxiliary goroutine cannot touch -/

structure Frame (st st' : St) : Prop where
  f : st'.f = st.f
  dataCh : st'.dataCh = st.dataCh
  exitCh : st'.exitCh = st.exitCh
  visible : st'.visible = st.visible
  fclosed : st'.fclosed = st.fclosed
  cap : st'.cap = st.cap
  s : st'.s = st.s ∨ (st.s = none ∧ st'.s = some { pc := .waitFile })
  ver : st'.ver = st.ver ∨ st.mpc = .cMut1 ∨ st.mpc = .cMut2

/-- the fields that neither the saver's nor the file goroutine's bookkeeping reads -/
theorem Frame.ctl (st : St) (mprog mpc xprog xpc mtx wip dirty abortCh hurryCh wdone stable) :
    Frame st { st with mprog := mprog, mpc := mpc, xprog := xprog, xpc := xpc, mtx := mtx, wip := wip, dirty := dirty,
                       abortCh := abortCh, hurryCh := hurryCh, wdone := wdone, stable := stable } :=
  ⟨rfl, rfl, rfl, rfl, rfl, rfl, .inl rfl, .inl rfl⟩

namespace FileInv
variable {st : St} (h : FileInv st)
include h

/-- `FileInv` reads the state only through these fields, and `ver` only while the saver is in its loop -/
theorem congr {st' : St} (hv : st'.visible = st.visible) (hc : st'.fclosed = st.fclosed) (hf : st'.f = st.f)
    (hd : st'.dataCh = st.dataCh) (he : st'.exitCh = st.exitCh) (hs : st'.s = st.s)
    (hver : ∀ sv, st.s = some sv → sv.pc = .loop → st'.ver = st.ver) : FileInv st' := by
  constructor
  · rw [hv]; exact h.vis
  · rw [hc, hf]; exact h.fcl
  · rw [hs, hf]; exact h.pair
  · rw [hf]; exact h.fl_hst
  · rw [hf]; exact h.fl_cont
  · rw [hf]; exact h.fl_ren
  · rw [hf, hd]; exact h.fl_data
  · rw [hf, hs, he, hd]
    intro fl sv h1 h2 h3 h4
    rw [hver sv h3 h4]
    exact h.ch_loop fl sv h1 h2 h3 h4
  · rw [hf, hs, he, hd]; exact h.ch_finF
  · rw [hf, hs, he]; exact h.ch_finT
  · unfold unpairedOK
    rw [hf, hs, he, hd]; exact h.ch_unp

/-- outside the paired part of `save`: the saver moves on, leaves, or a new one starts -/
theorem unpaired (hnp : ∀ sv, st.s = some sv → paired sv.pc = false) (s' : Option Saver)
    (hnp' : ∀ sv, s' = some sv → paired sv.pc = false) (wip wdone) :
    FileInv { st with s := s', wip := wip, wdone := wdone } :=
  { h with
    pair sv hsv hp := nomatch (hnp' sv hsv).symm.trans hp
    ch_loop _ sv _ _ hsv hpc := nomatch (hnp' sv hsv).symm.trans (show paired sv.pc = true by rw [hpc]; rfl)
    ch_finF _ sv _ _ hsv hpc := nomatch (hnp' sv hsv).symm.trans (show paired sv.pc = true by rw [hpc]; rfl)
    ch_finT _ sv _ _ hsv hpc := nomatch (hnp' sv hsv).symm.trans (show paired sv.pc = true by rw [hpc]; rfl)
    ch_unp fl h1 h2 _ := h.ch_unp fl h1 h2 hnp }

/-- the saver leaves its loop, on the abort token (`a = true`) or with nothing left to read -/
theorem toFin {sv sv' : Saver} (hsv : st.s = some sv) (hpc : sv.pc = .loop) (a : Bool) (hk : a = false → sv.k = 0)
    (hpc' : sv'.pc = .fin a) (abortCh) : FileInv { st with s := some sv', abortCh := abortCh } := by
  obtain ⟨fl0, hf0, hr0⟩ := h.pair sv hsv (by rw [hpc]; rfl)
  obtain ⟨he0, -, hc0⟩ := h.ch_loop fl0 sv hf0 hr0 hsv hpc
  refine { h with pair := fun _ _ _ => ⟨fl0, hf0, hr0⟩, ch_loop := ?_, ch_finF := ?_, ch_finT := ?_, ch_unp := ?_ }
  · rintro _ _ _ _ ⟨⟩ h4; rw [hpc'] at h4; cases h4
  · rintro fl _ h1 _ ⟨⟩ h4
    cases hf0.symm.trans h1
    rw [hpc'] at h4; cases h4
    rw [hk rfl] at hc0
    exact ⟨he0, hc0⟩
  · rintro _ _ _ _ ⟨⟩ _; exact he0
  · intro _ _ _ h3; have := h3 _ rfl; rw [hpc'] at this; cases this

end FileInv

theorem FileInv.fcl_some {st : St} (h : FileInv st) {fl : Filer} (hf : st.f = some fl) : st.fclosed = 1 := by
  have := h.fcl; rwa [hf] at this

/-- `FileInv` of a state whose file goroutine `fl` is known: the clauses about it, without the look-up, those about its
    loop under one test -/
theorem FileInv.of_filer {st : St} {fl : Filer} (hf : st.f = some fl)
    (vis : ∀ v, v ∈ st.visible → v.good = true) (fcl : st.fclosed = 1)
    (pair : ∀ sv, st.s = some sv → paired sv.pc = true → fl.pc = .run)
    (hst : fl.hst = true) (cont : ∀ c, c ∈ fl.content → c = fl.hv)
    (ren : fl.pc = .rename → fl.content.length = fl.tot)
    (run : fl.pc = .run → (∀ c, c ∈ st.dataCh → c = fl.hv) ∧
      (∀ sv, st.s = some sv → sv.pc = .loop →
        st.exitCh = none ∧ st.ver = fl.hv ∧ fl.content.length + st.dataCh.length + sv.k = fl.tot) ∧
      (∀ sv, st.s = some sv → sv.pc = .fin false →
        st.exitCh = none ∧ fl.content.length + st.dataCh.length = fl.tot) ∧
      (∀ sv, st.s = some sv → sv.pc = .fin true → st.exitCh = none) ∧
      ((∀ sv, st.s = some sv → paired sv.pc = false) → unpairedOK st fl)) : FileInv st where
  vis := vis
  fcl := by rw [hf]; exact fcl
  pair sv hsv hp := ⟨fl, hf, pair sv hsv hp⟩
  fl_hst fl' h' := by cases hf.symm.trans h'; exact hst
  fl_cont fl' h' := by cases hf.symm.trans h'; exact cont
  fl_ren fl' h' := by cases hf.symm.trans h'; exact ren
  fl_data fl' h' hp := by cases hf.symm.trans h'; exact (run hp).1
  ch_loop fl' sv h' hp := by cases hf.symm.trans h'; exact (run hp).2.1 sv
  ch_finF fl' sv h' hp := by cases hf.symm.trans h'; exact (run hp).2.2.1 sv
  ch_finT fl' sv h' hp := by cases hf.symm.trans h'; exact (run hp).2.2.2.1 sv
  ch_unp fl' h' hp := by cases hf.symm.trans h'; exact (run hp).2.2.2.2

/-- a step that satisfies the frame conditions (and changes `ver` only inside the mutation part, where by
    `SnapP.inv` the saver is not reading) preserves the file invariant -/
theorem fileInv_frame (st st' : St) (hi : inv st) (h : FileInv st) (fr : Frame st st') : FileInv st' := by
  obtain ⟨ff, fd, fe, fv, fc, _, fs, fver⟩ := fr
  have hver : ∀ sv, st.s = some sv → sv.pc = .loop → st'.ver = st.ver := by
    intro sv hsv hpc
    rcases fver with h1 | h1 | h1
    · exact h1
    all_goals have := hi.excl hsv (by simp [h1, mCrit]); simp [reading, hpc] at this
  rcases fs with fs | ⟨fs0, fs1⟩
  · exact h.congr fv fc ff fd fe fs hver
  · exact (h.unpaired (by rw [fs0]; nofun) (some { pc := .waitFile }) (by rintro _ ⟨⟩; rfl) st.wip st.wdone).congr
      fv fc ff fd fe fs1 (by rintro _ ⟨⟩ hp; cases hp)

theorem good_of (hv tot : Nat) (content : List Nat) (h1 : content.length = tot) (h2 : ∀ c, c ∈ content → c = hv) :
    Visible.good { hv := hv, hst := true, tot := tot, content := content } = true := by
  simp only [Visible.good, Bool.true_and, Bool.and_eq_true, beq_iff_eq, List.all_eq_true]
  exact ⟨h1, h2⟩

theorem noPaired_of_exit (st : St) (h : FileInv st) (fl : Filer) (hf : st.f = some fl) (hr : fl.pc = .run)
    (b : Bool) (he : st.exitCh = some b) : ∀ sv, st.s = some sv → paired sv.pc = false := by
  intro sv hsv
  cases hpc : sv.pc with
  | loop => exact nomatch he.symm.trans (h.ch_loop fl sv hf hr hsv hpc).1
  | fin a =>
    cases a with
    | true => exact nomatch he.symm.trans (h.ch_finT fl sv hf hr hsv hpc)
    | false => exact nomatch he.symm.trans (h.ch_finF fl sv hf hr hsv hpc).1
  | _ => rfl

theorem noPaired_of_notRun (st : St) (h : FileInv st) (fl : Filer) (hf : st.f = some fl) (hr : fl.pc ≠ .run) :
    ∀ sv, st.s = some sv → paired sv.pc = false := by
  intro sv hsv
  refine eq_false_of_ne_true fun hp => ?_
  obtain ⟨fl', hf', hr'⟩ := h.pair sv hsv hp
  cases hf.symm.trans hf'
  exact hr hr'

/-- the file goroutine leaves its loop (exit token taken) towards `pc'` ∈ {rename, remove} -/
theorem fileInv_leave (st : St) (h : FileInv st) (fl : Filer) (hf : st.f = some fl) (hr : fl.pc = .run)
    (b : Bool) (he : st.exitCh = some b) (pc' : FPc) (hpc' : pc' ≠ .run)
    (hren : pc' = .rename → b = false ∧ st.dataCh = []) :
    FileInv { st with exitCh := none, f := some { fl with pc := pc' } } := by
  have hnp := noPaired_of_exit st h fl hf hr b he
  refine .of_filer rfl h.vis (h.fcl_some hf) (fun sv hsv hp => nomatch (hnp sv hsv).symm.trans hp)
    (h.fl_hst fl hf) (h.fl_cont fl hf) (fun hp => ?_) fun hp => absurd hp hpc'
  obtain ⟨hb, hd⟩ := hren hp
  rcases h.ch_unp fl hf hr hnp with hu | ⟨_, hu⟩
  · rw [he, hb] at hu; cases hu
  · simpa [hd] using hu

/-- the file goroutine moves from `pc` ≠ run to `done` (optionally publishing a good file) -/
theorem fileInv_toDone (st : St) (h : FileInv st) (fl : Filer) (hf : st.f = some fl) (hr : fl.pc ≠ .run)
    (vis' : List Visible) (hv : ∀ v, v ∈ vis' → v.good = true) :
    FileInv { st with visible := vis', f := some { fl with pc := .done } } :=
  .of_filer rfl hv (h.fcl_some hf)
    (fun sv hsv hp => nomatch (noPaired_of_notRun st h fl hf hr sv hsv).symm.trans hp)
    (h.fl_hst fl hf) (h.fl_cont fl hf) nofun nofun
/-- the file goroutine touches only the two channels it reads, its own state, the directory and `lastFileClosed`,
    and keeps the file invariant -/
theorem stepF_all {st st' : St} {l : Lab} (hs : stepF st l = some st') :
    (∃ dataCh exitCh f visible fclosed,
      st' = { st with dataCh := dataCh, exitCh := exitCh, f := f, visible := visible, fclosed := fclosed }) ∧
    (FileInv st → FileInv st') := by
  unfold stepF at hs
  split at hs
  · cases hs
  · rename_i fl hf
    split at hs
    · -- run, fStep
      rename_i hr
      split at hs
      · -- one chunk written
        rename_i c r hd
        cases hs
        refine ⟨⟨_, _, _, _, _, rfl⟩, fun h => ?_⟩
        have hlen : (fl.content ++ [c]).length + r.length = fl.content.length + st.dataCh.length := by
          rw [hd, List.length_append, List.length_singleton, List.length_cons]; omega
        refine .of_filer rfl h.vis (h.fcl_some hf) (fun _ _ _ => hr) (h.fl_hst fl hf)
          (List.forall_mem_append.mpr ⟨h.fl_cont fl hf, List.forall_mem_singleton.mpr (h.fl_data fl hf hr c (by simp [hd]))⟩)
          (fun hp => nomatch hr.symm.trans hp) fun _ => ⟨fun x hx => h.fl_data fl hf hr x (by simp [hd, hx]),
            fun sv hsv hpc => ?_, fun sv hsv hpc => ?_, fun sv => h.ch_finT fl sv hf hr, fun hnp => ?_⟩
        · obtain ⟨h1, h2, h3⟩ := h.ch_loop fl sv hf hr hsv hpc
          exact ⟨h1, h2, hlen ▸ h3⟩
        · obtain ⟨h1, h3⟩ := h.ch_finF fl sv hf hr hsv hpc
          exact ⟨h1, hlen ▸ h3⟩
        · exact (h.ch_unp fl hf hr hnp).imp id fun hu => ⟨hu.1, hlen ▸ hu.2⟩
      · -- channel empty: exit token
        rename_i hd
        split at hs
        · rename_i he
          cases hs
          exact ⟨⟨_, _, _, _, _, rfl⟩, fun h => fileInv_leave st h fl hf hr true he .remove (by simp) (by simp)⟩
        · rename_i he
          cases hs
          exact ⟨⟨_, _, _, _, _, rfl⟩, fun h => fileInv_leave st h fl hf hr false he .rename (by simp) (fun _ => ⟨rfl, hd⟩)⟩
        · cases hs
    · -- run, fExit
      rename_i hr
      split at hs
      · rename_i he
        cases hs
        exact ⟨⟨_, _, _, _, _, rfl⟩, fun h => fileInv_leave st h fl hf hr true he .remove (by simp) (by simp)⟩
      · cases hs
    · -- rename
      rename_i hr
      cases hs
      refine ⟨⟨_, _, _, _, _, rfl⟩, fun h => fileInv_toDone st h fl hf (by simp [hr]) _
        (List.forall_mem_append.mpr ⟨h.vis, List.forall_mem_singleton.mpr ?_⟩)⟩
      rw [h.fl_hst fl hf]
      exact good_of _ _ _ (h.fl_ren fl hf hr) (h.fl_cont fl hf)
    · -- remove
      rename_i hr
      cases hs
      exact ⟨⟨_, _, _, _, _, rfl⟩, fun h => fileInv_toDone st h fl hf (by simp [hr]) st.visible h.vis⟩
    · -- done
      rename_i hr
      cases hs
      refine ⟨⟨_, _, _, _, _, rfl⟩, fun h => ?_⟩
      have hnp := noPaired_of_notRun st h fl hf (by simp [hr])
      exact ⟨h.vis, by simp [h.fcl_some hf],
        (fun sv hsv hp => nomatch (hnp sv hsv).symm.trans hp), (fun _ h' => nomatch h'), (fun _ h' => nomatch h'),
        (fun _ h' => nomatch h'), (fun _ h' => nomatch h'), (fun _ _ h' => nomatch h'), (fun _ _ h' => nomatch h'),
        (fun _ _ h' => nomatch h'), (fun _ h' => nomatch h')⟩
    · cases hs

end GocoinV.Proofs.C11.SnapC
