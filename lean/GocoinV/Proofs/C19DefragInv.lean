/-
  Proofs.C19DefragInv — the bookkeeping fields after defrag that `defrag_disk` (Proofs/C19Disk) does not mention
  (data file open, write position, log closed, nothing pending, snapshot version), and the disk invariant
  `DiskInv` (Proofs/C19Inv) after defrag.
-/
import GocoinV.Proofs.C19Open
namespace GocoinV.Proofs.C19
open GocoinV GocoinV.Qdb GocoinV.QdbSpec

variable {eg : Bool}

/-- bookkeeping fields no `emit` touches -/
def book (d : DB) := (d.datOpen, d.lastPos, d.volatile, d.opts, d.noSync)

theorem book_cleanupold (db : DB) (used : List Nat) : book (cleanupold db used) = book db :=
  (Pre.of_eq book).cleanupold db used (fun _ _ _ => rfl)

theorem logOpen_cleanupold (db : DB) (used : List Nat) : (cleanupold db used).logOpen = db.logOpen :=
  (Pre.of_eq (·.logOpen)).cleanupold db used (fun _ _ _ => rfl)

theorem defrag_more (db : DB) (h : Cached db) :
    (defrag db).datOpen = true ∧
    (defrag db).lastPos = 4 + (valsOf db.index).flatten.length ∧
    (defrag db).logOpen = false ∧ (defrag db).pending = [] ∧
    (defrag db).verSeq = u32 (db.verSeq + 1) := by
  obtain ⟨d', w', hdef, hfold, _, hlp, hd'f, _, _, hd'v⟩ := defrag_eq db h
  have hdo := (Pre.of_eq (·.datOpen)).defragFold (defragSink (u32 (db.dataSeq + 1))) (fun _ _ => rfl)
    (fun d w => by unfold fail; split <;> rfl) (fun _ _ => rfl) db.index (defragStart db, {}, [])
  rw [hfold] at hdo
  have hstartOpen : (defragStart db).datOpen = true := by
    unfold defragStart
    exact (checkDat_post _).1
  rw [hdef]
  let recs := layout (u32 (db.dataSeq + 1)) 4 db.index
  let e1 : DB := { d' with index := recs }
  let e2 := bufFlush (defragSink (u32 (db.dataSeq + 1))) e1 w'
  let old := if recs.isEmpty then [] else [u32 (db.dataSeq + 1)]
  have hfin : defragFinish (u32 (db.dataSeq + 1)) d' w' recs =
      { cleanupold (writedatfile e2) old with extra := 0, pending := [] } := rfl
  rw [hfin]
  dsimp only
  have hb2 : book e2 = book e1 := (Pre.of_eq book).bufFlush (defragSink _) (fun _ _ => rfl) e1 w'
  have hb : book (cleanupold (writedatfile e2) old) = book e1 := by
    rw [book_cleanupold, (Pre.of_eq book).writedatfile (fun _ _ _ => rfl) (fun _ _ _ => rfl) (fun _ => rfl), hb2]
  unfold book at hb
  simp only [Prod.mk.injEq] at hb
  obtain ⟨b1, b2, _⟩ := hb
  have hv2 : e2.verSeq = db.verSeq :=
    ((Pre.of_eq (·.verSeq)).bufFlush (defragSink _) (fun _ _ => rfl) e1 w').trans hd'v
  have cv : (cleanupold (writedatfile e2) old).verSeq = (writedatfile e2).verSeq :=
    (Pre.of_eq (·.verSeq)).cleanupold _ _ (fun _ _ _ => rfl)
  refine ⟨?_, ?_, (logOpen_cleanupold _ _).trans rfl, rfl, ?_⟩
  · rw [b1]
    show d'.datOpen = true
    rw [hdo]; exact hstartOpen
  · rw [b2]
    exact hlp
  · rw [cv, (writedatfile_disk e2).2.2.2.2.2.1, hv2]

/-! ### the invariant after defrag -/

theorem isetAll_nil_nodup (recs : List (Key × Rec)) (h : (Keys recs).Nodup) : isetAll [] recs = recs := by
  have h1 := (memputAll_isetAll recs ({ fs := {} } : DB)).1
  have h2 := memputAll_index recs ({ fs := {} } : DB) (by
    show (([] : List (Key × Rec)).map (·.1) ++ recs.map (·.1)).Nodup
    simpa [Keys] using h)
  rw [h1] at h2
  exact h2

theorem layout_wf (s base : Nat) (l : List (Key × Rec)) (hw : ∀ kr ∈ l, RecWF kr) : ∀ kr ∈ layout s base l, RecWF kr := by
  intro kr h
  obtain ⟨r, p, hm, e⟩ := mem_layout s base l kr.1 kr.2 h
  have := hw _ hm
  unfold RecWF at this ⊢
  rw [e]
  exact this

theorem layout_cached (s base : Nat) (l : List (Key × Rec)) (hc : AllCached eg l) : AllCached eg (layout s base l) := by
  intro kr h
  obtain ⟨r, p, hm, e⟩ := mem_layout s base l kr.1 kr.2 h
  rw [e]
  exact hc _ hm

theorem layout_reads (s : Nat) (l : List (Key × Rec)) (hw : ∀ kr ∈ l, RecWF kr) (pre : Bytes)
    (hsmall : pre.length + (valsOf l).flatten.length < 2^32) :
    ∀ kr ∈ layout s pre.length l, kr.2.seq = s ∧ ReadsBack (pre ++ (valsOf l).flatten) kr.2 (valOf kr.2) := by
  induction l generalizing pre with
  | nil => intro kr h; cases h
  | cons hd t ih =>
    obtain ⟨k, r⟩ := hd
    obtain ⟨_, _, hlen⟩ := hw (k, r) List.mem_cons_self
    have hv : (valsOf ((k, r) :: t)).flatten = r.data.getD [] ++ (valsOf t).flatten := by simp [valsOf]
    rw [hv] at hsmall ⊢
    simp only [List.length_append] at hsmall
    intro kr h
    simp only [layout, List.mem_cons] at h
    rcases h with h | h
    · rw [h]
      exact ⟨rfl, ReadsBack.placed pre _ _ _ rfl hlen (by omega)⟩
    · have hpre : pre.length + (r.data.getD []).length = (pre ++ r.data.getD []).length := by simp
      rw [hpre] at h
      have := ih (fun x hx => hw x (List.mem_cons_of_mem _ hx)) (pre ++ r.data.getD [])
        (by simp only [List.length_append]; omega) kr h
      simpa [List.append_assoc] using this

theorem diskIndex_layout (F : FS) (S v j : Nat) (idx : List (Key × Rec))
    (hpick : pickIdx F = some (j, v, snapBytes v (layout S 4 idx))) (hlog : logEntries F = [])
    (hfits : ∀ kr ∈ layout S 4 idx, RecFits kr.1 kr.2) (hnd : (Keys idx).Nodup) :
    diskIndex F = mapV strip (layout S 4 idx) := by
  have hkeys : (Keys ((layout S 4 idx).map stripKR)).Nodup := by
    unfold Keys
    rw [List.map_map]
    show ((layout S 4 idx).map (·.1)).Nodup
    rw [layout_keys]; exact hnd
  unfold diskIndex snapBase
  rw [hpick, hlog]
  simp only [applyEntriesL, List.foldl_nil, snapshotRecs_snapBytes v (layout S 4 idx) hfits]
  exact isetAll_nil_nodup _ hkeys

theorem defrag_diskIndex (d : DB) (h : Cached d) (hwf : IndexWF eg d.index) :
    diskIndex (defrag d).fs = mapV strip (layout (u32 (d.dataSeq + 1)) 4 d.index) := by
  obtain ⟨_, _, d3, d4, d5, _, _⟩ := defrag_disk d h
  obtain ⟨j, hpick⟩ := pickIdx_single (defrag d).fs (1 - d.datIdx) (u32 (d.verSeq + 1)) _
    (checkIdxFile_snapBytes _ _ (u32_lt _)) d3 d4
  exact diskIndex_layout _ _ _ j _ hpick (by unfold logEntries; rw [d5])
    (layout_fits _ (u32_lt _) d.index hwf.wf 4 hwf.small) hwf.nodup

theorem defrag_inv (d : DB) (h : Cached d) (hv : d.volatile = false) (hwf : IndexWF eg d.index) :
    DiskInv (defrag d) ∧ absv (defrag d) = absv d ∧ (defrag d).pending = [] := by
  obtain ⟨d1, d2, d3, d4, d5, d6, d7⟩ := defrag_disk d h
  obtain ⟨m1, m2, m3, m4, m5⟩ := defrag_more d h
  have hk := defrag_cached d h
  have hS : u32 (d.dataSeq + 1) < 2^32 := u32_lt _
  have hV : u32 (d.verSeq + 1) < 2^32 := u32_lt _
  obtain ⟨j, hpick⟩ := pickIdx_single (defrag d).fs (1 - d.datIdx) (u32 (d.verSeq + 1)) _
    (checkIdxFile_snapBytes _ _ hV) d3 d4
  have hDI := defrag_diskIndex d h hwf
  have hSV : snapVer (defrag d).fs = u32 (d.verSeq + 1) := by unfold snapVer; rw [hpick]
  have hreads := layout_reads (u32 (d.dataSeq + 1)) d.index hwf.wf (le32 (u32 (d.dataSeq + 1)))
    (by simpa using hwf.small)
  simp only [le32_length] at hreads
  refine ⟨?_, hk.abs, m4⟩
  constructor
  · exact hk.cached
  · exact hk.volatile.trans hv
  · rw [d2]; exact layout_wf _ _ _ hwf.wf
  · rw [d2]; unfold Keys; rw [layout_keys]; exact hwf.nodup
  · rw [m4]; exact List.nodup_nil
  · rw [m4]; intro k hk'; cases hk'
  · rw [hSV, m5]
  · rw [m5]; exact hV
  · rw [d7]; exact hS
  · exact ⟨([] : List LogEntry), fun e he => (by cases he), Or.inl ⟨d5, rfl⟩⟩
  · intro _; exact d5
  · rw [m3]; intro h'; cases h'
  · intro k _
    rw [hDI, d2, ilookup_mapV, Option.map_map]
    congr 1
  · intro k r _ hr
    rw [d2] at hr
    have hmem := ilookup_key_pair k r _ hr
    obtain ⟨h1, h2⟩ := hreads (k, r) hmem
    exact ⟨_, by rw [h1]; exact d6, h2⟩
  · intro kr hkr
    rw [hDI] at hkr
    obtain ⟨x, hx, rfl⟩ := List.mem_map.mp hkr
    rw [hk.eager]
    exact (layout_cached _ _ _ h.2 x hx).2
  · intro _
    refine ⟨_, by rw [d7]; exact d6, ?_, by simp⟩
    rw [m2]; simp
  · rw [m1]; intro h'; cases h'
  · intro kr hkr
    rw [hDI] at hkr
    obtain ⟨x, hx, rfl⟩ := List.mem_map.mp hkr
    obtain ⟨h1, h2⟩ := hreads x hx
    exact ⟨_, valOf x.2, by show dlookup x.2.seq _ = _; rw [h1]; exact d6, h2⟩

end GocoinV.Proofs.C19
