/-
  Proofs.C19CrashDefrag — crash states inside defrag(): which effects defrag emits, and what a reopen finds after
  any prefix of them (index snapshot not larger than the bufio buffer, so that it becomes valid with one Write:
  "the cut").
-/
import GocoinV.Proofs.C19Crash
namespace GocoinV.Proofs.C19
open GocoinV GocoinV.Qdb GocoinV.QdbSpec

variable {eg : Bool}

def Emits (P : Effect → Prop) (a b : DB) : Prop := ∃ es, a.effs = b.effs ++ es ∧ ∀ e ∈ es, P e.2

theorem Emits.of_eq {P : Effect → Prop} {a b : DB} (h : a.effs = b.effs) : Emits P a b :=
  ⟨[], by simp [h], by intro e h; cases h⟩

theorem Emits.refl (P : Effect → Prop) (a : DB) : Emits P a a := Emits.of_eq rfl

theorem Emits.trans {P : Effect → Prop} {a b c : DB} (h1 : Emits P a b) (h2 : Emits P b c) : Emits P a c := by
  obtain ⟨e1, a1, p1⟩ := h1
  obtain ⟨e2, a2, p2⟩ := h2
  exact ⟨e2 ++ e1, by rw [a1, a2, List.append_assoc], List.forall_mem_append.mpr ⟨p2, p1⟩⟩

theorem Emits.mono {P Q : Effect → Prop} {a b : DB} (h : Emits P a b) (hpq : ∀ e, P e → Q e) : Emits Q a b := by
  obtain ⟨es, h1, h2⟩ := h
  exact ⟨es, h1, fun e he => hpq _ (h2 e he)⟩

theorem emits_emit {P : Effect → Prop} (db : DB) (t : String) (e : Effect) (h : P e) : Emits P (emit db t e) db :=
  ⟨[(t, e)], rfl, by intro x hx; simp at hx; rw [hx]; exact h⟩

def SinkEmits (P : Effect → Prop) (sink : DB → Bytes → DB) : Prop := ∀ d b, Emits P (sink d b) d

theorem emitsPre (P : Effect → Prop) : Pre (Emits P) := ⟨Emits.refl P, Emits.trans⟩

theorem emits_bufWrite {P : Effect → Prop} (sink : DB → Bytes → DB) (hs : SinkEmits P sink) (db : DB) (w : BufW)
    (p : Bytes) : Emits P (bufWrite sink db w p).1 db := (emitsPre P).bufWrite sink hs db w p

theorem emits_bufFlush {P : Effect → Prop} (sink : DB → Bytes → DB) (hs : SinkEmits P sink) (db : DB) (w : BufW) :
    Emits P (bufFlush sink db w) db := (emitsPre P).bufFlush sink hs db w

def OnDat (S : Nat) (e : Effect) : Prop := (∃ p b, e = .writeDat S p b) ∨ e = .createDat S

theorem defragSink_emits (S : Nat) : SinkEmits (OnDat S) (defragSink S) :=
  fun d _ => emits_emit d _ _ (Or.inl ⟨_, _, rfl⟩)

theorem emits_defragStart (db : DB) : Emits (OnDat (u32 (db.dataSeq + 1))) (defragStart db) db := by
  unfold defragStart checkDat
  simp only [Bool.false_eq_true, ↓reduceIte]
  refine Emits.trans (Emits.of_eq rfl) ((emits_emit _ _ _ (Or.inl ⟨_, _, rfl⟩)).trans
    ((emits_emit _ _ _ (Or.inr rfl)).trans (Emits.of_eq rfl)))

/-- removals that leave the current data file alone -/
def IsRemoval (S i : Nat) (e : Effect) : Prop :=
  e = .removeLog ∨ e = .removeIdx (1 - i) ∨ (∃ t, t ≠ S ∧ e = .removeDat t)

theorem emits_cleanupold (db : DB) (used : List Nat) (i : Nat) : Emits (IsRemoval db.dataSeq i) (cleanupold db used) db := by
  unfold cleanupold
  refine (List.foldlRecOn (motive := fun d => d.dataSeq = db.dataSeq ∧ Emits (IsRemoval db.dataSeq i) d db) _ _
    ⟨rfl, Emits.refl _ _⟩ fun d h s _ => ?_).2
  split
  · rename_i hx
    exact ⟨h.1, (emits_emit d _ _ (Or.inr (Or.inr ⟨s, h.1 ▸ hx.1, rfl⟩))).trans h.2⟩
  · exact h

/-! ### a small index snapshot reaches the file with ONE Write -/

theorem bufWriteAll_small (sink : DB → Bytes → DB) (ps : List Bytes) (d : DB) (w : BufW)
    (h : w.buf.length + ps.flatten.length ≤ bufSize) :
    bufWriteAll sink d w ps = (d, { buf := w.buf ++ ps.flatten }) := by
  unfold bufWriteAll
  induction ps generalizing w with
  | nil => simp
  | cons p t ih =>
    simp only [List.flatten_cons, List.length_append] at h
    have hstep : bufWrite sink d w p = (d, { buf := w.buf ++ p }) := by
      unfold bufWrite
      rw [if_pos (by omega)]
    simp only [List.foldl_cons, hstep]
    rw [ih { buf := w.buf ++ p } (by simp only [List.length_append]; omega)]
    simp [List.append_assoc]

theorem writedatfile_effs_small (db : DB)
    (h : (snapBytes (u32 (db.verSeq + 1)) db.index).length ≤ bufSize) :
    (writedatfile db).effs = db.effs ++
      [("qdb.writedatfile:created", .createIdx (1 - db.datIdx)),
       ("qdb.writedatfile:written", .appendIdx (1 - db.datIdx) (snapBytes (u32 (db.verSeq + 1)) db.index)),
       ("qdb.writedatfile:log-removed", .removeLog),
       ("qdb.writedatfile:old-removed", .removeIdx (1 - (1 - db.datIdx)))] := by
  unfold writedatfile
  dsimp only
  have hsm := bufWriteAll_small (idxSink (1 - db.datIdx))
    (idxWrites db.index (u32 (db.verSeq + 1)))
    (emit { db with datIdx := 1 - db.datIdx, verSeq := u32 (db.verSeq + 1) } "qdb.writedatfile:created"
      (.createIdx (1 - db.datIdx))) {}
    (by rw [idxWrites_flatten]; simpa using h)
  have e1 : (emit { db with datIdx := 1 - db.datIdx, verSeq := u32 (db.verSeq + 1) } "qdb.writedatfile:created"
      (.createIdx (1 - db.datIdx))).index = db.index := rfl
  have e2 : (emit { db with datIdx := 1 - db.datIdx, verSeq := u32 (db.verSeq + 1) } "qdb.writedatfile:created"
      (.createIdx (1 - db.datIdx))).verSeq = u32 (db.verSeq + 1) := rfl
  simp only [e1, e2] at hsm ⊢
  rw [hsm]
  simp only [List.nil_append, idxWrites_flatten]
  have hne : ¬ (snapBytes (u32 (db.verSeq + 1)) db.index).isEmpty = true := by
    rw [List.isEmpty_iff_length_eq_zero, snapBytes_length]; omega
  unfold bufFlush
  simp only [hne]
  simp [idxSink, emit]

/-! ### the shape of defrag's effect list -/

/-- effects before the snapshot becomes valid: only the new data file and the creation of the new index file -/
def PreCut (S i : Nat) (e : Effect) : Prop := OnDat S e ∨ e = .createIdx i

theorem defrag_effs_shape (db : DB) (h : Cached db)
    (hsmall : (snapBytes (u32 (db.verSeq + 1)) (layout (u32 (db.dataSeq + 1)) 4 db.index)).length ≤ bufSize) :
    ∃ A B, (defrag db).effs = db.effs ++ (A ++ (("qdb.writedatfile:written",
        Effect.appendIdx (1 - db.datIdx) (snapBytes (u32 (db.verSeq + 1)) (layout (u32 (db.dataSeq + 1)) 4 db.index))) :: B)) ∧
      (∀ e ∈ A, PreCut (u32 (db.dataSeq + 1)) (1 - db.datIdx) e.2) ∧
      (∀ e ∈ B, IsRemoval (u32 (db.dataSeq + 1)) (1 - db.datIdx) e.2) := by
  obtain ⟨d', w', hdef, hfold, _, _, hd'f, hd's, hd'i, hd'v⟩ := defrag_eq db h
  have hEm1 := emits_defragStart db
  have hEm2 := (emitsPre (OnDat (u32 (db.dataSeq + 1)))).defragFold _ (defragSink_emits _)
    (fun d w => by unfold fail; split <;> exact Emits.refl _ _) (fun _ _ => Emits.of_eq rfl) db.index (defragStart db, {}, [])
  rw [hfold] at hEm2
  let recs := layout (u32 (db.dataSeq + 1)) 4 db.index
  let e1 : DB := { d' with index := recs }
  let e2 := bufFlush (defragSink (u32 (db.dataSeq + 1))) e1 w'
  have hfin : defragFinish (u32 (db.dataSeq + 1)) d' w' recs =
      { cleanupold (writedatfile e2) (if recs.isEmpty then [] else [u32 (db.dataSeq + 1)]) with extra := 0, pending := [] } := rfl
  have hg2 := (Pre.of_eq fun d => (d.index, d.datIdx, d.verSeq, d.dataSeq)).bufFlush (defragSink (u32 (db.dataSeq + 1)))
    (fun _ _ => rfl) e1 w'
  simp only [Prod.mk.injEq] at hg2
  obtain ⟨g_ix, g_di, g_vs, g_ds⟩ := hg2
  have he2i : e2.datIdx = db.datIdx := g_di.trans hd'i
  have he2v : e2.verSeq = db.verSeq := g_vs.trans hd'v
  have he2x : e2.index = recs := g_ix
  have he2s : e2.dataSeq = u32 (db.dataSeq + 1) := g_ds.trans hd's
  have hEm3 : Emits (OnDat (u32 (db.dataSeq + 1))) e2 e1 := emits_bufFlush _ (defragSink_emits _) e1 w'
  have hw := writedatfile_effs_small e2 (by rw [he2v, he2x]; exact hsmall)
  rw [he2i, he2v, he2x] at hw
  have hEm5 := emits_cleanupold (writedatfile e2) (if recs.isEmpty then [] else [u32 (db.dataSeq + 1)]) (1 - db.datIdx)
  rw [writedatfile_dataSeq, he2s] at hEm5
  obtain ⟨a, ha, pa⟩ := hEm3.trans ((Emits.of_eq (rfl : e1.effs = d'.effs)).trans (hEm2.trans hEm1))
  obtain ⟨b5, hb5, pb5⟩ := hEm5
  refine ⟨a ++ [("qdb.writedatfile:created", .createIdx (1 - db.datIdx))],
    [("qdb.writedatfile:log-removed", .removeLog),
     ("qdb.writedatfile:old-removed", .removeIdx (1 - (1 - db.datIdx)))] ++ b5, ?_,
    List.forall_mem_append.mpr ⟨fun e he => .inl (pa e he), fun e he => List.mem_singleton.mp he ▸ .inr rfl⟩,
    List.forall_mem_append.mpr ⟨List.forall_mem_cons.mpr ⟨.inl rfl, List.forall_mem_cons.mpr ⟨.inr (.inl rfl), (fun e he => by cases he)⟩⟩, pb5⟩⟩
  rw [hdef, hfin]
  dsimp only
  rw [hb5, hw, ha]
  simp [List.append_assoc]
  rfl

/-! ### a directory holding the new snapshot reopens to the new content -/

theorem seqNewer_succ (v : Nat) (hv : v < 2^32) :
    seqNewerEq (u32 (v + 1)) v = true ∧ seqNewerEq v (u32 (v + 1)) = false := by
  unfold seqNewerEq u32
  have h1 : v % 2^32 = v := Nat.mod_eq_of_lt hv
  by_cases hw : v + 1 < 2^32
  · have h2 : (v + 1) % 2^32 = v + 1 := Nat.mod_eq_of_lt hw
    constructor
    · simp only [h1, h2, decide_eq_true_eq]; omega
    · simp only [h2, decide_eq_false_iff_not]
      omega
  · have hv' : v = 2^32 - 1 := by omega
    subst hv'
    decide

theorem u32_succ_ne (v : Nat) (hv : v < 2^32) : u32 (v + 1) ≠ v := fun e => by
  have h := seqNewer_succ v hv
  rw [e] at h
  exact Bool.noConfusion (h.1.symm.trans h.2)

/-- what the old directory may still contribute: the old index slot and the old log -/
structure OldParts (F0 : FS) (i v : Nat) : Prop where
  other : checkIdxFile (otherIdx F0 i) = none ∨ ∃ Xo, checkIdxFile (otherIdx F0 i) = some (v, Xo)
  log : ∃ E, LogState F0 v E

/-- the directory at the cut — right after the one Write that completes the new snapshot — relative to the directory
    `F0` defrag started on: slot `i` holds the snapshot `X`, the new data file is `fS`, the other slot and the log are
    those of `F0` -/
structure AtCut (F0 G : FS) (S i : Nat) (X fS : Bytes) : Prop where
  slot : idxFile G i = some X
  file : dlookup S G.dats = some fS
  other : otherIdx G i = otherIdx F0 i
  log : G.log = F0.log

/-- at the cut `NewDBidx` picks the new snapshot; what is left of the old log is discarded by `loadlog` (its header
    carries the previous version) -/
theorem cut_pick {F0 G : FS} {S i v : Nat} {X fS : Bytes} (h : AtCut F0 G S i X fS) (ho : OldParts F0 i v)
    (hv : v < 2^32) (hX : checkIdxFile (some X) = some (u32 (v + 1), X)) (hi : i ≤ 1) :
    pickIdx G = some (i, u32 (v + 1), X) ∧ logEntries G = [] ∧ (LogDiscarded G ∨ G.log = none) := by
  obtain ⟨hn1, hn2⟩ := seqNewer_succ v hv
  have hother := ho.other
  rw [← h.other] at hother
  have hpick : pickIdx G = some (i, u32 (v + 1), X) := by
    have hs := h.slot
    unfold idxFile at hs
    unfold otherIdx at hother
    unfold pickIdx
    obtain rfl | rfl : i = 0 ∨ i = 1 := by omega
    all_goals
      simp only [Nat.succ_ne_self, ↓reduceIte] at hs hother
      rw [hs, hX]
      rcases hother with h1 | ⟨Xo, h1⟩ <;> rw [h1]
      simp only [hn1, hn2, Bool.false_eq_true, ↓reduceIte]
  have hsv : snapVer G = u32 (v + 1) := by unfold snapVer; rw [hpick]
  have hlog : LogDiscarded G ∨ G.log = none := by
    obtain ⟨E, hE⟩ := ho.log
    rcases hE with ⟨h2, _⟩ | h2
    · exact .inr (h.log.trans h2)
    · refine .inl ⟨_, h.log.trans h2, ?_⟩
      rw [hsv]
      unfold logBody
      have ht : (le32 v ++ encLog E).take 4 = le32 v := List.take_left' (by simp)
      rw [ht, leVal_le32 v hv]
      have := u32_succ_ne v hv
      simp [Ne.symm this]
  refine ⟨hpick, ?_, hlog⟩
  rcases hlog with hd | hn
  · exact logEntries_discarded G hd
  · unfold logEntries; rw [hn]

theorem ilookup_layout_val (S b : Nat) (l : List (Key × Rec)) (k : Key) :
    (ilookup k (layout S b l)).map valOf = (ilookup k l).map valOf := by
  have h1 : mapV absRec (layout S b l) = mapV absRec l := layout_abs S b l
  have h3 := congrArg (fun m => (ilookup k m).map (fun x : Bytes × Nat => x.1)) h1
  simp only [ilookup_mapV, Option.map_map] at h3
  exact h3

theorem cut_content {F0 G : FS} {S i v : Nat} (idx : List (Key × Rec)) (hwf : IndexWF eg idx) (hS : S < 2^32)
    (h : AtCut F0 G S i (snapBytes (u32 (v + 1)) (layout S 4 idx)) (le32 S ++ (valsOf idx).flatten))
    (ho : OldParts F0 i v) (hv : v < 2^32) (hi : i ≤ 1) :
    OpenOK eg G ∧ (∀ kr ∈ diskIndex G, kr.2.seq = S) ∧ ∀ k, diskValue G k = (ilookup k idx).map valOf := by
  have hV : u32 (v + 1) < 2^32 := u32_lt _
  have hfits := layout_fits S hS idx hwf.wf 4 hwf.small
  obtain ⟨hpick, hlog, hdisc⟩ := cut_pick h ho hv (checkIdxFile_snapBytes _ _ hV) hi
  have hsv : snapVer G = u32 (v + 1) := by unfold snapVer; rw [hpick]
  have hDI : diskIndex G = mapV strip (layout S 4 idx) := diskIndex_layout G S _ i idx hpick hlog hfits hwf.nodup
  have hreads := layout_reads S idx hwf.wf (le32 S) (by simpa using hwf.small)
  simp only [le32_length] at hreads
  refine ⟨⟨?_, by rw [hsv]; exact hV, ?_⟩, ?_, ?_⟩
  · rcases hdisc with hd | hn
    · exact .inr hd
    · exact .inl ⟨[], (fun e he => by cases he), .inl ⟨hn, rfl⟩⟩
  · intro kr hkr
    rw [hDI] at hkr
    obtain ⟨x, hx, rfl⟩ := List.mem_map.mp hkr
    obtain ⟨h1, h2⟩ := hreads x hx
    exact ⟨(layout_cached _ _ _ hwf.cached x hx).2, _, valOf x.2,
      by show dlookup x.2.seq _ = _; rw [h1]; exact h.file, h2⟩
  · intro kr hkr
    rw [hDI] at hkr
    obtain ⟨x, hx, rfl⟩ := List.mem_map.mp hkr
    exact (hreads x hx).1
  · intro k
    unfold diskValue
    rw [hDI, ilookup_mapV, ← ilookup_layout_val S 4 idx k]
    cases hl : ilookup k (layout S 4 idx) with
    | none => rfl
    | some r =>
      have hmem := ilookup_key_pair k r _ hl
      obtain ⟨h1, h2⟩ := hreads (k, r) hmem
      simp only [Option.map_some, Option.some.injEq]
      show List.take r.len (List.drop r.pos ((dlookup r.seq G.dats).getD [])) = valOf r
      have h1' : r.seq = S := h1
      rw [h1', h.file]
      exact h2.2.2

/-! ### all crash points of defrag() -/

theorem precut_frame {S i : Nat} {e : Effect} (he : PreCut S i e) (F : FS) :
    ((F.apply e).log, otherIdx (F.apply e) i) = (F.log, otherIdx F i) := by
  rcases he with (⟨p, b, rfl⟩ | rfl) | rfl
  · cases hl : dlookup S F.dats <;> simp [FS.apply, hl, otherIdx]
  · rfl
  · unfold FS.apply otherIdx; by_cases hi : i = 0 <;> simp [hi]

theorem removal_frame {S i : Nat} {e : Effect} (he : IsRemoval S i e) (F : FS) :
    (idxFile (F.apply e) i, dlookup S (F.apply e).dats) = (idxFile F i, dlookup S F.dats) := by
  rcases he with rfl | rfl | ⟨t, ht, rfl⟩
  · rfl
  · unfold FS.apply idxFile
    by_cases hi : i = 0
    · simp [hi]
    · have : 1 - i = 0 := by omega
      simp [hi, this]
  · exact congrArg (Prod.mk _) (dlookup_derase_other _ _ _ (Ne.symm ht))

theorem removal_harmless {G : FS} {S i sv : Nat} {X : Bytes} {e : Effect} (he : IsRemoval S i e)
    (hp : pickIdx G = some (i, sv, X)) (hl : LogDiscarded G ∨ G.log = none) (hs : ∀ kr ∈ diskIndex G, kr.2.seq = S) :
    Harmless G e := by
  rcases he with rfl | rfl | ⟨t, ht, rfl⟩
  · exact hl
  · exact ⟨i, sv, X, hp, rfl⟩
  · exact fun kr hkr e => ht (e.symm.trans (hs kr hkr))

theorem same_disk_readable (F0 F : FS) (hp : pickIdx F = pickIdx F0) (hl : logEntries F = logEntries F0)
    (hd : ∀ kr ∈ diskIndex F0, dlookup kr.2.seq F.dats = dlookup kr.2.seq F0.dats) (h0 : DirReadable eg F0) :
    DirReadable eg F ∧ ∀ k, diskValue F k = diskValue F0 k :=
  ext_disk_readable F0 F hp hl (fun kr hkr f hf => ⟨[], by rw [hd kr hkr, hf, List.append_nil]⟩) h0

/-- what the directory must look like before defrag starts -/
structure DefragReady (db : DB) : Prop where
  cached : Cached db
  wf : IndexWF db.eager db.index
  free : checkIdxFile (idxFile db.fs (1 - db.datIdx)) = none
  old : OldParts db.fs (1 - db.datIdx) db.verSeq
  verlt : db.verSeq < 2^32
  readable : DirReadable db.eager db.fs
  seqs : ∀ kr ∈ diskIndex db.fs, kr.2.seq ≠ u32 (db.dataSeq + 1)
  logfits : ∃ E, (∀ e ∈ E, EntryFits e) ∧ LogState db.fs db.verSeq E
  ver : snapVer db.fs = db.verSeq
  small : (snapBytes (u32 (db.verSeq + 1)) (layout (u32 (db.dataSeq + 1)) 4 db.index)).length ≤ bufSize

theorem DefragReady.openOK {db : DB} (hr : DefragReady db) : OpenOK db.eager db.fs :=
  ⟨.inl (hr.ver ▸ hr.logfits), hr.ver ▸ hr.verlt, hr.readable⟩

theorem PreCut.harmless {db : DB} (hr : DefragReady db) {e : Effect}
    (he : PreCut (u32 (db.dataSeq + 1)) (1 - db.datIdx) e) : Harmless db.fs e := by
  rcases he with (⟨p, b, rfl⟩ | rfl) | rfl
  · exact fun kr hkr hs => absurd hs (hr.seqs kr hkr)
  · exact hr.seqs
  · exact hr.free

/-- Every directory that exists inside defrag() — after any number of its file operations — reopens without
    failure, and either EVERY key has the value the directory held before defrag(), or EVERY key has its
    in-memory value. -/
theorem defrag_prefix (db : DB) (hr : DefragReady db) :
    ∃ es, (defrag db).effs = db.effs ++ es ∧
      ∀ n, OpenOK db.eager (db.fs.applyAll ((es.map (·.2)).take n)) ∧
        ((∀ k, diskValue (db.fs.applyAll ((es.map (·.2)).take n)) k = diskValue db.fs k) ∨
         (∀ k, diskValue (db.fs.applyAll ((es.map (·.2)).take n)) k = (ilookup k db.index).map valOf)) := by
  obtain ⟨A, B, hsh, hA, hB⟩ := defrag_effs_shape db hr.cached hr.small
  refine ⟨_, hsh, ?_⟩
  obtain ⟨es', he1, he2⟩ := replays_defrag db
  have hes : es' = A ++ (("qdb.writedatfile:written", Effect.appendIdx (1 - db.datIdx)
      (snapBytes (u32 (db.verSeq + 1)) (layout (u32 (db.dataSeq + 1)) 4 db.index))) :: B) :=
    List.append_cancel_left (he1.symm.trans hsh)
  obtain ⟨_, _, d3, _, _, d6, _⟩ := defrag_disk db hr.cached
  let S := u32 (db.dataSeq + 1)
  let i := 1 - db.datIdx
  let X := snapBytes (u32 (db.verSeq + 1)) (layout S 4 db.index)
  let A' := A.map (·.2)
  let B' := B.map (·.2)
  have hA' : ∀ e ∈ A', PreCut S i e := List.forall_mem_map.mpr hA
  have hB' : ∀ e ∈ B', IsRemoval S i e := List.forall_mem_map.mpr hB
  have hmap : (A ++ (("qdb.writedatfile:written", Effect.appendIdx i X) :: B)).map (·.2) =
      A' ++ (Effect.appendIdx i X :: B') := by simp [A', B']
  rw [hmap]
  -- the directory at the cut: the new slot and the new data file are those of the final directory
  let Gc := (db.fs.applyAll A').apply (.appendIdx i X)
  have hfinal : (defrag db).fs = Gc.applyAll B' := by
    rw [he2, hes, hmap, applyAll_append]
    rfl
  have k := applyAll_frame (fun F => (idxFile F i, dlookup S F.dats)) B' (fun e he => removal_frame (hB' e he)) Gc
  rw [← hfinal, Prod.mk.injEq] at k
  have f := applyAll_frame (fun F => (F.log, otherIdx F i)) A' (fun e he => precut_frame (hA' e he)) db.fs
  have c : (Gc.log, otherIdx Gc i) = ((db.fs.applyAll A').log, otherIdx (db.fs.applyAll A') i) := by
    unfold Gc otherIdx FS.apply
    by_cases hi : i = 0 <;> simp [hi]
  rw [← c, Prod.mk.injEq] at f
  have hcut : AtCut db.fs Gc S i X (le32 S ++ (valsOf db.index).flatten) :=
    ⟨k.1.symm.trans d3, k.2.symm.trans d6, f.2, f.1⟩
  have hi1 : i ≤ 1 := Nat.sub_le _ _
  obtain ⟨hp, _, hl⟩ := cut_pick hcut hr.old hr.verlt (checkIdxFile_snapBytes _ _ (u32_lt _)) hi1
  obtain ⟨hc, hs, hnew⟩ := cut_content db.index hr.wf (u32_lt _) hcut hr.old hr.verlt hi1
  exact Alike.cut hr.openOK A' (fun e he => (hA' e he).harmless hr) (.appendIdx i X) B' hc hnew
    (fun e he => removal_harmless (hB' e he) hp hl hs)

end GocoinV.Proofs.C19
