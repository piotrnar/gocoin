/-
  Proofs.C01Arith — numeric opcodes (1ADD … WITHIN, NUMEQUAL(VERIFY), BOOLAND/OR, MIN/MAX), PICK/ROLL, DEPTH/SIZE,
  CODESEPARATOR, CHECKLOCKTIMEVERIFY / CHECKSEQUENCEVERIFY: model (`popInt`, `bts2int`, `pushInt`) vs spec (CScriptNum).
  Also here: `bts2int_ext` (the length bound a parameter) vs `ScriptNum.read` (`bts2intExt_eq`), and the side condition
  `NopsOk` of the central theorem.
-/
import GocoinV.Proofs.C01Ops
namespace GocoinV.Proofs.C01
open GocoinV GocoinV.Script

theorem popInt_cons (chk : Bool) (d : Bytes) (r : Stack) :
    popInt chk (d :: r) = (match ScriptSpec.ScriptNum.read d chk 4 with
      | .ok v => Res.ok (v, r)
      | .error _ => Res.panic) := by
  unfold popInt pop bts2int ScriptSpec.ScriptNum.read nMaxNumSize
  simp only [Res.ok_bind, isMinimal_eq, numOfBytes_eq_decode]
  by_cases h1 : d.length > 4 <;> by_cases h2 : (chk && !ScriptSpec.ScriptNum.minimal d) = true <;>
    simp [h1, h2, ethrow, epure]

theorem topInt_eq (s : Stack) (k : Nat) (chk : Bool) (d : Bytes) (h : top s k = .ok d) :
    topInt s k chk = (match ScriptSpec.ScriptNum.read d chk 4 with
      | .ok v => Res.ok v
      | .error _ => Res.panic) := by
  unfold topInt bts2int ScriptSpec.ScriptNum.read nMaxNumSize
  simp only [h, Res.ok_bind, isMinimal_eq, numOfBytes_eq_decode]
  by_cases h1 : d.length > 4 <;> by_cases h2 : (chk && !ScriptSpec.ScriptNum.minimal d) = true <;>
    simp [h1, h2, ethrow, epure]

theorem boolBytes_eq (b : Bool) : boolBytes b = ScriptSpec.ScriptNum.encode (if b then 1 else 0) := by
  cases b <;> decide

theorem boolBytes_ofBool (b : Bool) : boolBytes b = ScriptSpec.ofBool b := by
  cases b <;> rfl

@[simp] theorem popNum_cons (e : ScriptSpec.Env) (d : Bytes) (r alt : List Bytes) (cond : ScriptSpec.Cond) (opc : Nat) (code : Bytes) (csp : Nat) (w : Int) :
    ScriptSpec.popNum e ⟨d :: r, alt, cond, opc, code, csp, w⟩ = (match ScriptSpec.ScriptNum.read d e.f.minimaldata 4 with
      | .ok v => .ok (v, ⟨r, alt, cond, opc, code, csp, w⟩)
      | .error x => .error x) := by
  unfold ScriptSpec.popNum ScriptSpec.pop1
  simp only [bind, Except.bind, epure]
  cases ScriptSpec.ScriptNum.read d e.f.minimaldata 4 <;> rfl

@[simp] theorem popNum_nil (e : ScriptSpec.Env) (alt : List Bytes) (cond : ScriptSpec.Cond) (opc : Nat) (code : Bytes) (csp : Nat) (w : Int) :
    ScriptSpec.popNum e ⟨[], alt, cond, opc, code, csp, w⟩ = .error ScriptSpec.ScriptError.INVALID_STACK_OPERATION := rfl

theorem b2i_eq (b : Bool) : b2i b = ScriptSpec.bi b := rfl

theorem binary_ops (op : Nat) (h : ScriptSpec.isBinaryNum op = true) :
    op = 0x93 ∨ op = 0x94 ∨ op = 0x9a ∨ op = 0x9b ∨ op = 0x9c ∨ op = 0x9d ∨ op = 0x9e ∨ op = 0x9f ∨ op = 0xa0 ∨
      op = 0xa1 ∨ op = 0xa2 ∨ op = 0xa3 ∨ op = 0xa4 := by
  simp only [ScriptSpec.isBinaryNum, Bool.or_eq_true, Bool.and_eq_true, decide_eq_true_eq] at h
  omega

theorem binArith_eq (op : Nat) (a b : Int) (h : ScriptSpec.isBinaryNum op = true) :
    binArith op a b = .ok (ScriptSpec.binaryNum op a b) := by
  rcases binary_ops op h with h|h|h|h|h|h|h|h|h|h|h|h|h <;> subst h <;> simp [binArith, ScriptSpec.binaryNum, b2i_eq]
  · omega
  · omega

theorem isBinArith_eq (op : Nat) : isBinArith op = ScriptSpec.isBinaryNum op := by
  by_cases h : op < 256
  · have all : ∀ n, n < 256 → isBinArith n = ScriptSpec.isBinaryNum n := by decide +kernel
    exact all op h
  · unfold isBinArith ScriptSpec.isBinaryNum
    have e : ∀ k, k < 256 → (op == k) = false := by intro k hk; simp; omega
    have l : ∀ k, k < 256 → decide (op ≤ k) = false := by intro k hk; simp; omega
    simp [e, l]

/-- the CLTV / CSV policy difference (known finding `cltv-csv-discouraged-nop`) is excluded by this side
    condition on the flags: DISCOURAGE_UPGRADABLE_NOPS only together with CLTV and CSV (true of the consensus
    flag sets, where the policy flag is off, and of the standard flag set) -/
def NopsOk (flags : Nat) : Prop :=
  has flags VER_BLOCK_OPS = true → has flags VER_CLTV = true ∧ has flags VER_CSV = true

variable {T : TotalOracles} {c : Ctx} {leaf : Bytes} {annex : Option Bytes} {st : St} {s : ScriptSpec.State}
  {i : ScriptSpec.Instr} {idx pos : Nat}

/-- popping a number on both sides: the model panics where the spec throws (empty stack, oversized or non-minimal
    encoding); otherwise both continue with the same value and the same remaining stack -/
theorem popNum_agree (s : ScriptSpec.State)
    {K : Int × Stack → Res St} {K' : Int × ScriptSpec.State → ScriptSpec.E ScriptSpec.State}
    (hK : ∀ v d r, s.stack = d :: r → Agree c leaf annex (K (v, r)) (K' (v, { s with stack := r }))) :
    Agree c leaf annex (popInt (has c.flags VER_MINDATA) s.stack >>= K)
      (ScriptSpec.popNum (envOf T c leaf annex) s >>= K') := by
  obtain ⟨stack, salt, scond, sop, scode, scsp, sw⟩ := s
  cases stack with
  | nil => exact Agree.panic
  | cons d r =>
    rw [popInt_cons, popNum_cons, envOf_f, ← flag_mindata]
    cases ScriptSpec.ScriptNum.read d (has c.flags VER_MINDATA) 4 with
    | error e => exact Agree.panic
    | ok v => exact hK v d r rfl

theorem readNum_agree {stack : Stack} {k : Nat} {d : Bytes} (ht : top stack k = .ok d)
    {K : Int → Res St} {K' : Int → ScriptSpec.E ScriptSpec.State} (hK : ∀ v, Agree c leaf annex (K v) (K' v)) :
    Agree c leaf annex (topInt stack k (has c.flags VER_MINDATA) >>= K)
      (ScriptSpec.ScriptNum.read d (envOf T c leaf annex).f.minimaldata >>= K') := by
  rw [topInt_eq _ _ _ d ht, envOf_f, ← flag_mindata]
  cases ScriptSpec.ScriptNum.read d (has c.flags VER_MINDATA) 4 with
  | error e => exact Agree.panic
  | ok v => exact hK v

theorem unaryNum_agree (hR : Rel c leaf annex st s) (f : Int → Bytes) (op : Nat)
    (hf : ∀ v, f v = ScriptSpec.ScriptNum.encode (ScriptSpec.unaryNum op v)) :
    Agree c leaf annex (unaryNum (has c.flags VER_MINDATA) st f) (ScriptSpec.opUnaryNum (envOf T c leaf annex) s op) := by
  unfold unaryNum ScriptSpec.opUnaryNum
  rw [hR.stack]
  obtain ⟨_ | ⟨d, r⟩, salt, scond, sop, scode, scsp, sw⟩ := s
  · exact Agree.fail
  · exact popNum_agree _ fun v d r _ => by
      show Agree c leaf annex (.ok { st with stack := f v :: r }) _
      rw [hf]; exact Agree.ok (hR.setStack _)

theorem unary_agree (hR : Rel c leaf annex st s) (hs : ScriptSpec.isUnaryNum i.op = true) :
    Agree c leaf annex (execOp c st i.op idx pos true) (ScriptSpec.execOpcode (envOf T c leaf annex) s i true pos) := by
  obtain ⟨iop, idata, iafter⟩ := i
  simp only [ScriptSpec.isUnaryNum, Bool.or_eq_true, beq_iff_eq] at hs
  rcases hs with ((((h|h)|h)|h)|h)|h <;> subst h
  · exact unaryNum_agree hR (fun v => intBytes (v + 1)) 0x8b fun v => intBytes_eq_encode _
  · exact unaryNum_agree hR (fun v => intBytes (v - 1)) 0x8c fun v => intBytes_eq_encode _
  · exact unaryNum_agree hR (fun v => intBytes (-v)) 0x8f fun v => intBytes_eq_encode _
  · refine unaryNum_agree hR (fun v => if v < 0 then intBytes (-v) else intBytes v) 0x90 fun v => ?_
    show _ = ScriptSpec.ScriptNum.encode (if v < 0 then -v else v)
    split <;> exact intBytes_eq_encode _
  · exact unaryNum_agree hR (fun v => boolBytes (v == 0)) 0x91 fun v => boolBytes_eq _
  · exact unaryNum_agree hR (fun v => boolBytes (v != 0)) 0x92 fun v => boolBytes_eq _

/-- the body of the two-operand arithmetic branch of `execOp` -/
def binBody (c : Ctx) (st : St) (opcode : Nat) : Res St :=
  let chk := has c.flags VER_MINDATA
  if st.stack.length < 2 then .fail else do
    let (bn2, s1) ← popInt chk st.stack
    let (bn1, s2) ← popInt chk s1
    let bn ← binArith opcode bn1 bn2
    if opcode == 0x9d then (if bn == 0 then .fail else pure { st with stack := s2 })
    else pure { st with stack := intBytes bn :: s2 }

theorem execOp_bin (c : Ctx) (st : St) (op idx pos : Nat) (b : Bool) (h : ScriptSpec.isBinaryNum op = true) :
    execOp c st op idx pos b = binBody c st op := by
  rcases binary_ops op h with h|h|h|h|h|h|h|h|h|h|h|h|h <;> subst h <;> rfl

theorem execOpcode_bin (e : ScriptSpec.Env) (s : ScriptSpec.State) (i : ScriptSpec.Instr) (pos : Nat) (b : Bool)
    (h : ScriptSpec.isBinaryNum i.op = true) :
    ScriptSpec.execOpcode e s i b pos = ScriptSpec.opBinaryNum e s i.op := by
  obtain ⟨iop, idata, iafter⟩ := i
  simp only at h
  rcases binary_ops iop h with h|h|h|h|h|h|h|h|h|h|h|h|h <;> subst h <;> rfl

theorem binary_agree (hR : Rel c leaf annex st s) (hs : ScriptSpec.isBinaryNum i.op = true) :
    Agree c leaf annex (execOp c st i.op idx pos true) (ScriptSpec.execOpcode (envOf T c leaf annex) s i true pos) := by
  rw [execOp_bin c st i.op idx pos true hs, execOpcode_bin _ s i pos true hs]
  unfold binBody ScriptSpec.opBinaryNum
  rw [hR.stack]
  refine Agree.guard fun _ => popNum_agree s fun b _ r1 _ => popNum_agree { s with stack := r1 } fun a _ r2 _ => ?_
  simp only [binArith_eq i.op a b hs, Res.ok_bind, intBytes_eq_encode, bne]
  by_cases h9d : (i.op == 0x9d) = true
  · cases hz : ScriptSpec.binaryNum i.op a b == 0 <;> simp only [h9d, Bool.not_false, Bool.not_true, Bool.false_eq_true, ↓reduceIte]
    · exact Agree.ok (hR.setStack r2)
    · exact Agree.fail
  · simp only [h9d, Bool.false_eq_true, ↓reduceIte]
    exact Agree.ok (hR.setStack _)

theorem within_agree (hR : Rel c leaf annex st s) (hs : i.op = 0xa5) :
    Agree c leaf annex (execOp c st i.op idx pos true) (ScriptSpec.execOpcode (envOf T c leaf annex) s i true pos) := by
  obtain ⟨iop, idata, iafter⟩ := i
  simp only at hs; subst hs
  show Agree c leaf annex (if st.stack.length < 3 then _ else _) (ScriptSpec.opWithin _ s)
  unfold ScriptSpec.opWithin
  rw [hR.stack]
  refine Agree.guard fun _ => popNum_agree s fun mx _ r1 _ => popNum_agree { s with stack := r1 } fun mn _ r2 _ =>
    popNum_agree { s with stack := r2 } fun x _ r3 _ => ?_
  simp only [boolBytes_ofBool]
  exact Agree.ok (hR.setStack _)

theorem depth_size_agree (hR : Rel c leaf annex st s) (hs : i.op = 0x74 ∨ i.op = 0x82) :
    Agree c leaf annex (execOp c st i.op idx pos true) (ScriptSpec.execOpcode (envOf T c leaf annex) s i true pos) := by
  obtain ⟨iop, idata, iafter⟩ := i
  rcases hs with h | h <;> subst h
  · show Agree c leaf annex (.ok (st.push (intBytes _))) (pure (ScriptSpec.pushNum s _))
    rw [intBytes_eq_encode, hR.stack]
    exact Agree.ok (hR.push _)
  · show Agree c leaf annex (match st.stack with | _ :: _ => _ | [] => _) (match s.stack with | _ :: _ => _ | [] => _)
    rw [hR.stack]
    cases s.stack with
    | nil => exact Agree.fail
    | cons x r =>
      show Agree c leaf annex (.ok (st.push (intBytes _))) _
      rw [intBytes_eq_encode]; exact Agree.ok (hR.push _)

theorem top_succ (s : Stack) (k : Nat) : top s (1 + k) = (match s[k]? with | some x => .ok x | none => .panic) := by
  unfold top
  have : ¬ (1 + k = 0) := by omega
  simp only [this, ↓reduceIte, Nat.add_sub_cancel_left]
  cases s[k]? <;> rfl

theorem pickroll_agree (hR : Rel c leaf annex st s) (hs : i.op = 0x79 ∨ i.op = 0x7a) :
    Agree c leaf annex (execOp c st i.op idx pos true) (ScriptSpec.execOpcode (envOf T c leaf annex) s i true pos) := by
  obtain ⟨iop, idata, iafter⟩ := i
  -- PICK and ROLL differ in a literal test on the opcode: the same walk for both
  rcases hs with h | h <;> subst h <;>
  ( show Agree c leaf annex (if st.stack.length < 2 then _ else _) (ScriptSpec.opPickRoll _ s _)
    unfold ScriptSpec.opPickRoll
    rw [hR.stack]
    refine Agree.guard fun _ => popNum_agree s fun n _ r _ => Agree.guard fun hrange => ?_
    have ok := fun x => Agree.ok (hR.setStack x)
    simp only [ge_iff_le, Bool.or_eq_true, decide_eq_true_eq] at hrange
    have hk : n.toNat < r.length := by omega
    simp only [List.getElem?_eq_getElem hk, top_succ, Nat.reduceBEq, Bool.false_eq_true, ↓reduceIte] )
  · exact ok _
  · by_cases hpos : n > 0
    · simp only [hpos, ↓reduceIte]; exact ok _
    · have hn0 : n = 0 := by omega
      subst hn0
      cases r with
      | nil => simp at hk
      | cons x r' => exact ok _

theorem bts2intExt_eq (d : Bytes) (mx : Nat) (fm : Bool) :
    bts2intExt d mx fm =
      match ScriptSpec.ScriptNum.read d fm mx with
      | Except.ok v => Res.ok v
      | Except.error _ => Res.panic := by
  unfold bts2intExt ScriptSpec.ScriptNum.read
  rw [numOfBytes_eq_decode, isMinimal_eq]
  by_cases h1 : d.length > mx
  · simp [h1, ethrow]
  · by_cases h2 : d.length = 0
    · simp [List.eq_nil_of_length_eq_zero h2, ScriptSpec.ScriptNum.minimal, ScriptSpec.ScriptNum.decode, epure]
    · by_cases h3 : (fm && !ScriptSpec.ScriptNum.minimal d) = true
      · simp [h1, h2, h3, ethrow]
      · simp [h1, h2, h3, epure]

/-- the operand of CLTV / CSV (at most `mx` bytes): gocoin tests the length, then panics where Core throws -/
theorem readExt_agree (d : Bytes) (mx : Nat) {K : Int → Res St} {K' : Int → ScriptSpec.E ScriptSpec.State}
    (hK : ∀ v, Agree c leaf annex (K v) (K' v)) :
    Agree c leaf annex (if d.length > mx then .fail else bts2intExt d mx (has c.flags VER_MINDATA) >>= K)
      (ScriptSpec.ScriptNum.read d (envOf T c leaf annex).f.minimaldata mx >>= K') := by
  rw [bts2intExt_eq, envOf_f, ← flag_mindata]
  by_cases hl : d.length > mx
  · rw [if_pos hl, show ScriptSpec.ScriptNum.read d (has c.flags VER_MINDATA) mx = .error .UNKNOWN_ERROR by
      simp [ScriptSpec.ScriptNum.read, hl, ethrow]]
    exact Agree.fail
  · rw [if_neg hl]
    cases ScriptSpec.ScriptNum.read d (has c.flags VER_MINDATA) mx with
    | error e => exact Agree.panic
    | ok v => exact hK v

theorem ite_fail_or {α} {a b : Prop} [Decidable a] [Decidable b] {y : Res α} :
    (if a then Res.fail else if b then Res.fail else y) = if a ∨ b then Res.fail else y := by
  by_cases ha : a <;> by_cases hb : b <;> simp [ha, hb]

theorem codesep_agree (hR : Rel c leaf annex st s) (hs : i.op = 0xab) (hidx : c.p.drop idx = i.after)
    (hwfa : c.sv = .base → (ScriptSpec.parse c.p).2 = false → (ScriptSpec.parse i.after).2 = false ∧ i.after.length < 2 ^ 32) :
    Agree c leaf annex (execOp c st i.op idx pos true) (ScriptSpec.execOpcode (envOf T c leaf annex) s i true pos) := by
  obtain ⟨iop, idata, iafter⟩ := i
  simp only at hs; subst hs
  exact Agree.ok { hR with code := hidx, csp := rfl, wf := hwfa }

theorem cltv_agree (hR : Rel c leaf annex st s) (hs : i.op = 0xb1) (hq : NopsOk c.flags) :
    Agree c leaf annex (execOp c st i.op idx pos true) (ScriptSpec.execOpcode (envOf T c leaf annex) s i true pos) := by
  obtain ⟨iop, idata, iafter⟩ := i
  simp only at hs; subst hs
  show Agree c leaf annex (if !has c.flags VER_CLTV then _ else _) (ScriptSpec.opCltv _ s)
  unfold ScriptSpec.opCltv
  simp -zeta only [envOf_f, envOf_q, envOf_tx, ← flag_cltv, ← flag_nops, ← hR.stack]
  by_cases hc : has c.flags VER_CLTV = true
  · simp -zeta only [hc, Bool.not_true, Bool.false_eq_true, ↓reduceIte]
    rcases st.stack with _ | ⟨d, r⟩
    · exact Agree.fail
    refine readExt_agree (T := T) d 5 fun n => Agree.guard fun _ => ?_
    rw [ite_fail_or, ite_fail_or]
    refine Agree.guardIff ?_ fun _ => Agree.ok hR
    unfold ScriptSpec.checkLockTime
    rw [show ScriptSpec.LOCKTIME_THRESHOLD = LOCKTIME_THRESHOLD from rfl]
    generalize (decide (c.tx.lockTime < LOCKTIME_THRESHOLD) && decide (n < ↑LOCKTIME_THRESHOLD) ||
      decide (c.tx.lockTime ≥ LOCKTIME_THRESHOLD) && decide (n ≥ ↑LOCKTIME_THRESHOLD)) = A
    cases A <;> simp
  · have hb : has c.flags VER_BLOCK_OPS = false := Bool.eq_false_iff.mpr fun hb => hc (hq hb).1
    simp [hc, hb, agree_ok, epure]
    exact hR

theorem disableFlag_testBit (x : Nat) : ((x &&& SEQUENCE_LOCKTIME_DISABLE_FLAG) != 0) = x.testBit 31 := by
  have := has_testBit x 31
  unfold has at this
  exact this

theorem checkSequence_eq (tx : TxCtx) (n : Nat) : checkSequence tx n = ScriptSpec.checkSequence tx n := by
  unfold checkSequence ScriptSpec.checkSequence
  simp only [disableFlag_testBit]
  have hm : SEQUENCE_LOCKTIME_TYPE_FLAG ||| SEQUENCE_LOCKTIME_MASK = 2 ^ 22 + 0xffff := by decide
  have ht : SEQUENCE_LOCKTIME_TYPE_FLAG = 2 ^ 22 := by decide
  simp only [hm]
  simp only [ht]
  by_cases hv : tx.version < 2
  · simp [hv, Nat.not_le.mpr hv]
  · simp only [hv, ↓reduceIte, ge_iff_le, Nat.not_lt.mp hv, decide_true, Bool.true_and]
    cases hb : tx.sequence.testBit 31
    · simp only [Bool.false_eq_true, ↓reduceIte, Bool.not_false, Bool.true_and]
      generalize tx.sequence &&& (2 ^ 22 + 65535) = a
      generalize n &&& (2 ^ 22 + 65535) = b
      by_cases h1 : (decide (a < 2 ^ 22) && decide (b < 2 ^ 22) || decide (a ≥ 2 ^ 22) && decide (b ≥ 2 ^ 22)) = true
      · by_cases h2 : b ≤ a
        · simp [h1, h2]
        · simp [h1, h2, Nat.not_le.mp h2]
      · simp [h1]
    · simp

theorem csv_agree (hR : Rel c leaf annex st s) (hs : i.op = 0xb2) (hq : NopsOk c.flags) :
    Agree c leaf annex (execOp c st i.op idx pos true) (ScriptSpec.execOpcode (envOf T c leaf annex) s i true pos) := by
  obtain ⟨iop, idata, iafter⟩ := i
  simp only at hs; subst hs
  show Agree c leaf annex (if !has c.flags VER_CSV then _ else _) (ScriptSpec.opCsv _ s)
  unfold ScriptSpec.opCsv
  simp -zeta only [envOf_f, envOf_q, envOf_tx, ← flag_csv, ← flag_nops, ← hR.stack, ← disableFlag_testBit, ← checkSequence_eq]
  by_cases hc : has c.flags VER_CSV = true
  · simp -zeta only [hc, Bool.not_true, Bool.false_eq_true, ↓reduceIte]
    rcases st.stack with _ | ⟨d, r⟩
    · exact Agree.fail
    exact readExt_agree (T := T) d 5 fun n => Agree.guard fun _ =>
      Agree.ite (fun _ => Agree.ok hR) fun _ => Agree.guard fun _ => Agree.ok hR
  · have hb : has c.flags VER_BLOCK_OPS = false := Bool.eq_false_iff.mpr fun hb => hc (hq hb).2
    simp [hc, hb, agree_ok, epure]
    exact hR

end GocoinV.Proofs.C01
