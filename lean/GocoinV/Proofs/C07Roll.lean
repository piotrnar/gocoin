/-
  Proofs.C07Roll — the positional block store with data-file roll-over (Model/PersistRoll.lean): with LoadBlockIndex as
  written every index record reads back its own block from its own data file after ANY history of writes (with or without
  roll-over), kills after the roll-over's file creation, kills between data write and index write, and restarts.
  Core Lean only.
-/
import GocoinV.Model.PersistRoll
import GocoinV.Proofs.C07Pos
namespace GocoinV.Proofs.C07
open GocoinV.Persist

structure RDiskInv (d : RDisk) : Prop where
  nod : ∀ k, Distinct (d.files k).ents
  ent : ∀ r ∈ d.idx, (r.fpos, r.id, r.blen) ∈ (d.files r.file).ents
  pos : ∀ r ∈ d.idx, 0 < r.blen

structure RInv (s : RSt) : Prop where
  disk : RDiskInv s.d
  bndF : ∀ r ∈ s.d.idx, r.file ≤ s.n.maxidx
  bndP : ∀ r ∈ s.d.idx, r.file = s.n.maxidx → r.fpos + r.blen ≤ s.n.maxpos
  offm : s.n.off = s.n.maxpos

theorem rreadsBack_of {d : RDisk} (h : RDiskInv d) : rreadsBack d = true := by
  simp only [rreadsBack, List.all_eq_true, beq_iff_eq]
  intro r hr
  exact read_of_mem (h.nod r.file) (h.ent r hr)

theorem rloadStep_spec (acc : Nat × Nat) (r : RRec) (hp : 0 < r.blen) :
    acc.1 ≤ (rloadStep false acc r).1 ∧ ((rloadStep false acc r).1 = acc.1 → acc.2 ≤ (rloadStep false acc r).2) ∧
    r.file ≤ (rloadStep false acc r).1 ∧ (r.file = (rloadStep false acc r).1 → r.fpos + r.blen ≤ (rloadStep false acc r).2) := by
  unfold rloadStep
  simp only [Bool.false_eq_true, if_false]
  by_cases h1 : r.file > acc.1
  · have c1 : (decide (r.blen > 0) && decide (r.file > acc.1)) = true := by simp [hp, h1]
    simp only [c1, if_true]
    split
    · exact ⟨Nat.le_of_lt h1, fun e => absurd e (by simp; omega), Nat.le_refl _, fun _ => Nat.le_refl _⟩
    · rename_i h2
      exact ⟨Nat.le_of_lt h1, fun e => absurd e (by simp; omega), Nat.le_refl _, fun _ => by simp at h2; omega⟩
  · have c1 : (decide (r.blen > 0) && decide (r.file > acc.1)) = false := by simp [h1]
    simp only [c1, Bool.false_eq_true, if_false]
    split
    · exact ⟨Nat.le_refl _, fun _ => by simp; omega, by simp; omega, fun _ => Nat.le_refl _⟩
    · rename_i h2
      exact ⟨Nat.le_refl _, fun _ => Nat.le_refl _, by omega, fun _ => by omega⟩

theorem rload_aux : ∀ (l : List RRec) (acc : Nat × Nat), (∀ r ∈ l, 0 < r.blen) →
    acc.1 ≤ (l.foldl (rloadStep false) acc).1 ∧ ((l.foldl (rloadStep false) acc).1 = acc.1 → acc.2 ≤ (l.foldl (rloadStep false) acc).2) ∧
    ∀ r ∈ l, r.file ≤ (l.foldl (rloadStep false) acc).1 ∧
      (r.file = (l.foldl (rloadStep false) acc).1 → r.fpos + r.blen ≤ (l.foldl (rloadStep false) acc).2)
  | [], acc, _ => ⟨Nat.le_refl _, fun _ => Nat.le_refl _, fun _ h => by cases h⟩
  | x :: rest, acc, hp => by
    obtain ⟨s1, s2, s3, s4⟩ := rloadStep_spec acc x (hp x (by simp))
    obtain ⟨i1, i2, i3⟩ := rload_aux rest (rloadStep false acc x) (fun r hr => hp r (by simp [hr]))
    simp only [List.foldl_cons]
    refine ⟨Nat.le_trans s1 i1, ?_, List.forall_mem_cons.2 ⟨⟨Nat.le_trans s3 i1, fun e => ?_⟩, i3⟩⟩
    · intro e
      have e1 : (rloadStep false acc x).1 = acc.1 := by omega
      exact Nat.le_trans (s2 e1) (i2 (by omega))
    · have e1 : x.file = (rloadStep false acc x).1 := by omega
      exact Nat.le_trans (s4 e1) (i2 (by omega))

theorem ropen_inv {d : RDisk} (h : RDiskInv d) : RInv (ropen false d) := by
  obtain ⟨_, _, h3⟩ := rload_aux d.idx (0, 0) h.pos
  exact ⟨h, fun r hr => (h3 r hr).1, fun r hr => (h3 r hr).2, rfl⟩

theorem setFile_distinct {files : Nat → DatFile} (h : ∀ k, Distinct (files k).ents) (i : Nat) {f : DatFile}
    (hf : Distinct f.ents) (k : Nat) : Distinct (setFile files i f k).ents := by
  unfold setFile
  split
  · exact hf
  · exact h k

theorem rroll_inv {s : RSt} (h : RInv s) (maxSize l : Nat) : RInv (rroll maxSize s l) := by
  unfold rroll
  split
  · refine ⟨⟨?_, ?_, h.disk.pos⟩, ?_, ?_, rfl⟩
    · exact setFile_distinct h.disk.nod _ List.Pairwise.nil
    · intro r hr
      show (r.fpos, r.id, r.blen) ∈ (setFile s.d.files (s.n.maxidx + 1) {} r.file).ents
      unfold setFile
      have := h.bndF r hr
      rw [if_neg (by omega)]
      exact h.disk.ent r hr
    · intro r hr
      have := h.bndF r hr
      show r.file ≤ s.n.maxidx + 1
      omega
    · intro r hr (e : r.file = s.n.maxidx + 1)
      have := h.bndF r hr
      omega
  · exact h

theorem rwriteDat_inv {s : RSt} (h : RInv s) (id l : Nat) :
    RDiskInv (rwriteDat s id l).d ∧ (s.n.maxpos, id, l) ∈ ((rwriteDat s id l).d.files s.n.maxidx).ents := by
  have hoff := h.offm
  refine ⟨⟨?_, ?_, h.disk.pos⟩, ?_⟩
  · exact setFile_distinct h.disk.nod _ (write_distinct (h.disk.nod _) _ _ _)
  · intro r hr
    show (r.fpos, r.id, r.blen) ∈ (setFile s.d.files s.n.maxidx ((s.d.files s.n.maxidx).write s.n.off id l) r.file).ents
    unfold setFile
    split
    · rename_i e
      exact write_keeps (e ▸ h.disk.ent r hr) (hoff ▸ h.bndP r hr e) (h.disk.pos r hr) id l
    · exact h.disk.ent r hr
  · show (s.n.maxpos, id, l) ∈ (setFile s.d.files s.n.maxidx ((s.d.files s.n.maxidx).write s.n.off id l) s.n.maxidx).ents
    unfold setFile
    rw [if_pos rfl, hoff]
    exact write_mem _ _ _ _

theorem rwrite_inv {s : RSt} (h : RInv s) (id l : Nat) (hl : 0 < l) : RInv (rwriteIdx (rwriteDat s id l) id l) := by
  obtain ⟨hd, hent⟩ := rwriteDat_inv h id l
  refine ⟨⟨hd.nod, ?_, ?_⟩, ?_, ?_, ?_⟩
  · exact List.forall_mem_append.2 ⟨hd.ent, List.forall_mem_singleton.2 hent⟩
  · exact List.forall_mem_append.2 ⟨hd.pos, List.forall_mem_singleton.2 hl⟩
  · exact List.forall_mem_append.2 ⟨h.bndF, List.forall_mem_singleton.2 (Nat.le_refl _)⟩
  · exact List.forall_mem_append.2 ⟨fun r hr e => Nat.le_trans (h.bndP r hr e) (Nat.le_add_right _ _),
      List.forall_mem_singleton.2 fun _ => Nat.le_refl _⟩
  · show s.n.off + l = s.n.maxpos + l
    rw [h.offm]

def rlenPos : ROp → Prop
  | .write _ l => 0 < l
  | .crashRoll _ _ => True
  | .crashMid _ l => 0 < l
  | .restart => True

theorem rstep_inv {s : RSt} (h : RInv s) (maxSize : Nat) (op : ROp) (hl : rlenPos op) : RInv (rstep false maxSize s op) := by
  cases op with
  | write id l => exact rwrite_inv (rroll_inv h maxSize l) id l hl
  | crashRoll id l => exact ropen_inv (rroll_inv h maxSize l).disk
  | crashMid id l => exact ropen_inv (rwriteDat_inv (rroll_inv h maxSize l) id l).1
  | restart => exact ropen_inv h.disk

theorem rrun_inv (maxSize : Nat) : ∀ (ops : List ROp) (s : RSt), RInv s → (∀ op ∈ ops, rlenPos op) → RInv (rrun false maxSize s ops) :=
  fun ops _ h hl => List.foldlRecOn (motive := RInv) ops _ h fun _ hs op hop => rstep_inv hs maxSize op (hl op hop)

theorem rinit_inv : RInv {} := by
  refine ⟨⟨fun _ => List.Pairwise.nil, ?_, ?_⟩, ?_, ?_, rfl⟩ <;> intro r hr <;> cases hr

end GocoinV.Proofs.C07
