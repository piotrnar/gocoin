/-
  Proofs.C12SortAdd — AddToSort (and with it OneTxToSend.Add) keeps the invariant of the non-dirty sorted list.
  Core Lean only.
-/
import GocoinV.Proofs.C12SortIns
import GocoinV.Proofs.C12SortDel
namespace GocoinV.Mempool

/-! ### positions -/

theorem insertPos_le (s : State) (t : T2S) : ∀ (l : List Nat) (n : Nat), insertPos s t n l ≤ l.length := by
  intro l n
  fun_induction insertPos s t n l <;> simp only [List.length_cons, List.length_nil] <;> omega

theorem insertPos_ge (s : State) (t : T2S) : ∀ (l : List Nat) (n : Nat), n ≤ l.length → n ≤ insertPos s t n l := by
  intro l n
  fun_induction insertPos s t n l <;> simp only [List.length_cons, List.length_nil] <;> omega

/-- one step of findWorstParent -/
def wpStep (s : State) (acc : Option Nat) (p : Nat) : Option Nat :=
  match acc with
  | none => some p
  | some w => if rankOf s p > rankOf s w then some p else some w

theorem worstParent_eq (K : Keys) (s : State) (t : T2S) : worstParent K s t = (memParents K t).foldl (wpStep s) none := rfl

/-- the fold inside findWorstParent, once it has an accumulator: the result is an element of `a :: l` of maximal SortRank -/
theorem worstParent_fold (s : State) : ∀ (l : List Nat) (a : Nat),
    ∃ w, l.foldl (wpStep s) (some a) = some w ∧ w ∈ a :: l ∧ ∀ p ∈ a :: l, rankOf s p ≤ rankOf s w := by
  intro l
  induction l with
  | nil => exact fun a => ⟨a, rfl, List.mem_cons_self, by simp⟩
  | cons x r ih =>
    intro a
    simp only [List.foldl_cons, wpStep]
    split
    · obtain ⟨w, hw, hm, hmax⟩ := ih x
      have := hmax x List.mem_cons_self
      exact ⟨w, hw, List.mem_cons_of_mem _ hm, List.forall_mem_cons.mpr ⟨by omega, hmax⟩⟩
    · obtain ⟨w, hw, hm, hmax⟩ := ih a
      obtain ⟨ha, hr⟩ := List.forall_mem_cons.mp hmax
      exact ⟨w, hw, List.mem_cons.mpr ((List.mem_cons.mp hm).imp_right (List.mem_cons_of_mem _)),
        List.forall_mem_cons.mpr ⟨ha, List.forall_mem_cons.mpr ⟨by omega, hr⟩⟩⟩

/-- findWorstParent returns a flagged parent of maximal SortRank (none iff there is no flagged parent) -/
theorem worstParent_spec (K : Keys) (s : State) (t : T2S) :
    (worstParent K s t = none ∧ memParents K t = []) ∨
    ∃ w, worstParent K s t = some w ∧ w ∈ memParents K t ∧ ∀ p ∈ memParents K t, rankOf s p ≤ rankOf s w := by
  rw [worstParent_eq]
  cases memParents K t with
  | nil => exact Or.inl ⟨rfl, rfl⟩
  | cons a l => exact Or.inr (worstParent_fold s l a)

/-! ### fixIndex and the rest of the insertion touch the sort fields only; their `rankWrap` / `sortDirty` -/

theorem reindexAll_wrap (s : State) (h : (reindexAll s).rankWrap = false) : s.rankWrap = false :=
  (Bool.or_eq_false_iff.mp h).1

theorem reindexDown_wrap (s : State) (rb : Nat) (below : List Nat) (h : (reindexDown s rb below).rankWrap = false) :
    s.rankWrap = false := by
  unfold reindexDown at h
  dsimp only at h
  split at h
  · exact (Bool.or_eq_false_iff.mp h).1
  · exact reindexAll_wrap s h

theorem fixIndex_wrap (s : State) (b : Nat) (bt wr : Option Nat) (below : List Nat)
    (h : (fixIndex s b bt wr below).rankWrap = false) : s.rankWrap = false := by
  cases bt <;> cases wr <;> simp only [fixIndex] at h
  · exact h
  · split at h
    · exact (Bool.or_eq_false_iff.mp h).1
    · split at h
      · exact reindexAll_wrap _ h
      · exact h
  · exact (Bool.or_eq_false_iff.mp h).1
  · split at h
    · exact h
    · exact reindexDown_wrap _ _ _ h

theorem reindexDown_dirty (s : State) (rb : Nat) (below : List Nat) :
    (reindexDown s rb below).sortDirty = s.sortDirty := by
  unfold reindexDown
  dsimp only
  split <;> rfl

theorem fixIndex_dirty (s : State) (b : Nat) (bt wr : Option Nat) (below : List Nat) :
    (fixIndex s b bt wr below).sortDirty = s.sortDirty := by
  cases bt <;> cases wr <;> simp only [fixIndex]
  · split
    · rfl
    · split <;> rfl
  · split
    · rfl
    · exact reindexDown_dirty s _ _

/-! ### AddToSort -/

/-- what AddToSort needs of the state it is called in (the new record is already in the map) -/
structure AddToSortPre (K : Keys) (s1 : State) (b : Nat) : Prop where
  asc : (s1.sorted.map (rankOf s1)).Pairwise (· < ·)
  bnd : ∀ x ∈ s1.sorted, rankOf s1 x < U64
  sync : ∀ x, x ∈ s1.sorted ↔ (x ≠ b ∧ (s1.pool.get? x).isSome = true)
  pf : s1.sorted.Pairwise (NoLaterParent K s1)
  irr : ∀ x tx, s1.pool.get? x = some tx → x ∉ memParents K tx

theorem nodup_of_asc (f : Nat → Nat) : ∀ (l : List Nat), (l.map f).Pairwise (· < ·) → l.Nodup :=
  fun _ => List.Pairwise.of_map f fun _ _ h e => Nat.lt_irrefl _ (e ▸ h)

/-- where AddToSort starts walking down: below the worst parent -/
def insStart (K : Keys) (s : State) (t : T2S) : Nat :=
  match worstParent K s t with
  | none => 0
  | some w => match posOf w s.sorted 0 with
    | some i => i + 1
    | none => 0

/-- the position at which AddToSort inserts: what `insertPos` finds walking down from `insStart` -/
def insJ (K : Keys) (s : State) (t : T2S) : Nat := insertPos s t (insStart K s t) s.sorted

/-- the state AddToSort hands to fixIndex: key `b` inserted at position `j`, its old rank erased -/
def insState (s : State) (b j : Nat) : State :=
  { s with sorted := s.sorted.take j ++ b :: s.sorted.drop j, ranks := s.ranks.del b }

theorem addToSort_main (K : Keys) (s : State) (b : Nat) (t : T2S) (h1 : ¬ s.sortDirty = true) (h2 : ¬ s.sortDisabled = true)
    (h3 : ¬ s.sorted.isEmpty = true) (h4 : ¬ (!((memParents K t).all fun p => s.pool.has p)) = true) :
    addToSort K s b t = fixIndex (insState s b (insJ K s t)) b (s.sorted.take (insJ K s t)).getLast?
      (s.sorted.drop (insJ K s t)).head? (b :: s.sorted.drop (insJ K s t)) := by
  unfold addToSort
  rw [if_neg h1, if_neg h2, if_neg h3, if_neg h4]
  rfl

/-- no flagged parent of the record stands at or below the position AddToSort inserts at: the walk starts below the
    worst parent, and every parent's SortRank is at most the worst parent's -/
theorem no_parent_below (K : Keys) (s : State) (t : T2S) (hasc : (s.sorted.map (rankOf s)).Pairwise (· < ·))
    (hpl : ∀ w ∈ memParents K t, w ∈ s.sorted) : ∀ y ∈ s.sorted.drop (insJ K s t), y ∉ memParents K t := by
  intro y hy hyp
  rcases worstParent_spec K s t with ⟨_, hnil⟩ | ⟨w, hwp, hwm, hmax⟩
  · rw [hnil] at hyp; cases hyp
  · obtain ⟨i, hi⟩ := posOf_of_mem w s.sorted 0 (hpl w hwm)
    obtain ⟨l1, l2, hl, hi2⟩ := posOf_split w s.sorted 0 i hi
    have hst : insStart K s t = l1.length + 1 := by
      unfold insStart; rw [hwp]; dsimp only; rw [hi]; dsimp only; omega
    have hlen : s.sorted.length = l1.length + 1 + l2.length := by
      rw [hl]; simp; omega
    have hjge : l1.length + 1 ≤ insJ K s t := by
      unfold insJ; rw [hst]
      exact insertPos_ge s t s.sorted _ (by omega)
    have hy2 : y ∈ l2 := by
      obtain ⟨k, hk⟩ := Nat.exists_eq_add_of_le hjge
      rw [hl, hk, Nat.add_assoc, List.drop_length_add_append, Nat.add_comm 1 k, List.drop_succ_cons] at hy
      exact List.mem_of_mem_drop hy
    rw [hl, List.map_append, List.map_cons, List.pairwise_append] at hasc
    have hlt := (List.pairwise_cons.mp hasc.2.1).1 _ (List.mem_map.mpr ⟨y, hy2, rfl⟩)
    have := hmax y hyp
    omega

/-- AddToSort keeps the sorted-list invariant when the record is already in the map (`AddToSortPre`), its flagged parents are
    pooled and it is nobody's flagged parent: not inserting (dirty / disabled), first element, or `fixIndex_asc` at the
    position below the worst parent (`no_parent_below`) -/
theorem addToSort_sort (K : Keys) (s1 : State) (b : Nat) (t : T2S)
    (hrec : s1.pool.get? b = some t)
    (hpre : s1.sortDirty = false → s1.rankWrap = false → AddToSortPre K s1 b)
    (hpar : ∀ p ∈ memParents K t, p ≠ b ∧ (s1.pool.get? p).isSome = true)
    (hnc : ∀ c tc, s1.pool.get? c = some tc → b ∉ memParents K tc) :
    SortInv K (addToSort K s1 b t) := by
  intro hd hw
  by_cases h1 : s1.sortDirty = true
  · unfold addToSort at hd; rw [if_pos h1] at hd; rw [h1] at hd; cases hd
  have hd1 : s1.sortDirty = false := by simpa using h1
  by_cases h2 : s1.sortDisabled = true
  · unfold addToSort at hd; rw [if_neg h1, if_pos h2] at hd; cases hd
  by_cases h3 : s1.sorted.isEmpty = true
  · unfold addToSort at hw ⊢
    rw [if_neg h1, if_neg h2, if_pos h3] at hw ⊢
    have P := hpre hd1 hw
    have hemp : s1.sorted = [] := by simpa using h3
    refine ⟨?_, ?_, ?_, ?_, P.irr⟩
    · simp
    · intro x hx
      simp only [List.mem_singleton] at hx
      subst hx
      show G (s1.ranks.set x SORT_START) x < U64
      rw [G_set_self]; unfold SORT_START U64; omega
    · intro x
      simp only [List.mem_singleton]
      constructor
      · intro e; rw [e, hrec]; rfl
      · intro hx
        apply Classical.byContradiction
        intro hne
        have := (P.sync x).mpr ⟨hne, hx⟩
        rw [hemp] at this; cases this
    · simp
  by_cases h4 : (!((memParents K t).all fun p => s1.pool.has p)) = true
  · exfalso
    simp only [Bool.not_eq_true', List.all_eq_false] at h4
    obtain ⟨p, hp, hh⟩ := h4
    exact hh (hpar p hp).2
  rw [addToSort_main K s1 b t h1 h2 h3 h4] at hd hw ⊢
  generalize hj : insJ K s1 t = j at hd hw ⊢
  generalize hs' : insState s1 b j = s' at hd hw ⊢
  have hw1 : s1.rankWrap = false := by
    have := fixIndex_wrap _ _ _ _ _ hw
    rw [← hs'] at this; exact this
  have P := hpre hd1 hw1
  have hbl : b ∉ s1.sorted := fun h => ((P.sync b).mp h).1 rfl
  have hndl : s1.sorted.Nodup := nodup_of_asc _ _ P.asc
  have htd : s1.sorted.take j ++ s1.sorted.drop j = s1.sorted := List.take_append_drop j s1.sorted
  have hnd : (s1.sorted.take j ++ b :: s1.sorted.drop j).Nodup :=
    List.perm_middle.nodup_iff.mpr (by rw [htd]; exact List.nodup_cons.mpr ⟨hbl, hndl⟩)
  have hranks : s'.ranks = s1.ranks.del b := by rw [← hs']; rfl
  have hsorted : s'.sorted = s1.sorted.take j ++ b :: s1.sorted.drop j := by rw [← hs']; rfl
  have hmapl : (s1.sorted.take j ++ s1.sorted.drop j).map (G s'.ranks) = s1.sorted.map (rankOf s1) := by
    rw [htd, hranks, map_G_del _ _ _ hbl]; rfl
  have F := fixIndex_asc s' b (s1.sorted.take j) (s1.sorted.drop j) hsorted (by rw [hranks]; exact G_del_self _ _) hnd
    (by rw [hmapl]; exact P.asc)
    (by
      intro x hx
      rw [htd] at hx
      rw [hranks, G_del_other _ _ _ (fun e => by rw [e] at hx; exact hbl hx)]
      exact P.bnd x hx)
    (by rw [htd]; intro e; rw [e] at h3; exact h3 rfl) hw
  obtain ⟨F1, F2, F3⟩ := F
  have SO := fixIndex_sortOnly s' b (s1.sorted.take j).getLast? (s1.sorted.drop j).head? (b :: s1.sorted.drop j)
  have hpool : (fixIndex s' b (s1.sorted.take j).getLast? (s1.sorted.drop j).head? (b :: s1.sorted.drop j)).pool = s1.pool := by
    rw [SO.pool, ← hs']; rfl
  have hmem : ∀ x, x ∈ s1.sorted.take j ++ b :: s1.sorted.drop j ↔ (x ∈ s1.sorted ∨ x = b) := fun x => by
    rw [List.perm_middle.mem_iff, htd, List.mem_cons, or_comm]
  have hR : NoLaterParent K (fixIndex s' b (s1.sorted.take j).getLast? (s1.sorted.drop j).head? (b :: s1.sorted.drop j)) =
      NoLaterParent K s1 := by
    funext x y; unfold NoLaterParent; rw [hpool]
  refine ⟨?_, ?_, ?_, ?_, ?_⟩
  · rw [F1]; exact F2
  · rw [F1]; exact F3
  · intro x
    rw [F1, hpool, hmem, P.sync x]
    constructor
    · rintro (⟨_, h⟩ | h)
      · exact h
      · rw [h, hrec]; rfl
    · intro h
      by_cases e : x = b
      · exact Or.inr e
      · exact Or.inl ⟨e, h⟩
  · rw [F1, hR]
    have hpf0 : (s1.sorted.take j ++ s1.sorted.drop j).Pairwise (NoLaterParent K s1) := by rw [htd]; exact P.pf
    rw [List.pairwise_append] at hpf0 ⊢
    obtain ⟨p1, p2, p3⟩ := hpf0
    have below := no_parent_below K s1 t P.asc fun w hw => (P.sync w).mpr (hpar w hw)
    rw [hj] at below
    refine ⟨p1, ?_, ?_⟩
    · refine List.Pairwise.cons ?_ p2
      intro y hy t' ht'
      rw [hrec] at ht'; cases ht'
      exact below y hy
    · intro x hx y hy
      rcases List.mem_cons.mp hy with rfl | hy
      · intro tx htx; exact hnc x tx htx
      · exact p3 x hx y hy
  · intro x tx hx
    rw [hpool] at hx
    exact P.irr x tx hx

/-- OneTxToSend.Add keeps the sorted-list invariant: `addToSort_sort` on the state with the new record in the maps, each
    hypothesis carried over `pool.set` because the new key is not in the old list -/
theorem addT2S_sort (K : Keys) (s : State) (t : T2S) (hs : SortInv K s)
    (hfresh : s.pool.get? (K.bidx t.tx.id) = none)
    (hpar : ∀ p ∈ memParents K t, (s.pool.get? p).isSome = true)
    (hnc : ∀ c tc, s.pool.get? c = some tc → K.bidx t.tx.id ∉ memParents K tc) :
    SortInv K (addT2S K s t) := by
  unfold addT2S
  dsimp only
  generalize hs1 : ({ s with spent := t.tx.ins.foldl (fun (m : AList Nat Nat) i => m.set (K.uidx i.prev i.vout) (K.bidx t.tx.id)) s.spent,
                             pool := s.pool.set (K.bidx t.tx.id) t,
                             weightTotal := s.weightTotal + t.tx.weight } : State) = s1
  have hp1 : s1.pool = s.pool.set (K.bidx t.tx.id) t := by rw [← hs1]
  have hget : ∀ x, x ≠ K.bidx t.tx.id → s1.pool.get? x = s.pool.get? x := by
    intro x hx; rw [hp1, AList.get?_set_other _ _ _ _ hx]
  have hself : s1.pool.get? (K.bidx t.tx.id) = some t := by rw [hp1, AList.get?_set_self]
  have hne : ∀ x, (s.pool.get? x).isSome = true → x ≠ K.bidx t.tx.id := by
    intro x h e; rw [e, hfresh] at h; cases h
  have hnoself : K.bidx t.tx.id ∉ memParents K t := fun h => hne _ (hpar _ h) rfl
  apply addToSort_sort K s1 _ t hself
  · intro hd hw
    have P := hs (by rw [← hs1] at hd; exact hd) (by rw [← hs1] at hw; exact hw)
    have e1 : s1.sorted = s.sorted := by rw [← hs1]
    have e2 : rankOf s1 = rankOf s := by funext x; unfold rankOf; rw [← hs1]
    refine ⟨by rw [e1, e2]; exact P.asc, by rw [e1, e2]; exact P.bnd, ?_, ?_, ?_⟩
    · intro x
      rw [e1, P.sync x]
      constructor
      · intro h
        exact ⟨hne x h, by rw [hget x (hne x h)]; exact h⟩
      · rintro ⟨hne, h⟩; rw [hget x hne] at h; exact h
    · rw [e1]
      refine List.Pairwise.imp_of_mem ?_ P.pf
      intro x y hx _ h tx htx
      rw [hget x (hne x ((P.sync x).mp hx))] at htx
      exact h tx htx
    · intro x tx hx
      by_cases e : x = K.bidx t.tx.id
      · rw [e, hself] at hx; cases hx; rw [e]; exact hnoself
      · rw [hget x e] at hx; exact P.irr x tx hx
  · intro p hp
    refine ⟨hne p (hpar p hp), ?_⟩
    rw [hget p (hne p (hpar p hp))]; exact hpar p hp
  · intro c tc hc
    by_cases e : c = K.bidx t.tx.id
    · rw [e, hself] at hc; cases hc; exact hnoself
    · rw [hget c e] at hc; exact hnc c tc hc

end GocoinV.Mempool
