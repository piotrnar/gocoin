/-
  Proofs.C13Inst2 — a concrete instance of ALL hypotheses of `send_signatures_verify` (Props/C13.lean): a whole -send run
  with TWO keys (secrets 1 and 2) and TWO inputs of DIFFERENT types - the P2PKH output of key 0 (30000 sat) and the
  P2WPKH output of key 1 (40000 sat) - paying 0.0006 BTC to bc1qw508d6qejxtdg4y5r3zarvary0c5xw7kv8f3t4 with fee 1000: both
  coins are selected, the 9000 sat change goes to the first coin's script. `hcalls` / `no_clash` quantify over every key of
  the table for every input, so they are discharged for all four (input, key) pairs. Real / toy split as in C13Inst.lean.
-/
import GocoinV.Proofs.C13Inst
import GocoinV.Proofs.C13Own
namespace GocoinV.WalletTx.Inst2
open GocoinV GocoinV.WalletTx GocoinV.WalletSpec GocoinV.Proofs.C13L GocoinV.Model
open GocoinV.WalletTx.Inst (toySha Ht hashLenI tableB table_of_B)

def K2 : C03Signer := { secs := [1, 2], nonce := fun _ _ => 2, aux := fun _ _ => [], tagged := fun _ => beBytes 32 2 }
def c2 : Cfg :=
  { testnet := false, bech32 := false, fee := 1000, subfee := false, useAll := false, seq := 4294967293,
    lockTime := 0, version := 2, change := none, msg := [] }
abbrev ks2 : List KeyRec := keyTable Ht c2.bech32 K2.pubs
def kr0 : KeyRec := mkKey Ht false (Secp.ser33 (Secp.mul 1 Secp.G))
def kr1 : KeyRec := mkKey Ht false (Secp.ser33 (Secp.mul 2 Secp.G))
def coinA : Coin := { txid := List.replicate 32 9, vout := 1, value := 30000, script := p2pkhScript kr0.h160 }
def coinB : Coin := { txid := List.replicate 32 8, vout := 0, value := 40000, script := p2wpkhScript kr1.h160 }
def send2 : Bytes := strBytes "bc1qw508d6qejxtdg4y5r3zarvary0c5xw7kv8f3t4=0.0006"
def okReq (r : Except Fail Req) : Option Req := match r with | .ok q => some q | _ => none
def req2 : Req := (okReq (sendRequest Ht c2 (some send2) none)).getD ([], 0)
def dummyBuilt : Built := { tx := ⟨0, [], [], none, 0⟩, spent := [], rest := [], change := 0 }
def okBuilt (r : Except Fail Built) : Option Built := match r with | .ok b => some b | _ => none
def b2 : Built := (okBuilt (build Ht c2 ks2 [coinA, coinB] req2)).getD dummyBuilt
abbrev WC2 : Crypto := c02Crypto toySha Ht.hash160 (Sig.ecdsaVerify true) (Sig.schnorrVerify K2.tagged)
def uoA : TxOut := { value := 30000, script := p2pkhScript kr0.h160 }
def uoB : TxOut := { value := 40000, script := p2wpkhScript kr1.h160 }

theorem keys2 : ks2[0]? = some kr0 ∧ ks2[1]? = some kr1 := by decide +kernel

theorem twoKeys {P : Nat → KeyRec → Prop} (h0 : P 0 kr0) (h1 : P 1 kr1) : ∀ j kr, ks2[j]? = some kr → P j kr := by
  intro j kr hk
  cases j with
  | zero => rw [keys2.1] at hk; cases hk; exact h0
  | succ j =>
    cases j with
    | zero => rw [keys2.2] at hk; cases hk; exact h1
    | succ j => simp [ks2, keyTable, K2, C03Signer.pubs] at hk

/-- the parsed -send argument (decoding the address dominates the evaluation of the run: it is evaluated here, once,
    and the facts below rewrite with the result) -/
theorem req2_eq : req2 = ([⟨.segwit [98, 99] 0
    [117, 30, 118, 232, 25, 145, 150, 212, 84, 148, 28, 69, 209, 179, 163, 35, 241, 67, 59, 214], 60000⟩], 60000) := by
  decide +kernel

theorem hreq2 : sendRequest Ht c2 (some send2) none = .ok req2 := by
  have h := req2_eq
  unfold req2 at h ⊢
  cases hs : sendRequest Ht c2 (some send2) none with
  | ok r => simp [okReq]
  | error e => rw [hs] at h; simp [okReq] at h

theorem hb2 : build Ht c2 ks2 [coinA, coinB] req2 = .ok b2 := by
  have h : (okBuilt (build Ht c2 ks2 [coinA, coinB] req2)).isSome = true := by rw [req2_eq]; decide +kernel
  unfold b2
  cases hs : build Ht c2 ks2 [coinA, coinB] req2 with
  | ok r => simp [okBuilt]
  | error e => rw [hs] at h; simp [okBuilt] at h

/-- the unsigned transaction and the coins it spends; the facts below are about these two -/
theorem built2 :
    b2.tx = { version := 2, ins := [⟨coinA.txid, 1, [], c2.seq⟩, ⟨coinB.txid, 0, [], c2.seq⟩],
              outs := [⟨60000, [0, 20, 117, 30, 118, 232, 25, 145, 150, 212, 84, 148, 28, 69, 209, 179, 163, 35, 241,
                                67, 59, 214]⟩, ⟨9000, coinA.script⟩],
              wit := none, lockTime := 0 } ∧
    b2.spent = [coinA, coinB] := by
  unfold b2; rw [req2_eq]; decide +kernel

theorem spent2 : spentOuts b2 = [uoA, uoB] := by unfold spentOuts; rw [built2.2]; rfl

def dummyW : Written := { tx := ⟨0, [], [], none, 0⟩, file := [], txid := [], applied := false, unspentAfter := [], change := 0 }
def okW (r : Except Fail (Option Written)) : Option Written := match r with | .ok (some w) => some w | _ => none
def w2 : Written :=
  (okW (runSend Ht c2 ks2 true [coinA, coinB] (some send2) none (sigOf WC2 K2.signer (spentOuts b2)))).getD dummyW

theorem hrun2 : runSend Ht c2 ks2 true [coinA, coinB] (some send2) none (sigOf WC2 K2.signer (spentOuts b2)) = .ok (some w2) := by
  obtain ⟨w, hw⟩ := runSend_writes Ht c2 ks2 true [coinA, coinB] (some send2) none (sigOf WC2 K2.signer (spentOuts b2))
    req2 b2 hreq2 (by rw [req2_eq]; rfl) hb2
  unfold w2
  rw [hw]; rfl

theorem hbal2 : ownedSum ks2 [coinA, coinB] < 2^64 := by decide +kernel
theorem keysOk2 : ∀ d ∈ K2.secs, 0 < d ∧ d < Secp.n := by
  intro d hd; simp [K2] at hd; rcases hd with rfl | rfl <;> exact ⟨by decide, by decide⟩
theorem nonzero2 : ∀ (k : Nat) (kr : KeyRec), ks2[k]? = some kr →
    ScriptSpec.castToBool kr.h160 = true ∧ ScriptSpec.castToBool ((kr.pub.drop 1).take 32) = true :=
  twoKeys (by decide +kernel) (by decide +kernel)
theorem haddr2 : ∀ u ∈ b2.spent, (Addr.fromPkScript Ht u.script c2.testnet).isSome := by
  rw [built2.2]; decide +kernel

/-- all four (input, key) pairs, evaluated once -/
theorem table2 : tableB WC2 K2 (skeleton b2.tx) (spentOuts b2) ks2 = true := by
  rw [built2.1, spent2]; decide +kernel

theorem calls2 : ∀ i uo, (spentOuts b2)[i]? = some uo → ∀ j kr, ks2[j]? = some kr →
    CallsOk WC2 K2 (skeleton b2.tx) (spentOuts b2) i uo j kr.h160 :=
  fun i uo hi j kr hj => (table_of_B table2 i uo hi j kr hj).1

theorem clash2 : ∀ i uo, (spentOuts b2)[i]? = some uo → ∀ j kr, ks2[j]? = some kr →
    K2.signer.ecdsa j (WC2.legacyDigest (skeleton b2.tx) i uo.script 1) ++ [1] ≠ kr.h160 :=
  fun i uo hi j kr hj => (table_of_B table2 i uo hi j kr hj).2

end GocoinV.WalletTx.Inst2
