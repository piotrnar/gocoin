/-
  Proofs.C19Observe — the last steps that several theorems of Props/C19 share: what an observer sees of a store at
  the end of a history (the keys it holds, what a Browse shows, what NewDBExt on its directory finds), stated once
  for any store / directory with the invariants.
-/
import GocoinV.Proofs.C19Flags
namespace GocoinV.Proofs.C19
open GocoinV GocoinV.Qdb GocoinV.QdbSpec

theorem SInv.openOK {db : DB} (h : SInv db) : OpenOK db.eager db.fs := by
  rcases h with h | h
  · exact openOK_of_inv _ h.inv
  · obtain ⟨P, hP, _⟩ := h.gh
    exact openOK_of_inv (ghost db P) hP.inv

theorem keys_witness (db : DB) (hnd : (Keys db.index).Nodup) :
    ∃ ks : List Key, ks.Nodup ∧ (∀ k, k ∈ ks ↔ (vals db k).isSome = true) ∧ count db = ks.length := by
  refine ⟨Keys db.index, hnd, fun k => ?_, by simp [count, Keys]⟩
  rw [vals_eq, Option.isSome_map]
  exact (ilookup_isSome_iff k db.index).symm

theorem durOK_written (H : List HItem) (m' d' : Key → Option Bytes)
    (hd : DurOK false (fun _ => none) (fun _ => none) H m' d') (k : Key) (v : Bytes)
    (hv : m' k = some v ∨ d' k = some v) : ∃ i ∈ H, writes (itemOp i) k v := by
  rcases durOK_origin H _ _ _ _ _ hd k v hv with ⟨⟨⟩⟩ | ⟨⟨⟩⟩ | r
  exact r

/-- what a Browse that shows `mbrowseOutW w m` shows: only entries of the map, every entry that is not skipped, and
    without a BR_ABORT answer every entry not flagged NO_BROWSE -/
theorem browse_out_facts (m : M) (hnd : (Keys m).Nodup) (w : List (Key × Nat)) (out : List (Key × Bytes))
    (e : out = mbrowseOutW w m) :
    (∀ kv ∈ out, mget m kv.1 = some kv.2) ∧
    (∀ k v f, ilookup k m = some (v, f) → skipB false (mvisitSet false m w) f k = false → (k, v) ∈ out) ∧
    (NoAbort w → out = mbrowseOut m ∧
      ∀ k v f, ilookup k m = some (v, f) → hasFlag f NO_BROWSE = false → (k, v) ∈ out) := by
  subst e
  refine ⟨mbrowseOutV_sound _ _ hnd, fun k v f hl hs => mbrowseOutV_complete _ _ k v f hl hs, fun hna => ?_⟩
  rw [mbrowseOutW_noAbort w hna]
  refine ⟨rfl, fun k v f hl hf => ?_⟩
  unfold mbrowseOut
  exact List.mem_filterMap.mpr ⟨(k, v, f), ilookup_key_pair k (v, f) _ hl, by simp [hf]⟩

/-- NewDBExt (any mode, any LoadData) on an openable directory: it does not fail, the first Get of every key returns
    the directory's value, and so does the eager ghost's map -/
theorem open_observe (F : FS) (hO : OpenOK true F) (vol load : Bool) (opts : Opts)
    (hmax : (openIndex { fs := F, volatile := vol, opts := opts, eager := true }).maxSeq + 1 < 2^32) :
    (openDB F vol load opts).failed = none ∧
    (∀ k, (Qdb.get (openDB F vol load opts) k).1.failed = none ∧
          (Qdb.get (openDB F vol load opts) k).2 = diskValue F k) ∧
    (∀ k, vals (openDB F vol true opts true) k = diskValue F k) := by
  obtain ⟨t1, _, _, t4, _⟩ := (openDB_twin F vol load opts false hO hmax).observe
  have hv : ∀ k, vals (openDB F vol true opts true) k = diskValue F k := fun k => by
    rw [vals_eq]
    exact (open_readable F hO.readable vol opts).2 k
  exact ⟨t1, fun k => ⟨(t4 k).1, (t4 k).2.trans (hv k)⟩, hv⟩

end GocoinV.Proofs.C19
