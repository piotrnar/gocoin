/-
  Proofs.C05Compact — helper lemmas for C05: byte length of a number, GetCompact over Nat, what GetCompact returns for a
  positive target below 2^256 (canonical, never an edge encoding, SetCompact of it truncates), and the ingredients of the
  compact round trip (Props.C05.compact_roundtrip).
  SetCompact shifts the mantissa by `|size - 3|` bytes, right or left, and GetCompact the other way round. Both
  directions are ONE scaling each: SetCompact's magnitude is `m · 256^size / 2^24` (`mag_eq`), GetCompact's mantissa
  `t · 2^24 / 256^size` (`rawMant`, `mant_eq`), so the arithmetic after these two lemmas has no case `size ≤ 3`. A number
  with `t · 2^24 = M · 256^z`, `2^16 ≤ M < 2^24`, has byte length `z` and mantissa `M` (`byteLen_rawMant_of`): the
  normal form on which the round trip is read off.
-/
import GocoinV.Model.Target
open GocoinV GocoinV.Target
namespace GocoinV.Proofs.C05

theorem byteLenAux_fuel (f1 : Nat) : ∀ (f2 n : Nat), n ≤ f1 → n ≤ f2 → byteLenAux f1 n = byteLenAux f2 n := by
  induction f1 with
  | zero =>
    intro f2 n h1 _
    obtain rfl : n = 0 := by omega
    cases f2 <;> rfl
  | succ f1 ih =>
    intro f2 n h1 h2
    by_cases hn : n = 0
    · subst hn; cases f2 <;> rfl
    · cases f2 with
      | zero => omega
      | succ f2 =>
        simp only [byteLenAux, hn, ↓reduceIte]
        rw [ih f2 (n / 256) (by omega) (by omega)]

theorem byteLen_zero : byteLen 0 = 0 := rfl

theorem byteLen_pos (n : Nat) (h : 0 < n) : byteLen n = 1 + byteLen (n / 256) := by
  unfold byteLen
  cases n with
  | zero => omega
  | succ k =>
    simp only [byteLenAux, Nat.succ_ne_zero, ↓reduceIte]
    rw [byteLenAux_fuel k ((k+1)/256) ((k+1)/256) (by omega) (Nat.le_refl _)]

theorem byteLen_bounds (t : Nat) : 0 < t → 1 ≤ byteLen t ∧ 256^(byteLen t - 1) ≤ t ∧ t < 256^(byteLen t) := by
  induction t using Nat.strongRecOn with
  | _ t ih =>
    intro ht
    rw [byteLen_pos t ht, Nat.add_comm]
    by_cases h0 : t / 256 = 0
    · rw [h0, byteLen_zero]; simp; omega
    · obtain ⟨b1, b2, b3⟩ := ih (t / 256) (by omega) (by omega)
      generalize byteLen (t / 256) = b at *
      cases b with
      | zero => omega
      | succ j =>
        refine ⟨by omega, ?_, ?_⟩
        · rw [Nat.add_sub_cancel, Nat.pow_succ]
          simp only [Nat.add_sub_cancel] at b2
          exact (Nat.le_div_iff_mul_le (by decide)).mp b2
        · rw [Nat.pow_succ 256 (j+1)]
          exact (Nat.div_lt_iff_lt_mul (by decide)).mp b3

theorem byteLen_eq (k : Nat) : ∀ n, 256 ^ k ≤ n → n < 256 ^ (k + 1) → byteLen n = k + 1 := by
  intro n h1 h2
  obtain ⟨_, b2, b3⟩ := byteLen_bounds n (Nat.lt_of_lt_of_le (Nat.pow_pos (by decide)) h1)
  have := (Nat.pow_lt_pow_iff_right (by decide : 1 < 256)).mp (Nat.lt_of_le_of_lt b2 h2)
  have := (Nat.pow_lt_pow_iff_right (by decide : 1 < 256)).mp (Nat.lt_of_le_of_lt h1 b3)
  omega

/-- `GetCompact` on a non-negative number, over `Nat` only -/
def getCompactNat (n : Nat) : Nat :=
  let size := byteLen n
  let c0 : Nat := if size ≤ 3 then (n * 2^(8*(3-size))) % 2^32 else (n / 2^(8*(size-3))) % 2^32
  let hi := (c0 / 2^23) % 2 = 1
  let c1 := if hi then c0 / 2^8 else c0
  let size1 := if hi then size + 1 else size
  c1 ||| ((size1 * 2^24) % 2^32)

theorem toU32_natCast (a : Nat) : toU32 (a : Int) = a % 2^32 := by
  unfold toU32
  omega

theorem getCompact_natCast (n : Nat) : getCompact (n : Int) = getCompactNat n := by
  unfold getCompact getCompactNat
  simp only [Int.natAbs_natCast]
  have e1 : ∀ k : Nat, toU32 ((n : Int) * (2 ^ k : Int)) = (n * 2 ^ k) % 2^32 := by
    intro k; rw [← toU32_natCast]; congr 1
  have e2 : ∀ k : Nat, ((n : Int) / (2 ^ k : Int)) = ((n / 2 ^ k : Nat) : Int) := by intro k; push_cast; rfl
  have nn (a : Nat) : ¬ ((a : Int) < 0) := Int.not_lt.mpr (Int.natCast_nonneg a)
  by_cases hs : byteLen n ≤ 3 <;> simp only [hs, ↓reduceIte, e1, e2, toU32_natCast, nn]

theorem or_shift (m s : Nat) (h : m < 2^24) : m ||| (s * 2^24) = m + s * 2^24 := by
  have := Nat.shiftLeft_add_eq_or_of_lt h s
  rw [Nat.shiftLeft_eq] at this
  rw [Nat.or_comm, ← this, Nat.add_comm]

theorem pow8 (k : Nat) : 2^(8*k) = 256^k := by rw [Nat.pow_mul]


theorem pow_split {a b : Nat} (h : a ≤ b) : 256^b = 256^(b-a) * 256^a := by
  rw [← Nat.pow_add, Nat.sub_add_cancel h]

theorem pow_pos256 (k : Nat) : 0 < 256^k := Nat.pow_pos (by decide)


theorem mag_eq (m s : Nat) : (if s ≤ 3 then m / 2^(8*(3-s)) else m * 2^(8*(s-3))) = m * 256^s / 2^24 := by
  rw [show (2:Nat)^24 = 256^3 by decide]
  split
  · rename_i h
    rw [pow8, pow_split h, Nat.mul_div_mul_right _ _ (pow_pos256 s)]
  · rename_i h
    rw [pow8, pow_split (Nat.le_of_not_le h), ← Nat.mul_assoc, Nat.mul_div_cancel _ (pow_pos256 3)]

/-- the mantissa GetCompact extracts before normalising the sign bit -/
def rawMant (t size : Nat) : Nat := t * 2^24 / 256^size

theorem mant_eq (t s : Nat) : (if s ≤ 3 then t * 2^(8*(3-s)) else t / 2^(8*(s-3))) = rawMant t s := by
  unfold rawMant
  rw [show (2:Nat)^24 = 256^3 by decide]
  split
  · rename_i h
    rw [pow8, pow_split h, ← Nat.mul_assoc, Nat.mul_div_cancel _ (pow_pos256 s)]
  · rename_i h
    rw [pow8, pow_split (Nat.le_of_not_le h), Nat.mul_div_mul_right _ _ (pow_pos256 3)]

/-- GetCompact from the byte length and the mantissa it extracts: the mantissa as it is, or renormalised by one byte
    when its sign bit is set -/
theorem getCompactNat_of (n size mant : Nat) (hs : byteLen n = size) (hm : mant = rawMant n size) (hlt : mant < 2^24)
    (hsz : (if mant < 2^23 then size else size + 1) < 256) :
    getCompactNat n = if mant < 2^23 then mant + size * 2^24 else mant / 2^8 + (size + 1) * 2^24 := by
  unfold getCompactNat
  simp only [hs]
  have hc0 : (if size ≤ 3 then (n * 2^(8*(3-size))) % 2^32 else (n / 2^(8*(size-3))) % 2^32) = mant := by
    rw [← apply_ite (· % 2^32), mant_eq, ← hm]
    exact Nat.mod_eq_of_lt (by omega)
  rw [hc0]
  split at hsz
  · have h1 : ¬ (mant / 2^23 % 2 = 1) := by omega
    simp only [h1, ↓reduceIte]
    rw [if_pos ‹_›, Nat.mod_eq_of_lt (by omega), or_shift _ _ (by omega)]
  · have h1 : mant / 2^23 % 2 = 1 := by omega
    simp only [h1, ↓reduceIte]
    rw [if_neg ‹_›, Nat.mod_eq_of_lt (by omega), or_shift _ _ (by omega)]

/-- the normal form: a number whose top three bytes are `M` at byte length `z` -/
theorem byteLen_rawMant_of {t M z : Nat} (h : t * 2^24 = M * 256^z) (h1 : 2^16 ≤ M) (h2 : M < 2^24) :
    byteLen t = z ∧ rawMant t z = M := by
  refine ⟨?_, by rw [rawMant, h, Nat.mul_div_cancel _ (pow_pos256 z)]⟩
  cases z with
  | zero => rw [Nat.pow_zero, Nat.mul_one] at h; omega
  | succ j =>
    rw [Nat.pow_succ 256 j] at h
    have hP := pow_pos256 j
    have hX : 2^16 * (256^j * 256) ≤ M * (256^j * 256) := Nat.mul_le_mul_right _ h1
    have hY : M * (256^j * 256) < 2^24 * (256^j * 256) := Nat.mul_lt_mul_of_pos_right h2 (by omega)
    generalize M * (256^j * 256) = X at *
    exact byteLen_eq j t (by omega) (by rw [Nat.pow_succ 256 j]; omega)

theorem byteLen_le_32 (t : Nat) (ht : 0 < t) (hlt : t < 2^256) : byteLen t ≤ 32 := by
  obtain ⟨b1, b2, _⟩ := byteLen_bounds t ht
  have h : 256^(byteLen t - 1) < 256^32 := Nat.lt_of_le_of_lt b2 (by simpa using hlt)
  have := (Nat.pow_lt_pow_iff_right (by decide : 1 < 256)).mp h
  omega


theorem rawMant_bounds (t : Nat) (ht : 0 < t) : 2^16 ≤ rawMant t (byteLen t) ∧ rawMant t (byteLen t) < 2^24 := by
  obtain ⟨b1, b2, b3⟩ := byteLen_bounds t ht
  unfold rawMant
  generalize byteLen t = b at *
  cases b with
  | zero => omega
  | succ j =>
    rw [Nat.add_sub_cancel] at b2
    rw [Nat.pow_succ 256 j] at b3 ⊢
    exact ⟨(Nat.le_div_iff_mul_le (by omega)).2 (by omega), (Nat.div_lt_iff_lt_mul (by omega)).2 (by omega)⟩

theorem getCompactNat_spec (t : Nat) (ht : 0 < t) (hlt : t < 2^256) :
    getCompactNat t = (if rawMant t (byteLen t) < 2^23 then rawMant t (byteLen t) + byteLen t * 2^24
                       else rawMant t (byteLen t) / 2^8 + (byteLen t + 1) * 2^24) := by
  have h32 := byteLen_le_32 t ht hlt
  exact getCompactNat_of t _ _ rfl rfl (rawMant_bounds t ht).2 (by split <;> omega)

theorem setCompact_of (m s : Nat) (hm : m < 2^23) (hs : s < 256) :
    setCompact (m + s * 2^24) = ((m * 256^s / 2^24 : Nat) : Int) := by
  unfold setCompact
  have e0 : (m + s * 2^24) % 2^32 = m + s * 2^24 := Nat.mod_eq_of_lt (by omega)
  have e1 : (m + s * 2^24) / 2^24 = s := by omega
  have e2 : ¬ ((m + s * 2^24) / 2^23 % 2 = 1) := by omega
  have e3 : (m + s * 2^24) % 2^23 = m := by omega
  simp only [e0, e1, e2, e3, ↓reduceIte, mag_eq]

theorem not_edge_of (m s : Nat) (hm : m < 2^23) (hs : s ≤ 33) (h33 : s = 33 → m < 2^16) :
    m + s * 2^24 < 2^32 ∧ coreNegative (m + s * 2^24) = false ∧ coreOverflow (m + s * 2^24) = false := by
  refine ⟨by omega, ?_, ?_⟩ <;> simp only [coreNegative, coreOverflow] <;> apply decide_eq_false <;>
    rintro ⟨_, q⟩ <;> omega

/-- required bits are never an edge encoding: GetCompact of 0 < t < 2^256 is below 2^32, not negative and
    not overflowing in the reference client's reading -/
theorem getCompactNat_not_edge (t : Nat) (ht : 0 < t) (hlt : t < 2^256) :
    getCompactNat t < 2^32 ∧ coreNegative (getCompactNat t) = false ∧ coreOverflow (getCompactNat t) = false := by
  have hb := rawMant_bounds t ht
  have h32 := byteLen_le_32 t ht hlt
  rw [getCompactNat_spec t ht hlt]
  split <;> exact not_edge_of _ _ (by omega) (by omega) (by omega)

/-- SetCompact(GetCompact(t)) truncates: it is positive and never above t -/
theorem setCompact_getCompactNat_le (t : Nat) (ht : 0 < t) (hlt : t < 2^256) :
    0 < setCompact (getCompactNat t) ∧ setCompact (getCompactNat t) ≤ (t : Int) := by
  obtain ⟨hb1, hb2⟩ := rawMant_bounds t ht
  have h32 := byteLen_le_32 t ht hlt
  have h1 := (byteLen_bounds t ht).1
  rw [getCompactNat_spec t ht hlt]
  unfold rawMant at *
  -- with Q = 256^size and A = t·2^24 the mantissa is A / Q
  have hQ : 256 ≤ 256^(byteLen t) := Nat.le_self_pow (by omega) 256
  have hfl := Nat.div_mul_le_self (t * 2^24) (256^(byteLen t))
  generalize hs : byteLen t = s at *
  generalize hq : t * 2^24 / 256^s = q at *
  split
  · rw [setCompact_of _ _ (by omega) (by omega)]
    have h0 : 2^24 ≤ q * 256^s := Nat.le_trans (by omega) (Nat.mul_le_mul hb1 hQ)
    generalize q * 256^s = X at *
    omega
  · rw [setCompact_of _ _ (by omega) (by omega), Nat.pow_succ 256 s, Nat.mul_comm (256^s) 256, ← Nat.mul_assoc]
    have hle : q / 2^8 * 256 * 256^s ≤ q * 256^s := Nat.mul_le_mul_right _ (Nat.div_mul_le_self q 256)
    have h0 : 2^24 ≤ q / 2^8 * 256 * 256^s := Nat.le_trans (by omega) (Nat.mul_le_mul (show 2^16 ≤ q / 2^8 * 256 by omega) hQ)
    generalize q / 2^8 * 256 * 256^s = X at *
    generalize q * 256^s = Y at *
    omega

theorem setCompact_neg_of_coreNegative (c : Nat) (h : coreNegative c = true) : setCompact c < 0 := by
  unfold coreNegative at h
  unfold setCompact
  simp only [decide_eq_true_eq] at h
  obtain ⟨hw, hn⟩ := h
  simp only [hn, ↓reduceIte]
  by_cases hs : c % 2^32 / 2^24 ≤ 3 <;> simp only [hs, ↓reduceIte] at hw ⊢
  · generalize c % 2^32 % 2^23 / 2^(8 * (3 - c % 2^32 / 2^24)) = w at hw ⊢
    omega
  · have : 0 < c % 2^32 % 2^23 * 2^(8 * (c % 2^32 / 2^24 - 3)) := Nat.mul_pos (by omega) (Nat.pow_pos (by decide))
    generalize c % 2^32 % 2^23 * 2^(8 * (c % 2^32 / 2^24 - 3)) = w at this ⊢
    omega

theorem getCompactNat_canonical (t : Nat) (ht : 0 < t) (hlt : t < 2^256) : Canonical (getCompactNat t) := by
  have hb := rawMant_bounds t ht
  have h32 := byteLen_le_32 t ht hlt
  have h1 := (byteLen_bounds t ht).1
  rw [getCompactNat_spec t ht hlt]
  have hm1 : byteLen t = 1 → rawMant t (byteLen t) = t * 2^16 := by intro e; rw [e]; simp [rawMant]; omega
  have hm2 : byteLen t = 2 → rawMant t (byteLen t) = t * 2^8 := by intro e; rw [e]; simp [rawMant]; omega
  generalize rawMant t (byteLen t) = mant at *
  generalize byteLen t = s at *
  unfold Canonical
  split <;> refine ⟨by omega, by omega, by omega, by omega, ?_, ?_⟩ <;> intro e <;> omega

theorem getCompact_pos (t : Int) (h0 : 0 < t) (hlt : t < 2^256) :
    getCompact t = getCompactNat t.toNat ∧ 0 < t.toNat ∧ t.toNat < 2^256 ∧ (t.toNat : Int) = t := by
  have e : (t.toNat : Int) = t := Int.toNat_of_nonneg (by omega)
  exact ⟨by rw [← getCompact_natCast, e], by omega, (Int.toNat_lt (by omega)).mpr hlt, e⟩

end GocoinV.Proofs.C05
