/-
  Proofs.C19Log — the index as `NewDBidx` would rebuild it from the directory (`diskIndex`), as a pure
  function of qdbidx.0 / qdbidx.1 / qdbidx.log, association-list lemmas for replaying log entries, and `NewDBidx`
  in closed form (`openIndex_eq`): what the theorems about opening in the later files start from.
-/
import GocoinV.Proofs.C19Layout
namespace GocoinV.Proofs.C19
open GocoinV GocoinV.Qdb GocoinV.QdbSpec

variable {eg : Bool}

/-! ### association lists with distinct keys -/

def Keys {α : Type} (l : List (Key × α)) : List Key := l.map (·.1)

theorem ilookup_iset {α : Type} (k j : Key) (r : α) (l : List (Key × α)) :
    ilookup k (iset j r l) = if j = k then some r else ilookup k l := by
  rw [ilookup_eq, iset_eq, Assoc.lookup_insert, ilookup_eq]

theorem keys_iset {α : Type} (j : Key) (r : α) (l : List (Key × α)) :
    Keys (iset j r l) = if j ∈ Keys l then Keys l else Keys l ++ [j] := by
  rw [iset_eq]; exact Assoc.keys_insert l j r

theorem nodup_iset {α : Type} (j : Key) (r : α) (l : List (Key × α)) (h : (Keys l).Nodup) :
    (Keys (iset j r l)).Nodup := by
  rw [iset_eq]; exact Assoc.nodup_insert j r h

theorem keys_ierase_sub {α : Type} (j : Key) (l : List (Key × α)) : ∀ x ∈ Keys (ierase j l), x ∈ Keys l :=
  fun _ hx => ((ierase_sublist j l).map _).subset hx

theorem nodup_ierase {α : Type} (j : Key) (l : List (Key × α)) (h : (Keys l).Nodup) : (Keys (ierase j l)).Nodup :=
  h.sublist ((ierase_sublist j l).map _)

theorem ilookup_none_of_not_mem {α : Type} (k : Key) (l : List (Key × α)) (h : k ∉ Keys l) : ilookup k l = none :=
  ilookup_eq k l ▸ (Assoc.lookup_eq_none_iff l k).mpr h

theorem ilookup_ierase {α : Type} (k j : Key) (l : List (Key × α)) (h : (Keys l).Nodup) :
    ilookup k (ierase j l) = if j = k then none else ilookup k l := by
  induction l with
  | nil => simp [ierase, ilookup]
  | cons hd t ih =>
    obtain ⟨x, q⟩ := hd
    simp only [Keys, List.map_cons, List.nodup_cons] at h
    by_cases hx : x = j
    · subst hx
      simp only [ierase, ↓reduceIte, ilookup]
      by_cases hk : x = k
      · subst hk
        simp only [↓reduceIte]
        exact ilookup_none_of_not_mem x t h.1
      · simp [hk]
    · simp only [ierase, hx, ↓reduceIte, ilookup]
      by_cases hk : x = k
      · subst hk
        have hx' : ¬ j = x := fun e => hx e.symm
        simp [hx']
      · simp only [hk, ↓reduceIte]
        exact ih h.2

/-! ### the index that NewDBidx rebuilds, as a function of the three index files -/

def applyEntryL (l : List (Key × Rec)) : LogEntry → List (Key × Rec)
  | .put k r => iset k r l
  | .del k => ierase k l

def applyEntriesL (l : List (Key × Rec)) (es : List LogEntry) : List (Key × Rec) := es.foldl applyEntryL l

def isetAll (l : List (Key × Rec)) (recs : List (Key × Rec)) : List (Key × Rec) :=
  recs.foldl (fun l kr => iset kr.1 kr.2 l) l

def snapVer (fs : FS) : Nat := match pickIdx fs with | none => 0 | some (_, s, _) => s

def snapBase (fs : FS) : List (Key × Rec) :=
  match pickIdx fs with | none => [] | some (_, _, d) => isetAll [] (snapshotRecs d)

def logEntries (fs : FS) : List LogEntry :=
  match fs.log with
  | none => []
  | some f => match logBody f (snapVer fs) with
    | none => []
    | some body => parseLog body.length body

/-- the index `NewDBidx` builds from a directory -/
def diskIndex (fs : FS) : List (Key × Rec) := applyEntriesL (snapBase fs) (logEntries fs)

theorem memdel_more (db : DB) (k : Key) :
    (memdel db k).verSeq = db.verSeq ∧ (memdel db k).fs = db.fs := by
  rw [memdel_eq]
  exact ⟨rfl, rfl⟩

theorem mem_applyEntriesL (es : List LogEntry) (D : List (Key × Rec)) (kr : Key × Rec)
    (h : kr ∈ applyEntriesL D es) : kr ∈ D ∨ LogEntry.put kr.1 kr.2 ∈ es := by
  refine List.foldlRecOn (motive := fun D' => kr ∈ D' → _) es applyEntryL Or.inl (fun D' ih e he h1 => ?_) h
  cases e with
  | put k r =>
    rcases mem_iset k r D' kr h1 with h2 | h2
    · exact Or.inr (h2 ▸ he)
    · exact ih h2
  | del k => exact ih (mem_ierase k D' kr h1)

theorem logSeqs_mem (es : List LogEntry) (k : Key) (r : Rec) (h : LogEntry.put k r ∈ es) : r.seq ∈ logSeqs es := by
  unfold logSeqs
  exact List.mem_filterMap.mpr ⟨.put k r, h, rfl⟩

/-! ### applying index entries in memory, in closed form -/

/-- the index-log entries that rebuild `recs` -/
def puts (recs : List (Key × Rec)) : List LogEntry := recs.map fun kr => .put kr.1 kr.2

/-- `applyLog` sets the index and the three counters, and nothing else; the counters do not look at the ghost field -/
theorem applyLog_eq (es : List LogEntry) (db : DB) : ∃ e n m,
    (∀ eg, applyLog { db with eager := eg } es =
      { db with eager := eg, index := applyEntriesL db.index es, extra := e, need := n, maxSeq := m }) ∧
    db.maxSeq ≤ m ∧ ∀ k r, LogEntry.put k r ∈ es → r.seq ≤ m := by
  induction es generalizing db with
  | nil => exact ⟨db.extra, db.need, db.maxSeq, fun _ => rfl, Nat.le_refl _, fun _ _ h => by cases h⟩
  | cons x t ih =>
    cases x with
    | put k0 r0 =>
      obtain ⟨e, n, m, h, hm, hs⟩ := ih { db with
        index := iset k0 r0 db.index
        extra := freedExtra 24 db.volatile db.extra (prvLen db k0)
        need := if db.volatile then freedNeed 24 db.volatile db.need (prvLen db k0)
                else add64 (freedNeed 24 db.volatile db.need (prvLen db k0)) (u32 (24 + r0.len))
        maxSeq := if r0.seq > db.maxSeq then r0.seq else db.maxSeq }
      refine ⟨e, n, m, fun eg => ?_, ?_, ?_⟩
      · show applyLog (memput { db with eager := eg } k0 r0) t = _
        rw [memput_eq]
        exact h eg
      · dsimp only at hm; split at hm <;> omega
      · intro k r hk
        rcases List.mem_cons.mp hk with hk | hk
        · cases hk; dsimp only at hm; split at hm <;> omega
        · exact hs k r hk
    | del k0 =>
      obtain ⟨e, n, m, h, hm, hs⟩ := ih { db with
        index := ierase k0 db.index
        extra := freedExtra 12 db.volatile db.extra (prvLen db k0)
        need := freedNeed 12 db.volatile db.need (prvLen db k0) }
      refine ⟨e, n, m, fun eg => ?_, hm, ?_⟩
      · show applyLog (memdel { db with eager := eg } k0) t = _
        rw [memdel_eq]
        exact h eg
      · intro k r hk
        rcases List.mem_cons.mp hk with hk | hk
        · cases hk
        · exact hs k r hk

theorem memputAll_puts (recs : List (Key × Rec)) (db : DB) : memputAll db recs = applyLog db (puts recs) := by
  unfold memputAll applyLog puts; rw [List.foldl_map]; rfl

theorem isetAll_puts (recs l : List (Key × Rec)) : isetAll l recs = applyEntriesL l (puts recs) := by
  unfold isetAll applyEntriesL puts; rw [List.foldl_map]; rfl

theorem applyLog_index (es : List LogEntry) (db : DB) :
    (applyLog db es).index = applyEntriesL db.index es := by
  obtain ⟨e, n, m, h, _⟩ := applyLog_eq es db
  rw [show applyLog db es = _ from h db.eager]

theorem memputAll_isetAll (recs : List (Key × Rec)) (db : DB) :
    (memputAll db recs).index = isetAll db.index recs ∧ (memputAll db recs).verSeq = db.verSeq := by
  obtain ⟨e, n, m, h, _⟩ := applyLog_eq (puts recs) db
  rw [memputAll_puts, isetAll_puts, show applyLog db (puts recs) = _ from h db.eager]
  exact ⟨rfl, rfl⟩

/-! ### `NewDBidx` in closed form -/

/-- `loadneweridx` removes the snapshot slot it does not use -/
def slotTrim (F : FS) : List (String × Effect) :=
  match pickIdx F with
  | none => []
  | some (i, _, _) => [("qdb.loadneweridx:removed", .removeIdx (1 - i))]

/-- `loadlog` removes a log it discards -/
def logTrim (F : FS) : List (String × Effect) :=
  match F.log with
  | none => []
  | some f => match logBody f (snapVer F) with
    | none => [("qdb.loadlog:removed", .removeLog)]
    | some _ => []

/-- the slot of the snapshot `NewDBidx` uses -/
def snapSlot (F : FS) : Nat := match pickIdx F with | none => 0 | some (i, _, _) => i

/-- the log is read (not absent, not discarded) -/
def logRead (F : FS) : Bool :=
  match F.log with
  | none => false
  | some f => (logBody f (snapVer F)).isSome

/-- the data files the snapshot refers to -/
def snapSeqs (F : FS) : List Nat :=
  match pickIdx F with | none => [] | some (_, _, d) => (snapshotRecs d).map (·.2.seq)

/-- the directory after `loadneweridx` -/
def slotTrimmed (F : FS) : FS := F.applyAll ((slotTrim F).map (·.2))

theorem slotTrimmed_rest (F : FS) : (slotTrimmed F).log = F.log ∧ (slotTrimmed F).dats = F.dats := by
  unfold slotTrimmed slotTrim
  split
  · exact ⟨rfl, rfl⟩
  · show (if _ then _ else _ : FS).log = _ ∧ (if _ then _ else _ : FS).dats = _
    split <;> exact ⟨rfl, rfl⟩

theorem logTrimmed_dats (F : FS) : ((slotTrimmed F).applyAll ((logTrim F).map (·.2))).dats = F.dats := by
  rw [← (slotTrimmed_rest F).2]
  unfold logTrim
  repeat' split
  all_goals rfl

theorem loaddat_eq (F : FS) (vol : Bool) (opts : Opts) : ∃ e n m,
    (∀ eg, loaddat { fs := F, volatile := vol, opts := opts, eager := eg } =
      ({ fs := slotTrimmed F, effs := slotTrim F, index := snapBase F, datIdx := snapSlot F,
         verSeq := snapVer F, maxSeq := m, need := n, extra := e, volatile := vol, opts := opts, eager := eg },
       snapSeqs F)) ∧ ∀ kr ∈ snapBase F, kr.2.seq ≤ m := by
  unfold loaddat snapBase snapSlot snapVer slotTrimmed slotTrim snapSeqs
  cases hp : pickIdx F with
  | none => exact ⟨0, 0, 0, fun eg => by simp only [hp]; rfl, fun _ h => by cases h⟩
  | some t =>
    obtain ⟨i, sv, d⟩ := t
    obtain ⟨e, n, m, h, _, hs⟩ := applyLog_eq (puts (snapshotRecs d))
      { fs := F.apply (.removeIdx (1 - i)), effs := [("qdb.loadneweridx:removed", Effect.removeIdx (1 - i))],
        datIdx := i, verSeq := sv, volatile := vol, opts := opts }
    refine ⟨e, n, m, fun eg => ?_, ?_⟩
    · simp only [hp]
      rw [memputAll_puts, isetAll_puts]
      exact congrArg (·, _) (h eg)
    · intro kr hkr
      dsimp only at hkr
      rw [isetAll_puts] at hkr
      rcases mem_applyEntriesL _ _ kr hkr with h1 | h1
      · cases h1
      · exact hs _ _ h1

/-- `NewDBidx` on directory `F`: the state handed to `cleanupold`. The index is the disk index, the directory has
    lost the unused snapshot and a discarded log, and the ghost field is only carried along. -/
theorem openIndex_eq (F : FS) (vol : Bool) (opts : Opts) : ∃ e n m,
    (∀ eg, openIndex { fs := F, volatile := vol, opts := opts, eager := eg } =
      cleanupold { fs := (slotTrimmed F).applyAll ((logTrim F).map (·.2)), effs := slotTrim F ++ logTrim F,
                   index := diskIndex F, logOpen := logRead F, datIdx := snapSlot F, verSeq := snapVer F,
                   maxSeq := m, need := n, extra := e, volatile := vol, opts := opts, eager := eg }
        (snapSeqs F ++ logSeqs (logEntries F))) ∧
    ∀ kr ∈ diskIndex F, kr.2.seq ≤ m := by
  obtain ⟨e0, n0, m0, hA, hA2⟩ := loaddat_eq F vol opts
  unfold openIndex
  simp only [hA]
  unfold loadlog diskIndex logTrim logEntries logRead
  dsimp only
  rw [(slotTrimmed_rest F).1]
  cases F.log with
  | none =>
    refine ⟨e0, n0, m0, fun eg => ?_, hA2⟩
    simp only [List.append_nil, logSeqs, List.filterMap_nil]
    rfl
  | some f =>
    dsimp only
    cases logBody f (snapVer F) with
    | none =>
      refine ⟨e0, n0, m0, fun eg => ?_, hA2⟩
      simp only [List.append_nil, logSeqs, List.filterMap_nil]
      rfl
    | some body =>
      obtain ⟨e, n, m, h, hm, hs⟩ := applyLog_eq (parseLog body.length body)
        { fs := slotTrimmed F, effs := slotTrim F, index := snapBase F, datIdx := snapSlot F,
          verSeq := snapVer F, maxSeq := m0, need := n0, extra := e0, volatile := vol, opts := opts }
      refine ⟨e, n, m, fun eg => ?_, fun kr hkr => ?_⟩
      · simp only [List.append_nil]
        have h' := h eg
        dsimp only at h'
        rw [h']
        rfl
      · rcases mem_applyEntriesL _ _ kr hkr with h5 | h5
        · exact Nat.le_trans (hA2 kr h5) hm
        · exact hs _ _ h5

theorem snapBase_used (F : FS) : ∀ kr ∈ snapBase F, kr.2.seq ∈ snapSeqs F := by
  intro kr h
  unfold snapBase at h
  unfold snapSeqs
  cases hp : pickIdx F with
  | none => rw [hp] at h; cases h
  | some t =>
    rw [hp] at h
    dsimp only at h ⊢
    rw [isetAll_puts] at h
    rcases mem_applyEntriesL _ _ kr h with h1 | h1
    · cases h1
    · obtain ⟨x, hx, he⟩ := List.mem_map.mp h1
      refine List.mem_map.mpr ⟨x, hx, ?_⟩
      exact congrArg Rec.seq (LogEntry.put.inj he).2

theorem diskIndex_used (F : FS) : ∀ kr ∈ diskIndex F, kr.2.seq ∈ snapSeqs F ++ logSeqs (logEntries F) :=
  fun kr hkr => List.mem_append.mpr ((mem_applyEntriesL _ _ kr hkr).imp (snapBase_used F kr) (logSeqs_mem _ _ _))

theorem openIndex_index (F : FS) (vol : Bool) (opts : Opts) :
    (openIndex { fs := F, volatile := vol, opts := opts, eager := eg }).index = diskIndex F := by
  obtain ⟨e, n, m, h, _⟩ := openIndex_eq F vol opts
  rw [h eg, (frame_cleanupold _ _).index]

/-! ### the log as a list of entries -/

/-- qdbidx.log is absent (no entries) or holds the header `v` followed by the entries `E` -/
def LogState (fs : FS) (v : Nat) (E : List LogEntry) : Prop :=
  (fs.log = none ∧ E = []) ∨ fs.log = some (le32 v ++ encLog E)

theorem logBody_ok (v : Nat) (hv : v < 2^32) (X : Bytes) : logBody (le32 v ++ X) v = some X := by
  unfold logBody
  have h2 : (le32 v ++ X).take 4 = le32 v := List.take_left' (by simp)
  have h3 : (le32 v ++ X).drop 4 = X := List.drop_left' (by simp)
  simp [h2, h3, leVal_le32 v hv]

theorem logEntries_of_state (fs : FS) (v : Nat) (E : List LogEntry) (hs : LogState fs v E) (hver : snapVer fs = v)
    (hv : v < 2^32) (hE : ∀ e ∈ E, EntryFits e) : logEntries fs = E.map stripE := by
  unfold logEntries
  rcases hs with ⟨h1, h2⟩ | h1
  · simp [h1, h2]
  · rw [h1, hver]
    simp only [logBody_ok v hv]
    exact parseLog_encLog E hE _ (encLog_length_ge E)

theorem encLog_append (a b : List LogEntry) : encLog (a ++ b) = encLog a ++ encLog b := by
  simp [encLog]

theorem applyEntriesL_append (l : List (Key × Rec)) (a b : List LogEntry) :
    applyEntriesL l (a ++ b) = applyEntriesL (applyEntriesL l a) b := by
  simp [applyEntriesL]

/-- appending entries to the log (or creating it with them) replays them on top of the old disk index -/
theorem diskIndex_log_append (fs fs' : FS) (v : Nat) (E E2 : List LogEntry)
    (hs : LogState fs v E) (hver : snapVer fs = v) (hv : v < 2^32)
    (hE : ∀ e ∈ E, EntryFits e) (hE2 : ∀ e ∈ E2, EntryFits e)
    (h0 : fs'.idx0 = fs.idx0) (h1 : fs'.idx1 = fs.idx1) (hl : fs'.log = some (le32 v ++ encLog (E ++ E2))) :
    diskIndex fs' = applyEntriesL (diskIndex fs) (E2.map stripE) ∧ snapVer fs' = v := by
  have hp : pickIdx fs' = pickIdx fs := by unfold pickIdx; rw [h0, h1]
  have hver' : snapVer fs' = v := by unfold snapVer at hver ⊢; rw [hp]; exact hver
  have hb : snapBase fs' = snapBase fs := by unfold snapBase; rw [hp]
  have hle' := logEntries_of_state fs' v (E ++ E2) (Or.inr hl) hver' hv (List.forall_mem_append.mpr ⟨hE, hE2⟩)
  have hle := logEntries_of_state fs v E hs hver hv hE
  unfold diskIndex
  rw [hle', hle, hb, List.map_append, applyEntriesL_append]
  exact ⟨rfl, hver'⟩

end GocoinV.Proofs.C19
