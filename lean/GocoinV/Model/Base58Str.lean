/-
  Model.Base58Str — HOW `Decodeb58` READS THE TYPED STRING (lib/btc/addr.go).

  `Model.Base58` treats a Go string as the list of its bytes. The digit loop of `Decodeb58` is written
  `for i := range s { v := b58chr2int(byte(s[i])) … }`: `range` over a STRING does not visit every byte, it decodes
  UTF-8 and visits the first byte of every code point (an invalid byte counts as the code point U+FFFD of width 1).
  This file models that statement as it is written, in the variants a rewrite can produce, selected by two facts
  regenerated from the source on every run (Gen/C15Str.lean, go/cmd/gen_c15/strloop.go):

    b58DecodeRangesString : the digit loop is a `range` over the string (or over `[]rune(s)`): positions = code points
    b58DecodeLookup       : what is looked up in the alphabet at such a position —
                            0 the byte `s[i]`, 1 the code point narrowed to 8 bits (`byte(c)`), 2 the code point itself
                            (every use a comparison / index / switch at full width), 3 the code point used in a way
                            the extractor does not classify (handed to a callee, converted, stored) — modelled like 1,
                            the worst case

  Proofs/C15StrB58.lean proves that for lookup 0 and 2 the loop computes `Base58.value?` (the bytewise model all other
  theorems are about) and that for lookup 1 (and 3, which is modelled the same) it does not. `decodeRune` is tied to Go's `range` by the harness
  (oracle op `runes`).
-/
import GocoinV.Model.Base58
import GocoinV.Gen.C15Str
namespace GocoinV.Base58Str
open GocoinV.Base58

/-- UTF-8 continuation byte -/
def cont (b : Nat) : Bool := decide (0x80 ≤ b) && decide (b ≤ 0xBF)

/-- `utf8.DecodeRuneInString` as the `range` statement uses it: (code point, width) for the bytes at the current
    position; anything that is not a shortest-form encoding of a scalar value is (U+FFFD, 1). -/
def decodeRune : Bytes → Nat × Nat
  | [] => (0xFFFD, 1)
  | c0 :: t =>
    let b0 := c0.toNat
    if b0 < 0x80 then (b0, 1)
    else if 0xC2 ≤ b0 ∧ b0 ≤ 0xDF then
      match t with
      | c1 :: _ => if cont c1.toNat then ((b0 % 32) * 64 + c1.toNat % 64, 2) else (0xFFFD, 1)
      | _ => (0xFFFD, 1)
    else if 0xE0 ≤ b0 ∧ b0 ≤ 0xEF then
      match t with
      | c1 :: c2 :: _ =>
        let lo := if b0 = 0xE0 then 0xA0 else 0x80
        let hi := if b0 = 0xED then 0x9F else 0xBF
        if lo ≤ c1.toNat ∧ c1.toNat ≤ hi ∧ cont c2.toNat then
          ((b0 % 16) * 4096 + (c1.toNat % 64) * 64 + c2.toNat % 64, 3)
        else (0xFFFD, 1)
      | _ => (0xFFFD, 1)
    else if 0xF0 ≤ b0 ∧ b0 ≤ 0xF4 then
      match t with
      | c1 :: c2 :: c3 :: _ =>
        let lo := if b0 = 0xF0 then 0x90 else 0x80
        let hi := if b0 = 0xF4 then 0x8F else 0xBF
        if lo ≤ c1.toNat ∧ c1.toNat ≤ hi ∧ cont c2.toNat ∧ cont c3.toNat then
          ((b0 % 8) * 262144 + (c1.toNat % 64) * 4096 + (c2.toNat % 64) * 64 + c3.toNat % 64, 4)
        else (0xFFFD, 1)
      | _ => (0xFFFD, 1)
    else (0xFFFD, 1)

/-- the (position, code point) pairs `for i, c := range s` yields; `skip` = bytes of the current code point left -/
def runesFrom : Bytes → Nat → Nat → List (Nat × Nat)
  | [], _, _ => []
  | _ :: t, skip + 1, pos => runesFrom t skip (pos + 1)
  | c :: t, 0, pos =>
    let rw := decodeRune (c :: t)
    (pos, rw.1) :: runesFrom t (rw.2 - 1) (pos + 1)

def runes (s : Bytes) : List (Nat × Nat) := runesFrom s 0 0

/-- the alphabet lookup at a position where the byte is `c` and the code point is `r` -/
def lookupOf (lookup : Nat) (c : UInt8) (r : Nat) : Option Nat :=
  if lookup = 0 then chr2int c
  else if lookup = 2 then (if r < 256 then chr2int (UInt8.ofNat r) else none)
  else chr2int (UInt8.ofNat (r % 256))

/-- the digit loop over the code points of the string -/
def valueR (lookup : Nat) : Bytes → Nat → Nat → Option Nat
  | [], _, acc => some acc
  | _ :: t, skip + 1, acc => valueR lookup t skip acc
  | c :: t, 0, acc =>
    let rw := decodeRune (c :: t)
    match lookupOf lookup c rw.1 with
    | none => none
    | some v => valueR lookup t (rw.2 - 1) (acc * 58 + v)

/-- the digit loop as written -/
def valueGo (ranges : Bool) (lookup : Nat) (s : Bytes) : Option Nat :=
  if ranges then valueR lookup s 0 0 else value? s 0

/-- `Decodeb58` with the digit loop as written; the second loop (leading '1's) indexes bytes in every variant -/
def decodeGo (ranges : Bool) (lookup : Nat) (s : Bytes) : Option Bytes :=
  match valueGo ranges lookup s with
  | none => none
  | some bn =>
    let i := (s.takeWhile (· == digitChar 0)).length
    let res := List.replicate i (0 : UInt8) ++ natBytes bn
    if res.isEmpty then none else some res

/-- `Decodeb58` as the source under test has it -/
def decodeSrc (s : Bytes) : Option Bytes :=
  decodeGo Gen.C15Str.b58DecodeRangesString Gen.C15Str.b58DecodeLookup s

end GocoinV.Base58Str
