/-
  Model.BalancesLoad — the byte-level path of wallet.LoadBalancesFromUtxo (client/wallet/onoff.go):
    * `utxo.NewUtxoRecStatic` (lib/utxo/unspent_rec.go): the decoder that REUSES one static record and two
      static arrays for every record of the scan: `rec_outs []*UtxoTxOut` (the slots handed out as `rec.Outs`),
      `rec_pool []UtxoTxOut` (the objects the slots point to) and `rec_idx` (next free pool object).
      `OutsList(cnt)` re-allocates both arrays when they are too short, resets `rec_idx` and nils the first
      `cnt` slots; `OneOut()` returns `&rec_pool[rec_idx]; rec_idx++`.  The static state is explicit here
      (`Static`) and is threaded through the whole load and from one load to the next (package-level variables).
      What the caller sees as `rec.Outs` is `Static.view`: the first `cnt` slots, each nil or the CURRENT content
      of the pool object it points to — so a slot that kept a pointer from an earlier record would show up as a
      phantom output (aliasing included).
    * both record formats: `NewUtxoRecOwnU` / `NewUtxoRecOwnC` with `cbs != nil`. The per-output parsing is
      C10's (imported, not copied): `vule`, `vlen`, `decScrC`, `AmountCompress.decompress`.
    * the scan loop with `FetchingBalanceTick` (abort path): `tick n` is the callback's answer after the n-th
      record; on abort `InitMaps(true)` empties the maps, the callbacks are not installed and WalletON stays false.
  All panics of the Go code (index out of range on slots / pool / record bytes) are the single outcome `panic`
  (`none` at load level): the order in which two panicking statements of one loop pass are written is not observable.
  Core-only.
-/
import GocoinV.Model.Balances
import GocoinV.Model.UtxoRec
namespace GocoinV.Model.BalancesLoad
open GocoinV GocoinV.CompactSize GocoinV.Model.Balances
open GocoinV.UtxoRec (Res decHeader decScrC maxOuts)

abbrev UOut := GocoinV.UtxoRec.Out
abbrev URec := GocoinV.UtxoRec.Rec

/-- one parsed output entry of a record body: (slot index, output, rest of the buffer); `none` = panic while parsing -/
abbrev Parser := Bytes → Option (Nat × UOut × Bytes)

/-- one pass of `NewUtxoRecOwnU`'s loop up to the stores -/
def entU : Parser := fun rest =>
  let a := vule rest
  let r1 := rest.drop a.2
  let b := vule r1
  let r2 := r1.drop b.2
  let c := vlen r2
  let r3 := r2.drop c.2
  if c.1 < 0 ∨ shorter r3 c.1.toNat then none
  else some (a.1, ⟨b.1, r3.take c.1.toNat⟩, r3.drop c.1.toNat)

/-- one pass of `NewUtxoRecOwnC`'s loop up to the stores -/
def entC (K : ScriptCompress.KeyOps) : Parser := fun rest =>
  let a := vule rest
  let r1 := rest.drop a.2
  let b := vule r1
  let r2 := r1.drop b.2
  match decScrC K r2 with
  | none => none
  | some (pk, nxt) => some (a.1, ⟨AmountCompress.decompress b.1, pk⟩, nxt)

/-- the decoding loop with `cbs == nil` (fresh `make([]*UtxoTxOut, n)`, `new(UtxoTxOut)`) over a parser -/
def genPure (P : Parser) : Nat → Bytes → List (Option UOut) → Res (List (Option UOut))
  | 0, rest, acc => if rest.isEmpty then .ok acc else .hang
  | f + 1, rest, acc =>
    if rest.isEmpty then .ok acc
    else match P rest with
      | none => .panic
      | some (i, o, nxt) =>
        if shorter acc (i + 1) then .panic else genPure P f nxt (acc.set i (some o))

/-- `NewUtxoRecOwn(dat, &rec, nil)` over a parser (= C10's `newRecU` / `newRecC`: `genRec_entU`, `genRec_entC` in Proofs/C10Rec) -/
def genRec (P : Parser) (dat : Bytes) : Res URec :=
  match decHeader dat with
  | none => .panic
  | some (txid, h, c, rest) =>
    if c / 2 > maxOuts then .panic
    else match genPure P rest.length rest (List.replicate (c / 2) none) with
      | .ok outs => .ok ⟨txid, h % 2 ^ 32, c % 2 == 1, outs⟩
      | .panic => .panic
      | .hang => .hang

/-! ### the static buffers -/

/-- `rec_outs` (nil or index of the pool object pointed to), `rec_pool`, `rec_idx`, `len(sta_rec.Outs)` -/
structure Static where
  slots : List (Option Nat)
  pool : List UOut
  idx : Nat
  cnt : Nat
deriving Repr

/-- package initialisation: `make(…, MAX_OUTS_SEEN)` -/
def Static.init (n : Nat) : Static := ⟨List.replicate n none, List.replicate n ⟨0, []⟩, 0, 0⟩

/-- `sta_cbs.OutsList(cnt)` -/
def outsList (st : Static) (cnt : Nat) : Static :=
  if st.slots.length < cnt then
    ⟨List.replicate cnt none, List.replicate cnt ⟨0, []⟩, 0, cnt⟩
  else
    ⟨List.replicate cnt none ++ st.slots.drop cnt, st.pool, 0, cnt⟩

/-- `rec.Outs[i] = cbs.OneOut(); rec.Outs[i].Value = …; rec.Outs[i].PKScr = …` (bounds checked by the caller) -/
def Static.put (st : Static) (i : Nat) (o : UOut) : Static :=
  { st with slots := st.slots.set i (some st.idx), pool := st.pool.set st.idx o, idx := st.idx + 1 }

/-- what `sta_rec.Outs` looks like to the caller -/
def Static.view (st : Static) : List (Option UOut) :=
  (st.slots.take st.cnt).map (fun p => p.bind (fun j => st.pool[j]?))

/-- the decoding loop with `cbs = &sta_cbs` -/
def genStatic (P : Parser) : Nat → Bytes → Static → Res Static
  | 0, rest, st => if rest.isEmpty then .ok st else .hang
  | f + 1, rest, st =>
    if rest.isEmpty then .ok st
    else match P rest with
      | none => .panic
      | some (i, o, nxt) =>
        if st.cnt < i + 1 then .panic                 -- rec.Outs[idx], len(rec.Outs) = cnt
        else if st.pool.length ≤ st.idx then .panic   -- &rec_pool[rec_idx]
        else genStatic P f nxt (st.put i o)

/-- `NewUtxoRecStatic(dat)`: the record as the caller sees it, and the static buffers afterwards -/
def staticDec (P : Parser) (dat : Bytes) (st : Static) : Res (URec × Static) :=
  match decHeader dat with
  | none => .panic
  | some (txid, h, c, rest) =>
    if c / 2 > maxOuts then .panic
    else match genStatic P rest.length rest (outsList st (c / 2)) with
      | .ok st' => .ok (⟨txid, h % 2 ^ 32, c % 2 == 1, st'.view⟩, st')
      | .panic => .panic
      | .hang => .hang

/-! ### LoadBalancesFromUtxo over the stored bytes -/

def toBalOut (o : UOut) : Out := ⟨o.value, o.pk⟩

/-- the record as `wallet.NewUTXO` reads it -/
def toBal (r : URec) : Rec := ⟨r.txid, r.inBlock, r.coinbase, r.outs.map (Option.map toBalOut)⟩

/-- the scan: `TxNotifyAdd(utxo.NewUtxoRecStatic(*v))`, then `FetchingBalanceTick()`; the 256 nested map loops are
    one list (the `aborted` flag leaves both). Result: maps, static buffers, aborted?  `none` = panic / hang. -/
def loadLoop (P : Parser) (cfg : Cfg) (H : Bytes → Nat) (tick : Nat → Bool) :
    List Bytes → Nat → Static → BalMap → Option (BalMap × Static × Bool)
  | [], _, st, bal => some (bal, st, false)
  | b :: rest, n, st, bal =>
    match staticDec P b st with
    | .ok (r, st') =>
      let bal' := newUTXO cfg H bal (toBal r)
      if tick (n + 1) then some (bal', st', true) else loadLoop P cfg H tick rest (n + 1) st' bal'
    | _ => none

/-- `wallet.LoadBalancesFromUtxo()` with the raw records of `Unspent.HashMap` in scan order -/
def loadFromUtxo (P : Parser) (H : Bytes → Nat) (tick : Nat → Bool) (s : State) (st : Static) (raw : List Bytes)
    (mn um : Nat) : Option (State × Static) :=
  if s.on then some (s, st)
  else
    let cfg : Cfg := { min := mn, useMapCnt := um }
    match loadLoop P cfg H tick raw 0 st [] with        -- InitMaps(false): empty maps
    | none => none
    | some (bal, st', aborted) =>
      if aborted then some ({ s with cfg := cfg, bal := [], on := false }, st')   -- InitMaps(true)
      else some ({ s with cfg := cfg, bal := bal, on := true }, st')

end GocoinV.Model.BalancesLoad
