/-
  Model.Bech32Str — HOW `bech32.Encode` READS ITS HUMAN-READABLE PART (lib/others/bech32/bech32.go).

  `Model.Bech32.encode` treats the Go string `hrp` as the list of its bytes. Both hrp loops of `Encode` are written as a
  `range` over the STRING (`for i = range hrp { ch := int(hrp[i]) … i++ }` and `for i := range hrp { tmp := hrp[i] … }`):
  they visit the first byte of every UTF-8 code point only (an invalid byte being a code point of width 1), and the
  length test after the first loop uses the loop variable (`i+7+len(data) > 90`, where `i` is the last visited position
  + 1 because of the `i++` in the body, or 0), not `len(hrp)`. This file models the two loops as they are written
  (UTF-8 decoder `Base58Str.decodeRune`, tied to Go's `range` by oracle op `runes`); `Props.C15.bech32_encode_as_written_is_bytewise`
  (loop lemmas: Proofs/C15StrBech32.lean) proves `encodeSrc = Bech32.encode` for every byte string: the first loop refuses a position whose byte is > 126, and a
  skipped byte always follows such a byte. The oracle runs `encodeSrc` next to `encode` (op `b32src`).
-/
import GocoinV.Model.Bech32
import GocoinV.Model.Base58Str
namespace GocoinV.Bech32Str
open GocoinV.Bech32 GocoinV.Base58Str

/-- first loop of `Encode` as written; state: checksum and the Go variable `i`; `skip` = bytes of the current code
    point still to pass over, `pos` = index of the head byte -/
def hrpHighR : Bytes → Nat → Nat → UInt32 → Nat → Option (UInt32 × Nat)
  | [], _, _, chk, i => some (chk, i)
  | _ :: t, skip + 1, pos, chk, i => hrpHighR t skip (pos + 1) chk i
  | ch :: t, 0, pos, chk, _ =>
    if ch.toNat < 33 ∨ ch.toNat > 126 then none
    else if isUpper ch then none
    else hrpHighR t ((decodeRune (ch :: t)).2 - 1) (pos + 1) (polymodStep chk ^^^ (ch.toUInt32 >>> 5)) (pos + 1)

/-- second hrp loop of `Encode` as written: checksum and the bytes written to the output buffer -/
def hrpLowR : Bytes → Nat → UInt32 → Bytes → UInt32 × Bytes
  | [], _, chk, out => (chk, out)
  | _ :: t, skip + 1, chk, out => hrpLowR t skip chk out
  | ch :: t, 0, chk, out =>
    hrpLowR t ((decodeRune (ch :: t)).2 - 1) (polymodStep chk ^^^ (ch &&& 0x1f).toUInt32) (out ++ [ch])

/-- `bech32.Encode` with its two hrp loops as written -/
def encodeSrc (hrp data : Bytes) (bech32m : Bool) : Option Bytes :=
  if hrp.length < 1 then none
  else match hrpHighR hrp 0 0 1 0 with
    | none => none
    | some (chk, i) =>
      if i + 7 + data.length > 90 then none
      else
        let lo := hrpLowR hrp 0 (polymodStep chk) []
        match dataFold? data lo.1 with
        | none => none
        | some c =>
          some (lo.2 ++ [49] ++ data.map charsetAt ++ (checksumSyms (six c ^^^ finalConstant bech32m)).map charsetAt)

end GocoinV.Bech32Str
