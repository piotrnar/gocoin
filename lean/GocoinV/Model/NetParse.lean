/-
  Model.NetParse — the PARSING LAYER of the message handlers of client/network (property C18).

  What is modelled, handler by handler, statement by statement: every length guard, every
  CompactSize read, every index / slice expression on the payload, Go `int` (64-bit two's
  complement, `wrap`) and `uint64` arithmetic, which locks are held at every exit (a lock taken
  with `defer Unlock` is released on a panic, one taken without is not), and a step counter for
  every loop (one step per iteration; loops run on explicit fuel and running out of fuel is
  reported as a panic "fuel", so "never panics" includes "the loop variant suffices").
  What is NOT modelled: everything behind the parser (peer database, block index, header
  acceptance, mempool matching, routing, the send buffer).  Where a handler needs a fact from
  there to continue parsing it is a parameter (`Env`).

  Each handler exists in the form of the CURRENT source; for the seven defects repaired by
  `fix:` commits the pre-fix guard is kept as a `fixed := false` variant, used only by the
  counterexample theorems of Props/C18.  The guards relied upon are restated in `expectedFacts`
  and compared with the facts the translator extracts from the source (Gen/NetFacts.lean).
  Core Lean only.
-/
import GocoinV.Base.Bytes
namespace GocoinV.NetParse
open GocoinV CompactSize

/-! ### Go integers, slices -/

/-- reinterpretation of an integer as Go `int` (64-bit two's complement) -/
def wrap (x : Int) : Int :=
  let m := x % 18446744073709551616
  if m < 9223372036854775808 then m else m - 18446744073709551616

/-- the slice expression `pl[a:b]` is legal -/
def sliceOk (len a b : Int) : Bool := decide (0 ≤ a ∧ a ≤ b ∧ b ≤ len)

/-- the index expression `s[i]` is legal -/
def indexOk (len i : Int) : Bool := decide (0 ≤ i ∧ i < len)

/-- bytes of a legal slice -/
def sub (pl : Bytes) (a b : Int) : Bytes := (pl.drop a.toNat).take (b - a).toNat

inductive Lock | conn | rcv | tx | blockIndex | compact
  deriving DecidableEq, Repr

inductive Out
  | ok (tag : String) (nums : List Nat) (blobs : List Bytes)
  | reject (reason : String)
  | panic (site : String)
  deriving Repr

def Out.isPanic : Out → Bool
  | .panic _ => true
  | _ => false

/-- tag, numbers and blobs of an accepted message (`none`: refused or panicked) - lets theorems name an outcome -/
def Out.accepted : Out → Option (String × List Nat × List Bytes)
  | .ok t ns bs => some (t, ns, bs)
  | _ => none

def Out.rejected : Out → Option String
  | .reject r => some r
  | _ => none

def Out.panicSite : Out → Option String
  | .panic s => some s
  | _ => none

structure Res where
  out : Out
  locks : List Lock   -- locks still held when the handler has returned / unwound
  steps : Nat
  deriving Repr

/-- `btc.ReadVLen` on a reader whose unread bytes are `b`: value and the new unread bytes;
    `none` = error (EOF / unexpected EOF). -/
def readVLen (b : Bytes) : Option (Nat × Bytes) :=
  match b with
  | [] => none
  | h :: t =>
    if h.toNat < 0xfd then some (h.toNat, t)
    else
      let c := if h = 0xfd then 2 else if h = 0xfe then 4 else 8
      if t.length < c then none else some (leVal (t.take c), t.drop c)

/-- `Reader.Read(buf[:k])`: the bytes obtained (maybe fewer than k) and the rest -/
def readUpTo (k : Nat) (b : Bytes) : Bytes × Bytes := (b.take k, b.drop k)

/-! ### version (ver.go HandleVersion) -/

def u32 (b : Bytes) : Nat := leVal (b.take 4)
def u64 (b : Bytes) : Nat := leVal (b.take 8)

def SERVICE_SEGWIT : Nat := 8
def SERVICE_NETWORK : Nat := 1
def SERVICE_NETWORK_LIMITED : Nat := 1024
def MIN_PROTO_VERSION : Nat := 209

/-- the checks HandleVersion makes on the parsed fields of a non-special peer (before the
    nonce is compared with ours and with the other connections' — that needs the connection list) -/
def versionChecks (ver services : Nat) (nonce : Bytes) : Option String :=
  if ver < MIN_PROTO_VERSION then some "TooLow"
  else if services &&& SERVICE_SEGWIT = 0 then some "NoSegwit"
  else if services &&& (SERVICE_NETWORK ||| SERVICE_NETWORK_LIMITED) = 0 then some "NoService"
  else if nonce.all (· = 0) then some "NullNonce"
  else none

def handleVersionG (fixed : Bool) (pl : Bytes) : Res :=
  let n : Int := pl.length
  if n < 80 then ⟨.reject "MsgTooShort", [], 1⟩ else
  -- c.Mutex.Lock()
  let ver := u32 pl
  let services := u64 (pl.drop 4)
  let ts := u64 (pl.drop 12)
  let ip := beVal ((pl.drop 40).take 4)
  let nonce := (pl.drop 72).take 8
  let fin (agent : Bytes) (height hasH dnr : Nat) : Res :=
    -- c.Mutex.Unlock()
    match versionChecks ver services nonce with
    | some r => ⟨.reject r, [], 1⟩
    | none => ⟨.ok "version" [ver, services, ts, ip, height, hasH, dnr] [nonce, agent], [], 1⟩
  if n ≥ 82 then
    let (le, ofs) := vlen (pl.drop 80)
    let bad : Bool :=
      if fixed then (ofs == 0 || decide (le < 0) || decide (le > n - 80 - ofs))
      else (ofs == 0 || decide (n < wrap (80 + le)))
    if bad then ⟨.reject "MsgCorrupt", [], 1⟩ else     -- Unlock before return
    let of1 : Int := wrap (ofs + 80)
    let e1 := wrap (of1 + le)
    if !sliceOk n of1 e1 then ⟨.panic "HandleVersion:pl[of:of+le]", [.conn], 1⟩ else
    let agent := sub pl of1 e1
    let of2 := e1
    if n ≥ wrap (of2 + 4) then
      if !sliceOk n of2 (wrap (of2 + 4)) then ⟨.panic "HandleVersion:pl[of:of+4]", [.conn], 1⟩ else
      let height := u32 (sub pl of2 (of2 + 4))
      let of3 := wrap (of2 + 4)
      if n > of3 then
        if !indexOk n of3 then ⟨.panic "HandleVersion:pl[of]", [.conn], 1⟩ else
        fin agent height 1 (if (pl.drop of3.toNat).head? = some 0 then 1 else 0)
      else fin agent height 1 0
    else fin agent 0 0 0
  else fin [] 0 0 0

def handleVersion := handleVersionG true

/-! ### inv (invs.go ProcessInv) -/

/-- the loop `for i := 0; i < cnt; i++`: `k` iterations left, `of` current offset, `rest` = `pl[of:]`
    (carried along so that the executable model is linear in the payload) -/
def invLoop (n : Int) : Nat → Int → Bytes → List Bytes → Nat → Res
  | 0, _, _, acc, st => ⟨.ok "inv" [acc.length] acc.reverse, [], st⟩
  | k+1, of, rest, acc, st =>
    if !sliceOk n of (wrap (of + 4)) then ⟨.panic "ProcessInv:pl[of:of+4]", [], st⟩ else
    -- c.Mutex.Lock(); c.InvStore(typ, pl[of+4:of+36])
    if !sliceOk n (wrap (of + 4)) (wrap (of + 36)) then ⟨.panic "ProcessInv:pl[of+4:of+36]", [.conn], st⟩ else
    invLoop n k (wrap (of + 36)) (rest.drop 36) (rest.take 36 :: acc) (st + 1)

def processInvG (fixed : Bool) (pl : Bytes) : Res :=
  let n : Int := pl.length
  if n < 37 then ⟨.reject "InvEmpty", [], 1⟩ else
  let (cnt, ofs) := vlen pl
  let bad : Bool :=
    if fixed then (ofs == 0 || decide (cnt < 0) || decide (cnt > 50000) || decide (n ≠ wrap (ofs + wrap (36 * cnt))))
    else (ofs == 0 || decide (n ≠ wrap (ofs + wrap (36 * cnt))))
  if bad then ⟨.reject "InvErr", [], 1⟩ else
  invLoop n cnt.toNat ofs (pl.drop ofs) [] 1

def processInv := processInvG true

/-! ### getdata (data.go ProcessGetData + processGetData, send buffer not paused) -/

def getDataLoop : Nat → Bytes → List Bytes → Nat → Res
  | 0, _, _, st => ⟨.panic "fuel", [], st⟩
  | f+1, b, acc, st =>
    if b.length = 0 then ⟨.ok "getdata" [acc.length] acc.reverse, [], st⟩
    else
      let (h, r) := readUpTo 36 b
      getDataLoop f r (h :: acc) (st + 1)

/-- `pending`: `some p` = c.unfinished_getdata is not nil and holds p bytes (an earlier getdata was
    postponed because the send buffer was full): the new request is appended to it, or refused when
    the two together exceed 36·50000 bytes (data.go:33-42); `none` = the loop runs now. -/
def processGetData (pending : Option Nat) (pl : Bytes) : Res :=
  match readVLen pl with
  | none => ⟨.ok "getdata-noop" [] [], [], 1⟩
  | some (cnt, b) =>
    if (b.length : Int) ≠ wrap (wrap (cnt : Int) * 36) then ⟨.reject "GetDataLenERR", [], 1⟩
    else match pending with
      | some p =>
        if p + b.length > 36 * 50000 then ⟨.reject "GetDataTooBigA", [], 1⟩
        else ⟨.ok "getdata-appended" [p + b.length] [], [], 1⟩
      | none => getDataLoop (b.length + 1) b [] 1

/-! ### addr (addr.go ParseAddr) — record extraction only -/

def addrLoop : Nat → Bytes → List Bytes → Nat → Res
  | 0, _, acc, st => ⟨.ok "addr" [acc.length] acc.reverse, [], st⟩
  | k+1, b, acc, st =>
    let (rec, r) := readUpTo 30 b
    if rec.length ≠ 30 then ⟨.reject "AddrError", [], st⟩
    else addrLoop k r (rec :: acc) (st + 1)

def parseAddr (pl : Bytes) : Res :=
  let (cnt, b) := match readVLen pl with
    | none => (0, [])
    | some x => x
  let icnt := wrap (cnt : Int)
  -- `for i := 0; i < int(cnt); i++` with the count as announced (a negative int(cnt) runs no iteration);
  -- that the loop leaves at the first short read, whatever the count says, is PROVED
  -- (Proofs.C18 addrLoop_good: steps ≤ len/30 + 1), not built into the definition
  addrLoop icnt.toNat b [] 1

/-! ### getblocks / getheaders (data.go parseLocatorsPayload) -/

def MAX_LOCATOR_SZ : Nat := 101

def locLoop : Nat → Bytes → List Bytes → Option (List Bytes × Bytes)
  | 0, b, acc => some (acc.reverse, b)
  | k+1, b, acc =>
    let (h, r) := readUpTo 32 b
    if h.length = 0 then none else locLoop k r ((h ++ List.replicate (32 - h.length) 0) :: acc)

/-- result: locator hashes, stop hash; `none` = error -/
def parseLocators (pl : Bytes) : Option (List Bytes × Bytes) × Nat :=
  if pl.length < 4 then (none, 1) else
  match readVLen (pl.drop 4) with
  | none => (none, 1)
  | some (cnt0, b) =>
    let cnt := if cnt0 > MAX_LOCATOR_SZ then MAX_LOCATOR_SZ else cnt0
    let afterLocs : Option (List Bytes × Bytes) :=
      if cnt > 0 then
        if (b.length : Int) < wrap ((cnt : Int) * 32) then none
        else locLoop cnt b []
      else some ([], b)
    match afterLocs with
    | none => (none, cnt + 1)
    | some (hs, r) =>
      let (s, _) := readUpTo 32 r
      (some (hs, s ++ List.replicate (32 - s.length) 0), cnt + 1)

def getBlocks (pl : Bytes) : Res :=
  match parseLocators pl with
  | (none, st) => ⟨.reject "BadGetBlks", [], st⟩
  | (some (hs, stop), st) =>
    if hs.length < 1 then ⟨.reject "BadGetBlks", [], st⟩
    else ⟨.ok "getblocks" [hs.length] (hs ++ [stop]), [], st⟩

def getHeaders (pl : Bytes) : Res :=
  match parseLocators pl with
  | (none, st) => ⟨.reject "BadGetHdrsA", [], st⟩
  | (some (hs, stop), st) =>
    if hs.length > 101 then ⟨.reject "BadGetHdrsB", [], st⟩
    else ⟨.ok "getheaders" [hs.length] (hs ++ [stop]), [], st⟩

/-! ### headers (hdrs.go HandleHeaders) — extraction of the 80-byte headers -/

def hdrLoop : Nat → Bytes → List Bytes → Nat → Res
  | 0, _, acc, st => ⟨.ok "headers" [acc.length] acc.reverse, [], st⟩
  | k+1, b, acc, st =>
    let (h, r) := readUpTo 80 b
    if h.length ≠ 80 then ⟨.reject "HdrErr1", [], st⟩ else   -- MutexRcv released by defer
    match readVLen r with
    | none => ⟨.reject "HdrErr2", [], st⟩
    | some (_, r') => hdrLoop k r' (h :: acc) (st + 1)

def handleHeaders (pl : Bytes) : Res :=
  match readVLen pl with
  | none => ⟨.ok "headers-noop" [] [], [], 1⟩
  | some (cnt, b) =>
    if cnt > 2000 then ⟨.reject "HdrErrX", [], 1⟩
    else hdrLoop cnt b [] 1

/-! ### tx (trxs.go ParseTxNet) — `newTx` is the decoder of lib/btc (C09's model), a parameter -/

def parseTxNet (newTx : Bytes → Option (Nat × Nat)) (pl : Bytes) : Res :=
  match newTx pl with      -- (number of inputs, bytes consumed)
  | none => ⟨.reject "TxRejectedBroken", [], 1⟩
  | some (nin, le) =>
    if le ≠ pl.length then ⟨.reject "TxRejectedLenMismatch", [], 1⟩
    else if nin < 1 then ⟨.reject "TxRejectedNoInputs", [], 1⟩
    else ⟨.ok "tx" [nin, le] [], [], 1⟩

/-! ### block (data.go netBlockReceived) — only the length guard precedes the backend -/

def netBlockReceived (pl : Bytes) : Res :=
  if pl.length < 100 then ⟨.reject "ShortBlock", [], 1⟩
  else ⟨.ok "block" [pl.length] [pl.take 80], [], 1⟩

/-! ### getblocktxn (cblk.go ProcessGetBlockTxn) -/

/-- `ntx`: number of transactions of the block named by pl[:32] (`none`: block unknown).
    The loop reads one CompactSize per iteration, so `fuel` = unread bytes + 1 suffices. -/
def gbtLoop (fixed : Bool) (ntx : Nat) : Nat → Bytes → Nat → Nat → List Nat → Nat → Res
  | 0, _, _, _, _, st => ⟨.panic "fuel", [], st⟩
  | f+1, req, il, exp, acc, st =>
    match readVLen req with
    | none => ⟨.reject "GetBlockTxnERR", [], st⟩
    | some (d, req') =>
      let idx := (d + exp) % 18446744073709551616
      let refuse : Bool := if fixed then decide (idx ≥ ntx) else decide (wrap idx ≥ (ntx : Int))
      if refuse then ⟨.reject "GetBlockTxnIdx+", [], st⟩ else
      if !indexOk ntx idx then ⟨.panic "ProcessGetBlockTxn:Txs[idx]", [], st⟩ else
      if il = 1 then ⟨.ok "getblocktxn" [acc.length + 1] [(idx :: acc).reverse.map (UInt8.ofNat ·)], [], st⟩
      else gbtLoop fixed ntx f req' (il - 1) ((idx + 1) % 18446744073709551616) (idx :: acc) (st + 1)

def processGetBlockTxnG (fixed : Bool) (ntx : Option Nat) (pl : Bytes) : Res :=
  if pl.length < 34 then ⟨.reject "GetBlockTxnShort", [], 1⟩ else
  match ntx with
  | none => ⟨.ok "getblocktxn-unknown" [] [], [], 1⟩
  | some ntx =>
    let req := pl.drop 32
    let (il, req') := match readVLen req with
      | none => (0, [])
      | some x => x
    if il = 0 then ⟨.reject "GetBlockTxnEmpty", [], 1⟩
    else gbtLoop fixed ntx (req'.length + 1) req' il 0 [] 1

def processGetBlockTxn := processGetBlockTxnG true

/-! ### cmpctblock (cblk.go ProcessCmpctBlock), from `offs := 88` through the short-id loop, the prefilled
     loop and the SECOND PASS over col.Txs (cblk.go:360-382) which reads the short ids back from the payload.
     Precondition (backend): the header pl[:80] was accepted and the block is not over-requested.
     `txSize` = btc.TxSize. MutexRcv is held with `defer Unlock` throughout: released at every exit.
     The second pass runs between `txpool.TxMutex.Lock()` and its NON-deferred Unlock: a panic there
     leaves TxMutex locked (Run's recover swallows the panic). What lies between the prefilled loop and
     the second pass (sha256 of `pl[:88]` - legal since len(pl) ≥ 90 -, mempool matching with its two
     "Same short ID - abort" early returns, both after an Unlock) is backend and not modelled. -/

def shortIdLoop (pl : Bytes) (n : Int) : Nat → Int → List Bytes → Nat → Except Res (Int × List Bytes × Nat)
  | 0, offs, seen, st => .ok (offs, seen, st)
  | k+1, offs, seen, st =>
    if n < wrap (offs + 6) then .error ⟨.reject "CmpctBlkErrB2", [], st⟩ else
    if !sliceOk n offs (wrap (offs + 6)) then .error ⟨.panic "ProcessCmpctBlock:pl[offs:offs+6]", [], st⟩ else
    let sid := sub pl offs (offs + 6)
    if seen.contains sid then .error ⟨.reject "CmpctBlkErrB3", [], st⟩ else
    shortIdLoop pl n k (wrap (offs + 6)) (sid :: seen) (st + 1)

def prefilledLoop (fixed : Bool) (txSize : Bytes → Nat) (pl : Bytes) (n : Int) (total : Int) :
    Nat → Int → Int → List Nat → Nat → Res
  | 0, _, _, acc, st => ⟨.ok "cmpctblock" acc.reverse [], [], st⟩
  | k+1, offs, exp, acc, st =>
    if !sliceOk n offs n then ⟨.panic "ProcessCmpctBlock:pl[offs:]", [], st⟩ else
    let (idx0, m) := vlen (pl.drop offs.toNat)
    if m == 0 || decide (idx0 < 0) || decide (m > 3) then ⟨.reject "CmpctBlkErrD", [], st⟩ else
    let idx := wrap (idx0 + exp)
    let refuse : Bool := if fixed then decide (idx ≥ total) else decide (idx0 ≥ total)
    if refuse then ⟨.reject "CmpctBlkErrF", [], st⟩ else
    let offs1 := wrap (offs + m)
    if !sliceOk n offs1 n then ⟨.panic "ProcessCmpctBlock:pl[offs:] (tx)", [], st⟩ else
    let sz : Int := txSize (pl.drop offs1.toNat)
    if sz = 0 then ⟨.reject "CmpctBlkErrE", [], st⟩ else
    if !indexOk total idx then ⟨.panic "ProcessCmpctBlock:col.Txs[idx]", [], st⟩ else
    if !sliceOk n offs1 (wrap (offs1 + sz)) then ⟨.panic "ProcessCmpctBlock:pl[offs:offs+n]", [], st⟩ else
    prefilledLoop fixed txSize pl n total k (wrap (offs1 + sz)) (wrap (idx + 1)) (sz.toNat :: idx.toNat :: acc) (st + 1)

/-- indices written by the prefilled loop, taken from its REVERSED result list
    [szₖ, idxₖ, …, sz₁, idx₁] (the loop's accumulator) -/
def pairIdx : List Nat → List Nat
  | _ :: idx :: t => idx :: pairIdx t
  | _ => []

/-- `col.Txs = make([]interface{}, total)` followed by `col.Txs[idx] = pl[offs:offs+n]` for every
    index written by the prefilled loop: `true` = the slot holds a []byte (prefilled) -/
def slotsOf (total : Nat) (written : List Nat) : Array Bool :=
  written.foldl (fun a i => a.setIfInBounds i true) (Array.replicate total false)

/-- the second pass `for n = 0; n < len(col.Txs); n++ { switch col.Txs[n].(type) … }` over the slot list:
    a prefilled slot is skipped; for any other slot the short id is read back from
    `pl[shortidx_idx : shortidx_idx+6]` and looked up in the map the first loop built (`seen`);
    `panic("Tx idx … is missing")` when it is not there; then `shortidx_idx += 6`.
    txpool.TxMutex is held (no defer) throughout.
    NOT in the model: the same branch stores `col.Sid2idx[sid] = n` for a short id the mempool did not resolve, into a
    map that is made only `if missing > 0` - a second (runtime) panic site under TxMutex. Argument, not a theorem:
    `missing = len(shortids) - cnt_found` counts exactly the ids whose map value stayed nil (a duplicate id aborts
    before), so an unresolved id in this loop implies missing ≥ 1 and the map is there. The harness reaches the
    branch (cmpctblock with unknown short ids → getblocktxn) in both streams. -/
def secondPass (pl : Bytes) (n : Int) (seen : List Bytes) : List Bool → Int → Nat → Res
  | [], _, st => ⟨.ok "cmpctblock" [] [], [], st⟩
  | true :: sl, sidx, st => secondPass pl n seen sl sidx (st + 1)
  | false :: sl, sidx, st =>
    if !sliceOk n sidx (wrap (sidx + 6)) then ⟨.panic "ProcessCmpctBlock:pl[shortidx_idx:shortidx_idx+6]", [.tx], st⟩ else
    if !seen.contains (sub pl sidx (sidx + 6)) then ⟨.panic "ProcessCmpctBlock:Tx idx missing", [.tx], st⟩ else
    secondPass pl n seen sl (wrap (sidx + 6)) (st + 1)

/-! #### compiled-code shortcuts (`@[csimp]`: proved equal, the compiler uses the fast form; the
     definitions above stay the ones every theorem is about). The loops above re-slice the payload from
     its start for every element (`pl.drop offs`: quadratic on Lean lists); the `…R` forms carry the
     unread rest along and drop only what one element consumes. -/

theorem drop_advance (pl : Bytes) (a b n : Int) (h : sliceOk n a b = true) :
    (pl.drop a.toNat).drop (b - a).toNat = pl.drop b.toNat := by
  simp only [sliceOk, decide_eq_true_eq] at h
  rw [List.drop_drop]
  congr 1; omega

theorem sub6 (pl : Bytes) (o : Int) : sub pl o (o + 6) = (pl.drop o.toNat).take 6 := by
  unfold sub; congr 1; omega

def shortIdLoopR (n : Int) : Nat → Bytes → Int → List Bytes → Nat → Except Res (Int × List Bytes × Nat)
  | 0, _, offs, seen, st => .ok (offs, seen, st)
  | k+1, rest, offs, seen, st =>
    if n < wrap (offs + 6) then .error ⟨.reject "CmpctBlkErrB2", [], st⟩ else
    if !sliceOk n offs (wrap (offs + 6)) then .error ⟨.panic "ProcessCmpctBlock:pl[offs:offs+6]", [], st⟩ else
    let sid := rest.take 6
    if seen.contains sid then .error ⟨.reject "CmpctBlkErrB3", [], st⟩ else
    shortIdLoopR n k (rest.drop (wrap (offs + 6) - offs).toNat) (wrap (offs + 6)) (sid :: seen) (st + 1)

theorem shortIdLoop_eq_R (pl : Bytes) (n : Int) : ∀ (k : Nat) (offs : Int) (seen : List Bytes) (st : Nat),
    shortIdLoop pl n k offs seen st = shortIdLoopR n k (pl.drop offs.toNat) offs seen st := by
  intro k
  induction k with
  | zero => intros; rfl
  | succ k ih =>
    intro offs seen st
    unfold shortIdLoop shortIdLoopR
    rw [sub6]
    refine ite_congr rfl (fun _ => rfl) fun _ => ite_congr rfl (fun _ => rfl) fun h2 =>
      ite_congr rfl (fun _ => rfl) fun _ => ?_
    rw [ih, drop_advance pl offs _ n (by simpa using h2)]

def prefilledLoopR (fixed : Bool) (txSize : Bytes → Nat) (pl : Bytes) (n : Int) (total : Int) :
    Nat → Bytes → Int → Int → List Nat → Nat → Res
  | 0, _, _, _, acc, st => ⟨.ok "cmpctblock" acc.reverse [], [], st⟩
  | k+1, rest, offs, exp, acc, st =>
    if !sliceOk n offs n then ⟨.panic "ProcessCmpctBlock:pl[offs:]", [], st⟩ else
    let (idx0, m) := vlen rest
    if m == 0 || decide (idx0 < 0) || decide (m > 3) then ⟨.reject "CmpctBlkErrD", [], st⟩ else
    let idx := wrap (idx0 + exp)
    let refuse : Bool := if fixed then decide (idx ≥ total) else decide (idx0 ≥ total)
    if refuse then ⟨.reject "CmpctBlkErrF", [], st⟩ else
    let offs1 := wrap (offs + m)
    if !sliceOk n offs1 n then ⟨.panic "ProcessCmpctBlock:pl[offs:] (tx)", [], st⟩ else
    -- offs ≤ offs1 always holds for payloads shorter than 2^63 bytes; the other branch keeps the equality unconditional
    let rest1 := if offs ≤ offs1 then rest.drop (offs1 - offs).toNat else pl.drop offs1.toNat
    let sz : Int := txSize rest1
    if sz = 0 then ⟨.reject "CmpctBlkErrE", [], st⟩ else
    if !indexOk total idx then ⟨.panic "ProcessCmpctBlock:col.Txs[idx]", [], st⟩ else
    if !sliceOk n offs1 (wrap (offs1 + sz)) then ⟨.panic "ProcessCmpctBlock:pl[offs:offs+n]", [], st⟩ else
    prefilledLoopR fixed txSize pl n total k (rest1.drop (wrap (offs1 + sz) - offs1).toNat) (wrap (offs1 + sz)) (wrap (idx + 1)) (sz.toNat :: idx.toNat :: acc) (st + 1)

theorem prefilledLoop_eq_R (fixed : Bool) (txSize : Bytes → Nat) (pl : Bytes) (n total : Int) :
    ∀ (k : Nat) (offs exp : Int) (acc : List Nat) (st : Nat),
    prefilledLoop fixed txSize pl n total k offs exp acc st =
      prefilledLoopR fixed txSize pl n total k (pl.drop offs.toNat) offs exp acc st := by
  intro k
  induction k with
  | zero => intros; rfl
  | succ k ih =>
    intro offs exp acc st
    unfold prefilledLoop prefilledLoopR
    refine ite_congr rfl (fun _ => rfl) fun h1 => ?_
    generalize hv : vlen (List.drop offs.toNat pl) = v
    obtain ⟨idx0, m⟩ := v
    refine ite_congr rfl (fun _ => rfl) fun _ => ite_congr rfl (fun _ => rfl) fun _ =>
      ite_congr rfl (fun _ => rfl) fun _ => ?_
    have hr : (if offs ≤ wrap (offs + (m : Int)) then (pl.drop offs.toNat).drop (wrap (offs + (m : Int)) - offs).toNat
                else pl.drop (wrap (offs + (m : Int))).toNat) = pl.drop (wrap (offs + (m : Int))).toNat := by
      split
      · simp only [sliceOk, Bool.not_eq_true', decide_eq_false_iff_not, Decidable.not_not] at h1
        rw [List.drop_drop]; congr 1; omega
      · rfl
    simp only [hr]
    refine ite_congr rfl (fun _ => rfl) fun _ => ite_congr rfl (fun _ => rfl) fun _ =>
      ite_congr rfl (fun _ => rfl) fun h4 => ?_
    rw [ih, drop_advance pl _ _ n (by simpa using h4)]
def shortIdLoopFast (pl : Bytes) (n : Int) (k : Nat) (offs : Int) (seen : List Bytes) (st : Nat) :=
  shortIdLoopR n k (pl.drop offs.toNat) offs seen st

@[csimp] theorem shortIdLoop_eq_fast : @shortIdLoop = @shortIdLoopFast := by
  funext pl n k offs seen st; exact shortIdLoop_eq_R pl n k offs seen st

def prefilledLoopFast (fixed : Bool) (txSize : Bytes → Nat) (pl : Bytes) (n total : Int) (k : Nat) (offs exp : Int)
    (acc : List Nat) (st : Nat) := prefilledLoopR fixed txSize pl n total k (pl.drop offs.toNat) offs exp acc st

@[csimp] theorem prefilledLoop_eq_fast : @prefilledLoop = @prefilledLoopFast := by
  funext fixed txSize pl n total k offs exp acc st; exact prefilledLoop_eq_R fixed txSize pl n total k offs exp acc st

def secondPassR (n : Int) (seen : List Bytes) : List Bool → Bytes → Int → Nat → Res
  | [], _, _, st => ⟨.ok "cmpctblock" [] [], [], st⟩
  | true :: sl, rest, sidx, st => secondPassR n seen sl rest sidx (st + 1)
  | false :: sl, rest, sidx, st =>
    if !sliceOk n sidx (wrap (sidx + 6)) then ⟨.panic "ProcessCmpctBlock:pl[shortidx_idx:shortidx_idx+6]", [.tx], st⟩ else
    if !seen.contains (rest.take 6) then ⟨.panic "ProcessCmpctBlock:Tx idx missing", [.tx], st⟩ else
    secondPassR n seen sl (rest.drop (wrap (sidx + 6) - sidx).toNat) (wrap (sidx + 6)) (st + 1)

theorem secondPass_eq_R (pl : Bytes) (n : Int) (seen : List Bytes) : ∀ (sl : List Bool) (sidx : Int) (st : Nat),
    secondPass pl n seen sl sidx st = secondPassR n seen sl (pl.drop sidx.toNat) sidx st := by
  intro sl
  induction sl with
  | nil => intros; rfl
  | cons b sl ih =>
    intro sidx st
    cases b with
    | true => exact ih sidx (st + 1)
    | false =>
      unfold secondPass secondPassR
      rw [sub6]
      refine ite_congr rfl (fun _ => rfl) fun h2 => ite_congr rfl (fun _ => rfl) fun _ => ?_
      rw [ih, drop_advance pl sidx _ n (by simpa using h2)]

def secondPassFast (pl : Bytes) (n : Int) (seen : List Bytes) (sl : List Bool) (sidx : Int) (st : Nat) :=
  secondPassR n seen sl (pl.drop sidx.toNat) sidx st

@[csimp] theorem secondPass_eq_fast : @secondPass = @secondPassFast := by
  funext pl n seen sl sidx st; exact secondPass_eq_R pl n seen sl sidx st

def processCmpctBlockG (fixed : Bool) (txSize : Bytes → Nat) (pl : Bytes) : Res :=
  let n : Int := pl.length
  if n < 90 then ⟨.reject "CmpctBlkErrA", [], 1⟩ else
  -- MutexRcv.Lock(); defer MutexRcv.Unlock(); header accepted (precondition)
  let (scnt, m) := vlen (pl.drop 88)
  if m == 0 || decide (scnt < 0) || decide (m > 3) then ⟨.reject "CmpctBlkErrB", [], 1⟩ else
  match shortIdLoop pl n scnt.toNat (88 + m) [] 1 with
  | .error r => r
  | .ok (offs, seen, st) =>
    if !sliceOk n offs n then ⟨.panic "ProcessCmpctBlock:pl[offs:] (prefilledcnt)", [], st⟩ else
    let (pcnt, m2) := vlen (pl.drop offs.toNat)
    if m2 == 0 || decide (pcnt < 0) || decide (m2 > 3) then ⟨.reject "CmpctBlkErrC", [], st⟩ else
    match prefilledLoop fixed txSize pl n (pcnt + scnt) pcnt.toNat (wrap (offs + m2)) 0 [] st with
    | ⟨.ok t nums bl, _, s⟩ =>
      -- txpool.TxMutex.Lock(); …; second pass over col.Txs, shortidx_idx starting where the short ids start
      match secondPass pl n seen (slotsOf (pcnt + scnt).toNat (pairIdx nums.reverse)).toList (88 + m) s with
      | ⟨.ok _ _ _, l2, s2⟩ => ⟨.ok t (scnt.toNat :: pcnt.toNat :: nums) bl, l2, s2⟩   -- txpool.TxMutex.Unlock()
      | r => r
    | r => r

def processCmpctBlock := processCmpctBlockG true

/-! ### blocktxn (cblk.go ProcessBlockTxn): the two guards, then (collector present, backend
     precondition) the transaction loop `for offs < len(pl)`; all short ids assumed known. -/

def blockTxnLoop (txSize : Bytes → Nat) (pl : Bytes) (n : Int) : Nat → Int → List Nat → Nat → Res
  | 0, _, _, st => ⟨.panic "fuel", [], st⟩
  | f+1, offs, acc, st =>
    if !(offs < n) then ⟨.ok "blocktxn" acc.reverse [], [], st⟩ else
    if !sliceOk n offs n then ⟨.panic "ProcessBlockTxn:pl[offs:]", [], st⟩ else
    let sz : Int := txSize (pl.drop offs.toNat)
    if sz = 0 then ⟨.reject "BlkTxnErrTx", [], st⟩ else
    if !sliceOk n offs (wrap (offs + sz)) then ⟨.panic "ProcessBlockTxn:pl[offs:offs+n]", [], st⟩ else
    blockTxnLoop txSize pl n f (wrap (offs + sz)) (sz.toNat :: acc) (st + 1)

def blockTxnLoopR (txSize : Bytes → Nat) (n : Int) : Nat → Bytes → Int → List Nat → Nat → Res
  | 0, _, _, _, st => ⟨.panic "fuel", [], st⟩
  | f+1, rest, offs, acc, st =>
    if !(offs < n) then ⟨.ok "blocktxn" acc.reverse [], [], st⟩ else
    if !sliceOk n offs n then ⟨.panic "ProcessBlockTxn:pl[offs:]", [], st⟩ else
    let sz : Int := txSize rest
    if sz = 0 then ⟨.reject "BlkTxnErrTx", [], st⟩ else
    if !sliceOk n offs (wrap (offs + sz)) then ⟨.panic "ProcessBlockTxn:pl[offs:offs+n]", [], st⟩ else
    blockTxnLoopR txSize n f (rest.drop (wrap (offs + sz) - offs).toNat) (wrap (offs + sz)) (sz.toNat :: acc) (st + 1)

theorem blockTxnLoop_eq_R (txSize : Bytes → Nat) (pl : Bytes) (n : Int) : ∀ (f : Nat) (offs : Int) (acc : List Nat) (st : Nat),
    blockTxnLoop txSize pl n f offs acc st = blockTxnLoopR txSize n f (pl.drop offs.toNat) offs acc st := by
  intro f
  induction f with
  | zero => intros; rfl
  | succ f ih =>
    intro offs acc st
    unfold blockTxnLoop blockTxnLoopR
    refine ite_congr rfl (fun _ => rfl) fun _ => ite_congr rfl (fun _ => rfl) fun _ =>
      ite_congr rfl (fun _ => rfl) fun _ => ite_congr rfl (fun _ => rfl) fun h4 => ?_
    rw [ih, drop_advance pl offs _ n (by simpa using h4)]

def blockTxnLoopFast (txSize : Bytes → Nat) (pl : Bytes) (n : Int) (f : Nat) (offs : Int) (acc : List Nat) (st : Nat) :=
  blockTxnLoopR txSize n f (pl.drop offs.toNat) offs acc st

@[csimp] theorem blockTxnLoop_eq_fast : @blockTxnLoop = @blockTxnLoopFast := by
  funext txSize pl n f offs acc st; exact blockTxnLoop_eq_R txSize pl n f offs acc st

def processBlockTxn (txSize : Bytes → Nat) (pl : Bytes) : Res :=
  let n : Int := pl.length
  if n < 33 then ⟨.reject "BlkTxnErrLen", [], 1⟩ else
  let (le, m) := vlen (pl.drop 32)
  if m == 0 || decide (le < 0) || decide (m > 3) then ⟨.reject "BlkTxnErrCnt", [], 1⟩ else
  blockTxnLoop txSize pl n (pl.length + 1) (32 + m) [] 1

/-! ### small inline handlers of tick.go Run -/

def feeFilter (pl : Bytes) : Res :=
  if pl.length ≥ 8 then
    if !sliceOk pl.length 0 8 then ⟨.panic "feefilter:pl[:8]", [], 1⟩
    else ⟨.ok "feefilter" [u64 pl] [], [], 1⟩
  else ⟨.ok "feefilter-ignored" [] [], [], 1⟩

def sendCmpct (pl : Bytes) : Res :=
  if pl.length ≥ 9 then
    if !sliceOk pl.length 1 9 then ⟨.panic "sendcmpct:pl[1:9]", [], 1⟩
    else ⟨.ok "sendcmpct" [u64 (pl.drop 1), (pl.head?.getD 0).toNat] [], [], 1⟩
  else ⟨.ok "sendcmpct-short" [] [], [], 1⟩

/-- ping.go HandlePong with a ping in flight whose nonce is `inFlight` (`none`: payload nil) -/
def handlePong (pl : Bytes) : Res := ⟨.ok "pong" [pl.length] [], [], 1⟩

/-- ver.go AuthRvcd for a peer whose key is not in the friends list: the guards, the slice
    `pl[33:]` given to the signature parser, no further payload access. -/
def authRcvd (already : Bool) (pl : Bytes) : Res :=
  if already then ⟨.reject "XAuthMsgCnt", [], 1⟩ else
  if pl.length < 33 then ⟨.reject "XAuthMsgShort", [], 1⟩ else
  if !sliceOk pl.length 0 33 then ⟨.panic "AuthRvcd:pl[:33]", [], 1⟩ else
  if !sliceOk pl.length 33 pl.length then ⟨.panic "AuthRvcd:pl[33:]", [], 1⟩ else
  ⟨.ok "xauth-unauthorized" [] [], [], 1⟩

/-- trxs.go ProcessGetMP (authorized peers only): extraction of the 8-byte ids -/
def getMPLoop : Nat → Bytes → Nat → Nat → Res
  | 0, _, got, st => ⟨.ok "getmp" [got] [], [], st⟩
  | k+1, b, got, st =>
    let (h, r) := readUpTo 8 b
    if h.length ≠ 8 then ⟨.reject "GetMPError2", [], st⟩ else getMPLoop k r (got + 1) (st + 1)

def processGetMP (pl : Bytes) : Res :=
  match readVLen pl with
  | none => ⟨.reject "GetMPError1", [], 1⟩
  | some (cnt, b) => getMPLoop (wrap (cnt : Int)).toNat b 0 1   -- `for i := 0; i < int(cnt); i++`, plain count

/-- tick.go Run, `case "authack"`: an unsigned one ends the connection (Disconnect, no ban); a signed one
    sets AuthAckGot under c.Mutex (Lock / Unlock closed before the payload is looked at), then
    `if len(pl) > 0 { ChainSynchronized = pl[0] != 0 }`. nums = [has payload, synchronized flag]. -/
def authAck (trusted : Bool) (pl : Bytes) : Res :=
  if !trusted then ⟨.ok "authack-unsigned" [] [], [], 1⟩ else
  if pl.length > 0 then
    (if !indexOk pl.length 0 then ⟨.panic "authack:pl[0]", [], 1⟩
     else ⟨.ok "authack" [1, if pl.head? ≠ some 0 then 1 else 0] [], [], 1⟩)
  else ⟨.ok "authack" [0, 0] [], [], 1⟩

/-- tick.go GetMPDone. `ours` = a getmp request of this connection is pending (c.GetMP not empty), the global
    ticket is taken and it is THIS connection's: the only state in which the payload is looked at -
    `if len(pl) < 1 || pl[0] == 0 { <-c.GetMP } else if c.SendGetMP() != nil …` (the index stands behind the
    short-circuit `||`). In every other state the handler leaves on a length test or without reading anything.
    nums = [0: the exchange is over, the ticket is given back | 1: the peer has more, the next getmp is sent]. -/
def getMPDone (ours : Bool) (pl : Bytes) : Res :=
  if !ours then ⟨.ok "getmpdone-idle" [] [], [], 1⟩ else
  if pl.length < 1 then ⟨.ok "getmpdone" [0] [], [], 1⟩ else
  if !indexOk pl.length 0 then ⟨.panic "GetMPDone:pl[0]", [], 1⟩ else
  ⟨.ok "getmpdone" [if pl.head? = some 0 then 0 else 1] [], [], 1⟩

/-! ### core.go FetchMessage: the header loop -/

/-- `for c.recv.hdr_len < 24 { n, e = SockRead(c.Conn, c.recv.hdr[c.recv.hdr_len:24]); …; c.recv.hdr_len += n; …
    if c.recv.hdr_len != 24 { if c.recv.hdr_len > 24 { panic("ERROR: hdr_len > 24 …") } … } }` over successive
    reads (across calls: hdr_len is kept in the connection) returning `reads` bytes. `none` = the explicit panic,
    which stands between c.Mutex.Lock() and its Unlock. -/
def hdrReads : List Nat → Nat → Option Nat
  | [], hl => some hl
  | n :: rs, hl => if hl ≥ 24 then some hl else if hl + n > 24 then none else hdrReads rs (hl + n)

/-- the net.Conn.Read contract along such a run: every read returns at most the length of the slice it was given,
    `hdr[hdr_len:24]` (common.SockRead only ever shortens that slice) -/
def readsWithin : List Nat → Nat → Bool
  | [], _ => true
  | n :: rs, hl => hl ≥ 24 || (decide (n ≤ 24 - hl) && readsWithin rs (hl + n))

/-! ### core.go FetchMessage: one complete message at the start of `wire` -/

structure FetchEnv where
  magic : Bytes
  maxMsgSize : Bytes → Nat     -- by command (zero-trimmed)
  checksum : Bytes → Bytes     -- first 4 bytes of sha256d
  hasKey : Bool                -- an AES context was negotiated (xauth)
  versionReceived : Bool

def trimZeros (b : Bytes) : Bytes := (b.reverse.dropWhile (· = 0)).reverse

/-- outcome: ok "msg" [payload length] [cmd, payload, rest] | ok "need-more" | reject | panic.
    An encrypted-flagged message with a key is left to the AEAD (outcome "encrypted"). -/
def fetchMessageG (fixed : Bool) (E : FetchEnv) (wire : Bytes) : Res :=
  if wire.length < 24 then
    (if wire.length ≥ 4 ∧ wire.take 4 ≠ E.magic then ⟨.reject "NetBadMagic", [], 1⟩
     else ⟨.ok "need-more" [] [], [], 1⟩)
  else
  let hdr := wire.take 24
  if hdr.take 4 ≠ E.magic then ⟨.reject "NetBadMagic", [], 1⟩ else
  let cmd := trimZeros ((hdr.drop 4).take 12)
  let raw := u32 (hdr.drop 16)
  let decrypt := raw ≥ 2147483648
  let plLen := raw % 2147483648
  let body := wire.drop 24
  if plLen > 0 ∧ decrypt ∧ !E.hasKey then
    (if fixed then ⟨.reject "MsgNoKey", [], 1⟩ else ⟨.panic "FetchMessage:c.aesData.nonceSize", [], 1⟩)
  else
  let msi := E.maxMsgSize cmd + (if decrypt then 28 else 0)
  if plLen > 0 ∧ plLen > msi then ⟨.reject ("Big-" ++ bytesStr cmd), [], 1⟩ else
  if body.length < plLen then ⟨.ok "need-more" [] [], [], 1⟩ else
  let pl := body.take plLen
  if decrypt then
    (if !E.hasKey then ⟨.reject "MsgNoKey", [], 1⟩ else ⟨.ok "encrypted" [plLen] [cmd], [], 1⟩)
  else if !E.versionReceived ∧ (hdr.drop 20).take 4 ≠ E.checksum pl then ⟨.reject "MsgBadChksum", [], 1⟩
  else ⟨.ok "msg" [plLen] [cmd, pl, body.drop plLen], [], 1⟩

def fetchMessage := fetchMessageG true

/-! ### the dispatch of Run (tick.go): command → handler, after the version handshake -/

structure Env where
  txSize : Bytes → Nat
  newTx : Bytes → Option (Nat × Nat)
  ntx : Option Nat          -- getblocktxn: size of the named block
  authGot : Bool            -- xauth already seen on this connection
  authorized : Bool
  pendingGetData : Option Nat   -- getdata: bytes waiting in c.unfinished_getdata (`none`: nil)
  trusted : Bool            -- cmd.trusted: the message came signed / through the encrypted channel
  getmpOurs : Bool := false -- getmpdone: a getmp request is pending and the global ticket is this connection's

def parse (E : Env) (cmd : String) (pl : Bytes) : Res :=
  if cmd = "version" then handleVersion pl
  else if cmd = "inv" then processInv pl
  else if cmd = "tx" then parseTxNet E.newTx pl
  else if cmd = "addr" then parseAddr pl
  else if cmd = "block" then netBlockReceived pl
  else if cmd = "getblocks" then getBlocks pl
  else if cmd = "getdata" then processGetData E.pendingGetData pl
  else if cmd = "pong" then handlePong pl
  else if cmd = "getheaders" then getHeaders pl
  else if cmd = "headers" then handleHeaders pl
  else if cmd = "feefilter" then feeFilter pl
  else if cmd = "sendcmpct" then sendCmpct pl
  else if cmd = "cmpctblock" then processCmpctBlock E.txSize pl
  else if cmd = "getblocktxn" then processGetBlockTxn E.ntx pl
  else if cmd = "blocktxn" then processBlockTxn E.txSize pl
  else if cmd = "getmp" then (if E.authorized then processGetMP pl else ⟨.ok "ignored" [] [], [], 1⟩)
  else if cmd = "xauth" then authRcvd E.authGot pl
  else if cmd = "authack" then authAck E.trusted pl
  else if cmd = "getmpdone" then getMPDone E.getmpOurs pl
  else ⟨.ok "no-parse" [] [], [], 1⟩   -- ping, getaddr, notfound, sendheaders, filter*, unknown: payload not indexed

end GocoinV.NetParse
