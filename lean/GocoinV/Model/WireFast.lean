/-
  Model.WireFast — compiled-code shortcuts for `Wire.txSize` (imported by the oracle only; Core-only).

  `Wire.txSize` mirrors btc.TxSize statement by statement: every element size is `len(b) - len(rest)` and every
  bounds test is `k > len(b)`. On a linked list each of those walks the whole remaining input, so a transaction with
  n elements costs n·|input| steps — 18 s for 65536 witness items, minutes for 65536 outputs: the counts of the 5-byte
  CompactSize range could not be put through the model at all. Here the same functions are given in a form that touches
  only the cells they need (`(vule b).2` instead of `len(b) - len(rest)`, `leLen` instead of `≤ length`), each PROVED
  equal to the definition it replaces and registered with `@[csimp]`: the compiler uses the fast form, every theorem
  stays about the definitions in Model/Wire.lean. Nothing is assumed: a wrong shortcut does not type-check.
-/
import GocoinV.Model.Wire
namespace GocoinV.Wire
open GocoinV.CompactSize

/-- the bytes a successful `vlenWire` consumed are the size `vule` reports -/
theorem vlenWire_consumed (b r : Bytes) (le : Nat) (h : vlenWire b = some (le, r)) :
    b.length - r.length = (vule b).2 := by
  unfold vlenWire at h
  simp only [] at h
  split at h
  · exact absurd h (by simp)
  · have hr : r = b.drop (vule b).2 := by
      have := Option.some.inj h
      exact (congrArg Prod.snd this).symm
    have hl := (vule_size_le b).1
    rw [hr, List.length_drop]
    omega

def itemSizeFast (b : Bytes) : Option Nat :=
  match vlenWire b with
  | none => none
  | some (le, _) => some ((vule b).2 + le)

@[csimp] theorem itemSize_eq_fast : @itemSize = @itemSizeFast := by
  funext b
  unfold itemSize itemSizeFast
  cases h : vlenWire b with
  | none => rfl
  | some p =>
    obtain ⟨le, r⟩ := p
    simp only [vlenWire_consumed b r le h]

def txInSizeFast (b : Bytes) : Option Nat :=
  match readN 36 b with
  | none => none
  | some (_, b') =>
    match vlenWire b' with
    | none => some 0
    | some (le, _) => some (36 + (vule b').2 + le + 4)

@[csimp] theorem txInSize_eq_fast : @txInSize = @txInSizeFast := by
  funext b
  unfold txInSize txInSizeFast
  cases readN 36 b with
  | none => rfl
  | some q =>
    obtain ⟨x, b'⟩ := q
    simp only []
    cases h : vlenWire b' with
    | none => rfl
    | some p =>
      obtain ⟨le, r⟩ := p
      simp only [vlenWire_consumed b' r le h]

def txOutSizeFast (b : Bytes) : Option Nat :=
  match readN 8 b with
  | none => none
  | some (_, b') =>
    match vlenWire b' with
    | none => some 0
    | some (le, _) => some (8 + (vule b').2 + le)

@[csimp] theorem txOutSize_eq_fast : @txOutSize = @txOutSizeFast := by
  funext b
  unfold txOutSize txOutSizeFast
  cases readN 8 b with
  | none => rfl
  | some q =>
    obtain ⟨x, b'⟩ := q
    simp only []
    cases h : vlenWire b' with
    | none => rfl
    | some p =>
      obtain ⟨le, r⟩ := p
      simp only [vlenWire_consumed b' r le h]

def skipNFast (f : Bytes → Option Nat) : Nat → Bytes → Option Bytes
  | 0, b => some b
  | n+1, b =>
    match f b with
    | none => none
    | some k => if k = 0 ∨ leLen k b = false then none else skipNFast f n (b.drop k)

theorem gt_length_iff (k : Nat) (b : Bytes) : k > b.length ↔ leLen k b = false := by
  constructor
  · intro h
    cases hh : leLen k b with
    | false => rfl
    | true => have := (leLen_iff k b).1 hh; omega
  · intro h
    by_cases hk : k ≤ b.length
    · rw [(leLen_iff k b).2 hk] at h; exact absurd h (by simp)
    · omega

@[csimp] theorem skipN_eq_fast : @skipN = @skipNFast := by
  funext f n b
  induction n generalizing b with
  | zero => rfl
  | succ n ih =>
    simp only [skipN, skipNFast]
    cases f b with
    | none => rfl
    | some k =>
      simp only [gt_length_iff k b, ih]

/-! copies of the callers (identical bodies, so equal by unfolding) compiled HERE, i.e. against the shortcuts above -/

def skipStackFast (b : Bytes) : Option Bytes :=
  match vlenWire b with
  | none => none
  | some (n, r) => skipN itemSize n r

@[csimp] theorem skipStack_eq_fast : @skipStack = @skipStackFast := by
  funext b; rfl

def skipStacksFast : Nat → Bytes → Option Bytes
  | 0, b => some b
  | n+1, b => match skipStack b with
    | none => none
    | some r => skipStacksFast n r

@[csimp] theorem skipStacks_eq_fast : @skipStacks = @skipStacksFast := by
  funext n b
  induction n generalizing b with
  | zero => rfl
  | succ n ih =>
    simp only [skipStacks, skipStacksFast]
    cases skipStack b with
    | none => rfl
    | some r => exact ih r

def txSizeFast (b : Bytes) : Nat :=
  let r : Option Nat :=
    match readN 4 b with
    | none => none
    | some (_, b1) =>
    match readMarker b1 with
    | none => none
    | some (segwit, b2) =>
    match vlenWire b2 with
    | none => none
    | some (nin, b3) =>
    match skipN txInSize nin b3 with
    | none => none
    | some b4 =>
    match vlenWire b4 with
    | none => none
    | some (nout, b5) =>
    match skipN txOutSize nout b5 with
    | none => none
    | some b6 =>
    let b7? := if segwit then skipStacks nin b6 else some b6
    match b7? with
    | none => none
    | some b7 => if 4 ≤ b7.length then some (b.length - b7.length + 4) else none
  r.getD 0

@[csimp] theorem txSize_eq_fast : @txSize = @txSizeFast := by
  funext b; rfl

end GocoinV.Wire
