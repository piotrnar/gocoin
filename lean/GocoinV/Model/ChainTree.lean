/-
  Model.ChainTree — the block tree and the tip-selection / reorganisation logic of lib/chain
  (chain_accept.go: AcceptHeader, CommitBlock; chain_tree.go: MoveToBlock, UndoLastBlock, ParseTillBlock,
  FindPathTo, FindFarthestNode, DeleteBranch; chain_diff.go: MorePOW; block_check.go: the tree-related
  part of PreCheckBlock; unspent_db.go: CommitBlockTxs / UndoBlockTxs around the undo files).
  Core-only, executable; mirrors the code as written (first child wins ties in FindFarthestNode, undo
  files are keyed by height only, …).

  Work: the Go code sums `float64` `btc.GetDifficulty(bits)`.  The model uses the exact rational
  `0xffff·256^(29−e)/mantissa` (`Q` = numerator/denominator over Nat, compared by cross-multiplication).
  Float rounding is the difference between model and code; it can only show when two sums are closer
  than one rounding error (see the `o1-float-tie` scenario of the harness).

  Go panics are `Except.error` results. Loops over parents carry fuel (tree depth is bounded by height).

  HEADER-FIRST delivery (the client's normal path: client/network ProcessNewHeader = PreCheckBlock + AcceptHeader on the
  80 header bytes, later client/main LocalAcceptBlock = CommitBlock(bl, node) on the node that exists already) is the
  second half of this file: `header`, `commitNode`, `Op` / `step`. A node with `txCount = 0` is a header without block
  data; `limbo` holds the entries of `BlockIndex` that are no longer reachable from the root.
-/
import GocoinV.Model.UtxoOps
namespace GocoinV.ChainTree
open GocoinV.UtxoOps

structure Node where
  id : Nat
  parent : Nat
  height : Nat
  bits : Nat
  childs : List Nat      -- ordered as in `Childs` (arrival order; delChild keeps the order)
  txCount : Nat          -- 0 = only the header is known
deriving Repr, Inhabited

structure Stored where
  txs : List Tx
  trusted : Bool
deriving Repr, Inhabited

structure Chain where
  nodes : List Node                   -- BlockIndex / the tree
  root : Nat
  tip : Nat                           -- blockTreeEnd
  utxo : DB
  store : List (Nat × Stored)         -- block store (invalid-flagged blocks are dropped)
  undoFiles : List (Nat × List Rec)   -- undo/<height>  (keyed by height only, as the code)
  lastHeight : Nat                    -- Unspent.LastBlockHeight
  vcBad : Nat := 0                    -- GHOST (no counterpart in the code): connected blocks whose changes fail `validChangesB`
  limbo : List Node := []             -- entries of BlockIndex that are NOT reachable from the root any more: the header-only
                                      -- descendants of a block that CommitBlock refused on the tip (it unlinks the block from its
                                      -- parent and deletes the block's own index entry only), and headers accepted below them
deriving Repr, Inhabited

-- ------------------------------------------------------------------------------------------ work

structure Q where
  num : Nat
  den : Nat
deriving Repr, Inhabited

def Q.zero : Q := ⟨0, 1⟩
def Q.add (a b : Q) : Q := ⟨a.num * b.den + b.num * a.den, a.den * b.den⟩
/-- `a > b` for positive denominators -/
def Q.gt (a b : Q) : Bool := a.num * b.den > b.num * a.den

/-- exact value of `btc.GetDifficulty(bits)` -/
def difficulty (bits : Nat) : Q :=
  let e := (bits / 0x1000000) % 256
  let m := bits % 0x1000000
  if e ≤ 29 then ⟨0xffff * 256 ^ (29 - e), m⟩ else ⟨0xffff, m * 256 ^ (e - 29)⟩

def UnwindBufLen : Nat := 2560
def MovingCheckpointDepth : Nat := 2016

/-- `btc.GetBlockReward` -/
def reward (height : Nat) : Nat := 5000000000 / 2 ^ (height / 210000)

-- ------------------------------------------------------------------------------------------ tree access

def getNode (c : Chain) (id : Nat) : Option Node := c.nodes.find? (fun n => n.id == id)

def modNode (c : Chain) (id : Nat) (f : Node → Node) : Chain :=
  { c with nodes := c.nodes.map fun n => if n.id == id then f n else n }

def node! (c : Chain) (id : Nat) : Except String Node :=
  match getNode c id with
  | some n => pure n
  | none => throw "panic:nil-node"

/-- `b1.MorePOW(b2)` -/
def morePOWAux (c : Chain) : Nat → Node → Node → Q → Q → Bool
  | 0, _, _, _, _ => false
  | f + 1, b1, b2, s1, s2 =>
    if b1.height > b2.height then
      match getNode c b1.parent with
      | some p => morePOWAux c f p b2 (s1.add (difficulty b1.bits)) s2
      | none => false
    else if b2.height > b1.height then
      match getNode c b2.parent with
      | some p => morePOWAux c f b1 p s1 (s2.add (difficulty b2.bits))
      | none => false
    else if b1.id == b2.id then s1.gt s2
    else
      match getNode c b1.parent, getNode c b2.parent with
      | some p1, some p2 => morePOWAux c f p1 p2 (s1.add (difficulty b1.bits)) (s2.add (difficulty b2.bits))
      | _, _ => false

def morePOW (c : Chain) (b1 b2 : Node) : Bool :=
  morePOWAux c (b1.height + b2.height + 2) b1 b2 Q.zero Q.zero

/-- `n.FindFarthestNode()`: (leaf, Σ difficulty of the nodes from `n` down to and including the leaf — since fix
    dee8064a the leaf's own difficulty counts) -/
def farthest (c : Chain) : Nat → Node → Nat × Q
  | 0, n => (n.id, difficulty n.bits)
  | f + 1, n =>
    match n.childs.filterMap (getNode c) with
    | [] => (n.id, difficulty n.bits)
    | c0 :: rest =>
      let first := farthest c f c0
      let best := rest.foldl (fun acc ch =>
        let r := farthest c f ch
        if r.2.gt acc.2 then r else acc) first
      (best.1, best.2.add (difficulty n.bits))

/-- `n.findFarthestWithData()` (fix c3d926ba): `FindFarthestNode` over the children that have block data
    (`c.TxCount == 0 → continue`): a header-only child is skipped together with whatever hangs below it. The first
    child WITH DATA wins ties. This is what ParseTillBlock's fall-back uses. -/
def farthestS (c : Chain) : Nat → Node → Nat × Q
  | 0, n => (n.id, difficulty n.bits)
  | f + 1, n =>
    match (n.childs.filterMap (getNode c)).filter (fun m => m.txCount != 0) with
    | [] => (n.id, difficulty n.bits)
    | c0 :: rest =>
      let first := farthestS c f c0
      let best := rest.foldl (fun acc ch =>
        let r := farthestS c f ch
        if r.2.gt acc.2 then r else acc) first
      (best.1, best.2.add (difficulty n.bits))

/-- `n.FindPathTo(end)` : next node on the way, `none` when `n == end` -/
def climbTo (c : Chain) (n : Node) : Nat → Node → Except String Nat
  | 0, _ => throw "panic:fuel"
  | f + 1, e =>
    if e.parent == n.id then pure e.id
    else if e.height ≤ n.height then throw "panic:reached the starting node height, but no hit"
    else do
      let p ← node! c e.parent
      climbTo c n f p

def findPathTo (c : Chain) (n e : Node) : Except String (Option Nat) :=
  if n.id == e.id then pure none
  else if e.height ≤ n.height then throw "panic:end block is not higher then current"
  else match n.childs with
    | [] => throw "panic:unknown path to block"
    | [x] => pure (some x)
    | _ => do
      let r ← climbTo c n (e.height + 1) e
      pure (some r)

/-- ids of the subtree below (and including) `id` -/
def subtree (c : Chain) : Nat → Nat → List Nat
  | 0, id => [id]
  | f + 1, id =>
    match getNode c id with
    | none => [id]
    | some n => id :: n.childs.flatMap (subtree c f)

/-- `ch.DeleteBranch(cur)` (after the delAllChildren fix: every block of the branch is flagged invalid) -/
def deleteBranch (c : Chain) (id : Nat) : Chain :=
  match getNode c id with
  | none => c
  | some n =>
    let dead := subtree c (c.nodes.length + 1) id
    let c1 := modNode c n.parent fun p => { p with childs := p.childs.filter (· != id) }
    { c1 with nodes := c1.nodes.filter (fun m => !dead.contains m.id),
              store := c1.store.filter (fun s => !dead.contains s.1) }

-- ------------------------------------------------------------------------------------------ utxo + undo files

/-- `Unspent.CommitBlockTxs(changes, hash)`; `withUndo` = `changes.UndoData != nil` -/
def commitBlockTxs (c : Chain) (height : Nat) (withUndo : Bool) (txids : List Nat) (ch : Changes) : Chain :=
  let c := if validChangesB c.utxo txids ch then c else { c with vcBad := c.vcBad + 1 }
  let files := if withUndo then aset height ch.undo c.undoFiles else c.undoFiles
  let files := if height > UnwindBufLen then files.filter (fun p => p.1 != height - UnwindBufLen) else files
  { c with utxo := commit c.utxo ch, undoFiles := files, lastHeight := height }

/-- `ch.UndoLastBlock()` -/
def undoLast (c : Chain) : Except String Chain := do
  let last ← node! c c.tip
  match alookup last.id c.store with
  | none => throw "panic:block not in the index"
  | some blk =>
    match alookup c.lastHeight c.undoFiles with
    | none => throw "panic:undo file missing"
    | some undo =>
      pure { c with utxo := undoBlock c.utxo (blk.txs.map (·.txid)) undo, tip := last.parent,
                    lastHeight := c.lastHeight - 1 }

def undoTo (target : Nat) : Nat → Chain → Except String Chain
  | 0, _ => throw "panic:fuel"
  | f + 1, c => if c.tip == target then pure c else do
      let c1 ← undoLast c
      undoTo target f c1

/-- first loop(s) of MoveToBlock: climb from `n` until height ≤ `h`; `none` = "cannot continue"
    (`cur.TxCount == 0 && cur.Parent != nil`: the genesis node has no data and needs none) -/
def climbChecked (c : Chain) (h : Nat) : Nat → Node → Except String (Option Node)
  | 0, _ => throw "panic:fuel"
  | f + 1, n =>
    if n.height > h then do
      let p ← node! c n.parent
      if p.txCount == 0 && p.id != c.root then pure none else climbChecked c h f p
    else pure (some n)

/-- third loop of MoveToBlock: both at the same height, climb to the common block -/
def commonAnc (c : Chain) : Nat → Node → Node → Except String (Option Node)
  | 0, _, _ => throw "panic:fuel"
  | f + 1, tmp, cur =>
    if tmp.id == cur.id then pure (some cur) else do
      let cp ← node! c cur.parent
      -- `if cur.Parent != tmp.Parent && cur.Parent.TxCount == 0` (the common block itself needs no data)
      if cur.parent != tmp.parent && cp.txCount == 0 then pure none else do
        let tp ← node! c tmp.parent
        commonAnc c f tp cp

mutual
/-- `ch.ParseTillBlock(end)` -/
def parseTill : Nat → Chain → Nat → Except String Chain
  | 0, _, _ => throw "panic:fuel"
  | f + 1, c, e =>
    if c.tip == e then pure c else do
      let last ← node! c c.tip
      let en ← node! c e
      match ← findPathTo c last en with
      | none => afterFail f c
      | some nx =>
        let nxt ← node! c nx
        if nxt.txCount == 0 then afterFail f c else
        match alookup nx c.store with
        | none => throw "panic:Db.BlockGet"
        | some blk =>
          match commitTxs c.utxo nxt.height (reward nxt.height) blk.trusted blk.txs with
          | .error _ => afterFail f (deleteBranch c nx)
          | .ok ch =>
            let c1 := { c with store := aset nx { blk with trusted := true } c.store }
            let c2 := commitBlockTxs c1 nxt.height (nxt.height + UnwindBufLen ≥ en.height) (blk.txs.map (·.txid)) ch
            parseTill f { c2 with tip := nx } e
/-- the tail of ParseTillBlock when `last != end`: the farthest node WITH DATA from the root (findFarthestWithData, fix
    c3d926ba; before: FindFarthestNode, which also returned header-only leaves), MoveToBlock there -/
def afterFail : Nat → Chain → Except String Chain
  | 0, _ => throw "panic:fuel"
  | f + 1, c => do
    let r ← node! c c.root
    moveTo f c (farthestS c (c.nodes.length + 1) r).1
/-- `ch.MoveToBlock(dst)` -/
def moveTo : Nat → Chain → Nat → Except String Chain
  | 0, _, _ => throw "panic:fuel"
  | f + 1, c, dst => do
    let d ← node! c dst
    let lb ← node! c c.tip
    match ← climbChecked c lb.height (d.height + 1) d with
    | none => pure c                                    -- "cannot continue A1"
    | some cur =>
      match ← climbChecked c cur.height (lb.height + 1) lb with
      | none => pure c                                  -- "cannot continue A2"
      | some lb2 =>
        match ← commonAnc c (cur.height + 2) lb2 cur with
        | none => pure c                                -- "cannot continue B"
        | some anc => do
          let c1 ← undoTo anc.id (lb.height + 2) c
          parseTill f c1 dst
end

-- ------------------------------------------------------------------------------------------ deliveries

structure Block where
  id : Nat
  parent : Nat
  bits : Nat
  txs : List Tx
deriving Repr, Inhabited

inductive Outcome
  | ok | dup | later | tooDeep | rejected (e : Err) | moveFailed | panic (s : String)
  | collision    -- another block sits under the block's own 8-byte `BlockIndex` key (only `deliverIdx` returns it)
  | noHeader     -- `commit` of a block whose header is not in BlockIndex (the client asks only for blocks of known headers)
  | notLinking   -- `commit`: HasAllParents is false (a block between this one and the active branch has no data yet; the client parks the block)
  | discarded    -- `commit` of a block whose node is no longer reachable from the root (the client: DiscardedBlocks)
  | detached     -- `block` (header and data at once) whose parent is a node that is no longer reachable from the root: NOT MODELLED
deriving Repr, Inhabited

def Outcome.name : Outcome → String
  | .ok => "ok" | .dup => "dup" | .later => "later" | .tooDeep => "toodeep"
  | .rejected e => "err:" ++ e.name | .moveFailed => "movefailed" | .panic s => s | .collision => "index-collision"
  | .noHeader => "noheader" | .notLinking => "notlinking" | .discarded => "discarded" | .detached => "detached"

/-- fuel for one delivery. Between two failures ParseTillBlock connects at most (tree depth) ≤ #nodes blocks, every
    failure deletes at least one node and costs three more calls, so `(#nodes+3)²` is enough
    (proved: Proofs/C06Reorg `reorg_specs` with Proofs/C06Deliver `fuelOf_enough`: never `panic:fuel` from this amount). -/
def fuelOf (c : Chain) : Nat := (c.nodes.length + 3) * (c.nodes.length + 3)

/-- `ch.CommitBlock(bl, cur)` -/
def commitBlock (c : Chain) (b : Block) (height : Nat) : Chain × Outcome :=
  let c := modNode c b.id fun n => { n with txCount := b.txs.length }
  if c.tip == b.parent then
    match commitTxs c.utxo height (reward height) false b.txs with
    | .error e =>
      let c1 := modNode c b.parent fun p => { p with childs := p.childs.filter (· != b.id) }
      ({ c1 with nodes := c1.nodes.filter (fun n => n.id != b.id) }, .rejected e)
    | .ok ch =>
      let c1 := { c with store := aset b.id { txs := b.txs, trusted := true } c.store }
      let c2 := commitBlockTxs c1 height true (b.txs.map (·.txid)) ch        -- LastKnownHeight = 0 in the harness
      ({ c2 with tip := b.id }, .ok)
  else
    let c1 := if (alookup b.id c.store).isSome then c else { c with store := aset b.id { txs := b.txs, trusted := false } c.store }
    match getNode c1 b.id, getNode c1 c1.tip with
    | some cur, some tipN =>
      if morePOW c1 cur tipN then
        match moveTo (fuelOf c1) c1 b.id with
        | .error s => (c1, .panic s)
        | .ok c2 => (c2, if c2.tip == b.id then .ok else .moveFailed)
      else (c1, .ok)
    | _, _ => (c1, .panic "panic:nil-node")

/-- the rest of a delivery once the parent node `p` and the tip node `t` have been found: the fork-depth rule of
    PreCheckBlock, AcceptHeader, CommitBlock -/
def deliverAt (c : Chain) (b : Block) (p t : Node) : Chain × Outcome :=
  let height := p.height + 1
  if p.id != t.id && t.height ≥ height + MovingCheckpointDepth then (c, .tooDeep) else
  -- AcceptHeader
  let n : Node := { id := b.id, parent := p.id, height := height, bits := b.bits, childs := [], txCount := 0 }
  let c1 := modNode c p.id fun q => { q with childs := q.childs ++ [b.id] }
  let c2 := { c1 with nodes := c1.nodes ++ [n] }
  commitBlock c2 b height

/-- `Chain.CheckBlock` (tree part) + `Chain.AcceptBlock`, blocks looked up by their WHOLE id (= hash). This is the
    definition the theorems are about; what the code does — look-ups by the 8-byte key followed by the comparison of
    the whole hash — is `deliverIdx` below, which the oracle runs and which equals `deliver` whenever no two blocks
    share an 8-byte key (`Proofs/C06Idx`). -/
def deliver (c : Chain) (b : Block) : Chain × Outcome :=
  if (getNode c b.id).isSome then (c, .dup) else
  match getNode c b.parent, getNode c c.tip with
  | none, _ => (c, .later)
  | _, none => (c, .panic "panic:nil-node")
  | some p, some t => deliverAt c b p t

/-- `Uint256.BIdx()` of an id: ids are whole block hashes read as 64 hex digits, first byte first; the key of
    `Chain.BlockIndex` is the first 8 bytes. -/
def bidx (id : Nat) : Nat := id / 2 ^ 192

/-- `ch.BlockIndex[BIdx(id)]`: the entry (if any) under the 8-byte key of `id` -/
def lookupIdx (c : Chain) (id : Nat) : Option Node := c.nodes.find? (fun n => bidx n.id == bidx id)

/-- the parent as PreCheckBlock / AcceptHeader obtain it since fix 533896f3: the entry under the 8-byte key of the
    header's previous-block field, kept only if its WHOLE hash is that field
    (`!ok || !bytes.Equal(prevblk.BlockHash.Hash[:], bl.ParentHash())`) -/
def parentIdx (c : Chain) (pid : Nat) : Option Node := (lookupIdx c pid).filter (fun p => p.id == pid)

/-- `Chain.CheckBlock` (tree part) + `Chain.AcceptBlock` AS THE CODE LOOKS BLOCKS UP: the "already in" test and the
    parent look-up go through the 8-byte `BlockIndex` key and then compare the whole hash (fix 533896f3). A block whose
    own key is taken by another block is refused (`collision`); a previous-block field that shares only its key with
    a known block is an unknown parent (`later`). -/
def deliverIdx (c : Chain) (b : Block) : Chain × Outcome :=
  match lookupIdx c b.id with
  | some n => if n.id == b.id then (c, .dup) else (c, .collision)
  | none =>
    match parentIdx c b.parent, getNode c c.tip with
    | none, _ => (c, .later)
    | _, none => (c, .panic "panic:nil-node")
    | some p, some t => deliverAt c b p t

-- ------------------------------------------------------------------------------------------ header-first delivery

/-- the entry of `BlockIndex` for `id` among the nodes that are no longer reachable from the root -/
def inLimbo (c : Chain) (id : Nat) : Option Node := c.limbo.find? (fun n => n.id == id)

/-- `ch.BlockIndex[id]` by whole id: the node and whether it is attached (reachable from the root) -/
def lookupAll (c : Chain) (id : Nat) : Option (Node × Bool) :=
  match getNode c id with
  | some n => some (n, true)
  | none => (inLimbo c id).map fun n => (n, false)

/-- `ch.OnActiveBranch(dst)`: walk down from the tip until `dst` is met (true) or its height is reached (false) -/
def onActive (c : Chain) (dst : Node) : Nat → Node → Except String Bool
  | 0, _ => throw "panic:fuel"
  | f + 1, top =>
    if dst.id == top.id then pure true
    else if dst.height ≥ top.height then pure false
    else do
      let p ← node! c top.parent
      onActive c dst f p

/-- `ch.HasAllParents(dst)`: climb from `dst`; true as soon as a parent is on the active branch, false as soon as a
    parent has no data (`TxCount == 0`). The client calls CommitBlock on a node only when this is true. -/
def hasAllParents (c : Chain) : Nat → Node → Except String Bool
  | 0, _ => throw "panic:fuel"
  | f + 1, dst => do
    let p ← node! c dst.parent
    let t ← node! c c.tip
    if ← onActive c p (t.height + 1) t then pure true
    else if p.txCount == 0 then pure false
    else hasAllParents c f p

/-- the tree part of PreCheckBlock (fork-depth rule) + AcceptHeader for a header ALONE, parent entry `p` found
    (`att`: `p` is reachable from the root): a node without data (`txCount = 0`, nothing stored) -/
def headerAt (c : Chain) (b : Block) (p t : Node) (att : Bool) : Chain × Outcome :=
  let height := p.height + 1
  if p.id != t.id && t.height ≥ height + MovingCheckpointDepth then (c, .tooDeep) else
  let n : Node := { id := b.id, parent := p.id, height := height, bits := b.bits, childs := [], txCount := 0 }
  if att then
    let c1 := modNode c p.id fun q => { q with childs := q.childs ++ [b.id] }
    ({ c1 with nodes := c1.nodes ++ [n] }, .ok)
  else
    ({ c with limbo := (c.limbo.map fun q => if q.id == p.id then { q with childs := q.childs ++ [b.id] } else q) ++ [n] }, .ok)

/-- **a header alone** (client/network ProcessNewHeader: PreCheckBlock + AcceptHeader on the 80 header bytes), blocks
    looked up by whole id. Known (attached or not) → `dup`; parent unknown → `later`; too deep → `tooDeep`; else a
    header-only node is linked under its parent — under a parent that is itself unreachable from the root it lands in
    `limbo`. Tip, unspent map, block store and undo files are untouched. -/
def header (c : Chain) (b : Block) : Chain × Outcome :=
  if (lookupAll c b.id).isSome then (c, .dup) else
  match lookupAll c b.parent, getNode c c.tip with
  | none, _ => (c, .later)
  | _, none => (c, .panic "panic:nil-node")
  | some (p, att), some t => headerAt c b p t att

/-- `BlockIndex[BIdx(id)]` over ALL entries (attached nodes first, then the unreachable ones), 8-byte key -/
def lookupAllIdx (c : Chain) (id : Nat) : Option (Node × Bool) :=
  match lookupIdx c id with
  | some n => some (n, true)
  | none => (c.limbo.find? (fun n => bidx n.id == bidx id)).map fun n => (n, false)

/-- `header` as the code looks blocks up (8-byte key, then the whole hash): what the oracle runs -/
def headerIdx (c : Chain) (b : Block) : Chain × Outcome :=
  match lookupAllIdx c b.id with
  | some (n, _) => if n.id == b.id then (c, .dup) else (c, .collision)
  | none =>
    match (lookupAllIdx c b.parent).filter (fun x => x.1.id == b.parent), getNode c c.tip with
    | none, _ => (c, .later)
    | _, none => (c, .panic "panic:nil-node")
    | some (p, att), some t => headerAt c b p t att

/-- bookkeeping after CommitBlock refused a block ON THE TIP whose node had (header-only) descendants `dead`: the code
    unlinks the block from its parent and deletes the block's own `BlockIndex` entry — the descendants stay in
    `BlockIndex` with a parent pointer into the unlinked node. They are moved from `nodes` to `limbo`. -/
def sweep (c : Chain) (dead : List Nat) : Chain :=
  { c with nodes := c.nodes.filter (fun m => !dead.contains m.id),
           limbo := c.limbo ++ c.nodes.filter (fun m => dead.contains m.id) }

/-- `CommitBlock(bl, cur)` on a node `n` that exists already, after the client's tests -/
def commitAt (c : Chain) (b : Block) (n : Node) : Chain × Outcome :=
  if n.txCount != 0 then (c, .dup) else
  match hasAllParents c (n.height + 1) n with
  | .error s => (c, .panic s)
  | .ok false => (c, .notLinking)
  | .ok true =>
    let below := (subtree c (c.nodes.length + 1) b.id).filter (· != b.id)
    let r := commitBlock c b n.height
    match r.2 with
    | .rejected _ => (sweep r.1 below, r.2)
    | _ => r

/-- **the block of a known header** (client/main HandleNetBlock + LocalAcceptBlock: the node was created by
    AcceptHeader earlier; CheckParentDiscarded, HasAllParents, then `CommitBlock(bl, node)`), blocks looked up by whole
    id. No node → `noHeader` (or `discarded` when the entry is unreachable from the root); the node has data already →
    `dup`; a parent without data → `notLinking`; otherwise CommitBlock: on the tip (connected, or refused and unlinked —
    its header-only descendants go to `limbo`), or stored aside / reorganised to. -/
def commitNode (c : Chain) (b : Block) : Chain × Outcome :=
  match getNode c b.id with
  | none => if (inLimbo c b.id).isSome then (c, .discarded) else (c, .noHeader)
  | some n => commitAt c b n

/-- `commitNode` through the 8-byte key: what the oracle runs -/
def commitNodeIdx (c : Chain) (b : Block) : Chain × Outcome :=
  match lookupAllIdx c b.id with
  | none => (c, .noHeader)
  | some (n, att) =>
    if n.id != b.id then (c, .noHeader)
    else if att then commitAt c b n else (c, .discarded)

/-- the three ways a block reaches the chain -/
inductive Op
  | header (b : Block)    -- the header alone
  | commit (b : Block)    -- the data of a block whose header is known
  | block (b : Block)     -- header and data at once: CheckBlock + AcceptBlock (tools/importblocks, the RPC path)
deriving Repr, Inhabited

def Op.blk : Op → Block
  | .header b | .commit b | .block b => b

/-- one operation, blocks looked up by whole id (the definition the header-first theorems are about). `block` for a
    block that sits in `limbo` is "already in"; `block` whose PARENT sits in `limbo` is outside the model (`detached`:
    the code links it below the unreachable node and compares work across the gap). -/
def step (c : Chain) : Op → Chain × Outcome
  | .header b => header c b
  | .commit b => commitNode c b
  | .block b =>
    if (inLimbo c b.id).isSome then (c, .dup)
    else if (getNode c b.id).isNone && (getNode c b.parent).isNone && (inLimbo c b.parent).isSome then (c, .detached)
    else deliver c b

/-- `step` as the code looks blocks up: what the oracle runs -/
def stepIdx (c : Chain) : Op → Chain × Outcome
  | .header b => headerIdx c b
  | .commit b => commitNodeIdx c b
  | .block b =>
    match lookupIdx c b.id with
    | some _ => deliverIdx c b
    | none =>
      match c.limbo.find? (fun n => bidx n.id == bidx b.id) with
      | some n => if n.id == b.id then (c, .dup) else (c, .collision)
      | none =>
        if (parentIdx c b.parent).isNone && ((c.limbo.find? (fun n => bidx n.id == bidx b.parent)).filter (fun p => p.id == b.parent)).isSome
        then (c, .detached) else deliverIdx c b

def init (rootId rootBits : Nat) : Chain :=
  { nodes := [{ id := rootId, parent := rootId, height := 0, bits := rootBits, childs := [], txCount := 0 }],
    root := rootId, tip := rootId, utxo := [], store := [], undoFiles := [], lastHeight := 0 }

/-- the active path, tip first -/
def activePath (c : Chain) : Nat → Nat → List Nat
  | 0, _ => []
  | f + 1, id => if id == c.root then [id] else
    match getNode c id with
    | none => [id]
    | some n => id :: activePath c f n.parent

end GocoinV.ChainTree
