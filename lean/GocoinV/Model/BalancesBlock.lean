/-
  Model.BalancesBlock — the BLOCK layer over Model.Balances: one `UnspentDB.CommitBlockTxs(changes, hash)` as
  `Chain.CommitBlock` (a block from the network: `changes.LastKnownHeight = bl.LastKnownHeight`, which the client sets to
  `network.LastCommitedHeader.Height`, the height of the best header it knows) and `Chain.ParseTillBlock` (a
  reorganisation: `LastKnownHeight = end.Height`) issue it, one `UnspentDB.UndoBlockTxs`, and the index's own events in
  between.

  A block connection carries, besides the records it removes / creates, WHERE THE NODE IS while it connects the block:
  the block's height and the height of the best known header. lib/chain + lib/utxo use that position for ONE thing — whether
  undo data is kept (`chain.commitTxs`: `if changes.Height+ch.Unspent.UnwindBufLen >= changes.LastKnownHeight
  { changes.UndoData = … }`, uint32 arithmetic; CommitBlockTxs writes the undo file only then). A block connected while the
  node is more than UnwindBufLen (2560) blocks behind the best known header cannot be disconnected again; every other
  effect — the change of the unspent set AND the calls of the index callbacks — is the same in every sync state.

  `connectBlock` says exactly that: the worker steps (`Ev.add` / `Ev.del`, in the order the schedule ran them) go through
  `Balances.step`, which runs the callback whenever it is installed (`s.on`). That nothing else decides about the calls
  is the generated source fact `Gen.UtxoNotifyFacts.notifyAddGuards / notifyDelGuards` (go/cmd/gen_c17/guards.go,
  regenerated from /repo/lib/utxo on every run; restated in Props.C17.callbacks_guarded_by_installation_only): through CommitBlockTxs the
  conditions guarding `CB.NotifyTxAdd(rec)` depend on `UnspentDB.CB.NotifyTxAdd` (installed?) and `BlockChanges.AddList`
  (the records), those guarding `CB.NotifyTxDel(rec, outs)` on `UnspentDB.CB.NotifyTxDel`, `BlockChanges.DeledTxs` and the
  stored record (`UnspentDB.HashMap`, compared with the txid) — not on Height, LastKnownHeight, UnwindBufLen, UndoData.
  Core-only.
-/
import GocoinV.Model.Balances
import GocoinV.Gen.UtxoNotifyFacts
namespace GocoinV.Model.BalancesBlock
open GocoinV GocoinV.Model.Balances

def U32 : Nat := 2 ^ 32

/-- `utxo.BlockChanges` as CommitBlockTxs receives it -/
structure BlockCh where
  /-- `changes.Height` -/
  height : Nat
  /-- `changes.LastKnownHeight`: the best header the node knows (CommitBlock: `bl.LastKnownHeight`; ParseTillBlock:
      `end.Height`); 0 when the caller does not use the feature -/
  lastKnown : Nat
  /-- commit's do_del / do_add worker steps in the order the schedule ran them (`Ev.del` / `Ev.add`) -/
  work : List Ev
deriving Repr

/-- `chain.commitTxs`: undo data is collected (and CommitBlockTxs writes undo/<height>) iff
    `changes.Height + UnwindBufLen >= changes.LastKnownHeight` (uint32) -/
def keepsUndo (unwind : Nat) (b : BlockCh) : Bool :=
  decide (b.lastKnown ≤ (b.height + unwind) % U32)

/-- the node is more than `unwind` blocks behind the best known header while it connects `b` ("syncing") -/
def farBehind (unwind : Nat) (b : BlockCh) : Bool := !keepsUndo unwind b

/-- `CommitBlockTxs(changes)` on the node state: the worker steps, each through `Balances.step` (HashMap updated, the index
    callback run when installed) — in every sync state -/
def connectBlock (H : Bytes → Nat) (s : State) (b : BlockCh) : State := run H s b.work

/-- block-level events of a node's life -/
inductive BEv where
  /-- Chain.CommitBlock / one block of Chain.ParseTillBlock -/
  | connect (b : BlockCh)
  /-- Chain.UndoLastBlock: UndoBlockTxs' `Ev.undoDel`s, then its `Ev.undoAdd`s -/
  | disconnect (work : List Ev)
  /-- enable / disable / reload: the index's own events (wallet on, wallet off, restart through the cache) -/
  | ctl (e : Ev)
deriving Repr

def BEv.evs : BEv → List Ev
  | .connect b => b.work
  | .disconnect w => w
  | .ctl e => [e]

def stepB (H : Bytes → Nat) (s : State) : BEv → State
  | .connect b => connectBlock H s b
  | .disconnect w => run H s w
  | .ctl e => step H s e

def runB (H : Bytes → Nat) (s : State) (h : List BEv) : State := h.foldl (stepB H) s

/-- the record-level change stream of a block-level history -/
def flat : List BEv → List Ev
  | [] => []
  | e :: rest => e.evs ++ flat rest

/-- the same block in another sync state -/
def BlockCh.inState (b : BlockCh) (height lastKnown : Nat) : BlockCh := { b with height := height, lastKnown := lastKnown }

end GocoinV.Model.BalancesBlock
