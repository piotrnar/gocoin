/-
  Model.NetParseLocks — a lock-set scan over the LOCK TRACES that go/cmd/gen_c18 regenerates from
  every function of the client/network files C18 anchors (Gen/NetFacts.lean `lockTraces`).

  A trace is the function body in source order reduced to: Lock / Unlock / deferred Unlock, block
  structure (if / else / for / switch+case / closure), the ways of leaving (return, break, continue,
  goto + label, panic) and every access to state shared between a connection's own thread and the
  threads that walk the connection list (inv bookkeeping, block downloads in progress, the peers database,
  the statistics map `counters` that the UI thread's GetStats ranges over), tagged with the lock that
  protects it.

  `scan` keeps the set of locks TAKEN IN THIS FUNCTION and reports
    * a return (or the end of the body) with such a lock still held and no deferred Unlock for it,
    * `break` / `continue` leaving a loop iteration with a different lock set than the loop was
      entered with (the shape `Lock; …; if full { continue }; …; Unlock`),
    * `goto` arriving at its label with a different lock set than the label is reached with otherwise,
    * a block that falls through to its end with a changed lock set (if without else, loop body),
    * Lock of a mutex the function already holds (self-deadlock), Unlock of one it does not hold,
    * an explicit `panic(...)` with such a lock held and no deferred Unlock for it (the unwinding runs the
      deferred Unlocks only; Run's recover swallows the panic and the mutex stays locked) - unless that very
      panic is listed in `panicUnreachable` with the theorem that proves it unreachable,
    * a call, made while a mutex is held (a deferred Unlock has not run yet), of a function of the traced
      files that locks that same mutex itself - through its receiver (`c.DoS()` with c.Mutex held) or a
      package-level mutex; one level deep (the callee's own trace, not what the callee calls in turn),
    * a shared access outside the span of its lock.
  The scan is path-insensitive and per function (beyond the one level above a callee's locks are not followed): functions that
  are called with a lock held by contract are listed in `callerHolds` with that lock.
  Core Lean only; evaluated by the kernel on the regenerated traces (`flagged_current` in Proofs/C18Locks.lean, behind
  Props.C18.lock_discipline_current).
-/
import GocoinV.Gen.NetFacts
namespace GocoinV.NetParse.Locks

abbrev Tok := Nat × String

structure Frame where
  kind : String
  entry : List String                        -- lock set when the block was entered
  ifRes : Option (Option (List String)) := none  -- else-block: lock set the if-branch fell through with (none: it left)

structure St where
  held : List String := []
  deferred : List String := []
  stack : List Frame := []
  gotos : List (String × List String) := []
  /-- an if-block was just closed: (lock set at its entry, lock set it fell through with / none if it left) -/
  pend : Option (List String × Option (List String)) := none
  lastLeaves : Bool := false     -- the previous token left the block (return / break / continue / goto / panic)
  bad : List String := []

def sameSet (a b : List String) : Bool := a.all (b.contains ·) && b.all (a.contains ·)

/-- equal lock sets, not counting locks with a deferred Unlock (those are released at the exit) -/
def St.same (s : St) (a b : List String) : Bool :=
  sameSet (a.filter (fun l => !s.deferred.contains l)) (b.filter (fun l => !s.deferred.contains l))

def St.complain (s : St) (m : String) : St := { s with bad := s.bad ++ [m] }

/-- lock set at entry of the nearest enclosing frame satisfying `p` (not looking out of a closure) -/
def entryOf (p : String → Bool) : List Frame → Option (List String)
  | [] => none
  | f :: fs => if p f.kind then some f.entry else if f.kind == "func" then none else entryOf p fs

def inFunc : List Frame → Bool
  | [] => false
  | f :: fs => f.kind == "func" || inFunc fs

def isLoop (k : String) : Bool := k == "for"
def isBreakable (k : String) : Bool := k == "for" || k == "switch"

/-- what must be free when control leaves the current function / closure -/
def exitCheck (s : St) (what : String) : St :=
  let left := s.held.filter (fun l => !s.deferred.contains l)
  if left.isEmpty then s
  else s.complain (what ++ (if inFunc s.stack then " (closure)" else "") ++ " with " ++ ", ".intercalate left ++ " held")

/-- an `if` without `else`: the branch must fall through with the lock set it was entered with -/
def resolve (s : St) : St :=
  match s.pend with
  | none => s
  | some (entry, r) =>
    let s1 := { s with pend := none, held := entry }
    match r with
    | none => s1
    | some h => if s.same h entry then s1 else s1.complain ("if block ends with a changed lock set: " ++ ", ".intercalate h ++ " held")

def step (s0 : St) (t : Tok) : St :=
  let s := if t.1 == 3 && t.2 == "else" then s0 else resolve s0
  let s' := { s with lastLeaves := false }
  match t.1 with
  | 0 => -- lock
    if s.held.contains t.2 then (s'.complain ("Lock of " ++ t.2 ++ " while it is held")) else { s' with held := t.2 :: s.held }
  | 1 => -- unlock
    if s.held.contains t.2 then { s' with held := s.held.erase t.2 } else s'.complain ("Unlock of " ++ t.2 ++ " which is not held")
  | 2 => { s' with deferred := t.2 :: s.deferred }
  | 3 => -- open
    if t.2 == "func" then { s' with stack := ⟨t.2, s.held, none⟩ :: s.stack, held := [] }
    else if t.2 == "else" then
      match s.pend with
      | some (entry, r) => { s' with pend := none, stack := ⟨t.2, entry, some r⟩ :: s.stack, held := entry }
      | none => s'.complain "else without if"
    else { s' with stack := ⟨t.2, s.held, none⟩ :: s.stack }
  | 4 => -- close
    match s.stack with
    | [] => s'.complain "unbalanced block"
    | f :: fs =>
      let here : Option (List String) := if s.lastLeaves then none else some s.held
      if f.kind == "func" then
        let s2 := if s.lastLeaves then s' else exitCheck s' "end of closure"
        { s2 with stack := fs, held := f.entry }
      else if f.kind == "if" then
        { s' with stack := fs, held := f.entry, pend := some (f.entry, here) }
      else if f.kind == "else" then
        match f.ifRes.getD none, here with
        | none, none => { s' with stack := fs, held := f.entry, lastLeaves := true }
        | some a, none => { s' with stack := fs, held := a }
        | none, some b => { s' with stack := fs, held := b }
        | some a, some b =>
          if s.same a b then { s' with stack := fs, held := a }
          else { (s'.complain "if and else end with different lock sets") with stack := fs, held := a }
      else if s.lastLeaves || s.same s.held f.entry then { s' with stack := fs, held := f.entry }
      else { (s'.complain (f.kind ++ " block ends with a changed lock set: " ++ ", ".intercalate s.held ++ " held")) with stack := fs, held := f.entry }
  | 5 => { (exitCheck s' "return") with lastLeaves := true }
  | 6 => -- break / continue
    let e := if t.2 == "continue" then entryOf isLoop s.stack else entryOf isBreakable s.stack
    match e with
    | none => { (s'.complain (t.2 ++ " outside a loop")) with lastLeaves := true }
    | some e =>
      if s.same s.held e then { s' with lastLeaves := true }
      else { (s'.complain (t.2 ++ " with a changed lock set: " ++ ", ".intercalate s.held ++ " held")) with lastLeaves := true }
  | 7 => { s' with gotos := (t.2, s.held) :: s.gotos, lastLeaves := true }
  | 8 => -- label
    let here := s.gotos.filter (·.1 == t.2)
    let rest := s.gotos.filter (·.1 != t.2)
    -- a label reached only by goto takes the lock set of the jumps
    let held := if s.lastLeaves then (match here with | g :: _ => g.2 | [] => s.held) else s.held
    let s2 := { s' with gotos := rest, held := held }
    if here.all (fun g => s.same g.2 held) then s2 else s2.complain ("goto " ++ t.2 ++ " arrives with a different lock set")
  | 9 => if s.held.contains t.2 then s' else s'.complain ("shared access without " ++ t.2)
  | 10 => -- case: every clause starts with the lock set of the switch
    match s.stack with
    | f :: _ =>
      if s.lastLeaves || s.same s.held f.entry then { s' with held := f.entry }
      else { (s'.complain "case falls out with a changed lock set") with held := f.entry }
    | [] => s'.complain "case outside switch"
  | 11 => -- explicit panic(...): the unwinding runs the deferred Unlocks; Run's recover swallows the panic, so
          -- a lock taken here without defer stays locked for ever
    { (exitCheck s' "panic") with lastLeaves := true }
  | 12 => -- call of a function (of the traced files) that locks t.2 itself: sync.Mutex is not re-entrant
    if s.held.contains t.2 then s'.complain ("call of a function that locks " ++ t.2 ++ " while it is held") else s'
  | _ => s'.complain "unknown token"

/-- functions that are called with a lock already held, by contract stated at the definition or
    visible at every call site: the scan starts with that lock and expects it back at the exit -/
def callerHolds : List (String × List String) := []

def scanFrom (init : List String) (ts : List Tok) : List String :=
  let s := resolve (ts.foldl step { held := init, deferred := init })
  let s := if s.lastLeaves then s else exitCheck s "end of function"
  let s := if s.stack.isEmpty then s else s.complain "unbalanced block at the end"
  if s.gotos.isEmpty then s.bad else s.bad ++ ["goto without label"]

def scan (fn : String) (ts : List Tok) : List String :=
  scanFrom ((callerHolds.lookup fn).getD []) ts

/-- explicit `panic(...)` statements standing between a Lock and its non-deferred Unlock that are PROVED
    unreachable: (function, lock, theorem of Props.C18 that proves it). Each entry removes ONE complaint
    "panic with <lock> held" of exactly that function - a second panic under the same lock, another lock
    or another function is still reported.
    * ProcessCmpctBlock (cblk.go `panic("Tx idx … is missing")` under txpool.TxMutex): every short id the
      second pass reads back was put into the map by the first loop.
    * FetchMessage (core.go `panic("ERROR: hdr_len > 24 …")` under c.Mutex): hdr_len grows by the count Read
      returned for the slice hdr[hdr_len:24], so it cannot pass 24 (assumption: the net.Conn.Read contract). -/
def panicUnreachable : List (String × String × String) :=
  [("OneConnection.ProcessCmpctBlock", "txpool.TxMutex", "GocoinV.Props.C18.cmpctblock_panic_unreachable"),
   ("OneConnection.FetchMessage", "c.Mutex", "GocoinV.Props.C18.fetch_hdrlen_panic_unreachable")]

/-- remove, for function `fn`, one complaint per matching entry of `panicUnreachable` -/
def dropProved (fn : String) (ms : List String) : List String :=
  panicUnreachable.foldl
    (fun ms w => if w.1 == fn then ms.erase ("panic with " ++ w.2.1 ++ " held") else ms) ms

/-- every complaint of the scan, nothing filtered, prefixed with the function -/
def complaintsRaw (trs : List (String × List Tok)) : List String :=
  trs.flatMap (fun p => (scan p.1 p.2).map (fun m => p.1 ++ ": " ++ m))

/-- all complaints over a list of traces except the proved-unreachable panics, prefixed with the function -/
def complaints (trs : List (String × List Tok)) : List String :=
  trs.flatMap (fun p => (dropProved p.1 (scan p.1 p.2)).map (fun m => p.1 ++ ": " ++ m))

/-- the shared access (`what` under `lock`, receiver spelled `c`) is made by `root` itself or by a function that
    `root` calls directly - whatever that (possibly unexported) function is called and whether it has been
    inlined into `root` or not -/
def accessVia (root what lock : String) : Bool :=
  Gen.NetFacts.sharedAccesses.contains (root, what, lock) ||
  Gen.NetFacts.callGraph.any (fun e => e.1 == root && Gen.NetFacts.sharedAccesses.contains (e.2, what, lock))

/-! ### the scan on the two shapes of ParseAddr's database-full path and of processGetData's InvStore -/

/-- `for { Lock; if full { goto unlock_db }; Put; unlock_db: Unlock }` — the current source -/
def shapeGoto : List Tok :=
  [(3, "for"), (0, "peersdb"), (3, "if"), (7, "unlock_db"), (4, "if"), (9, "peersdb"), (8, "unlock_db"), (1, "peersdb"), (4, "for")]
/-- the same with `continue` instead of the goto: the iteration is left with the lock held -/
def shapeContinue : List Tok :=
  [(3, "for"), (0, "peersdb"), (3, "if"), (6, "continue"), (4, "if"), (9, "peersdb"), (1, "peersdb"), (4, "for")]
/-- `Lock; InvStore; Unlock` and the same without the Lock / Unlock pair -/
def shapeStoreLocked : List Tok := [(3, "for"), (0, "c.Mutex"), (9, "c.Mutex"), (1, "c.Mutex"), (4, "for")]
def shapeStoreBare : List Tok := [(3, "for"), (9, "c.Mutex"), (4, "for")]
/-- `Lock; if err { return }; Unlock` (SendRawMsg before its fix) -/
def shapeReturnHeld : List Tok := [(0, "c.Mutex"), (3, "if"), (5, ""), (4, "if"), (1, "c.Mutex")]
/-- `Lock; if full { Unlock; c.DoS(); return }; Unlock` — SendRawMsg's overflow path in the current source
    (DoS locks c.Mutex itself) -/
def shapeCallUnlocked : List Tok :=
  [(0, "c.Mutex"), (3, "if"), (1, "c.Mutex"), (12, "c.Mutex"), (5, ""), (4, "if"), (1, "c.Mutex")]
/-- `Lock; defer Unlock; if full { c.DoS(); return }` — the same path after a "tidy-up" to a deferred
    Unlock: every exit is fine, but DoS waits for the mutex its caller holds -/
def shapeCallDeferred : List Tok :=
  [(0, "c.Mutex"), (2, "c.Mutex"), (3, "if"), (12, "c.Mutex"), (5, ""), (4, "if")]

/-! ### the statistics map `counters` (GetStats ranges over it under c.Mutex; a count outside the mutex is a
    fatal "concurrent map iteration and map write" of the Go runtime). A call of a counter helper
    (`Gen.NetFacts.counterHelpers`: cntInc / cntAdd, which write the map with no lock of their own) and every
    mention of the field is a token 9 needing the connection's mutex. -/

/-- ProcessBlockTxn's trace as gen_c18 produced it from the source BEFORE /repo fix 6fde6594 (regenerated from
    that commit's parent, verbatim): `Lock; if bip == nil { Unlock; cntInc; Misbehave; return }` twice -/
def oldProcessBlockTxn : List Tok :=
  [(3, "if"), (12, "c.Mutex"), (5, ""), (4, "if"), (3, "if"), (12, "c.Mutex"), (5, ""), (4, "if"), (0, "MutexRcv"), (2, "MutexRcv"), (0, "c.Mutex"), (3, "if"), (1, "c.Mutex"), (9, "c.Mutex"), (12, "c.Mutex"), (5, ""), (4, "if"), (3, "if"), (1, "c.Mutex"), (9, "c.Mutex"), (12, "c.Mutex"), (5, ""), (4, "if"), (9, "c.Mutex"), (1, "c.Mutex"), (3, "if"), (5, ""), (4, "if"), (3, "if"), (5, ""), (4, "if"), (3, "if"), (4, "if"), (3, "for"), (3, "if"), (12, "c.Mutex"), (5, ""), (4, "if"), (3, "if"), (4, "if"), (3, "else"), (5, ""), (4, "else"), (4, "for"), (3, "for"), (3, "if"), (12, "c.Mutex"), (5, ""), (4, "if"), (4, "for"), (3, "if"), (3, "if"), (3, "if"), (4, "if"), (4, "if"), (3, "else"), (4, "else"), (5, ""), (4, "if"), (0, "c.Mutex"), (9, "c.Mutex"), (1, "c.Mutex"), (3, "if"), (4, "if")]
/-- SendGetMP's trace before that fix: `TxMutex.Lock; if full { TxMutex.Unlock; cntInc; return }` - no c.Mutex at all -/
def oldSendGetMP : List Tok :=
  [(3, "if"), (5, ""), (4, "if"), (0, "txpool.TxMutex"), (3, "if"), (1, "txpool.TxMutex"), (9, "c.Mutex"), (5, ""), (4, "if"), (3, "if"), (4, "if"), (3, "for"), (3, "if"), (6, "break"), (4, "if"), (4, "for"), (3, "for"), (3, "if"), (6, "break"), (4, "if"), (4, "for"), (1, "txpool.TxMutex"), (12, "c.Mutex"), (5, "")]
/-- `Lock; if bip == nil { cntInc; Unlock; Misbehave; return }; …; Unlock` — the repaired shape (count, then Unlock) -/
def shapeCountThenUnlock : List Tok :=
  [(0, "c.Mutex"), (3, "if"), (9, "c.Mutex"), (1, "c.Mutex"), (12, "c.Mutex"), (5, ""), (4, "if"), (1, "c.Mutex")]
/-- `TxMutex.Lock; if full { TxMutex.Unlock; cntLockInc; return }` — the repaired SendGetMP: the locking variant is a
    call of a function that takes c.Mutex itself (token 12), fine while c.Mutex is not held -/
def shapeCountLocking : List Tok :=
  [(0, "txpool.TxMutex"), (3, "if"), (1, "txpool.TxMutex"), (12, "c.Mutex"), (5, ""), (4, "if"), (1, "txpool.TxMutex")]
/-- the locking variant called with c.Mutex held: self-deadlock -/
def shapeCountLockingHeld : List Tok := [(0, "c.Mutex"), (12, "c.Mutex"), (1, "c.Mutex")]

/-- `Lock; if missing { panic(…) }; Unlock` — ProcessCmpctBlock's second pass: the lock stays held -/
def shapePanicHeld : List Tok := [(0, "TxMutex"), (3, "if"), (11, ""), (4, "if"), (1, "TxMutex")]
/-- `Lock; defer Unlock; if missing { panic(…) }` — the unwinding releases the lock -/
def shapePanicDeferred : List Tok := [(0, "TxMutex"), (2, "TxMutex"), (3, "if"), (11, ""), (4, "if")]

end GocoinV.NetParse.Locks
