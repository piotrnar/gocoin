/-
  Base.Assoc — association lists as Go maps are modelled throughout: first match wins on look-up, an
  assignment replaces in place or appends, a deletion filters. Each model file spells these out for itself
  (`aGet`/`aSet`/`aDel`, `AL.get`/…, `ilookup`/`iset`, `alookup`/`aset`, `AList.get?`, `aget`/`adel`, …);
  `lookup_unique` / `insert_unique` / `filter_unique` identify any function with the same two equations with
  the one here, so the facts are proved once. Core-only.
-/
namespace GocoinV.Assoc
universe u v w
variable {κ : Type u} {ν : Type v} [DecidableEq κ]

def lookup : List (κ × ν) → κ → Option ν
  | [], _ => none
  | (k', v) :: r, k => if k' = k then some v else lookup r k

/-- `m[k] = v`: replaces in place, else appends -/
def insert : List (κ × ν) → κ → ν → List (κ × ν)
  | [], k, v => [(k, v)]
  | (k', v') :: r, k, v => if k' = k then (k, v) :: r else (k', v') :: insert r k v

theorem lookup_unique (g : List (κ × ν) → κ → Option ν) (h0 : ∀ k, g [] k = none)
    (h1 : ∀ k' v r k, g ((k', v) :: r) k = if k' = k then some v else g r k) (l : List (κ × ν)) (k : κ) :
    g l k = lookup l k := by
  induction l with
  | nil => exact h0 k
  | cons p r ih => rw [h1, ih]; rfl

theorem insert_unique (g : List (κ × ν) → κ → ν → List (κ × ν)) (h0 : ∀ k v, g [] k v = [(k, v)])
    (h1 : ∀ k' v' r k v, g ((k', v') :: r) k v = if k' = k then (k, v) :: r else (k', v') :: g r k v)
    (l : List (κ × ν)) (k : κ) (v : ν) : g l k v = insert l k v := by
  induction l with
  | nil => exact h0 k v
  | cons p r ih => rw [h1, ih]; rfl

theorem filter_unique (g : List (κ × ν) → κ → List (κ × ν)) (h0 : ∀ k, g [] k = [])
    (h1 : ∀ k' v r k, g ((k', v) :: r) k = if k' = k then g r k else (k', v) :: g r k)
    (l : List (κ × ν)) (k : κ) : g l k = l.filter (fun p => p.1 ≠ k) := by
  induction l with
  | nil => exact h0 k
  | cons p r ih =>
    rw [h1, ih, List.filter_cons]
    by_cases h : p.1 = k <;> simp [h]

theorem lookup_cons (p : κ × ν) (r : List (κ × ν)) (k : κ) :
    lookup (p :: r) k = if p.1 = k then some p.2 else lookup r k := rfl

theorem lookup_eq_none_iff (l : List (κ × ν)) (k : κ) : lookup l k = none ↔ k ∉ l.map Prod.fst := by
  induction l with
  | nil => simp [lookup]
  | cons p r ih =>
    rw [lookup_cons]
    by_cases h : p.1 = k
    · simp [h]
    · simp [h, ih, Ne.symm h]

theorem mem_of_lookup {l : List (κ × ν)} {k : κ} {v : ν} (h : lookup l k = some v) : (k, v) ∈ l := by
  induction l with
  | nil => simp [lookup] at h
  | cons p r ih =>
    rw [lookup_cons] at h
    by_cases hk : p.1 = k
    · simp only [hk, ↓reduceIte, Option.some.injEq] at h
      exact List.mem_cons.mpr (Or.inl (Prod.ext hk.symm h.symm))
    · simp only [hk, ↓reduceIte] at h
      exact List.mem_cons_of_mem _ (ih h)

theorem lookup_of_mem_nodup {l : List (κ × ν)} {k : κ} {v : ν} (hn : (l.map Prod.fst).Nodup)
    (hm : (k, v) ∈ l) : lookup l k = some v := by
  induction l with
  | nil => simp at hm
  | cons p r ih =>
    rw [List.map_cons, List.nodup_cons] at hn
    rw [lookup_cons]
    rcases List.mem_cons.mp hm with rfl | hm
    · simp
    · have : p.1 ≠ k := fun e => hn.1 (e ▸ List.mem_map.mpr ⟨(k, v), hm, rfl⟩)
      simp only [this, ↓reduceIte]
      exact ih hn.2 hm

theorem lookup_append (l1 l2 : List (κ × ν)) (k : κ) :
    lookup (l1 ++ l2) k = match lookup l1 k with | some v => some v | none => lookup l2 k := by
  induction l1 with
  | nil => rfl
  | cons p r ih =>
    rw [List.cons_append, lookup_cons, lookup_cons, ih]
    split <;> rfl

theorem lookup_map {μ : Type w} (f : κ → ν → μ) (l : List (κ × ν)) (k : κ) :
    lookup (l.map fun p => (p.1, f p.1 p.2)) k = (lookup l k).map (f k) := by
  induction l with
  | nil => rfl
  | cons p r ih =>
    rw [List.map_cons, lookup_cons, lookup_cons, ih]
    by_cases h : p.1 = k <;> simp [h]

/-- a deletion, or any other selection by key -/
theorem lookup_filter (q : κ → Bool) (l : List (κ × ν)) (k : κ) :
    lookup (l.filter fun p => q p.1) k = if q k then lookup l k else none := by
  induction l with
  | nil => simp [lookup]
  | cons p r ih =>
    rw [List.filter_cons]
    by_cases hq : q p.1 = true
    · simp only [hq, ↓reduceIte, lookup_cons, ih]
      by_cases h : p.1 = k
      · subst h; simp [hq]
      · simp [h]
    · simp only [hq, Bool.false_eq_true, ↓reduceIte, ih, lookup_cons]
      by_cases h : p.1 = k
      · subst h; simp [hq]
      · simp [h]

theorem lookup_erase (l : List (κ × ν)) (k k' : κ) :
    lookup (l.filter fun p => p.1 ≠ k) k' = if k = k' then none else lookup l k' := by
  rw [lookup_filter (fun x => decide (x ≠ k))]
  by_cases h : k = k' <;> simp [h, Ne.symm]

theorem lookup_insert (l : List (κ × ν)) (k k' : κ) (v : ν) :
    lookup (insert l k v) k' = if k = k' then some v else lookup l k' := by
  induction l with
  | nil => simp [insert, lookup]
  | cons p r ih =>
    rw [insert]
    by_cases h : p.1 = k
    · simp only [h, ↓reduceIte, lookup_cons]
      by_cases h' : k = k' <;> simp [h']
    · simp only [h, ↓reduceIte, lookup_cons, ih]
      by_cases h' : k = k'
      · simp [h', h' ▸ h]
      · simp [h']

theorem keys_insert (l : List (κ × ν)) (k : κ) (v : ν) :
    (insert l k v).map Prod.fst = if k ∈ l.map Prod.fst then l.map Prod.fst else l.map Prod.fst ++ [k] := by
  induction l with
  | nil => simp [insert]
  | cons p r ih =>
    rw [insert]
    by_cases h : p.1 = k
    · subst h; simp
    · simp only [h, ↓reduceIte, List.map_cons, ih, List.mem_cons, Ne.symm h, false_or]
      split <;> simp

theorem nodup_insert {l : List (κ × ν)} (k : κ) (v : ν) (h : (l.map Prod.fst).Nodup) :
    ((insert l k v).map Prod.fst).Nodup := by
  rw [keys_insert]
  split
  · exact h
  · rename_i hk
    exact List.nodup_append.mpr ⟨h, List.nodup_cons.mpr ⟨List.not_mem_nil, List.nodup_nil⟩,
      fun x hx y hy => by rw [List.mem_singleton.mp hy]; exact fun e => hk (e ▸ hx)⟩

theorem mem_insert {l : List (κ × ν)} {k : κ} {v : ν} {x : κ × ν} (h : x ∈ insert l k v) :
    x ∈ l ∨ x = (k, v) := by
  induction l with
  | nil => exact Or.inr (List.mem_singleton.mp h)
  | cons p r ih =>
    rw [insert] at h
    split at h
    · rcases List.mem_cons.mp h with e | hr
      · exact Or.inr e
      · exact Or.inl (List.mem_cons_of_mem _ hr)
    · rcases List.mem_cons.mp h with e | hr
      · exact Or.inl (e ▸ List.mem_cons_self ..)
      · exact (ih hr).imp_left (List.mem_cons_of_mem _)

theorem insert_of_lookup {l : List (κ × ν)} {k : κ} {v : ν} (h : lookup l k = some v) : insert l k v = l := by
  induction l with
  | nil => simp [lookup] at h
  | cons p r ih =>
    rw [lookup_cons] at h
    rw [insert]
    by_cases hk : p.1 = k
    · simp only [hk, ↓reduceIte, Option.some.injEq] at h ⊢
      rw [← hk, ← h]
    · simp only [hk, ↓reduceIte] at h ⊢
      rw [ih h]

theorem insert_of_not_mem {l : List (κ × ν)} {k : κ} (v : ν) (h : k ∉ l.map Prod.fst) :
    insert l k v = l ++ [(k, v)] := by
  induction l with
  | nil => rfl
  | cons p r ih =>
    rw [List.map_cons, List.mem_cons, not_or] at h
    rw [insert, if_neg (Ne.symm h.1), ih h.2, List.cons_append]

end GocoinV.Assoc
