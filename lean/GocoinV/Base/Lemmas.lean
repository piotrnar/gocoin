/-
  Base.Lemmas — facts about `if`, lists, folds, remainders and the `Except` bind that several clusters need and core Lean does
  not state in this form. Core-only, imports nothing.
-/
namespace GocoinV
universe u v

/-- case analysis on an `if` without `split` (which re-simplifies the whole goal: slow when it carries a large record) -/
theorem ite_cases {α : Sort u} {P : α → Prop} {c : Prop} [Decidable c] {x y : α} (hx : c → P x) (hy : ¬ c → P y) :
    P (if c then x else y) := by
  by_cases h : c
  · rw [if_pos h]; exact hx h
  · rw [if_neg h]; exact hy h

theorem foldl_inv {σ : Type u} {α : Type v} (P : σ → Prop) (f : σ → α → σ) (hf : ∀ s a, P s → P (f s a))
    (l : List α) (s : σ) (hs : P s) : P (l.foldl f s) :=
  List.foldlRecOn l f hs fun b hb a _ => hf b a hb

/-- a step of an `Except` computation that ends well went well -/
theorem bind_ok {ε : Type u} {α β : Type v} {x : Except ε α} {f : α → Except ε β} {b : β} (h : x >>= f = .ok b) :
    ∃ a, x = .ok a ∧ f a = .ok b := by
  cases x with
  | error e => cases h
  | ok a => exact ⟨a, rfl, h⟩

theorem find?_congr {α : Type u} {p q : α → Bool} {l : List α} (h : ∀ x ∈ l, p x = q x) : l.find? p = l.find? q := by
  induction l with
  | nil => rfl
  | cons a r ih =>
    simp only [List.find?_cons, h a List.mem_cons_self]
    rw [ih fun x hx => h x (List.mem_cons_of_mem _ hx)]

theorem split3 {α : Type u} (s : List α) (a b : Nat) : s = s.take a ++ ((s.drop a).take b ++ s.drop (a + b)) := by
  rw [← List.drop_drop, List.take_append_drop, List.take_append_drop]

theorem drop_add_cons {α : Type u} (c : α) (t : List α) (a k : Nat) (h : a = k + 1) : List.drop a (c :: t) = t.drop k := by
  subst h; rfl

theorem mod_ne (a x n : Nat) (h1 : a < x) (h2 : x - a < n) : a % n ≠ x % n := by
  intro h
  have h3 := Nat.sub_mod_eq_zero_of_mod_eq h.symm
  rw [Nat.mod_eq_of_lt h2] at h3
  omega

end GocoinV
