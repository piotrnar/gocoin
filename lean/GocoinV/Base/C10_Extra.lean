/-
  Base.C10_Extra — length tests that stop early, and the CompactSize readers written with them for the compiler.
  Core-only.
    * `shorter l n`  : `l.length < n` without walking the whole list (decoders test this once per field;
                       `List.length` on the rest of a megabyte record made the oracle quadratic)
    * `vuleF/vlenF`  : `CompactSize.vule/vlen` with the same trick, proved equal and installed for the
                       compiler with `@[csimp]` (the definitions the theorems talk about stay `vule/vlen`)
-/
import GocoinV.Base.Bytes
namespace GocoinV

/-- `l.length < n`, looking at no more than `n` cells -/
def shorter {α : Type} : List α → Nat → Bool
  | _, 0 => false
  | [], _ + 1 => true
  | _ :: t, n + 1 => shorter t n

theorem shorter_iff {α : Type} (l : List α) (n : Nat) : shorter l n = true ↔ l.length < n := by
  induction l generalizing n with
  | nil => cases n <;> simp [shorter]
  | cons h t ih => cases n <;> simp [shorter, ih]

theorem shorter_false_iff {α : Type} (l : List α) (n : Nat) : shorter l n = false ↔ n ≤ l.length := by
  have := shorter_iff l n
  cases h : shorter l n <;> simp_all <;> omega

namespace CompactSize

def vuleF (b : Bytes) : Nat × Nat :=
  match b with
  | [] => (0, 0)
  | h :: t =>
    if h = 0xfd then (if !shorter t 2 then (leVal (t.take 2), 3) else (0, 0))
    else if h = 0xfe then (if !shorter t 4 then (leVal (t.take 4), 5) else (0, 0))
    else if h = 0xff then (if !shorter t 8 then (leVal (t.take 8), 9) else (0, 0))
    else (h.toNat, 1)

def vlenF (b : Bytes) : Int × Nat :=
  let (v, s) := vuleF b
  (toInt64 v, s)

theorem vule_eq_vuleF (b : Bytes) : vule b = vuleF b := by
  cases b with
  | nil => rfl
  | cons h t =>
    have e : ∀ n, (!shorter t n) = decide (t.length ≥ n) := by
      intro n
      cases hs : shorter t n
      · have := (shorter_false_iff t n).mp hs; simp; omega
      · have := (shorter_iff t n).mp hs; simp; omega
    simp only [vule, vuleF, e, decide_eq_true_eq]

@[csimp] theorem vule_csimp : @vule = @vuleF := by
  funext b; exact vule_eq_vuleF b

@[csimp] theorem vlen_csimp : @vlen = @vlenF := by
  funext b; simp [vlen, vlenF, vule_eq_vuleF]

end CompactSize
end GocoinV
