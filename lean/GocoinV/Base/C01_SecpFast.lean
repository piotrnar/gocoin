/-
  Base.C01_SecpFast — Jacobian-coordinate scalar multiplication on secp256k1 for the C01 oracle's
  independent taproot tweak reference (Base/Secp.lean's affine `mul` needs one field inversion per
  step, ≈ 40 ms per multiplication natively; this one needs a single inversion). Core-only.
  That it computes `Secp.mul` is proved in Proofs/C03Jac.lean (`mul_eq_jac`); `oracle_c01 selftest` also
  cross-checks the two.
-/
import GocoinV.Base.Secp
namespace GocoinV.SecpFast
open GocoinV.Secp

/-- (X, Y, Z) with Z = 0 for the point at infinity; affine (X/Z², Y/Z³) -/
abbrev J := Nat × Nat × Nat

def inf : J := (1, 1, 0)

def dbl (P : J) : J :=
  let (x, y, z) := P
  if z == 0 || y == 0 then inf else
  let yy := y * y % p
  let s := 4 * x % p * yy % p
  let m := 3 * (x * x % p) % p
  let x3 := subMod (m * m % p) (2 * s % p) p
  let y3 := subMod (m * subMod s x3 p % p) (8 * (yy * yy % p) % p) p
  let z3 := 2 * y % p * z % p
  (x3, y3, z3)

def add (P Q : J) : J :=
  let (x1, y1, z1) := P
  let (x2, y2, z2) := Q
  if z1 == 0 then Q else if z2 == 0 then P else
  let z1z1 := z1 * z1 % p
  let z2z2 := z2 * z2 % p
  let u1 := x1 * z2z2 % p
  let u2 := x2 * z1z1 % p
  let s1 := y1 * z2 % p * z2z2 % p
  let s2 := y2 * z1 % p * z1z1 % p
  if u1 == u2 then (if s1 == s2 then dbl P else inf) else
  let h := subMod u2 u1 p
  let r := subMod s2 s1 p
  let hh := h * h % p
  let hhh := hh * h % p
  let v := u1 * hh % p
  let x3 := subMod (subMod (r * r % p) hhh p) (2 * v % p) p
  let y3 := subMod (r * subMod v x3 p % p) (s1 * hhh % p) p
  let z3 := h * z1 % p * z2 % p
  (x3, y3, z3)

def ofAffine : Point → J
  | none => inf
  | some (x, y) => (x, y, 1)

def toAffine (P : J) : Point :=
  let (x, y, z) := P
  if z == 0 then none else
  let zi := invMod z p
  let zi2 := zi * zi % p
  some (x * zi2 % p, y * (zi2 * zi % p) % p)

def mulAux (P : J) : Nat → Nat → J → J
  | 0, _, acc => acc
  | i+1, k, acc =>
    let acc := dbl acc
    mulAux P i k (if k.testBit i then add acc P else acc)

/-- k·P -/
def mul (k : Nat) (P : Point) : J := mulAux (ofAffine P) (k.log2 + 1) k inf

/-- P + k·G in affine coordinates -/
def addMulG (P : Point) (k : Nat) : Point := toAffine (add (ofAffine P) (mul k G))

end GocoinV.SecpFast
