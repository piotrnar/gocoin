/-
  Base.Bytes — little/big endian integers over byte lists and the CompactSize
  codecs of lib/btc/funcs.go (PutULe / VULe / VLen / VLenSize). Core-only.
  Values are `Nat`; Go's fixed-width wrap-around is made explicit by the caller.
-/
import GocoinV.Base.Hex
namespace GocoinV

/-- little-endian bytes of `n`, exactly `k` bytes (truncating like Go's PutUintNN). -/
def leBytes : Nat → Nat → Bytes
  | 0, _ => []
  | k+1, n => UInt8.ofNat (n % 256) :: leBytes k (n / 256)

/-- little-endian value of a byte list -/
def leVal : Bytes → Nat
  | [] => 0
  | b :: bs => b.toNat + 256 * leVal bs

def beBytes (k n : Nat) : Bytes := (leBytes k n).reverse
def beVal (bs : Bytes) : Nat := leVal bs.reverse

@[simp] theorem leBytes_length (k n : Nat) : (leBytes k n).length = k := by
  induction k generalizing n with
  | zero => rfl
  | succ k ih => simp [leBytes, ih]

theorem leVal_lt (bs : Bytes) : leVal bs < 256 ^ bs.length := by
  induction bs with
  | nil => simp [leVal]
  | cons b bs ih =>
    simp only [leVal, List.length_cons, Nat.pow_succ]
    have := b.toNat_lt
    omega

theorem leVal_leBytes (k n : Nat) : leVal (leBytes k n) = n % 256 ^ k := by
  induction k generalizing n with
  | zero => simp [leBytes, leVal, Nat.mod_one]
  | succ k ih =>
    simp only [leBytes, leVal, ih, Nat.pow_succ]
    have h : (UInt8.ofNat (n % 256)).toNat = n % 256 := by
      simp [UInt8.toNat_ofNat']
    rw [h, Nat.mul_comm (256 ^ k) 256, Nat.mod_mul]

theorem leBytes_leVal (bs : Bytes) : leBytes bs.length (leVal bs) = bs := by
  induction bs with
  | nil => rfl
  | cons b bs ih =>
    have hb := b.toNat_lt
    simp only [List.length_cons, leBytes, leVal]
    have h1 : (b.toNat + 256 * leVal bs) % 256 = b.toNat := by omega
    have h2 : (b.toNat + 256 * leVal bs) / 256 = leVal bs := by omega
    rw [h1, h2, ih]
    simp

theorem leVal_append (a b : Bytes) : leVal (a ++ b) = leVal a + 256 ^ a.length * leVal b := by
  induction a with
  | nil => simp [leVal]
  | cons x t ih =>
    simp only [List.cons_append, leVal, ih, List.length_cons, Nat.pow_succ]
    rw [Nat.mul_add, Nat.add_assoc]
    congr 1
    rw [← Nat.mul_assoc, Nat.mul_comm 256 (256 ^ t.length)]

theorem beVal_cons (b : UInt8) (l : Bytes) : beVal (b :: l) = b.toNat * 256 ^ l.length + beVal l := by
  unfold beVal
  rw [List.reverse_cons, leVal_append]
  simp only [leVal, List.length_reverse, Nat.mul_zero, Nat.add_zero]
  rw [Nat.mul_comm]; omega

theorem beVal_lt (bs : Bytes) : beVal bs < 256 ^ bs.length := by
  unfold beVal
  have := leVal_lt bs.reverse
  rwa [List.length_reverse] at this

theorem beBytes_beVal (bs : Bytes) : beBytes bs.length (beVal bs) = bs := by
  unfold beBytes beVal
  have := leBytes_leVal bs.reverse
  rw [List.length_reverse] at this
  rw [this, List.reverse_reverse]

theorem leVal_leBytes_of_lt (k n : Nat) (h : n < 256 ^ k) : leVal (leBytes k n) = n := by
  rw [leVal_leBytes]; exact Nat.mod_eq_of_lt h

theorem leVal_take_lt (b : Bytes) (n : Nat) : leVal (b.take n) < 256 ^ n :=
  Nat.lt_of_lt_of_le (leVal_lt _) (Nat.pow_le_pow_right (by decide) (List.length_take_le n b))

theorem beBytes_length (k n : Nat) : (beBytes k n).length = k := by
  unfold beBytes; simp

theorem beVal_beBytes_of_lt (k n : Nat) (h : n < 256 ^ k) : beVal (beBytes k n) = n := by
  unfold beVal beBytes
  rw [List.reverse_reverse, leVal_leBytes_of_lt k n h]

theorem beVal_dropWhile_zero (l : Bytes) : beVal (l.dropWhile (· == 0)) = beVal l := by
  induction l with
  | nil => rfl
  | cons b l ih =>
    by_cases hb : b = 0
    · subst hb
      simp only [List.dropWhile_cons, beq_self_eq_true, ↓reduceIte]
      rw [ih, beVal_cons]; simp
    · have : (b == 0) = false := by simp [hb]
      simp [this]

theorem ofNat_toNat_small (k : Nat) (h : k < 256) : (UInt8.ofNat k).toNat = k :=
  UInt8.toNat_ofNat_of_lt' h

/-- a fact about one byte holds if it holds of each of the 256 bytes (checked by enumeration in the kernel where used) -/
theorem u8_forall {P : UInt8 → Prop} (h : ∀ n : Fin 256, P (UInt8.ofNat n.val)) (l : UInt8) : P l := by
  have := h ⟨l.toNat, l.toNat_lt⟩
  rwa [UInt8.ofNat_toNat] at this

/-- Go slice `b[a:c]` on a list; `none` = slice-bounds panic. -/
def slice? (b : Bytes) (a c : Nat) : Option Bytes :=
  if a ≤ c ∧ c ≤ b.length then some ((b.drop a).take (c - a)) else none

namespace CompactSize

/-- `btc.PutULe`: canonical CompactSize of a uint64 value (`n < 2^64`). -/
def putULe (n : Nat) : Bytes :=
  if n < 0xfd then [UInt8.ofNat n]
  else if n < 0x10000 then 0xfd :: leBytes 2 n
  else if n < 0x100000000 then 0xfe :: leBytes 4 n
  else 0xff :: leBytes 8 n

/-- `btc.VLenSize` -/
def vlenSize (n : Nat) : Nat :=
  if n < 0xfd then 1 else if n < 0x10000 then 3 else if n < 0x100000000 then 5 else 9

/-- `btc.VULe`: (value, size); (0,0) when the buffer is too short. Accepts non-minimal forms
    exactly as the Go code does. -/
def vule (b : Bytes) : Nat × Nat :=
  match b with
  | [] => (0, 0)
  | h :: t =>
    if h = 0xfd then (if t.length ≥ 2 then (leVal (t.take 2), 3) else (0, 0))
    else if h = 0xfe then (if t.length ≥ 4 then (leVal (t.take 4), 5) else (0, 0))
    else if h = 0xff then (if t.length ≥ 8 then (leVal (t.take 8), 9) else (0, 0))
    else (h.toNat, 1)

/-- two's-complement reinterpretation of a uint64 as Go `int` -/
def toInt64 (n : Nat) : Int :=
  if n % 2^64 < 2^63 then (n % 2^64 : Nat) else ((n % 2^64 : Nat) : Int) - 2^64

/-- `btc.VLen`: as `vule` but the value is a Go `int` (negative for 9-byte counts ≥ 2^63). -/
def vlen (b : Bytes) : Int × Nat :=
  let (v, s) := vule b
  (toInt64 v, s)

theorem putULe_length (n : Nat) : (putULe n).length = vlenSize n := by
  unfold putULe vlenSize
  repeat' split
  all_goals simp

theorem vlenSize_pos (n : Nat) : 0 < vlenSize n := by
  unfold vlenSize; repeat' split
  all_goals omega

theorem putULe_length_pos (n : Nat) : 0 < (putULe n).length := by
  rw [putULe_length]; exact vlenSize_pos n

theorem drop_putULe (n : Nat) (rest : Bytes) : (putULe n ++ rest).drop (vlenSize n) = rest := by
  rw [← putULe_length]; simp

/-- a value of 0xfd or more is written as a marker byte and `w` = 2, 4 or 8 little-endian bytes, `w` being what
    `ReadVLen` computes from the marker -/
theorem putULe_wide (n : Nat) (h1 : ¬ n < 0xfd) (h : n < 2 ^ 64) :
    ∃ (m : UInt8) (w : Nat), putULe n = m :: leBytes w n ∧ ¬ m.toNat < 0xfd ∧ 2 <<< (2 - (0xff - m.toNat)) = w ∧ n < 256 ^ w := by
  unfold putULe
  by_cases h2 : n < 0x10000
  · exact ⟨0xfd, 2, by simp only [h1, h2, ↓reduceIte], by decide, by decide, by omega⟩
  · by_cases h3 : n < 0x100000000
    · exact ⟨0xfe, 4, by simp only [h1, h2, h3, ↓reduceIte], by decide, by decide, by omega⟩
    · exact ⟨0xff, 8, by simp only [h1, h2, h3, ↓reduceIte], by decide, by decide, by omega⟩

/-- `VULe` with the width computed from the marker as `ReadVLen` does: one byte below 0xfd, else 2, 4 or 8 more -/
theorem vule_cons (m : UInt8) (t : Bytes) :
    vule (m :: t) = if m.toNat < 0xfd then (m.toNat, 1)
      else if t.length ≥ 2 <<< (2 - (0xff - m.toNat)) then
        (leVal (t.take (2 <<< (2 - (0xff - m.toNat)))), 2 <<< (2 - (0xff - m.toNat)) + 1) else (0, 0) := by
  by_cases h1 : m = 0xfd
  · subst h1; rfl
  · by_cases h2 : m = 0xfe
    · subst h2; rfl
    · by_cases h3 : m = 0xff
      · subst h3; rfl
      · have hlt : m.toNat < 0xfd := by
          have := m.toNat_lt
          have a : m.toNat ≠ 0xfd := fun e => h1 (UInt8.toNat_inj.mp e)
          have b : m.toNat ≠ 0xfe := fun e => h2 (UInt8.toNat_inj.mp e)
          have c : m.toNat ≠ 0xff := fun e => h3 (UInt8.toNat_inj.mp e)
          omega
        simp only [vule, h1, h2, h3, hlt, ↓reduceIte]

theorem vule_putULe (n : Nat) (h : n < 2^64) (rest : Bytes) :
    vule (putULe n ++ rest) = (n, vlenSize n) := by
  by_cases h1 : n < 0xfd
  · simp only [putULe, vlenSize, h1, ↓reduceIte, List.cons_append, List.nil_append, vule_cons,
      ofNat_toNat_small n (by omega)]
  · obtain ⟨m, w, e, hm, hw, hn⟩ := putULe_wide n h1 h
    rw [← putULe_length, e, List.cons_append, vule_cons, if_neg hm, hw, if_pos (by simp),
      List.take_left' (leBytes_length w n), leVal_leBytes_of_lt w n hn, List.length_cons, leBytes_length]

theorem vule_size_le (b : Bytes) : (vule b).2 ≤ b.length ∧ (vule b).2 ≤ 9 := by
  unfold vule
  split
  · simp
  · simp only [List.length_cons]
    repeat' split
    all_goals simp_all
    all_goals omega

end CompactSize

/-- a byte string known byte by byte at its head and at its tail is `pre ++ middle ++ suf` -/
theorem sandwich (s pre suf : Bytes) (n : Nat) (hl : s.length = pre.length + n + suf.length)
    (hp : ∀ i, i < pre.length → s.getD i 0 = pre.getD i 0)
    (hs : ∀ i, i < suf.length → s.getD (pre.length + n + i) 0 = suf.getD i 0) :
    s = pre ++ ((s.drop pre.length).take n ++ suf) := by
  have hm : ((s.drop pre.length).take n).length = n := by
    rw [List.length_take, List.length_drop]; omega
  refine List.ext_getElem (by simp only [List.length_append, hm, hl]; omega) fun i h1 h2 => ?_
  have key : ∀ t : Bytes, ∀ j, (hj : j < t.length) → t[j] = t.getD j 0 := fun t j hj => by
    simp [List.getD_eq_getElem?_getD, hj]
  by_cases c1 : i < pre.length
  · rw [List.getElem_append_left c1, key s i h1, key pre i c1]; exact hp i c1
  · rw [List.getElem_append_right (by omega)]
    by_cases c2 : i < pre.length + n
    · rw [List.getElem_append_left (by rw [hm]; omega)]
      simp only [List.getElem_take, List.getElem_drop]
      congr 1; omega
    · rw [List.getElem_append_right (by rw [hm]; omega)]
      have := hs (i - (pre.length + n)) (by omega)
      rw [show pre.length + n + (i - (pre.length + n)) = i by omega] at this
      rw [key s i h1, key suf _ (by rw [hm]; omega), this, hm]
      congr 1; omega

end GocoinV
