/-
  Base.Sched — callers interleaved by a schedule (a list of caller indices), each step touching only the caller's
  own state: after any schedule every caller is where it would be had it run alone. The models
  (`Base58Sched`, `GroupSched`) define `step`/`run`/`alone` for themselves; they enter here through the
  equations they satisfy. Core-only.
-/
namespace GocoinV.Sched
universe u v
variable {σ : Type u} {θ : Type v}

theorem getElem?_set_of_getElem? {l : List θ} {j : Nat} {t : θ} (h : l[j]? = some t) (g : θ → θ) (i : Nat) :
    (l.set j (g t))[i]? = if i = j then (l[i]?).map g else l[i]? := by
  by_cases hij : i = j
  · subst hij
    have hlt : i < l.length := by
      rcases Nat.lt_or_ge i l.length with h' | h'
      · exact h'
      · rw [List.getElem?_eq_none h'] at h; cases h
    rw [List.getElem?_set_self hlt, if_pos rfl, h]; rfl
  · rw [List.getElem?_set_ne (Ne.symm hij), if_neg hij]

variable (alone : θ → Nat → θ) (g : θ → θ)
  (h0 : ∀ t, alone t 0 = t) (h1 : ∀ t n, alone t (n + 1) = alone (g t) n)
include h0 h1

theorem alone_add (t : θ) (m n : Nat) : alone t (m + n) = alone (alone t m) n := by
  induction m generalizing t with
  | zero => rw [Nat.zero_add, h0]
  | succ m ih => rw [Nat.succ_add, h1, h1, ih]

theorem alone_succ (t : θ) (n : Nat) : alone t (n + 1) = g (alone t n) := by
  rw [alone_add alone g h0 h1 t n 1, h1, h0]

variable (ths : σ → List θ) (step : σ → Nat → σ)
  (hstep : ∀ s j i, (ths (step s j))[i]? = if i = j then ((ths s)[i]?).map g else (ths s)[i]?)
include hstep

theorem run_private (s : σ) (sched : List Nat) (i : Nat) :
    (ths (sched.foldl step s))[i]? = ((ths s)[i]?).map (alone · (sched.count i)) := by
  induction sched generalizing s with
  | nil => simp [h0]
  | cons j rest ih =>
    rw [List.foldl_cons, ih, hstep, List.count_cons]
    by_cases hij : i = j
    · subst hij; cases (ths s)[i]? <;> simp [h1]
    · have : (j == i) = false := by simpa using Ne.symm hij
      simp [hij, this]

end GocoinV.Sched
